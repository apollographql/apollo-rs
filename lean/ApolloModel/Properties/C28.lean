import ApolloModel.Proofs.CoercionVars
/-
C28 — Variable coercion follows the specification.

Model: Model/Coercion.lean transliterates `coerce_variable_values` / `coerce_variable_value`
(resolvers/input_coercion.rs) over Model/Json.lean (serde_json values; `graphql_value_to_json`) and
Model/ExecSchema.lean.  Spec: Spec/Coercion.lean — input coercion (§3.5–§3.12) and
CoerceVariableValues (§6.1.2) as a relation, with apollo-compiler's documented scalar rules, and the
one observed deviation as the parameter `Rules`:
  * `Rules.spec`    the specification;
  * `Rules.apollo`  default values are used as written (not coerced).
The code is *exactly* `Rules.apollo` (`coerce_ok_iff_apollo_rules`, no side condition besides distinct
names).  Against
`Rules.spec` the property fails on defaults that are not written in coerced form, shown on a witness
(`C28_counterexample_default_not_coerced`); the `_partial` theorems prove the property under a guard
that excludes exactly this class.  (The `ID` arm accepts every JSON integer since fix aeed67a.)
The behaviour of the model is tied to the Rust by the correspondence stream `c28.cv`.
-/
namespace Apollo.C28
open Apollo Apollo.Spec Apollo.Coercion AList

/-- what validation guarantees and the theorems use: input field names and variable names are distinct -/
structure ValidInput (s : ExecSchema) (defs : List InputDef) : Prop where
  schema : SchemaWF s
  vars : (fieldNames defs).Nodup

/-- The recursion never runs out of the fuel the entry point computes (all schemas, variable
    definitions and values; input object types may be recursive). -/
theorem coerce_never_out_of_fuel (s : ExecSchema) (defs : List InputDef) (values : AList Json) :
    coerceVariableValues s defs values ≠ .error .outOfFuel :=
  vars_fuel s defs values

/-- For every schema, operation and JSON variables map: coercion succeeds iff CoerceVariableValues
    succeeds under the rules the code implements (`Rules.apollo`), and the result is a result of that
    relation.  No side condition besides distinct names. -/
theorem coerce_ok_iff_apollo_rules (s : ExecSchema) (defs : List InputDef) (hv : ValidInput s defs)
    (values : AList Json) :
    ((∃ r, coerceVariableValues s defs values = .ok r) ↔ ∃ r, CoercesVars Rules.apollo s defs values r) ∧
    ∀ r, coerceVariableValues s defs values = .ok r → CoercesVars Rules.apollo s defs values r :=
  ⟨vars_ok_iff Rules.apollo s hv.schema (Or.inl rfl) defs hv.vars (Or.inl rfl) values,
    fun r h => vars_sound Rules.apollo s hv.schema (Or.inl rfl) defs hv.vars (Or.inl rfl) values r h⟩

/-- the full statement of the first sentence of C28 (against the specification itself) -/
def coerce_ok_iff_spec_statement : Prop :=
  ∀ (s : ExecSchema) (defs : List InputDef) (values : AList Json), ValidInput s defs →
    ((∃ r, coerceVariableValues s defs values = .ok r) ↔ ∃ r, CoercesVars Rules.spec s defs values r)

/-- PARTIAL (missing: default values that are not written in coerced form, see
    `C28_counterexample_default_not_coerced`): when every default value of the schema's input fields
    and of the operation's variables is already in coerced form, coercion succeeds iff the
    specification's CoerceVariableValues succeeds. -/
theorem coerce_ok_iff_spec_partial (s : ExecSchema) (defs : List InputDef) (hv : ValidInput s defs)
    (hcan : CanonicalDefaults Rules.spec s) (hvcan : VarDefaultsCanonical Rules.spec s defs)
    (values : AList Json) :
    (∃ r, coerceVariableValues s defs values = .ok r) ↔ ∃ r, CoercesVars Rules.spec s defs values r :=
  vars_ok_iff Rules.spec s hv.schema (Or.inr hcan) defs hv.vars (Or.inr hvcan) values

/-- PARTIAL (same guard on defaults): the result of a successful coercion is a result of the
    specification's CoerceVariableValues itself (`Rules.spec`): every provided value coerced per its type,
    defaults for absent variables, nothing for absent nullable variables without default. -/
theorem coerce_result_spec_partial (s : ExecSchema) (defs : List InputDef) (hv : ValidInput s defs)
    (hcan : CanonicalDefaults Rules.spec s) (hvcan : VarDefaultsCanonical Rules.spec s defs)
    (values r : AList Json) (h : coerceVariableValues s defs values = .ok r) :
    CoercesVars Rules.spec s defs values r :=
  vars_sound Rules.spec s hv.schema (Or.inr hcan) defs hv.vars (Or.inr hvcan) values r h

/-- A request error of the model is a request error of the specification (no guard at all):
    whenever coercion fails, CoerceVariableValues has no result. -/
theorem coerce_err_spec_err (s : ExecSchema) (defs : List InputDef) (values : AList Json) (e : CoerceErr)
    (h : coerceVariableValues s defs values = .error e) :
    ¬ ∃ r, CoercesVars Rules.spec s defs values r :=
  vars_error_refuse Rules.spec s defs values e h

/-- The result contains exactly the provided or defaulted variables (no guard on defaults). -/
theorem coerce_keys (s : ExecSchema) (defs : List InputDef) (hv : ValidInput s defs)
    (values r : AList Json) (h : coerceVariableValues s defs values = .ok r) (k : String) :
    (get? r k).isSome = true ↔
      ∃ vd, vd ∈ defs ∧ vd.name = k ∧ ((get? values k).isSome = true ∨ vd.default.isSome = true) :=
  vars_keys s defs hv.vars values r h k

/-- the full statement of "each conforming to its declared type" -/
def coerce_conforms_statement : Prop :=
  ∀ (s : ExecSchema) (defs : List InputDef) (values r : AList Json), ValidInput s defs →
    coerceVariableValues s defs values = .ok r →
    ∀ vd rv, vd ∈ defs → get? r vd.name = some rv → Conforms s vd.ty rv

/-- PARTIAL (guard: defaults written in coerced form): every value of the result conforms to the
    declared type of its variable — null only where nullable, one array per list layer (single values
    wrapped), Int within 32 bits, Float a float or an integer below 2^53 − 1 in magnitude, String /
    Boolean of their own kind, ID a string or an integer, enum values by name, input objects with
    only declared fields, every field with a default present, every absent field nullable. -/
theorem coerce_conforms_partial (s : ExecSchema) (defs : List InputDef) (hv : ValidInput s defs)
    (hcan : CanonicalDefaults Rules.spec s) (hvcan : VarDefaultsCanonical Rules.spec s defs)
    (values r : AList Json) (h : coerceVariableValues s defs values = .ok r) :
    ∀ vd rv, vd ∈ defs → get? r vd.name = some rv → Conforms s vd.ty rv := by
  intro vd rv hvd hr
  obtain ⟨_, hall⟩ := coerce_result_spec_partial s defs hv hcan hvcan values r h
  have hx := hall vd hvd
  cases hg : get? values vd.name with
  | some v =>
    simp only [hg] at hx
    obtain ⟨rv', hr', hc⟩ := hx
    rw [hr] at hr'
    cases hr'
    exact coerces_conforms rfl hc
  | none =>
    cases hd : vd.default with
    | some d =>
      simp only [hg, hd] at hx
      obtain ⟨rd, hr', hc⟩ := hx
      rw [hr] at hr'
      cases hr'
      exact coerces_conforms rfl (by simpa [DefaultOutcome, Rules.spec] using hc)
    | none =>
      simp only [hg, hd] at hx
      rw [hr] at hx
      cases hx.2

/-- Explicit `null` is kept (for a nullable variable), absence without default leaves no entry. -/
theorem explicit_null_kept_absent_omitted (s : ExecSchema) (defs : List InputDef) (hv : ValidInput s defs)
    (values r : AList Json) (h : coerceVariableValues s defs values = .ok r) (vd : InputDef) (hvd : vd ∈ defs) :
    (get? values vd.name = some .null → get? r vd.name = some .null ∧ vd.ty.isNonNull = false) ∧
    (get? values vd.name = none → vd.default = none → get? r vd.name = none) := by
  obtain ⟨_, hall⟩ := (coerce_ok_iff_apollo_rules s defs hv values).2 r h
  have hx := hall vd hvd
  constructor
  · intro hg
    simp only [hg] at hx
    obtain ⟨rv, hr, hc⟩ := hx
    cases hc
    case null hn => exact ⟨hr, hn⟩
    case listSingle inner r' hsh hn hna hc' => simp [Json.isNull] at hn
    case scalar name htd hsh hn hok => simp [Json.isNull] at hn
  · intro hg hd
    simp only [hg, hd] at hx
    exact hx.2

/-! ### The place where the code departs from the specification -/

def schema0 : ExecSchema := { types := [] }

theorem schema0_wf : SchemaWF schema0 := by
  intro n fields h
  simp [schema0, ExecSchema.typeDef?, get?] at h

/-- `query($x: [Int] = 1)` with `{}`: the code returns `{"x": 1}`, which is not a list. -/
theorem C28_counterexample_default_not_coerced : ¬ coerce_conforms_statement := by
  intro hall
  have hm : coerceVariableValues schema0 [⟨"x", .list (.named "Int"), some (.int 1)⟩] [] = .ok [("x", .int 1)] := rfl
  have h := hall schema0 [⟨"x", .list (.named "Int"), some (.int 1)⟩] [] [("x", .int 1)]
    ⟨schema0_wf, (by simp [fieldNames])⟩
    hm ⟨"x", .list (.named "Int"), some (.int 1)⟩ (.int 1) (by simp) (by simp [get?])
  cases h
  case scalar name htd hsh hn hok => simp [Ty.shape] at hsh

/-! ### The hypotheses are satisfiable by a non-trivial instance -/

/-- `input P { x: Int!  y: Int = 7  l: [Float] = [1.5]  p: P }`, `enum Color { RED GREEN }` -/
def schema1 : ExecSchema :=
  { types := [("Color", .enum ["RED", "GREEN"]),
      ("P", .input [⟨"x", .nonNullNamed "Int", none⟩, ⟨"y", .named "Int", some (.int 7)⟩,
        ⟨"l", .list (.named "Float"), some (.list [.float "1.5"])⟩, ⟨"p", .named "P", none⟩])] }

def defs1 : List InputDef :=
  [⟨"a", .list (.nonNullNamed "P"), none⟩, ⟨"c", .named "Color", some (.enum "RED")⟩, ⟨"n", .named "ID", none⟩]

/-- the guards of the `_partial` theorems hold for this schema and these variable definitions -/
example : ValidInput schema1 defs1 ∧ CanonicalDefaults Rules.spec schema1 ∧ VarDefaultsCanonical Rules.spec schema1 defs1 := by
  have hP : ∀ n fields, schema1.typeDef? n = some (.input fields) → n = "P" ∧ fields =
      [⟨"x", .nonNullNamed "Int", none⟩, ⟨"y", .named "Int", some (.int 7)⟩,
        ⟨"l", .list (.named "Float"), some (.list [.float "1.5"])⟩, ⟨"p", .named "P", none⟩] := by
    intro n fields h
    simp only [schema1, ExecSchema.typeDef?, get?] at h
    split at h
    · cases h
    split at h
    · cases h
    split at h
    · next e => cases h; exact ⟨e.symm, rfl⟩
    · cases h
  refine ⟨⟨?_, by simp [fieldNames, defs1]⟩, ?_, ?_⟩
  · intro n fields h
    obtain ⟨_, rfl⟩ := hP n fields h
    simp [fieldNames]
  · intro n fields h fd d hfd hd
    obtain ⟨_, rfl⟩ := hP n fields h
    simp only [List.mem_cons, List.not_mem_nil, or_false] at hfd
    rcases hfd with rfl | rfl | rfl | rfl
    · cases hd
    · cases hd
      exact Coerces.scalar _ "Int" _ rfl rfl rfl (by simp [ScalarOk, Value.toJson])
    · cases hd
      refine Coerces.listItems _ (.named "Float") _ _ rfl rfl ?_
      intro p hp
      simp only [Value.toJsonList, Value.toJson, List.zip_cons_cons, List.zip_nil_right, List.mem_singleton] at hp
      subst hp
      exact Coerces.scalar _ "Float" _ rfl rfl rfl (by simp [ScalarOk])
    · cases hd
  · intro vd d hvd hd
    simp only [defs1, List.mem_cons, List.not_mem_nil, or_false] at hvd
    rcases hvd with rfl | rfl | rfl
    · cases hd
    · cases hd
      exact Coerces.enum _ "Color" ["RED", "GREEN"] "RED" rfl rfl (by simp)
    · cases hd

/-- single object wrapped into a list, nested object, defaults filled in, default variable, absent variable -/
example : coerceVariableValues schema1 defs1 [("a", .obj [("p", .obj [("x", .int 2), ("y", .null)]), ("x", .int 1)])] =
    .ok [("a", .arr [.obj [("p", .obj [("x", .int 2), ("y", .null), ("l", .arr [.float "1.5"])]), ("x", .int 1),
      ("y", .int 7), ("l", .arr [.float "1.5"])]]), ("c", .str "RED")] := rfl

/-- unknown field, Int out of range, string for a number, missing required field: request errors -/
example : coerceVariableValues schema1 defs1 [("a", .obj [("x", .int 1), ("w", .int 1)])] = .error .value := rfl
example : coerceVariableValues schema1 defs1 [("a", .obj [("x", .int 2147483648)])] = .error .value := rfl
example : coerceVariableValues schema1 defs1 [("a", .obj [("x", .str "1")])] = .error .value := rfl
example : coerceVariableValues schema1 defs1 [("a", .obj [("y", .int 1)])] = .error .value := rfl
/-- ID from an integer above `i64::MAX` (fix aeed67a) -/
example : coerceVariableValues schema1 defs1 [("a", .arr []), ("n", .int 9223372036854775808)] =
    .ok [("a", .arr []), ("c", .str "RED"), ("n", .int 9223372036854775808)] := rfl

end Apollo.C28
