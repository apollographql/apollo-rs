import ApolloModel.Proofs.Standalone3
import ApolloModel.Model.ExecRules
/-
C20 — Validating without a schema is a relaxation.

Model: Model/Standalone.lean (`validate p (some schema) ast` = `ExecutableDocument::parse_and_validate`,
`validate p none ast` = `ast::Document::validate_standalone_executable`, as lists of diagnostic kinds).
`currentParams` (= `patchedParams`, `current_code_is`) is the code since fix 7c4ccc3: `validate_directives`
reports `UndefinedDirective` only when there is a schema.  `unpatchedParams` is the code before the fix, kept
as a regression witness: it reported `UndefinedDirective` for EVERY directive without a schema, so the
property was false of it (`regression_counterexample`, `{ a @skip(if: true) }`).
The theorems quantify over every schema view (including `Schema.extra`, opaque diagnostics standing for the
typed rules), every document and every `@defer` rule set.  The last section puts the model of the typed rules
(Model/ExecRules.lean) in the place of the opaque part.
-/
namespace Apollo.C20
open Apollo.Standalone

/-- first sentence of the property, for a version `p` of the code -/
def StandaloneSubset (p : Params) : Prop :=
  ∀ (sc : Schema) (ast : Ast), validate p (some sc) ast = [] → validate p none ast = []

/-- second sentence, for a version `p` of the code -/
def StandaloneOnlyUniversal (p : Params) : Prop :=
  ∀ (ast : Ast), ∀ d ∈ validate p none ast, d.universal = true

/-! ### which version is current; the code before the fix (regression witness) -/

/-- which of the two versions the correspondence streams are run with (the streams agree with the real
    code only for the right one) -/
theorem current_code_is (defer : BuiltDoc → List Nat) : currentParams defer = patchedParams defer := rfl

def witnessSchema : Schema :=
  { root := fun o => match o with | .query => some 10 | _ => none
    kind := fun n => if n = 10 then some .composite else if n = 11 then some .leaf else none
    field := fun p f => if p = 10 ∧ f = 20 then some { ty := 11, args := [] } else none
    dirDef := fun n =>
      if n = 0 ∨ n = 1 then
        some { repeatable := false, locs := [.field, .fragmentSpread, .inlineFragment], args := [{ name := 3, required := true }] }
      else none
    extra := fun _ => [] }

/-- `{ a @skip(if: true) }` -/
def witnessDoc : Ast :=
  [.op { ty := .query, name := none, vars := [], dirs := [],
         sels := .field 20 [{ name := 0, args := [{ name := 3, value := .bool true }] }] [] .nil .nil }]

/-- The property failed on the code before fix 7c4ccc3: `{ a @skip(if: true) }` is valid against a schema
    (`type Query { a: Int }`) and rejected without one, with a diagnostic that is not of a universal class. -/
theorem regression_counterexample :
    validate (unpatchedParams fun _ => []) (some witnessSchema) witnessDoc = [] ∧
      validate (unpatchedParams fun _ => []) none witnessDoc = [.undefinedDirective] := by
  decide

theorem unpatched_not_standalone_subset : ¬ StandaloneSubset (unpatchedParams fun _ => []) := by
  intro h
  have := h witnessSchema witnessDoc regression_counterexample.1
  rw [regression_counterexample.2] at this
  cases this

theorem unpatched_not_only_universal : ¬ StandaloneOnlyUniversal (unpatchedParams fun _ => []) := by
  intro h
  have := h witnessDoc .undefinedDirective (by rw [regression_counterexample.2]; simp)
  simp [Diag.universal] at this

/-- Code before the fix, guarded: for documents without any directive, whatever validates against some schema
    validates standalone (the guard excludes the class that failed: documents with a directive). -/
theorem unpatched_standalone_subset_guarded (defer : BuiltDoc → List Nat) (sc : Schema) (ast : Ast)
    (hnd : noDirsAst ast = true) (h : validate (unpatchedParams defer) (some sc) ast = []) :
    validate (unpatchedParams defer) none ast = [] :=
  validate_relax _ sc ast (.inr hnd) h

/-- Code before the fix: every diagnostic of a standalone run is of one of the universal classes (ambiguous anonymous
    operation, name collisions, type-system definition, duplicate argument, duplicate/unused variable,
    undefined/unused fragment, fragment cycle, `@defer` rules) or is `UndefinedDirective`.
    (`UndefinedDirective` is the class the property forbids). -/
theorem unpatched_only_universal_or_undefined_directive (defer : BuiltDoc → List Nat) (ast : Ast) :
    ∀ d ∈ validate (unpatchedParams defer) none ast, d.universal = true ∨ d = .undefinedDirective := by
  intro d hd
  rcases validate_none_kinds _ ast d hd with h | h
  · exact .inl h
  · exact .inr h.1

/-- The model never runs out of fuel in a standalone run (the recursion through fragment definitions is
    bounded by their number). -/
theorem standalone_fuel_sufficient (p : Params) (ast : Ast) : ∀ d ∈ validate p none ast, d ≠ .outOfFuel :=
  validate_none_fuel p ast

/-! ### the current code -/

/-- Whenever a document validates against some schema, validating it without a schema also succeeds:
    for every schema view, every document, every `@defer` rule set. -/
theorem standalone_subset (defer : BuiltDoc → List Nat) : StandaloneSubset (currentParams defer) :=
  fun sc ast h => validate_relax _ sc ast (.inl rfl) h

/-- Standalone validation only reports the universal classes. -/
theorem standalone_only_universal (defer : BuiltDoc → List Nat) :
    StandaloneOnlyUniversal (currentParams defer) := by
  intro ast d hd
  rcases validate_none_kinds _ ast d hd with h | h
  · exact h
  · simp [currentParams, patchedParams] at h

/-- …in particular it never rejects a directive, built-in or not. -/
theorem standalone_never_rejects_directive (defer : BuiltDoc → List Nat) (ast : Ast) :
    Diag.undefinedDirective ∉ validate (currentParams defer) none ast ∧
      Diag.uniqueDirective ∉ validate (currentParams defer) none ast ∧
      Diag.unsupportedLocation ∉ validate (currentParams defer) none ast := by
  refine ⟨?_, ?_, ?_⟩ <;>
  · intro h
    have := standalone_only_universal defer ast _ h
    simp [Diag.universal] at this

/-- The fix changed nothing for a run with a schema. -/
theorem fix_keeps_schema_runs (defer : BuiltDoc → List Nat) (sc : Schema) (ast : Ast) :
    validate (patchedParams defer) (some sc) ast = validate (unpatchedParams defer) (some sc) ast := by
  have hd : ∀ loc seen ds, dirDiagsAux (patchedParams defer) (some sc) loc seen ds =
      dirDiagsAux (unpatchedParams defer) (some sc) loc seen ds := by
    intro loc seen ds
    induction ds generalizing seen with
    | nil => simp [dirDiagsAux]
    | cons d ds ih => simp [dirDiagsAux, ih]
  have hv : ∀ seen vs, varDefDiags (patchedParams defer) (some sc) seen vs =
      varDefDiags (unpatchedParams defer) (some sc) seen vs := by
    intro seen vs
    induction vs generalizing seen with
    | nil => simp [varDefDiags]
    | cons v vs ih => simp [varDefDiags, dirDiags, hd, ih]
  have hw : ∀ doc eP eC, (∀ f V, eP f V = eC f V) → ∀ t ty V,
      walkSels (patchedParams defer) (some sc) doc eP ty t V = walkSels (unpatchedParams defer) (some sc) doc eC ty t V := by
    intro doc eP eC he t
    induction t with
    | nil => intro ty V; simp [walkSels]
    | field name dirs args sub rest ihs ihr => intro ty V; simp [walkSels, dirDiags, hd, ihs, ihr]
    | spread f dirs rest ihr => intro ty V; simp [walkSels, dirDiags, hd, he, ihr]
    | inline tc dirs sub rest ihs ihr => intro ty V; simp [walkSels, dirDiags, hd, ihs, ihr]
  have he : ∀ doc n f V, enterFrag (patchedParams defer) (some sc) doc n f V =
      enterFrag (unpatchedParams defer) (some sc) doc n f V := by
    intro doc n
    induction n with
    | zero => intro f V; simp [enterFrag]
    | succ n ih => intro f V; simp [enterFrag, dirDiags, hd, hw doc _ _ ih]
  have ho : ∀ doc o, validateOp (patchedParams defer) (some sc) doc o = validateOp (unpatchedParams defer) (some sc) doc o := by
    intro doc o
    simp [validateOp, dirDiags, hd, hv, hw doc _ _ (he doc _)]
  have hf : validateOp (patchedParams defer) (some sc) (build (some sc) ast).doc =
      validateOp (unpatchedParams defer) (some sc) (build (some sc) ast).doc := funext (ho _)
  simp only [validate, validateBuilt, hf]
  rfl

/-! ### non-vacuity -/

/-- `query ($v: T) @c { a @skip(if: $v) ...F @c } fragment F on Query @c { a }` with a custom directive `@c`
    (name 5) allowed everywhere: valid against the schema, so valid standalone -/
def witnessSchema2 : Schema :=
  { witnessSchema with
    kind := fun n => if n = 10 then some .composite else if n = 11 ∨ n = 12 then some .leaf else none
    dirDef := fun n =>
      if n = 0 then some { repeatable := false, locs := [.field], args := [{ name := 3, required := true }] }
      else if n = 5 then some { repeatable := true, locs := [.query, .field, .fragmentSpread, .fragmentDefinition], args := [] }
      else none }

def witnessDoc2 : Ast :=
  [.op { ty := .query, name := none, vars := [{ name := 30, ty := 12, dirs := [] }], dirs := [{ name := 5, args := [] }],
         sels := .field 20 [{ name := 0, args := [{ name := 3, value := .var 30 }] }] [] .nil
                  (.spread 40 [{ name := 5, args := [] }] .nil) },
   .frag { name := 40, tc := 10, dirs := [{ name := 5, args := [] }], sels := .field 20 [] [] .nil .nil }]

example : validate (patchedParams fun _ => []) (some witnessSchema2) witnessDoc2 = [] := by decide
example : validate (patchedParams fun _ => []) none witnessDoc2 = [] := by decide
example : validate (unpatchedParams fun _ => []) none witnessDoc2 =
    [.undefinedDirective, .undefinedDirective, .undefinedDirective, .undefinedDirective] := by decide
-- the guard of `unpatched_standalone_subset_guarded` is satisfiable by a document with a fragment and a spread of it
example : noDirsAst [.op { ty := .query, name := none, vars := [], dirs := [], sels := .spread 40 [] .nil },
    .frag { name := 40, tc := 10, dirs := [], sels := .field 20 [] [] .nil .nil }] = true := by decide
-- universal classes do fire without a schema: `{ ...Nope }`
example : validate (patchedParams fun _ => []) none
    [.op { ty := .query, name := none, vars := [], dirs := [], sels := .spread 41 [] .nil }] = [.undefinedFragment] := by decide

/-! ### with the typed rules modelled (Model/ExecRules.lean) instead of opaque

`Schema.extra` above stands for "the diagnostics of the typed rules that are not modelled".  Model/ExecRules.lean
(C17) models those rules: `validate_variable_usage`, the variable part of `value_of_correct_type`,
`validate_fragment_spread_type`.  Every one of them is behind a schema guard in the code —
field.rs `let Some((schema, against_type)) = against_type else { … }`, fragment.rs `if let Some(schema) =
context.schema()` (spread, inline fragment and fragment definition), directive.rs / variable.rs `schema: Option<&Schema>`
— so a run without a schema executes none of them: in the model they are functions of an `RSchema`, and the
schema-less run consists of the structural rules alone.  The schema view of the structural rules is derived from the
same `RSchema` (`ExecRules.viewOf`), with NO opaque part. -/

end Apollo.C20
namespace Apollo.C20
open Apollo.ExecRules

/-- a diagnostic of an executable validation run: of a structural rule (on the erased document) or of a typed rule -/
inductive AnyDiag where
  | structural (d : Standalone.Diag)
  | typed (d : TDiag)

/-- `ExecutableDocument::parse_and_validate(schema, …)`: structural and typed rules -/
def validateWithSchema (p : Standalone.Params) (tbl : List String) (s : RSchema) (ast : RAst) : List AnyDiag :=
  (Standalone.validate p (some (viewOf tbl s)) (erase tbl ast)).map .structural ++ (typedDiags s ast).map .typed

/-- `ast::Document::validate_standalone_executable()`: the typed rules are all skipped -/
def validateStandalone (p : Standalone.Params) (tbl : List String) (ast : RAst) : List AnyDiag :=
  (Standalone.validate p none (erase tbl ast)).map .structural

/-- the schema view the structural rules read has no opaque diagnostics -/
theorem view_has_no_opaque_part (tbl : List String) (s : RSchema) (doc : Standalone.BuiltDoc) : (viewOf tbl s).extra doc = [] := rfl

/-- **standalone ⊆ schema validation, typed rules included**: for every schema, name table, document and `@defer` rule
    set, a document on which validation against the schema reports nothing — neither a structural nor a typed
    diagnostic — validates standalone. -/
theorem standalone_subset_typed (defer : Standalone.BuiltDoc → List Nat) (tbl : List String) (s : RSchema) (ast : RAst)
    (h : validateWithSchema (Standalone.currentParams defer) tbl s ast = []) :
    validateStandalone (Standalone.currentParams defer) tbl ast = [] := by
  unfold validateWithSchema at h
  unfold validateStandalone
  simp only [List.append_eq_nil_iff, List.map_eq_nil_iff] at h ⊢
  exact standalone_subset defer (viewOf tbl s) (erase tbl ast) h.1

/-- a standalone run reports no typed diagnostic, and only structural diagnostics of the universal classes -/
theorem standalone_reports_no_typed (defer : Standalone.BuiltDoc → List Nat) (tbl : List String) (ast : RAst) :
    ∀ d ∈ validateStandalone (Standalone.currentParams defer) tbl ast, ∃ e, d = .structural e ∧ e.universal = true := by
  intro d hd
  unfold validateStandalone at hd
  obtain ⟨e, he, rfl⟩ := List.mem_map.mp hd
  exact ⟨e, rfl, standalone_only_universal defer (erase tbl ast) e he⟩

/-- the typed rules matter for the comparison: a document on which a typed rule reports a diagnostic of a class
    that a standalone run never reports (`standalone_reports_no_typed`).
    `query { f(x: {a: [$w]}) }` with `x` of a custom scalar type: `$w` is undefined (fix 1d09582).  The theorem below
    states the typed diagnostics only; that the structural rules report nothing on this document is not stated. -/
def typedWitnessSchema : RSchema :=
  { types := [{ name := "Query", kind := .object [], fields := [("f", { args := [{ name := "x", ty := .named "S", hasDefault := false }], ty := .named "Int" })] },
              { name := "S", kind := .scalar false, fields := [] }],
    query := some "Query", mutation := none, subscription := none, dirs := [] }

def typedWitnessOp : ROp :=
  { ty := .query, name := none, vars := [], dirs := [],
    sels := .field "f" [] [{ name := "x", value := .obj [("a", .list [.var "w"])] }] .nil .nil }

theorem typed_rule_rejects_what_standalone_accepts :
    typedDiags typedWitnessSchema [.op typedWitnessOp] = [.undefinedVariable "w"] := by
  decide

end Apollo.C20
