import ApolloModel.Model.FileId
/-
C31 — File ids are unique; tag packing round-trips.
The constants (INITIAL, TAG, BUILT_IN, NONE) and the *shape* of the allocation step (one atomic
read-modify-write vs load-then-store) are regenerated from parser.rs on every run; `rmw_shape`
fails to type-check if the code stops using a single RMW, and `non_rmw_collides` shows what then
goes wrong.  Schedules are arbitrary lists of thread numbers: any number of threads, any interleaving.
-/
namespace Apollo.C31
open Apollo.FileId Apollo.Gen


theorem tag_eq : TAG = 2 ^ 63 := by decide
theorem mask_eq : ID_MASK = 2 ^ 63 - 1 := by decide
theorem initial_pos : 0 < INITIAL := by decide

theorem and_two_pow' (n i : Nat) : n &&& 2 ^ i = if n.testBit i then 2 ^ i else 0 := by
  apply Nat.eq_of_testBit_eq
  intro j
  by_cases h : n.testBit i = true
  · simp only [h, if_true, Nat.testBit_and, Nat.testBit_two_pow]
    by_cases hj : i = j
    · subst hj; simp [h]
    · simp [hj]
  · simp only [h, Bool.false_eq_true, if_false, Nat.testBit_and, Nat.testBit_two_pow, Nat.zero_testBit]
    by_cases hj : i = j
    · subst hj; simp at h; simp [h]
    · simp [hj]

theorem and_tag_eq_zero_iff (n : Nat) : n &&& TAG = 0 ↔ n.testBit 63 = false := by
  rw [tag_eq, and_two_pow']
  cases n.testBit 63 <;> simp

theorem lt_and_tag {n : Nat} (h : n < 2 ^ 63) : n &&& TAG = 0 :=
  (and_tag_eq_zero_iff n).mpr (Nat.testBit_lt_two_pow h)

/-- Packing any identifier (tag bit clear) with a tag and unpacking returns both. -/
theorem pack_unpack (tag : Bool) (id : Nat) (h : id < 2 ^ 63) :
    ∃ p, pack tag id = some p ∧ tagOf p = tag ∧ fileIdOf p = id ∧ p < 2 ^ 64 := by
  have h0 := lt_and_tag h
  refine ⟨if tag then id ||| TAG else id, by simp [pack, h0], ?_, ?_, ?_⟩
  · cases tag
    · simp [tagOf, h0]
    · simp only [tagOf, if_true]
      have : (id ||| TAG) &&& TAG = TAG := by
        rw [Nat.and_or_distrib_right, h0, Nat.and_self, Nat.zero_or]
      rw [this]; decide
  · cases tag
    · simp only [fileIdOf, mask_eq, Bool.false_eq_true, if_false, Nat.and_two_pow_sub_one_eq_mod]
      exact Nat.mod_eq_of_lt h
    · simp only [fileIdOf, mask_eq, if_true, Nat.and_two_pow_sub_one_eq_mod, tag_eq]
      rw [Nat.or_two_pow_eq_add_of_lt h]
      omega
  · cases tag
    · simp only [Bool.false_eq_true, if_false]; omega
    · simp only [if_true, tag_eq]
      rw [Nat.or_two_pow_eq_add_of_lt h]
      omega

/-- a packed value is never zero when the id is not (NonZeroU64::new_unchecked is sound) -/
theorem pack_nonzero (tag : Bool) (id p : Nat) (hid : id ≠ 0) (h : pack tag id = some p) : p ≠ 0 := by
  unfold pack at h
  split at h
  · simp at h
  · simp only [Option.some.injEq] at h
    subst h
    cases tag
    · simpa using hid
    · simp only [if_true]
      intro e
      have := Nat.or_eq_zero_iff.mp e
      exact hid this.1

/-- `pack` rejects (debug assertion) exactly the ids with the tag bit set -/
theorem pack_none_iff (tag : Bool) (id : Nat) : pack tag id = none ↔ id.testBit 63 = true := by
  unfold pack
  have := and_tag_eq_zero_iff id
  by_cases h : id &&& TAG = 0
  · simp [h, this.mp h]
  · have : id.testBit 63 = true := by
      cases hb : id.testBit 63
      · exact absurd (this.mpr hb) h
      · rfl
    simp [h, this]
/-- the invariant of the single-RMW allocation: the counter has been incremented exactly `n` times
    and the ids handed out are exactly its `n` successive old values -/
def Inv (s : St) (n : Nat) : Prop :=
  s.next = INITIAL + n ∧ s.returned = List.range' INITIAL n ∧ (∀ t, s.pcs t = .start) ∧ s.fetches = n

theorem step_inv (s : St) (n t : Nat) (h : Inv s n) (hn : INITIAL + n < 2 ^ 63) :
    Inv (step true s t) (n + 1) := by
  obtain ⟨h1, h2, h3, h4⟩ := h
  have hz : s.next &&& TAG = 0 := lt_and_tag (by omega)
  have hm : (s.next + 1) % 2 ^ 64 = s.next + 1 := Nat.mod_eq_of_lt (by omega)
  simp only [step, h3 t, if_true, afterFetch, hz, hm]
  refine ⟨by simp [h1]; omega, ?_, ?_, by simp [h4]⟩
  · simp only [h2, h1, List.range'_concat, Nat.one_mul]
  · intro i; simp only [setPc]; split <;> simp [h3]

theorem run_inv_aux (sched : List Nat) : ∀ (s : St) (n : Nat), Inv s n → INITIAL + n + sched.length ≤ 2 ^ 63 →
    Inv (sched.foldl (step true) s) (n + sched.length) := by
  induction sched with
  | nil => intro s n h _; simpa using h
  | cons t ts ih =>
    intro s n h hl
    simp only [List.length_cons] at hl
    have := ih (step true s t) (n + 1) (step_inv s n t h (by omega)) (by omega)
    simpa [List.foldl_cons, Nat.add_assoc, Nat.add_comm 1] using this

theorem init_inv : Inv init 0 := by simp [Inv, init]

theorem rmw_shape : fileIdAllocIsRmw = true := rfl

/-- For any number of threads and any schedule: as long as fewer than 2^63 − INITIAL atomic steps
    have run, the ids handed out are exactly INITIAL, INITIAL+1, … in order. -/
theorem ids_are_counter_values (sched : List Nat) (h : INITIAL + sched.length ≤ 2 ^ 63) :
    (run fileIdAllocIsRmw sched).returned = List.range' INITIAL sched.length := by
  rw [rmw_shape]
  have := run_inv_aux sched init 0 init_inv (by omega)
  simpa [run] using this.2.1

/-- … hence pairwise distinct, -/
theorem ids_distinct (sched : List Nat) (h : INITIAL + sched.length ≤ 2 ^ 63) :
    (run fileIdAllocIsRmw sched).returned.Nodup := by
  rw [ids_are_counter_values sched h]; exact List.nodup_range'

/-- … never a reserved id (0, BUILT_IN = 1, NONE = 2), and never with the tag bit. -/
theorem ids_not_reserved (sched : List Nat) (h : INITIAL + sched.length ≤ 2 ^ 63) :
    ∀ id ∈ (run fileIdAllocIsRmw sched).returned,
      id ≠ 0 ∧ id ≠ fileIdBuiltIn ∧ id ≠ fileIdNone ∧ id < 2 ^ 63 := by
  rw [ids_are_counter_values sched h]
  intro id hid
  have := List.mem_range'_1.mp hid
  have hi : INITIAL = 3 := rfl
  have hb : fileIdBuiltIn = 1 := rfl
  have hnn : fileIdNone = 2 := rfl
  omega

/-- The two-step (load, then store) shape does NOT have the property: two threads interleaved
    receive the same id.  (This is what the regenerated model turns into if the code loses the RMW.) -/
theorem non_rmw_collides : ¬ (run false [0, 1, 0, 1]).returned.Nodup := by decide

-- Non-vacuity: a three-thread schedule, and packing the largest id
example : (run fileIdAllocIsRmw [2, 0, 1, 1, 0]).returned = [3, 4, 5, 6, 7] := by decide
example : pack true (2 ^ 63 - 1) = some (2 ^ 64 - 1) := by decide
example : pack true (2 ^ 63) = none := by decide

end Apollo.C31
