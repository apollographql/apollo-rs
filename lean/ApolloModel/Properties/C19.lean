import ApolloModel.Proofs.ExecDoc
import ApolloModel.Proofs.AstDocument3
import ApolloModel.Properties.C12
/-
C19 — Executable documents and field sets round-trip.

Model: Model/ExecDoc.lean (`fromDoc` = `document_from_ast` with a schema, `toAst` = `ExecutableDocument::to_ast`,
`cFieldSet` = `FieldSet::serialize_impl`) over the AST, the serializer (`cDocument`, `interp`) and the reference
parser (`pDocument`) of property C08 (Model/Ast.lean, Model/AstParse.lean).
The theorems are stated for every schema and every document `document_from_ast` can return, valid or not; the
print / re-read theorems assume that the printed AST is non-empty and well formed in the sense of C08 (what a
valid document adds is that nothing was dropped, so the printed text has no empty selection set).
-/
namespace Apollo.C19
open Apollo.Ast Apollo.Exec

/-- `to_ast` lists the anonymous operation first, then the named operations, then the fragments. -/
theorem to_ast_order (d : XDoc) :
    toAst d = d.anon.toList.map XOp.toAst ++ d.named.map XOp.toAst ++ d.frags.map XFrag.toAst := rfl

/-- Building is a function of (schema, AST) and every annotation it stores is recomputed from the schema:
    the built document satisfies `ann` (definition = `type_field(parent, name)`, selection-set types as in C18,
    nothing left that a rebuild would drop) with pairwise distinct operation and fragment names. -/
theorem typing_functional (s : XSchema) (ast : Document) : DocInv s (fromDoc s ast) := fromDoc_inv s ast

/-- `to_ast` is a right inverse of `document_from_ast` on its image, for every schema and every source
    document (dropped selections, duplicate names, misplaced anonymous operations included). -/
theorem exec_to_ast_inverse (s : XSchema) (ast : Document) :
    fromDoc s (toAst (fromDoc s ast)) = fromDoc s ast :=
  fromDoc_toAst_of_inv s _ (fromDoc_inv s ast)

/-- the same for a selection set converted under any parent type (field sets) -/
theorem selection_set_to_ast_inverse (s : XSchema) (parent : Str) (t : Sels) :
    fromSels s parent (toSels (fromSels s parent t)) = fromSels s parent t :=
  from_to s _ parent (fromSels_ann s parent t)

/-- **Round trip.** For every indentation setting (prefix or none, initial level): print the typed document,
    read the printed tokens back with the reference parser, build against the same schema: the same typed
    document.  Hypotheses: the printed AST is non-empty and well formed in the sense of C08 (no operation,
    fragment or inline fragment with an empty selection set, no fragment named `on`, no enum value `true` /
    `false` / `null`) — which holds for a valid document. -/
theorem exec_roundtrip (pre : Option Str) (level : Nat) (s : XSchema) (ast : Document)
    (hne : toAst (fromDoc s ast) ≠ []) (hwf : wfDefinitions (toAst (fromDoc s ast)) = true) :
    (pDocument (szDefinitions (toAst (fromDoc s ast)))
        (toksOf (cDocument (outputEmptyAtStart pre level) (toAst (fromDoc s ast))))).map (fromDoc s)
      = some (fromDoc s ast) := by
  rw [C08_print_parse pre level _ hne hwf]
  simp [exec_to_ast_inverse]
where
  C08_print_parse (pre : Option Str) (level : Nat) (doc : Document) (hne : doc ≠ []) (h : wfDefinitions doc = true) :
      pDocument (szDefinitions doc) (toksOf (cDocument (outputEmptyAtStart pre level) doc)) = some doc := by
    rw [toksOf_cDocument]
    exact document_roundtrip _ doc _ hne h (Nat.le_refl _)

/-- …and printing the re-read document again gives byte-identical text. -/
theorem exec_reprint_identical (pre : Option Str) (level : Nat) (s : XSchema) (ast : Document) (doc' : Document)
    (hne : toAst (fromDoc s ast) ≠ []) (hwf : wfDefinitions (toAst (fromDoc s ast)) = true)
    (hp : pDocument (szDefinitions (toAst (fromDoc s ast)))
        (toksOf (cDocument (outputEmptyAtStart pre level) (toAst (fromDoc s ast)))) = some doc') :
    (serializeDocument pre level (toAst (fromDoc s doc'))).out =
      (serializeDocument pre level (toAst (fromDoc s ast))).out := by
  rw [exec_roundtrip.C08_print_parse pre level _ hne hwf] at hp
  cases hp
  rw [exec_to_ast_inverse]

/-! ### field sets -/

/-- reference reader of a field set: a selection set whose outer braces are optional, up to the end of input -/
def pFieldSet (f : Nat) (ts : List Tok) : Option Sels :=
  match ts with
  | .p .lCurly :: r =>
    match pSelsNE f r with
    | some (ss, []) => some ss
    | _ => none
  | _ =>
    match pSelsNE f (ts ++ [.p .rCurly]) with
    | some (ss, []) => some ss
    | _ => none

theorem toksOf_cFieldSet (sels : Sels) : toksOf (cFieldSet sels) = tSels sels := by
  unfold cFieldSet
  cases h : cSels sels with
  | nil =>
    have := toksAll_cSels sels
    rw [h] at this
    simpa using this.symm
  | cons first rest =>
    have := toksAll_cSels sels
    rw [h] at this
    rw [← this]
    simp only [toksOf_append, toksAll_cons]
    congr 1
    have := toksOf_flatten_sep [Cmd.newLineOrSpace] rfl rest
    simpa using this

theorem tSel_head (s : Sel) (r : List Tok) : ∃ t tl, tSel s ++ r = t :: tl ∧ t ≠ .p .lCurly := by
  cases s with
  | field alias name args dirs sels =>
    cases alias <;> simp [tSel]
  | spread name dirs => simp [tSel]
  | inline tc dirs sels => cases tc <;> simp [tSel]

/-- A field set is printed without the outer braces (`a b { c }`), and that text reads back to the same
    selections — non-empty and well formed in the sense of C08 (`wfSels`) — whatever the indentation setting
    (the tokens do not depend on it). -/
theorem fieldset_roundtrip (sels : Sels) (hne : sels ≠ .nil) (hwf : wfSels sels = true) :
    pFieldSet (szSels sels) (toksOf (cFieldSet sels)) = some sels := by
  rw [toksOf_cFieldSet]
  have h := selsNE_roundtrip sels (szSels sels) [] hne hwf (Nat.le_refl _)
  cases sels with
  | nil => exact absurd rfl hne
  | cons s tl =>
    obtain ⟨t, r, ht, hn⟩ := tSel_head s (tSels tl)
    have hts : tSels (.cons s tl) = t :: r := by simpa [tSels] using ht
    rw [hts] at h ⊢
    unfold pFieldSet
    split
    · next heq => simp at heq; exact absurd heq.1 hn
    · simp only [List.cons_append] at h
      simp [h]

/-- …and rebuilding it against the same schema and parent type gives the same typed field set. -/
theorem fieldset_typed_roundtrip (s : XSchema) (parent : Str) (t : Sels)
    (hne : toSels (fromSels s parent t) ≠ .nil) (hwf : wfSels (toSels (fromSels s parent t)) = true) :
    (pFieldSet (szSels (toSels (fromSels s parent t))) (toksOf (cFieldSet (toSels (fromSels s parent t))))).map
        (fromSels s parent) = some (fromSels s parent t) := by
  rw [fieldset_roundtrip _ hne hwf]
  simp [selection_set_to_ast_inverse]

/-! ### schema and executable document from one mixed text (`Parser::parse_mixed_validate`) -/

/-- an executable definition (the schema builder skips these in a mixed document, `document_from_ast` skips
    all the others: `executable_definitions_are_errors = type_system_definitions_are_errors = false`) -/
def isExecDef : Definition → Bool
  | .operation .. => true
  | .fragment .. => true
  | _ => false

theorem fromDef_skip (s : XSchema) (d : XDoc) (x : Definition) (h : isExecDef x = false) : fromDef s d x = d := by
  cases x <;> simp [isExecDef] at h <;> rfl

theorem foldl_fromDef_filter (s : XSchema) (m : Document) : ∀ d : XDoc,
    m.foldl (fromDef s) d = (m.filter isExecDef).foldl (fromDef s) d := by
  induction m with
  | nil => intro d; rfl
  | cons x m ih =>
    intro d
    cases hx : isExecDef x with
    | true => simp [List.filter_cons, hx, ih]
    | false => simp [List.filter_cons, hx, fromDef_skip s d x hx, ih]

/-- The executable document built from a mixed text only depends on its executable definitions, in their order:
    the type-system definitions in between are skipped. -/
theorem mixed_exec_ignores_type_system (s : XSchema) (m : Document) :
    fromDoc s m = fromDoc s (m.filter isExecDef) := foldl_fromDef_filter s m {}

/-- **Mixed round trip, executable half.**  `m`: the AST of the mixed text; `sd'`: whatever type-system
    definitions the re-serialized schema consists of.  For every indentation setting: print `sd'` followed by the
    executable document built from `m`, read the tokens back, build against the same schema: the same executable
    document.  (Hypotheses as in `exec_roundtrip`: the printed AST is well formed in the sense of C08.) -/
theorem mixed_roundtrip_exec (pre : Option Str) (level : Nat) (s : XSchema) (m sd' : Document)
    (hsd : ∀ x ∈ sd', isExecDef x = false)
    (hne : sd' ++ toAst (fromDoc s m) ≠ []) (hwf : wfDefinitions (sd' ++ toAst (fromDoc s m)) = true) :
    (pDocument (szDefinitions (sd' ++ toAst (fromDoc s m)))
        (toksOf (cDocument (outputEmptyAtStart pre level) (sd' ++ toAst (fromDoc s m))))).map (fromDoc s)
      = some (fromDoc s m) := by
  rw [exec_roundtrip.C08_print_parse pre level _ hne hwf]
  have hfilter : (sd' ++ toAst (fromDoc s m)).filter isExecDef = (toAst (fromDoc s m)).filter isExecDef := by
    rw [List.filter_append]
    have : sd'.filter isExecDef = [] := by
      rw [List.filter_eq_nil_iff]; intro x hx; simp [hsd x hx]
    rw [this, List.nil_append]
  simp only [Option.map_some, Option.some.injEq]
  rw [mixed_exec_ignores_type_system, hfilter, ← mixed_exec_ignores_type_system, exec_to_ast_inverse]

open Apollo.SchemaBuild Apollo.SchemaSerialize in
/-- **Mixed round trip** as the conjunction of its two halves, with their exact hypotheses.
    Schema half (property C12, its own model of `SchemaBuilder` / `Schema::to_ast`): for a schema with an explicit
    `schema` definition, new directive definitions and untouched built-in types, building `to_ast` again from a
    fresh builder gives the same schema definition, directive definitions and types in the same order, each
    regrouped, and no diagnostic.  Executable half: `mixed_roundtrip_exec`.  The two models are not connected in
    Lean: that the re-built schema types the executable document identically is the statement that the two
    schemas are equal, which is what the schema half says. -/
theorem mixed_roundtrip
    -- schema half
    (adopt ignoreBuiltin : Bool) (b : Builder) (B U : List TypeEntry) (p : Pos)
    (htypes : b.types = B ++ U) (hB : ∀ t ∈ B, t.builtin = true ∧ t.body = Body.empty)
    (hU : ∀ t ∈ U, TypeWF t) (hUn : (U.map (·.name)).Nodup) (hUb : ∀ t ∈ U, findType builtinTypes t.name = none)
    (hDn : ((b.directiveDefs.filter (fun d => !d.builtin)).map (·.name)).Nodup)
    (hDb : ∀ d ∈ b.directiveDefs.filter (fun d => !d.builtin), findDir builtinDirectives d.name = none)
    (hsd : BodyWF (schemaBody b.schemaDef)) (hp : b.schemaDef.pos = some p)
    (hexpl : implicitSchema b.schemaDef b.types = false)
    -- executable half
    (pre : Option Str) (level : Nat) (s : XSchema) (m sd' : Document)
    (hsd' : ∀ x ∈ sd', isExecDef x = false)
    (hne : sd' ++ toAst (fromDoc s m) ≠ []) (hwf : wfDefinitions (sd' ++ toAst (fromDoc s m)) = true) :
    addDocument (Builder.new adopt ignoreBuiltin) (Apollo.SchemaSerialize.toAst b) =
      { Builder.new adopt ignoreBuiltin with
        schemaDef := ⟨some p, regroupBody (schemaBody b.schemaDef)⟩, schemaFound := true,
        directiveDefs := builtinDirectives
          ++ (b.directiveDefs.filter (fun d => !d.builtin)).map (fun d => ⟨d.name, some (d.pos.getD 0), false⟩),
        types := builtinTypes ++ U.map regroupType } ∧
    (pDocument (szDefinitions (sd' ++ toAst (fromDoc s m)))
        (toksOf (cDocument (outputEmptyAtStart pre level) (sd' ++ toAst (fromDoc s m))))).map (fromDoc s)
      = some (fromDoc s m) :=
  ⟨Apollo.C12.toAst_build_schema adopt ignoreBuiltin b B U p htypes hB hU hUn hUb hDn hDb hsd hp hexpl,
   mixed_roundtrip_exec pre level s m sd' hsd' hne hwf⟩

/-! ### non-vacuity -/

def wS : XSchema :=
  { types := [{ name := "Query".toList, kind := .object,
                fields := [("a".toList, { id := 3, ty := "Int".toList }), ("o".toList, { id := 4, ty := "A".toList })] },
              { name := "Int".toList, kind := .scalar, fields := [] },
              { name := "A".toList, kind := .object, fields := [("a".toList, { id := 5, ty := "Int".toList })] }],
    query := some "Query".toList, mutation := none, subscription := none }

-- `query N { x: o { ... { a } ...F } }  fragment F on A { a __typename }`
def wAst : Document :=
  [.operation .query (some "N".toList) [] []
      (.cons (.field (some "x".toList) "o".toList [] []
        (.cons (.inline none [] (.cons (.field none "a".toList [] [] .nil) .nil)) (.cons (.spread "F".toList []) .nil))) .nil),
   .fragment "F".toList "A".toList [] (.cons (.field none "a".toList [] [] .nil) (.cons (.field none "__typename".toList [] [] .nil) .nil))]

example : toAst (fromDoc wS wAst) ≠ [] := by
  intro h
  have := congrArg List.length h
  simp [toAst, fromDoc, wAst, fromDef, wS, XSchema.root, XSchema.findType] at this
example : wfDefinitions wAst = true := by decide

end Apollo.C19
