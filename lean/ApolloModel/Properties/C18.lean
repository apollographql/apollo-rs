import ApolloModel.Proofs.TypedDoc
import ApolloModel.Proofs.TypedValid
import ApolloModel.Proofs.TypedVars6
/-
C18 — Executable documents are typed consistently with the schema.

Model: Model/TypedDoc.lean (`typeField` = `Schema::type_field` with the meta-fields, `buildDocT` =
`document_from_ast` with a schema keeping what the Rust stores: definition and selection-set type per field,
selection-set type per inline fragment / operation / fragment; `run` = the explicit-stack loop of
`root_fields` / `all_fields`).  The second sentence is stated on the validation model of Model/Standalone.lean.
The typing and iterator theorems hold for every schema, every document (valid or not, cyclic or not); the `valid_*`
theorems assume that the document validates, or what their hypotheses name.
-/
namespace Apollo.C18
open Apollo.Standalone Apollo.Typed

/-- names are the numbers of Model/Standalone.lean (`Apollo.Name`, the strings of Model/ExecRules.lean, is in scope too) -/
abbrev Name := Standalone.Name

/-! ### field lookup, meta-fields included -/

/-- `Schema::type_field`, completely: unknown type; explicit field of an object or interface type;
    `__typename` exactly on composite types; `__schema` / `__type` exactly on the query root type. -/
theorem type_field_meta (s : TSchema) (t f : Name) :
    typeField s t f =
      match s.findType t with
      | none => .noSuchType
      | some td =>
        match explicitField td f with
        | some d => .ok d
        | none =>
          if f = nTypename then (if td.kind.isComposite then .ok metaTypename else .noSuchField)
          else if f = nSchema then (if s.query = some t then .ok metaSchema else .noSuchField)
          else if f = nType then (if s.query = some t then .ok metaType else .noSuchField)
          else .noSuchField := by
  unfold typeField
  cases s.findType t with
  | none => rfl
  | some td =>
    simp only
    cases explicitField td f with
    | some d => rfl
    | none =>
      simp only
      by_cases h1 : f = nTypename
      · subst h1
        cases hc : td.kind.isComposite <;> cases hq : (s.query == some t) <;>
          simp_all [nTypename, nSchema, nType]
      · by_cases h2 : f = nSchema
        · subst h2
          cases hq : (s.query == some t) <;> simp_all [nTypename, nSchema]
        · by_cases h3 : f = nType
          · subst h3
            cases hq : (s.query == some t) <;> simp_all [nTypename, nSchema, nType]
          · cases hq : (s.query == some t) <;> simp_all

/-- union types have no explicit fields: only `__typename` can be selected on them (on a union that is not
    the query root type) -/
theorem type_field_union (s : TSchema) (t f : Name) (td : TypeDef) (h : s.findType t = some td)
    (hk : td.kind = .union) (hq : s.query ≠ some t) :
    typeField s t f = if f = nTypename then .ok metaTypename else .noSuchField := by
  rw [type_field_meta, h]
  simp only [explicitField, hk, TKind.isComposite]
  by_cases h1 : f = nTypename
  · simp [h1]
  · simp [h1, hq]

/-! ### typing -/

/-- In the document built against a schema, every operation is typed by the schema's root operation type,
    every fragment by the type condition of a fragment definition of that name in the source, every field
    carries `type_field(parent type, name)` and its selection set is typed by that definition's inner type,
    every inline fragment's selection set is typed by its type condition, or by the parent type when there
    is none (`annotated`); no kept field has a sub-selection on a scalar or enum type. -/
theorem typing_invariant (s : TSchema) (ast : Ast) :
    (∀ o, o ∈ (buildDocT s ast).ops →
        s.root o.opType = some o.ty ∧ annotated s o.ty o.sels = true ∧ noLeafSub s o.sels = true) ∧
    (∀ f, f ∈ (buildDocT s ast).frags →
        annotated s f.ty f.sels = true ∧ noLeafSub s f.sels = true ∧ (s.findType f.ty).isSome = true ∧
          ∃ g, Def.frag g ∈ ast ∧ g.name = f.name ∧ g.tc = f.ty) :=
  ⟨(buildDocT_typed s ast).ops, (buildDocT_typed s ast).frags⟩

/-- the same for any selection set converted under a parent type (`SelectionSet::extend_from_ast`) -/
theorem typing_selection_set (s : TSchema) (parent : Name) (t : Sels) :
    annotated s parent (buildT s parent t) = true ∧ noLeafSub s (buildT s parent t) = true :=
  ⟨buildT_annotated s t parent, buildT_noLeafSub s t parent⟩

/-! ### the iterators -/

/-- `root_fields`: the explicit-stack loop yields exactly the fields of the recursive walk that does not
    descend into fields and enters each named fragment once, for every document (cyclic ones included);
    `m` = any number of further turns of the loop. -/
theorem root_fields_spec (doc : TDoc) (t : TSels) (m : Nat) :
    run doc false ((dfs doc false t).2.2 + m) [t] [] = (dfs doc false t).1 ∧
      Walk doc false t [] (dfs doc false t).1 (dfs doc false t).2.1 :=
  ⟨run_eq_dfs doc false t m, dfs_walk doc false t⟩

/-- `all_fields`: the same with descent into every field's sub-selection. -/
theorem all_fields_spec (doc : TDoc) (t : TSels) (m : Nat) :
    run doc true ((dfs doc true t).2.2 + m) [t] [] = (dfs doc true t).1 ∧
      Walk doc true t [] (dfs doc true t).1 (dfs doc true t).2.1 :=
  ⟨run_eq_dfs doc true t m, dfs_walk doc true t⟩

/-- what the driver prints is that -/
theorem iterate_eq_spec (doc : TDoc) (all : Bool) (t : TSels) : iterate doc all t = (dfs doc all t).1 := by
  have := run_eq_dfs doc all t 0
  simpa [iterate] using this

/-- each named fragment is entered at most once, and only defined fragments are entered -/
theorem fragments_entered_once (doc : TDoc) (all : Bool) (t : TSels) :
    (dfs doc all t).2.1.Nodup ∧ ∀ f ∈ (dfs doc all t).2.1, (doc.findFrag f).isSome = true := by
  obtain ⟨h1, h2⟩ := dfs_seen_inv doc all t
  refine ⟨h1, ?_⟩
  intro f hf
  have := h2 f hf
  simp only [List.mem_map] at this
  obtain ⟨d, hd, hn⟩ := this
  unfold TDoc.findFrag
  cases hq : List.find? (fun g => g.name == f) doc.frags with
  | some _ => rfl
  | none =>
    have := List.find?_eq_none.mp hq d hd
    simp [hn] at this

/-! ### valid documents (validation model of Model/Standalone.lean, current code) -/

/-- In a document that validates against a schema, in the selection tree of every operation (through fields
    and inline fragments): every field is defined on its parent type, composite fields have sub-selections,
    leaf fields have none, every spread names an existing fragment.
    This is the operations' half.  The same for the bodies of fragment definitions: per entered fragment
    `valid_entered_fragment`, every fragment of a valid document is entered `valid_all_fragments_entered`, both
    halves together `valid_document_wellformed`.  Used variables are checked by a typed rule that
    Model/Standalone.lean leaves opaque: `valid_document_variables_defined` below, on Model/ExecRules.lean. -/
theorem valid_leaf_shape_spreads_defined_partial (defer : BuiltDoc → List Nat) (sc : Schema) (ast : Ast)
    (h : validate (currentParams defer) (some sc) ast = []) :
    ∀ o, o ∈ (build (some sc) ast).doc.ops →
      ∃ t, sc.root o.ty = some t ∧ treeOk sc (build (some sc) ast).doc t o.sels = true :=
  valid_ops_treeOk _ rfl sc ast h

/-- A fragment definition whose validation reports nothing — and whose body is well typed under its type
    condition (`typed`: what `from_ast` keeps whole) — has a composite type condition, is not on a spread
    cycle, and its body has the shape above. -/
theorem valid_entered_fragment (p : Params) (sc : Schema) (doc : BuiltDoc) (n : Nat) (f : Frag) (V V' : List Name)
    (ht : typed sc f.tc f.sels = true) (h : enterFrag p (some sc) doc n f V = ([], V')) :
    sc.kind f.tc = some .composite ∧ ¬ f.name ∈ reach doc f.sels ∧ treeOk sc doc f.tc f.sels = true :=
  enterFrag_treeOk p sc doc n f V V' ht h

/-- **Every fragment of a valid document is entered**: some run of `validate_fragment_definition` on it
    reports nothing (`Entered`; the statement does not name the run).  The proof finds it in the validation walk
    of an operation: the unused-fragment rule puts the fragment in the `reach` of an operation, and a quiet walk
    marks and enters everything the operation reaches. -/
theorem valid_all_fragments_entered (defer : BuiltDoc → List Nat) (sc : Schema) (ast : Ast)
    (h : validate (currentParams defer) (some sc) ast = []) :
    ∀ f, f ∈ (build (some sc) ast).doc.frags → Entered (currentParams defer) sc (build (some sc) ast).doc f :=
  Apollo.Standalone.valid_all_fragments_entered _ rfl sc ast h

/-- **valid_document_wellformed** — second sentence of the property, on the validation model, for every schema
    view and document: in a document that validates, in every operation AND in every fragment definition,
    fields are defined on their parent type, composite fields have sub-selections, leaf fields have none, every
    spread names an existing fragment (`treeOk`); every fragment's type condition is a composite type and no
    fragment is on a spread cycle. -/
theorem valid_document_wellformed (defer : BuiltDoc → List Nat) (sc : Schema) (ast : Ast)
    (h : validate (currentParams defer) (some sc) ast = []) :
    (∀ o, o ∈ (build (some sc) ast).doc.ops →
      ∃ t, sc.root o.ty = some t ∧ treeOk sc (build (some sc) ast).doc t o.sels = true) ∧
    (∀ f, f ∈ (build (some sc) ast).doc.frags →
      sc.kind f.tc = some .composite ∧ ¬ f.name ∈ reach (build (some sc) ast).doc f.sels ∧
        treeOk sc (build (some sc) ast).doc f.tc f.sels = true) :=
  valid_document_wellformed_model _ rfl sc ast h

/-- **Variables, per operation** (PARTIAL: the value-level rule itself is not in Model/Standalone.lean).  In a valid
    document, every variable occurrence that an operation `o` uses (`usedVars`, the set the unused-variable rule
    works with) sits in `o`'s own directives / selection tree or in the directives / body of a fragment that `o`
    reaches through spreads and on which `validate_fragment_definition` ran and reported nothing (`Entered`).
    The proof takes the run from `o`'s own walk (`valid_reached_fragments_entered_per_operation`: the walk is quiet,
    marks every fragment `o` reaches and ENTERS each of them — within `o`'s `OperationValidationContext`, i.e. with
    `o`'s variable definitions: the places where `value_of_correct_type` is called with `o.variables`); `enterFrag`
    of the structural model does not take the variable definitions, and `Entered` in the statement does not name the walk.
    What is missing here for "every used variable is defined": the rule `UndefinedVariable` of value.rs is a
    typed rule outside this model; on Model/ExecRules.lean it is `valid_document_variables_defined` below. -/
theorem valid_vars_defined_partial (defer : BuiltDoc → List Nat) (sc : Schema) (ast : Ast)
    (h : validate (currentParams defer) (some sc) ast = []) :
    ∀ o, o ∈ (build (some sc) ast).doc.ops → ∀ v ∈ usedVars (build (some sc) ast).doc o,
      v ∈ varsDirs o.dirs ∨ v ∈ varsSels o.sels ∨
      ∃ d, d ∈ (build (some sc) ast).doc.frags ∧ d.name ∈ reach (build (some sc) ast).doc o.sels ∧
        Entered (currentParams defer) sc (build (some sc) ast).doc d ∧ (v ∈ varsDirs d.dirs ∨ v ∈ varsSels d.sels) := by
  intro o ho v hv
  obtain ⟨t, V', _, _, hreach, hdone⟩ :=
    valid_reached_fragments_entered_per_operation _ rfl sc ast h o ho
  simp only [usedVars, List.mem_append, List.mem_flatMap] at hv
  rcases hv with (hv | hv) | ⟨g, hg, hv⟩
  · exact .inl hv
  · exact .inr (.inl hv)
  · right; right
    obtain ⟨d, hd, hent, _⟩ := hdone g (hreach g hg)
    rw [hd] at hv
    have hmem : d ∈ (build (some sc) ast).doc.frags := List.mem_of_find?_eq_some hd
    have hname : d.name = g := by
      have := List.find?_some hd
      simpa using this
    exact ⟨d, hmem, by rw [hname]; exact hg, hent, by simpa [List.mem_append] using hv⟩

/-! ### non-vacuity -/

-- `type Query(20) { a(30): Int(21)  o(31): A(22) }  type A(22) { a: Int }  union U(23)  scalar Int(21)`
def wSchema : TSchema :=
  { types := [{ name := 20, kind := .object, fields := [(30, { id := 3, ty := 21 }), (31, { id := 4, ty := 22 })] },
              { name := 21, kind := .scalar, fields := [] },
              { name := 22, kind := .object, fields := [(30, { id := 5, ty := 21 })] },
              { name := 23, kind := .union, fields := [] }],
    query := some 20, mutation := none, subscription := none }

-- `{ ... { o { ... { a __typename } nope } } __schema ...F ...F } fragment F on Query { a ...G } fragment G on Query { o { a } ...F }`
def wDoc : Ast :=
  [.op { ty := .query, name := none, vars := [], dirs := [],
         sels := .inline none [] (.field 31 [] [] (.inline none [] (.field 30 [] [] .nil (.field 5 [] [] .nil .nil)) (.field 99 [] [] .nil .nil)) .nil)
                   (.field 6 [] [] .nil (.spread 40 [] (.spread 40 [] .nil))) },
   .frag { name := 40, tc := 20, dirs := [], sels := .field 30 [] [] .nil (.spread 41 [] .nil) },
   .frag { name := 41, tc := 20, dirs := [], sels := .field 31 [] [] (.field 30 [] [] .nil .nil) (.spread 40 [] .nil) }]

example : dumpDoc (buildDocT wSchema wDoc) =
    "op:-:20[I-:20[F31:4:22[I-:22[F30:5:21[]F5:0:8[]]]]F6:1:9[]S40;S40;] R(31:22 6:9 30:21 31:22) A(31:22 30:21 5:8 6:9 30:21 31:22 30:21) | frag:40:20[F30:3:21[]S41;] frag:41:20[F31:4:22[F30:5:21[]]S40;]" := by
  decide +kernel
example : typeField wSchema 23 nTypename = .ok metaTypename ∧ typeField wSchema 21 nTypename = .noSuchField ∧
    typeField wSchema 22 nSchema = .noSuchField ∧ typeField wSchema 20 nType = .ok metaType := by decide

/-! ### variables: every used variable is declared (on the typed rules of Model/ExecRules.lean)

`Model/ExecRules.lean` (C17) models the typed executable rules that `Model/Standalone.lean` leaves opaque — among them
the variable part of `value_of_correct_type` after fixes 1d09582 / 9a745ed (UndefinedVariable at every depth: lists,
input objects, list / object literals given to a custom scalar) and the per-operation walk with `validated_fragments`.
C17 proves its SOUNDNESS (`operation_variables_in_scope_spec`); here is its COMPLETENESS: nothing reported ⇒ every
variable use was met and is declared.  The theorems take as hypothesis the facts that the STRUCTURAL rules and the
value-shape rules establish for a valid document (`DocOk`: fields, arguments and directives are defined, spreads name
fragments, type conditions are composite, no fragment is on a spread cycle — proved of valid documents on the
structural model above: `valid_document_wellformed` — and every literal position the check descends into has a type the
schema knows, `litOk`; that an object literal names only defined input fields, each once, is reported by the model
itself, `keyDiags`).  `valid_document_variables_defined_reduced` below needs less. -/

end Apollo.C18
namespace Apollo.C18
open Apollo.ExecRules

/-- **completeness of the variable part of `value_of_correct_type`**: a value of nesting depth ≤ k whose check
    reports nothing, and whose literal positions have types the schema knows (`litOk`), has every variable it
    contains — at any depth, in lists, input-object literals and literals given to a custom scalar — declared by the
    operation -/
theorem value_variables_complete (s : RSchema) (vars : List RVarDef) (k : Nat) (ty : Apollo.Ty) (v : RVal)
    (hd : RVal.depth v ≤ k) (hl : litOk s k ty v) (h : valueDiags s vars k ty v = []) :
    ∀ n ∈ RVal.vars v, declared vars n = true :=
  valueDiags_complete s vars k ty v hd hl h

/-- **the walk of one operation is complete**: when `validate_operation` reports none of the typed diagnostics, every
    variable the operation USES — in its own directives, in the directives / arguments of every field, spread and
    inline fragment of its selection tree and, through spreads at any depth, in the directives and bodies of the
    fragments it reaches (`UsesSels`; the fields of these trees are the fields `all_fields` yields, `all_fields_spec`)
    — is declared by THAT operation.  In particular a fragment shared by several operations is checked against each of
    them (each walk starts with an empty `validated_fragments`), and the fuel of the fragment recursion is sufficient. -/
theorem valid_operation_variables_defined (s : RSchema) (doc : RBuilt) (o : ROp)
    (hfr : ∀ f d, doc.findFrag f = some d → FragOk s doc d) (hdirs : dirsOk s o.dirs)
    (t : String) (hroot : s.root o.ty = some t) (hsels : SelsOk s doc t o.sels) (h : opDiags s doc o = []) :
    ∀ n, (n ∈ dirsVars o.dirs ∨ UsesSels doc o.sels n) → declared o.vars n = true :=
  operation_variables_defined s doc o hfr hdirs t hroot hsels h

/-- **valid_document_variables_defined** — for every schema and document with `DocOk`: if the typed rules report nothing, every
    variable used by every operation (through fragments, inside list / object / custom-scalar literals) is declared by
    that operation. -/
theorem valid_document_variables_defined (s : RSchema) (ast : RAst) (hok : DocOk s (build s ast))
    (h : typedDiags s ast = []) :
    ∀ o ∈ (build s ast).ops, ∀ n, (n ∈ dirsVars o.dirs ∨ UsesSels (build s ast) o.sels n) → declared o.vars n = true :=
  document_variables_defined s ast hok h

/-- the same for the quantity the harness computes with the real iterator (stream `c18.opvars`): the variables written in
    the arguments and directives of the fields that `all_fields` yields for an operation are declared by it -/
theorem valid_document_all_fields_variables_defined (s : RSchema) (ast : RAst) (hok : DocOk s (build s ast))
    (h : typedDiags s ast = []) :
    ∀ o ∈ (build s ast).ops, ∀ n ∈ opFieldVars (build s ast) o, declared o.vars n = true :=
  fun o ho n hn => document_variables_defined s ast hok h o ho n (.inr (opFieldVars_uses _ o n hn))

/-- **The hypothesis reduced.**  What `document_from_ast` itself guarantees (every kept field is defined on the type it
    is selected on; every kept operation has its root type: `build_inv`) and what `value_of_correct_type` itself reports
    (an object literal naming an undefined field, or a field twice: `keyDiags`) is not assumed.  With the typed
    rules quiet, every used variable is declared as soon as (`DocOkW`) arguments and directives are defined with literal
    positions of known type, spreads name fragments, type conditions are composite types and no fragment is on a spread
    cycle — one structural rule each (UndefinedArgument, UndefinedDirective, UndefinedFragment, InvalidFragmentTarget,
    RecursiveFragmentDefinition; their model is `Standalone.validate` on the erased document, C17's per-rule theorems).
    PARTIAL: `DocOkW` is a hypothesis on the ExecRules document, not derived from `Standalone.validate (erase …) = []`
    (no simulation between `ExecRules.build` and `Standalone.build ∘ erase` is proved). -/
theorem valid_document_variables_defined_reduced (s : RSchema) (ast : RAst) (hok : DocOkW s (build s ast))
    (h : typedDiags s ast = []) :
    ∀ o ∈ (build s ast).ops, ∀ n, (n ∈ dirsVars o.dirs ∨ UsesSels (build s ast) o.sels n) → declared o.vars n = true :=
  document_variables_defined s ast (docOk_of_built s ast hok) h

/-- what the build guarantees without any hypothesis -/
theorem built_fields_defined (s : RSchema) (ast : RAst) :
    (∀ o ∈ (build s ast).ops, ∃ t, s.root o.ty = some t ∧ FieldsDefined s t o.sels) ∧
    (∀ f ∈ (build s ast).frags, FieldsDefined s f.tc f.sels) :=
  ⟨(build_inv s ast).ops, (build_inv s ast).frags⟩

/-- for a schema whose input-object fields all have types the schema knows (`InputClosed`, true of a valid schema), the
    only fact about a literal that `argsOk` still asks for follows from "the argument is defined and its type is known" -/
theorem literal_shape_from_closed_schema (s : RSchema) (hc : InputClosed s) (defs : List InDef) (args : List RArg)
    (h : ∀ a ∈ args, ∃ d, defs.find? (·.name == a.name) = some d ∧ (s.kindForValue d.ty.innerNamedType).isSome) :
    argsOk s defs args :=
  argsOk_of_closed s hc defs args h

-- Non-vacuity (kernel-evaluated): `scalar S  type Query { f(x: S): Int }`,
-- `query($v: Int) { f(x: {a: [$v, $w]}) }`: `$w`, inside a list inside an object given to a custom scalar, is reported
def vSchema : RSchema :=
  { types := [{ name := "Query", kind := .object [], fields := [("f", { args := [{ name := "x", ty := .named "S", hasDefault := false }], ty := .named "Int" })] },
              { name := "S", kind := .scalar false, fields := [] }],
    query := some "Query", mutation := none, subscription := none, dirs := [] }
def vDoc (inner : List RVal) : RAst :=
  [.op { ty := .query, name := none, vars := [{ name := "v", ty := .named "Int", default := .absent, dirs := [] }], dirs := [],
         sels := .field "f" [] [{ name := "x", value := .obj [("a", .list inner)] }] .nil .nil }]
example : typedDiags vSchema (vDoc [.var "v", .var "w"]) = [.undefinedVariable "w"] := by decide
example : typedDiags vSchema (vDoc [.var "v", .lit]) = [] := by decide

end Apollo.C18
