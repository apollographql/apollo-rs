import ApolloModel.Proofs.ParserLossless
import ApolloModel.Proofs.ParserTermination8
/-
C01 — Parsing never panics, hangs or overflows the stack.

Model: Model/Lexer.lean + Model/Rowan.lean + Model/ParserCore.lean/ParserPrims.lean/Grammar.lean/
ParserEntry.lean — a transliteration of lexer/mod.rs, rowan's GreenNodeBuilder, parser/mod.rs and all
of parser/grammar/*.rs with every `unwrap`/`expect`/`assert!` as an explicit panic outcome.
The grammar is written in a proof-carrying state monad (`PI`), so each grammar function
preserves the builder/recursion-counter invariants by construction.  Tied to the code by the
correspondence stream P (tree + errors + high-water marks, three entry points, all limits).
-/
namespace Apollo.C01
open Apollo.Parse Apollo.Lex

/-- `Parser::parse`, `parse_selection_set` and `parse_type` never panic: no `unwrap` on an empty
    node stack, no failed `start_node_at` assertion, no recursion-counter underflow, and
    `GreenNodeBuilder::finish` always sees exactly one root node — for every input string, token
    limit and recursion limit. -/
theorem parse_no_panic (e : Entry) (tl : Option Nat) (rl : Nat) (src : Parse.Str) (m : String) :
    (parse e tl rl src).outcome ≠ .panic m := Parse.parse_no_panic e tl rl src m

/-- The lexer never loops: every `advance` consumes input, and lexing ends with EOF. -/
theorem lex_terminates (src : Lex.Str) : (lex none src).getLast? = some (.tok .eof []) := (Lex.lex_concat src).2

theorem lex_progress (c : Char) (rest : Lex.Str) :
    (advance (c :: rest)).2.length < (c :: rest).length := (Lex.advance_progress c rest).2

/-- Every grammar function restores the recursion counter (so the
    `assert_eq!(p.recursion_limit.current, 0)` in `document()` cannot fire) and leaves the builder's
    open-node stack as it found it: the `Frame` every `PI` value carries. -/
theorem grammar_balanced {α : Type} (m : PI α) (s s' : PState) (a : α) (hi : Inv s) (h : m.run s = .ok a s') :
    s'.recCur = s.recCur ∧ s'.builder.parents = s.builder.parents := by
  have := m.ok s hi
  simp only [h, Post] at this
  exact ⟨this.2.recCur, this.2.parents⟩

/-- Termination of the parser model: neither of the model's two aborts occurs — running out of the
    fuel `4·|src|+20`, and the `peek_while` progress assertion.  Proved as `parse_terminates` below. -/
def parse_terminates_statement : Prop :=
  ∀ (e : Entry) (tl : Option Nat) (rl : Nat) (src : Parse.Str) (w : Abort), (parse e tl rl src).outcome ≠ .abort w

/-! ## Termination of the parser model

Two measures on the token-stream part of the state (Proofs/ParserTermination.lean): `Mm` = how many
tokens can still be consumed, `Phi` = where the first unconsumed token starts.  `Term m s Q`: `m` run
from `s` does not abort (neither `fuel` nor `stuck`) and, if it ends normally, no measure went
backwards, the current token was kept or progress was made (`Keep`), and `Q` holds. -/

/-- Every token-plumbing primitive of parser/mod.rs terminates and never un-consumes input;
    `bump`, `eat` and `err_and_pop` make strict progress in both measures whenever there is a current
    token (otherwise the input is exhausted). In particular the `skip_ignored` loop never runs out of
    its fuel. -/
theorem primitives_progress (kind : Rowan.SK) (s : PState) (hw : W s) :
    Run skipIgnored s (fun _ c l => Skipped c l) ∧
    Run (bump kind) s (fun _ c l => Consumed s c l ∧ Skipped c l) ∧
    Run (eat kind) s (fun _ c l => c = none ∧ Consumed s c l) ∧
    Run errAndPop s (fun _ c l => Consumed s c l) ∧
    Run peekToken s (fun a c l => a = c ∧ Looked s c l) :=
  ⟨skipIgnored_run s hw, bump_run kind s hw, eat_run kind s hw, errAndPop_run s hw, peekToken_run' s hw⟩

/-- progress changes the current token: with a current token, `Phi` is determined by it, so a body
    that made strict progress cannot trip the `debug_assert!(before != self.current_token)` -/
theorem progress_changes_current (s s' : PState) (h : Strict s s') (hs : s.current.isSome = true) :
    s'.current ≠ s.current := strict_current_ne h hs

/-- `STUCK`-FREEDOM AND LOOP FUEL, for every loop body: if the body of a `peek_while` terminates from
    every state that has a current token and makes strict progress whenever it asks to continue, then
    the loop never fails its progress assertion and never exhausts its fuel (`|src| + 3`). -/
theorem peek_while_terminates (body : Kind → PI Bool) (s : PState) (hw : W s)
    (hbody : ∀ kind s1, W s1 → Mm s1 ≤ Mm s → (∃ t, s1.current = some t ∧ t.kind = kind) →
      Term (body kind) s1 (fun b c l => b = true → StrictT s1 c l)) :
    Term (peekWhile body) s (fun _ _ _ => True) := peekWhile_term body s hw hbody

/-- the same for `peek_while_kind` -/
theorem peek_while_kind_terminates (expectK : Kind) (body : PI Unit) (s : PState) (hw : W s)
    (hbody : ∀ s1, W s1 → Mm s1 ≤ Mm s → (∃ t, s1.current = some t ∧ t.kind = expectK) →
      Term body s1 (fun _ c l => StrictT s1 c l)) :
    Term (peekWhileKind expectK body) s (fun _ _ _ => True) := peekWhileKind_term expectK body s hw hbody

/-- the node / recursion-limit / checkpoint combinators add no abort of their own -/
theorem combinators_terminate {α : Type} (kind : Rowan.SK) (body onLimit : PI α) (s : PState) (hw : W s)
    {Q : α → Option Tok → LexSt → Prop}
    (hb : ∀ s1, W s1 → s1.current = s.current → s1.lx = s.lx → Term body s1 Q)
    (hl : ∀ s1, W s1 → s1.current = s.current → s1.lx = s.lx → Term onLimit s1 Q) :
    Term (withRec onLimit body) s Q ∧
    ((∀ s1, W s1 → s1.current = s.current → s1.lx = s.lx → Term (skipIgnored >>= fun _ => body) s1 Q) →
      Term (withNode kind body) s Q) :=
  ⟨withRec_term onLimit body s hw hl hb, fun h => withNode_term kind body s hw h⟩

/-- ty.rs: the type grammar (unbounded `[[[…]]]!` nesting, checkpoint/wrap for `!`) terminates whenever
    the fuel exceeds the number of tokens left: each recursive call follows a consumed `[` -/
theorem type_grammar_terminates (n : Nat) (s : PState) (hw : W s) (hn : Mm s + 1 ≤ n) :
    Term (tyParse n) s (fun _ _ _ => True) := tyParse_term n s hw hn

/-- building blocks the loop bodies reduce to: `let _g = start_node(k); bump(k')` consumes
    the current token, and `name()` consumes it when it is a Name (so `peek_while_kind(Name, …)` bodies
    that start with `name` satisfy the hypothesis of `peek_while_kind_terminates`) -/
theorem node_bump_and_name_consume (kind k : Rowan.SK) (s : PState) (hw : W s) :
    Term (withNode kind (bump k)) s (fun _ c l => s.current.isSome = true → StrictT s c l) ∧
    Term name s (fun _ c l => ∀ t, s.current = some t → t.kind = .name → StrictT s c l) :=
  ⟨withNode_bump_term kind k s hw, name_term s hw⟩

/-- value.rs: the mutually recursive value grammar (`value` → `list_value` / `object_value` →
    `object_field` → `value`, unbounded nesting, const and non-const, with and without
    `pop_on_error`) terminates whenever the fuel is at least `2·Mm + 2` (`2·Mm + 1` for the three
    inner functions): both loops (`peek_while` in list_value, `peek_while_kind(Name)` in object_value)
    are instances of the loop theorems — their bodies consume a token under the guard — and every
    recursive call follows a consumed token.  With `pop_on_error`, `value` always consumes the token it
    looks at (what the list loop needs); `object_field` consumes its Name. -/
theorem value_grammar_terminates (n : Nat) : ValueGoal n := value_family n

/-- The instance of `parse_terminates` for the entry point `Parser::parse_type`: for every input,
    token limit and recursion limit, never out of fuel, never stuck. -/
theorem parse_terminates_partial (tl : Option Nat) (rl : Nat) (src : Parse.Str) (w : Abort) :
    (parse .type tl rl src).outcome ≠ .abort w := parse_type_terminates tl rl src w

/-- argument.rs / directive.rs: `arguments` and `directives` (and their loop bodies `argument`,
    `directive`, which consume the Name / `@` their `peek_while_kind` guard saw) terminate whenever
    the fuel is at least `4·Mm + 4` -/
theorem arguments_directives_terminate (n : Nat) (isConst : Bool) (s : PState) (hw : W s) (hb : 4 * Mm s + 4 ≤ n) :
    Term (arguments n isConst) s (fun _ _ _ => True) ∧ Term (directives n isConst) s (fun _ _ _ => True) :=
  ⟨ta_arguments n isConst s hw hb, ta_directives n isConst s hw hb⟩

/-- selection.rs / field.rs / fragment.rs: the cycle selectionSet → selection → field / inlineFragment
    → selectionSet terminates with the depth bounds `4·Mm + 2 / 5 / 4 / 4` (each turn of the cycle
    consumes a token; `selection`'s flag loop is an instance of the loop theorem: every `Continue`
    follows a consumed `...` or field Name) -/
theorem selection_grammar_terminates (n : Nat) : SelGoal n := sel_family n

/-- The instance of `parse_terminates` for the entry point `Parser::parse_selection_set`: for
    every input, token limit and recursion limit, never out of fuel, never stuck. -/
theorem parse_selection_set_terminates (tl : Option Nat) (rl : Nat) (src : Parse.Str) (w : Abort) :
    (parse .selectionSet tl rl src).outcome ≠ .abort w := Parse.parse_selection_set_terminates tl rl src w

/-- the definition parsers dispatched by `document()`: each terminates (fuel `≥ 4·Mm + 4`) and consumes a
    token when entered on a description string or on its keyword — what the `document()` loop's
    progress assertion needs.  Stated here for the scalar / object / interface / union / enum /
    input-object / schema / directive definitions and for the fragment definition (entered on any
    token); the extensions and the operation definition are in Proofs/ParserTermination8.lean. -/
theorem definitions_terminate_and_consume (n : Nat) (s : PState) (hw : W s) (hb : 4 * Mm s + 4 ≤ n) :
    Term (scalarTypeDefinition n) s (GC (DefGuard "scalar") s) ∧
    Term (objectTypeDefinition n) s (GC (DefGuard "type") s) ∧
    Term (interfaceTypeDefinition n) s (GC (DefGuard "interface") s) ∧
    Term (unionTypeDefinition n) s (GC (DefGuard "union") s) ∧
    Term (enumTypeDefinition n) s (GC (DefGuard "enum") s) ∧
    Term (inputObjectTypeDefinition n) s (GC (DefGuard "input") s) ∧
    Term (schemaDefinition n) s (GC (DefGuard "schema") s) ∧
    Term (directiveDefinition n) s (GC (DefGuard "directive") s) ∧
    Term (fragmentDefinition n) s (GC GAny s) :=
  ⟨gc_scalarTypeDefinition n s hw hb, gc_objectTypeDefinition n s hw hb, gc_interfaceTypeDefinition n s hw hb,
   gc_unionTypeDefinition n s hw hb, gc_enumTypeDefinition n s hw hb, gc_inputObjectTypeDefinition n s hw hb,
   gc_schemaDefinition n s hw hb, gc_directiveDefinition n s hw hb, gc_fragmentDefinition n s hw hb⟩

/-- THE PARSER MODEL TERMINATES — `parse_terminates_statement` is a theorem: for every entry point
    (`Parser::parse`, `parse_selection_set`, `parse_type`), every input, token limit and recursion
    limit, the outcome is never an abort: the model's fuel `4·|src|+20` never runs out and the
    `peek_while` / `peek_while_kind` progress assertions never fail.  With `parse_no_panic` this is the
    "never panics, never hangs" clause of C01 for the whole parser model.
    (document.rs: every definition parser consumes a token when `document()` dispatches to it —
    on a description string or on its keyword — so the top-level `peek_while` is an instance of
    `peek_while_terminates`; Proofs/ParserTermination2–8.lean.) -/
theorem parse_terminates : parse_terminates_statement :=
  fun e tl rl src w => Parse.parse_terminates e tl rl src w

-- Regression witnesses for the repaired defects (evaluated by the kernel on the model)
def isTree (r : PResult) : Bool := match r.outcome with | .tree _ => true | _ => false
example : isTree (parse .type none 500 []) = true := by decide +kernel
example : isTree (parse .type none 500 ['!']) = true := by decide +kernel
example : isTree (parse .selectionSet none 500 ['é']) = true := by decide +kernel

end Apollo.C01
