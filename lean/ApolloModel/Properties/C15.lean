import ApolloModel.Proofs.SchemaInvariants
import ApolloModel.Properties.C29
import ApolloModel.Properties.C14
import ApolloModel.Properties.C16
import ApolloModel.Proofs.SchemaBuildScalars
/-
C15 — Valid schemas are internally consistent.

On the C14 model (`Model/SchemaValidation.lean`: input-object graph, implements graph, root operations)
a schema accepted by the modelled rule set satisfies the corresponding invariants of the statement
(`valid_implies_invariants`), each conjunct from the soundness half of the C14 rule theorems.  The
built-in scalar clause is proved on the C16 model of the bookkeeping at the end of `validate_schema`
(`validated_scalars_exact`), the covariance clause is `C29.impl_field_type_iff`, and the argument and
reserved-name rules have their own small models (Model/SchemaInvariants.lean).  `valid_implies_invariants_full`
… `_full4` add, on larger views of the schema, the clauses that follow from the other rule families of C14.
The Boolean evaluators used by the `c15.inv` correspondence stream are proved equal to the declarative
predicates (`*_inv_iff`).
-/
namespace Apollo.C15
open Apollo.SchemaValidation Apollo.SchemaValidation.Spec Apollo.SchemaInvariants

/-- the part of a schema the modelled rules look at -/
structure MSchema where
  g : IGraph
  s : ISchema
  q : Option RootTarget
  m : Option RootTarget
  sub : Option RootTarget

/-- validation pushes no diagnostic of the modelled rules -/
def Accepts (limit : Nat) (M : MSchema) : Prop :=
  failingInputs M.g limit = [] ∧
  (∀ (a : Nat) (t : TypeInfo), M.s[a]? = some t → implementsDiagCount M.s a t = 0) ∧
  validateRoots M.q M.m M.sub = []

/-- the corresponding clauses of C15 -/
def Inv (M : MSchema) : Prop :=
  -- a query root; every root operation type a distinct object type
  RootsValid M.q M.m M.sub ∧
  -- `implements` only names interfaces, and never the interface itself
  (∀ a b, Declares M.s a b → (getInterface M.s b).isSome) ∧
  (∀ (a : Nat) (t : TypeInfo), M.s[a]? = some t → t.isInterface = true → a ∉ t.implements) ∧
  -- the transitive-interface contract
  TransitiveClosed M.s ∧
  -- no input object has a non-null cycle
  (∀ r, r < M.g.length → ¬ InputCycleThrough M.g r)

/-- Acceptance by the modelled rules implies the invariants, for every schema and every limit. -/
theorem valid_implies_invariants (limit : Nat) (M : MSchema) (h : Accepts limit M) : Inv M := by
  obtain ⟨hin, himp, hroots⟩ := h
  have hparts : ∀ (a : Nat) (t : TypeInfo), M.s[a]? = some t →
      undefinedImplements M.s t = [] ∧ missingTransitive M.s t = [] ∧ selfImplements a t = [] := by
    intro a t ht
    have := himp a t ht
    unfold implementsDiagCount at this
    refine ⟨List.length_eq_zero_iff.mp (by omega), List.length_eq_zero_iff.mp (by omega),
      List.length_eq_zero_iff.mp (by omega)⟩
  refine ⟨(C14.roots_valid_iff _ _ _).mp hroots, ?_, ?_, ?_, C14.input_rule_accept_sound M.g limit hin⟩
  · intro a b ⟨t, ht, hb⟩
    have := (hparts a t ht).1
    unfold undefinedImplements at this
    rw [List.filter_eq_nil_iff] at this
    have := this b hb
    cases hg : getInterface M.s b <;> simp_all
  · intro a t ht hi hmem
    have := (hparts a t ht).2.2
    unfold selfImplements at this
    simp only [hi, if_true] at this
    rw [List.filter_eq_nil_iff] at this
    exact this a hmem (by simp)
  · exact (C14.transitive_interfaces_iff M.s).mp fun a t ht => (hparts a t ht).2.1

/-- The evaluators of the `c15.inv` stream compute the declarative clauses. -/
theorem roots_inv_iff (q m sub : Option RootTarget) : rootsInv q m sub = true ↔ RootsValid q m sub :=
  rootsInv_iff q m sub

theorem trans_inv_iff (s : ISchema) : transInv s = true ↔ TransitiveClosed s := transInv_iff s

theorem input_inv_iff (g : IGraph) : inputInv g = true ↔ ∀ r, ¬ InputCycleThrough g r := inputInv_iff g

/-- Built-in scalars: after the bookkeeping at the end of `validate_schema` the type map contains
    exactly the referenced built-in scalars, for every hash-set iteration order.  Hypotheses: what a
    successful build guarantees (unique names; a type named like a built-in scalar is the built-in
    definition — redefining one is the build error `BuiltInScalarTypeRedefinition`). -/
theorem validated_scalars_exact (order : List Scalars.Name → List Scalars.Name) (ho : Scalars.IsOrder order)
    (s : Scalars.Schema) (wf : Scalars.WellFormed s)
    (hbuilt : ∀ e ∈ s.types, Scalars.builtinScalars.contains e.1 = true → e.2.isBuiltIn = true) :
    scalarsInv (Scalars.bookkeeping order s) = true := by
  unfold scalarsInv
  rw [List.all_eq_true]
  intro b hb
  rw [Scalars.allRefs_bookkeeping order s wf]
  cases hr : s.allRefs.contains b
  · cases hd : (Scalars.bookkeeping order s).defined b
    · rfl
    · have := Scalars.defined_after_referenced order ho s hbuilt b hb hd
      rw [hr] at this; cases this
  · have := Scalars.referenced_defined_after order (fun l x hx => (ho.mem l x).mpr hx) s b hb hr
    simp [this]

/-- Covariance of implementing field types: an accepted pair satisfies the specification's
    IsValidImplementationFieldType (from C29, for every subtype relation). -/
theorem impl_field_type_contract (sub : Name → Name → Bool) (iface impl : Ty)
    (h : Gen.isValidImplementationFieldType sub iface impl = true) :
    Apollo.Spec.validImplFieldType sub (Apollo.Spec.embed impl) (Apollo.Spec.embed iface) = true := by
  rw [← C29.impl_field_type_iff]; exact h

/-- Argument contract of one implemented field: no diagnostic iff every interface argument exists with
    the same type and every additional argument is optional. -/
theorem impl_arguments_contract (iface impl : List Arg) :
    argDiags iface impl = [] ↔
      (∀ ia ∈ iface, ∃ a, impl.find? (fun a => a.name == ia.name) = some a ∧ a.ty = ia.ty) ∧
      (∀ a ∈ impl, (∀ ia ∈ iface, ia.name ≠ a.name) → a.required = false) :=
  Implementation.argDiags_nil_iff iface impl

/-- Reserved names: no diagnostic iff the name is built-in or does not start with `__`. -/
theorem reserved_name_rule (isBuiltIn : Bool) (name : String) :
    reservedNameDiags isBuiltIn name = 0 ↔ (isBuiltIn = true ∨ name.startsWith "__" = false) := by
  unfold reservedNameDiags
  cases isBuiltIn <;> cases h : name.startsWith "__" <;> simp

/-- "Every referenced type exists with the right kind": acceptance by the kind checks implies it.
    (The soundness half of `C14.reference_kinds_rule_iff_spec`; proved as
    `referenced_types_have_right_kind_holds`.) -/
def referenced_types_have_right_kind : Prop :=
  ∀ (kindOf : String → Option Implementation.Kind) (t : Implementation.TypeRefs),
    Implementation.typeRefDiags kindOf t = [] → Implementation.Spec.RefsRightKind kindOf t

theorem referenced_types_have_right_kind_holds : referenced_types_have_right_kind :=
  fun kindOf t h => (C14.reference_kinds_rule_iff_spec kindOf t).mp h

/-- the model schema with what the contract and kind rules look at -/
structure MSchemaF extends MSchema where
  /-- `schema.is_subtype` -/
  isSubtype : Name → Name → Bool
  /-- fields of interface `i` (`none`: the name is not an interface) -/
  getIface : Nat → Option (List Implementation.FieldM)
  /-- fields of type `a` -/
  typeFields : Nat → List Implementation.FieldM
  /-- `schema.types.get` as a kind -/
  kindOf : String → Option Implementation.Kind
  /-- inner named types referenced by definition `a` -/
  refs : Nat → Implementation.TypeRefs

def AcceptsF (limit : Nat) (M : MSchemaF) : Prop :=
  Accepts limit M.toMSchema ∧
  (∀ (a : Nat) (t : TypeInfo), M.s[a]? = some t →
    Implementation.implDiags M.isSubtype M.getIface (M.typeFields a) t.implements = []) ∧
  (∀ a, Implementation.typeRefDiags M.kindOf (M.refs a) = [])

def InvF (M : MSchemaF) : Prop :=
  Inv M.toMSchema ∧
  -- the field and argument contracts of everything a type implements
  (∀ (a : Nat) (t : TypeInfo), M.s[a]? = some t → ∀ i ∈ t.implements, ∀ ifields, M.getIface i = some ifields →
    Implementation.Spec.ValidImplementation M.isSubtype (M.typeFields a) ifields) ∧
  -- every referenced type exists with the right kind
  (∀ a, Implementation.Spec.RefsRightKind M.kindOf (M.refs a))

/-- `valid_implies_invariants` extended with the field/argument contracts (IsValidImplementation for
    every declared interface) and the kinds of referenced types. -/
theorem valid_implies_invariants_full (limit : Nat) (M : MSchemaF) (h : AcceptsF limit M) : InvF M :=
  ⟨valid_implies_invariants limit M.toMSchema h.1,
   fun a t ht => (C14.implementation_rule_iff_spec M.isSubtype M.getIface (M.typeFields a) t.implements).mp (h.2.1 a t ht),
   fun a => (C14.reference_kinds_rule_iff_spec M.kindOf (M.refs a)).mp (h.2.2 a)⟩

/-- The two further evaluators of the `c15.inv` stream compute the declarative clauses. -/
theorem contracts_inv_iff (sub : Name → Name → Bool) (s : ISchema) (fields : List (List Implementation.FieldM)) :
    Implementation.contractsInv sub s fields = true ↔
      ∀ a, a < s.length → ∀ i ∈ (s.getD a default).implements, ∀ ifields,
        Implementation.ifaceFields s fields i = some ifields →
        Implementation.Spec.ValidImplementation sub (fields.getD a []) ifields :=
  Implementation.contractsInv_iff sub s fields

theorem kinds_inv_iff (kindOf : String → Option Implementation.Kind) (refs : List Implementation.TypeRefs) :
    Implementation.kindsInv kindOf refs = true ↔ ∀ t ∈ refs, Implementation.Spec.RefsRightKind kindOf t :=
  Implementation.kindsInv_iff kindOf refs

/-! ### pairwise distinct names and applied directives -/

/-- the model schema with its built lists (fields / enum values / members / interfaces / input fields of
    each definition, as produced by `collect_sticky` / `extend_sticky`), the argument names of each field
    or directive definition, and the directive applications of each location -/
structure MSchemaG extends MSchemaF where
  /-- the name lists of the built schema -/
  builtLists : List (List SchemaBuild.Comp)
  /-- argument names, one list per field / directive definition -/
  argNameLists : List (List Standalone.Name)
  /-- `schema.directive_definitions.get` -/
  dirDef : Standalone.Name → Option Standalone.DirDef
  /-- the directives applied at each location of the document -/
  applications : List (Standalone.Loc × List Standalone.Dir)

def AcceptsG (limit : Nat) (M : MSchemaG) : Prop :=
  AcceptsF limit M.toMSchemaF ∧
  -- every list of the schema was built by the sticky insertion, starting from the empty list
  (∀ l ∈ M.builtLists, ∃ dup origin errs items, l = (SchemaBuild.extendSticky dup origin [] errs items).1) ∧
  (∀ ns ∈ M.argNameLists, DirApps.argDefDups [] ns = 0) ∧
  (∀ la ∈ M.applications, DirApps.schemaDirDiags M.dirDef la.1 la.2 = [])

def InvG (M : MSchemaG) : Prop :=
  InvF M.toMSchemaF ∧
  -- names in every list are pairwise distinct
  (∀ l ∈ M.builtLists, (l.map (·.name)).Nodup) ∧
  (∀ ns ∈ M.argNameLists, ns.Nodup) ∧
  -- every applied directive is defined and allowed at its location (and unique unless repeatable, with
  -- defined, unique and sufficient arguments)
  (∀ la ∈ M.applications, DirApps.Spec.DirectivesValid M.dirDef la.1 la.2)

/-- `valid_implies_invariants_full` extended with "names in every list are pairwise distinct" (from the
    build: `C14.build_first_definition_wins`; argument names from `C14.argument_definitions_unique_iff`) and
    "every applied directive is defined and allowed at its location" (`C14.directive_applications_rule_iff_spec`). -/
theorem valid_implies_invariants_full2 (limit : Nat) (M : MSchemaG) (h : AcceptsG limit M) : InvG M := by
  obtain ⟨hF, hbuilt, hargs, happs⟩ := h
  refine ⟨valid_implies_invariants_full limit M.toMSchemaF hF, ?_, ?_, ?_⟩
  · intro l hl
    obtain ⟨dup, origin, errs, items, rfl⟩ := hbuilt l hl
    exact C14.build_first_definition_wins dup origin items [] errs (by simp)
  · intro ns hns
    exact (C14.argument_definitions_unique_iff ns).mp (hargs ns hns)
  · intro la hla
    exact (C14.directive_applications_rule_iff_spec M.dirDef la.1 la.2).mp (happs la hla)


/-! ### the invariants that come from the build, non-emptiness, reserved names and values -/

/-- the model schema with the document it was built from (names only), the names it introduces with their
    origin, and the constants given to the arguments of its applied directives with the argument types -/
structure MSchemaH extends MSchemaG where
  /-- the type-system document, as `SchemaBuilder` reads it -/
  doc : List SchemaBuild.Def
  docWellFormed : SchemaBuild.WellFormed doc
  /-- every name the schema introduces, with "is located in the built-in file" -/
  introduced : SchemaNames.SchemaNames
  /-- what the value check looks at in the types -/
  valueSchema : ValueCheck.Schema
  valueSchemaClosed : ValueCheck.Spec.Closed valueSchema
  /-- (argument type, constant) for every argument of every directive applied in the schema -/
  argValues : List (ValueCheck.Ty × ValueCheck.Value)
  argTypesDefined : ∀ p ∈ argValues, ValueCheck.Spec.Defined valueSchema p.1

def AcceptsH (limit : Nat) (M : MSchemaH) : Prop :=
  AcceptsG limit M.toMSchemaG ∧
  (SchemaBuild.build (SchemaBuild.Builder.new false false) [M.doc]).errors = [] ∧
  SchemaNames.emptyTypeDiags (SchemaBuild.build (SchemaBuild.Builder.new false false) [M.doc]).types = [] ∧
  SchemaNames.reservedDiags M.introduced = [] ∧
  (∀ p ∈ M.argValues, ValueCheck.check M.valueSchema [] p.1 p.2 = [])

def InvH (M : MSchemaH) : Prop :=
  InvG M.toMSchemaG ∧
  -- type and directive names are unique, every extension extended a type of its kind, members are unique
  SchemaBuild.BuildSpec M.doc ∧
  -- every object, interface, union, enum and input object type has a member
  SchemaBuild.NonEmptyNames M.doc ∧
  -- the entry of every type lists the members of its definition and of all its extensions
  (∀ n t, SchemaBuild.findType (SchemaBuild.build (SchemaBuild.Builder.new false false) [M.doc]).types n = some t →
    ∀ m, SchemaBuild.hasName t.body.members m = true ↔ m ∈ SchemaBuild.memberNames M.doc n) ∧
  -- no name outside the introspection system starts with two underscores
  SchemaNames.Spec.NoReservedNames M.introduced ∧
  -- the constant given to every directive argument is a value of the argument's type
  (∀ p ∈ M.argValues, ValueCheck.Spec.Coerces M.valueSchema p.1 p.2)

/-- `valid_implies_invariants_full2` extended with the build rules (`C14.schema_build_iff_spec`),
    non-emptiness (`C14.nonempty_rule_iff_spec`), the merged member lists (`C14.built_type_has_all_members`), reserved names (`C14.reserved_rule_iff_spec`) and argument values
    (`C14.value_rule_iff_spec`). -/
theorem valid_implies_invariants_full3 (limit : Nat) (M : MSchemaH) (h : AcceptsH limit M) : InvH M := by
  obtain ⟨hG, hbuild, hempty, hres, hvals⟩ := h
  have he : (SchemaBuild.addDocument (SchemaBuild.Builder.new false false) M.doc).errors = [] := by
    have h1 : (SchemaBuild.build (SchemaBuild.Builder.new false false) [M.doc]).errors =
      SchemaBuild.sortBy SchemaBuild.Err.lt
        (SchemaBuild.finishRaw (SchemaBuild.addDocument (SchemaBuild.Builder.new false false) M.doc)).errors := rfl
    rw [h1, SchemaBuild.sortBy_nil_iff] at hbuild
    exact Classical.byContradiction fun hne =>
      (SchemaBuild.finishRaw_mono _ (SchemaBuild.addDocument_adopt M.doc (SchemaBuild.Builder.new false false))).ne_nil hne hbuild
  have hadopt := ((SchemaBuild.scan_spec M.doc M.docWellFormed).2 he).adopt
  have htypes : (SchemaBuild.build (SchemaBuild.Builder.new false false) [M.doc]).types =
      (SchemaBuild.addDocument (SchemaBuild.Builder.new false false) M.doc).types :=
    SchemaBuild.finishRaw_types _ hadopt
  refine ⟨valid_implies_invariants_full2 limit M.toMSchemaG hG,
    (C14.schema_build_iff_spec M.doc M.docWellFormed).mp hbuild,
    (C14.nonempty_rule_iff_spec M.doc M.docWellFormed hbuild).mp hempty, ?_,
    (C14.reserved_rule_iff_spec M.introduced).mp hres, ?_⟩
  · intro n t hf
    rw [htypes] at hf
    exact (C14.built_type_has_all_members M.doc M.docWellFormed he n t hf).1
  · intro p hp
    exact (C14.value_rule_iff_spec M.valueSchema M.valueSchemaClosed p.1 (M.argTypesDefined p hp) p.2).mp (hvals p hp)


/-! ### the hypotheses of the built-in scalar clause as consequences of the build -/

/-- The built-in scalar clause on the type map of an error-free build (any `refs`: the named types each
    definition refers to): after the bookkeeping of `validate_schema` the map contains exactly the
    referenced built-in scalars.  The hypotheses of `validated_scalars_exact` ("unique names", "a type named like
    a built-in scalar is the built-in definition") come from `C14.schema_build_iff_spec`
    (`SchemaBuild.build_guarantees_scalar_hypotheses`). -/
theorem validated_scalars_exact_of_build (ds : List SchemaBuild.Def) (hwf : SchemaBuild.WellFormed ds)
    (hb : (SchemaBuild.build (SchemaBuild.Builder.new false false) [ds]).errors = [])
    (refs : SchemaBuild.Name → List SchemaBuild.Name) (dirRefs : List SchemaBuild.Name)
    (order : List Scalars.Name → List Scalars.Name) (ho : Scalars.IsOrder order) :
    scalarsInv (Scalars.bookkeeping order
      (SchemaBuild.scalarsView refs dirRefs (SchemaBuild.build (SchemaBuild.Builder.new false false) [ds]).types)) = true :=
  let h := SchemaBuild.build_guarantees_scalar_hypotheses ds hwf hb refs dirRefs
  validated_scalars_exact order ho _ h.1 h.2

def InvI (M : MSchemaH) : Prop :=
  InvH M ∧
  -- no enum value and no directive (nor directive argument) of the document has a reserved name
  (∀ t ∈ M.introduced.types, ∀ vs, t.members = .values vs → ∀ v ∈ vs, v.builtIn = false → ¬ SchemaNames.Spec.Reserved v.chars) ∧
  (∀ d ∈ M.introduced.directives, (d.name.builtIn = false → ¬ SchemaNames.Spec.Reserved d.name.chars) ∧
    ∀ a ∈ d.args, a.builtIn = false → ¬ SchemaNames.Spec.Reserved a.chars) ∧
  -- the type map: names pairwise different; an entry named like a built-in type is the built-in definition
  ((SchemaBuild.build (SchemaBuild.Builder.new false false) [M.doc]).types.map (·.name)).Nodup ∧
  (∀ t ∈ (SchemaBuild.build (SchemaBuild.Builder.new false false) [M.doc]).types,
    t.name ∈ SchemaBuild.builtinTypeNames → t.builtin = true) ∧
  -- no definition of the document takes the name of a built-in type
  (∀ d ∈ M.doc, d.defKind.isSome = true → d.name ∉ SchemaBuild.builtinTypeNames) ∧
  -- after validation the map contains exactly the referenced built-in scalars, whatever the references are
  (∀ refs dirRefs order, Scalars.IsOrder order →
    scalarsInv (Scalars.bookkeeping order
      (SchemaBuild.scalarsView refs dirRefs (SchemaBuild.build (SchemaBuild.Builder.new false false) [M.doc]).types)) = true)

/-- `valid_implies_invariants_full3` extended with: reserved names of enum values and of directives /
    directive arguments (from `C14.reserved_rule_iff_spec`), and the build facts the "exactly the referenced
    built-in scalars" clause depends on (from `C14.schema_build_iff_spec`), with that clause itself. -/
theorem valid_implies_invariants_full4 (limit : Nat) (M : MSchemaH) (h : AcceptsH limit M) : InvI M := by
  have h3 := valid_implies_invariants_full3 limit M h
  have hbuild := h.2.1
  have hspec := h3.2.1
  have hres := h3.2.2.2.2.1
  have hfacts := SchemaBuild.built_types_facts M.doc M.docWellFormed hbuild
  refine ⟨h3, ?_, ?_, hfacts.1, hfacts.2, ?_, ?_⟩
  · intro t ht vs hm v hv hb
    exact hres .enumValue v (.enumValue t vs v ht hm hv) hb
  · intro d hd
    exact ⟨fun hb => hres .directive d.name (.directive d hd) hb,
      fun a ha hb => hres .argument a (.directiveArg d a hd ha) hb⟩
  · intro d hd hk hmem
    have := hspec.uniqueTypes
    rw [List.nodup_append] at this
    refine this.2.2 _ hmem _ ?_ rfl
    unfold SchemaBuild.typeDefNames
    exact List.mem_map.mpr ⟨d, List.mem_filter.mpr ⟨hd, hk⟩, rfl⟩
  · intro refs dirRefs order ho
    exact validated_scalars_exact_of_build M.doc M.docWellFormed hbuild refs dirRefs order ho

-- Non-vacuity
example : Accepts 32 ⟨[[⟨true, 1⟩], [⟨false, 0⟩]], [⟨true, []⟩, ⟨true, [0]⟩, ⟨false, [1, 0]⟩],
    some (.object 2), none, none⟩ := by
  refine ⟨by decide, ?_, by decide⟩
  intro a t ht
  match a, ht with
  | 0, ht => cases ht; decide
  | 1, ht => cases ht; decide
  | 2, ht => cases ht; decide
  | n + 3, ht => simp at ht
example : rootsInv (some (.object 0)) (some (.object 0)) none = false := by decide
example : transInv [⟨true, []⟩, ⟨true, [0]⟩, ⟨false, [1]⟩] = false := by decide
example : inputInv [[⟨true, 1⟩], [⟨true, 0⟩]] = false := by decide
example : argDiags [⟨"a", "Int", false⟩] [⟨"a", "Int!", true⟩, ⟨"b", "Int!", true⟩]
    = [.typeMismatch "a", .extraRequired "b"] := by decide
example : scalarsInv (Scalars.bookkeeping id Apollo.C16.demo) = true := by decide

end Apollo.C15
