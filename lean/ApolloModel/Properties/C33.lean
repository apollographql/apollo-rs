import ApolloModel.Proofs.SmithResponse5
/-
C33 — generated responses match the operation's shape.

Model: `Model/SmithResponse.lean` (apollo-smith `ResponseBuilder`: concrete_type, collect_fields,
selection_set, generate_field_value, list_layers, leaf_field, should_be_null, default scalar
generators; the randomness source is an arbitrary script of answers).  The theorems on generated
values hold for EVERY schema, fragment table, configuration (list bounds, null ratio), selection set,
script and fuel; those that compare `collect_fields` with the specification's CollectFields assume
unique type names, an object concrete type and an acyclic fragment table.
-/
namespace Apollo.C33
open Apollo Apollo.Smith

/-- **Response keys and values of every generated object.**  If `selection_set` returns a value, it is an
    object whose keys are exactly the response keys of `collect_fields` for the concrete type that was
    drawn, in that order, and each key holds: the concrete type's name for `__typename`; `null` only for a
    field whose type is nullable; otherwise a value with one list per list layer of the field type, no null
    inside, and innermost values that are objects (composite fields) or leaves of the named type (enum
    values that the schema defines; Int/Float/Boolean/String/ID of the right JSON kind). -/
theorem response_object (s : Schema) (frags : Fragments) (cfg : Cfg) (f : Nat) (ty : Name) (sels : Sels)
    (script : List Nat) (j : Json) (r : List Nat) (h : selectionSet s frags cfg f ty sels script = .ok j r) :
    ∃ concrete script' grouped fields,
      concreteType s ty script = .ok concrete script'
      ∧ collectFields s frags concrete f sels = some grouped
      ∧ j = .obj fields
      ∧ fields.keys = grouped.keys
      ∧ entriesOk (fun mf v => (mf.name = "__typename" ∧ v = .str concrete) ∨ (v = .null ∧ mf.ty.isNonNull = false)
          ∨ shape s (!mf.sub.isEmpty) mf.ty v) grouped fields.toList :=
  selectionSet_spec s frags cfg f ty sels script j r h

/-- **Lists nest exactly as the field type does, and nothing below the top of a field is null.** -/
theorem field_value_shape (s : Schema) (frags : Fragments) (cfg : Cfg) (f : Nat) (mf : FieldInfo)
    (fields : List FieldInfo) (script : List Nat) (j : Json) (r : List Nat)
    (h : fieldValue s frags cfg f mf fields mf.ty script = .ok j r) : shape s (!mf.sub.isEmpty) mf.ty j :=
  fieldValue_shape s frags cfg f mf fields mf.ty script j r h

/-- a well-shaped value is not `null` -/
theorem shape_not_null (s : Schema) (c : Bool) : ∀ ty : Ty, ¬ shape s c ty .null
  | .named n => by cases c <;> simp [shape, isObj, leafOk]
  | .nonNullNamed n => by cases c <;> simp [shape, isObj, leafOk]
  | .list _ => by simp [shape]
  | .nonNullList _ => by simp [shape]

/-- **Non-null positions are never null**: a `null` is written only under a nullable field type. -/
theorem null_only_when_nullable (s : Schema) (frags : Fragments) (cfg : Cfg) (f : Nat) (concrete : Name)
    (mf : FieldInfo) (fields : List FieldInfo) (script : List Nat) (r : List Nat)
    (h : groupValue s frags cfg f concrete mf fields script = .ok .null r) : mf.ty.isNonNull = false := by
  rcases groupValue_spec s frags cfg f concrete mf fields script .null r h with ⟨_, h2⟩ | ⟨_, h2⟩ | h2
  · cases h2
  · exact h2
  · exact absurd h2 (shape_not_null s _ mf.ty)

/-- **`__typename` is a possible type**: the concrete type drawn for a selection set on a union is one of its
    members, on an interface one of the object types implementing it, otherwise the type itself.  (An interface
    without implementers — excluded by the property's precondition — yields the interface's own name.) -/
theorem concrete_type_is_possible (s : Schema) (ty : Name) (script : List Nat) (c : Name) (r : List Nat)
    (h : concreteType s ty script = .ok c r) :
    c ∈ possibleTypes s ty ∨ (s.get? ty = some .interface ∧ implementers s ty = [] ∧ c = ty) :=
  concreteType_possible s ty script c r h

/-- a generated list has exactly the drawn number of items -/
theorem list_length_is_drawn (s : Schema) (frags : Fragments) (cfg : Cfg) (f : Nat) (mf : FieldInfo)
    (fields : List FieldInfo) (inner : Ty) (n : Nat) (script : List Nat) (items : Jsons) (r : List Nat)
    (h : listItems s frags cfg f mf fields inner n script = .ok items r) : items.length = n :=
  listItems_length s frags cfg f mf fields inner n script items r h

/-- the response keys of a selection set are pairwise distinct (fields sharing a response key are merged) -/
theorem response_keys_distinct (s : Schema) (frags : Fragments) (concrete : Name) (f : Nat) (sels : Sels) (g : Grouped)
    (h : collectFields s frags concrete f sels = some g) : g.keys.Nodup :=
  collectFields_nodup s frags concrete f sels g h

/-- non-vacuity: a nested-list field `c: [[Int!]]` with script `[2, 1, 7, 0]` (outer length 2, first inner
    length 1 → 7, second inner length 0) gives `{"c":[[7],[]]}` — a list of lists -/
example :
    (match buildData [("Query", .object []), ("Int", .scalar)] [] { minList := 0, maxList := 5, nullRatio := none } 50
        "Query" (.cons (.field none "c" (.list (.list (.nonNullNamed "Int"))) "Int" .nil) .nil) [2, 1, 7, 0] with
      | .ok j _ => j.render
      | _ => "?") = "{\"c\":[[7],[]]}" := by decide +kernel

/-! ### `collect_fields` against the specification's CollectFields (§6.3.2)

`specCollectFields` (Proofs/SmithResponse3.lean) transcribes the algorithm: ordered groups, visited-fragments
set (each named fragment at most once), DoesFragmentTypeApply through the possible types.  The builder's
`collect_fields` has no visited set: it expands a fragment again at every spread. -/

/-- **DoesFragmentTypeApply.**  For an object type `concrete` of a schema with unique type names,
    `type_condition_matches(cond, concrete)` holds exactly when `concrete` is a possible type of `cond`
    (the type itself; an object listing the interface — validity (C15) makes every implementer list the
    interface directly; a member of the union). -/
theorem type_condition_matches_spec (s : Schema) (hnd : (s.map (·.1)).Nodup) (cond concrete : Name)
    (impls : List Name) (hc : s.get? concrete = some (.object impls)) :
    typeConditionMatches s cond concrete = decide (concrete ∈ possibleTypes s cond) := by
  rw [typeConditionMatches_eq_apply s hnd cond concrete impls hc]
  unfold doesFragmentTypeApply
  cases h : (possibleTypes s cond).contains concrete <;> simp_all

/-- **Same response keys, same order; per key the same fields up to repeats.**  For a fragment table whose
    spread graph is acyclic (a rank decreasing from a fragment to the fragments spread in its body — valid
    documents have one), whenever both terminate: the builder's grouped field set and the specification's
    have the same response keys in the same order, and for every key the specification's field list is the
    builder's list with some entries removed, each of which already occurs earlier in that list
    (`Redundant`): the builder collects a fragment's fields again each time the fragment is spread. -/
theorem collect_keys_eq_spec (s : Schema) (hnd : (s.map (·.1)).Nodup) (frags : Fragments) (rank : Name → Nat)
    (hac : Acyclic frags rank) (concrete : Name) (impls : List Name) (hc : s.get? concrete = some (.object impls))
    (sels : Sels) (fm fs : Nat) (g gs : Grouped) (v : List Name)
    (hm : collectFields s frags concrete fm sels = some g)
    (hs : specCollectFields s frags concrete fs [] [] sels = some (gs, v)) :
    g.keys = gs.keys ∧ ∀ k, Redundant [] (g.get k) (gs.get k) :=
  collect_vs_spec s hnd frags rank hac concrete impls hc sels fm fs g gs v hm hs

/-- …in particular, per key, both collect exactly the same set of fields. -/
theorem collect_same_fields (s : Schema) (hnd : (s.map (·.1)).Nodup) (frags : Fragments) (rank : Name → Nat)
    (hac : Acyclic frags rank) (concrete : Name) (impls : List Name) (hc : s.get? concrete = some (.object impls))
    (sels : Sels) (fm fs : Nat) (g gs : Grouped) (v : List Name)
    (hm : collectFields s frags concrete fm sels = some g)
    (hs : specCollectFields s frags concrete fs [] [] sels = some (gs, v)) (k : String) (x : FieldInfo) :
    x ∈ g.get k ↔ x ∈ gs.get k := by
  have h := (collect_vs_spec s hnd frags rank hac concrete impls hc sels fm fs g gs v hm hs).2 k
  constructor
  · intro hx
    rcases h.mem_iff.2 x hx with e | e
    · cases e
    · exact e
  · exact h.mem_iff.1 x

/-- The repeats really occur: `{ ...F ...F }` with `fragment F on Q { a }` — the builder keeps two copies of
    `a` under the key `a`, the specification one (kernel-evaluated). -/
theorem collect_duplicates_occur :
    let s : Schema := [("Q", .object []), ("Int", .scalar)]
    let frags : Fragments := [("F", "Q", .cons (.field none "a" (.named "Int") "Int" .nil) .nil)]
    let sels : Sels := .cons (.spread "F") (.cons (.spread "F") .nil)
    (collectFields s frags "Q" 10 sels).map (fun g => g.map fun e => (e.1, e.2.length)) = some [("a", 2)] ∧
    (specCollectFields s frags "Q" 10 [] [] sels).map (fun r => (r.1.map fun e => (e.1, e.2.length), r.2)) =
      some ([("a", 1)], ["F"]) := by
  decide +kernel

/-- **Fuel.**  For an acyclic fragment table `collect_fields` never runs out of fuel once the fuel is at least
    `collectFuel` = (cells of the selection set at this level) + (largest rank spread + 1) × (largest fragment
    body): the model's `none` is not reachable for valid documents. -/
theorem collect_fuel_sufficient (s : Schema) (frags : Fragments) (concrete : Name) (rank : Name → Nat)
    (hac : Acyclic frags rank) (sels : Sels) (f : Nat) (hf : collectFuel frags rank sels ≤ f) :
    ∃ g, collectFields s frags concrete f sels = some g :=
  collectFields_total s frags concrete rank hac sels f hf

/-- **`response_object`, in terms of the specification.**  The object generated for a selection set has
    exactly the response keys of the specification's CollectFields for the concrete type that was drawn, in
    that order (for an object concrete type, unique type names, an acyclic fragment table). -/
theorem response_object_spec_keys (s : Schema) (hnd : (s.map (·.1)).Nodup) (frags : Fragments) (rank : Name → Nat)
    (hac : Acyclic frags rank) (cfg : Cfg) (f : Nat) (ty : Name) (sels : Sels)
    (script : List Nat) (j : Json) (r : List Nat) (h : selectionSet s frags cfg f ty sels script = .ok j r) :
    ∃ concrete script' fields,
      concreteType s ty script = .ok concrete script' ∧ j = .obj fields ∧
      ∀ impls fs gs v, s.get? concrete = some (.object impls) →
        specCollectFields s frags concrete fs [] [] sels = some (gs, v) → fields.keys = gs.keys := by
  obtain ⟨concrete, script', grouped, fields, h1, h2, h3, h4, _⟩ := response_object s frags cfg f ty sels script j r h
  refine ⟨concrete, script', fields, h1, h3, ?_⟩
  intro impls fs gs v hc hs
  rw [h4]
  exact (collect_vs_spec s hnd frags rank hac concrete impls hc sels f fs grouped gs v h2 hs).1

end Apollo.C33
