import ApolloModel.Proofs.Coordinate
/-
C23 — Schema coordinates parse, print and resolve correctly.
Model: Model/Coordinate.lean (hand-written mirror of coordinate.rs; tied by the correspondence
streams `coord`, exhaustive over short strings, and `lookup`).
All theorems quantify over all strings / all coordinates / all schemas.
Helper lemmas live in Proofs/Coordinate.lean.
-/
namespace Apollo.C23
open Apollo Apollo.Coord


theorem p_dot : isNameContinue '.' = false := by decide
theorem p_lpar : isNameContinue '(' = false := by decide
theorem p_colon : isNameContinue ':' = false := by decide
theorem p_at : isNameStart '@' = false := by decide

theorem head_ne_at {n : Str} (h : isValidName n = true) (rest : Str) :
    ((n ++ rest).head? == some '@') = false := by
  obtain ⟨x, xs, rfl, hx⟩ := valid_head h
  have hne : x ≠ '@' := by rintro rfl; simp [p_at] at hx
  simpa using hne

theorem coord_print_parse (c : Coord) (h : c.valid = true) : parse (print c) = some c := by
  cases c with
  | type t =>
    simp only [Coord.valid] at h
    have h0 := head_ne_at h []
    simp only [List.append_nil] at h0
    have h1 := splitOnce_none '(' t (valid_not_mem h _ p_lpar)
    have h2 := splitOnce_none '.' t (valid_not_mem h _ p_dot)
    simp only [print, parse, h0, Bool.false_eq_true, if_false]
    simp [parseFieldArgument, parseTypeAttribute, parseType, h1, h2, nameOk_valid h]
  | typeAttribute t a =>
    simp only [Coord.valid, Bool.and_eq_true] at h
    have h0 := head_ne_at h.1 ('.' :: a)
    have h1 : splitOnce '(' (t ++ '.' :: a) = none := by
      apply splitOnce_none
      simp only [List.mem_append, List.mem_cons, not_or]
      exact ⟨valid_not_mem h.1 _ p_lpar, by decide, valid_not_mem h.2 _ p_lpar⟩
    have h2 := splitOnce_append '.' t a (valid_not_mem h.1 _ p_dot)
    simp only [print, parse, h0, Bool.false_eq_true, if_false]
    simp [parseFieldArgument, parseTypeAttribute, h1, h2, nameOk_valid h.1, nameOk_valid h.2]
  | fieldArgument t f a =>
    simp only [Coord.valid, Bool.and_eq_true] at h
    obtain ⟨⟨ht, hf⟩, ha⟩ := h
    have h0 := head_ne_at ht ('.' :: (f ++ '(' :: (a ++ [':', ')'])))
    have h1 : splitOnce '(' ((t ++ '.' :: f) ++ '(' :: (a ++ [':', ')'])) = some (t ++ '.' :: f, a ++ [':', ')']) := by
      apply splitOnce_append
      simp only [List.mem_append, List.mem_cons, not_or]
      exact ⟨valid_not_mem ht _ p_lpar, by decide, valid_not_mem hf _ p_lpar⟩
    have h2 := splitOnce_append '.' t f (valid_not_mem ht _ p_dot)
    have h3 := splitOnce_append ':' a [')'] (valid_not_mem ha _ p_colon)
    simp only [List.append_assoc, List.cons_append] at h1
    have e : print (.fieldArgument t f a) = t ++ '.' :: (f ++ '(' :: (a ++ [':', ')'])) := by simp [print]
    rw [e]
    simp only [parse, h0, Bool.false_eq_true, if_false]
    simp [parseFieldArgument, parseTypeAttribute, h1, h2, h3, nameOk_valid ht, nameOk_valid hf, nameOk_valid ha]
  | directive d =>
    simp only [Coord.valid] at h
    have h1 : splitOnce '(' ('@' :: d) = none := by
      apply splitOnce_none
      simp only [List.mem_cons, not_or]
      exact ⟨by decide, valid_not_mem h _ p_lpar⟩
    simp [print, parse, parseDirectiveArgument, parseDirective, h1, nameOk_valid h]
  | directiveArgument d a =>
    simp only [Coord.valid, Bool.and_eq_true] at h
    have h1 : splitOnce '(' (('@' :: d) ++ '(' :: (a ++ [':', ')'])) = some ('@' :: d, a ++ [':', ')']) := by
      apply splitOnce_append
      simp only [List.mem_cons, not_or]
      exact ⟨by decide, valid_not_mem h.1 _ p_lpar⟩
    have h3 := splitOnce_append ':' a [')'] (valid_not_mem h.2 _ p_colon)
    simp only [List.append_assoc, List.cons_append] at h1
    simp [print, parse, parseDirectiveArgument, parseDirective, h1, h3, nameOk_valid h.1, nameOk_valid h.2]
theorem coord_parse_print (s : Str) (c : Coord) (h : parse s = some c) : print c = s ∧ c.valid = true := by
  unfold parse at h
  split at h
  · cases h1 : parseDirectiveArgument s with
    | some c1 =>
      simp only [h1, Option.some.injEq] at h; subst h
      exact parseDirectiveArgument_spec h1
    | none =>
      simp only [h1] at h
      cases h2 : parseDirective s with
      | none => simp [h2] at h
      | some d =>
        simp only [h2, Option.map_some, Option.some.injEq] at h; subst h
        obtain ⟨e, v⟩ := parseDirective_spec h2
        exact ⟨by simp [print, e], by simpa [Coord.valid] using v⟩
  · cases h1 : parseFieldArgument s with
    | some c1 =>
      simp only [h1, Option.some.injEq] at h; subst h
      exact parseFieldArgument_spec h1
    | none =>
      simp only [h1] at h
      cases h2 : parseTypeAttribute s with
      | some q =>
        obtain ⟨t, a⟩ := q
        simp only [h2, Option.some.injEq] at h; subst h
        obtain ⟨e, vt, va⟩ := parseTypeAttribute_spec h2
        exact ⟨by simp [print, e], by simp [Coord.valid, vt, va]⟩
      | none =>
        simp only [h2] at h
        unfold parseType at h
        cases h3 : nameOk s with
        | none => simp [h3] at h
        | some t =>
          simp only [h3, Option.map_some, Option.some.injEq] at h; subst h
          obtain ⟨v, rfl⟩ := nameOk_eq_some.mp h3
          exact ⟨rfl, by simpa [Coord.valid] using v⟩

/-- A string parses as a coordinate iff it is one of the five forms over valid Names. -/
theorem coord_parse_iff (s : Str) :
    (parse s).isSome = true ↔ ∃ c : Coord, c.valid = true ∧ s = print c := by
  constructor
  · intro h
    obtain ⟨c, hc⟩ := Option.isSome_iff_exists.mp h
    obtain ⟨e, v⟩ := coord_parse_print s c hc
    exact ⟨c, v, e.symm⟩
  · rintro ⟨c, v, rfl⟩
    simp [coord_print_parse c v]

/-- Two accepted strings with the same coordinate are the same string. -/
theorem coord_parse_inj (s₁ s₂ : Str) (c : Coord) (h₁ : parse s₁ = some c) (h₂ : parse s₂ = some c) : s₁ = s₂ :=
  (coord_parse_print s₁ c h₁).1.symm.trans (coord_parse_print s₂ c h₂).1
/-- A successful lookup returns the element with exactly the coordinate's names. -/
theorem lookup_ok_names (s : Schema) (c : Coord) (f : Found) (h : lookup s c = .ok f) :
    match c with
    | .type t => f = .type t
    | .typeAttribute t a => f = .field t a ∨ f = .inputField t a ∨ f = .enumValue t a
    | .fieldArgument t fl a => f = .fieldArgument t fl a
    | .directive d => f = .directive d
    | .directiveArgument d a => f = .directiveArgument d a := by
  cases c with
  | type t =>
    unfold lookup at h; cases ht : s.types.lookup t <;> simp [ht] at h; exact h.symm
  | typeAttribute t a =>
    unfold lookup at h
    cases hl : lookupAttr s t a with
    | error e => simp [hl, Except.map] at h
    | ok p =>
      obtain ⟨f', o⟩ := p
      simp [hl, Except.map] at h
      subst h
      exact lookupAttr_ok hl
  | fieldArgument t fld a =>
    unfold lookup at h
    cases hl : lookupAttr s t fld with
    | error e => simp [hl] at h
    | ok p =>
      obtain ⟨fd, o⟩ := p
      cases o with
      | none => simp [hl] at h
      | some d =>
        simp only [hl] at h
        split at h <;> simp at h
        exact h.symm
  | directive d =>
    unfold lookup at h; cases hd : s.directives.lookup d <;> simp [hd] at h; exact h.symm
  | directiveArgument d a =>
    unfold lookup at h
    cases hd : s.directives.lookup d with
    | none => simp [hd] at h
    | some args =>
      simp only [hd] at h
      split at h <;> simp at h
      exact h.symm

theorem lookup_type_iff (s : Schema) (t : Str) :
    lookup s (.type t) = .ok (.type t) ↔ (s.types.lookup t).isSome = true := by
  unfold lookup; cases ht : s.types.lookup t <;> simp [ht]

theorem lookup_directive_iff (s : Schema) (d : Str) :
    lookup s (.directive d) = .ok (.directive d) ↔ (s.directives.lookup d).isSome = true := by
  unfold lookup; cases hd : s.directives.lookup d <;> simp [hd]

theorem lookup_directiveArgument_iff (s : Schema) (d a : Str) :
    lookup s (.directiveArgument d a) = .ok (.directiveArgument d a) ↔
      ∃ args, s.directives.lookup d = some args ∧ a ∈ args := by
  unfold lookup
  cases hd : s.directives.lookup d with
  | none => simp [hd]
  | some args => by_cases hm : a ∈ args <;> simp [hd, hm]

/-- A field-argument lookup succeeds exactly when the type is an object or interface that has that
    field with that argument; otherwise it is an error. -/
theorem lookup_fieldArgument_iff (s : Schema) (t f a : Str) :
    (lookup s (.fieldArgument t f a) = .ok (.fieldArgument t f a)) ↔
      ∃ fs fd, (s.types.lookup t = some (.object fs) ∨ s.types.lookup t = some (.interface fs)) ∧
        fs.find? (·.name == f) = some fd ∧ a ∈ fd.args := by
  unfold lookup lookupAttr
  cases ht : s.types.lookup t with
  | none => simp [ht]
  | some td =>
    cases td with
    | scalar => simp [ht]
    | union => simp [ht]
    | enum vs => by_cases hm : f ∈ vs <;> simp [ht, hm]
    | inputObject fs => by_cases hm : f ∈ fs <;> simp [ht, hm]
    | object fs =>
      cases hf : fs.find? (·.name == f) with
      | none => simp [ht, hf]
      | some fd => by_cases hm : a ∈ fd.args <;> simp [ht, hf, hm]
    | interface fs =>
      cases hf : fs.find? (·.name == f) with
      | none => simp [ht, hf]
      | some fd => by_cases hm : a ∈ fd.args <;> simp [ht, hf, hm]

/-- An attribute lookup finds a field / input field / enum value exactly when the type has it. -/
theorem lookup_typeAttribute_iff (s : Schema) (t a : Str) :
    (∃ f, lookup s (.typeAttribute t a) = .ok f) ↔
      (∃ fs, (s.types.lookup t = some (.object fs) ∨ s.types.lookup t = some (.interface fs)) ∧
          ∃ fd, fs.find? (·.name == a) = some fd) ∨
      (∃ vs, s.types.lookup t = some (.enum vs) ∧ a ∈ vs) ∨
      (∃ fs, s.types.lookup t = some (.inputObject fs) ∧ a ∈ fs) := by
  unfold lookup lookupAttr
  cases ht : s.types.lookup t with
  | none => simp [ht, Except.map]
  | some td =>
    cases td with
    | scalar => simp [ht, Except.map]
    | union => simp [ht, Except.map]
    | enum vs => by_cases hm : a ∈ vs <;> simp [ht, hm, Except.map]
    | inputObject fs => by_cases hm : a ∈ fs <;> simp [ht, hm, Except.map]
    | object fs => cases hf : fs.find? (·.name == a) <;> simp [ht, hf, Except.map]
    | interface fs => cases hf : fs.find? (·.name == a) <;> simp [ht, hf, Except.map]

-- Non-vacuity
example : parse "Type.field(arg:)".toList = some (.fieldArgument "Type".toList "field".toList "arg".toList) := by decide
example : parse "@d(a:)".toList = some (.directiveArgument "d".toList "a".toList) := by decide
example : parse "Type.field(arg:) ".toList = none := by decide
example : parse "Type..f".toList = none := by decide

end Apollo.C23
