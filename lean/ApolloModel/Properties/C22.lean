import ApolloModel.Model.Determinism
import ApolloModel.Proofs.StableSort
import ApolloModel.Generated.HashSites
/-
C22 — Outputs are deterministic across processes.

Per-process hash seeds can only show through *iteration* over a `HashMap`/`HashSet` (lookups, inserts
and removals do not depend on the seed; `IndexMap`/`IndexSet` iterate in insertion order). The translator
lists every such iteration site of apollo-compiler and apollo-smith on every run
(`Generated/HashSites.lean`); `all_sites_audited` checks that list against the sites accounted for below.
-/
namespace Apollo.C22
open Apollo.Guards Apollo.Det Apollo.Generated

/-! ### accounted-for iteration sites -/

/-- `validation/variable.rs :: validate_unused_variables :: for … in unused_vars`: covered by
    `unused_variables_deterministic` below. -/
def siteUnusedVars : Nat := 66264114811652
/-- `schema/validation.rs :: validate_schema :: for name in builtin_scalars.used_and_undefined`: modelled as
    `finalTypes` (Model/Determinism.lean, correspondence stream `restore`). Unreachable from text: the schema
    builder always defines all five built-in scalars, so `used_and_undefined` is empty and the loop does nothing
    (`builtin_restore_deterministic_from_text`; the premise is an oracle of the harness on every input). Reachable
    only by editing a `Schema` in memory: then the SET of types is still order-independent
    (`builtin_restore_same_types`) but the relative order of two restored scalars is not
    (`builtin_restore_order_dependent_in_memory`). -/
def siteBuiltinScalars : Nat := 52540737318924
-- (`apollo-smith implements_graph.rs :: topo_order_parents_first :: self.by_name.keys()`, code
-- 114203739016255, was a third site: the fallback taken when the `implements` graph has a cycle. It made
-- apollo-smith's output depend on the process; repaired in /repo by fix 0d00bde and therefore not audited.)

def auditedSites : List Nat := [siteUnusedVars, siteBuiltinScalars]

/-- every place where the current sources iterate a hash-ordered collection is one of the audited ones -/
theorem all_sites_audited : hashIterationSites.all (fun s => auditedSites.contains s) = true := by decide

/-! ### the unused-variables loop -/

theorem collectVars_sublist : ∀ vars : List VarDef, (collectVars vars).Sublist vars
  | [] => List.Sublist.slnil
  | v :: rest => by
    unfold collectVars
    split
    · exact List.Sublist.cons _ (collectVars_sublist rest)
    · exact List.Sublist.cons_cons _ (collectVars_sublist rest)

theorem nodup_map_inj {α β : Type} {f : α → β} {l : List α} (inj : ∀ a b, f a = f b → a = b) (h : l.Nodup) :
    (l.map f).Nodup := by
  unfold List.Nodup at *
  rw [List.pairwise_map]
  exact h.imp (fun hne e => hne (inj _ _ e))

theorem nodup_of_map {α β : Type} (f : α → β) {l : List α} (h : (l.map f).Nodup) : l.Nodup := by
  unfold List.Nodup at *
  rw [List.pairwise_map] at h
  exact h.imp (fun hne e => hne (congrArg f e))

/-- Whatever order the hash map yields the unused variables in, the sorted diagnostics are the same, as
    long as distinct variable definitions start at distinct offsets (they are distinct syntax nodes of
    one file) and the earlier diagnostics are pairwise distinct and distinct from the new ones. -/
theorem unused_variables_deterministic (pre : List (Key × Nat)) (file : Nat) (vars : List VarDef)
    (used : Nat → Bool) (o1 o2 : List VarDef → List VarDef)
    (h1 : ∀ l, (o1 l).Perm l) (h2 : ∀ l, (o2 l).Perm l)
    (hoff : (vars.map (·.offset)).Nodup)
    (hpre : pre.Nodup)
    (hdisj : ∀ x ∈ pre, ∀ v ∈ vars, x ≠ (some (file, v.offset), v.name)) :
    validateUnused pre file vars used o1 = validateUnused pre file vars used o2 := by
  unfold validateUnused unusedDiagnostics
  let rem := (collectVars vars).filter (fun v => !used v.name)
  have hsub : rem.Sublist vars := (List.filter_sublist).trans (collectVars_sublist vars)
  let f : VarDef → Key × Nat := fun v => (some (file, v.offset), v.name)
  have hperm : ((o1 rem).map f).Perm ((o2 rem).map f) := ((h1 rem).trans (h2 rem).symm).map f
  -- offsets of the iterated entries are distinct
  have hoff1 : ((o1 rem).map (·.offset)).Nodup :=
    (((h1 rem).map (·.offset)).nodup_iff).mpr ((hsub.map (·.offset)).nodup hoff)
  have hkeys : (((o1 rem).map f).map (·.1)).Nodup := by
    rw [List.map_map]
    have : ((o1 rem).map ((fun (p : Key × Nat) => p.1) ∘ f)) = ((o1 rem).map (·.offset)).map (fun o => (some (file, o) : Key)) := by
      rw [List.map_map]; rfl
    rw [this]
    exact nodup_map_inj (fun a b h => by simpa using h) hoff1
  have hnodup : (pre ++ (o1 rem).map f).Nodup := by
    rw [List.nodup_append]
    refine ⟨hpre, ?_, ?_⟩
    · exact nodup_of_map (fun (p : Key × Nat) => p.1) hkeys
    · intro x hx y hy hxy
      obtain ⟨v, hv, rfl⟩ := List.mem_map.mp hy
      have hvv : v ∈ vars := hsub.subset ((h1 rem).subset hv)
      exact hdisj x hx v hvv hxy
  exact sort_hash_order_independent pre _ _ hperm hnodup hkeys

-- Non-vacuity: three variables, the middle one used; two different iteration orders
#guard validateUnused [(some (1, 0), 99)] 1 [⟨1, 6⟩, ⟨2, 15⟩, ⟨3, 24⟩] (· == 2) id
     == validateUnused [(some (1, 0), 99)] 1 [⟨1, 6⟩, ⟨2, 15⟩, ⟨3, 24⟩] (· == 2) List.reverse
example : ([⟨1, 6⟩, ⟨2, 15⟩, ⟨3, 24⟩] : List VarDef).map (·.offset) = [6, 15, 24] := rfl

/-! ### the built-in scalar site (`siteBuiltinScalars`) -/

theorem recordRefs_undefined (builtins types : List Nat) (hall : ∀ b ∈ builtins, b ∈ types) :
    ∀ (refs : List Nat) (s : Scalars), (recordRefs builtins types refs s).usedUndefined = s.usedUndefined
  | [], _ => rfl
  | r :: rest, s => by
    unfold recordRefs
    by_cases hb : builtins.contains r = true
    · have ht : types.contains r = true := by simpa using hall r (by simpa using hb)
      simp only [hb, ht, if_true]
      exact recordRefs_undefined builtins types hall rest _
    · simp only [hb, Bool.false_eq_true, if_false]
      exact recordRefs_undefined builtins types hall rest s

/-- **Unreachable from text.** When `schema.types` defines every built-in scalar — which the schema builder
    guarantees for every schema built from text (checked by the harness on every input:
    `builtin-scalar-missing-after-build`) — `used_and_undefined` stays empty, the loop over it does nothing, and the
    resulting type map does not depend on the iteration order of the `HashSet`, whatever references validation records. -/
theorem builtin_restore_deterministic_from_text (builtins types refs : List Nat) (o1 o2 : List Nat → List Nat)
    (h1 : ∀ l, (o1 l).Perm l) (h2 : ∀ l, (o2 l).Perm l) (hall : ∀ b ∈ builtins, b ∈ types) :
    finalTypes builtins types refs o1 = finalTypes builtins types refs o2 := by
  unfold finalTypes
  have hu := recordRefs_undefined builtins types hall refs ⟨[], []⟩
  simp only [hu]
  have e1 : o1 [] = [] := List.Perm.eq_nil (h1 [])
  have e2 : o2 [] = [] := List.Perm.eq_nil (h2 [])
  rw [e1, e2]

theorem mem_insertSet (x y : Nat) (l : List Nat) : y ∈ insertSet x l ↔ y ∈ l ∨ y = x := by
  unfold insertSet
  by_cases h : l.contains x = true
  · simp only [h, if_true]
    constructor
    · exact Or.inl
    · rintro (h1 | rfl)
      · exact h1
      · simpa using h
  · have h' : x ∉ l := by simpa using h
    simp [h']

theorem nodup_insertSet (x : Nat) (l : List Nat) (h : l.Nodup) : (insertSet x l).Nodup := by
  unfold insertSet
  by_cases hc : l.contains x = true
  · simp only [hc, if_true]; exact h
  · simp only [hc, Bool.false_eq_true, if_false]
    rw [List.nodup_append]
    refine ⟨h, by simp, ?_⟩
    intro a ha b hb e
    have : b = x := by simpa using hb
    subst this; subst e
    exact hc (by simpa using ha)

theorem mem_restoreAll : ∀ (l types : List Nat) (y : Nat), y ∈ restoreAll types l ↔ y ∈ types ∨ y ∈ l
  | [], types, y => by simp [restoreAll]
  | n :: rest, types, y => by
    rw [restoreAll, mem_restoreAll rest, mem_insertSet]
    simp only [List.mem_cons]
    constructor
    · rintro ((h | h) | h)
      · exact Or.inl h
      · exact Or.inr (Or.inl h)
      · exact Or.inr (Or.inr h)
    · rintro (h | h | h)
      · exact Or.inl (Or.inl h)
      · exact Or.inl (Or.inr h)
      · exact Or.inr h

theorem nodup_restoreAll : ∀ (l types : List Nat), types.Nodup → (restoreAll types l).Nodup
  | [], _, h => h
  | n :: rest, types, h => nodup_restoreAll rest _ (nodup_insertSet n types h)

/-- **In general (a `Schema` edited in memory) only the SET of types is order-independent**: whatever the two
    iteration orders, the resulting type maps have the same keys (they are permutations of each other) … -/
theorem builtin_restore_same_types (builtins types refs : List Nat) (o1 o2 : List Nat → List Nat)
    (h1 : ∀ l, (o1 l).Perm l) (h2 : ∀ l, (o2 l).Perm l) (hn : types.Nodup) :
    (finalTypes builtins types refs o1).Perm (finalTypes builtins types refs o2) := by
  unfold finalTypes
  generalize recordRefs builtins types refs ⟨[], []⟩ = s
  have hp : (pruneUnused builtins types s).Nodup := by
    unfold pruneUnused
    split
    · exact hn
    · exact hn.sublist List.filter_sublist
  refine (List.perm_ext_iff_of_nodup (nodup_restoreAll _ _ hp) (nodup_restoreAll _ _ hp)).mpr ?_
  intro y
  rw [mem_restoreAll, mem_restoreAll, ((h1 s.usedUndefined).trans (h2 s.usedUndefined).symm).mem_iff]

/-- … but their ORDER is not: two built-in scalars (0, 1) that validation pruned earlier and a later edit uses again
    are appended in hash order. (Observed on the implementation too: the harness records
    `inmemory_restore_type_order_differs`.) Outside C22's quantifier, which ranges over input texts. -/
theorem builtin_restore_order_dependent_in_memory :
    finalTypes [0, 1, 2] [9] [0, 1] id ≠ finalTypes [0, 1, 2] [9] [0, 1] List.reverse := by decide

end Apollo.C22
