import ApolloModel.Proofs.SchemaSerialize2
/-
C12 — Schema serialization round-trips and preserves order.

Model: Model/SchemaSerialize.lean (`Schema::to_ast`: definition + one extension per `ExtensionId` in
`extensions()` = first-appearance order over directives ++ interfaces ++ members; built-in definitions
skipped; implicit `schema` detection) on the abstract schema of Model/SchemaBuild.lean, re-built by the
SchemaBuilder model (`XType::from_ast`, `extend_ast`).

Per type (any kind, any number of extensions, any well-formed body):
  `toAst_build_type`          re-building the definitions `to_ast` emits gives, without any diagnostic, the type
                              with every component list regrouped by origin in `extensions()` order (exact)
  `order_preserved_partial`   PARTIAL (guard `Consistent`): then every list is unchanged — same order
  `consistent_iff_order_preserved`  the guard is exact (necessary and sufficient)
  `toAst_build_type_partial`  the two combined: build (toAst t) = t
  `C12_counterexample`, `C12_counterexample_is_built`  without the guard false, on a schema the builder produces
  `extensions_stable`, `toAst_fixpoint`, `regroup_idempotent`  second serialization = first, for every type (full)
Built schemas:
  `built_types_grouped`       every type the builder produces from definitions with distinct positions has its
                              lists grouped by origin along one common order of the extensions
  `order_preserved_of_discovery_follows_application`  sufficient condition on built types
Whole schema:
  `toAst_build_schema`        explicit schema definition + extensions, new directive definitions, all non built-in
                              types in map order: re-built exactly (regrouped), no diagnostics
  `implicit_roots_spec`       implicit schema definition: the regenerated roots are the ones `to_ast` compared with
Tied by correspondence only: extensions of built-in types, redefined built-in directives, the
implicit-schema case as a whole, `finishRaw` after the re-build.
-/
namespace Apollo.C12
open Apollo.SchemaBuild Apollo.SchemaSerialize

/-- Re-building what `to_ast` emits for a type: no diagnostics, and exactly the regrouped type. -/
theorem toAst_build_type (t : TypeEntry) (wf : BodyWF t.body) (p : Pos) (hp : t.pos = some p)
    (hb : t.builtin = false) (errs : List Err) :
    ∃ d es, toAstType t = d :: es ∧ typeFromAst t.kind d es errs = (regroupType t, errs) := by
  refine ⟨_, _, by simp only [toAstType, hb]; rfl, ?_⟩
  unfold typeFromAst typeOfDef
  have hdef := extendBody_def (dupIface t.kind t.name) (dupMember t.kind t.name) t.body wf
    (.typeDef t.kind) t.name (t.pos.getD 0) errs
  have e1 : (defOfBody (.typeDef t.kind) t.name (t.pos.getD 0) none t.body).name = t.name := rfl
  have e2 : (defOfBody (.typeDef t.kind) t.name (t.pos.getD 0) none t.body).pos = p := by simp [defOfBody, hp]
  simp only [e1, e2, hdef]
  have := foldl_adoptStep_exts t.kind t.name t.body wf
    { name := t.name, kind := t.kind, builtin := false, pos := some p, body := t.body }
    (extensionsOf t.body) [] errs (by simpa [extensionsOf] using firstOcc_nodup (extOrigins t.body))
  simp only [List.nil_append] at this
  rw [this]
  obtain ⟨n, k, b, pos, body⟩ := t
  simp only [regroupType, regroupBody, groupedBody] at *
  subst hp hb
  rfl

/-- PARTIAL (guard `Consistent`: the order in which `extensions()` discovers the extensions agrees with an
    order in which every component list is grouped): directives, interfaces and fields / values / members keep
    their order.  Outside the guard: bodies where an extension without directives precedes one with directives
    (etc.), for which the code reorders (`C12_counterexample`); the guard is exact
    (`consistent_iff_order_preserved`). -/
theorem order_preserved_partial (t : TypeEntry) (h : Consistent t.body) : regroupType t = t := by
  unfold regroupType
  rw [regroupBody_of_consistent t.body h]

theorem toAst_build_type_partial (t : TypeEntry) (wf : BodyWF t.body) (p : Pos) (hp : t.pos = some p)
    (hb : t.builtin = false) (h : Consistent t.body) (errs : List Err) :
    ∃ d es, toAstType t = d :: es ∧ typeFromAst t.kind d es errs = (t, errs) := by
  obtain ⟨d, es, h1, h2⟩ := toAst_build_type t wf p hp hb errs
  exact ⟨d, es, h1, by rw [h2, order_preserved_partial t h]⟩

/-- the unguarded statement -/
def order_preserved : Prop :=
  ∀ (t : TypeEntry), BodyWF t.body → regroupType t = t

/-- `type Q { f } extend type Q { a } extend type Q @d { b }` as built: positions 0… / 20… / 40… -/
def cexQ : TypeEntry :=
  { name := "Q", kind := .object, builtin := false, pos := some 0,
    body := ⟨[⟨"d", some 50, some 40, ""⟩], [],
             [⟨"f", some 9, none, ""⟩, ⟨"a", some 29, some 20, ""⟩, ⟨"b", some 55, some 40, ""⟩]⟩ }

theorem cexQ_wf : BodyWF cexQ.body :=
  ⟨by unfold HasPos; decide, by unfold HasPos; decide, by unfold HasPos; decide, by decide, by decide⟩

/-- the code re-serializes the extension with the directive first, so the fields come back as f, b, a -/
theorem C12_counterexample_order :
    (regroupType cexQ).body.members.map (·.name) = ["f", "b", "a"]
    ∧ (toAstType cexQ).map (fun d => (d.directives.map (·.name), d.members.map (·.name)))
        = [([], ["f"]), (["d"], ["b"]), ([], ["a"])] := by
  decide +kernel

theorem C12_counterexample : ¬ order_preserved := by
  intro h
  have := h cexQ cexQ_wf
  revert this
  decide +kernel

/-- Regrouping does not change which components an origin contributes, nor their order: the definitions that a
    second `to_ast` emits for the extensions it finds have the same content. -/
theorem parts_preserved (cs : List Comp) (exts : List Pos) (hnd : exts.Nodup) :
    partOf none (regroup exts cs) = partOf none cs
    ∧ ∀ e ∈ exts, partOf (some e) (regroup exts cs) = partOf (some e) cs := by
  refine ⟨?_, ?_⟩
  · unfold partOf; rw [filter_regroup_none]
  · intro e he; unfold partOf; rw [filter_regroup_some cs exts hnd e he]

/-- `extensions()` of a re-built (regrouped) body is `extensions()` of the body — for EVERY body. -/
theorem extensions_stable (b : Body) : extensionsOf (regroupBody b) = extensionsOf b :=
  extensionsOf_regroupBody b

/-- Second serialization = first serialization, for every type (no hypothesis): serializing the re-built type
    emits the same definition and the same extensions in the same order with the same contents. -/
theorem toAst_fixpoint (t : TypeEntry) : toAstType (regroupType t) = toAstType t := by
  have hext := extensionsOf_regroupBody t.body
  have hnd := firstOcc_nodup (extOrigins t.body)
  have pd := parts_preserved t.body.directives (extensionsOf t.body) hnd
  have pi := parts_preserved t.body.interfaces (extensionsOf t.body) hnd
  have pm := parts_preserved t.body.members (extensionsOf t.body) hnd
  unfold toAstType
  simp only [regroupType, hext]
  have hdef : defOfBody (.typeDef t.kind) t.name (t.pos.getD 0) none (regroupBody t.body)
      = defOfBody (.typeDef t.kind) t.name (t.pos.getD 0) none t.body := by
    simp only [defOfBody, regroupBody, pd.1, pi.1, pm.1]
  have hexts : (extensionsOf t.body).map (fun e => defOfBody (.typeExt t.kind) t.name e (some e) (regroupBody t.body))
      = (extensionsOf t.body).map (fun e => defOfBody (.typeExt t.kind) t.name e (some e) t.body) := by
    apply List.map_congr_left
    intro e he
    simp only [defOfBody, regroupBody, pd.2 e he, pi.2 e he, pm.2 e he]
  rw [hdef, hexts]

/-- … hence one round trip reaches a fixed point of the order as well: re-building twice = re-building once. -/
theorem regroup_idempotent (b : Body) : regroupBody (regroupBody b) = regroupBody b := by
  have hnd := firstOcc_nodup (extOrigins b)
  have key : ∀ cs, regroup (extensionsOf b) (regroup (extensionsOf b) cs) = regroup (extensionsOf b) cs := by
    intro cs
    show (regroup (extensionsOf b) cs).filter (fun c => c.origin == none)
        ++ (extensionsOf b).flatMap (fun e => (regroup (extensionsOf b) cs).filter (fun c => c.origin == some e))
      = cs.filter (fun c => c.origin == none)
        ++ (extensionsOf b).flatMap (fun e => cs.filter (fun c => c.origin == some e))
    rw [filter_regroup_none]
    congr 1
    apply flatMap_congr_mem
    intro e he
    exact filter_regroup_some cs (extensionsOf b) hnd e he
  show (⟨_, _, _⟩ : Body) = _
  simp only [extensionsOf_regroupBody b]
  simp only [regroupBody, key]

/-! ### built schemas: grouped by application order; what the guard means -/

/-- For ANY list of definitions with pairwise distinct positions (any interleaving of definitions, extensions,
    collisions, kind mismatches, duplicates), every type in the builder's state has each component list
    grouped by origin: the definition's components, then one block per extension, the blocks in one
    duplicate-free order `P` of positions of the sources, the same for the three lists.  (In the builder `P` is
    the order in which the extensions were applied, queued ones first in queue order; the statement only says
    that such a `P` exists.) -/
theorem built_types_grouped (adopt ignoreBuiltin : Bool) (srcs : List (List Def))
    (hnd : (srcs.flatten.map (·.pos)).Nodup) :
    ∀ t ∈ (addSources (Builder.new adopt ignoreBuiltin) srcs).types,
      ∃ P : List Pos, P.Nodup ∧ (∀ p ∈ P, p ∈ srcs.flatten.map (·.pos)) ∧ GroupedBody P t.body := by
  rw [addSources_flatten]
  have := addDocument_inv srcs.flatten [] (Builder.new adopt ignoreBuiltin) (inv_new adopt ignoreBuiltin) (by simpa using hnd)
  simpa using this.2

/-- The guard of `order_preserved_partial` is exact: `Consistent` holds iff the round trip keeps every list. -/
theorem consistent_iff_order_preserved (t : TypeEntry) : Consistent t.body ↔ regroupType t = t := by
  rw [consistent_iff_regroup]
  constructor
  · intro h; unfold regroupType; rw [h]
  · intro h
    have := congrArg TypeEntry.body h
    simpa [regroupType] using this

/-- For a built type (lists grouped by the application order `P`): if `extensions()` discovers the
    extensions in application order, the order is preserved.  Read on the source document: the guard can
    only fail when an extension applied LATER is discovered EARLIER, i.e. it adds to an earlier kind of list
    (directives before interfaces before fields/values/members) than every list an earlier extension adds to,
    while the two share a list — e.g. `extend type Q { a }` followed by `extend type Q @d { b }`. -/
theorem order_preserved_of_discovery_follows_application (t : TypeEntry) (P : List Pos) (hnd : P.Nodup)
    (hg : GroupedBody P t.body) (hsub : (extensionsOf t.body).Sublist P) : regroupType t = t :=
  order_preserved_partial t (consistent_of_grouped P t.body hnd hg hsub)

/-- the source document of the counterexample: `type Q { f }`, `extend type Q { a }`, `extend type Q @d { b }` -/
def cexDoc : List Def :=
  [⟨.typeDef .object, "Q", 0, 5, [], [], [⟨"f", 9, 9, ""⟩]⟩,
   ⟨.typeExt .object, "Q", 20, 32, [], [], [⟨"a", 29, 29, ""⟩]⟩,
   ⟨.typeExt .object, "Q", 40, 52, [⟨"d", 50, 50, ""⟩], [], [⟨"b", 55, 55, ""⟩]⟩]

/-- The counterexample is a built schema whose guard fails: the builder produces exactly `cexQ` from the
    document, its lists are grouped by the application order [20, 40], but `extensions()` discovers [40, 20]
    (the later extension carries the directive), which is not consistent with the field list. -/
theorem C12_counterexample_is_built :
    (addDocument (Builder.new false false) cexDoc).types.find? (fun t => t.name == "Q") = some cexQ
    ∧ extensionsOf cexQ.body = [40, 20]
    ∧ ¬ Consistent cexQ.body := by
  refine ⟨by decide +kernel, by decide +kernel, ?_⟩
  rw [consistent_iff_regroup]
  decide +kernel

-- `Consistent` is weaker than "discovered in application order": an extension adding only a member applied
-- before one adding only a directive is discovered later, yet nothing is reordered (they share no list)
example : Consistent (⟨[⟨"d", some 50, some 40, ""⟩], [], [⟨"a", some 29, some 20, ""⟩]⟩ : Body)
    ∧ ¬ (extensionsOf (⟨[⟨"d", some 50, some 40, ""⟩], [], [⟨"a", some 29, some 20, ""⟩]⟩ : Body)).Sublist [20, 40] := by
  refine ⟨(consistent_iff_regroup _).mpr (by decide +kernel), by decide +kernel⟩

/-! ### the whole schema -/

/-- `Schema::to_ast` re-built from a fresh builder, for a schema with an explicit `schema` definition, new
    (not redefining built-in) directive definitions and untouched built-in types: the result has the same
    `schema` definition (directives and root operations regrouped), the directive definitions in the same
    order, the built-in types followed by the same types IN THE SAME ORDER, each regrouped — and no
    diagnostic.  (`B`: the built-in entries of `s.types`, `U`: the others.) -/
theorem toAst_build_schema (adopt ignoreBuiltin : Bool) (s : Builder) (B U : List TypeEntry) (p : Pos)
    (htypes : s.types = B ++ U)
    (hB : ∀ t ∈ B, t.builtin = true ∧ t.body = Body.empty)
    (hU : ∀ t ∈ U, TypeWF t) (hUn : (U.map (·.name)).Nodup)
    (hUb : ∀ t ∈ U, findType builtinTypes t.name = none)
    (hDn : ((s.directiveDefs.filter (fun d => !d.builtin)).map (·.name)).Nodup)
    (hDb : ∀ d ∈ s.directiveDefs.filter (fun d => !d.builtin), findDir builtinDirectives d.name = none)
    (hsd : BodyWF (schemaBody s.schemaDef)) (hp : s.schemaDef.pos = some p)
    (hexpl : implicitSchema s.schemaDef s.types = false) :
    addDocument (Builder.new adopt ignoreBuiltin) (toAst s) =
      { Builder.new adopt ignoreBuiltin with
        schemaDef := ⟨some p, regroupBody (schemaBody s.schemaDef)⟩, schemaFound := true,
        directiveDefs := builtinDirectives
          ++ (s.directiveDefs.filter (fun d => !d.builtin)).map (fun d => ⟨d.name, some (d.pos.getD 0), false⟩),
        types := builtinTypes ++ U.map regroupType } := by
  have hBnil : B.flatMap toAstType = [] := by
    apply List.flatMap_eq_nil_iff.mpr
    intro t ht
    obtain ⟨h1, h2⟩ := hB t ht
    simp [toAstType, h1, h2, extensionsOf, extOrigins, Body.empty, firstOcc]
  unfold toAst
  rw [htypes, List.flatMap_append, hBnil, List.nil_append, ← htypes, addDocument_append, addDocument_append,
    addDocument_toAstSchema _ _ _ p hsd hp hexpl rfl rfl,
    addDocument_dirDefs _ _ hDn (by intro d hd; exact hDb d hd),
    addDocument_toAstTypes U _ hU hUn (by intro t ht; exact hUb t ht) rfl]
  rfl

/-- When `to_ast` omits the `schema` definition it has checked, for each operation type, that the root is the
    default-named object type if there is one and absent otherwise; `add_implicit_root_types` produces exactly
    those roots when the serialized text is built again. -/
theorem implicit_roots_spec (ts : List TypeEntry) (op dflt : Name)
    (h : (op, dflt) ∈ [("query", "Query"), ("mutation", "Mutation"), ("subscription", "Subscription")]) :
    actualRoot (setRoots ⟨none, Body.empty⟩ (implicitRoots ts)) op = (if isObject ts dflt then some dflt else none) := by
  simp only [List.mem_cons, Prod.mk.injEq, List.mem_nil_iff, or_false] at h
  unfold actualRoot setRoots implicitRoots Body.empty
  cases hq : isObject ts "Query" <;> cases hm : isObject ts "Mutation" <;> cases hs : isObject ts "Subscription" <;>
    rcases h with ⟨rfl, rfl⟩ | ⟨rfl, rfl⟩ | ⟨rfl, rfl⟩ <;> simp [hq, hm, hs, List.filter]

-- non-vacuity: a body whose extension order is consistent (directive-carrying extension first)
def okQ : TypeEntry :=
  { name := "Q", kind := .object, builtin := false, pos := some 0,
    body := ⟨[⟨"d", some 30, some 20, ""⟩], [],
             [⟨"f", some 9, none, ""⟩, ⟨"a", some 35, some 20, ""⟩, ⟨"b", some 49, some 40, ""⟩]⟩ }
example : Consistent okQ.body := ⟨[20, 40], by decide, by decide +kernel, by decide, by decide, by decide⟩
example : BodyWF okQ.body := ⟨by unfold HasPos; decide, by unfold HasPos; decide, by unfold HasPos; decide, by decide, by decide⟩

end Apollo.C12
