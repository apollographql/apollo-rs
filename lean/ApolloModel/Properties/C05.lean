import ApolloModel.Proofs.ParserLossless
import ApolloModel.Proofs.ParserType10
import ApolloModel.Proofs.ParserValue9
import ApolloModel.Proofs.ParserSel9
import ApolloModel.Proofs.ParserComplete28
import ApolloModel.Proofs.ParserExactS14
import ApolloModel.Proofs.ParserExactT11
import ApolloModel.Proofs.ParserExactT13
import ApolloModel.Proofs.ParserExactS16
import ApolloModel.Proofs.ParserExactC29
import ApolloModel.Proofs.ParserExactS17
import ApolloModel.Proofs.ParserExactS18
import ApolloModel.Proofs.ParserExactT15
import ApolloModel.Proofs.ParserDef19
import ApolloModel.Proofs.ParserTermination8
import ApolloModel.Proofs.ParserDoc5
/-
C05 — Syntax acceptance matches the GraphQL grammar.

The decision procedure for this property is differential: the parser model of C01 (tied to the
code by correspondence stream P) and, as the reference parser, an independent recogniser of the
October-2021 document grammar (harness/src/gramspec.rs over harness/src/lexspec.rs) evaluated on the
implementation: error-free ⟺ accepted, and equal (kind, name) lists of top-level definitions.
In Lean, on the parser model: soundness and completeness of acceptance production by production
(`Type`, values, arguments, directives, selection sets, executable and type-system definitions), and
for whole documents `document_accept_iff`: zero errors iff the source lexes cleanly and its
significant tokens are a non-empty list of definitions (`DocItem`) within the recursion limit that
satisfies the follow condition `DocFollowX`.  The accepted language is that of C08's token printer
up to an optional leading `&` / `|` and the known finding accepts-root-operation-without-type
(`document_accepted_strict_or_liberty`, `C05_counterexample`); kernel-evaluated witnesses record
the repaired defects and the known finding.
-/
namespace Apollo.C05
open Apollo.Parse Apollo.Rowan

def errorFree (src : Parse.Str) : Bool := (parse .document none 500 src).errors.isEmpty

/-- a parse that returns a tree and threw no token away (`dropped = false`) has the whole input as the
    text of its tree: every token of the document is in the tree (so acceptance is a statement about
    ALL tokens, none are skipped) -/
theorem accepted_document_is_whole_input (rl : Nat) (src : Parse.Str) (root : Elem)
    (h : (parse .document none rl src).outcome = .tree root)
    (hd : (parse .document none rl src).dropped = false) : root.text = src :=
  Parse.lossless_document rl src root h hd

/-- the top-level loop of `document()` only stops at the end of the token stream: it returns
    `Break` on the EOF token and nothing else, so no trailing definition is ever ignored -/
theorem document_loop_stops_only_at_eof (n : Nat) (kind : Lex.Kind) (s s' : PState)
    (h : (documentStep n kind).run s = .ok false s') : kind = .eof :=
  (Parse.documentStep_false n kind s s' h).1

/-- KNOWN FINDING (model-level witness): `schema{query:}` is accepted although
    RootOperationTypeDefinition requires a NamedType after the colon. -/
theorem C05_counterexample : errorFree "schema{query:}".toList = true := by decide +kernel

-- repaired defects (each reports an error)
example : errorFree "schema".toList = false := by decide +kernel
example : errorFree "{a(b)}".toList = false := by decide +kernel
example : errorFree "{a(x:{c:1 d})}".toList = false := by decide +kernel
-- …and a comma between description and keyword is accepted
example : errorFree "\"d\",type A".toList = true := by decide +kernel
example : errorFree "{a ...F ...on T{b}}".toList = true := by decide +kernel

/-- Grammar acceptance for the `Type` production, "accepted ⊆ grammar": what `parse_type` accepts without error is a sentence of
    `Type : NamedType | [Type] | Type!` — its significant tokens are exactly the tokens `tTy t` of a type
    reference `t`, then the end of input. -/
theorem type_accepted_is_in_grammar (rl : Nat) (src : Parse.Str) (herr : (parse .type none rl src).errors = []) :
    ∃ (t : Ast.Ty) (ts : List Tok) (e : Tok),
      sig (srcToks src) = ts ++ [e] ∧ e.kind = .eof ∧ ts.map astOf = (Ast.tTy t).map some :=
  (Parse.parseType_sound' rl src herr).2

/-- "grammar ⊆ accepted" for the same production: every sentence of `Type` (ignored tokens anywhere but in
    front, list nesting within the recursion limit, no lexer error) is accepted without error. -/
theorem type_in_grammar_is_accepted (rl : Nat) (src : Parse.Str) (t : Ast.Ty) (ts : List Tok) (e : Tok)
    (hclean : LexClean src) (hsig : sig (srcToks src) = ts ++ [e]) (he : e.kind = .eof)
    (hty : ts.map astOf = (Ast.tTy t).map some) (hdepth : Parse.tyDepth t ≤ rl)
    (hhead : ∀ hd tl, srcToks src = hd :: tl → isIgnoredKind hd.kind = false) :
    (parse .type none rl src).errors = [] :=
  Parse.parseType_complete_sig rl src t ts e hclean hsig he hty hdepth hhead

section Values

/-- **`value.rs::value`, acceptance is sound** (any fuel, `Const` or not, `pop_on_error` or not, any state
    without token limit): if the run adds no error then the tokens it took from the queue, with ignored
    tokens removed, are exactly the tokens `tValue v` of ONE value `v` of the grammar
    `Value : Variable | IntValue | FloatValue | StringValue | BooleanValue | NullValue | EnumValue |
    ListValue | ObjectValue` (unbounded nesting) — where enum values are names other than `true`, `false`,
    `null`, and under `Const` no variable occurs anywhere in `v` (`valueOk`) — and the rest of the queue is
    untouched; OR the run stopped with the end-of-input token next (`AtEof`): `list_value` leaves its loop at
    EOF without reporting the missing `]` (see `list_value_unclosed_at_eof`), which every caller then reports
    on its own closing token (`)`, `}`, `]`). -/
theorem value_accept_sound (n : Nat) (isConst popOnError : Bool) (s s' : PState) (w : TW s) (he : EofEnd s)
    (h : (value n isConst popOnError).run s = .ok () s') (hnd : ¬ Doomed s') :
    ∃ cs, Toks s = cs ++ Toks s' ∧ NoEof cs ∧ EofEnd s' ∧
      ((∃ v : Ast.Value, (sig cs).map astOfV = (Ast.tValue v).map some ∧ valueOk isConst v = true) ∨ AtEof s') := by
  obtain ⟨⟨cs, a, b, d⟩, e⟩ := Parse.value_sound n isConst popOnError s s' w he h hnd
  exact ⟨cs, a, b, e, d⟩

/-- …so whenever something other than the end of input follows, the consumed tokens are one value. -/
theorem value_accept_sound_not_at_eof (n : Nat) (isConst popOnError : Bool) (s s' : PState) (w : TW s) (he : EofEnd s)
    (h : (value n isConst popOnError).run s = .ok () s') (hnd : ¬ Doomed s') (hne : ¬ AtEof s') :
    ∃ cs v, Toks s = cs ++ Toks s' ∧ (sig cs).map astOfV = (Ast.tValue v).map some ∧ valueOk isConst v = true := by
  obtain ⟨cs, a, _, _, d⟩ := value_accept_sound n isConst popOnError s s' w he h hnd
  rcases d with ⟨v, hv, hok⟩ | d
  · exact ⟨cs, v, a, hv, hok⟩
  · exact absurd d hne

/-- The EOF alternative is real (kernel-evaluated on the model): on the input `[1` the value function
    returns without any error, having consumed `[ 1`, with the EOF token next. -/
theorem list_value_unclosed_at_eof :
    (match (value 5 false false).run (initState "[1".toList none 500) with
      | .ok _ s => s.errors.isEmpty && (s.current.map (·.kind) == some Lex.Kind.eof)
      | _ => false) = true := by decide +kernel

/-- **`argument.rs::arguments`** started on `(`: no error ⇒ the consumed tokens are `tArguments args` for a
    non-empty list `( Name : Value … )` of arguments with well-formed values; the rest of the queue is untouched. -/
theorem arguments_accept_sound (n : Nat) (isConst : Bool) (s s' : PState) (t : Tok) (rest : List Tok) (w : TW s)
    (he : EofEnd s) (ht : Toks s = t :: rest) (hk : t.kind = .lParen)
    (h : (arguments n isConst).run s = .ok () s') (hnd : ¬ Doomed s') :
    ∃ cs args, Toks s = cs ++ Toks s' ∧ NoEof cs ∧ EofEnd s' ∧ args ≠ [] ∧
      (sig cs).map astOfV = (Ast.tArguments args).map some ∧ ∀ a ∈ args, valueOk isConst a.2 = true :=
  Parse.arguments_sound n isConst s s' t rest w he ht hk h hnd

/-- **`directive.rs::directives`** from any state: no error ⇒ the consumed tokens are `tDirectives ds` for a
    (possibly empty) list of directive applications `@ Name Arguments?`; the rest of the queue is untouched. -/
theorem directives_accept_sound (n : Nat) (isConst : Bool) (s s' : PState) (w : TW s) (he : EofEnd s)
    (h : (directives n isConst).run s = .ok () s') (hnd : ¬ Doomed s') :
    ∃ cs ds, Toks s = cs ++ Toks s' ∧ NoEof cs ∧ EofEnd s' ∧
      (sig cs).map astOfV = (Ast.tDirectives ds).map some ∧ ∀ d ∈ ds, ∀ a ∈ d.args, valueOk isConst a.2 = true :=
  Parse.directives_sound n isConst s s' w he h hnd

end Values

section Selections
/-! ### selection sets: accepted ⊆ grammar -/

/-- `selection::selection_set` started on `{`: what an error-free run consumes is a sentence of
    `SelectionSet : { Selection+ }` of the reference grammar (fields with alias / arguments / directives /
    nested selection sets, fragment spreads with name ≠ `on`, inline fragments with optional type condition),
    by induction on the fuel over the mutual recursion selection_set → selection → field / inline_fragment →
    selection_set, with the argument / directive theorems of `section Values` for the leaves. -/
theorem selection_set_accepted_is_in_grammar (n : Nat) (s s' : PState) (t : Tok) (rest : List Tok) (w : TW s) (he : EofEnd s)
    (ht : Toks s = t :: rest) (hk : t.kind = .lCurly) (h : (selectionSet n).run s = .ok () s') (hnd : ¬ Doomed s') :
    ∃ (cs : List Tok) (ss : Ast.Sels), Toks s = cs ++ Toks s' ∧ NoEof cs ∧ ss ≠ Ast.Sels.nil ∧
      TokIs (sig cs) (.p .lCurly :: Ast.tSels ss ++ [.p .rCurly]) := by
  obtain ⟨cs, x, a, b, _, d, ss, hne, rfl⟩ := (Parse.sel_all_sound n).1 s s' t rest w he ht hk h hnd
  exact ⟨cs, ss, a, b, hne, d⟩

/-- one selection item: a field started on a Name token, an inline fragment or a fragment spread started on `...` -/
theorem selection_items_accepted_are_in_grammar (n : Nat) (s s' : PState) (t : Tok) (rest : List Tok) (w : TW s) (he : EofEnd s)
    (ht : Toks s = t :: rest) (hnd : ¬ Doomed s') :
    (t.kind = .name → (field n).run s = .ok () s' → ∃ cs f, Toks s = cs ++ Toks s' ∧ TokIs (sig cs) (Ast.tSel f)) ∧
    (t.kind = .spread → (inlineFragment n).run s = .ok () s' → ∃ cs f, Toks s = cs ++ Toks s' ∧ TokIs (sig cs) (Ast.tSel f)) ∧
    (t.kind = .spread → (fragmentSpread n).run s = .ok () s' →
      ∃ cs nm ds, Toks s = cs ++ Toks s' ∧ TokIs (sig cs) (Ast.tSel (.spread nm ds)) ∧ nm ≠ "on".toList) := by
  refine ⟨?_, ?_, ?_⟩
  · intro hk h
    obtain ⟨cs, x, a, _, _, d, f, rfl⟩ := (Parse.sel_all_sound n).2.2.1 s s' t rest w he ht hk h hnd
    exact ⟨cs, f, a, d⟩
  · intro hk h
    obtain ⟨cs, x, a, _, _, d, f, rfl⟩ := (Parse.sel_all_sound n).2.2.2 s s' t rest w he ht hk h hnd
    exact ⟨cs, f, a, d⟩
  · intro hk h
    obtain ⟨cs, x, a, _, _, d, nm, ds, rfl, hne⟩ := Parse.fragmentSpread_sound n s s' t rest w he ht hk h hnd
    exact ⟨cs, nm, ds, a, d, hne⟩

end Selections

section TypeSystem

/-! ### Type-system (SDL) productions: acceptance is sound

Same reading as in `section Values`: a run that adds no error (`¬ Doomed s'`) from a state without token limit
consumed a prefix `cs` of the token queue whose significant tokens are exactly the C08 token printer of ONE
object of the production. `KindP p q` says that the queue `q` starts with a token whose kind satisfies `p`
(the look-ahead every caller performs before entering the production). -/

/-- **`input.rs::input_value_definition`** (`Description? Name : Type DefaultValue? Directives[Const]?`) entered
    on a Name or String token: the consumed tokens are `tIVD v`; OR the run stopped with the end of input next
    (an unclosed list inside the default value, reported by the enclosing `)` / `}`). -/
theorem input_value_definition_accept_sound (n : Nat) (s s' : PState) (w : TW s) (he : EofEnd s)
    (hq : KindP isNameOrStringK (Toks s)) (h : (inputValueDefinition n).run s = .ok () s') (hnd : ¬ Doomed s') :
    ∃ cs, Toks s = cs ++ Toks s' ∧ NoEof cs ∧ EofEnd s' ∧
      ((∃ v : Ast.InputValueDef, (sig cs).map astOfV = (Ast.tIVD v).map some) ∨ AtEof s') := by
  obtain ⟨cs, a1, a2, a3, a4⟩ := (Parse.acc_ivd n).2 s () s' w he hq h hnd
  refine ⟨cs, a1, a2, a3, ?_⟩
  rcases a4 with ⟨x, hx, v, hv⟩ | h4
  · exact Or.inl ⟨v, by rw [← hv]; exact hx⟩
  · exact Or.inr h4

/-- **`argument.rs::arguments_definition`** entered on `(`: `( InputValueDefinition+ )`, never empty. -/
theorem arguments_definition_accept_sound (n : Nat) (s s' : PState) (w : TW s) (he : EofEnd s)
    (hq : KindP (· == .lParen) (Toks s)) (h : (argumentsDefinition n).run s = .ok () s') (hnd : ¬ Doomed s') :
    ∃ cs args, Toks s = cs ++ Toks s' ∧ NoEof cs ∧ EofEnd s' ∧ args ≠ [] ∧
      (sig cs).map astOfV = (Ast.tArgsDef args).map some := by
  obtain ⟨cs, x, a1, a2, a3, hx, args, hne, e⟩ := (Parse.acc_argumentsDefinition n).sound s s' () w he hq h hnd
  exact ⟨cs, args, a1, a2, a3, hne, by rw [← e]; exact hx⟩

/-- **`field.rs::field_definition`** (`Description? Name ArgumentsDefinition? : Type Directives[Const]?`). -/
theorem field_definition_accept_sound (n : Nat) (s s' : PState) (w : TW s) (he : EofEnd s)
    (hq : KindP isNameOrStringK (Toks s)) (h : (fieldDefinition n).run s = .ok () s') (hnd : ¬ Doomed s') :
    ∃ cs f, Toks s = cs ++ Toks s' ∧ NoEof cs ∧ EofEnd s' ∧ (sig cs).map astOfV = (Ast.tFieldDef f).map some := by
  obtain ⟨cs, x, a1, a2, a3, hx, f, e⟩ := (Parse.acc_fieldDefinition Parse.early_false n).sound s s' () w he hq h hnd
  exact ⟨cs, f, a1, a2, a3, by rw [← e]; exact hx⟩

/-- **`field.rs::fields_definition`** entered on `{`: `{ FieldDefinition+ }`, never empty. -/
theorem fields_definition_accept_sound (n : Nat) (s s' : PState) (w : TW s) (he : EofEnd s)
    (hq : KindP (· == .lCurly) (Toks s)) (h : (fieldsDefinition n).run s = .ok () s') (hnd : ¬ Doomed s') :
    ∃ cs fs, Toks s = cs ++ Toks s' ∧ NoEof cs ∧ EofEnd s' ∧ fs ≠ [] ∧
      (sig cs).map astOfV = (Ast.tBraced (Ast.tFieldDefItems fs) fs.isEmpty).map some := by
  obtain ⟨cs, x, a1, a2, a3, hx, fs, hne, e⟩ := (Parse.acc_fieldsDefinition n).sound s s' () w he hq h hnd
  exact ⟨cs, fs, a1, a2, a3, hne, by rw [← e]; exact hx⟩

/-- **`input.rs::input_fields_definition`** entered on `{`: `{ InputValueDefinition+ }`, never empty. -/
theorem input_fields_definition_accept_sound (n : Nat) (s s' : PState) (w : TW s) (he : EofEnd s)
    (hq : KindP (· == .lCurly) (Toks s)) (h : (inputFieldsDefinition n).run s = .ok () s') (hnd : ¬ Doomed s') :
    ∃ cs fs, Toks s = cs ++ Toks s' ∧ NoEof cs ∧ EofEnd s' ∧ fs ≠ [] ∧
      (sig cs).map astOfV = (Ast.tBraced (Ast.tIVDItems fs) fs.isEmpty).map some := by
  obtain ⟨cs, x, a1, a2, a3, hx, fs, hne, e⟩ := (Parse.acc_inputFieldsDefinition n).sound s s' () w he hq h hnd
  exact ⟨cs, fs, a1, a2, a3, hne, by rw [← e]; exact hx⟩

/-- **`enum_.rs::enum_value_definition`** (`Description? EnumValue Directives[Const]?`). -/
theorem enum_value_definition_accept_sound (n : Nat) (s s' : PState) (w : TW s) (he : EofEnd s)
    (hq : KindP isNameOrStringK (Toks s)) (h : (enumValueDefinition n).run s = .ok () s') (hnd : ¬ Doomed s') :
    ∃ cs v, Toks s = cs ++ Toks s' ∧ NoEof cs ∧ EofEnd s' ∧ (sig cs).map astOfV = (Ast.tEnumValueDef v).map some := by
  obtain ⟨cs, x, a1, a2, a3, hx, v, e⟩ := (Parse.acc_enumValueDefinition Parse.early_false n).sound s s' () w he hq h hnd
  exact ⟨cs, v, a1, a2, a3, by rw [← e]; exact hx⟩

/-- **`enum_.rs::enum_values_definition`** entered on `{`: `{ EnumValueDefinition+ }`, never empty. -/
theorem enum_values_definition_accept_sound (n : Nat) (s s' : PState) (w : TW s) (he : EofEnd s)
    (hq : KindP (· == .lCurly) (Toks s)) (h : (enumValuesDefinition n).run s = .ok () s') (hnd : ¬ Doomed s') :
    ∃ cs vs, Toks s = cs ++ Toks s' ∧ NoEof cs ∧ EofEnd s' ∧ vs ≠ [] ∧
      (sig cs).map astOfV = (Ast.tBraced (Ast.tEnumValueDefItems vs) vs.isEmpty).map some := by
  obtain ⟨cs, x, a1, a2, a3, hx, vs, hne, e⟩ := (Parse.acc_enumValuesDefinition n).sound s s' () w he hq h hnd
  exact ⟨cs, vs, a1, a2, a3, hne, by rw [← e]; exact hx⟩

/-- **`schema.rs::root_operation_type_definition`** entered on a Name: no error ⇒ the consumed tokens are
    `tRootOp (op, name)` = `op : Name` with `op` one of `query`, `mutation`, `subscription` — OR, the KNOWN
    FINDING, just `op :` with NO named type: `named_type` silently does nothing when no Name follows. The
    second alternative cannot be dropped, see `root_operation_type_without_name_accepted`. -/
theorem root_operation_type_definition_accept_sound (s s' : PState) (w : TW s) (he : EofEnd s)
    (hq : KindP (· == .name) (Toks s)) (h : rootOperationTypeDefinition.run s = .ok () s') (hnd : ¬ Doomed s') :
    ∃ cs op, Toks s = cs ++ Toks s' ∧ NoEof cs ∧ EofEnd s' ∧
      ((∃ nm, (sig cs).map astOfV = (Ast.tRootOp (op, nm)).map some) ∨
        (sig cs).map astOfV = [some (.name op.name.toList), some (.p .colon)]) := by
  obtain ⟨cs, x, a1, a2, a3, hx, op, e⟩ := (Parse.acc_rootOperationTypeDefinition Parse.early_false).sound s s' () w he hq h hnd
  refine ⟨cs, op, a1, a2, a3, ?_⟩
  rcases e with ⟨nm, e⟩ | e
  · exact Or.inl ⟨nm, by rw [← e]; exact hx⟩
  · exact Or.inr (by rw [hx, e]; rfl)

/-- KNOWN FINDING, at the production (kernel-evaluated on the model): on `query:}` the root operation type
    definition returns without any error having consumed `query :` only — the `}` is next. -/
theorem root_operation_type_without_name_accepted :
    (match rootOperationTypeDefinition.run (initState "query:}".toList none 500) with
      | .ok _ s => s.errors.isEmpty && (s.current.map (·.kind) == some Lex.Kind.rCurly)
      | _ => false) = true := by decide +kernel

/-! #### separated lists, definitions, extensions, dispatch

`LexQ q` is the lexer fact the keyword look-aheads (`peek_data() == "scalar"`, which inspect the TEXT of a token only)
rely on: every token of the queue whose text starts with a letter or `_` is a Name token. It is a theorem about the
lexer model for the queue of every source text (`lexer_queue_fact`), and it is inherited by every suffix of a queue.
`HeadData w q`: the queue starts with a token reading `w`. -/

/-- the token queue the parser starts with satisfies the lexer fact, for every source text -/
theorem lexer_queue_fact (src : Parse.Str) (rl : Nat) :
    LexQ (srcToks src) ∧ LexQ (Toks (initState src none rl)) ∧ ∀ cs q, LexQ (cs ++ q) → LexQ q :=
  ⟨Parse.lexQ_srcToks src, Parse.lexQ_initState src rl, fun _ _ h => h.suffix⟩

/-- C08's printer `tSepList` is the separated list WITHOUT the optional leading separator: `tSepLead sep false`. -/
theorem separated_list_printer_has_no_lead (intro : List Ast.Tok) (sep : Ast.P) (first : Parse.Str) (rest : List Parse.Str) :
    Ast.tSepList intro sep (first :: rest) = intro ++ tSepLead sep false first rest ∧
    tSepLead sep true first rest = .p sep :: tSepLead sep false first rest :=
  ⟨Parse.tSepList_eq_lead intro sep first rest, rfl⟩

/-- **`object.rs::implements_interfaces`** entered on the `implements` keyword: no error ⇒ the consumed tokens are
    `implements &? Name (& Name)*` — C08's `tSepList [implements] &` up to ONE optional leading `&` (`lead`). -/
theorem implements_interfaces_accept_sound (s s' : PState) (w : TW s) (he : EofEnd s)
    (hq : LexQ (Toks s) ∧ HeadData "implements" (Toks s)) (h : implementsInterfaces.run s = .ok () s') (hnd : ¬ Doomed s') :
    ∃ cs lead first rest, Toks s = cs ++ Toks s' ∧ NoEof cs ∧ EofEnd s' ∧
      (sig cs).map astOfV = (.name Ast.sImplements :: tSepLead .amp lead first rest).map some := by
  obtain ⟨cs, x, a1, a2, a3, hx, lead, first, rest, e⟩ := (Parse.acc_implementsInterfaces Parse.early_false).sound s s' () w he hq h hnd
  exact ⟨cs, lead, first, rest, a1, a2, a3, by rw [← e]; exact hx⟩

/-- **`union_.rs::union_member_types`** entered on `=`: `= |? Name (| Name)*`. -/
theorem union_member_types_accept_sound (s s' : PState) (w : TW s) (he : EofEnd s)
    (hq : KindP (· == .eq) (Toks s)) (h : unionMemberTypes.run s = .ok () s') (hnd : ¬ Doomed s') :
    ∃ cs lead first rest, Toks s = cs ++ Toks s' ∧ NoEof cs ∧ EofEnd s' ∧
      (sig cs).map astOfV = (.p .eq :: tSepLead .pipe lead first rest).map some := by
  obtain ⟨cs, x, a1, a2, a3, hx, lead, first, rest, e⟩ := (Parse.acc_unionMemberTypes Parse.early_false).sound s s' () w he hq h hnd
  exact ⟨cs, lead, first, rest, a1, a2, a3, by rw [← e]; exact hx⟩

/-- **`directive.rs::directive_locations`** from any state: `|? Location (| Location)*`, every location one of the
    nineteen location names. -/
theorem directive_locations_accept_sound (s s' : PState) (w : TW s) (he : EofEnd s)
    (h : directiveLocations.run s = .ok () s') (hnd : ¬ Doomed s') :
    ∃ cs lead first rest, Toks s = cs ++ Toks s' ∧ NoEof cs ∧ EofEnd s' ∧
      (sig cs).map astOfV = (tSepLead .pipe lead first rest).map some ∧ ∀ l ∈ first :: rest, IsDirLoc l := by
  obtain ⟨cs, x, a1, a2, a3, hx, lead, first, rest, e, hf, hr⟩ :=
    (Parse.acc_directiveLocations (H := fun _ => True) Parse.early_false).sound s s' () w he trivial h hnd
  refine ⟨cs, lead, first, rest, a1, a2, a3, by rw [← e]; exact hx, ?_⟩
  intro l hl
  rcases List.mem_cons.mp hl with rfl | hl
  · exact hf
  · exact hr l hl

/-- `LooseDef.toks l` are the printer's tokens `tDefinition false d` whenever `l` has neither of the two deviations
    the grammar accepts beyond the printer (a leading `&` / `|`; a root operation type without its named type —
    the KNOWN FINDING): `LooseDef.strict l = some d`. -/
theorem loose_definition_strict (l : LooseDef) (d : Ast.Definition) (h : l.strict = some d) :
    l.toks = Ast.tDefinition false d :=
  Parse.LooseDef.toks_strict l d h

/-- **A type-system definition parser called on its keyword** (`select_definition` with the text `word` of one of the
    eight keywords `directive enum input interface type scalar schema union`), the queue starting with that keyword or
    with a description followed by it (`DefStart`): no error ⇒ the consumed significant tokens are the tokens of ONE
    loose definition `l` of that kind; the rest of the queue is untouched. -/
theorem selected_definition_accept_sound (n : Nat) (word : String) (hword : word ∈ defWords) (s s' : PState) (w : TW s)
    (he : EofEnd s) (hq : LexQ (Toks s) ∧ DefStart word (Toks s))
    (h : (selectDefinition n word.toList).run s = .ok () s') (hnd : ¬ Doomed s') :
    ∃ cs l, Toks s = cs ++ Toks s' ∧ NoEof cs ∧ EofEnd s' ∧ (sig cs).map astOfV = (LooseDef.toks l).map some ∧ l.kws = [word] :=
  Parse.selected_definition_sound n word hword s s' w he hq h hnd

/-- **`type_system_definition_accept_sound`** — through the dispatcher of `document()`. The dispatcher is called with
    the kind of the current token `t`; the selecting text is the text of the next significant token when `t` is a
    string (a description), else the text of `t`. If it is one of the eight definition keywords and the run adds no
    error, the consumed significant tokens are `LooseDef.toks l` for ONE loose definition `l` of that keyword
    (= `tDefinition false d` when `l.strict = some d`, see `loose_definition_strict`). -/
theorem type_system_definition_accept_sound (n : Nat) (word : String) (hword : word ∈ defWords) (s s' : PState) (t : Tok)
    (rest : List Tok) (w : TW s) (he : EofEnd s) (hl : LexQ (Toks s)) (hc : s.current = some t) (ht : Toks s = t :: rest)
    (hsel : (t.kind = .stringValue ∧ ∃ t2, (sig rest).head? = some t2 ∧ t2.data = word.toList) ∨ t.data = word.toList)
    (h : (documentDispatch n t.kind).run s = .ok () s') (hnd : ¬ Doomed s') :
    ∃ cs l, Toks s = cs ++ Toks s' ∧ NoEof cs ∧ EofEnd s' ∧ (sig cs).map astOfV = (LooseDef.toks l).map some ∧ l.kws = [word] :=
  Parse.dispatch_definition_sound n word hword s s' t rest w he hl hc ht hsel h hnd

/-- **`extensions()`** entered on the `extend` token, the next significant token reading one of the seven keywords
    `schema scalar type interface union enum input` (what `peek_data_n(2)` sees). -/
theorem extensions_accept_sound (n : Nat) (w2 : String) (hw2 : w2 ∈ extWords) (s s' : PState) (t : Tok) (rest : List Tok) (t2 : Tok)
    (w : TW s) (he : EofEnd s) (hl : LexQ (Toks s)) (hc : s.current = some t) (ht : Toks s = t :: rest)
    (hd : t.data = "extend".toList) (hh2 : (sig rest).head? = some t2) (hd2 : t2.data = w2.toList)
    (h : (extensions n).run s = .ok () s') (hnd : ¬ Doomed s') :
    ∃ cs l, Toks s = cs ++ Toks s' ∧ NoEof cs ∧ EofEnd s' ∧ (sig cs).map astOfV = (LooseDef.toks l).map some ∧
      l.kws = ["extend", w2] :=
  Parse.extensions_sound n w2 hw2 s s' t rest t2 w he hl hc ht hd hh2 hd2 h hnd

/-- **`type_system_extension_accept_sound`** — through the dispatcher: the current token reads `extend` and the next
    significant token one of the seven extension keywords; no error ⇒ the consumed significant tokens are
    `LooseDef.toks l` for ONE loose extension `l` of that kind. -/
theorem type_system_extension_accept_sound (n : Nat) (w2 : String) (hw2 : w2 ∈ extWords) (s s' : PState) (t : Tok)
    (rest : List Tok) (t2 : Tok) (w : TW s) (he : EofEnd s) (hl : LexQ (Toks s)) (ht : Toks s = t :: rest)
    (hd : t.data = "extend".toList) (hh2 : (sig rest).head? = some t2) (hd2 : t2.data = w2.toList)
    (h : (documentDispatch n t.kind).run s = .ok () s') (hnd : ¬ Doomed s') :
    ∃ cs l, Toks s = cs ++ Toks s' ∧ NoEof cs ∧ EofEnd s' ∧ (sig cs).map astOfV = (LooseDef.toks l).map some ∧
      l.kws = ["extend", w2] :=
  Parse.dispatch_extension_sound n w2 hw2 s s' t rest t2 w he hl ht hd hh2 hd2 h hnd

/-- **The definition parsers as standalone entry points** (from any state of a lexer queue): there the keyword itself is
    OPTIONAL (`if peek_data == "scalar" { bump }`): `seen` says whether it was there. Shown for `scalar`; the other
    seven have the same shape (`Parse.accL_*Definition`). -/
theorem scalar_type_definition_accept_sound (n : Nat) (s s' : PState) (w : TW s) (he : EofEnd s) (hl : LexQ (Toks s))
    (h : (scalarTypeDefinition n).run s = .ok () s') (hnd : ¬ Doomed s') :
    ∃ cs desc seen nm ds, Toks s = cs ++ Toks s' ∧ NoEof cs ∧ EofEnd s' ∧
      (sig cs).map astOfV = (scalarToks desc seen nm ds).map some ∧
      scalarToks desc true nm ds = Ast.tDefinition false (.scalarDef desc nm ds) := by
  obtain ⟨cs, x, a1, a2, a3, hx, desc, seen, nm, ds, e⟩ := (Parse.accL_scalarTypeDefinition n).sound s s' () w he hl h hnd
  exact ⟨cs, desc, seen, nm, ds, a1, a2, a3, by rw [← e]; exact hx, Parse.LooseDef.toks_strict (.scalar desc nm ds) _ rfl⟩

/-- the deviations are real (kernel-evaluated on the model): a leading `&`, a leading `|` in union members and in
    directive locations are accepted without error -/
theorem leading_separators_accepted :
    errorFree "type A implements & B{a:Int}".toList = true ∧ errorFree "union U = | A | B".toList = true ∧
    errorFree "directive @d on | FIELD".toList = true ∧ errorFree "extend type A implements & B".toList = true := by
  decide +kernel

end TypeSystem

section Executable
/-! ### executable definitions: accepted ⊆ grammar -/

/-- in the acceptance calculus (`Acc E H m R`: `m` is `Good`, and an error-free run from a queue with `H`
    consumes exactly some `x` with `R x`): operation definitions, fragment definitions, variable definitions,
    selection sets -/
theorem executable_definitions_acc (n : Nat) :
    Acc (fun _ => False) (fun _ => True) (operationDefinition n) (fun _ => IsOperation)
    ∧ Acc (fun _ => False) AtFragmentKw (fragmentDefinition n) (fun _ => IsFragment)
    ∧ Acc (fun _ => False) (KindP (· == Lex.Kind.lParen)) (variableDefinitions n)
        (fun _ x => ∃ vs : List Ast.VarDef, vs ≠ [] ∧ x = Ast.tVarDefs vs)
    ∧ Acc (fun _ => False) (KindP (· == Lex.Kind.lCurly)) (selectionSet n)
        (fun _ x => ∃ ss, ss ≠ Ast.Sels.nil ∧ x = Ast.tSelSet ss) :=
  ⟨Parse.acc_operationDefinition n, Parse.acc_fragmentDefinition n, Parse.acc_variableDefinitions n, Parse.acc_selectionSet n⟩

/-- what is accepted as an operation definition is a sentence of `OperationDefinition` (full or shorthand form) -/
theorem operation_definition_accepted_is_in_grammar (n : Nat) (s s' : PState) (w : TW s) (he : EofEnd s)
    (h : (operationDefinition n).run s = .ok () s') (hnd : ¬ Doomed s') :
    ∃ (cs : List Tok) (x : List Ast.Tok), Toks s = cs ++ Toks s' ∧ NoEof cs ∧ EofEnd s' ∧
      (sig cs).map astOfV = x.map some ∧ IsOperation x :=
  (Parse.acc_operationDefinition n).sound s s' () w he trivial h hnd

/-- what is accepted as a fragment definition is a sentence of `FragmentDefinition` (name ≠ `on`) -/
theorem fragment_definition_accepted_is_in_grammar (n : Nat) (s s' : PState) (w : TW s) (he : EofEnd s)
    (hkw : AtFragmentKw (Toks s)) (h : (fragmentDefinition n).run s = .ok () s') (hnd : ¬ Doomed s') :
    ∃ (cs : List Tok) (x : List Ast.Tok), Toks s = cs ++ Toks s' ∧ NoEof cs ∧ EofEnd s' ∧
      (sig cs).map astOfV = x.map some ∧ IsFragment x :=
  (Parse.acc_fragmentDefinition n).sound s s' () w he hkw h hnd

/-! ### completeness: everything in the value / arguments / directives grammar is accepted -/

/-- **`value.rs::value`, acceptance is complete.**  Take ANY value `v` of the grammar (`valueOk`: enum values
    are names other than `true`/`false`/`null`; under `Const` no variable occurs) whose list/object nesting
    depth `vdepth v` is within the remaining recursion budget `recLimit − recCur`.  Let the queue of `s` start
    with ANY spelling `c` of `tValue v` — the significant tokens of `c` are `tValue v`, with arbitrary ignored
    tokens (whitespace, commas, comments) interleaved after each of them — followed by a significant token
    `q0`.  Then every finished run of `value` (any fuel, `pop_on_error` or not; runs exist whenever the fuel is
    sufficient: C01 `value_grammar_terminates`) consumed exactly `c`, left `q0 :: rest`, and reported NO error
    (`Doomed s' ↔ Doomed s`).  With `value_accept_sound`: on such inputs acceptance = grammar. -/
theorem value_accept_complete (n : Nat) (isConst popOnError : Bool) (s s' : PState) (v : Ast.Value)
    (c : List Tok) (q0 : Tok) (rest : List Tok) (w : TW s)
    (hok : valueOk isConst v = true) (hdepth : vdepth v ≤ s.recLimit - s.recCur)
    (hspell : (sig c).map astOfV = (Ast.tValue v).map some)
    (hhead : ∀ hd tl, c = hd :: tl → isIgnoredKind hd.kind = false)
    (ht : Toks s = c ++ q0 :: rest) (hq : isIgnoredKind q0.kind = false)
    (h : (value n isConst popOnError).run s = .ok () s') :
    Toks s' = q0 :: rest ∧ (Doomed s' ↔ Doomed s) ∧ s'.recCur = s.recCur := by
  obtain ⟨e, t, _⟩ := Parse.value_complete n isConst popOnError s s' () c _ q0 rest w h ⟨v, rfl, hok, hdepth⟩
    ⟨hspell, hhead⟩ ht hq trivial trivial
  exact ⟨t, e.doom, e.recCur⟩

/-- in value position EVERY Name token is accepted (`true`/`false` → BooleanValue, `null` → NullValue, anything
    else → EnumValue): the model is exactly as liberal as the grammar here, no name is rejected. -/
theorem name_in_value_position_accepted (s s' : PState) (nm : Ast.Str) (c : List Tok) (q0 : Tok) (rest : List Tok) (w : TW s)
    (hspell : (sig c).map astOfV = [some (.name nm)]) (hhead : ∀ hd tl, c = hd :: tl → isIgnoredKind hd.kind = false)
    (ht : Toks s = c ++ q0 :: rest) (hq : isIgnoredKind q0.kind = false)
    (h : (peekToken >>= nameValueBranch).run s = .ok () s') :
    Toks s' = q0 :: rest ∧ (Doomed s' ↔ Doomed s) := by
  obtain ⟨e, t, _⟩ := Parse.cmp_nameValue s s' () c _ q0 rest w h ⟨nm, rfl⟩ ⟨hspell, hhead⟩ ht hq trivial trivial
  exact ⟨t, e.doom⟩

-- the two guards (kernel-evaluated on the model): a variable under `Const` is an error; the depth bound is
-- tight on `[[1]]` (depth 2: rejected with budget 1, accepted with budget 2); `[]`, which `vdepth` charges 1,
-- is accepted with budget 0 (see `value_depth_exact_vs_charged`)
example : (match (value 9 true false).run (initState "$x".toList none 500) with | .ok _ s => s.errors.length | _ => 0) = 1 := by decide +kernel
example : (match (value 9 false false).run (initState "$x".toList none 500) with | .ok _ s => s.errors.length | _ => 9) = 0 := by decide +kernel
example : (match (value 9 false false).run (initState "[[1]]".toList none 1) with | .ok _ s => s.errors.length | _ => 0) = 1 := by decide +kernel
example : (match (value 9 false false).run (initState "[[1]]".toList none 2) with | .ok _ s => s.errors.length | _ => 9) = 0 := by decide +kernel
example : (match (value 9 false false).run (initState "[]".toList none 0) with | .ok _ s => s.errors.length | _ => 9) = 0 := by decide +kernel

/-- **`argument.rs::arguments`, acceptance is complete**: every non-empty `( Name : Value … )` whose values are
    well formed and within the budget (an argument value is NOT under `recursion_limit`, so the bound is
    `vdepth ≤ recLimit − recCur` itself), in any spelling, followed by any significant token. -/
theorem arguments_accept_complete (n : Nat) (isConst : Bool) (s s' : PState) (args : List (Ast.Str × Ast.Value))
    (c : List Tok) (q0 : Tok) (rest : List Tok) (w : TW s) (hne : args ≠ [])
    (hfit : ∀ a ∈ args, valueOk isConst a.2 = true ∧ vdepth a.2 ≤ s.recLimit - s.recCur)
    (hspell : (sig c).map astOfV = (Ast.tArguments args).map some)
    (hhead : ∀ hd tl, c = hd :: tl → isIgnoredKind hd.kind = false)
    (ht : Toks s = c ++ q0 :: rest) (hq : isIgnoredKind q0.kind = false)
    (h : (arguments n isConst).run s = .ok () s') :
    Toks s' = q0 :: rest ∧ (Doomed s' ↔ Doomed s) := by
  obtain ⟨e, t, _⟩ := Parse.arguments_complete n isConst s s' () c _ q0 rest w h ⟨args, hne, rfl, hfit⟩
    ⟨hspell, hhead⟩ ht hq trivial trivial
  exact ⟨t, e.doom⟩

/-- **`directive.rs::directives`, acceptance is complete**: every (possibly empty) list `@ Name Arguments? …`
    in any spelling, PROVIDED the following significant token is neither `@` (it would be one more directive)
    nor `(` (after a directive without arguments it would be taken as its argument list) — in every grammar
    position of `Directives` the follow token is one of `{ } ) | = Name String $ ... EOF`, so this holds. -/
theorem directives_accept_complete (n : Nat) (isConst : Bool) (s s' : PState) (ds : List Ast.Directive)
    (c : List Tok) (q0 : Tok) (rest : List Tok) (w : TW s)
    (hfit : ∀ d ∈ ds, ∀ a ∈ d.args, valueOk isConst a.2 = true ∧ vdepth a.2 ≤ s.recLimit - s.recCur)
    (hspell : (sig c).map astOfV = (Ast.tDirectives ds).map some)
    (hhead : ∀ hd tl, c = hd :: tl → isIgnoredKind hd.kind = false)
    (ht : Toks s = c ++ q0 :: rest) (hq : isIgnoredKind q0.kind = false)
    (hfollow : q0.kind ≠ .at ∧ q0.kind ≠ .lParen)
    (h : (directives n isConst).run s = .ok () s') :
    Toks s' = q0 :: rest ∧ (Doomed s' ↔ Doomed s) := by
  obtain ⟨e, t, _⟩ := Parse.directives_complete n isConst s s' () c _ q0 rest w h ⟨ds, rfl, hfit⟩
    ⟨hspell, hhead⟩ ht hq hfollow trivial
  exact ⟨t, e.doom⟩

/-! ### completeness: selection sets, executable definitions, executable documents; totality -/

/-- **`selection::selection_set`, acceptance is complete.**  Any `{ Selection+ }` of the C08 reference grammar
    (`Ast.tSelSet ss`, `ss` non-empty) that FITS the remaining recursion budget `b = recLimit − recCur`
    (`1 ≤ b` and `fitSels ss (b − 1)`: each `{ … }` level costs one; list/object nesting of argument values costs its
    depth; a fragment-spread name is not `on`; an inline fragment has a non-empty selection set), in any spelling,
    followed by any significant token: every finished run consumed exactly the spelling and reported no error.
    This covers both `peek_n(2)` decisions — alias (`a : b` with ignored tokens before the colon) and fragment spread
    vs inline fragment (`...on T`, `... on T`, `... @d {`, `... {`) — and the `has_selection` loop. -/
theorem selection_set_accept_complete (n : Nat) (s s' : PState) (ss : Ast.Sels) (c : List Tok) (q0 : Tok) (rest : List Tok)
    (w : TW s) (hne : ss ≠ Ast.Sels.nil) (hb : 1 ≤ s.recLimit - s.recCur) (hfit : fitSels ss (s.recLimit - s.recCur - 1))
    (hspell : (sig c).map astOfV = (Ast.tSelSet ss).map some)
    (hhead : ∀ hd tl, c = hd :: tl → isIgnoredKind hd.kind = false)
    (ht : Toks s = c ++ q0 :: rest) (hq : isIgnoredKind q0.kind = false)
    (h : (selectionSet n).run s = .ok () s') :
    Toks s' = q0 :: rest ∧ (Doomed s' ↔ Doomed s) ∧ s'.recCur = s.recCur := by
  obtain ⟨e, t, _⟩ := Parse.selectionSet_complete n s s' () c _ q0 rest w h ⟨ss, hne, rfl, hb, hfit⟩ ⟨hspell, hhead⟩ ht hq trivial trivial
  exact ⟨t, e.doom, e.recCur⟩

/-- **Totality** (link to C01 termination): from a state satisfying the model invariant `Inv` (no panic) and the
    position bookkeeping `W` of the termination proofs, with fuel `n ≥ 2·Mm s + 2` (`Mm s` = number of characters
    not yet lexed, + 1 if a token is buffered), the run of `value` FINISHES, and it consumed exactly the spelling
    without error. -/
theorem value_accept_complete_total (n : Nat) (isConst popOnError : Bool) (s : PState) (v : Ast.Value)
    (c : List Tok) (q0 : Tok) (rest : List Tok) (hinv : Inv s) (hw : W s) (w : TW s) (hfuel : 2 * Mm s + 2 ≤ n)
    (hok : valueOk isConst v = true) (hdepth : vdepth v ≤ s.recLimit - s.recCur)
    (hspell : (sig c).map astOfV = (Ast.tValue v).map some)
    (hhead : ∀ hd tl, c = hd :: tl → isIgnoredKind hd.kind = false)
    (ht : Toks s = c ++ q0 :: rest) (hq : isIgnoredKind q0.kind = false) :
    ∃ s', (value n isConst popOnError).run s = .ok () s' ∧ Toks s' = q0 :: rest ∧ (Doomed s' ↔ Doomed s) := by
  obtain ⟨s', hr, e, t⟩ := Parse.value_complete_total n isConst popOnError s hinv hw w hfuel c _ q0 rest ⟨v, rfl, hok, hdepth⟩
    ⟨hspell, hhead⟩ ht hq
  exact ⟨s', hr, t, e.doom⟩

/-- totality for `arguments` (fuel `n ≥ 4·Mm s + 4`) -/
theorem arguments_accept_complete_total (n : Nat) (isConst : Bool) (s : PState) (args : List (Ast.Str × Ast.Value))
    (c : List Tok) (q0 : Tok) (rest : List Tok) (hinv : Inv s) (hw : W s) (w : TW s) (hfuel : 4 * Mm s + 4 ≤ n) (hne : args ≠ [])
    (hfit : ∀ a ∈ args, valueOk isConst a.2 = true ∧ vdepth a.2 ≤ s.recLimit - s.recCur)
    (hspell : (sig c).map astOfV = (Ast.tArguments args).map some)
    (hhead : ∀ hd tl, c = hd :: tl → isIgnoredKind hd.kind = false)
    (ht : Toks s = c ++ q0 :: rest) (hq : isIgnoredKind q0.kind = false) :
    ∃ s', (arguments n isConst).run s = .ok () s' ∧ Toks s' = q0 :: rest ∧ (Doomed s' ↔ Doomed s) := by
  obtain ⟨s', hr, e, t⟩ := Parse.arguments_complete_total n isConst s hinv hw w hfuel c _ q0 rest ⟨args, hne, rfl, hfit⟩
    ⟨hspell, hhead⟩ ht hq
  exact ⟨s', hr, t, e.doom⟩

/-- totality for `directives` (fuel `n ≥ 4·Mm s + 4`) -/
theorem directives_accept_complete_total (n : Nat) (isConst : Bool) (s : PState) (ds : List Ast.Directive)
    (c : List Tok) (q0 : Tok) (rest : List Tok) (hinv : Inv s) (hw : W s) (w : TW s) (hfuel : 4 * Mm s + 4 ≤ n)
    (hfit : ∀ d ∈ ds, ∀ a ∈ d.args, valueOk isConst a.2 = true ∧ vdepth a.2 ≤ s.recLimit - s.recCur)
    (hspell : (sig c).map astOfV = (Ast.tDirectives ds).map some)
    (hhead : ∀ hd tl, c = hd :: tl → isIgnoredKind hd.kind = false)
    (ht : Toks s = c ++ q0 :: rest) (hq : isIgnoredKind q0.kind = false)
    (hfollow : q0.kind ≠ .at ∧ q0.kind ≠ .lParen) :
    ∃ s', (directives n isConst).run s = .ok () s' ∧ Toks s' = q0 :: rest ∧ (Doomed s' ↔ Doomed s) := by
  obtain ⟨s', hr, e, t⟩ := Parse.directives_complete_total n isConst s hinv hw w hfuel c _ q0 rest ⟨ds, rfl, hfit⟩
    ⟨hspell, hhead⟩ ht hq hfollow
  exact ⟨s', hr, t, e.doom⟩

/-- totality for `selection_set` (fuel `n ≥ 4·Mm s + 2`) -/
theorem selection_set_accept_complete_total (n : Nat) (s : PState) (ss : Ast.Sels) (c : List Tok) (q0 : Tok) (rest : List Tok)
    (hinv : Inv s) (hw : W s) (w : TW s) (hfuel : 4 * Mm s + 2 ≤ n)
    (hne : ss ≠ Ast.Sels.nil) (hb : 1 ≤ s.recLimit - s.recCur) (hfit : fitSels ss (s.recLimit - s.recCur - 1))
    (hspell : (sig c).map astOfV = (Ast.tSelSet ss).map some)
    (hhead : ∀ hd tl, c = hd :: tl → isIgnoredKind hd.kind = false)
    (ht : Toks s = c ++ q0 :: rest) (hq : isIgnoredKind q0.kind = false) :
    ∃ s', (selectionSet n).run s = .ok () s' ∧ Toks s' = q0 :: rest ∧ (Doomed s' ↔ Doomed s) := by
  obtain ⟨s', hr, e, t⟩ := Parse.selectionSet_complete_total n s hinv hw w hfuel c _ q0 rest ⟨ss, hne, rfl, hb, hfit⟩
    ⟨hspell, hhead⟩ ht hq
  exact ⟨s', hr, t, e.doom⟩

/-- **`variable::variable_definitions`, acceptance is complete**: `( $name : Type DefaultValue? Directives? … )`, at
    least one; `varFit`: the list nesting of the type, the nesting of the (constant) default value and of the
    directive arguments (constant) are within the budget. -/
theorem variable_definitions_accept_complete (n : Nat) (s s' : PState) (vs : List Ast.VarDef) (c : List Tok) (q0 : Tok)
    (rest : List Tok) (w : TW s) (hne : vs ≠ []) (hfit : ∀ v ∈ vs, varFit (s.recLimit - s.recCur) v)
    (hspell : (sig c).map astOfV = (Ast.tVarDefs vs).map some)
    (hhead : ∀ hd tl, c = hd :: tl → isIgnoredKind hd.kind = false)
    (ht : Toks s = c ++ q0 :: rest) (hq : isIgnoredKind q0.kind = false)
    (h : (variableDefinitions n).run s = .ok () s') : Toks s' = q0 :: rest ∧ (Doomed s' ↔ Doomed s) := by
  obtain ⟨e, t, _⟩ := Parse.cmp_variableDefinitions n s s' () c _ q0 rest w h ⟨vs, hne, rfl, hfit⟩ ⟨hspell, hhead⟩ ht hq trivial trivial
  exact ⟨t, e.doom⟩

/-- **`operation::operation_definition`, acceptance is complete**, full form
    `OperationType Name? VariableDefinitions? Directives? SelectionSet` (for the shorthand see
    `operation_shorthand_accept_complete`), followed by any significant token. -/
theorem operation_definition_accept_complete (n : Nat) (s s' : PState) (ty : Ast.OpType) (name : Option Ast.Str)
    (vars : List Ast.VarDef) (dirs : List Ast.Directive) (sels : Ast.Sels) (c : List Tok) (q0 : Tok) (rest : List Tok) (w : TW s)
    (hv : ∀ v ∈ vars, varFit (s.recLimit - s.recCur) v) (hd : dirsFit false (s.recLimit - s.recCur) dirs)
    (hne : sels ≠ Ast.Sels.nil) (hb : 1 ≤ s.recLimit - s.recCur) (hfit : fitSels sels (s.recLimit - s.recCur - 1))
    (hspell : (sig c).map astOfV = (Ast.tDefinition false (.operation ty name vars dirs sels)).map some)
    (hhead : ∀ hd tl, c = hd :: tl → isIgnoredKind hd.kind = false)
    (ht : Toks s = c ++ q0 :: rest) (hq : isIgnoredKind q0.kind = false)
    (h : (operationDefinition n).run s = .ok () s') : Toks s' = q0 :: rest ∧ (Doomed s' ↔ Doomed s) := by
  rw [Parse.tOperation_eq] at hspell
  obtain ⟨e, t, _⟩ := Parse.operationDefinition_complete n s s' () c _ q0 rest w h
    (Or.inl ⟨ty, name, vars, dirs, sels, rfl, hv, hd, hne, hb, hfit⟩) ⟨hspell, hhead⟩ ht hq trivial trivial
  exact ⟨t, e.doom⟩

/-- the shorthand `{ Selection+ }` through `operation_definition` -/
theorem operation_shorthand_accept_complete (n : Nat) (s s' : PState) (sels : Ast.Sels) (c : List Tok) (q0 : Tok)
    (rest : List Tok) (w : TW s)
    (hne : sels ≠ Ast.Sels.nil) (hb : 1 ≤ s.recLimit - s.recCur) (hfit : fitSels sels (s.recLimit - s.recCur - 1))
    (hspell : (sig c).map astOfV = (Ast.tSelSet sels).map some)
    (hhead : ∀ hd tl, c = hd :: tl → isIgnoredKind hd.kind = false)
    (ht : Toks s = c ++ q0 :: rest) (hq : isIgnoredKind q0.kind = false)
    (h : (operationDefinition n).run s = .ok () s') : Toks s' = q0 :: rest ∧ (Doomed s' ↔ Doomed s) := by
  obtain ⟨e, t, _⟩ := Parse.operationDefinition_complete n s s' () c _ q0 rest w h
    (Or.inr ⟨sels, hne, rfl, hb, hfit⟩) ⟨hspell, hhead⟩ ht hq trivial trivial
  exact ⟨t, e.doom⟩

/-- **`fragment::fragment_definition`, acceptance is complete**: `fragment FragmentName TypeCondition Directives?
    SelectionSet` with `FragmentName ≠ on`.  (The underlying lemma `Parse.Exact.cmp_fragBody` is about the function from
    the keyword on.) -/
theorem fragment_definition_accept_complete (n : Nat) (s s' : PState) (name tc : Ast.Str) (dirs : List Ast.Directive)
    (sels : Ast.Sels) (c : List Tok) (q0 : Tok) (rest : List Tok) (w : TW s)
    (hnm : name ≠ Ast.sOn) (hd : dirsFit false (s.recLimit - s.recCur) dirs)
    (hne : sels ≠ Ast.Sels.nil) (hb : 1 ≤ s.recLimit - s.recCur) (hfit : fitSels sels (s.recLimit - s.recCur - 1))
    (hspell : (sig c).map astOfV = (Ast.tDefinition false (.fragment name tc dirs sels)).map some)
    (hhead : ∀ hd tl, c = hd :: tl → isIgnoredKind hd.kind = false)
    (ht : Toks s = c ++ q0 :: rest) (hq : isIgnoredKind q0.kind = false)
    (h : (fragmentDefinition n).run s = .ok () s') : Toks s' = q0 :: rest ∧ (Doomed s' ↔ Doomed s) := by
  obtain ⟨e, t, _⟩ := Parse.fragmentDefinition_complete n s s' () c _ q0 rest w h
    ⟨name, tc, dirs, sels, rfl, hnm, hd, hne, hb, hfit⟩ ⟨hspell, hhead⟩ ht hq trivial trivial
  exact ⟨t, e.doom⟩

/-- **an executable definition through the document dispatch** (`document()`'s `match` on the token kind and
    `select_definition` on the token TEXT): from a state whose buffered current token `t` is the first token of a
    spelling of an executable definition `x` (`LExecDef`: full operation, shorthand, or fragment definition, within
    the budget), the selected definition parser consumed exactly that spelling without error.  The hypothesis on
    `{` tokens is the lexer fact `curly_token_text`. -/
theorem executable_definition_accept_complete (n : Nat) (s s' : PState) (t : Tok) (tl : List Tok) (x : List Ast.Tok)
    (q0 : Tok) (rest : List Tok) (w : TW s) (hcur : s.current = some t) (hcurly : t.kind = .lCurly → t.data = ['{'])
    (hx : LExecDef (s.recLimit - s.recCur) x) (hspell : (sig (t :: tl)).map astOfV = x.map some)
    (hhead : isIgnoredKind t.kind = false)
    (ht : Toks s = (t :: tl) ++ q0 :: rest) (hq : isIgnoredKind q0.kind = false)
    (h : (documentDispatch n t.kind).run s = .ok () s') : Toks s' = q0 :: rest ∧ (Doomed s' ↔ Doomed s) := by
  obtain ⟨e, t2⟩ := Parse.dispatch_comp n s s' t tl x q0 rest w hcur hcurly hx
    ⟨hspell, by intro hd tl' e; injection e with e _; subst e; exact hhead⟩ ht hq h
  exact ⟨t2, e.doom⟩

/-- the lexer fact used by the dispatch, proved for the token queue of EVERY source text: a `{` token has the text `{` -/
theorem curly_token_text (src : Parse.Str) : ∀ t ∈ srcToks src, t.kind = .lCurly → t.data = ['{'] :=
  Parse.curlyQ_srcToks src

/-- **`Parser::parse` accepts every executable document of the grammar within the recursion limit.**
    If the source has no lexer error and its significant tokens — with ARBITRARY ignored tokens anywhere, also in
    front — are the concatenation of one or more executable definitions (`IsExecDocFit rl`: each a full operation
    definition, a shorthand `{ Selection+ }`, or a fragment definition with name ≠ `on`, each within the recursion
    limit `rl`: selection-set nesting + 1 ≤ rl, value / type nesting ≤ rl), followed by EOF, then the parse reports
    ZERO errors.  No hypothesis on the outcome: `parse` always ends with a tree (C01 `parse_terminates`, `parse_no_panic`).
    Not covered: descriptions in front of executable definitions, type-system definitions and extensions. -/
theorem executable_document_accept_complete (rl : Nat) (src : Parse.Str) (x : List Ast.Tok) (ts : List Tok) (e : Tok)
    (hclean : LexClean src) (hsig : sig (srcToks src) = ts ++ [e]) (he : e.kind = .eof)
    (hx : TokIs ts x) (hfit : IsExecDocFit rl x) : (parse .document none rl src).errors = [] :=
  Parse.parseDocument_complete_sig rl src x ts e hclean hsig he hx hfit

-- witnesses (kernel-evaluated on the model): a document of all five kinds of executable definition; the budget is
-- exact (`{a}` needs 1; `[[Int]]` needs 2); a fragment named `on` is rejected
example : (parse .document none 500 " fragment F on T { a } {b} query { c } mutation M { d } subscription { e }".toList).errors = [] := by decide +kernel
example : (parse .document none 500 "query query { a } fragment fragment on fragment { a }".toList).errors = [] := by decide +kernel
example : (parse .document none 0 "{a}".toList).errors ≠ [] := by decide +kernel
example : (parse .document none 1 "{a}".toList).errors = [] := by decide +kernel
example : (parse .document none 1 "query Q($v: [Int] = [1]) @d { a }".toList).errors = [] := by decide +kernel
example : (parse .document none 1 "query Q($v: [[Int]]) { a }".toList).errors ≠ [] := by decide +kernel
example : (parse .document none 2 "query Q($v: [[Int]]) { a }".toList).errors = [] := by decide +kernel
example : (parse .document none 500 "fragment on on T { a }".toList).errors ≠ [] := by decide +kernel

/-! ### completeness: the whole Document grammar — descriptions, type-system definitions and extensions -/

/-- **A type-system definition or extension through the document dispatch, acceptance is complete.**  `l : LooseDef`
    is the abstract syntax of what the definition parsers accept (the SAME set as in the soundness theorems:
    `x = l.toks`; scalar / object / interface / union / enum / input object / directive / schema definitions with
    optional description, and the seven extensions; separated lists with optional leading `&` / `|`).
    `looseFit b l` are the exact guards: every directive list and default value is `Const`, within the budget
    (`vdepth ≤ b`), type references within the budget (`tyDepth ≤ b`), enum values are not `true`/`false`/`null`,
    directive locations are among the nineteen names, a schema definition has ≥ 1 root operation type (all named), an
    extension has ≥ 1 component; empty braces cannot be written at all (`tBraced`).  `looseFollow l q`: the token
    after the definition must not continue it (`@`, `(`, `{` after a definition without body, `&`/`|` after a list,
    the Name `implements` after an object / interface type without fields).  From a state whose buffered current
    token is the first token of any spelling of `l.toks`, the selected definition parser consumed exactly the
    spelling and reported no error. -/
theorem type_system_definition_accept_complete (n : Nat) (s s' : PState) (t : Tok) (tl : List Tok) (l : LooseDef)
    (q0 : Tok) (rest : List Tok) (w : TW s) (hlex : LexQ (Toks s)) (hcur : s.current = some t)
    (hfit : looseFit (s.recLimit - s.recCur) l) (hfollow : looseFollow l q0)
    (hspell : (sig (t :: tl)).map astOfV = l.toks.map some) (hhead : isIgnoredKind t.kind = false)
    (ht : Toks s = (t :: tl) ++ q0 :: rest) (hq : isIgnoredKind q0.kind = false)
    (h : (documentDispatch n t.kind).run s = .ok () s') : Toks s' = q0 :: rest ∧ (Doomed s' ↔ Doomed s) := by
  obtain ⟨e, t2⟩ := Parse.loose_dispatch_comp n s s' t tl l q0 rest w hlex hcur hfit hfollow
    ⟨hspell, by intro hd tl' e; injection e with e _; subst e; exact hhead⟩ ht hq h
  exact ⟨t2, e.doom⟩

/-- **document_accept_complete.**  Every Document of the grammar within the recursion limit parses with ZERO errors:
    `its` is a non-empty list of `DocItem`s (operation / fragment definitions in the long or shorthand
    form, type-system definitions and extensions — with descriptions where the grammar allows them, and with the
    leading-separator liberty of the code), every item satisfies its guard `itemFit rl`, read on the abstract syntax with the over-charging depth (`execFit` for
    executable definitions, `looseFit` for the type system), and `DocFollowOk its`: every type-system definition may be
    followed by the first token of the next definition (in particular a definition that ends without its `{ … }` body
    is not followed by a shorthand query).  If the source has no lexer error and its significant tokens — arbitrary
    ignored tokens anywhere, also in front — are `docToks its` followed by EOF, the parse reports no error.  No
    hypothesis on the outcome (C01 `parse_terminates`, `parse_no_panic`).
    Not in `itemFit` (so not covered): a root operation type without its named type (the accepted-by-the-code
    liberty that is a known finding). -/
theorem document_accept_complete (rl : Nat) (src : Parse.Str) (its : List DocItem) (ts : List Tok) (e : Tok)
    (hclean : LexClean src) (hsig : sig (srcToks src) = ts ++ [e]) (he : e.kind = .eof)
    (hx : ts.map astOfV = (docToks its).map some)
    (hne : its ≠ []) (hfit : ∀ i ∈ its, itemFit rl i) (hfollow : DocFollowOk its) :
    (parse .document none rl src).errors = [] :=
  Parse.parseDocument_complete_items rl src its ts e hclean hsig he hx hne hfit hfollow

/-- the completeness language lies inside the soundness language of `document_accepted_is_in_grammar`: `itemFit` implies `DocItem.ok` -/
theorem document_complete_language_is_sound_language (rl : Nat) (its : List DocItem) (h : ∀ i ∈ its, itemFit rl i) :
    ∀ i ∈ its, i.ok := fun i hi => Parse.itemFit_ok rl i (h i hi)

/-- **The two inclusions that bracket the accepted language** (for sources without lexer error, no token limit):
    `{docToks its | itemFit, DocFollowOk}` ⊆ accepted ⊆ `{docToks its | ok}`.  The right inclusion is
    `document_accepted_is_in_grammar`; it is STRICT (witnesses below: `DocItem.ok` says nothing about the values, enum
    value names, the budget or what follows), so `ok` does not characterise acceptance (`document_accept_iff` does, with
    the exact guards).  What the parser rejects outside `itemFit` is shown by the kernel-evaluated witnesses, guard by
    guard. -/
theorem document_accept_sandwich (rl : Nat) (src : Parse.Str) (ts : List Tok) (e : Tok)
    (hclean : LexClean src) (hsig : sig (srcToks src) = ts ++ [e]) (he : e.kind = .eof) :
    ((∃ its : List DocItem, its ≠ [] ∧ (∀ i ∈ its, itemFit rl i) ∧ DocFollowOk its ∧ ts.map astOfV = (docToks its).map some) →
      (parse .document none rl src).errors = []) ∧
    ((parse .document none rl src).errors = [] →
      ∃ its : List DocItem, its ≠ [] ∧ (∀ i ∈ its, i.ok) ∧ ts.map astOfV = (docToks its).map some) := by
  constructor
  · rintro ⟨its, hne, hfit, hfol, hx⟩
    exact document_accept_complete rl src its ts e hclean hsig he hx hne hfit hfol
  · intro herr
    obtain ⟨root, ho⟩ := Parse.parseDocument_tree none rl src
    obtain ⟨_, ts', e', its, h1, h2, h3, h4, h5, _⟩ := Parse.document_accepted_items rl src root ho herr
    have : ts' = ts := by
      have h := hsig.symm.trans h1
      have hl := congrArg List.length h
      simp at hl
      exact ((List.append_inj h hl).1).symm
    subst this
    exact ⟨its, h3, h4, h5⟩

/-- strict corollary: a document printed by C08's `tDefinition` (no liberty used: `strictItems its = some items`) within
    the guards is accepted, whatever the ignored tokens -/
theorem strict_document_accept_complete (rl : Nat) (src : Parse.Str) (its : List DocItem) (items : List Ast.Item)
    (ts : List Tok) (e : Tok) (hstrict : strictItems its = some items)
    (hclean : LexClean src) (hsig : sig (srcToks src) = ts ++ [e]) (he : e.kind = .eof)
    (hx : ts.map astOfV = (Ast.itemsToks items).map some)
    (hne : its ≠ []) (hfit : ∀ i ∈ its, itemFit rl i) (hfollow : DocFollowOk its) :
    (parse .document none rl src).errors = [] := by
  rw [← (Parse.strictItems_toks its items hstrict).1] at hx
  exact document_accept_complete rl src its ts e hclean hsig he hx hne hfit hfollow

-- every guard is necessary (kernel-evaluated on the model); the left input of each pair is a `docToks` of `ok` items
-- (so it is in the soundness language) and is REJECTED, the right one satisfies the guard and is accepted
example : (parse .document none 500 "enum E { true }".toList).errors ≠ [] ∧ (parse .document none 500 "enum E { A }".toList).errors = [] := by decide +kernel
example : (parse .document none 500 "type T { f(a: Int = $v): Int }".toList).errors ≠ [] ∧ (parse .document none 500 "type T { f(a: Int = 1): Int }".toList).errors = [] := by decide +kernel
example : (parse .document none 500 "input I { a: Int = 1 @d(x: $v) }".toList).errors ≠ [] := by decide +kernel
example : (parse .document none 500 "directive @d on FOO".toList).errors ≠ [] ∧ (parse .document none 500 "directive @d(a: Int) repeatable on | QUERY | FIELD".toList).errors = [] := by decide +kernel
example : (parse .document none 500 "extend type T".toList).errors ≠ [] ∧ (parse .document none 500 "extend type T @d".toList).errors = [] := by decide +kernel
example : (parse .document none 500 "extend scalar S".toList).errors ≠ [] ∧ (parse .document none 500 "extend schema".toList).errors ≠ [] ∧ (parse .document none 500 "extend union U".toList).errors ≠ [] := by decide +kernel
example : (parse .document none 500 "schema @d".toList).errors ≠ [] ∧ (parse .document none 500 "schema { query: Q mutation: M }".toList).errors = [] := by decide +kernel
-- the follow guard: `type T` followed by the shorthand query `{a}` is read as a fields definition; after `scalar S` it is fine
example : (parse .document none 500 "type T {a}".toList).errors ≠ [] ∧ (parse .document none 500 "scalar S {a}".toList).errors = [] := by decide +kernel
-- the budget: a list type costs one level, a list default value too; no brace level is charged for type-system bodies
example : (parse .document none 0 "type T { a: [Int] }".toList).errors ≠ [] ∧ (parse .document none 1 "type T { a: [Int] }".toList).errors = [] := by decide +kernel
example : (parse .document none 0 "type T { a(x: Int = [1]): Int }".toList).errors ≠ [] ∧ (parse .document none 0 "type T { a: Int }".toList).errors = [] := by decide +kernel
-- accepted within the guards: descriptions, leading separators, definitions without body, any keyword as a name
example : (parse .document none 500 "\"d\" type T \"e\" scalar S extend enum E { A } {a}".toList).errors = [] := by decide +kernel
example : (parse .document none 500 "type T implements & A & B @d { a: [Int!]! } union U = | A | B union V enum E".toList).errors = [] := by decide +kernel
example : (parse .document none 500 "interface I implements A { a: Int } type implements { a: Int }".toList).errors = [] := by decide +kernel

/-! ### exact soundness: the recursion budget and the well-formedness facts, from an error-free run -/

/-- the depth notion that is EXACT for the parser (`Parse.Exact.vdepth`: each ITEM of a list / each object-field value is
    under `recursion_limit`, the list itself is not, so `[]` and `{}` cost nothing) against the over-charging
    `Parse.vdepth` of `value_accept_complete`: it is never larger and at most one smaller -/
theorem value_depth_exact_vs_charged (v : Ast.Value) :
    Parse.Exact.vdepth v ≤ Parse.vdepth v ∧ Parse.vdepth v ≤ Parse.Exact.vdepth v + 1 := Parse.Exact.vdepth_le v

/-- **`value`, acceptance iff grammar** (one run from a state without error, state level): with the queue `cs ++ q0 :: rest` (`cs` not starting with
    an ignored token, `q0` significant and not EOF), the run of `value` ended error-free right in front of `q0` exactly
    when `cs` spells ONE well-formed value whose exact nesting depth is within the remaining recursion budget -/
theorem value_accept_iff (n : Nat) (isConst popOnError : Bool) (s s' : PState) (cs : List Tok) (q0 : Tok) (rest : List Tok)
    (w : TW s) (he : EofEnd s) (hnd0 : ¬ Doomed s) (ht : Toks s = cs ++ q0 :: rest)
    (hhead : ∀ hd tl, cs = hd :: tl → isIgnoredKind hd.kind = false)
    (hq : isIgnoredKind q0.kind = false) (hqe : q0.kind ≠ .eof)
    (h : (value n isConst popOnError).run s = .ok () s') :
    (¬ Doomed s' ∧ Toks s' = q0 :: rest) ↔
      ∃ v, (sig cs).map astOfV = (Ast.tValue v).map some ∧ valueOk isConst v = true ∧
        Parse.Exact.vdepth v ≤ s.recLimit - s.recCur :=
  Parse.Exact.value_iff n isConst popOnError s s' cs q0 rest w he hnd0 ht hhead hq hqe h

/-- **`value`, exact soundness**: an error-free run consumed one well-formed value WITHIN THE BUDGET (or stopped at EOF) -/
theorem value_accept_sound_exact (n : Nat) (isConst popOnError : Bool) (s s' : PState) (w : TW s) (he : EofEnd s)
    (h : (value n isConst popOnError).run s = .ok () s') (hnd : ¬ Doomed s') :
    ∃ cs, Toks s = cs ++ Toks s' ∧ NoEof cs ∧
      ((∃ v : Ast.Value, (sig cs).map astOfV = (Ast.tValue v).map some ∧ valueOk isConst v = true ∧
          Parse.Exact.vdepth v ≤ s.recLimit - s.recCur) ∨ AtEof s') := by
  obtain ⟨⟨cs, a, b, d⟩, _⟩ := Parse.Exact.value_sound n isConst popOnError s s' w he h hnd
  refine ⟨cs, a, b, ?_⟩
  rcases d with ⟨v, h1, h2, h3⟩ | d
  · exact Or.inl ⟨v, h1, h2, by simpa [Parse.Exact.bud] using h3⟩
  · exact Or.inr d

/-- **`arguments` / `directives`, exact soundness**: all values well formed and within the budget -/
theorem arguments_accept_sound_exact (n : Nat) (isConst : Bool) (s s' : PState) (t : Tok) (rest : List Tok) (w : TW s)
    (he : EofEnd s) (ht : Toks s = t :: rest) (hk : t.kind = .lParen)
    (h : (arguments n isConst).run s = .ok () s') (hnd : ¬ Doomed s') :
    ∃ cs args, Toks s = cs ++ Toks s' ∧ NoEof cs ∧ EofEnd s' ∧ args ≠ [] ∧
      (sig cs).map astOfV = (Ast.tArguments args).map some ∧
      ∀ a ∈ args, valueOk isConst a.2 = true ∧ Parse.Exact.vdepth a.2 ≤ s.recLimit - s.recCur :=
  Parse.Exact.arguments_sound n isConst s s' t rest w he ht hk h hnd

theorem directives_accept_sound_exact (n : Nat) (isConst : Bool) (s s' : PState) (w : TW s) (he : EofEnd s)
    (h : (directives n isConst).run s = .ok () s') (hnd : ¬ Doomed s') :
    ∃ cs ds, Toks s = cs ++ Toks s' ∧ NoEof cs ∧ EofEnd s' ∧
      (sig cs).map astOfV = (Ast.tDirectives ds).map some ∧
      ∀ d ∈ ds, ∀ a ∈ d.args, valueOk isConst a.2 = true ∧ Parse.Exact.vdepth a.2 ≤ s.recLimit - s.recCur :=
  Parse.Exact.directives_sound n isConst s s' w he h hnd

/-- **`selection_set`, exact soundness**: started on `{`, an error-free run consumed `{ ss }` for a non-empty `ss` within
    the exact budget (`1 ≤ b`, `Parse.Exact.fitSels ss (b − 1)`: spread names ≠ `on`, inline fragments non-empty, argument
    values well formed and within the budget, brace levels) — with `selection_set_accept_complete` (also proved for the
    exact depth: `Parse.Exact.selectionSet_complete`) this is acceptance = grammar for selection sets. -/
theorem selection_set_accept_sound_exact (n : Nat) (s s' : PState) (t : Tok) (rest : List Tok) (w : TW s) (he : EofEnd s)
    (ht : Toks s = t :: rest) (hk : t.kind = .lCurly) (h : (selectionSet n).run s = .ok () s') (hnd : ¬ Doomed s') :
    ∃ (cs : List Tok) (ss : Ast.Sels), Toks s = cs ++ Toks s' ∧ NoEof cs ∧ ss ≠ Ast.Sels.nil ∧
      (sig cs).map astOfV = (Ast.tSelSet ss).map some ∧ 1 ≤ s.recLimit - s.recCur ∧
      Parse.Exact.fitSels ss (s.recLimit - s.recCur - 1) := by
  obtain ⟨cs, x, a, b, _, d, ss, hne, rfl, hb, hf⟩ := (Parse.Exact.sel_all_sound n).1 s s' t rest w he ht hk h hnd
  exact ⟨cs, ss, a, b, hne, d, hb, hf⟩

/-! ### exact soundness for types, variable / operation / fragment definitions, and the "if and only if" for
    executable documents -/

/-- **`ty`, exact soundness** (one run, any state): an error-free run consumed the tokens of ONE type reference whose
    list nesting is within the remaining recursion budget of the START state -/
theorem type_reference_accept_sound_exact (n : Nat) (s s' : PState) (w : TW s) (he : EofEnd s)
    (h : (ty n).run s = .ok () s') (hnd : ¬ Doomed s') :
    ∃ (cs : List Tok) (t : Ast.Ty), Toks s = cs ++ Toks s' ∧ NoEof cs ∧
      (sig cs).map astOfV = (Ast.tTy t).map some ∧ tyDepth t ≤ s.recLimit - s.recCur := by
  obtain ⟨cs, x, a, b, _, d, t, rfl, ht⟩ := Parse.Exact.ty_sound n s s' w he h hnd
  exact ⟨cs, t, a, b, d, ht⟩

/-- **`variable_definitions`, acceptance iff grammar** (one run from a state without error, started on `(`): with the queue
    `(t :: tl) ++ q0 :: rest`, `q0` significant, the run ended error-free right in front of `q0` exactly when `t :: tl`
    spells `( VariableDefinition+ )` with every type (`tyDepth`), every default value (`Const`, exact `vdepth`) and every
    directive argument (`Const`, exact `vdepth`) within the remaining budget (`Parse.Exact.LVarDefs`) -/
theorem variable_definitions_accept_iff (n : Nat) (s s' : PState) (t : Tok) (tl : List Tok) (q0 : Tok) (rest : List Tok)
    (w : TW s) (he : EofEnd s) (hnd0 : ¬ Doomed s) (ht : Toks s = (t :: tl) ++ q0 :: rest) (hk : t.kind = .lParen)
    (hq : isIgnoredKind q0.kind = false) (h : (variableDefinitions n).run s = .ok () s') :
    (¬ Doomed s' ∧ Toks s' = q0 :: rest) ↔
      ∃ x, (sig (t :: tl)).map astOfV = x.map some ∧ Parse.Exact.LVarDefs (s.recLimit - s.recCur) x :=
  Parse.Exact.variableDefinitions_iff n s s' t tl q0 rest w he hnd0 ht hk hq h

/-- **`operation_definition`, acceptance iff grammar** (one run from a state without error, state level): with the queue `cs ++ q0 :: rest` (`cs`
    not starting with an ignored token, `q0` significant), the run ended error-free right in front of `q0` exactly when
    `cs` spells a full operation definition `OperationType Name? VariableDefinitions? Directives? SelectionSet` or the
    shorthand `{ Selection+ }` within the exact budget (`Parse.Exact.LOperation`: variable definitions as above,
    directives non-`Const` within the budget, selection set non-empty with `1 ≤ budget` and `fitSels ss (budget − 1)`) -/
theorem operation_definition_accept_iff (n : Nat) (s s' : PState) (cs : List Tok) (q0 : Tok) (rest : List Tok)
    (w : TW s) (he : EofEnd s) (hnd0 : ¬ Doomed s) (ht : Toks s = cs ++ q0 :: rest)
    (hhead : ∀ hd tl, cs = hd :: tl → isIgnoredKind hd.kind = false) (hq : isIgnoredKind q0.kind = false)
    (h : (operationDefinition n).run s = .ok () s') :
    (¬ Doomed s' ∧ Toks s' = q0 :: rest) ↔
      ∃ x, (sig cs).map astOfV = x.map some ∧ Parse.Exact.LOperation (s.recLimit - s.recCur) x :=
  Parse.Exact.operationDefinition_iff n s s' cs q0 rest w he hnd0 ht hhead hq h

/-- **`fragment_definition`, acceptance iff grammar** (one run from a state without error, entered on the keyword `fragment` — which is how the
    document dispatch calls it): `fragment FragmentName TypeCondition Directives? SelectionSet` with
    `FragmentName ≠ on`, within the exact budget (`Parse.Exact.LFragment`) -/
theorem fragment_definition_accept_iff (n : Nat) (s s' : PState) (t : Tok) (tl : List Tok) (q0 : Tok) (rest : List Tok)
    (w : TW s) (he : EofEnd s) (hnd0 : ¬ Doomed s) (ht : Toks s = (t :: tl) ++ q0 :: rest) (hk : t.kind = .name)
    (hd : t.data = "fragment".toList) (hq : isIgnoredKind q0.kind = false)
    (h : (fragmentDefinition n).run s = .ok () s') :
    (¬ Doomed s' ∧ Toks s' = q0 :: rest) ↔
      ∃ x, (sig (t :: tl)).map astOfV = x.map some ∧ Parse.Exact.LFragment (s.recLimit - s.recCur) x :=
  Parse.Exact.fragmentDefinition_iff n s s' t tl q0 rest w he hnd0 ht hk hd hq h

/-- the guard of `executable_document_accept_iff`, on the significant tokens of the source: none is a String token (a
    description) and none has the text of one of the nine keywords by which `select_definition` starts a type-system
    definition or extension -/
abbrev ExecutableOnly (src : Parse.Str) : Prop :=
  ∀ t ∈ sig (srcToks src), t.kind ≠ .stringValue ∧
    (t.data ≠ "directive".toList ∧ t.data ≠ "enum".toList ∧ t.data ≠ "extend".toList ∧ t.data ≠ "input".toList ∧
     t.data ≠ "interface".toList ∧ t.data ≠ "type".toList ∧ t.data ≠ "scalar".toList ∧ t.data ≠ "schema".toList ∧
     t.data ≠ "union".toList)

/-- **`Parser::parse` on executable-only sources: zero errors IF AND ONLY IF the tokens are an executable document within
    the exact recursion budget.**  For a source whose significant tokens contain no String and none of the nine
    type-system keywords (`ExecutableOnly`; sufficient for the dispatch to reach only `operation_definition` and
    `fragment_definition`): the parse reports ZERO errors exactly when the source lexes cleanly and its significant
    tokens — ignored tokens anywhere — are one or more executable definitions followed by EOF, each a full operation
    definition, a shorthand `{ Selection+ }` or a fragment definition with name ≠ `on`, each within the EXACT budget `rl`
    (`Parse.Exact.IsExecDocFit rl`: list nesting of types ≤ rl; exact nesting of default values and argument values
    ≤ rl where `[]`/`{}` cost nothing; default values and variable-definition directives `Const`; selection-set nesting
    + 1 ≤ rl; inline fragments and sub-selections non-empty; spread names ≠ `on`).  The direction ⇐ holds without the
    guard (`Parse.Exact.parseDocument_complete_sig`).  The guard excludes some executable documents (a field named
    `type`); for those only ⇐ is stated here. -/
theorem executable_document_accept_iff (rl : Nat) (src : Parse.Str) (hg : ExecutableOnly src) :
    (parse .document none rl src).errors = [] ↔
      LexClean src ∧ ∃ ts x e, sig (srcToks src) = ts ++ [e] ∧ e.kind = .eof ∧ ts.map astOfV = x.map some ∧
        Parse.Exact.IsExecDocFit rl x :=
  Parse.Exact.parseDocument_exec_iff rl src hg

-- witnesses (kernel-evaluated on the model) for the guards of the variable-definition language and of the document iff:
-- default values and variable-definition directives are `Const`; the default value's exact depth counts (`[]` is free);
-- without the `ExecutableOnly` guard ⇒ fails (a type-system definition is accepted), while a guard-violating executable
-- document is still accepted (⇐ needs no guard); a description in front of an executable definition is an error
example : (parse .document none 500 "query Q($v: Int = $x) { a }".toList).errors ≠ [] := by decide +kernel
example : (parse .document none 500 "query Q($v: Int @d(a: $x)) { a }".toList).errors ≠ [] := by decide +kernel
example : (parse .document none 500 "query Q($v: Int = 1 @d(a: [2])) @e(b: $v) { a }".toList).errors = [] := by decide +kernel
example : (parse .document none 1 "query Q($v: Int = [[1]]) { a }".toList).errors ≠ [] := by decide +kernel
example : (parse .document none 2 "query Q($v: Int = [[1]]) { a }".toList).errors = [] := by decide +kernel
example : (parse .document none 1 "query Q($v: Int = [[]]) { a }".toList).errors = [] := by decide +kernel
example : (parse .document none 500 "query Q() { a }".toList).errors ≠ [] := by decide +kernel
example : (parse .document none 500 "query Q($v Int) { a }".toList).errors ≠ [] := by decide +kernel
example : (parse .document none 500 "scalar S".toList).errors = [] := by decide +kernel
example : (parse .document none 500 "{ type }".toList).errors = [] := by decide +kernel
example : (parse .document none 500 "\"d\" { a }".toList).errors ≠ [] := by decide +kernel

/-! ### the whole grammar at the exact budget — parameterised soundness, the exact follow condition -/

/-- **the follow guard of `document_accept_complete` is sufficient, not exact** (kernel-evaluated): a shorthand query may
    directly follow a type-system definition whose braces body is written (`DocFollowOk` forbids `{` after every object /
    interface / enum / input definition), while after a definition WITHOUT body the `{` is read as its body.  Hence
    "zero errors ⇔ … `DocFollowOk its`" is false; the exact condition is `Parse.Exact.DocFollowX`. -/
theorem document_follow_guard_not_exact :
    (parse .document none 500 "type T { a: Int } { b }".toList).errors = [] ∧
    (parse .document none 500 "enum E { A } { b }".toList).errors = [] ∧
    (parse .document none 500 "type T { b }".toList).errors ≠ [] ∧
    (parse .document none 500 "scalar S (".toList).errors ≠ [] := by decide +kernel

/-- `DocFollowOk` (the guard of the completeness theorem) implies the exact follow condition `DocFollowX`: only a
    definition without its braces body restricts the next token (it must not be `{`) -/
theorem document_follow_ok_implies_exact (its : List DocItem) (h : Parse.Exact.DocFollowOk its) : Parse.Exact.DocFollowX its :=
  Parse.Exact.docFollowX_of_ok its h

/-- **document_accept_sound_exact, parameterised.**  `L n : Parse.Exact.DefExact n` are the exact-soundness statements of
    the eight type-system definition parsers and the seven extension parsers (entered as the dispatcher enters them on a
    lexer queue, an error-free run consumed `l.toks` for ONE `LooseDef l` with `Parse.Exact.looseFit` at the budget of
    the start state, and the next significant token is not `{` when the braces body is absent); operation and fragment
    definitions need no hypothesis.  Then: zero errors of `Parser::parse` IMPLIES that the source lexes cleanly and its
    significant tokens are `docToks its ++ [EOF]` for a non-empty list of items, every item within the EXACT budget
    (`Parse.Exact.itemFit rl`) and the list satisfying the exact follow condition.  No guard on the source; the two
    liberties are part of `DocItem`.  The fields `schema` and `schemaExt` of `DefExact` ask for `looseFit` (every root
    operation type named), which the recorded finding refutes (`schema_definition_accept_sound_exact` gives `looseFitX`
    only), so `L` cannot be supplied; the statement without hypothesis is `document_accept_sound_exact_unconditional`,
    with `itemFitX`. -/
theorem document_accept_sound_exact (L : ∀ n, Parse.Exact.DefExact n) (rl : Nat) (src : Parse.Str)
    (herr : (parse .document none rl src).errors = []) :
    LexClean src ∧ ∃ (ts : List Tok) (its : List DocItem) (e : Tok), sig (srcToks src) = ts ++ [e] ∧ e.kind = .eof ∧
      ts.map astOfV = (docToks its).map some ∧ its ≠ [] ∧ (∀ i ∈ its, Parse.Exact.itemFit rl i) ∧ Parse.Exact.DocFollowX its :=
  (Parse.Exact.document_sandwichG L rl src).1 herr

/-- **document_accept_complete at the exact budget** (no hypothesis): the converse for the stronger follow guard -/
theorem document_accept_complete_exact (rl : Nat) (src : Parse.Str) (its : List DocItem) (ts : List Tok) (e : Tok)
    (hclean : LexClean src) (hsig : sig (srcToks src) = ts ++ [e]) (he : e.kind = .eof)
    (hx : ts.map astOfV = (docToks its).map some) (hne : its ≠ []) (hfit : ∀ i ∈ its, Parse.Exact.itemFit rl i)
    (hfol : Parse.Exact.DocFollowOk its) : (parse .document none rl src).errors = [] :=
  Parse.Exact.parseDocument_complete_items rl src its ts e hclean hsig he hx hne hfit hfol

/-! ### exact soundness of the type-system productions: the leaves, the eight definitions, the `scalar`, `enum`,
`input` and `schema` extensions -/

/-- **input_value_definition_accept_sound_exact.**  An error-free run of `input_value_definition` entered on a Name or
    String token consumed `tIVD v` for ONE input value definition within the budget of the start state
    (`Parse.Exact.ivdFit`: type nesting, `Const` default value of exact depth, `Const` directives) — or stopped at the
    end of input (the `AtEof` alternative of `ConsE`, excluded by whatever closes the list). -/
theorem input_value_definition_accept_sound_exact (n : Nat) (s s' : PState) (t : Tok) (rest : List Tok) (w : TW s) (he : EofEnd s)
    (ht : Toks s = t :: rest) (hk : isNameOrStringK t.kind = true)
    (h : (inputValueDefinition n).run s = .ok () s') (hnd : ¬ Doomed s') :
    Parse.Exact.ConsE s s' (fun x => ∃ v : Ast.InputValueDef, x = Ast.tIVD v ∧ Parse.Exact.ivdFit (Parse.Exact.bud s) v) :=
  Parse.Exact.ivd_sound n s s' t rest w he ht hk h hnd

/-- **field_definition_accept_sound_exact**: `Description? Name ArgumentsDefinition? : Type Directives[Const]?` within the
    budget of the start state (`Parse.Exact.fieldFit`) -/
theorem field_definition_accept_sound_exact (n : Nat) (s s' : PState) (t : Tok) (rest : List Tok) (w : TW s) (he : EofEnd s)
    (ht : Toks s = t :: rest) (hk : isNameOrStringK t.kind = true)
    (h : (fieldDefinition n).run s = .ok () s') (hnd : ¬ Doomed s') :
    Parse.Cons s s' (Parse.Exact.LFieldDef (Parse.Exact.bud s)) :=
  Parse.Exact.fieldDefinition_sound n s s' t rest w he ht hk h hnd

/-- **enum_value_definition_accept_sound_exact**: `Description? EnumValue Directives[Const]?` (`Parse.Exact.enumValFit`:
    the value is not `true` / `false` / `null`, the directives within the budget) -/
theorem enum_value_definition_accept_sound_exact (n : Nat) (s s' : PState) (t : Tok) (rest : List Tok) (w : TW s) (he : EofEnd s)
    (ht : Toks s = t :: rest) (hk : isNameOrStringK t.kind = true)
    (h : (enumValueDefinition n).run s = .ok () s') (hnd : ¬ Doomed s') :
    Parse.Cons s s' (fun x => ∃ v : Ast.EnumValueDef, x = Ast.tEnumValueDef v ∧ Parse.Exact.enumValFit (Parse.Exact.bud s) v) :=
  Parse.Exact.enumValueDefinition_sound n s s' t rest w he ht hk h hnd

/-- the braced / parenthesised lists `( InputValueDefinition+ )`, `{ InputValueDefinition+ }`, `{ FieldDefinition+ }`,
    `{ EnumValueDefinition+ }`, entered on their opening token: every item within the budget of the start state -/
theorem arguments_definition_accept_sound_exact (n : Nat) (s s' : PState) (t : Tok) (rest : List Tok) (w : TW s) (he : EofEnd s)
    (ht : Toks s = t :: rest) (hk : t.kind = .lParen) (h : (argumentsDefinition n).run s = .ok () s') (hnd : ¬ Doomed s') :
    Parse.Cons s s' (Parse.Exact.LArgsDef (Parse.Exact.bud s)) :=
  Parse.Exact.argumentsDefinition_sound n s s' t rest w he ht hk h hnd

theorem input_fields_definition_accept_sound_exact (n : Nat) (s s' : PState) (t : Tok) (rest : List Tok) (w : TW s) (he : EofEnd s)
    (ht : Toks s = t :: rest) (hk : t.kind = .lCurly) (h : (inputFieldsDefinition n).run s = .ok () s') (hnd : ¬ Doomed s') :
    Parse.Cons s s' (Parse.Exact.LInputFields (Parse.Exact.bud s)) :=
  Parse.Exact.inputFieldsDefinition_sound n s s' t rest w he ht hk h hnd

theorem fields_definition_accept_sound_exact (n : Nat) (s s' : PState) (t : Tok) (rest : List Tok) (w : TW s) (he : EofEnd s)
    (ht : Toks s = t :: rest) (hk : t.kind = .lCurly) (h : (fieldsDefinition n).run s = .ok () s') (hnd : ¬ Doomed s') :
    Parse.Cons s s' (Parse.Exact.LFields (Parse.Exact.bud s)) :=
  Parse.Exact.fieldsDefinition_sound n s s' t rest w he ht hk h hnd

theorem enum_values_definition_accept_sound_exact (n : Nat) (s s' : PState) (t : Tok) (rest : List Tok) (w : TW s) (he : EofEnd s)
    (ht : Toks s = t :: rest) (hk : t.kind = .lCurly) (h : (enumValuesDefinition n).run s = .ok () s') (hnd : ¬ Doomed s') :
    Parse.Cons s s' (Parse.Exact.LEnumVals (Parse.Exact.bud s)) :=
  Parse.Exact.enumValuesDefinition_sound n s s' t rest w he ht hk h hnd

/-- **scalar_definition_accept_sound_exact**: the field `scalar` of `Parse.Exact.DefExact` — entered as the dispatcher
    enters it on a lexer queue, an error-free run of `scalar_type_definition` consumed `(.scalar desc nm ds).toks` with
    `Parse.Exact.looseFit` at the budget of the start state -/
theorem scalar_definition_accept_sound_exact (n : Nat) :
    Parse.Exact.DefSound (DStart "scalar".toList) (scalarTypeDefinition n) := Parse.Exact.scalarDef_sound n

/-- **enum_definition_accept_sound_exact**: the field `enumDef` of `Parse.Exact.DefExact`; when the braces body is absent
    the next significant token is not `{` -/
theorem enum_definition_accept_sound_exact (n : Nat) :
    Parse.Exact.DefSound (DStart "enum".toList) (enumTypeDefinition n) := Parse.Exact.enumDef_sound n

/-- **input_object_definition_accept_sound_exact**: the field `input` of `Parse.Exact.DefExact` -/
theorem input_object_definition_accept_sound_exact (n : Nat) :
    Parse.Exact.DefSound (DStart "input".toList) (inputObjectTypeDefinition n) := Parse.Exact.inputDef_sound n

/-- **scalar_extension_accept_sound_exact**: the field `scalarExt` of `Parse.Exact.DefExact` (the directives are there) -/
theorem scalar_extension_accept_sound_exact (n : Nat) :
    Parse.Exact.DefSound (EStart "scalar".toList) (scalarTypeExtension n) := Parse.Exact.scalarExt_sound n

/-- **enum_extension_accept_sound_exact**: the field `enumExt` of `Parse.Exact.DefExact` (directives or values are there) -/
theorem enum_extension_accept_sound_exact (n : Nat) :
    Parse.Exact.DefSound (EStart "enum".toList) (enumTypeExtension n) := Parse.Exact.enumExt_sound n

/-- **input_object_extension_accept_sound_exact**: the field `inputExt` of `Parse.Exact.DefExact` -/
theorem input_object_extension_accept_sound_exact (n : Nat) :
    Parse.Exact.DefSound (EStart "input".toList) (inputObjectTypeExtension n) := Parse.Exact.inputExt_sound n

/-- **object_definition_accept_sound_exact**: the field `object` of `Parse.Exact.DefExact` — entered as the dispatcher
    enters it on a lexer queue, an error-free run of `object_type_definition` consumed `(.object desc nm impl ds fs).toks`
    with `Parse.Exact.looseFit` (directives and every field definition within the budget of the start state); when the
    fields are absent the next significant token is not `{` -/
theorem object_definition_accept_sound_exact (n : Nat) :
    Parse.Exact.DefSound (DStart "type".toList) (objectTypeDefinition n) := Parse.Exact.objectDef_sound n

/-- **interface_definition_accept_sound_exact**: the field `interface` of `Parse.Exact.DefExact` -/
theorem interface_definition_accept_sound_exact (n : Nat) :
    Parse.Exact.DefSound (DStart "interface".toList) (interfaceTypeDefinition n) := Parse.Exact.interfaceDef_sound n

/-- **union_definition_accept_sound_exact**: the field `union` of `Parse.Exact.DefExact` (only the directives depend on
    the budget) -/
theorem union_definition_accept_sound_exact (n : Nat) :
    Parse.Exact.DefSound (DStart "union".toList) (unionTypeDefinition n) := Parse.Exact.unionDef_sound n

/-- **directive_definition_accept_sound_exact**: the field `directive` of `Parse.Exact.DefExact` (every argument
    definition within the budget; the locations are directive locations) -/
theorem directive_definition_accept_sound_exact (n : Nat) :
    Parse.Exact.DefSound (DStart "directive".toList) (directiveDefinition n) := Parse.Exact.directiveDef_sound n

/-- **schema_definition_accept_sound_exact, up to the recorded finding.**  `Parse.Exact.looseFit` asks every root
    operation type to have its named type; the parser accepts `schema { query: }` (the recorded C05 finding), so an
    error-free run establishes only `Parse.Exact.looseFitX` = `looseFit` without that clause
    (`Parse.Exact.looseFitX_of_looseFit`, `Parse.Exact.looseFit_of_looseFitX`).  The conclusion is the hypothesis shape
    of `Parse.Exact.defSound_of_loose`. -/
theorem schema_definition_accept_sound_exact (n : Nat) (s s' : PState) (w : TW s) (he : EofEnd s) (hq : LexQ (Toks s))
    (hs : DStart "schema".toList (Toks s)) (hr : (schemaDefinition n).run s = .ok () s') (hnd : ¬ Doomed s') :
    ∃ (cs : List Tok) (l : LooseDef), Toks s = cs ++ Toks s' ∧ NoEof cs ∧ EofEnd s' ∧ TokIs (sig cs) l.toks ∧
      Parse.Exact.looseFitX (Parse.Exact.bud s) l ∧ Settled s' ∧
      (Parse.Exact.openBody l → ∀ t, s'.current = some t → t.kind ≠ .lCurly) :=
  Parse.Exact.schemaDef_soundX n s s' w he hq hs hr hnd

/-- **schema_extension_accept_sound_exact, up to the recorded finding** (see `schema_definition_accept_sound_exact`);
    directives or root operation types are there, and without the braces the next significant token is not `{` -/
theorem schema_extension_accept_sound_exact (n : Nat) (s s' : PState) (w : TW s) (he : EofEnd s) (hq : LexQ (Toks s))
    (hs : EStart "schema".toList (Toks s)) (hr : (schemaExtension n).run s = .ok () s') (hnd : ¬ Doomed s') :
    ∃ (cs : List Tok) (l : LooseDef), Toks s = cs ++ Toks s' ∧ NoEof cs ∧ EofEnd s' ∧ TokIs (sig cs) l.toks ∧
      Parse.Exact.looseFitX (Parse.Exact.bud s) l ∧ Settled s' ∧
      (Parse.Exact.openBody l → ∀ t, s'.current = some t → t.kind ≠ .lCurly) :=
  Parse.Exact.schemaExt_soundX n s s' w he hq hs hr hnd


/-! ### the whole grammar at the exact budget, without hypotheses — object / interface / union type extensions, and the
    document theorems over all fifteen type-system definition / extension parsers -/

theorem object_extension_accept_sound_exact (n : Nat) :
    Parse.Exact.DefSound (Parse.EStart "type".toList) (objectTypeExtension n) := Parse.Exact.objectExt_sound n

theorem interface_extension_accept_sound_exact (n : Nat) :
    Parse.Exact.DefSound (Parse.EStart "interface".toList) (interfaceTypeExtension n) := Parse.Exact.interfaceExt_sound n

theorem union_extension_accept_sound_exact (n : Nat) :
    Parse.Exact.DefSound (Parse.EStart "union".toList) (unionTypeExtension n) := Parse.Exact.unionExt_sound n

/-- **document_accept_sound_exact, unconditional.**  Zero errors of `Parser::parse` (model; no token limit, any recursion limit
    `rl`) IMPLIES: the source lexes cleanly and its significant tokens are `docToks its ++ [EOF]` for a non-empty list of
    items — executable definitions in long or shorthand form, type-system definitions / extensions as `LooseDef` — every item
    within the EXACT budget (`Parse.Exact.itemFitX rl` = `itemFit` without "every root operation type of a schema definition /
    extension has its named type", the recorded finding) and the list satisfying the exact follow condition
    `Parse.Exact.DocFollowX` (only a definition without its braces body restricts the next token: not `{`). -/
theorem document_accept_sound_exact_unconditional (rl : Nat) (src : Parse.Str)
    (herr : (parse .document none rl src).errors = []) :
    LexClean src ∧ ∃ (ts : List Tok) (its : List DocItem) (e : Tok), sig (srcToks src) = ts ++ [e] ∧ e.kind = .eof ∧
      ts.map astOfV = (docToks its).map some ∧ its ≠ [] ∧ (∀ i ∈ its, Parse.Exact.itemFitX rl i) ∧ Parse.Exact.DocFollowX its :=
  Parse.Exact.document_accept_sound_exact_unconditional rl src herr

/-- **the sandwich for the whole grammar at the exact budget**: `{itemFit rl, DocFollowOk}` ⊆ accepted ⊆
    `{itemFitX rl, DocFollowX}`.  The two gaps are (a) the recorded finding — a root operation type without its named type
    is accepted — and (b) a shorthand query directly after a type-system definition whose braces body is written
    (`document_follow_guard_not_exact`); `document_accept_sandwich_exact_follow` closes (b), `document_accept_iff` both. -/
theorem document_accept_sandwich_exact (rl : Nat) (src : Parse.Str) :
    ((parse .document none rl src).errors = [] →
      LexClean src ∧ ∃ (ts : List Tok) (its : List DocItem) (e : Tok), sig (srcToks src) = ts ++ [e] ∧ e.kind = .eof ∧
        ts.map astOfV = (docToks its).map some ∧ its ≠ [] ∧ (∀ i ∈ its, Parse.Exact.itemFitX rl i) ∧ Parse.Exact.DocFollowX its) ∧
    ((LexClean src ∧ ∃ (ts : List Tok) (its : List DocItem) (e : Tok), sig (srcToks src) = ts ++ [e] ∧ e.kind = .eof ∧
        ts.map astOfV = (docToks its).map some ∧ its ≠ [] ∧ (∀ i ∈ its, Parse.Exact.itemFit rl i) ∧ Parse.Exact.DocFollowOk its) →
      (parse .document none rl src).errors = []) :=
  Parse.Exact.document_sandwich_final rl src

/-! ### completeness for the exact follow condition `DocFollowX`, production by production — a type-system definition
    whose braces body IS written may be followed by `{` (a shorthand query): the four DEFINITIONS with a braces body
    (enum, input object, object, interface) and the enum and input object type EXTENSIONS -/

/-- **enum type definition with its values written, acceptance is complete for ANY follow token**: from a state on a lexer
    queue `c ++ q0 :: rest` where `c` spells `Description? enum Name Directives[Const]? { EnumValueDefinition+ }` within the
    exact budget and `q0` is any significant token — also `{` —, the run consumed exactly `c` and reported no error. -/
theorem enum_definition_with_body_accept_complete (n : Nat) (s s' : PState) (c : List Tok) (x : List Ast.Tok) (q0 : Tok)
    (rest : List Tok) (w : TW s) (hlex : LexQ (Toks s)) (hx : Parse.Exact.LEnumP (s.recLimit - s.recCur) x)
    (hspell : (sig c).map astOfV = x.map some) (hhead : ∀ hd tl, c = hd :: tl → isIgnoredKind hd.kind = false)
    (ht : Toks s = c ++ q0 :: rest) (hq : isIgnoredKind q0.kind = false)
    (h : (enumTypeDefinition n).run s = .ok () s') : Toks s' = q0 :: rest ∧ (Doomed s' ↔ Doomed s) := by
  obtain ⟨e, t, _⟩ := Parse.Exact.cmpT_enumTypeDefinitionP n s s' () c x q0 rest w hlex h hx ⟨hspell, hhead⟩ ht hq trivial trivial
  exact ⟨t, e.doom⟩

/-- the same for `input Name Directives[Const]? { InputValueDefinition+ }` -/
theorem input_definition_with_body_accept_complete (n : Nat) (s s' : PState) (c : List Tok) (x : List Ast.Tok) (q0 : Tok)
    (rest : List Tok) (w : TW s) (hlex : LexQ (Toks s)) (hx : Parse.Exact.LInputP (s.recLimit - s.recCur) x)
    (hspell : (sig c).map astOfV = x.map some) (hhead : ∀ hd tl, c = hd :: tl → isIgnoredKind hd.kind = false)
    (ht : Toks s = c ++ q0 :: rest) (hq : isIgnoredKind q0.kind = false)
    (h : (inputObjectTypeDefinition n).run s = .ok () s') : Toks s' = q0 :: rest ∧ (Doomed s' ↔ Doomed s) := by
  obtain ⟨e, t, _⟩ := Parse.Exact.cmpT_inputObjectTypeDefinitionP n s s' () c x q0 rest w hlex h hx ⟨hspell, hhead⟩ ht hq trivial trivial
  exact ⟨t, e.doom⟩

/-- the same for `type Name ImplementsInterfaces? Directives[Const]? { FieldDefinition+ }`: the follow token is only asked not
    to be `&` or the Name `implements` (neither can start a definition) — `{` is allowed -/
theorem object_definition_with_fields_accept_complete (n : Nat) (s s' : PState) (c : List Tok) (x : List Ast.Tok) (q0 : Tok)
    (rest : List Tok) (w : TW s) (hlex : LexQ (Toks s)) (hx : Parse.Exact.LObjectP "type" (s.recLimit - s.recCur) x)
    (hspell : (sig c).map astOfV = x.map some) (hhead : ∀ hd tl, c = hd :: tl → isIgnoredKind hd.kind = false)
    (ht : Toks s = c ++ q0 :: rest) (hq : isIgnoredKind q0.kind = false) (hf : Parse.Exact.FObjP q0)
    (h : (objectTypeDefinition n).run s = .ok () s') : Toks s' = q0 :: rest ∧ (Doomed s' ↔ Doomed s) := by
  obtain ⟨e, t, _⟩ := Parse.Exact.cmpT_objectTypeDefinitionP n s s' () c x q0 rest w hlex h hx ⟨hspell, hhead⟩ ht hq hf trivial
  exact ⟨t, e.doom⟩

/-- the same for `interface …` -/
theorem interface_definition_with_fields_accept_complete (n : Nat) (s s' : PState) (c : List Tok) (x : List Ast.Tok) (q0 : Tok)
    (rest : List Tok) (w : TW s) (hlex : LexQ (Toks s)) (hx : Parse.Exact.LObjectP "interface" (s.recLimit - s.recCur) x)
    (hspell : (sig c).map astOfV = x.map some) (hhead : ∀ hd tl, c = hd :: tl → isIgnoredKind hd.kind = false)
    (ht : Toks s = c ++ q0 :: rest) (hq : isIgnoredKind q0.kind = false) (hf : Parse.Exact.FObjP q0)
    (h : (interfaceTypeDefinition n).run s = .ok () s') : Toks s' = q0 :: rest ∧ (Doomed s' ↔ Doomed s) := by
  obtain ⟨e, t, _⟩ := Parse.Exact.cmpT_interfaceTypeDefinitionP n s s' () c x q0 rest w hlex h hx ⟨hspell, hhead⟩ ht hq hf trivial
  exact ⟨t, e.doom⟩

/-- the same for `extend enum Name Directives[Const]? { EnumValueDefinition+ }` -/
theorem enum_extension_with_body_accept_complete (n : Nat) (s s' : PState) (c : List Tok) (x : List Ast.Tok) (q0 : Tok)
    (rest : List Tok) (w : TW s) (hlex : LexQ (Toks s)) (hx : Parse.Exact.LEnumExtP (s.recLimit - s.recCur) x)
    (hspell : (sig c).map astOfV = x.map some) (hhead : ∀ hd tl, c = hd :: tl → isIgnoredKind hd.kind = false)
    (ht : Toks s = c ++ q0 :: rest) (hq : isIgnoredKind q0.kind = false)
    (h : (enumTypeExtension n).run s = .ok () s') : Toks s' = q0 :: rest ∧ (Doomed s' ↔ Doomed s) := by
  obtain ⟨e, t, _⟩ := Parse.Exact.cmpT_enumTypeExtensionP n s s' () c x q0 rest w hlex h hx ⟨hspell, hhead⟩ ht hq trivial trivial
  exact ⟨t, e.doom⟩

/-- the same for `extend input Name Directives[Const]? { InputValueDefinition+ }` -/
theorem input_extension_with_body_accept_complete (n : Nat) (s s' : PState) (c : List Tok) (x : List Ast.Tok) (q0 : Tok)
    (rest : List Tok) (w : TW s) (hlex : LexQ (Toks s)) (hx : Parse.Exact.LInputExtP (s.recLimit - s.recCur) x)
    (hspell : (sig c).map astOfV = x.map some) (hhead : ∀ hd tl, c = hd :: tl → isIgnoredKind hd.kind = false)
    (ht : Toks s = c ++ q0 :: rest) (hq : isIgnoredKind q0.kind = false)
    (h : (inputObjectTypeExtension n).run s = .ok () s') : Toks s' = q0 :: rest ∧ (Doomed s' ↔ Doomed s) := by
  obtain ⟨e, t, _⟩ := Parse.Exact.cmpT_inputObjectTypeExtensionP n s s' () c x q0 rest w hlex h hx ⟨hspell, hhead⟩ ht hq trivial trivial
  exact ⟨t, e.doom⟩

/-! ### `document_accept_complete` over the EXACT follow condition `DocFollowX` — the object / interface / schema extensions
    with their braces body written, the document theorem, and the sandwich with `DocFollowX` on BOTH sides -/

/-- `extend type Name ImplementsInterfaces? Directives[Const]? { FieldDefinition+ }`: with the fields written, `{` may follow (the
    follow token is only asked not to be `&` or the Name `implements`) -/
theorem object_extension_with_fields_accept_complete (n : Nat) (s s' : PState) (c : List Tok) (x : List Ast.Tok) (q0 : Tok)
    (rest : List Tok) (w : TW s) (hlex : LexQ (Toks s)) (hx : Parse.Exact.LObjectExtP "type" (s.recLimit - s.recCur) x)
    (hspell : (sig c).map astOfV = x.map some) (hhead : ∀ hd tl, c = hd :: tl → isIgnoredKind hd.kind = false)
    (ht : Toks s = c ++ q0 :: rest) (hq : isIgnoredKind q0.kind = false) (hf : Parse.Exact.FObjP q0)
    (h : (objectTypeExtension n).run s = .ok () s') : Toks s' = q0 :: rest ∧ (Doomed s' ↔ Doomed s) := by
  obtain ⟨e, t, _⟩ := Parse.Exact.cmpT_objectTypeExtensionP n s s' () c x q0 rest w hlex h hx ⟨hspell, hhead⟩ ht hq hf trivial
  exact ⟨t, e.doom⟩

theorem interface_extension_with_fields_accept_complete (n : Nat) (s s' : PState) (c : List Tok) (x : List Ast.Tok) (q0 : Tok)
    (rest : List Tok) (w : TW s) (hlex : LexQ (Toks s)) (hx : Parse.Exact.LObjectExtP "interface" (s.recLimit - s.recCur) x)
    (hspell : (sig c).map astOfV = x.map some) (hhead : ∀ hd tl, c = hd :: tl → isIgnoredKind hd.kind = false)
    (ht : Toks s = c ++ q0 :: rest) (hq : isIgnoredKind q0.kind = false) (hf : Parse.Exact.FObjP q0)
    (h : (interfaceTypeExtension n).run s = .ok () s') : Toks s' = q0 :: rest ∧ (Doomed s' ↔ Doomed s) := by
  obtain ⟨e, t, _⟩ := Parse.Exact.cmpT_interfaceTypeExtensionP n s s' () c x q0 rest w hlex h hx ⟨hspell, hhead⟩ ht hq hf trivial
  exact ⟨t, e.doom⟩

/-- `extend schema Directives[Const]? { RootOperationTypeDefinition+ }` (all named): anything may follow -/
theorem schema_extension_with_roots_accept_complete (n : Nat) (s s' : PState) (c : List Tok) (x : List Ast.Tok) (q0 : Tok)
    (rest : List Tok) (w : TW s) (hlex : LexQ (Toks s)) (hx : Parse.Exact.LSchemaExtP (s.recLimit - s.recCur) x)
    (hspell : (sig c).map astOfV = x.map some) (hhead : ∀ hd tl, c = hd :: tl → isIgnoredKind hd.kind = false)
    (ht : Toks s = c ++ q0 :: rest) (hq : isIgnoredKind q0.kind = false)
    (h : (schemaExtension n).run s = .ok () s') : Toks s' = q0 :: rest ∧ (Doomed s' ↔ Doomed s) := by
  obtain ⟨e, t, _⟩ := Parse.Exact.cmpT_schemaExtensionP n s s' () c x q0 rest w hlex h hx ⟨hspell, hhead⟩ ht hq trivial trivial
  exact ⟨t, e.doom⟩

/-- **document_accept_complete over `DocFollowX`.**  Every non-empty list of items within the EXACT budget (`Parse.Exact.itemFit rl`)
    that satisfies the exact follow condition (`Parse.Exact.DocFollowX`: only a definition WITHOUT its braces body restricts the
    next token — not `{`) parses with ZERO errors, in any spelling.  The other follow conditions of `document_accept_complete`
    (`@ ( & = |`, the Name `implements`) are not hypotheses here: they follow from "the next item is a definition within the
    budget" by the first-token analysis `Parse.Exact.item_headA`.  (`type T { a: Int } { b }` is inside the complete side.) -/
theorem document_accept_complete_exact_follow (rl : Nat) (src : Parse.Str) (its : List DocItem) (ts : List Tok) (e : Tok)
    (hclean : LexClean src) (hsig : sig (srcToks src) = ts ++ [e]) (he : e.kind = .eof)
    (hx : ts.map astOfV = (docToks its).map some) (hne : its ≠ []) (hfit : ∀ i ∈ its, Parse.Exact.itemFit rl i)
    (hfol : Parse.Exact.DocFollowX its) : (parse .document none rl src).errors = [] :=
  Parse.Exact.parseDocument_complete_itemsX rl src its ts e hclean hsig he hx hne hfit hfol

/-- **the sandwich with the exact follow condition on both sides**: `{itemFit rl, DocFollowX}` ⊆ accepted ⊆ `{itemFitX rl, DocFollowX}`.
    The ONLY asymmetry is the recorded finding: `itemFit` asks every root operation type of a schema definition / extension to
    have its named type, `itemFitX` does not. -/
theorem document_accept_sandwich_exact_follow (rl : Nat) (src : Parse.Str) :
    ((parse .document none rl src).errors = [] →
      LexClean src ∧ ∃ (ts : List Tok) (its : List DocItem) (e : Tok), sig (srcToks src) = ts ++ [e] ∧ e.kind = .eof ∧
        ts.map astOfV = (docToks its).map some ∧ its ≠ [] ∧ (∀ i ∈ its, Parse.Exact.itemFitX rl i) ∧ Parse.Exact.DocFollowX its) ∧
    ((LexClean src ∧ ∃ (ts : List Tok) (its : List DocItem) (e : Tok), sig (srcToks src) = ts ++ [e] ∧ e.kind = .eof ∧
        ts.map astOfV = (docToks its).map some ∧ its ≠ [] ∧ (∀ i ∈ its, Parse.Exact.itemFit rl i) ∧ Parse.Exact.DocFollowX its) →
      (parse .document none rl src).errors = []) :=
  Parse.Exact.document_sandwich_followX rl src

/-! ### the exact guard of the schema productions — only the LAST root operation type may lack its named type -/

/-- **what the parser really accepts** (kernel-evaluated): a root operation type may lack its named type exactly when no
    Name follows it, i.e. only as the last root — in `query: mutation: M` the Name `mutation` is the type of `query` and
    the second `:` is an error -/
theorem schema_nameless_root_only_last :
    (parse .document none 500 "schema { query: }".toList).errors = [] ∧
    (parse .document none 500 "schema { query: Q mutation: }".toList).errors = [] ∧
    (parse .document none 500 "extend schema @d { query: }".toList).errors = [] ∧
    (parse .document none 500 "extend schema { query: Q subscription: }".toList).errors = [] ∧
    (parse .document none 500 "schema { query: mutation }".toList).errors = [] ∧
    (parse .document none 500 "schema { query: mutation: M }".toList).errors ≠ [] ∧
    (parse .document none 500 "extend schema { query: subscription: S }".toList).errors ≠ [] ∧
    (parse .document none 500 "schema { query }".toList).errors ≠ [] := Parse.Exact.schema_nameless_root_witnesses

/-- `Parse.Exact.looseFitXX` lies between `looseFit` (every root named) and `looseFitX` (any root may be nameless) -/
theorem loose_fit_xx_between (b : Nat) (l : LooseDef) :
    (Parse.Exact.looseFit b l → Parse.Exact.looseFitXX b l) ∧ (Parse.Exact.looseFitXX b l → Parse.Exact.looseFitX b l) :=
  ⟨Parse.Exact.looseFitXX_of_looseFit b l, Parse.Exact.looseFitX_of_XX b l⟩

/-- **schema_definition_accept_complete_exact**: `schema_definition` accepts the tokens of every
    `LooseDef.schema desc ds roots` within `Parse.Exact.looseFitXX` (directives `Const` and within the budget, at least one
    root, every root but the last with its named type), whatever follows -/
theorem schema_definition_accept_complete_exact (n : Nat) :
    CmpT (fun _ => True) (schemaDefinition n) Parse.Exact.LSchemaX (fun _ => True) (fun _ => True) :=
  Parse.Exact.cmpT_schemaDefinitionX n

/-- **schema_extension_accept_complete_exact**: the same for `extend schema`; the next token must not continue it -/
theorem schema_extension_accept_complete_exact (n : Nat) :
    CmpT (fun _ => True) (schemaExtension n) Parse.Exact.LSchemaExtX (fun t => Fbody t.kind) (fun _ => True) :=
  Parse.Exact.cmpT_schemaExtensionX n

/-- **schema_definition_accept_sound_exact_xx**: the converse — an error-free run of `schema_definition` entered by the
    dispatcher consumed `l.toks` for a schema definition within `Parse.Exact.looseFitXX` (after a nameless root the head
    of the queue is not a Name, so the root loop stops: it was the last) -/
theorem schema_definition_accept_sound_exact_xx (n : Nat) (s s' : PState) (w : TW s) (he : EofEnd s) (hq : LexQ (Toks s))
    (hs : DStart "schema".toList (Toks s)) (hr : (schemaDefinition n).run s = .ok () s') (hnd : ¬ Doomed s') :
    ∃ (cs : List Tok) (l : LooseDef), Toks s = cs ++ Toks s' ∧ NoEof cs ∧ EofEnd s' ∧ TokIs (sig cs) l.toks ∧
      Parse.Exact.looseFitXX (Parse.Exact.bud s) l ∧ Settled s' ∧
      (Parse.Exact.openBody l → ∀ t, s'.current = some t → t.kind ≠ .lCurly) :=
  Parse.Exact.schemaDef_soundXX n s s' w he hq hs hr hnd

/-- **schema_extension_accept_sound_exact_xx** -/
theorem schema_extension_accept_sound_exact_xx (n : Nat) (s s' : PState) (w : TW s) (he : EofEnd s) (hq : LexQ (Toks s))
    (hs : EStart "schema".toList (Toks s)) (hr : (schemaExtension n).run s = .ok () s') (hnd : ¬ Doomed s') :
    ∃ (cs : List Tok) (l : LooseDef), Toks s = cs ++ Toks s' ∧ NoEof cs ∧ EofEnd s' ∧ TokIs (sig cs) l.toks ∧
      Parse.Exact.looseFitXX (Parse.Exact.bud s) l ∧ Settled s' ∧
      (Parse.Exact.openBody l → ∀ t, s'.current = some t → t.kind ≠ .lCurly) :=
  Parse.Exact.schemaExt_soundXX n s s' w he hq hs hr hnd

/-! ### `document_accept_iff` — the exact characterisation of the accepted language -/

/-- the exact item guard: `itemFit` (within the recursion budget, `Const` positions, enum values, names ≠ `on`, directive locations,
    non-empty braces, extensions with a component) where, for a schema definition / extension, only the LAST root operation type may
    lack its named type (`Parse.Exact.looseFitXX`; the recorded finding is a liberty of the accepted language, like a leading `&` / `|`) -/
abbrev ExactItemGuard (rl : Nat) (i : DocItem) : Prop := Parse.Exact.itemFitXX rl i

/-- **document_accept_iff.**  `Parser::parse` (model; no token limit, any recursion limit `rl`) reports ZERO errors IF AND ONLY IF the
    source lexes cleanly and its significant tokens are, followed by EOF, `docToks its` for a non-empty list `its` of `DocItem`s —
    operation / fragment definitions in long or shorthand form, type-system definitions / extensions with the two liberties — every
    item satisfying the exact guard `Parse.Exact.itemFitXX rl` and the list satisfying the exact follow condition
    `Parse.Exact.DocFollowX` (a definition without its braces body is not followed by `{`).  No guard on the source
    (unlike `executable_document_accept_iff`, which asks `ExecutableOnly`). -/
theorem document_accept_iff (rl : Nat) (src : Parse.Str) :
    (parse .document none rl src).errors = [] ↔
      LexClean src ∧ ∃ (ts : List Tok) (its : List DocItem) (e : Tok), sig (srcToks src) = ts ++ [e] ∧ e.kind = .eof ∧
        ts.map astOfV = (docToks its).map some ∧ its ≠ [] ∧ (∀ i ∈ its, Parse.Exact.itemFitXX rl i) ∧ Parse.Exact.DocFollowX its :=
  Parse.Exact.document_iff rl src

/-- the exact guard lies between the strict guard `itemFit` of `document_accept_complete_exact` and the sound-side guard
    `itemFitX` of `document_accept_sound_exact_unconditional` -/
theorem exact_item_guard_between (rl : Nat) (i : DocItem) :
    (Parse.Exact.itemFit rl i → Parse.Exact.itemFitXX rl i) ∧ (Parse.Exact.itemFitXX rl i → Parse.Exact.itemFitX rl i) :=
  ⟨Parse.Exact.itemFitXX_of_fit rl i, Parse.Exact.itemFitX_of_XX rl i⟩

/-- **accepted ⇒ a document of the strict grammar, or a named liberty is used.**  With zero errors, EITHER `strictItems its = some items`:
    the significant tokens are the printer's tokens `itemsToks items` of a strict-grammar document and every item satisfies the strict
    guard `itemFit rl`; OR `strictItems its = none`: some item has a leading `&` / `|` or a root operation type without its named type. -/
theorem document_accepted_strict_or_liberty (rl : Nat) (src : Parse.Str) (herr : (parse .document none rl src).errors = []) :
    LexClean src ∧ ∃ (ts : List Tok) (its : List DocItem) (e : Tok), sig (srcToks src) = ts ++ [e] ∧ e.kind = .eof ∧
      ts.map astOfV = (docToks its).map some ∧ its ≠ [] ∧ (∀ i ∈ its, Parse.Exact.itemFitXX rl i) ∧ Parse.Exact.DocFollowX its ∧
      ((∃ items, strictItems its = some items ∧ docToks its = Ast.itemsToks items ∧ ∀ i ∈ its, Parse.Exact.itemFit rl i) ∨
        strictItems its = none) :=
  Parse.Exact.document_accepted_strict_or_liberty rl src herr

/-- **strict-grammar documents within the budget ⇒ accepted**: items that use no liberty (`strictItems its = some items`), satisfy the
    strict guard and the exact follow condition parse with zero errors; their tokens are the printer's tokens of `items` -/
theorem strict_document_accept_complete_exact (rl : Nat) (src : Parse.Str) (its : List DocItem) (items : List Ast.Item)
    (ts : List Tok) (e : Tok) (hstrict : strictItems its = some items)
    (hclean : LexClean src) (hsig : sig (srcToks src) = ts ++ [e]) (he : e.kind = .eof)
    (hx : ts.map astOfV = (Ast.itemsToks items).map some) (hne : its ≠ []) (hfit : ∀ i ∈ its, Parse.Exact.itemFit rl i)
    (hfol : Parse.Exact.DocFollowX its) : (parse .document none rl src).errors = [] :=
  Parse.Exact.parseDocument_complete_itemsX rl src its ts e hclean hsig he
    (by rw [(Parse.strictItems_toks its items hstrict).1]; exact hx) hne hfit hfol

end Executable

/-! ## Document level: `document()` and `Parser::parse` — accepted ⊆ grammar, for whole documents

The top level of the grammar — grammar/document.rs (`document`, its `peek_while` loop, the dispatch on the token kind,
`select_definition` with the `peek_data` / `peek_data_n(2)` look-ahead, `extensions`, the `err_and_pop` branches, the
"expected at least one definition" check) and the entry point `Parser::parse` — is proved in Proofs/ParserDoc1–3.lean
from the structure `Parse.DefLemmas n`: one hypothesis per definition parser (13 definitions counting the four
keywords of operations, 7 extensions), each "entered the way the dispatcher enters it, on a lexer queue, a run without
error consumed the tokens of ONE definition (`Parse.IsDef`) and left the rest of the queue untouched".
Proofs/ParserDoc4.lean instantiates `DefLemmas` from the per-production theorems of the sections above
(`definition_parsers_sound`), so everything below is unconditional.

`Parse.DocItem` is one definition as accepted, with the way it is written:
  * `exec oe d`   an operation or fragment definition, tokens `tDefinition oe d` (C08's printer; `oe = true`: the
                  shorthand form `{ … }` when it applies) — the shorthand query is accepted at ANY position;
  * `loose l`     a type-system definition or extension, tokens `LooseDef.toks l` = the printer's tokens up to a leading
                  `&` / `|` and — KNOWN FINDING accepts-root-operation-without-type — a root operation type without name;
`fragment_definition` entered on a description (`"d" fragment on T { a }`, formerly accepted) reports an error since the
repair of accepts-description-before-fragment: `Parse.acc_fragmentDefinition_desc`, `description_before_fragment_rejected`.
-/
section Document

/-- the modular form: `document_accept_sound` from ANY proof of the per-definition hypotheses -/
theorem document_accept_sound_from (L : ∀ n, Parse.DefLemmas n) (rl : Nat) (src : Parse.Str) (root : Elem)
    (h : (parse .document none rl src).outcome = .tree root) (herr : (parse .document none rl src).errors = []) :
    Parse.LexClean src ∧ ∃ ts x e, Parse.sig (Parse.srcToks src) = ts ++ [e] ∧ e.kind = .eof ∧
      ts.map Parse.astOfV = x.map some ∧ Parse.IsDocumentToks x :=
  Parse.document_accept_sound L rl src root h herr

/-- the per-definition hypotheses hold (executable definitions, and `fragment_definition` entered on a description:
    Proofs/ParserSel9.lean; type system: Proofs/ParserDef15–16.lean; put together in Proofs/ParserDoc4.lean) -/
theorem definition_parsers_sound (n : Nat) : Parse.DefLemmas n := Parse.defLemmas n

/-- **The dispatcher, one definition.**  `document()`'s closure on a current token `t` other than EOF, in a lexer
    queue: a run without error consumed exactly the tokens of ONE accepted definition; the rest is untouched. -/
theorem document_dispatch_accept_sound (n : Nat) (s s' : PState) (t : Parse.Tok) (rest : List Parse.Tok) (w : Parse.TW s)
    (he : Parse.EofEnd s) (hl : Parse.LexQ (Parse.Toks s)) (hc : s.current = some t) (ht : Parse.Toks s = t :: rest)
    (h : (documentDispatch n t.kind).run s = .ok () s') (hnd : ¬ Parse.Doomed s') :
    ∃ cs, Parse.Toks s = cs ++ Parse.Toks s' ∧ Parse.NoEof cs ∧ Parse.EofEnd s' ∧
      ∃ i : Parse.DocItem, i.ok ∧ (Parse.sig cs).map Parse.astOfV = i.toks.map some := by
  obtain ⟨cs, a1, a2, a3, a4⟩ := Parse.documentDispatch_sound (Parse.defLemmas n) s s' t rest w he hl hc ht h hnd
  rcases a4 with ⟨x, hx, hd⟩ | hf
  · obtain ⟨i, hok, rfl⟩ := Parse.isDef_item x hd
    exact ⟨cs, a1, a2, a3, i, hok, hx⟩
  · exact absurd hf id

/-- **document_accepted_is_in_grammar.**  If `Parser::parse` (model; no token limit, any recursion limit) reports no
    error, then the source lexes without error and its significant tokens are `docToks its ++ [EOF]` for a NON-EMPTY
    list `its` of accepted definitions: a Document of the grammar — `Definition+`, the shorthand query at any
    position — up to the two documented liberties.  (`parse` always returns a tree: C01 `parse_terminates`,
    `parse_no_panic`.) -/
theorem document_accepted_is_in_grammar (rl : Nat) (src : Parse.Str) (herr : (parse .document none rl src).errors = []) :
    Parse.LexClean src ∧ ∃ (ts : List Parse.Tok) (e : Parse.Tok) (its : List Parse.DocItem),
      Parse.sig (Parse.srcToks src) = ts ++ [e] ∧ e.kind = .eof ∧ its ≠ [] ∧ (∀ i ∈ its, i.ok) ∧
      ts.map Parse.astOfV = (Parse.docToks its).map some := by
  cases ho : (parse .document none rl src).outcome with
  | panic m => exact absurd ho (Parse.parse_no_panic _ _ _ _ m)
  | abort w => exact absurd ho (Parse.parse_terminates _ _ _ _ w)
  | tree root =>
    obtain ⟨hl, ts, e, its, h1, h2, h3, h4, h5, _⟩ := Parse.document_accepted_items rl src root ho herr
    exact ⟨hl, ts, e, its, h1, h2, h3, h4, h5⟩

/-- **The strict corollary and the link to C08's reference parser.**  For the list `its` of the previous theorem: if no
    definition uses one of the two liberties (`strictItems its = some items`: no leading separator, every root
    operation type named), the significant tokens are
    `itemsToks items` — every definition printed by C08's `tDefinition`, long or shorthand form, `items ≠ []` — and
    C08's reference parser `pDocument` accepts that same token list and returns exactly the definitions of `items`,
    given (a) their well-formedness `wfDefinition` (enum values other than `true/false/null`, spreads not named
    `on`, … — a hypothesis here: `DocItem.ok` does not carry these facts) and (b) `ItemsFollowOk items`:
    a shorthand query directly follows only a definition that always ends in `}` (`followOk_of_closed`: automatic
    for executable documents; `followOk_tDocument`: automatic for the printer's shape).  (b) cannot be dropped for
    an arbitrary decomposition: `type T` ++ `{ a }` is also the single definition `type T { a }`. -/
theorem document_accepted_reference_parser (rl : Nat) (src : Parse.Str) (herr : (parse .document none rl src).errors = []) :
    ∃ (ts : List Parse.Tok) (e : Parse.Tok) (its : List Parse.DocItem),
      Parse.sig (Parse.srcToks src) = ts ++ [e] ∧ e.kind = .eof ∧ ts.map Parse.astOfV = (Parse.docToks its).map some ∧
      ∀ items, Parse.strictItems its = some items →
        items ≠ [] ∧ Parse.docToks its = Ast.itemsToks items ∧
        ((∀ i ∈ items, Ast.wfDefinition i.2 = true) → Ast.ItemsFollowOk items →
          ∀ f, Ast.szDefinitions (items.map (·.2)) ≤ f → Ast.pDocument f (Ast.itemsToks items) = some (items.map (·.2))) := by
  cases ho : (parse .document none rl src).outcome with
  | panic m => exact absurd ho (Parse.parse_no_panic _ _ _ _ m)
  | abort w => exact absurd ho (Parse.parse_terminates _ _ _ _ w)
  | tree root =>
    obtain ⟨_, ts, e, its, h1, h2, _, _, h5, h6⟩ := Parse.document_accepted_items rl src root ho herr
    exact ⟨ts, e, its, h1, h2, h5, h6⟩

/-- token lists of the form `itemsToks items` and the reference parser, without the parser model -/
theorem isDocument_reference_parser (items : List Ast.Item) (f : Nat) (hne : items ≠ [])
    (h : ∀ i ∈ items, Ast.wfDefinition i.2 = true) (hs : Ast.szDefinitions (items.map (·.2)) ≤ f) (hf : Ast.ItemsFollowOk items) :
    Ast.pDocument f (Ast.itemsToks items) = some (items.map (·.2)) :=
  Ast.items_document_roundtrip items f hne h hs hf

/-- executable documents: every decomposition satisfies `ItemsFollowOk` -/
theorem followOk_of_closed (items : List Ast.Item) (h : ∀ i ∈ items, Ast.closed i.2 = true) : Ast.ItemsFollowOk items :=
  Ast.itemsFollowOk_of_closed items h

/-- the printer's shape (`tDocument oe (d :: r)`, shorthand only in front) is `itemsToks` of an `ItemsFollowOk` list -/
theorem followOk_tDocument (oe : Bool) (d : Ast.Definition) (r : List Ast.Definition) :
    Ast.tDocument oe (d :: r) = Ast.itemsToks ((oe, d) :: r.map (fun d => (false, d))) ∧
      Ast.ItemsFollowOk ((oe, d) :: r.map (fun d => (false, d))) :=
  ⟨Ast.tDocument_items oe d r, Ast.followOk_tDocument oe d r⟩

/-- number of errors, and whether the tree's text is the whole input -/
def errorCount (src : Parse.Str) : Nat := (parse .document none 500 src).errors.length
def treeIsLossless (src : Parse.Str) : Bool :=
  match (parse .document none 500 src).outcome with
  | .tree root => root.text == src
  | _ => false

/-- REPAIRED defect accepts-description-before-fragment (kernel-evaluated on the model; stream P runs the same inputs
    on the implementation, harness/src/p05.rs): a description in front of `fragment on T { a }` — formerly parsed
    without error, the string bumped as the `fragment` keyword — gives two errors (the description, and then
    "Fragment Name cannot be 'on'"), a description in front of a complete fragment definition exactly one; the
    tree is still lossless.  A description in front of an
    operation or an extension was and is rejected. -/
theorem description_before_fragment_rejected :
    errorCount "\"d\" fragment on T { a }".toList = 2 ∧ treeIsLossless "\"d\" fragment on T { a }".toList = true ∧
    errorCount "\"d\" fragment F on T { a }".toList = 1 ∧ treeIsLossless "\"d\" fragment F on T { a }".toList = true ∧
    errorFree "fragment F on T { a }".toList = true ∧
    errorFree "\"d\" query { a }".toList = false ∧ errorFree "\"d\" { a }".toList = false ∧
    errorFree "\"d\" extend type A @d".toList = false := by decide +kernel

/-- `fragment_definition` entered on a description (a String token) is never error-free, whatever follows -/
theorem fragment_definition_rejects_description (n : Nat) (s s' : PState) (t : Parse.Tok) (w : Parse.TW s) (he : Parse.EofEnd s)
    (hh : (Parse.Toks s).head? = some t) (hk : t.kind = .stringValue)
    (h : (fragmentDefinition n).run s = .ok () s') : Parse.Doomed s' := by
  apply Classical.byContradiction
  intro hnd
  obtain ⟨cs, _, _, _, hx⟩ := (Parse.acc_fragmentDefinition_desc n (R := fun _ _ => False)).2 s () s' w he ⟨t, hh, hk⟩ h hnd
  rcases hx with ⟨_, _, hf⟩ | hf <;> exact hf

/-- the shorthand query is accepted at any position, also after a type-system definition -/
theorem shorthand_query_anywhere_accepted :
    errorFree "{ a } { b } type T { c: Int } { d } fragment F on T { e } { f }".toList = true := by decide +kernel

end Document

end Apollo.C05
