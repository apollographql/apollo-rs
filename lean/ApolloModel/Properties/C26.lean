import ApolloModel.Proofs.Execution
import ApolloModel.Proofs.ExecutionSpec2
import ApolloModel.Proofs.ExecutionFuel
import ApolloModel.Proofs.ExecutionFuelFrag
import ApolloModel.Proofs.ExecutionNull
import ApolloModel.Proofs.ExecutionKeys
/-
C26 — Execution follows the GraphQL execution algorithm.

Model: Model/Execution.lean transliterates `execute_selection_set`, `collect_fields`, `execute_field`,
`try_nullify` (resolvers/execution.rs), `complete_value`, `complete_list_value`, `complete_leaf_value`
(resolvers/result_coercion.rs) and `coerce_argument_values` (resolvers/input_coercion.rs) over a resolver
*world* `(object id, field name) ↦ resolved value | error | list | object | skip`.
The first theorems are the three "in particular" clauses of the property, for ALL schemas, operations,
variables, worlds and fuel, stated for every call that produces a response position (so they hold at
every position of every response).  `model_eq_spec` (section "Refinement") is the refinement: the model equals
the specification's algorithms (Spec/Execution.lean: CollectFields … CompleteValue written from §6.3–§6.4
with raise / catch-at-the-nearest-nullable-position error handling and apollo-compiler's documented
choices as parameters) on every input.  After it: fuel sufficiency for acyclic fragment tables
(`exec_fuel_sufficient`), every error path leads to a null (`error_path_leads_to_null`), and the keys of
the response objects.  The model itself is tied to the Rust by the stream `c26.exec`,
and the harness compares the implementation with an independent Rust reference executor as well.
-/
namespace Apollo.C26
open Apollo Apollo.Exec

/-- Every field error carries the path of its position: all errors pushed while the value at `path` is
    completed are appended to the error list (nothing is dropped or reordered) and lie at or below `path`
    (list indices included: the item call runs at `path ++ [idx i]`). -/
theorem errors_have_paths (env : Env) (n : Nat) (path : Path) (ty : Ty) (rv : RV) (fields : List Sel) (st : St) :
    ∃ new, (completeValue env n path ty rv fields st).2.errors = st.errors ++ new ∧ ∀ p, p ∈ new → path <+: p := by
  obtain ⟨new, hext, _, _⟩ := completeValue_good env n path ty rv fields st
  exact ⟨new, hext.1, hext.2⟩

/-- …and the same for a field executed at `path` (argument coercion errors and resolver errors included). -/
theorem field_errors_have_paths (env : Env) (n : Nat) (path : Path) (objTy : String) (objId : Nat) (fdef : FieldDef)
    (fields : List Sel) (st : St) :
    ∃ new, (execField (completeValue env n) env path objTy objId fdef fields st).2.errors = st.errors ++ new ∧
      ∀ p, p ∈ new → path <+: p := by
  obtain ⟨new, hext, _, _⟩ := execField_good _ (completeValue_good env n) env path objTy objId fdef fields st
  exact ⟨new, hext.1, hext.2⟩

/-- A failing resolver, and a failing item of the resolver's list, are reported exactly at their position. -/
theorem resolver_error_at_position (env : Env) (n : Nat) (path : Path) (objTy : String) (objId : Nat) (fdef : FieldDef)
    (f0 : Sel) (rest : List Sel) (args : AList Json) (st : St)
    (hargs : coerceArgs env f0.fargs fdef.args [] = some args) (hname : f0.fname ≠ "__typename")
    (hw : env.world.get? objId f0.fname = some .error) :
    (execField (completeValue env n) env path objTy objId fdef (f0 :: rest) st).2.errors = st.errors ++ [path] := by
  simp [execField, hargs, hname, hw, St.push]

theorem item_error_at_position (rec : Rec) (path : Path) (ty inner : Ty) (fields : List Sel) (rest : List RV)
    (i : Nat) (acc : List Json) (st : St) :
    completeItems rec path ty inner fields (.error :: rest) i acc st = (.error .propagate, st.push (path ++ [.idx i])) := by
  simp [completeItems]

/-- Non-null positions are never null: whatever the resolvers return, a completed value at a non-null
    type is not `null` … -/
theorem nonnull_never_null (env : Env) (n : Nat) (path : Path) (ty : Ty) (rv : RV) (fields : List Sel) (st : St) (v : Json)
    (h : (completeValue env n path ty rv fields st).1 = .ok (some v)) (hty : ty.isNonNull = true) : v ≠ .null := by
  obtain ⟨_, _, _, hnn⟩ := completeValue_good env n path ty rv fields st
  exact hnn v h hty

/-- … a field of non-null type never puts `null` into the response map (it propagates instead) … -/
theorem nonnull_field_never_null (env : Env) (n : Nat) (path : Path) (objTy : String) (objId : Nat) (fdef : FieldDef)
    (fields : List Sel) (st : St) (v : Json)
    (h : (execField (completeValue env n) env path objTy objId fdef fields st).1 = .ok (some v))
    (hty : fdef.ty.isNonNull = true) : v ≠ .null := by
  obtain ⟨_, _, _, hnn⟩ := execField_good _ (completeValue_good env n) env path objTy objId fdef fields st
  exact hnn v h hty

/-- … and no item of a completed list of non-null items is `null`. -/
theorem nonnull_items_never_null (env : Env) (n : Nat) (path : Path) (ty inner : Ty) (fields : List Sel)
    (items : List RV) (st : St) (ys : List Json)
    (h : (completeItems (completeValue env n) path ty inner fields items 0 [] st).1 = .ok (some (.arr ys)))
    (hty : inner.isNonNull = true) : ∀ v, v ∈ ys → v ≠ .null := by
  intro v hv
  exact completeItems_items _ (completeValue_good env n) path ty inner fields items 0 [] st
    (by intro w hw; simp at hw) ys h v hv hty

/-- A propagating null is turned into `null` exactly at a nullable position. -/
theorem propagation_stops_at_nullable (ty : Ty) :
    (tryNullify ty (.error .propagate) = .ok (some .null) ↔ ty.isNonNull = false) ∧
    (tryNullify ty (.error .propagate) = .error .propagate ↔ ty.isNonNull = true) := by
  cases h : ty.isNonNull <;> simp [tryNullify, h]

/-- A propagation is never silent: whenever completing a value ends in `PropagateNull`, at least one
    field error was pushed during that call. -/
theorem propagation_has_error (env : Env) (n : Nat) (path : Path) (ty : Ty) (rv : RV) (fields : List Sel) (st : St)
    (h : (completeValue env n path ty rv fields st).1 = .error .propagate) :
    (completeValue env n path ty rv fields st).2.errors ≠ st.errors := by
  obtain ⟨new, hext, hprop, _⟩ := completeValue_good env n path ty rv fields st
  have hne := hprop h
  rw [hext.1]
  intro he
  have : new = [] := by
    have := congrArg List.length he
    simpa using this
  exact hne this

/-- `data` is null exactly when a null propagates out of the root selection set, and then the response
    has at least one error. -/
theorem data_null_iff_root_propagation (fuel : Nat) (env : Env) (sels : List Sel) (r : Response)
    (h : execute fuel env sels = .response r) :
    (r.data = none ↔
      (execSelSet (completeValue env fuel) env [] env.schema.query 0 sels { errors := [] }).1 = .error .propagate) ∧
    (r.data = none → r.errors ≠ []) := by
  unfold execute at h
  obtain ⟨new, hext, hprop⟩ := execSelSet_good _ (completeValue_good env fuel) env [] env.schema.query 0 sels { errors := [] }
  generalize execSelSet (completeValue env fuel) env [] env.schema.query 0 sels { errors := [] } = res at *
  obtain ⟨x, st⟩ := res
  cases x with
  | ok m =>
    simp only at h
    cases h
    simp
  | error e =>
    cases e with
    | fuel => simp at h
    | propagate =>
      simp only at h
      cases h
      refine ⟨by simp, ?_⟩
      intro _
      have := hprop rfl
      have he : st.errors = new := by simpa using hext.1
      rw [he]
      exact this

/-- the refinement statement against a spec-side executor -/
def model_eq_spec_statement (specExecute : Nat → Env → List Sel → Outcome) : Prop :=
  ∀ fuel env sels, execute fuel env sels = specExecute fuel env sels

/-! ### Evaluated instances (non-vacuity; the repo's unit test `test_error_path` is the first) -/

def schemaT : Schema :=
  { inputs := { types := [] }, interfaces := [], unions := [], query := "Query",
    objects := [("Query", { implements := [], fields :=
      [{ name := "f", args := [], ty := .list (.named "Int") },
       { name := "g", args := [], ty := .nonNullList (.nonNullNamed "Int") },
       { name := "q", args := [], ty := .nonNullNamed "Query" },
       { name := "o", args := [], ty := .named "Query" }] })] }

def noDirs : Dirs := { skip := none, incl := none }
def fieldSel (n : String) (sub : List Sel) : Sel := .field none n [] noDirs sub

def envT (w : World) : Env := { schema := schemaT, frags := [], vars := [], world := w, cfuel := 100 }

def dataOf : Outcome → Option (Option (AList Json))
  | .response r => some r.data
  | .outOfFuel => none
def errorsOf : Outcome → List Path
  | .response r => r.errors
  | .outOfFuel => []

/-- `{ f }` with `f = [42, Err]`: `{"f": null}`, one error at `["f", 1]` -/
example : (errorsOf (execute 10 (envT [((0, "f"), .list [.leaf (.int 42), .error])]) [fieldSel "f" []]) = [[.key "f", .idx 1]]) := by
  decide

/-- a null item of `[Int!]!` under a non-null parent under a nullable parent: the null stops at `o` -/
example : errorsOf (execute 10 (envT [((0, "o"), .object "Query" 1), ((1, "q"), .object "Query" 2),
      ((2, "g"), .list [.leaf (.int 1), .leaf .null])]) [fieldSel "o" [fieldSel "q" [fieldSel "g" []]]])
    = [[.key "o", .key "q", .key "g", .idx 1]] := by
  decide

/-! ### Refinement: the model is the specification's execution algorithm -/

/-- For every schema, operation, coerced variables, resolver world and fuel, the model of
    apollo-compiler's executor (`Result<Option<_>, PropagateNull>` nullified level by level, early
    returns) and the specification's algorithms of §6.3–§6.4 (raise a field error, catch it at the
    nearest nullable position), taken with apollo-compiler's documented choices, produce the same
    response: same `data` with the same key order, same errors with the same paths in the same order;
    and they run out of fuel on the same inputs. -/
theorem model_eq_spec : model_eq_spec_statement (ExecSpec.execute ExecSpec.Choices.apollo) :=
  fun fuel env sels => ExecSpec.execute_eq_spec fuel env sels

/-- …position by position: after the catch of its own position, `complete_value` is CompleteValue. -/
theorem complete_value_eq_spec (env : Env) (n : Nat) (path : Path) (ty : Ty) (rv : RV) (fields : List Sel) (st : St) :
    (tryNullify ty (completeValue env n path ty rv fields st).1, (completeValue env n path ty rv fields st).2) =
    (ExecSpec.toOut (ExecSpec.catchAt ty (ExecSpec.completeValue ExecSpec.Choices.apollo env n path ty rv fields st).1),
      (ExecSpec.completeValue ExecSpec.Choices.apollo env n path ty rv fields st).2) :=
  ExecSpec.completeValue_refines env n path ty rv fields st

/-- CollectFields is `collect_fields` (same grouped field set, same visited fragments). -/
theorem collect_fields_eq_spec (env : Env) (objTy : String) (n : Nat) (sels : List Sel) (visited : List String)
    (groups : AList (List Sel)) :
    collectFields env objTy n sels visited groups = ExecSpec.collectFields env objTy n sels visited groups :=
  (ExecSpec.collectFields_eq env objTy n sels visited groups).symm

/-- Operations without fragment spreads (inline fragments allowed): with more `collect_fields`
    fuel than selection nodes and more `complete_value` fuel than (selection depth + 1) × (deepest field
    type of the schema + 1), execution never runs out of fuel, whatever the world returns (cyclic object
    graphs, lists nested deeper than the type, …).  With fragment spreads, under acyclicity of the
    fragments: `exec_fuel_sufficient`. -/
theorem exec_fuel_sufficient_partial (env : Env) (sels : List Sel) (fuel : Nat)
    (hns : Sel.noSpreadL sels = true) (hc : Sel.weightL sels < env.cfuel)
    (hfuel : (Sel.depthL sels + 1) * (maxObjDepth env.schema.objects + 1) < fuel) :
    execute fuel env sels ≠ .outOfFuel :=
  execute_fuel_sufficient env sels fuel hns hc hfuel

/-- the fuel statement WITHOUT an acyclicity hypothesis: false (`exec_fuel_statement_needs_acyclicity`); the
    theorem with the hypothesis is `exec_fuel_sufficient` below -/
def exec_fuel_sufficient_statement : Prop :=
  ∀ (env : Env) (sels : List Sel), ∃ fuel cfuel, ∀ fuel' ≥ fuel, ∀ cfuel' ≥ cfuel,
    execute fuel' { env with cfuel := cfuel' } sels ≠ .outOfFuel

/-- the documented choice matters: with the item-stream error caught at the (nullable) item instead of
    failing the list, the specification gives `{"f": [42, null]}` for the repo's unit test, the model
    (and the code) `{"f": null}` -/
example : dataOf (ExecSpec.execute { ExecSpec.Choices.apollo with itemStreamErrorFailsList := false } 10
      (envT [((0, "f"), .list [.leaf (.int 42), .error])]) [fieldSel "f" []]) = some (some [("f", .arr [.int 42, .null])]) := rfl
example : dataOf (execute 10 (envT [((0, "f"), .list [.leaf (.int 42), .error])]) [fieldSel "f" []]) =
    some (some [("f", .null)]) := rfl

/-! ### fuel sufficiency with fragment spreads -/

/-- **Fuel sufficiency.**  For every schema, operation (fragment spreads included), variables and resolver
    world, if the fragment table is acyclic — a rank function under which every spread inside a fragment's body,
    at any nesting, names a fragment of smaller rank: what the validation rule "fragment spreads must not form
    cycles" guarantees — then with at least `cfuelBound` of `collect_fields` fuel
    (selection nodes + (levels + 2) × total fragment size + 1) and at least `fuelBound` of `complete_value` fuel
    ((levels + 1) × (deepest field type + 1) + 1), `levels` = `Sel.mL` = the nesting depth of fields after
    fragment expansion, the executor model never answers out-of-fuel.  The world needs no hypothesis: object
    graphs may be cyclic, lists of any length, values of any wrong shape.  Hence `model_eq_spec` and every
    theorem above speak about real responses for every valid document. -/
theorem exec_fuel_sufficient (env : Env) (rank : String → Nat) (hac : Acyclic env.frags rank) (sels : List Sel) :
    ∀ fuel, fuelBound env.schema env.frags rank sels ≤ fuel → ∀ cfuel, cfuelBound env.frags rank sels ≤ cfuel →
      execute fuel { env with cfuel := cfuel } sels ≠ .outOfFuel :=
  fun fuel hf cfuel hc => execute_fuel_sufficientR { env with cfuel := cfuel } rank hac sels fuel hc hf

/-- … and the reference executor of the specification does not either (`model_eq_spec`). -/
theorem spec_fuel_sufficient (env : Env) (rank : String → Nat) (hac : Acyclic env.frags rank) (sels : List Sel)
    (fuel : Nat) (hf : fuelBound env.schema env.frags rank sels ≤ fuel) (cfuel : Nat)
    (hc : cfuelBound env.frags rank sels ≤ cfuel) :
    ExecSpec.execute ExecSpec.Choices.apollo fuel { env with cfuel := cfuel } sels ≠ .outOfFuel := by
  rw [← model_eq_spec]; exact exec_fuel_sufficient env rank hac sels fuel hf cfuel hc

/-- `fragment F on Query { o { ...F } }` over a world in which `o` of object 0 is object 0 again -/
def envCyc (cfuel : Nat) : Env :=
  { schema := schemaT, frags := [("F", ⟨"Query", [fieldSel "o" [.spread "F" noDirs]]⟩)], vars := [],
    world := [((0, "o"), .object "Query" 0)], cfuel := cfuel }

def cycFields : List Sel := [fieldSel "o" [.spread "F" noDirs]]

theorem collect_cyc (c : Nat) : collectFields (envCyc (c + 3)) "Query" (c + 3) [.spread "F" noDirs] [] [] =
    some (["F"], [("o", cycFields)]) := by
  simp [collectFields, envCyc, excluded, evalIf, Sel.dirs, noDirs, AList.get?, fragmentApplies, Schema.kind?, schemaT,
    fieldSel, pushGroup, Sel.responseKey, cycFields]

theorem cyc_always_out_of_fuel (c : Nat) : ∀ (n : Nat) (path : Path) (st : St),
    completeValue (envCyc (c + 3)) n path (.named "Query") (.object "Query" 0) cycFields st = (.error .fuel, st) := by
  intro n
  induction n with
  | zero => intro path st; rfl
  | succ n ih =>
    intro path st
    have hsub : subSelections cycFields = [.spread "F" noDirs] := rfl
    have hk : (envCyc (c + 3)).schema.kind? "Query" = some (.object ⟨[], schemaT.objects.head!.2.fields⟩) := rfl
    simp only [completeValue, Ty.shape, hk, resolveObjectType, beq_self_eq_true, if_true, execSelSet, hsub]
    have hc : collectFields (envCyc (c + 3)) "Query" (envCyc (c + 3)).cfuel [.spread "F" noDirs] [] [] =
        some (["F"], [("o", cycFields)]) := collect_cyc c
    rw [hc]
    have htf : (envCyc (c + 3)).schema.typeField? "Query" "o" = some { name := "o", args := [], ty := .named "Query" } := rfl
    have hrec := ih (path ++ [.key "o"]) st
    simp only [execGroups, cycFields, fieldSel, Sel.fname, htf, execField, Sel.fargs, coerceArgs]
    simp only [cycFields, fieldSel] at hrec
    have hw : (envCyc (c + 3)).world.get? 0 "o" = some (.object "Query" 0) := rfl
    simp [hw, hrec, tryNullify]

/-- the acyclicity hypothesis is needed: with a cyclic fragment (and a cyclic world) the executor runs out of
    fuel at EVERY fuel and every `collect_fields` fuel ≥ 3 -/
theorem cyclic_fragment_out_of_fuel_at_every_fuel (c n : Nat) :
    execute n (envCyc (c + 3)) [.spread "F" noDirs] = .outOfFuel := by
  have key : dataOf (execute n (envCyc (c + 3)) [.spread "F" noDirs]) = none := by
    unfold execute
    simp only [execSelSet]
    have hc : collectFields (envCyc (c + 3)) (envCyc (c + 3)).schema.query (envCyc (c + 3)).cfuel [.spread "F" noDirs] [] [] =
        some (["F"], [("o", cycFields)]) := collect_cyc c
    rw [hc]
    have htf : (envCyc (c + 3)).schema.typeField? (envCyc (c + 3)).schema.query "o" = some { name := "o", args := [], ty := .named "Query" } := rfl
    have hrec := cyc_always_out_of_fuel c n [.key "o"] { errors := [] }
    simp only [execGroups, cycFields, fieldSel, Sel.fname, htf, execField, Sel.fargs, coerceArgs]
    simp only [cycFields, fieldSel] at hrec
    have hw : (envCyc (c + 3)).world.get? 0 "o" = some (.object "Query" 0) := rfl
    simp [hw, hrec, tryNullify, dataOf]
  cases h : execute n (envCyc (c + 3)) [.spread "F" noDirs] with
  | outOfFuel => rfl
  | response r => rw [h] at key; simp [dataOf] at key

/-- so the statement without the hypothesis (`exec_fuel_sufficient_statement`) is false -/
theorem exec_fuel_statement_needs_acyclicity : ¬ exec_fuel_sufficient_statement := by
  intro h
  obtain ⟨fuel, cfuel, hall⟩ := h (envCyc 3) [.spread "F" noDirs]
  exact hall fuel (Nat.le_refl _) (cfuel + 3) (by omega) (cyclic_fragment_out_of_fuel_at_every_fuel cfuel fuel)

-- the same fragment over an acyclic table is fine, and the bounds are computable
example : fuelBound schemaT [("F", ⟨"Query", [fieldSel "o" [fieldSel "f" []]]⟩)] (fun _ => 0) [.spread "F" noDirs] = 7 := by decide
example : cfuelBound [("F", ⟨"Query", [fieldSel "o" [fieldSel "f" []]]⟩)] (fun _ => 0) [.spread "F" noDirs] = 10 := by decide

/-! ### every error path leads to a null -/

/-- **Every recorded error path leads to a `null` in `data`**: for every response of the executor model — any
    schema, operation, variables, fuel, and any world that does not put `skip` inside a list — `data` itself is
    null, or walking `data` along the error's path (field keys AND list indices) reaches `null` at the path's
    position or at a proper prefix of it: the nearest nullable ancestor, where the error was caught.
    (The converse direction is `propagation_has_error` / `data_null_iff_root_propagation`.) -/
theorem error_path_leads_to_null (fuel : Nat) (env : Env) (hw : WorldClean env.world) (sels : List Sel)
    (r : Response) (h : execute fuel env sels = .response r) :
    ∀ p, p ∈ r.errors → match r.data with
      | none => True
      | some m => LeadsNull (.obj m) p :=
  execute_error_paths_lead_to_null fuel env hw sels r h

/-- the same for the specification's reference executor -/
theorem spec_error_path_leads_to_null (fuel : Nat) (env : Env) (hw : WorldClean env.world) (sels : List Sel)
    (r : Response) (h : ExecSpec.execute ExecSpec.Choices.apollo fuel env sels = .response r) :
    ∀ p, p ∈ r.errors → match r.data with
      | none => True
      | some m => LeadsNull (.obj m) p := by
  rw [← model_eq_spec] at h; exact error_path_leads_to_null fuel env hw sels r h

/-- the hypothesis on the world is needed, and it is the code's behaviour: `SkipForPartialExecution` as a list
    ITEM drops the item but still advances the index, so `f = [skip, "x"]` at `[Int]` answers `{"f": [null]}`
    with the error path `["f", 1]` — index 1 does not exist in the output -/
theorem skip_item_shifts_indices :
    dataOf (execute 10 (envT [((0, "f"), .list [.skip, .leaf (.str "x")])]) [fieldSel "f" []]) = some (some [("f", .arr [.null])]) ∧
    errorsOf (execute 10 (envT [((0, "f"), .list [.skip, .leaf (.str "x")])]) [fieldSel "f" []]) = [[.key "f", .idx 1]] := by
  constructor <;> rfl

/-- when two sibling non-null fields both fail, only the FIRST is recorded: the loop of `execute_selection_set`
    returns at the first propagation (`g`'s resolver error is never reached) -/
theorem sibling_failures_first_only :
    errorsOf (execute 10 (envT [((0, "q"), .error), ((0, "g"), .error)]) [fieldSel "q" [fieldSel "f" []], fieldSel "g" []])
      = [[.key "q"]] ∧
    dataOf (execute 10 (envT [((0, "q"), .error), ((0, "g"), .error)]) [fieldSel "q" [fieldSel "f" []], fieldSel "g" []])
      = some none := by
  constructor <;> rfl

/-- each failed position reports once: stated, not proved (every call pushes its own path at most once and
    the item / group loops run at distinct indices / keys) -/
def errors_paths_distinct_positions : Prop :=
  ∀ (fuel : Nat) (env : Env) (sels : List Sel) (r : Response), execute fuel env sels = .response r → r.errors.Nodup

/-! ### response shape -/

/-- **Response keys, at every depth.**  Every object in `data` is produced by completing an object value; its
    keys are, in order, response keys of CollectFields for the RUNTIME object type over the merged sub-selections
    of the fields it answers: a sublist of them (a field resolved to `skip`, or a field the schema does not
    know, leaves no key; which keys are left out is not part of the statement). -/
theorem response_keys_spec (env : Env) (n : Nat) (path : Path) (ty : Ty) (resolvedTy : String) (id : Nat)
    (fields : List Sel) (st : St) (m : AList Json) (st' : St)
    (h : completeValue env (n + 1) path ty (.object resolvedTy id) fields st = (.ok (some (.obj m)), st')) :
    ∃ v g, collectFields env resolvedTy env.cfuel (subSelections fields) [] [] = some (v, g) ∧
      (AList.keys m).Sublist (keysOf g) :=
  completeValue_object_keys env n path ty resolvedTy id fields st m st' h

/-- … and the root object of `data`, for the query type over the operation's selection set -/
theorem response_keys_root (fuel : Nat) (env : Env) (sels : List Sel) (r : Response) (m : AList Json)
    (h : execute fuel env sels = .response r) (hd : r.data = some m) :
    ∃ v g, collectFields env env.schema.query env.cfuel sels [] [] = some (v, g) ∧ (AList.keys m).Sublist (keysOf g) :=
  execute_root_keys fuel env sels r m h hd

/-- the grouped field set has pairwise distinct response keys (so the keys of an object are distinct too) -/
theorem collected_keys_distinct (env : Env) (objTy : String) (n : Nat) (sels : List Sel) (v : List String)
    (g : AList (List Sel)) (h : collectFields env objTy n sels [] [] = some (v, g)) : (keysOf g).Nodup :=
  collect_keys_nodup env objTy n sels [] [] v g h (by simp [keysOf])

end Apollo.C26
