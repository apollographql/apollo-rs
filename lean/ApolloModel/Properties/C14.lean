import ApolloModel.Proofs.SchemaValidation
import ApolloModel.Proofs.DirectiveSearch
import ApolloModel.Proofs.Implementation
import ApolloModel.Proofs.DirectiveApplications
import ApolloModel.Proofs.StickyBuild
import ApolloModel.Proofs.SchemaBuildSpec6
import ApolloModel.Proofs.SchemaNames
import ApolloModel.Proofs.ValueCheck
import ApolloModel.Proofs.ImplementsRule
/-
C14 — Schema validation agrees with the specification.

The executable models (`Model/SchemaValidation.lean`) transliterate the rules of apollo-compiler whose
*algorithm* differs from the specification's wording: the stack-based input-object cycle search
(`FindRecursiveInputValue` + `RecursionStack`), the one-step transitive-interface check
(`validate_implements_interfaces`), the root-operation loop with its `seen` vector
(`validate_root_operation_definitions`) and the directive self-reference search
(`FindRecursiveDirective`).  They are tied to the Rust code by the `c14.*` correspondence streams.
The declarative side is `Spec/SchemaValidation.lean`.  `IsValidImplementationFieldType` is proved in
`Properties/C29.lean` (`impl_field_type_iff`).  No theorem bounds the size of the schema, except that the exact
forms of the two depth-limited searches (`input_rule_iff_spec`, `directive_rule_iff_spec`) assume at most `limit`
(32) input objects, resp. directive definitions and types; beyond that only `input_rule_accept_sound` and
`directive_rule_accept_sound`.

RULE TABLE — every named rule of the harness' independent validator (harness/src/specschema.rs) and the theorem of
this file that states "apollo's code reports it iff the specification's predicate fails" (model following the code +
declarative predicate + correspondence stream `c14.*`):

  executable-definition, lone-schema-definition, unique-type-names, unique-directive-names,
  extension-type-exists, extension-kind-match, schema-extension-without-schema, unique-field-names,
  unique-enum-values, unique-union-members, unique-input-fields, unique-implemented-interfaces,
  unique-operation-types                                   schema_build_iff_spec           (c13.schema, c14.build)
      (the member/interface/root-operation uniqueness alone: build_reports_iff_duplicate)
  object-has-fields, interface-has-fields, union-has-members, enum-has-values, input-has-fields
                                                           nonempty_rule_iff_spec          (c14.build)
  reserved-name-type, -field, -argument, -enum-value, -input-field, -directive, -directive-argument
                                                           reserved_rule_iff_spec          (c14.reserved)
  directive-argument-type, directive-argument-input-field-unique, default-value-type
                                                           value_rule_iff_spec             (c14.values)
      (default-value-type: the same function; apollo-compiler does not call it on defaults — issue 928, oracle
       parameter `validate_default_values = false`)
  query-root-required, root-type-exists, root-type-object, root-types-distinct
                                                           roots_valid_iff                 (c14.roots)
  unique-argument-names, unique-directive-argument-definitions
                                                           argument_definitions_unique_iff (c14.dirapps)
  field-type-exists, field-type-output, argument-type-exists, argument-type-input, input-field-type-exists,
  input-field-type-input, directive-argument-type-exists, directive-argument-type-input, union-member-exists,
  union-member-object                                      reference_kinds_rule_iff_spec   (c14.kinds)
  implements-exists-interface, interface-self-implementation
                                                           implements_rule_iff_spec        (c14.implements)
  transitive-interfaces-declared                           transitive_interfaces_iff       (c14.implements)
  impl-field-present, impl-field-type, impl-arg-present, impl-arg-type, impl-extra-arg-optional
                                                           implementation_rule_iff_spec    (c14.implfields)
  input-object-cycle, input-object-nesting-limit           input_rule_iff_spec             (c14.inputcycle)
  directive-self-reference, directive-nesting-limit        directive_rule_iff_spec         (c14.dircycle)
  directive-known, directive-location, directive-unique, directive-argument-known, directive-argument-unique,
  directive-argument-required                              directive_applications_rule_iff_spec (c14.dirapps)

No named rule is oracle-only.  What stays outside the theorems: each family is proved on its own abstract
view of the schema (the views are tied to the code by the streams, not to each other by a theorem); the value rule
assumes that the types mentioned exist and are input types (the reference rules above); the build theorem is for one
document and the default builder (C13 has the several-sources theorems).
-/
namespace Apollo.C14
open Apollo.SchemaValidation Apollo.SchemaValidation.Spec

/-- Soundness of the input-object search: a reported cycle is a chain of non-null singular fields
    from the input object back to itself. -/
theorem input_cycle_sound (g : IGraph) (limit r : Nat) (hr : r < g.length)
    (h : checkInput g limit r = .recursed) : InputCycleThrough g r :=
  search_sound g limit (limit + 1) [r] (g.fields r) r r rfl hr (fun _ h => h) h

/-- Completeness up to the depth limit: if the input object lies on a non-null cycle the search
    does not accept it (it answers `recursed`, or `limit` when it gave up first). -/
theorem input_cycle_complete (g : IGraph) (limit r : Nat) (h : InputCycleThrough g r) :
    checkInput g limit r ≠ .ok := by
  obtain ⟨ws, hp, hnd, hr, _⟩ := ireach_simple_path g h
  exact search_complete_path g limit ws (limit + 1) [r] r r rfl hp
    (fun w hw hmem => hr (by have : w = r := by simpa using hmem
                             exact this ▸ hw)) hnd

/-- The recursion fuel of the model is never the reason for an answer (termination half). -/
theorem input_search_fuel_sufficient (g : IGraph) (limit r : Nat) :
    checkInput g limit r ≠ .outOfFuel :=
  search_fuel g limit (limit + 1) [r] (g.fields r) (by simp) (by simp)

/-- With at most `limit` (= 32) input objects the depth limit cannot be hit. -/
theorem input_search_no_limit (g : IGraph) (limit r : Nat) (hg : g.length ≤ limit) (hr : r < g.length) :
    checkInput g limit r ≠ .limit :=
  search_no_limit g limit hg (limit + 1) [r] (g.fields r) (by simp)
    (fun x hx => by have : x = r := by simpa using hx
                    exact this ▸ hr)

/-- Exactness under the limit: the search reports input object `r` iff `r` is on a non-null cycle. -/
theorem input_cycle_exact_within_limit (g : IGraph) (limit r : Nat) (hg : g.length ≤ limit)
    (hr : r < g.length) : checkInput g limit r ≠ .ok ↔ InputCycleThrough g r := by
  constructor
  · intro h
    have h1 := input_search_fuel_sufficient g limit r
    have h2 := input_search_no_limit g limit r hg hr
    apply input_cycle_sound g limit r hr
    cases hc : checkInput g limit r <;> simp_all
  · exact input_cycle_complete g limit r

/-- The whole rule: validation pushes no input-object diagnostic iff no input object references itself
    through non-null singular fields (schemas with at most `limit` input objects). -/
theorem input_rule_iff_spec (g : IGraph) (limit : Nat) (hg : g.length ≤ limit) :
    failingInputs g limit = [] ↔ ∀ r, ¬ InputCycleThrough g r := by
  unfold failingInputs
  rw [List.filter_eq_nil_iff]
  constructor
  · intro h r hcyc
    have hr : r < g.length := by
      cases hcyc with
      | single e => obtain ⟨_, _, _, _, hlt⟩ := e; exact hlt
      | cons e _ => obtain ⟨f, hf, _, _, _⟩ := e
                    by_cases hlt : r < g.length
                    · exact hlt
                    · simp [IGraph.fields, List.getD, List.getElem?_eq_none (Nat.le_of_not_lt hlt)] at hf
    have := h r (List.mem_range.mpr hr)
    exact input_cycle_complete g limit r hcyc (by simpa using this)
  · intro h r hr
    have hr' := List.mem_range.mp hr
    have hiff := input_cycle_exact_within_limit g limit r hg hr'
    have hok : checkInput g limit r = .ok := by
      by_cases hc : checkInput g limit r = .ok
      · exact hc
      · exact absurd (hiff.mp hc) (h r)
    simp [hok]

/-- Beyond the limit the verdict can only err on the side of rejecting: an accepted schema still has no cycle. -/
theorem input_rule_accept_sound (g : IGraph) (limit : Nat) (h : failingInputs g limit = []) :
    ∀ r, r < g.length → ¬ InputCycleThrough g r := by
  intro r hr hcyc
  unfold failingInputs at h
  rw [List.filter_eq_nil_iff] at h
  have := h r (List.mem_range.mpr hr)
  exact input_cycle_complete g limit r hcyc (by simpa using this)

/-- `validate_implements_interfaces` checks one step; on every type together that is exactly closure
    under transitively implemented interfaces. -/
theorem transitive_interfaces_iff (s : ISchema) :
    (∀ (a : Nat) (t : TypeInfo), s[a]? = some t → missingTransitive s t = []) ↔ TransitiveClosed s :=
  transitive_closed_iff s

/-- Root operations: no diagnostic iff a query root is given, every given root is an object type and
    the given roots are pairwise different types. -/
theorem roots_valid_iff (q m sub : Option RootTarget) :
    validateRoots q m sub = [] ↔ RootsValid q m sub := by
  unfold validateRoots RootsValid
  rw [List.append_eq_nil_iff, rootLoop_nil_iff]
  cases q <;> simp

/-- Soundness of the directive search: a reported directive really reaches a use of itself through
    its arguments' directives and types. -/
theorem directive_search_sound (s : DSchema) (limit d : Nat)
    (h : checkDirective s limit d = .recursed) : DirectiveSelfReference s d := by
  unfold checkDirective at h
  obtain ⟨x, hx, hwx⟩ := firstErr_err (by decide) h
  obtain ⟨a, ha, rfl⟩ := List.mem_map.mp hx
  cases hd : s.dirs[d]? with
  | none => simp [List.getD, hd] at ha
  | some args =>
    have : s.dirs.getD d [] = args := by simp [List.getD, hd]
    rw [this] at ha
    exact ⟨args, a, hd, ha, walk_sound s limit _ [d] [] (.arg a) d rfl hwx⟩

/-- The full statement for the directive rule (completeness under the limit).  Proved below as
    `directive_search_complete_holds` (the search prunes on two stacks; see Proofs/DirectiveSearch.lean). -/
def directive_search_complete : Prop :=
  ∀ (s : DSchema) (limit d : Nat), DirectiveSelfReference s d → checkDirective s limit d ≠ .ok

/-- Three rule families together (input cycles, transitive interfaces, root operations): accepted iff the
    specification's predicates hold.  The conjunction of all families is `schema_verdict_iff_spec`; the
    field-type rule is `C29.impl_field_type_iff`. -/
theorem schema_verdict_iff_spec_partial (g : IGraph) (limit : Nat) (hg : g.length ≤ limit)
    (s : ISchema) (q m sub : Option RootTarget) :
    (failingInputs g limit = [] ∧
      (∀ (a : Nat) (t : TypeInfo), s[a]? = some t → missingTransitive s t = []) ∧
      validateRoots q m sub = []) ↔
    ((∀ r, ¬ InputCycleThrough g r) ∧ TransitiveClosed s ∧ RootsValid q m sub) := by
  rw [input_rule_iff_spec g limit hg, transitive_interfaces_iff, roots_valid_iff]

-- Non-vacuity: the hypotheses are met by concrete schemas, and the models do compute.
-- `input A { b: B! }  input B { a: A!  c: C }  input C { x: Int! }`
example : failingInputs [[⟨true, 1⟩], [⟨true, 0⟩, ⟨false, 2⟩], [⟨true, 9⟩]] 32 = [0, 1] := by decide
example : InputCycleThrough [[⟨true, 1⟩], [⟨true, 0⟩]] 0 :=
  .cons ⟨⟨true, 1⟩, by simp [IGraph.fields], rfl, rfl, by simp⟩ (.single ⟨⟨true, 0⟩, by simp [IGraph.fields], rfl, rfl, by simp⟩)
-- a chain of 4 with limit 3 is "too deeply nested" although acyclic
example : checkInput [[⟨true, 1⟩], [⟨true, 2⟩], [⟨true, 3⟩], []] 3 0 = .limit := by decide
-- `interface A  interface B implements A  type C implements B` : C misses A
example : missingTransitive [⟨true, []⟩, ⟨true, [0]⟩, ⟨false, [1]⟩] ⟨false, [1]⟩ = [(0, 1)] := by decide
example : validateRoots (some (.object 0)) (some (.object 0)) none = [.duplicate 0] := by decide
example : validateRoots (some (.object 0)) (some (.object 1)) none = [] := by decide
-- `directive @d(a: T)`, `input T { f: Int @d }`
example : checkDirective ⟨[[⟨[], some 0⟩]], [⟨.input, [], [], [⟨[0], none⟩]⟩]⟩ 32 0 = .recursed := by decide

/-! ### the directive rule in full -/

/-- Completeness of the directive search under the depth limit: a directive whose definition reaches a
    use of itself is never accepted (`recursed`, or `limit` when the search gave up first).  This is the
    statement `directive_search_complete` (proof: loop removal on the item graph + induction along
    a simple path with both stacks generalised). -/
theorem directive_search_complete_holds : directive_search_complete :=
  fun s limit d h => checkDirective_complete s limit d h

/-- The recursion fuel of the directive model is never the reason for an answer. -/
theorem directive_search_fuel_sufficient (s : DSchema) (limit d : Nat) :
    checkDirective s limit d ≠ .outOfFuel := by
  intro h
  unfold checkDirective at h
  obtain ⟨y, hy, hwy⟩ := firstErr_err (by decide) h
  obtain ⟨a, _, rfl⟩ := List.mem_map.mp hy
  refine walk_fuel s limit _ [d] [] (.arg a) ?_ hwy
  simp only [need, isArg, List.length_singleton, List.length_nil]
  omega

/-- With at most `limit` directive definitions and at most `limit` types the limit cannot be hit. -/
theorem directive_search_no_limit (s : DSchema) (limit d : Nat) (hd : s.dirs.length ≤ limit)
    (ht : s.types.length ≤ limit) (hdr : d < s.dirs.length) : checkDirective s limit d ≠ .limit := by
  intro h
  unfold checkDirective at h
  obtain ⟨y, _, hwy⟩ := firstErr_err (by decide) h
  exact walk_no_limit s limit hd ht _ [d] [] y (by simp)
    (fun e he => by have : e = d := by simpa using he
                    exact this ▸ hdr) (by simp) (by simp) hwy

/-- The directive rule: validation reports no directive definition iff no directive definition
    references itself directly or indirectly (schemas with at most `limit` = 32 directive definitions
    and types). -/
theorem directive_rule_iff_spec (s : DSchema) (limit : Nat) (hd : s.dirs.length ≤ limit)
    (ht : s.types.length ≤ limit) :
    failingDirectives s limit = [] ↔ ∀ d, ¬ DirectiveSelfReference s d := by
  unfold failingDirectives
  rw [List.filter_eq_nil_iff]
  constructor
  · intro h d hself
    have hdr : d < s.dirs.length := by
      obtain ⟨args, _, hargs, _, _⟩ := hself
      by_cases hl : d < s.dirs.length
      · exact hl
      · rw [List.getElem?_eq_none (Nat.le_of_not_lt hl)] at hargs; cases hargs
    have := h d (List.mem_range.mpr hdr)
    exact checkDirective_complete s limit d hself (by simpa using this)
  · intro h d hdr
    have hdr' := List.mem_range.mp hdr
    have h1 := directive_search_fuel_sufficient s limit d
    have h2 := directive_search_no_limit s limit d hd ht hdr'
    have h3 : checkDirective s limit d ≠ .recursed := fun hc => h d (directive_search_sound s limit d hc)
    cases hc : checkDirective s limit d <;> simp_all

/-- Beyond the limit the verdict can only err on the side of rejecting. -/
theorem directive_rule_accept_sound (s : DSchema) (limit : Nat) (h : failingDirectives s limit = []) :
    ∀ d, ¬ DirectiveSelfReference s d := by
  intro d hself
  unfold failingDirectives at h
  rw [List.filter_eq_nil_iff] at h
  have hdr : d < s.dirs.length := by
    obtain ⟨args, _, hargs, _, _⟩ := hself
    by_cases hl : d < s.dirs.length
    · exact hl
    · rw [List.getElem?_eq_none (Nat.le_of_not_lt hl)] at hargs; cases hargs
  have := h d (List.mem_range.mpr hdr)
  exact checkDirective_complete s limit d hself (by simpa using this)

/-! ### IsValidImplementation for a whole type, and kinds of referenced types -/

open Apollo.Implementation Apollo.Implementation.Spec Apollo.SchemaInvariants in
/-- The implementation rule (`MissingInterfaceField` loop + `validate_implementation_field_types` +
    `validate_implementation_field_arguments`): validation pushes no diagnostic for a type iff
    IsValidImplementation holds against every declared interface — a field of the same name for every
    interface field, every interface argument present with the same type, additional arguments optional,
    and a covariant return type (IsValidImplementationFieldType, any subtype relation). -/
theorem implementation_rule_iff_spec (sub : Name → Name → Bool) (getIface : Nat → Option (List FieldM))
    (tfields : List FieldM) (declared : List Nat) :
    implDiags sub getIface tfields declared = [] ↔
      ∀ i ∈ declared, ∀ ifields, getIface i = some ifields → ValidImplementation sub tfields ifields :=
  implDiags_nil_iff sub getIface tfields declared

open Apollo.Implementation Apollo.Implementation.Spec in
/-- The kind checks on type references: no diagnostic iff every field type is an output type, every
    argument / input-field type an input type and every union member an object type (a referenced
    built-in scalar that is missing from the map counts as the scalar validation will insert). -/
theorem reference_kinds_rule_iff_spec (kindOf : String → Option Kind) (t : TypeRefs) :
    typeRefDiags kindOf t = [] ↔ RefsRightKind kindOf t :=
  typeRefDiags_nil_iff kindOf t

open Apollo.Implementation Apollo.SchemaInvariants in
example : (implDiags (fun a c => a == "Node" && c == "A") (fun _ => some [⟨"f", .list (.named "Node"), [⟨"a", "Int", false⟩]⟩])
    [⟨"f", .nonNullList (.nonNullNamed "A"), [⟨"a", "Int", false⟩, ⟨"c", "Int!", true⟩]⟩] [0]).length = 1 := by decide

/-! ### directive applications in the schema, and the uniqueness rules -/

/-- Directive applications (`validate_directives` with a schema — the same model as C20's, instantiated
    with a type-system location): no diagnostic iff every applied directive is defined (§5.7.1), allowed at
    the location (§5.7.2), a non-repeatable directive is applied at most once (§5.7.3), and its arguments
    are defined (§5.4.1), unique (§5.4.2) and the required ones present and not `null` (§5.4.2.1).
    Argument value typing is not part of the model. -/
theorem directive_applications_rule_iff_spec (dirDef : Standalone.Name → Option Standalone.DirDef)
    (loc : Standalone.Loc) (dirs : List Standalone.Dir) :
    DirApps.schemaDirDiags dirDef loc dirs = [] ↔ DirApps.Spec.DirectivesValid dirDef loc dirs :=
  DirApps.schemaDirDiags_nil_iff dirDef loc dirs

/-- `validate_argument_definitions`: no `UniqueInputValue` iff the argument names are pairwise distinct. -/
theorem argument_definitions_unique_iff (names : List Standalone.Name) :
    DirApps.argDefDups [] names = 0 ↔ names.Nodup := by
  rw [DirApps.argDefDups_zero_iff]; simp

/-- Build-time uniqueness (`extend_sticky` / `collect_sticky`, model of C13): a collision diagnostic
    (`…FieldNameCollision`, `EnumValueNameCollision`, `UnionMemberNameCollision`, `InputFieldNameCollision`,
    `DuplicateImplementsInterface…`, `DuplicateRootOperation`) is pushed iff a name occurs twice — already
    present from the definition / an earlier extension, or repeated in the list being added. -/
theorem build_reports_iff_duplicate (dup : SchemaBuild.Name → SchemaBuild.Diag) (origin : Option SchemaBuild.Pos)
    (items : List SchemaBuild.Item) (cs : List SchemaBuild.Comp) (errs : List SchemaBuild.Err) :
    (SchemaBuild.extendSticky dup origin cs errs items).2 = errs ↔
      (∀ it ∈ items, SchemaBuild.hasName cs it.name = false) ∧ (items.map (·.name)).Nodup :=
  SchemaBuild.extendSticky_reports_iff_duplicate dup origin items cs errs

/-- …and whatever is reported, the built list never holds a name twice (the first definition wins). -/
theorem build_first_definition_wins (dup : SchemaBuild.Name → SchemaBuild.Diag) (origin : Option SchemaBuild.Pos)
    (items : List SchemaBuild.Item) (cs : List SchemaBuild.Comp) (errs : List SchemaBuild.Err)
    (h : (cs.map (·.name)).Nodup) :
    ((SchemaBuild.extendSticky dup origin cs errs items).1.map (·.name)).Nodup :=
  SchemaBuild.extendSticky_names_nodup dup origin items cs errs h

open Apollo.Implementation Apollo.Implementation.Spec in
/-- Nine rule families together: input cycles, transitive interfaces, root operations, directive
    self-reference, the implementation contract, kinds of references, directive applications, argument
    and member uniqueness — accepted iff the specification's predicates hold.  Argument value coercion,
    non-emptiness, reserved names and extension rules are not part of this conjunction; they are part of
    `schema_verdict_iff_spec`. -/
theorem schema_verdict_iff_spec_partial2 (g : IGraph) (limit : Nat) (hg : g.length ≤ limit)
    (s : ISchema) (q m sub : Option RootTarget)
    (ds : DSchema) (hd : ds.dirs.length ≤ limit) (ht : ds.types.length ≤ limit)
    (isSub : Name → Name → Bool) (getIface : Nat → Option (List FieldM)) (tfields : List FieldM) (declared : List Nat)
    (kindOf : String → Option Kind) (refs : TypeRefs)
    (dirDef : Standalone.Name → Option Standalone.DirDef) (loc : Standalone.Loc) (apps : List Standalone.Dir)
    (argNames : List Standalone.Name)
    (dup : SchemaBuild.Name → SchemaBuild.Diag) (origin : Option SchemaBuild.Pos) (items : List SchemaBuild.Item)
    (errs : List SchemaBuild.Err) :
    (failingInputs g limit = [] ∧
      (∀ (a : Nat) (t : TypeInfo), s[a]? = some t → missingTransitive s t = []) ∧
      validateRoots q m sub = [] ∧
      failingDirectives ds limit = [] ∧
      implDiags isSub getIface tfields declared = [] ∧
      typeRefDiags kindOf refs = [] ∧
      DirApps.schemaDirDiags dirDef loc apps = [] ∧
      DirApps.argDefDups [] argNames = 0 ∧
      (SchemaBuild.extendSticky dup origin [] errs items).2 = errs) ↔
    ((∀ r, ¬ InputCycleThrough g r) ∧ TransitiveClosed s ∧ RootsValid q m sub ∧
      (∀ d, ¬ DirectiveSelfReference ds d) ∧
      (∀ i ∈ declared, ∀ ifields, getIface i = some ifields → ValidImplementation isSub tfields ifields) ∧
      RefsRightKind kindOf refs ∧
      DirApps.Spec.DirectivesValid dirDef loc apps ∧
      argNames.Nodup ∧
      (items.map (·.name)).Nodup) := by
  rw [input_rule_iff_spec g limit hg, transitive_interfaces_iff, roots_valid_iff, directive_rule_iff_spec ds limit hd ht,
    implementation_rule_iff_spec, reference_kinds_rule_iff_spec, directive_applications_rule_iff_spec,
    argument_definitions_unique_iff, build_reports_iff_duplicate]
  simp [SchemaBuild.hasName]

-- Non-vacuity: `@d0(a0: Int!) on OBJECT` applied twice at OBJECT, once without its argument
example : (DirApps.schemaDirDiags
    (fun n => if n == 0 then some ⟨false, [DirApps.TsLoc.object.loc], [⟨0, true⟩]⟩ else none) DirApps.TsLoc.object.loc
    [⟨0, [⟨0, .other []⟩]⟩, ⟨0, []⟩, ⟨1, []⟩]) = [.uniqueDirective, .requiredArgument, .undefinedDirective] := by decide


/-! ## build-time rules, non-emptiness, reserved names, values, `implements` lists -/

/-- **Build-time rules.**  `SchemaBuilder` (one pass over the definitions, with a queue of extensions that
    precede their definition; Model/SchemaBuild.lean, tied to the code by `c13.schema` and `c14.build`) reports
    no error iff the document satisfies the specification's order-free reading: no executable definition, at
    most one schema definition, type names unique (built-in types included), directive names unique (a built-in
    directive may be re-defined once), every extension extends a defined type of its own kind, a schema extension
    has a schema to extend, and fields / enum values / union members / input fields / implemented interfaces /
    root operation types are unique within their type, definition and extensions together.
    The documents of C13's `kind_mismatch_reported_in_both_orders` (an extension of another kind) and a second
    definition of a type name (`C13.collision_first_definition_wins`) fail the right-hand side. -/
theorem schema_build_iff_spec (ds : List SchemaBuild.Def) (hwf : SchemaBuild.WellFormed ds) :
    (SchemaBuild.build (SchemaBuild.Builder.new false false) [ds]).errors = [] ↔ SchemaBuild.BuildSpec ds :=
  SchemaBuild.build_errors_iff_spec ds hwf

/-- The loop invariant behind it (used by `C15.valid_implies_invariants_full3`): on an error-free build the
    entry of every type lists exactly the members (and interfaces) its definition and its extensions give it,
    whatever their order. -/
theorem built_type_has_all_members (ds : List SchemaBuild.Def) (hwf : SchemaBuild.WellFormed ds)
    (he : (SchemaBuild.addDocument (SchemaBuild.Builder.new false false) ds).errors = [])
    (n : SchemaBuild.Name) (t : SchemaBuild.TypeEntry)
    (hf : SchemaBuild.findType (SchemaBuild.addDocument (SchemaBuild.Builder.new false false) ds).types n = some t) :
    (∀ m, SchemaBuild.hasName t.body.members m = true ↔ m ∈ SchemaBuild.memberNames ds n) ∧
    (∀ m, SchemaBuild.hasName t.body.interfaces m = true ↔ m ∈ SchemaBuild.ifaceNames ds n) :=
  let hinv := (SchemaBuild.scan_spec ds hwf).2 he
  ⟨hinv.t.members n t hf, hinv.t.ifaces n t hf⟩

/-- **Non-emptiness.**  On an error-free build, validation pushes no `EmptyFieldSet` / `EmptyMemberSet` /
    `EmptyValueSet` / `EmptyInputValueSet` iff every non-scalar type the document defines has at least one member
    in its definition or in one of its extensions. -/
theorem nonempty_rule_iff_spec (ds : List SchemaBuild.Def) (hwf : SchemaBuild.WellFormed ds)
    (hb : (SchemaBuild.build (SchemaBuild.Builder.new false false) [ds]).errors = []) :
    SchemaNames.emptyTypeDiags (SchemaBuild.build (SchemaBuild.Builder.new false false) [ds]).types = [] ↔
      SchemaBuild.NonEmptyNames ds :=
  SchemaBuild.nonempty_rule_iff_spec ds hwf hb

/-- **Reserved names**, exactly: a `ReservedName` diagnostic is pushed for the name `cs` at `site` iff the document
    introduces that name there (type, directive, field, argument of a field or a directive, enum value, input
    field), outside the built-in definitions, and it starts with two underscores. -/
theorem reserved_diag_exact (s : SchemaNames.SchemaNames) (site : SchemaNames.Site) (cs : List Char) :
    (site, cs) ∈ SchemaNames.reservedDiags s ↔
      ∃ n, SchemaNames.Spec.NamesOf s site n ∧ n.chars = cs ∧ n.builtIn = false ∧ SchemaNames.Spec.Reserved cs :=
  SchemaNames.reserved_diag_iff s site cs

theorem reserved_rule_iff_spec (s : SchemaNames.SchemaNames) :
    SchemaNames.reservedDiags s = [] ↔ SchemaNames.Spec.NoReservedNames s :=
  SchemaNames.reserved_rule_iff_spec s

/-- **Values of correct type** (arguments of directives applied in the schema; default values once they are
    checked): `value_of_correct_type` pushes no diagnostic for a constant iff the constant coerces to the type
    (§3.5 scalars with the `i32` and finite-`f64` ranges, §3.9, §3.10 with §5.6.2–4, §3.11 incl. single-item
    coercion, §3.12; a custom scalar accepts every constant whose object literals have unique fields at every depth,
    `LiteralOK`).  Guard: the type and the types of all input fields of the schema are defined input types
    (`Defined`, `Closed`: what the reference rules of `reference_kinds_rule_iff_spec` establish). -/
theorem value_rule_iff_spec (S : ValueCheck.Schema) (hS : ValueCheck.Spec.Closed S) (ty : ValueCheck.Ty)
    (hty : ValueCheck.Spec.Defined S ty) (v : ValueCheck.Value) :
    ValueCheck.check S [] ty v = [] ↔ ValueCheck.Spec.Coerces S ty v :=
  ValueCheck.value_rule_iff_spec S hS ty hty v

/-- §5.6.3 holds for every object literal inside an accepted custom-scalar literal too (fix cce5216 and its
    extension to nested literals) -/
theorem opaque_literal_iff_unique (v : ValueCheck.Value) :
    ValueCheck.opaqueDiags [] v = [] ↔ ValueCheck.Spec.LiteralOK v := ValueCheck.opaque_iff v

/-- **`implements` lists**: no `UndefinedDefinition` / `RecursiveInterfaceDefinition` from
    `validate_implements_interfaces` iff every listed name is a defined interface and no interface lists itself. -/
theorem implements_rule_iff_spec (s : ISchema) :
    (∀ (a : Nat) (t : TypeInfo), s[a]? = some t → undefinedImplements s t = [] ∧ selfImplements a t = []) ↔
      ImplementsValid s :=
  implements_rule_iff s

open Apollo.Implementation Apollo.Implementation.Spec in
/-- **The whole verdict, family by family.**  Every rule family of the independent validator has its theorem
    (table at the top of this file); accepted iff all the specification's predicates hold.  The views
    (`g`, `s`, roots, `ds`, …, `doc`, `names`, and the argument values `vals` with their types) are the
    abstractions the correspondence streams tie to the real schema. -/
theorem schema_verdict_iff_spec (g : IGraph) (limit : Nat) (hg : g.length ≤ limit)
    (s : ISchema) (q m sub : Option RootTarget)
    (ds : DSchema) (hd : ds.dirs.length ≤ limit) (ht : ds.types.length ≤ limit)
    (isSub : Name → Name → Bool) (getIface : Nat → Option (List FieldM)) (tfields : List FieldM) (declared : List Nat)
    (kindOf : String → Option Kind) (refs : TypeRefs)
    (dirDef : Standalone.Name → Option Standalone.DirDef) (loc : Standalone.Loc) (apps : List Standalone.Dir)
    (argNames : List Standalone.Name)
    (doc : List SchemaBuild.Def) (hwf : SchemaBuild.WellFormed doc)
    (names : SchemaNames.SchemaNames)
    (S : ValueCheck.Schema) (hS : ValueCheck.Spec.Closed S)
    (vals : List (ValueCheck.Ty × ValueCheck.Value)) (hvals : ∀ p ∈ vals, ValueCheck.Spec.Defined S p.1) :
    (failingInputs g limit = [] ∧
      (∀ (a : Nat) (t : TypeInfo), s[a]? = some t → missingTransitive s t = []) ∧
      (∀ (a : Nat) (t : TypeInfo), s[a]? = some t → undefinedImplements s t = [] ∧ selfImplements a t = []) ∧
      validateRoots q m sub = [] ∧
      failingDirectives ds limit = [] ∧
      implDiags isSub getIface tfields declared = [] ∧
      typeRefDiags kindOf refs = [] ∧
      DirApps.schemaDirDiags dirDef loc apps = [] ∧
      DirApps.argDefDups [] argNames = 0 ∧
      ((SchemaBuild.build (SchemaBuild.Builder.new false false) [doc]).errors = [] ∧
        SchemaNames.emptyTypeDiags (SchemaBuild.build (SchemaBuild.Builder.new false false) [doc]).types = []) ∧
      SchemaNames.reservedDiags names = [] ∧
      (∀ p ∈ vals, ValueCheck.check S [] p.1 p.2 = [])) ↔
    ((∀ r, ¬ InputCycleThrough g r) ∧ TransitiveClosed s ∧ ImplementsValid s ∧ RootsValid q m sub ∧
      (∀ d, ¬ DirectiveSelfReference ds d) ∧
      (∀ i ∈ declared, ∀ ifields, getIface i = some ifields → ValidImplementation isSub tfields ifields) ∧
      RefsRightKind kindOf refs ∧
      DirApps.Spec.DirectivesValid dirDef loc apps ∧
      argNames.Nodup ∧
      (SchemaBuild.BuildSpec doc ∧ SchemaBuild.NonEmptyNames doc) ∧
      SchemaNames.Spec.NoReservedNames names ∧
      (∀ p ∈ vals, ValueCheck.Spec.Coerces S p.1 p.2)) := by
  rw [input_rule_iff_spec g limit hg, transitive_interfaces_iff, implements_rule_iff_spec, roots_valid_iff,
    directive_rule_iff_spec ds limit hd ht, implementation_rule_iff_spec, reference_kinds_rule_iff_spec,
    directive_applications_rule_iff_spec, argument_definitions_unique_iff, reserved_rule_iff_spec]
  have hbuild : ((SchemaBuild.build (SchemaBuild.Builder.new false false) [doc]).errors = [] ∧
        SchemaNames.emptyTypeDiags (SchemaBuild.build (SchemaBuild.Builder.new false false) [doc]).types = []) ↔
      (SchemaBuild.BuildSpec doc ∧ SchemaBuild.NonEmptyNames doc) := by
    constructor
    · intro ⟨h1, h2⟩
      exact ⟨(schema_build_iff_spec doc hwf).mp h1, (nonempty_rule_iff_spec doc hwf h1).mp h2⟩
    · intro ⟨h1, h2⟩
      have hb := (schema_build_iff_spec doc hwf).mpr h1
      exact ⟨hb, (nonempty_rule_iff_spec doc hwf hb).mpr h2⟩
  have hv : (∀ p ∈ vals, ValueCheck.check S [] p.1 p.2 = []) ↔ (∀ p ∈ vals, ValueCheck.Spec.Coerces S p.1 p.2) := by
    constructor
    · intro h p hp; exact (value_rule_iff_spec S hS p.1 (hvals p hp) p.2).mp (h p hp)
    · intro h p hp; exact (value_rule_iff_spec S hS p.1 (hvals p hp) p.2).mpr (h p hp)
  rw [hbuild, hv]

-- Non-vacuity of these families
example : (SchemaBuild.build (SchemaBuild.Builder.new false false)
    [[⟨.typeExt .object, "A", 0, 1, [], [], [⟨"x", 2, 2, ""⟩]⟩, ⟨.typeDef .object, "A", 10, 11, [], [], []⟩,
      ⟨.typeDef .enum, "E", 20, 21, [], [], []⟩]]).errors = [] := by decide
example : SchemaNames.emptyTypeDiags (SchemaBuild.build (SchemaBuild.Builder.new false false)
    [[⟨.typeExt .object, "A", 0, 1, [], [], [⟨"x", 2, 2, ""⟩]⟩, ⟨.typeDef .object, "A", 10, 11, [], [], []⟩,
      ⟨.typeDef .enum, "E", 20, 21, [], [], []⟩]]).types = [("E", .enum)] := by decide
example : SchemaNames.reservedDiags ⟨[⟨⟨"__d".toList, false⟩, [⟨"__a".toList, false⟩]⟩],
    [⟨⟨"__Type".toList, true⟩, .fields [⟨⟨"__x".toList, false⟩, []⟩]⟩]⟩ =
    [(.directive, "__d".toList), (.argument, "__a".toList), (.field, "__x".toList)] := by decide
example : ValueCheck.check ⟨[("I", .input [⟨"a", .nonNullNamed "Int", false⟩])]⟩ [] (.named "I")
    (.object (.cons "a" (.int 2147483648) (.cons "a" .null .nil))) =
    [.uniqueInputValue, .requiredField, .intCoercionError] := by decide

end Apollo.C14
