import ApolloModel.Model.VariableUsage
/-
C29 — Type compatibility checks match the specification.

`Gen.isAssignableTo` and `Gen.isValidImplementationFieldType` are REGENERATED from the Rust source
on every run (translator/translate.py); `Model.isVariableUsageAllowed` is hand-written and tied by
correspondence.  The spec side is `Spec/Types.lean`.  All theorems are for unbounded nesting.
-/
namespace Apollo.C29
open Apollo Apollo.Spec

/-- The four-constructor representation embeds into the well-formed spec types; with `unembed_embed`
    and `embed_unembed` below, exactly onto them. -/
theorem embed_wf (t : Ty) : (embed t).WF = true := by
  induction t with
  | named n => rfl
  | nonNullNamed n => rfl
  | list t ih => simpa [embed, STy.WF] using ih
  | nonNullList t ih => simpa [embed, STy.WF] using ih

theorem unembed_embed (t : Ty) : unembed (embed t) = t := by
  induction t with
  | named n => rfl
  | nonNullNamed n => rfl
  | list t ih => simp [embed, unembed, ih]
  | nonNullList t ih => simp [embed, unembed, ih]

theorem embed_unembed : ∀ (s : STy), s.WF = true → embed (unembed s) = s
  | .named n, _ => rfl
  | .list t, h => by
      have := embed_unembed t (by simpa [STy.WF] using h)
      simp [unembed, embed, this]
  | .nonNull (.named n), _ => rfl
  | .nonNull (.list t), h => by
      have := embed_unembed t (by simpa [STy.WF] using h)
      simp [unembed, embed, this]
  | .nonNull (.nonNull t), h => by simp [STy.WF] at h

/-- `Type::is_assignable_to` is the spec's AreTypesCompatible, for all type references. -/
theorem assignable_iff (a b : Ty) :
    Gen.isAssignableTo a b = STy.compat (embed a) (embed b) := by
  induction a generalizing b with
  | named n => cases b <;> simp [Gen.isAssignableTo, embed, STy.compat] <;> rw [BEq.comm]
  | nonNullNamed n => cases b <;> simp [Gen.isAssignableTo, embed, STy.compat] <;> rw [BEq.comm]
  | list t ih => cases b <;> simp [Gen.isAssignableTo, embed, STy.compat, ih]
  | nonNullList t ih => cases b <;> simp [Gen.isAssignableTo, embed, STy.compat, ih]

theorem embed_isNonNull (t : Ty) : (embed t).isNonNull = t.isNonNull := by
  cases t <;> rfl

/-- The variable-usage rule equals IsVariableUsageAllowed, including `= null` defaults. -/
theorem usage_allowed_iff (v : Ty) (d : DefaultValue) (l : Ty) (ld : Bool) :
    Model.isVariableUsageAllowed v d l ld
      = variableUsageAllowed (embed v) d (embed l) ld := by
  unfold Model.isVariableUsageAllowed variableUsageAllowed
  rw [embed_isNonNull]
  cases l <;> cases hv : v.isNonNull <;>
    simp [Ty.isNonNull, embed, Ty.nullable, assignable_iff]

/-- The interface implementation check equals IsValidImplementationFieldType under the schema's
    subtype relation (`sub abstract concrete`). Spec argument order: (fieldType, implementedFieldType). -/
theorem impl_field_type_iff (sub : Name → Name → Bool) (iface impl : Ty) :
    Gen.isValidImplementationFieldType sub iface impl
      = validImplFieldType sub (embed impl) (embed iface) := by
  induction iface generalizing impl with
  | named n => cases impl <;> simp [Gen.isValidImplementationFieldType, embed, validImplFieldType] <;> rw [BEq.comm]
  | nonNullNamed n => cases impl <;> simp [Gen.isValidImplementationFieldType, embed, validImplFieldType] <;> rw [BEq.comm]
  | list t ih => cases impl <;> simp [Gen.isValidImplementationFieldType, embed, validImplFieldType, ih]
  | nonNullList t ih => cases impl <;> simp [Gen.isValidImplementationFieldType, embed, validImplFieldType, ih]

/-- Sanity: assignability is reflexive, for all types. -/
theorem assignable_refl (a : Ty) : Gen.isAssignableTo a a = true := by
  induction a with
  | named n => simp [Gen.isAssignableTo]
  | nonNullNamed n => simp [Gen.isAssignableTo]
  | list t ih => simpa [Gen.isAssignableTo] using ih
  | nonNullList t ih => simpa [Gen.isAssignableTo] using ih

-- Non-vacuity: the theorems speak about non-trivial instances.
example : Gen.isAssignableTo (.nonNullList (.nonNullNamed "A")) (.list (.named "A")) = true := by decide
example : Gen.isAssignableTo (.list (.named "A")) (.nonNullList (.named "A")) = false := by decide
example : Model.isVariableUsageAllowed (.named "Int") .null (.nonNullNamed "Int") false = false := by decide
example : Model.isVariableUsageAllowed (.named "Int") .nonNullValue (.nonNullNamed "Int") false = true := by decide
example : Gen.isValidImplementationFieldType (fun a c => a == "I" && c == "O")
    (.list (.named "I")) (.nonNullList (.nonNullNamed "O")) = true := by decide

end Apollo.C29
