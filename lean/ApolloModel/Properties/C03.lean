import ApolloModel.Proofs.Lexer3
import ApolloModel.Proofs.LexerTokens
import ApolloModel.Proofs.LexerWhole
/-
C03 — The lexer implements the GraphQL lexical grammar.

Model: Model/Lexer.lean — the state machine of `Cursor::advance` one character at a time, with the
character classes REGENERATED from lexer/lookup.rs and lexer/mod.rs (Generated/LexTables.lean) and
the transitions hand-written (tied by the exhaustive correspondence stream L: every string of
length ≤ 4/5 over one representative per character class, deeper targeted alphabets, random).

Proved here for ALL inputs: losslessness and termination (independent of the transition table),
exact token-limit behaviour, maximal munch for names and punctuators.  The kinds/boundaries of
numbers and strings and "no error ⟺ valid token sequence" are checked against an independent
reference lexer of the October-2021 grammar in the harness, and proved below (section Grammar):
per-kind iff theorems and the whole-input theorem `lex_ok_iff_spec_tokens`.
-/
namespace Apollo.C03
open Apollo.Lex

/-- Tokens and error fragments, concatenated in order, reproduce the input; the stream always ends
    with EOF (so lexing terminates: the model's fuel `|src| + 1` is always sufficient). -/
theorem lex_concat (src : Str) : texts (lex none src) = src ∧ (lex none src).getLast? = some (.tok .eof []) :=
  Lex.lex_concat src

/-- One `advance` call never loses, duplicates or reorders a character. -/
theorem advance_concat (src : Str) : (advance src).1.data ++ (advance src).2 = src := Lex.advance_concat src

/-- Every item produced from non-empty input is non-empty and consumes input (no infinite loop). -/
theorem advance_progress (c : Char) (rest : Str) :
    (advance (c :: rest)).1.data ≠ [] ∧ (advance (c :: rest)).2.length < (c :: rest).length :=
  Lex.advance_progress c rest

/-- With token limit `n`: the first `n` items of the unlimited stream, then one limit error — iff the
    unlimited stream is longer than `n`. -/
theorem token_limit_exact (n : Nat) (src : Str) :
    lex (some n) src = if (lex none src).length ≤ n then lex none src else (lex none src).take n ++ [.limit] :=
  Lex.token_limit_exact n src

/-- Punctuators: single character, kind from the (regenerated) table. -/
theorem lex_punctuator (c : Char) (k : Kind) (rest : Str) (h : punctuationKind c = some k) :
    advance (c :: rest) = (.tok k [c], rest) := Lex.lex_punctuator c k rest h

/-- Names are maximal-munch: NameStart then the longest run of NameContinue. -/
theorem lex_name (c : Char) (rest : Str) (h : isNameStart c = true) :
    advance (c :: rest) = (.tok .name (c :: rest.takeWhile isNameContinue), rest.dropWhile isNameContinue) :=
  Lex.lex_name c rest h

/-- The regenerated tables are the grammar's: NameStart = `[_A-Za-z]`, line terminators are LF and
    CR, and the punctuator table gives each of the 14 one-character punctuators its kind. -/
theorem tables_are_spec :
    (∀ c, isNameStart c = true ↔ (c = '_' ∨ ('A' ≤ c ∧ c ≤ 'Z') ∨ ('a' ≤ c ∧ c ≤ 'z'))) ∧
    (∀ c, isLineTerminator c = true ↔ (c = '\n' ∨ c = '\r')) ∧
    (['!', '$', '&', '(', ')', ':', '=', '@', '[', ']', '{', '|', '}', ','].map punctuationKind =
      [some .bang, some .dollar, some .amp, some .lParen, some .rParen, some .colon, some .eq, some .at,
       some .lBracket, some .rBracket, some .lCurly, some .pipe, some .rCurly, some .comma]) := by
  have char_eq_iff : ∀ (c d : Char), c = d ↔ c.toNat = d.toNat := fun c d =>
    ⟨fun h => h ▸ rfl, fun h => by rw [← Char.ofNat_toNat c, ← Char.ofNat_toNat d, h]⟩
  refine ⟨?_, ?_, by decide⟩
  · intro c
    have e1 : ∀ (a b : Char), a ≤ b ↔ a.toNat ≤ b.toNat := fun a b => Iff.rfl
    simp only [isNameStart, Bool.or_eq_true, Bool.and_eq_true, decide_eq_true_eq, beq_iff_eq, e1, char_eq_iff c '_']
    show _ ↔ (c.toNat = 95 ∨ (65 ≤ c.toNat ∧ c.toNat ≤ 90) ∨ (97 ≤ c.toNat ∧ c.toNat ≤ 122))
    omega
  · intro c
    simp only [isLineTerminator, Bool.or_eq_true, beq_iff_eq, char_eq_iff c '\n', char_eq_iff c '\r']
    show _ ↔ (c.toNat = 10 ∨ c.toNat = 13)
    exact Iff.rfl

-- Non-vacuity and regression witnesses (kernel-evaluated on the model)
example : lex none ['{', 'a', '1', ' ', '.', '.', '.', '}'] =
    [.tok .lCurly ['{'], .tok .name ['a', '1'], .tok .whitespace [' '], .tok .spread ['.', '.', '.'],
     .tok .rCurly ['}'], .tok .eof []] := by decide
-- fixed defect: a line terminator right after the opening quote is an error
example : lex none ['"', '\n', '"'] = [.err ['"', '\n', '"'], .tok .eof []] := by decide
-- known finding: a raw control character inside a string is accepted
theorem C03_counterexample_sourcechar :
    lex none ['"', Char.ofNat 1, '"'] = [.tok .stringValue ['"', Char.ofNat 1, '"'], .tok .eof []] := by decide

/-! ## Token kinds against the lexical grammar (Spec/Lexical.lean, written from October 2021 §2) -/
section Grammar
open Apollo.Spec.Lexical (IsIntValue IsFloatValue NumberLookaheadOk IsQuotedString StringChars IsComment
  CommentLookaheadOk IsBlockString StringLookaheadOk)

/-- the lexer's character classes are the grammar's Digit and NameStart -/
theorem char_classes_agree (c : Char) :
    isAsciiDigit c = Spec.Lexical.isDigit c ∧ isNameStart c = Spec.Lexical.isNameStart c := Lex.classes_agree c

/-- NUMBERS, both directions, for every source: the DFA emits the token `Int t` leaving `rest` exactly
    when the source is `t ++ rest` with `t` a spec IntValue and `rest` allowed by the lookahead
    restriction `[lookahead != {Digit, ., NameStart}]` (or empty) … -/
theorem lex_number_iff_spec (src t rest : Str) :
    (advance src = (.tok .int t, rest) ↔ src = t ++ rest ∧ IsIntValue t ∧ NumberLookaheadOk rest) ∧
    (advance src = (.tok .float t, rest) ↔ src = t ++ rest ∧ IsFloatValue t ∧ NumberLookaheadOk rest) := by
  constructor
  · constructor
    · intro h
      have hs := Lex.lex_number_sound src .int t rest h (Or.inl rfl)
      have hc := Lex.advance_concat src
      rw [h] at hc
      rcases hs.1 with ⟨_, hi⟩ | ⟨hk, _⟩
      · exact ⟨hc.symm, hi, hs.2⟩
      · cases hk
    · rintro ⟨rfl, hi, hl⟩; exact Lex.lex_int_complete t rest hi hl
  · constructor
    · intro h
      have hs := Lex.lex_number_sound src .float t rest h (Or.inr rfl)
      have hc := Lex.advance_concat src
      rw [h] at hc
      rcases hs.1 with ⟨hk, _⟩ | ⟨_, hf⟩
      · cases hk
      · exact ⟨hc.symm, hf, hs.2⟩
    · rintro ⟨rfl, hf, hl⟩; exact Lex.lex_float_complete t rest hf hl

/-- … and a source that starts like a number (digit or `-`) but has no prefix that is a spec number
    followed by an allowed character yields an ERROR item: `01`, `1.`, `1e`, `1a`, `-`, `1.5.`, `0x1` … -/
theorem lex_number_error (c : Char) (src : Str) (hc : isAsciiDigit c = true ∨ c = '-')
    (hno : ∀ t rest, c :: src = t ++ rest → (IsIntValue t ∨ IsFloatValue t) → ¬ NumberLookaheadOk rest) :
    (advance (c :: src)).1.isErr = true := by
  cases hadv : advance (c :: src) with
  | mk item rest =>
    cases item with
    | err d => rfl
    | limit => rfl
    | tok k t =>
      exfalso
      have hc' : Lex.D c ∨ c.toNat = 45 := by
        rcases hc with h | h
        · exact Or.inl ((Lex.lexDigit_iff c).mp h)
        · right; rw [h]; rfl
      have hs := Lex.lex_number_start_sound c src hc' k t rest hadv
      have hcat := Lex.advance_concat (c :: src)
      rw [hadv] at hcat
      refine hno t rest hcat.symm ?_ hs.2
      rcases hs.1 with ⟨_, h⟩ | ⟨_, h⟩
      · exact Or.inl h
      · exact Or.inr h

example : (advance "01".toList).1 = .err "01".toList := by decide
example : (advance "1.".toList).1 = .err "1.".toList := by decide
example : (advance "1. ".toList).1 = .err "1. ".toList := by decide
example : (advance "1e".toList).1 = .err "1e".toList := by decide
example : (advance "1e+ ".toList).1 = .err "1e+ ".toList := by decide
example : (advance "1a".toList).1 = .err "1a".toList := by decide
example : (advance "-".toList).1 = .err "-".toList := by decide
example : (advance "-a".toList).1 = .err "-a".toList := by decide
example : (advance "1.5.".toList).1 = .err "1.5.".toList := by decide
example : advance "-0.5E-10,".toList = (.tok .float "-0.5E-10".toList, ",".toList) := by decide
example : advance "0)".toList = (.tok .int "0".toList, ")".toList) := by decide

/-- STRINGS, soundness: every StringValue token the DFA emits is either a spec quoted string
    `"` StringCharacter* `"` — with the lexer's documented relaxation that any character counts as a
    SourceCharacter (the raw-control-character finding) — or starts with `"""` (a block string). -/
theorem lex_string_sound (c : Char) (src t rest : Str) (h : advance (c :: src) = (.tok .stringValue t, rest)) :
    IsQuotedString Lex.anyChar t ∨ ∃ tail, t = Lex.q3 ++ tail := by
  rcases Lex.advance_token_sound c src .stringValue t rest h with hq | hb
  · exact Or.inl (Lex.lexQuoted_spec hq)
  · exact Or.inr hb

/-- … and when the token contains only SourceCharacters it is a quoted string of the unrelaxed grammar -/
theorem lex_string_sound_strict (c : Char) (src t rest : Str)
    (h : advance (c :: src) = (.tok .stringValue t, rest))
    (hsrc : ∀ x ∈ t, Spec.Lexical.isSourceCharacter x = true) :
    IsQuotedString Spec.Lexical.isSourceCharacter t ∨ ∃ tail, t = Lex.q3 ++ tail := by
  rcases lex_string_sound c src t rest h with ⟨body, rfl, hb⟩ | hq
  · exact Or.inl ⟨body, rfl, Lex.sc_strict hb (fun x hx => hsrc x (by simp [hx]))⟩
  · exact Or.inr hq

/-- QUOTED STRINGS, both directions, in the lexer's exact language (`Lex.LexStringChars`: the
    grammar's StringCharacter* with any character counted as SourceCharacter and `\uXXXX` not a
    surrogate): a token that does not start with `"""` is emitted exactly for `"` StringCharacter* `"`,
    where the empty string `""` must not be followed by a third quote. -/
theorem lex_quoted_string_iff (src t rest : Str) (hnb : ¬ ∃ tail, t = Lex.q3 ++ tail) :
    advance src = (.tok .stringValue t, rest) ↔
      src = t ++ rest ∧ Lex.IsLexQuoted t ∧ StringLookaheadOk t rest := by
  constructor
  · intro h
    have hc := Lex.advance_concat src
    rw [h] at hc
    simp only [Item.data] at hc
    cases src with
    | nil => simp [advance, runD, eofItem] at h
    | cons c src =>
      rcases Lex.advance_token_sound c src .stringValue t rest h with hq | hb
      · refine ⟨hc.symm, hq, ?_⟩
        intro ht
        subst ht
        cases rest with
        | nil => simp
        | cons x r =>
          intro hx
          have : x = '"' := by simpa using hx
          subst this
          obtain ⟨tail', hp⟩ := Lex.advance_block_prefix r
          have hsrc : c :: src = '"' :: '"' :: '"' :: r := by simpa using hc.symm
          rw [← hsrc, h] at hp
          simp [Item.data, Lex.q3] at hp
      · exact absurd hb hnb
  · rintro ⟨rfl, ⟨body, rfl, hb⟩, hl⟩
    have := Lex.lex_string_complete body rest hb (by
      intro hbody; subst hbody; exact hl rfl)
    simpa using this

/-- the documented exceptions, as witnesses: a surrogate escape and a braced escape are rejected -/
example : (advance "\"\\uD800\"".toList).1.isErr = true := by decide
example : (advance "\"\\u{1F600}\"".toList).1.isErr = true := by decide
example : advance "\"a\\n\\u00e9\" x".toList = (.tok .stringValue "\"a\\n\\u00e9\"".toList, " x".toList) := by decide
example : advance "\"\"x".toList = (.tok .stringValue "\"\"".toList, "x".toList) := by decide

/-- COMMENTS: `#` up to the next line terminator (or the end of input), one Comment token -/
theorem lex_comment (rest : Str) :
    advance ('#' :: rest) = (.tok .comment ('#' :: rest.takeWhile (fun c => !isLineTerminator c)),
      rest.dropWhile (fun c => !isLineTerminator c)) := Lex.lex_comment rest

/-- WHITESPACE: TAB, SPACE, LF, CR and the BOM are merged into one maximal run -/
theorem lex_whitespace (c : Char) (rest : Str) (h : isWhitespaceAssimilated c = true) :
    advance (c :: rest) = (.tok .whitespace (c :: rest.takeWhile isWhitespaceAssimilated),
      rest.dropWhile isWhitespaceAssimilated) := Lex.lex_whitespace c rest h

/-- `...` is a token; any other text starting with a dot is an error -/
theorem lex_spread (rest : Str) : advance ('.' :: '.' :: '.' :: rest) = (.tok .spread ['.', '.', '.'], rest) :=
  Lex.lex_spread rest
theorem lex_dot_error (rest : Str) (h : rest.take 2 ≠ ['.', '.']) : (advance ('.' :: rest)).1.isErr = true :=
  Lex.lex_dot_error rest h

/-- EVERY TOKEN: whatever token one `advance` emits is a token of the lexical grammar of that kind
    (Name, IntValue, FloatValue, StringValue, Comment, punctuator, `...`, whitespace run), and what
    follows satisfies the grammar's lookahead restriction for that kind. -/
theorem advance_token_sound (c : Char) (src : Str) (k : Kind) (t rest : Str)
    (h : advance (c :: src) = (.tok k t, rest)) : Lex.TokenOk k t rest :=
  Lex.advance_token_sound c src k t rest h

/-- WHOLE INPUT, the ⇒ half of "no error ⟺ valid token sequence": when lexing reports no error the
    item stream is a tokenisation of the input by the lexical grammar. -/
theorem lex_ok_tokens_sound (src : Str) (h : ∀ it ∈ lex none src, it.isErr = false) :
    Lex.SpecTokens src (lex none src) := Lex.lex_ok_tokens_sound src h

/-- BLOCK STRINGS, both directions, for every source: a StringValue token that starts with `"""` is emitted, leaving
    `rest`, exactly when the source is `t ++ rest` with `t` a block string of the grammar:
    `"""` BlockStringCharacter* `"""` where BlockStringCharacter is any character (documented deviation: every character
    counts as SourceCharacter) that does not start `"""` or `\"""`, or the escape `\"""` — so the token ends at the FIRST
    unescaped `"""` (maximal munch is not an issue: there is no choice).  Proved state by state for the six block-string
    states (`Lex.block_run`: from each state, with its pending partial match, the DFA accepts exactly the
    `Spec.Lexical.BlockBody` continuations). -/
theorem lex_block_string_iff (src t rest : Str) :
    (advance src = (.tok .stringValue t, rest) ∧ ∃ tail, t = Lex.q3 ++ tail) ↔
      (src = t ++ rest ∧ IsBlockString Lex.anyChar t) := Lex.lex_block_string_iff src t rest

/-- … and an opening `"""` that is not followed by BlockStringCharacter* `"""` yields an ERROR item (unterminated) -/
theorem lex_block_string_error (r : Str) (hno : ¬ ∃ body rest, r = body ++ rest ∧ Spec.Lexical.BlockBody Lex.anyChar body) :
    (advance (Lex.q3 ++ r)).1.isErr = true := Lex.lex_block_string_error r hno

-- runs of quotes, exactly as the code: 3, 4 and 5 quotes are unterminated; 6 are the empty block string; of 7 the
-- first 6 are a token and the 7th starts an unterminated quoted string; `\"""` is an escape, `\\"""` too (the second
-- backslash escapes the quotes)
example : lex none "\"\"\"".toList = [.err "\"\"\"".toList, .tok .eof []] := by decide
example : lex none "\"\"\"\"".toList = [.err "\"\"\"\"".toList, .tok .eof []] := by decide
example : lex none "\"\"\"\\\"\"\"".toList = [.err "\"\"\"\\\"\"\"".toList, .tok .eof []] := by decide
example : lex none "\"\"\"a\"\"".toList = [.err "\"\"\"a\"\"".toList, .tok .eof []] := by decide
example : lex none "\"\"\"\"\"\"".toList = [.tok .stringValue "\"\"\"\"\"\"".toList, .tok .eof []] := by decide
example : lex none "\"\"\"\"\"\"\"".toList = [.tok .stringValue "\"\"\"\"\"\"".toList, .err "\"".toList, .tok .eof []] := by decide
example : lex none "\"\"\"\\\\\"\"\"".toList = [.err "\"\"\"\\\\\"\"\"".toList, .tok .eof []] := by decide
example : lex none "\"\"\"a\\\"\"\"b\"\"\" x".toList =
    [.tok .stringValue "\"\"\"a\\\"\"\"b\"\"\"".toList, .tok .whitespace " ".toList, .tok .name "x".toList, .tok .eof []] := by decide

/-- the exact language of StringValue tokens: a quoted string in the lexer's exact language, the empty one not followed
    by a third quote, or a block string -/
abbrev IsStringToken (t rest : Str) : Prop := Lex.IsStringToken t rest

/-- a tokenisation of the input by the lexical grammar: every item is a token of its kind followed by what its lookahead
    restriction allows (`Lex.TokenOk`), every StringValue token is in the exact language, the texts concatenate to the
    input and the stream ends with EOF -/
abbrev ExactTokens : Str → List Item → Prop := Lex.ExactTokens

/-- EVERY TOKEN OF THE GRAMMAR IS EMITTED (per-kind completeness, assembled): a non-empty text that is a token of kind
    `k` of the lexical grammar, followed by what the lookahead restriction of its kind allows, is exactly what one
    `advance` returns -/
theorem advance_token_complete (k : Kind) (t rest : Str) (hne : t ≠ []) (hok : Lex.TokenOk k t rest)
    (hstr : k = .stringValue → IsStringToken t rest) : advance (t ++ rest) = (.tok k t, rest) :=
  Lex.advance_complete k t rest hne hok hstr

/-- **WHOLE INPUT, both directions.**  Lexing reports no error exactly when the input is a concatenation of tokens of
    the lexical grammar (Name, IntValue, FloatValue, StringValue quoted or block, Comment, punctuators, `...`, runs of
    whitespace / line terminators / BOM; each with its lookahead restriction), and then the item stream is that
    tokenisation.  The lexer's language differs from October 2021 in exactly the two documented ways, both explicit in
    `ExactTokens`: any character counts as SourceCharacter inside strings, block strings and comments (`Lex.anyChar`,
    the raw-control-character finding), and a `\uXXXX` escape must not be a surrogate (`Lex.LexStringChars`; braced and
    surrogate-pair escapes are not supported). -/
theorem lex_ok_iff_spec_tokens (src : Str) :
    ((∀ it ∈ lex none src, it.isErr = false) ↔ ∃ items, ExactTokens src items) ∧
    (∀ items, ExactTokens src items → lex none src = items) := Lex.lex_ok_iff_exact src

/-- **Uniqueness**: an input has at most one tokenisation by the lexical grammar with its lookahead restrictions —
    the maximal-munch one the lexer computes -/
theorem lex_tokenisation_unique (src : Str) (i1 i2 : List Item) (h1 : ExactTokens src i1) (h2 : ExactTokens src i2) :
    i1 = i2 := Lex.exactTokens_unique src i1 i2 h1 h2

/-- **Strict corollary**: when the source consists of October-2021 SourceCharacters only, the first deviation is
    vacuous — every string, block string and comment token of the tokenisation is a token of the UNRELAXED grammar
    (`isSourceCharacter` in place of `anyChar`).  So for such sources, when lexing reports no error the item stream is
    a sequence of October-2021 tokens without surrogate / braced unicode escapes. -/
theorem lex_ok_tokens_strict (src : Str) (hsrc : ∀ c ∈ src, Spec.Lexical.isSourceCharacter c = true)
    (h : ∀ it ∈ lex none src, it.isErr = false) :
    ExactTokens src (lex none src) ∧ ∀ k t, Item.tok k t ∈ lex none src → Lex.StrictOk k t := by
  obtain ⟨items, hi⟩ := (lex_ok_iff_spec_tokens src).1.mp h
  have := (lex_ok_iff_spec_tokens src).2 items hi
  rw [this]
  exact ⟨hi, Lex.exactTokens_strict hi hsrc⟩

end Grammar

end Apollo.C03
