import ApolloModel.Proofs.NameHeapStep
import ApolloModel.Proofs.NameHeapNode
/-
C30 — Names and nodes are memory-safe shared values.

Model: Model/NameHeap.lean.  A history is ANY list of operations (creation from `&str`, `&'static str`
or `Arc<str>`, clone, drop, `with_location`, `to_cloned_arc`, conversion back to `Arc<str>`; for nodes
new / clone / drop / `make_mut` / `get_mut` / `same_location`) over a pool of slots of any size.  An
access to a freed cell, a decrement of a freed cell and `Arc::from_raw` on a static pointer are
explicit ghost events of the model (`uaf`, `dfree`, `confused`), so the safety clauses below are
statements about all histories, proved by induction with the invariant `Inv`
(Proofs/NameHeapName.lean, NameHeapStep.lean, NameHeapNode.lean).

Threads: every operation of the model performs at most one atomic read-modify-write on a cell
(`Arc::clone`/`Arc::drop`), or is the composition of two operations of the model (`Arc::from(name)` =
`to_cloned_arc` then drop), so an execution on several threads is an interleaving of the threads'
histories; `schedules_safe` states the clauses for every schedule.  That an atomic RMW is one
indivisible step is the trusted part (DESIGN §6.5).
-/
namespace Apollo.C30
open Apollo.Rc Apollo.Rc.Heap
open Apollo.FileId (pack tagOf fileIdOf)
open Apollo.NameHeap

/-- the states reachable by a history from an empty pool of `pool` slots -/
def reach (pool : Nat) (ops : List Op) : St := run (init pool) ops

theorem reach_inv (pool : Nat) (ops : List Op) : Inv (reach pool ops) := run_inv ops _ (init_inv pool)

/-- The strong count of every cell is exactly the number of live handles (heap names and
    `Arc<str>`s) that point to it, after every history. -/
theorem count_invariant (pool : Nat) (ops : List Op) (c : Nat) :
    (reach pool ops).heap.strongOf c = refsOf owns (reach pool ops).slots c :=
  (reach_inv pool ops).heap.count c

/-- No history decrements the count of a freed cell, and a cell is freed exactly when its count is 0
    (so it is freed once: a freed cell has no owner left that could free it again). -/
theorem no_double_free (pool : Nat) (ops : List Op) :
    (reach pool ops).heap.dfree = 0 ∧
    ∀ (c : Nat) (cell : Cell Text), (reach pool ops).heap.cells[c]? = some cell → (cell.freed = true ↔ cell.strong = 0) :=
  ⟨(reach_inv pool ops).heap.dfree, (reach_inv pool ops).heap.freed⟩

/-- No history reads or increments a freed cell, `as_arc` never reinterprets a static pointer as an
    `Arc`, and every live handle points to an unfreed cell. -/
theorem no_use_after_free (pool : Nat) (ops : List Op) :
    (reach pool ops).heap.uaf = 0 ∧ (reach pool ops).confused = 0 ∧
    ∀ (i : Nat) (s : Slot) (c : Nat), (reach pool ops).slots[i]? = some s → owns s = some c →
      ∃ cell, (reach pool ops).heap.cells[c]? = some cell ∧ cell.freed = false := by
  have inv := reach_inv pool ops
  refine ⟨inv.heap.uaf, inv.confused, ?_⟩
  intro i s c hs ho
  obtain ⟨cell, h1, h2, _⟩ := inv.heap.live (refs_pos hs ho)
  exact ⟨cell, h1, h2⟩

/-- When every handle has been dropped every cell has been freed. -/
theorem no_leak (pool : Nat) (ops : List Op) (hall : ∀ s ∈ (reach pool ops).slots, s = .empty) :
    (reach pool ops).heap.liveCells = 0 ∧
    ∀ (c : Nat) (cell : Cell Text), (reach pool ops).heap.cells[c]? = some cell → cell.freed = true := by
  have inv := reach_inv pool ops
  have hz : ∀ c, refsOf owns (reach pool ops).slots c = 0 := fun c =>
    refsOf_zero_of_all_none owns c _ (fun s hs => by rw [hall s hs]; rfl)
  exact ⟨inv.heap.liveCells_zero hz, inv.heap.all_freed hz⟩

/-- …and more precisely, at any time a cell is freed iff no live handle points to it. -/
theorem freed_iff_unreferenced (pool : Nat) (ops : List Op) (c : Nat) (cell : Cell Text)
    (hc : (reach pool ops).heap.cells[c]? = some cell) :
    cell.freed = true ↔ refsOf owns (reach pool ops).slots c = 0 := by
  have inv := reach_inv pool ops
  have h1 := inv.heap.count c
  simp [strongOf, hc] at h1
  rw [← h1]
  exact inv.heap.freed c cell hc

/-- Every live name reads back the text and the location that were supplied (ghost fields `gText`,
    `gLoc`: set by the constructors / `with_location`, copied by clone, see `*_supplies` below), its
    length is the byte length of that text, and every live `Arc<str>` reads the supplied text. -/
theorem text_location_preserved (pool : Nat) (ops : List Op) (i : Nat) :
    (∀ n, (reach pool ops).slots[i]? = some (.name n) →
      n.read (reach pool ops).heap = some n.gText ∧ n.location = n.gLoc ∧ n.len = byteLen n.gText) ∧
    (∀ c g, (reach pool ops).slots[i]? = some (.arc c g) → (reach pool ops).heap.read c = some g) := by
  have inv := reach_inv pool ops
  constructor
  · intro n hs
    have hw := inv.wf _ (mem_of_get hs)
    refine ⟨?_, hw.2.1, hw.2.2.1⟩
    rcases asArc_cases hw with ⟨c, hp, _, ho, hv⟩ | ⟨t, hp, _, _, ht⟩
    · obtain ⟨v, hr, hv'⟩ := read_of_live inv.heap (refs_pos hs ho)
      rw [hv] at hv'; cases hv'
      simp [Name.read, hp, hr]
    · simp [Name.read, hp, ht]
  · intro c g hs
    have hv : (reach pool ops).heap.valOf c = some g := inv.wf _ (mem_of_get hs)
    obtain ⟨v, hr, hv'⟩ := read_of_live inv.heap (refs_pos hs (rfl : owns (.arc c g) = some c))
    rw [hv] at hv'; cases hv'
    exact hr

/-- what the constructors supply -/
theorem new_supplies (st : St) (dst : Nat) (t : Text) (he : isEmptyAt st dst = true) :
    ∃ n, (step st (.newName dst t)).1.slots[dst]? = some (.name n) ∧ n.gText = t ∧ n.gLoc = none := by
  have hd := isEmptyAt_iff.mp he
  obtain ⟨hlt, _⟩ := List.getElem?_eq_some_iff.mp hd
  have hr : ({ st with heap := (st.heap.alloc t).1 } : St).heap.read (st.heap.alloc t).2 = some t := read_alloc_new _ _
  refine ⟨mkHeapName (st.heap.alloc t).2 t, ?_, rfl, rfl⟩
  simp only [step, he, if_true, step.nameFromArcRes, nameFromArc_of_read hr, setSlot]
  rw [List.getElem?_set]; simp [hlt]

theorem new_static_supplies (st : St) (dst : Nat) (t : Text) (he : isEmptyAt st dst = true) :
    ∃ n, (step st (.newStatic dst t)).1.slots[dst]? = some (.name n) ∧ n.gText = t ∧ n.gLoc = none ∧ n.isStatic = true := by
  have hd := isEmptyAt_iff.mp he
  obtain ⟨hlt, _⟩ := List.getElem?_eq_some_iff.mp hd
  refine ⟨{ ptr := .static t, len := byteLen t, start := 0, tagged := packNone TAG_STATIC, gText := t, gLoc := none },
    ?_, rfl, rfl, ?_⟩
  · simp only [step, he, if_true, setSlot]
    rw [List.getElem?_set]; simp only [hlt, if_true]
  · simp [Name.isStatic, tagOf_packNone]

/-- `with_location` with a file id whose tag bit is clear (`fid < 2^63`, which C31
    `ids_not_reserved` gives for allocated ids) supplies the location (attaching `FileId::NONE`,
    which only crate-internal code can do, means "no location") and leaves the text alone -/
theorem with_location_supplies (st : St) (s fid start : Nat) (n : Name) (hs : slotAt st s = .name n)
    (hf : fid < 2 ^ 63) :
    ∃ n', (step st (.withLocation s fid start n.len)).1.slots[s]? = some (.name n') ∧ n'.gText = n.gText ∧
      n'.ptr = n.ptr ∧ n'.gLoc = if fid = NONE then none else some (fid, start, n.len) := by
  have hg := slotAt_name hs
  obtain ⟨hlt, _⟩ := List.getElem?_eq_some_iff.mp hg
  have hm : fid % 2 ^ 64 = fid := Nat.mod_eq_of_lt (by omega)
  obtain ⟨p, hp, _⟩ := Apollo.C31.pack_unpack (tagOf n.tagged) fid hf
  refine ⟨{ n with start := start, tagged := p, gLoc := if fid = NONE then none else some (fid, start, n.len) },
    ?_, rfl, rfl, rfl⟩
  simp only [step, hs, hm, hp, bne_self_eq_false, Bool.false_eq_true, if_false, setSlot]
  rw [List.getElem?_set]; simp only [hlt, if_true]

/-- a clone is the same name: same pointer, same ghosts -/
theorem clone_supplies (st : St) (dst src : Nat) (n : Name) (he : isEmptyAt st dst = true)
    (hs : slotAt st src = .name n) : (step st (.clone dst src)).1.slots[dst]? = some (.name n) := by
  have hd := isEmptyAt_iff.mp he
  obtain ⟨hlt, _⟩ := List.getElem?_eq_some_iff.mp hd
  simp only [step, he, if_true, hs]
  cases n.asArc <;> simp only [setSlot] <;> rw [List.getElem?_set] <;> simp [hlt]

/-- Equality and hashing look at the text only: for all live names `a`, `b` after any history,
    `a == b` iff the supplied texts are equal, and the hasher is fed the supplied text — whatever
    locations were attached. -/
theorem eq_hash_ignore_location (pool : Nat) (ops : List Op) (i j : Nat) (a b : Name)
    (ha : (reach pool ops).slots[i]? = some (.name a)) (hb : (reach pool ops).slots[j]? = some (.name b)) :
    nameEq (reach pool ops).heap a b = (a.gText == b.gText) ∧
    nameHashInput (reach pool ops).heap a = some a.gText := by
  have h1 := ((text_location_preserved pool ops i).1 a ha).1
  have h2 := ((text_location_preserved pool ops j).1 b hb).1
  simp [nameEq, nameHashInput, h1, h2]

/-- …and syntactically: the fields written by `with_location` are not read by `==`/`hash`. -/
theorem eq_hash_location_blind (h : Heap Text) (n m : Name) (start tagged : Nat) (g : Option NameHeap.Loc) :
    nameEq h { n with start := start, tagged := tagged, gLoc := g } m = nameEq h n m ∧
    nameHashInput h { n with start := start, tagged := tagged, gLoc := g } = nameHashInput h n :=
  ⟨rfl, rfl⟩

/-- The tag bit survives every history: a name answers `as_static_str` iff its pointer is a static
    pointer and `to_cloned_arc` iff it is a heap pointer (this is what keeps `Arc::from_raw` away
    from static memory; it rests on C31's `pack_unpack`). -/
theorem tag_roundtrip (pool : Nat) (ops : List Op) (i : Nat) (n : Name)
    (hs : (reach pool ops).slots[i]? = some (.name n)) :
    n.isStatic = !n.ptr.isHeap ∧ (n.ptr.isHeap = true → ∃ c, n.asArc = .arc c) ∧ (n.ptr.isHeap = false → n.asArc = .notArc) := by
  have hw := (reach_inv pool ops).wf _ (mem_of_get hs)
  refine ⟨?_, ?_, ?_⟩
  · simp [Name.isStatic, hw.1, TAG_STATIC]
  · intro hh
    rcases asArc_cases hw with ⟨c, _, ha, _, _⟩ | ⟨t, hp, _, _, _⟩
    · exact ⟨c, ha⟩
    · simp [hp, Ptr.isHeap] at hh
  · intro hh
    rcases asArc_cases hw with ⟨c, hp, _, _, _⟩ | ⟨t, _, ha, _, _⟩
    · simp [hp, Ptr.isHeap] at hh
    · exact ha

/-- The safety clauses (no access to a freed cell, no decrement of a freed cell, no static pointer
    taken for an `Arc`, count = live handles) for every number of threads, every per-thread history
    and EVERY schedule: the interleaved execution is a history, so every theorem above applies to it. -/
theorem schedules_safe (pool : Nat) (threads : List (List Op)) (sched : List Nat) :
    let st := reach pool (interleave sched threads)
    st.heap.uaf = 0 ∧ st.heap.dfree = 0 ∧ st.confused = 0 ∧ ∀ c, st.heap.strongOf c = refsOf owns st.slots c := by
  have inv := reach_inv pool (interleave sched threads)
  exact ⟨inv.heap.uaf, inv.heap.dfree, inv.confused, inv.heap.count⟩

/-! ### nodes -/
section Nodes

def nreach (pool : Nat) (ops : List NodeHeap.Op) : NodeHeap.St := NodeHeap.run (NodeHeap.init pool) ops

theorem nreach_inv (pool : Nat) (ops : List NodeHeap.Op) : NodeHeap.Inv (nreach pool ops) :=
  NodeHeap.run_inv ops _ (NodeHeap.init_inv pool)

/-- nodes: count = number of handles, no access to a freed allocation, no double release -/
theorem node_count_invariant (pool : Nat) (ops : List NodeHeap.Op) :
    (∀ c, (nreach pool ops).heap.strongOf c = refsOf NodeHeap.own (nreach pool ops).slots c) ∧
    (nreach pool ops).heap.uaf = 0 ∧ (nreach pool ops).heap.dfree = 0 :=
  ⟨(nreach_inv pool ops).heap.count, (nreach_inv pool ops).heap.uaf, (nreach_inv pool ops).heap.dfree⟩

/-- nodes: every live handle reads a live allocation -/
theorem node_no_use_after_free (pool : Nat) (ops : List NodeHeap.Op) (i c : Nat)
    (hs : (nreach pool ops).slots[i]? = some (some c)) : ∃ x, NodeHeap.readSlot (nreach pool ops) i = some x := by
  obtain ⟨x, hx, _⟩ := NodeHeap.readSlot_eq_valOf (nreach_inv pool ops) hs
  exact ⟨x, hx⟩

/-- nodes: all handles dropped ⇒ every allocation (and the value in it) released -/
theorem node_no_leak (pool : Nat) (ops : List NodeHeap.Op) (hall : ∀ s ∈ (nreach pool ops).slots, s = none) :
    (nreach pool ops).heap.liveCells = 0 := by
  have hz : ∀ c, refsOf NodeHeap.own (nreach pool ops).slots c = 0 := fun c =>
    refsOf_zero_of_all_none NodeHeap.own c _ (fun s hs => by rw [hall s hs])
  exact (nreach_inv pool ops).heap.liveCells_zero hz

/-- Copy-on-write: after ANY history, `make_mut` (and `get_mut`) on one node changes neither the
    value nor the location read through any other node — in particular not through its clones. -/
theorem make_mut_isolated (pool : Nat) (ops : List NodeHeap.Op) (s j v : Nat) (hj : j ≠ s) :
    NodeHeap.readSlot (NodeHeap.step (nreach pool ops) (.makeMut s v)).1 j = NodeHeap.readSlot (nreach pool ops) j ∧
    NodeHeap.readSlot (NodeHeap.step (nreach pool ops) (.getMut s v)).1 j = NodeHeap.readSlot (nreach pool ops) j :=
  ⟨NodeHeap.mutate_isolated _ (nreach_inv pool ops) s j v hj _ (Or.inl rfl),
   NodeHeap.mutate_isolated _ (nreach_inv pool ops) s j v hj _ (Or.inr rfl)⟩

end Nodes

/-! ### non-vacuity and what goes wrong without the mechanism -/

-- a history that shares, relocates, converts and drops: one cell, freed at the end
example : (reach 3 [.newName 0 ['a'], .clone 1 0, .withLocation 1 7 4 1, .toClonedArc 2 1, .drop 0,
                    .intoArc 0 1, .drop 0, .drop 2]).heap.cells.map (fun c => (c.strong, c.freed)) = [(0, true)] := by
  decide
example : ((reach 3 [.newName 0 ['a'], .clone 1 0, .withLocation 1 7 4 1, .toClonedArc 2 1]).heap.strongOf 0) = 3 := by
  decide
-- the ghost events are real: a name whose tag bit was lost leaks its cell (no decrement on drop) …
example : (step { heap := (Heap.empty.alloc ['a']).1, confused := 0,
                  slots := [.name { ptr := .heap 0, len := 1, start := 0, tagged := packNone TAG_STATIC, gText := ['a'], gLoc := none }] }
             (.drop 0)).1.heap.strongOf 0 = 1 := by decide
-- … and a static name whose tag bit was set is handed to `Arc::from_raw`
example : (step { heap := Heap.empty, confused := 0,
                  slots := [.name { ptr := .static ['a'], len := 1, start := 0, tagged := packNone TAG_ARC, gText := ['a'], gLoc := none }] }
             (.drop 0)).1.confused = 1 := by decide
-- copy-on-write really copies when shared and really writes in place when unique
example : (nreach 2 [.new 0 5 none, .clone 1 0, .makeMut 0 9]).slots = [some 1, some 0] := by decide
example : NodeHeap.readSlot (nreach 2 [.new 0 5 (some (3, 1, 2)), .clone 1 0, .makeMut 0 9]) 0 = some { val := 9, loc := some (3, 1, 2) } := by
  decide
example : NodeHeap.readSlot (nreach 2 [.new 0 5 none, .clone 1 0, .makeMut 0 9]) 1 = some { val := 5, loc := none } := by decide
example : (nreach 2 [.new 0 5 none, .makeMut 0 9]).slots = [some 0, none] := by decide

end Apollo.C30
