import ApolloModel.Proofs.ParserLossless
import ApolloModel.Proofs.Lexer2
import ApolloModel.Proofs.ParserRecursion5
import ApolloModel.Proofs.ParserTermination2
import ApolloModel.Proofs.ParserRecursion9
import ApolloModel.Proofs.ParserRecursion17
import ApolloModel.Proofs.ParserRecursion20
import ApolloModel.Proofs.ParserRecursion25
import ApolloModel.Proofs.ParserRecursion31
import ApolloModel.Proofs.ParserRecursion33
import ApolloModel.Proofs.ParserRecursion37
/-
C04 — Token and recursion limits are enforced exactly.

Lexer model (C03) + parser model (C01).  Proved for all inputs and all limits: the exact shape of
the limited token stream, the prefix property of the limited tree, the freeze of the error list
after the token-limit error, the balance and bound of the recursion counter, the cross-run
characterisation "recursion-limit error ⟺ nesting depth of the unlimited tree > r" (all entry points), the
token limit at the parser level, and the closed form of the depth on the syntax tree.
PARTIAL: with both limits set, "the recursion limit was hit ⇒ a limit error is reported" is proved except for
the two standalone entry points on a source that exceeds the token limit (`rec_hit_reported_with_both_limits`);
"reached figures = high-water marks" for the compiler wrapper is decided by the correspondence/oracle
on the implementation (every (n, r) pair per generated document).
-/
namespace Apollo.C04
open Apollo.Parse Apollo.Lex Apollo.Rowan

/-- With token limit `n`, the lexer yields exactly the first `n` items of the unlimited stream,
    followed by one limit error iff the unlimited stream is longer than `n`. -/
theorem token_limit_exact (n : Nat) (src : Lex.Str) :
    lex (some n) src = if (lex none src).length ≤ n then lex none src else (lex none src).take n ++ [.limit] :=
  Lex.token_limit_exact n src

/-- …so a limit error is reported iff the unlimited token stream is longer than `n`. -/
theorem token_limit_iff (n : Nat) (src : Lex.Str) :
    Item.limit ∈ lex (some n) src ↔ (lex none src).length > n := by
  rw [token_limit_exact]
  have hnl : Item.limit ∉ lex none src := by
    have key : ∀ fuel count s, Item.limit ∉ lexAux fuel none count s := by
      intro fuel
      induction fuel with
      | zero => intro count s; simp [lexAux]
      | succ k ih =>
        intro count s
        cases s with
        | nil => simp [lexAux]
        | cons c rest =>
          simp only [lexAux, Bool.false_eq_true, if_false, List.mem_cons, not_or]
          exact ⟨fun h => Parse.advance_ne_limit (c :: rest) h.symm, ih _ _⟩
    exact key _ _ _
  by_cases h : (lex none src).length ≤ n
  · simp only [h, if_true]
    exact ⟨fun hm => absurd hm hnl, fun hgt => by omega⟩
  · simp only [h, if_false, List.mem_append, List.mem_singleton, or_true, true_iff]
    omega

/-- With any token limit and any recursion limit, the text of the tree returned by `Parser::parse`
    is a prefix of the input (unless ty.rs threw a token away — the C02 finding). -/
theorem limited_tree_is_prefix (tl : Option Nat) (rl : Nat) (src : Parse.Str) (root : Elem)
    (h : (parse .document tl rl src).outcome = .tree root)
    (hd : (parse .document tl rl src).dropped = false) : root.text <+: src :=
  Parse.tree_text_prefix tl rl src root h hd

/-- Once the token-limit error is recorded (lexer finished, parser no longer accepting errors),
    no grammar function, however it continues, adds another error. -/
theorem no_error_after_token_limit {α : Type} (m : PI α) (s s' : PState) (a : α) (hi : Inv s)
    (hz : s.acceptErrors = false ∧ s.lx.finished = true) (h : m.run s = .ok a s') : s'.errors = s.errors :=
  Parse.errors_frozen_after_limit m s s' a hi hz h

/-- `LimitTracker::check_and_increment` / `decrement` as used by the grammar (`withRec`): whatever a
    grammar function does, the counter (and the limit) are afterwards what they were before. -/
theorem recursion_counter_balanced {α : Type} (m : PI α) (s s' : PState) (a : α) (hi : Inv s)
    (h : m.run s = .ok a s') : s'.recCur = s.recCur ∧ s'.recLimit = s.recLimit := by
  have := m.ok s hi
  simp only [h, Post] at this
  exact ⟨this.2.recCur, this.2.recLimit⟩

/-- when the incremented counter exceeds the limit, the limit branch is taken (the high-water mark
    still moves) and the body is not run at all -/
theorem withRec_on_limit {α : Type} (onLimit body : PI α) (s : PState) (h : s.recCur + 1 > s.recLimit) :
    (withRec onLimit body).run s =
      onLimit.run { s with recHigh := if s.recCur + 1 > s.recHigh then s.recCur + 1 else s.recHigh } := by
  simp [withRec, h]

-- Non-vacuity: a limit that stops in the middle of a node (kernel-evaluated)
example : lex (some 2) ['{', 'a', '}'] = [.tok .lCurly ['{'], .tok .name ['a'], .limit] := by decide

/-! ### The recursion limit across runs: the `type` entry point

`Parse.typeDepth src` is read off the lexer's token sequence alone (number of nested list types the text
opens: its leading `[` tokens, ignored tokens allowed after each) — no parser run and no limit is involved
in its definition.  The model never aborts on this entry point (`Parse.parse_type_terminates`, C01), so the
theorems hold for every input and every limit without side condition. -/

/-- `Parser::parse_type`, recursion limit `r`, no token limit: a recursion-limit error is reported if and
    only if the nesting depth of the input exceeds `r`. -/
theorem rec_limit_iff_depth (r : Nat) (src : Parse.Str) :
    (∃ e, e ∈ (parse .type none r src).errors ∧ e.kind = .limit) ↔ Parse.typeDepth src > r :=
  (Parse.parseType_rec_limit r src (fun w => Parse.parse_type_terminates none r src w)).1

/-- …and the limit stops the descent at exactly level `r + 1`: the tracker's high-water mark is
    `min depth (r + 1)` — the limit is enforced neither earlier nor later. -/
theorem rec_high_exact (r : Nat) (src : Parse.Str) :
    (parse .type none r src).recHigh = min (Parse.typeDepth src) (r + 1) :=
  (Parse.parseType_rec_limit r src (fun w => Parse.parse_type_terminates none r src w)).2

/-- Cross-run form: the depth is what any run that does not hit its limit reaches, so a run with limit `r`
    reports the limit error iff the unlimited run (any limit `R` that is not hit) went deeper than `r`. -/
theorem rec_limit_iff_unlimited_high (r R : Nat) (src : Parse.Str)
    (hfree : ¬ ∃ e, e ∈ (parse .type none R src).errors ∧ e.kind = .limit) :
    (parse .type none R src).recHigh = Parse.typeDepth src ∧
    ((∃ e, e ∈ (parse .type none r src).errors ∧ e.kind = .limit) ↔ (parse .type none R src).recHigh > r) := by
  have hle : Parse.typeDepth src ≤ R := by
    by_cases h : Parse.typeDepth src > R
    · exact absurd ((rec_limit_iff_depth R src).mpr h) hfree
    · omega
  have hhigh : (parse .type none R src).recHigh = Parse.typeDepth src := by rw [rec_high_exact R src]; omega
  exact ⟨hhigh, by rw [hhigh]; exact rec_limit_iff_depth r src⟩

/-- The limit is monotone: what is accepted with limit `r` is accepted with every larger limit. -/
theorem rec_limit_monotone (r r' : Nat) (hle : r ≤ r') (src : Parse.Str)
    (h : ∃ e, e ∈ (parse .type none r' src).errors ∧ e.kind = .limit) :
    ∃ e, e ∈ (parse .type none r src).errors ∧ e.kind = .limit := by
  have := (rec_limit_iff_depth r' src).mp h
  exact (rec_limit_iff_depth r src).mpr (by omega)


/-! ### The recursion limit across runs: values (value.rs)

Values have no entry point, so the statement is about a `value` run from a state.  Guarded in value.rs: every
item of a list value and the value of every object field.  The depth is stated through the unlimited run
(the property's own wording): two runs of the same `value` call from the same state, one with limit `r`,
one with a limit `R ≥ r` that is never hit.  `Parse.GI s` = no token limit, "errors no longer accepted ⇒ a
limit error is on record", "lexer finished ⇒ the current token is the EOF token" (all true of the initial
state and kept by every function of parser/mod.rs and value.rs). -/

/-- The limit stops the descent at exactly level `r + 1`: the limited run's high-water mark is
    `min (unlimited high-water mark) (r + 1)`, for every value, every start state and every pair of limits
    — siblings included (after the first hit the later items and fields never go beyond `r + 1`). -/
theorem value_rec_high_exact (n : Nat) (c p : Bool) (s : PState) (r R : Nat) (sr sR : PState)
    (hrR : r ≤ R) (hc : s.recCur ≤ r) (hh : s.recHigh ≤ r) (g : Parse.GI s)
    (hr : (value n c p).run (Parse.setL r s) = .ok () sr) (hR : (value n c p).run (Parse.setL R s) = .ok () sR)
    (hfree : sR.recHigh ≤ R) : sr.recHigh = min sR.recHigh (r + 1) :=
  (Parse.value_cross n c p s r R sr sR hrR hc hh g hr hR hfree).1

/-- A recursion-limit error is on record after the limited run iff the unlimited run went deeper than `r`
    (when the unlimited run itself recorded no limit error). -/
theorem value_rec_limit_iff_depth (n : Nat) (c p : Bool) (s : PState) (r R : Nat) (sr sR : PState)
    (hrR : r ≤ R) (hc : s.recCur ≤ r) (hh : s.recHigh ≤ r) (g : Parse.GI s)
    (hr : (value n c p).run (Parse.setL r s) = .ok () sr) (hR : (value n c p).run (Parse.setL R s) = .ok () sR)
    (hfree : sR.recHigh ≤ R) (hclean : ¬ Parse.HasLim sR.errors) :
    Parse.HasLim sr.errors ↔ sR.recHigh > r := by
  have h := (Parse.value_cross n c p s r R sr sR hrR hc hh g hr hR hfree).2
  constructor
  · intro hl
    rcases h.mp hl with h1 | h1
    · exact h1
    · exact absurd h1 hclean
  · intro hgt
    exact h.mpr (Or.inl hgt)

/-- Below the limit the two runs are the same run: same tree, same errors, same token position. -/
theorem value_same_run_below_limit (n : Nat) (c p : Bool) (s : PState) (r R : Nat) (sr sR : PState)
    (hrR : r ≤ R) (hc : s.recCur ≤ r) (hh : s.recHigh ≤ r) (g : Parse.GI s)
    (hr : (value n c p).run (Parse.setL r s) = .ok () sr) (hR : (value n c p).run (Parse.setL R s) = .ok () sR)
    (hfree : sR.recHigh ≤ R) (hle : sR.recHigh ≤ r) : sr = Parse.setL r sR := by
  rcases (Parse.xg_value n c p).x s r R () () sr sR hrR hc hh g trivial hr hR with ⟨t, e1, e2, _, _, _, _⟩ | ⟨_, _, d3⟩
  · subst e1 e2; rfl
  · omega

/-- Whatever the input, no value run moves the high-water mark beyond `limit + 1`, and it only adds errors. -/
theorem value_high_bounded (n : Nat) (c p : Bool) (s s' : PState) (hc : s.recCur ≤ s.recLimit)
    (h : (value n c p).run s = .ok () s') :
    s.recHigh ≤ s'.recHigh ∧ s'.recHigh ≤ max s.recHigh (s.recLimit + 1) := by
  have b := (Parse.xg_value n c p).b s () s' hc h
  exact ⟨b.lo, b.hi⟩

/-- high-water mark and error kinds of a `value` run on a source text (for the examples) -/
def valueRun (r : Nat) (src : String) : Option (Nat × List EKind) :=
  match (value 60 false false).run (initState src.toList none r) with
  | .ok _ s => some (s.recHigh, s.errors.map (·.kind))
  | _ => none

-- `[[1] [2 [3]] {a: [4]}]` nests three guarded constructs; limits 10, 2 and 1 (kernel-evaluated)
example : valueRun 10 "[[1] [2 [3]] {a: [4]}]" = some (3, []) := by decide +kernel
example : valueRun 2 "[[1] [2 [3]] {a: [4]}]" = some (3, [.limit]) := by decide +kernel
example : valueRun 1 "[[1] [2 [3]] {a: [4]}]" = some (2, [.limit]) := by decide +kernel

/-! ### The recursion limit across runs: selection sets and `Parser::parse_selection_set`

Guarded: the body of every selection set (right after its `{`), the selections handed to `field_set` without
braces, and — through arguments and directives — every list item and object-field value.  Same two-run form
as for values; for the entry point the model's termination (`parse_selection_set_terminates`) removes every
side condition but "the larger limit is not hit". -/

/-- selection.rs: a `selection_set` run with limit `r` against the same run with a limit `R ≥ r` that is
    never hit — the limited high-water mark is `min (unlimited high-water mark) (r + 1)`. -/
theorem selection_set_rec_high_exact (n : Nat) (s : PState) (r R : Nat) (sr sR : PState)
    (hrR : r ≤ R) (hc : s.recCur ≤ r) (hh : s.recHigh ≤ r) (g : Parse.GI s)
    (hr : (selectionSet n).run (Parse.setL r s) = .ok () sr) (hR : (selectionSet n).run (Parse.setL R s) = .ok () sR)
    (hfree : sR.recHigh ≤ R) :
    sr.recHigh = min sR.recHigh (r + 1) ∧ (Parse.HasLim sr.errors ↔ (sR.recHigh > r ∨ Parse.HasLim sR.errors)) := by
  rcases (Parse.xSel n).selSet.x s r R () () sr sR hrR hc hh g trivial hr hR with ⟨t, e1, e2, _, th, _, _⟩ | ⟨d1, d2, d3⟩
  · subst e1 e2
    refine ⟨?_, ?_⟩
    · show t.recHigh = min t.recHigh (r + 1)
      omega
    · show Parse.HasLim t.errors ↔ (t.recHigh > r ∨ Parse.HasLim t.errors)
      constructor
      · exact Or.inr
      · rintro (h | h)
        · omega
        · exact h
  · exact ⟨by omega, ⟨fun _ => Or.inl (by omega), fun _ => d1⟩⟩

/-- `Parser::parse_selection_set` with recursion limit `r` (no token limit), against the parse of the same
    text with any limit `R ≥ r` that is not hit: the tracker stops at exactly `min depth (r + 1)` where the
    depth is the high-water mark of the unlimited parse. -/
theorem rec_high_exact_selection_set (r R : Nat) (src : Parse.Str) (hrR : r ≤ R)
    (hfree : (parse .selectionSet none R src).recHigh ≤ R) :
    (parse .selectionSet none r src).recHigh = min (parse .selectionSet none R src).recHigh (r + 1) :=
  (Parse.parseSelectionSet_cross r R src hrR hfree).1

/-- …and a recursion-limit error is reported iff the unlimited parse went deeper than `r`. -/
theorem rec_limit_iff_depth_selection_set (r R : Nat) (src : Parse.Str) (hrR : r ≤ R)
    (hfree : (parse .selectionSet none R src).recHigh ≤ R) :
    (∃ e, e ∈ (parse .selectionSet none r src).errors ∧ e.kind = .limit) ↔ (parse .selectionSet none R src).recHigh > r := by
  have h := (Parse.parseSelectionSet_cross r R src hrR hfree).2
  constructor
  · intro hl
    rcases h.mp hl with h1 | h1
    · exact h1
    · exact absurd h1 (Parse.parse_no_limit_error .selectionSet R src hfree)
  · intro hgt
    exact h.mpr (Or.inl hgt)

-- `{ a(x: [[1]]) { b { c } } }`: depth 3 (kernel-evaluated), limits 5, 2, 1
example : (parse .selectionSet none 5 "{ a(x: [[1]]) { b { c } } }".toList).recHigh = 3 ∧
    (parse .selectionSet none 5 "{ a(x: [[1]]) { b { c } } }".toList).errors = [] := by decide +kernel
example : (parse .selectionSet none 2 "{ a(x: [[1]]) { b { c } } }".toList).recHigh = 3 ∧
    (parse .selectionSet none 2 "{ a(x: [[1]]) { b { c } } }".toList).errors.map (·.kind) = [.limit] := by decide +kernel
example : (parse .selectionSet none 1 "{ a(x: [[1]]) { b { c } } }".toList).recHigh = 2 ∧
    (parse .selectionSet none 1 "{ a(x: [[1]]) { b { c } } }".toList).errors.map (·.kind) = [.limit] := by decide +kernel

/-! ### The recursion limit across runs: `Parser::parse` (documents) and all entry points

Every definition parser of the grammar (operation.rs, fragment.rs, variable.rs, schema/scalar/object/
interface/union/enum/input-object definitions and extensions, directive definitions, ty.rs through
`checkpoint`/`wrap_node`) and the loop of `document()` go through the same two-run calculus
(Proofs/ParserRecursion15–17); `Parse.parse_terminates` discharges abort-freedom for every entry point. -/

/-- `Parser::parse` on a document with recursion limit `r` (no token limit), against the parse of the same
    text with any limit `R ≥ r` that is not hit: the tracker stops at exactly `min depth (r + 1)`, the depth
    being the high-water mark of the unlimited parse. -/
theorem rec_high_exact_document (r R : Nat) (src : Parse.Str) (hrR : r ≤ R)
    (hfree : (parse .document none R src).recHigh ≤ R) :
    (parse .document none r src).recHigh = min (parse .document none R src).recHigh (r + 1) :=
  (Parse.parse_cross .document r R src hrR hfree).1

/-- …and a recursion-limit error is reported iff the unlimited parse went deeper than `r`. -/
theorem rec_limit_iff_depth_document (r R : Nat) (src : Parse.Str) (hrR : r ≤ R)
    (hfree : (parse .document none R src).recHigh ≤ R) :
    (∃ e, e ∈ (parse .document none r src).errors ∧ e.kind = .limit) ↔ (parse .document none R src).recHigh > r := by
  have h := (Parse.parse_cross .document r R src hrR hfree).2
  constructor
  · intro hl
    rcases h.mp hl with h1 | h1
    · exact h1
    · exact absurd h1 (Parse.parse_no_limit_error .document R src hfree)
  · intro hgt
    exact h.mpr (Or.inl hgt)

/-- A parse whose recursion limit is never hit (and that has no token limit) reports no limit error:
    `limit_err` is only reached when `check_and_increment` fails, and then the high-water mark exceeds the
    limit.  For every entry point and every source text. -/
theorem unlimited_parse_has_no_limit_error (e : Entry) (R : Nat) (src : Parse.Str)
    (hfree : (parse e none R src).recHigh ≤ R) : ¬ ∃ x, x ∈ (parse e none R src).errors ∧ x.kind = .limit :=
  Parse.parse_no_limit_error e R src hfree

/-- The statement for every entry point, in cross-run form: the nesting depth of a source text is the
    high-water mark of a parse whose limit `R` is not hit ("the unlimited tree"); with limit `r ≤ R` a
    recursion-limit error is reported iff that depth exceeds `r`, and the tracker stops at exactly
    `min depth (r + 1)`. -/
def rec_limit_iff_depth_statement : Prop :=
  ∀ (e : Entry) (r R : Nat) (src : Parse.Str), r ≤ R → (parse e none R src).recHigh ≤ R →
    ((∃ x, x ∈ (parse e none r src).errors ∧ x.kind = .limit) ↔ (parse e none R src).recHigh > r) ∧
    (parse e none r src).recHigh = min (parse e none R src).recHigh (r + 1)

/-- …proved for the three entry points `document`, `selectionSet`, `type`, with no other side condition. -/
theorem rec_limit_iff_depth_all_entry_points : rec_limit_iff_depth_statement := by
  intro e r R src hrR hfree
  obtain ⟨h1, h2⟩ := Parse.parse_cross e r R src hrR hfree
  refine ⟨⟨fun hl => ?_, fun hgt => h2.mpr (Or.inl hgt)⟩, h1⟩
  rcases h2.mp hl with h | h
  · exact h
  · exact absurd h (Parse.parse_no_limit_error e R src hfree)

/-- the same under the additional (unused) hypothesis that the unlimited parse recorded no limit error -/
theorem rec_limit_iff_depth_all_entry_points_of_clean (e : Entry) (r R : Nat) (src : Parse.Str) (hrR : r ≤ R)
    (hfree : (parse e none R src).recHigh ≤ R) (_hclean : ¬ ∃ x, x ∈ (parse e none R src).errors ∧ x.kind = .limit) :
    ((∃ x, x ∈ (parse e none r src).errors ∧ x.kind = .limit) ↔ (parse e none R src).recHigh > r) ∧
    (parse e none r src).recHigh = min (parse e none R src).recHigh (r + 1) :=
  rec_limit_iff_depth_all_entry_points e r R src hrR hfree

-- a document with an operation, a fragment and a type definition (kernel-evaluated): depth 2
example : (parse .document none 9 "query($v: [[Int]] = [[1]]) { a { b } } type T { f(x: [Int]): Int }".toList).recHigh = 2 := by
  decide +kernel
example : (parse .document none 1 "query($v: [[Int]] = [[1]]) { a { b } } type T { f(x: [Int]): Int }".toList).errors.map (·.kind) = [.limit] := by
  decide +kernel

-- Non-vacuity (kernel-evaluated): `[[Int]]` has depth 2; limit 1 stops at level 2, limit 2 does not stop
example : Parse.typeDepth "[[Int]]".toList = 2 := by decide +kernel
example : (parse .type none 1 "[[Int]]".toList).recHigh = 2 ∧
    (parse .type none 1 "[[Int]]".toList).errors.map (·.kind) = [.limit] := by decide +kernel
example : (parse .type none 2 "[[Int]]".toList).recHigh = 2 ∧ (parse .type none 2 "[[Int]]".toList).errors = [] := by
  decide +kernel

/-! ### The token limit at the parser level: every entry point, every recursion limit

The parser pulls its tokens one at a time from the lexer (`Lexer::next` through `Parser::next_token`), so these
are statements about `parse e (some n) r src` itself, not about `lex`.  What the lexer's tracker counts: every
item it hands out — tokens of every kind (white space, comments and commas included), lexer errors, and the
EOF token; `(lex none src).length` is that count for the whole source.  `tokHigh` is the tracker's high-water
mark: the number of items the parser asked for, the refused one included. -/

/-- With token limit `n`, for every entry point and every recursion limit:
    (1) the lexer is asked for at most `n + 1` items, and never for more than the source has;
    (2) when the `n + 1`-th item was asked for (and refused), a limit error is reported and the source really
        has more than `n` items;
    (3) a limit error in the list comes from that refusal or from the recursion guard;
    (4) the lexer stands after `k ≤ n` items of the unlimited stream: the text of the remaining items is the
        tail of what the parser left unconsumed — at most `n` items went into the tree. -/
theorem token_limit_parse (e : Entry) (n r : Nat) (src : Parse.Str) :
    (parse e (some n) r src).tokHigh ≤ n + 1 ∧
    (parse e (some n) r src).tokHigh ≤ (lex none src).length ∧
    ((parse e (some n) r src).tokHigh > n →
      (∃ x, x ∈ (parse e (some n) r src).errors ∧ x.kind = .limit) ∧ (lex none src).length > n) ∧
    ((∃ x, x ∈ (parse e (some n) r src).errors ∧ x.kind = .limit) →
      (parse e (some n) r src).tokHigh > n ∨ (parse e (some n) r src).recHigh > r) ∧
    (∃ k, k ≤ n ∧ k ≤ (lex none src).length ∧ k ≤ (parse e (some n) r src).tokHigh ∧
      Lex.texts ((lex none src).drop k) <:+ (parse e (some n) r src).leftover) :=
  Parse.parse_token_limit e n r src

/-- `Parser::parse` (documents) runs the lexer to its end whatever happens on the way (errors, recursion limit):
    the tracker stops at exactly `min (items of the source) (n + 1)` — the limit is enforced neither earlier
    nor later. -/
theorem token_limit_document_high (n r : Nat) (src : Parse.Str) :
    (parse .document (some n) r src).tokHigh = min (lex none src).length (n + 1) :=
  Parse.parse_document_tok_high n r src

/-- …so a document parse whose recursion limit is not hit reports a limit error iff the source has more than
    `n` items.  (The two standalone entry points stop at the first token after the selection set / type and do
    not lex the rest: for them only the four clauses of `token_limit_parse` hold.) -/
theorem token_limit_document_iff (n r : Nat) (src : Parse.Str) (hfree : (parse .document (some n) r src).recHigh ≤ r) :
    (∃ x, x ∈ (parse .document (some n) r src).errors ∧ x.kind = .limit) ↔ (lex none src).length > n :=
  Parse.parse_document_token_limit_iff n r src hfree

/-- The prefix clause for all three entry points (`finish_standalone` unwraps the temporary root without
    changing the text), any token limit, any recursion limit. -/
theorem limited_tree_is_prefix_all_entry_points (e : Entry) (tl : Option Nat) (rl : Nat) (src : Parse.Str) (root : Elem)
    (h : (parse e tl rl src).outcome = .tree root) (hd : (parse e tl rl src).dropped = false) : root.text <+: src :=
  Parse.tree_text_prefix_entry e tl rl src root h hd

/-- What can follow the first limit error (either limit), for every entry point and every pair of limits:
    lexer errors and limit errors only — never a syntax error.  (`push_err` drops everything once
    `accept_errors` is false, but `next_token` pushes what the lexer reports unconditionally; after the
    *token*-limit error the lexer is finished and nothing at all follows: `no_error_after_token_limit`.) -/
theorem errors_after_first_limit (e : Entry) (tl : Option Nat) (r : Nat) (src : Parse.Str) :
    (¬ ∃ x, x ∈ (parse e tl r src).errors ∧ x.kind = .limit) ∨
    ∃ pre i extra, (parse e tl r src).errors = pre ++ (⟨i, 0, .limit⟩ : PErr) :: extra ∧
      (¬ ∃ x, x ∈ pre ∧ x.kind = .limit) ∧ ∀ x ∈ extra, x.kind = .lexer ∨ x.kind = .limit :=
  Parse.parse_errors_after_limit e tl r src

-- `{a}` is four items (`{`, `a`, `}`, EOF): limit 3 refuses the EOF token, limit 4 does not (kernel-evaluated)
example : (lex none "{a}".toList).length = 4 := by decide +kernel
example : (parse .document (some 3) 9 "{a}".toList).tokHigh = 4 ∧
    (parse .document (some 3) 9 "{a}".toList).errors.map (·.kind) = [.limit] := by decide +kernel
example : (parse .document (some 4) 9 "{a}".toList).tokHigh = 4 ∧
    (parse .document (some 4) 9 "{a}".toList).errors = [] := by decide +kernel
-- white space counts: `{ a }` is six items
example : (parse .document (some 5) 9 "{ a }".toList).errors.map (·.kind) = [.limit] := by decide +kernel
-- a standalone entry point does not lex past the token it stops at: `Int ] ] ]` as a type, limit 4
example : (lex none "Int ] ] ]".toList).length = 8 ∧
    (parse .type (some 4) 9 "Int ] ] ]".toList).tokHigh = 3 ∧
    (parse .type (some 4) 9 "Int ] ] ]".toList).errors.map (·.kind) = [.syntax] := by decide +kernel
-- after a recursion-limit error the lexer's errors are still reported (kernel-evaluated; same on the implementation)
example : (parse .document none 1 "{ a { b } } ~ { c }".toList).errors.map (·.kind) = [.limit, .lexer] := by decide +kernel

/-! ### The closed form of the nesting depth: a syntactic function of the tree

`Parse.gd` is defined by recursion on the syntax tree alone — no parser run, no limit: a `SELECTION_SET` node and a
`LIST_TYPE` node cost one level, a `LIST_VALUE` node with at least one item costs one level (`[]` costs nothing:
the guard sits on the items), an `OBJECT_FIELD` node with its `:` costs one level (the guard sits on the field's
value), every other node costs nothing; the depth of a node is that cost plus the maximum over its children.
Proofs/ParserRecursion26–31: a judgement "what this function added to the tree has depth `d`, and the tracker's
high-water mark moved to `max high (current + d)`" for every function of the grammar (all definition parsers
included). -/

/-- For a source text that parses without error under a recursion limit `R` that is not hit, the tracker's
    high-water mark IS the nesting depth of the returned tree — every entry point. -/
theorem rec_high_is_tree_depth (e : Entry) (R : Nat) (src : Parse.Str) (herr : (parse e none R src).errors = [])
    (hfree : (parse e none R src).recHigh ≤ R) :
    ∃ root, (parse e none R src).outcome = .tree root ∧ (parse e none R src).recHigh = Parse.gd root :=
  Parse.parse_depth e R src herr hfree

/-- The property's wording: for a grammatical input (its unlimited parse `R` reports no error), with recursion
    limit `r` a recursion-limit error is reported if and only if the nesting depth of its syntax tree exceeds
    `r`, and the tracker stops at exactly `min depth (r + 1)`. -/
theorem rec_limit_iff_tree_depth (e : Entry) (r R : Nat) (src : Parse.Str) (hrR : r ≤ R)
    (herr : (parse e none R src).errors = []) (hfree : (parse e none R src).recHigh ≤ R) :
    ∃ root, (parse e none R src).outcome = .tree root ∧
      ((∃ x, x ∈ (parse e none r src).errors ∧ x.kind = .limit) ↔ Parse.gd root > r) ∧
      (parse e none r src).recHigh = min (Parse.gd root) (r + 1) := by
  obtain ⟨root, h1, h2⟩ := rec_high_is_tree_depth e R src herr hfree
  obtain ⟨h3, h4⟩ := rec_limit_iff_depth_all_entry_points e r R src hrR hfree
  exact ⟨root, h1, by rw [← h2]; exact h3, by rw [← h2]; exact h4⟩

/-- depth of the tree of a parse (0 if there is none) — for the examples -/
def treeDepth (p : PResult) : Nat := match p.outcome with | .tree root => Parse.gd root | _ => 0

-- kernel-evaluated: the tree depth of the examples above, and the cases where the guard sits on the items
example : treeDepth (parse .document none 9 "query($v: [[Int]] = [[1]]) { a { b } } type T { f(x: [Int]): Int }".toList) = 2 := by
  decide +kernel
example : treeDepth (parse .selectionSet none 5 "{ a(x: [[1]]) { b { c } } }".toList) = 3 := by decide +kernel
example : treeDepth (parse .type none 5 "[[Int]]".toList) = 2 := by decide +kernel
-- `[]` and `{}` cost nothing; `[[]]` costs one; `{a: {}}` costs one
example : treeDepth (parse .selectionSet none 5 "{ a(x: [], y: {}) }".toList) = 1 ∧
    (parse .selectionSet none 5 "{ a(x: [], y: {}) }".toList).recHigh = 1 := by decide +kernel
example : treeDepth (parse .selectionSet none 5 "{ a(x: [[]], y: {b: {}}) }".toList) = 2 ∧
    (parse .selectionSet none 5 "{ a(x: [[]], y: {b: {}}) }".toList).recHigh = 2 := by decide +kernel

/-! ### The token-limit error is the last error -/

/-- "…and reports no error after the first limit error" (the token-limit clause): once the lexer refused an
    item (`tokHigh > n`), the error list ENDS with a limit error — for every entry point, every recursion limit,
    no side condition.  After the refusal the lexer hands out nothing (so no lexer error can follow),
    `accept_errors` is false (so `push_err` drops everything) and `limit_err` finds no token to report at (so a
    later hit of the recursion guard adds nothing either). -/
theorem token_limit_error_is_last (e : Entry) (n r : Nat) (src : Parse.Str) (h : (parse e (some n) r src).tokHigh > n) :
    ∃ pre i, (parse e (some n) r src).errors = pre ++ [(⟨i, 0, .limit⟩ : PErr)] :=
  Parse.parse_token_limit_error_last e n r src h

-- both limits: the recursion-limit error first, then a lexer error, then the token-limit error — which is last
example : (parse .document (some 13) 1 "{ a { b } } ~ { c }".toList).errors.map (·.kind) = [.limit, .lexer, .limit] ∧
    (parse .document (some 13) 1 "{ a { b } } ~ { c }".toList).tokHigh = 14 := by decide +kernel
-- the token limit first: nothing follows, not even the recursion-limit error of the guard that is hit afterwards
example : (parse .document (some 5) 1 "{ a { b } }".toList).errors.map (·.kind) = [.limit] ∧
    (parse .document (some 5) 1 "{ a { b } }".toList).recHigh = 2 ∧
    (parse .document (some 5) 1 "{ a { b } }".toList).tokHigh = 6 := by decide +kernel

/-! ### A limit error is reported iff the limit was hit; the closed form needs only "no error"

The cross-run calculus (Proofs/ParserRecursion8–17) does not need the hypothesis "the larger limit is not hit"
of the theorems above: when the larger limit is hit at a guard, the smaller one is hit at the same guard.  Comparing a parse with itself gives
"hit ⇒ the limit error is on record" (at every guard site a token is there to report it at). -/

/-- No token limit: a limit error is reported if and only if the recursion limit was hit — every entry point,
    every source text, every limit. -/
theorem limit_error_iff_hit (e : Entry) (R : Nat) (src : Parse.Str) :
    (∃ x, x ∈ (parse e none R src).errors ∧ x.kind = .limit) ↔ (parse e none R src).recHigh > R :=
  Parse.parse_limit_iff_hit e R src

/-- The cross-run statement with NO side condition: for all `r ≤ R`, the limited run's high-water mark is
    `min (high-water mark of the run with R) (r + 1)` and it reports a limit error iff that mark exceeds `r`. -/
theorem rec_limit_cross_run (e : Entry) (r R : Nat) (src : Parse.Str) (hrR : r ≤ R) :
    (parse e none r src).recHigh = min (parse e none R src).recHigh (r + 1) ∧
    ((∃ x, x ∈ (parse e none r src).errors ∧ x.kind = .limit) ↔ (parse e none R src).recHigh > r) :=
  Parse.parse_cross_all e r R src hrR

/-- The closed form from "no error" alone: the high-water mark of an error-free parse is the depth of its tree. -/
theorem rec_high_is_tree_depth_of_no_error (e : Entry) (R : Nat) (src : Parse.Str) (herr : (parse e none R src).errors = []) :
    ∃ root, (parse e none R src).outcome = .tree root ∧ (parse e none R src).recHigh = Parse.gd root :=
  Parse.parse_depth_of_no_error e R src herr

/-- **The property's wording**: for an input that some parse (limit `R`) accepts without error, with `root` the
    tree of that parse: for every `r ≤ R`, a recursion-limit error is reported with limit `r` if and only if the
    nesting depth `gd root` exceeds `r`; the tracker stops at exactly `min (gd root) (r + 1)`. -/
theorem rec_limit_iff_tree_depth_of_no_error (e : Entry) (r R : Nat) (src : Parse.Str) (hrR : r ≤ R)
    (herr : (parse e none R src).errors = []) :
    ∃ root, (parse e none R src).outcome = .tree root ∧
      ((∃ x, x ∈ (parse e none r src).errors ∧ x.kind = .limit) ↔ Parse.gd root > r) ∧
      (parse e none r src).recHigh = min (Parse.gd root) (r + 1) := by
  obtain ⟨root, h1, h2⟩ := rec_high_is_tree_depth_of_no_error e R src herr
  obtain ⟨h3, h4⟩ := rec_limit_cross_run e r R src hrR
  exact ⟨root, h1, by rw [← h2]; exact h4, by rw [← h2]; exact h3⟩

/-! The calculus above is for runs without token limit.  With a token limit ALSO set: `token_limit_parse` (a limit
error comes from the refused item or from a hit guard), `token_limit_error_is_last`, and, at the end of this file,
"`recHigh > r` ⇒ a limit error is reported" for documents and for sources within the token limit
(`rec_hit_reported_with_both_limits`; compared on the implementation for every (n, r) pair). -/

/-! ### The tree depth and the Ast-level budgets of the completeness theorems (C05/C07) -/

/-- Types: for a source text that spells the type reference `t` (hypotheses of `type_in_grammar_is_accepted`), the
    depth of the returned tree is exactly `tyDepth t`; and `Parse.typeDepth src = tyDepth t`. -/
theorem type_tree_depth_is_tyDepth (rl : Nat) (src : Parse.Str) (t : Ast.Ty) (ts : List Tok) (e : Tok)
    (hclean : LexClean src) (hsig : sig (srcToks src) = ts ++ [e]) (he : e.kind = .eof)
    (hty : ts.map astOf = (Ast.tTy t).map some) (hdepth : Parse.tyDepth t ≤ rl) (hhead : HeadSig (srcToks src)) :
    (∃ root, (parse .type none rl src).outcome = .tree root ∧ Parse.gd root = Parse.tyDepth t) ∧
    Parse.typeDepth src = Parse.tyDepth t :=
  ⟨Parse.type_tree_depth rl src t ts e hclean hsig he hty hdepth hhead, Parse.typeDepth_eq_tyDepth src t ts e hsig hty hhead⟩

/-- Selection sets: for a source text that spells the selections `ss` (hypotheses of `fieldset_accept_complete`),
    fitting the budget `rl − 1` implies that the returned tree is at most `rl` deep (= the high-water mark).
    The converse fails: the budget charges one level for an empty list / object (`vdepth (.list .nil) = 1`),
    the parser guards the items and the tree depth counts them — witnesses below. -/
theorem selection_set_budget_bounds_tree_depth (rl : Nat) (src : Parse.Str) (ss : Ast.Sels) (ts : List Tok) (e : Tok)
    (hclean : LexClean src) (hsig : sig (srcToks src) = ts ++ [e]) (he : e.kind = .eof)
    (hne : ss ≠ Ast.Sels.nil) (hb : 1 ≤ rl) (hfit : Parse.fitSels ss (rl - 1))
    (hx : (TokIs ts (.p .lCurly :: Ast.tSels ss ++ [.p .rCurly]) ∧ HeadSig (srcToks src)) ∨ TokIs ts (Ast.tSels ss)) :
    ∃ root, (parse .selectionSet none rl src).outcome = .tree root ∧ Parse.gd root ≤ rl ∧
      (parse .selectionSet none rl src).recHigh = Parse.gd root :=
  Parse.selection_set_tree_depth_le rl src ss ts e hclean hsig he hne hb hfit hx

-- where the two notions differ: `{ a(x: []) }` is accepted with limit 1 and its tree is 1 deep …
example : (parse .selectionSet none 1 "{ a(x: []) }".toList).errors = [] ∧
    treeDepth (parse .selectionSet none 1 "{ a(x: []) }".toList) = 1 := by decide +kernel
-- … but its selections do not fit the budget 0 = 1 − 1, because the empty list is charged one level
example : Parse.vdepth (.list .nil) = 1 ∧ Parse.vdepth (.obj .nil) = 1 := ⟨rfl, rfl⟩
example : ¬ Parse.fitSels (.cons (.field none "a".toList [("x".toList, .list .nil)] [] .nil) .nil) 0 := by
  intro h
  rw [Parse.fitSels, Parse.fitSel] at h
  have := (h.1.1 ("x".toList, .list .nil) (by simp)).2
  simp [Parse.vdepth, Parse.vsdepth] at this
-- same for `{}`; a non-empty list is charged the same by both
example : (parse .selectionSet none 1 "{ a(x: {}) }".toList).errors = [] ∧
    treeDepth (parse .selectionSet none 1 "{ a(x: {}) }".toList) = 1 := by decide +kernel
example : treeDepth (parse .selectionSet none 2 "{ a(x: [1]) }".toList) = 2 ∧ Parse.vdepth (.list (.cons (.int "1".toList) .nil)) = 1 :=
  ⟨by decide +kernel, rfl⟩

/-! ### Both limits set: "the recursion limit was hit ⇒ a limit error is reported"

The argument: either the lexer refused an item — then the token-limit error is on record and is the last error
(`token_limit_error_is_last`), whatever the guards did afterwards, including a guard hit with no token current
(examples below) — or it never refused one, and then the run is the run without token limit, where every hit is
reported (`limit_error_iff_hit`).  The second half, "a token limit that is not reached does not change the run", is a
two-run (relational) statement about every grammar function; it is the hypothesis `hsame` of the theorem below, and
is proved in the next section for documents and for sources within the token limit — not for every source. -/

/-- **Both limits set.**  If a token limit that was not reached (`tokHigh ≤ n`) leaves the error list and the
    recursion high-water mark as they are without token limit, then a hit recursion limit is reported. -/
theorem rec_hit_reported_with_token_limit (e : Entry) (n r : Nat) (src : Parse.Str)
    (hsame : (parse e (some n) r src).tokHigh ≤ n →
      (parse e (some n) r src).errors = (parse e none r src).errors ∧
      (parse e (some n) r src).recHigh = (parse e none r src).recHigh)
    (h : (parse e (some n) r src).recHigh > r) :
    ∃ x, x ∈ (parse e (some n) r src).errors ∧ x.kind = .limit := by
  by_cases ht : (parse e (some n) r src).tokHigh > n
  · obtain ⟨pre, i, he⟩ := token_limit_error_is_last e n r src ht
    exact ⟨⟨i, 0, .limit⟩, by rw [he]; simp, rfl⟩
  · obtain ⟨h1, h2⟩ := hsame (by omega)
    rw [h1]
    exact (limit_error_iff_hit e r src).mpr (by rw [← h2]; exact h)

/-- The half that IS unconditional: once the token limit was reached a limit error is on record, hit or not. -/
theorem limit_error_when_token_limit_reached (e : Entry) (n r : Nat) (src : Parse.Str)
    (ht : (parse e (some n) r src).tokHigh > n) : ∃ x, x ∈ (parse e (some n) r src).errors ∧ x.kind = .limit := by
  obtain ⟨pre, i, he⟩ := token_limit_error_is_last e n r src ht
  exact ⟨⟨i, 0, .limit⟩, by rw [he]; simp, rfl⟩

-- a guard hit with NO token current (the lexer refused the very first item): `limit_err` adds nothing, the token-limit
-- error is the limit error on record — braced and brace-less field sets
example : (parse .selectionSet (some 0) 0 "{a}".toList).errors.map (·.kind) = [.limit] ∧
    (parse .selectionSet (some 0) 0 "{a}".toList).recHigh = 1 ∧
    (parse .selectionSet (some 0) 0 "{a}".toList).tokHigh = 1 := by decide +kernel
example : (parse .selectionSet (some 0) 0 "a".toList).errors.map (·.kind) = [.limit] ∧
    (parse .selectionSet (some 0) 0 "a".toList).recHigh = 1 := by decide +kernel
-- a token limit that is not reached: the run is the run without token limit (an instance of `hsame`)
example : (parse .document (some 20) 1 "{ a { b } }".toList).tokHigh = 12 ∧
    (parse .document (some 20) 1 "{ a { b } }".toList).errors = (parse .document none 1 "{ a { b } }".toList).errors ∧
    (parse .document (some 20) 1 "{ a { b } }".toList).recHigh = (parse .document none 1 "{ a { b } }".toList).recHigh := by
  decide +kernel

/-! ### Both limits set: a token limit that the source does not exceed

A two-run (relational) pass over the whole grammar (Proofs/ParserRecursion34–37): with at most `n` items in the
source, the run with token limit `n` is, state by state, the run without token limit — the lexer never refuses an
item, and neither does the CLONED lexer that `peek_n` runs ahead (which obeys the limit too).  This gives `hsame` for
every entry point when the source is within the limit, and unconditionally for documents (a document parse lexes the
source to its end, `token_limit_document_high`).  What stays open, exactly: the two standalone entry points on a
source with MORE than `n` items of which at most `n` were lexed (they stop after the selection set / type).  There the
step-by-step relation breaks at `peek_n`: its cloned lexer can reach the limit — and return nothing — while the main
lexer is still below it; the token it looked at is lexed by the main lexer a few steps later, which the
state-by-state relation cannot use. -/

/-- **A token limit that the source does not exceed is irrelevant**: the whole parse result (tree, errors, both
    high-water marks, leftover) is the one without token limit — every entry point, every recursion limit. -/
theorem token_limit_not_exceeded_is_irrelevant (e : Entry) (n r : Nat) (src : Parse.Str) (h : (lex none src).length ≤ n) :
    parse e (some n) r src = parse e none r src :=
  Parse.parse_limit_irrelevant e n r src h

/-- **Both limits set, documents: a hit recursion limit is reported** — no side condition. -/
theorem rec_hit_reported_with_token_limit_document (n r : Nat) (src : Parse.Str)
    (h : (parse .document (some n) r src).recHigh > r) :
    ∃ x, x ∈ (parse .document (some n) r src).errors ∧ x.kind = .limit := by
  refine rec_hit_reported_with_token_limit .document n r src (fun ht => ?_) h
  have hh := token_limit_document_high n r src
  have hle : (lex none src).length ≤ n := by omega
  rw [token_limit_not_exceeded_is_irrelevant .document n r src hle]
  exact ⟨rfl, rfl⟩

/-- **Both limits set, every entry point**: a hit recursion limit is reported, unless the source has more than `n`
    items of which at most `n` were lexed (only possible for the two standalone entry points). -/
theorem rec_hit_reported_with_both_limits (e : Entry) (n r : Nat) (src : Parse.Str)
    (h : (parse e (some n) r src).recHigh > r) :
    (∃ x, x ∈ (parse e (some n) r src).errors ∧ x.kind = .limit) ∨
    ((parse e (some n) r src).tokHigh ≤ n ∧ n < (lex none src).length ∧ e ≠ .document) := by
  by_cases hle : (lex none src).length ≤ n
  · left
    refine rec_hit_reported_with_token_limit e n r src (fun _ => ?_) h
    rw [token_limit_not_exceeded_is_irrelevant e n r src hle]
    exact ⟨rfl, rfl⟩
  · by_cases ht : (parse e (some n) r src).tokHigh > n
    · exact Or.inl (limit_error_when_token_limit_reached e n r src ht)
    · by_cases hd : e = .document
      · subst hd
        exact Or.inl (rec_hit_reported_with_token_limit_document n r src h)
      · exact Or.inr ⟨by omega, by omega, hd⟩

end Apollo.C04
