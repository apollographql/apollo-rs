import ApolloModel.Proofs.BuiltinScalars
import ApolloModel.Proofs.ValueCheckStable
/-
C16 — Validation is idempotent.

Model: Model/BuiltinScalars.lean mirrors the built-in-scalar bookkeeping at the end of
`validate_schema` (record_type_ref / all_used / retain / insert), with the `HashSet` iteration
order as a universally quantified rearrangement.  Tied by the correspondence stream `scalars` (histories of
validate / unwrap / add a field / validate on the real API).  Executable re-validation is checked
on the implementation (validation is a function of (schema, document)).
-/
namespace Apollo.C16
open Apollo.Scalars

/-- Re-validating a validated schema leaves the type map identical, including which built-in
    scalars are present — for every well-formed schema and every hash-set iteration order. -/
theorem revalidate_fixpoint (order : List Name → List Name) (ho : IsOrder order) (s : Schema) (wf : WellFormed s) :
    bookkeeping order (bookkeeping order s) = bookkeeping order s := Scalars.revalidate_fixpoint order ho s wf

/-- If a reference to a previously removed built-in scalar `B` is added to a validated schema,
    re-validation restores exactly `B` (appended to the type map) and changes nothing else. -/
theorem restore_exact (order : List Name → List Name) (ho : IsOrder order) (s : Schema)
    (hfix : bookkeeping order s = s) (B : Name) (hB : B ∈ builtinScalars) (hund : s.defined B = false) :
    bookkeeping order { s with directiveRefs := B :: s.directiveRefs } =
      { s with directiveRefs := B :: s.directiveRefs, types := s.types ++ [(B, builtinDef)] } :=
  Scalars.restore_exact order ho s hfix B hB hund

/-- after a pass every referenced built-in scalar is defined in the map -/
theorem referenced_builtins_present (order : List Name → List Name) (ho : IsOrder order) (s : Schema)
    (b : Name) (hb : b ∈ builtinScalars) (hr : s.allRefs.contains b = true) :
    (bookkeeping order s).defined b = true :=
  referenced_defined_after order (fun l x hx => (ho.mem l x).mpr hx) s b hb hr

theorem validation_keeps_references (order : List Name → List Name) (s : Schema) (wf : WellFormed s) :
    (bookkeeping order s).allRefs = s.allRefs := allRefs_bookkeeping order s wf

-- Non-vacuity: `Int` unused is pruned; a later reference restores it
def demo : Schema :=
  { types := [("Query", ⟨false, false, ["String"]⟩), ("String", builtinDef), ("Int", builtinDef), ("Boolean", builtinDef)],
    directiveRefs := ["Boolean"] }
example : (bookkeeping id demo).types.map (·.1) = ["Query", "String", "Boolean"] := by decide
example : (bookkeeping id { bookkeeping id demo with directiveRefs := "Int" :: (bookkeeping id demo).directiveRefs }).types.map (·.1)
    = ["Query", "String", "Boolean", "Int"] := by decide

/-! ### the type lookup of the value check does not depend on pruning -/

/-- `value_of_correct_type` finds a definition for every built-in scalar name, whether or not a previous
    validation removed it from the type map (the repair 99806f4; before it the lookup was the map only,
    see `lookup_map_only_misses_pruned`). -/
theorem lookup_builtin_total (s : Schema) (b : Name) (hb : b ∈ builtinScalars) :
    (lookupForValue s b).isSome = true := Scalars.lookup_builtin_total s b hb

/-- The definition the value check sees for ANY type name is the same before and after a validation
    pass (every well-formed map, every hash-set order): the verdict of value checks cannot change between
    `validate(s)` and `validate(validate(s).into_inner())` because of the bookkeeping. -/
theorem value_lookup_stable (order : List Name → List Name) (ho : IsOrder order) (s : Schema) (wf : WellFormed s)
    (hbuilt : ∀ e ∈ s.types, builtinScalars.contains e.1 = true → e.2.isBuiltIn = true) (n : Name) :
    lookupForValue (bookkeeping order s) n = lookupForValue s n :=
  Scalars.value_lookup_stable order ho s wf hbuilt n

/-- Witness for the old lookup: after a pass prunes `Int`, the map-only lookup of `Int` finds nothing,
    while it found the scalar before — the value check was skipped once and ran on the next validation. -/
theorem lookup_map_only_misses_pruned :
    lookupMapOnly demo "Int" = some builtinDef ∧ lookupMapOnly (bookkeeping id demo) "Int" = none ∧
      lookupForValue (bookkeeping id demo) "Int" = some builtinDef := by decide

/-! ### the value check itself (Model/ValueCheck.lean, property C14) -/

/-- `value_of_correct_type` reads the schema only through its type lookup: two schemas with the same lookup give
    the same diagnostics for every literal at every type reference (with any variable definitions). -/
theorem value_check_reads_lookup_only (S S' : ValueCheck.Schema) (h : ∀ n, S.lookup n = S'.lookup n)
    (vars : List ValueCheck.VarDef) (ty : ValueCheck.Ty) (v : ValueCheck.Value) :
    ValueCheck.check S vars ty v = ValueCheck.check S' vars ty v :=
  ValueCheck.check_congr S S' h vars v ty

/-- **The value check is stable under validation.**  For every well-formed type map, every hash-set order, every
    type reference and every literal, the full model of the value check (coercion per scalar, enums, lists, input
    objects, custom scalars) yields the same diagnostics on the type map after a validation pass — pruned built-in
    scalars included — as on the map before it.  `detail` is everything the value check looks at in the types
    other than the built-in scalars (validation does not change it).  Hence `validate(s)` and
    `validate(validate(s).into_inner())` agree on every directive-argument value. -/
theorem value_check_stable (order : List Name → List Name) (ho : IsOrder order) (s : Schema) (wf : WellFormed s)
    (hbuilt : ∀ e ∈ s.types, builtinScalars.contains e.1 = true → e.2.isBuiltIn = true)
    (detail : Name → ValueCheck.TypeDef) (vars : List ValueCheck.VarDef) (ty : ValueCheck.Ty) (v : ValueCheck.Value) :
    ValueCheck.check (valueSchema detail (bookkeeping order s)) vars ty v =
      ValueCheck.check (valueSchema detail s) vars ty v :=
  Scalars.value_check_stable order ho s wf hbuilt detail vars ty v

/-- the verdict form (no diagnostic after a pass iff none before), and the same diagnostics after two passes -/
theorem value_verdict_stable (order : List Name → List Name) (ho : IsOrder order) (s : Schema) (wf : WellFormed s)
    (hbuilt : ∀ e ∈ s.types, builtinScalars.contains e.1 = true → e.2.isBuiltIn = true)
    (detail : Name → ValueCheck.TypeDef) (ty : ValueCheck.Ty) (v : ValueCheck.Value) :
    (ValueCheck.check (valueSchema detail (bookkeeping order s)) [] ty v = [] ↔
      ValueCheck.check (valueSchema detail s) [] ty v = []) ∧
    ValueCheck.check (valueSchema detail (bookkeeping order (bookkeeping order s))) [] ty v =
      ValueCheck.check (valueSchema detail s) [] ty v := by
  refine ⟨by rw [value_check_stable order ho s wf hbuilt], ?_⟩
  rw [revalidate_fixpoint order ho s wf, value_check_stable order ho s wf hbuilt]

-- Non-vacuity (the 99806f4 scenario on the full model): `Int` is pruned from `demo`, and an out-of-range integer
-- for an `Int!` input field is still reported on the pruned map
example : ValueCheck.check (valueSchema (fun n => if n == "In" then .input [⟨"f", .nonNullNamed "Int", false⟩] else .other)
      (bookkeeping id { demo with types := demo.types ++ [("In", ⟨false, false, []⟩)] }))
    [] (.named "In") (.object (.cons "f" (.int 123456789012) .nil)) = [.intCoercionError] := by decide

end Apollo.C16
