import ApolloModel.Proofs.SchemaBuild
import ApolloModel.Proofs.SchemaBuildNames
/-
C13 — Building from several sources is compositional.

Model: Model/SchemaBuild.lean mirrors `SchemaBuilder` (`add_ast_document`, `type_definition!`,
`type_extension!`, `XType::from_ast` / `extend_ast`, `extend_sticky`, `SchemaDefinition::from_ast`,
`build_inner`, `adopt_type_extensions`), `DiagnosticList::sort` and
`ExecutableDocumentBuilder::add_ast_document`.  A source is the list of its definitions; a position is the
identity of a syntax node.

First sentence of the property (several sources = their concatenation):
  `schema_sources_eq_concat`, `schema_sources_regroup`, `executable_sources_eq_concat`,
  `executable_sources_regroup` (definitions, order, diagnostics in push order: the whole builder state is
  equal), `diag_order_concat` (the final stable sort by (file, offset) gives the order that sorting the
  concatenation by offset gives).
Second sentence (extension before / after its definition):
  `schema_ext_commutes` (for `extend schema`), `type_ext_commutes` (for type extensions of any kind, the
  definition's or another; the latter is the case repaired by fix 9875890 — before it `extend union X = A` in
  front of `type X { f }` was dropped silently), `kind_mismatch_reported_in_both_orders` (that case, evaluated).
Collisions: `collision_first_definition_wins`, `sticky_first_member_wins`.
Panic sites: `orphan_queue_invariant` (queued names are undefined and queued definitions are type extensions,
  so `assert!(previous.is_none())` and `unreachable!()` of `build_inner` / `adopt_type_extensions` are dead).
-/
namespace Apollo.C13
open Apollo.SchemaBuild

/-! ### several sources = their concatenation -/

/-- Building a schema from the sources one after another = building from their concatenation:
    same types in the same order, same components, same diagnostics in the same order. -/
theorem schema_sources_eq_concat (s : Builder) (srcs : List (List Def)) :
    build s srcs = build s [srcs.flatten] := by
  unfold build
  rw [addSources_flatten, addSources_flatten]
  simp

/-- … hence any two ways of cutting the same sequence of definitions into sources agree. -/
theorem schema_sources_regroup (s : Builder) (srcs srcs' : List (List Def))
    (h : srcs.flatten = srcs'.flatten) : build s srcs = build s srcs' := by
  unfold build
  rw [addSources_flatten, addSources_flatten, h]

/-- The same for executable documents (operations, fragments, the anonymous-operation bookkeeping and
    `multiple_anonymous` are all part of the state that is carried from source to source). -/
theorem executable_sources_eq_concat (srcs : List (List XDef)) :
    xbuild srcs = xbuild [srcs.flatten] := by
  unfold xbuild
  rw [xaddSources_flatten, xaddSources_flatten]
  simp

theorem executable_sources_regroup (srcs srcs' : List (List XDef))
    (h : srcs.flatten = srcs'.flatten) : xbuild srcs = xbuild srcs' := by
  unfold xbuild
  rw [xaddSources_flatten, xaddSources_flatten, h]

/-- `(file, offset)` compared as `DiagnosticList::sort` does -/
def locLt (a b : Nat × Nat) : Bool := decide (a.1 < b.1) || (a.1 == b.1 && decide (a.2 < b.2))

/-- Diagnostics order: file `f` starts at offset `base f` of the concatenation and is `len f` long.
    Stable-sorting the diagnostics of the separate sources by `(file, offset)` and then renaming locations
    to offsets in the concatenation gives exactly the stable sort by offset of the renamed list — for every
    list of diagnostics (with any payload `δ`) whose locations lie inside their files. -/
theorem diag_order_concat {δ : Type} (base len : Nat → Nat) (hbase : ∀ f, base f + len f ≤ base (f + 1))
    (l : List ((Nat × Nat) × δ)) (hl : ∀ x ∈ l, x.1.2 < len x.1.1) :
    sortBy (fun (a b : Nat × δ) => decide (a.1 < b.1)) (l.map (fun x => (base x.1.1 + x.1.2, x.2)))
      = (sortBy (fun a b => locLt a.1 b.1) l).map (fun x => (base x.1.1 + x.1.2, x.2)) := by
  apply sortBy_map
  intro x hx y hy
  have bx := hl x hx
  have by' := hl y hy
  obtain ⟨⟨f, o⟩, dx⟩ := x
  obtain ⟨⟨g, p⟩, dy⟩ := y
  simp only [locLt] at *
  rcases Nat.lt_trichotomy f g with h | h | h
  · obtain ⟨d, rfl⟩ : ∃ d, g = f + 1 + d := ⟨g - (f + 1), by omega⟩
    have := base_mono base len hbase d f
    have hne : (f == f + 1 + d) = false := by simp; omega
    simp [h, hne]
    omega
  · subst h
    simp
  · obtain ⟨d, rfl⟩ : ∃ d, f = g + 1 + d := ⟨f - (g + 1), by omega⟩
    have := base_mono base len hbase d g
    have hne : (g + 1 + d == g) = false := by simp; omega
    have hnl : ¬ (g + 1 + d < g) := by omega
    simp [hnl, hne]
    omega

/-! ### extension before or after its definition -/

/-- `extend schema …` placed anywhere before the `schema { … }` definition (in any interleaving with other
    definitions, several extensions keeping their relative order) builds exactly what placing them directly
    after the definition builds: same schema, same diagnostics. -/
theorem schema_ext_commutes (s : Builder) (d : Def) (l post : List Def)
    (hfresh : s.schemaFound = false) (ht : d.tag = .schemaDef)
    (hnodef : ∀ x ∈ l, isSchemaDef x = false) :
    build s [l ++ d :: post] =
      build s [l.filter (fun x => !(isSchemaExt x)) ++ d :: l.filter isSchemaExt ++ post] := by
  have h := schema_ext_commutes_state d s l hfresh ht hnodef
  unfold build
  simp only [addSources, List.foldl_cons, List.foldl_nil]
  have e1 : l ++ d :: post = (l ++ [d]) ++ post := by simp
  have e2 : l.filter (fun x => !(isSchemaExt x)) ++ d :: l.filter isSchemaExt ++ post
      = (l.filter (fun x => !(isSchemaExt x)) ++ d :: l.filter isSchemaExt) ++ post := by simp
  rw [e1, e2, addDocument_append s (l ++ [d]) post, addDocument_append s _ post, h]

/-- The extensions of a not yet defined type `n` (of ANY kind, also kinds other than the definition's),
    interleaved in any way with definitions that do not define `n`, followed by the definition of `n`, build
    exactly what "definition first, then its extensions in their order" builds: equality of the whole built
    state — types in order, every component list with origins, directive definitions, schema definition, and
    the sorted diagnostics.  (The case of an extension of another kind is the one repaired by fix 9875890;
    before it the queued extension was dropped without a diagnostic.) -/
theorem type_ext_commutes (s : Builder) (n : Name) (k : Kind) (d : Def) (l post : List Def)
    (hfresh : findType s.types n = none) (ht : d.tag = .typeDef k) (hname : d.name = n)
    (hnodef : ∀ x ∈ l, isDefOf n x = false) :
    build s [l ++ d :: post] =
      build s [l.filter (fun x => !(isExtOf n x)) ++ d :: l.filter (isExtOf n) ++ post] := by
  have h := type_ext_commutes_state n k d s l hfresh ht hname hnodef
  unfold build
  simp only [addSources, List.foldl_cons, List.foldl_nil]
  have e1 : l ++ d :: post = (l ++ [d]) ++ post := by simp
  have e2 : l.filter (fun x => !(isExtOf n x)) ++ d :: l.filter (isExtOf n) ++ post
      = (l.filter (fun x => !(isExtOf n x)) ++ d :: l.filter (isExtOf n)) ++ post := by simp
  rw [e1, e2, addDocument_append s (l ++ [d]) post, addDocument_append s _ post, h]

/-- `extend union X = A` (positions 0…) and `type X { f }` (positions 10…): the case repaired by fix 9875890 -/
def cexExt : Def := ⟨.typeExt .union, "X", 0, 1, [], [], [⟨"A", 2, 2, ""⟩]⟩
def cexDef : Def := ⟨.typeDef .object, "X", 10, 11, [], [], [⟨"f", 12, 12, ""⟩]⟩

/-- both orders report the kind mismatch (and build the same type) -/
theorem kind_mismatch_reported_in_both_orders :
    (build Builder.blank [[cexExt, cexDef]]).errors = [⟨1, .typeExtensionKindMismatch "X" .union .object⟩]
    ∧ build Builder.blank [[cexExt, cexDef]] = build Builder.blank [[cexDef, cexExt]] := by
  decide +kernel

/-! ### first definition wins on collisions -/

/-- A second definition of an existing type name never changes `schema.types` (it is reported or, for
    built-ins with `ignore_builtin_redefinitions`, ignored), whatever its kind and wherever it comes from. -/
theorem collision_first_definition_wins (s : Builder) (k : Kind) (d : Def) (prev : TypeEntry)
    (h : findType s.types d.name = some prev) :
    (step s { d with tag := .typeDef k }).types = s.types ∧ (step s { d with tag := .typeDef k }).orphanQ = s.orphanQ := by
  unfold step
  simp only []
  unfold stepTypeDef
  simp only [h]
  split
  · exact ⟨rfl, rfl⟩
  · split <;> exact ⟨rfl, rfl⟩

/-- `extend_sticky`: the components already present stay where they are (later duplicates never replace or
    reorder them); new ones are appended. -/
theorem sticky_first_member_wins (dup : Name → Diag) (origin : Option Pos) (its : List Item) :
    ∀ (cs : List Comp) (errs : List Err),
      ∃ tail, (extendSticky dup origin cs errs its).1 = cs ++ tail
        ∧ ∃ more, (extendSticky dup origin cs errs its).2 = errs ++ more := by
  induction its with
  | nil => intro cs errs; exact ⟨[], by simp [extendSticky], [], by simp [extendSticky]⟩
  | cons it rest ih =>
    intro cs errs
    unfold extendSticky
    split
    · obtain ⟨tail, h1, more, h2⟩ := ih cs (errs ++ [⟨it.errPos, dup it.name⟩])
      exact ⟨tail, h1, ⟨it.errPos, dup it.name⟩ :: more, by rw [h2]; simp⟩
    · obtain ⟨tail, h1, more, h2⟩ := ih (cs ++ [it.toComp origin]) errs
      exact ⟨it.toComp origin :: tail, by rw [h1]; simp, more, h2⟩

/-! ### panic sites of `build_inner` -/

/-- Whatever sources are added to a fresh builder, every queued definition is a type extension of a name
    that has no type definition: `schema.types.insert(type_name, …)` in `build_inner` never finds a previous
    entry (`assert!(previous.is_none())`) and `adopt_type_extensions` never reaches `unreachable!()`. -/
theorem orphan_queue_invariant (adopt ignoreBuiltin : Bool) (srcs : List (List Def)) :
    QueueOk (addSources (Builder.new adopt ignoreBuiltin) srcs) := by
  apply addSources_queueOk
  intro e he
  simp [Builder.new] at he

/-! ### non-vacuity -/

-- `extend type X { g }`, `scalar S`, `extend type X { h }`, then `type X { f g }`: the hypotheses of
-- `type_ext_commutes` hold, the adopted extension reports its duplicate field `g`
def exE1 : Def := ⟨.typeExt .object, "X", 0, 1, [], [], [⟨"g", 2, 2, ""⟩]⟩
def exS : Def := ⟨.typeDef .scalar, "S", 5, 6, [], [], []⟩
def exE2 : Def := ⟨.typeExt .object, "X", 7, 8, [], [], [⟨"h", 9, 9, ""⟩]⟩
def exD : Def := ⟨.typeDef .object, "X", 10, 11, [], [], [⟨"f", 12, 12, ""⟩, ⟨"g", 13, 13, ""⟩]⟩

example : build (Builder.new false false) [[exE1, exS, exE2] ++ exD :: []]
    = build (Builder.new false false) [[exS] ++ exD :: [exE1, exE2] ++ []] :=
  type_ext_commutes (Builder.new false false) "X" .object exD [exE1, exS, exE2] []
    (by decide) (by decide) (by decide) (by decide)

example : (build (Builder.new false false) [[exE1, exS, exE2, exD]]).errors
    = [⟨2, .memberCollision .object "X" "g"⟩] := by decide +kernel

-- two sources vs one
example : build (Builder.new false false) [[exE1, exS], [exE2, exD]]
    = build (Builder.new false false) [[exE1, exS, exE2, exD]] :=
  schema_sources_regroup _ _ _ (by decide)

-- executable: `{ a }` in one source, `query A { a }` and `{ b }` in the next
def xAnon (p : Nat) : XDef := ⟨.operation, none, p, p, p, true, true, []⟩
def xNamed (n : String) (p : Nat) : XDef := ⟨.operation, some n, p, p + 6, p, true, true, []⟩
example : (xbuild [[xAnon 0], [xNamed "A" 10, xAnon 30]]).errors
    = [⟨0, .ambiguousAnonymousOperation⟩, ⟨0, .ambiguousAnonymousOperation⟩, ⟨30, .ambiguousAnonymousOperation⟩] := by
  decide +kernel

-- the hypotheses of `diag_order_concat` are met by files of length 10 laid out back to back
example : sortBy (fun (a b : Nat × Unit) => decide (a.1 < b.1))
      ([((1, 3), ()), ((0, 7), ())].map (fun x => ((fun f => 10 * f) x.1.1 + x.1.2, x.2)))
    = (sortBy (fun a b => locLt a.1 b.1) [((1, 3), ()), ((0, 7), ())]).map (fun x => ((fun f => 10 * f) x.1.1 + x.1.2, x.2)) :=
  diag_order_concat (fun f => 10 * f) (fun _ => 10) (by intro f; omega) _ (by decide)

/-! ### the build verdict reads names only -/

/-- Whether the builder reports an error is a function of the kinds and names in the document (definition
    names, member / interface / operation names, in order): two documents with the same name skeleton — whatever
    their positions, and therefore whatever the abstraction leaves out (descriptions, field types, arguments,
    values, applied directives) — are both accepted or both rejected.  (Corollary of the specification theorem
    `C14.schema_build_iff_spec` = `SchemaBuild.build_errors_iff_spec`, whose right-hand side reads names only.) -/
theorem build_verdict_depends_on_names_only (ds ds' : List Def) (hwf : WellFormed ds) (hwf' : WellFormed ds')
    (h : ds.map Def.skeleton = ds'.map Def.skeleton) :
    (build (Builder.new false false) [ds]).errors = [] ↔ (build (Builder.new false false) [ds']).errors = [] :=
  SchemaBuild.build_verdict_depends_on_names_only ds ds' hwf hwf' h

/-- with extensions in any position: moving definitions around does not change the verdict as long as the
    specification's order-free reading is unchanged — stated through the specification itself -/
theorem build_verdict_is_the_specification (ds : List Def) (hwf : WellFormed ds) :
    (build (Builder.new false false) [ds]).errors = [] ↔ BuildSpec ds :=
  SchemaBuild.build_errors_iff_spec ds hwf

end Apollo.C13
