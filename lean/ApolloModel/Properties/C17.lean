import ApolloModel.Proofs.ExecValidation
import ApolloModel.Proofs.ExecValidationValues
import ApolloModel.Proofs.ExecValidationMerge
import ApolloModel.Proofs.ExecValidationCache
import ApolloModel.Proofs.ExecRules2
import ApolloModel.Proofs.ExecRules3
import ApolloModel.Proofs.ExpandSelections
import ApolloModel.Proofs.ExecValues
import ApolloModel.Proofs.ExecWalk2
import ApolloModel.Proofs.StandaloneWalk3
import ApolloModel.Proofs.ExecValuesDoc
/-
C17 — Executable validation agrees with the specification.

Model (Model/ExecValidation.lean): transliterations of the mechanisms the property anchors —
`same_value`, `same_output_type_shape`, `validate_subscription`'s response-key walk, the XING
field-merging algorithm on expanded field sets, `collect_used_fragments` — tied to the code on every
run by the streams c17.samevalue / c17.shape / c17.subscription / c17.merge / c17.unusedfrag.
Spec (Spec/ExecValidation.lean): written from the October-2021 text.  The document-level statement
"Ok iff no rule is violated" is the differential oracle of the harness (specexec.rs), not a theorem.

INVENTORY — every rule of the oracle harness/src/specexec.rs and its Lean counterpart
(model = transliteration of apollo's code; `…_iff_spec` = theorem below; stream = correspondence)
  §5.1.1   ExecutableDefinitions            executable_definitions_iff_spec               c17.ops
  §5.2.1.1 OperationNameUniqueness          operation_name_uniqueness_iff_spec; unconditional with §5.2.2.1 and the root types: operation_definitions_iff_spec   c17.ops
  §5.2.2.1 LoneAnonymousOperation           lone_anonymous_operation_iff_spec             c17.ops
  §5.2.3.1 SingleRootField                  subscription_root_iff                         c17.subscription
  §5.3.1   FieldSelections                  field_selections_iff_spec (meta-fields incl.) c17.fields
  §5.3.2   FieldSelectionMerging            xing_iff_pairwise, same_value_iff_spec, same_output_type_shape_iff, xing_cache_transparent,
                                            expand_selections_iff_spec + merging_from_selection_sets (the expansion itself; c17.expand)
                                                                                          c17.merge/.mergecached/.mergespec/.shape/.samevalue
  §5.3.3   LeafFieldSelections              field_selections_iff_spec (no sub-selection on a leaf); missing_subselection_iff_spec
                                            (a composite field needs one; at the field node); missing_subselection_iff_spec_doc (whole tree)   c17.fields
  §5.4.1   ArgumentNames                    argument_names_iff_spec                       c17.args
  §5.4.2   ArgumentUniqueness               argument_uniqueness_iff_spec                  c17.args
  §5.4.2.1 RequiredArguments                required_arguments_iff_spec                   c17.args
  §5.5.1.1 FragmentNameUniqueness           fragment_name_uniqueness_iff_spec; unconditional with §5.5.1.2: fragment_definitions_iff_spec   c17.frags
  §5.5.1.2 FragmentSpreadTypeExistence      inline conditions: field_selections_iff_spec; named: fragment_definitions_iff_spec   c17.frags
  §5.5.1.3 FragmentsOnCompositeTypes        fragments_on_composite_types_iff_spec, inline_fragment_on_composite_type_spec (at the node: implications);
                                            fragments_on_composite_types_iff_spec_doc (whole tree of an operation)   c17.frags
  §5.5.1.4 FragmentsMustBeUsed              used_fragments_iff                            c17.unusedfrag, c17.frags
  §5.5.2.1 FragmentSpreadTargetDefined      fragment_spread_target_defined_iff_spec (at the spread: an equation); fragment_spread_target_defined_iff_spec_doc
                                            (whole tree of an operation); C18 valid_leaf_shape_spreads_defined_partial   c17.frags
  §5.5.2.2 FragmentSpreadsMustNotFormCycles C21 fragment_cycle_sound (+ C18)              c17.frags
  §5.5.2.3 FragmentSpreadIsPossible         fragment_spread_possible_iff_spec, possible_types_spec   c17.frags
  §5.6.1–4 ValuesOfCorrectType, InputObjectFieldNames / FieldUniqueness / RequiredFields
                                            const values: C14 value_rule_iff_spec (Model/ValueCheck.lean); with variables:
                                            exec_value_rule_iff_spec (the descent, exact, variables inside literals by the named type),
                                            argument_value_iff_spec (one argument incl. validate_variable_usage, exact),
                                            argument_value_iff_spec_no_nested (against §5.6 + §5.8.5 IsVariableUsageAllowed when no variable
                                            stands inside a literal), spec_argument_value_accepted (spec ⇒ code always),
                                            nested_position_value_witness (why the guard); same_value_* above   c17.values
  THE WALK  (document level)                 walk_meets_every_argument (typed rules quiet for the document ⇔ every reachable argument passes argDiags with its
                                            own definition and its operation's variables, every reachable spread is possible), typed_walk_quiet_iff_reachable_sites,
                                            walk_reports_iff_reachable_site (structural walk: reported ⇔ a reachable site reports it), validate_operation_walk;
                                            soundness + completeness, fuel shown sufficient, no hypothesis on the document   c17.vars/.frags/.fields/.args
  THE TWO VALUE MODELS                       argument_variable_models_agree, argument_undefined_variable_models_agree, argument_disallowed_usage_models_agree
                                            (argDiags on rvalOf v vs argValueDiags on v), typed_diag_iff_reachable_argument, values_undefined_variable_iff_doc,
                                            values_disallowed_usage_iff_doc, values_rule_iff_spec_doc, values_quiet_doc; walk_fuel_suffices,
                                            walk_reports_iff_reachable_site_all   c17.vars, c17.values
  §5.7.1–3 DirectivesAreDefined / InValidLocations / UniquePerLocation
                                            C14 directive_applications_rule_iff_spec on the shared `dirDiags` (cited)   c20.schema
  §5.8.1   VariableUniqueness               variable_uniqueness_iff_spec                  c17.vars
  §5.8.2   VariablesAreInputTypes           variables_are_input_types_iff_spec            c17.vars
  §5.8.3   AllVariableUsesDefined           operation_variables_in_scope (what is reported is per operation and genuine),
                                            undefined_variable_top_level; that the walk meets every use: walk_meets_every_argument,
                                            values_undefined_variable_iff_doc, C18 valid_document_variables_defined   c17.vars, c17.perop
  §5.8.4   AllVariablesUsed                 all_variables_used_iff_spec                   c17.vars
  §5.8.5   AllVariableUsagesAllowed         variable_usage_top_level_iff_spec (C29 usage_allowed_iff is the rule),
                                            nested_variable_named_type_only (the known finding, explicit)   c17.vars
  Apollo*  UndefinedRootOperationType       operation_definitions_iff_spec (the disjunct `RootTypesDefined`)   c17.ops
           SubscriptionConditionalSelection, four Defer rules
                                            ORACLE ONLY (c17.subscription compares the first)
-/
namespace Apollo.C17
open Apollo Apollo.Spec Apollo.ExecVal Apollo.Spec.ExecVal

/-! ## (1) argument values -/

/-- For every pair of values of unbounded nesting in which no object literal repeats a field name
    (rule 5.6.3 rejects the others), `same_value` decides exactly the specification's equality of
    argument values: same literal, lists element by element (same length — fix deffad7), input
    objects as unordered sets of fields.  (The object case is the counting argument "equal length +
    every left field found on the right + unique names ⇒ every right field is on the left".) -/
theorem same_value_iff_spec (a b : Value) (ha : uniqueFields a = true) (hb : uniqueFields b = true) :
    sameValue a b = true ↔ SpecEq a b :=
  sameValue_iff_unique_aux (sizeOf a + 1) a (by omega) b ha hb

/-- the guard is needed: with a repeated field name the comparison is not even symmetric -/
theorem same_value_duplicate_keys_asymmetric :
    sameValue (.object [("x", .int "1"), ("x", .int "1")]) (.object [("x", .int "1"), ("y", .int "2")]) = true ∧
      sameValue (.object [("x", .int "1"), ("y", .int "2")]) (.object [("x", .int "1"), ("x", .int "1")]) = false := by
  constructor <;> simp [sameValue, allFields, fieldIn, lookupFirst]

example : uniqueFields (.object [("x", .list [.object [("y", .null)]]), ("y", .var "v")]) = true := by
  simp [uniqueFields, uniqueKeys, uniqueFieldsFields, uniqueFieldsList, lookupFirst]

/-- `{ f(a: [1]) f(a: [1, 2]) }` is a conflict: lists of different length are different values, for the code
    (fix deffad7) and for the specification -/
theorem same_value_list_length :
    sameValue (.list [.int "1"]) (.list [.int "1", .int "2"]) = false ∧
      ¬ SpecEq (.list [.int "1"]) (.list [.int "1", .int "2"]) := by
  refine ⟨by simp [sameValue], ?_⟩
  intro h
  cases h with
  | list h => cases h with
    | cons _ h => cases h

/-! ## (2) SameResponseShape on type references -/

/-- `same_output_type_shape` computes steps 3–6 of SameResponseShape, for type references of
    unbounded nesting and any assignment of kinds to type names. -/
theorem same_output_type_shape_iff (kind : Name → Option TypeKind) (a b : Ty) :
    sameOutputTypeShape kind a b = sameShape kind (embed a) (embed b) :=
  shape_iff kind a b

/-- on defined types the relation is symmetric (the code compares only the first field of a group
    with the others) -/
theorem same_shape_symm (kind : Name → Option TypeKind) (a b : STy) :
    sameShape kind a b = sameShape kind b a := by
  induction a generalizing b with
  | named x =>
    cases b with
    | named y =>
      simp only [sameShape, sameNamedShape]
      have hb : (x == y) = (y == x) := by
        by_cases h : x = y
        · subst h; rfl
        · have h1 : (x == y) = false := by simpa using h
          have h2 : (y == x) = false := by simpa using (fun e : y = x => h e.symm)
          rw [h1, h2]
      cases hx : kind x <;> cases hy : kind y <;> simp only []
      rename_i kx ky
      rw [hb, Bool.or_comm, Bool.and_comm]
    | list t => simp [sameShape]
    | nonNull t => simp [sameShape]
  | list t ih => cases b <;> simp [sameShape, ih]
  | nonNull t ih => cases b <;> simp [sameShape, ih]

example : sameOutputTypeShape (fun n => if n == "Int" then some .scalar else some .object)
    (.nonNullList (.named "A")) (.nonNullList (.named "B")) = true := by decide
example : sameOutputTypeShape (fun _ => some .scalar) (.list (.named "Int")) (.list (.nonNullNamed "Int")) = false := by decide

/-! ## (3) subscriptions: single root field -/

/-- The response keys `validate_subscription` collects are exactly the entries of the
    specification's CollectFields, in the same order (same traversal, same visited-fragments
    discipline), for every document and fragment set. -/
theorem subscription_walk_collects (frags : List Sels) (op : Sels) :
    (collectFields frags op).map Prod.fst = (subscriptionWalk frags op).rkeys :=
  (walk_collect frags frags.length op .init { visited := [], grouped := [] } ⟨rfl, rfl⟩).2

/-- SubscriptionUsesMultipleFields is reported iff CollectFields has more than one entry — for
    every document (fix 7b5b545; before it `subscription { a a }` was a counterexample). -/
theorem subscription_root_iff (frags : List Sels) (op : Sels) :
    usesMultipleFields frags op = moreThanOneEntry frags op := by
  have hk := subscription_walk_collects frags op
  have hlen : (collectFields frags op).length = (subscriptionWalk frags op).rkeys.length := by
    rw [← hk, List.length_map]
  simp only [usesMultipleFields, moreThanOneEntry, hlen]

example : usesMultipleFields [] (.field "a" "a" false (.field "a" "a" false .nil)) = false := by decide
example : usesMultipleFields [] (.field "a" "a" false (.field "b" "a" false .nil)) = true := by decide
example : usesMultipleFields [.field "a" "a" false .nil] (.spread 0 false (.spread 0 false .nil)) = false := by decide

/-! ## (4) field merging: XING grouping vs the pairwise definition -/

/-- Comparing the first element of a group with all others is the same as comparing every pair,
    for the two leaf relations the algorithm uses (both are equalities of a projection). -/
theorem first_vs_rest_iff_all_pairs (f : AField → String) (g : List AField) :
    firstVsRest (fun a b => f a == f b) g = allPairs (fun a b => f a == f b) g :=
  firstVsRest_eq_allPairs f g

/-- `group_by_common_parents` puts two fields of a name group into a common group exactly when the
    specification requires them to have identical names and arguments: their parent types are
    equal or one of them is not an object type. -/
theorem common_parents_groups_are_spec_pairs (g : List AField) (a b : AField) (ha : a ∈ g) (hb : b ∈ g) :
    (∃ pg ∈ groupByCommonParents g, a ∈ pg ∧ b ∈ pg) ↔
      ((a.parentIsObject = true ∧ b.parentIsObject = true → a.parent = b.parent)) :=
  commonParents_iff g a b ha hb

/-- every same-name pair of a field set the shape half of the algorithm accepts satisfies the
    specification's recursive SameResponseShape -/
theorem xing_shape_sound (n : Nat) (fs : List AField) (h : sameResponseShapeByName n fs = true)
    (a b : AField) (ha : a ∈ fs) (hb : b ∈ fs) (hk : a.key = b.key) : sameResponseShape n a b = true :=
  shapeByName_sound n fs h a ha b hb hk

/-- PARTIAL (one direction of `xing_equiv_pairwise`, for every field set and recursion limit):
    whatever the XING algorithm accepts — grouping by response name, then by common parents,
    comparing the first of each group with the rest, recursing on the merged sub-selections — is
    accepted by the specification's pairwise FieldsInSetCanMerge / SameResponseShape applied to every
    selection set.  So the algorithm never accepts a document the pairwise rule rejects (given the leaf
    predicates of (1), (2)). -/
theorem xing_equiv_pairwise_partial (n : Nat) (fs : List AField) (h : xingCanMerge n fs = true) :
    documentFieldsCanMerge n fs = true :=
  xing_sound n fs h

/-- The full equivalence of the XING algorithm with the pairwise definition (proved below:
    `xing_iff_pairwise`); tied to the code on every run by c17.merge (model = implementation) and
    c17.mergespec (this Lean definition = the Rust spec validator) on the same expanded field sets. -/
def xing_equiv_pairwise : Prop :=
  ∀ (n : Nat) (fs : List AField), xingCanMerge n fs = documentFieldsCanMerge n fs

/-- THE CONVERSE (completeness of the algorithm), for every field set and recursion limit: if the
    specification's pairwise FieldsInSetCanMerge / SameResponseShape accepts every selection set of
    the document, then the XING algorithm — grouping by response key, `same_output_type_shape` of the
    first of every name group against the rest, `same_name_and_arguments` of the first of every
    common-parents group against the rest, recursion into the merged sub-selections of each group —
    reports nothing.  The proof turns the spec's "each pair" (positions i < j of one selection set)
    into all pairs of members: the pair rule is symmetric, and holds on the diagonal because the
    sub-selection of every field is itself a selection set of the document. -/
theorem xing_complete (n : Nat) (fs : List AField) (h : documentFieldsCanMerge n fs = true) :
    xingCanMerge n fs = true :=
  ExecVal.xing_complete n fs h

/-- XING ⇔ PAIRWISE: the algorithm accepts exactly the documents the specification's pairwise rule
    accepts, for every expanded field tree (every document over every schema, through the
    abstraction c17.merge ties to the code) and every recursion limit. -/
theorem xing_iff_pairwise : xing_equiv_pairwise :=
  fun n fs => xing_eq_pairwise n fs

/-- The verdict of the pairwise rule depends only on WHICH fields an expanded set contains, not on
    their order or multiplicity — so it does not matter in which order `expand_selections` visits
    inline fragments and fragment spreads (a breadth-first queue), nor that `seen_fragments` makes it
    visit every fragment once. -/
theorem fields_can_merge_ignores_order_and_duplicates (n : Nat) (S S' : List AField)
    (h : ∀ x, x ∈ S ↔ x ∈ S') : documentFieldsCanMerge n S = documentFieldsCanMerge n S' :=
  doc_congr n S S' h

/-- THE CACHE IS TRANSPARENT.  `xingCachedDoc` (Model/ExecValidationCache.lean) is the algorithm as
    the code runs it: one validator for all operations, whose `cache` gives every merged field set
    ONE `MergedFieldSet` with two `OnceBool` guards, so that each of the two walks returns at once
    when it meets a set it has already walked (in this or in an earlier operation).  For EVERY
    identity `same` of merged sets that only identifies sets with equal contents, and every document
    whose operations nest less deeply than the recursion limit: no conflict is reported exactly when
    the pairwise rule accepts every operation.  (A hit returns what the recomputation would: if
    nothing was reported so far, every guarded set is accepted by the unguarded walk; a set being
    walked is never met again below itself, because merged sub-selections are strictly shallower.) -/
theorem xing_cache_transparent (same : List AField → List AField → Bool)
    (hsame : ∀ a b, same a b = true → a = b) (limit : Nat) (ops : List (List AField))
    (hd : ∀ fs ∈ ops, depthList fs < limit) :
    xingCachedDoc same limit ops = ops.all (documentFieldsCanMerge limit) := by
  rw [xingCachedDoc_eq same hsame limit ops hd]
  congr 1
  funext fs
  exact xing_eq_pairwise limit fs

/-- structural equality of field trees is such an identity -/
theorem beqList_is_identity (a b : List AField) (h : AField.beqList a b = true) : a = b :=
  AField.beqList_sound a b h

section Witnesses
/-- `f { g { x: a  x: b } }` with `a: Int`, `b: String` — and the operation `g { x: a  x: b }` -/
def wLeafA : AField := .mk "x" "O" true "a " "Int" []
def wLeafB : AField := .mk "x" "O" true "b " "String" []
def wInner : List AField := [.mk "g" "Q" true "g " "composite" [wLeafA, wLeafB]]
def wOuter : List AField := [.mk "f" "Q" true "f " "composite" wInner]

/-- guard 1 (both hypotheses are used): the depth hypothesis cannot be dropped.  With limit 2 the
    first operation (depth 3) sets the guard of `g {…}` but is cut off before it compares the two
    `x`; the second operation IS that set, hits the guard, and nothing is ever reported — while the
    unguarded algorithm at the same limit reports the second operation.  (The code then reports
    RecursionLimitError, since `recursion_limit.high > limit`.)  With the real limit, 128, the
    conflict is found. -/
theorem cache_needs_depth_hypothesis :
    xingCachedDoc AField.beqList 2 [wOuter, wInner] = true ∧
      [wOuter, wInner].all (xingCanMerge 2) = false ∧
      xingCachedDoc AField.beqList 128 [wOuter, wInner] = false := by decide +kernel

/-- guard 2: an identity that identifies different sets is not transparent -/
theorem cache_needs_exact_identity :
    xingCachedDoc (fun _ _ => true) 128 [[wLeafA], [wLeafA, wLeafB]] = true ∧
      xingCachedDoc AField.beqList 128 [[wLeafA], [wLeafA, wLeafB]] = false := by decide +kernel

/-- the guard does fire: `{ f { y } h { y } }` — the merged sub-selection `{ y }` of the two name
    groups is one set, walked once (2 guarded sets), and three times without a cache -/
theorem cache_hit_witness :
    (cachedCheck AField.beqList groupByOutputName shapeLeaf 128
      [.mk "f" "Q" true "f " "composite" [.mk "y" "O" true "a " "Int" []],
       .mk "h" "Q" true "h " "composite" [.mk "y" "O" true "a " "Int" []]] (true, [])).2.length = 2 ∧
    (cachedCheck (fun _ _ => false) groupByOutputName shapeLeaf 128
      [.mk "f" "Q" true "f " "composite" [.mk "y" "O" true "a " "Int" []],
       .mk "h" "Q" true "h " "composite" [.mk "y" "O" true "a " "Int" []]] (true, [])).2.length = 3 := by decide +kernel

-- completeness is not vacuous: a set the pairwise rule accepts although two fields share a key
-- with different names (exclusive object parents), and one it rejects (an abstract parent)
example : documentFieldsCanMerge 128 [.mk "x" "O" true "a " "Int" [], .mk "x" "P" true "b " "Int" []] = true := by decide +kernel
example : documentFieldsCanMerge 128 [.mk "x" "O" true "a " "Int" [], .mk "x" "I" false "b " "Int" []] = false := by decide +kernel
end Witnesses

example : xingCanMerge 128 [.mk "x" "O" true "a " "Int" [], .mk "x" "P" true "b " "Int" []] = true := by decide
example : xingCanMerge 128 [.mk "x" "O" true "a " "Int" [], .mk "x" "I" false "b " "Int" []] = false := by decide

/-! ## (5) unused fragments -/

/-- `collect_used_fragments` marks exactly the fragments reachable from an operation through
    spreads — for every document, any number of operations, cyclic spreads included (the walk's
    de-duplication set makes it terminate; the model's budget of `frags.length` nested entries is
    shown sufficient).  So UnusedFragment is reported exactly for the unreachable fragments. -/
theorem used_fragments_iff (frags : List (List Nat)) (ops : List (List Nat)) (j : Nat) :
    j ∈ collectUsed frags ops ↔ Used frags ops j :=
  ⟨collectUsed_sound frags ops j, collectUsed_complete frags ops j⟩

example : unusedCount [[1], [], []] [[0]] = 1 := by decide

/-- PER OPERATION (spec 5.8.3–5.8.5 speak of "each operation … including fragments transitively
    spread by that operation"): with the per-operation `validated_fragments` set, the fragment
    definitions validated against an operation's own variable definitions are exactly the fragments
    that operation reaches — for every operation of the document, whatever the others spread.
    Tied by c17.perop (one UndefinedVariable diagnostic per operation and reachable fragment). -/
theorem fragments_validated_per_operation (frags : List (List Nat)) (ops : List (List Nat))
    (op : List Nat) (hop : op ∈ ops) (j : Nat) :
    collectUsed frags [op] ∈ validatedPerOperation frags ops ∧
      (j ∈ collectUsed frags [op] ↔ Used frags [op] j) :=
  ⟨List.mem_map.mpr ⟨op, hop, rfl⟩, used_fragments_iff frags [op] j⟩

/-- a document-wide set is a different function: two operations spreading the same fragment give two
    validations, one per operation, while the fragment is in the document-wide walk only once -/
theorem validated_per_operation_not_document_wide :
    validationCount [[]] [[0], [0]] = 2 ∧ (collectUsed [[]] [[0], [0]]).length = 1 := by decide


/-! ## (6) the other rule families of §5

Structural rules: the model is `Standalone.validate` (Model/Standalone.lean, C20/C18 — tied to the code
by c20.schema and by c17.ops/.frags/.fields/.args/.vars on this property's own documents, through
`ExecRules.erase`).  Typed rules the structural model leaves opaque: Model/ExecRules.lean. -/
section Families
open Apollo.ExecRules Apollo.Standalone.Rules

/-- §5.4.2 -/
theorem argument_uniqueness_iff_spec (as : List Standalone.Arg) :
    Standalone.uniqueArgs [] as = [] ↔ (as.map (·.name)).Nodup := argument_uniqueness_iff as

/-- §5.4.1 -/
theorem argument_names_iff_spec (defs : List Standalone.ArgDef) (as : List Standalone.Arg) :
    Standalone.undefinedArgs defs as = [] ↔ ∀ a ∈ as, ∃ d ∈ defs, d.name = a.name := argument_names_iff defs as

/-- §5.4.2.1 -/
theorem required_arguments_iff_spec (defs : List Standalone.ArgDef) (as : List Standalone.Arg) :
    Standalone.requiredArgs defs as = [] ↔
      ∀ d ∈ defs, d.required = true → ∃ a, as.find? (fun a => a.name == d.name) = some a ∧ a.value.isNull = false :=
  required_arguments_iff defs as

/-- §5.8.1 -/
theorem variable_uniqueness_iff_spec (p : Standalone.Params) (s : Option Standalone.Schema) (vs : List Standalone.VarDef) :
    .uniqueVariable ∈ Standalone.varDefDiags p s [] vs ↔ ¬ (vs.map (·.name)).Nodup := variable_uniqueness_iff p s vs

/-- §5.8.2 -/
theorem variables_are_input_types_iff_spec (p : Standalone.Params) (sc : Standalone.Schema) (vs : List Standalone.VarDef) :
    (.variableInputType ∈ Standalone.varDefDiags p (some sc) [] vs ∨ .undefinedDefinition ∈ Standalone.varDefDiags p (some sc) [] vs) ↔
      ∃ v ∈ vs, sc.kind v.ty = some .composite ∨ sc.kind v.ty = none :=
  variables_are_input_types_iff p sc vs []

/-- §5.8.4 (the walk `reach` is reachability through spreads: `used_fragments_iff`) -/
theorem all_variables_used_iff_spec (doc : Standalone.BuiltDoc) (o : Standalone.Op) :
    Standalone.unusedVarDiags doc o = [] ↔ ∀ v ∈ o.vars, v.name ∈ Standalone.usedVars doc o := all_variables_used_iff doc o

/-- §5.8.5 for a defined variable at the position of an argument value (the rule itself: C29 `usage_allowed_iff`) -/
theorem variable_usage_top_level_iff_spec (s : RSchema) (vars : List RVarDef) (d : InDef) (an n : String) (vd : RVarDef)
    (hv : vars.find? (·.name == n) = some vd) :
    .disallowedVariableUsage n ∈ argDiags s vars d { name := an, value := .var n } ↔
      variableUsageAllowed (embed vd.ty) vd.default (embed d.ty) d.hasDefault = false :=
  variable_usage_top_level_iff s vars d an n vd hv

/-- §5.8.5 inside a list / input-object literal: the known finding `nested-position`, explicit -/
theorem nested_variable_named_type_only_spec (vars : List RVarDef) (ty : Ty) (kind : TKind) (n : String) (vd : RVarDef)
    (hv : vars.find? (·.name == n) = some vd) :
    varValueDiags vars ty kind n = [] ↔ (kind.isInput = true ∧ vd.ty.innerNamedType = ty.innerNamedType) :=
  nested_variable_named_type_only vars ty kind n vd hv

/-- kernel-evaluated witness of the finding: `query($v: Int) { echo(l: [$v]) }` with `l: [Int!]` — the
    nullable `$v` is accepted at a non-null item position, where IsVariableUsageAllowed says no -/
theorem nested_position_witness :
    varValueDiags [{ name := "v", ty := .named "Int", default := .absent, dirs := [] }] (.nonNullNamed "Int") (.scalar true) "v" = [] ∧
    variableUsageAllowed (embed (.named "Int")) .absent (embed (.nonNullNamed "Int")) false = false := by decide

/-- §5.8.3, per operation -/
theorem operation_variables_in_scope_spec (s : RSchema) (doc : RBuilt) (o : ROp) :
    ∀ d ∈ dirsDiags s o.vars o.dirs ++
        (walkSels s doc o.vars (enterFrag s doc o.vars doc.frags.length) (s.root o.ty) o.sels []).1,
      RespectsScope o.vars d := operation_variables_in_scope s doc o

/-- §5.3.1 / §5.3.3 (first half) / inline type conditions, through the whole selection set -/
theorem field_selections_iff_spec (sc : Standalone.Schema) (sels : Standalone.Sels) (parent : Nat) :
    (Standalone.buildSels (some sc) parent sels).2 = [] ↔ SelectionsWellTyped sc parent sels :=
  field_selections_iff sc sels parent

/-- §5.5.2.3, for a type condition and a parent type that are both defined and different (`spreadDiags` reports
    nothing when they are equal or when one of them is not defined) -/
theorem fragment_spread_possible_iff_spec (s : RSchema) (against tc : String) (hne : tc ≠ against)
    (h1 : (s.typeInfo? tc).isSome) (h2 : (s.typeInfo? against).isSome) :
    spreadDiags s against tc = [] ↔ ∃ t, t ∈ s.possibleTypes against ∧ t ∈ s.possibleTypes tc :=
  fragment_spread_possible_iff s against tc hne h1 h2

/-- §5.2.1.1, when every operation has a root type in the schema (`AllOpsBuild`); without that guard:
    `operation_definitions_iff_spec` -/
theorem operation_name_uniqueness_iff_spec (s : Option Standalone.Schema) (ast : Standalone.Ast) (h : AllOpsBuild s ast) :
    .operationNameCollision ∈ (Standalone.build s ast).diags ↔ ¬ OperationNamesUnique ast :=
  operation_name_uniqueness_iff s ast h

/-- §5.2.2.1, under the same guard `AllOpsBuild` -/
theorem lone_anonymous_operation_iff_spec (s : Option Standalone.Schema) (ast : Standalone.Ast) (h : AllOpsBuild s ast) :
    .ambiguousAnonymousOperation ∈ (Standalone.build s ast).diags ↔ ¬ LoneAnonymousOperation ast :=
  lone_anonymous_operation_iff s ast h

/-- §5.5.1.1, when every fragment's type condition names a defined type (`AllFragsBuild`); without that guard:
    `fragment_definitions_iff_spec` -/
theorem fragment_name_uniqueness_iff_spec (s : Option Standalone.Schema) (ast : Standalone.Ast) (h : AllFragsBuild s ast) :
    .fragmentNameCollision ∈ (Standalone.build s ast).diags ↔ ¬ FragmentNamesUnique ast :=
  fragment_name_uniqueness_iff s ast h

/-- §5.1.1 Executable Definitions -/
theorem executable_definitions_iff_spec (s : Option Standalone.Schema) (ast : Standalone.Ast) :
    .typeSystemDefinition ∈ (Standalone.build s ast).diags ↔ Standalone.Def.typeSystem ∈ ast :=
  executable_definitions_iff s ast

/-- §5.5.1.1 + §5.5.1.2 (named fragments) WITHOUT A GUARD: the document is rejected for a fragment
    definition iff two fragments have the same name or a type condition names no defined type -/
theorem fragment_definitions_iff_spec (s : Option Standalone.Schema) (ast : Standalone.Ast) :
    (.fragmentNameCollision ∈ (Standalone.build s ast).diags ∨
        .undefinedTypeInNamedFragmentTypeCondition ∈ (Standalone.build s ast).diags) ↔
      (¬ FragmentNamesUnique ast ∨ ¬ FragmentConditionsDefined s ast) :=
  fragment_definitions_iff s ast

/-- §5.2.1.1 + §5.2.2.1 + root operation types WITHOUT A GUARD -/
theorem operation_definitions_iff_spec (s : Option Standalone.Schema) (ast : Standalone.Ast) :
    (.ambiguousAnonymousOperation ∈ (Standalone.build s ast).diags ∨ .operationNameCollision ∈ (Standalone.build s ast).diags ∨
        .undefinedRootOperation ∈ (Standalone.build s ast).diags) ↔
      (¬ LoneAnonymousOperation ast ∨ ¬ OperationNamesUnique ast ∨ ¬ RootTypesDefined s ast) :=
  operation_definitions_iff s ast

/-- §5.3.3, second half (`MissingSubselection`), at a field without sub-selection that is defined on its parent type -/
theorem missing_subselection_iff_spec (p : Standalone.Params) (sc : Standalone.Schema) (doc : Standalone.BuiltDoc)
    (enter : Standalone.Frag → List Nat → List Standalone.Diag × List Nat) (t name : Nat) (dirs : List Standalone.Dir)
    (args : List Standalone.Arg) (V : List Nat) (fd : Standalone.FieldDef) (hf : sc.field t name = some fd) :
    .missingSubselection ∈ (Standalone.walkSels p (some sc) doc enter (some t) (.field name dirs args .nil .nil) V).1 ↔
      sc.kind fd.ty = some .composite :=
  missing_subselection_iff p sc doc enter t name dirs args V fd hf

/-- §5.5.1.3 Fragments On Composite Types, at a fragment definition, as two implications: when the type
    condition is not composite, `InvalidFragmentTarget` is reported (and the body skipped); when it is composite
    and the fragment is not on a spread cycle, entering it reports the diagnostics of its directives and of its
    body and nothing of its own.  The equivalence for the whole tree is `fragments_on_composite_types_iff_spec_doc`. -/
theorem fragments_on_composite_types_iff_spec (p : Standalone.Params) (sc : Standalone.Schema) (doc : Standalone.BuiltDoc)
    (n : Nat) (f : Standalone.Frag) (V : List Nat) :
    (sc.kind f.tc ≠ some .composite →
      .invalidFragmentTarget ∈ (Standalone.enterFrag p (some sc) doc (n + 1) f V).1 ∧
        (Standalone.enterFrag p (some sc) doc (n + 1) f V).2 = V) ∧
    (sc.kind f.tc = some .composite → f.name ∉ Standalone.reach doc f.sels →
      Standalone.enterFrag p (some sc) doc (n + 1) f V =
        (Standalone.dirDiags p (some sc) .fragmentDefinition f.dirs ++
            (Standalone.walkSels p (some sc) doc (Standalone.enterFrag p (some sc) doc n) (Standalone.fragTy (some sc) f) f.sels V).1,
          (Standalone.walkSels p (some sc) doc (Standalone.enterFrag p (some sc) doc n) (Standalone.fragTy (some sc) f) f.sels V).2)) :=
  ⟨fragment_on_non_composite_reported p sc doc n f V, fragment_on_composite_walks_body p sc doc n f V⟩

/-- §5.5.1.3 at an inline fragment, one direction: a type condition that is not composite is reported -/
theorem inline_fragment_on_composite_type_spec (p : Standalone.Params) (sc : Standalone.Schema) (doc : Standalone.BuiltDoc)
    (enter : Standalone.Frag → List Nat → List Standalone.Diag × List Nat) (ty : Option Nat) (t : Nat)
    (dirs : List Standalone.Dir) (sub rest : Standalone.Sels) (V : List Nat) (h : sc.kind t ≠ some .composite) :
    .invalidFragmentTarget ∈ (Standalone.walkSels p (some sc) doc enter ty (.inline (some t) dirs sub rest) V).1 :=
  inline_on_non_composite_reported p sc doc enter ty t dirs sub rest V h

/-- §5.5.2.1 Fragment Spread Target Defined, at a spread (an equation, not an iff): what the walk reports there is
    the spread's directive diagnostics, then `UndefinedFragment` when no fragment has the name, nothing when the
    fragment is already marked, else what entering it reports -/
theorem fragment_spread_target_defined_iff_spec (p : Standalone.Params) (s : Option Standalone.Schema) (doc : Standalone.BuiltDoc)
    (enter : Standalone.Frag → List Nat → List Standalone.Diag × List Nat) (ty : Option Nat) (f : Nat)
    (dirs : List Standalone.Dir) (V : List Nat) :
    (Standalone.walkSels p s doc enter ty (.spread f dirs .nil) V).1 =
      Standalone.dirDiags p s .fragmentSpread dirs ++
        (match doc.findFrag f with
         | some d => if f ∈ V then [] else (enter d (f :: V)).1
         | none => [.undefinedFragment]) :=
  spread_target_defined_iff p s doc enter ty f dirs V

/-- GetPossibleTypes (§5.5.2.3) -/
theorem possible_types_spec (s : RSchema) (t : TypeInfo) (h : s.typeInfo? t.name = some t) :
    s.possibleTypes t.name =
      (match t.kind with
       | .object _ => [t.name]
       | .interface _ => (s.types.filter fun o => match o.kind with | .object is => is.contains t.name | _ => false).map (·.name)
       | .union ms => ms
       | _ => []) :=
  ExecRules.possible_types_spec s t h

/-! `expand_selections`: the expansion the merging algorithm starts from -/
section Expansion
open Apollo.Expand

/-- `expand_selections` (breadth-first queue of selection sets, `seen_fragments`) lists EXACTLY the
    fields of the given selection sets and of every fragment reachable from them through spreads, inline
    fragments looked into, each with the type of the selection set it is written in: what the
    specification calls "the set of selections … including visiting fragments and inline fragments".
    The loop terminates: `fuelFor` iterations empty the queue, whatever the fragments (cycles included). -/
theorem expand_selections_iff_spec (frags : Frags) (sets : List ESet) (x : String × Nat) :
    x ∈ expand frags sets ↔ Expanded frags sets x := expand_iff frags sets x

/-- so field merging can start from the selection sets of the document: XING on apollo's expansion =
    the pairwise rule on any listing of those fields (depth-first, any order, with or without repetition) -/
theorem merging_from_selection_sets (mk : String × Nat → AField) (n : Nat) (frags : Frags) (sets : List ESet)
    (L : List (String × Nat)) (hL : ∀ x, x ∈ L ↔ Expanded frags sets x) :
    xingCanMerge n ((expand frags sets).map mk) = documentFieldsCanMerge n (L.map mk) :=
  Expand.merging_from_selection_sets mk n frags sets L hL

/-- apollo's breadth-first expansion and the depth-first CollectFields-style expansion (every named fragment
    once; the one the oracle and the streams c17.merge / c17.mergespec / c17.expand use) list the same
    fields, for every document and fragment graph -/
theorem expand_eq_flatten_spec (frags : Frags) (sets : List ESet) (x : String × Nat) :
    x ∈ expand frags sets ↔ x ∈ (flatten frags sets).out := expand_eq_flatten frags sets x

/-- a cyclic spread does not hang the expansion: `{ ...A } fragment A { f0 ...B } fragment B { f1 ...A }` -/
theorem expand_cycle_witness :
    expand [("A", ("T", [.field 0, .spread "B"])), ("B", ("U", [.field 1, .spread "A"]))] [("Q", [.spread "A", .inline "V" [.field 2]])] =
      [("T", 0), ("V", 2), ("U", 1)] := by decide

end Expansion

/-! `value_of_correct_type` / `validate_variable_usage` for one argument: §5.6 values at executable positions -/
section Values56
open Apollo.ExecValues

/-- §5.6.1–4 for a value that may contain variables, the descent `value_of_correct_type(schema, ty, value, var_defs)`:
    on a schema whose input fields have defined input types and for a defined input type, the code reports nothing
    iff the value is a value of the type in the sense of `Spec.ExecValues.CoercesV` — constants as in C14's
    `value_rule_iff_spec` (§3.5, §3.9–§3.12), lists item by item, input objects with unique (§5.6.3), defined (§5.6.2)
    keys and every required field present and non-null (§5.6.4), a custom scalar accepting any literal with unique keys
    at every depth and defined variables — where a variable must be defined and is judged by `NamedRule`: the named type
    of the position is the variable's (what the code compares; the specification's IsVariableUsageAllowed is stricter,
    see `nested_position_value_witness`). -/
theorem exec_value_rule_iff_spec (S : ValueCheck.Schema) (hS : ValueCheck.Spec.Closed S) (vars : List XVarDef)
    (v : ValueCheck.Value) (ty : ValueCheck.Ty) (hd : Bool) (hdef : ValueCheck.Spec.Defined S ty) :
    ValueCheck.check S (checkVars vars) ty v = [] ↔ CoercesV S vars (NamedRule S) ty hd v :=
  checkV_iff S hS vars v ty hd hdef

/-- one argument as `validate_field`/`validate_directives` treat it (`validate_variable_usage`, then `validate_values`),
    exact: nothing is reported iff a variable given directly as the value passes §5.8.5 IsVariableUsageAllowed
    (`Spec.variableUsageAllowed`, the C29 rule, with the argument's default) and the value is accepted by the descent. -/
theorem argument_value_iff_spec (S : ValueCheck.Schema) (hS : ValueCheck.Spec.Closed S) (vars : List XVarDef)
    (ty : ValueCheck.Ty) (hd : Bool) (v : ValueCheck.Value) (hdef : ValueCheck.Spec.Defined S ty) :
    argValueDiags S vars ty hd v = [] ↔ ExecArgOK S vars ty hd v :=
  arg_values_iff S hS vars ty hd v hdef

/-- against the specification proper (every variable, at any depth, judged by IsVariableUsageAllowed at its position):
    what the specification accepts the code accepts, always … -/
theorem spec_argument_value_accepted (S : ValueCheck.Schema) (hS : ValueCheck.Spec.Closed S) (vars : List XVarDef)
    (ty : ValueCheck.Ty) (hd : Bool) (v : ValueCheck.Value) (hdef : ValueCheck.Spec.Defined S ty)
    (h : CoercesV S vars UsageRule ty hd v) : argValueDiags S vars ty hd v = [] :=
  spec_value_accepted S hS vars ty hd v hdef h

/-- … and conversely whenever no variable stands INSIDE a list or object literal (the value is a variable, or
    contains none): then code and specification agree exactly on §5.6.1–4 and §5.8.5. -/
theorem argument_value_iff_spec_no_nested (S : ValueCheck.Schema) (hS : ValueCheck.Spec.Closed S) (vars : List XVarDef)
    (ty : ValueCheck.Ty) (hd : Bool) (v : ValueCheck.Value) (hdef : ValueCheck.Spec.Defined S ty) (hn : NoNestedVariable v) :
    argValueDiags S vars ty hd v = [] ↔ CoercesV S vars UsageRule ty hd v :=
  arg_values_iff_spec S hS vars ty hd v hdef hn

/-- the guard is needed (known finding `nested-position`, at the level of values): `$x: Int` inside the list literal
    `[$x]` given to `[Int!]` — the code reports nothing, the specification rejects (Int is not usable at Int!). -/
theorem nested_position_value_witness :
    argValueDiags ⟨[]⟩ [⟨"x", .named "Int", .absent⟩] (.list (.nonNullNamed "Int")) false (.list (.cons (.variable "x") .nil)) = [] ∧
      ¬ CoercesV ⟨[]⟩ [⟨"x", .named "Int", .absent⟩] UsageRule (.list (.nonNullNamed "Int")) false (.list (.cons (.variable "x") .nil)) := by
  refine ⟨by decide, ?_⟩
  intro h
  cases h with
  | leaf _ _ _ hl _ => simp [IsLeaf] at hl
  | customList _ _ _ hl _ _ => simp [ValueCheck.Ty.isList] at hl
  | listItems _ _ _ _ hi =>
    have := hi (.variable "x") (by simp [ValueCheck.Values.toList])
    cases this with
    | leaf _ _ _ hl _ => simp [IsLeaf] at hl
    | «variable» _ _ _ vd hf hr =>
      simp [List.find?] at hf
      subst hf
      have : UsageRule ⟨"x", .named "Int", .absent⟩ (.nonNullNamed "Int") false = (false = true) := by
        unfold UsageRule; decide
      simp only [ValueCheck.Ty.itemType] at hr
      rw [this] at hr
      cases hr

/-- a variable directly as the value: the location default of the argument counts (§5.8.5) -/
theorem top_level_variable_value_witness :
    argValueDiags ⟨[]⟩ [⟨"x", .named "Int", .absent⟩] (.nonNullNamed "Int") false (.variable "x") = [.disallowedVariableUsage] ∧
      argValueDiags ⟨[]⟩ [⟨"x", .named "Int", .absent⟩] (.nonNullNamed "Int") true (.variable "x") = [] := by
  constructor <;> decide

end Values56

/-! DOCUMENT LEVEL: where the rules are applied.  A site is one call of a per-node check; `Reaches` lists the sites
    of an operation — its own selection set and, through spreads at any depth, the definitions and bodies of the
    fragments it reaches (the walk skips what the code skips: the sub-selection of an undefined field, the body of a
    fragment whose type condition is not composite or that is on a spread cycle). -/
section DocumentLevel

/-- **the walk meets every argument** (typed rules, no hypothesis on schema or document): `validate_operation`
    for every operation of the document reports nothing of §5.6 (as far as `Model/ExecRules.lean` models it: the
    variable arms and the shapes), §5.8.3, §5.8.5, §5.5.2.3 EXACTLY when every argument of every field and directive
    the operation reaches — handed to the per-argument check `argDiags` (= `validate_variable_usage` +
    `value_of_correct_type`, the call `argument_value_iff_spec` describes) with the definition its field has on the
    field's parent type, or its directive definition's, and with THAT operation's variable definitions — passes, and
    every reachable spread / inline fragment is possible.  Soundness is by induction on the walk; completeness needs
    that `validated_fragments` never makes the walk skip a fragment it has not validated for this operation and that
    the recursion fuel of the model (number of fragment definitions) never runs out (pigeonhole on the marked names). -/
theorem walk_meets_every_argument (s : RSchema) (ast : RAst) :
    typedDiags s ast = [] ↔
      ∀ o ∈ (ExecRules.build s ast).ops,
        (∀ d a, (Site.dirs o.dirs).HasArg s d a → argDiags s o.vars d a = []) ∧
        (∀ v ∈ o.vars, ∀ d a, (Site.dirs v.dirs).HasArg s d a → argDiags s [] d a = []) ∧
        ∀ site, Reaches s (ExecRules.build s ast) (s.root o.ty) o.sels site →
          (∀ d a, site.HasArg s d a → argDiags s o.vars d a = []) ∧ (∀ t c, site = .spread t c → spreadDiags s t c = []) :=
  ExecRules.walk_meets_every_argument s ast

/-- one operation's walk, typed rules: quiet iff every reachable site is -/
theorem typed_walk_quiet_iff_reachable_sites (s : RSchema) (doc : RBuilt) (vars : List RVarDef) (ty : Option String) (t : RSels) :
    (ExecRules.walkSels s doc vars (ExecRules.enterFrag s doc vars doc.frags.length) ty t []).1 = [] ↔
      ∀ site, Reaches s doc ty t site → site.diags s vars = [] :=
  walk_quiet_iff s doc vars ty t

/-- the structural walk (`validate_selection_set` with `validate_field`, `validate_fragment_spread`,
    `validate_inline_fragment`, `validate_fragment_definition`; schema present): a diagnostic is reported for an
    operation EXACTLY when one of the sites the operation reaches reports it — every diagnostic other than the
    model's fuel marker (`walk_reports_iff_reachable_site_all` lifts the exception), whatever else is wrong in the
    document -/
theorem walk_reports_iff_reachable_site (p : Standalone.Params) (sc : Standalone.Schema) (doc : Standalone.BuiltDoc)
    (ty : Option Nat) (t : Standalone.Sels) (d : Standalone.Diag) (hd : d ≠ .outOfFuel) :
    d ∈ Standalone.Walk.walkOut p sc doc ty t ↔
      ∃ site, Standalone.Walk.Reaches sc doc ty t site ∧ d ∈ site.diags p sc doc :=
  Standalone.Walk.walk_mem_iff p sc doc ty t d hd

/-- §5.3.3 Leaf Field Selections, second half, for the whole tree of an operation: `MissingSubselection` is reported
    iff the operation reaches a field written without sub-selection whose type (on its parent type) is composite -/
theorem missing_subselection_iff_spec_doc (p : Standalone.Params) (sc : Standalone.Schema) (doc : Standalone.BuiltDoc)
    (ty : Option Nat) (t : Standalone.Sels) :
    .missingSubselection ∈ Standalone.Walk.walkOut p sc doc ty t ↔
      ∃ t0 name dirs args fd, Standalone.Walk.Reaches sc doc ty t (.field (some t0) name dirs args true) ∧
        sc.field t0 name = some fd ∧ sc.kind fd.ty = some .composite :=
  Standalone.Walk.missing_subselection_iff_doc p sc doc ty t

/-- §5.5.2.1 Fragment Spread Target Defined, for the whole tree of an operation -/
theorem fragment_spread_target_defined_iff_spec_doc (p : Standalone.Params) (sc : Standalone.Schema) (doc : Standalone.BuiltDoc)
    (ty : Option Nat) (t : Standalone.Sels) :
    .undefinedFragment ∈ Standalone.Walk.walkOut p sc doc ty t ↔
      ∃ f dirs, Standalone.Walk.Reaches sc doc ty t (.spread f dirs) ∧ doc.findFrag f = none :=
  Standalone.Walk.spread_target_defined_iff_doc p sc doc ty t

/-- §5.5.1.3 Fragments On Composite Types, for the whole tree of an operation: inline fragments and the definitions
    of the fragments it reaches -/
theorem fragments_on_composite_types_iff_spec_doc (p : Standalone.Params) (sc : Standalone.Schema) (doc : Standalone.BuiltDoc)
    (ty : Option Nat) (t : Standalone.Sels) :
    .invalidFragmentTarget ∈ Standalone.Walk.walkOut p sc doc ty t ↔
      (∃ c dirs, Standalone.Walk.Reaches sc doc ty t (.inline (some c) dirs) ∧ sc.kind c ≠ some .composite) ∨
        (∃ fr, Standalone.Walk.Reaches sc doc ty t (.fragDef fr) ∧ sc.kind fr.tc ≠ some .composite) :=
  Standalone.Walk.fragments_on_composite_types_iff_doc p sc doc ty t

/-- `walkOut` is the walk summand of `validate_operation` -/
theorem validate_operation_walk (p : Standalone.Params) (sc : Standalone.Schema) (doc : Standalone.BuiltDoc) (o : Standalone.Op) :
    Standalone.validateOp p (some sc) doc o =
      Standalone.dirDiags p (some sc) o.ty.loc o.dirs ++ Standalone.varDefDiags p (some sc) [] o.vars ++
        Standalone.unusedVarDiags doc o ++ Standalone.Walk.walkOut p sc doc (sc.root o.ty) o.sels :=
  Standalone.Walk.validateOp_walk p sc doc o

end DocumentLevel

/-! DOCUMENT LEVEL, values: the link between the two models of the per-argument check (`rvalOf` forgets the scalar
    literals; `SchemaRel` relates the two views of the schema; `Presents` says that `(xvars, ty, hd, v)` is a full-value
    presentation of an argument the walk checks) and the variable-related part of §5.6 / §5.8.3 / §5.8.5 for the
    whole document. -/
section ValuesDocumentLevel
open Apollo.ExecValues Apollo.ExecRules.Mem

/-- a variable given directly as the value: the two models report the same, diagnostic for diagnostic -/
theorem argument_variable_models_agree (s : RSchema) (S : ValueCheck.Schema) (h : SchemaRel s S) (xvars : List XVarDef)
    (an : String) (ty : ValueCheck.Ty) (hd : Bool) (n : String) :
    (argDiags s (xvars.map rvarOf) (inDefOf an ty hd) { name := an, value := rvalOf (.variable n) }).map tdiagX =
      argValueDiags S xvars ty hd (.variable n) :=
  arg_variable_agrees s S h xvars an ty hd n

/-- `UndefinedVariable` for one argument, any value (variables at any depth of lists, input objects, custom-scalar
    literals): `argDiags` on the abstracted value reports one iff `argValueDiags` on the full value does -/
theorem argument_undefined_variable_models_agree (s : RSchema) (S : ValueCheck.Schema) (hrel : SchemaRel s S)
    (xvars : List XVarDef) (an : String) (ty : ValueCheck.Ty) (hd : Bool) (v : ValueCheck.Value) :
    HasUV (argDiags s (xvars.map rvarOf) (inDefOf an ty hd) { name := an, value := rvalOf v }) ↔
      XDiag.value .undefinedVariable ∈ argValueDiags S xvars ty hd v :=
  arg_undefinedVariable_agrees s S hrel xvars an ty hd v

/-- `DisallowedVariableUsage` for one argument -/
theorem argument_disallowed_usage_models_agree (s : RSchema) (S : ValueCheck.Schema) (xvars : List XVarDef)
    (an : String) (ty : ValueCheck.Ty) (hd : Bool) (v : ValueCheck.Value) :
    XDiag.disallowedVariableUsage ∈ argValueDiags S xvars ty hd v ↔
      ∃ n, v = .variable n ∧
        argDiags s (xvars.map rvarOf) (inDefOf an ty hd) { name := an, value := rvalOf v } = [.disallowedVariableUsage n] :=
  arg_disallowed_agrees s S xvars an ty hd v

/-- the typed rules, DIAGNOSTIC BY DIAGNOSTIC, for the document (membership form of `walk_meets_every_argument`, no
    hypothesis): `d` is reported iff the per-argument check reports it for an argument some operation checks (`OpArg`:
    a directive of the operation, of one of its variable definitions, or a field / directive it reaches), or a spread
    it reaches is impossible -/
theorem typed_diag_iff_reachable_argument (s : RSchema) (ast : RAst) (d : TDiag) :
    d ∈ typedDiags s ast ↔
      ∃ o ∈ (ExecRules.build s ast).ops,
        (∃ vars df a, OpArg s (ExecRules.build s ast) o vars df a ∧ d ∈ argDiags s vars df a) ∨
          (∃ t c, Reaches s (ExecRules.build s ast) (s.root o.ty) o.sels (.spread t c) ∧ d ∈ spreadDiags s t c) :=
  typedDiags_mem_iff s ast d

/-- §5.8.3 for the document in terms of the FULL per-argument check -/
theorem values_undefined_variable_iff_doc (s : RSchema) (S : ValueCheck.Schema) (hrel : SchemaRel s S) (ast : RAst)
    (hp : ∀ o ∈ (ExecRules.build s ast).ops, ∀ vars df a, OpArg s (ExecRules.build s ast) o vars df a →
      ∃ xvars ty hd v, Presents vars df a xvars ty hd v) :
    (∃ n, TDiag.undefinedVariable n ∈ typedDiags s ast) ↔
      ∃ o ∈ (ExecRules.build s ast).ops, ∃ vars df a xvars ty hd v, OpArg s (ExecRules.build s ast) o vars df a ∧
        Presents vars df a xvars ty hd v ∧ XDiag.value .undefinedVariable ∈ argValueDiags S xvars ty hd v :=
  values_undefinedVariable_iff_doc s S hrel ast hp

/-- §5.8.5 for the document in terms of the FULL per-argument check -/
theorem values_disallowed_usage_iff_doc (s : RSchema) (S : ValueCheck.Schema) (ast : RAst)
    (hp : ∀ o ∈ (ExecRules.build s ast).ops, ∀ vars df a, OpArg s (ExecRules.build s ast) o vars df a →
      ∃ xvars ty hd v, Presents vars df a xvars ty hd v) :
    (∃ n, TDiag.disallowedVariableUsage n ∈ typedDiags s ast) ↔
      ∃ o ∈ (ExecRules.build s ast).ops, ∃ vars df a xvars ty hd v, OpArg s (ExecRules.build s ast) o vars df a ∧
        Presents vars df a xvars ty hd v ∧ XDiag.disallowedVariableUsage ∈ argValueDiags S xvars ty hd v :=
  values_disallowed_iff_doc s S ast hp

/-- **the variable-related part of the value rules, document level, one direction** (an implication):
    `typed_diag_iff_reachable_argument` composed with the bridge between the two value models and with `argument_value_iff_spec` —
    if every argument any operation reaches has a full-value presentation satisfying `ExecArgOK` (closed schema,
    defined input type), the document reports neither `UndefinedVariable` nor `DisallowedVariableUsage`.  The other
    direction is `values_quiet_doc`: in a quiet document the full check reports neither at any presented reachable
    argument. -/
theorem values_rule_iff_spec_doc (s : RSchema) (S : ValueCheck.Schema) (hrel : SchemaRel s S) (hS : ValueCheck.Spec.Closed S)
    (ast : RAst)
    (hall : ∀ o ∈ (ExecRules.build s ast).ops, ∀ vars df a, OpArg s (ExecRules.build s ast) o vars df a →
      ∃ xvars ty hd v, Presents vars df a xvars ty hd v ∧ ValueCheck.Spec.Defined S ty ∧ ExecArgOK S xvars ty hd v) :
    ∀ n, TDiag.undefinedVariable n ∉ typedDiags s ast ∧ TDiag.disallowedVariableUsage n ∉ typedDiags s ast :=
  values_rule_spec_doc s S hrel hS ast hall

theorem values_quiet_doc (s : RSchema) (S : ValueCheck.Schema) (hrel : SchemaRel s S) (ast : RAst)
    (hq : typedDiags s ast = []) :
    ∀ o ∈ (ExecRules.build s ast).ops, ∀ vars df a xvars ty hd v, OpArg s (ExecRules.build s ast) o vars df a →
      Presents vars df a xvars ty hd v →
        XDiag.disallowedVariableUsage ∉ argValueDiags S xvars ty hd v ∧
          XDiag.value .undefinedVariable ∉ argValueDiags S xvars ty hd v :=
  (values_rule_variables_doc s S hrel ast).1 hq

/-- the structural walk never reports the model's fuel marker: the number of fragment definitions is enough fuel for
    every document … -/
theorem walk_fuel_suffices (p : Standalone.Params) (sc : Standalone.Schema) (doc : Standalone.BuiltDoc)
    (ty : Option Nat) (t : Standalone.Sels) : Standalone.Diag.outOfFuel ∉ Standalone.Walk.walkOut p sc doc ty t :=
  Standalone.Walk.walk_fuel_suffices p sc doc ty t

/-- … so `walk_reports_iff_reachable_site` holds for EVERY diagnostic -/
theorem walk_reports_iff_reachable_site_all (p : Standalone.Params) (sc : Standalone.Schema) (doc : Standalone.BuiltDoc)
    (ty : Option Nat) (t : Standalone.Sels) (d : Standalone.Diag) :
    d ∈ Standalone.Walk.walkOut p sc doc ty t ↔
      ∃ site, Standalone.Walk.Reaches sc doc ty t site ∧ d ∈ site.diags p sc doc :=
  Standalone.Walk.walk_mem_iff_all p sc doc ty t d

/-- `SchemaRel` is inhabited (kernel-checked): the schema without definitions, i.e. the built-in scalars -/
theorem schema_rel_witness : SchemaRel ⟨[], none, none, none, []⟩ ⟨[]⟩ := schemaRel_builtins

end ValuesDocumentLevel

/-- THE COVERED RULES, TOGETHER (partial: see the inventory at the top for what stays outside this conjunction —
    the directive rules (C14), fragment cycles (C21), merging and subscriptions (sections 1–5)).
    Unconditional (no guard on the document): the document-building phase reports a type-system definition,
    an operation problem (ambiguity / name collision / undefined root type), a fragment-definition problem
    (name collision / undefined type condition) or a selection error exactly when the corresponding
    specification rules fail; likewise each operation's variable definitions, unused variables and every
    argument list.
    The last two conjuncts are the DOCUMENT-LEVEL statements of the walk: MissingSubselection, UndefinedFragment and
    InvalidFragmentTarget are reported for an operation exactly when a site the operation reaches (own selection set and,
    through spreads, every fragment it reaches) violates the rule; and the typed rules (§5.6 as far as variables and
    shapes go, §5.8.3, §5.8.5, §5.5.2.3) are quiet for the document exactly when every reachable argument passes the
    per-argument check with its own definition and its operation's variables (`walk_meets_every_argument`).
    The conjunct before them, §5.6.1–4 with §5.8.5 for the value of one argument whose definition is known (schema closed,
    type a defined input type): exact against `ExecArgOK`; what the specification accepts is accepted; and exact
    against the specification when no variable stands inside a literal (else the known finding `nested-position`). -/
theorem executable_verdict_iff_spec_partial (p : Standalone.Params) (sc : Standalone.Schema) (ast : Standalone.Ast) :
    (.typeSystemDefinition ∈ (Standalone.build (some sc) ast).diags ↔ Standalone.Def.typeSystem ∈ ast) ∧
    ((.ambiguousAnonymousOperation ∈ (Standalone.build (some sc) ast).diags ∨ .operationNameCollision ∈ (Standalone.build (some sc) ast).diags ∨
        .undefinedRootOperation ∈ (Standalone.build (some sc) ast).diags) ↔
      (¬ LoneAnonymousOperation ast ∨ ¬ OperationNamesUnique ast ∨ ¬ RootTypesDefined (some sc) ast)) ∧
    ((.fragmentNameCollision ∈ (Standalone.build (some sc) ast).diags ∨
        .undefinedTypeInNamedFragmentTypeCondition ∈ (Standalone.build (some sc) ast).diags) ↔
      (¬ FragmentNamesUnique ast ∨ ¬ FragmentConditionsDefined (some sc) ast)) ∧
    (∀ parent sels, (Standalone.buildSels (some sc) parent sels).2 = [] ↔ SelectionsWellTyped sc parent sels) ∧
    (∀ vs : List Standalone.VarDef,
      (.uniqueVariable ∉ Standalone.varDefDiags p (some sc) [] vs ∧ .variableInputType ∉ Standalone.varDefDiags p (some sc) [] vs ∧
        .undefinedDefinition ∉ Standalone.varDefDiags p (some sc) [] vs) ↔
      ((vs.map (·.name)).Nodup ∧ ∀ v ∈ vs, sc.kind v.ty ≠ some .composite ∧ sc.kind v.ty ≠ none)) ∧
    (∀ doc o, Standalone.unusedVarDiags doc o = [] ↔ ∀ v ∈ o.vars, v.name ∈ Standalone.usedVars doc o) ∧
    (∀ defs as, (Standalone.uniqueArgs [] as = [] ∧ Standalone.undefinedArgs defs as = [] ∧ Standalone.requiredArgs defs as = []) ↔
      ((as.map (·.name)).Nodup ∧ (∀ a ∈ as, ∃ d ∈ defs, d.name = a.name) ∧
        ∀ d ∈ defs, d.required = true → ∃ a, as.find? (fun a => a.name == d.name) = some a ∧ a.value.isNull = false)) ∧
    (∀ (S : ValueCheck.Schema) (vars : List ExecValues.XVarDef) (ty : ValueCheck.Ty) (hd : Bool) (v : ValueCheck.Value),
      ValueCheck.Spec.Closed S → ValueCheck.Spec.Defined S ty →
        (ExecValues.argValueDiags S vars ty hd v = [] ↔ ExecValues.ExecArgOK S vars ty hd v) ∧
        (ExecValues.CoercesV S vars ExecValues.UsageRule ty hd v → ExecValues.argValueDiags S vars ty hd v = []) ∧
        (ExecValues.NoNestedVariable v →
          (ExecValues.argValueDiags S vars ty hd v = [] ↔ ExecValues.CoercesV S vars ExecValues.UsageRule ty hd v))) ∧
    (∀ (doc : Standalone.BuiltDoc) (ty : Option Nat) (t : Standalone.Sels),
      (.missingSubselection ∈ Standalone.Walk.walkOut p sc doc ty t ↔
        ∃ t0 name dirs args fd, Standalone.Walk.Reaches sc doc ty t (.field (some t0) name dirs args true) ∧
          sc.field t0 name = some fd ∧ sc.kind fd.ty = some .composite) ∧
      (.undefinedFragment ∈ Standalone.Walk.walkOut p sc doc ty t ↔
        ∃ f dirs, Standalone.Walk.Reaches sc doc ty t (.spread f dirs) ∧ doc.findFrag f = none) ∧
      (.invalidFragmentTarget ∈ Standalone.Walk.walkOut p sc doc ty t ↔
        (∃ c dirs, Standalone.Walk.Reaches sc doc ty t (.inline (some c) dirs) ∧ sc.kind c ≠ some .composite) ∨
          (∃ fr, Standalone.Walk.Reaches sc doc ty t (.fragDef fr) ∧ sc.kind fr.tc ≠ some .composite))) ∧
    (∀ (s : RSchema) (rast : RAst),
      typedDiags s rast = [] ↔
        ∀ o ∈ (ExecRules.build s rast).ops,
          (∀ d a, (Site.dirs o.dirs).HasArg s d a → argDiags s o.vars d a = []) ∧
          (∀ v ∈ o.vars, ∀ d a, (Site.dirs v.dirs).HasArg s d a → argDiags s [] d a = []) ∧
          ∀ site, Reaches s (ExecRules.build s rast) (s.root o.ty) o.sels site →
            (∀ d a, site.HasArg s d a → argDiags s o.vars d a = []) ∧ (∀ t c, site = .spread t c → spreadDiags s t c = [])) := by
  refine ⟨executable_definitions_iff _ ast, operation_definitions_iff _ ast, fragment_definitions_iff _ ast,
    fun parent sels => field_selections_iff sc sels parent, ?_, all_variables_used_iff, ?_,
    fun S vars ty hd v hS hdef => ⟨argument_value_iff_spec S hS vars ty hd v hdef,
      spec_argument_value_accepted S hS vars ty hd v hdef,
      argument_value_iff_spec_no_nested S hS vars ty hd v hdef⟩,
    fun doc ty t => ⟨missing_subselection_iff_spec_doc p sc doc ty t, fragment_spread_target_defined_iff_spec_doc p sc doc ty t,
      fragments_on_composite_types_iff_spec_doc p sc doc ty t⟩,
    walk_meets_every_argument⟩
  · intro vs
    have h1 := variable_uniqueness_iff p (some sc) vs
    have h2 := variables_are_input_types_iff p sc vs []
    constructor
    · rintro ⟨a, b, c⟩
      refine ⟨Classical.not_not.mp (fun hn => a (h1.mpr hn)), ?_⟩
      intro v hv
      constructor
      · intro hk; rcases h2.mpr ⟨v, hv, Or.inl hk⟩ with h | h
        · exact b h
        · exact c h
      · intro hk; rcases h2.mpr ⟨v, hv, Or.inr hk⟩ with h | h
        · exact b h
        · exact c h
    · rintro ⟨a, b⟩
      refine ⟨fun h => (h1.mp h) a, ?_, ?_⟩
      · intro h; obtain ⟨v, hv, hk⟩ := h2.mp (Or.inl h); rcases hk with hk | hk
        · exact (b v hv).1 hk
        · exact (b v hv).2 hk
      · intro h; obtain ⟨v, hv, hk⟩ := h2.mp (Or.inr h); rcases hk with hk | hk
        · exact (b v hv).1 hk
        · exact (b v hv).2 hk
  · intro defs as
    rw [argument_uniqueness_iff, argument_names_iff, required_arguments_iff]

end Families

end Apollo.C17
