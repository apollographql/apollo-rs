import ApolloModel.Proofs.MaxDepth
import ApolloModel.Generated.MaxDepthShape
/-
C25 — The introspection depth limit does not depend on fragments.

Model: Model/MaxDepth.lean mirrors `check_selection_set` (loop with running maximum, memo of
fragment depths, early error).  Spec: `expandedDepth` = maximum number of list-valued
introspection fields on a path after expanding named and inline fragments.
`shape_ok` ties the constants/comparisons the model hard-codes to the current source
(regenerated by the translator); the behaviour is tied by the correspondence stream `maxdepth`.
-/
namespace Apollo.C25
open Apollo.MaxDepth

/-- the model's constants are the ones in the source right now -/
theorem shape_ok :
    Gen.maxListsDepth = 3 ∧ Gen.maxDepthFieldCmp = ">=" ∧ Gen.maxDepthMemoCmp = ">=" ∧
      Gen.maxDepthMemoHitUpdatesMax = true := by decide

/-- For every acyclic document (`doc.WF`: fragments numbered so that each spreads only earlier ones) and
    every operation whose spreads all name a fragment of the document (`Bounded`): the check fails with
    "maximum introspection depth exceeded" iff some expanded path nests `MAX` or more list fields. -/
theorem depth_check_iff (MAX : Nat) (hM : 0 < MAX) (doc : Doc) (wf : doc.WF) (op : Sels)
    (hop : Bounded doc.frags.length op = true) :
    checkMaxDepth MAX doc op = .error .tooDeep ↔ MAX ≤ expandedDepth doc op := by
  have h := checkSet_spec MAX doc wf doc.frags.length op hop [] 0 (by intro j r h; simp at h) hM
  simp only [Nat.zero_add] at h
  unfold checkMaxDepth expandedDepth
  constructor
  · intro he
    by_cases hlt : relSels (fragDepth doc) op < MAX
    · obtain ⟨m, e, _⟩ := h.2 hlt
      simp [e] at he
    · omega
  · intro hge
    simp [h.1 hge]

/-- …and otherwise it succeeds (in particular the model never runs out of fuel: the recursion
    through fragments terminates on acyclic documents). -/
theorem depth_check_ok (MAX : Nat) (hM : 0 < MAX) (doc : Doc) (wf : doc.WF) (op : Sels)
    (hop : Bounded doc.frags.length op = true) :
    checkMaxDepth MAX doc op = .ok () ↔ expandedDepth doc op < MAX := by
  have h := checkSet_spec MAX doc wf doc.frags.length op hop [] 0 (by intro j r h; simp at h) hM
  simp only [Nat.zero_add] at h
  unfold checkMaxDepth expandedDepth
  constructor
  · intro he
    by_cases hlt : relSels (fragDepth doc) op < MAX
    · exact hlt
    · simp [h.1 (by omega)] at he
  · intro hlt
    obtain ⟨m, e, _⟩ := h.2 hlt
    simp [e]

/-- One step of inlining: a spread `...Fj` replaced by an inline fragment around `Fj`'s selections,
    anywhere in a selection set. -/
inductive InlineStep (doc : Doc) : Sels → Sels → Prop where
  | here (j : Nat) (body rest : Sels) : doc.frag j = some body → InlineStep doc (.spread j rest) (.inline body rest)
  | fieldSub (l : Bool) (sub sub' rest : Sels) : InlineStep doc sub sub' → InlineStep doc (.field l sub rest) (.field l sub' rest)
  | fieldRest (l : Bool) (sub rest rest' : Sels) : InlineStep doc rest rest' → InlineStep doc (.field l sub rest) (.field l sub rest')
  | inlineSub (sub sub' rest : Sels) : InlineStep doc sub sub' → InlineStep doc (.inline sub rest) (.inline sub' rest)
  | inlineRest (sub rest rest' : Sels) : InlineStep doc rest rest' → InlineStep doc (.inline sub rest) (.inline sub rest')
  | spreadRest (j : Nat) (rest rest' : Sels) : InlineStep doc rest rest' → InlineStep doc (.spread j rest) (.spread j rest')

theorem inline_step_depth (doc : Doc) (wf : doc.WF) {s s' : Sels} (h : InlineStep doc s s') :
    expandedDepth doc s = expandedDepth doc s' := by
  unfold expandedDepth
  induction h with
  | here j body rest hf => simp [relSels, fragDepth_unfold doc wf hf]
  | fieldSub l sub sub' rest _ ih => simp [relSels, ih]
  | fieldRest l sub rest rest' _ ih => simp [relSels, ih]
  | inlineSub sub sub' rest _ ih => simp [relSels, ih]
  | inlineRest sub rest rest' _ ih => simp [relSels, ih]
  | spreadRest j rest rest' _ ih => simp [relSels, ih]

/-- Writing the same selections with or without a named fragment never changes the verdict. -/
theorem inline_eq_named (MAX : Nat) (hM : 0 < MAX) (doc : Doc) (wf : doc.WF) (s s' : Sels)
    (hs : Bounded doc.frags.length s = true) (hs' : Bounded doc.frags.length s' = true)
    (h : InlineStep doc s s') :
    checkMaxDepth MAX doc s = checkMaxDepth MAX doc s' := by
  have e := inline_step_depth doc wf h
  by_cases hd : MAX ≤ expandedDepth doc s
  · rw [(depth_check_iff MAX hM doc wf s hs).mpr hd, (depth_check_iff MAX hM doc wf s' hs').mpr (e ▸ hd)]
  · rw [(depth_check_ok MAX hM doc wf s hs).mpr (by omega), (depth_check_ok MAX hM doc wf s' hs').mpr (by omega)]

theorem bounded_mono {j k : Nat} (hjk : j ≤ k) : ∀ (s : Sels), Bounded j s = true → Bounded k s = true
  | .nil, _ => by simp [Bounded]
  | .field _ sub rest, h => by
      simp only [Bounded, Bool.and_eq_true] at h ⊢
      exact ⟨bounded_mono hjk sub h.1, bounded_mono hjk rest h.2⟩
  | .inline sub rest, h => by
      simp only [Bounded, Bool.and_eq_true] at h ⊢
      exact ⟨bounded_mono hjk sub h.1, bounded_mono hjk rest h.2⟩
  | .spread i rest, h => by
      simp only [Bounded, Bool.and_eq_true, decide_eq_true_eq] at h ⊢
      exact ⟨by omega, bounded_mono hjk rest h.2⟩

/-- inlining a spread of a well-formed document keeps every remaining spread resolvable -/
theorem inline_step_bounded (doc : Doc) (wf : doc.WF) {s s' : Sels} (h : InlineStep doc s s')
    (hs : Bounded doc.frags.length s = true) : Bounded doc.frags.length s' = true := by
  induction h with
  | here j body rest hf =>
    simp only [Bounded, Bool.and_eq_true, decide_eq_true_eq] at hs ⊢
    exact ⟨bounded_mono (by omega) body (wf j body hf), hs.2⟩
  | fieldSub l sub sub' rest _ ih =>
    simp only [Bounded, Bool.and_eq_true] at hs ⊢; exact ⟨ih hs.1, hs.2⟩
  | fieldRest l sub rest rest' _ ih =>
    simp only [Bounded, Bool.and_eq_true] at hs ⊢; exact ⟨hs.1, ih hs.2⟩
  | inlineSub sub sub' rest _ ih =>
    simp only [Bounded, Bool.and_eq_true] at hs ⊢; exact ⟨ih hs.1, hs.2⟩
  | inlineRest sub rest rest' _ ih =>
    simp only [Bounded, Bool.and_eq_true] at hs ⊢; exact ⟨hs.1, ih hs.2⟩
  | spreadRest j rest rest' _ ih =>
    simp only [Bounded, Bool.and_eq_true] at hs ⊢; exact ⟨hs.1, ih hs.2⟩

/-- any number of inlining steps, anywhere in the operation -/
inductive InlineSteps (doc : Doc) : Sels → Sels → Prop where
  | refl (s : Sels) : InlineSteps doc s s
  | tail {s t u : Sels} : InlineSteps doc s t → InlineStep doc t u → InlineSteps doc s u

/-- **The verdict does not depend on fragments**: replacing any number of named-fragment spreads, at any
    positions and in any order, by their bodies (up to the fully expanded operation) never changes the
    verdict — only the source operation has to be resolvable; the intermediate forms are by
    `inline_step_bounded`. -/
theorem inline_any_number_eq_named (MAX : Nat) (hM : 0 < MAX) (doc : Doc) (wf : doc.WF) (s s' : Sels)
    (hs : Bounded doc.frags.length s = true) (h : InlineSteps doc s s') :
    Bounded doc.frags.length s' = true ∧ checkMaxDepth MAX doc s = checkMaxDepth MAX doc s' := by
  induction h with
  | refl => exact ⟨hs, rfl⟩
  | tail _ step ih =>
    have hb := inline_step_bounded doc wf step ih.1
    exact ⟨hb, ih.2.trans (inline_eq_named MAX hM doc wf _ _ ih.1 hb step)⟩

/-- The `post_fragment_depth - depth_so_far` subtraction never underflows: a successful check
    returns at least the depth it started from (panic-site lemma). -/
theorem post_ge_depth (MAX : Nat) (doc : Doc) (wf : doc.WF) (k : Nat) (s : Sels) (hb : Bounded k s = true)
    (d : Nat) (hd : d < MAX) (post : Nat) (memo' : Memo)
    (h : checkSet MAX doc k s [] d = .ok (post, memo')) : d ≤ post := by
  have hs := checkSet_spec MAX doc wf k s hb [] d (by intro j r h; simp at h) hd
  by_cases hlt : d + relSels (fragDepth doc) s < MAX
  · obtain ⟨m, e, _⟩ := hs.2 hlt
    rw [e] at h
    simp only [Except.ok.injEq, Prod.mk.injEq] at h
    omega
  · rw [hs.1 (by omega)] at h
    simp at h

-- Non-vacuity: the C25 defect witness (depth-2 fragment reused one level down) is rejected by the
-- model of the repaired code, exactly like its inlined form; and a depth-2 use is accepted.
def F : Sels := .field true (.field true (.field false .nil .nil) .nil) .nil    -- fields { fields { name } }
def witnessDoc : Doc := { frags := [F] }
example : witnessDoc.WF := by
  intro j body h
  match j, h with
  | 0, h => simp [witnessDoc, Doc.frag] at h; subst h; decide
  | j + 1, h => simp [witnessDoc, Doc.frag] at h
example : verdict 3 witnessDoc (.spread 0 (.field true (.spread 0 .nil) .nil)) = "err" := by decide
example : verdict 3 witnessDoc (.inline F (.field true (.inline F .nil) .nil)) = "err" := by decide
example : verdict 3 witnessDoc (.spread 0 (.field false (.spread 0 .nil) .nil)) = "ok" := by decide
-- the witness and its inlined form are two inlining steps apart (premise of `inline_any_number_eq_named`)
example : InlineSteps witnessDoc (.spread 0 (.field true (.spread 0 .nil) .nil))
    (.inline F (.field true (.inline F .nil) .nil)) :=
  .tail (.tail (.refl _) (.here 0 F _ rfl)) (.inlineRest _ _ _ (.fieldSub _ _ _ _ (.here 0 F .nil rfl)))

end Apollo.C25
