import ApolloModel.Proofs.SmithNames
import ApolloModel.Proofs.SmithGraph
/-
C32 — apollo-smith generates valid documents deterministically.   PARTIAL BY DESIGN:
the three mechanisms the property anchors are proved on their models for ALL inputs; that every
generated document validates end to end is explored on the implementation (harness/src/p32.rs), not
proved (it would need the whole generator and the whole validator in one theorem).

Model: Model/Smith.lean.  Determinism: every definition below is a function of the byte list and
of the data already generated; the code side rests on `Unstructured` and the absence of hash-order
dependence (C22).
-/
namespace Apollo.C32
open Apollo.SmithGen

/-! ### unique type names (`name.rs::type_name`) -/

/-- For every set of used names and every base string the `while` loop terminates (within
    `|used| + 1` candidates) and the returned name is not in the set; the set grows by that name. -/
theorem type_name_fresh (used : List Name) (base : Name) :
    ∃ n, typeNameFrom used base = some (n, n :: used) ∧ n ∉ used :=
  typeNameFrom_spec used base

/-- …and it is the FIRST free one of `base, base0, base1, …`. -/
theorem type_name_first (used : List Name) (base n : Name) (used' : List Name)
    (h : typeNameFrom used base = some (n, used')) :
    ∃ j, n = candidate base j ∧ ∀ i, i < j → candidate base i ∈ used := by
  unfold typeNameFrom at h
  cases hf : firstFree used base (used.length + 1) 0 with
  | none => rw [hf] at h; cases h
  | some m =>
    rw [hf] at h
    simp only [Option.map_some, Option.some.injEq, Prod.mk.injEq] at h
    obtain ⟨_, j, _, e, hall⟩ := firstFree_some _ _ _ hf
    exact ⟨j, by rw [← h.1]; exact e, fun i hi => hall i (Nat.zero_le _) hi⟩

/-- Any number of successive `type_name` calls, for EVERY byte source: the names handed out are
    pairwise different and different from every name that was already used. -/
theorem type_names_unique (k : Nat) (used : List Name) (bytes : List Nat) (names : List Name)
    (h : typeNames k used bytes [] = some names) : names.Nodup ∧ ∀ n ∈ names, n ∉ used := by
  obtain ⟨h1, h2⟩ := typeNames_nodup k used bytes [] names h (by simp) List.nodup_nil
  refine ⟨h1, fun n hn => ?_⟩
  rcases h2 n hn with e | e
  · simp at e
  · exact e

/-- `type_name` never fails and never loops, whatever the bytes: the retry loop of `limited_string`
    ends (each failed attempt consumes a byte; exhausted input yields "A") and so does the suffix loop. -/
theorem type_name_total (used : List Name) (bytes : List Nat) : ∃ r, typeName used bytes = some r := by
  obtain ⟨⟨base, rest⟩, hb⟩ := limitedString_total (bytes.length + 2) bytes (by omega)
  obtain ⟨n, hn, _⟩ := typeNameFrom_spec used base
  exact ⟨(n, n :: used, rest), by simp [typeName, hb, hn]⟩

/-! ### implements closure and backfill (`implements_graph.rs`, `interface.rs`, `object.rs`) -/

/-- `closure(start)` is exactly `start` plus everything reachable along `implements` edges
    (and empty for an unknown name); in particular the saturation never runs out of fuel. -/
theorem implements_closure (g : Graph) (start x : Name) :
    x ∈ g.closure start ↔ start ∈ g.nodes ∧ Reach g.succ [start] x :=
  g.mem_closure start x

/-- After `expand_transitive_*_implementations` the type declares (base + extensions) exactly what it
    declared before plus its whole closure (itself excepted); no other type is touched. -/
theorem backfill_step (g : Graph) (defs : List Def) (name : Name)
    (hex : defs.any (fun d => d.name == name) = true) :
    (∀ q, q ∈ declared (expandTransitive g defs name) name ↔ q ∈ declared defs name ∨ (q ∈ g.closure name ∧ q ≠ name)) ∧
    (∀ other, other ≠ name → declared (expandTransitive g defs name) other = declared defs other) :=
  ⟨expandTransitive_declared g defs name hex, fun other hne => expandTransitive_other g defs name other hne⟩

theorem any_name_modifyFirst (p : Def → Bool) (f : Def → Def) (hf : ∀ d, (f d).name = d.name) (n : Name) :
    ∀ defs : List Def, (modifyFirst p f defs).any (fun d => d.name == n) = defs.any (fun d => d.name == n) := by
  intro defs
  induction defs with
  | nil => rfl
  | cons d ds ih =>
    simp only [modifyFirst]
    split
    · simp [hf d]
    · simp [ih]

theorem any_name_expand (g : Graph) (defs : List Def) (name n : Name) :
    (expandTransitive g defs name).any (fun d => d.name == n) = defs.any (fun d => d.name == n) := by
  unfold expandTransitive
  simp only
  split <;> (apply any_name_modifyFirst; intro d; rfl)

/-- The whole backfill loop, in ANY processing order that contains the type: afterwards the type
    lists every interface of its closure (the validator's "transitively implemented interfaces must
    also be listed" rule), and nothing outside `declared ∪ closure` was added. -/
theorem backfill_lists_transitive (g : Graph) (order : List Name) (name : Name) :
    ∀ (defs : List Def), defs.any (fun d => d.name == name) = true →
    (∀ q, q ∈ declared (backfillAll g defs order) name → q ∈ declared defs name ∨ (q ∈ g.closure name ∧ q ≠ name)) ∧
    (name ∈ order → ∀ q, q ∈ g.closure name → q ≠ name → q ∈ declared (backfillAll g defs order) name) ∧
    (∀ q, q ∈ declared defs name → q ∈ declared (backfillAll g defs order) name) := by
  induction order with
  | nil =>
    intro defs _
    exact ⟨fun q h => Or.inl h, fun h => by simp at h, fun q h => h⟩
  | cons o rest ih =>
    intro defs hex
    have hex' : (expandTransitive g defs o).any (fun d => d.name == name) = true := by
      rw [any_name_expand]; exact hex
    obtain ⟨i1, i2, i3⟩ := ih (expandTransitive g defs o) hex'
    simp only [backfillAll, List.foldl_cons] at i1 i2 i3 ⊢
    by_cases e : o = name
    · subst e
      have hs := expandTransitive_declared g defs o hex
      refine ⟨?_, ?_, ?_⟩
      · intro q hq
        rcases i1 q hq with h | h
        · exact (hs q).mp h
        · exact Or.inr h
      · intro _ q hq hne
        exact i3 q ((hs q).mpr (Or.inr ⟨hq, hne⟩))
      · intro q hq
        exact i3 q ((hs q).mpr (Or.inl hq))
    · have hs := expandTransitive_other g defs o name (fun h => e h.symm)
      rw [hs] at i1 i3
      refine ⟨i1, ?_, i3⟩
      intro hm
      exact i2 (by
        rcases List.mem_cons.mp hm with h | h
        · exact absurd h.symm e
        · exact h)

/-! ### fragment pruning (`lib.rs::prune_unused_fragments`, `fragment.rs::reachable_fragment_names`) -/

/-- The fragments kept are exactly the defined fragments reachable from the operations (directly or
    through other fragments): nothing unused survives, nothing used is dropped. -/
theorem prune_exact (ops : List (List Name)) (frags : List Frag) (f : Frag) :
    f ∈ prune ops frags ↔ f ∈ frags ∧ Reach (fragSucc frags) ops.flatten f.name := by
  unfold prune
  simp only [List.mem_filter, List.contains_iff_mem, mem_reachable]

/-- Pruning introduces no dangling spread: with unique fragment names (which `type_name` provides),
    a spread that occurs in an operation or in a KEPT fragment and named a defined fragment before
    pruning still names a kept fragment. -/
theorem prune_no_dangling (ops : List (List Name)) (frags : List Frag)
    (huniq : (frags.map (·.name)).Nodup) (x : Name)
    (huse : x ∈ ops.flatten ∨ ∃ f ∈ prune ops frags, x ∈ f.spreads)
    (hdef : ∃ f ∈ frags, f.name = x) : ∃ f ∈ prune ops frags, f.name = x := by
  obtain ⟨fx, hfx, hname⟩ := hdef
  refine ⟨fx, (prune_exact ops frags fx).mpr ⟨hfx, ?_⟩, hname⟩
  rw [hname]
  rcases huse with h | ⟨f, hf, hx⟩
  · exact Reach.root h
  · obtain ⟨hf1, hf2⟩ := (prune_exact ops frags f).mp hf
    refine Reach.step hf2 ?_
    -- `f` is the first (the only) fragment with its name
    have hfind : frags.find? (·.name == f.name) = some f := by
      clear hf hf2 hfx
      induction frags with
      | nil => cases hf1
      | cons a as ih =>
        simp only [List.find?_cons]
        by_cases e : (a.name == f.name) = true
        · simp only [e]
          rcases List.mem_cons.mp hf1 with h | h
          · rw [h]
          · exfalso
            simp only [List.map_cons, List.nodup_cons, List.mem_map] at huniq
            exact huniq.1 ⟨f, h, by simpa using (by simpa using e : a.name = f.name).symm⟩
        · simp only [e]
          rcases List.mem_cons.mp hf1 with h | h
          · subst h; simp at e
          · simp only [List.map_cons, List.nodup_cons] at huniq
            exact ih huniq.2 h
    simp only [fragSucc, hfind]
    exact hx

/-! ### non-vacuity -/

private def s (x : String) : Name := x.toList

example : typeNameFrom [s "A", s "A0", s "B"] (s "A") = some (s "A1", [s "A1", s "A", s "A0", s "B"]) := by
  decide +kernel
example : (Graph.closure { nodes := [s "X", s "Y", s "Z"], edges := [(s "X", s "Y"), (s "Y", s "Z")] } (s "X")) = [s "X", s "Y", s "Z"] := by
  decide
example : declared (backfillAll (graphOf [⟨s "Z", false, []⟩, ⟨s "Y", false, [s "Z"]⟩, ⟨s "X", false, [s "Y"]⟩])
    [⟨s "Z", false, []⟩, ⟨s "Y", false, [s "Z"]⟩, ⟨s "X", false, [s "Y"]⟩] [s "Z", s "Y", s "X"]) (s "X") = [s "Y", s "Z"] := by decide
example : (prune [[s "A"]] [⟨s "A", [s "B"]⟩, ⟨s "B", []⟩, ⟨s "C", [s "D"]⟩, ⟨s "D", []⟩]).map (·.name) = [s "A", s "B"] := by decide
-- orphan chains are dropped entirely, cycles terminate
example : (prune [[s "A"]] [⟨s "A", [s "B"]⟩, ⟨s "B", [s "A"]⟩]).map (·.name) = [s "A", s "B"] := by decide

end Apollo.C32
