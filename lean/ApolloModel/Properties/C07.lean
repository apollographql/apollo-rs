import ApolloModel.Proofs.ParserWhole
import ApolloModel.Proofs.ParserType10
import ApolloModel.Proofs.ParserSel9
import ApolloModel.Proofs.ParserComplete29
import ApolloModel.Proofs.ParserExactS7
/-
C07 — Standalone type and field-set parsing consume the whole input.
Parser model of C01 with the repaired entry points (`expect_end_of_input`).
-/
namespace Apollo.C07
open Apollo.Parse Apollo.Rowan

/-- If `parse_type` / `parse_selection_set` (no token limit) report no error, the parser consumed
    the whole input: nothing is left over except the empty EOF token. -/
theorem standalone_whole_input (e : Entry) (he : e = .type ∨ e = .selectionSet) (rl : Nat) (src : Parse.Str)
    (root : Elem) (h : (parse e none rl src).outcome = .tree root) (herr : (parse e none rl src).errors = []) :
    (parse e none rl src).leftover = [] :=
  Parse.standalone_whole_input e he rl src root h herr

/-- `parse_type` always ends with a tree (no panic: C01 `parse_no_panic`; no fuel / progress abort:
    C01 `parse_terminates_partial`), so in particular an error-free parse has one.  (For `parse_selection_set`
    too, and with any token limit: `standalone_always_tree` below.) -/
theorem whole_input_is_one_construct_statement :
    ∀ (rl : Nat) (src : Parse.Str), (parse .type none rl src).errors = [] → ∃ root, (parse .type none rl src).outcome = .tree root :=
  fun rl src _ => Parse.parseType_tree none rl src

-- Regression witnesses for the repaired defect (kernel-evaluated on the model)
example : (parse .type none 500 ['A', ' ', ']', ']', ' ', 'x']).errors ≠ [] := by decide +kernel
example : (parse .selectionSet none 500 ['a', ' ', '}', ' ', 'b']).errors ≠ [] := by decide +kernel
example : (parse .type none 500 ['[', 'A', '!', ']', '!', ' ']).errors = [] := by decide +kernel
example : (parse .selectionSet none 500 ['{', 'a', '}']).errors = [] := by decide +kernel

/-! ### `parse_type`: the whole input is ONE type of the grammar -/

/-- **Acceptance is sound.**  `Parser::parse_type` without token limit, any recursion limit, ANY source text:
    if the parse reports no error, then the source has no lexer error and its significant tokens (whitespace,
    comments, commas removed; `srcToks` is the parser's token queue after lexing, see `type_accept_sound_lex`
    for the lexer model's output) are exactly `tTy t` for some type reference `t` of the grammar
    `Type : NamedType | [Type] | Type!` (unbounded nesting), followed by the end-of-input token.
    Proved by induction on the fuel of `ty.rs::parse` with an invariant relating the tokens consumed so far
    to the queue (Proofs/ParserType1–6); the outcome is always a tree (`Parse.parseType_tree`). -/
theorem type_accept_sound (rl : Nat) (src : Parse.Str) (herr : (parse .type none rl src).errors = []) :
    LexClean src ∧ ∃ (t : Ast.Ty) (ts : List Tok) (e : Tok),
      sig (srcToks src) = ts ++ [e] ∧ e.kind = .eof ∧ ts.map astOf = (Ast.tTy t).map some :=
  Parse.parseType_sound' rl src herr

/-- the same under the additional (unused) hypothesis that the outcome is a tree -/
theorem type_accept_sound_tree (rl : Nat) (src : Parse.Str) (root : Elem)
    (_h : (parse .type none rl src).outcome = .tree root) (herr : (parse .type none rl src).errors = []) :
    LexClean src ∧ ∃ (t : Ast.Ty) (ts : List Tok) (e : Tok),
      sig (srcToks src) = ts ++ [e] ∧ e.kind = .eof ∧ ts.map astOf = (Ast.tTy t).map some :=
  type_accept_sound rl src herr

/-- Contrapositive, which is how the known C02 defect (ty.rs drops a token that cannot start a type, e.g.
    `[!`) stays consistent with acceptance: whenever the significant tokens are NOT one type followed by the
    end of input, an error is reported — the dropped token never goes unnoticed. -/
theorem type_reject_non_type (rl : Nat) (src : Parse.Str)
    (hnot : ¬ ∃ (t : Ast.Ty) (ts : List Tok) (e : Tok),
      sig (srcToks src) = ts ++ [e] ∧ e.kind = .eof ∧ ts.map astOf = (Ast.tTy t).map some) :
    (parse .type none rl src).errors ≠ [] :=
  fun herr => hnot (Parse.parseType_sound' rl src herr).2

/-- **Acceptance is complete.**  For every type reference `t` whose list nesting is at most the recursion
    limit: any source text without lexer error whose significant tokens are `tTy t` (names: whatever Name
    tokens the lexer produced) followed by the end of input, with ignored tokens (whitespace, comments,
    commas) anywhere EXCEPT in front of the first token, is parsed without any error.
    (A leading ignored token is rejected by `parse_type`: witness below.) -/
theorem type_accept_complete (rl : Nat) (src : Parse.Str) (t : Ast.Ty) (ts : List Tok) (e : Tok)
    (hclean : LexClean src) (hsig : sig (srcToks src) = ts ++ [e]) (he : e.kind = .eof)
    (hty : ts.map astOf = (Ast.tTy t).map some) (hdepth : Parse.tyDepth t ≤ rl)
    (hhead : ∀ hd tl, srcToks src = hd :: tl → isIgnoredKind hd.kind = false) :
    (parse .type none rl src).errors = [] :=
  Parse.parseType_complete_sig rl src t ts e hclean hsig he hty hdepth hhead

/-! #### the same in terms of the lexer model (`Lex.lex none src`) -/

/-- the parser's token queue is the token list of the lexer model's output (kinds and texts), and the source
    is "lex-clean" iff that output has no error item -/
theorem queue_is_lexer_output (src : Parse.Str) :
    (srcToks src).map (fun t => (t.kind, t.data)) = lexToks src
    ∧ (LexClean src ↔ ∀ it ∈ Lex.lex none src, it.isErr = false) :=
  ⟨Parse.srcToks_lex src, Parse.lexClean_lex src⟩

/-- soundness over `Lex.lex none src`: an error-free `parse_type` means no error item and
    `lexSig src` (the non-ignored tokens of the lexer output) = the tokens of one type, then EOF -/
theorem type_accept_sound_lex (rl : Nat) (src : Parse.Str) (herr : (parse .type none rl src).errors = []) :
    (∀ it ∈ Lex.lex none src, it.isErr = false) ∧
    ∃ (t : Ast.Ty) (ks : List (Lex.Kind × Parse.Str)) (e : Lex.Kind × Parse.Str),
      lexSig src = ks ++ [e] ∧ e.1 = .eof ∧ ks.map astOfKD = (Ast.tTy t).map some :=
  Parse.parseType_sound_lex rl src herr

/-- completeness over `Lex.lex none src` -/
theorem type_accept_complete_lex (rl : Nat) (src : Parse.Str) (t : Ast.Ty)
    (ks : List (Lex.Kind × Parse.Str)) (e : Lex.Kind × Parse.Str)
    (hclean : ∀ it ∈ Lex.lex none src, it.isErr = false) (hsig : lexSig src = ks ++ [e]) (he : e.1 = .eof)
    (hty : ks.map astOfKD = (Ast.tTy t).map some) (hdepth : Parse.tyDepth t ≤ rl)
    (hhead : ∀ p, (lexToks src).head? = some p → isIgnoredKind p.1 = false) :
    (parse .type none rl src).errors = [] :=
  Parse.parseType_complete_lex rl src t ks e hclean hsig he hty hdepth hhead

-- the C02 defect inputs: a token is dropped, and an error is reported
example : (parse .type none 500 "[!".toList).dropped = true ∧ (parse .type none 500 "[!".toList).errors ≠ [] := by decide +kernel
example : (parse .type none 500 "[]".toList).errors ≠ [] := by decide +kernel
example : (parse .type none 500 "A!!".toList).errors ≠ [] := by decide +kernel
example : (parse .type none 500 " A".toList).errors ≠ [] := by decide +kernel
-- completeness witnesses: nesting at the recursion limit, ignored tokens inside and behind
example : (parse .type none 2 "[[A!]!]!".toList).errors = [] := by decide +kernel
example : (parse .type none 1 "[[A]]".toList).errors ≠ [] := by decide +kernel
example : (parse .type none 500 "[ A ,! #c\n ] , !  ".toList).errors = [] := by decide +kernel
example : (parse .type none 0 "A!".toList).errors = [] := by decide +kernel

section Selections
/-! ### `parse_selection_set` (`selection::field_set`): the whole input is ONE field set -/

/-- **Acceptance is sound** for the other standalone entry point.  `Parser::parse_selection_set` without token
    limit, any recursion limit, any source text: if the parse ends with a tree and reports no error, then the
    source has no lexer error and its significant tokens are — `IsFieldSet` — either a braced selection set
    `{ Selection+ }` or, brace-less (the FieldSet form `a b { c }`), a non-empty list of selections, in both
    cases followed by the end of input.  `Selection` is the C08 reference grammar (`Ast.tSel`): field with
    optional alias, arguments, directives and nested selection set; `... Name Directives?` with Name ≠ `on`;
    `... (on Name)? Directives? { Selection+ }`.
    The hypothesis that the parse ends with a tree is not needed: `fieldset_accept_sound` below. -/
theorem fieldset_accept_sound_tree (rl : Nat) (src : Parse.Str) (root : Elem)
    (h : (parse .selectionSet none rl src).outcome = .tree root) (herr : (parse .selectionSet none rl src).errors = []) :
    LexClean src ∧ ∃ (x : List Ast.Tok) (ts : List Tok) (e : Tok),
      sig (srcToks src) = ts ++ [e] ∧ e.kind = .eof ∧ TokIs ts x ∧ IsFieldSet x :=
  Parse.parseFieldSet_sound_tree rl src root h herr

/-- the braced form, at any place inside a document: started on `{`, an error-free run of
    `selection::selection_set` consumes exactly `{ Selection+ }` and leaves the rest of the queue untouched -/
theorem selection_set_accept_sound (n : Nat) (s s' : PState) (t : Tok) (rest : List Tok) (w : TW s) (he : EofEnd s)
    (ht : Toks s = t :: rest) (hk : t.kind = .lCurly) (h : (selectionSet n).run s = .ok () s') (hnd : ¬ Doomed s') :
    ∃ (cs : List Tok) (ss : Ast.Sels), Toks s = cs ++ Toks s' ∧ NoEof cs ∧ ss ≠ Ast.Sels.nil ∧
      TokIs (sig cs) (.p .lCurly :: Ast.tSels ss ++ [.p .rCurly]) := by
  obtain ⟨cs, x, a, b, _, d, ss, hne, rfl⟩ := (Parse.sel_all_sound n).1 s s' t rest w he ht hk h hnd
  exact ⟨cs, ss, a, b, hne, d⟩

-- witnesses (kernel-evaluated on the model)
example : (parse .selectionSet none 500 "a b { c }".toList).errors = [] := by decide +kernel
example : (parse .selectionSet none 500 "{ x: a(b: 1) @d ... on T { c } ...F }".toList).errors = [] := by decide +kernel
example : (parse .selectionSet none 500 "{ ...on }".toList).errors ≠ [] := by decide +kernel
example : (parse .selectionSet none 500 "{ }".toList).errors ≠ [] := by decide +kernel

/-- **Acceptance is sound, with no hypothesis on the outcome**: `parse_selection_set` always ends with a tree
    (no panic: C01 `parse_no_panic`; no abort: C01 `parse_selection_set_terminates`). -/
theorem fieldset_accept_sound (rl : Nat) (src : Parse.Str) (herr : (parse .selectionSet none rl src).errors = []) :
    LexClean src ∧ ∃ (x : List Ast.Tok) (ts : List Tok) (e : Tok),
      sig (srcToks src) = ts ++ [e] ∧ e.kind = .eof ∧ TokIs ts x ∧ IsFieldSet x :=
  Parse.parseFieldSet_sound rl src herr

/-- both standalone entry points always produce a tree -/
theorem standalone_always_tree (e : Entry) (he : e = .type ∨ e = .selectionSet) (tl : Option Nat) (rl : Nat) (src : Parse.Str) :
    ∃ root, (parse e tl rl src).outcome = .tree root := by
  rcases he with rfl | rfl
  · exact Parse.parseType_tree tl rl src
  · exact Parse.parseFieldSet_tree tl rl src

end Selections

section Executable
/-! ### executable definitions: per-definition lemmas for the document-level theorems (C05) -/

/-- `operation::operation_definition`, from ANY state: if the run adds no error, the tokens it consumed (the
    rest of the queue is untouched, no EOF among them) are — `IsOperation` — the tokens of a full operation
    definition `tDefinition false (.operation ty name vars dirs sels)` (keyword, optional name, optional
    `( $v : Type DefaultValue? Directives? … )`, directives, selection set) or of the shorthand `{ Selection+ }`;
    the selection set is non-empty. -/
theorem operation_definition_accept_sound (n : Nat) (s s' : PState) (w : TW s) (he : EofEnd s)
    (h : (operationDefinition n).run s = .ok () s') (hnd : ¬ Doomed s') :
    ∃ (cs : List Tok) (x : List Ast.Tok), Toks s = cs ++ Toks s' ∧ NoEof cs ∧ EofEnd s' ∧
      (sig cs).map astOfV = x.map some ∧ IsOperation x :=
  (Parse.acc_operationDefinition n).sound s s' () w he trivial h hnd

/-- `fragment::fragment_definition`, from a state whose queue starts with the Name token `fragment`: if the run
    adds no error, the consumed tokens are `tDefinition false (.fragment name tc dirs sels)` with `name ≠ on` and
    a non-empty selection set. -/
theorem fragment_definition_accept_sound (n : Nat) (s s' : PState) (w : TW s) (he : EofEnd s)
    (hkw : AtFragmentKw (Toks s)) (h : (fragmentDefinition n).run s = .ok () s') (hnd : ¬ Doomed s') :
    ∃ (cs : List Tok) (x : List Ast.Tok), Toks s = cs ++ Toks s' ∧ NoEof cs ∧ EofEnd s' ∧
      (sig cs).map astOfV = x.map some ∧ IsFragment x :=
  (Parse.acc_fragmentDefinition n).sound s s' () w he hkw h hnd

/-- `variable::variable_definitions` started on `(`: a non-empty list `( $name : Type DefaultValue? Directives? … )` -/
theorem variable_definitions_accept_sound (n : Nat) (s s' : PState) (w : TW s) (he : EofEnd s)
    (hk : KindP (· == Lex.Kind.lParen) (Toks s)) (h : (variableDefinitions n).run s = .ok () s') (hnd : ¬ Doomed s') :
    ∃ (cs : List Tok) (x : List Ast.Tok), Toks s = cs ++ Toks s' ∧ NoEof cs ∧ EofEnd s' ∧
      (sig cs).map astOfV = x.map some ∧ ∃ vs : List Ast.VarDef, vs ≠ [] ∧ x = Ast.tVarDefs vs :=
  (Parse.acc_variableDefinitions n).sound s s' () w he hk h hnd

/-! ### completeness of the `selectionSet` entry point -/

/-- **Acceptance is complete** for `Parser::parse_selection_set` (no token limit).  Take any non-empty selection
    list `ss` of the C08 reference grammar (fields with optional alias / arguments / directives / nested selection
    set, fragment spreads with a name other than `on`, inline fragments with a non-empty selection set) that FITS
    the recursion limit: `1 ≤ rl` and `fitSels ss (rl − 1)` — every `{ … }` level costs one, the top level
    (braced or not) costs one, list/object nesting inside argument values costs its depth.  If the source has no
    lexer error and its significant tokens are `{ ss }` or, brace-less, `ss`, followed by EOF — with ARBITRARY
    ignored tokens (whitespace, commas, comments) between and after the tokens — then the parse reports NO error.
    Guard: in the braced form the source must START with the `{` (`field_set` tests the raw current token, an
    ignored token in front makes it take the brace-less branch and reject); the brace-less form may be preceded by
    ignored tokens.  With `fieldset_accept_sound` this brackets the accepted language (`fieldset_accept_sandwich`);
    the exact language is `fieldset_accept_iff`. -/
theorem fieldset_accept_complete (rl : Nat) (src : Parse.Str) (ss : Ast.Sels) (ts : List Tok) (e : Tok)
    (hclean : LexClean src) (hsig : sig (srcToks src) = ts ++ [e]) (he : e.kind = .eof)
    (hne : ss ≠ Ast.Sels.nil) (hb : 1 ≤ rl) (hfit : fitSels ss (rl - 1))
    (hx : (TokIs ts (.p .lCurly :: Ast.tSels ss ++ [.p .rCurly]) ∧
            (∀ hd tl, srcToks src = hd :: tl → isIgnoredKind hd.kind = false)) ∨ TokIs ts (Ast.tSels ss)) :
    (parse .selectionSet none rl src).errors = [] :=
  Parse.parseFieldSet_complete_full rl src ss ts e hclean hsig he hne hb hfit hx

/-- every sentence accepted by the completeness theorem is an `IsFieldSet` sentence of the soundness theorem -/
theorem fieldset_complete_language_is_sound_language (ss : Ast.Sels) (hne : ss ≠ Ast.Sels.nil) :
    IsFieldSet (.p .lCurly :: Ast.tSels ss ++ [.p .rCurly]) ∧ IsFieldSet (Ast.tSels ss) :=
  ⟨⟨ss, hne, Or.inl rfl⟩, ⟨ss, hne, Or.inr rfl⟩⟩

-- the guards of that theorem are necessary (kernel-evaluated on the model):
-- (1) a leading ignored token before the brace is REJECTED (`field_set` peeks `{` on the raw current token),
--     before a brace-less field set it is accepted
example : (parse .selectionSet none 500 " a".toList).errors = [] := by decide +kernel
example : (parse .selectionSet none 500 "{a}".toList).errors = [] := by decide +kernel
example : (parse .selectionSet none 500 " {a}".toList).errors ≠ [] := by decide +kernel
-- (2) the budget: each brace level costs one, a brace-less field costs one, list nesting in arguments adds
example : (parse .selectionSet none 0 "a".toList).errors ≠ [] := by decide +kernel
example : (parse .selectionSet none 1 "{a}".toList).errors = [] := by decide +kernel
example : (parse .selectionSet none 1 "{a{b}}".toList).errors ≠ [] := by decide +kernel
example : (parse .selectionSet none 2 "{a{b}}".toList).errors = [] := by decide +kernel
example : (parse .selectionSet none 1 "a(x:[1])".toList).errors ≠ [] := by decide +kernel
-- (3) no mismatch with the C08 grammar found on the lookahead decisions: the alias colon may be separated by
-- ignored tokens, `...on T` and `... on T` are both inline fragments, names `true`/`false` are fine as
-- field, argument and directive names and as values
example : (parse .selectionSet none 500 "{ a , : b }".toList).errors = [] := by decide +kernel
example : (parse .selectionSet none 500 "{ ...on T { c } ... on T { c } ... @d { c } ... { c } }".toList).errors = [] := by decide +kernel
example : (parse .selectionSet none 500 "{ true(x: true) @false }".toList).errors = [] := by decide +kernel

/-! ### the accepted language of `parse_selection_set`, bracketed -/

/-- **Both inclusions** for the field-set entry point, for a source without lexer error (no token limit):
    `{ {ss} at the start | ss | fitSels }` ⊆ accepted ⊆ `IsFieldSet`.  The right inclusion (soundness) is strict:
    `IsFieldSet` says nothing about spread names, empty inline fragments, the values or the budget — `{ ...on }` and,
    with recursion limit 1, `{a{b}}` are `IsFieldSet` sentences that are rejected (witnesses above).  The exact
    language is `fieldset_accept_iff` below. -/
theorem fieldset_accept_sandwich (rl : Nat) (src : Parse.Str) (ts : List Tok) (e : Tok)
    (hclean : LexClean src) (hsig : sig (srcToks src) = ts ++ [e]) (he : e.kind = .eof) :
    ((∃ ss : Ast.Sels, ss ≠ Ast.Sels.nil ∧ 1 ≤ rl ∧ fitSels ss (rl - 1) ∧
        ((TokIs ts (.p .lCurly :: Ast.tSels ss ++ [.p .rCurly]) ∧
            (∀ hd tl, srcToks src = hd :: tl → isIgnoredKind hd.kind = false)) ∨ TokIs ts (Ast.tSels ss))) →
      (parse .selectionSet none rl src).errors = []) ∧
    ((parse .selectionSet none rl src).errors = [] → ∃ x, TokIs ts x ∧ IsFieldSet x) := by
  constructor
  · rintro ⟨ss, hne, hb, hfit, hx⟩
    exact fieldset_accept_complete rl src ss ts e hclean hsig he hne hb hfit hx
  · intro herr
    obtain ⟨_, x, ts', e', h1, _, h3, h4⟩ := fieldset_accept_sound rl src herr
    have : ts' = ts := by
      have h := hsig.symm.trans h1
      have hl := congrArg List.length h
      simp at hl
      exact ((List.append_inj h hl).1).symm
    subst this
    exact ⟨x, h3, h4⟩

/-- **`type_accept_sandwich`**: for the `type` entry point the two theorems differ only by the guards of completeness
    (list nesting ≤ recursion limit, no ignored token in front): accepted ⇒ one type; one type within the guards ⇒ accepted -/
theorem type_accept_sandwich (rl : Nat) (src : Parse.Str) (hclean : LexClean src) :
    ((∃ (t : Ast.Ty) (ts : List Tok) (e : Tok), sig (srcToks src) = ts ++ [e] ∧ e.kind = .eof ∧
        ts.map astOf = (Ast.tTy t).map some ∧ Parse.tyDepth t ≤ rl ∧
        (∀ hd tl, srcToks src = hd :: tl → isIgnoredKind hd.kind = false)) → (parse .type none rl src).errors = []) ∧
    ((parse .type none rl src).errors = [] → ∃ (t : Ast.Ty) (ts : List Tok) (e : Tok),
        sig (srcToks src) = ts ++ [e] ∧ e.kind = .eof ∧ ts.map astOf = (Ast.tTy t).map some) := by
  constructor
  · rintro ⟨t, ts, e, h1, h2, h3, h4, h5⟩
    exact type_accept_complete rl src t ts e hclean h1 h2 h3 h4 h5
  · intro herr
    exact (type_accept_sound rl src herr).2

/-- **`type_accept_iff`**: the exact accepted language of `Parser::parse_type` (no token limit, recursion limit `rl`).
    Zero errors ⇔ the source has no lexer error, its significant tokens are the tokens `tTy t` of ONE type reference
    followed by EOF, the list nesting of `t` is at most `rl`, and the input does not start with an ignored token.
    (⇒) soundness gives the type; the nesting bound comes from C04 (`rec_limit_iff_depth`: no limit error ⇒
    `typeDepth src ≤ rl`, and `typeDepth` of these tokens is `tyDepth t`); the head condition because `ty.rs` peeks
    before it skips ignored tokens (`Parse.tyParse_ignored_head`).  (⇐) is `type_accept_complete`. -/
theorem type_accept_iff (rl : Nat) (src : Parse.Str) :
    (parse .type none rl src).errors = [] ↔
      (LexClean src ∧ ∃ (t : Ast.Ty) (ts : List Tok) (e : Tok), sig (srcToks src) = ts ++ [e] ∧ e.kind = .eof ∧
        ts.map astOf = (Ast.tTy t).map some ∧ Parse.tyDepth t ≤ rl ∧
        (∀ hd tl, srcToks src = hd :: tl → isIgnoredKind hd.kind = false)) :=
  Parse.parseType_iff rl src

/-- **`fieldset_accept_iff`**: the exact accepted language of `Parser::parse_selection_set` (no token limit, recursion
    limit `rl`).  Zero errors ⇔ the source has no lexer error and its significant tokens are, followed by EOF, a braced
    selection set `{ ss }` that STARTS the input (no ignored token in front of the `{`), or a brace-less selection list
    `ss` — for a non-empty `ss` of the C08 grammar within the EXACT recursion budget: `1 ≤ rl` and
    `Parse.Exact.fitSels ss (rl − 1)` (each `{ … }` level costs one; each ITEM of a list value and each object-field
    value inside arguments costs one — `Parse.Exact.vdepth`, not the over-charging `Parse.vdepth` of
    `fieldset_accept_complete`; argument values well formed; a spread name is not `on`; inline fragments non-empty).
    (⇒) is soundness with the budget threaded through `withRec` (Proofs/ParserValue4–9 for the value grammar,
    Proofs/ParserSel3–6 for selections); (⇐) is completeness with the exact depth (Proofs/ParserExactC5–16). -/
theorem fieldset_accept_iff (rl : Nat) (src : Parse.Str) :
    (parse .selectionSet none rl src).errors = [] ↔
      (LexClean src ∧ ∃ (ss : Ast.Sels) (ts : List Tok) (e : Tok), sig (srcToks src) = ts ++ [e] ∧ e.kind = .eof ∧
        ss ≠ Ast.Sels.nil ∧ 1 ≤ rl ∧ Parse.Exact.fitSels ss (rl - 1) ∧
        ((TokIs ts (.p .lCurly :: Ast.tSels ss ++ [.p .rCurly]) ∧
            (∀ hd tl, srcToks src = hd :: tl → isIgnoredKind hd.kind = false)) ∨ TokIs ts (Ast.tSels ss))) :=
  Parse.Exact.parseFieldSet_iff rl src

-- the exact budget (kernel-evaluated): an EMPTY list argument costs nothing beyond the field's level (the charged depth
-- `Parse.vdepth [] = 1` would demand limit 2), a one-item list costs one
example : (parse .selectionSet none 1 "a(x: [])".toList).errors = [] := by decide +kernel
example : (parse .selectionSet none 1 "a(x: {})".toList).errors = [] := by decide +kernel
example : (parse .selectionSet none 1 "a(x: [1])".toList).errors ≠ [] := by decide +kernel
example : (parse .selectionSet none 2 "a(x: [1 []])".toList).errors = [] := by decide +kernel
example : (parse .selectionSet none 2 "a(x: [[1]])".toList).errors ≠ [] := by decide +kernel

end Executable

end Apollo.C07
