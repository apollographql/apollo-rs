import ApolloModel.Proofs.ParserTree44
import ApolloModel.Proofs.ParserComplete30
import ApolloModel.Proofs.ParserTreeDef13
import ApolloModel.Proofs.ParserTreeInj2
import ApolloModel.Proofs.AstDocument3
import ApolloModel.Proofs.AstText7
import ApolloModel.Proofs.AstText8
import ApolloModel.Proofs.AstText12
import ApolloModel.Proofs.AstParseWf
import ApolloModel.Proofs.FromCst
/-
C08 — AST serialization round-trips.

Model: `Model/Ast.lean` (the serializer as a command stream interpreted by `State`), reference
parser `Model/AstParse.lean`.  The theorems of the first part are stated on the *token stream* of the
serializer's output, `toksOf (c… x)`: it is read off the command list and therefore does not depend on the
indentation configuration at all (`tokens_config_independent`), and the reference parser reads it
back to exactly the AST that was printed, for values, types, directives and selection sets of
unbounded size and nesting.  The later parts go from tokens to text (the lexer model reads the printed text
back to those tokens) and from the reference parser to the pipeline model, CST parser followed by
`from_cst.rs` (`Model/FromCst.lean`); the property itself is `parsed_document_roundtrip_unconditional`.
-/
namespace Apollo.C08
open Apollo.Ast

/-- The configuration (indent prefix, initial level, single-line regions) only enters through `interp`;
    the tokens written are a function of the AST and of `output_empty` alone. -/
theorem tokens_config_independent (pre₁ pre₂ : Option Str) (l₁ l₂ : Nat) (doc : Document)
    (h : outputEmptyAtStart pre₁ l₁ = outputEmptyAtStart pre₂ l₂) :
    toksOf (cDocument (outputEmptyAtStart pre₁ l₁) doc) = toksOf (cDocument (outputEmptyAtStart pre₂ l₂) doc) := by
  rw [h]

/-- every value reads back, whatever follows it -/
theorem value_print_parse (v : Value) (rest : List Tok) (h : wfValue v = true) :
    pValue (szValue v) (toksOf (cValue v) ++ rest) = some (v, rest) := by
  rw [toksOf_cValue]; exact value_roundtrip v _ rest h (Nat.le_refl _)

/-- every type reference reads back unless a `!` follows it (the serializer never writes one there) -/
theorem type_print_parse (t : Ty) (rest : List Tok) (h : rest.head? ≠ some (.p .bang)) :
    pTy (szTy t) (toksOf (cTy t) ++ rest) = some (t, rest) := by
  rw [toksOf_cTy]; exact ty_roundtrip t _ rest (Nat.le_refl _) h

/-- every directive list (with its arguments) reads back unless `@` or `(` follows it -/
theorem directives_print_parse (ds : List Directive) (rest : List Tok) (h : wfDirs ds = true) (hr : dirFollow rest) :
    pDirectives (szDirs ds) (toksOf (cDirectives ds) ++ rest) = some (ds, rest) := by
  rw [toksOf_cDirectives]; exact directives_roundtrip ds _ rest h (Nat.le_refl _) hr

/-- every selection (fields with aliases, arguments, directives and sub-selections of any depth, fragment
    spreads, inline fragments with and without a type condition) reads back inside a selection set -/
theorem selection_print_parse (s : Sel) (rest : List Tok) (h : wfSel s = true) (hr : selFollow rest = true) :
    pSel (szSel s) (toksOf (cSel s) ++ rest) = some (s, rest) := by
  rw [toksOf_cSel]; exact sel_roundtrip s _ rest h (Nat.le_refl _) hr

/-- every non-empty selection set reads back: `{ … }` -/
theorem selection_set_print_parse (ss : Sels) (rest : List Tok) (hne : ss ≠ .nil) (h : wfSels ss = true) :
    pSelectionSet (szSels ss) (toksOf (curly (cSels ss)) ++ rest) = some (ss, rest) := by
  rw [toksOf_curly, toksAll_cSels]
  simpa [pSelectionSet] using selsNE_roundtrip ss _ rest hne h (Nat.le_refl _)

/-- **Main theorem of the token level.** For every configuration (indent prefix or none, initial level) and every well-formed
    non-empty document — all 17 definition kinds, descriptions, directives, variables with defaults, values and
    selection sets of any size and nesting — the reference parser reads the token stream of the serializer's output
    back to exactly the document that was printed.  The shorthand query form is only ever written for the first
    definition (`output_empty`), which is what makes the follow-token argument of the proof go through. -/
theorem document_print_parse (pre : Option Str) (level : Nat) (doc : Document) (hne : doc ≠ [])
    (h : wfDefinitions doc = true) :
    pDocument (szDefinitions doc) (toksOf (cDocument (outputEmptyAtStart pre level) doc)) = some doc := by
  rw [toksOf_cDocument]
  exact document_roundtrip _ doc _ hne h (Nat.le_refl _)

/-- every definition on its own, for either value of `output_empty` (`Display for Definition` prints it with
    `output_empty = true`), when the end of input, a description or a definition keyword follows (`defFollow`) -/
theorem definition_print_parse (oe : Bool) (d : Definition) (rest : List Tok) (h : wfDefinition d = true)
    (hr : defFollow rest = true) :
    pDefinition (szDefinition d) (toksOf (cDefinition oe d) ++ rest) = some (d, rest) := by
  rw [toksOf_cDefinition]
  exact first_definition_roundtrip oe d _ rest h (Nat.le_refl _) hr

/-- serializing the re-parsed AST gives byte-identical text, for every configuration -/
theorem reprint_identical (pre : Option Str) (level : Nat) (doc doc' : Document) (hne : doc ≠ [])
    (h : wfDefinitions doc = true)
    (hp : pDocument (szDefinitions doc) (toksOf (cDocument (outputEmptyAtStart pre level) doc)) = some doc') :
    (serializeDocument pre level doc').out = (serializeDocument pre level doc).out := by
  rw [document_print_parse pre level doc hne h] at hp
  cases hp; rfl

/-- One witness for the restriction of the shorthand form to the first definition: the tokens of `type T` followed
    by the shorthand query `{ a }` are not read back as these two definitions — `{ a }` stands where the fields of
    `T` go, and the reference parser returns `none` (kernel-evaluated on the token streams). -/
theorem shorthand_elsewhere_breaks :
    pDocument 40 (tDefinition false (.objectDef none "T".toList [] [] [])
        ++ tDefinition true (.operation .query none [] [] (.cons (.field none "a".toList [] [] .nil) .nil)))
      = none := by decide +kernel

/-- the hypotheses are satisfiable by a non-trivial selection: `a: b(x: [1, {y: E}]) @d { ... on T { c } ...F }` -/
example : wfSel (.field (some "a".toList) "b".toList
    [("x".toList, .list (.cons (.int "1".toList) (.cons (.obj (.cons "y".toList (.enum "E".toList) .nil)) .nil)))]
    [{ name := "d".toList, args := [] }]
    (.cons (.inline (some "T".toList) [] (.cons (.field none "c".toList [] [] .nil) .nil))
      (.cons (.spread "F".toList []) .nil))) = true := by decide

/-! ## From tokens to text (Proofs/AstText*.lean)

The theorems above speak about `toksOf`, the tokens the serializer writes.  The ones below say what the
written TEXT is and that the lexer model reads it back to those tokens. -/

/-- **No glue.** In the command list of every document (for either value of `output_empty`) no token is written
    directly after a token it would merge with — name or number after name or number, string after string,
    `...` after a number: between them there is a write that happens in EVERY configuration (`" "`, `","`,
    `new_line_or_space`, `indent_or_space`, `dedent_or_space`; `indent`, `dedent` and the newline-only writes
    do not count).  Dropping the space in `query Q` would make this false (first example below). -/
theorem no_glue (oe : Bool) (doc : Document) : separated (cDocument oe doc) := separated_document oe doc

/-- `separated` does reject glue: `queryQ`, `1 2` without the comma or space, `""` directly before `"x"`, `1...`;
    and accepts `...on T` (which lexes as `...`, `on`, `T`). -/
example : ¬ separated [kw "query", nm "Q".toList] := by unfold separated; decide
example : ¬ separated [.tok (.int "1".toList), .indent, .tok (.int "2".toList)] := by unfold separated; decide
example : ¬ separated [.str false [], .rawIfNewlines ['\n'], .str false "x".toList] := by unfold separated; decide
example : ¬ separated [.tok (.int "1".toList), pn .spread] := by unfold separated; decide
example : separated [pn .spread, kw "on", sp, nm "T".toList] := by unfold separated; decide

/-- the same for the pieces printed on their own -/
theorem no_glue_pieces (oe : Bool) (d : Definition) (sels : Sels) (v : Value) (t : Ty) :
    separated (cDefinition oe d) ∧ separated (curly (cSels sels)) ∧ separated (cValue v) ∧ separated (cTy t) :=
  ⟨separated_definition oe d, separated_selection_set sels, separated_value v, separated_type t⟩

/-- **Segmentation of the printed text**, for every configuration and document.  The output is the initial
    indentation followed by the texts of the segments `docSegs` (token texts: `tokText` / the string serializer;
    ignored texts: spaces, commas, newlines, indentation); the tokens of the segments are `toksOf`; two tokens
    that would merge are always separated by a NON-EMPTY ignored segment (`segScan` succeeds); and, when the
    indentation prefix consists of ignored characters (spaces, tabs, commas, newlines, BOM), so does every
    ignored segment. -/
theorem text_segmentation (pre : Option Str) (level : Nat) (doc : Document) :
    (serializeDocument pre level doc).out = initialIndent pre level ++ segsText (docSegs pre level doc) ∧
    segsToks (docSegs pre level doc) = toksOf (cDocument (outputEmptyAtStart pre level) doc) ∧
    (∃ e, segScan none (docSegs pre level doc) = some e) ∧
    ((∀ p, pre = some p → strIgnored p = true) →
      strIgnored (initialIndent pre level) = true ∧
      ∀ s, Seg.ign s ∈ docSegs pre level doc → strIgnored s = true) := by
  refine ⟨interp_out _ _, render_toks _ _, ?_, ?_⟩
  · have hsep := separated_document (outputEmptyAtStart pre level) doc
    unfold separated at hsep
    cases h : scan none (cDocument (outputEmptyAtStart pre level) doc) with
    | none => simp [h] at hsep
    | some e =>
      obtain ⟨e', h', _⟩ := render_separated _ (initSt pre level) none none e (.inl rfl) h
      exact ⟨e', h'⟩
  · intro hpre
    exact ⟨initialIndent_ignored pre level hpre,
      render_ignored _ _ none (prefixIgnored_init pre level hpre) (separated_document _ doc)⟩

/-- names and punctuators, on their own, lex back to their token (maximal munch for names) -/
theorem name_and_punctuator_lex_back (n : Str) (k : P) (h : wfName n = true) :
    TokOk (.name n) n ∧ TokOk (.p k) (tokText (.p k)) := ⟨tokOk_name n h, tokOk_punct k⟩

/-- **The text lexes back to the tokens.**  For every configuration whose indentation prefix is ignored text
    and every document whose names are GraphQL names: the lexer model (Model/Lexer.lean), run on the printed
    text, yields exactly `toksOf` — names, punctuators and all ignored text are proved; that each number and
    each string literal, taken alone, lexes back to its token is the hypothesis `NumbersLex` / `StringsLex`
    (vacuous for documents without numbers and strings). -/
theorem text_lexes_back (pre : Option Str) (level : Nat) (doc : Document)
    (hpre : ∀ p, pre = some p → strIgnored p = true)
    (hn : NamesWf (docSegs pre level doc)) (hnum : NumbersLex (docSegs pre level doc))
    (hstr : StringsLex (docSegs pre level doc)) :
    sigToks (Apollo.Lex.lex none (serializeDocument pre level doc).out)
      = some (toksOf (cDocument (outputEmptyAtStart pre level) doc)) := by
  obtain ⟨hout, htoks, ⟨e, hscan⟩, _⟩ := text_segmentation pre level doc
  rw [hout, ← htoks]
  exact lex_segments _ _ none e (segsWf_doc pre level doc hpre hn hnum hstr)
    (initialIndent_ignored pre level hpre) hscan

/-- **Text round trip** (lexer + reference parser): printing, lexing and parsing give the document back. -/
theorem document_text_roundtrip (pre : Option Str) (level : Nat) (doc : Document) (hne : doc ≠ [])
    (hwf : wfDefinitions doc = true) (hpre : ∀ p, pre = some p → strIgnored p = true)
    (hn : NamesWf (docSegs pre level doc)) (hnum : NumbersLex (docSegs pre level doc))
    (hstr : StringsLex (docSegs pre level doc)) :
    (sigToks (Apollo.Lex.lex none (serializeDocument pre level doc).out)).bind (pDocument (szDefinitions doc))
      = some doc := by
  rw [text_lexes_back pre level doc hpre hn hnum hstr]
  exact document_print_parse pre level doc hne hwf

/-- integer literals (`-?(0|[1-9][0-9]*)`), on their own, lex back to their token when followed by anything
    that is neither a name character nor `.` -/
theorem integer_lex_back (s : Str) (h : wfIntLit s = true) : TokOk (.int s) s := tokOk_int s h

/-- `text_lexes_back` with the integer case discharged: what remains assumed is that float literals and
    string literals, taken alone, lex back to their tokens. -/
theorem text_lexes_back_ints (pre : Option Str) (level : Nat) (doc : Document)
    (hpre : ∀ p, pre = some p → strIgnored p = true)
    (hn : NamesWf (docSegs pre level doc)) (hint : IntsWf (docSegs pre level doc))
    (hfl : FloatsLex (docSegs pre level doc)) (hstr : StringsLex (docSegs pre level doc)) :
    sigToks (Apollo.Lex.lex none (serializeDocument pre level doc).out)
      = some (toksOf (cDocument (outputEmptyAtStart pre level) doc)) :=
  text_lexes_back pre level doc hpre hn (numbersLex_doc pre level doc hint hfl) hstr

/-! ### all token kinds (numbers via C03's completeness theorems, strings via C09's round trip + the block DFA) -/

/-- IntValue and FloatValue texts (the grammar's, `Spec/Lexical.lean`), on their own, lex back to their token -/
theorem number_lex_back (t : Str) :
    (Apollo.Spec.Lexical.IsIntValue t → TokOk (.int t) t) ∧ (Apollo.Spec.Lexical.IsFloatValue t → TokOk (.float t) t) :=
  ⟨tokOk_int_spec t, tokOk_float_spec t⟩

/-- Every string literal the serializer writes — quoted form, single-line and multi-line block form, value or
    description, any white-space indentation prefix, any level — is read by the lexer model as ONE StringValue
    token that is exactly the printed text, whatever follows it (other than a quote), and that token decodes to
    the string.  (Block form: `escapeTriple` never lets the block-string states close, `brun_escapeTriple`.) -/
theorem string_lex_back (p : Option Str) (n : Nat) (isDescription : Bool) (s : Str)
    (hp : ∀ pre, p = some pre → pre.all Apollo.Strs.isWs = true) :
    TokOk (.str s) (Apollo.Strs.serializeStringValue p n isDescription s) := tokOk_string p n isDescription s hp

/-- **The text lexes back to the tokens, without `NumbersLex` / `StringsLex`.**  For every white-space
    indentation prefix (or none), every level and every document whose names, IntValues and FloatValues have
    the grammar's syntax, the lexer model reads the printed text as exactly `toksOf`. -/
theorem text_lexes_back_full (pre : Option Str) (level : Nat) (doc : Document)
    (hpre : ∀ p, pre = some p → p.all Apollo.Strs.isWs = true)
    (hn : NamesWf (docSegs pre level doc)) (hi : IntsSpec (docSegs pre level doc))
    (hf : FloatsSpec (docSegs pre level doc)) :
    sigToks (Apollo.Lex.lex none (serializeDocument pre level doc).out)
      = some (toksOf (cDocument (outputEmptyAtStart pre level) doc)) := by
  obtain ⟨hout, htoks, ⟨e, hscan⟩, _⟩ := text_segmentation pre level doc
  have hign : ∀ p, pre = some p → strIgnored p = true := fun p hp => ws_ignored p (hpre p hp)
  rw [hout, ← htoks]
  exact lex_segments _ _ none e (segsWf_doc_full pre level doc hpre hn hi hf)
    (initialIndent_ignored pre level hign) hscan

/-- **parse_wf**: whatever the reference parser returns is non-empty and satisfies `wfDefinitions`. -/
theorem parse_wf (f : Nat) (ts : List Tok) (d : Document) (h : pDocument f ts = some d) :
    d ≠ [] ∧ wfDefinitions d = true := Apollo.Ast.parse_wf f ts d h

/-- **End to end, for documents that come from a parse.**  If the reference parser read `d` from some token
    stream, then for every white-space indentation setting: printing `d`, lexing the text with the lexer model
    and parsing the tokens gives `d` back.  Hypotheses: the names, IntValues and FloatValues in `d` have the
    grammar's syntax (`ts` is any token list here; for the tokens of an accepted source this is derived from the
    lexer model, see `reprint_items` and the `parsed_document_roundtrip*` theorems). -/
theorem reparse_roundtrip (f : Nat) (ts : List Tok) (d : Document) (hparse : pDocument f ts = some d)
    (pre : Option Str) (level : Nat) (hpre : ∀ p, pre = some p → p.all Apollo.Strs.isWs = true)
    (hn : NamesWf (docSegs pre level d)) (hi : IntsSpec (docSegs pre level d)) (hf : FloatsSpec (docSegs pre level d)) :
    (sigToks (Apollo.Lex.lex none (serializeDocument pre level d).out)).bind (pDocument (szDefinitions d)) = some d := by
  obtain ⟨hne, hwf⟩ := Apollo.Ast.parse_wf f ts d hparse
  rw [text_lexes_back_full pre level d hpre hn hi hf]
  exact document_print_parse pre level d hne hwf

/-- the hypotheses of `text_lexes_back` are satisfiable: `query Q { a { ...F } b: c }  fragment F on T { a }`
    printed with two-space indentation at level 1 and on a single line -/
def exampleDoc : Document :=
  [.operation .query (some "Q".toList) [] []
     (.cons (.field none "a".toList [] [] (.cons (.spread "F".toList []) .nil))
       (.cons (.field (some "b".toList) "c".toList [] [] .nil) .nil)),
   .fragment "F".toList "T".toList [] (.cons (.field none "a".toList [] [] .nil) .nil)]

example : sigToks (Apollo.Lex.lex none (serializeDocument (some "  ".toList) 1 exampleDoc).out)
    = some (toksOf (cDocument (outputEmptyAtStart (some "  ".toList) 1) exampleDoc)) := by
  have h := plain_hyps (docSegs (some "  ".toList) 1 exampleDoc) (by decide)
  exact text_lexes_back _ _ _ (by intro p hp; cases hp; decide) h.1 h.2.1 h.2.2

example : sigToks (Apollo.Lex.lex none (serializeDocument none 0 exampleDoc).out)
    = some (toksOf (cDocument (outputEmptyAtStart none 0) exampleDoc)) := by
  have h := plain_hyps (docSegs none 0 exampleDoc) (by decide)
  exact text_lexes_back _ _ _ (by intro p hp; cases hp) h.1 h.2.1 h.2.2

/-- `text_lexes_back_full` on a document with a multi-line block description, a one-line block description, a
    quoted string with escapes and an empty string, printed with a two-space prefix at level 1:
    `"""a\n b""" type T { "d" f(x: String = "q\"\\", y: String = ""): T }` -/
def exampleDoc2 : Document :=
  [.objectDef (some "a\n b".toList) "T".toList [] []
     [{ desc := some "d".toList, name := "f".toList,
        args := [{ desc := none, name := "x".toList, ty := .named "String".toList, default := some (.str "q\"\\".toList), dirs := [] },
                 { desc := none, name := "y".toList, ty := .named "String".toList, default := some (.str []), dirs := [] }],
        ty := .named "T".toList, dirs := [] }]]

example : sigToks (Apollo.Lex.lex none (serializeDocument (some "  ".toList) 1 exampleDoc2).out)
    = some (toksOf (cDocument (outputEmptyAtStart (some "  ".toList) 1) exampleDoc2)) := by
  have h := noNumbers_hyps (docSegs (some "  ".toList) 1 exampleDoc2) (by decide)
  exact text_lexes_back_full _ _ _ (by intro p hp; cases hp; decide) h.1 h.2.1 h.2.2

/-! ### the CST → AST conversion has a model (Model/FromCst.lean), tied by the stream `c08.fromcst`

The reference parser `pDocument` (tokens → AST) and the pipeline CST parser model → `FromCst.fromCst` are two
independent models of `ast::Document::parse`.  Both are tied to the real parser + from_cst.rs on every
generated document (`c08.ast` for the former on error-free documents; `c08.fromcst` for the latter on valid AND
erroneous inputs, with every Name's location).  That they agree with each other is kernel-evaluated below on
two documents covering the definition kinds.  The general statement
`∀ src, errors = [] → fromCst (parse src) = pDocument (tokens src)` (`from_cst_agrees_with_reference_parser`) is
false as it stands (`from_cst_agrees_with_reference_parser_refuted`, on the C05 finding `schema { query: }`); what
holds of every accepted source is `document_pipeline_agrees`. -/
def from_cst_agrees_with_reference_parser : Prop :=
  ∀ (src : String), (Apollo.Parse.parse .document none 500 src.toList).errors = [] → FromCst.modelsAgree src = true

theorem from_cst_agrees_witness_executable :
    FromCst.modelsAgree "query Q($v: [Int!]! = [1] @d) @e { a: b(x: {k: \"s\", l: [1.5, true, null, E, $v]}) @f { ...F ... on T { c } } } fragment F on T @d { x }" = true := by
  decide +kernel

theorem from_cst_agrees_witness_type_system :
    FromCst.modelsAgree "\"\"\"d\"\"\" type T implements I & J @d { \"x\" f(a: Int = 1 @d): [T!]! @d } extend union U = A | B interface I { a: Int } enum E @d { \"v\" A B @d } input N { a: [Int] = [1] } scalar S @d directive @d(a: Int) repeatable on FIELD | OBJECT schema @d { query: T mutation: T } extend schema { subscription: T } extend type T { g: Int } extend enum E { C } extend input N { b: Int } extend scalar S @e extend interface I @d" = true := by
  decide +kernel

/-! ## Pipeline: the CST parser followed by `from_cst.rs`, instead of the reference parser

The round-trip theorems above read the printed tokens back with the reference parser `pDocument`.  This section ties the
REAL pipeline model to it — `Parse.parse` (the rowan tree built by apollo-parser's grammar functions) followed by
`FromCst` (the CST → AST conversion, `from_cst.rs`) — stage by stage.  The instrument is the acceptance calculus
carried over to the tree builder (`Parse.Tr`, Proofs/ParserTree*.lean): `Tr E H m R` says what an error-free run of the grammar
function `m` consumed AND what it appended to the children vector of the rowan builder (junk tokens — whitespace, comments,
commas — aside); leaf nodes (`NAME[IDENT]`, …) are exact, because `from_cst.rs` reads them through `first_token`.
On the conversion side (Proofs/ParserTree3.lean) `support::child / children / token` are computed on the plain child list
of a node, whatever the byte offsets and junk tokens.

Stage (i), the type entry point: `type_cst_of_accepted`, `type_pipeline_agrees`, `pipeline_print_parse_type`.
Stage (ii), values (all kinds, lists and objects of any nesting, strings through the C06 decoder): `value_pipeline`,
`pipeline_print_parse_value`; `string_tokens_decode` is the lexer fact it needs.
Stage (iii), arguments, directives, selections and the field-set entry point: `arguments_pipeline`, `directives_pipeline`
(parser + conversion), `selection_conversion` (conversion), `selection_set_pipeline` (parser), `fieldset_cst_of_accepted`,
`fieldset_pipeline_agrees`, `pipeline_print_parse_fieldset`.
Stage (iv), variable definitions, executable definitions and the top level: `variable_definitions_pipeline`,
`fragment_definition_pipeline`, `operation_definition_pipeline`, `document_cst_of_accepted`,
`executable_document_pipeline_agrees`, `pipeline_print_parse_executable_document`.
Stage (v), type-system definitions and extensions: section `PipelineTypeSystem`; whole documents: section `PipelineWhole`.
-/
section Pipeline
open Apollo.Parse Apollo.Rowan

/-- **The tree of an accepted type** (`Parser::parse_type`, no token limit, any recursion limit): no error ⇒ the source
    lexes cleanly, its significant tokens are `tTy t ++ [EOF]`, and the tree returned is `TyTree t`:
    `NAMED_TYPE[NAME[IDENT n]]`, `LIST_TYPE[ [ Type ] ]`, `NON_NULL_TYPE[Type !]`, junk tokens between children only. -/
theorem type_cst_of_accepted (rl : Nat) (src : Parse.Str) (root : Elem)
    (h : (parse .type none rl src).outcome = .tree root) (herr : (parse .type none rl src).errors = []) :
    Parse.LexClean src ∧ ∃ t ts e, Parse.sig (Parse.srcToks src) = ts ++ [e] ∧ e.kind = .eof ∧
      ts.map Parse.astOfV = (tTy t).map some ∧ FromCst.TyTree t root :=
  Parse.parseType_cst rl src root h herr

/-- **Stage (i): the pipeline agrees with the reference parser on types.**  For an accepted source, `impl Convert for
    cst::Type` on the tree of `Parser::parse_type` (at any byte offset, with any location set, fuel = size of the tree)
    and `pTy` on the significant tokens return the same type. -/
theorem type_pipeline_agrees (rl : Nat) (src : Parse.Str) (root : Elem)
    (h : (parse .type none rl src).outcome = .tree root) (herr : (parse .type none rl src).errors = []) :
    ∃ t ts e x, Parse.sig (Parse.srcToks src) = ts ++ [e] ∧ e.kind = .eof ∧ ts.map Parse.astOfV = x.map some ∧
      (∀ (R : List FromCst.Loc) (s : Nat) (hp : ∀ y ∈ nameRanges root s, y ∈ R),
        ∃ l, FromCst.cType (FromCst.size root) ⟨(root, s), hp⟩ = some (t, l)) ∧
      pTy (szTy t) x = some (t, []) :=
  Parse.parseType_fromCst_agrees rl src root h herr

/-- **pipeline_print_parse_type.**  CST parser + conversion read the printed text of every type `t` (names valid,
    nesting within the recursion limit) back to `t` itself.  (C10's `type_display_parse_roundtrip` reads the tokens back
    with the reference parser `pTy`; here the CST → AST step is the conversion model `FromCst.cType`.) -/
theorem pipeline_print_parse_type (t : Ty) (hwf : tyNamesWf t = true) (rl : Nat) (hd : Parse.tyDepth t ≤ rl) :
    (parse .type none rl (tyText t)).errors = [] ∧
    ∃ root, (parse .type none rl (tyText t)).outcome = .tree root ∧
      ∀ (R : List FromCst.Loc) (s : Nat) (hp : ∀ y ∈ nameRanges root s, y ∈ R),
        ∃ l, FromCst.cType (FromCst.size root) ⟨(root, s), hp⟩ = some (t, l) := by
  obtain ⟨h1, root, h2, _, h3⟩ := Parse.pipeline_print_parse_type t hwf rl hd
  exact ⟨h1, root, h2, h3⟩

/-- the lexer facts the tree calculus carries (every Name token is a valid name; text that starts like a name is a Name
    token) hold for the token queue of every source text -/
theorem lexer_facts_for_every_source (src : Parse.Str) : Parse.LQ (Parse.srcToks src) := Parse.lq_srcToks src

/-- every String token the lexer model hands to the parser is decoded by `String::from(&cst::StringValue)`: quoted
    strings are in the lexer's exact language (four hex digits after `\u`, no surrogates), block strings end with their
    closing quotes — none of the `unwrap`s / slices of node_ext.rs can fail on a token of an error-free lexing -/
theorem string_tokens_decode (src : Parse.Str) :
    ∀ t ∈ Parse.srcToks src, t.kind = .stringValue → (Strs.decodeStringToken t.data).isSome = true :=
  Parse.strQ_srcToks src

/-- **Stage (ii): values.**  An error-free run of `value.rs::value` (any fuel, constant or not, from any state of the
    calculus: `St` = no token limit, builder invariant, queue ending in EOF, lexer facts) consumed the tokens of ONE value
    `v` — well-formed, without variables in a constant context —, appended exactly one element `ev` besides junk tokens,
    `impl Convert for cst::Value` on `ev` (any offset, any location set, fuel = size of `ev`) returns `v`, and the
    reference parser `pValue` on the same tokens returns `v` too — or the run stopped at the end of input inside an
    unclosed list (`AtEof`, reported by the caller's closing token). -/
theorem value_pipeline (n : Nat) (c p : Bool) (s s' : PState) (st : Parse.St s)
    (h : (Parse.value n c p).run s = .ok () s') (hnd : ¬ Parse.Doomed s') :
    ∃ cs added, Parse.Toks s = cs ++ Parse.Toks s' ∧ s'.builder.children = s.builder.children ++ added ∧
      ((∃ v ev, (Parse.sig cs).map Parse.astOfV = (tValue v).map some ∧ Parse.valueOk c v = true ∧
          Parse.sigE added = [ev] ∧ FromCst.ValTree v ev ∧
          (∀ (R : List FromCst.Loc) (o : Nat) (hp : ∀ y ∈ nameRanges ev o, y ∈ R),
            ∃ l, FromCst.cValue (FromCst.size ev) ⟨(ev, o), hp⟩ = some (v, l)) ∧
          pValue (szValue v) (tValue v) = some (v, []))
        ∨ Parse.AtEof s') :=
  Parse.value_pipeline n c p s s' st h hnd

/-- **pipeline_print_parse_value.**  If the tokens consumed by an error-free run of `value` spell the printed tokens
    `tValue v0` of a well-formed value `v0` (C05 `value_accept_complete_total`: such a run exists whenever `v0` fits the
    recursion limit), the element built converts to `v0` itself. -/
theorem pipeline_print_parse_value (n : Nat) (c p : Bool) (s s' : PState) (st : Parse.St s)
    (h : (Parse.value n c p).run s = .ok () s') (hnd : ¬ Parse.Doomed s') (hne : ¬ Parse.AtEof s')
    (v0 : Value) (hwf : wfValue v0 = true) (cs : List Parse.Tok) (ht : Parse.Toks s = cs ++ Parse.Toks s')
    (hspell : (Parse.sig cs).map Parse.astOfV = (tValue v0).map some) :
    ∃ added ev, s'.builder.children = s.builder.children ++ added ∧ Parse.sigE added = [ev] ∧
      ∀ (R : List FromCst.Loc) (o : Nat) (hp : ∀ y ∈ nameRanges ev o, y ∈ R),
        ∃ l, FromCst.cValue (FromCst.size ev) ⟨(ev, o), hp⟩ = some (v0, l) :=
  Parse.pipeline_print_parse_value n c p s s' st h hnd hne v0 hwf cs ht hspell

/-- **Stage (iii), arguments.**  An error-free run of `argument.rs::arguments` entered on `(` consumed the tokens
    `tArguments args` (`args ≠ []`, values well-formed for the context) and appended ONE element besides junk, the node
    `ARGUMENTS[( ARGUMENT[NAME : value]+ )]`; on every parent node whose ARGUMENTS child is that element,
    `collect_opt(x.arguments(), …)` of from_cst.rs returns `args`. -/
theorem arguments_pipeline (n : Nat) (c : Bool) (s s' : PState) (st : Parse.St s) (hq : Parse.HeadK .lParen (Parse.Toks s))
    (h : (Parse.arguments n c).run s = .ok () s') (hnd : ¬ Parse.Doomed s') :
    ∃ cs added args ea, Parse.Toks s = cs ++ Parse.Toks s' ∧ s'.builder.children = s.builder.children ++ added ∧ args ≠ [] ∧
      (Parse.sig cs).map Parse.astOfV = (tArguments args).map some ∧ Parse.argsOk c args ∧ Parse.sigE added = [ea] ∧
      FromCst.ArgsNode args ea ∧
      ∀ (k : SK) (pcs : List Elem) (m : Nat), (Parse.sigE pcs).find? (FromCst.nodeP (· == "ARGUMENTS")) = some ea →
        ea ∈ Parse.sigE pcs → FromCst.size (.node k pcs) ≤ m + 1 →
        ∀ (R : List FromCst.Loc) (o : Nat) (hp : ∀ y ∈ nameRanges (.node k pcs) o, y ∈ R),
          ∃ l, FromCst.argumentsOf m ⟨(.node k pcs, o), hp⟩ = some (args, l) :=
  Parse.arguments_pipeline n c s s' st hq h hnd

/-- **Stage (iii), directives.**  The same for `directive.rs::directives` entered on `@`: tokens `tDirectives ds`, ONE
    element `DIRECTIVES[DIRECTIVE[@ NAME Arguments?]+]`, and `collect_opt(x.directives(), …)` returns `ds`. -/
theorem directives_pipeline (n : Nat) (c : Bool) (s s' : PState) (st : Parse.St s) (hq : Parse.HeadK .at (Parse.Toks s))
    (h : (Parse.directives n c).run s = .ok () s') (hnd : ¬ Parse.Doomed s') :
    ∃ cs added ds ed, Parse.Toks s = cs ++ Parse.Toks s' ∧ s'.builder.children = s.builder.children ++ added ∧
      (Parse.sig cs).map Parse.astOfV = (tDirectives ds).map some ∧ Parse.dirsOk c ds ∧ Parse.sigE added = [ed] ∧
      FromCst.DirsNode ds ed ∧
      ∀ (k : SK) (pcs : List Elem) (m : Nat), (Parse.sigE pcs).find? (FromCst.nodeP (· == "DIRECTIVES")) = some ed →
        ed ∈ Parse.sigE pcs → FromCst.size (.node k pcs) ≤ m + 1 →
        ∀ (R : List FromCst.Loc) (o : Nat) (hp : ∀ y ∈ nameRanges (.node k pcs) o, y ∈ R),
          ∃ l, FromCst.directivesOf m ⟨(.node k pcs, o), hp⟩ = some (ds, l) :=
  Parse.directives_pipeline n c s s' st hq h hnd

/-- **Stage (iii), selections — the conversion half.**  `impl Convert for cst::Selection` on a tree of the shape
    `SelTree sel` (FIELD[ALIAS? NAME ARGUMENTS? DIRECTIVES? SELECTION_SET?], FRAGMENT_SPREAD[... FRAGMENT_NAME DIRECTIVES?],
    INLINE_FRAGMENT[... TYPE_CONDITION? DIRECTIVES? SELECTION_SET], any nesting, junk tokens anywhere between children)
    returns `sel`.  (That selection.rs builds these shapes: `selection_set_pipeline`, `fieldset_cst_of_accepted` below.) -/
theorem selection_conversion (n : Nat) (sel : Sel) (e : Elem) (h : FromCst.SelTree sel e) (hs : FromCst.size e ≤ n) :
    ∀ (R : List FromCst.Loc) (o : Nat) (hp : ∀ y ∈ nameRanges e o, y ∈ R), ∃ l, FromCst.cSelection n ⟨(e, o), hp⟩ = some (sel, l) :=
  FromCst.cSelection_selTree n sel e h hs

/-- **Stage (iii), selections — the parser half.**  An error-free run of `selection.rs::selection_set` entered on `{`
    (any fuel, from any state of the calculus) consumed the tokens `{ tSels sels }` of a non-empty list of selections —
    well-formed: values without unknown shapes, spreads not named `on`, inline fragments with a selection set — and
    appended ONE element besides junk, of the shape `SelSetNode sels`: `SELECTION_SET[{ Selection+ }]` whose child nodes
    are FIELD / FRAGMENT_SPREAD / INLINE_FRAGMENT trees `SelTree` (alias look-ahead, arguments, directives, nested
    selection sets, type conditions; by the four-way induction field / inline fragment / selection / selection set);
    `convert_selection_set` on it (fuel ≥ its size) returns `sels`, and so does the reference parser on the tokens. -/
theorem selection_set_pipeline (n : Nat) (s s' : PState) (st : Parse.St s) (hq : Parse.HeadK .lCurly (Parse.Toks s))
    (h : (Parse.selectionSet n).run s = .ok () s') (hnd : ¬ Parse.Doomed s') :
    ∃ cs added sels es, Parse.Toks s = cs ++ Parse.Toks s' ∧ s'.builder.children = s.builder.children ++ added ∧
      sels ≠ .nil ∧ wfSels sels = true ∧
      (Parse.sig cs).map Parse.astOfV = (Ast.Tok.p .lCurly :: tSels sels ++ [Ast.Tok.p .rCurly]).map some ∧
      Parse.sigE added = [es] ∧ FromCst.SelSetNode sels es ∧
      (∀ (m : Nat), FromCst.size es ≤ m + 1 → ∀ (R : List FromCst.Loc) (o : Nat) (hp : ∀ y ∈ nameRanges es o, y ∈ R),
        ∃ l, FromCst.collectM (FromCst.cSelection m) (FromCst.childrenP FromCst.isSelectionKind ⟨(es, o), hp⟩) =
          some (FromCst.selsToList sels, l)) ∧
      pSelectionSet (szSels sels) (Ast.Tok.p .lCurly :: tSels sels ++ [Ast.Tok.p .rCurly]) = some (sels, []) := by
  obtain ⟨_, cs, added, h1, _, _, h4, h5⟩ := Parse.St.step (Parse.tr_selSet n) st hq h hnd
  rcases h5 with ⟨sels, es, hne, hwf, h6, h7, h8⟩ | f
  · refine ⟨cs, added, sels, es, h1, h4, hne, hwf, h6, h7, h8, ?_, ?_⟩
    · intro m hm R o hp
      exact FromCst.selSet_collect m sels es h8 (fun es' a b => FromCst.cSels_selsTree m sels es' a b) hm R o hp
    · simpa [pSelectionSet] using selsNE_roundtrip sels _ [] hne hwf (Nat.le_refl _)
  · exact absurd f id

/-- **The tree of an accepted field set** (`Parser::parse_selection_set`, no token limit, any recursion limit): no error
    ⇒ the source lexes cleanly, its significant tokens are `{ Selection+ }` or, brace-less, `Selection+`, then the end
    of input, and the tree handed out by `finish_standalone` is ONE `SELECTION_SET` node (`FieldSetNode sels root`:
    the braced node itself, or the brace-less node opened by `field_set`) — never the temporary root. -/
theorem fieldset_cst_of_accepted (rl : Nat) (src : Parse.Str) (root : Elem)
    (h : (parse .selectionSet none rl src).outcome = .tree root) (herr : (parse .selectionSet none rl src).errors = []) :
    Parse.LexClean src ∧ ∃ (sels : Sels) (ts : List Parse.Tok) (e : Parse.Tok),
      Parse.sig (Parse.srcToks src) = ts ++ [e] ∧ e.kind = .eof ∧ sels ≠ .nil ∧ wfSels sels = true ∧
      (ts.map Parse.astOfV = (Ast.Tok.p .lCurly :: tSels sels ++ [Ast.Tok.p .rCurly]).map some ∨ ts.map Parse.astOfV = (tSels sels).map some) ∧
      FromCst.FieldSetNode sels root :=
  Parse.parseFieldSet_cst rl src root h herr

/-- **Stage (iii), entry point: the pipeline agrees with the reference parser on field sets.**  For an accepted source,
    `convert_selection_set` on the tree of `Parser::parse_selection_set` (what `FieldSet::from_cst`/`ast::Document`
    do with it; any byte offset, any location set, fuel = size of the tree) and the reference parser `pSelectionSet` on
    the significant tokens (with the braces added when the source has none) return the same selections. -/
theorem fieldset_pipeline_agrees (rl : Nat) (src : Parse.Str) (root : Elem)
    (h : (parse .selectionSet none rl src).outcome = .tree root) (herr : (parse .selectionSet none rl src).errors = []) :
    ∃ (sels : Sels) (ts : List Parse.Tok) (e : Parse.Tok) (x : List Ast.Tok),
      Parse.sig (Parse.srcToks src) = ts ++ [e] ∧ e.kind = .eof ∧ ts.map Parse.astOfV = x.map some ∧ sels ≠ .nil ∧
      (x = Ast.Tok.p .lCurly :: tSels sels ++ [Ast.Tok.p .rCurly] ∨ x = tSels sels) ∧
      (∀ (R : List FromCst.Loc) (s : Nat) (hp : ∀ y ∈ nameRanges root s, y ∈ R),
        ∃ l, FromCst.collectM (FromCst.cSelection (FromCst.size root))
          (FromCst.childrenP FromCst.isSelectionKind (⟨(root, s), hp⟩ : FromCst.PE R)) = some (FromCst.selsToList sels, l)) ∧
      pSelectionSet (szSels sels) (Ast.Tok.p .lCurly :: tSels sels ++ [Ast.Tok.p .rCurly]) = some (sels, []) := by
  obtain ⟨sels, ts, e, x, h1, h2, h3, h4, h5, _, h7, h8⟩ := Parse.parseFieldSet_fromCst_agrees rl src root h herr
  exact ⟨sels, ts, e, x, h1, h2, h3, h4, h5, h7, h8⟩

/-- **pipeline_print_parse_fieldset.**  Whenever the significant tokens of a cleanly lexing source spell a non-empty
    well-formed list of selections `ss` — in braces (no ignored token in front) or brace-less — within the recursion
    limit (C07 `fieldset_accept_complete`), `Parser::parse_selection_set` accepts, hands out one SELECTION_SET node, and
    `convert_selection_set` on it returns `ss` itself (`FromCst.listToSels (selsToList ss) = ss`). -/
theorem pipeline_print_parse_fieldset (rl : Nat) (src : Parse.Str) (ss : Sels) (ts : List Parse.Tok) (e : Parse.Tok)
    (hclean : Parse.LexClean src) (hsig : Parse.sig (Parse.srcToks src) = ts ++ [e]) (he : e.kind = .eof)
    (hne : ss ≠ .nil) (hwf : wfSels ss = true) (hb : 1 ≤ rl) (hfit : Parse.fitSels ss (rl - 1))
    (hx : (ts.map Parse.astOfV = (Ast.Tok.p .lCurly :: tSels ss ++ [Ast.Tok.p .rCurly]).map some ∧
            (∀ hd tl, Parse.srcToks src = hd :: tl → isIgnoredKind hd.kind = false)) ∨
          ts.map Parse.astOfV = (tSels ss).map some) :
    (parse .selectionSet none rl src).errors = [] ∧
    ∃ root, (parse .selectionSet none rl src).outcome = .tree root ∧ FromCst.FieldSetNode ss root ∧
      (∀ (R : List FromCst.Loc) (s : Nat) (hp : ∀ y ∈ nameRanges root s, y ∈ R),
        ∃ l, FromCst.collectM (FromCst.cSelection (FromCst.size root))
          (FromCst.childrenP FromCst.isSelectionKind (⟨(root, s), hp⟩ : FromCst.PE R)) = some (FromCst.selsToList ss, l)) ∧
      FromCst.listToSels (FromCst.selsToList ss) = ss := by
  obtain ⟨h1, root, h2, h3, h4⟩ := Parse.pipeline_print_parse_fieldset rl src ss ts e hclean hsig he hne hwf hb hfit hx
  exact ⟨h1, root, h2, h3, h4, FromCst.listToSels_toList ss⟩

/-- **Stage (iv), variable definitions.**  An error-free run of `variable.rs::variable_definitions` entered on `(`
    consumed the tokens `tVarDefs vs` (`vs ≠ []`, default values constant and well-formed, directives well-formed) and
    appended ONE element besides junk, the node `VARIABLE_DEFINITIONS[( VARIABLE_DEFINITION[VARIABLE[$ NAME] : Type
    DEFAULT_VALUE[= value]? DIRECTIVES?]+ )]`; `collect_opt(x.variable_definitions(), …)` of from_cst.rs on it returns `vs`. -/
theorem variable_definitions_pipeline (n : Nat) (s s' : PState) (st : Parse.St s) (hq : Parse.HeadK .lParen (Parse.Toks s))
    (h : (Parse.variableDefinitions n).run s = .ok () s') (hnd : ¬ Parse.Doomed s') :
    ∃ cs added vs ev, Parse.Toks s = cs ++ Parse.Toks s' ∧ s'.builder.children = s.builder.children ++ added ∧ vs ≠ [] ∧
      (Parse.sig cs).map Parse.astOfV = (tVarDefs vs).map some ∧ wfVarDefs vs = true ∧ Parse.sigE added = [ev] ∧
      Parse.VarDefsNode vs ev ∧
      ∀ (m : Nat), FromCst.size ev ≤ m + 1 → ∀ (R : List FromCst.Loc) (o : Nat) (hp : ∀ y ∈ nameRanges ev o, y ∈ R),
        ∃ l, FromCst.collectM (FromCst.cVariableDefinition m) (FromCst.children "VARIABLE_DEFINITION" ⟨(ev, o), hp⟩) = some (vs, l) := by
  obtain ⟨_, cs, added, h1, _, _, h4, h5⟩ := Parse.St.step (Parse.tr_variableDefinitions n) st hq h hnd
  rcases h5 with ⟨vs, ev, hne, h6, h7, h8, h9⟩ | f
  · exact ⟨cs, added, vs, ev, h1, h4, hne, h6, h7, h8, h9, fun m hm R o hp => FromCst.varDefs_collect m vs ev h9 hm R o hp⟩
  · exact absurd f id

/-- **Stage (iv), fragment definitions.**  An error-free run of `fragment.rs::fragment_definition` entered on the
    `fragment` keyword consumed the tokens `tDefinition (.fragment name tc dirs sels)` of a WELL-FORMED fragment
    definition (`wfDefinition`: name not `on`, directives and selections well-formed, selection set non-empty) and
    appended ONE element besides junk, `FRAGMENT_DEFINITION[fragment FRAGMENT_NAME TYPE_CONDITION DIRECTIVES?
    SELECTION_SET]`; `impl Convert for cst::Definition` on it (fuel + 1 ≥ its size) returns that definition. -/
theorem fragment_definition_pipeline (n : Nat) (s s' : PState) (st : Parse.St s)
    (hq : Parse.HeadP (fun t : Parse.Tok => t.kind = .name ∧ t.data = "fragment".toList) (Parse.Toks s))
    (h : (Parse.fragmentDefinition n).run s = .ok () s') (hnd : ¬ Parse.Doomed s') :
    ∃ cs added name tc dirs sels ed, Parse.Toks s = cs ++ Parse.Toks s' ∧ s'.builder.children = s.builder.children ++ added ∧
      (Parse.sig cs).map Parse.astOfV = (tDefinition false (.fragment name tc dirs sels)).map some ∧
      wfDefinition (.fragment name tc dirs sels) = true ∧ Parse.sigE added = [ed] ∧
      FromCst.FragDefTree name tc dirs sels ed ∧
      ∀ (m : Nat), FromCst.size ed ≤ m + 1 → ∀ (R : List FromCst.Loc) (o : Nat) (hp : ∀ y ∈ nameRanges ed o, y ∈ R),
        ∃ l, FromCst.cDefinition m ⟨(ed, o), hp⟩ = some (.fragment name tc dirs sels, l) := by
  obtain ⟨_, cs, added, h1, _, _, h4, h5⟩ := Parse.St.step (Parse.tr_fragmentDefinition n) st hq h hnd
  rcases h5 with ⟨name, tc, dirs, sels, ed, h6, h7, h8, h9⟩ | f
  · exact ⟨cs, added, name, tc, dirs, sels, ed, h1, h4, h6, h7, h8, h9,
      fun m hm R o hp => FromCst.cDefinition_fragment m name tc dirs sels ed h9 hm R o hp⟩
  · exact absurd f id

/-- **Stage (iv), operation definitions.**  An error-free run of `operation.rs::operation_definition` (entered anywhere:
    on `query` / `mutation` / `subscription`, on the `{` of a shorthand query; everything else reports an error) consumed
    the printer's tokens `tDefinition it.1 it.2` of ONE well-formed operation definition `it.2` — long form (`it.1 =
    false`: OPERATION_TYPE, optional name, variable definitions, directives, selection set) or shorthand (`it.1 = true`:
    the selection set alone, and `it.2` is the anonymous query) — and appended ONE element besides junk, an
    OPERATION_DEFINITION node; `impl Convert for cst::Definition` on it (fuel + 1 ≥ its size) returns `it.2`. -/
theorem operation_definition_pipeline (n : Nat) (s s' : PState) (st : Parse.St s)
    (h : (Parse.operationDefinition n).run s = .ok () s') (hnd : ¬ Parse.Doomed s') :
    ∃ (cs : List Parse.Tok) (added : List Elem) (it : Bool × Definition) (ed : Elem), Parse.Toks s = cs ++ Parse.Toks s' ∧ s'.builder.children = s.builder.children ++ added ∧
      (Parse.sig cs).map Parse.astOfV = (tDefinition it.1 it.2).map some ∧ wfDefinition it.2 = true ∧
      Parse.isExecutable it.2 = true ∧ Parse.sigE added = [ed] ∧
      FromCst.nodeP (fun k => k == "OPERATION_DEFINITION" || k == "FRAGMENT_DEFINITION") ed = true ∧
      ∀ (m : Nat), FromCst.size ed ≤ m + 1 → ∀ (R : List FromCst.Loc) (o : Nat) (hp : ∀ y ∈ nameRanges ed o, y ∈ R),
        ∃ l, FromCst.cDefinition m ⟨(ed, o), hp⟩ = some (it.2, l) := by
  obtain ⟨_, cs, added, h1, _, _, h4, h5⟩ := Parse.St.step (Parse.tr_operationDefinition n) st trivial h hnd
  rcases h5 with ⟨it, ed, h6, h7, h8, h9, h10, h11⟩ | f
  · exact ⟨cs, added, it, ed, h1, h4, h6, h7, h10, h8, h11, fun m hm R o hp => h9.2 m hm R o hp⟩
  · exact absurd f id

/-- **Stage (iv), the top level, generically.**  `Q tokens elements` is what ONE definition parser, started where the
    dispatcher of `document()` starts it, consumes and builds (`DefTrs n Q`: twenty entry conditions, the same as C05's
    `DefLemmas`).  Then `Parser::parse` (no token limit, any recursion limit) without error returns `DOCUMENT[…]` whose
    significant children are, definition by definition, the elements built, and the significant tokens are the
    definitions' tokens followed by EOF; the list of definitions is not empty.  (Instances: the operation and fragment
    entries come from the two theorems above, see `document_pipeline_with_type_system`; the type-system entries from
    section `PipelineTypeSystem`.) -/
theorem document_cst_of_accepted (Q : List Parse.Tok → List Elem → Prop) (L : ∀ n, Parse.DefTrs n Q) (rl : Nat)
    (src : Parse.Str) (root : Elem)
    (h : (parse .document none rl src).outcome = .tree root) (herr : (parse .document none rl src).errors = []) :
    Parse.LexClean src ∧ ∃ ts e inner, Parse.sig (Parse.srcToks src) = ts ++ [e] ∧ e.kind = .eof ∧ root = Elem.node "DOCUMENT" inner ∧
      ∃ items : List (List Parse.Tok × List Elem), items ≠ [] ∧ ts = (items.map (·.1)).flatten ∧
        Parse.sigE inner = (items.map (·.2)).flatten ∧ ∀ i ∈ items, Q i.1 i.2 :=
  Parse.parseDocument_cst L rl src root h herr

/-- `Document::from_cst` on such a tree when every definition satisfies `DefItemR` (printer's tokens of a well-formed
    definition in either form, ONE node, `impl Convert for cst::Definition` returns the definition): the tokens are
    `itemsToks its`, and `from_cst` returns exactly the definitions of `its`. -/
theorem document_from_cst_of_items (root : Elem) (inner : List Elem) (ts : List Parse.Tok)
    (items : List (List Parse.Tok × List Elem)) (hroot : root = Elem.node "DOCUMENT" inner) (hne : items ≠ [])
    (hts : ts = (items.map (·.1)).flatten) (hsig : Parse.sigE inner = (items.map (·.2)).flatten)
    (hall : ∀ i ∈ items, Parse.DefItemR i.1 i.2) :
    ∃ its : List (Bool × Definition), its ≠ [] ∧ ts.map Parse.astOfV = (itemsToks its).map some ∧
      (∀ i ∈ its, wfDefinition i.2 = true) ∧ (FromCst.fromCst root).1 = its.map (·.2) :=
  Parse.document_fromCst_of_items root inner ts items hroot hne hts hsig hall

/-- **The token-view bridging lemma.**  The reference parser's reading of the lexer model's output
    (`sigToks (lex none src)`, the view of `text_lexes_back` / `document_text_roundtrip`) is `X` exactly if the source
    has no lexer error and the parser model's significant tokens (the view of the acceptance theorems of C05 / C07 and
    of the pipeline theorems) are, through `astOfV`, `X` followed by the EOF token. -/
theorem token_view_bridge (src : Parse.Str) (X : List Ast.Tok) :
    sigToks (Apollo.Lex.lex none src) = some X ↔
      Parse.LexClean src ∧ ∃ ts e, Parse.sig (Parse.srcToks src) = ts ++ [e] ∧ e.kind = .eof ∧ ts.map Parse.astOfV = X.map some :=
  Parse.sigToks_src_iff src X

/-- **executable_document_pipeline_agrees.**  For an accepted source whose tree holds executable definitions only
    (`ExecRoot`: every child of the root that `Document::from_cst` looks at is an OPERATION_DEFINITION or a
    FRAGMENT_DEFINITION): the lexer model's tokens are the printer's tokens `itemsToks its` of a non-empty list of
    well-formed executable definitions (each in the long form, anonymous queries also in the shorthand form),
    `Document::from_cst` on the tree of the CST parser returns exactly these definitions, and so does the reference
    parser `pDocument` on the tokens (any fuel ≥ their size): the two models of `ast::Document::parse` agree. -/
theorem executable_document_pipeline_agrees (rl : Nat) (src : Parse.Str) (root : Elem)
    (h : (parse .document none rl src).outcome = .tree root) (herr : (parse .document none rl src).errors = [])
    (hexec : Parse.ExecRoot root) :
    ∃ its : List (Bool × Definition), its ≠ [] ∧ sigToks (Apollo.Lex.lex none src) = some (itemsToks its) ∧
      (∀ i ∈ its, wfDefinition i.2 = true ∧ Parse.isExecutable i.2 = true) ∧
      (FromCst.fromCst root).1 = its.map (·.2) ∧
      ∀ f, szDefinitions (its.map (·.2)) ≤ f → pDocument f (itemsToks its) = some (its.map (·.2)) := by
  obtain ⟨hclean, ts, e, its, h1, h2, h3, h4, h5, h6, h7⟩ := Parse.parseExecutableDocument_agrees rl src root h herr hexec
  exact ⟨its, h3, (Parse.sigToks_src_iff src _).mpr ⟨hclean, ts, e, h1, h2, h4⟩, h5, h6, h7⟩

/-- the same without looking at the tree: if the tokens of an accepted source are the printer's tokens of well-formed
    executable definitions `its` (which definition parser ran is decided by the tokens: a type-system definition starts
    with a description or a Name other than `query` / `mutation` / `subscription` / `fragment`, and an executable
    definition is read back by the reference parser whatever follows it), `from_cst` returns the definitions of `its`. -/
theorem executable_tokens_pipeline (rl : Nat) (src : Parse.Str) (root : Elem) (its : List (Bool × Definition))
    (h : (parse .document none rl src).outcome = .tree root) (herr : (parse .document none rl src).errors = [])
    (h0 : ∀ it ∈ its, wfDefinition it.2 = true ∧ Parse.isExecutable it.2 = true)
    (hlex : sigToks (Apollo.Lex.lex none src) = some (itemsToks its)) :
    (FromCst.fromCst root).1 = its.map (·.2) := by
  obtain ⟨_, ts, e, hsig, _, hx⟩ := (Parse.sigToks_src_iff src _).mp hlex
  exact Parse.pipeline_exec_of_tokens rl src root its h herr h0 ts e hsig hx

/-- **pipeline_print_parse_executable_document.**  For every configuration (white-space indentation prefix or none,
    any level) and every non-empty well-formed EXECUTABLE document `doc` (operations and fragments; names, IntValues and
    FloatValues of the grammar's syntax) within the recursion limit: the printed text is accepted by the CST parser model
    without error, and `Document::from_cst` on the tree returns `doc` itself.  Text level: `text_lexes_back_full`; token
    views: `token_view_bridge`; acceptance: C05 `executable_document_accept_complete`; tree and conversion: the tree
    calculus.  With `document_text_roundtrip` both models of `ast::Document::parse` read `print doc` back to `doc`. -/
theorem pipeline_print_parse_executable_document (pre : Option Ast.Str) (level : Nat) (doc : Document) (hne : doc ≠ [])
    (hwf : ∀ d ∈ doc, wfDefinition d = true) (hexec : ∀ d ∈ doc, Parse.isExecutable d = true)
    (hpre : ∀ p, pre = some p → p.all Apollo.Strs.isWs = true)
    (hn : NamesWf (docSegs pre level doc)) (hi : IntsSpec (docSegs pre level doc)) (hf : FloatsSpec (docSegs pre level doc))
    (rl : Nat) (hfit : Parse.IsExecDocFit rl (toksOf (cDocument (outputEmptyAtStart pre level) doc))) :
    (parse .document none rl (serializeDocument pre level doc).out).errors = [] ∧
    ∃ root, (parse .document none rl (serializeDocument pre level doc).out).outcome = .tree root ∧
      (FromCst.fromCst root).1 = doc := by
  cases doc with
  | nil => exact absurd rfl hne
  | cons d r =>
    have hlex := text_lexes_back_full pre level (d :: r) hpre hn hi hf
    rw [toksOf_cDocument, tDocument_items] at hlex hfit
    obtain ⟨hclean, ts, e, hsig, he, hx⟩ := (Parse.sigToks_src_iff _ _).mp hlex
    have herr := Parse.parseDocument_complete_sig rl _ _ ts e hclean hsig he hx hfit
    obtain ⟨root, hroot⟩ := Parse.parseDocument_tree none rl (serializeDocument pre level (d :: r)).out
    have h0 : ∀ it ∈ ((outputEmptyAtStart pre level, d) :: r.map (fun d => (false, d)) : List (Bool × Definition)),
        wfDefinition it.2 = true ∧ Parse.isExecutable it.2 = true := by
      intro it hit
      rcases List.mem_cons.mp hit with rfl | hit
      · exact ⟨hwf d (by simp), hexec d (by simp)⟩
      · obtain ⟨d', hd', rfl⟩ := List.mem_map.mp hit
        exact ⟨hwf d' (by simp [hd']), hexec d' (by simp [hd'])⟩
    have := Parse.pipeline_exec_of_tokens rl _ root _ hroot herr h0 ts e hsig hx
    refine ⟨herr, root, hroot, ?_⟩
    rw [this]
    simp [List.map_map, Function.comp_def]

/-- **The document theorem with the type system plugged in** (the interface for stage (v)).  `T : ∀ n, TsTrs n Q` are
    the fifteen type-system entries of `DefTrs` (definitions and extensions, entered where the dispatcher enters them)
    with any relation `Q`; the four operation entries and the fragment entry are this section's.  Then an accepted
    document is `DOCUMENT[…]`, item by item an executable definition (`ExecItemR`: printer's tokens, well-formed, ONE
    OPERATION_DEFINITION / FRAGMENT_DEFINITION node that converts) or a `Q` item, and if every `Q` item of the run is
    a definition without liberties (`DefItemR`), `Document::from_cst` returns exactly the definitions, whose printer's
    tokens are the significant tokens of the source. -/
theorem document_pipeline_with_type_system (Q : List Parse.Tok → List Elem → Prop) (T : ∀ n, Parse.TsTrs n Q) (rl : Nat)
    (src : Parse.Str) (root : Elem)
    (h : (parse .document none rl src).outcome = .tree root) (herr : (parse .document none rl src).errors = []) :
    Parse.LexClean src ∧ ∃ ts e inner, Parse.sig (Parse.srcToks src) = ts ++ [e] ∧ e.kind = .eof ∧ root = Elem.node "DOCUMENT" inner ∧
      ∃ items : List (List Parse.Tok × List Elem), items ≠ [] ∧ ts = (items.map (·.1)).flatten ∧
        Parse.sigE inner = (items.map (·.2)).flatten ∧ (∀ i ∈ items, Parse.ExecItemR i.1 i.2 ∨ Q i.1 i.2) ∧
        ((∀ i ∈ items, Q i.1 i.2 → Parse.DefItemR i.1 i.2) →
          ∃ its : List (Bool × Definition), its ≠ [] ∧ ts.map Parse.astOfV = (itemsToks its).map some ∧
            (∀ i ∈ its, wfDefinition i.2 = true) ∧ (FromCst.fromCst root).1 = its.map (·.2)) :=
  Parse.parseDocument_fromCst Q T rl src root h herr

end Pipeline

section PipelineTypeSystem
open Apollo.Parse Apollo.Rowan

/-- **Stage (v), type-system definitions and extensions: conversion.**  On the tree `DefTree l ed` of a loose
    type-system definition or extension `l` (any of the eight definitions — schema, scalar, object, interface, union,
    enum, input object, directive — and the seven extensions), `impl Convert for cst::Definition` of from_cst.rs
    (fuel + 1 ≥ the size of the node) succeeds with `looseConv l`: descriptions through the C06 decoder, names
    validated, a leading separator not represented, a root operation type without its named type dropped. -/
theorem type_system_definition_converts (m : Nat) (l : Parse.LooseDef) (ed : Elem) (h : FromCst.DefTree l ed)
    (hs : FromCst.size ed ≤ m + 1) (R : List FromCst.Loc) (o : Nat) (hp : ∀ y ∈ nameRanges ed o, y ∈ R) :
    ∃ lg, FromCst.cDefinition m ⟨(ed, o), hp⟩ = some (FromCst.looseConv l, lg) :=
  FromCst.cDefinition_defTree m l ed h hs R o hp

/-- **Stage (v), type-system definitions and extensions: the pipeline.**  `document()` dispatches on the current
    token `t`; when the selecting text is a type-system keyword (`TsSel`: `t` reads one of the eight definition
    keywords, or `t` is a description and the next significant token does, or `t` reads `extend` and the next
    significant token one of the seven extension keywords) and the run of the dispatcher adds no error, then

    * it consumed the tokens `l.toks` of ONE loose definition `l` (the optional keyword IS there) and appended ONE
      element `ed` besides junk, the tree `DefTree l ed`;
    * `cDefinition` on `ed` returns `looseConv l`;
    * when `l` has neither of the two deviations (`l.strict = some d`: no leading `&`/`|`, every root operation type
      has its named type), `looseConv l = d`, the consumed tokens are `tDefinition false d` — the tokens the
      serializer writes for `d` — `d` is well-formed (`wfDefinition`), and the reference parser reads those tokens
      back to `d` (`pDefinition`), whatever definition or end of input follows. -/
theorem type_system_definition_pipeline (n : Nat) (s s' : PState) (t : Parse.Tok) (rest : List Parse.Tok) (ks : List String)
    (st : Parse.St s) (hc : s.current = some t) (ht : Parse.Toks s = t :: rest) (hsel : Parse.TsSel t rest ks)
    (h : (Parse.documentDispatch n t.kind).run s = .ok () s') (hnd : ¬ Parse.Doomed s') :
    ∃ cs added l ed, Parse.Toks s = cs ++ Parse.Toks s' ∧ s'.builder.children = s.builder.children ++ added ∧
      l.kws = ks ∧ (Parse.sig cs).map Parse.astOfV = l.toks.map some ∧ l.wf = true ∧ Parse.sigE added = [ed] ∧
      FromCst.DefTree l ed ∧
      (∀ (m : Nat), FromCst.size ed ≤ m + 1 → ∀ (R : List FromCst.Loc) (o : Nat) (hp : ∀ y ∈ nameRanges ed o, y ∈ R),
        ∃ lg, FromCst.cDefinition m ⟨(ed, o), hp⟩ = some (FromCst.looseConv l, lg)) ∧
      ∀ d, l.strict = some d →
        FromCst.looseConv l = d ∧ l.toks = tDefinition false d ∧ wfDefinition d = true ∧
        ∀ (f : Nat) (follow : List Ast.Tok), szDefinition d ≤ f → defFollow follow = true →
          pDefinition f (tDefinition false d ++ follow) = some (d, follow) := by
  obtain ⟨_, cs, added, h1, _, _, h4, h5⟩ := Parse.tr_typeSystemDefinition n s s' t rest ks st hc ht hsel h hnd
  rcases h5 with ⟨l, ed, hk, h6, h7, h8, h9⟩ | f
  · refine ⟨cs, added, l, ed, h1, h4, hk, h6, h7, h8, h9,
      fun m hm R o hp => FromCst.cDefinition_defTree m l ed h9 hm R o hp, ?_⟩
    intro d hd
    have hwf := Parse.LooseDef.wf_strict l d hd h7
    exact ⟨FromCst.looseConv_strict l d hd, Parse.LooseDef.toks_strict l d hd, hwf,
      fun f follow hf hfo => definition_roundtrip d f follow hwf hf hfo⟩
  · exact absurd f id

/-- **Stage (v), the dispatcher of `document()`.**  An error-free run of the dispatcher on the current token `t`
    either selected a type-system definition or extension (`TsSel`; then `type_system_definition_pipeline` applies — the
    run consumed the tokens of ONE loose definition and appended its tree), or it IS a run of `fragment_definition`
    (selecting text `fragment`) or of `operation_definition` (selecting text `query` / `mutation` / `subscription` / `{`)
    from a state with the same token queue and the same tree builder — the two productions of stage (iv).  No other
    case is error-free (every other branch ends in `err_and_pop`). -/
theorem document_dispatch_cases (n : Nat) (s s' : PState) (t : Parse.Tok) (rest : List Parse.Tok) (st : Parse.St s)
    (hc : s.current = some t) (ht : Parse.Toks s = t :: rest)
    (h : (Parse.documentDispatch n t.kind).run s = .ok () s') (hnd : ¬ Parse.Doomed s') :
    (∃ ks, Parse.TsSel t rest ks ∧ Parse.St s' ∧ Parse.TrRes Parse.NoE s s' (Parse.TsR ks)) ∨
    (∃ sP d, Parse.St sP ∧ Parse.Toks sP = Parse.Toks s ∧ sP.builder = s.builder ∧ Parse.SelData t rest d ∧
      ((d = "fragment".toList ∧ (Parse.fragmentDefinition n).run sP = .ok () s') ∨
       ((d = "query".toList ∨ d = "mutation".toList ∨ d = "subscription".toList ∨ d = "{".toList) ∧
         (Parse.operationDefinition n).run sP = .ok () s'))) :=
  Parse.documentDispatch_cases n s s' t rest st hc ht h hnd

/-- **Stage (v), injectivity: the tokens determine the definition.**  If the tokens consumed for an accepted loose
    type-system definition or extension `l` (`l.wf`: the facts the parser establishes) are the tokens the serializer
    writes for a well-formed `d`, then what `from_cst` makes of `l` is `d`.  Proof through the reference parser: on
    `l.toks` it returns `looseConv l` (a leading `&` / `|` is accepted and not represented) or fails (a root operation
    type without its named type) — `Parse.loose_parse` —, on `tDefinition false d` it returns `d`
    (`definition_roundtrip`); covers all fifteen constructors. -/
theorem type_system_tokens_determine_definition (l : Parse.LooseDef) (d : Definition) (hw : l.wf = true)
    (hd : wfDefinition d = true) (h : l.toks = tDefinition false d) : FromCst.looseConv l = d :=
  Parse.loose_tokens_determine_definition l d hw hd h

/-- **Stage (v), injectivity, strict form.**  Under the same hypotheses the accepted loose definition uses neither
    liberty: `l.strict = some d` — a leading `&` / `|` would make the token list differ from the serializer's (the same
    tokens without it are the serializer's, too), a root operation type without its named type makes the reference
    parser fail. -/
theorem type_system_tokens_force_strict (l : Parse.LooseDef) (d : Definition) (hw : l.wf = true)
    (hd : wfDefinition d = true) (h : l.toks = tDefinition false d) : l.strict = some d :=
  Parse.loose_tokens_strict l d hw hd h

end PipelineTypeSystem

section PipelineWhole
open Apollo.Parse Apollo.Rowan

/-- **document_pipeline_agrees — every accepted document, the whole grammar.**  `Parser::parse` (model; no token limit,
    any recursion limit) without error: the significant tokens are `docToks its` for a non-empty list of items —
    executable definitions in the long or shorthand form, type-system definitions and extensions up to the two
    liberties (`LooseDef`: a leading `&` / `|` in a separated list, a root operation type without its named type) —
    every item with the well-formedness facts the parser establishes (`DocItem.wfB`), and `Document::from_cst` on the
    tree of the CST parser returns, item by item, `DocItem.conv` (for a loose definition `looseConv`: the leading
    separator is not represented, the incomplete root operation is dropped).
    STRICT CASE (`strictItems its = some items`: no liberty used): the tokens are the printer's tokens `itemsToks
    items`, every definition satisfies `wfDefinition` (established by the parser), `from_cst` returns exactly the definitions
    of `items`, and the reference parser `pDocument` returns the same list whenever the decomposition satisfies
    `ItemsFollowOk` (a shorthand query directly follows only a definition that always ends in `}`; automatic for
    executable documents, `followOk_of_closed`, and for the printer's shape, `followOk_tDocument`).  That is the
    statement `from_cst_agrees_with_reference_parser` up to (1) the two liberties — where the reference parser rejects
    and `from_cst` returns `looseConv` —, (2) `ItemsFollowOk` of the parser's own decomposition, which the
    per-definition theorems do not export (it is the parser's greediness: what the next token after a definition was),
    and (3) the fuel constant of `modelsAgree`. -/
theorem document_pipeline_agrees (rl : Nat) (src : Parse.Str) (root : Elem)
    (h : (parse .document none rl src).outcome = .tree root) (herr : (parse .document none rl src).errors = []) :
    Parse.LexClean src ∧ ∃ (ts : List Parse.Tok) (e : Parse.Tok) (its : List Parse.DocItem),
      Parse.sig (Parse.srcToks src) = ts ++ [e] ∧ e.kind = .eof ∧ its ≠ [] ∧
      ts.map Parse.astOfV = (Parse.docToks its).map some ∧ (∀ i ∈ its, i.wfB) ∧
      (FromCst.fromCst root).1 = its.map Parse.DocItem.conv ∧
      ∀ items, Parse.strictItems its = some items →
        items ≠ [] ∧ Parse.docToks its = itemsToks items ∧ (∀ a ∈ items, wfDefinition a.2 = true) ∧
        (FromCst.fromCst root).1 = items.map (·.2) ∧
        (ItemsFollowOk items → ∀ f, szDefinitions (items.map (·.2)) ≤ f →
          pDocument f (itemsToks items) = some ((FromCst.fromCst root).1)) :=
  Parse.parseDocument_agrees rl src root h herr

/-- C05's `document_accepted_reference_parser` WITHOUT its hypothesis (a): the well-formedness of the strict
    definitions is established by the parser (stage (iii)–(v) export `wfSel`, `wfVarDefs`, `LooseDef.wf`), so the only
    hypothesis is (b) `ItemsFollowOk`.  (Stated here because it rests on the tree calculus, which C05.lean does not import.) -/
theorem document_accepted_reference_parser_wf (rl : Nat) (src : Parse.Str)
    (herr : (parse .document none rl src).errors = []) :
    ∃ (ts : List Parse.Tok) (e : Parse.Tok) (its : List Parse.DocItem),
      Parse.sig (Parse.srcToks src) = ts ++ [e] ∧ e.kind = .eof ∧ ts.map Parse.astOfV = (Parse.docToks its).map some ∧
      ∀ items, Parse.strictItems its = some items →
        items ≠ [] ∧ Parse.docToks its = itemsToks items ∧ (∀ a ∈ items, wfDefinition a.2 = true) ∧
        (ItemsFollowOk items → ∀ f, szDefinitions (items.map (·.2)) ≤ f →
          pDocument f (itemsToks items) = some (items.map (·.2))) := by
  obtain ⟨root, hroot⟩ := Parse.parseDocument_tree none rl src
  obtain ⟨_, ts, e, its, h1, h2, _, h4, _, _, h7⟩ := Parse.parseDocument_agrees rl src root hroot herr
  refine ⟨ts, e, its, h1, h2, h4, fun items hs => ?_⟩
  obtain ⟨a, b, c, d, g⟩ := h7 items hs
  exact ⟨a, b, c, fun hf f hsz => by rw [← d]; exact g hf f hsz⟩

/-- **What an ACCEPTED printed document converts to, with the parser's decomposition left abstract.**  For every
    configuration and every non-empty well-formed document `doc` (all 17 definition kinds; names, IntValues, FloatValues
    of the grammar's syntax) whose printed text the CST parser model accepts at some recursion limit: the tree converts,
    item by item, to definitions whose tokens re-concatenate to the printed tokens, and `Document::from_cst` returns `doc`
    ITSELF provided the parser's decomposition uses no liberty and satisfies `ItemsFollowOk`.
    `pipeline_print_parse_document_closed` proves acceptance (within the recursion limit) and `from_cst = doc` without
    the two provisos: there the parser's decomposition is shown to be the printed one. -/
theorem printed_document_pipeline (pre : Option Ast.Str) (level : Nat) (doc : Document) (hne : doc ≠ [])
    (hwf : wfDefinitions doc = true) (hpre : ∀ p, pre = some p → p.all Apollo.Strs.isWs = true)
    (hn : NamesWf (docSegs pre level doc)) (hi : IntsSpec (docSegs pre level doc)) (hf : FloatsSpec (docSegs pre level doc))
    (rl : Nat) (root : Elem)
    (h : (parse .document none rl (serializeDocument pre level doc).out).outcome = .tree root)
    (herr : (parse .document none rl (serializeDocument pre level doc).out).errors = []) :
    ∃ its : List Parse.DocItem, its ≠ [] ∧
      Parse.docToks its = toksOf (cDocument (outputEmptyAtStart pre level) doc) ∧ (∀ i ∈ its, i.wfB) ∧
      (FromCst.fromCst root).1 = its.map Parse.DocItem.conv ∧
      ∀ items, Parse.strictItems its = some items → ItemsFollowOk items → (FromCst.fromCst root).1 = doc := by
  have hlex := text_lexes_back_full pre level doc hpre hn hi hf
  obtain ⟨_, ts, e, its, h1, h2, h3, h4, h5, h6, h7⟩ := Parse.parseDocument_agrees rl _ root h herr
  obtain ⟨_, ts', e', h1', _, h4'⟩ := (Parse.sigToks_src_iff _ _).mp hlex
  have hts : ts' = ts := by
    have hh := h1.symm.trans h1'
    have hl := congrArg List.length hh
    simp at hl
    exact ((List.append_inj hh hl).1).symm
  subst hts
  have htoks : Parse.docToks its = toksOf (cDocument (outputEmptyAtStart pre level) doc) := by
    have : (Parse.docToks its).map some = (toksOf (cDocument (outputEmptyAtStart pre level) doc)).map some := h4.symm.trans h4'
    exact Parse.map_some_inj this
  refine ⟨its, h3, htoks, h5, h6, fun items hs hfol => ?_⟩
  obtain ⟨a, b, c, d, g⟩ := h7 items hs
  have p1 := g hfol (max (szDefinitions (items.map (·.2))) (szDefinitions doc)) (Nat.le_max_left _ _)
  have p2 := document_roundtrip (outputEmptyAtStart pre level) doc
    (max (szDefinitions (items.map (·.2))) (szDefinitions doc)) hne hwf (Nat.le_max_right _ _)
  rw [← b, htoks, toksOf_cDocument, p2] at p1
  exact (Option.some.inj p1).symm

/-- **`from_cst_agrees_with_reference_parser` is FALSE as stated**: on the KNOWN FINDING of C05 (`schema { query: }` is
    accepted without error — `root_operation_type_definition` calls `named_type`, which silently does nothing) the CST
    parser model accepts, `Document::from_cst` returns a schema definition without that root operation, and the
    reference parser rejects the tokens.  (Kernel-evaluated.)  The true statement is `document_pipeline_agrees`: agreement
    in the strict case; on this input `strictItems` is `none`.  A leading `&` / `|`, the other liberty, is read by both
    models alike (`type T implements & A { a: Int }` agrees). -/
theorem from_cst_agreement_fails_on_incomplete_root_operation :
    (Apollo.Parse.parse .document none 500 "schema { query: }".toList).errors = [] ∧
      FromCst.modelsAgree "schema { query: }" = false ∧
      FromCst.modelsAgree "type T implements & A { a: Int }" = true := by
  decide +kernel

theorem from_cst_agrees_with_reference_parser_refuted : ¬ from_cst_agrees_with_reference_parser := by
  intro h
  have h1 := h "schema { query: }" from_cst_agreement_fails_on_incomplete_root_operation.1
  rw [from_cst_agreement_fails_on_incomplete_root_operation.2.1] at h1
  cases h1

theorem wfDefinitions_mem : ∀ (ds : List Definition), wfDefinitions ds = true → ∀ x ∈ ds, wfDefinition x = true
  | [], _, x, hx => by cases hx
  | d :: r, h, x, hx => by
    simp only [wfDefinitions, Bool.and_eq_true] at h
    rcases List.mem_cons.mp hx with rfl | hx
    · exact h.1
    · exact wfDefinitions_mem r h.2 x hx

/-- **pipeline_print_parse_document — serialize, then the REAL pipeline, gives the document back.**  For every
    configuration (white-space indentation prefix or none, any level) and every well-formed non-empty document `d :: r`
    of ALL 17 definition kinds (names, IntValues, FloatValues of the grammar's syntax): the printed text is accepted by
    the CST parser model without error, and `Document::from_cst` on its tree returns the document ITSELF.
    Here the guards are hypotheses on `its`, the document as items of C05's completeness theorem
    `strict_document_accept_complete`: the same definitions, `strictItems its = some [(output_empty, d), (false, r₁), …]`,
    within the recursion limit (`itemFit rl`) and each definition allowed before the first token of the next
    (`DocFollowOk`, the follow guard of C05).  `pipeline_print_parse_document_exact` / `_closed` below take
    `its = Parse.itemsOfDocument`, prove `strictItems` and the follow guard, and read the recursion guard on `d :: r`.
    How: `text_lexes_back_full` (text), `token_view_bridge` (token views), the completeness run and the tree
    calculus on the SAME run (`Parse.docLoop_trG`: each dispatch consumes exactly the tokens of the next printed
    definition, so the parser's decomposition IS the printed one — greediness without exporting follow tokens),
    `Parse.loose_tokens_determine_definition` (the tokens of a type-system item determine what `from_cst` makes
    of it, the two liberties included), `Document::from_cst` on the DOCUMENT root. -/
theorem pipeline_print_parse_document (pre : Option Ast.Str) (level : Nat) (d : Definition) (r : List Definition)
    (hwf : wfDefinitions (d :: r) = true) (hpre : ∀ p, pre = some p → p.all Apollo.Strs.isWs = true)
    (hn : NamesWf (docSegs pre level (d :: r))) (hi : IntsSpec (docSegs pre level (d :: r)))
    (hf : FloatsSpec (docSegs pre level (d :: r)))
    (rl : Nat) (its : List Parse.DocItem)
    (hstrict : Parse.strictItems its = some ((outputEmptyAtStart pre level, d) :: r.map (fun x => (false, x))))
    (hfit : ∀ i ∈ its, Parse.itemFit rl i) (hfol : Parse.DocFollowOk its) :
    (parse .document none rl (serializeDocument pre level (d :: r)).out).errors = [] ∧
    ∃ root, (parse .document none rl (serializeDocument pre level (d :: r)).out).outcome = .tree root ∧
      (FromCst.fromCst root).1 = d :: r := by
  have hlex := text_lexes_back_full pre level (d :: r) hpre hn hi hf
  rw [toksOf_cDocument, tDocument_items] at hlex
  obtain ⟨hclean, ts, e, hsig, he, hx⟩ := (Parse.sigToks_src_iff _ _).mp hlex
  have hne : its ≠ [] := by
    rintro rfl
    simp [Parse.strictItems] at hstrict
  have hw : ∀ a ∈ ((outputEmptyAtStart pre level, d) :: r.map (fun x => (false, x)) : List (Bool × Definition)),
      wfDefinition a.2 = true := by
    intro a ha
    rcases List.mem_cons.mp ha with rfl | ha
    · exact wfDefinitions_mem _ hwf d (by simp)
    · obtain ⟨x, hx', rfl⟩ := List.mem_map.mp ha
      exact wfDefinitions_mem _ hwf x (by simp [hx'])
  obtain ⟨herr, root, hroot, hconv⟩ := Parse.pipeline_strict_document rl _ its _ hstrict hw hne hfit hfol ts e hclean hsig he hx
  refine ⟨herr, root, hroot, ?_⟩
  rw [hconv]
  simp [List.map_map, Function.comp_def]

/-- `strictItems` inverts `Parse.itemsOfDocument` (operation / fragment → `.exec`, a type-system definition or extension →
    the strict `.loose l` with `l.strict = some d`) on well-formed documents -/
theorem printed_document_items_strict (oe : Bool) (d : Definition) (r : List Definition)
    (hwf : wfDefinitions (d :: r) = true) :
    Parse.strictItems (Parse.itemsOfDocument oe (d :: r)) = some ((Parse.itemFlag oe d, d) :: r.map (fun x => (false, x))) ∧
      itemsToks ((Parse.itemFlag oe d, d) :: r.map (fun x => (false, x))) = tDocument oe (d :: r) := by
  refine ⟨Parse.strictItems_itemsOfDocument oe d r (wfDefinitions_mem _ hwf), ?_⟩
  rw [Parse.itemsToks_flag, tDocument_items]

/-- **the follow guard of C05 `document_accept_complete` is a theorem for printed documents**: in the serializer's shape
    (shorthand form only for the first definition) every next definition starts with a description or a keyword —
    never `{`, `@`, `(`, `&`, `|`, `=`, never the Name `implements` — which is what `looseFollow` asks of the token after
    a type-system definition -/
theorem printed_document_follow_ok (oe : Bool) (ds : List Definition) (hwf : wfDefinitions ds = true) :
    Parse.DocFollowOk (Parse.itemsOfDocument oe ds) :=
  Parse.docFollowOk_of_printed oe ds (wfDefinitions_mem _ hwf)

/-- **serialize, then the REAL pipeline, gives the document back, within the EXACT recursion budget.**  For every
    configuration and every well-formed non-empty document `d :: r` of all 17 definition kinds (names, IntValues,
    FloatValues of the grammar's syntax) whose definitions are within the exact budget (`Parse.Exact.definitionFit rl`:
    the guards of C05 read on the abstract syntax with `Exact.vdepth`, under which the empty literals `[]` / `{}` cost
    nothing): the printed text parses with ZERO errors and `Document::from_cst` on its tree returns `d :: r`.  The items
    are `Parse.itemsOfDocument`; their `strictItems` and the follow guard are proved (`printed_document_items_strict`,
    `Exact.docFollowOk_of_printed`), the run is the one the exact completeness calculus describes
    (`Exact.pipeline_strict_document`). -/
theorem pipeline_print_parse_document_exact (pre : Option Ast.Str) (level : Nat) (d : Definition) (r : List Definition)
    (hwf : wfDefinitions (d :: r) = true) (hpre : ∀ p, pre = some p → p.all Apollo.Strs.isWs = true)
    (hn : NamesWf (docSegs pre level (d :: r))) (hi : IntsSpec (docSegs pre level (d :: r)))
    (hf : FloatsSpec (docSegs pre level (d :: r)))
    (rl : Nat) (hfit : ∀ x ∈ d :: r, Parse.Exact.definitionFit rl x) :
    (parse .document none rl (serializeDocument pre level (d :: r)).out).errors = [] ∧
    ∃ root, (parse .document none rl (serializeDocument pre level (d :: r)).out).outcome = .tree root ∧
      (FromCst.fromCst root).1 = d :: r := by
  have hlex := text_lexes_back_full pre level (d :: r) hpre hn hi hf
  rw [toksOf_cDocument] at hlex
  obtain ⟨hclean, ts, e, hsig, he, hx⟩ := (Parse.sigToks_src_iff _ _).mp hlex
  obtain ⟨hstrict, htoks⟩ := printed_document_items_strict (outputEmptyAtStart pre level) d r hwf
  have hw : ∀ a ∈ ((Parse.itemFlag (outputEmptyAtStart pre level) d, d) :: r.map (fun x => (false, x)) : List (Bool × Definition)),
      wfDefinition a.2 = true := by
    intro a ha
    rcases List.mem_cons.mp ha with rfl | ha
    · exact wfDefinitions_mem _ hwf d (by simp)
    · obtain ⟨x, hx', rfl⟩ := List.mem_map.mp ha
      exact wfDefinitions_mem _ hwf x (by simp [hx'])
  obtain ⟨herr, root, hroot, hconv⟩ := Parse.Exact.pipeline_strict_document rl _ (Parse.itemsOfDocument (outputEmptyAtStart pre level) (d :: r)) _
    hstrict hw (by simp [Parse.itemsOfDocument])
    (Parse.Exact.itemFit_itemsOfDocument rl _ (d :: r) hfit) (Parse.Exact.docFollowOk_of_printed _ (d :: r) (wfDefinitions_mem _ hwf)) ts e hclean hsig he
    (by rw [htoks]; exact hx)
  refine ⟨herr, root, hroot, ?_⟩
  rw [hconv]
  simp [List.map_map, Function.comp_def]

/-- **pipeline_print_parse_document, closed**: serialize, then the REAL pipeline, gives the document back — with no
    hypothesis about items, only about `d :: r`.  For every configuration and every well-formed non-empty document `d :: r`
    of all 17 definition kinds (names, IntValues, FloatValues of the grammar's syntax) whose definitions are within the
    recursion limit (`Parse.definitionFit rl`: the guards of C05 `document_accept_complete` read on the abstract
    syntax — nesting of types / values / selection sets within `rl`, `Const` positions, enum values, names ≠ `on`,
    directive locations among the nineteen, an extension has a component): the printed text parses with ZERO errors and
    `Document::from_cst` on its tree returns `d :: r`.  A corollary of `pipeline_print_parse_document_exact`:
    `Parse.definitionFit` implies `Parse.Exact.definitionFit`. -/
theorem pipeline_print_parse_document_closed (pre : Option Ast.Str) (level : Nat) (d : Definition) (r : List Definition)
    (hwf : wfDefinitions (d :: r) = true) (hpre : ∀ p, pre = some p → p.all Apollo.Strs.isWs = true)
    (hn : NamesWf (docSegs pre level (d :: r))) (hi : IntsSpec (docSegs pre level (d :: r)))
    (hf : FloatsSpec (docSegs pre level (d :: r)))
    (rl : Nat) (hfit : ∀ x ∈ d :: r, Parse.definitionFit rl x) :
    (parse .document none rl (serializeDocument pre level (d :: r)).out).errors = [] ∧
    ∃ root, (parse .document none rl (serializeDocument pre level (d :: r)).out).outcome = .tree root ∧
      (FromCst.fromCst root).1 = d :: r :=
  -- the charged guard implies the exact one (`Exact.vdepth v ≤ vdepth v`)
  pipeline_print_parse_document_exact pre level d r hwf hpre hn hi hf rl (fun x hx => (hfit x hx).exact)

end PipelineWhole

section PropertyStatement
open Apollo.Parse Apollo.Rowan

theorem wfDefinitions_of_mem : ∀ (ds : List Definition), (∀ x ∈ ds, wfDefinition x = true) → wfDefinitions ds = true
  | [], _ => rfl
  | d :: r, h => by
    simp only [wfDefinitions, Bool.and_eq_true]
    exact ⟨h d (by simp), wfDefinitions_of_mem r (fun x hx => h x (by simp [hx]))⟩

/-- **reprint_byte_identical** (the last clause of the property, on the real pipeline model): for every configuration
    and every well-formed non-empty document within the recursion limit, printing, parsing with the CST parser model,
    converting with `Document::from_cst` and printing again gives byte-identical text. -/
theorem reprint_byte_identical (pre : Option Ast.Str) (level : Nat) (d : Definition) (r : List Definition)
    (hwf : wfDefinitions (d :: r) = true) (hpre : ∀ p, pre = some p → p.all Apollo.Strs.isWs = true)
    (hn : NamesWf (docSegs pre level (d :: r))) (hi : IntsSpec (docSegs pre level (d :: r)))
    (hf : FloatsSpec (docSegs pre level (d :: r)))
    (rl : Nat) (hfit : ∀ x ∈ d :: r, Parse.definitionFit rl x) :
    ∃ root, (parse .document none rl (serializeDocument pre level (d :: r)).out).outcome = .tree root ∧
      (serializeDocument pre level (FromCst.fromCst root).1).out = (serializeDocument pre level (d :: r)).out := by
  obtain ⟨_, root, hroot, hconv⟩ := pipeline_print_parse_document_closed pre level d r hwf hpre hn hi hf rl hfit
  exact ⟨root, hroot, by rw [hconv]⟩

/-- The step every round-trip theorem below ends with.  `items` are the strict items of an accepted source: their tokens
    are tokens of that source (`hok`, so every Name, IntValue and FloatValue has the grammar's syntax and the printer's
    hypotheses `NamesWf` / `IntsSpec` / `FloatsSpec` hold of the printed text) and they are well formed.  Then their
    definitions `D` are a non-empty well-formed document and, for every configuration and every recursion limit within
    whose exact budget they fit, the print of `D` parses with no error to a tree that converts to `D`, and prints again
    to the same text. -/
theorem reprint_items (items : List Ast.Item) (hne : items.map (·.2) ≠ [])
    (hok : ∀ t ∈ itemsToks items, Parse.TokOkA t) (hwf : ∀ i ∈ items, wfDefinition i.2 = true) :
    items.map (·.2) ≠ [] ∧ wfDefinitions (items.map (·.2)) = true ∧
    ∀ (pre : Option Ast.Str) (level : Nat), (∀ p, pre = some p → p.all Apollo.Strs.isWs = true) →
    ∀ rl : Nat, (∀ x ∈ items.map (·.2), Parse.Exact.definitionFit rl x) →
      (parse .document none rl (serializeDocument pre level (items.map (·.2))).out).errors = [] ∧
      ∃ root2, (parse .document none rl (serializeDocument pre level (items.map (·.2))).out).outcome = .tree root2 ∧
        (FromCst.fromCst root2).1 = items.map (·.2) ∧
        (serializeDocument pre level (FromCst.fromCst root2).1).out =
          (serializeDocument pre level (items.map (·.2))).out := by
  have hwfm : ∀ x ∈ items.map (·.2), wfDefinition x = true := by
    intro x hx
    obtain ⟨i, hi, rfl⟩ := List.mem_map.mp hx
    exact hwf i hi
  refine ⟨hne, wfDefinitions_of_mem _ hwfm, ?_⟩
  intro pre level hpre rl hfit
  obtain ⟨hn, hi, hf⟩ := Parse.segs_hyps_of_toks pre level (items.map (·.2))
    (Parse.tokOkA_printed (outputEmptyAtStart pre level) items hok)
  cases hD : items.map (·.2) with
  | nil => exact absurd hD hne
  | cons x r =>
    rw [hD] at hn hi hf hfit hwfm
    obtain ⟨e1, root2, e2, e3⟩ :=
      pipeline_print_parse_document_exact pre level x r (wfDefinitions_of_mem _ hwfm) hpre hn hi hf rl hfit
    exact ⟨e1, root2, e2, e3, by rw [e3]⟩

/-- **parsed_document_roundtrip — property C08 on the real pipeline model, re-parsing at ANY recursion limit the AST
    fits in.**  Let `src` be ANY source that `Parser::parse` (model; no token limit, recursion limit `rl`) accepts with
    zero errors, `root` its tree and
    `D = Document::from_cst root` its AST.  Then EITHER the accepted text uses one of the two liberties of the parser
    (`strictItems its = none` for the decomposition `its` of `document_pipeline_agrees`: a leading `&` / `|` in a
    separated list, or a root operation type without its named type — the recorded C05 finding), OR:
    `D` is non-empty and well-formed, and for EVERY configuration (white-space indentation prefix or none, any level) and
    every recursion limit `rl2` within which the definitions of `D` fit (`definitionFit rl2`, the single explicit
    hypothesis; for `rl2 = rl`, `parsed_document_roundtrip_unconditional` does without it):
    serializing `D` and parsing the text again gives NO errors and an EQUAL AST (`from_cst` of the new tree is `D`), and
    serializing the re-parsed AST gives BYTE-IDENTICAL text.
    No hypothesis on names or numbers: that every Name of `D` is a GraphQL name and every Int / Float an IntValue /
    FloatValue text is derived from the lexer model (`nameQ_srcToks`, `numQ_srcToks` through `lex_ok_tokens_sound`) and
    carried through the printer's tokens (`tokOkA_printed`: the only token the printer adds is the keyword `query`). -/
theorem parsed_document_roundtrip (rl : Nat) (src : Parse.Str) (root : Elem)
    (h : (parse .document none rl src).outcome = .tree root) (herr : (parse .document none rl src).errors = []) :
    (∃ its : List Parse.DocItem, sigToks (Apollo.Lex.lex none src) = some (Parse.docToks its) ∧
        (FromCst.fromCst root).1 = its.map Parse.DocItem.conv ∧ Parse.strictItems its = none) ∨
    ((FromCst.fromCst root).1 ≠ [] ∧ wfDefinitions (FromCst.fromCst root).1 = true ∧
      ∀ (pre : Option Ast.Str) (level : Nat), (∀ p, pre = some p → p.all Apollo.Strs.isWs = true) →
      ∀ rl2 : Nat, (∀ x ∈ (FromCst.fromCst root).1, Parse.definitionFit rl2 x) →
        (parse .document none rl2 (serializeDocument pre level (FromCst.fromCst root).1).out).errors = [] ∧
        ∃ root2, (parse .document none rl2 (serializeDocument pre level (FromCst.fromCst root).1).out).outcome = .tree root2 ∧
          (FromCst.fromCst root2).1 = (FromCst.fromCst root).1 ∧
          (serializeDocument pre level (FromCst.fromCst root2).1).out =
            (serializeDocument pre level (FromCst.fromCst root).1).out) := by
  obtain ⟨hclean, ts, e, its, h1, h2, h3, h4, h5, h6, h7⟩ := Parse.parseDocument_agrees rl src root h herr
  cases hs : Parse.strictItems its with
  | none =>
    exact Or.inl ⟨its, (Parse.sigToks_src_iff src _).mpr ⟨hclean, ts, e, h1, h2, h4⟩, h6, hs⟩
  | some items =>
    right
    obtain ⟨a, b, c, dd, _⟩ := h7 items hs
    have hok : ∀ t ∈ itemsToks items, Parse.TokOkA t :=
      Parse.tokOkA_of_src src hclean ts e h1 (itemsToks items) (by rw [← b]; exact h4)
    rw [dd]
    obtain ⟨hne, hwf, rt⟩ := reprint_items items (by simpa using a) hok c
    exact ⟨hne, hwf, fun pre level hpre rl2 hfit => rt pre level hpre rl2 (fun x hx => (hfit x hx).exact)⟩

/-- **parsed_document_roundtrip at the SAME recursion limit, with a hypothesis on the parser's own items.**  For every
    source accepted with zero errors at recursion limit `rl`, with `D = Document::from_cst` of its tree and `its` the
    decomposition of `document_pipeline_agrees` (tokens = `docToks its`, `D = its.map DocItem.conv`): either the text uses
    a liberty (`strictItems its = none`), or — PROVIDED every item satisfies the (charged) guard `Parse.itemFit rl` of C05
    `document_accept_complete` — for every configuration `print D` parses with ZERO errors at the SAME `rl`, `from_cst`
    gives `D` again, and the reprint is byte-identical.  `definitionFit rl` of the AST is derived from `itemFit rl` of the
    strict items (`Parse.definitionFit_of_strict_items`: `itemOfDef` inverts `DocItem.strict`).
    The charged guard `Parse.itemFit` and the exact budget `Exact.itemFit` differ on empty list / object literals `[]`,
    `{}`; `parsed_document_roundtrip_same_limit_exact` takes the sound-side guard `Exact.itemFitX rl` instead, and
    `parsed_document_roundtrip_unconditional` proves the round trip at the same `rl` with no such hypothesis. -/
theorem parsed_document_roundtrip_same_limit (rl : Nat) (src : Parse.Str) (root : Elem)
    (h : (parse .document none rl src).outcome = .tree root) (herr : (parse .document none rl src).errors = []) :
    ∃ its : List Parse.DocItem, sigToks (Apollo.Lex.lex none src) = some (Parse.docToks its) ∧
      (FromCst.fromCst root).1 = its.map Parse.DocItem.conv ∧
      (Parse.strictItems its = none ∨
       ((∀ i ∈ its, Parse.itemFit rl i) →
        ∀ (pre : Option Ast.Str) (level : Nat), (∀ p, pre = some p → p.all Apollo.Strs.isWs = true) →
          (parse .document none rl (serializeDocument pre level (FromCst.fromCst root).1).out).errors = [] ∧
          ∃ root2, (parse .document none rl (serializeDocument pre level (FromCst.fromCst root).1).out).outcome = .tree root2 ∧
            (FromCst.fromCst root2).1 = (FromCst.fromCst root).1 ∧
            (serializeDocument pre level (FromCst.fromCst root2).1).out =
              (serializeDocument pre level (FromCst.fromCst root).1).out)) := by
  obtain ⟨hclean, ts, e, its, h1, h2, h3, h4, h5, h6, h7⟩ := Parse.parseDocument_agrees rl src root h herr
  refine ⟨its, (Parse.sigToks_src_iff src _).mpr ⟨hclean, ts, e, h1, h2, h4⟩, h6, ?_⟩
  cases hs : Parse.strictItems its with
  | none => exact Or.inl rfl
  | some items =>
    right
    intro hfit pre level hpre
    obtain ⟨a, b, c, dd, _⟩ := h7 items hs
    have hok : ∀ t ∈ itemsToks items, Parse.TokOkA t :=
      Parse.tokOkA_of_src src hclean ts e h1 (itemsToks items) (by rw [← b]; exact h4)
    have hdf := Parse.definitionFit_of_strict_items rl its items hs hfit
    rw [dd]
    exact (reprint_items items (by simpa using a) hok c).2.2 pre level hpre rl (fun x hx => (hdf x hx).exact)

/-- **parsed_document_roundtrip at the same recursion limit, EXACT guard**: as
    `parsed_document_roundtrip_same_limit`, with the hypothesis on the parser's own items being the sound-side guard
    `Parse.Exact.itemFitX rl` — the guard C05 `document_accept_sound_exact_unconditional` establishes for its decomposition
    (`itemFitX → Exact.itemFit` on strict items: `Parse.Exact.itemFit_of_itemFitX_strict`, all root names present).
    `parsed_document_roundtrip_unconditional` establishes the guard for the strict items of the run's own decomposition,
    so has no such hypothesis. -/
theorem parsed_document_roundtrip_same_limit_exact (rl : Nat) (src : Parse.Str) (root : Elem)
    (h : (parse .document none rl src).outcome = .tree root) (herr : (parse .document none rl src).errors = []) :
    ∃ its : List Parse.DocItem, sigToks (Apollo.Lex.lex none src) = some (Parse.docToks its) ∧
      (FromCst.fromCst root).1 = its.map Parse.DocItem.conv ∧
      (Parse.strictItems its = none ∨
       ((∀ i ∈ its, Parse.Exact.itemFitX rl i) →
        ∀ (pre : Option Ast.Str) (level : Nat), (∀ p, pre = some p → p.all Apollo.Strs.isWs = true) →
          (parse .document none rl (serializeDocument pre level (FromCst.fromCst root).1).out).errors = [] ∧
          ∃ root2, (parse .document none rl (serializeDocument pre level (FromCst.fromCst root).1).out).outcome = .tree root2 ∧
            (FromCst.fromCst root2).1 = (FromCst.fromCst root).1 ∧
            (serializeDocument pre level (FromCst.fromCst root2).1).out =
              (serializeDocument pre level (FromCst.fromCst root).1).out)) := by
  obtain ⟨hclean, ts, e, its, h1, h2, h3, h4, h5, h6, h7⟩ := Parse.parseDocument_agrees rl src root h herr
  refine ⟨its, (Parse.sigToks_src_iff src _).mpr ⟨hclean, ts, e, h1, h2, h4⟩, h6, ?_⟩
  cases hs : Parse.strictItems its with
  | none => exact Or.inl rfl
  | some items =>
    right
    intro hfitX pre level hpre
    have hfit : ∀ i ∈ its, Parse.Exact.itemFit rl i := by
      intro i hi
      have : ∃ a, i.strict = some a := by
        clear hfitX h7 h6 h5 h4 h3
        induction its generalizing items with
        | nil => cases hi
        | cons j r ih =>
          simp only [Parse.strictItems] at hs
          cases hj : j.strict with
          | none => rw [hj] at hs; simp at hs
          | some a =>
            cases hr : Parse.strictItems r with
            | none => rw [hj, hr] at hs; simp at hs
            | some b =>
              rcases List.mem_cons.mp hi with rfl | hi'
              · exact ⟨a, hj⟩
              · exact ih b hr hi'
      obtain ⟨a, ha⟩ := this
      exact Parse.Exact.itemFit_of_itemFitX_strict rl i a ha (hfitX i hi)
    obtain ⟨a, b, c, dd, _⟩ := h7 items hs
    have hok : ∀ t ∈ itemsToks items, Parse.TokOkA t :=
      Parse.tokOkA_of_src src hclean ts e h1 (itemsToks items) (by rw [← b]; exact h4)
    have hdf := Parse.Exact.definitionFit_of_strict_items rl its items hs hfit
    rw [dd]
    exact (reprint_items items (by simpa using a) hok c).2.2 pre level hpre rl hdf

/-- **parsed_document_roundtrip_unconditional, executable documents.**  For EVERY source that `Parser::parse` (model; no
    token limit) accepts with zero errors at recursion limit `rl` and whose tree holds executable definitions only
    (`ExecRoot`), with `D = Document::from_cst` of the tree: for every configuration, serializing `D` and parsing the text
    again AT THE SAME `rl` gives NO errors and an EQUAL AST, and serializing the re-parsed AST gives BYTE-IDENTICAL text.
    There is no further hypothesis — no `definitionFit`, no syntax hypothesis on names or numbers, no liberty case
    (executable items are always strict).  How: the tree calculus and the exact soundness calculus of C05
    run on the SAME dispatch run (`Parse.docLoop_trS`, `Parse.parseDocument_cstS`), the exact budget implies
    well-formedness (`Parse.Exact.execFit_wf`), so the two views of an item are the same definition
    (`Parse.Exact.exec_item_fit`) and each definition of `D` is within the exact budget of the accepted run. -/
theorem parsed_document_roundtrip_unconditional_executable (rl : Nat) (src : Parse.Str) (root : Elem)
    (h : (parse .document none rl src).outcome = .tree root) (herr : (parse .document none rl src).errors = [])
    (hexec : Parse.ExecRoot root) (pre : Option Ast.Str) (level : Nat)
    (hpre : ∀ p, pre = some p → p.all Apollo.Strs.isWs = true) :
    (parse .document none rl (serializeDocument pre level (FromCst.fromCst root).1).out).errors = [] ∧
    ∃ root2, (parse .document none rl (serializeDocument pre level (FromCst.fromCst root).1).out).outcome = .tree root2 ∧
      (FromCst.fromCst root2).1 = (FromCst.fromCst root).1 ∧
      (serializeDocument pre level (FromCst.fromCst root2).1).out =
        (serializeDocument pre level (FromCst.fromCst root).1).out := by
  obtain ⟨hclean, ts, e, its, h1, h2, h3, h4, h5, h6⟩ := Parse.Exact.parseExecutableDocument_fit rl src root h herr hexec
  have hok : ∀ t ∈ itemsToks its, Parse.TokOkA t := Parse.tokOkA_of_src src hclean ts e h1 (itemsToks its) h4
  rw [h6]
  have hdf : ∀ x ∈ its.map (·.2), Parse.Exact.definitionFit rl x := by
    intro x hx
    obtain ⟨i, hi, rfl⟩ := List.mem_map.mp hx
    exact (h5 i hi).2
  exact (reprint_items its (by simpa using h3) hok (fun i hi => (h5 i hi).1)).2.2 pre level hpre rl hdf

/-- **parsed_document_roundtrip_unconditional — property C08 on the real pipeline model, acceptance the only hypothesis.**  For EVERY
    source `src` that `Parser::parse` (model; no token limit) accepts with zero errors at recursion limit `rl`, with `root`
    its tree and `D = Document::from_cst root`: EITHER the accepted text uses one of the two liberties of the parser
    (`strictItems its = none` for the decomposition `its` of the run: a leading `&` / `|` in a separated list, or a root
    operation type without its named type — the recorded C05 finding), OR, for EVERY configuration (white-space
    indentation prefix or none, any level): serializing `D` and parsing the text again AT THE SAME `rl` gives NO errors
    and an EQUAL AST (`from_cst` of the new tree is `D`), and serializing the re-parsed AST gives BYTE-IDENTICAL text.
    No `definitionFit` hypothesis, no hypothesis on names or numbers.  The three steps: (1) the tree calculus and the
    exact soundness calculus of C05 run on the SAME dispatch run (`Parse.docLoop_trS`); the exact budget implies the
    well-formedness facts (`Exact.execFit_wf`, `Exact.looseFitX_wf`), so the two views of an item are the same item
    (`Exact.exec_item_fit`, `Exact.loose_item_fit` through `Parse.loose_tokens_strict`) and every strict item is
    within the exact budget `rl` of the accepted run; (2) `Exact.itemFit_of_itemFitX_strict`; (3) the print-parse
    theorem over the exact budget, `pipeline_print_parse_document_exact`, through `reprint_items`. -/
theorem parsed_document_roundtrip_unconditional (rl : Nat) (src : Parse.Str) (root : Elem)
    (h : (parse .document none rl src).outcome = .tree root) (herr : (parse .document none rl src).errors = []) :
    (∃ its : List Parse.DocItem, sigToks (Apollo.Lex.lex none src) = some (Parse.docToks its) ∧
        (FromCst.fromCst root).1 = its.map Parse.DocItem.conv ∧ Parse.strictItems its = none) ∨
    ((FromCst.fromCst root).1 ≠ [] ∧ wfDefinitions (FromCst.fromCst root).1 = true ∧
      ∀ (pre : Option Ast.Str) (level : Nat), (∀ p, pre = some p → p.all Apollo.Strs.isWs = true) →
        (parse .document none rl (serializeDocument pre level (FromCst.fromCst root).1).out).errors = [] ∧
        ∃ root2, (parse .document none rl (serializeDocument pre level (FromCst.fromCst root).1).out).outcome = .tree root2 ∧
          (FromCst.fromCst root2).1 = (FromCst.fromCst root).1 ∧
          (serializeDocument pre level (FromCst.fromCst root2).1).out =
            (serializeDocument pre level (FromCst.fromCst root).1).out) := by
  obtain ⟨hclean, ts, e, its, h1, h2, h3, h4, h6, h7⟩ := Parse.Exact.parseDocument_agrees_fit rl src root h herr
  cases hs : Parse.strictItems its with
  | none =>
    exact Or.inl ⟨its, (Parse.sigToks_src_iff src _).mpr ⟨hclean, ts, e, h1, h2, h4⟩, h6, hs⟩
  | some items =>
    right
    obtain ⟨a, b, c, dd, hdf⟩ := h7 items hs
    have hok : ∀ t ∈ itemsToks items, Parse.TokOkA t := Parse.tokOkA_of_src src hclean ts e h1 (itemsToks items) b
    rw [dd]
    obtain ⟨hne, hwf, rt⟩ := reprint_items items (by simpa using a) hok c
    exact ⟨hne, hwf, fun pre level hpre => rt pre level hpre rl hdf⟩

/-- **parsed_document_roundtrip_leading_separator — the first liberty does not break the property.**  For EVERY source
    accepted with zero errors at `rl`, with `its` the decomposition of the run and `D = Document::from_cst` of the tree: if
    every root operation type of every schema definition / extension has its named type (`DocItem.named`; leading `&` / `|`
    separators are allowed anywhere), then `D` is non-empty and well-formed and, for every configuration, serializing `D`
    and parsing again AT THE SAME `rl` gives NO errors and an EQUAL AST, and the reprint is BYTE-IDENTICAL.  (`from_cst`
    does not represent the leading separator: `D` is the strict reading of the items without it, `LooseDef.unlead`; the
    exact budget and the well-formedness facts do not see the separator, `looseFitX_unlead`, `wf_unlead`; the item of the
    exact soundness calculus on the same tokens is identified through the reference parser, which reads a leading
    separator — `Parse.loose_parse`, in its two cases `loose_parse_named` / `loose_parse_nameless`.)  With
    `parsed_document_roundtrip_unconditional` the only accepted sources for which the property is not proved are those
    with a root operation type WITHOUT its named type — the recorded C05 finding, see
    `parsed_document_roundtrip_fails_on_finding`. -/
theorem parsed_document_roundtrip_leading_separator (rl : Nat) (src : Parse.Str) (root : Elem)
    (h : (parse .document none rl src).outcome = .tree root) (herr : (parse .document none rl src).errors = []) :
    ∃ its : List Parse.DocItem, sigToks (Apollo.Lex.lex none src) = some (Parse.docToks its) ∧
      (FromCst.fromCst root).1 = its.map Parse.DocItem.conv ∧
      ((∀ i ∈ its, i.named) →
        (FromCst.fromCst root).1 ≠ [] ∧ wfDefinitions (FromCst.fromCst root).1 = true ∧
        ∀ (pre : Option Ast.Str) (level : Nat), (∀ p, pre = some p → p.all Apollo.Strs.isWs = true) →
          (parse .document none rl (serializeDocument pre level (FromCst.fromCst root).1).out).errors = [] ∧
          ∃ root2, (parse .document none rl (serializeDocument pre level (FromCst.fromCst root).1).out).outcome = .tree root2 ∧
            (FromCst.fromCst root2).1 = (FromCst.fromCst root).1 ∧
            (serializeDocument pre level (FromCst.fromCst root2).1).out =
              (serializeDocument pre level (FromCst.fromCst root).1).out) := by
  obtain ⟨hclean, ts, e, its, h1, h2, h3, h4, h6, h7⟩ := Parse.Exact.parseDocument_agrees_named rl src root h herr
  refine ⟨its, (Parse.sigToks_src_iff src _).mpr ⟨hclean, ts, e, h1, h2, h4⟩, h6, ?_⟩
  intro hnamed
  obtain ⟨items, a, dd, c, hdf, hsub⟩ := h7 hnamed
  have hsrc : ∀ t ∈ Parse.docToks its, Parse.TokOkA t := Parse.tokOkA_of_src src hclean ts e h1 (Parse.docToks its) h4
  have hok : ∀ t ∈ itemsToks items, Parse.TokOkA t := fun t ht => hsrc t (hsub t ht)
  rw [dd]
  obtain ⟨hne, hwf, rt⟩ := reprint_items items (by simpa using a) hok c
  exact ⟨hne, hwf, fun pre level hpre => rt pre level hpre rl hdf⟩

/-- the AST the pipeline model returns for a source (`Document::from_cst` of the tree of `Parser::parse`, recursion limit 500) -/
def astOfSource (src : String) : Document :=
  (FromCst.fromCst (Parse.rootOf (Apollo.Parse.parse .document none 500 src.toList))).1

/-- **parsed_document_roundtrip_fails_on_finding — the C08-visible consequence of the recorded C05 finding**
    (kernel-evaluated on the model).  `schema { query: }` is accepted with zero errors (`root_operation_type_definition`
    calls `named_type`, which silently does nothing when no Name follows); `Document::from_cst` drops the root operation
    without a type, so the AST is a schema definition WITHOUT root operations; the serializer prints `schema {}`; and
    parsing that text reports an error.  "Every document that parses without errors re-parses without errors after
    serialization" is FALSE for this source. -/
theorem parsed_document_roundtrip_fails_on_finding :
    (Apollo.Parse.parse .document none 500 "schema { query: }".toList).errors = [] ∧
    (serializeDocument none 0 (astOfSource "schema { query: }")).out = "schema {}".toList ∧
    (Apollo.Parse.parse .document none 500 (serializeDocument none 0 (astOfSource "schema { query: }")).out).errors ≠ [] := by
  decide +kernel

/-- what happens on the other nameless-root inputs (kernel-evaluated): `from_cst` drops the nameless root; when a root
    with its type remains (`schema { query: Q mutation: }` → `schema { query: Q }`) or the definition is an extension with
    a directive (`extend schema @d { query: }` → `extend schema @d`), the AST `D` obtained is NOT the one the source
    spells, but `D` itself is a fixed point: printing `D` parses with zero errors, to the same AST (equal dumps), and the
    reprint is byte-identical. -/
theorem nameless_root_fixed_points :
    (∀ src ∈ ["schema { query: Q mutation: }", "extend schema @d { query: }"],
      (Apollo.Parse.parse .document none 500 src.toList).errors = [] ∧
      (Apollo.Parse.parse .document none 500 (serializeDocument none 0 (astOfSource src)).out).errors = [] ∧
      Ast.dDocument (FromCst.fromCst (Parse.rootOf (Apollo.Parse.parse .document none 500
          (serializeDocument none 0 (astOfSource src)).out))).1 = Ast.dDocument (astOfSource src) ∧
      (serializeDocument none 0 (FromCst.fromCst (Parse.rootOf (Apollo.Parse.parse .document none 500
          (serializeDocument none 0 (astOfSource src)).out))).1).out = (serializeDocument none 0 (astOfSource src)).out) ∧
    (serializeDocument none 0 (astOfSource "schema { query: Q mutation: }")).out = "schema { query: Q }".toList ∧
    (serializeDocument none 0 (astOfSource "extend schema @d { query: }")).out = "extend schema @d".toList := by
  decide +kernel

end PropertyStatement

end Apollo.C08
