import ApolloModel.Proofs.Strings4
import ApolloModel.Proofs.FromCst
/-
C06 — String literals decode to their spec-defined values.

Model: Model/Strings.lean mirrors `unescape_string`, `GraphQLLines`, `replace_into`,
`unescape_block_string` and `String::from(&cst::StringValue)` of cst/node_ext.rs (hand-written,
tied by the correspondence stream S: every lexically valid literal over a small quoted alphabet
and a small block alphabet up to a fixed length, plus random).
Spec side: `SChar`/`valuesAll` (StringValue semantics) and `specBlockStringValue`
(BlockStringValue steps 1–9) transcribed from October 2021 §2.9.4.
-/
namespace Apollo.C06
open Apollo.Strs

/-- Quoted strings: for every sequence of valid StringCharacters, decoding the rendered body gives
    exactly their semantic values (`\"  \\  \/  \b \f \n \r \t`, `\uXXXX`). -/
theorem unescape_string_spec (items : List SChar) (hv : ∀ x ∈ items, x.valid = true) :
    unescapeString (renderAll items) = valuesAll items := Strs.unescape_string_spec items hv

/-- …and decoding such a body never panics (no `unwrap` on a bad digit or surrogate). -/
theorem unescape_string_no_panic (items : List SChar) (hv : ∀ x ∈ items, x.valid = true) :
    (unescapeString (renderAll items)).isSome = true := by
  rw [unescape_string_spec items hv]; exact valuesAll_isSome items hv

/-- Block strings: `unescape_block_string` is BlockStringValue — common indentation of the lines
    after the first removed, blank leading and trailing lines removed, lines joined with LF, only
    `\"""` unescaped — for EVERY raw value (any mix of `\n`, `\r\n`, `\r`, tabs, BOM, non-ASCII). -/
theorem block_string_spec (raw : Str) : unescapeBlockString raw = specBlockStringValue raw :=
  Strs.block_string_spec raw

/-- the spec's loop for commonIndent (steps 2–3) computes the minimum the code takes -/
theorem common_indent_spec (lines : List Str) :
    specCommonIndent lines = listMin? ((lines.drop 1).filterMap fun l =>
      if countIndent l < l.length then some (countIndent l) else none) := specCommonIndent_eq lines

/-- `String::from(&cst::StringValue)` slices `[3..len-3]` of a block string: in range (no panic)
    for every text that starts with `"""` and has at least the closing three characters. -/
theorem block_decode_no_panic (rest : Str) (h : 3 ≤ rest.length) :
    (decodeStringToken ('"' :: '"' :: '"' :: rest)).isSome = true := by
  unfold decodeStringToken
  have hlt : ¬ (('"' :: '"' :: '"' :: rest).length < 6) := by simp only [List.length_cons]; omega
  simp only [hlt, if_false, Option.isSome_some]

-- Non-vacuity (kernel-evaluated on the model)
example : decodeStringToken ['"', '"', '"', '\n', ' ', ' ', 'a', '\n', ' ', ' ', ' ', 'b', '\n', ' ', '"', '"', '"'] =
    some ['a', '\n', ' ', 'b'] := by decide
example : decodeStringToken ['"', 'a', '\\', 'n', '\\', 'u', '0', '0', 'e', '9', '"'] = some ['a', '\n', 'é'] := by decide

/-! ### What the AST stores is the decoder's reading of the token (Model/FromCst.lean) -/
open Apollo.FromCst in
/-- a string value stored in the AST by `from_cst.rs` (`String::from(&cst::StringValue)`) is `decodeStringToken`
    — the decoder model of this property — applied to the text of the STRING token -/
theorem ast_string_value_is_decoded {R : List Loc} (n : Nat) (p : PE R) (hk : p.kind = "STRING_VALUE")
    (v : Ast.Value) (ls : Locs R) (h : cValue (n + 1) p = some (v, ls)) :
    ∃ t s, textOfFirstToken p = some t ∧ decodeStringToken t = some s ∧ v = .str s :=
  cValue_string_spec n p hk v ls h

open Apollo.FromCst in
/-- the same for descriptions (`cst::Description` → its STRING_VALUE child → the decoder) -/
theorem ast_description_is_decoded {R : List Loc} (p : PE R) (s : Ast.Str) (ls : Locs R)
    (h : descOf p = some (some s, ls)) :
    ∃ d sv t, child "DESCRIPTION" p = some d ∧ child "STRING_VALUE" d = some sv ∧ textOfFirstToken sv = some t ∧
      decodeStringToken t = some s :=
  descOf_spec p s ls h

end Apollo.C06
