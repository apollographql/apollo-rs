import ApolloModel.Model.Guards
import ApolloModel.Proofs.Guards
import ApolloModel.Proofs.GuardsSchema
import ApolloModel.Proofs.DirectiveSearch
/-
C21 — The compiler never panics on adversarial input.

What is machine-checked here are the two mechanisms the property's last sentence names, on models
of `DepthCounter`/`DepthGuard` and `DiagnosticList::sort` (validation/mod.rs): a guarded walker never
goes deeper than limit+1 and reports the limit exactly when the nesting exceeds it; the diagnostics
sort is a stable sort by source position.  The sections after that give, for the models of the cycle
detectors (fragments, input objects, directive definitions) and of the selection walkers, termination,
the bounds on name stack and call depth, and when the limit answer is given.
PARTIAL: the absence of panics / stack overflows in
build, validate, serialize, introspect and render is explored on the implementation (child process
per adversarial family, chains and cycles around every internal limit), not proved; ariadne
rendering is third-party code.
-/
namespace Apollo.C21
open Apollo.Guards

def enter (c : DepthCounter) : DepthCounter := { c with value := c.value + 1, high := max c.high (c.value + 1) }

theorem walk_node (c : DepthCounter) (child sibling : Tree) :
    walk c (.node child sibling) =
      if c.value + 1 > c.limit then (dropGuard (enter c), true)
      else if (walk (enter c) child).2 = true then (dropGuard (walk (enter c) child).1, true)
      else walk (dropGuard (walk (enter c) child).1) sibling := by
  simp only [walk, increment, enter]
  by_cases hr : c.value + 1 > c.limit
  · simp [hr]
  · simp only [hr, decide_false, Bool.false_eq_true, if_false]
    by_cases hx : (walk { c with value := c.value + 1, high := max c.high (c.value + 1) } child).2 = true
    · simp [hx]
    · simp [hx]

/-- all facts about the guarded walker, proved together by induction on the nesting structure -/
theorem walk_facts : ∀ (t : Tree) (c : DepthCounter), c.value ≤ c.limit →
    (walk c t).1.high ≤ max c.high (c.limit + 1) ∧ (walk c t).1.limit = c.limit ∧
    (walk c t).1.value = c.value ∧ ((walk c t).2 = true ↔ c.value + t.depth > c.limit)
  | .leaf, c, hv => by
    refine ⟨by simp only [walk]; omega, rfl, rfl, ?_⟩
    simp only [walk, Tree.depth]
    constructor
    · intro h; simp at h
    · intro h; omega
  | .node child sibling, c, hv => by
    rw [walk_node]
    by_cases hr : c.value + 1 > c.limit
    · rw [if_pos hr]
      refine ⟨?_, rfl, ?_, ?_⟩
      · show max c.high (c.value + 1) ≤ _; omega
      · show c.value + 1 - 1 = _; omega
      · simp only [Tree.depth]
        constructor
        · intro _; omega
        · intro _; trivial
    · rw [if_neg hr]
      have ih1 := walk_facts child (enter c) (by show c.value + 1 ≤ c.limit; omega)
      have e1 : (enter c).high = max c.high (c.value + 1) := rfl
      have e2 : (enter c).limit = c.limit := rfl
      have e3 : (enter c).value = c.value + 1 := rfl
      rw [e1, e2, e3] at ih1
      generalize walk (enter c) child = r at ih1 ⊢
      obtain ⟨h1, h2, h3, h4⟩ := ih1
      by_cases he : r.2 = true
      · rw [if_pos he]
        have hd := h4.mp he
        refine ⟨?_, h2, ?_, ?_⟩
        · show r.1.high ≤ _; omega
        · show r.1.value - 1 = _; omega
        · simp only [Tree.depth]
          constructor
          · intro _; omega
          · intro _; trivial
      · rw [if_neg he]
        have hn : ¬ (c.value + 1 + child.depth > c.limit) := fun h => he (h4.mpr h)
        have ih2 := walk_facts sibling (dropGuard r.1) (by show r.1.value - 1 ≤ r.1.limit; omega)
        have d1 : (dropGuard r.1).high = r.1.high := rfl
        have d2 : (dropGuard r.1).limit = r.1.limit := rfl
        have d3 : (dropGuard r.1).value = r.1.value - 1 := rfl
        rw [d1, d2, d3, h2, h3] at ih2
        obtain ⟨g1, g2, g3, g4⟩ := ih2
        refine ⟨by omega, g2, by omega, ?_⟩
        rw [g4]
        simp only [Tree.depth]
        omega

/-- the ghost depth never exceeds limit + 1, whatever the input, and the counter is restored -/
theorem depth_guard_bound (t : Tree) (c : DepthCounter) (h : c.value ≤ c.limit) :
    (walk c t).1.high ≤ max c.high (c.limit + 1) ∧ (walk c t).1.value = c.value :=
  ⟨(walk_facts t c h).1, (walk_facts t c h).2.2.1⟩

/-- excessive depth is reported, and only excessive depth: the walker errs iff the nesting below
    the current point exceeds what the limit leaves -/
theorem limit_yields_diagnostic (t : Tree) (c : DepthCounter) (h : c.value ≤ c.limit) :
    (walk c t).2 = true ↔ c.value + t.depth > c.limit := (walk_facts t c h).2.2.2

/-- `DiagnosticList::sort` yields the same diagnostics, ordered by (file, offset) with location-less
    ones first … -/
theorem sort_perm {α : Type} (l : List (Key × α)) : (sortDiagnostics l).Perm l := List.mergeSort_perm l _

theorem sort_sorted {α : Type} (l : List (Key × α)) :
    (sortDiagnostics l).Pairwise (fun a b => keyLe a.1 b.1 = true) :=
  List.pairwise_mergeSort (fun a b c h1 h2 => keyLe_trans a.1 b.1 c.1 h1 h2)
    (fun a b => keyLe_total a.1 b.1) l

/-- … and it is stable: diagnostics that were already in order keep their relative order (in
    particular diagnostics at the same position stay in the order they were reported). -/
theorem sort_stable {α : Type} (l l' : List (Key × α)) (hs : l'.Sublist l)
    (hsorted : l'.Pairwise (fun a b => keyLe a.1 b.1 = true)) : l'.Sublist (sortDiagnostics l) :=
  List.sublist_mergeSort (fun a b c h1 h2 => keyLe_trans a.1 b.1 c.1 h1 h2)
    (fun a b => keyLe_total a.1 b.1) hsorted hs

/-! ### self-referential definitions: the fragment cycle detector

`detectList`/`detectSel` (Model/Guards.lean) are defined by well-founded recursion on
`(limit + 1 - path.length, size of the selection)`: that Lean accepts the definition *is* the proof that
`detect_fragment_cycles` terminates on every document, cyclic or not, because of the `RecursionGuard`
limit alone (the `seen` set is an optimisation, not what bounds the recursion).  Termination is not a
bounded stack, though: the name stack bounds the chain of fragments, not the fields and inline
fragments each of them nests its spread in, so the call depth is the product of two individually
bounded quantities (the stack overflow repaired by 3e87d32).  The call depth is therefore a ghost of
its own, `DState.dhigh`, bounded by the `DepthCounter` the repaired code threads through. -/

/-- the recursion stack never grows beyond limit + 1 names (for a limit ≥ 1, here and in the bounds below) -/
theorem fragment_cycle_stack_bound (doc : Doc) (limit dlimit root : Nat) (body : List Sel) (hl : 1 ≤ limit) :
    (fragmentCycle doc limit dlimit root body).2.high ≤ limit + 1 :=
  ((bound_all doc limit dlimit).1 [root] 0 _ body (by simpa using hl) (Nat.zero_le _)
    ⟨by simp, by simp⟩).1

/-- the call depth of `detect_fragment_cycles` never exceeds dlimit + 1 frames, for every document:
    whatever the fragment chain and however deep each fragment nests its spreads -/
theorem fragment_cycle_depth_bound (doc : Doc) (limit dlimit root : Nat) (body : List Sel) (hl : 1 ≤ limit) :
    (fragmentCycle doc limit dlimit root body).2.dhigh ≤ dlimit + 1 :=
  ((bound_all doc limit dlimit).1 [root] 0 _ body (by simpa using hl) (Nat.zero_le _)
    ⟨by simp, by simp⟩).2

/-- a reported cycle is a real one: `RecursiveFragmentDefinition` is only reported for a fragment that
    reaches itself through a non-empty chain of spreads -/
theorem fragment_cycle_sound (doc : Doc) (limit dlimit root : Nat) (body : List Sel)
    (hdef : lookup doc root = some body)
    (h : (fragmentCycle doc limit dlimit root body).1 = .recursed) : Reach doc root root :=
  (sound_all doc limit dlimit).1 [root] 0 _ body root root rfl (.refl root) (fun _ hn => ⟨body, hdef, hn⟩) h

-- Non-vacuity
#guard (fragmentCycle [(0, [.spread 1]), (1, [.nested [.spread 0]])] 100 500 0 [.spread 1]).1 == .recursed
#guard (fragmentCycle [(0, [.spread 1]), (1, [.nested [.spread 1]])] 100 500 0 [.spread 1]).1 == .ok
#guard (fragmentCycle [(0, [.spread 1]), (1, [.spread 2]), (2, [])] 1 500 0 [.spread 1]).1 == .limit
-- the product of a short chain and shallow nesting reaches the depth limit (4 frames > 3)
#guard (fragmentCycle [(0, [.nested [.spread 1]]), (1, [.nested [.spread 2]]), (2, [])] 100 3 0 [.nested [.spread 1]]).1 == .limit
#guard (fragmentCycle [(0, [.nested [.spread 1]]), (1, [.nested [.spread 2]]), (2, [])] 100 4 0 [.nested [.spread 1]]).1 == .ok
#guard (fragmentCycle [(0, [.nested [.spread 1]]), (1, [.nested [.spread 2]]), (2, [])] 100 4 0 [.nested [.spread 1]]).2.dhigh == 4
example : (walk ⟨0, 0, 2⟩ (.node (.node (.node .leaf .leaf) .leaf) .leaf)).2 = true := by decide
example : (walk ⟨0, 0, 3⟩ (.node (.node (.node .leaf .leaf) .leaf) .leaf)).2 = false := by decide
-- (a test, evaluated by the compiler: `mergeSort` is defined by well-founded recursion)
#guard (sortDiagnostics [(some (2, 5), "b"), (none, "x"), (some (1, 9), "a"), (some (2, 5), "c")]).map (·.2) == ["x", "a", "b", "c"]

end Apollo.C21

/-! ### the other cycle detectors on a `RecursionStack`: input objects and directive definitions

`FindRecursiveInputValue` (validation/input_object.rs) and `FindRecursiveDirective` (validation/directive.rs) are
modelled for C14 in Model/SchemaValidation.lean; Model/GuardsSchema.lean adds the ghosts (`high` of each
`RecursionStack`, deepest call `dhigh`) without changing the answers (`*_search_refines`), so C14's correspondence
stream covers the instrumented functions too. Both recursions are bounded by the name stacks alone: unlike the
fragment detector nothing is nested between two pushes except a constant number of frames (one model frame = at
most two Rust frames), so the call depth is a linear function of the limit (32), whatever the schema. -/

namespace Apollo.C21
open Apollo.SchemaValidation Apollo.GuardsSchema

theorem coh_iff {σ : Type} {F : σ → Prop} {r : R × σ} (h : Coh F r) : r.1 = .limit ↔ F r.2 := by
  rcases h with ⟨h1, h2⟩ | ⟨h1, h2⟩
  · exact ⟨fun _ => h2, fun _ => h1⟩
  · exact ⟨fun h => absurd h h1, fun h => absurd h h2⟩

/-- the instrumented input-object search answers exactly like C14's model of `FindRecursiveInputValue::check` -/
theorem input_search_refines (g : IGraph) (limit r : Nat) : (checkInputG g limit r).1 = checkInput g limit r :=
  checkInputG_fst g limit r

/-- the `RecursionStack` of the input-object search never holds more than limit + 1 names, for every schema
    (and every limit ≥ 1, here and in the bounds below) -/
theorem input_search_stack_bound (g : IGraph) (limit r : Nat) (hl : 1 ≤ limit) :
    (checkInputG g limit r).2.high ≤ limit + 1 :=
  (searchFieldsG_bounds g limit (limit + 1) (limit + 1) (Nat.le_refl _) _ _ _ _ _ (by simpa using hl) (by omega)
    ⟨by simp, by simp⟩).1

/-- its call depth never exceeds limit + 1 model frames (`input_object_definition` + `input_value_definition` each:
    at most 2·(limit + 1) Rust frames), for every schema: a function of the limit, not of the schema -/
theorem input_search_depth_bound (g : IGraph) (limit r : Nat) (hl : 1 ≤ limit) :
    (checkInputG g limit r).2.dhigh ≤ limit + 1 :=
  (searchFieldsG_bounds g limit (limit + 1) (limit + 1) (Nat.le_refl _) _ _ _ _ _ (by simpa using hl) (by omega)
    ⟨by simp, by simp⟩).2

/-- it terminates on every schema, cyclic ones included: the model's fuel (= the depth bound) is never what ends it -/
theorem input_search_terminates (g : IGraph) (limit r : Nat) : (checkInputG g limit r).1 ≠ .outOfFuel := by
  rw [input_search_refines]
  exact search_fuel g limit (limit + 1) [r] (g.fields r) (by simp) (by simp)

/-- exceeding the limit yields the limit answer (`CycleError::Limit` → the `DeeplyNestedType` diagnostic), and only
    that does: the search answers `limit` iff its stack ever held more than `limit` names -/
theorem input_search_limit_yields_diagnostic (g : IGraph) (limit r : Nat) :
    (checkInputG g limit r).1 = .limit ↔ limit < (checkInputG g limit r).2.high :=
  coh_iff (searchFieldsG_coh g limit _ _ _ _ _ (by simp))

theorem directive_search_refines (s : DSchema) (limit d : Nat) : (checkDirectiveG s limit d).1 = checkDirective s limit d :=
  checkDirectiveG_fst s limit d

theorem directive_search_bounds (s : DSchema) (limit d : Nat) (hl : 1 ≤ limit) :
    DGB (limit + 1) (4 * limit + 5) (checkDirectiveG s limit d).2 :=
  firstErrG_inv _ (DGB (limit + 1) (4 * limit + 5)) _
    (fun y _ st hst => walkG_bounds s limit _ _ (Nat.le_refl _) _ _ _ _ y st (by simpa using hl) (by simp) (by omega) hst)
    _ ⟨by simp, by simp, by simp⟩

/-- neither `RecursionStack` of the directive search (directive names, type names) ever holds more than limit + 1 names -/
theorem directive_search_stack_bound (s : DSchema) (limit d : Nat) (hl : 1 ≤ limit) :
    (checkDirectiveG s limit d).2.highD ≤ limit + 1 ∧ (checkDirectiveG s limit d).2.highT ≤ limit + 1 :=
  ⟨(directive_search_bounds s limit d hl).1, (directive_search_bounds s limit d hl).2.1⟩

/-- its call depth never exceeds 4·limit + 5 model frames (two stacks of at most limit names, an argument frame
    between two pushes), for every schema -/
theorem directive_search_depth_bound (s : DSchema) (limit d : Nat) (hl : 1 ≤ limit) :
    (checkDirectiveG s limit d).2.dhigh ≤ 4 * limit + 5 :=
  (directive_search_bounds s limit d hl).2.2

/-- it terminates on every schema -/
theorem directive_search_terminates (s : DSchema) (limit d : Nat) : (checkDirectiveG s limit d).1 ≠ .outOfFuel := by
  rw [directive_search_refines]
  intro h
  unfold checkDirective at h
  obtain ⟨y, hy, hwy⟩ := firstErr_err (by decide) h
  obtain ⟨a, _, rfl⟩ := List.mem_map.mp hy
  refine walk_fuel s limit _ [d] [] (.arg a) ?_ hwy
  simp only [need, isArg, List.length_singleton, List.length_nil]
  omega

/-- it answers `limit` (→ `DeeplyNestedType`) iff one of its two stacks ever held more than `limit` names -/
theorem directive_search_limit_yields_diagnostic (s : DSchema) (limit d : Nat) :
    (checkDirectiveG s limit d).1 = .limit ↔
      (limit < (checkDirectiveG s limit d).2.highD ∨ limit < (checkDirectiveG s limit d).2.highT) :=
  coh_iff (firstErrG_coh _ (Over limit) _ (fun y _ st hst => walkG_coh s limit _ _ _ _ y st hst) _ (by simp [Over]))

-- Non-vacuity: chains (4 input objects I0 → I1 → I2 → I3 by `T!` fields), open or closed, limit 3 / 4
#guard (checkInputG [[⟨true, 1⟩], [⟨true, 2⟩], [⟨true, 3⟩], []] 3 0) == (.limit, ⟨4, 3⟩)
#guard (checkInputG [[⟨true, 1⟩], [⟨true, 2⟩], [⟨true, 3⟩], []] 4 0) == (.ok, ⟨4, 4⟩)
#guard (checkInputG [[⟨true, 1⟩], [⟨true, 2⟩], [⟨true, 3⟩], [⟨true, 0⟩]] 4 0).1 == .recursed
#guard (checkInputG [[⟨true, 1⟩], [⟨true, 2⟩], [⟨true, 3⟩], [⟨true, 0⟩]] 3 0).1 == .limit
#guard (checkInputG [[⟨true, 1⟩], [⟨false, 0⟩, ⟨true, 1⟩]] 32 1).1 == .recursed
-- directives: @d0(a: T0), input T0 { f: Int @d1 }, @d1(a: T1), input T1 { f: Int @d0 }: a cycle through two types
#guard (checkDirectiveG ⟨[[⟨[], some 0⟩], [⟨[], some 1⟩]], [⟨.input, [], [], [⟨[1], none⟩]⟩, ⟨.input, [], [], [⟨[0], none⟩]⟩]⟩ 32 0).1 == .recursed
#guard (checkDirectiveG ⟨[[⟨[], some 0⟩], [⟨[], some 1⟩]], [⟨.input, [], [], [⟨[1], none⟩]⟩, ⟨.input, [], [], [⟨[0], none⟩]⟩]⟩ 1 0).1 == .limit
#guard (checkDirectiveG ⟨[[⟨[], some 0⟩], [⟨[], some 1⟩]], [⟨.input, [], [], [⟨[1], none⟩]⟩, ⟨.input, [], [], []⟩]⟩ 32 0) == (.ok, ⟨2, 2, 7⟩)

/-! ### the selection walkers of operation / variable validation (`DepthCounter` with limit 500 + a `HashSet` of
    fragments already entered)

`wsList`/`wsSel` (Model/GuardsSchema.lean) model `walk_selections_with_deduped_fragments` (validation/variable.rs;
validation/operation.rs has walkers of the same shape) on documents with named fragments, cyclic ones included. The
model is accepted by Lean through the measure `(dlimit + 1 - depth, size of the selection)`: the walk terminates on
every document because of the `DepthGuard` alone (the `seen` set only saves work). The model is not tied to the code
by a correspondence stream of its own (its only observable is the limit diagnostic, which other walkers with the same
limit emit too); the adversarial families `sel-depth`, `inline-depth`, `var-deep`, `frag-*` exercise it around 500. -/

/-- the walk never nests deeper than dlimit + 1 frames, for every document -/
theorem selection_walk_depth_bound (doc : Apollo.Guards.Doc) (dlimit : Nat) (sels : List Apollo.Guards.Sel) :
    (walkSelections doc dlimit sels).2.dhigh ≤ dlimit + 1 :=
  ((ws_all doc dlimit).1 0 ⟨[], 0, 0⟩ sels (Nat.zero_le _) (by simp)).1

/-- it answers `RecursionLimitError` (→ the limit diagnostic) exactly when it tried to enter a frame beyond the limit -/
theorem selection_walk_limit_yields_diagnostic (doc : Apollo.Guards.Doc) (dlimit : Nat) (sels : List Apollo.Guards.Sel) :
    (walkSelections doc dlimit sels).1 = true ↔ dlimit < (walkSelections doc dlimit sels).2.dhigh :=
  ((ws_all doc dlimit).1 0 ⟨[], 0, 0⟩ sels (Nat.zero_le _) (by simp)).2 (by simp)

-- a cycle of two fragments is walked once; three nested fields exceed a limit of 2
#guard (walkSelections [(0, [.spread 1, .nested []]), (1, [.spread 0])] 500 [.spread 0]).1 == false
#guard (walkSelections [(0, [.spread 1, .nested []]), (1, [.spread 0])] 500 [.spread 0]).2.visited == 4
#guard (walkSelections [] 2 [.nested [.nested [.nested []]]]).1 == true
#guard (walkSelections [] 3 [.nested [.nested [.nested []]]]).1 == false

end Apollo.C21
