import ApolloModel.Model.ParserEntry
/-
Consequences of the proof-carrying parser model (C01): what `withNode` leaves in the builder, and no
rowan/builder panic from any entry point (`parse_no_panic`).
-/
namespace Apollo.Parse
open Apollo.Rowan hiding Str
open Apollo.Lex hiding Str

theorem run_pure {α : Type} (a : α) (s : PState) : (pure a : PI α).run s = .ok a s := rfl

theorem run_bind {α β : Type} (m : PI α) (f : α → PI β) (s : PState) :
    (m >>= f).run s = match m.run s with
      | .ok a s' => (f a).run s'
      | .abort w => .abort w
      | .panic msg => .panic msg := rfl

theorem bind_dec {α β : Type} (m : PI α) (f : α → PI β) (s s'' : PState) (b : β)
    (h : (m >>= f).run s = .ok b s'') : ∃ a s', m.run s = .ok a s' ∧ (f a).run s' = .ok b s'' := by
  rw [run_bind] at h
  cases hr : m.run s with
  | ok a s' => rw [hr] at h; exact ⟨a, s', rfl, h⟩
  | abort w => rw [hr] at h; cases h
  | panic m => rw [hr] at h; cases h

theorem pure_dec {α : Type} {a b : α} {s s' : PState} (h : (pure a : PI α).run s = .ok b s') : a = b ∧ s = s' := by
  rw [run_pure] at h
  injection h with h1 h2
  exact ⟨h1, h2⟩

theorem peekToken_current (s : PState) (t : Tok) (h : s.current = some t) : peekToken.run s = .ok (some t) s := by
  unfold peekToken; simp only [h]

theorem post_of_run {α : Type} (m : PI α) (s : PState) (hi : Inv s) (a : α) (s' : PState) (h : m.run s = .ok a s') :
    Inv s' ∧ Frame s s' := by
  have := m.ok s hi
  simp only [h, Post] at this
  exact this

theorem init_inv (src : Str) (tl : Option Nat) (rl : Nat) : Inv (initState src tl rl) :=
  ⟨fun _ => by simp [initState, Builder.new, textList, pendingText, curText],
   fun p hp => by simp [initState, Builder.new] at hp,
   fun h => by simp [initState] at h,
   fun t h => by simp [initState] at h,
   fun h => by simp [initState] at h⟩

/-- the state in which a standalone entry point starts its grammar function: the temporary root is open -/
theorem standalone_inv (src : Str) (tl : Option Nat) (rl : Nat) (k : SK) :
    Inv { initState src tl rl with builder := (initState src tl rl).builder.startNode k } :=
  ⟨fun _ => by simp [initState, Builder.new, Builder.startNode, textList, pendingText, curText],
   fun p hp => by simp [initState, Builder.new, Builder.startNode] at hp; simp [hp, initState, Builder.new],
   fun h => by simp [initState] at h, fun t h => by simp [initState] at h, fun h => by simp [initState] at h⟩

/-- what `let _g = start_node(kind); body` leaves behind: the state `s2` in which the body ended,
    with the children added since `start_node` folded into one `kind` node -/
theorem withNode_result {α : Type} (kind : SK) (body : PI α) (s : PState) (h : Inv s) (a : α) (s' : PState)
    (hr : (withNode kind body).run s = .ok a s') :
    ∃ cs s2, s'.builder.children = s.builder.children ++ s.pending.map pendingElem ++ [Elem.node kind cs] ∧
      s'.builder.parents = s.builder.parents ∧
      (skipIgnored >>= fun _ => body).run (rawStartNode kind { s with builder := { s.builder with children := s.builder.children ++ s.pending.map pendingElem }, pending := [] }) = .ok a s2 ∧
      s'.pending = s2.pending ∧ s'.current = s2.current ∧ s'.lx = s2.lx ∧ s'.dropped = s2.dropped ∧
      s'.original = s2.original ∧ s'.errors = s2.errors := by
  have h1 := pushIgnored.ok s h
  have e1 : pushIgnored.run s = .ok () { s with builder := { s.builder with children := s.builder.children ++ s.pending.map pendingElem }, pending := [] } := rfl
  simp only [e1, Post] at h1
  obtain ⟨hi1, _⟩ := h1
  simp only [withNode, e1] at hr
  have hi1' : Inv (rawStartNode kind { s with builder := { s.builder with children := s.builder.children ++ s.pending.map pendingElem }, pending := [] }) := by
    refine ⟨hi1.text, ?_, hi1.lexDone, hi1.eofTok, hi1.errNonempty⟩
    intro p hp
    simp only [rawStartNode, Builder.startNode, List.mem_cons] at hp ⊢
    rcases hp with rfl | hp
    · exact Nat.le_refl _
    · exact hi1.parents p hp
  have h2 := (skipIgnored >>= fun _ => body).ok _ hi1'
  cases hr2 : (skipIgnored >>= fun _ => body).run (rawStartNode kind { s with builder := { s.builder with children := s.builder.children ++ s.pending.map pendingElem }, pending := [] }) with
  | abort w => simp [hr2] at hr
  | panic m => simp [hr2] at hr
  | ok a2 s2 =>
    simp only [hr2, Post] at h2 hr
    obtain ⟨_, hf2⟩ := h2
    have hp : s2.builder.parents = (kind, (s.builder.children ++ s.pending.map pendingElem).length) :: s.builder.parents := by
      rw [hf2.parents]; rfl
    obtain ⟨added, hadd⟩ := hf2.children
    simp only [rawStartNode, Builder.startNode] at hadd
    simp only [Builder.finishNode, hp, Res.ok.injEq] at hr
    obtain ⟨rfl, rfl⟩ := hr
    refine ⟨added, s2, ?_, rfl, rfl, rfl, rfl, rfl, rfl, rfl, rfl⟩
    simp only [hadd]
    have ht : List.take (s.builder.children ++ s.pending.map pendingElem).length
        (s.builder.children ++ s.pending.map pendingElem ++ added) = s.builder.children ++ s.pending.map pendingElem :=
      List.take_left' rfl
    have hd : List.drop (s.builder.children ++ s.pending.map pendingElem).length
        (s.builder.children ++ s.pending.map pendingElem ++ added) = added :=
      List.drop_left' rfl
    rw [ht, hd]

theorem finishStandalone_some (b : Builder) (k : SK) (expected : List SK) (hp : b.parents = [(k, 0)]) :
    ∃ e, finishStandalone b expected = some e := by
  simp only [finishStandalone, Builder.finishNode, hp, List.take_zero, List.nil_append, List.drop_zero, Builder.finish]
  cases b.children with
  | nil => exact ⟨_, rfl⟩
  | cons c cs =>
    cases c with
    | tok k' t => exact ⟨_, rfl⟩
    | node k' cs' =>
      cases cs with
      | nil =>
        simp only []
        split <;> exact ⟨_, rfl⟩
      | cons c2 cs2 => exact ⟨_, rfl⟩

theorem finish_single (b : Builder) (k : SK) (cs : List Elem) (h : b.children = [Elem.node k cs]) :
    b.finish = some (Elem.node k cs) := by
  simp [Builder.finish, h]

/-- `Parser::parse`, `parse_selection_set`, `parse_type` never panic — whatever the input, the token
    limit and the recursion limit.  (The outcome is a tree, or one of the two model aborts that
    this framework does not exclude: fuel exhaustion / the `peek_while` progress assertion.) -/
theorem parse_no_panic (e : Entry) (tl : Option Nat) (rl : Nat) (src : Str) (m : String) :
    (parse e tl rl src).outcome ≠ .panic m := by
  unfold parse runEntry
  cases e with
  | document =>
    simp only [Entry.standalone, Entry.grammar]
    have hinv := init_inv src tl rl
    have hok := (Parse.document (fuelFor src)).ok _ hinv
    cases hr : (Parse.document (fuelFor src)).run (initState src tl rl) with
    | abort w => simp
    | panic msg => simp [hr, Post] at hok
    | ok a s =>
      simp only []
      obtain ⟨cs, _, hc, _⟩ := withNode_result "DOCUMENT" (documentBody (fuelFor src)) _ hinv a s hr
      have : s.builder.children = [Elem.node "DOCUMENT" cs] := by
        simpa [initState, Builder.new] using hc
      simp [finish_single s.builder _ _ this]
  | selectionSet =>
    simp only [Entry.standalone, Entry.grammar]
    have hinv := standalone_inv src tl rl "SELECTION_SET"
    have hok := (fieldSet (fuelFor src) >>= fun _ => expectEndOfInput).ok _ hinv
    cases hr : (fieldSet (fuelFor src) >>= fun _ => expectEndOfInput).run { initState src tl rl with builder := (initState src tl rl).builder.startNode "SELECTION_SET" } with
    | abort w => simp
    | panic msg => simp [hr, Post] at hok
    | ok a s =>
      simp only [hr, Post] at hok ⊢
      obtain ⟨_, hf⟩ := hok
      have hp : s.builder.parents = [("SELECTION_SET", 0)] := by
        rw [hf.parents]; simp [initState, Builder.new, Builder.startNode]
      obtain ⟨e', he'⟩ := finishStandalone_some s.builder _ ["SELECTION_SET"] hp
      simp [he']
  | type =>
    simp only [Entry.standalone, Entry.grammar]
    have hinv := standalone_inv src tl rl "NAMED_TYPE"
    have hok := (ty (fuelFor src) >>= fun _ => expectEndOfInput).ok _ hinv
    cases hr : (ty (fuelFor src) >>= fun _ => expectEndOfInput).run { initState src tl rl with builder := (initState src tl rl).builder.startNode "NAMED_TYPE" } with
    | abort w => simp
    | panic msg => simp [hr, Post] at hok
    | ok a s =>
      simp only [hr, Post] at hok ⊢
      obtain ⟨_, hf⟩ := hok
      have hp : s.builder.parents = [("NAMED_TYPE", 0)] := by
        rw [hf.parents]; simp [initState, Builder.new, Builder.startNode]
      obtain ⟨e', he'⟩ := finishStandalone_some s.builder _ ["NAMED_TYPE", "LIST_TYPE", "NON_NULL_TYPE"] hp
      simp [he']

end Apollo.Parse
