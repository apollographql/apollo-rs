import ApolloModel.Proofs.ParserExactS9
import ApolloModel.Proofs.ParserExactC14
import ApolloModel.Proofs.ParserDoc1
/-
EXACT SOUNDNESS (namespace Apollo.Parse.Exact): variable definitions, operation definition, fragment
definition — state-indexed soundness into the languages of the exact completeness theorems
(`Exact.LVarDefs`, `Exact.LOperation`, `Exact.LFragment` at the budget of the START state).
-/
set_option linter.unusedSimpArgs false
namespace Apollo.Parse.Exact
open Apollo.Rowan hiding Str
open Apollo.Lex hiding Str

/-- an acceptance judgement without the early-exit alternative, read at one state -/
theorem cons_of_acc {α : Type} {H : List Tok → Prop} {m : PI α} {R : α → List Ast.Tok → Prop}
    (h : Acc (fun _ => False) H m R) (s s' : PState) (a : α) (w : TW s) (he : EofEnd s) (hq : H (Toks s))
    (hr : m.run s = .ok a s') (hnd : ¬ Doomed s') : Cons s s' (R a) :=
  h.toQ.cons w he hq hr hnd

/-! ### variable definitions -/

theorem varDefs_of_items (B : Nat) : ∀ (items : List (List Ast.Tok)), (∀ x ∈ items, QVar B x) →
    ∃ vs : List Ast.VarDef, items.flatten = Ast.tVarDefItems vs ∧ (∀ v ∈ vs, varFit B v) ∧ vs.length = items.length
  | [], _ => ⟨[], rfl, (by intro a ha; cases ha), rfl⟩
  | x :: items, h => by
    obtain ⟨v, hx, hv⟩ := h x (by simp)
    obtain ⟨vs, ha, hok, hlen⟩ := varDefs_of_items B items (fun y hy => h y (by simp [hy]))
    refine ⟨v :: vs, ?_, ?_, by simp [hlen]⟩
    · simp [List.flatten_cons, hx, ha, Ast.tVarDefItems]
    · intro a ha'
      rcases List.mem_cons.mp ha' with rfl | ha'
      · exact hv
      · exact hok a ha'

/-- **`variable_definitions`**: started on `(`, an error-free run consumes `( VariableDefinition+ )`, every part
    within the budget -/
theorem variableDefinitions_sound (n : Nat) (s s' : PState) (t : Tok) (rest : List Tok) (w : TW s) (he : EofEnd s)
    (ht : Toks s = t :: rest) (hk : t.kind = .lParen) (h : (variableDefinitions n).run s = .ok () s') (hnd : ¬ Doomed s') :
    Cons s s' (LVarDefs (bud s)) := by
  obtain ⟨cs, items, h1, h2, h3, hne, h4, h5⟩ := parenItems_sound "VARIABLE_DEFINITIONS" .dollar (variableDefinition n) (varDefsTail n) rfl
    (QVar (bud s)) (good_variableDefinition n) s s' t rest w he ht hk (variableDefinition_sound n (bud s)) h hnd
  obtain ⟨vs, hvs, hok, hlen⟩ := varDefs_of_items (bud s) items h5
  have hane : vs ≠ [] := by
    rintro rfl
    exact hne (List.eq_nil_of_length_eq_zero hlen.symm)
  refine ⟨cs, Ast.tVarDefs vs, h1, h2, h3, ?_, vs, hane, rfl, hok⟩
  have hemp : vs.isEmpty = false := by
    cases vs with
    | nil => exact absurd rfl hane
    | cons a r => rfl
  rw [hvs] at h4
  simpa [Ast.tVarDefs, hemp] using h4

/-- `if p.peek() == Some(T!['(']) { variable_definitions }` -/
theorem optVarDefs_sound (n : Nat) (s s' : PState) (w : TW s) (he : EofEnd s)
    (h : (peek >>= fun k => if k == some Kind.lParen then variableDefinitions n else pure ()).run s = .ok () s') (hnd : ¬ Doomed s') :
    Cons s s' (fun x => ∃ vs, x = Ast.tVarDefs vs ∧ ∀ v ∈ vs, varFit (bud s) v) := by
  obtain ⟨sP, o, p, hor⟩ := ifPeek_dec .lParen _ _ s s' () w h
  have heP := p.eofEnd he
  rcases hor with ⟨hk, h2⟩ | ⟨_, h2⟩
  · obtain ⟨t, rfl, hkt⟩ := peeked_kind hk
    have c := variableDefinitions_sound n sP s' t _ p.w heP p.head_cons hkt h2 hnd
    exact (c.transport p.toks.symm rfl c.eofEnd).weaken (by
      rintro x ⟨vs, _, rfl, hf⟩
      exact ⟨vs, rfl, by rw [← bud_peek p]; exact hf⟩)
  · rw [run_pure] at h2
    injection h2 with _ h2
    subst h2
    exact (Cons.nil p.toks heP).weaken (by rintro x rfl; exact ⟨[], rfl, by intro v hv; cases hv⟩)

/-! ### operation definition -/

theorem good_selectionSet (n : Nat) : Good (selectionSet n) := (goodSel n).selSet

theorem good_opSel (n : Nat) : Good (opSel n) :=
  good_bind _ _ good_peek (fun _ => good_ite _ _ _ (good_selectionSet n) good_errAndPop)

/-- `selection_set` or `err_and_pop` -/
theorem opSel_sound (n : Nat) (s s' : PState) (w : TW s) (he : EofEnd s)
    (h : (opSel n).run s = .ok () s') (hnd : ¬ Doomed s') : Cons s s' (LSet (bud s)) := by
  unfold opSel at h
  obtain ⟨sP, o, p, hor⟩ := ifPeek_dec .lCurly _ _ s s' () w h
  have heP := p.eofEnd he
  rcases hor with ⟨hk, h2⟩ | ⟨_, h2⟩
  · obtain ⟨t, rfl, hkt⟩ := peeked_kind hk
    have c := (sel_all_sound n).1 sP s' t _ p.w heP p.head_cons hkt h2 hnd
    exact (c.transport p.toks.symm rfl c.eofEnd).weaken (by intro x hx; rw [bud_peek p] at hx; exact hx)
  · exact absurd (errAndPop_never sP s' p.w heP h2) hnd

/-- `Directives? SelectionSet` behind the variable definitions -/
theorem opDirsSel_sound (n : Nat) (s s' : PState) (w : TW s) (he : EofEnd s)
    (h : (optKind .at (directives n false) (opSel n)).run s = .ok () s') (hnd : ¬ Doomed s') :
    Cons s s' (fun x => ∃ ds y, x = Ast.tDirectives ds ++ y ∧ dirsFit false (bud s) ds ∧ LSet (bud s) y) := by
  unfold optKind at h
  obtain ⟨s5, h6, h7⟩ := optThen_dec .at (directives n false) (opSel n) s s' h
  have a5 := good_opt .at _ (good_directives n false) s () s5 w h6
  have hnd5 : ¬ Doomed s5 := fun d => hnd ((good_opSel n s5 () s' a5.w h7).doom d)
  have c1 := optDirectives_sound n s s5 w he h6 hnd5
  have c2 := opSel_sound n s5 s' a5.w c1.eofEnd h7 hnd
  exact (c1.seq c2).weaken (by
    rintro z ⟨x, y, rfl, ⟨ds, rfl, hd⟩, hy⟩
    exact ⟨ds, y, rfl, hd, by rw [bud_adv a5] at hy; exact hy⟩)

theorem good_opDirsSel (n : Nat) : Good (optKind .at (directives n false) (opSel n)) :=
  good_bind _ _ good_peek (fun _ => good_ite _ _ _ (good_bind _ _ (good_directives n false) (fun _ => good_opSel n)) (good_opSel n))

theorem good_variableDefinitions (n : Nat) : Good (variableDefinitions n) := (acc_variableDefinitions n).1

theorem good_opVars (n : Nat) : Good (optKind .lParen (variableDefinitions n) (optKind .at (directives n false) (opSel n))) :=
  good_bind _ _ good_peek (fun _ => good_ite _ _ _ (good_bind _ _ (good_variableDefinitions n) (fun _ => good_opDirsSel n)) (good_opDirsSel n))

theorem good_opName (n : Nat) :
    Good (optKind .name name (optKind .lParen (variableDefinitions n) (optKind .at (directives n false) (opSel n)))) :=
  good_bind _ _ good_peek (fun _ => good_ite _ _ _ (good_bind _ _ good_name (fun _ => good_opVars n)) (good_opVars n))

/-- `if p.peek() == Some(TokenKind::Name) { name }` -/
theorem optName_sound (s s' : PState) (w : TW s) (he : EofEnd s)
    (h : (peek >>= fun k => if k == some Kind.name then name else pure ()).run s = .ok () s') (hnd : ¬ Doomed s') :
    Cons s s' (fun x => ∃ nm : Option Ast.Str, x = (match nm with | some n => [.name n] | none => [])) := by
  obtain ⟨sP, o, p, hor⟩ := ifPeek_dec .name _ _ s s' () w h
  have heP := p.eofEnd he
  rcases hor with ⟨_, h2⟩ | ⟨_, h2⟩
  · have c := cons_of_acc (acc_name (E := fun _ => False) (H := fun _ => True)) sP s' () p.w heP trivial h2 hnd
    exact (c.transport p.toks.symm rfl c.eofEnd).weaken (by rintro x ⟨nm, rfl⟩; exact ⟨some nm, rfl⟩)
  · rw [run_pure] at h2
    injection h2 with _ h2
    subst h2
    exact (Cons.nil p.toks heP).weaken (by rintro x rfl; exact ⟨none, rfl⟩)

theorem opBody_sound (n : Nat) (s s' : PState) (t : Tok) (rest : List Tok) (w : TW s) (he : EofEnd s)
    (ht : Toks s = t :: rest) (hk : t.kind = .name) (h : (opBody n).run s = .ok () s') (hnd : ¬ Doomed s') :
    Cons s s' (LOpFull (bud s)) := by
  unfold opBody at h
  obtain ⟨_, s3, h3, h4⟩ := bind_dec operationType _ s s' () h
  have hT := acc_operationType (E := fun _ => False) early_false
  have a3 := hT.1 s () s3 w h3
  have hnd3 : ¬ Doomed s3 := fun d => hnd ((good_opName n s3 () s' a3.w h4).doom d)
  have c0 := cons_of_acc hT s s3 () w he ⟨t, by rw [ht]; rfl, by simp [hk]⟩ h3 hnd3
  unfold optKind at h4
  obtain ⟨s4, h5, h6⟩ := optThen_dec .name name _ s3 s' h4
  have a4 := good_opt .name _ good_name s3 () s4 a3.w h5
  have hnd4 : ¬ Doomed s4 := fun d => hnd ((good_opVars n s4 () s' a4.w h6).doom d)
  have c1 := optName_sound s3 s4 a3.w c0.eofEnd h5 hnd4
  have h6' : (optKind .lParen (variableDefinitions n) (optKind .at (directives n false) (opSel n))).run s4 = .ok () s' := h6
  unfold optKind at h6'
  obtain ⟨s5, h7, h8⟩ := optThen_dec .lParen (variableDefinitions n) _ s4 s' h6'
  have a5 := good_opt .lParen _ (good_variableDefinitions n) s4 () s5 a4.w h7
  have hnd5 : ¬ Doomed s5 := fun d => hnd ((good_opDirsSel n s5 () s' a5.w h8).doom d)
  have c2 := optVarDefs_sound n s4 s5 a4.w c1.eofEnd h7 hnd5
  have c3 := opDirsSel_sound n s5 s' a5.w c2.eofEnd h8 hnd
  have hb4 : bud s4 = bud s := by rw [bud_adv a4, bud_adv a3]
  have hb5 : bud s5 = bud s := by rw [bud_adv a5, hb4]
  exact (((c0.seq c1).seq c2).seq c3).weaken (by
    rintro z ⟨x123, x4, rfl, ⟨x12, x3, rfl, ⟨x1, x2, rfl, ⟨ty, rfl⟩, ⟨nm, rfl⟩⟩, ⟨vs, rfl, hvs⟩⟩, ⟨ds, y, rfl, hds, ⟨ss, hne, rfl, hb1, hfs⟩⟩⟩
    rw [hb4] at hvs
    rw [hb5] at hds hb1 hfs
    refine ⟨ty, nm, vs, ds, ss, ?_, hvs, hds, hne, hb1, hfs⟩
    cases nm <;> simp [tOperation, Ast.tSelSet, List.append_assoc])

theorem opDispatch_other (n : Nat) (k : Kind) (h1 : k ≠ .name) (h2 : k ≠ .lCurly) : opDispatch n (some k) = errAndPop := by
  cases k <;> first | rfl | exact absurd rfl h1 | exact absurd rfl h2

/-- **`operation_definition` is sound with the budget**: an error-free run consumes a full operation definition or the
    shorthand `{ Selection+ }`, every part within the recursion budget of the start state -/
theorem operationDefinition_sound (n : Nat) (s s' : PState) (w : TW s) (he : EofEnd s)
    (h : (operationDefinition n).run s = .ok () s') (hnd : ¬ Doomed s') : Cons s s' (LOperation (bud s)) := by
  rw [operationDefinition_eq] at h
  obtain ⟨ko, sP, hp, h2⟩ := bind_dec peek _ s s' () h
  obtain ⟨o, p, hko⟩ := peek_obs s sP ko w hp
  subst hko
  have heP : EofEnd sP := p.eofEnd he
  cases o with
  | none => exact absurd (errAndPop_never sP s' p.w heP h2) hnd
  | some t =>
    simp only [Option.map_some] at h2
    by_cases hkn : t.kind = .name
    · rw [hkn] at h2
      have hni : isIgnoredKind t.kind = false := by rw [hkn]; rfl
      obtain ⟨s1, s2, e1, h1, o2, ht1, he1, hnd2⟩ := withNode_entered "OPERATION_DEFINITION" _ sP s' () t _ p.w heP p.head_cons hni h2 hnd
      have c := opBody_sound n s1 s2 t _ e1.w he1 ht1 hkn h1 hnd2
      have h0 : Toks s = Toks s1 := by rw [← p.toks]; simpa using e1.toks
      exact (c.transport h0 o2.toks (eofEnd_same _ _ c.eofEnd o2.current o2.lx o2.errors)).weaken (by
        intro x hx
        rw [bud_eat e1, bud_peek p] at hx
        exact Or.inl hx)
    · by_cases hkl : t.kind = .lCurly
      · rw [hkl] at h2
        have hni : isIgnoredKind t.kind = false := by rw [hkl]; rfl
        obtain ⟨s1, s2, e1, h1, o2, ht1, he1, hnd2⟩ := withNode_entered "OPERATION_DEFINITION" _ sP s' () t _ p.w heP p.head_cons hni h2 hnd
        have c := (sel_all_sound n).1 s1 s2 t _ e1.w he1 ht1 hkl h1 hnd2
        have h0 : Toks s = Toks s1 := by rw [← p.toks]; simpa using e1.toks
        exact (c.transport h0 o2.toks (eofEnd_same _ _ c.eofEnd o2.current o2.lx o2.errors)).weaken (by
          intro x hx
          rw [bud_eat e1, bud_peek p] at hx
          exact Or.inr hx)
      · rw [opDispatch_other n t.kind hkn hkl] at h2
        exact absurd (errAndPop_never sP s' p.w heP h2) hnd

/-! ### fragment definition -/

/-- `Directives? SelectionSet` behind the type condition -/
theorem inlT2_sound (n : Nat) (s s' : PState) (w : TW s) (he : EofEnd s)
    (h : (inlT2 n).run s = .ok () s') (hnd : ¬ Doomed s') :
    Cons s s' (fun x => ∃ ds y, x = Ast.tDirectives ds ++ y ∧ dirsFit false (bud s) ds ∧ LSet (bud s) y) := by
  obtain ⟨s5, h6, h7⟩ := optThen_dec .at (directives n false) (inlT3 n) s s' h
  have a5 := good_opt .at _ (good_directives n false) s () s5 w h6
  have hnd5 : ¬ Doomed s5 := fun d => hnd ((good_inlT3 n s5 () s' a5.w h7).doom d)
  have c1 := optDirectives_sound n s s5 w he h6 hnd5
  have c2 := inlT3_sound n (sel_all_sound n).1 s5 s' a5.w c1.eofEnd h7 hnd
  exact (c1.seq c2).weaken (by
    rintro z ⟨x, y, rfl, ⟨ds, rfl, hd⟩, hy⟩
    exact ⟨ds, y, rfl, hd, by rw [bud_adv a5] at hy; exact hy⟩)

theorem fragBody_sound (n : Nat) (s s' : PState) (t : Tok) (rest : List Tok) (w : TW s) (he : EofEnd s)
    (ht : Toks s = t :: rest) (hk : t.kind = .name) (hd : t.data = "fragment".toList)
    (h : (fragBody n).run s = .ok () s') (hnd : ¬ Doomed s') : Cons s s' (LFragment (bud s)) := by
  have hni : isIgnoredKind t.kind = false := by rw [hk]; rfl
  unfold fragBody at h
  obtain ⟨_, s3, h3, h4⟩ := bind_dec (bump "fragment_KW") _ s s' () h
  obtain ⟨ign, e3, hall, _⟩ := bump_spec "fragment_KW" s s3 w t rest ht h3
  have c0 : Cons s s3 (fun x => x = [.name t.data]) :=
    Cons.ofEat e3 he (noEof_cons (by rw [hk]; decide) hall) (tokIs_name t ign hk hall)
  obtain ⟨_, s4, h5, h6⟩ := bind_dec fragmentName _ s3 s' () h4
  have a4 := good_fragmentName s3 () s4 e3.w h5
  obtain ⟨_, s5, h7, h8⟩ := bind_dec typeCondition _ s4 s' () h6
  have a5 := good_typeCondition s4 () s5 a4.w h7
  have h8' : (inlT2 n).run s5 = .ok () s' := h8
  have hnd5 : ¬ Doomed s5 := fun d => hnd ((good_inlT2 n s5 () s' a5.w h8').doom d)
  have hnd4 : ¬ Doomed s4 := fun d => hnd5 (a5.doom d)
  have c1 := cons_of_acc (acc_fragmentName (E := fun _ => False) (H := fun _ => True) early_false) s3 s4 () e3.w c0.eofEnd trivial h5 hnd4
  have c2 := cons_of_acc (acc_typeCondition (E := fun _ => False) (H := fun _ => True) early_false) s4 s5 () a4.w c1.eofEnd trivial h7 hnd5
  have c3 := inlT2_sound n s5 s' a5.w c2.eofEnd h8' hnd
  have hb5 : bud s5 = bud s := by rw [bud_adv a5, bud_adv a4, bud_eat e3]
  exact (((c0.seq c1).seq c2).seq c3).weaken (by
    rintro z ⟨x123, x4, rfl, ⟨x12, x3, rfl, ⟨x1, x2, rfl, rfl, ⟨nm, hne, rfl⟩⟩, ⟨tc, rfl⟩⟩, ⟨ds, y, rfl, hds, ⟨ss, hss, rfl, hb1, hfs⟩⟩⟩
    rw [hb5] at hds hb1 hfs
    refine ⟨nm, tc, ds, ss, ?_, hne, hds, hss, hb1, hfs⟩
    rw [hd]
    simp [Ast.tDefinition, sOnP, Ast.sOn, Ast.tSelSet, List.append_assoc])

theorem fragmentDefinition_sound (n : Nat) (s s' : PState) (t : Tok) (rest : List Tok) (w : TW s) (he : EofEnd s)
    (ht : Toks s = t :: rest) (hk : t.kind = .name) (hd : t.data = "fragment".toList)
    (h : (fragmentDefinition n).run s = .ok () s') (hnd : ¬ Doomed s') : Cons s s' (LFragment (bud s)) := by
  have hni : isIgnoredKind t.kind = false := by rw [hk]; rfl
  rw [fragmentDefinition_eq] at h
  obtain ⟨s1, s2, e1, h1, o2, ht1, he1, hnd2⟩ := withNode_entered "FRAGMENT_DEFINITION" _ s s' () t rest w he ht hni h hnd
  have h0 : Toks s = Toks s1 := by simpa using e1.toks
  unfold fragGuard optKind at h1
  obtain ⟨sP, o, p, hor⟩ := ifPeek_dec .stringValue _ _ s1 s2 () e1.w h1
  have heP := p.eofEnd he1
  have htP : Toks sP = t :: rest := by rw [p.toks]; exact ht1
  rcases hor with ⟨hks, _⟩ | ⟨_, h2⟩
  · exfalso
    have ho : o = some t := by
      have hh := p.head
      rw [ht1] at hh
      first | simpa using hh.symm | simpa using hh
    subst ho
    simp [hk] at hks
  · have c := fragBody_sound n sP s2 t rest p.w heP htP hk hd h2 hnd2
    have h0' : Toks s = Toks sP := by rw [h0, p.toks]
    exact (c.transport h0' o2.toks (eofEnd_same _ _ c.eofEnd o2.current o2.lx o2.errors)).weaken (by
      intro x hx
      rw [bud_peek p, bud_eat e1] at hx
      exact hx)

end Apollo.Parse.Exact
