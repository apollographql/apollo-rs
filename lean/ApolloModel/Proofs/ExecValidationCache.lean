import ApolloModel.Model.ExecValidationCache
import ApolloModel.Proofs.ExecValidationMerge
/-
C17: the cache of the XING algorithm is transparent: as long as the recursion limit is not reached, the
guarded walks report a conflict exactly when the unguarded walks (`sameResponseShapeByName`,
`sameForCommonParentsByName`) do — for every identity `same` of merged sets that only identifies sets
with the same contents, whatever was validated before with the same cache.
-/
namespace Apollo.ExecVal
open Apollo Apollo.Spec Apollo.Spec.ExecVal

/-! ### nesting depth of abstract field trees -/
mutual
  def AField.depth : AField → Nat
    | .mk _ _ _ _ _ subs => depthList subs + 1
  def depthList : List AField → Nat
    | [] => 0
    | a :: as => max a.depth (depthList as)
end

theorem depth_le_of_mem : ∀ (S : List AField) (x : AField), x ∈ S → x.depth ≤ depthList S
  | [], _, h => by simp at h
  | a :: as, x, h => by
    simp only [depthList]
    rcases List.mem_cons.mp h with rfl | h
    · exact Nat.le_max_left _ _
    · exact Nat.le_trans (depth_le_of_mem as x h) (Nat.le_max_right _ _)

theorem depthList_le_of_forall : ∀ (S : List AField) (d : Nat), (∀ x ∈ S, x.depth ≤ d) → depthList S ≤ d
  | [], _, _ => by simp [depthList]
  | a :: as, d, h => by
    simp only [depthList]
    exact Nat.max_le.mpr ⟨h a (by simp), depthList_le_of_forall as d (fun x hx => h x (by simp [hx]))⟩

theorem depth_subs (a : AField) : depthList a.subs + 1 = a.depth := by
  cases a; simp [AField.subs, AField.depth]

theorem depth_nested_lt (S g : List AField) (hg : ∀ x ∈ g, x ∈ S) (hne : (nestedSets g).isEmpty = false) :
    depthList (nestedSets g) < depthList S := by
  have hex : ∃ z, z ∈ nestedSets g := by
    cases h : nestedSets g with
    | nil => rw [h] at hne; simp at hne
    | cons z _ => exact ⟨z, by simp⟩
  obtain ⟨z, hz⟩ := hex
  obtain ⟨a, ha, _⟩ := mem_nested g z hz
  have hpos : 1 ≤ depthList S := by
    have := depth_le_of_mem S a (hg a ha)
    have := depth_subs a
    omega
  have : depthList (nestedSets g) ≤ depthList S - 1 := by
    apply depthList_le_of_forall
    intro x hx
    obtain ⟨b, hb, hxb⟩ := mem_nested g x hx
    have h1 := depth_le_of_mem _ x hxb
    have h2 := depth_subs b
    have h3 := depth_le_of_mem S b (hg b hb)
    omega
  omega

/-! ### the unguarded walk at every depth -/

/-- the unguarded walk accepts `S` whatever the recursion limit -/
def Full (parts : List AField → List (List AField)) (leaf : List AField → Bool) (S : List AField) : Prop :=
  ∀ m, treeCheck parts leaf m S = true

theorem full_iff (parts : List AField → List (List AField)) (leaf : List AField → Bool) (S : List AField) :
    Full parts leaf S ↔
      ∀ g ∈ parts S, leaf g = true ∧ ((nestedSets g).isEmpty = true ∨ Full parts leaf (nestedSets g)) := by
  constructor
  · intro h g hg
    have h1 := h 1
    simp only [treeCheck, List.all_eq_true, Bool.and_eq_true] at h1
    refine ⟨(h1 g hg).1, ?_⟩
    cases he : (nestedSets g).isEmpty with
    | true => exact Or.inl rfl
    | false =>
      right
      intro m
      have := h (m + 1)
      simp only [treeCheck, List.all_eq_true, Bool.and_eq_true, Bool.or_eq_true] at this
      rcases (this g hg).2 with h2 | h2
      · rw [he] at h2; cases h2
      · exact h2
  · intro h m
    cases m with
    | zero => rfl
    | succ m =>
      simp only [treeCheck, List.all_eq_true, Bool.and_eq_true, Bool.or_eq_true]
      intro g hg
      obtain ⟨h1, h2⟩ := h g hg
      exact ⟨h1, h2.imp id (fun f => f m)⟩

/-- below the recursion limit, accepting at that limit is accepting at every limit -/
theorem full_of_treeCheck (parts : List AField → List (List AField)) (leaf : List AField → Bool)
    (hparts : ∀ S g, g ∈ parts S → ∀ x ∈ g, x ∈ S) :
    ∀ (n : Nat) (S : List AField), depthList S < n → treeCheck parts leaf n S = true → Full parts leaf S := by
  intro n
  induction n with
  | zero => intro S h; omega
  | succ n ih =>
    intro S hd h
    rw [full_iff]
    simp only [treeCheck, List.all_eq_true, Bool.and_eq_true, Bool.or_eq_true] at h
    intro g hg
    refine ⟨(h g hg).1, ?_⟩
    cases he : (nestedSets g).isEmpty with
    | true => exact Or.inl rfl
    | false =>
      right
      rcases (h g hg).2 with h2 | h2
      · rw [he] at h2; cases h2
      · exact ih _ (by have := depth_nested_lt S g (hparts S g hg) he; omega) h2

/-! ### transparency of the guards -/

/-- cache invariant: if nothing was reported so far, every set whose guard is set is either still
    being walked (`P`) or is accepted by the unguarded walk -/
def CacheOk (parts : List AField → List (List AField)) (leaf : List AField → Bool)
    (P : List AField → Prop) (st : Bool × Done) : Prop :=
  st.1 = true → ∀ T ∈ st.2, P T ∨ Full parts leaf T

theorem cachedCheck_spec (same : List AField → List AField → Bool) (hsame : ∀ a b, same a b = true → a = b)
    (parts : List AField → List (List AField)) (leaf : List AField → Bool)
    (hparts : ∀ S g, g ∈ parts S → ∀ x ∈ g, x ∈ S) :
    ∀ (n : Nat) (S : List AField) (st : Bool × Done) (P : List AField → Prop),
      depthList S < n → (∀ T, P T → depthList S < depthList T) → CacheOk parts leaf P st →
      ((cachedCheck same parts leaf n S st).1 = true ↔ st.1 = true ∧ Full parts leaf S) ∧
        CacheOk parts leaf P (cachedCheck same parts leaf n S st) := by
  intro n
  induction n with
  | zero => intro S st P h; omega
  | succ n ih =>
    intro S st P hd hP hc
    simp only [cachedCheck]
    by_cases hhit : st.2.any (same S) = true
    · -- guard already set
      rw [if_pos hhit]
      refine ⟨?_, hc⟩
      constructor
      · intro hok
        refine ⟨hok, ?_⟩
        obtain ⟨T, hT, hs⟩ := List.any_eq_true.mp hhit
        have hST : S = T := hsame S T hs
        rcases hc hok T hT with hp | hf
        · have := hP T hp; rw [← hST] at this; omega
        · rw [hST]; exact hf
      · exact fun h => h.1
    · rw [if_neg hhit]
      -- the loop over the parts, with `S` itself among the sets being walked
      let P' : List AField → Prop := fun T => P T ∨ T = S
      have hP' : ∀ N, depthList N < depthList S → ∀ T, P' T → depthList N < depthList T := by
        intro N hN T hT
        rcases hT with hT | rfl
        · have := hP T hT; omega
        · exact hN
      have loop : ∀ (gs : List (List AField)), (∀ g ∈ gs, g ∈ parts S) → ∀ (st1 : Bool × Done),
          CacheOk parts leaf P' st1 →
          ((gs.foldl (cachedStep (cachedCheck same parts leaf n) leaf) st1).1 = true ↔
            st1.1 = true ∧ ∀ g ∈ gs, leaf g = true ∧ ((nestedSets g).isEmpty = true ∨ Full parts leaf (nestedSets g))) ∧
          CacheOk parts leaf P' (gs.foldl (cachedStep (cachedCheck same parts leaf n) leaf) st1) := by
        intro gs
        induction gs with
        | nil => intro _ st1 h1; exact ⟨by simp, h1⟩
        | cons g rest ihr =>
          intro hgs st1 h1
          simp only [List.foldl_cons]
          have hg := hgs g (by simp)
          have hst' : CacheOk parts leaf P' (st1.1 && leaf g, st1.2) := by
            intro hok
            simp only [Bool.and_eq_true] at hok
            exact h1 hok.1
          have step : ((cachedStep (cachedCheck same parts leaf n) leaf st1 g).1 = true ↔
                (st1.1 = true ∧ leaf g = true ∧ ((nestedSets g).isEmpty = true ∨ Full parts leaf (nestedSets g)))) ∧
              CacheOk parts leaf P' (cachedStep (cachedCheck same parts leaf n) leaf st1 g) := by
            unfold cachedStep
            cases he : (nestedSets g).isEmpty with
            | true =>
              simp only [if_true]
              refine ⟨?_, hst'⟩
              simp [Bool.and_eq_true]
            | false =>
              simp only [Bool.false_eq_true, if_false]
              have hlt := depth_nested_lt S g (hparts S g hg) he
              have := ih (nestedSets g) (st1.1 && leaf g, st1.2) P' (by omega) (hP' _ hlt) hst'
              refine ⟨?_, this.2⟩
              rw [this.1]
              simp only [Bool.and_eq_true, false_or]
              exact ⟨fun ⟨⟨a, b⟩, c⟩ => ⟨a, b, c⟩, fun ⟨a, b, c⟩ => ⟨⟨a, b⟩, c⟩⟩
          have := ihr (fun g' hg' => hgs g' (by simp [hg'])) _ step.2
          refine ⟨?_, this.2⟩
          rw [this.1, step.1]
          simp only [List.mem_cons, forall_eq_or_imp]
          exact ⟨fun ⟨⟨a, b⟩, c⟩ => ⟨a, b, c⟩, fun ⟨a, b, c⟩ => ⟨⟨a, b⟩, c⟩⟩
      have hinit : CacheOk parts leaf P' (st.1, S :: st.2) := by
        intro hok T hT
        rcases List.mem_cons.mp hT with rfl | hT
        · exact Or.inl (Or.inr rfl)
        · exact (hc hok T hT).imp Or.inl id
      have hl := loop (parts S) (fun g hg => hg) _ hinit
      have hres : ((parts S).foldl (cachedStep (cachedCheck same parts leaf n) leaf) (st.1, S :: st.2)).1 = true ↔
          st.1 = true ∧ Full parts leaf S := by
        rw [hl.1, full_iff]
      refine ⟨hres, ?_⟩
      intro hok T hT
      rcases hl.2 hok T hT with (hp | rfl) | hf
      · exact Or.inl hp
      · exact Or.inr (hres.mp hok).2
      · exact Or.inr hf

/-! ### the two walks are instances -/

theorem shape_is_treeCheck : ∀ (n : Nat) (fs : List AField),
    sameResponseShapeByName n fs = treeCheck groupByOutputName shapeLeaf n fs := by
  intro n
  induction n with
  | zero => intro fs; rfl
  | succ n ih =>
    intro fs
    simp only [sameResponseShapeByName, treeCheck, shapeLeaf, ih]

theorem parents_is_treeCheck : ∀ (n : Nat) (fs : List AField),
    sameForCommonParentsByName n fs = treeCheck parentsParts parentsLeaf n fs := by
  intro n
  induction n with
  | zero => intro fs; rfl
  | succ n ih =>
    intro fs
    simp only [sameForCommonParentsByName, treeCheck, parentsLeaf, parentsParts, List.all_flatMap, ih]

theorem shapeParts_sub (S g : List AField) (h : g ∈ groupByOutputName S) : ∀ x ∈ g, x ∈ S := by
  obtain ⟨k, rfl⟩ := group_is_filter S g h
  intro x hx; exact (List.mem_filter.mp hx).1

theorem parentsParts_sub (S g : List AField) (h : g ∈ parentsParts S) : ∀ x ∈ g, x ∈ S := by
  unfold parentsParts at h
  obtain ⟨g0, hg0, hg⟩ := List.mem_flatMap.mp h
  intro x hx
  exact shapeParts_sub S g0 hg0 x (group_subset g0 g hg x hx)

/-- memo invariant between operations: every guarded set is accepted by the unguarded walk, unless a
    conflict was already reported -/
def MemoOk (st : Bool × Memo) : Prop :=
  CacheOk groupByOutputName shapeLeaf (fun _ => False) (st.1, st.2.shapeDone) ∧
    CacheOk parentsParts parentsLeaf (fun _ => False) (st.1, st.2.parentsDone)

theorem xingCachedOp_spec (same : List AField → List AField → Bool) (hsame : ∀ a b, same a b = true → a = b)
    (limit : Nat) (st : Bool × Memo) (fs : List AField) (hd : depthList fs < limit) (hm : MemoOk st) :
    ((xingCachedOp same limit st fs).1 = (st.1 && xingCanMerge limit fs)) ∧ MemoOk (xingCachedOp same limit st fs) := by
  have s1 := cachedCheck_spec same hsame groupByOutputName shapeLeaf shapeParts_sub limit fs
    (st.1, st.2.shapeDone) (fun _ => False) hd (fun _ h => h.elim) hm.1
  have hm2 : CacheOk parentsParts parentsLeaf (fun _ => False)
      ((cachedCheck same groupByOutputName shapeLeaf limit fs (st.1, st.2.shapeDone)).1, st.2.parentsDone) := by
    intro hok
    exact hm.2 (s1.1.mp hok).1
  have s2 := cachedCheck_spec same hsame parentsParts parentsLeaf parentsParts_sub limit fs
    (_, st.2.parentsDone) (fun _ => False) hd (fun _ h => h.elim) hm2
  have e1 : Full groupByOutputName shapeLeaf fs ↔ sameResponseShapeByName limit fs = true := by
    rw [shape_is_treeCheck]
    exact ⟨fun h => h limit, full_of_treeCheck _ _ shapeParts_sub limit fs hd⟩
  have e2 : Full parentsParts parentsLeaf fs ↔ sameForCommonParentsByName limit fs = true := by
    rw [parents_is_treeCheck]
    exact ⟨fun h => h limit, full_of_treeCheck _ _ parentsParts_sub limit fs hd⟩
  refine ⟨?_, ?_, ?_⟩
  · rw [Bool.eq_iff_iff]
    simp only [xingCachedOp, xingCanMerge, Bool.and_eq_true]
    rw [s2.1, s1.1, e1, e2]
    exact ⟨fun ⟨⟨a, b⟩, c⟩ => ⟨a, b, c⟩, fun ⟨a, b, c⟩ => ⟨⟨a, b⟩, c⟩⟩
  · intro hok
    simp only [xingCachedOp] at hok ⊢
    exact s1.2 ((s2.1.mp hok).1)
  · simp only [xingCachedOp]
    exact s2.2

/-- TRANSPARENCY OF THE CACHE, whole document: with one validator (one cache) for all operations, and
    every operation's field tree below the recursion limit, no conflict is reported exactly when the
    unguarded algorithm accepts every operation -/
theorem xingCachedDoc_eq (same : List AField → List AField → Bool) (hsame : ∀ a b, same a b = true → a = b)
    (limit : Nat) (ops : List (List AField)) (hd : ∀ fs ∈ ops, depthList fs < limit) :
    xingCachedDoc same limit ops = ops.all (xingCanMerge limit) := by
  unfold xingCachedDoc
  have gen : ∀ (ops : List (List AField)) (st : Bool × Memo), (∀ fs ∈ ops, depthList fs < limit) → MemoOk st →
      (ops.foldl (xingCachedOp same limit) st).1 = (st.1 && ops.all (xingCanMerge limit)) := by
    intro ops
    induction ops with
    | nil => intro st _ _; simp
    | cons fs rest ih =>
      intro st hd hm
      have h1 := xingCachedOp_spec same hsame limit st fs (hd fs (by simp)) hm
      simp only [List.foldl_cons, List.all_cons]
      rw [ih _ (fun f hf => hd f (by simp [hf])) h1.2, h1.1, Bool.and_assoc]
  have := gen ops (true, { shapeDone := [], parentsDone := [] }) hd
    ⟨fun _ T hT => by simp at hT, fun _ T hT => by simp at hT⟩
  simpa using this

/-! ### the concrete identity -/
mutual
  theorem AField.beq_sound : ∀ (a b : AField), AField.beq a b = true → a = b
    | .mk k p o na s subs, .mk k' p' o' na' s' subs', h => by
      simp only [AField.beq, Bool.and_eq_true, beq_iff_eq] at h
      obtain ⟨⟨⟨⟨⟨h1, h2⟩, h3⟩, h4⟩, h5⟩, h6⟩ := h
      have := AField.beqList_sound subs subs' h6
      subst h1; subst h2; subst h3; subst h4; subst h5; subst this; rfl
  theorem AField.beqList_sound : ∀ (a b : List AField), AField.beqList a b = true → a = b
    | [], [], _ => rfl
    | a :: as, b :: bs, h => by
      simp only [AField.beqList, Bool.and_eq_true] at h
      rw [AField.beq_sound a b h.1, AField.beqList_sound as bs h.2]
    | [], _ :: _, h => by simp [AField.beqList] at h
    | _ :: _, [], h => by simp [AField.beqList] at h
end

end Apollo.ExecVal
