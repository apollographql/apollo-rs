import ApolloModel.Proofs.ParserComplete16
/-
C05 (completeness of the whole Document grammar): generic rules for the type-system definitions —
descriptions, keyword look-aheads on the token text, `peek_while` item lists in braces / parentheses,
`parse_separated_list`, the flag loop of the schema braces (the program pieces are those of ParserDef3–15);
the guards of input value, field and enum value definitions under the over-charging depth; and a completeness
judgement whose follow condition may look at the TEXT of the follow token (`CmpT`) — needed where the parser does
(`implements` after the name of an object / interface type) — with the shape `Description? keyword Name tail` of the
type-system definitions.
-/
set_option linter.unusedSimpArgs false
namespace Apollo.Parse
open Apollo.Rowan hiding Str
open Apollo.Lex hiding Str

theorem cmp_description : Cmp (fun _ => True) description (fun _ x => ∃ d, x = [.str d]) (fun _ => True) (fun _ => True) := by
  unfold description
  refine cmp_withNode _ (cmp_withNode _ ?_)
  exact (cmp_bump "STRING").mono (fun _ h => h) (by rintro b x ⟨d, rfl⟩; exact ⟨_, rfl⟩) (fun _ h => h) (fun _ h => h)

theorem cmp_nameOrErr : Cmp (fun _ => True) nameOrErr (fun _ x => ∃ n, x = [.name n]) (fun _ => True) (fun _ => True) := by
  unfold nameOrErr
  exact cmp_peekGuard (· == some .name) cmp_name (by rintro b x ⟨n, rfl⟩; exact ⟨_, _, rfl, rfl⟩)

theorem peekData_head (s s' : PState) (od : Option Str) (t : Tok) (tl : List Tok) (w : TW s) (ht : Toks s = t :: tl)
    (h : peekData.run s = .ok od s') : od = some t.data ∧ Eat s s' [] ∧ Toks s' = t :: tl := by
  unfold peekData at h
  obtain ⟨o, sQ, hq2, h3⟩ := bind_dec peekToken _ s s' od h
  obtain ⟨rfl, eP, htP⟩ := peekToken_head s sQ o t tl w ht hq2
  rw [run_pure] at h3
  injection h3 with h3 h4
  subst h3 h4
  exact ⟨rfl, eP, htP⟩

/-- the keyword in front of a definition is there: `if p.peek_data() == Some(word) { p.bump(..) }` -/
theorem cmp_optKwSeen {α : Type} {Hk : Kind → Prop} (word : String) (sk : SK) (rest : PI α)
    {Lr : Nat → List Ast.Tok → Prop} {F : Kind → Prop} {Q : α → Prop}
    (hr : Cmp (fun _ => True) rest Lr F Q) :
    Cmp Hk (optKw word sk rest) (fun b x => ∃ x2, x = .name word.toList :: x2 ∧ Lr b x2) F Q := by
  intro s s' a c x q0 rst w hrun hl hs ht hq hf _
  obtain ⟨x2, rfl, hl2⟩ := hl
  obtain ⟨t, tl, hc, hta⟩ := spells_head hs
  have hd : t.data = word.toList := data_of_astOfV_name hta
  unfold optKw at hrun
  obtain ⟨od, sP, hp, h2⟩ := bind_dec peekData _ s s' a hrun
  obtain ⟨rfl, eP, htP⟩ := peekData_head s sP od t (tl ++ q0 :: rst) w (by rw [ht, hc]; simp) hp
  have hk : kwOpt word (some t.data) = true := by rw [hd]; simp [kwOpt]
  simp only [hk, if_true] at h2
  have hb : sP.recLimit - sP.recCur = s.recLimit - s.recCur := by rw [eP.recLimit, eP.recCur]
  have hcomb := cmp_bind (Hk := fun _ => True) (F := F) (F1 := fun _ => True) (cmp_bump sk) (fun _ _ => hr)
    (fun _ _ _ _ => trivial) (fun _ _ => trivial) (fun _ h => h)
  obtain ⟨e, t2, q⟩ := hcomb sP s' a c _ q0 rst eP.w h2 ⟨[.name word.toList], x2, rfl, ⟨_, rfl⟩, by rw [hb]; exact hl2⟩ hs
    (by rw [htP, hc]; simp) hq hf trivial
  exact ⟨by simpa using eP.trans e, t2, q⟩

/-- `if p.peek_data() == Some(word) { m; restT } else { restF }` when the word is there -/
theorem cmp_optData2_some {α : Type} {Hk : Kind → Prop} (word : String) (m : PI Unit) (restT restF : PI α)
    {Lm Lr : Nat → List Ast.Tok → Prop} {Fm F : Kind → Prop} {Q : α → Prop}
    (hm : Cmp (fun _ => True) m Lm Fm (fun _ => True)) (hT : Cmp (fun _ => True) restT Lr F Q)
    (hmhead : ∀ b x, Lm b x → ∃ x', x = .name word.toList :: x')
    (hrhead : ∀ b a x, Lr b (a :: x) → Fm (kindOfA a)) (hF : ∀ k, F k → Fm k) :
    Cmp Hk (optData2 word m restT restF) (fun b x => ∃ x1 x2, x = x1 ++ x2 ∧ Lm b x1 ∧ Lr b x2) F Q := by
  intro s s' a c x q0 rst w hrun hl hs ht hq hf _
  obtain ⟨x1, x2, rfl, hl1, hl2⟩ := hl
  obtain ⟨x1', rfl⟩ := hmhead _ _ hl1
  obtain ⟨t, tl, hc, hta⟩ := spells_head (x := x1' ++ x2) (by simpa using hs)
  have hd : t.data = word.toList := data_of_astOfV_name hta
  unfold optData2 at hrun
  obtain ⟨od, sP, hp, h2⟩ := bind_dec peekData _ s s' a hrun
  obtain ⟨rfl, eP, htP⟩ := peekData_head s sP od t (tl ++ q0 :: rst) w (by rw [ht, hc]; simp) hp
  have hk : kwOpt word (some t.data) = true := by rw [hd]; simp [kwOpt]
  simp only [hk, if_true] at h2
  have hb : sP.recLimit - sP.recCur = s.recLimit - s.recCur := by rw [eP.recLimit, eP.recCur]
  have hcomb := cmp_bind (Hk := fun _ => True) (F := F) hm (fun _ _ => hT) hrhead hF (fun _ h => h)
  obtain ⟨e, t2, q⟩ := hcomb sP s' a c _ q0 rst eP.w h2 ⟨_, x2, rfl, by rw [hb]; exact hl1, by rw [hb]; exact hl2⟩ hs
    (by rw [htP, hc]; simp) hq hf trivial
  exact ⟨by simpa using eP.trans e, t2, q⟩

/-! ### the head of the next item -/

theorem next_item_head {Li : Nat → List Ast.Tok → Prop} {P : Kind → Prop} {b : Nat}
    (hhead : ∀ b x, Li b x → ∃ a x', x = a :: x' ∧ P (kindOfA a)) (items : List (List Ast.Tok))
    (hall : ∀ i ∈ items, Li b i) (c2 : List Tok) (hs2 : Spells c2 items.flatten) (q0 : Tok) (rest : List Tok) (hq : Sigf q0) :
    ∃ f ftl, c2 ++ q0 :: rest = f :: ftl ∧ Sigf f ∧ ((items = [] ∧ f = q0 ∧ c2 = []) ∨ P f.kind) := by
  cases items with
  | nil =>
    have := spells_nil_inv (by simpa using hs2)
    subst this
    exact ⟨q0, rest, rfl, hq, Or.inl ⟨rfl, rfl, rfl⟩⟩
  | cons i0 is =>
    obtain ⟨a, x', rfl, hp⟩ := hhead _ i0 (hall i0 (by simp))
    obtain ⟨t, tl, rfl, hta⟩ := spells_head (x := x' ++ is.flatten) (by simpa using hs2)
    exact ⟨t, tl ++ q0 :: rest, rfl, sigf_of_astOfV hta, Or.inr (by rw [kind_of_astOfV hta]; exact hp)⟩

/-! ### `peek_while` over items selected by their first token -/

theorem cmp_itemsLoop (p : Kind → Bool) (item : PI Unit) (Li : Nat → List Ast.Tok → Prop) (Fi : Kind → Prop)
    (hitem : Cmp (fun _ => True) item Li Fi (fun _ => True))
    (hhead : ∀ b x, Li b x → ∃ a x', x = a :: x' ∧ p (kindOfA a) = true) (hFp : ∀ k, p k = true → Fi k) :
    ∀ (items : List (List Ast.Tok)) (fuel : Nat) (s s' : PState) (c : List Tok) (q0 : Tok) (rest : List Tok), TW s →
      (peekWhileLoop (itemsBody p item) fuel).run s = .ok () s' → (∀ i ∈ items, Li (s.recLimit - s.recCur) i) →
      Spells c items.flatten → Toks s = c ++ q0 :: rest → Sigf q0 → p q0.kind = false → Fi q0.kind →
      Eat s s' c ∧ Toks s' = q0 :: rest := by
  intro items
  induction items with
  | nil =>
    intro fuel s s' c q0 rest w hr _ hs ht hq hne _
    have := spells_nil_inv (by simpa using hs)
    subst this
    cases fuel with
    | zero => simp [peekWhileLoop, PI.outOfFuel] at hr
    | succ fuel =>
      unfold peekWhileLoop at hr
      obtain ⟨ko, sP, hp, h2⟩ := bind_dec peek _ s s' () hr
      obtain ⟨rfl, eP, htP, _⟩ := peek_head s sP ko q0 rest w (by simpa using ht) hp
      simp only [] at h2
      have h3 := getCurrent_dec _ sP s' () h2
      obtain ⟨b, sB, hb, h4⟩ := bind_dec (itemsBody p item q0.kind) _ sP s' () h3
      unfold itemsBody at hb
      simp only [hne, Bool.false_eq_true, if_false] at hb
      rw [run_pure] at hb
      injection hb with hb1 hb2
      subst hb1 hb2
      simp only [Bool.false_eq_true, if_false] at h4
      rw [run_pure] at h4
      injection h4 with _ h4
      subst h4
      exact ⟨eP, by simpa using htP⟩
  | cons it items ih =>
    intro fuel s s' c q0 rest w hr hall hs ht hq hne hfq
    obtain ⟨a, x', rfl, hka⟩ := hhead _ it (hall it (by simp))
    cases fuel with
    | zero => simp [peekWhileLoop, PI.outOfFuel] at hr
    | succ fuel =>
      obtain ⟨c1, c2, rfl, s1, s2⟩ := spells_split0 (x1 := a :: x') (x2 := items.flatten) (by simpa using hs)
      obtain ⟨t, tl, hc1, hta⟩ := spells_head s1
      obtain ⟨f, ftl, hfol, hsf, hff⟩ := next_item_head (P := fun k => p k = true) hhead items
        (fun i hi => hall i (by simp [hi])) c2 s2 q0 rest hq
      have hFf : Fi f.kind := by
        rcases hff with ⟨_, rfl, _⟩ | h
        · exact hfq
        · exact hFp _ h
      unfold peekWhileLoop at hr
      obtain ⟨ko, sP, hp, h2⟩ := bind_dec peek _ s s' () hr
      obtain ⟨rfl, eP, htP, _⟩ := peek_head s sP ko t (tl ++ c2 ++ q0 :: rest) w (by rw [ht, hc1]; simp) hp
      have hkt : p t.kind = true := by rw [kind_of_astOfV hta]; exact hka
      simp only [] at h2
      have h3 := getCurrent_dec _ sP s' () h2
      obtain ⟨b, sB, hb, h4⟩ := bind_dec (itemsBody p item t.kind) _ sP s' () h3
      unfold itemsBody at hb
      simp only [hkt, if_true] at hb
      obtain ⟨_, sC, hc2, hc3⟩ := bind_dec item _ sP sB b hb
      rw [run_pure] at hc3
      injection hc3 with hb1 hb2
      subst hb1 hb2
      have hbud : sP.recLimit - sP.recCur = s.recLimit - s.recCur := by rw [eP.recLimit, eP.recCur]
      obtain ⟨eB, tB, _⟩ := hitem sP sC () c1 (a :: x') f ftl eP.w hc2 (by rw [hbud]; exact hall _ (by simp)) s1
        (by rw [htP, hc1, ← hfol]; simp) hsf hFf trivial
      simp only [if_true] at h4
      have h5 := getCurrent_dec _ sC s' () h4
      by_cases hsame : (sP.current == sC.current) = true
      · simp only [hsame, if_true] at h5
        exact absurd h5 (stuck_not_ok _ _ _)
      · simp only [hsame, Bool.false_eq_true, if_false] at h5
        have hbud2 : sC.recLimit - sC.recCur = s.recLimit - s.recCur := by rw [eB.recLimit, eB.recCur, hbud]
        obtain ⟨eR, tR⟩ := ih fuel sC s' c2 q0 rest eB.w h5 (fun i hi => by rw [hbud2]; exact hall i (by simp [hi])) s2
          (by rw [tB, hfol]) hq hne hfq
        exact ⟨by simpa using (eP.trans eB).trans eR, tR⟩

/-- `open item+ close` as written in fields / input fields / enum values / arguments definitions -/
theorem cmp_braced (openSk : SK) (first : Option Kind → Bool) (p : Kind → Bool) (item : PI Unit) (closeK : Kind) (closeSk : SK)
    (xo xc : Ast.Tok) (Li : Nat → List Ast.Tok → Prop) (Fi : Kind → Prop)
    (hitem : Cmp (fun _ => True) item Li Fi (fun _ => True))
    (hhead : ∀ b x, Li b x → ∃ a x', x = a :: x' ∧ p (kindOfA a) = true) (hFp : ∀ k, p k = true → Fi k)
    (hfirst : ∀ k, p k = true → first (some k) = true) (hxc : kindOfA xc = closeK) (hpc : p closeK = false) (hFc : Fi closeK) :
    Cmp (fun _ => True) (bracedBody openSk first p item closeK closeSk)
      (fun b x => ∃ i0 ir, (∀ i ∈ i0 :: ir, Li b i) ∧ x = xo :: (i0 ++ (ir.flatten ++ [xc])))
      (fun _ => True) (fun _ => True) := by
  intro s s' u cv x q0 rest w hr hl hs ht hq _ _
  obtain ⟨i0, ir, hall, rfl⟩ := hl
  obtain ⟨t, i, c', rfl, hta, hi, hs'⟩ := spells_cons hs
  obtain ⟨c1, c23, rfl, s1, s23⟩ := spells_split hs' (by simp)
  obtain ⟨c2, c3, rfl, s2, s3⟩ : ∃ c2 c3, c23 = c2 ++ c3 ∧ Spells c2 ir.flatten ∧ Spells c3 [xc] :=
    spells_split s23 (by simp)
  obtain ⟨tb, ib, rfl, htb, hib⟩ := spells_single s3
  obtain ⟨a0, x0, rfl, hka0⟩ := hhead _ i0 (hall i0 (by simp))
  obtain ⟨t1, tl1, hc1, hta1⟩ := spells_head s1
  have hkb : tb.kind = closeK := by rw [kind_of_astOfV htb, hxc]
  obtain ⟨f, ftl, hcf, hsf, hff⟩ := next_item_head (P := fun k => p k = true) hhead ir
    (fun i hi => hall i (by simp [hi])) c2 s2 tb (ib ++ q0 :: rest) (sigf_of_astOfV htb)
  have hFf : Fi f.kind := by
    rcases hff with ⟨_, rfl, _⟩ | h
    · rw [hkb]; exact hFc
    · exact hFp _ h
  unfold bracedBody at hr
  obtain ⟨_, sA, h1, h2⟩ := bind_dec (bump openSk) _ s s' u hr
  have hs1 : Spells (t :: i) [xo] := by
    refine ⟨?_, by intro hd tl e; injection e with e _; subst e; exact sigf_of_astOfV hta⟩
    rw [sig_cons_ignV t i (sigf_of_astOfV hta) hi]
    exact TokIs.single t _ hta
  obtain ⟨e1, tA, _⟩ := cmp_bump openSk s sA () (t :: i) [xo] t1 (tl1 ++ (c2 ++ tb :: ib) ++ q0 :: rest) w h1 ⟨_, rfl⟩ hs1
    (by rw [ht, hc1]; simp) (sigf_of_astOfV hta1) trivial trivial
  obtain ⟨ko, sP, hp, h3⟩ := bind_dec peek _ sA s' u h2
  obtain ⟨rfl, eP, htP, _⟩ := peek_head sA sP ko t1 _ e1.w tA hp
  have hk1 : first (some t1.kind) = true := hfirst _ (by rw [kind_of_astOfV hta1]; exact hka0)
  simp only [hk1, if_true] at h3
  obtain ⟨_, sB, h4, h5⟩ := bind_dec item _ sP s' u h3
  have hbP : sP.recLimit - sP.recCur = s.recLimit - s.recCur := by rw [eP.recLimit, eP.recCur, e1.recLimit, e1.recCur]
  obtain ⟨eB, tB, _⟩ := hitem sP sB () c1 _ f ftl eP.w h4
    (by rw [hbP]; exact hall _ (by simp)) s1 (by rw [htP, hc1]; simp [← hcf]) hsf hFf trivial
  unfold bracedTail at h5
  obtain ⟨_, sC, h6, h7⟩ := bind_dec (peekWhile (itemsBody p item)) _ sB s' u h5
  unfold peekWhile at h6
  obtain ⟨fuel, h8⟩ := srcLen_dec _ sB sC () h6
  have hbB : sB.recLimit - sB.recCur = s.recLimit - s.recCur := by rw [eB.recLimit, eB.recCur, hbP]
  obtain ⟨eC, tC⟩ := cmp_itemsLoop p item Li Fi hitem hhead hFp ir _ sB sC c2 tb (ib ++ q0 :: rest) eB.w h8
    (by rw [hbB]; exact fun i hi => hall i (by simp [hi])) s2
    (by rw [tB, ← hcf]) (sigf_of_astOfV htb) (by rw [hkb]; exact hpc) (by rw [hkb]; exact hFc)
  obtain ⟨eD, tD, _⟩ := cmp_expect closeK closeSk sC s' u (tb :: ib) [xc] q0 rest eC.w h7 ⟨_, rfl, hxc⟩ s3
    (by rw [tC]; simp) hq trivial trivial
  exact ⟨by simpa [List.append_assoc] using (((e1.trans eP).trans eB).trans eC).trans eD, tD, trivial⟩

/-! ### `parse_separated_list` -/

def sepItems (psep : Ast.P) : List Str → List (List Ast.Tok)
  | [] => []
  | r :: rs => [.p psep, .name r] :: sepItems psep rs

theorem sepItems_flatten (psep : Ast.P) : ∀ rs, (sepItems psep rs).flatten = Ast.tSepNames psep rs
  | [] => rfl
  | r :: rs => by simp [sepItems, Ast.tSepNames, sepItems_flatten psep rs]

theorem cmp_sepRest (sep : Kind) (sk : SK) (psep : Ast.P) (run : PI Unit) (P : Str → Prop)
    (hsep : kindOfA (.p psep) = sep)
    (hrun : Cmp (fun _ => True) run (fun _ x => ∃ nm, x = [.name nm] ∧ P nm) (fun _ => True) (fun _ => True)) :
    Cmp (fun _ => True) (sepRest sep sk run)
      (fun _ x => ∃ first rest, x = .name first :: Ast.tSepNames psep rest ∧ P first ∧ ∀ r ∈ rest, P r)
      (fun k => k ≠ sep) (fun _ => True) := by
  intro s s' u c x q0 rst w hr hl hs ht hq hf _
  obtain ⟨first, rest, rfl, hP1, hPr⟩ := hl
  obtain ⟨t, i, c', rfl, hta, hi, hs'⟩ := spells_cons hs
  have hitem : Cmp (fun _ => True) (bump sk >>= fun _ => run) (fun _ x => ∃ nm, x = [.p psep, .name nm] ∧ P nm)
      (fun _ => True) (fun _ => True) := by
    have := cmp_bind (Hk := fun _ => True) (F := fun _ => True) (cmp_bump sk) (fun _ _ => hrun)
      (fun _ _ _ _ => trivial) (fun _ _ => trivial) (fun _ _ => trivial)
    refine this.mono (fun _ h => h) ?_ (fun _ h => h) (fun _ h => h)
    rintro b x ⟨nm, rfl, hp⟩
    exact ⟨[.p psep], [.name nm], rfl, ⟨_, rfl⟩, nm, rfl, hp⟩
  have hall : ∀ it ∈ sepItems psep rest, ∃ nm, it = [.p psep, .name nm] ∧ P nm := by
    clear hs' hs ht
    induction rest with
    | nil => intro it hit; cases hit
    | cons r rs ih =>
      intro it hit
      simp only [sepItems, List.mem_cons] at hit
      rcases hit with rfl | hit
      · exact ⟨r, rfl, hPr r (by simp)⟩
      · exact ih (fun r' hr' => hPr r' (by simp [hr'])) it hit
  obtain ⟨f, ftl, hfol, hsf, _⟩ := next_item_head (Li := fun _ x => ∃ nm, x = [.p psep, .name nm] ∧ P nm)
    (P := fun k => k = sep) (b := 0) (by rintro b x ⟨nm, rfl, _⟩; exact ⟨_, _, rfl, hsep⟩)
    (sepItems psep rest) hall c' (by rw [sepItems_flatten]; exact hs') q0 rst hq
  unfold sepRest at hr
  obtain ⟨_, sA, h1, h2⟩ := bind_dec run _ s s' u hr
  have hs1 : Spells (t :: i) [.name first] := by
    refine ⟨?_, by intro hd tl e; injection e with e _; subst e; exact sigf_of_astOfV hta⟩
    rw [sig_cons_ignV t i (sigf_of_astOfV hta) hi]
    exact TokIs.single t _ hta
  obtain ⟨e1, tA, _⟩ := hrun s sA () (t :: i) _ f ftl w h1 ⟨first, rfl, hP1⟩ hs1 (by rw [ht, ← hfol]; simp) hsf trivial trivial
  unfold peekWhileKind at h2
  obtain ⟨fuel, h3⟩ := srcLen_dec _ sA s' () h2
  obtain ⟨e2, t2⟩ := cmp_kindWhileLoop sep (bump sk >>= fun _ => run) _ (fun _ => True) hitem
    (by rintro b x ⟨nm, rfl, _⟩; exact ⟨_, _, rfl, hsep⟩) trivial (sepItems psep rest) _ sA s' c' q0 rst e1.w h3
    hall (by rw [sepItems_flatten]; exact hs') (by rw [tA, hfol]) hq hf trivial
  exact ⟨by simpa using e1.trans e2, t2, trivial⟩

/-- **`Parser::parse_separated_list`**: `sep? Name (sep Name)*`; the follow token is not the separator -/
theorem cmp_sepList {Hk : Kind → Prop} (sep : Kind) (sk : SK) (psep : Ast.P) (run : PI Unit) (P : Str → Prop)
    (hsep : kindOfA (.p psep) = sep) (hne : sep ≠ .name)
    (hrun : Cmp (fun _ => True) run (fun _ x => ∃ nm, x = [.name nm] ∧ P nm) (fun _ => True) (fun _ => True)) :
    Cmp Hk (parseSeparatedList sep sk run)
      (fun _ x => ∃ lead first rest, x = tSepLead psep lead first rest ∧ P first ∧ ∀ r ∈ rest, P r)
      (fun k => k ≠ sep) (fun _ => True) := by
  rw [parseSeparatedList_eq]
  have := cmp_optKind (Hk := Hk) (F := fun k => k ≠ sep) sep (bump sk) (sepRest sep sk run)
    (Lm := fun _ x => x = [.p psep]) (Fm := fun _ => True)
    ((cmp_bump sk).mono (fun _ h => h) (by rintro b x rfl; exact ⟨_, rfl⟩) (fun _ h => h) (fun _ h => h))
    (cmp_sepRest sep sk psep run P hsep hrun)
    (by rintro b x rfl; exact ⟨_, _, rfl, hsep⟩)
    (by rintro b a x ⟨first, rest, e, _⟩; injection e with e _; subst e; exact ⟨fun h => hne h.symm, trivial⟩)
    (fun k h => ⟨h, trivial, h⟩)
  refine this.mono (fun _ h => h) ?_ (fun _ h => h) (fun _ h => h)
  rintro b x ⟨lead, first, rest, rfl, h1, h2⟩
  cases lead with
  | true => exact ⟨[.p psep], _, by simp [tSepLead], Or.inl rfl, first, rest, rfl, h1, h2⟩
  | false => exact ⟨[], _, by simp [tSepLead], Or.inr rfl, first, rest, rfl, h1, h2⟩

/-! ### the kind loop with a flag (`has_root_operation_types`) -/

theorem cmp_kindWhileFlagLoop (k : Kind) (item : PI Unit) (Li : Nat → List Ast.Tok → Prop) (Fi : Kind → Prop)
    (hitem : Cmp (fun _ => True) item Li Fi (fun _ => True))
    (hhead : ∀ b x, Li b x → ∃ a x', x = a :: x' ∧ kindOfA a = k) (hFk : Fi k) :
    ∀ (items : List (List Ast.Tok)) (fuel : Nat) (flag : Bool) (s s' : PState) (r : Bool) (c : List Tok) (q0 : Tok) (rest : List Tok),
      TW s → (peekWhileKindFlagLoop k item fuel flag).run s = .ok r s' → (∀ i ∈ items, Li (s.recLimit - s.recCur) i) →
      Spells c items.flatten → Toks s = c ++ q0 :: rest → Sigf q0 → q0.kind ≠ k → Fi q0.kind →
      Eat s s' c ∧ Toks s' = q0 :: rest ∧ r = (flag || !items.isEmpty) := by
  intro items
  induction items with
  | nil =>
    intro fuel flag s s' r c q0 rest w hr _ hs ht hq hne _
    have := spells_nil_inv (by simpa using hs)
    subst this
    cases fuel with
    | zero => simp [peekWhileKindFlagLoop, PI.outOfFuel] at hr
    | succ fuel =>
      unfold peekWhileKindFlagLoop at hr
      obtain ⟨ko, sP, hp, h2⟩ := bind_dec peek _ s s' r hr
      obtain ⟨rfl, eP, htP, _⟩ := peek_head s sP ko q0 rest w (by simpa using ht) hp
      have : (q0.kind != k) = true := by simpa using hne
      simp only [this, if_true] at h2
      rw [run_pure] at h2
      injection h2 with h2 h3
      subst h3
      exact ⟨eP, by simpa using htP, by simp [← h2]⟩
  | cons it items ih =>
    intro fuel flag s s' r c q0 rest w hr hall hs ht hq hne hfq
    obtain ⟨a, x', rfl, hka⟩ := hhead _ it (hall it (by simp))
    cases fuel with
    | zero => simp [peekWhileKindFlagLoop, PI.outOfFuel] at hr
    | succ fuel =>
      obtain ⟨c1, c2, rfl, s1, s2⟩ := spells_split0 (x1 := a :: x') (x2 := items.flatten) (by simpa using hs)
      obtain ⟨t, tl, hc1, hta⟩ := spells_head s1
      obtain ⟨f, ftl, hfol, hsf, hff⟩ := next_item_head (P := fun k' => k' = k) hhead items
        (fun i hi => hall i (by simp [hi])) c2 s2 q0 rest hq
      have hFf : Fi f.kind := by
        rcases hff with ⟨_, rfl, _⟩ | h
        · exact hfq
        · rw [h]; exact hFk
      unfold peekWhileKindFlagLoop at hr
      obtain ⟨ko, sP, hp, h2⟩ := bind_dec peek _ s s' r hr
      obtain ⟨rfl, eP, htP, _⟩ := peek_head s sP ko t (tl ++ c2 ++ q0 :: rest) w (by rw [ht, hc1]; simp) hp
      have hkt : t.kind = k := by rw [kind_of_astOfV hta, hka]
      have : (t.kind != k) = false := by simp [hkt]
      simp only [this, Bool.false_eq_true, if_false] at h2
      have h3 := getCurrent_dec _ sP s' r h2
      obtain ⟨_, sB, hb, h4⟩ := bind_dec item _ sP s' r h3
      have h5 := getCurrent_dec _ sB s' r h4
      have hbud : sP.recLimit - sP.recCur = s.recLimit - s.recCur := by rw [eP.recLimit, eP.recCur]
      obtain ⟨eB, tB, _⟩ := hitem sP sB () c1 (a :: x') f ftl eP.w hb (by rw [hbud]; exact hall _ (by simp)) s1
        (by rw [htP, hc1, ← hfol]; simp) hsf hFf trivial
      by_cases hsame : (sP.current == sB.current) = true
      · simp only [hsame, if_true] at h5
        exact absurd h5 (stuck_not_ok _ _ _)
      · simp only [hsame, Bool.false_eq_true, if_false] at h5
        have hbud2 : sB.recLimit - sB.recCur = s.recLimit - s.recCur := by rw [eB.recLimit, eB.recCur, hbud]
        obtain ⟨eR, tR, hrR⟩ := ih fuel true sB s' r c2 q0 rest eB.w h5 (fun i hi => by rw [hbud2]; exact hall i (by simp [hi])) s2
          (by rw [tB, hfol]) hq hne hfq
        exact ⟨by simpa using (eP.trans eB).trans eR, tR, by simp [hrR]⟩

def LDesc (_ : Nat) (x : List Ast.Tok) : Prop := ∃ d, x = [.str d]

theorem ldesc_head {b : Nat} {x : List Ast.Tok} (h : LDesc b x) : ∃ a x', x = a :: x' ∧ kindOfA a = .stringValue := by
  obtain ⟨d, rfl⟩ := h; exact ⟨_, _, rfl, rfl⟩

theorem tDescription_split (b : Nat) (desc : Option Ast.Str) : LDesc b (Ast.tDescription desc) ∨ Ast.tDescription desc = [] := by
  cases desc with
  | none => right; rfl
  | some d => left; exact ⟨d, rfl⟩

/-- `Description? rest` where `rest` is never empty and does not start with a string -/
theorem cmp_optDesc {α : Type} {Hk : Kind → Prop} (rest : PI α) {Lr : Nat → List Ast.Tok → Prop} {F : Kind → Prop} {Q : α → Prop}
    (hr : Cmp (fun _ => True) rest Lr F Q) (hrhead : ∀ b a x, Lr b (a :: x) → kindOfA a ≠ .stringValue)
    (hne : ∀ b, ¬ Lr b []) :
    Cmp Hk (optKind .stringValue description rest)
      (fun b x => ∃ desc x2, x = Ast.tDescription desc ++ x2 ∧ Lr b x2) F Q := by
  have := cmp_optKind_ne (Hk := Hk) (F := F) .stringValue description rest cmp_description hr
    (fun b x h => ldesc_head (b := b) h) (fun b a x h => ⟨hrhead b a x h, trivial⟩) hne (fun _ h => h)
  refine this.mono (fun _ h => h) ?_ (fun _ h => h) (fun _ h => h)
  rintro b x ⟨desc, x2, rfl, h⟩
  exact ⟨_, x2, rfl, (tDescription_split b desc).imp id id, h⟩

/-! ### input value definition -/

def ivdFit (b : Nat) (v : Ast.InputValueDef) : Prop :=
  tyDepth v.ty ≤ b ∧ (∀ d, v.default = some d → valueOk true d = true ∧ vdepth d ≤ b) ∧ dirsFit true b v.dirs

theorem fvd_of_nameOrString (k : Kind) (h : isNameOrStringK k = true) : Fvd k := by
  simp only [isNameOrStringK, Bool.or_eq_true, beq_iff_eq] at h
  rcases h with h | h <;> subst h <;> simp [Fvd]

def ivdItems : List Ast.InputValueDef → List (List Ast.Tok)
  | [] => []
  | v :: r => Ast.tIVD v :: ivdItems r

theorem ivdItems_flatten : ∀ vs, (ivdItems vs).flatten = Ast.tIVDItems vs
  | [] => rfl
  | v :: r => by simp [ivdItems, Ast.tIVDItems, ivdItems_flatten r]

theorem isNameOrString_of (k : Kind) (h : isNameOrStringK k = true) : isNameOrString (some k) = true := by
  simpa [isNameOrString, isNameOrStringK] using h

/-! ### field definition -/

def fieldFit (b : Nat) (f : Ast.FieldDef) : Prop :=
  (∀ a ∈ f.args, ivdFit b a) ∧ tyDepth f.ty ≤ b ∧ dirsFit true b f.dirs

def Ffd (k : Kind) : Prop := k ≠ .bang ∧ k ≠ .at ∧ k ≠ .lParen

theorem cmp_peekNop : Cmp (fun _ => True) peekNop (fun _ x => x = []) (fun _ => True) (fun _ => True) := by
  unfold peekNop
  apply cmp_peek
  intro k _
  exact (cmp_pure _ _ ()).mono (fun _ _ => trivial) (fun _ _ h => h) (fun _ h => h) (fun _ _ => trivial)

theorem ffd_of_nameOrString (k : Kind) (h : isNameOrStringK k = true) : Ffd k := by
  simp only [isNameOrStringK, Bool.or_eq_true, beq_iff_eq] at h
  rcases h with h | h <;> subst h <;> simp [Ffd]

def fdItems : List Ast.FieldDef → List (List Ast.Tok)
  | [] => []
  | v :: r => Ast.tFieldDef v :: fdItems r

theorem fdItems_flatten : ∀ vs, (fdItems vs).flatten = Ast.tFieldDefItems vs
  | [] => rfl
  | v :: r => by simp [fdItems, Ast.tFieldDefItems, fdItems_flatten r]

/-! ### enum values -/

def enumValFit (b : Nat) (v : Ast.EnumValueDef) : Prop := isValueKeyword v.value = false ∧ dirsFit true b v.dirs

def Fdir (k : Kind) : Prop := k ≠ .at ∧ k ≠ .lParen

theorem fdir_of_nameOrString (k : Kind) (h : isNameOrStringK k = true) : Fdir k := by
  simp only [isNameOrStringK, Bool.or_eq_true, beq_iff_eq] at h
  rcases h with h | h <;> subst h <;> simp [Fdir]

def evItems : List Ast.EnumValueDef → List (List Ast.Tok)
  | [] => []
  | v :: r => Ast.tEnumValueDef v :: evItems r

theorem evItems_flatten : ∀ vs, (evItems vs).flatten = Ast.tEnumValueDefItems vs
  | [] => rfl
  | v :: r => by simp [evItems, Ast.tEnumValueDefItems, evItems_flatten r]

/-- like `Cmp`, the follow condition being a predicate on the follow TOKEN, and the queue satisfying the lexer fact
    `LexQ` (a token whose text starts like a name is a Name token) -/
def CmpT {α : Type} (Hk : Kind → Prop) (m : PI α) (L : Nat → List Ast.Tok → Prop) (FT : Tok → Prop) (Q : α → Prop) : Prop :=
  ∀ (s s' : PState) (a : α) (c : List Tok) (x : List Ast.Tok) (q0 : Tok) (rest : List Tok), TW s → LexQ (Toks s) →
    m.run s = .ok a s' →
    L (s.recLimit - s.recCur) x → Spells c x → Toks s = c ++ q0 :: rest → Sigf q0 → FT q0 → Hk (headK c q0) →
    Eat s s' c ∧ Toks s' = q0 :: rest ∧ Q a

theorem Cmp.toT {α : Type} {Hk : Kind → Prop} {m : PI α} {L : Nat → List Ast.Tok → Prop} {F : Kind → Prop} {Q : α → Prop}
    (h : Cmp Hk m L F Q) : CmpT Hk m L (fun t => F t.kind) Q :=
  fun s s' a c x q0 rest w _ hr hl hs ht hq hf hk => h s s' a c x q0 rest w hr hl hs ht hq hf hk

theorem CmpT.mono {α : Type} {Hk Hk' : Kind → Prop} {m : PI α} {L L' : Nat → List Ast.Tok → Prop} {F F' : Tok → Prop} {Q Q' : α → Prop}
    (h : CmpT Hk m L F Q) (hH : ∀ k, Hk' k → Hk k) (hL : ∀ b x, L' b x → L b x) (hF : ∀ t, F' t → F t) (hQ : ∀ a, Q a → Q' a) :
    CmpT Hk' m L' F' Q' := by
  intro s s' a c x q0 rest w lq hr hl hs ht hq hf hk
  obtain ⟨e, t, q⟩ := h s s' a c x q0 rest w lq hr (hL _ _ hl) hs ht hq (hF _ hf) (hH _ hk)
  exact ⟨e, t, hQ a q⟩

theorem cmpT_withNode {α : Type} {Hk : Kind → Prop} (K : SK) {body : PI α} {L : Nat → List Ast.Tok → Prop} {F : Tok → Prop} {Q : α → Prop}
    (h : CmpT Hk body L F Q) : CmpT Hk (withNode K body) L F Q := by
  intro s s' a c x q0 rest w lq hr hl hs ht hq hf hk
  obtain ⟨t, tl, htt, hkt⟩ := headK_toks c q0 rest
  have hst : Sigf t := by
    cases c with
    | nil => simp at htt; rw [← htt.1]; exact hq
    | cons u v => simp at htt; rw [← htt.1]; exact hs.2 u v rfl
  obtain ⟨s1, s2, e1, h1, o2⟩ := withNode_peeked K body s s' a t tl w (by rw [ht]; exact htt) hst hr
  have ht1 : Toks s1 = c ++ q0 :: rest := by have := e1.toks; rw [ht] at this; simpa using this.symm
  have hb : s1.recLimit - s1.recCur = s.recLimit - s.recCur := by rw [e1.recLimit, e1.recCur]
  obtain ⟨e, t2, q⟩ := h s1 s2 a c x q0 rest e1.w (by rw [ht1, ← ht]; exact lq) h1 (by rw [hb]; exact hl) hs ht1 hq hf hk
  exact ⟨by simpa using (e1.trans e).trans (Eat.ofObsEq o2 e.w), by rw [o2.toks]; exact t2, q⟩

/-- sequencing after a part that may be followed by anything -/
theorem cmpT_bindK {α β : Type} {Hk : Kind → Prop} {m : PI α} {f : α → PI β} {L1 L2 : Nat → List Ast.Tok → Prop}
    {F : Tok → Prop} {Q1 : α → Prop} {Q : β → Prop}
    (h1 : Cmp Hk m L1 (fun _ => True) Q1) (h2 : ∀ a, Q1 a → CmpT (fun _ => True) (f a) L2 F Q) :
    CmpT Hk (m >>= f) (fun b x => ∃ x1 x2, x = x1 ++ x2 ∧ L1 b x1 ∧ L2 b x2) F Q := by
  intro s s'' b c x q0 rest w lq hr hl hs ht hq hf hk
  obtain ⟨x1, x2, rfl, hl1, hl2⟩ := hl
  obtain ⟨a, s', hr1, hr2⟩ := bind_dec m f s s'' b hr
  obtain ⟨c1, c2, rfl, s1, s2⟩ := spells_split0 hs
  obtain ⟨t, tl, hc2, hst⟩ : ∃ t tl, c2 ++ q0 :: rest = t :: tl ∧ Sigf t := by
    cases c2 with
    | nil => exact ⟨q0, rest, rfl, hq⟩
    | cons u v => exact ⟨u, v ++ q0 :: rest, rfl, s2.2 u v rfl⟩
  have hkc : headK (c1 ++ c2) q0 = headK c1 t := by
    cases c1 with
    | nil =>
      cases c2 with
      | nil => simp at hc2; simp [headK, hc2.1]
      | cons u v => simp at hc2; simp [headK, hc2.1]
    | cons u v => rfl
  obtain ⟨e1, t1, q1⟩ := h1 s s' a c1 x1 t tl w hr1 hl1 s1 (by rw [ht, ← hc2]; simp) hst trivial (by rw [← hkc]; exact hk)
  have hb : s'.recLimit - s'.recCur = s.recLimit - s.recCur := by rw [e1.recLimit, e1.recCur]
  have lq' : LexQ (Toks s') := by have := e1.toks; rw [this] at lq; exact lq.suffix
  obtain ⟨e2, t2, q2⟩ := h2 a q1 s' s'' b c2 x2 q0 rest e1.w lq' hr2 (by rw [hb]; exact hl2) s2 (by rw [t1, hc2]) hq hf trivial
  exact ⟨e1.trans e2, t2, q2⟩

theorem cmpT_optDesc {α : Type} {Hk : Kind → Prop} (rest : PI α) {Lr : Nat → List Ast.Tok → Prop} {F : Tok → Prop} {Q : α → Prop}
    (hr : CmpT (fun _ => True) rest Lr F Q) (hrhead : ∀ b a x, Lr b (a :: x) → kindOfA a ≠ .stringValue)
    (hne : ∀ b, ¬ Lr b []) :
    CmpT Hk (optKind .stringValue description rest)
      (fun b x => ∃ desc x2, x = Ast.tDescription desc ++ x2 ∧ Lr b x2) F Q := by
  intro s s' a c x q0 rst w lq hrun hl hs ht hq hf _
  obtain ⟨desc, x2, rfl, hl2⟩ := hl
  unfold optKind at hrun
  obtain ⟨ko, sP, hp, h2⟩ := bind_dec peek _ s s' a hrun
  obtain ⟨t, tl, htt, hkt⟩ := headK_toks c q0 rst
  obtain ⟨hko, eP, htP, _⟩ := peek_head s sP ko t tl w (by rw [ht]; exact htt) hp
  subst hko
  have hb : sP.recLimit - sP.recCur = s.recLimit - s.recCur := by rw [eP.recLimit, eP.recCur]
  have hTP : Toks sP = c ++ q0 :: rst := by rw [htP, ← htt]
  have lqP : LexQ (Toks sP) := by rw [hTP, ← ht]; exact lq
  cases desc with
  | some d =>
    obtain ⟨t1, tl1, hc, hta⟩ := spells_head (a := .str d) (x := x2) (by simpa [Ast.tDescription] using hs)
    have hkk : t.kind = .stringValue := by
      rw [hkt, hc]; simp only [headK]; rw [kind_of_astOfV hta]; rfl
    simp only [hkk, beq_self_eq_true, if_true] at h2
    have hcomb := cmpT_bindK (Hk := fun _ => True) (F := F) cmp_description (fun _ _ => hr)
    obtain ⟨e, t2, q⟩ := hcomb sP s' a c _ q0 rst eP.w lqP h2 ⟨[.str d], x2, rfl, ⟨d, rfl⟩, by rw [hb]; exact hl2⟩
      (by simpa [Ast.tDescription] using hs) hTP hq hf trivial
    exact ⟨by simpa using eP.trans e, t2, q⟩
  | none =>
    simp only [Ast.tDescription, List.nil_append] at hs
    cases x2 with
    | nil => exact absurd hl2 (hne _)
    | cons a2 x2' =>
      obtain ⟨t1, tl1, hc, hta⟩ := spells_head hs
      have hkk : (some t.kind == some Kind.stringValue) = false := by
        have : t.kind ≠ .stringValue := by
          rw [hkt, hc]; simp only [headK]; rw [kind_of_astOfV hta]
          exact hrhead _ _ _ hl2
        simpa using this
      simp only [hkk, Bool.false_eq_true, if_false] at h2
      obtain ⟨e, t2, q⟩ := hr sP s' a c _ q0 rst eP.w lqP h2 (by rw [hb]; exact hl2) hs hTP hq hf trivial
      exact ⟨by simpa using eP.trans e, t2, q⟩

theorem cmpT_optKwSeen {α : Type} {Hk : Kind → Prop} (word : String) (sk : SK) (rest : PI α)
    {Lr : Nat → List Ast.Tok → Prop} {F : Tok → Prop} {Q : α → Prop}
    (hr : CmpT (fun _ => True) rest Lr F Q) :
    CmpT Hk (optKw word sk rest) (fun b x => ∃ x2, x = .name word.toList :: x2 ∧ Lr b x2) F Q := by
  intro s s' a c x q0 rst w lq hrun hl hs ht hq hf _
  obtain ⟨x2, rfl, hl2⟩ := hl
  obtain ⟨t, tl, hc, hta⟩ := spells_head hs
  have hd : t.data = word.toList := data_of_astOfV_name hta
  unfold optKw at hrun
  obtain ⟨od, sP, hp, h2⟩ := bind_dec peekData _ s s' a hrun
  obtain ⟨rfl, eP, htP⟩ := peekData_head s sP od t (tl ++ q0 :: rst) w (by rw [ht, hc]; simp) hp
  have hk : kwOpt word (some t.data) = true := by rw [hd]; simp [kwOpt]
  simp only [hk, if_true] at h2
  have hb : sP.recLimit - sP.recCur = s.recLimit - s.recCur := by rw [eP.recLimit, eP.recCur]
  have hcomb := cmpT_bindK (Hk := fun _ => True) (F := F) (cmp_bump sk) (fun _ _ => hr)
  obtain ⟨e, t2, q⟩ := hcomb sP s' a c _ q0 rst eP.w (by rw [htP]; rw [ht, hc] at lq; simpa using lq) h2
    ⟨[.name word.toList], x2, rfl, ⟨_, rfl⟩, by rw [hb]; exact hl2⟩ hs
    (by rw [htP, hc]; simp) hq hf trivial
  exact ⟨by simpa using eP.trans e, t2, q⟩

/-- **the common shape** `Description? keyword Name tail` -/
theorem cmpT_defShape {Hk : Kind → Prop} (word : String) (sk : SK) (n : Nat) (tail : PI Unit)
    {Lt : Nat → List Ast.Tok → Prop} {F : Tok → Prop}
    (ht : CmpT (fun _ => True) tail Lt F (fun _ => True)) :
    CmpT Hk (defShape word sk n tail)
      (fun b x => ∃ desc nm x2, x = Ast.tDescription desc ++ .name word.toList :: .name nm :: x2 ∧ Lt b x2) F (fun _ => True) := by
  unfold defShape
  have h1 := cmpT_bindK (Hk := fun _ => True) (F := F) cmp_nameOrErr (fun _ _ => ht)
  have h2 := cmpT_optKwSeen (Hk := fun _ => True) word sk _ h1
  have h3 := cmpT_optDesc (Hk := Hk) _ h2
    (by rintro b a x ⟨x2, e, _⟩; injection e with e _; subst e; simp [kindOfA])
    (by rintro b ⟨x2, e, _⟩; cases e)
  refine h3.mono (fun _ h => h) ?_ (fun _ h => h) (fun _ h => h)
  rintro b x ⟨desc, nm, x2, rfl, h⟩
  exact ⟨desc, _, rfl, _, rfl, [.name nm], x2, rfl, ⟨nm, rfl⟩, h⟩

end Apollo.Parse
