import ApolloModel.Proofs.ParserExactT12
/-
C05, exact soundness for the type-system family: the directive definition in the `DefSound` shape of ParserExactS14
(the field `DefExact.directive`).  Only the arguments definition depends on the budget.
-/
set_option linter.unusedSimpArgs false
namespace Apollo.Parse.Exact
open Apollo.Rowan hiding Str
open Apollo.Lex hiding Str

def RepR (x : List Ast.Tok) : Prop := ∃ rep x2, x = kwPart "repeatable" rep ++ .name Ast.sOn :: x2 ∧ LocsR x2

theorem accL_dRep : Acc E0 LexQ (optKw "repeatable" "repeatable_KW" dOn) (fun _ => RepR) := by
  refine (accL_optKw early_false "repeatable" kwWord_repeatable _ _ _ accL_dOn).mono (fun _ h => h) ?_
  rintro _ x ⟨rep, x2, e, x3, e3, h3⟩
  exact ⟨rep, x3, by rw [e, e3], h3⟩

theorem good_dArgs (n : Nat) : Good (optKind .lParen (argumentsDefinition n) (optKw "repeatable" "repeatable_KW" dOn)) := by
  unfold optKind
  exact good_bind _ _ good_peek (fun _ => good_ite _ _ _ (good_bind _ _ (good_argumentsDefinition n) (fun _ => accL_dRep.1)) accL_dRep.1)

theorem good_dName (n : Nat) : Good (dName n) := good_bind _ _ good_name (fun _ => good_dArgs n)

theorem good_dAt (n : Nat) : Good (dAt n) :=
  good_bind _ _ good_peek (fun _ => good_ite _ _ _ (good_bind _ _ (good_bump _) (fun _ => good_dName n)) (good_bind _ _ good_err (fun _ => good_dName n)))

theorem optArgsDef_sound (n : Nat) (s s' : PState) (w : TW s) (he : EofEnd s)
    (h : (peek >>= fun k => if k == some Kind.lParen then argumentsDefinition n else pure ()).run s = .ok () s') (hnd : ¬ Doomed s') :
    Cons s s' (fun x => ∃ args, x = Ast.tArgsDef args ∧ ∀ a ∈ args, ivdFit (bud s) a) := by
  obtain ⟨sP, o, p, hor⟩ := ifPeek_dec .lParen _ _ s s' () w h
  have heP := p.eofEnd he
  rcases hor with ⟨hkc, h5⟩ | ⟨_, h5⟩
  · obtain ⟨tc, rfl, hkc2⟩ := peeked_kind hkc
    have c := argumentsDefinition_sound n sP s' tc _ p.w heP p.head_cons hkc2 h5 hnd
    refine (c.transport p.toks.symm rfl c.eofEnd).weaken ?_
    rintro z ⟨args, _, rfl, hargs⟩
    rw [bud_peek p] at hargs
    exact ⟨args, rfl, hargs⟩
  · rw [run_pure] at h5
    injection h5 with _ h5
    subst h5
    exact (Cons.nil p.toks heP).weaken (by rintro z rfl; exact ⟨[], by simp [Ast.tArgsDef], by intro a ha; cases ha⟩)

/-- `@ Name ArgumentsDefinition? repeatable? on DirectiveLocations`, on a lexer queue -/
theorem dAt_sound (n : Nat) (s s' : PState) (w : TW s) (he : EofEnd s) (hl : LexQ (Toks s))
    (h : (dAt n).run s = .ok () s') (hnd : ¬ Doomed s') :
    Cons s s' (fun x => ∃ nm args rep lead first rest,
      x = .p .at :: .name nm :: Ast.tArgsDef args ++ kwPart "repeatable" rep ++ .name Ast.sOn :: tSepLead .pipe lead first rest ∧
      (∀ a ∈ args, ivdFit (bud s) a) ∧ IsDirLoc first ∧ ∀ r ∈ rest, IsDirLoc r) := by
  unfold dAt at h
  obtain ⟨sP, o, p, hor⟩ := ifPeek_dec .at _ _ s s' () w h
  have heP := p.eofEnd he
  rcases hor with ⟨hkc, h5⟩ | ⟨_, h5⟩
  · obtain ⟨tc, rfl, hkc2⟩ := peeked_kind hkc
    have hnic : isIgnoredKind tc.kind = false := by rw [hkc2]; rfl
    obtain ⟨_, s3, h6, h7⟩ := bind_dec (bump "AT") _ sP s' () h5
    obtain ⟨ign2, ec, hall2, _⟩ := bump_spec "AT" sP s3 p.w tc _ p.head_cons h6
    have c1 : Cons sP s3 (fun x => x = [.p .at]) :=
      Cons.ofEat ec heP (noEof_cons (by rw [hkc2]; decide) hall2) (tokIs_punct tc ign2 .at hnic (by simp [astOfV, hkc2]) hall2)
    have c1' : Cons s s3 (fun x => x = [.p .at]) := c1.transport p.toks.symm rfl c1.eofEnd
    unfold dName at h7
    obtain ⟨_, s4, h8, h9⟩ := bind_dec name _ s3 s' () h7
    have a4 := good_name s3 () s4 ec.w h8
    have hnd4 : ¬ Doomed s4 := fun d => hnd ((good_dArgs n s4 () s' a4.w h9).doom d)
    have c2 := cons_of_acc (acc_name (E := fun _ => False) (H := fun _ => True)) s3 s4 () ec.w c1.eofEnd trivial h8 hnd4
    unfold optKind at h9
    obtain ⟨s5, h10, h11⟩ := optThen_dec .lParen (argumentsDefinition n) (optKw "repeatable" "repeatable_KW" dOn) s4 s' h9
    have a5 := good_opt .lParen _ (good_argumentsDefinition n) s4 () s5 a4.w h10
    have hnd5 : ¬ Doomed s5 := fun d => hnd ((accL_dRep.1 s5 () s' a5.w h11).doom d)
    have c3 := optArgsDef_sound n s4 s5 a4.w c2.eofEnd h10 hnd5
    have c13 := (c1'.seq c2).seq c3
    have hl5 : LexQ (Toks s5) := by
      obtain ⟨cs, _, a, _⟩ := c13
      rw [a] at hl; exact hl.suffix
    have c4 := cons_of_acc accL_dRep s5 s' () a5.w c3.eofEnd hl5 h11 hnd
    have hb4 : bud s4 = bud s := by rw [bud_adv a4, bud_eat ec, bud_peek p]
    refine (c13.seq c4).weaken ?_
    rintro z ⟨x, y, rfl, ⟨x1, x2, rfl, ⟨x3, x4, rfl, rfl, nm, rfl⟩, args, rfl, hargs⟩, rep, x5, rfl, lead, first, rest, rfl, hf, hr⟩
    rw [hb4] at hargs
    exact ⟨nm, args, rep, lead, first, rest, by simp [List.append_assoc], hargs, hf, hr⟩
  · exfalso
    obtain ⟨_, sE, h6, h7⟩ := bind_dec err _ sP s' () h5
    obtain ⟨aE, dE⟩ := err_adv sP sE p.w h6
    have hndP : ¬ Doomed sP := fun d => hnd ((good_dName n sE () s' aE.w h7).doom (aE.doom d))
    exact hnd ((good_dName n sE () s' aE.w h7).doom (dE (eofEnd_nonempty sP heP hndP)))

theorem directiveDef_sound (n : Nat) : DefSound (DStart "directive".toList) (directiveDefinition n) := by
  intro s s' w he hq hr hnd
  obtain ⟨hl, hs⟩ := hq
  rw [directiveDefinition_eq] at hr
  obtain ⟨t, rest, htq, hni⟩ := dStart_sig hs
  obtain ⟨s1, s2, e1, h1, o2, _, he1, hnd2⟩ := withNode_entered _ _ s s' () t rest w he htq hni hr hnd
  have h0 : Toks s = Toks s1 := by simpa using e1.toks
  obtain ⟨sm, hp, ht⟩ := kwShape_split "directive" "directive_KW" _ s1 s2 h1
  have hacc := accL_defEnteredBody "directive" kwWord_directive "directive_KW" (pure () : PI Unit) (fun x => x = []) acc_pureL
  have am := hacc.1 s1 () sm e1.w hp
  have hndm : ¬ Doomed sm := fun d => hnd2 ((good_dAt n sm () s2 am.w ht).doom d)
  have c1 := cons_of_acc hacc s1 sm () e1.w he1 ⟨by rw [← h0]; exact hl, by rw [← h0]; exact defStart_of_DStart "directive" _ hs⟩ hp hndm
  have hlm : LexQ (Toks sm) := by
    obtain ⟨cs, _, a, _⟩ := c1
    rw [h0, a] at hl; exact hl.suffix
  have c2 := dAt_sound n sm s2 am.w c1.eofEnd hlm ht hnd2
  have c := (c1.seq c2).node e1 o2
  obtain ⟨cs, x, a, b, e, d, x1, x2, rfl, ⟨desc, x3, rfl, rfl⟩, nm, args, rep, lead, first, rest', rfl, hargs, hf, hrr⟩ := c
  rw [bud_adv am, bud_eat e1] at hargs
  have hfit : itemFit (bud s) (.loose (.directive desc nm args rep lead first rest')) := ⟨hargs, hf, hrr⟩
  refine ⟨cs, .loose (.directive desc nm args rep lead first rest'), a, b, e, ?_, hfit, fun q _ ho => ho.elim⟩
  have hk : kwPart "directive" true = [Ast.Tok.name "directive".toList] := rfl
  show TokIs (sig cs) (directiveToks desc true nm args rep lead first rest')
  unfold directiveToks
  rw [hk]
  simpa only [List.append_assoc, List.cons_append, List.nil_append, List.singleton_append] using d

end Apollo.Parse.Exact
