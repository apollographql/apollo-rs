import ApolloModel.Proofs.AstText11
/-
Property C08, text level: all token kinds put together for a whole document (`segsWf_doc_full`) — no `NumbersLex` /
`StringsLex` hypothesis left.
-/
namespace Apollo.Ast
open Apollo.Strs (isWs)
open Apollo.Spec.Lexical (IsIntValue IsFloatValue)

def PrefixWs (st : St) : Prop := PrefixAll (fun p => p.all isWs = true) st

theorem ws_ignored (p : Str) (h : p.all isWs = true) : strIgnored p = true := by
  simp only [strIgnored, List.all_eq_true] at h ⊢
  intro c hc
  have := h c hc
  simp only [isWs, Bool.or_eq_true, beq_iff_eq] at this
  rcases this with h' | h' <;> subst h' <;> decide

theorem render_str (cs : List Cmd) : ∀ (st : St) (t : Tok) (x : Str), PrefixWs st → Seg.tok t x ∈ render st cs →
    clsTok t = .str → TokOk t x := by
  induction cs with
  | nil => intro st t x _ h; simp [render] at h
  | cons c cs ih =>
    intro st t x hp h hc
    simp only [render, List.mem_append] at h
    rcases h with h | h
    · cases c <;> simp only [segStep, List.mem_singleton, List.not_mem_nil, Seg.tok.injEq, reduceCtorEq] at h
      case tok t' =>
        obtain ⟨rfl, rfl⟩ := h
        cases t with
        | str s => exact tokOk_quoted s
        | name n => simp [clsTok] at hc
        | int n => simp [clsTok] at hc
        | float n => simp [clsTok] at hc
        | p k => cases k <;> simp [clsTok] at hc
      case str d s =>
        obtain ⟨rfl, rfl⟩ := h
        exact tokOk_string st.pre st.level d s hp.1
    · exact ih _ t x (prefixAll_step st c hp) h hc

/-- every IntValue / FloatValue token written has the grammar's syntax (C10: `valid_syntax`; for a parsed
    document: the lexer's tokens, C03 `advance_token_sound`) -/
def IntsSpec (segs : List Seg) : Prop := ∀ s x, Seg.tok (.int s) x ∈ segs → IsIntValue s
def FloatsSpec (segs : List Seg) : Prop := ∀ s x, Seg.tok (.float s) x ∈ segs → IsFloatValue s

theorem segsWf_doc_full (pre : Option Str) (level : Nat) (doc : Document)
    (hpre : ∀ p, pre = some p → p.all isWs = true)
    (hn : NamesWf (docSegs pre level doc)) (hi : IntsSpec (docSegs pre level doc))
    (hf : FloatsSpec (docSegs pre level doc)) : SegsWf (docSegs pre level doc) := by
  have hign : ∀ p, pre = some p → strIgnored p = true := fun p hp => ws_ignored p (hpre p hp)
  have hws : PrefixWs (initSt pre level) := ⟨hpre, by intro p hp; simp [initSt] at hp⟩
  refine segsWf_doc pre level doc hign hn ?_ ?_
  · intro t x hm hc
    cases t with
    | int s =>
      rcases render_tok_text _ _ _ x hm with hx | hs
      · rw [hx]; exact tokOk_int_spec s (hi s x hm)
      · simp [clsTok] at hs
    | float s =>
      rcases render_tok_text _ _ _ x hm with hx | hs
      · rw [hx]; exact tokOk_float_spec s (hf s x hm)
      · simp [clsTok] at hs
    | name n => simp [clsTok] at hc
    | str s => simp [clsTok] at hc
    | p k => cases k <;> simp [clsTok] at hc
  · intro t x hm hc
    exact render_str _ _ t x hws hm hc

/-- a decidable sufficient condition for the three leaf hypotheses: well-formed names, no numbers -/
def segsNoNumbers (segs : List Seg) : Bool :=
  segs.all fun g =>
    match g with
    | .tok (.name n) _ => wfName n
    | .tok (.int _) _ => false
    | .tok (.float _) _ => false
    | _ => true

theorem noNumbers_hyps (segs : List Seg) (h : segsNoNumbers segs = true) :
    NamesWf segs ∧ IntsSpec segs ∧ FloatsSpec segs := by
  simp only [segsNoNumbers, List.all_eq_true] at h
  refine ⟨?_, ?_, ?_⟩
  · intro n x hm; simpa using h _ hm
  · intro s x hm; have := h _ hm; simp at this
  · intro s x hm; have := h _ hm; simp at this

end Apollo.Ast
