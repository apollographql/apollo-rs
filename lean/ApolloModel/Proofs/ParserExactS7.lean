import ApolloModel.Proofs.ParserExactS6
import ApolloModel.Proofs.ParserComplete16
/-
EXACT SOUNDNESS (namespace Apollo.Parse.Exact): the exact depth against the over-charging one of
ParserComplete10, and the value-level `iff`.
-/
set_option linter.unusedSimpArgs false
namespace Apollo.Parse.Exact
open Apollo.Rowan hiding Str
open Apollo.Lex hiding Str

mutual
theorem vdepth_ge : ∀ v : Ast.Value, Parse.vdepth v ≤ vdepth v + 1
  | .list vs => by have := vsdepth_ge vs; simp only [vdepth, Parse.vdepth]; omega
  | .obj fs => by have := fdepth_ge fs; simp only [vdepth, Parse.vdepth]; omega
  | .var _ | .int _ | .float _ | .str _ | .bool _ | .null | .enum _ => by simp [Parse.vdepth]
theorem vsdepth_ge : ∀ vs : Ast.Values, Parse.vsdepth vs ≤ vsdepth vs
  | .nil => by simp [Parse.vsdepth]
  | .cons v tl => by
    have h1 := vdepth_ge v
    have h2 := vsdepth_ge tl
    simp only [vsdepth, Parse.vsdepth]; omega
theorem fdepth_ge : ∀ fs : Ast.ObjFields, Parse.fdepth fs ≤ fdepth fs
  | .nil => by simp [Parse.fdepth]
  | .cons _ v tl => by
    have h1 := vdepth_ge v
    have h2 := fdepth_ge tl
    simp only [fdepth, Parse.fdepth]; omega
end

theorem vdepth_le : ∀ v : Ast.Value, vdepth v ≤ Parse.vdepth v ∧ Parse.vdepth v ≤ vdepth v + 1 :=
  fun v => ⟨exact_vdepth_le v, vdepth_ge v⟩
theorem vsdepth_le : ∀ vs : Ast.Values, vsdepth vs ≤ Parse.vsdepth vs + 1 ∧ Parse.vsdepth vs ≤ vsdepth vs :=
  fun vs => ⟨exact_vsdepth_le vs, vsdepth_ge vs⟩
theorem fdepth_le : ∀ fs : Ast.ObjFields, fdepth fs ≤ Parse.fdepth fs + 1 ∧ Parse.fdepth fs ≤ fdepth fs :=
  fun fs => ⟨exact_fdepth_le fs, fdepth_ge fs⟩

/-- **`value`, both directions** from one run: the run ended error-free right in front of `q0` exactly when the tokens
    in front of `q0` are one well-formed value within the EXACT budget -/
theorem value_iff (n : Nat) (c p : Bool) (s s' : PState) (cs : List Tok) (q0 : Tok) (rest : List Tok) (w : TW s) (he : EofEnd s)
    (hnd0 : ¬ Doomed s) (ht : Toks s = cs ++ q0 :: rest) (hhead : HeadSig cs) (hq : Sigf q0) (hqe : q0.kind ≠ .eof)
    (h : (value n c p).run s = .ok () s') :
    (¬ Doomed s' ∧ Toks s' = q0 :: rest) ↔
      ∃ v, TokIs (sig cs) (Ast.tValue v) ∧ valueOk c v = true ∧ vdepth v ≤ s.recLimit - s.recCur := by
  constructor
  · rintro ⟨hnd, ht'⟩
    obtain ⟨⟨cs', a, _, d⟩, _⟩ := value_sound n c p s s' w he h hnd
    have hcs : cs' = cs := by
      rw [ht, ht'] at a
      exact (List.append_cancel_right a).symm
    subst hcs
    rcases d with ⟨v, h1, h2, h3⟩ | ⟨e, hh, hk⟩
    · exact ⟨v, h1, h2, by simpa [bud] using h3⟩
    · rw [ht'] at hh
      simp only [List.head?_cons, Option.some.injEq] at hh
      subst hh
      exact absurd hk hqe
  · rintro ⟨v, h1, h2, h3⟩
    obtain ⟨e, t, _⟩ := value_complete n c p s s' () cs _ q0 rest w h ⟨v, rfl, h2, h3⟩ ⟨h1, hhead⟩ ht hq trivial trivial
    exact ⟨fun d => hnd0 (e.doom.mp d), t⟩

end Apollo.Parse.Exact
