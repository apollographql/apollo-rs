import ApolloModel.Proofs.ParserDef18
import ApolloModel.Proofs.ParserType9
import ApolloModel.Proofs.Lexer3
/-
C05, type-system definitions: the lexer fact `LexQ` holds for the parser's token queue of
every source text — it is a theorem about the lexer model, not an assumption.
-/
set_option linter.unusedSimpArgs false
namespace Apollo.Parse
open Apollo.Rowan hiding Str
open Apollo.Lex hiding Str

theorem lexAux_nameStart : ∀ (fuel count : Nat) (src : Str), ∀ it ∈ lexAux fuel none count src,
    ∀ (k : Kind) (d : Str), it = .tok k d → ∀ c r, d = c :: r → isNameStart c = true → k = .name
  | 0, _, _ => by intro it hit; simp [lexAux] at hit
  | fuel + 1, count, [] => by
    intro it hit k d e c r hd _
    simp [lexAux] at hit
    rw [hit] at e
    injection e with _ e2
    rw [← e2] at hd
    cases hd
  | fuel + 1, count, c0 :: rest0 => by
    intro it hit k d e c r hd hc
    simp only [lexAux, Bool.false_eq_true, if_false, List.mem_cons] at hit
    rcases hit with hit | hit
    · have hcat := advance_concat (c0 :: rest0)
      rw [← hit, e] at hcat
      simp only [Item.data] at hcat
      rw [hd] at hcat
      simp only [List.cons_append, List.cons.injEq] at hcat
      have hc0 : c = c0 := hcat.1
      subst hc0
      rw [lex_name c rest0 hc] at hit
      rw [e] at hit
      injection hit with hk _
    · exact lexAux_nameStart fuel (count + 1) _ it hit k d e c r hd hc

theorem lexQ_srcToks (src : Str) : LexQ (srcToks src) := by
  intro t ht c r hd hc
  have hm : (t.kind, t.data) ∈ lexToks src := by
    rw [← srcToks_lex src]
    exact List.mem_map.mpr ⟨t, ht, rfl⟩
  unfold lexToks at hm
  obtain ⟨it, hit, hkd⟩ := List.mem_filterMap.mp hm
  cases it with
  | tok k d =>
    simp only [itemKD, Option.some.injEq, Prod.mk.injEq] at hkd
    have := lexAux_nameStart _ _ _ (.tok k d) hit k d rfl c r (by rw [hkd.2]; exact hd) hc
    rw [← hkd.1]; exact this
  | err _ => simp [itemKD] at hkd
  | limit => simp [itemKD] at hkd

theorem lexQ_initState (src : Str) (rl : Nat) : LexQ (Toks (initState src none rl)) := lexQ_srcToks src

end Apollo.Parse
