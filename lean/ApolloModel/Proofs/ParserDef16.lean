import ApolloModel.Proofs.ParserDef15
/-
C05, type-system definitions: definitions entered the way the dispatcher enters them — on the
keyword token, or on a description whose next significant token is the keyword: the keyword IS consumed.
-/
set_option linter.unusedSimpArgs false
namespace Apollo.Parse
open Apollo.Rowan hiding Str
open Apollo.Lex hiding Str

/-- `bind` with a custom fact about the queue after the first part -/
theorem acc_bind_transfer {α β : Type} {E : PState → Prop} (hE : Early E) {H H2 : List Tok → Prop} {m : PI α} {f : α → PI β}
    {R1 : α → List Ast.Tok → Prop} {R2 : α → β → List Ast.Tok → Prop}
    (h1 : Acc E H m R1)
    (htr : ∀ s a s', TW s → H (Toks s) → m.run s = .ok a s' → H2 (Toks s'))
    (h2 : ∀ a, Acc E H2 (f a) (R2 a)) :
    Acc E H (m >>= f) (fun b x => ∃ a x1 x2, x = x1 ++ x2 ∧ R1 a x1 ∧ R2 a b x2) := by
  refine ⟨good_bind _ _ h1.1 (fun a => (h2 a).1), ?_⟩
  intro s b s'' w he hq hr hnd
  obtain ⟨a, s', hr1, hr2⟩ := bind_dec m f s s'' b hr
  have ad := h1.1 s a s' w hr1
  have hnd' : ¬ Doomed s' := fun d => hnd (((h2 a).1 s' b s'' ad.w hr2).doom d)
  have r1 := h1.2 s a s' w he hq hr1 hnd'
  have ⟨_, _, _, e1, _⟩ := r1
  have r2 := (h2 a).2 s' b s'' ad.w e1 (htr s a s' w hq hr1) hr2 hnd
  exact (AccRes.seq hE hnd' r1 r2).mono (fun x ⟨x1, x2, e, p1, p2⟩ => ⟨a, x1, x2, e, p1, p2⟩)

theorem description_spec (s s' : PState) (w : TW s) (t : Tok) (rest : List Tok) (ht : Toks s = t :: rest)
    (hni : isIgnoredKind t.kind = false) (h : description.run s = .ok () s') :
    ∃ ign, Eat s s' (t :: ign) ∧ (∀ x ∈ ign, isIgnoredKind x.kind = true) ∧ Settled s' := by
  unfold description at h
  obtain ⟨s1, s2, e1, h1, o2⟩ := withNode_peeked _ _ s s' () t rest w ht hni h
  have ht1 : Toks s1 = t :: rest := by have := e1.toks; rw [ht] at this; simpa using this.symm
  obtain ⟨s3, s4, e3, h3, o4⟩ := withNode_peeked _ _ s1 s2 () t rest e1.w ht1 hni h1
  have ht3 : Toks s3 = t :: rest := by have := e3.toks; rw [ht1] at this; simpa using this.symm
  obtain ⟨ign, e, hall, set⟩ := bump_spec _ s3 s4 e3.w t rest ht3 h3
  have e4 : Eat s3 s2 (t :: ign) := by simpa using e.trans (Eat.ofObsEq o4 e.w)
  have e13 : Eat s1 s2 (t :: ign) := by simpa using e3.trans e4
  have e2 : Eat s1 s' (t :: ign) := by simpa using e13.trans (Eat.ofObsEq o2 e13.w)
  exact ⟨ign, by simpa using e1.trans e2, hall, settled_obs o2 (settled_obs o4 set)⟩

/-- the keyword is there: it is consumed -/
theorem accL_optKw_there {α : Type} {E : PState → Prop} (hE : Early E) (word : String) (hw : KwWord word) (sk : SK)
    (rest : PI α) (R : α → List Ast.Tok → Prop) (hr : Acc E LexQ rest R) :
    Acc E (fun q => LexQ q ∧ HeadData word q) (optKw word sk rest) (fun a x => ∃ x2, x = .name word.toList :: x2 ∧ R a x2) := by
  unfold optKw
  apply acc_peekData
  intro o
  apply acc_ite
  · intro _
    have hb : Acc E (fun q => (LexQ q ∧ HeadData word q) ∧ q.head? = o) (bump sk) (fun _ x => x = [.name word.toList]) :=
      (accL_bumpKw word hw sk).mono (fun q hq => hq.1) (fun _ _ h => h)
    have := accL_bind hE (fun _ h => h.1.1) hb (fun _ => hr)
    exact this.mono (fun _ h => h) (fun a x ⟨_, x1, x2, e, h1, h2⟩ => ⟨x2, by rw [e, h1]; rfl, h2⟩)
  · intro hk
    refine acc_absurd hr.1 ?_
    rintro q ⟨⟨_, t, hh, hd⟩, h2⟩
    rw [hh] at h2
    subst h2
    simp [kwOpt, hd] at hk

def Desc2 (word : String) (q : List Tok) : Prop :=
  ∃ t rest t2, q = t :: rest ∧ t.kind = .stringValue ∧ (sig rest).head? = some t2 ∧ t2.data = word.toList

/-- how the dispatcher enters a definition -/
def DefStart (word : String) (q : List Tok) : Prop := HeadData word q ∨ Desc2 word q

theorem accL_defEntered (K : SK) (word : String) (hw : KwWord word) (sk : SK) (tail : PI Unit) (L : List Ast.Tok → Prop)
    (ht : Acc E0 LexQ tail (fun _ => L)) :
    Acc E0 (fun q => LexQ q ∧ DefStart word q) (withNode K (optKind .stringValue description (optKw word sk tail)))
      (fun _ x => ∃ desc x2, x = Ast.tDescription desc ++ .name word.toList :: x2 ∧ L x2) := by
  have hkw := accL_optKw_there early_false word hw sk tail _ ht
  have hname : ∀ q t, LexQ q → q.head? = some t → t.data = word.toList → t.kind = .name := by
    intro q t hl hh hd
    obtain ⟨c, r, hc1, hc2⟩ := hw
    exact hl.headKw hh word c r hc1 hc2 hd
  refine acc_withNode early_false _ ?_ ?_
  · rintro q ⟨hl, hs⟩
    rcases hs with hs | ⟨t, rest, t2, hq, hk, _, _⟩
    · exact kwWord_sig hw q ⟨hl, hs⟩
    · exact ⟨t, rest, hq, by rw [hk]; rfl⟩
  unfold optKind
  apply acc_peek
  intro k
  apply acc_ite
  · intro hk
    have hk' : k = some Kind.stringValue := by simpa using hk
    -- the head is a string: the description case
    have hd : Acc E0 (fun q => (LexQ q ∧ DefStart word q) ∧ q.head?.map (·.kind) = k) description
        (fun _ x => ∃ d, x = Ast.tDescription (some d)) :=
      (acc_description early_false).mono (fun q hq => kindP_of_head hq.2 hk) (fun _ _ h => h)
    refine (acc_bind_transfer early_false (H2 := fun q => LexQ q ∧ HeadData word q) hd ?_ (fun _ => hkw)).mono (fun _ h => h) ?_
    · rintro s _ s1 w ⟨⟨hl, hs⟩, hkind⟩ hrun
      rcases hs with ⟨t, hh, hd'⟩ | ⟨t, rest, t2, hq, hkt, hh2, hd2⟩
      · exfalso
        have := hname _ t hl hh hd'
        rw [hh, hk'] at hkind
        simp [this] at hkind
      · obtain ⟨ign, e1, hall, set1⟩ := description_spec s s1 w t rest hq (by rw [hkt]; rfl) hrun
        have hrest : rest = ign ++ Toks s1 := by
          have := e1.toks; rw [hq] at this; simpa using this
        refine ⟨by have := hl; rw [e1.toks] at this; exact this.suffix, t2, ?_, hd2⟩
        rw [hrest, sig_append, sig_ignored ign hall] at hh2
        simp only [List.nil_append] at hh2
        cases hq1 : Toks s1 with
        | nil => rw [hq1] at hh2; cases hh2
        | cons a b =>
          have hsa : isIgnoredKind a.kind = false := set1.2 a (by rw [set1.1, hq1]; rfl)
          have hab : a :: b = [a] ++ b := rfl
          rw [hq1, hab, sig_append, sig_single a hsa] at hh2
          simpa using hh2
    · rintro _ x ⟨_, x1, x2, e, ⟨d, h1⟩, x3, e3, h3⟩
      exact ⟨some d, x3, by rw [e, h1, e3], h3⟩
  · intro hk
    refine hkw.mono ?_ (fun _ x ⟨x2, e, h2⟩ => ⟨none, x2, by rw [e]; rfl, h2⟩)
    rintro q ⟨⟨hl, hs⟩, hkind⟩
    rcases hs with hs | ⟨t, rest, t2, hq, hkt, _, _⟩
    · exact ⟨hl, hs⟩
    · exfalso
      rw [hq] at hkind
      simp only [List.head?_cons, Option.map_some] at hkind
      rw [← hkind, hkt] at hk
      simp at hk

/-- the six definitions of the shape `Description? keyword Name tail` -/
theorem accL_defShapeEntered (K : SK) (word : String) (hw : KwWord word) (sk : SK) (n : Nat) (tail : PI Unit) (L : List Ast.Tok → Prop)
    (ht : Acc E0 LexQ tail (fun _ => L)) :
    Acc E0 (fun q => LexQ q ∧ DefStart word q) (withNode K (defShape word sk n tail))
      (fun _ x => ∃ desc nm x2, x = Ast.tDescription desc ++ kwPart word true ++ .name nm :: x2 ∧ L x2) := by
  have h1 : Acc E0 LexQ (nameOrErr >>= fun _ => tail) (fun _ x => ∃ nm x2, x = .name nm :: x2 ∧ L x2) := by
    refine (accL_bind early_false (fun _ h => h) acc_nameOrErr (fun _ => ht)).mono (fun _ h => h) ?_
    rintro _ x ⟨_, x1, x2, e, ⟨nm, h1⟩, h2⟩
    exact ⟨nm, x2, by rw [e, h1]; rfl, h2⟩
  unfold defShape
  refine (accL_defEntered K word hw sk _ _ h1).mono (fun _ h => h) ?_
  rintro _ x ⟨desc, x2, e, nm, x3, e3, h3⟩
  exact ⟨desc, nm, x3, by rw [e, e3]; simp [kwPart], h3⟩

theorem ent_scalar (n : Nat) : Acc E0 (fun q => LexQ q ∧ DefStart "scalar" q) (scalarTypeDefinition n)
    (fun _ x => ∃ desc nm ds, x = scalarToks desc true nm ds) := by
  rw [scalarTypeDefinition_eq]
  refine (accL_defShapeEntered _ "scalar" kwWord_scalar _ n _ _ ((acc_optDirsEnd (E := E0) (H := LexQ) n))).mono (fun _ h => h) ?_
  rintro _ x ⟨desc, nm, x2, e, ds, h2⟩
  exact ⟨desc, nm, ds, by rw [e, h2]; rfl⟩

theorem ent_enum (n : Nat) : Acc E0 (fun q => LexQ q ∧ DefStart "enum" q) (enumTypeDefinition n)
    (fun _ x => ∃ desc nm ds vs, x = enumToks desc true nm ds vs) := by
  rw [enumTypeDefinition_eq']
  refine (accL_defShapeEntered _ "enum" kwWord_enum _ n _ _ (accL_dirsBody n .lCurly _ _ (acc_enumValuesDefinition n))).mono (fun _ h => h) ?_
  rintro _ x ⟨desc, nm, x2, e, ds, x3, e3, h3⟩
  rcases h3 with ⟨vs, _, h3⟩ | h3
  · exact ⟨desc, nm, ds, vs, by rw [e, e3, h3]; simp [enumToks, Ast.tEnumBody]⟩
  · exact ⟨desc, nm, ds, [], by rw [e, e3, h3]; simp [enumToks, Ast.tEnumBody, Ast.tBraced, Ast.tEnumValueDefItems]⟩

theorem ent_input (n : Nat) : Acc E0 (fun q => LexQ q ∧ DefStart "input" q) (inputObjectTypeDefinition n)
    (fun _ x => ∃ desc nm ds fs, x = inputToks desc true nm ds fs) := by
  rw [inputObjectTypeDefinition_eq']
  refine (accL_defShapeEntered _ "input" kwWord_input _ n _ _ (accL_dirsBody n .lCurly _ _ (acc_inputFieldsDefinition n))).mono (fun _ h => h) ?_
  rintro _ x ⟨desc, nm, x2, e, ds, x3, e3, h3⟩
  rcases h3 with ⟨vs, _, h3⟩ | h3
  · exact ⟨desc, nm, ds, vs, by rw [e, e3, h3]; simp [inputToks, Ast.tInputBody]⟩
  · exact ⟨desc, nm, ds, [], by rw [e, e3, h3]; simp [inputToks, Ast.tInputBody, Ast.tBraced, Ast.tIVDItems]⟩

theorem ent_union (n : Nat) : Acc E0 (fun q => LexQ q ∧ DefStart "union" q) (unionTypeDefinition n)
    (fun _ x => ∃ desc nm ds ms, x = unionToks desc true nm ds ms) := by
  rw [unionTypeDefinition_eq]
  refine (accL_defShapeEntered _ "union" kwWord_union _ n _ _ (accL_dirsBody n .eq _ _ (acc_unionMemberTypes early_false))).mono (fun _ h => h) ?_
  rintro _ x ⟨desc, nm, x2, e, ds, x3, e3, h3⟩
  rcases h3 with ⟨lead, first, rest, h3⟩ | h3
  · exact ⟨desc, nm, ds, some (lead, first, rest), by rw [e, e3, h3]; simp [unionToks, tSepOpt]⟩
  · exact ⟨desc, nm, ds, none, by rw [e, e3, h3]; simp [unionToks, tSepOpt]⟩

theorem ent_object (n : Nat) : Acc E0 (fun q => LexQ q ∧ DefStart "type" q) (objectTypeDefinition n)
    (fun _ x => ∃ desc nm impl ds fs, x = Ast.tDescription desc ++ kwPart "type" true ++ objectLikeToks nm impl ds fs) := by
  rw [objectTypeDefinition_eq]
  refine (accL_defShapeEntered _ "type" kwWord_type _ n _ _ (accL_optImplTok _ _ (accL_fieldsTail n))).mono (fun _ h => h) ?_
  rintro _ x ⟨desc, nm, x2, e, impl, x3, e3, ds, fs, h3⟩
  exact ⟨desc, nm, impl, ds, fs, by rw [e, e3, h3]; simp [objectLikeToks]⟩

theorem ent_interface (n : Nat) : Acc E0 (fun q => LexQ q ∧ DefStart "interface" q) (interfaceTypeDefinition n)
    (fun _ x => ∃ desc nm impl ds fs, x = Ast.tDescription desc ++ kwPart "interface" true ++ objectLikeToks nm impl ds fs) := by
  rw [interfaceTypeDefinition_eq]
  refine (accL_defShapeEntered _ "interface" kwWord_interface _ n _ _
    (accL_optImplData _ _ _ (accL_fieldsTail n) (accL_fieldsTail n))).mono (fun _ h => h) ?_
  rintro _ x ⟨desc, nm, x2, e, impl, x3, e3, ds, fs, h3⟩
  exact ⟨desc, nm, impl, ds, fs, by rw [e, e3, h3]; simp [objectLikeToks]⟩

theorem ent_directive (n : Nat) : Acc E0 (fun q => LexQ q ∧ DefStart "directive" q) (directiveDefinition n)
    (fun _ x => ∃ desc nm args rep lead first rest, x = directiveToks desc true nm args rep lead first rest
      ∧ IsDirLoc first ∧ ∀ r ∈ rest, IsDirLoc r) := by
  rw [directiveDefinition_eq]
  refine (accL_defEntered _ "directive" kwWord_directive _ _ _ (accL_dAt n)).mono (fun _ h => h) ?_
  rintro _ x ⟨desc, x2, e, nm, args, rep, x4, e4, lead, first, rest, h4, hf, hr⟩
  exact ⟨desc, nm, args, rep, lead, first, rest, by rw [e, e4, h4]; simp only [directiveToks, kwPart, if_true, List.append_assoc, List.cons_append, List.nil_append], hf, hr⟩

theorem ent_schema (n : Nat) : Acc E0 (fun q => LexQ q ∧ DefStart "schema" q) (schemaDefinition n)
    (fun _ x => ∃ desc ds roots, roots ≠ [] ∧ x = schemaToks desc true ds roots) := by
  rw [schemaDefinition_eq]
  refine (accL_defEntered _ "schema" kwWord_schema _ _ _ (accL_schemaTail n)).mono (fun _ h => h) ?_
  rintro _ x ⟨desc, x2, e, ds, roots, hne, h4⟩
  exact ⟨desc, ds, roots, hne, by rw [e, h4]; simp only [schemaToks, kwPart, if_true, List.append_assoc, List.cons_append, List.nil_append]⟩

end Apollo.Parse
