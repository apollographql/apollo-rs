import ApolloModel.Proofs.ParserRecursion12
/-
C04, recursion limit across runs: the two-run calculus for `checkpoint` … `wrap_node`, and with it ty.rs.
-/
set_option linter.unusedSimpArgs false
set_option linter.unusedVariables false
namespace Apollo.Parse
open Apollo.Rowan hiding Str
open Apollo.Lex hiding Str
open TokenCalc (branch)

theorem plain_popDrop : Plain popDrop := by
  refine ⟨?_, ?_⟩
  · intro s L
    unfold popDrop
    simp only []
    have hc : (setL L s).current = s.current := rfl
    rw [hc]
    cases s.current <;> rfl
  · intro s o s' h
    unfold popDrop at h
    simp only [] at h
    cases hc : s.current with
    | none =>
      simp only [hc] at h; injection h with _ h; subst h
      exact ⟨rfl, rfl, rfl, fun h => h, fun g => ⟨g.lim, g.acc, fun hf t ht => g.nf hf t (by rw [hc] at *; exact ht)⟩⟩
    | some t =>
      simp only [hc] at h; injection h with _ h; subst h
      exact ⟨rfl, rfl, rfl, fun h => h, fun g => ⟨g.lim, g.acc, fun _ t' ht => by cases ht⟩⟩

/-! ### checkpoint … `wrap_node` -/

def wiPre (s : PState) : PState :=
  { s with builder := { s.builder with children := s.builder.children ++ s.pending.map pendingElem }, pending := [] }

theorem wrapIf_run {α : Type} (kind : SK) (body : PI α) (cond : α → PI Bool) (inner : PI Unit) (s : PState) :
    (wrapIf kind body cond inner).run s =
      match (body >>= fun a => cond a >>= fun c => pure (a, c)).run (wiPre s) with
      | .ok (a, c) s2 =>
        if c then
          match s2.builder.startNodeAt (wiPre s).builder.checkpoint kind with
          | none => .panic "start_node_at: checkpoint no longer valid"
          | some b =>
            match inner.run { s2 with builder := b } with
            | .ok _ s3 =>
              match s3.builder.finishNode with
              | some b' => .ok a { s3 with builder := b' }
              | none => .panic "finish_node: no open node"
            | .abort w => .abort w
            | .panic m => .panic m
        else .ok a s2
      | .abort w => .abort w
      | .panic m => .panic m := rfl

theorem bg_wrapIf {α : Type} (kind : SK) (body : PI α) (cond : α → PI Bool) (inner : PI Unit)
    (hb : BG body) (hc : ∀ a, BG (cond a)) (hi : BG inner) : BG (wrapIf kind body cond inner) := by
  intro s a s' hcur h
  obtain ⟨s1, s2, s3, c, o1, h1, h2, hrest⟩ := wrapIf_decS kind body cond inner s s' a h
  have b1 := o1.bnd
  have b2 := hb s1 a s2 (by rw [b1.recCur, b1.recLimit]; exact hcur) h1
  have b12 := b1.trans b2
  have b3 := hc a s2 c s3 (by rw [b12.recCur, b12.recLimit]; exact hcur) h2
  have b13 := b12.trans b3
  rcases hrest with ⟨_, rfl⟩ | ⟨_, s4, s5, o4, h5, o5⟩
  · exact b13
  · have b4 := b13.trans o4.bnd
    have b5 := hi s4 () s5 (by rw [b4.recCur, b4.recLimit]; exact hcur) h5
    exact (b4.trans b5).trans o5.bnd

theorem xc_wrapIf {α : Type} {c : Option Tok → Prop} (kind : SK) (body : PI α) (cond : α → PI Bool) (inner : PI Unit)
    (xb : XC c body) (bb : BG body) (hc : ∀ a, XG (cond a)) (hi : XG inner) : XC c (wrapIf kind body cond inner) := by
  have hM : XC c (body >>= fun a => cond a >>= fun cc => (pure (a, cc) : PI (α × Bool))) :=
    xc_bind (c' := fun _ _ => True) _ _ xb bb (post_trivial _ _)
      (fun a => xc_weaken (xg_bind _ _ (hc a) (fun cc => xgCalc.pure _)).x) (fun a => (xg_bind _ _ (hc a) (fun cc => xgCalc.pure _)).b)
  intro s r R ar aR sr sR hrR hcur hh g hcs hr hR
  rw [wrapIf_run] at hr hR
  have e1 : wiPre (setL r s) = setL r (wiPre s) := rfl
  have e2 : wiPre (setL R s) = setL R (wiPre s) := rfl
  rw [e1] at hr
  rw [e2] at hR
  have gp : GI (wiPre s) := ⟨g.lim, g.acc, g.nf⟩
  cases h1 : (body >>= fun a => cond a >>= fun cc => (pure (a, cc) : PI (α × Bool))).run (setL r (wiPre s)) with
  | abort w => rw [h1] at hr; cases hr
  | panic m => rw [h1] at hr; cases hr
  | ok ac s2 =>
    cases h2 : (body >>= fun a => cond a >>= fun cc => (pure (a, cc) : PI (α × Bool))).run (setL R (wiPre s)) with
    | abort w => rw [h2] at hR; cases hR
    | panic m => rw [h2] at hR; cases hR
    | ok acR s2R =>
      rw [h1] at hr
      rw [h2] at hR
      obtain ⟨a1, c1⟩ := ac
      obtain ⟨a1R, c1R⟩ := acR
      simp only [] at hr hR
      -- bounds for the unlimited side: the high-water mark only grows
      have bM : BG (body >>= fun a => cond a >>= fun cc => (pure (a, cc) : PI (α × Bool))) :=
        bg_bind _ _ bb (fun a => (xg_bind _ _ (hc a) (fun cc => xgCalc.pure _)).b)
      have bMR := bM _ _ s2R (by simp only [setL, wiPre]; omega) h2
      have bMr := bM _ _ s2 (by simpa [setL, wiPre] using hcur) h1
      -- what the R-run does after the pair
      have tailR : s2R.recHigh ≤ sR.recHigh ∧ (c1R = false → sR = s2R ∧ aR = a1R) := by
        cases c1R with
        | false =>
          simp only [Bool.false_eq_true, if_false] at hR
          injection hR with q1 q2
          subst q1 q2
          exact ⟨Nat.le_refl _, fun _ => ⟨rfl, rfl⟩⟩
        | true =>
          simp only [if_true] at hR
          refine ⟨?_, fun h => by cases h⟩
          split at hR
          · cases hR
          · rename_i b hsn
            split at hR
            · rename_i u s3 hin
              split at hR
              · rename_i b' hf
                injection hR with q1 q2
                subst q1 q2
                have := hi.b _ () s3 (by
                  have e1 := bMR.recCur
                  have e2 := bMR.recLimit
                  simp only [setL, wiPre] at e1 e2 ⊢
                  omega) hin
                exact this.lo
              · cases hR
            · cases hR
            · cases hR
      rcases hM (wiPre s) r R (a1, c1) (a1R, c1R) s2 s2R hrR hcur hh gp hcs h1 h2 with ⟨t, q1, q2, qa, th, tc, tg⟩ | ⟨d1, d2, d3⟩
      · subst q1 q2
        injection qa with qa1 qa2
        subst qa1 qa2
        cases c1 with
        | false =>
          simp only [Bool.false_eq_true, if_false] at hr hR
          injection hr with p1 p2
          injection hR with p3 p4
          subst p1 p2 p3 p4
          exact Or.inl ⟨t, rfl, rfl, rfl, th, tc, tg⟩
        | true =>
          simp only [if_true] at hr hR
          have ecp : (setL r (wiPre s)).builder.checkpoint = (wiPre s).builder.checkpoint := rfl
          have ecpR : (setL R (wiPre s)).builder.checkpoint = (wiPre s).builder.checkpoint := rfl
          have ebr : (setL r t).builder = t.builder := rfl
          have ebR : (setL R t).builder = t.builder := rfl
          rw [ebr, ecp] at hr
          rw [ebR, ecpR] at hR
          cases hsn : t.builder.startNodeAt (wiPre s).builder.checkpoint kind with
          | none => rw [hsn] at hr; cases hr
          | some b =>
            rw [hsn] at hr hR
            simp only [] at hr hR
            have er : ({ setL r t with builder := b } : PState) = setL r { t with builder := b } := rfl
            have eR : ({ setL R t with builder := b } : PState) = setL R { t with builder := b } := rfl
            rw [er] at hr
            rw [eR] at hR
            cases h3 : inner.run (setL r { t with builder := b }) with
            | abort w => rw [h3] at hr; cases hr
            | panic m => rw [h3] at hr; cases hr
            | ok u3 s3 =>
              cases h3R : inner.run (setL R { t with builder := b }) with
              | abort w => rw [h3R] at hR; cases hR
              | panic m => rw [h3R] at hR; cases hR
              | ok u3R s3R =>
                rw [h3] at hr
                rw [h3R] at hR
                simp only [] at hr hR
                cases hf : s3.builder.finishNode with
                | none => rw [hf] at hr; cases hr
                | some bf =>
                  cases hfR : s3R.builder.finishNode with
                  | none => rw [hfR] at hR; cases hR
                  | some bfR =>
                    rw [hf] at hr
                    rw [hfR] at hR
                    injection hr with p1 p2
                    injection hR with p3 p4
                    subst p1 p2 p3 p4
                    rcases hi.x { t with builder := b } r R u3 u3R s3 s3R hrR (by simp only []; rw [tc]; exact hcur) th
                      ⟨tg.lim, tg.acc, tg.nf⟩ trivial h3 h3R with ⟨t3, z1, z2, _, th3, tc3, tg3⟩ | ⟨d1, d2, d3⟩
                    · subst z1 z2
                      have hbb : bf = bfR := by
                        have : (setL r t3).builder.finishNode = (setL R t3).builder.finishNode := rfl
                        rw [hf, hfR] at this
                        injection this
                      subst hbb
                      exact Or.inl ⟨{ t3 with builder := bf }, rfl, rfl, rfl, th3, tc3.trans tc, ⟨tg3.lim, tg3.acc, tg3.nf⟩⟩
                    · exact Or.inr ⟨d1, d2, d3⟩
      · -- diverged inside the body or the condition: the limited side stays bounded
        refine Or.inr ?_
        have hlim_r : s2.recLimit = r := by rw [bMr.recLimit]; rfl
        have hcur_r : s2.recCur ≤ r := by rw [bMr.recCur]; simpa [setL, wiPre] using hcur
        cases c1 with
        | false =>
          simp only [Bool.false_eq_true, if_false] at hr
          injection hr with p1 p2
          subst p1 p2
          exact ⟨d1, d2, Nat.le_trans d3 tailR.1⟩
        | true =>
          simp only [if_true] at hr
          split at hr
          · cases hr
          · rename_i b hsn
            split at hr
            · rename_i u s3 hin
              split at hr
              · rename_i b' hf
                injection hr with p1 p2
                subst p1 p2
                have bi := hi.b _ () s3 (by simp only []; omega) hin
                refine ⟨bi.lim d1, ?_, Nat.le_trans d3 tailR.1⟩
                have l1 := bi.lo
                have l2 := bi.hi
                simp only [] at l1 l2 ⊢
                omega
              · cases hr
            · cases hr
            · cases hr

theorem xg_wrapIf {α : Type} (kind : SK) (body : PI α) (cond : α → PI Bool) (inner : PI Unit)
    (hb : XG body) (hc : ∀ a, XG (cond a)) (hi : XG inner) : XG (wrapIf kind body cond inner) :=
  ⟨xc_wrapIf _ _ _ _ hb.x hb.b hc hi, bg_wrapIf _ _ _ _ hb.b (fun a => (hc a).b) hi.b⟩

/-! ### ty.rs: the guard of a list type follows `bump(L_BRACK)` -/

theorem xg_tyParse : ∀ n, XG (tyParse n)
  | 0 => by rw [tyParse]; exact xgCalc.outOfFuel
  | n + 1 => by
    have ih := xg_tyParse n
    have close : Plain (expect Kind.rBracket "R_BRACK" >>= fun _ => (pure TyRes.ok : PI TyRes)) :=
      plainTok.bind _ _ (plainTok.expect _ _) fun _ => plain_pure _
    rw [tyParse]
    refine xgCalc.bind _ _ (xg_wrapIf _ _ _ _
      (XB.bind _ _ (XB.of_plain plainTok.peek) (post_peek _) fun o => ?_).xg (fun r => ?_) (xgCalc.eat _)) fun r => ?_
    · split
      · refine XB.withNode _ _ (post_skipIgnored_keep .lBracket rfl) ?_
        refine XB.bind _ _ (XB.of_plain (plainTok.bump _)) (post_bump _ _ (by decide)) fun _ => ?_
        refine XB.bind _ _ (XB.guard _ _ (xgCalc.bind _ _ ih fun _ => xgCalc.pure _)) (post_trivial _ _) fun inner =>
          XB.of_plain ?_
        cases inner with
        | none => exact plain_pure _
        | some res => cases res <;> first | exact close | exact plainTok.bind _ _ (plainTok.errAtToken _) fun _ => close
      · exact XB.of_plain (plain_withNode _ _ (plain_withNode _ _ (plainTok.bind _ _ (plainTok.eat _) fun _ => plain_pure _)))
      · exact XB.of_plain (plainTok.bind _ _ plain_popDrop fun t => by cases t <;> exact plain_pure _)
      · exact XB.of_plain (plain_pure _)
    · cases r <;> first
        | exact xgCalc.pure _
        | exact xgCalc.bind _ _ xgCalc.skipIgnored fun _ => xgCalc.bind _ _ xgCalc.peek fun _ => xgCalc.pure _
    · cases r <;> first
        | exact xgCalc.pure _
        | exact xgCalc.bind _ _ xgCalc.skipIgnored fun _ => xgCalc.pure _

theorem xg_ty (n : Nat) : XG (ty n) :=
  xgCalc.bind _ _ (xg_tyParse n) fun r => by
    cases r <;> first | exact xgCalc.pure _ | exact xgCalc.err | exact xgCalc.errAtToken _

end Apollo.Parse
