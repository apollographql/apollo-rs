import ApolloModel.Spec.ValueCheck
/-
C14: `value_of_correct_type` (Model/ValueCheck.lean) pushes no diagnostic for a constant iff the
constant coerces to the type (Spec/ValueCheck.lean).
-/
namespace Apollo.ValueCheck
open Apollo.ValueCheck.Spec

/-! ### §5.6.3 and opaque literals -/

theorem uniqueDiags_nil_iff : ∀ (names seen : List Name),
    uniqueDiags seen names = [] ↔ (∀ n ∈ names, n ∉ seen) ∧ names.Nodup := by
  intro names
  induction names with
  | nil => intro seen; simp [uniqueDiags]
  | cons n rest ih =>
    intro seen
    unfold uniqueDiags
    rw [List.append_eq_nil_iff, ih]
    by_cases h : seen.contains n = true
    · have hm : n ∈ seen := by simpa using h
      simp [hm]
    · have hm : n ∉ seen := by simpa using h
      rw [if_neg h]
      simp only [true_and, List.mem_cons, forall_eq_or_imp, List.nodup_cons, List.mem_append, not_or]
      constructor
      · intro ⟨h1, h2⟩
        exact ⟨⟨hm, fun x hx => (h1 x hx).1⟩, fun hx => (h1 n hx).2.1 rfl, h2⟩
      · intro ⟨⟨_, h1⟩, h2, h3⟩
        exact ⟨fun x hx => ⟨h1 x hx, fun (hxn : x = n) => h2 (hxn ▸ hx), List.not_mem_nil⟩, h3⟩

theorem uniqueDiags_iff (names : List Name) : uniqueDiags [] names = [] ↔ names.Nodup := by
  rw [uniqueDiags_nil_iff]; simp

mutual
theorem opaque_iff : ∀ (v : Value), opaqueDiags [] v = [] ↔ LiteralOK v
  | .int i => by simp [opaqueDiags]; exact .int i
  | .float b => by simp [opaqueDiags]; exact .float b
  | .string => by simp [opaqueDiags]; exact .string
  | .boolean => by simp [opaqueDiags]; exact .boolean
  | .null => by simp [opaqueDiags]; exact .null
  | .enum e => by simp [opaqueDiags]; exact .enum e
  | .variable n => by
    simp only [opaqueDiags, varDefined, List.any_nil, Bool.false_eq_true, if_false]
    constructor
    · intro h; cases h
    · intro h; cases h
  | .list vs => by
    simp only [opaqueDiags]
    rw [opaqueList_iff vs]
    constructor
    · intro h; exact .list vs h
    · intro h; cases h with | list _ h => exact h
  | .object fs => by
    simp only [opaqueDiags]
    rw [List.append_eq_nil_iff, uniqueDiags_iff, opaqueFields_iff fs]
    constructor
    · intro ⟨h1, h2⟩; exact .object fs h1 h2
    · intro h; cases h with | object _ h1 h2 => exact ⟨h1, h2⟩
theorem opaqueList_iff : ∀ (vs : Values), opaqueList [] vs = [] ↔ ∀ v ∈ vs.toList, LiteralOK v
  | .nil => by simp [opaqueList, Values.toList]
  | .cons v tl => by
    simp only [opaqueList, Values.toList, List.mem_cons, forall_eq_or_imp]
    rw [List.append_eq_nil_iff, opaque_iff v, opaqueList_iff tl]
theorem opaqueFields_iff : ∀ (fs : Fields), opaqueFields [] fs = [] ↔ ∀ p ∈ fs.toList, LiteralOK p.2
  | .nil => by simp [opaqueFields, Fields.toList]
  | .cons n v tl => by
    simp only [opaqueFields, Fields.toList, List.mem_cons, forall_eq_or_imp]
    rw [List.append_eq_nil_iff, opaque_iff v, opaqueFields_iff tl]
end


/-! ### values that are neither null nor a list see only the named type -/

def Plain (v : Value) : Prop := v ≠ .null ∧ ∀ vs, v ≠ .list vs

theorem check_plain (S : Schema) (vars : List VarDef) (ty : Ty) (v : Value) (hv : Plain v) :
    check S vars ty v = check S vars (.named ty.innerNamed) v := by
  cases v with
  | null => exact absurd rfl hv.1
  | list vs => exact absurd rfl (hv.2 vs)
  | int i => simp [check, Ty.innerNamed]
  | float b => simp [check, Ty.innerNamed]
  | string => simp [check, Ty.innerNamed]
  | boolean => simp [check, Ty.innerNamed]
  | enum e => simp [check, Ty.innerNamed]
  | «variable» n => simp [check, Ty.innerNamed, variableDiags]
  | object fs => simp [check, Ty.innerNamed]

theorem coerces_custom_named {S : Schema} {n : Name} (hn : S.lookup n = some (.scalar false)) (v : Value) :
    Coerces S (.named n) v ↔ LiteralOK v := by
  constructor
  · intro h
    cases h with
    | null _ _ => exact .null
    | custom _ _ _ h => exact h
    | int i h => rw [hn] at h; cases h
    | floatOfInt i h => rw [hn] at h; cases h
    | float h => rw [hn] at h; cases h
    | string h => rw [hn] at h; cases h
    | boolean h => rw [hn] at h; cases h
    | idOfString h => rw [hn] at h; cases h
    | idOfInt i h => rw [hn] at h; cases h
    | enum _ values e h => rw [hn] at h; cases h
    | inputObject _ fields fs h => rw [hn] at h; cases h
  · intro h; exact .custom n v hn h

theorem coerces_nonNullNamed (S : Schema) (n : Name) (v : Value) :
    Coerces S (.nonNullNamed n) v ↔ v ≠ .null ∧ Coerces S (.named n) v := by
  constructor
  · intro h
    cases h with
    | null _ h => simp [Ty.isNonNull] at h
    | nonNullNamed _ _ h1 h2 => exact ⟨h1, h2⟩
  · intro ⟨h1, h2⟩; exact .nonNullNamed n v h1 h2

theorem coerces_nonNullList (S : Schema) (t : Ty) (v : Value) :
    Coerces S (.nonNullList t) v ↔ v ≠ .null ∧ Coerces S (.list t) v := by
  constructor
  · intro h
    cases h with
    | null _ h => simp [Ty.isNonNull] at h
    | nonNullList _ _ h1 h2 => exact ⟨h1, h2⟩
  · intro ⟨h1, h2⟩; exact .nonNullList t v h1 h2

theorem coerces_list_plain (S : Schema) (v : Value) (hv : Plain v) (t : Ty) : Coerces S (.list t) v ↔ Coerces S t v := by
  constructor
  · intro h
    cases h with
    | null _ _ => exact absurd rfl hv.1
    | listItems _ vs _ => exact absurd rfl (hv.2 vs)
    | listSingle _ _ _ _ h => exact h
  · intro h; exact .listSingle t v hv.1 hv.2 h

theorem coerces_plain (S : Schema) (v : Value) (hv : Plain v) : ∀ (ty : Ty),
    Coerces S ty v ↔ Coerces S (.named ty.innerNamed) v := by
  intro ty
  induction ty with
  | named n => rfl
  | nonNullNamed n => rw [coerces_nonNullNamed, and_iff_right hv.1]; rfl
  | list t ih => rw [coerces_list_plain S v hv, ih]; rfl
  | nonNullList t ih => rw [coerces_nonNullList, and_iff_right hv.1, coerces_list_plain S v hv, ih]; rfl


/-! ### custom scalars -/

theorem itemType_of_not_list (ty : Ty) (h : ty.isList = false) : ty.itemType = ty := by
  cases ty <;> simp_all [Ty.isList, Ty.itemType]

theorem literalOK_object (fs : Fields) :
    (uniqueDiags [] fs.names ++ opaqueFields [] fs = []) ↔ LiteralOK (.object fs) := by
  have := opaque_iff (.object fs)
  simpa only [opaqueDiags] using this

theorem check_custom (S : Schema) (n : Name) (hn : S.lookup n = some (.scalar false)) : ∀ (v : Value) (ty : Ty),
    ty.innerNamed = n → ty.isList = false → (check S [] ty v = [] ↔ (LiteralOK v ∧ (ty.isNonNull = true → v ≠ .null)))
  | .int i, ty, hi, _ => by simp [check, hi, hn, intDiags]; exact .int i
  | .float b, ty, hi, _ => by simp [check, hi, hn, floatDiags]; exact .float b
  | .string, ty, hi, _ => by simp [check, hi, hn, stringDiags]; exact .string
  | .boolean, ty, hi, _ => by simp [check, hi, hn, booleanDiags]; exact .boolean
  | .enum e, ty, hi, _ => by simp [check, hi, hn, enumDiags]; exact .enum e
  | .null, ty, hi, _ => by
    simp only [check, hi, hn]
    cases hnn : ty.isNonNull with
    | false => simp; exact .null
    | true => simp
  | .variable x, ty, hi, _ => by
    simp only [check, hi, hn, variableDiags, List.find?_nil]
    constructor
    · intro h; cases h
    · intro h; cases h.1
  | .list vs, ty, hi, hl => by
    simp only [check, hi, hn, hl, Bool.false_or, Bool.not_true, Bool.false_eq_true, if_false, Bool.not_false, if_true]
    rw [opaqueList_iff vs]
    constructor
    · intro h; exact ⟨.list vs h, fun _ => by simp⟩
    · intro h; cases h.1 with | list _ h => exact h
  | .object fs, ty, hi, _ => by
    simp only [check, hi, hn]
    rw [literalOK_object]
    exact ⟨fun h => ⟨h, fun _ => by simp⟩, fun h => h.1⟩

/-! ### scalar and enum literals against a named type -/

theorem inI32_iff (i : Int) : Num.inI32 i = true ↔ (-2147483648 ≤ i ∧ i ≤ 2147483647) := by
  simp [Num.inI32]

theorem check_named_int (S : Schema) (n : Name) (td : TypeDef) (i : Int) (hl : S.lookup n = some td)
    (hc : td ≠ .scalar false) : check S [] (.named n) (.int i) = [] ↔ Coerces S (.named n) (.int i) := by
  simp only [check, Ty.innerNamed, hl]
  constructor
  · intro h
    cases td with
    | scalar b =>
      cases b with
      | false => exact absurd rfl hc
      | true =>
        unfold intDiags at h
        by_cases h1 : n = "ID"
        · subst h1; exact .idOfInt i hl
        · by_cases h2 : n = "Int"
          · subst h2
            simp [inI32_iff] at h
            exact .int i hl h.1 h.2
          · by_cases h3 : n = "Float"
            · subst h3
              by_cases hf : intFitsF64 i = true
              · exact .floatOfInt i hl (of_decide_eq_true hf)
              · simp [hf] at h
            · simp [h1, h2, h3] at h
    | _ => simp [intDiags] at h
  · intro h
    cases h with
    | int _ h1 h2 h3 => rw [h1] at hl; cases hl; simp [intDiags, inI32_iff, h2, h3]
    | floatOfInt _ h1 h2 =>
      rw [h1] at hl; cases hl
      have hf : intFitsF64 i = true := decide_eq_true h2
      simp [intDiags, hf]
    | idOfInt _ h1 => rw [h1] at hl; cases hl; simp [intDiags]
    | custom _ _ h1 _ => rw [h1] at hl; cases hl; exact absurd rfl hc

theorem check_named_float (S : Schema) (n : Name) (td : TypeDef) (b : Bool) (hl : S.lookup n = some td)
    (hc : td ≠ .scalar false) : check S [] (.named n) (.float b) = [] ↔ Coerces S (.named n) (.float b) := by
  simp only [check, Ty.innerNamed, hl]
  constructor
  · intro h
    cases td with
    | scalar x =>
      cases x with
      | false => exact absurd rfl hc
      | true =>
        unfold floatDiags at h
        by_cases h1 : n = "Float"
        · subst h1
          cases b with
          | true => exact .float hl
          | false => simp at h
        · simp [h1] at h
    | _ => simp [floatDiags] at h
  · intro h
    cases h with
    | float h1 => rw [h1] at hl; cases hl; simp [floatDiags]
    | custom _ _ h1 _ => rw [h1] at hl; cases hl; exact absurd rfl hc

theorem check_named_string (S : Schema) (n : Name) (td : TypeDef) (hl : S.lookup n = some td)
    (hc : td ≠ .scalar false) : check S [] (.named n) .string = [] ↔ Coerces S (.named n) .string := by
  simp only [check, Ty.innerNamed, hl]
  constructor
  · intro h
    cases td with
    | scalar x =>
      cases x with
      | false => exact absurd rfl hc
      | true =>
        unfold stringDiags at h
        by_cases h1 : n = "String"
        · subst h1; exact .string hl
        · by_cases h2 : n = "ID"
          · subst h2; exact .idOfString hl
          · simp [h1, h2] at h
    | _ => simp [stringDiags] at h
  · intro h
    cases h with
    | string h1 => rw [h1] at hl; cases hl; simp [stringDiags]
    | idOfString h1 => rw [h1] at hl; cases hl; simp [stringDiags]
    | custom _ _ h1 _ => rw [h1] at hl; cases hl; exact absurd rfl hc

theorem check_named_boolean (S : Schema) (n : Name) (td : TypeDef) (hl : S.lookup n = some td)
    (hc : td ≠ .scalar false) : check S [] (.named n) .boolean = [] ↔ Coerces S (.named n) .boolean := by
  simp only [check, Ty.innerNamed, hl]
  constructor
  · intro h
    cases td with
    | scalar x =>
      cases x with
      | false => exact absurd rfl hc
      | true =>
        unfold booleanDiags at h
        by_cases h1 : n = "Boolean"
        · subst h1; exact .boolean hl
        · simp [h1] at h
    | _ => simp [booleanDiags] at h
  · intro h
    cases h with
    | boolean h1 => rw [h1] at hl; cases hl; simp [booleanDiags]
    | custom _ _ h1 _ => rw [h1] at hl; cases hl; exact absurd rfl hc

theorem check_named_enum (S : Schema) (n : Name) (td : TypeDef) (e : Name) (hl : S.lookup n = some td)
    (hc : td ≠ .scalar false) : check S [] (.named n) (.enum e) = [] ↔ Coerces S (.named n) (.enum e) := by
  simp only [check, Ty.innerNamed, hl]
  constructor
  · intro h
    cases td with
    | scalar x =>
      cases x with
      | false => exact absurd rfl hc
      | true => simp [enumDiags] at h
    | enum vs =>
      unfold enumDiags at h
      by_cases hm : vs.contains e = true
      · exact .enum n vs e hl (by simpa using hm)
      · change (if vs.contains e = true then [] else [Diag.undefinedEnumValue]) = [] at h
        rw [if_neg hm] at h; cases h
    | _ => simp [enumDiags] at h
  · intro h
    cases h with
    | enum _ vs _ h1 h2 =>
      rw [h1] at hl; cases hl
      have : vs.contains e = true := by simpa using h2
      show (if vs.contains e = true then [] else [Diag.undefinedEnumValue]) = []
      rw [if_pos this]
    | custom _ _ h1 _ => rw [h1] at hl; cases hl; exact absurd rfl hc

theorem check_named_variable (S : Schema) (n : Name) (td : TypeDef) (x : Name) (hl : S.lookup n = some td)
    (hc : td ≠ .scalar false) : check S [] (.named n) (.variable x) = [] ↔ Coerces S (.named n) (.variable x) := by
  simp only [check, Ty.innerNamed, hl, variableDiags, List.find?_nil]
  constructor
  · intro h; cases h
  · intro h
    cases h with
    | custom _ _ h1 h2 => cases h2

theorem check_null (S : Schema) (ty : Ty) (hd : Defined S ty) : check S [] ty .null = [] ↔ Coerces S ty .null := by
  obtain ⟨td, hl, _⟩ := hd
  simp only [check, hl]
  constructor
  · intro h
    cases hnn : ty.isNonNull with
    | false => exact .null ty hnn
    | true => simp [hnn] at h
  · intro h
    cases h with
    | null _ h => simp [h]
    | nonNullNamed _ _ h _ => exact absurd rfl h
    | nonNullList _ _ h => exact absurd rfl h
    | listSingle _ _ h => exact absurd rfl h
    | custom _ _ _ _ => simp [Ty.isNonNull]


/-! ### object literals -/

/-- `obj.iter().find(|(n, _)| n == name)` -/
def Fields.first (name : Name) : Fields → Option Value
  | .nil => none
  | .cons n v tl => if n == name then some v else tl.first name

theorem hasNull_false_iff (name : Name) : ∀ (fs : Fields),
    fs.hasNull name = false ↔ ∀ p ∈ fs.toList, p.1 = name → p.2 ≠ .null
  | .nil => by simp [Fields.hasNull, Fields.toList]
  | .cons n v tl => by
    simp only [Fields.hasNull, Fields.toList, Bool.or_eq_false_iff, List.mem_cons, forall_eq_or_imp]
    rw [hasNull_false_iff name tl]
    have : (n == name && v.isNull) = false ↔ (n = name → v ≠ .null) := by
      cases v <;> simp [Value.isNull]
    rw [this]

theorem mem_names_of_mem : ∀ (fs : Fields) (p : Name × Value), p ∈ fs.toList → p.1 ∈ fs.names
  | .nil, p, h => by cases h
  | .cons n v tl, p, h => by
    simp only [Fields.toList, List.mem_cons] at h
    simp only [Fields.names, List.mem_cons]
    rcases h with h | h
    · left; rw [h]
    · right; exact mem_names_of_mem tl p h

theorem first_iff_mem (name : Name) (v : Value) : ∀ (fs : Fields), fs.names.Nodup →
    (fs.first name = some v ↔ (name, v) ∈ fs.toList)
  | .nil, _ => by simp [Fields.first, Fields.toList]
  | .cons n x tl, hnd => by
    simp only [Fields.names, List.nodup_cons] at hnd
    simp only [Fields.first, Fields.toList, List.mem_cons]
    by_cases hn : n = name
    · subst hn
      simp only [beq_self_eq_true, if_true]
      constructor
      · intro h; left; rw [Option.some.inj h]
      · intro h
        rcases h with h | h
        · rw [(Prod.mk.inj h).2]
        · exact absurd (mem_names_of_mem tl _ h) hnd.1
    · have hb : (n == name) = false := beq_eq_false_iff_ne.mpr hn
      rw [hb]
      simp only [Bool.false_eq_true, if_false]
      rw [first_iff_mem name v tl hnd.2]
      constructor
      · intro h; exact Or.inr h
      · intro h
        rcases h with h | h
        · exact absurd (Prod.mk.inj h).1.symm hn
        · exact h

theorem first_mem (name : Name) (v : Value) : ∀ (fs : Fields), fs.first name = some v → (name, v) ∈ fs.toList
  | .nil, h => by simp [Fields.first] at h
  | .cons n x tl, h => by
    simp only [Fields.first] at h
    simp only [Fields.toList, List.mem_cons]
    by_cases hn : n = name
    · subst hn
      simp only [beq_self_eq_true, if_true] at h
      left; rw [Option.some.inj h]
    · have hb : (n == name) = false := beq_eq_false_iff_ne.mpr hn
      rw [hb] at h
      exact Or.inr (first_mem name v tl h)

theorem undefinedFieldDiags_iff (fields : List InField) (names : List Name) :
    undefinedFieldDiags fields names = [] ↔ ∀ name ∈ names, ∃ f ∈ fields, f.name = name := by
  unfold undefinedFieldDiags
  cases hf : names.find? (fun n => !(fields.any (fun f => f.name == n))) with
  | some x =>
    simp only [reduceCtorEq, false_iff]
    intro h
    have hx := List.find?_some hf
    have hm := List.mem_of_find?_eq_some hf
    obtain ⟨f, hfm, hfn⟩ := h x hm
    simp only [Bool.not_eq_true', List.any_eq_false, beq_iff_eq] at hx
    exact hx f hfm hfn
  | none =>
    simp only [true_iff]
    intro name hname
    rw [List.find?_eq_none] at hf
    have := hf name hname
    simp only [Bool.not_eq_true', Bool.not_eq_false, List.any_eq_true, beq_iff_eq] at this
    exact this

theorem requiredDiags_iff (f : InField) (fs : Fields) :
    requiredDiags f fs = [] ↔ (InField.required f → f.name ∈ fs.names ∧ ∀ p ∈ fs.toList, p.1 = f.name → p.2 ≠ .null) := by
  unfold requiredDiags InField.required
  rw [← hasNull_false_iff]
  by_cases hr : (f.ty.isNonNull && !f.hasDefault) = true
  · have hr' : f.ty.isNonNull = true ∧ f.hasDefault = false := by simpa using hr
    by_cases hm : (!(fs.names.contains f.name) || fs.hasNull f.name) = true
    · simp only [hr, hm, Bool.and_self, if_true, reduceCtorEq, false_iff]
      intro h
      obtain ⟨h1, h2⟩ := h hr'
      simp [h1, h2] at hm
    · simp only [hr, hm, Bool.and_false, Bool.false_eq_true, if_false, true_iff]
      intro _
      simpa using hm
  · have : ¬ (f.ty.isNonNull = true ∧ f.hasDefault = false) := by simpa using hr
    simp only [hr, Bool.false_and, Bool.false_eq_true, if_false, true_iff]
    intro h; exact absurd h this

theorem defined_list {S : Schema} {t : Ty} (h : Defined S (.list t)) : Defined S t := h
theorem defined_nonNullList {S : Schema} {t : Ty} (h : Defined S (.nonNullList t)) : Defined S t := h

theorem plain_case (S : Schema) (v : Value) (hp : Plain v)
    (hnamed : ∀ n td, S.lookup n = some td → td.isInputType = true → td ≠ .scalar false →
      (check S [] (.named n) v = [] ↔ Coerces S (.named n) v)) :
    ∀ ty, Defined S ty → (check S [] ty v = [] ↔ Coerces S ty v) := by
  intro ty ⟨td, hl, hin⟩
  rw [check_plain S [] ty v hp, coerces_plain S v hp ty]
  by_cases hc : td = .scalar false
  · subst hc
    rw [check_custom S _ hl v (.named ty.innerNamed) rfl rfl, coerces_custom_named hl]
    exact ⟨fun h => h.1, fun h => ⟨h, fun hx => by simp [Ty.isNonNull] at hx⟩⟩
  · exact hnamed _ td hl hin hc


/-! ### list literals -/

theorem check_nonNullNamed (S : Schema) (vars : List VarDef) (n : Name) (v : Value) (hv : v ≠ .null) :
    check S vars (.nonNullNamed n) v = check S vars (.named n) v := by
  cases v with
  | null => exact absurd rfl hv
  | _ => simp [check, Ty.innerNamed, Ty.isList, variableDiags]

theorem check_nonNullList (S : Schema) (vars : List VarDef) (t : Ty) (v : Value) (hv : v ≠ .null) :
    check S vars (.nonNullList t) v = check S vars (.list t) v := by
  cases v with
  | null => exact absurd rfl hv
  | _ => simp [check, Ty.innerNamed, Ty.isList, Ty.itemType, variableDiags]

/-- a list literal for a named type: only a custom scalar takes it -/
theorem check_list_named (S : Schema) (n : Name) (vs : Values) (hd : Defined S (.named n)) :
    check S [] (.named n) (.list vs) = [] ↔ Coerces S (.named n) (.list vs) := by
  obtain ⟨td, hl, _⟩ := hd
  by_cases hc : td = .scalar false
  · subst hc
    have hl' : S.lookup n = some (.scalar false) := hl
    rw [check_custom S n hl' (.list vs) (.named n) rfl rfl, coerces_custom_named hl']
    exact ⟨fun h => h.1, fun h => ⟨h, fun _ => by simp⟩⟩
  · simp only [check, Ty.innerNamed] at hl ⊢
    simp only [hl, Ty.isList, Bool.false_or, Bool.not_false, if_true, reduceCtorEq, false_iff]
    intro h
    cases h with
    | custom _ _ h1 _ => rw [h1] at hl; exact hc (Option.some.inj hl).symm

/-- a list literal for a list type, given the check of its items -/
theorem check_list_list (S : Schema) (t : Ty) (vs : Values) (hd : Defined S (.list t))
    (hitems : checkItems S [] t vs = [] ↔ ∀ v ∈ vs.toList, Coerces S t v) :
    check S [] (.list t) (.list vs) = [] ↔ Coerces S (.list t) (.list vs) := by
  obtain ⟨td, hl, hin⟩ := hd
  simp only [check, Ty.innerNamed] at hl ⊢
  simp only [hl, Ty.isList, Bool.true_or, Bool.not_true, Bool.false_eq_true, if_false, hin, if_true, Ty.itemType]
  rw [hitems]
  constructor
  · intro h; exact .listItems t vs h
  · intro h
    cases h with
    | listItems _ _ h => exact h
    | listSingle _ _ _ h => exact absurd rfl (h vs)

theorem not_custom_match (td : TypeDef) (hc : td ≠ .scalar false) :
    (match td with | .scalar false => true | _ => false) = false := by
  cases td with
  | scalar b => cases b with
    | false => exact absurd rfl hc
    | true => rfl
  | enum vs => rfl
  | input fs => rfl
  | other => rfl

mutual
theorem check_iff (S : Schema) (hS : Closed S) : ∀ (v : Value) (ty : Ty), Defined S ty →
    (check S [] ty v = [] ↔ Coerces S ty v)
  | .int i, ty, hd =>
    plain_case S (.int i) ⟨by simp, by simp⟩ (fun n td hl _ hc => check_named_int S n td i hl hc) ty hd
  | .float b, ty, hd =>
    plain_case S (.float b) ⟨by simp, by simp⟩ (fun n td hl _ hc => check_named_float S n td b hl hc) ty hd
  | .string, ty, hd =>
    plain_case S .string ⟨by simp, by simp⟩ (fun n td hl _ hc => check_named_string S n td hl hc) ty hd
  | .boolean, ty, hd =>
    plain_case S .boolean ⟨by simp, by simp⟩ (fun n td hl _ hc => check_named_boolean S n td hl hc) ty hd
  | .enum e, ty, hd =>
    plain_case S (.enum e) ⟨by simp, by simp⟩ (fun n td hl _ hc => check_named_enum S n td e hl hc) ty hd
  | .variable x, ty, hd =>
    plain_case S (.variable x) ⟨by simp, by simp⟩ (fun n td hl _ hc => check_named_variable S n td x hl hc) ty hd
  | .null, ty, hd => check_null S ty hd
  | .object fs, ty, hd => by
    refine plain_case S (.object fs) ⟨by simp, by simp⟩ ?_ ty hd
    intro n td hl hin hc
    simp only [check, Ty.innerNamed, hl]
    cases td with
    | scalar b =>
      cases b with
      | false => exact absurd rfl hc
      | true =>
        simp only [reduceCtorEq, false_iff]
        intro h
        cases h with
        | custom _ _ h1 _ => rw [h1] at hl; cases hl
        | inputObject _ fields _ h1 => rw [h1] at hl; cases hl
    | enum vs =>
      simp only [reduceCtorEq, false_iff]
      intro h
      cases h with
      | custom _ _ h1 _ => rw [h1] at hl; cases hl
      | inputObject _ fields _ h1 => rw [h1] at hl; cases hl
    | other => simp [TypeDef.isInputType] at hin
    | input fields =>
      have hfields : ∀ f ∈ fields, Defined S f.ty := hS n fields hl
      rw [List.append_eq_nil_iff, List.append_eq_nil_iff, uniqueDiags_iff, undefinedFieldDiags_iff, List.flatMap_eq_nil_iff]
      constructor
      · intro ⟨⟨hnd, hdef⟩, hall⟩
        refine .inputObject n fields fs hl hnd hdef ?_ ?_
        · intro f hf
          have := hall f hf
          rw [List.append_eq_nil_iff] at this
          exact (requiredDiags_iff f fs).mp this.1
        · intro p hp f hf hname
          have := hall f hf
          rw [List.append_eq_nil_iff] at this
          have hfirst := (checkFirst_iff S hS fs f.ty f.name (hfields f hf)).mp this.2
          apply hfirst
          rw [first_iff_mem f.name p.2 fs hnd, hname]
          exact hp
      · intro h
        cases h with
        | custom _ _ h1 _ => rw [h1] at hl; cases hl
        | inputObject _ fields' _ h1 hnd hdef hreq hco =>
          rw [h1] at hl
          have : fields' = fields := by cases hl; rfl
          subst this
          refine ⟨⟨hnd, hdef⟩, ?_⟩
          intro f hf
          rw [List.append_eq_nil_iff]
          refine ⟨(requiredDiags_iff f fs).mpr (hreq f hf), ?_⟩
          rw [checkFirst_iff S hS fs f.ty f.name (hfields f hf)]
          intro v hv
          exact hco (f.name, v) (first_mem f.name v fs hv) f hf rfl
  | .list vs, .named n, hd => check_list_named S n vs hd
  | .list vs, .nonNullNamed n, hd => by
    rw [check_nonNullNamed S [] n _ (by simp), coerces_nonNullNamed, and_iff_right (by simp)]
    exact check_list_named S n vs hd
  | .list vs, .list t, hd => check_list_list S t vs hd (checkItems_iff S hS vs t hd)
  | .list vs, .nonNullList t, hd => by
    rw [check_nonNullList S [] t _ (by simp), coerces_nonNullList, and_iff_right (by simp)]
    exact check_list_list S t vs hd (checkItems_iff S hS vs t hd)
theorem checkItems_iff (S : Schema) (hS : Closed S) : ∀ (vs : Values) (ty : Ty), Defined S ty →
    (checkItems S [] ty vs = [] ↔ ∀ v ∈ vs.toList, Coerces S ty v)
  | .nil, ty, _ => by simp [checkItems, Values.toList]
  | .cons v tl, ty, hd => by
    simp only [checkItems, Values.toList, List.mem_cons, forall_eq_or_imp]
    rw [List.append_eq_nil_iff, check_iff S hS v ty hd, checkItems_iff S hS tl ty hd]
theorem checkFirst_iff (S : Schema) (hS : Closed S) : ∀ (fs : Fields) (ty : Ty) (name : Name), Defined S ty →
    (checkFirst S [] ty name fs = [] ↔ ∀ v, fs.first name = some v → Coerces S ty v)
  | .nil, ty, name, _ => by simp [checkFirst, Fields.first]
  | .cons n x tl, ty, name, hd => by
    simp only [checkFirst, Fields.first]
    by_cases hn : (n == name) = true
    · simp only [hn, if_true]
      rw [check_iff S hS x ty hd]
      constructor
      · intro h v hv; rw [← Option.some.inj hv]; exact h
      · intro h; exact h x rfl
    · simp only [hn]
      exact checkFirst_iff S hS tl ty name hd
end

/-- **values of correct type**: `value_of_correct_type` pushes no diagnostic for the constant `v` at the input type
    `ty` iff `v` coerces to `ty` (schema whose input fields have defined input types) -/
theorem value_rule_iff_spec (S : Schema) (hS : Closed S) (ty : Ty) (hty : Defined S ty) (v : Value) :
    check S [] ty v = [] ↔ Coerces S ty v := check_iff S hS v ty hty

end Apollo.ValueCheck
