import ApolloModel.Proofs.ParserType8
/-
C07 / C05, type entry point: `Parser::parse_type` accepts every type whose nesting fits under
the recursion limit; the token queue in terms of the lexer model `Lex.lex`.
-/
set_option linter.unusedSimpArgs false
namespace Apollo.Parse
open Apollo.Rowan hiding Str
open Apollo.Lex hiding Str

/-- **`Parser::parse_type`, acceptance is complete** at the level of the token queue: if the source lexes
    cleanly and its token queue spells a type `t` (ignored tokens allowed after every token, none in front)
    followed by the end of input, and the list nesting of `t` is at most the recursion limit, then no error is
    reported. -/
theorem parseType_complete (rl : Nat) (src : Str) (t : Ast.Ty) (c : List Tok) (e : Tok)
    (hclean : LexClean src) (htoks : srcToks src = c ++ [e]) (hsp : Spell t c) (he : e.kind = .eof)
    (hdepth : tyDepth t ≤ rl) : (parse .type none rl src).errors = [] := by
  obtain ⟨root, htree⟩ := parseType_tree none rl src
  unfold parse runEntry at htree ⊢
  simp only [Entry.standalone, Entry.grammar] at htree ⊢
  generalize hs0 : ({ initState src none rl with builder := (initState src none rl).builder.startNode "NAMED_TYPE" } : PState) = s0 at htree ⊢
  obtain ⟨_, w0, htk, hdoom, _⟩ := standalone_start src rl _ s0 hs0
  have ht0 : Toks s0 = c ++ e :: [] := by rw [htk]; exact htoks
  have hnd0 : ¬ Doomed s0 := fun d => hdoom.mp d hclean
  have hrec0 : s0.recCur + tyDepth t ≤ s0.recLimit := by subst hs0; simpa [initState] using hdepth
  cases hr : (ty (fuelFor src) >>= fun _ => expectEndOfInput).run s0 with
  | abort w => simp [hr] at htree
  | panic m => simp [hr] at htree
  | ok a s =>
    simp only []
    obtain ⟨_, s1, h1, h2⟩ := bind_dec (ty (fuelFor src)) _ s0 s a hr
    unfold ty at h1
    obtain ⟨r, sT, hT, h3⟩ := bind_dec (tyParse (fuelFor src)) _ s0 s1 () h1
    have hse : Sigf e := by unfold Sigf; rw [he]; rfl
    have hnb : NoBangAfter t e := by unfold NoBangAfter; cases t <;> simp [he]
    obtain ⟨hr0, eT, htT, _⟩ := tyParse_comp (fuelFor src) s0 sT r t c e [] w0 hT hsp ht0 hse hnb hrec0
    subst hr0
    obtain ⟨-, rfl⟩ := pure_dec h3
    unfold expectEndOfInput at h2
    obtain ⟨_, sK, hK, h4⟩ := bind_dec skipIgnored _ sT s a h2
    obtain ⟨eK, htK, _⟩ := skip_exact sT sK [] e [] eT.w hK (by simpa using htT) (by intro x hx; cases hx) hse
    obtain ⟨k, sP, hP, h5⟩ := bind_dec peek _ sK s a h4
    obtain ⟨hk, eP, _, _⟩ := peek_head sK sP k e [] eK.w htK hP
    subst hk
    have h5' : (pure () : PI Unit).run sP = .ok a s := by
      simpa [errUnlessEnd, he] using h5
    obtain ⟨-, rfl⟩ := pure_dec h5'
    have hnd : ¬ Doomed sP := by
      intro d
      exact hnd0 (eT.doom.mp (eK.doom.mp (eP.doom.mp d)))
    by_cases herr : sP.errors = []
    · exact herr
    · exact absurd (Or.inl herr) hnd

/-! ### the parser's token queue is the output of the lexer model -/

def outItem : LexOut → Item
  | .tok t => .tok t.kind t.data
  | .err d _ => .err d
  | .limit _ => .limit

theorem lexNext_nonempty (l : LexSt) (hl : l.limit = none) (hf : l.finished = false) (c : Char) (rest : Str)
    (hs : l.src = c :: rest) :
    ∃ o l', lexNext l = (some o, l') ∧ outItem o = (advance (c :: rest)).1 ∧ l'.src = (advance (c :: rest)).2
      ∧ l'.limit = none ∧ l'.finished = false := by
  have hc : (lexCheck l).1 = false := lexCheck_no_limit l hl
  unfold lexNext
  simp only [hf, Bool.false_eq_true, if_false, hc, hs]
  cases hr : (advance (c :: rest)).1 with
  | tok k d => exact ⟨_, _, rfl, rfl, rfl, hl, rfl⟩
  | err d => exact ⟨_, _, rfl, rfl, rfl, hl, rfl⟩
  | limit => exact absurd hr (advance_ne_limit _)

theorem stream_lexAux : ∀ (n : Nat) (l : LexSt) (count : Nat), l.src.length < n → l.limit = none → l.finished = false →
    (stream l).map outItem = lexAux n none count l.src := by
  intro n
  induction n with
  | zero => intro l _ h; omega
  | succ n ih =>
    intro l count hn hl hf
    have hu := stream_unfold l hl
    cases hs : l.src with
    | nil =>
      rcases lexNext_cases l hl with ⟨h1, _⟩ | ⟨_, _, l', h, hfin, _, _⟩ | ⟨_, o, l', h, hlen, _, _, _⟩
      · rw [hf] at h1; cases h1
      · rw [h] at hu
        simp only [] at hu
        have : stream l' = [] := by unfold stream; exact pull_finished _ _ hfin
        rw [hu, this]
        simp [lexAux, outItem]
      · rw [hs] at hlen; simp at hlen
    | cons c rest =>
      obtain ⟨o, l', h, ho, hsrc, hl', hf'⟩ := lexNext_nonempty l hl hf c rest hs
      rw [h] at hu
      simp only [] at hu
      have hp := Lex.advance_progress c rest
      have := ih l' (count + 1) (by rw [hsrc]; rw [hs] at hn; simp only [List.length_cons] at hn hp; omega) hl' hf'
      rw [hu]
      simp only [List.map_cons, lexAux, Bool.false_eq_true, if_false, ho, this, hsrc]

def itemKD : Item → Option (Kind × Str)
  | .tok k d => some (k, d)
  | _ => none

def lexToks (src : Str) : List (Kind × Str) := (lex none src).filterMap itemKD

/-- **the parser's token queue = the lexer model's tokens** (positions aside) -/
theorem srcToks_lex (src : Str) : (srcToks src).map (fun t => (t.kind, t.data)) = lexToks src := by
  have h := stream_lexAux (src.length + 1) (initState src none 0).lx 0 (by simp [initState]) rfl rfl
  unfold lexToks lex srcToks toksOf
  have hs : (initState src none 0).lx.src = src := rfl
  rw [hs] at h
  rw [← h, List.filterMap_map, List.map_filterMap]
  congr 1
  funext o
  cases o <;> rfl

theorem lexClean_lex (src : Str) : LexClean src ↔ ∀ it ∈ lex none src, it.isErr = false := by
  have h := stream_lexAux (src.length + 1) (initState src none 0).lx 0 (by simp [initState]) rfl rfl
  have hs : (initState src none 0).lx.src = src := rfl
  rw [hs] at h
  unfold LexClean hasErr lex
  rw [← h]
  simp only [List.any_eq_false, List.mem_map, forall_exists_index, and_imp, forall_apply_eq_imp_iff₂]
  constructor
  · intro hh o ho
    have := hh o ho
    cases o <;> simp [outBad, outItem, Item.isErr] at this ⊢
  · intro hh o ho
    have := hh o ho
    cases o <;> simp [outBad, outItem, Item.isErr] at this ⊢

end Apollo.Parse
