import ApolloModel.Proofs.ParserRecursion15
import ApolloModel.Proofs.ParserTermination8
/-
C04, recursion limit across runs: every entry point of the parser: the parse with recursion limit `r` against the parse of the same text with a limit
that is never hit.
-/
set_option linter.unusedSimpArgs false
set_option linter.unusedVariables false
namespace Apollo.Parse
open Apollo.Rowan hiding Str
open Apollo.Lex hiding Str

theorem xg_document (n : Nat) : XG (document n) :=
  xgCalc.document ⟨xg_value, xg_ty, fun n => (xSel n).selSet⟩ n

theorem xs_of_xc {α : Type} {m : PI α} (h : XC anyTok m) : XS Fresh m :=
  fun s r R ar aR sr sR h1 h2 h3 g _ hr hR => h s r R ar aR sr sR h1 h2 h3 g trivial hr hR

theorem xs_entry (e : Entry) (n : Nat) : XS Fresh (e.grammar n) := by
  cases e with
  | document => exact xs_of_xc (xg_document n).x
  | selectionSet => exact xs_selectionSetEntry n
  | type => exact xs_of_xc (xgCalc.bind _ _ (xg_ty n) fun _ => xgCalc.expectEndOfInput).x

/-- the state an entry point starts in, limit left at 0 -/
def entryStart (e : Entry) (src : Str) : PState :=
  match e.standalone with
  | some (k, _) => { initState src none 0 with builder := (initState src none 0).builder.startNode k }
  | none => initState src none 0

theorem entryStart_inv (e : Entry) (src : Str) (L : Nat) : Inv (setL L (entryStart e src)) := by
  cases e <;>
  exact ⟨fun _ => by simp [setL, entryStart, Entry.standalone, initState, Builder.new, Builder.startNode, textList, pendingText, curText],
    fun p hp => by
      simp [setL, entryStart, Entry.standalone, initState, Builder.new, Builder.startNode] at hp
      try simp [hp, setL, entryStart, Entry.standalone, initState, Builder.new, Builder.startNode],
    fun h => by simp [setL, entryStart, Entry.standalone, initState] at h,
    fun t h => by simp [setL, entryStart, Entry.standalone, initState] at h,
    fun h => by simp [setL, entryStart, Entry.standalone, initState] at h⟩

theorem parse_entry_run (e : Entry) (L : Nat) (src : Str) :
    ∃ s, (e.grammar (fuelFor src)).run (setL L (entryStart e src)) = .ok () s ∧
      (parse e none L src).errors = s.errors ∧ (parse e none L src).recHigh = s.recHigh := by
  have hterm := fun w => parse_terminates e none L src w
  have hpost := (e.grammar (fuelFor src)).ok _ (entryStart_inv e src L)
  cases e with
  | document =>
    unfold parse runEntry at hterm ⊢
    simp only [Entry.standalone] at hterm ⊢
    have e0 : initState src none L = setL L (entryStart .document src) := rfl
    rw [e0] at hterm ⊢
    cases hr : (Entry.document.grammar (fuelFor src)).run (setL L (entryStart .document src)) with
    | abort w => simp [hr] at hterm
    | panic m => simp [hr, Post] at hpost
    | ok a s => exact ⟨s, rfl, rfl, rfl⟩
  | selectionSet =>
    unfold parse runEntry at hterm ⊢
    simp only [Entry.standalone] at hterm ⊢
    have e0 : ({ initState src none L with builder := (initState src none L).builder.startNode "SELECTION_SET" } : PState) =
        setL L (entryStart .selectionSet src) := rfl
    rw [e0] at hterm ⊢
    cases hr : (Entry.selectionSet.grammar (fuelFor src)).run (setL L (entryStart .selectionSet src)) with
    | abort w => simp [hr] at hterm
    | panic m => simp [hr, Post] at hpost
    | ok a s => exact ⟨s, rfl, rfl, rfl⟩
  | type =>
    unfold parse runEntry at hterm ⊢
    simp only [Entry.standalone] at hterm ⊢
    have e0 : ({ initState src none L with builder := (initState src none L).builder.startNode "NAMED_TYPE" } : PState) =
        setL L (entryStart .type src) := rfl
    rw [e0] at hterm ⊢
    cases hr : (Entry.type.grammar (fuelFor src)).run (setL L (entryStart .type src)) with
    | abort w => simp [hr] at hterm
    | panic m => simp [hr, Post] at hpost
    | ok a s => exact ⟨s, rfl, rfl, rfl⟩

/-- Every entry point: the parse with recursion limit `r` against the parse with a limit `R ≥ r` that is never
    hit (no token limit).  The limited high-water mark is `min (unlimited high-water mark) (r + 1)`, and a limit
    error is reported exactly when the unlimited parse went deeper than `r`. -/
theorem parse_cross (e : Entry) (r R : Nat) (src : Str) (hrR : r ≤ R) (hfree : (parse e none R src).recHigh ≤ R) :
    (parse e none r src).recHigh = min (parse e none R src).recHigh (r + 1) ∧
    (HasLim (parse e none r src).errors ↔ ((parse e none R src).recHigh > r ∨ HasLim (parse e none R src).errors)) := by
  obtain ⟨sr, hr, er1, er2⟩ := parse_entry_run e r src
  obtain ⟨sR, hR, eR1, eR2⟩ := parse_entry_run e R src
  rw [er1, er2, eR1, eR2]
  rw [eR2] at hfree
  have g : GI (entryStart e src) := by
    cases e <;> exact ⟨rfl, fun h => by simp [entryStart, Entry.standalone, initState] at h,
      fun h => by simp [entryStart, Entry.standalone, initState] at h⟩
  have hf : Fresh (entryStart e src) := by cases e <;> exact fun _ => rfl
  have hc0 : (entryStart e src).recCur ≤ r := by cases e <;> exact Nat.zero_le _
  have hh0 : (entryStart e src).recHigh ≤ r := by cases e <;> exact Nat.zero_le _
  exact cross_outcome (xs_entry e (fuelFor src) (entryStart e src) r R () () sr sR hrR hc0 hh0 g hf hr hR)

theorem parseSelectionSet_cross (r R : Nat) (src : Str) (hrR : r ≤ R)
    (hfree : (parse .selectionSet none R src).recHigh ≤ R) :
    (parse .selectionSet none r src).recHigh = min (parse .selectionSet none R src).recHigh (r + 1) ∧
    (HasLim (parse .selectionSet none r src).errors ↔
      ((parse .selectionSet none R src).recHigh > r ∨ HasLim (parse .selectionSet none R src).errors)) :=
  parse_cross .selectionSet r R src hrR hfree

end Apollo.Parse
