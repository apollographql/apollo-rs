import ApolloModel.Model.ExecRules
/-
C17, document level: WHERE the typed rules (§5.6 values with §5.8.5, §5.8.3, §5.5.2.3) are applied by the walk of one
operation (`walkSels` / `enterFrag` with `validated_fragments`).  A `Site` is one call of `validate_directives`,
of the argument checks of a field with the field's argument definitions, or of `validate_fragment_spread_type`.
-/
set_option linter.unusedSimpArgs false
set_option linter.unusedVariables false
namespace Apollo.ExecRules
open Apollo Apollo.Spec

inductive Site where
  /-- the directives written at a field, spread, inline fragment, fragment definition -/
  | dirs (dirs : List RDir)
  /-- the arguments of a field, with the argument definitions of that field on its parent type -/
  | args (defs : List InDef) (args : List RArg)
  /-- a spread or inline fragment with type condition `tc` inside a selection set of type `against` -/
  | spread (against tc : String)

def Site.diags (s : RSchema) (vars : List RVarDef) : Site → List TDiag
  | .dirs d => dirsDiags s vars d
  | .args defs a => argsDiags s vars defs a
  | .spread t c => spreadDiags s t c

/-- the sites of a selection set of type `ty` itself (fragments not entered): every field defined on its parent type
    with its own argument definitions and — unless it is a composite field without sub-selection — its sub-selection
    under the field's type; every spread of a defined fragment; every inline fragment whose condition is composite -/
def localSites (s : RSchema) (doc : RBuilt) : Option String → RSels → List Site
  | _, .nil => []
  | ty, .field name dirs args sub rest =>
    [.dirs dirs] ++
    (match ty with
     | some t =>
       (match s.field t name with
        | some fd =>
          [.args fd.args args] ++
            (if sub.isNil && isCompositeType s fd.ty.innerNamedType then [] else localSites s doc (some fd.ty.innerNamedType) sub)
        | none => [])
     | none => localSites s doc none sub) ++ localSites s doc ty rest
  | ty, .spread f dirs rest =>
    [.dirs dirs] ++
    (match doc.findFrag f with
     | some d => (match ty with | some t => [.spread t d.tc] | none => [])
     | none => []) ++ localSites s doc ty rest
  | ty, .inline tc dirs sub rest =>
    [.dirs dirs] ++
    (match tc with
     | none => localSites s doc ty sub
     | some c =>
       if !isCompositeType s c then []
       else (match ty with | some t => [.spread t c] | none => []) ++ localSites s doc (some c) sub) ++ localSites s doc ty rest

def localSpreads (s : RSchema) : Option String → RSels → List String
  | _, .nil => []
  | ty, .field name _ _ sub rest =>
    (match ty with
     | some t =>
       (match s.field t name with
        | some fd => if sub.isNil && isCompositeType s fd.ty.innerNamedType then [] else localSpreads s (some fd.ty.innerNamedType) sub
        | none => [])
     | none => localSpreads s none sub) ++ localSpreads s ty rest
  | ty, .spread f _ rest => [f] ++ localSpreads s ty rest
  | ty, .inline tc _ sub rest =>
    (match tc with
     | none => localSpreads s ty sub
     | some c => if !isCompositeType s c then [] else localSpreads s (some c) sub) ++ localSpreads s ty rest

/-- where a diagnostic of the walk of one selection set comes from: one of its own sites, or the handler of a
    fragment it spreads -/
def Origin (s : RSchema) (doc : RBuilt) (vars : List RVarDef) (e : RFrag → List String → List TDiag × List String)
    (ty : Option String) (t : RSels) (d : TDiag) : Prop :=
  (∃ site ∈ localSites s doc ty t, d ∈ site.diags s vars) ∨
    (∃ f ∈ localSpreads s ty t, ∃ fr W, doc.findFrag f = some fr ∧ d ∈ (e fr W).1)


/-! ### every diagnostic has an origin -/

theorem Origin.mono {s : RSchema} {doc : RBuilt} {vars : List RVarDef} {e : RFrag → List String → List TDiag × List String}
    {ta ty : Option String} {a t : RSels} {d : TDiag} (h : Origin s doc vars e ta a d)
    (hl : ∀ x ∈ localSites s doc ta a, x ∈ localSites s doc ty t) (hs : ∀ f ∈ localSpreads s ta a, f ∈ localSpreads s ty t) :
    Origin s doc vars e ty t d := by
  rcases h with ⟨site, h1, h2⟩ | ⟨f, h1, h2⟩
  · exact .inl ⟨site, hl _ h1, h2⟩
  · exact .inr ⟨f, hs _ h1, h2⟩

theorem walk_diag_origin (s : RSchema) (doc : RBuilt) (vars : List RVarDef) (e : RFrag → List String → List TDiag × List String) :
    ∀ (t : RSels) (ty : Option String) (V : List String) (d : TDiag),
      d ∈ (walkSels s doc vars e ty t V).1 → Origin s doc vars e ty t d := by
  intro t
  induction t with
  | nil => intro ty V d h; simp [walkSels] at h
  | field name dirs args sub rest ihs ihr =>
    intro ty V d h
    simp only [walkSels, List.mem_append] at h
    rcases h with (h | h) | h
    · exact .inl ⟨.dirs dirs, by simp [localSites], h⟩
    · cases ty with
      | none =>
        exact (ihs none V d h).mono (fun x hx => by simp [localSites, hx]) (fun x hx => by simp [localSpreads, hx])
      | some t =>
        simp only at h
        cases hfd : s.field t name with
        | none => simp [hfd] at h
        | some fd =>
          simp only [hfd] at h
          by_cases hc : (sub.isNil && isCompositeType s fd.ty.innerNamedType) = true
          · simp only [hc, if_true] at h
            exact .inl ⟨.args fd.args args, by simp [localSites, hfd], h⟩
          · simp only [hc, Bool.false_eq_true, if_false, List.mem_append] at h
            rcases h with h | h
            · exact .inl ⟨.args fd.args args, by simp [localSites, hfd], h⟩
            · exact (ihs _ V d h).mono (fun x hx => by simp [localSites, hfd, hc, hx])
                (fun x hx => by simp [localSpreads, hfd, hc, hx])
    · exact (ihr ty _ d h).mono (fun x hx => by simp [localSites, hx]) (fun x hx => by simp [localSpreads, hx])
  | spread f dirs rest ihr =>
    intro ty V d h
    simp only [walkSels, List.mem_append] at h
    rcases h with (h | h) | h
    · exact .inl ⟨.dirs dirs, by simp [localSites], h⟩
    · cases hfr : doc.findFrag f with
      | none => simp [hfr] at h
      | some fr =>
        simp only [hfr] at h
        have hsp : ∀ x, x ∈ (match ty with | some t => spreadDiags s t fr.tc | none => []) → Origin s doc vars e ty (.spread f dirs rest) x := by
          intro x hx
          cases ty with
          | none => simp at hx
          | some t => exact .inl ⟨.spread t fr.tc, by simp [localSites, hfr], hx⟩
        by_cases hv : V.contains f = true
        · simp only [hv, if_true] at h
          exact hsp d h
        · simp only [hv, Bool.false_eq_true, if_false, List.mem_append] at h
          rcases h with h | h
          · exact hsp d h
          · exact .inr ⟨f, by simp [localSpreads], fr, f :: V, hfr, h⟩
    · exact (ihr ty _ d h).mono (fun x hx => by simp [localSites, hx]) (fun x hx => by simp [localSpreads, hx])
  | inline tc dirs sub rest ihs ihr =>
    intro ty V d h
    simp only [walkSels, List.mem_append] at h
    rcases h with (h | h) | h
    · exact .inl ⟨.dirs dirs, by simp [localSites], h⟩
    · cases tc with
      | none =>
        exact (ihs ty V d h).mono (fun x hx => by simp [localSites, hx]) (fun x hx => by simp [localSpreads, hx])
      | some c =>
        simp only at h
        by_cases hc : isCompositeType s c = true
        · simp only [hc, Bool.not_true, Bool.false_eq_true, if_false, List.mem_append] at h
          rcases h with h | h
          · cases ty with
            | none => simp at h
            | some t => exact .inl ⟨.spread t c, by simp [localSites, hc], h⟩
          · exact (ihs _ V d h).mono (fun x hx => by simp [localSites, hc, hx]) (fun x hx => by simp [localSpreads, hc, hx])
        · simp [hc] at h
    · exact (ihr ty _ d h).mono (fun x hx => by simp [localSites, hx]) (fun x hx => by simp [localSpreads, hx])


/-! ### the sites an operation reaches -/

/-- the sites reachable from a selection set of type `ty`: its own, and — through every spread the walk meets — the
    directives of the fragment definition and, when its type condition is composite and it is not on a spread cycle,
    the sites reachable from its selection set under its type condition -/
inductive Reaches (s : RSchema) (doc : RBuilt) : Option String → RSels → Site → Prop
  | here {ty t site} : site ∈ localSites s doc ty t → Reaches s doc ty t site
  | fragDirs {ty t f fr} : f ∈ localSpreads s ty t → doc.findFrag f = some fr → Reaches s doc ty t (.dirs fr.dirs)
  | frag {ty t f fr site} : f ∈ localSpreads s ty t → doc.findFrag f = some fr → isCompositeType s fr.tc = true →
      (reach doc fr.sels).contains fr.name = false → Reaches s doc (some fr.tc) fr.sels site → Reaches s doc ty t site

theorem enterFrag_diag_origin (s : RSchema) (doc : RBuilt) (vars : List RVarDef) :
    ∀ (n : Nat) (fr : RFrag) (W : List String) (d : TDiag), d ∈ (enterFrag s doc vars n fr W).1 →
      d ∈ dirsDiags s vars fr.dirs ∨
        (isCompositeType s fr.tc = true ∧ (reach doc fr.sels).contains fr.name = false ∧
          ∃ site, Reaches s doc (some fr.tc) fr.sels site ∧ d ∈ site.diags s vars) := by
  intro n
  induction n with
  | zero => intro fr W d h; simp [enterFrag] at h
  | succ n ih =>
    intro fr W d h
    simp only [enterFrag] at h
    by_cases hc : (!isCompositeType s fr.tc || (reach doc fr.sels).contains fr.name) = true
    · simp only [hc, if_true] at h
      exact .inl h
    · simp only [hc, Bool.false_eq_true, if_false, List.mem_append] at h
      have hc' : isCompositeType s fr.tc = true ∧ (reach doc fr.sels).contains fr.name = false := by
        simpa using hc
      rcases h with h | h
      · exact .inl h
      · refine .inr ⟨hc'.1, hc'.2, ?_⟩
        rcases walk_diag_origin s doc vars _ fr.sels (some fr.tc) W d h with ⟨site, hs, hd⟩ | ⟨f, hf, fr', W', hfr, hd⟩
        · exact ⟨site, .here hs, hd⟩
        · rcases ih fr' W' d hd with h1 | ⟨h1, h2, site, hr, hd'⟩
          · exact ⟨.dirs fr'.dirs, .fragDirs hf hfr, h1⟩
          · exact ⟨site, .frag hf hfr h1 h2 hr, hd'⟩

/-- SOUNDNESS of the walk, whatever the fuel and the marked set: every diagnostic is one of a reachable site -/
theorem walk_diag_reaches (s : RSchema) (doc : RBuilt) (vars : List RVarDef) (n : Nat) (ty : Option String) (t : RSels)
    (V : List String) (d : TDiag) (h : d ∈ (walkSels s doc vars (enterFrag s doc vars n) ty t V).1) :
    ∃ site, Reaches s doc ty t site ∧ d ∈ site.diags s vars := by
  rcases walk_diag_origin s doc vars _ t ty V d h with ⟨site, hs, hd⟩ | ⟨f, hf, fr', W', hfr, hd⟩
  · exact ⟨site, .here hs, hd⟩
  · rcases enterFrag_diag_origin s doc vars n fr' W' d hd with h1 | ⟨h1, h2, site, hr, hd'⟩
    · exact ⟨.dirs fr'.dirs, .fragDirs hf hfr, h1⟩
    · exact ⟨site, .frag hf hfr h1 h2 hr, hd'⟩

/-! ### the marked set `validated_fragments` -/

def allDefined (doc : RBuilt) (W : List String) : Prop := ∀ x ∈ W, (doc.findFrag x).isSome

theorem mem_of_contains {V : List String} {f : String} (h : V.contains f = true) : f ∈ V := by simpa using h
theorem not_mem_of_contains {V : List String} {f : String} (h : ¬ V.contains f = true) : f ∉ V := by simpa using h

/-- marked names are names of distinct fragment definitions: there are at most `frags.length` of them -/
theorem marked_le_frags (doc : RBuilt) (W : List String) (hn : W.Nodup) (hd : allDefined doc W) : W.length ≤ doc.frags.length := by
  have hsub : ∀ x ∈ W, x ∈ doc.frags.map (·.name) := by
    intro x hx
    have := hd x hx
    cases hf : doc.findFrag x with
    | none => rw [hf] at this; cases this
    | some d =>
      unfold RBuilt.findFrag at hf
      refine List.mem_map.mpr ⟨d, List.mem_of_find?_eq_some hf, ?_⟩
      simpa using List.find?_some hf
  have := List.Nodup.length_le_of_subset hn hsub
  simpa using this

end Apollo.ExecRules
