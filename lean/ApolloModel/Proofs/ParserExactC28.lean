import ApolloModel.Proofs.ParserExactC27
/-
C05 (completeness of the whole Document grammar), exact budget: the statement over `DocItem`s —
`itemFit` (exact guards, within the recursion limit) and `DocFollowOk` (what follows each definition), both read off
the abstract syntax alone.
-/
set_option linter.unusedSimpArgs false
namespace Apollo.Parse.Exact
open Apollo.Rowan hiding Str
open Apollo.Lex hiding Str

def execFit (rl : Nat) : Ast.Definition → Prop
  | .operation _ _ vars dirs sels =>
    (∀ v ∈ vars, varFit rl v) ∧ dirsFit false rl dirs ∧ sels ≠ Ast.Sels.nil ∧ 1 ≤ rl ∧ fitSels sels (rl - 1)
  | .fragment name _ dirs sels =>
    name ≠ Ast.sOn ∧ dirsFit false rl dirs ∧ sels ≠ Ast.Sels.nil ∧ 1 ≤ rl ∧ fitSels sels (rl - 1)
  | _ => False

theorem execFit_lexec (rl : Nat) (oe : Bool) (d : Ast.Definition) (h : execFit rl d) : LExecDef rl (Ast.tDefinition oe d) := by
  cases d with
  | operation ty name vars dirs sels =>
    obtain ⟨hv, hd, hne, hb, hf⟩ := h
    by_cases hsh : Ast.isShorthand oe ty name vars dirs = true
    · have : Ast.tDefinition oe (.operation ty name vars dirs sels) = Ast.tSelSet sels := by
        simp only [Ast.tDefinition, hsh, if_true, List.nil_append]
      rw [this]
      exact Or.inl (Or.inr ⟨sels, hne, rfl, hb, hf⟩)
    · have hsh' : Ast.isShorthand oe ty name vars dirs = false := by simpa using hsh
      have : Ast.tDefinition oe (.operation ty name vars dirs sels) = tOperation ty name vars dirs sels := by
        cases name <;> simp [Ast.tDefinition, hsh', tOperation]
      rw [this]
      exact Or.inl (Or.inl ⟨ty, name, vars, dirs, sels, rfl, hv, hd, hne, hb, hf⟩)
  | fragment name tc dirs sels =>
    obtain ⟨hn, hd, hne, hb, hf⟩ := h
    exact Or.inr ⟨name, tc, dirs, sels, rfl, hn, hd, hne, hb, hf⟩
  | _ => exact absurd h (by simp [execFit])

/-- **the exact guard of one definition** as `document()` accepts it, within the recursion limit `rl` -/
def itemFit (rl : Nat) : DocItem → Prop
  | .exec _ d => execFit rl d
  | .loose l => looseFit rl l

def followKindA : Option Ast.Tok → Kind
  | none => .eof
  | some a => kindOfA a

/-- the follow conditions in terms of the kind of the follow token and of "it is not the Name `implements`" -/
def looseFollowG : LooseDef → Kind → Prop → Prop
  | .scalar .., k, _ => k ≠ .at ∧ k ≠ .lParen
  | .scalarExt .., k, _ => k ≠ .at ∧ k ≠ .lParen
  | .object .., k, ni => (k ≠ .at ∧ k ≠ .lParen ∧ k ≠ .lCurly ∧ True) ∧ k ≠ .amp ∧ ni
  | .interface .., k, ni => (k ≠ .at ∧ k ≠ .lParen ∧ k ≠ .lCurly ∧ True) ∧ k ≠ .amp ∧ ni
  | .objectExt .., k, ni => (k ≠ .at ∧ k ≠ .lParen ∧ k ≠ .lCurly ∧ True) ∧ k ≠ .amp ∧ ni
  | .interfaceExt .., k, ni => (k ≠ .at ∧ k ≠ .lParen ∧ k ≠ .lCurly ∧ True) ∧ k ≠ .amp ∧ ni
  | .union .., k, _ => k ≠ .at ∧ k ≠ .lParen ∧ k ≠ .eq ∧ k ≠ .pipe
  | .unionExt .., k, _ => k ≠ .at ∧ k ≠ .lParen ∧ k ≠ .eq ∧ k ≠ .pipe
  | .enum .., k, _ => Fbody k
  | .input .., k, _ => Fbody k
  | .enumExt .., k, _ => Fbody k
  | .inputExt .., k, _ => Fbody k
  | .schemaExt .., k, _ => Fbody k
  | .directive .., k, _ => k ≠ .pipe
  | .schema .., _, _ => True

/-- **what may follow a type-system definition**, on the abstract syntax: `f` is the first grammar token of the
    next definition, `none` at the end of the document -/
def looseFollowA (l : LooseDef) (f : Option Ast.Tok) : Prop :=
  looseFollowG l (followKindA f) (f ≠ some (.name "implements".toList))

def itemFollowA : DocItem → Option Ast.Tok → Prop
  | .loose l, f => looseFollowA l f
  | _, _ => True

/-- every definition may be followed by the first token of the next one (or by the end of the document) -/
def DocFollowOk : List DocItem → Prop
  | [] => True
  | i :: r => itemFollowA i (docToks r).head? ∧ DocFollowOk r

theorem docOk_of_items (rl : Nat) : ∀ its : List DocItem, (∀ i ∈ its, itemFit rl i) → DocFollowOk its → DocOk rl (its.map DocItem.toks)
  | [], _, _ => trivial
  | i :: r, hfit, hfol => by
    refine ⟨?_, docOk_of_items rl r (fun j hj => hfit j (by simp [hj])) hfol.2⟩
    intro q hq
    have hq' : FollowTokOf (docToks r).head? q := hq
    have hi := hfit i (by simp)
    cases i with
    | exec oe d => exact Or.inl (execFit_lexec rl oe d hi)
    | loose l => exact Or.inr ⟨l, rfl, hi, looseFollow_of_A l _ q hfol.1 hq'⟩

theorem isDocFit_of_items (rl : Nat) (its : List DocItem) (hne : its ≠ []) (hfit : ∀ i ∈ its, itemFit rl i) (hfol : DocFollowOk its) :
    IsDocFit rl (docToks its) :=
  ⟨its.map DocItem.toks, by simpa using hne, rfl, docOk_of_items rl its hfit hfol⟩

/-- `itemFit` implies `DocItem.ok`: the completeness language lies inside the soundness language -/
theorem itemFit_ok (rl : Nat) (i : DocItem) (h : itemFit rl i) : i.ok := by
  cases i with
  | exec oe d =>
    cases d with
    | operation ty name vars dirs sels => exact Or.inl ⟨ty, name, vars, dirs, sels, rfl, h.2.2.1⟩
    | fragment name tc dirs sels => exact Or.inr ⟨name, tc, dirs, sels, rfl, h.2.2.1, h.1⟩
    | _ => exact absurd h (by simp [itemFit, execFit])
  | loose l => trivial

/-- **document_accept_complete** (proof-level): every document `its` of the grammar within the recursion limit, each
    definition allowed before the next, in any spelling, parses with zero errors -/
theorem parseDocument_complete_items (rl : Nat) (src : Str) (its : List DocItem) (ts : List Tok) (e : Tok)
    (hclean : LexClean src) (hsig : sig (srcToks src) = ts ++ [e]) (he : e.kind = .eof) (hx : TokIs ts (docToks its))
    (hne : its ≠ []) (hfit : ∀ i ∈ its, itemFit rl i) (hfol : DocFollowOk its) :
    (parse .document none rl src).errors = [] :=
  parseDocument_completeG_sig rl src _ ts e hclean hsig he hx (isDocFit_of_items rl its hne hfit hfol)

end Apollo.Parse.Exact
