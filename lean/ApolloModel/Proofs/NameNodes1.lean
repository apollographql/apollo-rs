import ApolloModel.Proofs.TreeRanges2
import ApolloModel.Proofs.GrammarWalk
/-
C11: "every NAME node is NAME[IDENT]" as a calculus over the parser combinators.

`NG m`: whatever `m` appends to the builder's children (every `PI` computation only appends, `Frame`)
consists of elements all of whose NAME nodes are exactly one IDENT token.  The rule for `withNode`
needs `kind ≠ "NAME"`; the two places of the grammar that open a NAME node (`name`, and the
`NAMED_TYPE` branch of ty.rs) are proved directly.
-/
set_option linter.unusedSimpArgs false
set_option linter.unusedVariables false
namespace Apollo.Parse
open Apollo.Rowan hiding Str
open Apollo.Lex hiding Str

theorem namesAreIdentsList_append (a b : List Elem) :
    namesAreIdentsList (a ++ b) = (namesAreIdentsList a && namesAreIdentsList b) := by
  induction a with
  | nil => simp [namesAreIdentsList]
  | cons e es ih => simp [namesAreIdentsList, ih, Bool.and_assoc]

theorem namesAreIdentsList_pending (ps : List Pending) : namesAreIdentsList (ps.map pendingElem) = true := by
  induction ps with
  | nil => rfl
  | cons p ps ih => cases p <;> simp [namesAreIdentsList, namesAreIdents, pendingElem, ih]

theorem namesAreIdents_node (k : SK) (cs : List Elem) (hk : k ≠ "NAME") (h : namesAreIdentsList cs = true) :
    namesAreIdents (.node k cs) = true := by
  simp [namesAreIdents, hk, h]

/-- what was appended to the builder between two states is fine -/
def NBadd (s s' : PState) : Prop :=
  ∃ added, s'.builder.children = s.builder.children ++ added ∧ namesAreIdentsList added = true

theorem NBadd.of_eq {s s' : PState} (h : s'.builder.children = s.builder.children) : NBadd s s' :=
  ⟨[], by simp [h], rfl⟩

theorem NBadd.refl (s : PState) : NBadd s s := NBadd.of_eq rfl

theorem NBadd.trans {a b c : PState} (h1 : NBadd a b) (h2 : NBadd b c) : NBadd a c := by
  obtain ⟨x, hx, hx2⟩ := h1
  obtain ⟨y, hy, hy2⟩ := h2
  exact ⟨x ++ y, by rw [hy, hx, List.append_assoc], by rw [namesAreIdentsList_append, hx2, hy2]; rfl⟩

structure NG {α : Type} (m : PI α) : Prop where
  out : ∀ s, Inv s → ∀ a s', m.run s = .ok a s' → NBadd s s'

theorem ng_pure {α : Type} (a : α) : NG (pure a : PI α) := by
  constructor
  intro s _ b s' h
  rw [run_pure] at h
  injection h with _ h2
  subst h2
  exact NBadd.refl _

theorem ng_bind {α β : Type} (m : PI α) (f : α → PI β) (hm : NG m) (hf : ∀ a, NG (f a)) : NG (m >>= f) := by
  constructor
  intro s hi b s' h
  rw [run_bind] at h
  cases hr : m.run s with
  | ok a s1 =>
    rw [hr] at h
    simp only [] at h
    exact (hm.out s hi a s1 hr).trans ((hf a).out s1 (post_of_run m s hi a s1 hr).1 b s' h)
  | abort w => rw [hr] at h; cases h
  | panic msg => rw [hr] at h; cases h

theorem ng_ite {α : Type} (c : Bool) (a b : PI α) (ha : NG a) (hb : NG b) : NG (if c then a else b) := by
  cases c <;> simp [ha, hb]

theorem ng_outOfFuel {α : Type} : NG (PI.outOfFuel : PI α) := by
  constructor; intro s _ a s' h; cases h

theorem ng_stuck {α : Type} : NG (PI.stuck : PI α) := by
  constructor; intro s _ a s' h; cases h

theorem ng_peekToken : NG peekToken := by
  constructor
  intro s _ a s' h
  unfold peekToken at h
  simp only [] at h
  split at h
  · injection h with _ h2; subst h2; exact NBadd.refl _
  · injection h with _ h2; subst h2
    exact NBadd.of_eq (by simp [(nextToken_spec s).builder])

theorem ng_srcLen : NG srcLen := by
  constructor; intro s _ a s' h; injection h with _ h2; subst h2; exact NBadd.refl _

theorem ng_getCurrent : NG getCurrent := by
  constructor; intro s _ a s' h; injection h with _ h2; subst h2; exact NBadd.refl _

theorem ng_peekTokenN (n : Nat) : NG (peekTokenN n) := by
  constructor; intro s _ a s' h; injection h with _ h2; subst h2; exact NBadd.refl _

theorem ng_moveCurToPending : NG moveCurToPending := by
  constructor
  intro s _ a s' h
  unfold moveCurToPending at h
  simp only [] at h
  split at h
  · split at h
    · injection h with _ h2; subst h2; exact NBadd.of_eq rfl
    · injection h with _ h2; subst h2; exact NBadd.refl _
  · injection h with _ h2; subst h2; exact NBadd.refl _

theorem ng_pushIgnored : NG pushIgnored := by
  constructor
  intro s _ a s' h
  unfold pushIgnored at h
  injection h with _ h2; subst h2
  exact ⟨_, rfl, namesAreIdentsList_pending _⟩

theorem ng_moveCurToTree (kind : SK) : NG (moveCurToTree kind) := by
  constructor
  intro s _ a s' h
  unfold moveCurToTree at h
  simp only [] at h
  split at h
  · injection h with _ h2; subst h2
    refine ⟨_, by simp only [List.append_assoc]; rfl, ?_⟩
    rw [namesAreIdentsList_append, namesAreIdentsList_pending]
    simp [namesAreIdentsList, namesAreIdents]
  · injection h with _ h2; subst h2; exact NBadd.refl _

theorem ng_errUpdate (f : PState → List PErr × Bool) (hf) (hf2) : NG (errUpdate f hf hf2) := by
  constructor
  intro s _ a s' h
  unfold errUpdate at h
  injection h with _ h2; subst h2; exact NBadd.of_eq rfl

theorem ng_popDrop : NG popDrop := by
  constructor
  intro s _ a s' h
  unfold popDrop at h
  simp only [] at h
  split at h <;> (injection h with _ h2; subst h2; exact NBadd.of_eq rfl)

theorem ng_assertRecZero : NG assertRecZero := by
  constructor; intro s _ a s' h; injection h with _ h2; subst h2; exact NBadd.of_eq rfl

theorem ng_deadBranch : NG deadBranch := by
  constructor; intro s _ a s' h; injection h with _ h2; subst h2; exact NBadd.of_eq rfl

/-! ### the recursion guard -/

theorem ng_withRec {α : Type} (onLimit body : PI α) (ho : NG onLimit) (hb : NG body) : NG (withRec onLimit body) := by
  constructor
  intro s hi a s' h
  unfold withRec at h
  simp only [] at h
  split at h
  · have hx := fun hI => ho.out _ hI a s' h
    exact hx ⟨hi.text, hi.parents, hi.lexDone, hi.eofTok, hi.errNonempty⟩
  · split at h
    · rename_i a2 s2 hr
      split at h
      · cases h
      · injection h with h1 h2; subst h1; subst h2
        have hx := fun hI => hb.out _ hI _ s2 hr
        exact hx ⟨hi.text, hi.parents, hi.lexDone, hi.eofTok, hi.errNonempty⟩
    · cases h
    · cases h

/-! ### `NG` is compositional over the token primitives -/

theorem ngTok : TokenCalc @NG where
  pure := ng_pure
  bind := ng_bind
  outOfFuel := ng_outOfFuel
  stuck := ng_stuck
  peekToken := ng_peekToken
  peekTokenN := ng_peekTokenN
  srcLen := ng_srcLen
  getCurrent := ng_getCurrent
  moveCurToPending := ng_moveCurToPending
  pushIgnored := ng_pushIgnored
  moveCurToTree := ng_moveCurToTree
  assertRecZero := ng_assertRecZero
  errAtToken := fun _ => by unfold errAtToken pushErr; exact ng_errUpdate _ _ _

theorem ng_limitErr : NG limitErr :=
  ng_bind _ _ ng_peekToken fun o => by
    cases o with
    | none => exact ng_pure _
    | some t => dsimp only; exact ng_errUpdate _ _ _

theorem ng_at (t : Kind) : NG (at_ t) := ng_bind _ _ ngTok.peek fun _ => ng_pure _

/-! ### nodes -/

/-- the state after `push_ignored` -/
def flushed (s : PState) : PState :=
  { s with builder := { s.builder with children := s.builder.children ++ s.pending.map pendingElem }, pending := [] }

theorem flushed_inv (s : PState) (hi : Inv s) : Inv (flushed s) :=
  (post_of_run pushIgnored s hi () _ rfl).1

theorem startNode_inv (kind : SK) (s1 : PState) (hi1 : Inv s1) : Inv (rawStartNode kind s1) := by
  refine ⟨hi1.text, ?_, hi1.lexDone, hi1.eofTok, hi1.errNonempty⟩
  intro p hp
  simp only [rawStartNode, Builder.startNode, List.mem_cons] at hp ⊢
  rcases hp with rfl | hp
  · exact Nat.le_refl _
  · exact hi1.parents p hp

/-- `withNode`, at one state: the body runs in the state after `push_ignored` + `start_node`; whatever
    it appends becomes the children of ONE new node -/
theorem withNode_children {α : Type} (kind : SK) (body : PI α) (s : PState) (hi : Inv s) (a : α) (s' : PState)
    (h : (withNode kind body).run s = .ok a s') :
    ∃ s2 added, (skipIgnored >>= fun _ => body).run (rawStartNode kind (flushed s)) = .ok a s2 ∧
      s2.builder.children = (flushed s).builder.children ++ added ∧
      s'.builder.children = s.builder.children ++ s.pending.map pendingElem ++ [Elem.node kind added] := by
  have e1 : pushIgnored.run s = .ok () (flushed s) := rfl
  have hi1' := startNode_inv kind _ (flushed_inv s hi)
  simp only [withNode, e1] at h
  cases hr2 : (skipIgnored >>= fun _ => body).run (rawStartNode kind (flushed s)) with
  | abort w => rw [hr2] at h; cases h
  | panic m => rw [hr2] at h; cases h
  | ok a2 s2 =>
    rw [hr2] at h
    simp only [] at h
    have hf2 := (post_of_run _ _ hi1' a2 s2 hr2).2
    obtain ⟨added, hadd⟩ := hf2.children
    have hpar : s2.builder.parents = (kind, (flushed s).builder.children.length) :: (flushed s).builder.parents := by
      rw [hf2.parents]; rfl
    have hadd' : s2.builder.children = (flushed s).builder.children ++ added := hadd
    simp only [Builder.finishNode, hpar] at h
    injection h with h1 h2
    subst h1; subst h2
    refine ⟨s2, added, rfl, hadd', ?_⟩
    show s2.builder.children.take (flushed s).builder.children.length ++ [Elem.node kind (s2.builder.children.drop (flushed s).builder.children.length)] = _
    rw [hadd', List.take_left' rfl, List.drop_left' rfl]
    rfl

theorem ngs_withNode {α : Type} (kind : SK) (body : PI α) (hk : kind ≠ "NAME") (s : PState) (hi : Inv s)
    (hb : ∀ a2 s2, (skipIgnored >>= fun _ => body).run (rawStartNode kind (flushed s)) = .ok a2 s2 →
      NBadd (rawStartNode kind (flushed s)) s2)
    (a : α) (s' : PState) (h : (withNode kind body).run s = .ok a s') : NBadd s s' := by
  obtain ⟨s2, added, hr2, hadd, hres⟩ := withNode_children kind body s hi a s' h
  obtain ⟨added', hadd', hok⟩ := hb a s2 hr2
  have : added' = added := by
    have h1 : (flushed s).builder.children ++ added' = (flushed s).builder.children ++ added := by
      rw [← hadd]; exact hadd'.symm
    exact List.append_cancel_left h1
  subst this
  refine ⟨s.pending.map pendingElem ++ [Elem.node kind added'], by rw [hres, List.append_assoc], ?_⟩
  rw [namesAreIdentsList_append, namesAreIdentsList_pending]
  simp [namesAreIdentsList, namesAreIdents_node kind added' hk hok]

theorem ng_withNode {α : Type} (kind : SK) (body : PI α) (hk' : (kind == "NAME") = false) (hb : NG body) :
    NG (withNode kind body) := by
  have hk : kind ≠ "NAME" := by simpa using hk'
  constructor
  intro s hi a s' h
  exact ngs_withNode kind body hk s hi
    (fun a2 s2 hr2 => (ng_bind _ _ ngTok.skipIgnored (fun _ => hb)).out _ (startNode_inv kind _ (flushed_inv s hi)) a2 s2 hr2)
    a s' h

theorem ng_wrapIf {α : Type} (kind : SK) (body : PI α) (cond : α → PI Bool) (inner : PI Unit)
    (hk' : (kind == "NAME") = false) (hb : NG body) (hc : ∀ a, NG (cond a)) (hin : NG inner) :
    NG (wrapIf kind body cond inner) := by
  have hk : kind ≠ "NAME" := by simpa using hk'
  constructor
  intro s hi a s' h
  have e1 : pushIgnored.run s = .ok () { s with builder := { s.builder with children := s.builder.children ++ s.pending.map pendingElem }, pending := [] } := rfl
  have hi1 := (post_of_run pushIgnored s hi () _ e1).1
  generalize hs1 : ({ s with builder := { s.builder with children := s.builder.children ++ s.pending.map pendingElem }, pending := [] } : PState) = s1 at *
  have hc1 : s1.builder.children = s.builder.children ++ s.pending.map pendingElem := by rw [← hs1]
  simp only [wrapIf, e1] at h
  have hbc : NG (body >>= fun a => cond a >>= fun c => pure (a, c)) :=
    ng_bind _ _ hb (fun a => ng_bind _ _ (hc a) (fun c => ng_pure _))
  cases hr2 : (body >>= fun a => cond a >>= fun c => pure (a, c)).run s1 with
  | abort w => rw [hr2] at h; cases h
  | panic m => rw [hr2] at h; cases h
  | ok ac s2 =>
    obtain ⟨a2, c⟩ := ac
    rw [hr2] at h
    simp only [] at h
    obtain ⟨hi2, hf2⟩ := post_of_run _ _ hi1 _ s2 hr2
    obtain ⟨added, hadd, hok⟩ := hbc.out _ hi1 _ s2 hr2
    cases c with
    | false =>
      simp only [Bool.false_eq_true, if_false] at h
      injection h with h1 h2
      subst h2
      refine ⟨s.pending.map pendingElem ++ added, ?_, ?_⟩
      · rw [hadd, hc1, List.append_assoc]
      · rw [namesAreIdentsList_append, namesAreIdentsList_pending, hok]; rfl
    | true =>
      simp only [if_true] at h
      cases hsn : s2.builder.startNodeAt s1.builder.checkpoint kind with
      | none => rw [hsn] at h; cases h
      | some b =>
        rw [hsn] at h
        simp only [] at h
        -- what `start_node_at` returns
        have hb' : b = { s2.builder with parents := (kind, s1.builder.checkpoint) :: s2.builder.parents } := by
          unfold Builder.startNodeAt at hsn
          split at hsn
          · split at hsn
            · split at hsn
              · injection hsn with hsn; exact hsn.symm
              · cases hsn
            · injection hsn with hsn; exact hsn.symm
          · cases hsn
        have hi3 : Inv { s2 with builder := b } := by
          rw [hb']
          refine ⟨hi2.text, ?_, hi2.lexDone, hi2.eofTok, hi2.errNonempty⟩
          intro p hp
          simp only [List.mem_cons] at hp
          rcases hp with rfl | hp
          · simp only [Builder.checkpoint, hadd, List.length_append]; omega
          · exact hi2.parents p hp
        cases hr3 : inner.run { s2 with builder := b } with
        | abort w => rw [hr3] at h; cases h
        | panic m => rw [hr3] at h; cases h
        | ok u3 s3 =>
          rw [hr3] at h
          simp only [] at h
          obtain ⟨_, hf3⟩ := post_of_run _ _ hi3 _ s3 hr3
          obtain ⟨added3, hadd3, hok3⟩ := hin.out _ hi3 _ s3 hr3
          have hpar : s3.builder.parents = (kind, s1.builder.children.length) :: s2.builder.parents := by
            rw [hf3.parents, hb']; rfl
          have hadd3' : s3.builder.children = s1.builder.children ++ (added ++ added3) := by
            rw [hadd3, hb']; simp only []; rw [hadd, List.append_assoc]
          simp only [Builder.finishNode, hpar] at h
          injection h with h1 h2
          subst h2
          refine ⟨s.pending.map pendingElem ++ [Elem.node kind (added ++ added3)], ?_, ?_⟩
          · show s3.builder.children.take s1.builder.children.length ++ [Elem.node kind (s3.builder.children.drop s1.builder.children.length)] = _
            rw [hadd3', List.take_left' rfl, List.drop_left' rfl, hc1, List.append_assoc]
          · rw [namesAreIdentsList_append, namesAreIdentsList_pending]
            have : namesAreIdentsList (added ++ added3) = true := by
              rw [namesAreIdentsList_append, hok, hok3]; rfl
            simp [namesAreIdentsList, namesAreIdents_node kind _ hk this]

end Apollo.Parse
