import ApolloModel.Proofs.ParserValue9
/-
C07 / C05, selection sets: `Good` (errors only accumulate) for every function of
grammar/selection.rs, field.rs, fragment.rs, and the algebra of "consumed exactly the tokens of …".
-/
set_option linter.unusedSimpArgs false
namespace Apollo.Parse
open Apollo.Rowan hiding Str
open Apollo.Lex hiding Str

/-! ### Good -/

theorem good_peekTokenN (n : Nat) : Good (peekTokenN n) := by
  intro s a s' w h
  unfold peekTokenN at h
  simp only [] at h
  injection h with _ h; subst h
  exact Adv.refl _ w

theorem good_peekN (n : Nat) : Good (peekN n) := good_bind _ _ (good_peekTokenN n) (fun _ => good_pure _)

theorem good_ifPeek (k : Kind) (a : PI Unit) (ha : Good a) :
    Good (peek >>= fun x => if x == some k then a else pure ()) :=
  good_bind _ _ good_peek (fun _ => good_ite _ _ _ ha (good_pure _))

theorem good_namedType : Good namedType := by
  unfold namedType
  refine good_bind _ _ good_peek (fun k => ?_)
  exact good_ite _ _ _ (good_withNode _ _ good_name) (good_pure _)

theorem good_alias : Good alias := good_withNode _ _ (good_bind _ _ good_name (fun _ => good_bump _))

theorem good_fragmentName : Good fragmentName := by
  unfold fragmentName
  refine good_withNode _ _ (good_bind _ _ good_peekToken (fun o => ?_))
  cases o with
  | none => exact good_err
  | some t => exact good_ite _ _ _ good_err (good_ite _ _ _ good_name good_err)

theorem good_typeCondition : Good typeCondition := by
  unfold typeCondition
  refine good_withNode _ _ (good_bind _ _ good_peekToken (fun o => ?_))
  cases o with
  | none => exact good_err
  | some t =>
    have jp := good_bind _ _ good_peek (fun k => good_ite (k == some Kind.name) _ _ good_namedType good_err)
    exact good_ite _ _ _ (good_bind _ _ (good_bump _) (fun _ => jp)) (good_bind _ _ good_err (fun _ => jp))

theorem good_fragmentSpread (n : Nat) : Good (fragmentSpread n) := by
  unfold fragmentSpread
  have jp := good_ifPeek .at _ (good_directives n false)
  refine good_withNode _ _ (good_bind _ _ (good_bump _) (fun _ => good_bind _ _ good_peek (fun k => ?_)))
  exact good_ite _ _ _ (good_bind _ _ good_fragmentName (fun _ => jp)) (good_bind _ _ good_err (fun _ => jp))

theorem good_peekWhileFlagLoop (body : Kind → PI (Bool × Bool)) (hb : ∀ k, Good (body k)) :
    ∀ fuel flag, Good (peekWhileFlagLoop body fuel flag)
  | 0, _ => good_outOfFuel
  | fuel + 1, flag => by
    unfold peekWhileFlagLoop
    refine good_bind _ _ good_peek ?_
    intro k
    cases k with
    | none => exact good_pure _
    | some kind =>
      refine good_bind _ _ good_getCurrent (fun before => good_bind _ _ (hb kind) ?_)
      intro cs
      obtain ⟨c, st⟩ := cs
      cases c with
      | false => exact good_pure _
      | true =>
        refine good_bind _ _ good_getCurrent (fun after => ?_)
        exact good_ite _ _ _ good_stuck (good_peekWhileFlagLoop body hb fuel _)

/-! ### the mutual recursion cut into named pieces -/

def selBody (n : Nat) : Kind → PI (Bool × Bool) := fun kind =>
        if kind == .spread then do
          match ← peekTokenN 2 with
          | some next =>
            if next.kind == .name && !(kw "on" next.data) then fragmentSpread n
            else if next.kind == .at || next.kind == .name || next.kind == .lCurly then inlineFragment n
            else do err; bump "SPREAD"
            pure (true, true)
          | none => do errAndPop; pure (false, false)
        else if kind == .lCurly then pure (false, false)
        else if kind == .name then do field n; pure (true, true)
        else pure (false, false)

theorem selection_succ (n : Nat) : selection (n + 1) = (do
    let len ← srcLen
    let hasSelection ← peekWhileFlagLoop (selBody n) (len + 3) false
    if !hasSelection then err) := selection.eq_2 n

def selSetBody (n : Nat) : PI Unit := do
  bump "L_CURLY"
  let ok ← withRec (do limitErr; pure false) (do selection n; pure true)
  if ok then expect .rCurly "R_CURLY"

theorem selectionSet_succ (n : Nat) : selectionSet (n + 1) = (do
    if (← peek) == some .lCurly then withNode "SELECTION_SET" (selSetBody n)) := selectionSet.eq_2 n

def fieldBody (n : Nat) : PI Unit := do
  if (← peek) == some .name then
    if (← peekN 2) == some .colon then alias
    name
  else err
  if (← peek) == some .lParen then arguments n false
  if (← peek) == some .at then directives n false
  if (← peek) == some .lCurly then selectionSet n

theorem field_succ (n : Nat) : field (n + 1) = withNode "FIELD" (fieldBody n) := field.eq_2 n

def inlineBody (n : Nat) : PI Unit := do
  bump "SPREAD"
  if (← peek) == some .name then typeCondition
  if (← peek) == some .at then directives n false
  if (← peek) == some .lCurly then selectionSet n else err

theorem inlineFragment_succ (n : Nat) : inlineFragment (n + 1) = withNode "INLINE_FRAGMENT" (inlineBody n) := inlineFragment.eq_2 n

structure GoodSel (n : Nat) : Prop where
  selSet : Good (selectionSet n)
  sel : Good (selection n)
  field : Good (field n)
  inline : Good (inlineFragment n)

theorem good_selBody (n : Nat) (ih : GoodSel n) (k : Kind) : Good (selBody n k) := by
  unfold selBody
  refine good_ite _ _ _ (good_bind _ _ (good_peekTokenN 2) (fun o => ?_))
    (good_ite _ _ _ (good_pure _) (good_ite _ _ _ (good_bind _ _ ih.field (fun _ => good_pure _)) (good_pure _)))
  cases o with
  | none => exact good_bind _ _ good_errAndPop (fun _ => good_pure _)
  | some next =>
    exact good_ite _ _ _ (good_bind _ _ (good_fragmentSpread n) (fun _ => good_pure _))
      (good_ite _ _ _ (good_bind _ _ ih.inline (fun _ => good_pure _))
        (good_bind _ _ good_err (fun _ => good_bind _ _ (good_bump _) (fun _ => good_pure _))))

theorem good_selSetBody (n : Nat) (ih : GoodSel n) : Good (selSetBody n) := by
  unfold selSetBody
  refine good_bind _ _ (good_bump _) (fun _ => good_bind _ _
    (good_withRec _ _ (good_bind _ _ good_limitErr (fun _ => good_pure _)) (good_bind _ _ ih.sel (fun _ => good_pure _))) ?_)
  intro ok
  exact good_ite _ _ _ (good_expect _ _) (good_pure _)

theorem good_fieldBody (n : Nat) (ih : GoodSel n) : Good (fieldBody n) := by
  unfold fieldBody
  have t3 := good_ifPeek .lCurly _ ih.selSet
  have t2 := good_bind _ _ good_peek (fun k => good_ite (k == some Kind.at) _ _ (good_bind _ _ (good_directives n false) (fun _ => t3)) t3)
  have t1 := good_bind _ _ good_peek (fun k => good_ite (k == some Kind.lParen) _ _ (good_bind _ _ (good_arguments n false) (fun _ => t2)) t2)
  have tn := good_bind _ _ good_name (fun _ => t1)
  refine good_bind _ _ good_peek (fun k => good_ite _ _ _ (good_bind _ _ (good_peekN 2) (fun k2 => ?_)) (good_bind _ _ good_err (fun _ => t1)))
  exact good_ite _ _ _ (good_bind _ _ good_alias (fun _ => tn)) tn

theorem good_inlineBody (n : Nat) (ih : GoodSel n) : Good (inlineBody n) := by
  unfold inlineBody
  have t3 := good_bind _ _ good_peek (fun k => good_ite (k == some Kind.lCurly) _ _ ih.selSet good_err)
  have t2 := good_bind _ _ good_peek (fun k => good_ite (k == some Kind.at) _ _ (good_bind _ _ (good_directives n false) (fun _ => t3)) t3)
  refine good_bind _ _ (good_bump _) (fun _ => good_bind _ _ good_peek (fun k => ?_))
  exact good_ite _ _ _ (good_bind _ _ good_typeCondition (fun _ => t2)) t2

theorem goodSel : ∀ n, GoodSel n
  | 0 => ⟨by unfold selectionSet; exact good_outOfFuel, by unfold selection; exact good_outOfFuel,
          by unfold field; exact good_outOfFuel, by unfold inlineFragment; exact good_outOfFuel⟩
  | n + 1 => by
    have ih := goodSel n
    refine ⟨?_, ?_, ?_, ?_⟩
    · rw [selectionSet_succ]
      exact good_bind _ _ good_peek (fun _ => good_ite _ _ _ (good_withNode _ _ (good_selSetBody n ih)) (good_pure _))
    · rw [selection_succ]
      refine good_bind _ _ good_srcLen (fun len => good_bind _ _ (good_peekWhileFlagLoop _ (good_selBody n ih) _ _) (fun b => ?_))
      exact good_ite _ _ _ good_err (good_pure _)
    · rw [field_succ]; exact good_withNode _ _ (good_fieldBody n ih)
    · rw [inlineFragment_succ]; exact good_withNode _ _ (good_inlineBody n ih)

theorem good_fieldSet (n : Nat) : Good (fieldSet n) := by
  unfold fieldSet
  refine good_bind _ _ good_peek (fun _ => good_ite _ _ _ (goodSel n).selSet ?_)
  exact good_withNode _ _ (good_withRec _ _ good_limitErr (goodSel n).sel)

/-! ### "consumed exactly the tokens of some `x` with `P x`" -/

@[reducible] def Cons (s s' : PState) (P : List Ast.Tok → Prop) : Prop :=
  ∃ cs x, Toks s = cs ++ Toks s' ∧ NoEof cs ∧ EofEnd s' ∧ TokIs (sig cs) x ∧ P x

theorem Cons.nil {s s' : PState} (ht : Toks s' = Toks s) (he : EofEnd s') : Cons s s' (fun x => x = []) :=
  ⟨[], [], (by rw [ht]; rfl), (fun x hx => by cases hx), he, TokIs.nil, rfl⟩

theorem Cons.seq {s s1 s2 : PState} {P Q : List Ast.Tok → Prop} (h1 : Cons s s1 P) (h2 : Cons s1 s2 Q) :
    Cons s s2 (fun z => ∃ x y, z = x ++ y ∧ P x ∧ Q y) := by
  obtain ⟨c1, x, t1, n1, _, k1, p1⟩ := h1
  obtain ⟨c2, y, t2, n2, e2, k2, p2⟩ := h2
  exact ⟨c1 ++ c2, x ++ y, by rw [t1, t2, List.append_assoc], noEof_append n1 n2, e2,
    by rw [sig_append]; exact k1.append k2, x, y, rfl, p1, p2⟩

theorem Cons.weaken {s s' : PState} {P Q : List Ast.Tok → Prop} (h : Cons s s' P) (hpq : ∀ x, P x → Q x) : Cons s s' Q := by
  obtain ⟨c, x, a, b, d, e, f⟩ := h
  exact ⟨c, x, a, b, d, e, hpq x f⟩

theorem Cons.transport {s s' s0 s1 : PState} {P : List Ast.Tok → Prop} (h : Cons s s' P) (h0 : Toks s0 = Toks s)
    (h1 : Toks s1 = Toks s') (he : EofEnd s1) : Cons s0 s1 P := by
  obtain ⟨c, x, a, b, _, e, f⟩ := h
  exact ⟨c, x, by rw [h0, h1]; exact a, b, he, e, f⟩

theorem Cons.ofEat {s s' : PState} {c : List Tok} {x : List Ast.Tok} (e : Eat s s' c) (he : EofEnd s) (hno : NoEof c)
    (hx : TokIs (sig c) x) : Cons s s' (fun z => z = x) :=
  ⟨c, x, e.toks, hno, eofEnd_eat he e hno, hx, rfl⟩

theorem Cons.eofEnd {s s' : PState} {P : List Ast.Tok → Prop} (h : Cons s s' P) : EofEnd s' := by
  obtain ⟨_, _, _, _, e, _, _⟩ := h; exact e

end Apollo.Parse
