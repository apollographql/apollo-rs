import ApolloModel.Proofs.ParserTree36
import ApolloModel.Proofs.ParserExactC28
/-
C08 (pipeline): the EXACT completeness calculus (namespace Apollo.Parse.Exact: `Exact.itemFit`, `Exact.DocOk`,
`Exact.item_dispatch_comp`, `Exact.parseDocument_complete_items`) as an instance of `DocComp` — strict documents within
the EXACT recursion budget through the pipeline.
-/
set_option linter.unusedSimpArgs false
set_option linter.unusedVariables false

namespace Apollo.Parse.Exact
open Apollo.Rowan hiding Str
open Apollo.Lex hiding Str
open Apollo.FromCst (All2 looseConv)

theorem docComp : DocComp ItemOk DocOk where
  cons h := ⟨fun q hq => h.1 q hq, h.2⟩
  head := itemOk_head
  first := docOk_first
  ne hne h := isDocFit_ne ⟨_, hne, rfl, h⟩
  dispatch := item_dispatch_comp
  document := document_compG

/-- `docLoop_trC` for the EXACT completeness calculus (`Exact.docComp`) -/
theorem docLoop_trG {n : Nat} {Q : List Tok → List Elem → Prop} (L : DefTrs n Q) :
    ∀ (items : List (List Ast.Tok)) (fuel : Nat) (s s' : PState) (c : List Tok) (e : Tok) (rest : List Tok),
    St s → CurlyQ (Toks s) → (peekWhileLoop (documentStep n) fuel).run s = .ok () s' → ¬ Doomed s' →
    DocOk (s.recLimit - s.recCur) items → Spells c items.flatten → Toks s = c ++ e :: rest → e.kind = .eof →
    ∃ added trs, s'.builder.children = s.builder.children ++ added ∧ sigE added = (trs.map (·.2)).flatten ∧
      Aligned Q trs items :=
  docLoop_trC docComp L

/-- `parseDocument_cstC` for the EXACT completeness calculus: the guard of the document is `Exact.DocOk` -/
theorem parseDocument_cstG {Q : List Tok → List Elem → Prop} (L : ∀ n, DefTrs n Q) (rl : Nat) (src : Str) (root : Elem)
    (h : (parse .document none rl src).outcome = .tree root) (items : List (List Ast.Tok)) (hne : items ≠ [])
    (hdoc : DocOk rl items) (ts : List Tok) (e : Tok) (hclean : LexClean src) (hsig : sig (srcToks src) = ts ++ [e])
    (he : e.kind = .eof) (hx : TokIs ts items.flatten) :
    ∃ inner trs, root = Elem.node "DOCUMENT" inner ∧ sigE inner = (trs.map (·.2)).flatten ∧ Aligned Q trs items :=
  parseDocument_cstC docComp L rl src root h items hne hdoc ts e hclean hsig he hx

theorem execFit_executable {rl : Nat} {d : Ast.Definition} (h : execFit rl d) : isExecutable d = true := by
  cases d <;> first | rfl | exact absurd h (by simp [execFit])

/-- **pipeline, strict documents of the EXACT completeness language, token level**: a source without lexer error whose
    significant tokens are the printer's tokens of the strict items `its` (well-formed, within the recursion limit, each
    definition allowed before the next) is accepted, and `Document::from_cst` on the tree returns exactly the definitions -/
theorem pipeline_strict_document (rl : Nat) (src : Str) (its : List DocItem) (items0 : List Ast.Item)
    (hstrict : strictItems its = some items0) (hwf : ∀ a ∈ items0, Ast.wfDefinition a.2 = true)
    (hne : its ≠ []) (hfit : ∀ i ∈ its, itemFit rl i) (hfol : DocFollowOk its)
    (ts : List Tok) (e : Tok) (hclean : LexClean src) (hsig : sig (srcToks src) = ts ++ [e]) (he : e.kind = .eof)
    (hx : TokIs ts (Ast.itemsToks items0)) :
    (parse .document none rl src).errors = [] ∧
    ∃ root, (parse .document none rl src).outcome = .tree root ∧ (FromCst.fromCst root).1 = items0.map (·.2) :=
  ⟨parseDocument_complete_items rl src its ts e hclean hsig he (by rw [(strictItems_toks its items0 hstrict).1]; exact hx) hne hfit hfol,
    pipeline_strict_of_comp docComp rl src its items0 hstrict hwf hne (fun _ _ h => execFit_executable (hfit _ h))
      (docOk_of_items rl its hfit hfol) ts e hclean hsig he hx⟩

end Apollo.Parse.Exact
