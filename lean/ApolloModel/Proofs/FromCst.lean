import ApolloModel.Model.FromCst
import ApolloModel.Model.AstDump
import ApolloModel.Model.AstParse
import ApolloModel.Proofs.TreeRanges2
import ApolloModel.Proofs.AstText5
/-
The CST → AST conversion model (Model/FromCst.lean), for C06, C08 and C11:
(a) every Name it produces carries the range of a NAME node of the tree (by typing), and its text is the text of
    that node's first token (`cName_spec`, `cName_ident`, `fromCst_locs_are_name_nodes`);
(b) string values and descriptions are `decodeStringToken` (the C06/C09 decoder model) of the token text;
(c) `modelsAgree`, the comparison of the two parser models on one source, which Properties/C08.lean evaluates on
    witnesses; the document level is on the `c08.fromcst` / `c08.ast` streams.
-/
namespace Apollo.FromCst
open Apollo.Rowan Apollo.Ast

variable {R : List Loc}

/-! ### (a) names -/

theorem cNameCore_spec (k : SK) (cs : List Elem) (s : Nat) (hp : ∀ x ∈ nameRanges (.node k cs) s, x ∈ R)
    (t : Ast.Str) (ls : Locs R) (h : cNameCore k cs s hp = some (t, ls)) :
    k = "NAME" ∧ (∃ k', firstTokList cs = some (k', t)) ∧ isValidName t = true ∧
      ls.map (·.val) = [(s, bytes (textList cs), textList cs)] := by
  unfold cNameCore at h
  by_cases hk : k = "NAME"
  · rw [dif_pos hk] at h
    cases hf : firstTokList cs with
    | none => simp only [hf] at h; cases h
    | some kt =>
      obtain ⟨k', t'⟩ := kt
      simp only [hf] at h
      by_cases hv : isValidName t' = true
      · rw [if_pos hv] at h
        cases h
        exact ⟨hk, ⟨k', rfl⟩, hv, rfl⟩
      · rw [if_neg hv] at h; cases h
  · rw [dif_neg hk] at h; cases h

theorem cName_spec (p : PE R) (t : Ast.Str) (ls : Locs R) (h : cName p = some (t, ls)) :
    ∃ cs s, p.1 = (.node "NAME" cs, s) ∧ (∃ k, firstTokList cs = some (k, t)) ∧ isValidName t = true ∧
      ls.map (·.val) = [(s, bytes (textList cs), textList cs)] := by
  obtain ⟨⟨e, s⟩, hp⟩ := p
  cases e with
  | tok k t' => cases h
  | node k cs =>
    have h' : cNameCore k cs s hp = some (t, ls) := h
    obtain ⟨hk, hf, hv, hl⟩ := cNameCore_spec k cs s hp t ls h'
    subst hk
    exact ⟨cs, s, rfl, hf, hv, hl⟩

/-- a NAME node that is one IDENT token (what the parser builds, `namesAreIdents`): the name IS the located text -/
theorem cName_ident (k : SK) (d : Rowan.Str) (s : Nat) (hp : ∀ x ∈ nameRanges (.node "NAME" [.tok k d]) s, x ∈ R)
    (hv : isValidName d = true) :
    ∃ l : LocIn R, cName ⟨(.node "NAME" [.tok k d], s), hp⟩ = some (d, [l]) ∧ l.val = (s, bytes d, d) := by
  have htext : textList [Elem.tok k d] = d := by simp [textList, Elem.text]
  refine ⟨⟨(s, bytes d, d), hp _ (by have := name_triple_mem "NAME" [.tok k d] s rfl; rwa [htext] at this)⟩, ?_, rfl⟩
  show cNameCore "NAME" [.tok k d] s hp = _
  unfold cNameCore
  rw [dif_pos rfl]
  simp [firstTokList, firstTok, hv, htext]

/-- every location reported by `fromCst root` is the (start, length, text) of a NAME node of `root` -/
theorem fromCst_locs_are_name_nodes (root : Elem) :
    ∀ l ∈ (fromCst root).2, l.val ∈ nameRanges root 0 := fun l _ => l.property

/-! ### (b) strings -/

theorem ofOpt_spec {α : Type} (o : Option α) (a : α) (ls : Locs R) (h : (M.ofOpt o : M R α) = some (a, ls)) :
    o = some a ∧ ls = [] := by
  cases o with
  | none => cases h
  | some x => cases h; exact ⟨rfl, rfl⟩

/-- a string value stored in the AST is the decoder's reading of the STRING token's text -/
theorem cStringValue_spec (p : PE R) (s : Ast.Str) (ls : Locs R) (h : cStringValue p = some (s, ls)) :
    ∃ t, textOfFirstToken p = some t ∧ Strs.decodeStringToken t = some s ∧ ls = [] := by
  unfold cStringValue at h
  cases ht : textOfFirstToken p with
  | none => simp only [ht] at h; cases h
  | some t =>
    simp only [ht] at h
    obtain ⟨h1, h2⟩ := ofOpt_spec _ _ _ h
    exact ⟨t, rfl, h1, h2⟩

theorem bind_spec {α β : Type} (m : M R α) (f : α → M R β) (b : β) (ls : Locs R) (h : M.bind' m f = some (b, ls)) :
    ∃ a l1 l2, m = some (a, l1) ∧ f a = some (b, l2) ∧ ls = l1 ++ l2 := by
  unfold M.bind' at h
  cases hm : m with
  | none => simp only [hm] at h; cases h
  | some al =>
    obtain ⟨a, l1⟩ := al
    simp only [hm] at h
    cases hf : f a with
    | none => simp only [hf] at h; cases h
    | some bl =>
      obtain ⟨b', l2⟩ := bl
      simp only [hf] at h
      cases h
      exact ⟨a, l1, l2, rfl, hf, rfl⟩

/-- a description stored in the AST is the decoder's reading of the STRING token under DESCRIPTION / STRING_VALUE -/
theorem descOf_spec (p : PE R) (s : Ast.Str) (ls : Locs R) (h : descOf p = some (some s, ls)) :
    ∃ d sv t, child "DESCRIPTION" p = some d ∧ child "STRING_VALUE" d = some sv ∧ textOfFirstToken sv = some t ∧
      Strs.decodeStringToken t = some s := by
  unfold descOf optM at h
  cases hd : child "DESCRIPTION" p with
  | none => simp only [hd, M.pure'] at h; cases h
  | some d =>
    simp only [hd] at h
    obtain ⟨a, l1, l2, h1, h2, _⟩ := bind_spec _ _ _ _ h
    have ha : a = s := by simp only [M.pure'] at h2; cases h2; rfl
    subst ha
    cases hsv : child "STRING_VALUE" d with
    | none => simp only [hsv] at h1; cases h1
    | some sv =>
      simp only [hsv] at h1
      obtain ⟨t, ht, hdec, _⟩ := cStringValue_spec sv a l1 h1
      exact ⟨d, sv, t, rfl, hsv, ht, hdec⟩

theorem cValue_string_spec (n : Nat) (p : PE R) (hk : p.kind = "STRING_VALUE") (v : Value) (ls : Locs R)
    (h : cValue (n + 1) p = some (v, ls)) :
    ∃ t s, textOfFirstToken p = some t ∧ Strs.decodeStringToken t = some s ∧ v = .str s := by
  simp only [cValue, hk] at h
  have h' : M.bind' (cStringValue p) (fun s => M.pure' (Value.str s)) = some (v, ls) := h
  obtain ⟨s, l1, l2, h1, h2, _⟩ := bind_spec _ _ _ _ h'
  obtain ⟨t, ht, hdec, _⟩ := cStringValue_spec p s l1 h1
  simp only [M.pure'] at h2
  cases h2
  exact ⟨t, s, ht, hdec, rfl⟩

/-! ### (c) the two parser models on one source -/

open Apollo.Parse in
/-- both parser models on one source: the AST dump of `fromCst (parse .document src)` (CST parser model, then
    the conversion model) and of the reference parser `pDocument` on the lexer model's significant tokens -/
def modelsAgree (src : String) : Bool :=
  let a := dDocument (fromCst (rootOf (parse .document none 500 src.toList))).1
  let b := match Ast.sigToks (Lex.lex none src.toList) with
    | some ts => match pDocument (2 * ts.length + 10) ts with
      | some d => dDocument d
      | none => "REJECT"
    | none => "REJECT"
  a == b

end Apollo.FromCst
