import ApolloModel.Proofs.AstDocument
/-
Every well-formed definition reads back from its printed tokens (`definition_roundtrip`).
-/
namespace Apollo.Ast

theorem directiveDef_roundtrip (desc : Option Str) (name : Str) (args : List InputValueDef) (rep : Bool)
    (locs : List Str) (f : Nat) (rest : List Tok) (h1 : wfIVDs args = true) (hne : locs ≠ [])
    (hs : szIVDs args + locs.length ≤ f) (hr : defFollow rest = true) :
    pTypeSystemRest f desc "directive".toList
      (.p .at :: .name name :: tArgsDef args ++ (if rep then [.name sRepeatable] else [])
        ++ tSepList [.name sOn] .pipe locs ++ rest) = some (.directiveDef desc name args rep locs, rest) := by
  have hc := defFollow_calm hr
  obtain ⟨l, ls, rfl⟩ : ∃ l ls, locs = l :: ls := by
    cases locs with
    | nil => exact absurd rfl hne
    | cons a r => exact ⟨a, r, rfl⟩
  have a := argumentsDefinition_roundtrip args f
    ((if rep then [.name sRepeatable] else []) ++ tSepList [.name sOn] .pipe (l :: ls) ++ rest) h1 (by omega)
    (by cases rep <;> simp [notLParen, tSepList])
  have c := sepList_roundtrip .pipe l ls f rest (by simp at hs; omega)
    (calm_ne hc .pipe (by decide) (by decide) (by decide))
  have hro : sOn ≠ sRepeatable := by decide
  cases rep with
  | true =>
    simp only [if_true, tSepList, List.cons_append, List.nil_append, List.append_assoc] at a c ⊢
    simp [pTypeSystemRest, a, c]
  | false =>
    simp only [Bool.false_eq_true, if_false, tSepList, List.cons_append, List.nil_append, List.append_assoc] at a c ⊢
    simp [pTypeSystemRest, a, c, hro]

theorem definition_roundtrip (d : Definition) (f : Nat) (rest : List Tok) (h : wfDefinition d = true)
    (hs : szDefinition d ≤ f) (hr : defFollow rest = true) :
    pDefinition f (tDefinition false d ++ rest) = some (d, rest) := by
  have hc := defFollow_calm hr
  cases d with
  | operation ty name vars dirs sels =>
    simp only [wfDefinition, Bool.and_eq_true] at h
    simp only [szDefinition] at hs
    have := operation_roundtrip ty name vars dirs sels f rest h.1.1.1 h.1.1.2 h.1.2 (nonNil_ne h.2) (by omega)
    simp only [tDefinition, isShorthand, Bool.false_and, Bool.false_eq_true, if_false, List.cons_append,
      List.append_assoc] at this ⊢
    rw [pDefinition_op]
    exact this
  | fragment name tc dirs sels =>
    simp only [wfDefinition, Bool.and_eq_true, bne_iff_ne, ne_eq] at h
    simp only [szDefinition] at hs
    obtain ⟨b, c⟩ := dirsSelSet_roundtrip dirs sels f rest h.1.1.2 h.1.2 (nonNil_ne h.2) (by omega)
    simp only [tDefinition, List.cons_append, List.append_assoc] at b c ⊢
    simp [pDefinition, opTypeOf, h.1.1.1, b, c]
  | directiveDef desc name args rep locs =>
    simp only [wfDefinition, Bool.and_eq_true, Bool.not_eq_true', List.isEmpty_eq_false_iff] at h
    simp only [szDefinition] at hs
    have := directiveDef_roundtrip desc name args rep locs f rest h.1 h.2 (by omega) hr
    simp only [tDefinition, List.cons_append, List.append_assoc] at this ⊢
    rw [typeSystem_dispatch f desc _ _ (by simp [opTypeOf]) (by simp) (by simp)]
    exact this
  | schemaDef desc dirs roots =>
    simp only [wfDefinition, Bool.and_eq_true, Bool.not_eq_true', List.isEmpty_eq_false_iff] at h
    simp only [szDefinition] at hs
    have b := directives_roundtrip dirs f (.p .lCurly :: tRootOpItems roots ++ .p .rCurly :: rest) h.1 (by omega)
      (by simp [dirFollow])
    have c := rootOps_roundtrip roots f rest h.2 (by omega)
    simp only [tDefinition, List.cons_append, List.append_assoc, List.nil_append] at b c ⊢
    rw [typeSystem_dispatch f desc _ _ (by simp [opTypeOf]) (by simp) (by simp)]
    simp [pTypeSystemRest, b, c]
  | scalarDef desc name dirs =>
    simp only [wfDefinition] at h
    simp only [szDefinition] at hs
    have b := directives_roundtrip dirs f rest h (by omega) (calm_dirFollow hc)
    simp only [tDefinition, List.cons_append, List.append_assoc] at b ⊢
    rw [typeSystem_dispatch f desc _ _ (by simp [opTypeOf]) (by simp) (by simp)]
    simp [pTypeSystemRest, b]
  | objectDef desc name impls dirs fields | interfaceDef desc name impls dirs fields =>
    simp only [wfDefinition, Bool.and_eq_true] at h
    simp only [szDefinition] at hs
    have b := objectTypeLike_roundtrip name impls dirs fields f rest h.1 h.2 (by omega) hr
    simp only [tDefinition, List.cons_append, List.append_assoc] at b ⊢
    rw [typeSystem_dispatch f desc _ _ (by simp [opTypeOf]) (by simp) (by simp)]
    simp [pTypeSystemRest, b]
  | unionDef desc name dirs members =>
    simp only [wfDefinition] at h
    simp only [szDefinition] at hs
    have b := unionBody_roundtrip name dirs members f rest h (by omega) hr
    simp only [tDefinition, List.cons_append, List.append_assoc] at b ⊢
    rw [typeSystem_dispatch f desc _ _ (by simp [opTypeOf]) (by simp) (by simp)]
    simp [pTypeSystemRest, b]
  | enumDef desc name dirs values =>
    simp only [wfDefinition, Bool.and_eq_true] at h
    simp only [szDefinition] at hs
    have b := enumBody_roundtrip name dirs values f rest h.1 h.2 (by omega) hr
    simp only [tDefinition, List.cons_append, List.append_assoc] at b ⊢
    rw [typeSystem_dispatch f desc _ _ (by simp [opTypeOf]) (by simp) (by simp)]
    simp [pTypeSystemRest, b]
  | inputDef desc name dirs fields =>
    simp only [wfDefinition, Bool.and_eq_true] at h
    simp only [szDefinition] at hs
    have b := inputBody_roundtrip name dirs fields f rest h.1 h.2 (by omega) hr
    simp only [tDefinition, List.cons_append, List.append_assoc] at b ⊢
    rw [typeSystem_dispatch f desc _ _ (by simp [opTypeOf]) (by simp) (by simp)]
    simp [pTypeSystemRest, b]
  | schemaExt dirs roots =>
    simp only [wfDefinition] at h
    simp only [szDefinition] at hs
    simp only [tDefinition, List.cons_append, List.append_assoc]
    rw [extension_dispatch]
    cases roots with
    | nil =>
      have b := directives_roundtrip dirs f rest h (by omega) (calm_dirFollow hc)
      simp only [tBraced, List.isEmpty_nil, if_true, List.nil_append]
      have hl := calm_ne hc .lCurly (by decide) (by decide) (by decide)
      cases rest with
      | nil =>
        simp only [List.append_nil] at b ⊢
        simp [pExtensionRest, b]
      | cons a r =>
        simp only [List.head?_cons, ne_eq, Option.some.injEq] at hl
        cases a with
        | p k => cases k <;> first | exact absurd rfl hl | simp [pExtensionRest, b]
        | _ => simp [pExtensionRest, b]
    | cons a r =>
      have b := directives_roundtrip dirs f (.p .lCurly :: tRootOpItems (a :: r) ++ .p .rCurly :: rest) h (by omega)
        (by simp [dirFollow])
      have c := rootOps_roundtrip (a :: r) f rest (by simp) (by omega)
      simp only [tBraced, List.isEmpty_cons, Bool.false_eq_true, if_false, List.cons_append, List.append_assoc,
        List.nil_append] at b c ⊢
      simp [pExtensionRest, b, c]
  | scalarExt name dirs =>
    simp only [wfDefinition] at h
    simp only [szDefinition] at hs
    have b := directives_roundtrip dirs f rest h (by omega) (calm_dirFollow hc)
    simp only [tDefinition, List.cons_append, List.append_assoc]
    rw [extension_dispatch]
    simp [pExtensionRest, b]
  | objectExt name impls dirs fields | interfaceExt name impls dirs fields =>
    simp only [wfDefinition, Bool.and_eq_true] at h
    simp only [szDefinition] at hs
    have b := objectTypeLike_roundtrip name impls dirs fields f rest h.1 h.2 (by omega) hr
    simp only [tDefinition, List.cons_append, List.append_assoc]
    rw [extension_dispatch]
    simp [pExtensionRest, b]
  | unionExt name dirs members =>
    simp only [wfDefinition] at h
    simp only [szDefinition] at hs
    have b := unionBody_roundtrip name dirs members f rest h (by omega) hr
    simp only [tDefinition, List.cons_append, List.append_assoc]
    rw [extension_dispatch]
    simp [pExtensionRest, b]
  | enumExt name dirs values =>
    simp only [wfDefinition, Bool.and_eq_true] at h
    simp only [szDefinition] at hs
    have b := enumBody_roundtrip name dirs values f rest h.1 h.2 (by omega) hr
    simp only [tDefinition, List.cons_append, List.append_assoc]
    rw [extension_dispatch]
    simp [pExtensionRest, b]
  | inputExt name dirs fields =>
    simp only [wfDefinition, Bool.and_eq_true] at h
    simp only [szDefinition] at hs
    have b := inputBody_roundtrip name dirs fields f rest h.1 h.2 (by omega) hr
    simp only [tDefinition, List.cons_append, List.append_assoc]
    rw [extension_dispatch]
    simp [pExtensionRest, b]

end Apollo.Ast
