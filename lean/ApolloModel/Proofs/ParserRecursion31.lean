import ApolloModel.Proofs.ParserRecursion29
/-
C04, closed form of the nesting depth: the judgement `GD` at the `LIST_TYPE` and `SELECTION_SET` nodes, hence for every grammar function; then the entry
points.  For every source text whose parse reports no error and does not hit the recursion limit, the recursion
tracker's high-water mark IS the nesting depth `gd` of the syntax tree that is returned — for `Parser::parse`,
`parse_selection_set` and `parse_type`.
-/
set_option linter.unusedSimpArgs false
set_option linter.unusedVariables false
namespace Apollo.Parse
open Apollo.Rowan hiding Str
open Apollo.Lex hiding Str

/-! ### value.rs -/

theorem n1_value_true : ∀ (n : Nat) (c : Bool), N1 (value n c true)
  | 0, _ => fun s a s' _ _ _ h => by simp [value, PI.outOfFuel] at h
  | n + 1, c => n1_value n c

theorem gd_value (n : Nat) (c p : Bool) : GD (value n c p) :=
  (gdCalc.values (fun n c hv => gd_listValue_succ n c hv (n1_value_true n c)) gd_objectField_succ n).1 c p

/-! ### ty.rs -/

theorem gd_tyCond (r : TyRes) : GD (tyCond r) := by
  cases r <;> first
    | exact gd_pure _
    | exact gd_bind _ _ gdCalc.skipIgnored fun _ => gd_bind _ _ gdCalc.peek fun _ => gd_pure _

theorem gd1_tyListBody (n : Nat) (ih : GD (tyParse n)) : GD1 (tyListBody n) := by
  unfold tyListBody
  have jp : GD (expect .rBracket "R_BRACK" >>= fun _ => (pure TyRes.ok : PI TyRes)) :=
    gd_bind _ _ (gdCalc.expect _ _) (fun _ => gd_pure _)
  have jf : FL (expect .rBracket "R_BRACK" >>= fun _ => (pure TyRes.ok : PI TyRes)) :=
    fl_bind _ _ (fl_expect _ _) (fun _ => fl_pure _)
  refine gd1_bind_left _ _ (gdCalc.bump _) (fl_bump _) (fun _ => gd1_bind_right _ _
    (gd1_withRec _ _ (gw_bind_pure _) (gd_bind _ _ ih (fun _ => gd_pure _))) ?_ ?_)
  · intro inner
    cases inner with
    | none => exact gd_pure _
    | some res =>
      cases res with
      | errTok t => exact gd_bind _ _ (gdCalc.errAtToken t) (fun _ => jp)
      | ok => exact jp
      | early => exact jp
      | errNone => exact jp
  · intro inner
    cases inner with
    | none => exact fl_pure _
    | some res =>
      cases res with
      | errTok t => exact fl_bind _ _ (fl_errAtToken t) (fun _ => jf)
      | ok => exact jf
      | early => exact jf
      | errNone => exact jf

theorem gd_tyBody (n : Nat) (ih : GD (tyParse n)) : GD (tyBody n) := by
  unfold tyBody
  refine gd_bind _ _ gdCalc.peek fun k => ?_
  split
  · exact gd_withNode_guard _ _ (Or.inr rfl) gdCalc.skipIgnored (gd1_tyListBody n ih)
  · exact gdCalc.node _ _ (gd_withNode _ _ (by decide) gdCalc.skipIgnored (gd_bind _ _ (gdCalc.eat _) fun _ => gd_pure _))
  · exact gd_bind _ _ gd_popDrop fun o => by cases o <;> exact gd_pure _
  · exact gd_pure _

theorem gd_tyParse : ∀ n, GD (tyParse n)
  | 0 => by unfold tyParse; exact gd_outOfFuel
  | n + 1 => by
    rw [tyParse_succ]
    refine gd_bind _ _ (gd_wrapIf _ _ _ _ (by decide) (gd_tyBody n (gd_tyParse n)) gd_tyCond (gdCalc.eat _)) fun r => ?_
    cases r <;> first
      | exact gd_bind _ _ gdCalc.skipIgnored fun _ => gd_pure _
      | exact gd_bind (pure ()) _ (gd_pure ()) fun _ => gd_pure _

theorem gd_ty (n : Nat) : GD (ty n) :=
  gd_bind _ _ (gd_tyParse n) fun r => by cases r <;> first | exact gd_pure _ | exact gdCalc.err | exact gdCalc.errAtToken _

/-! ### selection.rs -/

structure DSel (n : Nat) : Prop where
  selSet : GD (selectionSet n)
  sel : GD (selection n)
  field : GD (field n)
  inline : GD (inlineFragment n)

theorem gd1_selSetBody (n : Nat) (hsel : GD (selection n)) : GD1 (selSetBody n) := by
  unfold selSetBody
  exact gd1_bind_left _ _ (gdCalc.bump _) (fl_bump _) (fun _ => gd1_bind_right _ _
    (gd1_withRec _ _ (gw_bind_pure _) (gd_bind _ _ hsel (fun _ => gd_pure _)))
    (fun ok => gd_ite _ _ _ (gdCalc.expect _ _) (gd_pure _)) (fun ok => fl_ite _ _ _ (fl_expect _ _) (fl_pure _)))

theorem dSel (n : Nat) : DSel n :=
  have h := gdCalc.selections gd_value (fun n hsel => by
    rw [selectionSet_succ]
    exact gdCalc.peekIf _ _ _ (gd_withNode_guard _ _ (Or.inl rfl) gdCalc.skipIgnored (gd1_selSetBody n hsel)) (gd_pure _)) n
  ⟨h.1, h.2.1, h.2.2.1, h.2.2.2⟩

theorem gd_selectionSet (n : Nat) : GD (selectionSet n) := (dSel n).selSet
theorem gd_selection (n : Nat) : GD (selection n) := (dSel n).sel

theorem gd_fieldSet (n : Nat) : GD (fieldSet n) :=
  gdCalc.peekIf _ _ _ (gd_selectionSet n)
    (gd_withNode_guard _ _ (Or.inl rfl) gdCalc.skipIgnored (gd1_withRec _ _ gw_limitErr (gd_selection n)))

/-! ### definitions, `document()` -/

theorem gd_document (n : Nat) : GD (document n) := gdCalc.document ⟨gd_value, gd_ty, gd_selectionSet⟩ n

theorem gd_entry (e : Entry) (n : Nat) : GD (e.grammar n) := by
  cases e with
  | document => exact gd_document n
  | selectionSet => exact gd_bind _ _ (gd_fieldSet n) (fun _ => gdCalc.expectEndOfInput)
  | type => exact gd_bind _ _ (gd_ty n) (fun _ => gdCalc.expectEndOfInput)

/-! ### computations that put nothing into the tree -/

structure KS {α : Type} (m : PI α) : Prop where
  k : ∀ s a s', m.run s = .ok a s' → s'.builder.children = s.builder.children

theorem ks_pure {α : Type} (a : α) : KS (pure a : PI α) :=
  ⟨fun s a' s' h => by rw [run_pure] at h; injection h with _ h; subst h; rfl⟩

theorem ks_bind {α β : Type} (m : PI α) (f : α → PI β) (hm : KS m) (hf : ∀ a, KS (f a)) : KS (m >>= f) := by
  constructor
  intro s b s'' h
  obtain ⟨a, s', h1, h2⟩ := bind_dec m f s s'' b h
  exact ((hf a).k s' b s'' h2).trans (hm.k s a s' h1)

theorem ks_ite {α : Type} (c : Bool) (a b : PI α) (ha : KS a) (hb : KS b) : KS (if c then a else b) := by
  cases c <;> simp [ha, hb]

theorem ks_peekToken : KS peekToken := ⟨fun s a s' h => (peekToken_kids s s' a h).1⟩

theorem ks_moveCurToPending : KS moveCurToPending := by
  constructor
  intro s b s' h
  unfold moveCurToPending at h
  simp only [] at h
  cases hc : s.current with
  | none => simp only [hc] at h; injection h with _ h; subst h; rfl
  | some t => simp only [hc] at h; split at h <;> (injection h with _ h; subst h; rfl)

theorem ks_srcLen : KS srcLen :=
  ⟨fun s a s' h => by unfold srcLen at h; simp only [] at h; injection h with _ h; subst h; rfl⟩

theorem ks_pushErr (e : PErr) : KS (pushErr e) :=
  ⟨fun s a s' h => by unfold pushErr errUpdate at h; simp only [] at h; injection h with _ h; subst h; rfl⟩

theorem ks_skipIgnoredLoop : ∀ fuel, KS (skipIgnoredLoop fuel)
  | 0 => ⟨fun s a s' h => by simp [skipIgnoredLoop, PI.outOfFuel] at h⟩
  | fuel + 1 => by
    unfold skipIgnoredLoop
    exact ks_bind _ _ ks_peekToken (fun _ => ks_bind _ _ ks_moveCurToPending
      (fun b => ks_ite b _ _ (ks_skipIgnoredLoop fuel) (ks_pure _)))

theorem ks_skipIgnored : KS skipIgnored := by
  unfold skipIgnored
  exact ks_bind _ _ ks_srcLen (fun n => ks_skipIgnoredLoop (n + 3))

theorem ks_peek : KS peek := by
  unfold peek
  exact ks_bind _ _ ks_peekToken (fun _ => ks_pure _)

theorem ks_err : KS err := by
  unfold err
  refine ks_bind _ _ ks_peekToken (fun o => ?_)
  cases o with
  | none => exact ks_pure _
  | some t => exact ks_pushErr _

theorem ks_expectEndOfInput : KS expectEndOfInput := by
  unfold expectEndOfInput errUnlessEnd
  exact ks_bind _ _ ks_skipIgnored (fun _ => ks_bind _ _ ks_peek (fun k => ks_ite _ _ _ (ks_pure _) ks_err))

/-! ### the root that `finish_standalone` returns -/

theorem finishStandalone_gd (b : Builder) (k : SK) (expected : List SK) (hk : PlainKind k) (hp : b.parents = [(k, 0)]) (e : Elem)
    (h : finishStandalone b expected = some e) : gd e = gdl b.children := by
  simp only [finishStandalone, Builder.finishNode, hp, List.take_zero, List.nil_append, List.drop_zero, Builder.finish] at h
  cases hc : b.children with
  | nil => rw [hc] at h; injection h with h; subst h; rw [gd_plain hk]
  | cons c cs =>
    rw [hc] at h
    cases c with
    | tok k' t => injection h with h; subst h; rw [gd_plain hk]
    | node k' cs' =>
      cases cs with
      | nil =>
        simp only [] at h
        split at h
        · injection h with h; subst h; rw [gdl_single]
        · injection h with h; subst h; rw [gd_plain hk]
      | cons c2 cs2 => injection h with h; subst h; rw [gd_plain hk]

theorem finishStandalone_single (b : Builder) (k : SK) (cs : List Elem) (hp : b.parents = [(k, 0)])
    (hc : b.children = [Elem.node k cs]) : finishStandalone b [k] = some (Elem.node k cs) := by
  simp [finishStandalone, Builder.finishNode, hp, Builder.finish, hc]

/-! ### `Parser::parse` -/

theorem entryStartT_fields (e : Entry) (src : Str) (R : Nat) :
    (entryStartT e src none R).errors = [] ∧ (entryStartT e src none R).acceptErrors = true ∧
    (entryStartT e src none R).recLimit = R ∧ (entryStartT e src none R).recCur = 0 ∧ (entryStartT e src none R).recHigh = 0 ∧
    (entryStartT e src none R).builder.children = [] ∧ (entryStartT e src none R).pending = [] ∧
    (entryStartT e src none R).current = none := by
  cases e <;> exact ⟨rfl, rfl, rfl, rfl, rfl, rfl, rfl, rfl⟩

theorem parse_end_depth (e : Entry) (R : Nat) (src : Str) (s : PState)
    (hr : (e.grammar (fuelFor src)).run (entryStartT e src none R) = .ok () s) (herr : s.errors = []) (hfree : s.recHigh ≤ R) :
    s.recHigh = gdl s.builder.children := by
  obtain ⟨f1, f2, f3, f4, f5, f6, _, _⟩ := entryStartT_fields e src R
  have hg : GD (e.grammar (fuelFor src)) := by
    cases e with
    | document => exact gd_document _
    | selectionSet => exact gd_bind _ _ (gd_fieldSet _) (fun _ => gdCalc.expectEndOfInput)
    | type => exact gd_bind _ _ (gd_ty _) (fun _ => gdCalc.expectEndOfInput)
  obtain ⟨ex, ad, w, x⟩ := hg.g _ () s (entryStartT_inv e src none R) hr
  have hex : ex = [] := by
    have := w.errs
    rw [f1, herr] at this
    simpa using this.symm
  have r := x hex f2 (by rw [f3]; exact hfree) (by rw [f4]; exact Nat.zero_le _)
  rw [r, w.kids, f5, f4, f6]
  simp

theorem parse_document_depth (R : Nat) (src : Str) (herr : (parse .document none R src).errors = [])
    (hfree : (parse .document none R src).recHigh ≤ R) :
    ∃ root, (parse .document none R src).outcome = .tree root ∧ (parse .document none R src).recHigh = gd root := by
  obtain ⟨s, hr, h1, h2, _, _⟩ := parse_run .document none R src
  rw [h1] at herr
  rw [h2] at hfree ⊢
  have hd := parse_end_depth .document R src s hr herr hfree
  have hinv := entryStartT_inv .document src none R
  obtain ⟨cs, _, hc, _⟩ := withNode_result "DOCUMENT" (documentBody (fuelFor src)) _ hinv () s hr
  have hch : s.builder.children = [Elem.node "DOCUMENT" cs] := by
    simpa [entryStartT, Entry.standalone, initState, Builder.new] using hc
  refine ⟨Elem.node "DOCUMENT" cs, ?_, by rw [hd, hch, gdl_single]⟩
  unfold parse runEntry
  simp only [Entry.standalone]
  have e0 : initState src none R = entryStartT .document src none R := rfl
  rw [e0, hr]
  simp only [finish_single s.builder _ _ hch]

theorem parse_type_depth (R : Nat) (src : Str) (herr : (parse .type none R src).errors = [])
    (hfree : (parse .type none R src).recHigh ≤ R) :
    ∃ root, (parse .type none R src).outcome = .tree root ∧ (parse .type none R src).recHigh = gd root := by
  obtain ⟨s, hr, h1, h2, _, _⟩ := parse_run .type none R src
  rw [h1] at herr
  rw [h2] at hfree ⊢
  have hd := parse_end_depth .type R src s hr herr hfree
  have hinv := entryStartT_inv .type src none R
  obtain ⟨_, fr⟩ := post_of_run _ _ hinv () s hr
  have hp : s.builder.parents = [("NAMED_TYPE", 0)] := by rw [fr.parents]; rfl
  obtain ⟨root, hroot⟩ := finishStandalone_some s.builder _ ["NAMED_TYPE", "LIST_TYPE", "NON_NULL_TYPE"] hp
  refine ⟨root, ?_, by rw [hd, finishStandalone_gd _ _ _ (by decide) hp _ hroot]⟩
  unfold parse runEntry
  simp only [Entry.standalone]
  have e0 : ({ initState src none R with builder := (initState src none R).builder.startNode "NAMED_TYPE" } : PState) =
      entryStartT .type src none R := rfl
  rw [e0, hr]
  simp only [hroot]

/-! ### `Parser::parse_selection_set` -/

theorem fieldSet_shape (n : Nat) (s0 s1 : PState) (hi : Inv s0) (hk : s0.builder.children = []) (hp : s0.pending = [])
    (h : (fieldSet n).run s0 = .ok () s1) (herr : s1.errors = s0.errors) :
    ∃ cs, s1.builder.children = [Elem.node "SELECTION_SET" cs] := by
  unfold fieldSet at h
  obtain ⟨k, sa, h1, h2⟩ := bind_dec peek _ s0 s1 () h
  obtain ⟨hia, _⟩ := post_of_run peek s0 hi k sa h1
  obtain ⟨e0, _, w0, _⟩ := gdCalc.peek.g s0 k sa hi h1
  have hka : sa.builder.children = [] := by rw [ks_peek.k s0 k sa h1]; exact hk
  -- the second part only appends errors, so `peek` recorded none
  have hrest : ∃ e1, s1.errors = sa.errors ++ e1 := by
    obtain ⟨_, fr⟩ := post_of_run (peek >>= fun k => if k == some Kind.lCurly then selectionSet n
      else withNode "SELECTION_SET" (withRec limitErr (selection n))) s0 hi () s1 h
    have h1' : GD (if k == some Kind.lCurly then selectionSet n else withNode "SELECTION_SET" (withRec limitErr (selection n))) :=
      gd_ite _ _ _ (gd_selectionSet n)
        (gd_withNode_guard _ _ (Or.inl rfl) gdCalc.skipIgnored (gd1_withRec _ _ gw_limitErr (gd_selection n)))
    obtain ⟨e1, _, w1, _⟩ := h1'.g sa () s1 hia h2
    exact ⟨e1, w1.errs⟩
  obtain ⟨e1, he1⟩ := hrest
  have he0 : sa.errors = s0.errors := by
    have := w0.errs
    rw [he1, this, List.append_assoc] at herr
    have h0 : e0 ++ e1 = [] := List.self_eq_append_right.mp herr.symm
    rw [(List.append_eq_nil_iff.mp h0).1, List.append_nil] at this
    exact this
  have hpa : sa.pending = [] := by
    obtain ⟨o, sx, hpt, hpk⟩ := peek_run s0
    rw [hpk] at h1
    injection h1 with _ h1
    subst h1
    rw [peekToken_pending s0 sx o hpt he0]; exact hp
  have fin : ∀ (body : PI Unit), (withNode "SELECTION_SET" body).run sa = .ok () s1 →
      ∃ cs, s1.builder.children = [Elem.node "SELECTION_SET" cs] := by
    intro body hr
    obtain ⟨s2, cs, b, _, _, _, rfl, hbc⟩ := withNode_added _ body sa s1 () hia hr
    exact ⟨cs, by show b.children = _; rw [hbc, hka, hpa]; rfl⟩
  by_cases hkc : (k == some Kind.lCurly) = true
  · simp only [hkc, if_true] at h2
    have hks : k = some Kind.lCurly := by simpa using hkc
    subst hks
    obtain ⟨t, hct, hkt⟩ := peek_some_cur s0 sa _ h1
    cases n with
    | zero => simp [selectionSet, PI.outOfFuel] at h2
    | succ m =>
      rw [selectionSet_succ, run_bind, peek_cur sa t hct] at h2
      simp only [hkt, beq_self_eq_true, if_true] at h2
      exact fin _ h2
  · simp only [hkc, Bool.false_eq_true, if_false] at h2
    exact fin _ h2

theorem parse_selection_set_depth (R : Nat) (src : Str) (herr : (parse .selectionSet none R src).errors = [])
    (hfree : (parse .selectionSet none R src).recHigh ≤ R) :
    ∃ root, (parse .selectionSet none R src).outcome = .tree root ∧ (parse .selectionSet none R src).recHigh = gd root := by
  obtain ⟨s, hr, h1, h2, _, _⟩ := parse_run .selectionSet none R src
  rw [h1] at herr
  rw [h2] at hfree ⊢
  have hd := parse_end_depth .selectionSet R src s hr herr hfree
  have hinv := entryStartT_inv .selectionSet src none R
  obtain ⟨f1, _, _, _, _, f6, f7, _⟩ := entryStartT_fields .selectionSet src R
  obtain ⟨_, fr⟩ := post_of_run _ _ hinv () s hr
  have hp : s.builder.parents = [("SELECTION_SET", 0)] := by rw [fr.parents]; rfl
  have hr' : (fieldSet (fuelFor src) >>= fun _ => expectEndOfInput).run (entryStartT .selectionSet src none R) = .ok () s := hr
  obtain ⟨u, s1, hf1, hf2⟩ := bind_dec (fieldSet (fuelFor src)) _ _ s () hr'
  obtain ⟨hi1, _⟩ := post_of_run _ _ hinv u s1 hf1
  obtain ⟨ea, _, wa, _⟩ := (gd_fieldSet (fuelFor src)).g _ u s1 hinv hf1
  obtain ⟨eb, _, wb, _⟩ := gdCalc.expectEndOfInput.g s1 () s hi1 hf2
  have hes : s1.errors = (entryStartT .selectionSet src none R).errors := by
    have := wb.errs
    rw [herr, wa.errs, f1] at this
    have h0 : ea ++ eb = [] := by simpa using this.symm
    rw [wa.errs, (List.append_eq_nil_iff.mp h0).1, List.append_nil]
  obtain ⟨cs, hcs⟩ := fieldSet_shape (fuelFor src) _ s1 hinv f6 f7 hf1 hes
  have hch : s.builder.children = [Elem.node "SELECTION_SET" cs] := by
    rw [ks_expectEndOfInput.k s1 () s hf2]; exact hcs
  refine ⟨Elem.node "SELECTION_SET" cs, ?_, by rw [hd, hch, gdl_single]⟩
  unfold parse runEntry
  simp only [Entry.standalone]
  have e0 : ({ initState src none R with builder := (initState src none R).builder.startNode "SELECTION_SET" } : PState) =
      entryStartT .selectionSet src none R := rfl
  rw [e0, hr]
  simp only [finishStandalone_single s.builder _ cs hp hch]

/-- **The closed form, every entry point**: for a source text that parses without error under a recursion limit
    that is not hit, the tracker's high-water mark is the nesting depth `gd` of the returned syntax tree. -/
theorem parse_depth (e : Entry) (R : Nat) (src : Str) (herr : (parse e none R src).errors = [])
    (hfree : (parse e none R src).recHigh ≤ R) :
    ∃ root, (parse e none R src).outcome = .tree root ∧ (parse e none R src).recHigh = gd root := by
  cases e with
  | document => exact parse_document_depth R src herr hfree
  | selectionSet => exact parse_selection_set_depth R src herr hfree
  | type => exact parse_type_depth R src herr hfree

end Apollo.Parse
