import ApolloModel.Proofs.ParserTree1
import ApolloModel.Proofs.FromCst
/-
C08 (pipeline): the accessors of the CST → AST conversion model on plain elements.

`support::child`, `children`, `token` are first-match / filter over the children of a node that look only at
"is a node" and the kind, so (1) they can be computed on the plain child list `cs` of `node k cs`, whatever the
byte offsets and location proofs a positioned element carries, and (2) junk tokens (whitespace, comments, commas)
between the children do not matter: the computation can be done on `sigE cs`.
-/
set_option linter.unusedSimpArgs false
set_option linter.unusedVariables false

namespace Apollo.FromCst
open Apollo.Rowan Apollo.Ast
open Apollo.Parse (isJunk isJunkKind sigE nameNode)

variable {R : List Loc}

def kindE : Elem → SK
  | .node k _ => k
  | .tok k _ => k

def isNodeE : Elem → Bool
  | .node _ _ => true
  | .tok _ _ => false

theorem PE.kind_eq (p : PE R) : p.kind = kindE p.1.1 := by
  obtain ⟨⟨e, s⟩, h⟩ := p
  cases e <;> rfl

theorem PE.isNode_eq (p : PE R) : p.isNode = isNodeE p.1.1 := by
  obtain ⟨⟨e, s⟩, h⟩ := p
  cases e <;> rfl

def nodeP (pr : SK → Bool) (e : Elem) : Bool := isNodeE e && pr (kindE e)

theorem kidsAt_find (f : PE R → Bool) (g : Elem → Bool) (hf : ∀ q : PE R, f q = g q.1.1) :
    ∀ (cs : List Elem) (s : Nat) (h : ∀ x ∈ nameRangesList cs s, x ∈ R),
      ((kidsAt cs s h).find? f).map (fun q => q.1.1) = cs.find? g
  | [], _, _ => rfl
  | e :: es, s, h => by
    simp only [kidsAt, List.find?_cons, hf]
    cases hg : g e with
    | true => rfl
    | false => exact kidsAt_find f g hf es _ _

theorem kidsAt_filter (f : PE R → Bool) (g : Elem → Bool) (hf : ∀ q : PE R, f q = g q.1.1) :
    ∀ (cs : List Elem) (s : Nat) (h : ∀ x ∈ nameRangesList cs s, x ∈ R),
      ((kidsAt cs s h).filter f).map (fun q => q.1.1) = cs.filter g
  | [], _, _ => rfl
  | e :: es, s, h => by
    simp only [kidsAt, List.filter_cons, hf]
    cases hg : g e with
    | true => simp only [if_true, List.map_cons]; rw [kidsAt_filter f g hf es _ _]
    | false => simp only [Bool.false_eq_true, if_false]; exact kidsAt_filter f g hf es _ _

theorem kidsAt_any (f : PE R → Bool) (g : Elem → Bool) (hf : ∀ q : PE R, f q = g q.1.1) :
    ∀ (cs : List Elem) (s : Nat) (h : ∀ x ∈ nameRangesList cs s, x ∈ R), (kidsAt cs s h).any f = cs.any g
  | [], _, _ => rfl
  | e :: es, s, h => by
    simp only [kidsAt, List.any_cons, hf]
    rw [kidsAt_any f g hf es _ _]

theorem kids_node (k : SK) (cs : List Elem) (s : Nat) (h : ∀ x ∈ nameRanges (.node k cs) s, x ∈ R) :
    PE.kids (⟨(.node k cs, s), h⟩ : PE R) =
      kidsAt cs s (fun x hx => h x (by rw [nameRanges_node]; exact List.mem_append_right _ hx)) := rfl

theorem childP_some (pr : SK → Bool) (k : SK) (cs : List Elem) (s : Nat) (h : ∀ x ∈ nameRanges (.node k cs) s, x ∈ R)
    (e : Elem) (he : cs.find? (nodeP pr) = some e) :
    ∃ s' h', childP pr (⟨(.node k cs, s), h⟩ : PE R) = some ⟨(e, s'), h'⟩ := by
  have := kidsAt_find (R := R) (fun c => c.isNode && pr c.kind) (nodeP pr)
    (fun q => by simp [nodeP, PE.kind_eq, PE.isNode_eq]) cs s
    (fun x hx => h x (by rw [nameRanges_node]; exact List.mem_append_right _ hx))
  rw [he] at this
  unfold childP
  rw [kids_node]
  cases hf : (kidsAt cs s _).find? (fun c => c.isNode && pr c.kind) with
  | none => rw [hf] at this; cases this
  | some q =>
    rw [hf] at this
    obtain ⟨⟨e', s'⟩, h'⟩ := q
    simp only [Option.map_some, Option.some.injEq] at this
    subst this
    exact ⟨s', h', rfl⟩

theorem childP_none (pr : SK → Bool) (k : SK) (cs : List Elem) (s : Nat) (h : ∀ x ∈ nameRanges (.node k cs) s, x ∈ R)
    (he : cs.find? (nodeP pr) = none) : childP pr (⟨(.node k cs, s), h⟩ : PE R) = none := by
  have := kidsAt_find (R := R) (fun c => c.isNode && pr c.kind) (nodeP pr)
    (fun q => by simp [nodeP, PE.kind_eq, PE.isNode_eq]) cs s
    (fun x hx => h x (by rw [nameRanges_node]; exact List.mem_append_right _ hx))
  rw [he] at this
  unfold childP
  rw [kids_node]
  cases hf : (kidsAt cs s _).find? (fun c => c.isNode && pr c.kind) with
  | none => rfl
  | some q => rw [hf] at this; cases this

theorem child_eq_childP (k : SK) (p : PE R) : child k p = childP (· == k) p := rfl
theorem children_eq_childrenP (k : SK) (p : PE R) : children k p = childrenP (· == k) p := rfl

theorem childrenP_map (pr : SK → Bool) (k : SK) (cs : List Elem) (s : Nat) (h : ∀ x ∈ nameRanges (.node k cs) s, x ∈ R) :
    (childrenP pr (⟨(.node k cs, s), h⟩ : PE R)).map (fun q => q.1.1) = cs.filter (nodeP pr) := by
  unfold childrenP
  rw [kids_node]
  exact kidsAt_filter (R := R) (fun c => c.isNode && pr c.kind) (nodeP pr)
    (fun q => by simp [nodeP, PE.kind_eq, PE.isNode_eq]) cs s _

theorem hasToken_eq (kt : SK) (k : SK) (cs : List Elem) (s : Nat) (h : ∀ x ∈ nameRanges (.node k cs) s, x ∈ R) :
    hasToken kt (⟨(.node k cs, s), h⟩ : PE R) = cs.any (fun e => !isNodeE e && kindE e == kt) := by
  unfold hasToken
  rw [kids_node]
  exact kidsAt_any (R := R) _ _ (fun q => by simp [PE.kind_eq, PE.isNode_eq]) cs s _

/-! ### junk does not matter -/

theorem find_sigE (g : Elem → Bool) (hg : ∀ e, isJunk e = true → g e = false) :
    ∀ cs : List Elem, cs.find? g = (sigE cs).find? g
  | [] => rfl
  | e :: es => by
    unfold sigE
    simp only [List.filter_cons, List.find?_cons]
    cases hj : isJunk e with
    | true =>
      simp only [Bool.not_true, Bool.false_eq_true, if_false, hg e hj]
      exact find_sigE g hg es
    | false =>
      simp only [Bool.not_false, if_true, List.find?_cons]
      cases g e with
      | true => rfl
      | false => exact find_sigE g hg es

theorem filter_sigE (g : Elem → Bool) (hg : ∀ e, isJunk e = true → g e = false) :
    ∀ cs : List Elem, cs.filter g = (sigE cs).filter g
  | [] => rfl
  | e :: es => by
    unfold sigE
    simp only [List.filter_cons]
    cases hj : isJunk e with
    | true =>
      simp only [Bool.not_true, Bool.false_eq_true, if_false, hg e hj]
      exact filter_sigE g hg es
    | false =>
      simp only [Bool.not_false, if_true, List.filter_cons]
      cases g e with
      | true => simp only [if_true]; rw [filter_sigE g hg es]; rfl
      | false => simp only [Bool.false_eq_true, if_false]; exact filter_sigE g hg es

theorem any_sigE (g : Elem → Bool) (hg : ∀ e, isJunk e = true → g e = false) :
    ∀ cs : List Elem, cs.any g = (sigE cs).any g
  | [] => rfl
  | e :: es => by
    unfold sigE
    simp only [List.filter_cons, List.any_cons]
    cases hj : isJunk e with
    | true =>
      simp only [Bool.not_true, Bool.false_eq_true, if_false, hg e hj, Bool.false_or]
      exact any_sigE g hg es
    | false =>
      simp only [Bool.not_false, if_true, List.any_cons]
      rw [any_sigE g hg es]; rfl

theorem nodeP_junk (pr : SK → Bool) (e : Elem) (h : isJunk e = true) : nodeP pr e = false := by
  cases e with
  | tok k t => rfl
  | node k cs => simp [isJunk] at h

theorem find_nodeP_sigE (pr : SK → Bool) (cs : List Elem) : cs.find? (nodeP pr) = (sigE cs).find? (nodeP pr) :=
  find_sigE _ (nodeP_junk pr) cs

theorem filter_nodeP_sigE (pr : SK → Bool) (cs : List Elem) : cs.filter (nodeP pr) = (sigE cs).filter (nodeP pr) :=
  filter_sigE _ (nodeP_junk pr) cs

/-! ### the monad -/

theorem bind_ok {α β : Type} {m : M R α} {f : α → M R β} {a : α} {l : Locs R} {b : β} {l' : Locs R}
    (hm : m = some (a, l)) (hf : f a = some (b, l')) : (m >>= f) = some (b, l ++ l') := by
  show M.bind' m f = _
  unfold M.bind'
  rw [hm]
  simp only [hf]

theorem pure_ok {α : Type} (a : α) : (pure a : M R α) = some (a, []) := rfl

/-! ### conversions on plain elements -/

/-- `f` converts the element `e` — at whatever offset, with whatever location set — to `a` -/
def ConvE {α : Type} (f : (R : List Loc) → PE R → M R α) (a : α) (e : Elem) : Prop :=
  ∀ (R : List Loc) (s : Nat) (h : ∀ x ∈ nameRanges e s, x ∈ R), ∃ l, f R ⟨(e, s), h⟩ = some (a, l)

inductive All2 {α β : Type} (r : α → β → Prop) : List α → List β → Prop
  | nil : All2 r [] []
  | cons {a b as bs} : r a b → All2 r as bs → All2 r (a :: as) (b :: bs)

theorem filterMapM_conv {α : Type} (f : (R : List Loc) → PE R → M R α) :
    ∀ (qs : List (PE R)) (as : List α), All2 (fun q a => ConvE f a q.1.1) qs as →
      ∃ l, filterMapM (f R) qs = (as, l)
  | [], [], _ => ⟨[], rfl⟩
  | [], _ :: _, h => by cases h
  | _ :: _, [], h => by cases h
  | q :: qs, a :: as, h => by
    cases h with
    | cons h1 h2 =>
      obtain ⟨l2, e2⟩ := filterMapM_conv f qs as h2
      obtain ⟨⟨e, s⟩, hp⟩ := q
      obtain ⟨l1, e1⟩ := h1 R s hp
      refine ⟨l1 ++ l2, ?_⟩
      simp only [filterMapM, e2, e1]

theorem collectM_conv {α : Type} (f : (R : List Loc) → PE R → M R α) (qs : List (PE R)) (es : List Elem) (as : List α)
    (hq : qs.map (fun q => q.1.1) = es) (h : All2 (fun e a => ConvE f a e) es as) :
    ∃ l, collectM (f R) qs = some (as, l) := by
  have : All2 (fun q a => ConvE f a q.1.1) qs as := by
    subst hq
    induction qs generalizing as with
    | nil => cases h; exact All2.nil
    | cons q qs ih =>
      cases h with
      | cons h1 h2 => exact All2.cons h1 (ih _ h2)
  obtain ⟨l, e⟩ := filterMapM_conv f qs as this
  exact ⟨l, by unfold collectM; rw [e]⟩

/-! ### names -/

theorem cName_nameNode (d : Rowan.Str) (hv : isValidName d = true) : ConvE (fun R => @cName R) d (nameNode d) := by
  intro R s h
  obtain ⟨l, hl, _⟩ := cName_ident (R := R) "IDENT" d s h hv
  exact ⟨[l], hl⟩

/-- `x.name()?.convert()`: the first NAME child is `NAME[IDENT d]` -/
theorem nameOf_node (k : SK) (cs : List Elem) (d : Rowan.Str) (hv : isValidName d = true)
    (hf : (sigE cs).find? (nodeP (· == "NAME")) = some (nameNode d)) :
    ConvE (fun R => @nameOf R) d (.node k cs) := by
  intro R s h
  rw [← find_nodeP_sigE] at hf
  obtain ⟨s', h', hc⟩ := childP_some (R := R) (· == "NAME") k cs s h _ hf
  obtain ⟨l, hl⟩ := cName_nameNode d hv R s' h'
  refine ⟨l, ?_⟩
  show (match child "NAME" (⟨(Elem.node k cs, s), h⟩ : PE R) with | some n => cName n | none => none) = some (d, l)
  rw [child_eq_childP, hc]
  exact hl

end Apollo.FromCst
