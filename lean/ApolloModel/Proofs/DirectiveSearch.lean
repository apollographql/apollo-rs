import ApolloModel.Proofs.SchemaValidation
/-
C14: completeness of the directive self-reference search (`FindRecursiveDirective`, two
stacks), its fuel sufficiency and the absence of `limit` answers on schemas with at most `limit`
directive definitions and types.  Same plan as the input-object search of SchemaValidation.lean:
loop removal to a simple path of items, then induction along the path with the stacks generalised.
-/
namespace Apollo.SchemaValidation
open Apollo.SchemaValidation.Spec

/-- `x → ps₀ → … → z`, all of `x :: ps` before the final step into `z` -/
def DPath (s : DSchema) (z : Item) : List Item → Item → Prop
  | [], x => DStep s x z
  | y :: ps, x => DStep s x y ∧ DPath s z ps y

theorem dpath_suffix (s : DSchema) (z : Item) : ∀ (l1 : List Item) (u x : Item) (l2 : List Item),
    DPath s z (l1 ++ x :: l2) u → DPath s z l2 x := by
  intro l1
  induction l1 with
  | nil => intro u x l2 h; exact h.2
  | cons y l1 ih => intro u x l2 h; exact ih y x l2 h.2

theorem dreach_simple_path (s : DSchema) {x z : Item} (h : DReach s x z) (hne : x ≠ z) :
    ∃ ps, DPath s z ps x ∧ (x :: ps).Nodup ∧ z ∉ x :: ps := by
  induction h with
  | refl => exact absurd rfl hne
  | @step x y z st _ ih =>
    by_cases hyz : y = z
    · subst hyz
      exact ⟨[], st, by simp, by simpa using fun h => hne h.symm⟩
    · obtain ⟨ps, hp, hnd, hz⟩ := ih hyz
      by_cases hxy : x = y
      · subst hxy; exact ⟨ps, hp, hnd, hz⟩
      · by_cases hx : x ∈ ps
        · obtain ⟨l1, l2, rfl⟩ := List.append_of_mem hx
          refine ⟨l2, dpath_suffix s z l1 y x l2 hp, ?_, ?_⟩
          · have := (List.nodup_cons.mp hnd).2
            exact (List.nodup_append.mp this).2.1
          · intro hmem
            apply hz
            rcases List.mem_cons.mp hmem with h | h
            · exact List.mem_cons_of_mem _ (by simp [h])
            · exact List.mem_cons_of_mem _ (by simp [h])
        · refine ⟨y :: ps, ⟨st, hp⟩, ?_, ?_⟩
          · rw [List.nodup_cons]
            refine ⟨?_, hnd⟩
            intro hmem
            rcases List.mem_cons.mp hmem with h | h
            · exact hxy h
            · exact hx h
          · intro hmem
            rcases List.mem_cons.mp hmem with h | h
            · exact hne h.symm
            · exact hz h

theorem free_push {dg tg : List Nat} {x it : Item} (h : Free dg tg it) (hne : it ≠ x) :
    Free (pushD dg x) (pushT tg x) it := by
  cases it with
  | arg a => trivial
  | dir e =>
    cases x with
    | dir e' =>
      simp only [Free, pushD, List.mem_append, List.mem_singleton, not_or] at *
      exact ⟨h, fun he => hne (by rw [he])⟩
    | arg _ => exact h
    | ty _ => exact h
  | ty k =>
    cases x with
    | ty k' =>
      simp only [Free, pushT, List.mem_append, List.mem_singleton, not_or] at *
      exact ⟨h, fun he => hne (by rw [he])⟩
    | arg _ => exact h
    | dir _ => exact h

theorem walk_step_ne_ok (s : DSchema) (limit : Nat) {x y : Item} (st : DStep s x y) (fuel : Nat)
    (dg tg : List Nat) (hfree : Free dg tg x)
    (hchild : ∀ fuel', walk s limit fuel' (pushD dg x) (pushT tg x) y ≠ .ok) :
    walk s limit fuel dg tg x ≠ .ok := by
  cases fuel with
  | zero => simp [walk]
  | succ fuel =>
    cases st with
    | @dirArg d args a hd ha =>
      have hc : dg.contains d = false := by simpa [Free] using hfree
      simp only [walk, hc, Bool.not_false, if_true, hd]
      by_cases hlim : dg.length + 1 > limit
      · simp [hlim]
      · simp only [hlim, if_false]
        exact firstErr_ne_ok_of_mem (List.mem_map.mpr ⟨a, ha, rfl⟩) (hchild fuel)
    | @argDir a d hd =>
      simp only [walk]
      have h1 : firstErr (walk s limit fuel dg tg) (a.dirs.map Item.dir) ≠ .ok :=
        firstErr_ne_ok_of_mem (List.mem_map.mpr ⟨d, hd, rfl⟩) (hchild fuel)
      cases hf : firstErr (walk s limit fuel dg tg) (a.dirs.map Item.dir) with
      | ok => exact absurd hf h1
      | recursed => simp
      | limit => simp
      | outOfFuel => simp
    | @argTy a k hty hk =>
      simp only [walk]
      cases hf : firstErr (walk s limit fuel dg tg) (a.dirs.map Item.dir) with
      | ok => simp only [hty, hk, if_true]; exact hchild fuel
      | recursed => simp
      | limit => simp
      | outOfFuel => simp
    | @tyItem k t y ht hy =>
      have hc : tg.contains k = false := by simpa [Free] using hfree
      simp only [walk, hc, Bool.false_eq_true, if_false, ht]
      by_cases hlim : tg.length + 1 > limit
      · simp [hlim]
      · simp only [hlim, if_false]
        exact firstErr_ne_ok_of_mem hy (hchild fuel)

theorem walk_root_ne_ok (s : DSchema) (limit fuel : Nat) (dg tg : List Nat) (r : Nat)
    (hhead : dg.head? = some r) : walk s limit fuel dg tg (.dir r) ≠ .ok := by
  cases fuel with
  | zero => simp [walk]
  | succ fuel =>
    have hmem : r ∈ dg := by
      cases dg with
      | nil => simp at hhead
      | cons a t => simp at hhead; simp [hhead]
    simp [walk, hmem, hhead]

theorem walk_complete_path (s : DSchema) (limit r : Nat) :
    ∀ (ps : List Item) (x : Item) (fuel : Nat) (dg tg : List Nat),
      dg.head? = some r → DPath s (.dir r) ps x → (∀ it ∈ x :: ps, Free dg tg it) → (x :: ps).Nodup →
      walk s limit fuel dg tg x ≠ .ok := by
  intro ps
  induction ps with
  | nil =>
    intro x fuel dg tg hhead hp hfree _
    exact walk_step_ne_ok s limit hp fuel dg tg (hfree x List.mem_cons_self)
      (fun fuel' => walk_root_ne_ok s limit fuel' _ _ r (pushD_head hhead x))
  | cons y ps ih =>
    intro x fuel dg tg hhead hp hfree hnd
    obtain ⟨st, hrest⟩ := hp
    have hnd' := List.nodup_cons.mp hnd
    apply walk_step_ne_ok s limit st fuel dg tg (hfree x List.mem_cons_self)
    intro fuel'
    apply ih y fuel' _ _ (pushD_head hhead x) hrest _ hnd'.2
    intro it hit
    apply free_push (hfree it (List.mem_cons_of_mem _ hit))
    intro heq
    exact hnd'.1 (heq ▸ hit)

/-- Completeness of `FindRecursiveDirective::check`: a self-referential directive is never accepted. -/
theorem checkDirective_complete (s : DSchema) (limit d : Nat) (h : DirectiveSelfReference s d) :
    checkDirective s limit d ≠ .ok := by
  obtain ⟨args, a, hd, ha, hreach⟩ := h
  obtain ⟨ps, hp, hnd, hz⟩ := dreach_simple_path s hreach (by simp)
  unfold checkDirective
  have hargs : s.dirs.getD d [] = args := by simp [List.getD, hd]
  rw [hargs]
  apply firstErr_ne_ok_of_mem (List.mem_map.mpr ⟨a, ha, rfl⟩)
  apply walk_complete_path s limit d ps (.arg a) _ [d] [] rfl hp _ hnd
  intro it hit
  cases it with
  | arg _ => trivial
  | ty k => simp [Free]
  | dir e =>
    simp only [Free, List.mem_singleton]
    intro he
    exact hz (he ▸ hit)

/-! ### fuel and limit -/

def isArg : Item → Nat
  | .arg _ => 1
  | _ => 0

def need (limit : Nat) (dg tg : List Nat) (x : Item) : Nat :=
  2 * (limit + 1 - dg.length) + 2 * (limit + 1 - tg.length) + isArg x + 1

theorem walk_fuel (s : DSchema) (limit : Nat) :
    ∀ (fuel : Nat) (dg tg : List Nat) (x : Item), need limit dg tg x ≤ fuel →
      walk s limit fuel dg tg x ≠ .outOfFuel := by
  intro fuel
  induction fuel with
  | zero => intro dg tg x h; simp [need] at h
  | succ fuel ih =>
    intro dg tg x hneed h
    rcases walk_err (by decide) h with ⟨_, _, _, he⟩ | ⟨_, ⟨he, _⟩ | ⟨hdl, htl, y, st, hrec⟩⟩
    · cases he
    · cases he
    · refine ih _ _ y ?_ hrec
      have : isArg y ≤ 1 := by cases y <;> simp [isArg]
      cases st <;> simp only [need, isArg, pushD, pushT, List.length_append, List.length_singleton] at * <;> omega

/-- with at most `limit` directive definitions and at most `limit` types neither stack overflows -/
theorem walk_no_limit (s : DSchema) (limit : Nat) (hd : s.dirs.length ≤ limit) (ht : s.types.length ≤ limit) :
    ∀ (fuel : Nat) (dg tg : List Nat) (x : Item),
      dg.Nodup → (∀ e ∈ dg, e < s.dirs.length) → tg.Nodup → (∀ k ∈ tg, k < s.types.length) →
      walk s limit fuel dg tg x ≠ .limit := by
  intro fuel
  induction fuel with
  | zero => intro dg tg x _ _ _ _; simp [walk]
  | succ fuel ih =>
    intro dg tg x hdn hdb htn htb h
    rcases walk_err (by decide) h with ⟨_, _, _, he⟩ | ⟨hfree, ⟨_, hover⟩ | ⟨_, _, y, st, hrec⟩⟩
    · cases he
    · -- pigeonhole: the stack would hold more distinct names than there are definitions
      rcases hover with ⟨d, rfl, hlt, hlim⟩ | ⟨k, rfl, hlt, hlim⟩
      · have := nodup_bounded_length s.dirs.length _ (nodup_append_singleton hdn hfree)
          (bounded_append_singleton hdb hlt)
        simp at this; omega
      · have := nodup_bounded_length s.types.length _ (nodup_append_singleton htn hfree)
          (bounded_append_singleton htb hlt)
        simp at this; omega
    · cases st with
      | dirArg hd _ =>
        exact ih _ _ _ (nodup_append_singleton hdn hfree)
          (bounded_append_singleton hdb (List.getElem?_eq_some_iff.mp hd).1) htn htb hrec
      | argDir _ => exact ih _ _ _ hdn hdb htn htb hrec
      | argTy _ _ => exact ih _ _ _ hdn hdb htn htb hrec
      | tyItem ht _ =>
        exact ih _ _ _ hdn hdb (nodup_append_singleton htn hfree)
          (bounded_append_singleton htb (List.getElem?_eq_some_iff.mp ht).1) hrec

end Apollo.SchemaValidation
