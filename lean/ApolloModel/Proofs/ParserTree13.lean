import ApolloModel.Proofs.ParserTree10
/-
C08 (pipeline): arguments and directives (applications) — shapes, conversion, and argument.rs / directive.rs in the tree
calculus.
-/
set_option linter.unusedSimpArgs false
set_option linter.unusedVariables false

namespace Apollo.FromCst
open Apollo.Rowan Apollo.Ast
open Apollo.Parse (isJunk isJunkKind sigE nameNode)

variable {R : List Loc}

/-- `ARGUMENT[NAME, COLON, value]` -/
def ArgTree (a : Ast.Str × Value) (e : Elem) : Prop :=
  ∃ cs col ev, e = .node "ARGUMENT" cs ∧ isValidName a.1 = true ∧ sigE cs = [nameNode a.1, .tok "COLON" col, ev] ∧ ValTree a.2 ev

/-- `ARGUMENTS[ ( Argument+ ) ]` -/
def ArgsNode (args : List (Ast.Str × Value)) (e : Elem) : Prop :=
  ∃ cs lp rp es, e = .node "ARGUMENTS" cs ∧ sigE cs = .tok "L_PAREN" lp :: (es ++ [.tok "R_PAREN" rp]) ∧
    All2 (fun e a => ArgTree a e) es args

/-- the optional ARGUMENTS child of a node, as the last significant children `tail` -/
def OptArgs (args : List (Ast.Str × Value)) (tail : List Elem) : Prop :=
  (args = [] ∧ tail = []) ∨ (∃ ea, tail = [ea] ∧ ArgsNode args ea)

/-- `DIRECTIVE[@ NAME Arguments?]` -/
def DirTree (d : Directive) (e : Elem) : Prop :=
  ∃ cs atx tail, e = .node "DIRECTIVE" cs ∧ isValidName d.name = true ∧
    sigE cs = .tok "AT" atx :: nameNode d.name :: tail ∧ OptArgs d.args tail

/-- `DIRECTIVES[Directive+]` -/
def DirsNode (ds : List Directive) (e : Elem) : Prop :=
  ∃ cs, e = .node "DIRECTIVES" cs ∧ All2 (fun e d => DirTree d e) (sigE cs) ds

def OptDirs (ds : List Directive) (tail : List Elem) : Prop :=
  (ds = [] ∧ tail = []) ∨ (∃ ed, tail = [ed] ∧ DirsNode ds ed)

theorem all2_conv {α : Type} (f : (R : List Loc) → PE R → M R α) (P : α → Elem → Prop) (n : Nat)
    (hP : ∀ a e, P a e → size e ≤ n → ConvE f a e) :
    ∀ (es : List Elem) (as : List α), All2 (fun e a => P a e) es as → sizeList es ≤ n →
      All2 (fun e a => ConvE f a e) es as
  | _, _, .nil, _ => All2.nil
  | _, _, .cons h1 h2, hs => by
    simp only [sizeList] at hs
    exact All2.cons (hP _ _ h1 (by omega)) (all2_conv f P n hP _ _ h2 (by omega))

theorem all2_filter {α : Type} (P : α → Elem → Prop) (g : Elem → Bool) (hg : ∀ a e, P a e → g e = true) :
    ∀ (es : List Elem) (as : List α), All2 (fun e a => P a e) es as → es.filter g = es
  | _, _, .nil => rfl
  | _, _, .cons h1 h2 => by simp [List.filter_cons, hg _ _ h1, all2_filter P g hg _ _ h2]

theorem size_node (k : SK) (cs : List Elem) : size (.node k cs) = sizeList cs + 1 := by simp [size]

theorem sizeList_sig_le {cs es : List Elem} (h : sigE cs = es) : sizeList es ≤ sizeList cs := by
  rw [← h]; exact sizeList_sigE_le cs

/-! ### arguments -/

theorem cArgument_conv (n : Nat) (a : Ast.Str × Value) (e : Elem) (h : ArgTree a e) (hs : size e ≤ n) :
    ConvE (fun R => @cArgument R n) a e := by
  obtain ⟨cs, col, ev, rfl, hvn, hsig, hv⟩ := h
  intro R s hp
  have hf : (sigE cs).find? (nodeP (· == "NAME")) = some (nameNode a.1) := by rw [hsig]; rfl
  obtain ⟨l1, hl1⟩ := nameOf_node "ARGUMENT" cs a.1 hvn hf R s hp
  have hfv : cs.find? (nodeP isValueKind) = some ev := by
    rw [find_nodeP_sigE, hsig]
    have : nodeP isValueKind (nameNode a.1) = false := rfl
    simp [List.find?_cons, nodeP_tok, this, hv.nodeP]
  obtain ⟨s', h', hc⟩ := childP_some (R := R) isValueKind "ARGUMENT" cs s hp ev hfv
  have hsz : size ev ≤ n := by
    have h1 := size_le_sizeList (mem_sigE (cs := cs) (e := ev) (by rw [hsig]; simp))
    rw [size_node] at hs; omega
  obtain ⟨l2, hl2⟩ := cValue_valTree n a.2 ev hv hsz R s' h'
  refine ⟨l1 ++ (([] ++ l2) ++ []), ?_⟩
  show cArgument n _ = _
  unfold cArgument
  refine bind_ok hl1 (bind_ok ?_ (pure_ok _))
  unfold valueOf
  rw [hc]
  exact bind_ok rfl hl2

theorem argTree_nodeP {a : Ast.Str × Value} {e : Elem} (h : ArgTree a e) : nodeP (· == "ARGUMENT") e = true := by
  obtain ⟨cs, _, _, rfl, _⟩ := h; simp [nodeP_node]

/-- `collect_opt(x.arguments(), …)` on a node whose ARGUMENTS child (if any) is known -/
theorem argumentsOf_conv (n : Nat) (k : SK) (cs : List Elem) (args : List (Ast.Str × Value)) (tail : List Elem)
    (hopt : OptArgs args tail) (hfind : (sigE cs).find? (nodeP (· == "ARGUMENTS")) = tail.head?)
    (hmem : ∀ e ∈ tail, e ∈ sigE cs) (hs : size (.node k cs) ≤ n + 1) :
    ConvE (fun R => @argumentsOf R n) args (.node k cs) := by
  intro R s hp
  rcases hopt with ⟨rfl, rfl⟩ | ⟨ea, rfl, cs', lp, rp, es, rfl, hsig, hall⟩
  · have := childP_none (R := R) (· == "ARGUMENTS") k cs s hp (by rw [find_nodeP_sigE]; exact hfind)
    refine ⟨[], ?_⟩
    show argumentsOf n _ = _
    unfold argumentsOf
    rw [child_eq_childP, this]; rfl
  · obtain ⟨s', h', hc⟩ := childP_some (R := R) (· == "ARGUMENTS") k cs s hp _ (by rw [find_nodeP_sigE]; exact hfind)
    have hfilter : cs'.filter (nodeP (· == "ARGUMENT")) = es := by
      rw [filter_nodeP_sigE, hsig]
      simp [List.filter_cons, nodeP_tok, List.filter_append, all2_filter _ _ (fun a e h => argTree_nodeP h) es args hall]
    have hmap := childrenP_map (R := R) (· == "ARGUMENT") "ARGUMENTS" cs' s' h'
    rw [hfilter] at hmap
    have hszs : sizeList es ≤ n := by
      have h1 := size_le_sizeList (mem_sigE (hmem (Elem.node "ARGUMENTS" cs') (by simp)))
      have h2 : sizeList (sigE cs') ≤ sizeList cs' := sizeList_sigE_le cs'
      rw [hsig] at h2
      simp only [sizeList, sizeList_append, size] at h1 h2 hs
      omega
    have hconv := all2_conv (fun R => @cArgument R n) ArgTree n (fun a e h hsz => cArgument_conv n a e h hsz) es args hall hszs
    obtain ⟨l, hl⟩ := collectM_conv (R := R) (fun R => @cArgument R n) _ es args hmap hconv
    refine ⟨l, ?_⟩
    show argumentsOf n _ = _
    unfold argumentsOf
    rw [child_eq_childP, hc]
    exact hl

/-! ### directives -/

theorem dirTree_nodeP {d : Directive} {e : Elem} (h : DirTree d e) : nodeP (· == "DIRECTIVE") e = true := by
  obtain ⟨cs, _, _, rfl, _⟩ := h; simp [nodeP_node]

theorem argsNode_props {args : List (Ast.Str × Value)} {ea : Elem} (h : ArgsNode args ea) :
    nodeP (· == "ARGUMENTS") ea = true ∧ nodeP (· == "NAME") ea = false := by
  obtain ⟨cs, _, _, _, rfl, _⟩ := h; simp [nodeP_node]

theorem cDirective_conv (n : Nat) (d : Directive) (e : Elem) (h : DirTree d e) (hs : size e ≤ n) :
    ConvE (fun R => @cDirective R n) d e := by
  obtain ⟨cs, at', tail, rfl, hvn, hsig, hopt⟩ := h
  intro R s hp
  have hf : (sigE cs).find? (nodeP (· == "NAME")) = some (nameNode d.name) := by rw [hsig]; rfl
  obtain ⟨l1, hl1⟩ := nameOf_node "DIRECTIVE" cs d.name hvn hf R s hp
  have hfa : (sigE cs).find? (nodeP (· == "ARGUMENTS")) = tail.head? := by
    rw [hsig]
    have : nodeP (· == "ARGUMENTS") (nameNode d.name) = false := rfl
    simp only [List.find?_cons, nodeP_tok, this]
    rcases hopt with ⟨_, rfl⟩ | ⟨ea, rfl, ha⟩
    · rfl
    · simp [List.find?_cons, (argsNode_props ha).1]
  obtain ⟨l2, hl2⟩ := argumentsOf_conv n "DIRECTIVE" cs d.args tail hopt hfa
    (by intro e he; rw [hsig]; simp [he]) (by omega) R s hp
  refine ⟨l1 ++ (l2 ++ []), ?_⟩
  show cDirective n _ = _
  unfold cDirective
  exact bind_ok hl1 (bind_ok hl2 (pure_ok _))

/-- `collect_opt(x.directives(), …)` on a node whose DIRECTIVES child (if any) is known -/
theorem directivesOf_conv (n : Nat) (k : SK) (cs : List Elem) (ds : List Directive) (tail : List Elem)
    (hopt : OptDirs ds tail) (hfind : (sigE cs).find? (nodeP (· == "DIRECTIVES")) = tail.head?)
    (hmem : ∀ e ∈ tail, e ∈ sigE cs) (hs : size (.node k cs) ≤ n + 1) :
    ConvE (fun R => @directivesOf R n) ds (.node k cs) := by
  intro R s hp
  rcases hopt with ⟨rfl, rfl⟩ | ⟨ed, rfl, cs', rfl, hall⟩
  · have := childP_none (R := R) (· == "DIRECTIVES") k cs s hp (by rw [find_nodeP_sigE]; exact hfind)
    refine ⟨[], ?_⟩
    show directivesOf n _ = _
    unfold directivesOf
    rw [child_eq_childP, this]; rfl
  · obtain ⟨s', h', hc⟩ := childP_some (R := R) (· == "DIRECTIVES") k cs s hp _ (by rw [find_nodeP_sigE]; exact hfind)
    have hfilter : cs'.filter (nodeP (· == "DIRECTIVE")) = sigE cs' := by
      rw [filter_nodeP_sigE]
      exact all2_filter _ _ (fun d e h => dirTree_nodeP h) _ ds hall
    have hmap := childrenP_map (R := R) (· == "DIRECTIVE") "DIRECTIVES" cs' s' h'
    rw [hfilter] at hmap
    have hszs : sizeList (sigE cs') ≤ n := by
      have h1 := size_le_sizeList (mem_sigE (hmem (Elem.node "DIRECTIVES" cs') (by simp)))
      have h2 : sizeList (sigE cs') ≤ sizeList cs' := sizeList_sigE_le cs'
      simp only [size] at h1 hs
      omega
    have hconv := all2_conv (fun R => @cDirective R n) DirTree n (fun d e h hsz => cDirective_conv n d e h hsz) _ ds hall hszs
    obtain ⟨l, hl⟩ := collectM_conv (R := R) (fun R => @cDirective R n) _ _ ds hmap hconv
    refine ⟨l, ?_⟩
    show directivesOf n _ = _
    unfold directivesOf
    rw [child_eq_childP, hc]
    exact hl

end Apollo.FromCst

namespace Apollo.Parse
open Apollo.Rowan hiding Str
open Apollo.Lex hiding Str
open Apollo.FromCst (ValTree ArgTree ArgsNode OptArgs DirTree DirsNode OptDirs All2)

/-! ### re-association of binds (runs are equal) -/

theorem Tr.of_run {α : Type} {E : PState → Prop} {H : List Tok → Prop} {m m' : PI α} {R : α → List Tok → List Elem → Prop}
    (h : Tr E H m R) (hrun : ∀ s, m'.run s = m.run s) : Tr E H m' R := by
  refine ⟨fun s a s' w hr => h.1 s a s' w (by rw [← hrun]; exact hr), ?_⟩
  intro s a s' w hi he hlq hq hr hnd
  exact h.2 s a s' w hi he hlq hq (by rw [← hrun]; exact hr) hnd

/-! ### arguments -/

/-- one argument `name : Value` -/
def ArgR (c : Bool) (cs : List Tok) (e : List Elem) : Prop :=
  ∃ (a : Ast.Str × Ast.Value) (ea : Elem), TokIs cs (.name a.1 :: .p .colon :: Ast.tValue a.2) ∧ valueOk c a.2 = true ∧
    e = [ea] ∧ ArgTree a ea

theorem tr_argument (n : Nat) (c : Bool) : Tr AtEof (HeadK .name) (argument n c) (fun _ => ArgR c) := by
  unfold argument
  have hb := tr_bind early_atEof (tr_name (E := AtEof) (H := HeadK .name)) (fun _ => tr_colonValue c (tr_value n c false))
  refine (tr_withNode early_atEof "ARGUMENT" (hsig_headK .name rfl) hb).mono (fun _ h => h) ?_
  rintro _ cs e ⟨inner, rfl, _, c1, c2, e1, e2, rfl, hin, ⟨t, hk, hvn, rfl, rfl⟩, t2, v, ev, hk2, h1, h2, rfl, h4⟩
  exact ⟨(t.data, v), _, TokIs.cons (by simp [astOfV, hk]) h1, h2, rfl,
    inner, t2.data, ev, rfl, hvn, by rw [hin]; rfl, h4⟩

theorem itemsT_args (c : Bool) : ∀ (cs : List Tok) (e : List Elem), ItemsT (ArgR c) cs e →
    ∃ args : List (Ast.Str × Ast.Value), TokIs cs (Ast.tArgItems args) ∧ (∀ a ∈ args, valueOk c a.2 = true) ∧
      All2 (fun e a => ArgTree a e) e args := by
  rintro cs e ⟨items, rfl, rfl, hall⟩
  induction items with
  | nil => exact ⟨[], TokIs.nil, by simp, All2.nil⟩
  | cons i items ih =>
    obtain ⟨args, h1, h2, h3⟩ := ih (fun j hj => hall j (List.mem_cons_of_mem _ hj))
    obtain ⟨a, ea, ha1, ha2, ha3, ha4⟩ := hall i List.mem_cons_self
    refine ⟨a :: args, ?_, ?_, ?_⟩
    · simp only [List.map_cons, List.flatten_cons, Ast.tArgItems]
      have := ha1.append h1
      simpa [List.append_assoc] using this
    · intro b hb
      rcases List.mem_cons.mp hb with rfl | hb
      · exact ha2
      · exact h2 b hb
    · simp only [List.map_cons, List.flatten_cons, ha3]
      exact All2.cons ha4 h3

/-- the arguments list `( Argument+ )`, with its closing `)` (so no early exit is left) -/
def ArgsR (c : Bool) (cs : List Tok) (e : List Elem) : Prop :=
  ∃ (args : List (Ast.Str × Ast.Value)) (ea : Elem), args ≠ [] ∧ TokIs cs (Ast.tArguments args) ∧
    (∀ a ∈ args, valueOk c a.2 = true) ∧ e = [ea] ∧ ArgsNode args ea

/-- `first; items*; )` — the part of `arguments` after the look-ahead found a Name -/
theorem tr_argsTail (n : Nat) (c : Bool) :
    Tr NoE (HeadK .name) (argument n c >>= fun _ => peekWhileKind .name (argument n c) >>= fun _ => expect .rParen "R_PAREN")
      (fun _ cs e => ∃ (args : List (Ast.Str × Ast.Value)) (t : Tok), args ≠ [] ∧ t.kind = .rParen ∧
        TokIs cs (Ast.tArgItems args ++ [.p .rParen]) ∧ (∀ a ∈ args, valueOk c a.2 = true) ∧
        ∃ es, e = es ++ [Elem.tok "R_PAREN" t.data] ∧ All2 (fun e a => ArgTree a e) es args) := by
  have hloop := tr_kindWhile (E := AtEof) early_atEof (H := fun _ => True) .name (argument n c) (ArgR c)
    ((tr_argument n c).atKind)
  have h12 := tr_bind early_atEof (tr_argument n c) (fun _ => hloop)
  have hc := tr_close .rParen "R_PAREN" (by decide) rfl (by decide) h12
  refine (hc.of_run (fun s => run_assoc _ _ _ s)).mono (fun _ h => h) ?_
  rintro _ cs e ⟨_, c1, e1, t, rfl, rfl, hk, _, x1, x2, y1, y2, rfl, rfl, hfirst, hitems⟩
  obtain ⟨args, h1, h2, h3⟩ := itemsT_args c x2 y2 hitems
  obtain ⟨a, ea, ha1, ha2, ha3, ha4⟩ := hfirst
  refine ⟨a :: args, t, by simp, hk, ?_, ?_, ea :: y2, by rw [ha3]; simp, All2.cons ha4 h3⟩
  · have hp : TokIs [t] [Ast.Tok.p .rParen] := TokIs.single t _ (by simp [astOfV, hk])
    have := (ha1.append h1).append hp
    simpa [Ast.tArgItems, List.append_assoc] using this
  · intro b hb
    rcases List.mem_cons.mp hb with rfl | hb
    · exact ha2
    · exact h2 b hb

theorem good_argsTail (n : Nat) (c : Bool) :
    Good (peekWhileKind .name (argument n c) >>= fun _ => expect .rParen "R_PAREN") :=
  good_bind _ _ (good_peekWhileKind _ _ (tr_argument n c).1) (fun _ => good_expect _ _)

/-- **`argument.rs::arguments`** entered on `(` -/
theorem tr_arguments (n : Nat) (c : Bool) : Tr NoE (HeadK .lParen) (arguments n c) (fun _ => ArgsR c) := by
  unfold arguments
  have hsel : Tr NoE (fun _ => True) (peek >>= fun k => if k == some Kind.name then
      (argument n c >>= fun _ => peekWhileKind .name (argument n c) >>= fun _ => expect .rParen "R_PAREN")
      else (err >>= fun _ => peekWhileKind .name (argument n c) >>= fun _ => expect .rParen "R_PAREN")) _ :=
    tr_ifKind .name _ _ _ ((tr_argsTail n c).atKind)
      (tr_never (acc_err' _ (good_argsTail n c)))
  have hb := tr_bind early_false (tr_bumpK (E := NoE) "L_PAREN" (by decide) .lParen rfl (by decide)) (fun _ => hsel)
  refine (tr_withNode early_false "ARGUMENTS" (hsig_headK .lParen rfl) hb).mono
    (fun _ h => h) ?_
  rintro _ cs e ⟨inner, rfl, _, c1, c2, e1, e2, rfl, hin, ⟨t, hk, _, rfl, rfl⟩, args, t2, hne, hk2, h1, h2, es, rfl, hall⟩
  refine ⟨args, _, hne, ?_, h2, rfl, inner, t.data, t2.data, es, rfl, by rw [hin]; simp, hall⟩
  have hp : TokIs [t] [Ast.Tok.p .lParen] := TokIs.single t _ (by simp [astOfV, hk])
  have := hp.append h1
  cases args with
  | nil => exact absurd rfl hne
  | cons a r => simpa [Ast.tArguments] using this


/-! ### directives -/

/-- one directive `@name Arguments?` -/
def DirR (c : Bool) (cs : List Tok) (e : List Elem) : Prop :=
  ∃ (d : Ast.Directive) (ed : Elem), TokIs cs (.p .at :: .name d.name :: Ast.tArguments d.args) ∧ argsOk c d.args ∧
    e = [ed] ∧ DirTree d ed

theorem tr_optArguments (n : Nat) (c : Bool) {H : List Tok → Prop} :
    Tr NoE H (peek >>= fun k => if k == some Kind.lParen then arguments n c else pure ())
      (fun _ cs e => ∃ (args : List (Ast.Str × Ast.Value)), TokIs cs (Ast.tArguments args) ∧ argsOk c args ∧ OptArgs args e) := by
  refine tr_ifKind .lParen _ _ _ ((tr_arguments n c).mono (fun _ => kindP_headK) ?_) ((tr_pure NoE _ ()).mono (fun _ h => h) ?_)
  · rintro _ cs e ⟨args, ea, hne, h1, h2, rfl, h4⟩
    exact ⟨args, h1, h2, Or.inr ⟨ea, rfl, h4⟩⟩
  · rintro _ cs e ⟨_, rfl, rfl⟩
    exact ⟨[], TokIs.nil, (by intro a ha; cases ha), Or.inl ⟨rfl, rfl⟩⟩

theorem tr_directive (n : Nat) (c : Bool) : Tr NoE (HeadK .at) (directive n c) (fun _ => DirR c) := by
  unfold directive
  have hb := tr_bind early_false (tr_expect (E := NoE) (H := HeadK .at) .at "AT" (by decide) rfl (by decide))
    (fun _ => tr_bind early_false (tr_name (E := NoE) (H := fun _ => True)) (fun _ => tr_optArguments n c (H := fun _ => True)))
  refine (tr_withNode early_false "DIRECTIVE" (hsig_headK .at rfl) hb).mono (fun _ h => h) ?_
  rintro _ cs e ⟨inner, rfl, _, c1, c2, e1, e2, rfl, hin, ⟨t, hk, rfl, rfl⟩, _, c3, c4, e3, e4, rfl, rfl,
    ⟨t2, hk2, hv2, rfl, rfl⟩, args, h1, h2, h3⟩
  refine ⟨⟨t2.data, args⟩, _, ?_, h2, rfl, inner, t.data, e4, rfl, hv2, by rw [hin]; rfl, h3⟩
  exact TokIs.cons (by simp [astOfV, hk]) (TokIs.cons (by simp [astOfV, hk2]) h1)

theorem itemsT_dirs (c : Bool) : ∀ (cs : List Tok) (e : List Elem), ItemsT (DirR c) cs e →
    ∃ ds : List Ast.Directive, TokIs cs (Ast.tDirectives ds) ∧ dirsOk c ds ∧ All2 (fun e d => DirTree d e) e ds ∧
      (cs ≠ [] → ds ≠ []) := by
  rintro cs e ⟨items, rfl, rfl, hall⟩
  induction items with
  | nil => exact ⟨[], TokIs.nil, (by intro d hd; cases hd), All2.nil, fun h => absurd rfl h⟩
  | cons i items ih =>
    obtain ⟨ds, h1, h2, h3, _⟩ := ih (fun j hj => hall j (List.mem_cons_of_mem _ hj))
    obtain ⟨d, ed, hd1, hd2, hd3, hd4⟩ := hall i List.mem_cons_self
    refine ⟨d :: ds, ?_, ?_, ?_, fun _ => by simp⟩
    · simp only [List.map_cons, List.flatten_cons, Ast.tDirectives]
      have := hd1.append h1
      simpa [List.append_assoc] using this
    · intro b hb
      rcases List.mem_cons.mp hb with rfl | hb
      · exact hd2
      · exact h2 b hb
    · simp only [List.map_cons, List.flatten_cons, hd3]
      exact All2.cons hd4 h3

/-- **`directive.rs::directives`** entered on `@`: `Directive+` under one DIRECTIVES node -/
theorem tr_directives (n : Nat) (c : Bool) :
    Tr NoE (HeadK .at) (directives n c)
      (fun _ cs e => ∃ (ds : List Ast.Directive) (ed : Elem), TokIs cs (Ast.tDirectives ds) ∧ dirsOk c ds ∧
        e = [ed] ∧ DirsNode ds ed) := by
  unfold directives
  have hloop := tr_kindWhile (E := NoE) early_false (H := HeadK .at) .at (directive n c) (DirR c)
    ((tr_directive n c).atKind)
  refine (tr_withNode early_false "DIRECTIVES" (hsig_headK .at rfl) hloop).mono (fun _ h => h) ?_
  rintro _ cs e ⟨inner, rfl, hitems⟩
  obtain ⟨ds, h1, h2, h3, _⟩ := itemsT_dirs c cs (sigE inner) hitems
  exact ⟨ds, _, h1, h2, rfl, inner, rfl, h3⟩

end Apollo.Parse
