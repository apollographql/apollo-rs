import ApolloModel.Proofs.StandaloneWalk2
import ApolloModel.Proofs.Standalone3
/-
C17, document level, the rules of the validation walk: the walk-phase rules as statements about the whole
tree of an operation (its own selection set and every fragment it reaches).
-/
set_option linter.unusedSimpArgs false
set_option linter.unusedVariables false
namespace Apollo.Standalone.Walk
open Apollo Apollo.Standalone

/-- the walk of one operation reports `d` (other than the model's fuel marker) EXACTLY when a reachable site does -/
theorem walk_mem_iff (p : Params) (sc : Schema) (doc : BuiltDoc) (ty : Option Name) (t : Sels) (d : Diag)
    (hd : d ≠ .outOfFuel) :
    d ∈ walkOut p sc doc ty t ↔ ∃ site, Reaches sc doc ty t site ∧ d ∈ site.diags p sc doc := by
  constructor
  · intro h
    rcases walk_diag_reaches p sc doc _ ty t [] d h with h1 | h1
    · exact absurd h1 hd
    · exact h1
  · rintro ⟨site, hr, hm⟩
    exact walk_complete (fun x => x ∈ walkOut p sc doc ty t) p sc doc ty t (fun _ h => h) site hr d hm

/-- a kind that the checks of directives and arguments never report is reported at a site only by the walk itself:
    the rules of §5.3.3, §5.5.2.1, §5.5.1.3 and §5.5.2.2 at one site -/
theorem site_diags_iff (p : Params) (sc : Schema) (doc : BuiltDoc) (site : Site) {d : Diag}
    (hd : ExecRules.Diag.isDirectiveKind d = false) :
    d ∈ site.diags p sc doc ↔
      (d = .missingSubselection ∧ ∃ t name dirs args fd, site = .field (some t) name dirs args true ∧
          sc.field t name = some fd ∧ sc.kind fd.ty = some .composite) ∨
        (d = .undefinedFragment ∧ ∃ f dirs, site = .spread f dirs ∧ doc.findFrag f = none) ∨
        (d = .invalidFragmentTarget ∧ ((∃ t dirs, site = .inline (some t) dirs ∧ sc.kind t ≠ some .composite) ∨
          ∃ fr, site = .fragDef fr ∧ sc.kind fr.tc ≠ some .composite)) ∨
        (d = .recursiveFragmentDefinition ∧ ∃ fr, site = .fragDef fr ∧ fr.name ∈ reach doc fr.sels) := by
  have n1 : ∀ loc ds, d ∉ dirDiags p (some sc) loc ds := fun loc ds h => by
    rw [ExecRules.dirDiags_kind p _ _ _ _ h] at hd; cases hd
  have n2 : ∀ seen as, d ∉ uniqueArgs seen as := fun seen as h => by rw [uniqueArgs_mem _ _ _ h] at hd; cases hd
  have n3 : ∀ defs as, d ∉ undefinedArgs defs as := fun defs as h => by
    rw [Rules.undefinedArgs_kind _ _ _ h] at hd; cases hd
  have n4 : ∀ defs as, d ∉ requiredArgs defs as := fun defs as h => by
    rw [Rules.requiredArgs_kind _ _ _ h] at hd; cases hd
  cases site with
  | field ty name dirs args subNil =>
    cases ty with
    | none => simp [Site.diags, n1, n2]
    | some t =>
      cases hfd : sc.field t name with
      | none => simp [Site.diags, n1, n2, hfd]
      | some fd => cases subNil <;> simp [Site.diags, n1, n2, n3, n4, hfd, and_comm, and_assoc]
  | spread f dirs => cases hf : doc.findFrag f <;> simp [Site.diags, n1, hf]
  | inline tc dirs => cases tc <;> simp [Site.diags, n1, inlineTcd, and_comm]
  | fragDef fr => simp [Site.diags, n1, fragTcd, fragCyc, and_comm]

/-- §5.3.3 at one site -/
theorem site_missing_iff (p : Params) (sc : Schema) (doc : BuiltDoc) (site : Site) :
    Diag.missingSubselection ∈ site.diags p sc doc ↔
      ∃ t name dirs args fd, site = .field (some t) name dirs args true ∧ sc.field t name = some fd ∧
        sc.kind fd.ty = some .composite := by
  simpa using site_diags_iff p sc doc site (d := .missingSubselection) rfl

/-- §5.5.2.1 at one site -/
theorem site_undefinedFragment_iff (p : Params) (sc : Schema) (doc : BuiltDoc) (site : Site) :
    Diag.undefinedFragment ∈ site.diags p sc doc ↔ ∃ f dirs, site = .spread f dirs ∧ doc.findFrag f = none := by
  simpa using site_diags_iff p sc doc site (d := .undefinedFragment) rfl

/-- §5.5.1.3 at one site -/
theorem site_invalidTarget_iff (p : Params) (sc : Schema) (doc : BuiltDoc) (site : Site) :
    Diag.invalidFragmentTarget ∈ site.diags p sc doc ↔
      (∃ t dirs, site = .inline (some t) dirs ∧ sc.kind t ≠ some .composite) ∨
        (∃ fr, site = .fragDef fr ∧ sc.kind fr.tc ≠ some .composite) := by
  simpa using site_diags_iff p sc doc site (d := .invalidFragmentTarget) rfl


/-! ### the rules, for the whole tree of an operation -/

/-- §5.3.3 Leaf Field Selections (second half) -/
theorem missing_subselection_iff_doc (p : Params) (sc : Schema) (doc : BuiltDoc) (ty : Option Name) (t : Sels) :
    Diag.missingSubselection ∈ walkOut p sc doc ty t ↔
      ∃ t0 name dirs args fd, Reaches sc doc ty t (.field (some t0) name dirs args true) ∧ sc.field t0 name = some fd ∧
        sc.kind fd.ty = some .composite := by
  rw [walk_mem_iff p sc doc ty t _ (by intro h; cases h)]
  constructor
  · rintro ⟨site, hr, hm⟩
    obtain ⟨t0, name, dirs, args, fd, rfl, h1, h2⟩ := (site_missing_iff p sc doc site).mp hm
    exact ⟨t0, name, dirs, args, fd, hr, h1, h2⟩
  · rintro ⟨t0, name, dirs, args, fd, hr, h1, h2⟩
    exact ⟨_, hr, (site_missing_iff p sc doc _).mpr ⟨t0, name, dirs, args, fd, rfl, h1, h2⟩⟩

/-- §5.5.2.1 Fragment Spread Target Defined -/
theorem spread_target_defined_iff_doc (p : Params) (sc : Schema) (doc : BuiltDoc) (ty : Option Name) (t : Sels) :
    Diag.undefinedFragment ∈ walkOut p sc doc ty t ↔
      ∃ f dirs, Reaches sc doc ty t (.spread f dirs) ∧ doc.findFrag f = none := by
  rw [walk_mem_iff p sc doc ty t _ (by intro h; cases h)]
  constructor
  · rintro ⟨site, hr, hm⟩
    obtain ⟨f, dirs, rfl, h1⟩ := (site_undefinedFragment_iff p sc doc site).mp hm
    exact ⟨f, dirs, hr, h1⟩
  · rintro ⟨f, dirs, hr, h1⟩
    exact ⟨_, hr, (site_undefinedFragment_iff p sc doc _).mpr ⟨f, dirs, rfl, h1⟩⟩

/-- §5.5.1.3 Fragments On Composite Types: inline fragments and fragment definitions -/
theorem fragments_on_composite_types_iff_doc (p : Params) (sc : Schema) (doc : BuiltDoc) (ty : Option Name) (t : Sels) :
    Diag.invalidFragmentTarget ∈ walkOut p sc doc ty t ↔
      (∃ c dirs, Reaches sc doc ty t (.inline (some c) dirs) ∧ sc.kind c ≠ some .composite) ∨
        (∃ fr, Reaches sc doc ty t (.fragDef fr) ∧ sc.kind fr.tc ≠ some .composite) := by
  rw [walk_mem_iff p sc doc ty t _ (by intro h; cases h)]
  constructor
  · rintro ⟨site, hr, hm⟩
    rcases (site_invalidTarget_iff p sc doc site).mp hm with ⟨c, dirs, rfl, h1⟩ | ⟨fr, rfl, h1⟩
    · exact .inl ⟨c, dirs, hr, h1⟩
    · exact .inr ⟨fr, hr, h1⟩
  · rintro (⟨c, dirs, hr, h1⟩ | ⟨fr, hr, h1⟩)
    · exact ⟨_, hr, (site_invalidTarget_iff p sc doc _).mpr (.inl ⟨c, dirs, rfl, h1⟩)⟩
    · exact ⟨_, hr, (site_invalidTarget_iff p sc doc _).mpr (.inr ⟨fr, rfl, h1⟩)⟩

theorem validateOp_walk (p : Params) (sc : Schema) (doc : BuiltDoc) (o : Op) :
    validateOp p (some sc) doc o =
      dirDiags p (some sc) o.ty.loc o.dirs ++ varDefDiags p (some sc) [] o.vars ++ unusedVarDiags doc o ++
        walkOut p sc doc (sc.root o.ty) o.sels := rfl


/-! ### the fuel of the model never runs out -/

theorem outOfFuel_not_site (p : Params) (sc : Schema) (doc : BuiltDoc) (site : Site) :
    Diag.outOfFuel ∉ site.diags p sc doc := by
  simpa using site_diags_iff p sc doc site (d := .outOfFuel) rfl

theorem local_noFuel (p : Params) (s : Option Schema) : Local (· ≠ .outOfFuel) p s where
  dirs := by
    intro loc ds d hd h
    subst h
    have := ExecRules.dirDiags_kind p _ _ _ _ hd
    simp [ExecRules.Diag.isDirectiveKind] at this
  own := by
    intro d hd h
    subst h
    cases s <;> simp [walkKinds] at hd

/-- the recursion fuel of the model (the number of fragment definitions) is enough for every document: the walk of
    an operation never reports the model's own `outOfFuel` -/
theorem walk_fuel_suffices (p : Params) (sc : Schema) (doc : BuiltDoc) (ty : Option Name) (t : Sels) :
    Diag.outOfFuel ∉ walkOut p sc doc ty t :=
  fun h => walk_all (local_noFuel p (some sc)) doc ty t _ h rfl

theorem walk_mem_iff_all (p : Params) (sc : Schema) (doc : BuiltDoc) (ty : Option Name) (t : Sels) (d : Diag) :
    d ∈ walkOut p sc doc ty t ↔ ∃ site, Reaches sc doc ty t site ∧ d ∈ site.diags p sc doc := by
  by_cases hd : d = .outOfFuel
  · subst hd
    constructor
    · intro h; exact absurd h (walk_fuel_suffices p sc doc ty t)
    · rintro ⟨site, _, hm⟩; exact absurd hm (outOfFuel_not_site p sc doc site)
  · exact walk_mem_iff p sc doc ty t d hd

end Apollo.Standalone.Walk
