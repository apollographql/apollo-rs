import ApolloModel.Spec.DirectiveApplications
/-
C14: `validate_directives` with a schema pushes no diagnostic iff the applied directives satisfy
the specification's rules (values aside).
-/
namespace Apollo.DirApps
open Apollo.Standalone Apollo.DirApps.Spec

theorem argDefDups_zero_iff : ∀ (ns seen : List Name),
    argDefDups seen ns = 0 ↔ ns.Nodup ∧ ∀ n ∈ ns, n ∉ seen := by
  intro ns
  induction ns with
  | nil => intro seen; simp [argDefDups]
  | cons n ns ih =>
    intro seen
    unfold argDefDups
    by_cases h : n ∈ seen
    · simp only [h, if_true]
      constructor
      · intro h'; omega
      · intro ⟨_, h2⟩; exact absurd h (h2 n List.mem_cons_self)
    · rw [if_neg h]
      simp only [ih, List.nodup_cons, List.mem_cons, forall_eq_or_imp, not_or]
      constructor
      · intro ⟨hnd, hav⟩
        exact ⟨⟨fun hm => (hav n hm).1 rfl, hnd⟩, h, fun x hx => (hav x hx).2⟩
      · intro ⟨⟨hnot, hnd⟩, _, hav⟩
        exact ⟨hnd, fun x hx => ⟨fun heq => hnot (heq ▸ hx), hav x hx⟩⟩

/-- the loop over applied arguments pushes one diagnostic per repeated name, like the count over definitions -/
theorem uniqueArgs_length : ∀ (args : List Arg) (seen : List Name),
    (uniqueArgs seen args).length = argDefDups seen (args.map (·.name)) := by
  intro args
  induction args with
  | nil => intro seen; rfl
  | cons a as ih =>
    intro seen
    simp only [uniqueArgs, List.map_cons, argDefDups]
    split <;> simp [ih]

theorem uniqueArgs_nil_iff (args : List Arg) (seen : List Name) :
    uniqueArgs seen args = [] ↔ (args.map (·.name)).Nodup ∧ ∀ a ∈ args, a.name ∉ seen := by
  rw [← List.length_eq_zero_iff, uniqueArgs_length, argDefDups_zero_iff]
  simp

theorem undefinedArgs_nil_iff (defs : List ArgDef) (args : List Arg) :
    undefinedArgs defs args = [] ↔ ∀ a ∈ args, ∃ ad ∈ defs, ad.name = a.name := by
  unfold undefinedArgs
  rw [List.map_eq_nil_iff, List.filter_eq_nil_iff]
  constructor
  · intro h a ha
    have := h a ha
    simpa using this
  · intro h a ha
    obtain ⟨ad, had, hn⟩ := h a ha
    simp only [Bool.not_eq_false, List.any_eq_true, beq_iff_eq, Bool.not_eq_eq_eq_not, Bool.not_true]
    simpa using ⟨ad, had, hn⟩

theorem find?_of_nodup : ∀ (args : List Arg) (a : Arg), (args.map (·.name)).Nodup → a ∈ args →
    args.find? (fun x => x.name == a.name) = some a := by
  intro args
  induction args with
  | nil => intro a _ h; cases h
  | cons x xs ih =>
    intro a hnd ha
    rw [List.map_cons, List.nodup_cons] at hnd
    rcases List.mem_cons.mp ha with rfl | hmem
    · simp
    · have hne : x.name ≠ a.name := fun heq => hnd.1 (heq ▸ List.mem_map.mpr ⟨a, hmem, rfl⟩)
      simp only [List.find?_cons]
      have : (x.name == a.name) = false := by simpa using hne
      rw [this]
      exact ih a hnd.2 hmem

theorem requiredArgs_nil_iff (defs : List ArgDef) (args : List Arg) (hnd : (args.map (·.name)).Nodup) :
    requiredArgs defs args = [] ↔
      ∀ ad ∈ defs, ad.required = true → ∃ a ∈ args, a.name = ad.name ∧ a.value.isNull = false := by
  unfold requiredArgs
  rw [List.map_eq_nil_iff, List.filter_eq_nil_iff]
  constructor
  · intro h ad had hreq
    have := h ad had
    simp only [hreq, Bool.true_and] at this
    cases hf : args.find? (fun a => a.name == ad.name) with
    | none => simp [hf] at this
    | some a =>
      simp only [hf] at this
      refine ⟨a, List.mem_of_find?_eq_some hf, by simpa using List.find?_some hf, ?_⟩
      cases hn : a.value.isNull
      · rfl
      · simp [hn] at this
  · intro h ad had
    cases hreq : ad.required
    · simp
    · obtain ⟨a, ha, hname, hnull⟩ := h ad had hreq
      have hf := find?_of_nodup args a hnd ha
      rw [hname] at hf
      simp [hf, hnull]

/-- the invariant of the loop with its `seen_directives` -/
theorem dirDiagsAux_nil_iff (p : Params) (sc : Schema) (loc : Loc) : ∀ (dirs : List Dir) (seen : List Name),
    dirDiagsAux p (some sc) loc seen dirs = [] ↔
      (∀ d ∈ dirs, DirectiveValid sc.dirDef loc d) ∧
      (∀ d ∈ dirs, d.name ∈ seen → ∀ df, sc.dirDef d.name = some df → df.repeatable = true) ∧
      dirs.Pairwise (fun d1 d2 => d1.name = d2.name → ∀ df, sc.dirDef d2.name = some df → df.repeatable = true) := by
  intro dirs
  induction dirs with
  | nil => intro seen; simp [dirDiagsAux]
  | cons d ds ih =>
    intro seen
    simp only [dirDiagsAux, Option.bind_some, List.append_eq_nil_iff, ih, List.mem_cons, forall_eq_or_imp,
      List.pairwise_cons, Option.isSome_some, Bool.true_or, if_true]
    rcases Option.eq_none_or_eq_some (sc.dirDef d.name) with hdd | ⟨df, hdd⟩
    · simp only [DirectiveValid, hdd]
      constructor
      · intro ⟨⟨⟨_, _⟩, h⟩, _⟩; simp at h
      · intro ⟨⟨⟨df, h, _⟩, _⟩, _⟩; cases h
    · simp only [hdd, Option.map_some, Option.getD_some, List.append_eq_nil_iff, Option.some.injEq, forall_eq']
      have hseen' : ∀ x : Name, x ∈ (if d.name ∈ seen then seen else d.name :: seen) ↔ (x ∈ seen ∨ x = d.name) := by
        intro x
        by_cases hm : d.name ∈ seen
        · simp only [hm, if_true]
          constructor
          · exact Or.inl
          · rintro (h | h)
            · exact h
            · exact h ▸ hm
        · simp only [hm, if_false, List.mem_cons]
          constructor
          · rintro (h | h)
            · exact Or.inr h
            · exact Or.inl h
          · rintro (h | h)
            · exact Or.inr h
            · exact Or.inl h
      constructor
      · intro ⟨⟨⟨ha, hb⟩, ⟨hloc, hund⟩, hreq⟩, hvalid, hseen, hpw⟩
        have ha' := (uniqueArgs_nil_iff d.args []).mp ha
        have hloc' : loc ∈ df.locs := by
          by_cases hl : loc ∈ df.locs
          · exact hl
          · simp [hl] at hloc
        refine ⟨⟨⟨df, hdd, hloc', ha'.1, (undefinedArgs_nil_iff _ _).mp hund,
          (requiredArgs_nil_iff _ _ ha'.1).mp hreq⟩, hvalid⟩, ⟨?_, ?_⟩, ?_, hpw⟩
        · intro hm
          by_cases hr : df.repeatable = true
          · exact hr
          · simp [hm, hr] at hb
        · intro d' hd' hm; exact hseen d' hd' ((hseen' _).mpr (Or.inl hm))
        · intro d' hd' heq; exact hseen d' hd' ((hseen' _).mpr (Or.inr heq.symm))
      · intro ⟨⟨⟨df', hdf', hloc, hnd, hund, hreq⟩, hvalid⟩, ⟨hrep, hseen⟩, hfirst, hpw⟩
        rw [hdd] at hdf'
        have : df = df' := by simpa using hdf'
        subst this
        refine ⟨⟨⟨(uniqueArgs_nil_iff d.args []).mpr ⟨hnd, by simp⟩, ?_⟩, ⟨by simp [hloc], (undefinedArgs_nil_iff _ _).mpr hund⟩,
          (requiredArgs_nil_iff _ _ hnd).mpr hreq⟩, hvalid, ?_, hpw⟩
        · by_cases hm : d.name ∈ seen
          · simp [hm, hrep hm]
          · simp [hm]
        · intro d' hd' hm
          rcases (hseen' _).mp hm with h | h
          · exact hseen d' hd' h
          · exact hfirst d' hd' h.symm

theorem schemaDirDiags_nil_iff (dirDef : Name → Option DirDef) (loc : Loc) (dirs : List Dir) :
    schemaDirDiags dirDef loc dirs = [] ↔ DirectivesValid dirDef loc dirs := by
  unfold schemaDirDiags dirDiags DirectivesValid
  rw [dirDiagsAux_nil_iff]
  simp [view]

end Apollo.DirApps
