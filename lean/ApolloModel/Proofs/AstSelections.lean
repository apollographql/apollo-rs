import ApolloModel.Proofs.AstValues
/-
Round trip of arguments, directives and selection sets through the reference parser.
-/
namespace Apollo.Ast

/-! ### arguments -/

def tArgItems : List (Str × Value) → List Tok
  | [] => []
  | a :: r => .name a.1 :: .p .colon :: tValue a.2 ++ tArgItems r

def tArguments (args : List (Str × Value)) : List Tok :=
  if args.isEmpty then [] else .p .lParen :: tArgItems args ++ [.p .rParen]

theorem toksAll_cArgument (args : List (Str × Value)) : toksAll (args.map cArgument) = tArgItems args := by
  induction args with
  | nil => rfl
  | cons a r ih => simp [cArgument, tArgItems, toksOf_cValue, ih]

theorem toksOf_cArguments (args : List (Str × Value)) : toksOf (cArguments args) = tArguments args := by
  unfold cArguments tArguments
  split
  · rfl
  · simp [toksOf_commaSeparated, toksAll_cArgument]

def wfArgs : List (Str × Value) → Bool
  | [] => true
  | a :: r => wfValue a.2 && wfArgs r

def szArgs : List (Str × Value) → Nat
  | [] => 1
  | a :: r => szValue a.2 + szArgs r + 1

theorem argsTail_roundtrip : ∀ (args : List (Str × Value)) (f : Nat) (rest : List Tok), wfArgs args = true →
    szArgs args ≤ f → pArgsTail f (tArgItems args ++ .p .rParen :: rest) = some (args, rest)
  | [], f + 1, rest, _, _ => by simp [tArgItems, pArgsTail]
  | a :: r, f + 1, rest, h, hs => by
      simp [wfArgs] at h
      simp [szArgs] at hs
      have hv := value_roundtrip a.2 f (tArgItems r ++ .p .rParen :: rest) h.1 (by omega)
      have htl := argsTail_roundtrip r f rest h.2 (by omega)
      simp [tArgItems, pArgsTail, hv, htl]
  | [], 0, _, _, hs | _ :: _, 0, _, _, hs => by simp [szArgs] at hs

/-- the token after an optional `( … )` group that is absent must not be `(` -/
def notLParen (ts : List Tok) : Prop := ts.head? ≠ some (.p .lParen)

theorem pArguments_none (f : Nat) (rest : List Tok) (h : notLParen rest) : pArguments f rest = some ([], rest) :=
  pArguments.eq_2 f rest (head_ne h)

theorem arguments_roundtrip (args : List (Str × Value)) (f : Nat) (rest : List Tok) (h : wfArgs args = true)
    (hs : szArgs args ≤ f) (hr : notLParen rest) : pArguments f (tArguments args ++ rest) = some (args, rest) := by
  cases args with
  | nil => simpa [tArguments] using pArguments_none f rest hr
  | cons a r =>
    have := argsTail_roundtrip (a :: r) f rest h hs
    simp [tArguments, pArguments, this]

/-! ### directives -/

def tDirectives : List Directive → List Tok
  | [] => []
  | d :: r => .p .at :: .name d.name :: tArguments d.args ++ tDirectives r

theorem cDirectives_cons (d : Directive) (r : List Directive) :
    cDirectives (d :: r) = sp :: cDirective d ++ cDirectives r := by
  simp [cDirectives]

theorem toksOf_cDirectives (ds : List Directive) : toksOf (cDirectives ds) = tDirectives ds := by
  induction ds with
  | nil => rfl
  | cons d r ih => simp [cDirectives_cons, cDirective, toksOf_cArguments, tDirectives, ih]

def wfDirs : List Directive → Bool
  | [] => true
  | d :: r => wfArgs d.args && wfDirs r

def szDirs : List Directive → Nat
  | [] => 1
  | d :: r => szArgs d.args + szDirs r + 1

/-- what may follow a directive list: neither `@` (another directive) nor `(` (arguments of the last one) -/
def dirFollow (ts : List Tok) : Prop := ts.head? ≠ some (.p .at) ∧ ts.head? ≠ some (.p .lParen)

theorem pDirectives_none (f : Nat) (rest : List Tok) (h : rest.head? ≠ some (.p .at)) :
    pDirectives (f + 1) rest = some ([], rest) :=
  pDirectives.eq_3 rest f (fun _ _ => head_ne h _)

theorem tDirectives_head (ds : List Directive) (rest : List Tok) (h : dirFollow rest) :
    notLParen (tDirectives ds ++ rest) := by
  cases ds with
  | nil => simpa [tDirectives, notLParen] using h.2
  | cons d r => simp [tDirectives, notLParen]

theorem directives_roundtrip : ∀ (ds : List Directive) (f : Nat) (rest : List Tok), wfDirs ds = true →
    szDirs ds ≤ f → dirFollow rest → pDirectives f (tDirectives ds ++ rest) = some (ds, rest)
  | [], f + 1, rest, _, _, hr => by simpa [tDirectives] using pDirectives_none f rest hr.1
  | d :: r, f + 1, rest, h, hs, hr => by
      simp [wfDirs] at h
      simp [szDirs] at hs
      have ha := arguments_roundtrip d.args f (tDirectives r ++ rest) h.1 (by omega) (tDirectives_head r rest hr)
      have htl := directives_roundtrip r f rest h.2 (by omega) hr
      simp only [tDirectives, List.cons_append, List.append_assoc]
      simp [pDirectives, ha, htl]
  | [], 0, _, _, hs, _ | _ :: _, 0, _, _, hs, _ => by simp [szDirs] at hs

/-! ### selection sets -/

mutual
def tSel : Sel → List Tok
  | .field alias name args dirs sels =>
    (match alias with | some a => [.name a, .p .colon] | none => [])
      ++ .name name :: tArguments args ++ tDirectives dirs
      ++ tSubSels sels
  | .spread name dirs => .p .spread :: .name name :: tDirectives dirs
  | .inline tc dirs sels =>
    (match tc with | some t => [.p .spread, .name sOn, .name t] | none => [.p .spread])
      ++ tDirectives dirs ++ .p .lCurly :: tSels sels ++ [.p .rCurly]
def tSels : Sels → List Tok
  | .nil => []
  | .cons s tl => tSel s ++ tSels tl
def tSubSels : Sels → List Tok
  | .nil => []
  | .cons s tl => .p .lCurly :: (tSel s ++ tSels tl) ++ [.p .rCurly]
end

theorem tSubSels_cons (s : Sel) (tl : Sels) : tSubSels (.cons s tl) = .p .lCurly :: tSels (.cons s tl) ++ [.p .rCurly] := by
  simp [tSubSels, tSels]

mutual
theorem toksOf_cSel : ∀ s : Sel, toksOf (cSel s) = tSel s
  | .field alias name args dirs sels => by
      have := toksAll_cSels sels
      cases alias <;> cases sels <;>
        simp_all [cSel, tSel, toksOf_cArguments, toksOf_cDirectives, toksOf_curly, tSels, cSels, tSubSels]
  | .spread name dirs => by simp [cSel, tSel, toksOf_cDirectives]
  | .inline tc dirs sels => by
      have := toksAll_cSels sels
      cases tc <;> simp_all [cSel, tSel, toksOf_cDirectives, toksOf_curly, sOn]
theorem toksAll_cSels : ∀ ss : Sels, toksAll (cSels ss) = tSels ss
  | .nil => rfl
  | .cons s tl => by simp [cSels, tSels, toksOf_cSel s, toksAll_cSels tl]
end

mutual
/-- spreads are not named `on`; inline fragments have a non-empty selection set; values as in `wfValue` -/
def wfSel : Sel → Bool
  | .field _ _ args dirs sels => wfArgs args && wfDirs dirs && wfSels sels
  | .spread name dirs => name != sOn && wfDirs dirs
  | .inline _ dirs sels => wfDirs dirs && wfSels sels && (match sels with | .nil => false | _ => true)
def wfSels : Sels → Bool
  | .nil => true
  | .cons s tl => wfSel s && wfSels tl
end

mutual
def szSel : Sel → Nat
  | .field _ _ args dirs sels => szArgs args + szDirs dirs + szSels sels + 3
  | .spread _ dirs => szDirs dirs + 2
  | .inline _ dirs sels => szDirs dirs + szSels sels + 3
def szSels : Sels → Nat
  | .nil => 1
  | .cons s tl => szSel s + szSels tl + 2
end

/-- what may follow a selection inside a selection set: another selection or the closing brace -/
def selFollow : List Tok → Bool
  | .name _ :: _ => true
  | .p .spread :: _ => true
  | .p .rCurly :: _ => true
  | _ => false

theorem selFollow_p {ts : List Tok} (h : selFollow ts = true) (k : P) (hk : ts.head? = some (.p k)) :
    k = .spread ∨ k = .rCurly := by
  cases ts with
  | nil => simp at hk
  | cons a r =>
    simp only [List.head?_cons, Option.some.injEq] at hk
    subst hk
    cases k <;> simp_all [selFollow]

theorem selFollow_ne {ts : List Tok} (h : selFollow ts = true) (k : P) (h1 : k ≠ .spread) (h2 : k ≠ .rCurly) :
    ts.head? ≠ some (.p k) := by
  intro e; rcases selFollow_p h k e with h | h <;> contradiction

theorem selFollow_dirFollow {ts : List Tok} (h : selFollow ts = true) : dirFollow ts :=
  ⟨selFollow_ne h .at (by decide) (by decide), selFollow_ne h .lParen (by decide) (by decide)⟩

theorem selFollow_notLCurly {ts : List Tok} (h : selFollow ts = true) : ts.head? ≠ some (.p .lCurly) :=
  selFollow_ne h .lCurly (by decide) (by decide)

theorem tSel_selFollow (s : Sel) (r : List Tok) : selFollow (tSel s ++ r) = true := by
  cases s with
  | field alias name args dirs sels => cases alias <;> simp [tSel, selFollow]
  | spread name dirs => simp [tSel, selFollow]
  | inline tc dirs sels => cases tc <;> simp [tSel, selFollow]

theorem tSels_selFollow (ss : Sels) (rest : List Tok) : selFollow (tSels ss ++ .p .rCurly :: rest) = true := by
  cases ss with
  | nil => simp [tSels, selFollow]
  | cons s tl => simp only [tSels, List.append_assoc]; exact tSel_selFollow s _

theorem pSelsTail_cons (f : Nat) (s : Sel) (ts r1 : List Tok) (ss : Sels) (r2 : List Tok)
    (hh : ts.head? ≠ some (.p .rCurly)) (h1 : pSel f ts = some (s, r1)) (h2 : pSelsTail f r1 = some (ss, r2)) :
    pSelsTail (f + 1) ts = some (.cons s ss, r2) := by
  rw [pSelsTail.eq_3 ts f (head_ne hh)]
  simp only [h1, h2]

theorem tSel_head_ne_rCurly (s : Sel) (r : List Tok) : (tSel s ++ r).head? ≠ some (.p .rCurly) := by
  cases s with
  | field alias name args dirs sels => cases alias <;> simp [tSel]
  | spread name dirs => simp [tSel]
  | inline tc dirs sels => cases tc <;> simp [tSel]

theorem pFieldRest_leaf (f : Nat) (alias : Option Str) (n : Str) (ts : List Tok) (as : List (Str × Value))
    (r1 : List Tok) (ds : List Directive) (r2 : List Tok) (ha : pArguments f ts = some (as, r1))
    (hd : pDirectives f r1 = some (ds, r2)) (hr : r2.head? ≠ some (.p .lCurly)) :
    pFieldRest (f + 1) alias n ts = some (.field alias n as ds .nil, r2) := by
  cases r2 with
  | nil => simp [pFieldRest, ha, hd]
  | cons a r =>
    simp only [List.head?_cons, ne_eq, Option.some.injEq] at hr
    cases a with
    | p k => cases k <;> first | exact absurd rfl hr | simp [pFieldRest, ha, hd]
    | _ => simp [pFieldRest, ha, hd]

/-- a field without alias: the token after its name is `(`, `@`, `{` or the follow token, never `:` -/
theorem pSel_field_noalias (f : Nat) (name : Str) (X : List Tok) (h : X.head? ≠ some (.p .colon)) :
    pSel (f + 1) (.name name :: X) = pFieldRest f none name X :=
  pSel.eq_6 f name X (fun _ _ => head_ne h _)

theorem fieldTail_head_ne_colon (args : List (Str × Value)) (dirs : List Directive) (sels : Sels) (rest : List Tok)
    (hr : selFollow rest = true) :
    (tArguments args ++ (tDirectives dirs ++ (tSubSels sels ++ rest))).head? ≠ some (.p .colon) := by
  cases args with
  | cons a r => simp [tArguments]
  | nil =>
    cases dirs with
    | cons d r => simp [tArguments, tDirectives]
    | nil =>
      cases sels with
      | cons s tl => simp [tArguments, tDirectives, tSubSels]
      | nil =>
        simp only [tArguments, tDirectives, tSubSels, List.isEmpty_nil, List.nil_append, if_true]
        exact selFollow_ne hr .colon (by decide) (by decide)

mutual
theorem sel_roundtrip : ∀ (s : Sel) (f : Nat) (rest : List Tok), wfSel s = true → szSel s ≤ f →
    selFollow rest = true → pSel f (tSel s ++ rest) = some (s, rest)
  | .field alias name args dirs sels, f + 1, rest, h, hs, hr => by
      have hfr := fieldRest_roundtrip alias name args dirs sels f rest
        (by simpa [wfSel] using h) (by simp [szSel] at hs; omega) hr
      cases alias with
      | none =>
        simp only [tSel, List.nil_append, List.cons_append, List.append_assoc] at hfr ⊢
        rw [pSel_field_noalias f name _ (fieldTail_head_ne_colon args dirs sels rest hr)]
        exact hfr
      | some a =>
        simp only [tSel, List.cons_append, List.nil_append, List.append_assoc] at hfr ⊢
        simpa [pSel] using hfr
  | .spread name dirs, f + 1, rest, h, hs, hr => by
      simp [wfSel] at h
      have hd := directives_roundtrip dirs f rest h.2 (by simp [szSel] at hs; omega) (selFollow_dirFollow hr)
      simp [tSel, pSel, h.1, hd]
  | .inline tc dirs sels, f + 1, rest, h, hs, hr => by
      simp only [wfSel, Bool.and_eq_true] at h
      have hne : sels ≠ .nil := by intro e; subst e; simp at h
      have hd := directives_roundtrip dirs f (.p .lCurly :: (tSels sels ++ .p .rCurly :: rest)) h.1.1
        (by simp [szSel] at hs; omega) (by simp [dirFollow])
      have hss := selsNE_roundtrip sels f rest hne h.1.2 (by simp [szSel] at hs; omega)
      cases tc with
      | some t =>
        simp only [tSel, List.cons_append, List.nil_append, List.append_assoc] at hd ⊢
        simp [pSel, sOn, hd, hss]
      | none =>
        simp only [tSel, List.cons_append, List.nil_append, List.append_assoc] at hd ⊢
        -- after `...` comes `@` or `{`: not a name
        cases dirs with
        | nil => simp only [tDirectives, List.nil_append] at hd ⊢; simp [pSel, hd, hss]
        | cons d r => simp only [tDirectives, List.cons_append, List.append_assoc] at hd ⊢; simp [pSel, hd, hss]
  | .field _ _ _ _ _, 0, _, _, hs, _ | .spread _ _, 0, _, _, hs, _ | .inline _ _ _, 0, _, _, hs, _ => by
      simp [szSel] at hs
theorem fieldRest_roundtrip : ∀ (alias : Option Str) (name : Str) (args : List (Str × Value)) (dirs : List Directive)
    (sels : Sels) (f : Nat) (rest : List Tok), (wfArgs args && wfDirs dirs && wfSels sels) = true →
    szArgs args + szDirs dirs + szSels sels + 2 ≤ f → selFollow rest = true →
    pFieldRest f alias name (tArguments args ++ tDirectives dirs ++ tSubSels sels ++ rest)
      = some (.field alias name args dirs sels, rest)
  | alias, name, args, dirs, .nil, f + 1, rest, h, hs, hr => by
      simp only [Bool.and_eq_true] at h
      have ha := arguments_roundtrip args f (tDirectives dirs ++ rest) h.1.1 (by omega)
        (tDirectives_head dirs rest (selFollow_dirFollow hr))
      have hd := directives_roundtrip dirs f rest h.1.2 (by omega) (selFollow_dirFollow hr)
      simp only [tSubSels, List.append_nil, List.append_assoc]
      exact pFieldRest_leaf f alias name _ _ _ _ _ ha hd (selFollow_notLCurly hr)
  | alias, name, args, dirs, .cons s tl, f + 1, rest, h, hs, hr => by
      simp only [Bool.and_eq_true] at h
      have hfollow : dirFollow (.p .lCurly :: (tSels (.cons s tl) ++ .p .rCurly :: rest)) := by simp [dirFollow]
      have ha := arguments_roundtrip args f (tDirectives dirs ++ .p .lCurly :: (tSels (.cons s tl) ++ .p .rCurly :: rest))
        h.1.1 (by omega) (tDirectives_head dirs _ hfollow)
      have hd := directives_roundtrip dirs f _ h.1.2 (by omega) hfollow
      have hss := selsNE_roundtrip (.cons s tl) f rest (by simp) h.2 (by omega)
      rw [tSubSels_cons]
      simp only [List.append_assoc, List.cons_append, List.nil_append] at ha ⊢
      simp [pFieldRest, ha, hd, hss]
  | _, _, _, _, _, 0, _, _, hs, _ => by omega
theorem selsNE_roundtrip : ∀ (ss : Sels) (f : Nat) (rest : List Tok), ss ≠ .nil → wfSels ss = true → szSels ss ≤ f →
    pSelsNE f (tSels ss ++ .p .rCurly :: rest) = some (ss, rest)
  | .cons s tl, f + 1, rest, _, h, hs => by
      simp [wfSels] at h
      simp [szSels] at hs
      have h1 := sel_roundtrip s f (tSels tl ++ .p .rCurly :: rest) h.1 (by omega) (tSels_selFollow tl rest)
      have h2 := selsTail_roundtrip tl f rest h.2 (by omega)
      simp only [tSels, List.append_assoc]
      simp [pSelsNE, h1, h2]
  | .nil, _, _, hne, _, _ => absurd rfl hne
  | .cons _ _, 0, _, _, _, hs => by simp [szSels] at hs
theorem selsTail_roundtrip : ∀ (ss : Sels) (f : Nat) (rest : List Tok), wfSels ss = true → szSels ss ≤ f →
    pSelsTail f (tSels ss ++ .p .rCurly :: rest) = some (ss, rest)
  | .nil, f + 1, rest, _, _ => by simp [tSels, pSelsTail]
  | .cons s tl, f + 1, rest, h, hs => by
      simp [wfSels] at h
      simp [szSels] at hs
      have h1 := sel_roundtrip s f (tSels tl ++ .p .rCurly :: rest) h.1 (by omega) (tSels_selFollow tl rest)
      have h2 := selsTail_roundtrip tl f rest h.2 (by omega)
      simp only [tSels, List.append_assoc]
      exact pSelsTail_cons f s _ _ tl rest (tSel_head_ne_rCurly s _) h1 h2
  | .nil, 0, _, _, hs | .cons _ _, 0, _, _, hs => by simp [szSels] at hs
end

end Apollo.Ast
