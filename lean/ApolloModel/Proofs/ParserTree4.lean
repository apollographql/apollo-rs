import ApolloModel.Proofs.ParserTree1
import ApolloModel.Proofs.ParserRecursion2
/-
C08 (pipeline): combinators of the tree calculus — `expect`, the recursion guard, optional parts, the
`peek_while` / `peek_while_kind` loops.
-/
set_option linter.unusedSimpArgs false
set_option linter.unusedVariables false

namespace Apollo.Parse
open Apollo.Rowan hiding Str
open Apollo.Lex hiding Str

/-! ### never error-free -/

theorem acc_pushErr {E : PState → Prop} {H : List Tok → Prop} (e : PErr) : Acc E H (pushErr e) (fun _ _ => False) := by
  refine ⟨good_pushErr e, ?_⟩
  intro s a s' w he _ hr hnd
  exact absurd (pushErr_adv e s s' w hr).2 hnd

theorem tr_pushErr {E : PState → Prop} {H : List Tok → Prop} (e : PErr) {R : Unit → List Tok → List Elem → Prop} :
    Tr E H (pushErr e) R := tr_never (acc_pushErr e)

theorem tr_errAtToken {E : PState → Prop} {H : List Tok → Prop} (t : Tok) {R : Unit → List Tok → List Elem → Prop} :
    Tr E H (errAtToken t) R := tr_pushErr _

theorem acc_emptyQueue {α : Type} {E : PState → Prop} {m : PI α} (hg : Good m) :
    Acc E (fun q => q.head? = none) m (fun _ _ => False) := by
  refine ⟨hg, ?_⟩
  intro s a s' w he hq hr hnd
  exfalso
  have hnds : ¬ Doomed s := fun d => hnd ((hg s a s' w hr).doom d)
  have : Toks s = [] := by
    cases ht : Toks s with
    | nil => rfl
    | cons x y => rw [ht] at hq; cases hq
  exact eofEnd_nonempty s he hnds this

theorem acc_limitErr {E : PState → Prop} {H : List Tok → Prop} : Acc E H limitErr (fun _ _ => False) := by
  refine ⟨good_limitErr, ?_⟩
  intro s a s' w he _ hr hnd
  exfalso
  obtain ⟨ad, d⟩ := limitErr_adv s s' w hr
  have hnds : ¬ Doomed s := fun dd => hnd (ad.doom dd)
  exact hnd (d (eofEnd_nonempty s he hnds))

/-- anything after `limit_err`: never error-free -/
theorem tr_limitErr_then {α : Type} {E : PState → Prop} {H : List Tok → Prop} (rest : PI α) (hg : Good rest)
    {R : α → List Tok → List Elem → Prop} : Tr E H (limitErr >>= fun _ => rest) R := by
  apply tr_never
  refine ⟨good_bind _ _ good_limitErr (fun _ => hg), ?_⟩
  intro s a s' w he _ hr hnd
  exfalso
  obtain ⟨_, s1, h1, h2⟩ := bind_dec limitErr _ s s' a hr
  obtain ⟨ad, d⟩ := limitErr_adv s s1 w h1
  have hnds : ¬ Doomed s := fun dd => hnd ((hg s1 a s' ad.w h2).doom (ad.doom dd))
  exact hnd ((hg s1 a s' ad.w h2).doom (d (eofEnd_nonempty s he hnds)))

/-! ### `expect` -/

theorem tr_expect {E : PState → Prop} {H : List Tok → Prop} (token : Kind) (sk : SK) (hk : isJunkKind sk = false)
    (hni : isIgnoredKind token = false) (hne : token ≠ .eof) :
    Tr E H (expect token sk) (fun _ cs e => ∃ t, t.kind = token ∧ cs = [t] ∧ e = [Elem.tok sk t.data]) := by
  unfold expect
  apply tr_peekToken
  intro o
  cases o with
  | none => exact (tr_never (acc_emptyQueue (good_pure ()))).mono (fun _ h => h.2) (fun _ _ _ h => h)
  | some t =>
    simp only []
    refine tr_ite _ (fun hkt => ?_) (fun _ => tr_pushErr _)
    have hkt' : t.kind = token := by simpa using hkt
    refine (tr_bump sk hk (fun t' => t' = t) (by rintro t' rfl; rw [hkt']; exact ⟨hni, hne⟩)).mono ?_ ?_
    · rintro q ⟨_, hh⟩; exact ⟨t, hh, rfl⟩
    · rintro _ cs e ⟨t', rfl, _, hcs, he⟩
      exact ⟨t', hkt', hcs, he⟩

/-! ### the recursion guard -/

theorem inv_rec {s : PState} (hi : Inv s) (c h : Nat) : Inv { s with recCur := c, recHigh := h } :=
  ⟨hi.text, hi.parents, hi.lexDone, hi.eofTok, hi.errNonempty⟩

theorem tr_withRec {α : Type} {E : PState → Prop} (hE : Early E) {H : List Tok → Prop} {onLimit body : PI α}
    {R : α → List Tok → List Elem → Prop} (hl : Tr E H onLimit R) (hb : Tr E H body R) :
    Tr E H (withRec onLimit body) R := by
  refine ⟨good_withRec _ _ hl.1 hb.1, ?_⟩
  intro s a s' w hi he hlq hq hr hnd
  rcases withRec_decH onLimit body s s' a hr with ⟨_, h1⟩ | ⟨_, s2, h1, rfl⟩
  · have w1 : TW { s with recHigh := max s.recHigh (s.recCur + 1) } := ⟨w.limit, w.acc⟩
    have := hl.2 { s with recHigh := max s.recHigh (s.recCur + 1) } a s' w1
      ⟨hi.text, hi.parents, hi.lexDone, hi.eofTok, hi.errNonempty⟩ he hlq hq h1 hnd
    exact this
  · have w1 : TW { s with recCur := s.recCur + 1, recHigh := max s.recHigh (s.recCur + 1) } := ⟨w.limit, w.acc⟩
    have hnd2 : ¬ Doomed s2 := hnd
    obtain ⟨cs, ad, a1, a2, a3, a4, a5⟩ := hb.2 _ a s2 w1 (inv_rec hi _ _) he hlq hq h1 hnd2
    refine ⟨cs, ad, a1, a2, a3, a4, ?_⟩
    rcases a5 with r | ev
    · exact Or.inl r
    · exact Or.inr (hE.toks s2 _ rfl ev)

/-! ### optional parts -/

theorem tr_ifKind {α : Type} {E : PState → Prop} {H : List Tok → Prop} (k0 : Kind) (a b : PI α)
    (R : α → List Tok → List Elem → Prop) (ha : Tr E (KindP (· == k0)) a R) (hb : Tr E (fun _ => True) b R) :
    Tr E H (peek >>= fun k => if k == some k0 then a else b) R := by
  apply tr_peek
  intro k
  apply tr_ite
  · intro hk; exact ha.mono (fun q hq => kindP_of_head hq.2 hk) (fun _ _ _ h => h)
  · intro _; exact hb.mono (fun _ _ => trivial) (fun _ _ _ h => h)

theorem tr_optKind2 {α : Type} {E : PState → Prop} (hE : Early E) {H : List Tok → Prop} (k0 : Kind) (m : PI Unit)
    (restT restF : PI α) (Lm : List Tok → List Elem → Prop) (R : α → List Tok → List Elem → Prop)
    (hm : Tr E (KindP (· == k0)) m (fun _ => Lm)) (hT : Tr E (fun _ => True) restT R) (hF : Tr E (fun _ => True) restF R) :
    Tr E H (optKind2 k0 m restT restF)
      (fun a cs e => ∃ c1 c2 e1 e2, cs = c1 ++ c2 ∧ e = e1 ++ e2 ∧ (Lm c1 e1 ∨ (c1 = [] ∧ e1 = [])) ∧ R a c2 e2) := by
  unfold optKind2
  refine tr_ifKind k0 _ _ _ ((tr_bind hE hm (fun _ => hT)).mono (fun _ h => h) ?_) (hF.mono (fun _ h => h) ?_)
  · rintro a cs e ⟨_, c1, c2, e1, e2, h1, h2, h3, h4⟩
    exact ⟨c1, c2, e1, e2, h1, h2, Or.inl h3, h4⟩
  · intro a cs e h
    exact ⟨[], cs, [], e, rfl, rfl, Or.inr ⟨rfl, rfl⟩, h⟩

theorem tr_optKind {α : Type} {E : PState → Prop} (hE : Early E) {H : List Tok → Prop} (k0 : Kind) (m : PI Unit)
    (rest : PI α) (Lm : List Tok → List Elem → Prop) (R : α → List Tok → List Elem → Prop)
    (hm : Tr E (KindP (· == k0)) m (fun _ => Lm)) (hr : Tr E (fun _ => True) rest R) :
    Tr E H (optKind k0 m rest)
      (fun a cs e => ∃ c1 c2 e1 e2, cs = c1 ++ c2 ∧ e = e1 ++ e2 ∧ (Lm c1 e1 ∨ (c1 = [] ∧ e1 = [])) ∧ R a c2 e2) :=
  tr_optKind2 hE k0 m rest rest Lm R hm hr hr

/-! ### loops -/

theorem tr_read {α β : Type} {E : PState → Prop} {H : List Tok → Prop} {m : PI α} (hg : Good m)
    (hm : ∀ s a s', m.run s = .ok a s' → s' = s) {f : α → PI β} {R : β → List Tok → List Elem → Prop}
    (h : ∀ a, Tr E H (f a) R) : Tr E H (m >>= f) R := by
  refine ⟨good_bind _ _ hg (fun a => (h a).1), ?_⟩
  intro s b s' w hi he hlq hq hr hnd
  obtain ⟨a, s1, h1, h2⟩ := bind_dec m f s s' b hr
  cases hm s a s1 h1
  exact (h a).2 s b s' w hi he hlq hq h2 hnd

theorem tr_srcLen {α : Type} {E : PState → Prop} {H : List Tok → Prop} {f : Nat → PI α}
    {R : α → List Tok → List Elem → Prop} (h : ∀ n, Tr E H (f n) R) : Tr E H (srcLen >>= f) R :=
  tr_read good_srcLen
    (fun s a s' hr => by injection (show Res.ok s.lx.src.length s = .ok a s' from hr) with _ e; exact e.symm) h

theorem tr_getCurrent {α : Type} {E : PState → Prop} {H : List Tok → Prop} {f : Option Tok → PI α}
    {R : α → List Tok → List Elem → Prop} (h : ∀ c, Tr E H (f c) R) : Tr E H (getCurrent >>= f) R :=
  tr_read good_getCurrent
    (fun s a s' hr => by injection (show Res.ok s.current s = .ok a s' from hr) with _ e; exact e.symm) h

theorem tr_outOfFuel {α : Type} {E : PState → Prop} {H : List Tok → Prop} {R : α → List Tok → List Elem → Prop} :
    Tr E H (PI.outOfFuel : PI α) R :=
  ⟨good_outOfFuel, by intro s a s' _ _ _ _ _ h; simp [PI.outOfFuel] at h⟩

/-- the progress assertion of the loops; `before` is the current token read in front of the item -/
theorem tr_unlessStuck {α : Type} {E : PState → Prop} {H : List Tok → Prop} (before : Option Tok) {m : PI α}
    {R : α → List Tok → List Elem → Prop} (h : Tr E H m R) :
    Tr E H (getCurrent >>= fun after => if before == after then PI.stuck else m) R :=
  tr_getCurrent (fun _ => tr_ite _
    (fun _ => ⟨good_stuck, fun s a s' _ _ _ _ _ hr => absurd hr (stuck_not_ok s s' a)⟩) (fun _ => h))

theorem tr_noToken {α : Type} {E : PState → Prop} {H : List Tok → Prop} {m : PI α} (hg : Good m)
    {R : α → List Tok → List Elem → Prop} : Tr E (fun q => H q ∧ q.head?.map (·.kind) = none) m R :=
  (tr_never (acc_emptyQueue hg)).mono (fun q h => by simpa using h.2) (fun _ _ _ h => h)

/-- the result of a loop over items: the concatenation of the items' tokens and of their elements -/
def ItemsT (Q : List Tok → List Elem → Prop) (cs : List Tok) (e : List Elem) : Prop :=
  ∃ items : List (List Tok × List Elem), cs = (items.map (·.1)).flatten ∧ e = (items.map (·.2)).flatten ∧
    ∀ i ∈ items, Q i.1 i.2

theorem itemsT_nil (Q : List Tok → List Elem → Prop) : ItemsT Q [] [] := ⟨[], rfl, rfl, by intro i hi; cases hi⟩

theorem itemsT_cons {Q : List Tok → List Elem → Prop} {c1 c2 : List Tok} {e1 e2 : List Elem} (h1 : Q c1 e1)
    (h2 : ItemsT Q c2 e2) : ItemsT Q (c1 ++ c2) (e1 ++ e2) := by
  obtain ⟨items, hc, he, hall⟩ := h2
  refine ⟨(c1, e1) :: items, by simp [hc], by simp [he], ?_⟩
  intro i hi
  rcases List.mem_cons.mp hi with rfl | hi
  · exact h1
  · exact hall i hi

/-! ### a general `peek_while` loop: items while the closure says `Continue`, then what the `Break` step did -/

def HeadK (k : Kind) (q : List Tok) : Prop := q.head?.map (·.kind) = some k

theorem headP_of_headK {k : Kind} {q : List Tok} (h : HeadK k q) : HeadP (fun t : Tok => t.kind = k) q := by
  unfold HeadK at h
  unfold HeadP
  cases hh : q.head? with
  | none => rw [hh] at h; cases h
  | some t => rw [hh] at h; exact ⟨t, rfl, by simpa using h⟩

theorem hsig_headK (k : Kind) (hni : isIgnoredKind k = false) :
    ∀ q : List Tok, HeadK k q → ∃ t rest, q = t :: rest ∧ isIgnoredKind t.kind = false := by
  intro q hq
  obtain ⟨t, hh, hk⟩ := headP_of_headK hq
  cases q with
  | nil => cases hh
  | cons a b => simp only [List.head?_cons, Option.some.injEq] at hh; subst hh; exact ⟨a, b, rfl, by rw [hk]; exact hni⟩

theorem kindP_of_headK {k : Kind} {q : List Tok} (h : HeadK k q) : KindP (· == k) q := by
  obtain ⟨t, hh, hk⟩ := headP_of_headK h
  exact ⟨t, hh, by simp [hk]⟩

theorem kindP_headK {k : Kind} {q : List Tok} (hq : KindP (· == k) q) : HeadK k q := by
  obtain ⟨t, hh, hk⟩ := hq
  unfold HeadK
  rw [hh]
  simpa using hk

/-- a fact stated for a queue whose first token has kind `k`, used where `peek` compared the kind with `k` -/
theorem Tr.atKind {α : Type} {E : PState → Prop} {k : Kind} {m : PI α} {R : α → List Tok → List Elem → Prop}
    (h : Tr E (HeadK k) m R) : Tr E (KindP (· == k)) m R :=
  h.mono (fun _ => kindP_headK) (fun _ _ _ h => h)

theorem tr_bumpK {E : PState → Prop} (sk : SK) (hj : isJunkKind sk = false) (k : Kind) (hni : isIgnoredKind k = false)
    (hne : k ≠ .eof) :
    Tr E (HeadK k) (bump sk) (fun _ cs e => ∃ t, t.kind = k ∧ TokFact t ∧ cs = [t] ∧ e = [Elem.tok sk t.data]) :=
  (tr_bump sk hj (fun t => t.kind = k) (by intro t h; rw [h]; exact ⟨hni, hne⟩)).mono (fun _ => headP_of_headK)
    (fun _ _ _ h => h)

theorem tr_whileLoop {E : PState → Prop} (hE : Early E) (body : Kind → PI Bool)
    (Q Fin : List Tok → List Elem → Prop)
    (hbody : ∀ k, Tr E (HeadK k) (body k) (fun b cs e => (b = true ∧ Q cs e) ∨ (b = false ∧ Fin cs e))) : ∀ fuel,
    Tr E (fun _ => True) (peekWhileLoop body fuel)
      (fun _ cs e => ∃ c1 c2 e1 e2, cs = c1 ++ c2 ∧ e = e1 ++ e2 ∧ ItemsT Q c1 e1 ∧ Fin c2 e2)
  | 0 => tr_outOfFuel
  | fuel + 1 => by
    unfold peekWhileLoop
    refine tr_peek (fun ko => ?_)
    cases ko with
    | none => exact tr_noToken (good_pure ())
    | some k =>
      refine tr_getCurrent (fun before => ?_)
      refine (tr_bind hE ((hbody k).mono (fun _ h => h.2) (fun _ _ _ h => h))
        (R2 := fun b _ cs e => (b = true ∧ ∃ c1 c2 e1 e2, cs = c1 ++ c2 ∧ e = e1 ++ e2 ∧ ItemsT Q c1 e1 ∧ Fin c2 e2) ∨
          (b = false ∧ cs = [] ∧ e = []))
        (fun b => tr_ite b
          (fun hb => (tr_unlessStuck before (tr_whileLoop hE body Q Fin hbody fuel)).mono (fun _ h => h)
            (fun _ _ _ h => Or.inl ⟨hb, h⟩))
          (fun hb => (tr_pure E _ ()).mono (fun _ h => h) (fun _ _ _ h => Or.inr ⟨hb, h.2⟩)))).mono (fun _ h => h) ?_
      rintro _ cs e ⟨b, c1, c2, e1, e2, rfl, rfl, h1, ⟨rfl, x1, x2, y1, y2, rfl, rfl, hit, hfin⟩ | ⟨rfl, rfl, rfl⟩⟩
      · rcases h1 with ⟨_, hq⟩ | ⟨hx, _⟩
        · exact ⟨c1 ++ x1, x2, e1 ++ y1, y2, by rw [List.append_assoc], by rw [List.append_assoc], itemsT_cons hq hit, hfin⟩
        · cases hx
      · rcases h1 with ⟨hx, _⟩ | ⟨_, hfin⟩
        · cases hx
        · exact ⟨[], c1, [], e1, by simp, by simp, itemsT_nil Q, hfin⟩

theorem tr_while {E : PState → Prop} (hE : Early E) {H : List Tok → Prop} (body : Kind → PI Bool)
    (Q Fin : List Tok → List Elem → Prop)
    (hbody : ∀ k, Tr E (HeadK k) (body k) (fun b cs e => (b = true ∧ Q cs e) ∨ (b = false ∧ Fin cs e))) :
    Tr E H (peekWhile body)
      (fun _ cs e => ∃ c1 c2 e1 e2, cs = c1 ++ c2 ∧ e = e1 ++ e2 ∧ ItemsT Q c1 e1 ∧ Fin c2 e2) :=
  tr_srcLen (fun n => (tr_whileLoop hE body Q Fin hbody (n + 3)).mono (fun _ _ => trivial) (fun _ _ _ h => h))

theorem tr_itemsWhile {E : PState → Prop} (hE : Early E) {H : List Tok → Prop} (p : Kind → Bool) (item : PI Unit)
    (Q : List Tok → List Elem → Prop) (hitem : Tr E (KindP p) item (fun _ => Q)) :
    Tr E H (peekWhile (itemsBody p item)) (fun _ => ItemsT Q) := by
  refine (tr_while hE (itemsBody p item) Q (fun cs e => cs = [] ∧ e = []) (fun k => ?_)).mono (fun _ _ => trivial) ?_
  · unfold itemsBody
    refine tr_ite _ (fun hp => ?_) (fun _ => (tr_pure E _ false).mono (fun _ _ => trivial) (fun _ _ _ h => Or.inr h))
    have hq : ∀ q, HeadK k q → KindP p q := by
      intro q hq
      obtain ⟨t, hh, hk⟩ := headP_of_headK hq
      exact ⟨t, hh, by rw [hk]; exact hp⟩
    refine (tr_bind hE (hitem.mono hq (fun _ _ _ h => h)) (fun _ => tr_pure E _ true)).mono (fun _ h => h) ?_
    rintro b cs e ⟨_, c1, c2, e1, e2, rfl, rfl, h1, rfl, rfl, rfl⟩
    exact Or.inl ⟨rfl, by simpa using h1⟩
  · rintro _ cs e ⟨c1, c2, e1, e2, rfl, rfl, hit, rfl, rfl⟩
    simpa using hit

theorem tr_kindLoop {E : PState → Prop} (hE : Early E) (k : Kind) (item : PI Unit) (Q : List Tok → List Elem → Prop)
    (hitem : Tr E (KindP (· == k)) item (fun _ => Q)) : ∀ fuel,
    Tr E (fun _ => True) (peekWhileKindLoop k item fuel) (fun _ => ItemsT Q)
  | 0 => tr_outOfFuel
  | fuel + 1 => by
    unfold peekWhileKindLoop
    refine tr_peek (fun ko => ?_)
    cases ko with
    | none => exact tr_noToken (good_pure ())
    | some k' =>
      refine tr_ite _ (fun _ => (tr_pure E _ ()).mono (fun _ h => h)
        (fun _ _ _ h => by rw [h.2.1, h.2.2]; exact itemsT_nil Q)) (fun hk => ?_)
      refine tr_getCurrent (fun before => ?_)
      refine (tr_bind hE (hitem.mono (fun q hq => kindP_of_head hq.2 (by simpa using hk)) (fun _ _ _ h => h))
        (fun _ => tr_unlessStuck before (tr_kindLoop hE k item Q hitem fuel))).mono (fun _ h => h) ?_
      rintro _ cs e ⟨_, c1, c2, e1, e2, rfl, rfl, h1, h2⟩
      exact itemsT_cons h1 h2

theorem tr_kindWhile {E : PState → Prop} (hE : Early E) {H : List Tok → Prop} (k : Kind) (item : PI Unit)
    (Q : List Tok → List Elem → Prop) (hitem : Tr E (KindP (· == k)) item (fun _ => Q)) :
    Tr E H (peekWhileKind k item) (fun _ => ItemsT Q) :=
  tr_srcLen (fun n => (tr_kindLoop hE k item Q hitem (n + 3)).mono (fun _ _ => trivial) (fun _ _ _ h => h))


end Apollo.Parse
