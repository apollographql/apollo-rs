import ApolloModel.Proofs.AstText2
/-
Property C08, text level: no definition and no document glues two tokens (`separated_document`).
-/
namespace Apollo.Ast

theorem ok_desc_kw (d : Option Str) (k : String) (rest : List Cmd) (h : Ok (some .word) rest) :
    Ok none (cDescription d ++ kw k :: rest) :=
  ok_cDescription_then d none _ clean_none (fun _ h' => ok_kw h'.nm h)

theorem ok_extend {k : String} {body : List Cmd} (h : Ok none body) :
    Ok none (kw "extend" :: sp :: kw k :: sp :: body) :=
  ok_kw (.inl rfl) (ok_sp (ok_kw (.inl rfl) (ok_sp h)))

theorem any_curly_sels (sels : Sels) : Any (curly (cSels sels)) := any_curly _ (okNone_cSels sels)

theorem ok_cDefinition (oe : Bool) : ∀ d : Definition, Ok none (cDefinition oe d)
  | .operation ty name vars dirs sels => by
      simp only [cDefinition]
      split
      · simpa using any_curly_sels sels none
      · simp only [List.cons_append, List.nil_append, List.append_assoc]
        refine ok_kw (.inl rfl) ?_
        have hvars : Any (if vars.isEmpty then []
            else [.beginSingle] ++ commaSeparated .lParen .rParen (vars.map cVarDef) ++ [.endSingle]) := by
          intro st
          split
          · exact ok_nil _
          · exact any_singleLineParens _ (allClean_map _ _ ok_cVarDef) st
        have htail : Any ((if vars.isEmpty then []
            else [.beginSingle] ++ commaSeparated .lParen .rParen (vars.map cVarDef) ++ [.endSingle]) ++
            (cDirectives dirs ++ (sp :: curly (cSels sels)))) :=
          any_append hvars (any_append (any_cDirectives _) (fun st => ok_sp (any_curly_sels sels none)))
        cases name with
        | none => simpa using htail _
        | some n =>
          simp only [List.cons_append, List.nil_append]
          exact ok_sp (ok_nm (.inl rfl) (by simpa using htail _))
  | .fragment name tc dirs sels => by
      simp only [cDefinition, List.cons_append, List.nil_append, List.append_assoc]
      refine ok_kw (.inl rfl) (ok_sp (ok_nm (.inl rfl) (ok_sp (ok_kw (.inl rfl) (ok_sp (ok_nm (.inl rfl) ?_))))))
      exact any_append (any_cDirectives _) (fun st => ok_sp (any_curly_sels sels none)) _
  | .directiveDef desc name args repeatable locs => by
      simp only [cDefinition, List.cons_append, List.nil_append, List.append_assoc]
      refine ok_desc_kw _ _ _ (ok_sp (ok_pn (by simp) (ok_nm (.inr (.inl rfl)) ?_)))
      refine any_append (any_cArgumentsDefinition _) (any_append ?_
        (any_cSepList _ (fun st cs h => ok_sp (ok_kw (.inl rfl) (ok_sp h))) _ (by simp) _)) _
      intro st
      split
      · exact ok_sp (ok_kw (.inl rfl) (ok_nil _))
      · exact ok_nil _
  | .schemaDef desc dirs roots => by
      simp only [cDefinition, List.cons_append, List.nil_append, List.append_assoc]
      refine ok_desc_kw _ _ _ (any_append (any_cDirectives _) (fun st => ok_sp ?_) _)
      exact any_curly _ (okNone_map _ _ ok_cRootOp) none
  | .scalarDef desc name dirs => by
      simp only [cDefinition, List.cons_append, List.nil_append, List.append_assoc]
      exact ok_desc_kw _ _ _ (ok_sp (ok_nm (.inl rfl) (any_cDirectives _ _)))
  | .objectDef desc name impls dirs fields | .interfaceDef desc name impls dirs fields => by
      simp only [cDefinition, List.cons_append, List.nil_append, List.append_assoc]
      exact ok_desc_kw _ _ _ (ok_sp (ok_cObjectTypeLike _ _ _ _))
  | .unionDef desc name dirs members => by
      simp only [cDefinition, List.cons_append, List.nil_append, List.append_assoc]
      exact ok_desc_kw _ _ _ (ok_sp (ok_cUnion _ _ _))
  | .enumDef desc name dirs values => by
      simp only [cDefinition, List.cons_append, List.nil_append, List.append_assoc]
      exact ok_desc_kw _ _ _ (ok_sp (ok_cEnumBody _ _ _))
  | .inputDef desc name dirs fields => by
      simp only [cDefinition, List.cons_append, List.nil_append, List.append_assoc]
      exact ok_desc_kw _ _ _ (ok_sp (ok_cInputBody _ _ _))
  | .schemaExt dirs roots => by
      simp only [cDefinition, List.cons_append, List.nil_append]
      refine ok_kw (.inl rfl) (ok_sp (ok_kw (.inl rfl) ?_))
      exact any_append (any_cDirectives _) (any_optCurly _ _ (okNone_map _ _ ok_cRootOp)) _
  | .scalarExt name dirs => by
      simp only [cDefinition, List.cons_append, List.nil_append]
      exact ok_extend (ok_nm (.inl rfl) (any_cDirectives _ _))
  | .objectExt name impls dirs fields | .interfaceExt name impls dirs fields => by
      simp only [cDefinition, List.cons_append, List.nil_append]
      exact ok_extend (ok_cObjectTypeLike _ _ _ _)
  | .unionExt name dirs members => by
      simp only [cDefinition, List.cons_append, List.nil_append]
      exact ok_extend (ok_cUnion _ _ _)
  | .enumExt name dirs values => by
      simp only [cDefinition, List.cons_append, List.nil_append]
      exact ok_extend (ok_cEnumBody _ _ _)
  | .inputExt name dirs fields => by
      simp only [cDefinition, List.cons_append, List.nil_append]
      exact ok_extend (ok_cInputBody _ _ _)

/-- **No glue.** In the command list of any document, for either value of `output_empty`, no token directly
    follows a token it would merge with: between them there is a write that happens in every configuration. -/
theorem separated_document (oe : Bool) (doc : Document) : separated (cDocument oe doc) := by
  show Ok none (cDocument oe doc)
  cases doc with
  | nil => exact ok_nil _
  | cons first rest =>
    simp only [cDocument, List.append_assoc]
    refine ok_append_any (ok_cDefinition oe first) ?_
    have := ok_flatten_sep [.rawIfNewlines ['\n'], .newLineOrSpace]
      (fun st cs h => ok_rawIfNl_nl (ok_nl h)) (rest.map (cDefinition false))
      (okNone_map _ _ (ok_cDefinition false)) [.rawIfNewlines ['\n']] (fun st => ok_rawIfNl_nl (ok_nil _))
    simpa [List.map_map, Function.comp_def] using this

/-- …and the same for the pieces that are printed on their own -/
theorem separated_definition (oe : Bool) (d : Definition) : separated (cDefinition oe d) := ok_cDefinition oe d
theorem separated_selection_set (sels : Sels) : separated (curly (cSels sels)) := any_curly_sels sels none
theorem separated_value (v : Value) : separated (cValue v) := ok_cValue v none clean_none
theorem separated_type (t : Ty) : separated (cTy t) := by
  have := ok_cTy_any t none [] clean_none any_nil
  simp only [List.append_nil] at this
  exact this

end Apollo.Ast
