import ApolloModel.Proofs.ParserExactC31
import ApolloModel.Proofs.ParserExactT13
/-
C05, exact soundness for the type-system family: the soundness side of `looseFitXX` — in an error-free run only the
LAST root operation type of `{ … }` can lack its named type: after a nameless root the head of the queue is not a Name,
so the `peek_while_kind(Name)` loop stops.
-/
set_option linter.unusedSimpArgs false
namespace Apollo.Parse.Exact
open Apollo.Rowan hiding Str
open Apollo.Lex hiding Str

def NotNameHead (s : PState) : Prop := (Toks s).head?.map (·.kind) ≠ some Kind.name

theorem good_colonTail : Good (peek >>= fun k => if k == some Kind.colon then (bump "COLON" >>= fun _ => namedType) else err) :=
  good_bind _ _ good_peek (fun _ => good_ite _ _ _ (good_bind _ _ (good_bump _) (fun _ => good_namedTypeT)) good_err)

theorem namedType_sound (s s' : PState) (w : TW s) (he : EofEnd s) (h : namedType.run s = .ok () s') (hnd : ¬ Doomed s') :
    Cons s s' (fun x => (∃ nm, x = [.name nm]) ∨ (x = [] ∧ NotNameHead s')) := by
  by_cases hk : KindP (· == Kind.name) (Toks s)
  · exact (cons_of_acc (acc_namedTypeAtName early_false) s s' () w he hk h hnd).weaken (fun _ hx => Or.inl hx)
  · unfold namedType at h
    obtain ⟨sP, o, p, hor⟩ := ifPeek_dec .name _ _ s s' () w h
    have heP := p.eofEnd he
    rcases hor with ⟨hkc, _⟩ | ⟨hkc, h5⟩
    · exfalso
      apply hk
      cases o with
      | none => simp at hkc
      | some t => exact ⟨t, p.head.symm, by simpa using hkc⟩
    · rw [run_pure] at h5
      injection h5 with _ h5
      subst h5
      refine (Cons.nil p.toks heP).weaken ?_
      rintro z rfl
      refine Or.inr ⟨rfl, ?_⟩
      unfold NotNameHead
      rw [p.toks, ← p.head]
      exact hkc

/-- **one root operation type**, entered on a Name: `op : Name`, or `op :` and then the head is not a Name -/
theorem rootOp_sound (s s' : PState) (t : Tok) (rest : List Tok) (w : TW s) (he : EofEnd s) (ht : Toks s = t :: rest)
    (hk : t.kind = .name) (h : rootOperationTypeDefinition.run s = .ok () s') (hnd : ¬ Doomed s') :
    Cons s s' (fun x => ∃ r : Ast.OpType × Option Ast.Str, x = tRootOpF r ∧ (r.2 = none → NotNameHead s')) := by
  have hni : isIgnoredKind t.kind = false := by rw [hk]; rfl
  unfold rootOperationTypeDefinition at h
  obtain ⟨s1, s2, e1, h1, o2, _, he1, hnd2⟩ := withNode_entered _ _ s s' () t rest w he ht hni h hnd
  have h0 : Toks s = Toks s1 := by simpa using e1.toks
  obtain ⟨_, s3, h3, h4⟩ := bind_dec operationType _ s1 s2 () h1
  have hop := acc_operationType (E := fun _ => False) early_false
  have a3 := hop.1 s1 () s3 e1.w h3
  have hnd3 : ¬ Doomed s3 := fun d => hnd2 ((good_colonTail s3 () s2 a3.w h4).doom d)
  have c1 := cons_of_acc hop s1 s3 () e1.w he1 ⟨t, by rw [← h0, ht]; rfl, by simp [hk]⟩ h3 hnd3
  obtain ⟨sP, o, p, hor⟩ := ifPeek_dec .colon _ _ s3 s2 () a3.w h4
  have heP := p.eofEnd c1.eofEnd
  rcases hor with ⟨hkc, h5⟩ | ⟨_, h5⟩
  · obtain ⟨tc, rfl, hkc2⟩ := peeked_kind hkc
    have hnic : isIgnoredKind tc.kind = false := by rw [hkc2]; rfl
    obtain ⟨_, s5, h6, h7⟩ := bind_dec (bump "COLON") _ sP s2 () h5
    obtain ⟨ign2, ec, hall2, _⟩ := bump_spec "COLON" sP s5 p.w tc _ p.head_cons h6
    have c2 : Cons sP s5 (fun x => x = [.p .colon]) :=
      Cons.ofEat ec heP (noEof_cons (by rw [hkc2]; decide) hall2) (tokIs_punct tc ign2 .colon hnic (by simp [astOfV, hkc2]) hall2)
    have c2' : Cons s3 s5 (fun x => x = [.p .colon]) := c2.transport p.toks.symm rfl c2.eofEnd
    have c3 := namedType_sound s5 s2 ec.w c2.eofEnd h7 hnd2
    have c := ((c1.seq c2').seq c3).node e1 o2
    refine c.weaken ?_
    rintro z ⟨xy, y, rfl, ⟨x1, x2, rfl, ⟨op, rfl⟩, rfl⟩, hy⟩
    rcases hy with ⟨nm, rfl⟩ | ⟨rfl, hh⟩
    · exact ⟨(op, some nm), by simp [tRootOpF], by intro h; cases h⟩
    · refine ⟨(op, none), by simp [tRootOpF], fun _ => ?_⟩
      unfold NotNameHead at hh ⊢
      rw [o2.toks]; exact hh
  · exfalso
    exact hnd2 (err_dooms sP s2 p.w heP h5)

theorem rootsLastOnly_cons (r : Ast.OpType × Option Ast.Str) (roots : List (Ast.OpType × Option Ast.Str))
    (h1 : r.2 = none → roots = []) (h2 : rootsLastOnly roots) : rootsLastOnly (r :: roots) := by
  cases roots with
  | nil => intro x hx; simp at hx
  | cons r2 rs =>
    intro x hx
    rw [List.dropLast_cons_cons] at hx
    rcases List.mem_cons.mp hx with rfl | hx
    · intro hn; exact absurd (h1 hn) (by simp)
    · exact h2 x hx

/-- the flag loop over root operation types: only the last root can be nameless -/
theorem rootsLoop_sound : ∀ (fuel : Nat) (flag : Bool) (s : PState) (has : Bool) (s' : PState),
    TW s → EofEnd s → (peekWhileKindFlagLoop .name rootOperationTypeDefinition fuel flag).run s = .ok has s' → ¬ Doomed s' →
    Cons s s' (fun x => ∃ roots : List (Ast.OpType × Option Ast.Str), x = tRootOpItemsF roots ∧ rootsLastOnly roots ∧
      has = (flag || !roots.isEmpty) ∧ (NotNameHead s → roots = [])) := by
  intro fuel
  induction fuel with
  | zero => intro flag s has s' _ _ h; simp [peekWhileKindFlagLoop, PI.outOfFuel] at h
  | succ fuel ih =>
    intro flag s has s' w he h hnd
    unfold peekWhileKindFlagLoop at h
    obtain ⟨ko, sP, hp, h2⟩ := bind_dec peek _ s s' has h
    obtain ⟨o, p', hko⟩ := peek_obs s sP ko w hp
    subst hko
    have heP : EofEnd sP := p'.eofEnd he
    have stop : s' = sP → has = flag → Cons s s' (fun x => ∃ roots : List (Ast.OpType × Option Ast.Str), x = tRootOpItemsF roots ∧
        rootsLastOnly roots ∧ has = (flag || !roots.isEmpty) ∧ (NotNameHead s → roots = [])) := by
      intro e e2
      rw [e, e2]
      exact (Cons.nil p'.toks heP).weaken (by
        rintro z rfl
        exact ⟨[], rfl, (by intro x hx; simp at hx), by simp, fun _ => rfl⟩)
    cases o with
    | none =>
      simp only [Option.map_none] at h2
      rw [run_pure] at h2
      injection h2 with h2a h2
      exact stop h2.symm h2a.symm
    | some t =>
      simp only [Option.map_some] at h2
      by_cases hk : (t.kind != Kind.name) = true
      · simp only [hk, if_true] at h2
        rw [run_pure] at h2
        injection h2 with h2a h2
        exact stop h2.symm h2a.symm
      · simp only [hk, Bool.false_eq_true, if_false] at h2
        have hk' : t.kind = .name := by simpa using hk
        have h3 := getCurrent_dec _ sP s' has h2
        obtain ⟨_, sI, hi, h4⟩ := bind_dec rootOperationTypeDefinition _ sP s' has h3
        have h5 := getCurrent_dec _ sI s' has h4
        have aI := good_rootOp sP () sI p'.w hi
        by_cases hsame : (sP.current == sI.current) = true
        · simp only [hsame, if_true] at h5
          exact absurd h5 (stuck_not_ok _ _ _)
        · simp only [hsame, Bool.false_eq_true, if_false] at h5
          have hndI : ¬ Doomed sI := fun d => hnd ((good_flagLoop .name rootOperationTypeDefinition good_rootOp fuel true sI has s' aI.w h5).doom d)
          have c1 := rootOp_sound sP sI t _ p'.w heP p'.head_cons hk' hi hndI
          have c2 := ih true sI has s' aI.w c1.eofEnd h5 hnd
          refine ((c1.seq c2).transport p'.toks.symm rfl c2.eofEnd).weaken ?_
          rintro z ⟨x, y, rfl, ⟨r, rfl, hr⟩, roots, rfl, hlast, hhas, hstop⟩
          refine ⟨r :: roots, by simp [tRootOpItemsF], rootsLastOnly_cons r roots (fun hn => hstop (hr hn)) hlast, by rw [hhas]; simp, ?_⟩
          intro hnn
          exfalso
          apply hnn
          rw [p'.head.symm]
          simp [hk']

end Apollo.Parse.Exact
