import ApolloModel.Model.GuardsSchema
/-
C21: the instrumented cycle detectors answer like the uninstrumented ones, never hold more than limit + 1
names, never nest deeper than their fuel, and answer `limit` exactly when a stack overflowed its limit.
-/
namespace Apollo.GuardsSchema
open Apollo.SchemaValidation

/-! ### the stateful loop -/

theorem firstErrG_fst {α σ : Type} (fG : α → σ → R × σ) (f : α → R) : ∀ (l : List α),
    (∀ x ∈ l, ∀ st, (fG x st).1 = f x) → ∀ st, (firstErrG fG l st).1 = firstErr f l
  | [], _, _ => rfl
  | x :: xs, h, st => by
    have hx := h x (by simp) st
    simp only [firstErrG, firstErr]
    cases hr : fG x st with
    | mk r st' =>
      rw [hr] at hx
      simp only at hx
      rw [← hx]
      cases r with
      | ok => simpa using firstErrG_fst fG f xs (fun y hy => h y (by simp [hy])) st'
      | recursed => rfl
      | limit => rfl
      | outOfFuel => rfl

theorem firstErrG_post {α σ : Type} (f : α → σ → R × σ) (C : R × σ → Prop) : ∀ (l : List α),
    (∀ x ∈ l, ∀ st, C (.ok, st) → C (f x st)) → ∀ st, C (.ok, st) → C (firstErrG f l st)
  | [], _, _, hst => hst
  | x :: xs, h, st, hst => by
    have hx := h x (by simp) st hst
    simp only [firstErrG]
    cases hr : f x st with
    | mk r st' =>
      rw [hr] at hx
      cases r with
      | ok => exact firstErrG_post f C xs (fun y hy => h y (by simp [hy])) st' hx
      | recursed => exact hx
      | limit => exact hx
      | outOfFuel => exact hx

theorem firstErrG_inv {α σ : Type} (f : α → σ → R × σ) (P : σ → Prop) (l : List α)
    (h : ∀ x ∈ l, ∀ st, P st → P (f x st).2) (st : σ) (hst : P st) : P (firstErrG f l st).2 :=
  firstErrG_post f (fun r => P r.2) l h st hst

/-- coherence of answer and flag: `limit` is answered exactly when the flag `F` is raised -/
def Coh {σ : Type} (F : σ → Prop) (r : R × σ) : Prop := (r.1 = .limit ∧ F r.2) ∨ (r.1 ≠ .limit ∧ ¬ F r.2)

theorem coh_ok {σ : Type} (F : σ → Prop) (st : σ) : Coh F (.ok, st) ↔ ¬ F st := by
  simp [Coh]

theorem firstErrG_coh {α σ : Type} (f : α → σ → R × σ) (F : σ → Prop) (l : List α)
    (h : ∀ x ∈ l, ∀ st, ¬ F st → Coh F (f x st)) (st : σ) (hst : ¬ F st) : Coh F (firstErrG f l st) :=
  firstErrG_post f (Coh F) l (fun x hx st' hc => h x hx st' ((coh_ok F st').mp hc)) st ((coh_ok F st).mpr hst)

/-- what the three facts about an instrumented run say of one result: the answer is `r`, the state invariant
    `P` is kept, and `limit` is answered exactly when the flag `F` is raised -/
def Spec3 {σ : Type} (P F : σ → Prop) (r : R) (st : σ) (res : R × σ) : Prop :=
  res.1 = r ∧ (P st → P res.2) ∧ (¬ F st → Coh F res)

theorem Spec3.leaf {σ : Type} (P F : σ → Prop) (r : R) (st : σ) (hr : r ≠ .limit) : Spec3 P F r st (r, st) :=
  ⟨rfl, id, fun h => Or.inr ⟨hr, h⟩⟩

theorem Spec3.imp {σ : Type} {P P' F : σ → Prop} {r : R} {st st' : σ} {res : R × σ} (h : Spec3 P' F r st' res)
    (hin : P st → P' st') (hout : P' res.2 → P res.2) (hF : ¬ F st → ¬ F st') : Spec3 P F r st res :=
  ⟨h.1, fun hp => hout (h.2.1 (hin hp)), fun hf => h.2.2 (hF hf)⟩

theorem Spec3.then {σ : Type} {P F : σ → Prop} {r : R} {st st1 : σ} {res : R × σ} (h1 : Spec3 P F .ok st (.ok, st1))
    (h2 : Spec3 P F r st1 res) : Spec3 P F r st res :=
  ⟨h2.1, fun hp => h2.2.1 (h1.2.1 hp), fun hf => h2.2.2 ((coh_ok F st1).mp (h1.2.2 hf))⟩

theorem firstErrG_spec3 {α σ : Type} (fG : α → σ → R × σ) (f : α → R) (P F : σ → Prop) (l : List α)
    (h : ∀ x ∈ l, ∀ st, Spec3 P F (f x) st (fG x st)) (st : σ) : Spec3 P F (firstErr f l) st (firstErrG fG l st) :=
  ⟨firstErrG_fst fG f l (fun x hx st => (h x hx st).1) st,
   firstErrG_inv fG P l (fun x hx st => (h x hx st).2.1) st,
   firstErrG_coh fG F l (fun x hx st => (h x hx st).2.2) st⟩

/-! ### `FindRecursiveInputValue` -/

/-- The case analysis of one field is made once for the three facts.  The invariant carries the conditions under
    which the bounds hold (`seen` within the limit, `D ≥ depth + fuel`) as hypotheses, so that the answer and the
    coherence of the flag come without them. -/
theorem searchFieldsG_spec (g : IGraph) (limit B D : Nat) (hB : limit + 1 ≤ B) :
    ∀ (fuel depth : Nat) (seen : List Nat) (fs : List IField) (st : SG),
      Spec3 (fun st : SG => seen.length ≤ limit → depth + fuel ≤ D → st.high ≤ B ∧ st.dhigh ≤ D)
        (fun st : SG => limit < st.high) (searchFields g limit fuel seen fs) st
        (searchFieldsG g limit fuel depth seen fs st) := by
  intro fuel
  induction fuel with
  | zero => intro depth seen fs st; exact Spec3.leaf _ _ _ _ (by simp [searchFields])
  | succ fuel ih =>
    intro depth seen fs st
    unfold searchFieldsG searchFields
    refine Spec3.imp (P' := fun st : SG => seen.length ≤ limit → depth + (fuel + 1) ≤ D → st.high ≤ B ∧ st.dhigh ≤ D)
      (firstErrG_spec3 _ _ _ _ fs ?_ (st.enter depth))
      (fun hst hs hd => ⟨(hst hs hd).1, by simp only [SG.enter]; have := (hst hs hd).2; omega⟩) (fun h => h) (fun h => h)
    intro f _ st'
    by_cases hnn : f.nonNullNamed = true
    · simp only [hnn, if_true]
      by_cases hc : seen.contains f.target = true
      · simp only [hc, Bool.not_true, Bool.false_eq_true, if_false]
        by_cases hh : (seen.head? == some f.target) = true
        · simp only [hh, if_true]; exact Spec3.leaf _ _ _ _ (by simp)
        · simp only [hh, Bool.false_eq_true, if_false]; exact Spec3.leaf _ _ _ _ (by simp)
      · simp only [hc, Bool.not_false, if_true]
        by_cases hlt : f.target < g.length
        · simp only [hlt, if_true]
          by_cases hlim : seen.length + 1 > limit
          · simp only [hlim, if_true]
            exact ⟨rfl, fun hst hs hd => ⟨by simp only [SG.push]; have := (hst hs hd).1; omega, (hst hs hd).2⟩,
              fun _ => Or.inl ⟨rfl, by simp only [SG.push]; omega⟩⟩
          · simp only [hlim, if_false]
            obtain ⟨a, b, c⟩ := ih (depth + 1) (seen ++ [f.target]) (g.fields f.target) (st'.push (seen.length + 1))
            exact ⟨a, fun hst hs hd => b (fun _ _ => ⟨by simp only [SG.push]; have := (hst hs hd).1; omega, (hst hs hd).2⟩)
                (by simp; omega) (by omega),
              fun hst => c (by simp only [SG.push]; omega)⟩
        · simp only [hlt, if_false]; exact Spec3.leaf _ _ _ _ (by simp)
    · simp only [hnn, Bool.false_eq_true, if_false]; exact Spec3.leaf _ _ _ _ (by simp)

theorem searchFieldsG_fst (g : IGraph) (limit : Nat) (fuel depth : Nat) (seen : List Nat) (fs : List IField) (st : SG) :
    (searchFieldsG g limit fuel depth seen fs st).1 = searchFields g limit fuel seen fs :=
  (searchFieldsG_spec g limit (limit + 1) 0 (Nat.le_refl _) fuel depth seen fs st).1

theorem checkInputG_fst (g : IGraph) (limit r : Nat) : (checkInputG g limit r).1 = checkInput g limit r :=
  searchFieldsG_fst g limit _ _ _ _ _

theorem searchFieldsG_bounds (g : IGraph) (limit B D : Nat) (hB : limit + 1 ≤ B)
    (fuel depth : Nat) (seen : List Nat) (fs : List IField) (st : SG) (hs : seen.length ≤ limit) (hd : depth + fuel ≤ D)
    (hst : st.high ≤ B ∧ st.dhigh ≤ D) :
    (searchFieldsG g limit fuel depth seen fs st).2.high ≤ B ∧ (searchFieldsG g limit fuel depth seen fs st).2.dhigh ≤ D :=
  (searchFieldsG_spec g limit B D hB fuel depth seen fs st).2.1 (fun _ _ => hst) hs hd

/-- `limit` is answered exactly when the stack held more than `limit` names -/
theorem searchFieldsG_coh (g : IGraph) (limit : Nat) (fuel depth : Nat) (seen : List Nat) (fs : List IField) (st : SG)
    (hst : ¬ limit < st.high) : Coh (fun st : SG => limit < st.high) (searchFieldsG g limit fuel depth seen fs st) :=
  (searchFieldsG_spec g limit (limit + 1) 0 (Nat.le_refl _) fuel depth seen fs st).2.2 hst

/-! ### `FindRecursiveDirective` -/

def DGB (B D : Nat) (st : DG) : Prop := st.highD ≤ B ∧ st.highT ≤ B ∧ st.dhigh ≤ D

def Over (limit : Nat) (st : DG) : Prop := limit < st.highD ∨ limit < st.highT

/-- as `searchFieldsG_spec`, for the two stacks of the directive search -/
theorem walkG_spec (s : DSchema) (limit B D : Nat) (hB : limit + 1 ≤ B) :
    ∀ (fuel depth : Nat) (dg tg : List Nat) (x : Item) (st : DG),
      Spec3 (fun st : DG => dg.length ≤ limit → tg.length ≤ limit → depth + fuel ≤ D → DGB B D st) (Over limit)
        (walk s limit fuel dg tg x) st (walkG s limit fuel depth dg tg x st) := by
  intro fuel
  induction fuel with
  | zero => intro depth dg tg x st; exact Spec3.leaf _ _ _ _ (by simp [walk])
  | succ fuel ih =>
    intro depth dg tg x st
    -- every case starts by entering the frame; from there on the bound on the depth is read as `depth + 1 + fuel ≤ D`
    suffices h : Spec3 (fun st : DG => dg.length ≤ limit → tg.length ≤ limit → depth + 1 + fuel ≤ D → DGB B D st) (Over limit)
        (walk s limit (fuel + 1) dg tg x) (st.enter depth) (walkG s limit (fuel + 1) depth dg tg x st) from
      h.imp (fun hst h1 h2 h3 => ⟨(hst h1 h2 (by omega)).1, (hst h1 h2 (by omega)).2.1,
          by simp only [DG.enter]; have := (hst h1 h2 (by omega)).2.2; omega⟩)
        (fun hr h1 h2 h3 => hr h1 h2 (by omega)) (fun h => h)
    cases x with
    | dir d =>
      simp only [walkG, walk]
      by_cases hc : dg.contains d = true
      · simp only [hc, Bool.not_true, Bool.false_eq_true, if_false]
        by_cases hh : (dg.head? == some d) = true
        · simp only [hh, if_true]; exact Spec3.leaf _ _ _ _ (by simp)
        · simp only [hh, Bool.false_eq_true, if_false]; exact Spec3.leaf _ _ _ _ (by simp)
      · simp only [hc, Bool.not_false, if_true]
        cases hdd : s.dirs[d]? with
        | none => exact Spec3.leaf _ _ _ _ (by simp)
        | some args =>
          simp only []
          have hp : ∀ st' : DG, DGB B D st' → dg.length ≤ limit → DGB B D (st'.pushD (dg.length + 1)) :=
            fun st' h hl => ⟨by simp only [DG.pushD]; have := h.1; omega, h.2.1, h.2.2⟩
          by_cases hlim : dg.length + 1 > limit
          · simp only [hlim, if_true]
            exact ⟨rfl, fun hst h1 h2 h3 => hp _ (hst h1 h2 h3) h1, fun _ => Or.inl ⟨rfl, Or.inl (by simp only [DG.pushD]; omega)⟩⟩
          · simp only [hlim, if_false]
            refine (firstErrG_spec3 _ _ _ _ _ (fun y _ st' => ih (depth + 1) (dg ++ [d]) tg y st') _).imp
              (fun hst _ h2 h3 => hp _ (hst (by omega) h2 h3) (by omega)) (fun hr h1 h2 h3 => hr (by simp; omega) h2 h3) ?_
            intro hst h
            rcases h with h | h
            · simp only [DG.pushD] at h; exact hst (Or.inl (by omega))
            · exact hst (Or.inr h)
    | arg a =>
      simp only [walkG, walk]
      have h1 := firstErrG_spec3 _ _ _ _ (a.dirs.map Item.dir) (fun y _ st' => ih (depth + 1) dg tg y st') (st.enter depth)
      cases hr : firstErrG (walkG s limit fuel (depth + 1) dg tg) (a.dirs.map Item.dir) (st.enter depth) with
      | mk r st1 =>
        rw [hr] at h1
        have e : firstErr (walk s limit fuel dg tg) (a.dirs.map Item.dir) = r := h1.1.symm
        rw [e] at h1 ⊢
        cases r with
        | ok =>
          refine h1.then ?_
          simp only []
          cases a.ty with
          | none => exact Spec3.leaf _ _ _ _ (by simp)
          | some k =>
            simp only []
            by_cases hk : k < s.types.length
            · simp only [hk, if_true]; exact ih _ _ _ _ _
            · simp only [hk, if_false]; exact Spec3.leaf _ _ _ _ (by simp)
        | recursed => exact h1
        | limit => exact h1
        | outOfFuel => exact h1
    | ty k =>
      simp only [walkG, walk]
      by_cases hc : tg.contains k = true
      · simp only [hc, if_true]; exact Spec3.leaf _ _ _ _ (by simp)
      · simp only [hc, Bool.false_eq_true, if_false]
        cases ht : s.types[k]? with
        | none => exact Spec3.leaf _ _ _ _ (by simp)
        | some t =>
          simp only []
          have hp : ∀ st' : DG, DGB B D st' → tg.length ≤ limit → DGB B D (st'.pushT (tg.length + 1)) :=
            fun st' h hl => ⟨h.1, by simp only [DG.pushT]; have := h.2.1; omega, h.2.2⟩
          by_cases hlim : tg.length + 1 > limit
          · simp only [hlim, if_true]
            exact ⟨rfl, fun hst h1 h2 h3 => hp _ (hst h1 h2 h3) h2, fun _ => Or.inl ⟨rfl, Or.inr (by simp only [DG.pushT]; omega)⟩⟩
          · simp only [hlim, if_false]
            refine (firstErrG_spec3 _ _ _ _ _ (fun y _ st' => ih (depth + 1) dg (tg ++ [k]) y st') _).imp
              (fun hst h1 _ h3 => hp _ (hst h1 (by omega) h3) (by omega)) (fun hr h1 h2 h3 => hr h1 (by simp; omega) h3) ?_
            intro hst h
            rcases h with h | h
            · exact hst (Or.inl h)
            · simp only [DG.pushT] at h; exact hst (Or.inr (by omega))

theorem walkG_fst (s : DSchema) (limit : Nat) (fuel depth : Nat) (dg tg : List Nat) (x : Item) (st : DG) :
    (walkG s limit fuel depth dg tg x st).1 = walk s limit fuel dg tg x :=
  (walkG_spec s limit (limit + 1) 0 (Nat.le_refl _) fuel depth dg tg x st).1

theorem checkDirectiveG_fst (s : DSchema) (limit d : Nat) : (checkDirectiveG s limit d).1 = checkDirective s limit d :=
  firstErrG_fst _ _ _ (fun y _ st' => walkG_fst s limit _ _ _ _ y st') _

theorem walkG_bounds (s : DSchema) (limit B D : Nat) (hB : limit + 1 ≤ B)
    (fuel depth : Nat) (dg tg : List Nat) (x : Item) (st : DG) (hdg : dg.length ≤ limit) (htg : tg.length ≤ limit)
    (hd : depth + fuel ≤ D) (hst : DGB B D st) : DGB B D (walkG s limit fuel depth dg tg x st).2 :=
  (walkG_spec s limit B D hB fuel depth dg tg x st).2.1 (fun _ _ _ => hst) hdg htg hd

theorem walkG_coh (s : DSchema) (limit : Nat) (fuel depth : Nat) (dg tg : List Nat) (x : Item) (st : DG)
    (hst : ¬ Over limit st) : Coh (Over limit) (walkG s limit fuel depth dg tg x st) :=
  (walkG_spec s limit (limit + 1) 0 (Nat.le_refl _) fuel depth dg tg x st).2.2 hst

/-! ### `walk_selections_with_deduped_fragments` -/

open Apollo.Guards

/-- the deepest call stays within limit + 1, and the walk errs exactly when it tried to go deeper than the limit -/
def WGood (dlimit : Nat) (st : WS) (r : Bool × WS) : Prop :=
  r.2.dhigh ≤ dlimit + 1 ∧ (¬ dlimit < st.dhigh → (r.1 = true ↔ dlimit < r.2.dhigh))

theorem wsList_cons_of_err (doc : Doc) (dlimit depth : Nat) (st : WS) (s : Sel) (rest : List Sel)
    (hne : ∀ st', wsSel doc dlimit depth { st with visited := st.visited + 1 } s = (false, st') → False) :
    wsList doc dlimit depth st (s :: rest) = wsSel doc dlimit depth { st with visited := st.visited + 1 } s := by
  rw [wsList]
  split
  · rename_i st' heq; exact absurd heq (hne st')
  · rfl

theorem ws_all (doc : Doc) (dlimit : Nat) :
    (∀ depth st sels, depth ≤ dlimit → st.dhigh ≤ dlimit + 1 → WGood dlimit st (wsList doc dlimit depth st sels)) ∧
    (∀ depth st s, depth ≤ dlimit → st.dhigh ≤ dlimit + 1 → WGood dlimit st (wsSel doc dlimit depth st s)) := by
  apply wsList.mutual_induct doc dlimit
    (fun depth st sels => depth ≤ dlimit → st.dhigh ≤ dlimit + 1 → WGood dlimit st (wsList doc dlimit depth st sels))
    (fun depth st s => depth ≤ dlimit → st.dhigh ≤ dlimit + 1 → WGood dlimit st (wsSel doc dlimit depth st s))
  · intro depth st _ hb
    rw [wsList]
    exact ⟨hb, fun hn => ⟨fun h => Bool.noConfusion h, fun h => absurd h hn⟩⟩
  · intro depth st s rest st' hs ih2 ih1 hd hb
    rw [wsList, hs]
    have g2 := ih2 hd hb
    rw [hs] at g2
    have g1 := ih1 hd g2.1
    refine ⟨g1.1, fun hn => ?_⟩
    have hn' : ¬ dlimit < st'.dhigh := fun h => by have := (g2.2 hn).mpr h; cases this
    exact g1.2 hn'
  · intro depth st s rest hne ih2 hd hb
    rw [wsList_cons_of_err doc dlimit depth st s rest hne]
    exact ih2 hd hb
  · intro depth st sels hlim hd hb
    rw [wsSel]
    simp only [hlim, if_true]
    refine ⟨by simp only [WS.enter]; omega, fun _ => ⟨fun _ => by simp only [WS.enter]; omega, fun _ => rfl⟩⟩
  · intro depth st sels hlim ih hd hb
    rw [wsSel]
    simp only [hlim, if_false]
    have g := ih (by omega) (by simp only [WS.enter]; omega)
    exact ⟨g.1, fun hn => g.2 (by simp only [WS.enter]; omega)⟩
  · intro depth st n hc _ hb
    rw [wsSel]
    simp only [hc, if_true]
    exact ⟨hb, fun hn => ⟨fun h => Bool.noConfusion h, fun h => absurd h hn⟩⟩
  · intro depth st n hc hl _ hb
    rw [wsSel]
    simp only [hc, hl, Bool.false_eq_true, if_false]
    exact ⟨hb, fun hn => ⟨fun h => Bool.noConfusion h, fun h => absurd h hn⟩⟩
  · intro depth st n hc body hl hlim hd hb
    rw [wsSel]
    simp only [hc, hl, hlim, Bool.false_eq_true, if_false, if_true]
    refine ⟨by simp only [WS.enter]; omega, fun _ => ⟨fun _ => by simp only [WS.enter]; omega, fun _ => rfl⟩⟩
  · intro depth st n hc body hl hlim ih hd hb
    rw [wsSel]
    simp only [hc, hl, hlim, Bool.false_eq_true, if_false]
    have g := ih (by omega) (by simp only [WS.enter]; omega)
    exact ⟨g.1, fun hn => g.2 (by simp only [WS.enter]; omega)⟩

end Apollo.GuardsSchema
