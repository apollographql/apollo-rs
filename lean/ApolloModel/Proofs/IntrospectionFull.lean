import ApolloModel.Spec.IntrospectionFull
import ApolloModel.Proofs.IfChain
/-
C24: the model of every resolver of introspection/resolvers.rs agrees, field by field, with the
transcription of specification §4.2 (`resolve_spec`), and hands out only resolver objects the executor can meet
(`resolve_ok`).
-/
set_option linter.unusedSimpArgs false
set_option linter.unusedVariables false
namespace Apollo.Introspection
open Apollo Apollo.Exec Apollo.Spec Apollo.Spec.Introspection

/-- which object of the specification a resolver object of the code stands for -/
def toSpec : IObj → SObj
  | .root => .root
  | .schema => .schema
  | .typeDef d => .type (.named d.name)
  | .typeRef t => .type (embed t)
  | .directive d => .directive d
  | .field d => .field d
  | .enumValue d => .enumValue d
  | .inputValue d => .inputValue d

section Map
variable {ι κ : Type}
mutual
def mapRV (h : ι → κ) : RVg ι → RVg κ
  | .leaf j => .leaf j
  | .error => .error
  | .list xs => .list (mapRVs h xs)
  | .object ty o => .object ty (h o)
  | .skip => .skip
def mapRVs (h : ι → κ) : List (RVg ι) → List (RVg κ)
  | [] => []
  | x :: xs => mapRV h x :: mapRVs h xs
end

theorem mapRVs_eq_map (h : ι → κ) (xs : List (RVg ι)) : mapRVs h xs = xs.map (mapRV h) := by
  induction xs with
  | nil => simp [mapRVs]
  | cons x xs ih => simp [mapRVs, ih]

mutual
def AllObj (P : ι → Prop) : RVg ι → Prop
  | .list xs => AllObjs P xs
  | .object _ o => P o
  | _ => True
def AllObjs (P : ι → Prop) : List (RVg ι) → Prop
  | [] => True
  | x :: xs => AllObj P x ∧ AllObjs P xs
end

theorem allObjs_iff (P : ι → Prop) (xs : List (RVg ι)) : AllObjs P xs ↔ ∀ x ∈ xs, AllObj P x := by
  induction xs with
  | nil => simp [AllObjs]
  | cons x xs ih => simp [AllObjs, ih]

@[simp] theorem allObj_leaf (P : ι → Prop) (j : Json) : AllObj P (.leaf j) := trivial
@[simp] theorem allObj_skip (P : ι → Prop) : AllObj P .skip := trivial
@[simp] theorem allObj_object (P : ι → Prop) (ty : String) (o : ι) : AllObj P (.object ty o) ↔ P o := Iff.rfl

@[simp] theorem allObj_list_map {α : Type} (P : ι → Prop) (g : α → RVg ι) (xs : List α) :
    AllObj P (.list (xs.map g)) ↔ ∀ x ∈ xs, AllObj P (g x) := by
  simp only [AllObj, allObjs_iff, List.forall_mem_map]
end Map

/-! ### well-formedness of the schema and of the resolver objects -/

/-- `schema.types` is a map: no two definitions have the same name (decidable) -/
def typeNamesDistinct (s : ISchema) : Bool := decide ((s.types.map (·.name)).Pairwise (· ≠ ·))

/-- the schema's `@deprecated` is the built-in one, `reason: String = "No longer supported"` (decidable) -/
def deprecatedIsBuiltin (s : ISchema) : Bool :=
  match s.directives.find? (·.name == "deprecated") with
  | some d =>
    (match d.args.find? (·.name == "reason") with
     | some a => (match a.default with | some (.str r) => r == "No longer supported" | _ => false)
     | none => false)
  | none => false

theorem typeDef_of_mem : ∀ (ts : List ITypeDef), (ts.map (·.name)).Pairwise (· ≠ ·) → ∀ d ∈ ts,
    ts.find? (·.name == d.name) = some d
  | [], _, d, h => by simp at h
  | t :: ts, hp, d, h => by
    simp only [List.map_cons, List.pairwise_cons] at hp
    rcases List.mem_cons.mp h with rfl | h
    · simp
    · have hne : t.name ≠ d.name := hp.1 d.name (List.mem_map.mpr ⟨d, h, rfl⟩)
      simp only [List.find?_cons]
      have : (t.name == d.name) = false := by simpa using hne
      rw [this]
      exact typeDef_of_mem ts hp.2 d h

theorem typeDef?_of_mem (s : ISchema) (hu : typeNamesDistinct s = true) (d : ITypeDef) (h : d ∈ s.types) :
    s.typeDef? d.name = some d :=
  typeDef_of_mem s.types (by simpa [typeNamesDistinct] using hu) d h

theorem typeDef?_name (s : ISchema) (n : String) (d : ITypeDef) (h : s.typeDef? n = some d) :
    d.name = n ∧ s.typeDef? d.name = some d := by
  have h1 := List.find?_some h
  have hn : d.name = n := by simpa using h1
  exact ⟨hn, by rw [hn]; exact h⟩

theorem deprecatedReason_builtin (s : ISchema) (h : deprecatedIsBuiltin s = true) :
    deprecatedDefaultReason s = .str "No longer supported" := by
  unfold deprecatedIsBuiltin at h
  unfold deprecatedDefaultReason
  split at h
  · rename_i d hd
    rw [hd]
    simp only []
    split at h
    · rename_i a ha
      rw [ha]
      simp only []
      split at h
      · rename_i r hr
        rw [hr]
        simp only []
        have : r = "No longer supported" := by simpa using h
        rw [this]
      · cases h
    · cases h
  · cases h

/-- a resolver object the executor can meet: a `TypeDefResolver` holds a definition of the schema, a
    `TypeResolver` holds a wrapping type (`Type::Named(_) => unreachable!()`) -/
def ObjOk (s : ISchema) : IObj → Prop
  | .typeDef d => s.typeDef? d.name = some d
  | .typeRef (.named _) => False
  | _ => True

/-- the literal as written: what the code answers for `defaultValue` -/
def asWritten (_ : ISchema) (v : IInputValue) : Option String := v.default.map printValue

theorem inclArg_eq (args : AList Json) : inclArg args = includesDeprecated args := by
  unfold inclArg includesDeprecated
  cases h : AList.get? args "includeDeprecated" with
  | none => simp [includeDeprecated]
  | some j => cases j <;> simp [includeDeprecated] <;> rename_i b <;> cases b <;> rfl

theorem filter_dep {α : Type} (dep : α → Deprecation) (b : Bool) (xs : List α) :
    (xs.filter fun x => b || (dep x).isNone) = xs.filter fun x => b || !isDeprecated (dep x) := by
  apply List.filter_congr
  intro x _
  cases h : dep x <;> simp [isDeprecated, h]

theorem optStr_eq (o : Option String) : optStr o = str? o := by cases o <;> rfl

theorem map_typeDefRV (s : ISchema) (n : String) : mapRV toSpec (typeDefRV s n) = typeValue s (.named n) := by
  unfold typeDefRV typeValue
  cases h : s.typeDef? n with
  | none => simp [mapRV, h]
  | some d => simp [mapRV, toSpec, h, (typeDef?_name s n d h).1]

theorem ok_typeDefRV (s : ISchema) (n : String) : AllObj (ObjOk s) (typeDefRV s n) := by
  unfold typeDefRV
  cases h : s.typeDef? n with
  | none => simp [AllObj]
  | some d => simp only [AllObj, ObjOk]; exact (typeDef?_name s n d h).2

theorem map_tyRV (s : ISchema) (t : Ty) : mapRV toSpec (tyRV s t) = typeValue s (embed t) := by
  cases t with
  | named n => simp only [tyRV, embed]; exact map_typeDefRV s n
  | nonNullNamed n => simp [tyRV, embed, typeValue, mapRV, toSpec]
  | list t => simp [tyRV, embed, typeValue, mapRV, toSpec]
  | nonNullList t => simp [tyRV, embed, typeValue, mapRV, toSpec]

theorem ok_tyRV (s : ISchema) (t : Ty) : AllObj (ObjOk s) (tyRV s t) := by
  cases t with
  | named n => simp only [tyRV]; exact ok_typeDefRV s n
  | nonNullNamed n => simp [tyRV, AllObj, ObjOk]
  | list t => simp [tyRV, AllObj, ObjOk]
  | nonNullList t => simp [tyRV, AllObj, ObjOk]

theorem map_typesRV (s : ISchema) (names : List String) : mapRV toSpec (typesRV s names) = typeValues s names := by
  unfold typesRV typeValues
  simp only [mapRV, mapRVs_eq_map]
  congr 1
  induction names with
  | nil => rfl
  | cons n ns ih =>
    cases h : s.typeDef? n with
    | none => simp [List.filterMap_cons, h, ih]
    | some d => simp [List.filterMap_cons, h, ih, mapRV, toSpec, (typeDef?_name s n d h).1]

theorem ok_typesRV (s : ISchema) (names : List String) : AllObj (ObjOk s) (typesRV s names) := by
  unfold typesRV
  simp only [AllObj, allObjs_iff]
  intro x hx
  obtain ⟨n, _, hn⟩ := List.mem_filterMap.mp hx
  cases h : s.typeDef? n with
  | none => simp [h] at hn
  | some d =>
    simp [h] at hn
    subst hn
    simp only [AllObj, ObjOk]
    exact (typeDef?_name s n d h).2

theorem map_inputValuesRV (args : AList Json) (vs : List IInputValue) :
    mapRV toSpec (inputValuesRV (inclArg args) vs) = inputValueList args vs := by
  unfold inputValuesRV inputValueList listed
  rw [inclArg_eq, filter_dep]
  simp [mapRV, mapRVs_eq_map, toSpec, Function.comp_def]

theorem map_inputValuesRV' (args : AList Json) (vs : List IInputValue) :
    mapRV toSpec (inputValuesRV (includesDeprecated args) vs) = inputValueList args vs := by
  rw [← inclArg_eq]; exact map_inputValuesRV args vs

theorem ok_inputValuesRV (s : ISchema) (b : Bool) (vs : List IInputValue) : AllObj (ObjOk s) (inputValuesRV b vs) := by
  unfold inputValuesRV
  simp only [AllObj, allObjs_iff]
  intro x hx
  obtain ⟨v, _, rfl⟩ := List.mem_map.mp hx
  simp [AllObj, ObjOk]

theorem reason_eq (s : ISchema) (hd : deprecatedIsBuiltin s = true) (d : Deprecation) :
    deprecationReason s d = reasonOf d := by
  cases d with
  | none => rfl
  | some r => cases r with
    | none => simp [deprecationReason, reasonOf, deprecatedReason_builtin s hd]
    | some r => rfl

theorem implementers_eq (s : ISchema) (iface : String) : implementerObjectsOf s iface = implementingObjects s iface := by
  unfold implementerObjectsOf implementingObjects
  induction s.types with
  | nil => rfl
  | cons t ts ih =>
    simp only [List.filterMap_cons, List.filter_cons]
    cases hk : t.kind with
    | object is fs =>
      simp only [hk]
      by_cases hc : is.contains iface = true
      · simp only [hc, if_true, List.map_cons]; rw [ih]
      · simp only [hc, Bool.false_eq_true, if_false]; exact ih
    | scalar u => simp only [hk, Bool.false_eq_true, if_false]; exact ih
    | interface a b => simp only [hk, Bool.false_eq_true, if_false]; exact ih
    | union a => simp only [hk, Bool.false_eq_true, if_false]; exact ih
    | enum a => simp only [hk, Bool.false_eq_true, if_false]; exact ih
    | inputObject a => simp only [hk, Bool.false_eq_true, if_false]; exact ih

theorem map_typeDefOptRV (s : ISchema) (o : Option String) :
    mapRV toSpec (typeDefOptRV s o) = orNull (o.map fun n => typeValue s (.named n)) := by
  cases o with
  | none => simp [typeDefOptRV, orNull, mapRV]
  | some n => simp [typeDefOptRV, orNull, map_typeDefRV]

/-! ### field by field -/

section Fields
/- what closes a branch: the value the code answers, read through `toSpec`, is the value the specification names -/
attribute [local simp] mapRV mapRVs_eq_map toSpec optStr_eq Function.comp_def map_typeDefRV map_typeDefOptRV map_tyRV
  map_typesRV map_inputValuesRV map_inputValuesRV' inclArg_eq implementers_eq orNull asWritten listed filter_dep isDeprecated
  kindText kindName fieldsOfKind interfacesOfKind enumValuesOfKind inputFieldsOfKind specifiedByOfKind typeValue embed str?

theorem root_spec (s : ISchema) (f : String) (args : AList Json) :
    (resolveI s .root f args).map (mapRV toSpec) = specField asWritten s .root f args := by
  rw [resolveI, specField]
  repeat' refine map_ite_congr _ (fun _ => ?_) (fun _ => ?_)
  · rfl
  · cases AList.get? args "name" with
    | none => rfl
    | some j => cases j <;> first | rfl | exact congrArg some (map_typeDefRV s _)
  · rfl

theorem schema_spec (s : ISchema) (f : String) (args : AList Json) :
    (resolveI s .schema f args).map (mapRV toSpec) = specField asWritten s .schema f args := by
  rw [resolveI, specField]
  -- the two sides test for `directives` at different places
  by_cases hdir : f = "directives"
  · subst hdir; simp
  · simp only [hdir, if_false]
    repeat' refine map_ite_congr _ (fun _ => ?_) (fun _ => ?_)
    all_goals simp

theorem typeDef_spec (s : ISchema) (d : ITypeDef) (hd : s.typeDef? d.name = some d) (f : String) (args : AList Json) :
    (resolveI s (.typeDef d) f args).map (mapRV toSpec) = specField asWritten s (.type (.named d.name)) f args := by
  rw [resolveI, specField, hd]
  unfold namedTypeField possibleTypesOf
  repeat' refine map_ite_congr _ (fun _ => ?_) (fun _ => ?_)
  all_goals cases d.kind
  all_goals simp

theorem typeFieldNames_contains (f : String) : typeFieldNames.contains f = true ↔
    f = "kind" ∨ f = "name" ∨ f = "description" ∨ f = "fields" ∨ f = "interfaces" ∨ f = "possibleTypes" ∨ f = "enumValues" ∨
      f = "inputFields" ∨ f = "ofType" ∨ f = "specifiedByURL" := by
  simp [typeFieldNames]

/-- a wrapping type's fields, for any `kind` and any two answers to `ofType` that correspond -/
theorem wrapping_spec (s : ISchema) (kind : String) (inner : IRV) (inner' : STy) (h : mapRV toSpec inner = typeValue s inner')
    (f : String) :
    (if f = "kind" then some (.leaf (.str kind))
     else if f = "ofType" then some inner
     else if f = "name" ∨ f = "description" ∨ f = "fields" ∨ f = "interfaces" ∨ f = "possibleTypes" ∨ f = "enumValues"
        ∨ f = "inputFields" ∨ f = "specifiedByURL" then some (.leaf .null)
     else none : Option IRV).map (mapRV toSpec) = wrappingTypeField s kind inner' f := by
  unfold wrappingTypeField
  refine map_ite_congr _ (fun _ => rfl) fun hk => map_ite_congr _ (fun _ => congrArg some h) fun ho => ?_
  -- `kind` and `ofType` are among `typeFieldNames`, and are excluded here
  simp only [typeFieldNames_contains, hk, ho, false_or]
  split <;> rfl

theorem typeRef_spec (s : ISchema) (t : Ty) (ht : ∀ n, t ≠ .named n) (f : String) (args : AList Json) :
    (resolveI s (.typeRef t) f args).map (mapRV toSpec) = specField asWritten s (.type (embed t)) f args := by
  cases t with
  | named n => exact absurd rfl (ht n)
  | nonNullNamed n => exact wrapping_spec s "NON_NULL" _ _ (map_typeDefRV s n) f
  | list t => exact wrapping_spec s "LIST" _ _ (map_tyRV s t) f
  | nonNullList t => exact wrapping_spec s "NON_NULL" (.object "__Type" (.typeRef (.list t))) (.list (embed t)) rfl f

theorem directive_spec (s : ISchema) (d : IDirective) (f : String) (args : AList Json) :
    (resolveI s (.directive d) f args).map (mapRV toSpec) = specField asWritten s (.directive d) f args := by
  rw [resolveI, specField]
  -- the two sides test for `args` at different places
  by_cases ha : f = "args"
  · subst ha; simp
  · simp only [ha, if_false]
    repeat' refine map_ite_congr _ (fun _ => ?_) (fun _ => ?_)
    all_goals simp

theorem field_spec (s : ISchema) (hdep : deprecatedIsBuiltin s = true) (d : IField) (f : String) (args : AList Json) :
    (resolveI s (.field d) f args).map (mapRV toSpec) = specField asWritten s (.field d) f args := by
  rw [resolveI, specField]
  repeat' refine map_ite_congr _ (fun _ => ?_) (fun _ => ?_)
  all_goals simp [reason_eq s hdep]

theorem enumValue_spec (s : ISchema) (hdep : deprecatedIsBuiltin s = true) (d : IEnumValue) (f : String) (args : AList Json) :
    (resolveI s (.enumValue d) f args).map (mapRV toSpec) = specField asWritten s (.enumValue d) f args := by
  rw [resolveI, specField]
  repeat' refine map_ite_congr _ (fun _ => ?_) (fun _ => ?_)
  all_goals simp [reason_eq s hdep]

theorem inputValue_spec (s : ISchema) (hdep : deprecatedIsBuiltin s = true) (d : IInputValue) (f : String) (args : AList Json) :
    (resolveI s (.inputValue d) f args).map (mapRV toSpec) = specField asWritten s (.inputValue d) f args := by
  rw [resolveI, specField]
  repeat' refine map_ite_congr _ (fun _ => ?_) (fun _ => ?_)
  all_goals simp [reason_eq s hdep]
end Fields

/-- THE CODE'S RESOLVERS ARE THE SPECIFICATION'S FIELDS: for every schema whose `@deprecated` is the
    built-in directive, every resolver object the executor can meet, every field name and all coerced
    arguments, what `resolve_field` answers is — read through `toSpec` — what §4.2 says that field is;
    `defaultValue` with the reading "the literal as written". -/
theorem resolve_spec (s : ISchema) (hdep : deprecatedIsBuiltin s = true) (o : IObj) (ho : ObjOk s o) (f : String)
    (args : AList Json) :
    (resolveI s o f args).map (mapRV toSpec) = specField asWritten s (toSpec o) f args := by
  cases o with
  | root => exact root_spec s f args
  | schema => exact schema_spec s f args
  | typeDef d => exact typeDef_spec s d ho f args
  | typeRef t =>
    refine typeRef_spec s t ?_ f args
    intro n hn; subst hn; exact ho
  | directive d => exact directive_spec s d f args
  | field d => exact field_spec s hdep d f args
  | enumValue d => exact enumValue_spec s hdep d f args
  | inputValue d => exact inputValue_spec s hdep d f args

theorem ok_typeDefOptRV (s : ISchema) (o : Option String) : AllObj (ObjOk s) (typeDefOptRV s o) := by
  cases o with
  | none => simp [typeDefOptRV, AllObj]
  | some n => simp only [typeDefOptRV]; exact ok_typeDefRV s n

theorem resolve_ok (s : ISchema) (hu : typeNamesDistinct s = true) (o : IObj) (f : String) (args : AList Json) (rv : IRV)
    (h : resolveI s o f args = some rv) : AllObj (ObjOk s) rv := by
  revert rv
  cases o <;> unfold resolveI <;> (repeat' refine ite_forall_some ?_ ?_) <;> (try split) <;> rintro _ ⟨⟩
  all_goals simp [ObjOk, ok_typeDefRV, ok_tyRV, ok_typesRV, ok_inputValuesRV, ok_typeDefOptRV]
  -- `types`: what is left is that the definitions of the schema are found under their names
  exact typeDef?_of_mem s hu

end Apollo.Introspection
