import ApolloModel.Spec.Execution
/- C26: the executor model refines the specification's algorithms: CollectFields,
   CoerceArgumentValues, ResolveAbstractType, MergeSelectionSets, ResolveFieldValue. -/
namespace Apollo.ExecSpec
open Apollo Apollo.Exec

theorem directiveIf_eq (vars : AList Json) (c : Option Cond) : directiveIf vars c = evalIf vars c := by
  cases c with
  | none => rfl
  | some c => cases c <;> rfl

theorem skipped_eq (vars : AList Json) (d : Dirs) : skipped vars d = excluded vars d := by
  unfold skipped excluded
  rw [directiveIf_eq, directiveIf_eq]
  cases evalIf vars d.skip with
  | none => cases evalIf vars d.incl with
    | none => rfl
    | some b => cases b <;> rfl
  | some a => cases evalIf vars d.incl with
    | none => cases a <;> rfl
    | some b => cases a <;> cases b <;> rfl

theorem doesFragmentTypeApply_eq (s : Schema) (o f : String) : doesFragmentTypeApply s o f = fragmentApplies s o f := by
  unfold doesFragmentTypeApply fragmentApplies
  cases s.kind? f with
  | none => rfl
  | some k =>
    cases k <;> simp
    · simp [BEq.comm]
    · cases AList.get? s.objects o <;> simp

theorem appendToGroup_eq : ∀ (g : AList (List Sel)) (k : String) (s : Sel), appendToGroup g k s = pushGroup g k s := by
  intro g
  induction g with
  | nil => intro k s; rfl
  | cons hd tl ih =>
    intro k s
    obtain ⟨k', fs⟩ := hd
    simp [appendToGroup, pushGroup, ih]

/-- CollectFields: the specification's algorithm and `collect_fields` are the same function. -/
theorem collectFields_eq (env : Env) (objTy : String) : ∀ n sels visited groups,
    collectFields env objTy n sels visited groups = Exec.collectFields env objTy n sels visited groups := by
  intro n
  induction n with
  | zero => intro sels visited groups; rfl
  | succ n ih =>
    intro sels visited groups
    cases sels with
    | nil => rfl
    | cons sel rest =>
      simp only [collectFields, Exec.collectFields, skipped_eq]
      cases hx : excluded env.vars sel.dirs with
      | true => simp [ih]
      | false =>
        simp only [Bool.false_eq_true, if_false]
        cases sel with
        | field a nm args d sub => simp [ih, appendToGroup_eq]
        | spread name d =>
          simp only
          cases hv : visited.contains name with
          | true => simp [ih]
          | false =>
            simp only [Bool.false_eq_true, if_false]
            cases hf : AList.get? env.frags name with
            | none => simp [ih]
            | some frag =>
              simp only [doesFragmentTypeApply_eq]
              cases ha : fragmentApplies env.schema objTy frag.cond with
              | true =>
                simp only [if_true, Bool.not_true, Bool.false_eq_true, if_false, ih]
                generalize Exec.collectFields env objTy n frag.sub (name :: visited) groups = r
                cases r with
                | none => rfl
                | some p => obtain ⟨a, b⟩ := p; rfl
              | false => simp [ih]
        | inline cond d sub =>
          have hmatch : (match Exec.collectFields env objTy n sub visited groups with
                | none => none
                | some (visited', grouped') => Exec.collectFields env objTy n rest visited' grouped') =
              (match Exec.collectFields env objTy n sub visited groups with
                | none => none
                | some (visited, groups) => Exec.collectFields env objTy n rest visited groups) := rfl
          cases cond with
          | none =>
            simp [ih]
            generalize Exec.collectFields env objTy n sub visited groups = r
            cases r with
            | none => rfl
            | some p => obtain ⟨a, b⟩ := p; rfl
          | some c =>
            simp only [Option.map_some, Option.getD_some, doesFragmentTypeApply_eq]
            by_cases ha : fragmentApplies env.schema objTy c = true
            · simp only [ha, if_true, Bool.not_true, Bool.false_eq_true, if_false, ih]
              generalize Exec.collectFields env objTy n sub visited groups = r
              cases r with
              | none => rfl
              | some p => obtain ⟨a, b⟩ := p; rfl
            · have ha' : fragmentApplies env.schema objTy c = false := by simpa using ha
              simp [ha', ih]

theorem apollo_coerceLiteral (env : Env) (ty : Ty) (v : AVal) :
    Choices.apollo.coerceLiteral env ty v = coerceArgValue env (v.size + ty.depth + 2) ty v := rfl

macro "lit_case" : tactic => `(tactic| (
  simp only [apollo_coerceLiteral]
  split
  · rfl
  · generalize coerceArgValue _ _ _ _ = r
    cases r <;> simp [*]))

/-- CoerceArgumentValues: the specification's hasValue / default / non-null case analysis and the loop
    of `coerce_argument_values` agree (literal coercion being apollo's). -/
theorem coerceArgumentValues_eq (env : Env) (given : List (String × AVal)) : ∀ defs acc,
    coerceArgumentValues Choices.apollo env given defs acc = coerceArgs env given defs acc := by
  intro defs
  induction defs with
  | nil => intro acc; rfl
  | cons ad rest ih =>
    intro acc
    simp only [coerceArgumentValues, coerceArgs, argSource]
    cases hg : aget? given ad.name with
    | none =>
      simp only
      cases hd : ad.default with
      | none => simp only; split <;> simp [ih]
      | some d => simp [ih]
    | some v =>
      cases v with
      | var vn =>
        simp only
        cases hv : AList.get? env.vars vn with
        | none =>
          simp only
          cases hd : ad.default with
          | none => simp only; split <;> simp [ih]
          | some d => simp [ih]
        | some val => simp only; split <;> simp [ih]
      | null => lit_case
      | bool b => lit_case
      | int z => lit_case
      | float t => lit_case
      | str s => lit_case
      | «enum» e => lit_case
      | list xs => lit_case
      | obj kvs => lit_case

theorem kind_object_get (s : Schema) (n : String) (d : ObjectDef) (h : s.kind? n = some (.object d)) :
    AList.get? s.objects n = some d := by
  unfold Schema.kind? at h
  cases hg : AList.get? s.objects n with
  | some d' => simp [hg] at h; rw [h]
  | none =>
    simp only [hg] at h
    split at h
    · cases h
    · split at h
      · cases h
      · split at h <;> cases h

/-- ResolveAbstractType / possible-type check -/
theorem isPossibleType_eq (s : Schema) (tyName : String) (k : Kind) (hk : s.kind? tyName = some k) (resolvedTy : String) :
    isPossibleType s tyName k resolvedTy = resolveObjectType s tyName k resolvedTy := by
  unfold isPossibleType resolveObjectType
  cases k with
  | scalar => cases AList.get? s.objects resolvedTy <;> rfl
  | «enum» vs => cases AList.get? s.objects resolvedTy <;> rfl
  | inputObject fs => cases AList.get? s.objects resolvedTy <;> rfl
  | interface => cases AList.get? s.objects resolvedTy <;> rfl
  | union ms => cases AList.get? s.objects resolvedTy <;> rfl
  | object d =>
    have hg := kind_object_get s tyName d hk
    by_cases he : resolvedTy = tyName
    · subst he
      simp [hg]
    · cases AList.get? s.objects resolvedTy <;> simp [he]

theorem mergeSelectionSets_eq : ∀ fields, mergeSelectionSets fields = subSelections fields := by
  intro fields
  induction fields with
  | nil => rfl
  | cons f rest ih => simp [mergeSelectionSets, subSelections, ih]

theorem resolveFieldValue_eq (env : Env) (objTy : String) (objId : Nat) (fname : String) (args : AList Json) :
    resolveFieldValue env objTy objId fname args =
      (if fname = "__typename" then some (.leaf (.str objTy))
       else
         match env.world.get? objId fname with
         | none => none
         | some .error => none
         | some .echo => some (.leaf (.obj args))
         | some rv => some rv) := by
  unfold resolveFieldValue
  split
  · rfl
  · cases h : env.world.get? objId fname with
    | none => rfl
    | some rv => cases rv <;> rfl

end Apollo.ExecSpec
