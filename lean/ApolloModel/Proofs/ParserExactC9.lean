import ApolloModel.Proofs.ParserExactC5
import ApolloModel.Proofs.ParserComplete10
/-
C05 / C07 (completeness), exact budget: the selection grammar — fragment spread, field (alias decision by
`peek_n(2)`), inline fragment, the selection loop (spread vs inline fragment by `peek_n(2)`), `selection`,
`selection_set`, the whole family by induction on the fuel; `field_set` and the entry point
`Parser::parse_selection_set`.
-/
set_option linter.unusedSimpArgs false
namespace Apollo.Parse.Exact
open Apollo.Rowan hiding Str
open Apollo.Lex hiding Str

theorem data_of_astOfV_name {t : Tok} {n : Ast.Str} (h : astOfV t = some (.name n)) : t.data = n := Parse.data_of_astOfV_name h

/-! ### optional parts: `if p.peek() == Some(k0) { m }` -/

def optU (k0 : Kind) (m : PI Unit) : PI Unit := peek >>= fun k => if k == some k0 then m else pure ()

/-- optional directives; the follow token is neither `@` nor `(` -/
theorem cmp_optDirs {Hk : Kind → Prop} (n : Nat) :
    Cmp Hk (optDirs n) (LDirs false) (fun k => k ≠ .at ∧ k ≠ .lParen) (fun _ => True) := by
  have := cmp_optU (Hk := Hk) .at (directives n false)
    (Lm := fun b x => ∃ ds, ds ≠ [] ∧ x = Ast.tDirectives ds ∧ dirsFit false b ds)
    ((directives_complete n false).mono (fun _ h => h) (by rintro b x ⟨ds, _, rfl, h⟩; exact ⟨ds, rfl, h⟩) (fun _ h => h) (fun _ h => h))
    (by rintro b x ⟨ds, hne, rfl, _⟩; obtain ⟨x', e⟩ := tDirectives_head ds hne; exact ⟨_, x', e, rfl⟩)
  refine this.mono (fun _ h => h) ?_ (fun k h => ⟨h.1, h⟩) (fun _ h => h)
  rintro b x ⟨ds, rfl, h⟩
  by_cases hne : ds = []
  · subst hne; exact Or.inr rfl
  · exact Or.inl ⟨ds, hne, rfl, h⟩

/-! ### fragment spread -/

def LSpread (b : Nat) (x : List Ast.Tok) : Prop :=
  ∃ nm ds, x = Ast.tSel (.spread nm ds) ∧ nm ≠ Ast.sOn ∧ dirsFit false b ds

/-- `... FragmentName Directives?` -/
theorem cmp_fragmentSpread (n : Nat) :
    Cmp (fun _ => True) (fragmentSpread n) LSpread (fun k => k ≠ .at ∧ k ≠ .lParen) (fun _ => True) := by
  rw [fragmentSpread_eq]
  refine cmp_withNode _ ?_
  unfold spreadBody
  have h3 : Cmp (fun _ => True) (fragmentName >>= fun _ => optDirs n)
      (fun b x => ∃ x1 x2, x = x1 ++ x2 ∧ (∃ n, x1 = [.name n] ∧ n ≠ Ast.sOn) ∧ LDirs false b x2)
      (fun k => k ≠ .at ∧ k ≠ .lParen) (fun _ => True) :=
    cmp_bind (Hk := fun _ => True) (F1 := fun _ => True) cmp_fragmentName (fun _ _ => cmp_optDirs n)
      (fun _ _ _ _ => trivial) (fun _ _ => trivial) (fun _ h => h)
  have h2 : Cmp (fun _ => True) (peek >>= fun k =>
      if k == some .name then (fragmentName >>= fun _ => optDirs n) else (err >>= fun _ => optDirs n))
      (fun b x => ∃ x1 x2, x = x1 ++ x2 ∧ (∃ n, x1 = [.name n] ∧ n ≠ Ast.sOn) ∧ LDirs false b x2)
      (fun k => k ≠ .at ∧ k ≠ .lParen) (fun _ => True) :=
    cmp_peekGuard (· == some .name) h3 (by rintro b x ⟨x1, x2, rfl, ⟨nm, rfl, _⟩, _⟩; exact ⟨_, _, rfl, rfl⟩)
  have h1 := cmp_bind (Hk := fun _ => True) (F := fun k => k ≠ Kind.at ∧ k ≠ Kind.lParen) (F1 := fun _ => True)
    (cmp_bump "SPREAD") (fun _ _ => h2) (fun _ _ _ _ => trivial) (fun _ _ => trivial) (fun _ h => h)
  refine h1.mono (fun _ h => h) ?_ (fun _ h => h) (fun _ h => h)
  rintro b x ⟨nm, ds, rfl, hne, hfit⟩
  exact ⟨[.p .spread], .name nm :: Ast.tDirectives ds, by simp [Ast.tSel], ⟨_, rfl⟩, [.name nm], Ast.tDirectives ds, rfl,
    ⟨nm, rfl, hne⟩, ds, rfl, hfit⟩

/-! ### selections within a recursion budget -/

def LFieldS (b : Nat) (x : List Ast.Tok) : Prop :=
  ∃ al nm args dirs sels, x = Ast.tSel (.field al nm args dirs sels) ∧ fitSel (.field al nm args dirs sels) b

def LInline (b : Nat) (x : List Ast.Tok) : Prop :=
  ∃ tc dirs sels, x = Ast.tSel (.inline tc dirs sels) ∧ fitSel (.inline tc dirs sels) b

def SetComp (n : Nat) : Prop := Cmp (fun _ => True) (selectionSet n) LSet (fun _ => True) (fun _ => True)
def FieldSComp (n : Nat) : Prop := Cmp (fun _ => True) (field n) LFieldS Fsel (fun _ => True)
def InlineComp (n : Nat) : Prop := Cmp (fun _ => True) (inlineFragment n) LInline (fun _ => True) (fun _ => True)
def SelsComp (n : Nat) : Prop := Cmp (fun _ => True) (selection n) LSels (fun k => k = .rCurly ∨ k = .eof) (fun _ => True)

theorem lset_head {b : Nat} {x : List Ast.Tok} (h : LSet b x) : ∃ x', x = .p .lCurly :: x' := by
  obtain ⟨ss, _, rfl, _⟩ := h; exact ⟨_, rfl⟩

theorem lset_ne (b : Nat) : ¬ LSet b [] := by
  intro h; obtain ⟨x', e⟩ := lset_head h; cases e

theorem tSubSels_fit (sels : Ast.Sels) (b : Nat) (h : fitSub sels b) : LSet b (Ast.tSubSels sels) ∨ Ast.tSubSels sels = [] := by
  cases sels with
  | nil => right; simp [Ast.tSubSels]
  | cons f tl =>
    left
    rw [fitSub] at h
    exact ⟨.cons f tl, by simp, Ast.tSubSels_cons f tl, h.1, by rw [fitSels]; exact ⟨h.2.1, h.2.2⟩⟩

/-! ### the tail of a field: `Arguments? Directives? SelectionSet?` -/

def LDirsNe (b : Nat) (x : List Ast.Tok) : Prop := ∃ ds, ds ≠ [] ∧ x = Ast.tDirectives ds ∧ dirsFit false b ds

theorem cmp_directivesNe (n : Nat) :
    Cmp (fun _ => True) (directives n false) LDirsNe (fun k => k ≠ .at ∧ k ≠ .lParen) (fun _ => True) :=
  (directives_complete n false).mono (fun _ h => h) (by rintro b x ⟨ds, _, rfl, h⟩; exact ⟨ds, rfl, h⟩) (fun _ h => h) (fun _ h => h)

theorem ldirsNe_head {b : Nat} {x : List Ast.Tok} (h : LDirsNe b x) : ∃ a x', x = a :: x' ∧ kindOfA a = .at := by
  obtain ⟨ds, hne, rfl, _⟩ := h
  obtain ⟨x', e⟩ := tDirectives_head ds hne
  exact ⟨_, x', e, rfl⟩

theorem ldirs_split (b : Nat) (ds : List Ast.Directive) (h : dirsFit false b ds) :
    LDirsNe b (Ast.tDirectives ds) ∨ Ast.tDirectives ds = [] := by
  by_cases hne : ds = []
  · subst hne; right; rfl
  · left; exact ⟨ds, hne, rfl, h⟩

theorem largs_split (b : Nat) (args : List (Ast.Str × Ast.Value)) (h : argsFit false b args) :
    LArgs false b (Ast.tArguments args) ∨ Ast.tArguments args = [] := by
  by_cases hne : args = []
  · subst hne; right; rfl
  · left; exact ⟨args, hne, rfl, h⟩

theorem largs_head {b : Nat} {x : List Ast.Tok} (h : LArgs false b x) : ∃ a x', x = a :: x' ∧ kindOfA a = .lParen := by
  obtain ⟨args, hne, rfl, _⟩ := h
  cases args with
  | nil => exact absurd rfl hne
  | cons a r => exact ⟨.p .lParen, Ast.tArgItems (a :: r) ++ [.p .rParen], by simp [Ast.tArguments], rfl⟩

def LT3 (b : Nat) (x : List Ast.Tok) : Prop := LSet b x ∨ x = []
def LT2 (b : Nat) (x : List Ast.Tok) : Prop := ∃ x1 x2, x = x1 ++ x2 ∧ (LDirsNe b x1 ∨ x1 = []) ∧ LT3 b x2
def LT1 (b : Nat) (x : List Ast.Tok) : Prop := ∃ x1 x2, x = x1 ++ x2 ∧ (LArgs false b x1 ∨ x1 = []) ∧ LT2 b x2

theorem cmp_fieldT3 (n : Nat) (ih : SetComp n) :
    Cmp (fun _ => True) (fieldT3 n) LT3 (fun k => k ≠ .lCurly) (fun _ => True) := by
  have := cmp_optU (Hk := fun _ => True) .lCurly (selectionSet n) ih
    (by intro b x h; obtain ⟨x', e⟩ := lset_head h; exact ⟨_, x', e, rfl⟩)
  exact this.mono (fun _ h => h) (fun _ _ h => h) (fun _ h => ⟨h, trivial⟩) (fun _ h => h)

theorem lt3_head {b : Nat} {a : Ast.Tok} {x : List Ast.Tok} (h : LT3 b (a :: x)) : a = .p .lCurly := by
  rcases h with h | h
  · obtain ⟨x', e⟩ := lset_head h; injection e
  · cases h

theorem cmp_fieldT2 (n : Nat) (ih : SetComp n) : Cmp (fun _ => True) (fieldT2 n) LT2 F2 (fun _ => True) := by
  have := cmp_optKind (Hk := fun _ => True) (F := F2) .at (directives n false) (fieldT3 n) (cmp_directivesNe n) (cmp_fieldT3 n ih)
    (fun b x h => ldirsNe_head h)
    (by intro b a x h; rw [lt3_head h]; simp [kindOfA])
    (by intro k h; exact ⟨h.1, ⟨h.1, h.2.1⟩, h.2.2⟩)
  exact this

theorem lt2_head {b : Nat} {a : Ast.Tok} {x : List Ast.Tok} (h : LT2 b (a :: x)) : a = .p .lCurly ∨ a = .p .at := by
  obtain ⟨x1, x2, e, h1, h2⟩ := h
  rcases h1 with h1 | rfl
  · obtain ⟨a', x', rfl, hk⟩ := ldirsNe_head h1
    obtain ⟨ds, hne, e2, _⟩ := h1
    obtain ⟨x'', e3⟩ := tDirectives_head ds hne
    rw [e3] at e2
    simp only [List.cons_append] at e
    injection e with e _; injection e2 with e2 _
    right; rw [e, e2]
  · simp only [List.nil_append] at e
    subst e
    left; exact lt3_head h2

theorem cmp_fieldT1 (n : Nat) (ih : SetComp n) : Cmp (fun _ => True) (fieldT1 n) LT1 F2 (fun _ => True) := by
  have := cmp_optKind (Hk := fun _ => True) (F := F2) .lParen (arguments n false) (fieldT2 n) (arguments_complete n false) (cmp_fieldT2 n ih)
    (fun b x h => largs_head h)
    (by intro b a x h; rcases lt2_head h with e | e <;> subst e <;> simp [kindOfA])
    (by intro k h; exact ⟨h.2.1, trivial, h⟩)
  exact this

theorem lt1_of_parts (b : Nat) (args : List (Ast.Str × Ast.Value)) (dirs : List Ast.Directive) (sels : Ast.Sels)
    (ha : argsFit false b args) (hd : dirsFit false b dirs) (hs : fitSub sels b) :
    LT1 b (Ast.tArguments args ++ Ast.tDirectives dirs ++ Ast.tSubSels sels) :=
  ⟨_, _, by rw [List.append_assoc], largs_split b args ha, _, _, rfl, ldirs_split b dirs hd, tSubSels_fit sels b hs⟩

theorem lt1_head {b : Nat} {a : Ast.Tok} {x : List Ast.Tok} (h : LT1 b (a :: x)) : kindOfA a ≠ .colon := by
  obtain ⟨x1, x2, e, h1, h2⟩ := h
  rcases h1 with h1 | rfl
  · obtain ⟨a', x', rfl, hk⟩ := largs_head h1
    simp only [List.cons_append] at e
    injection e with e _
    rw [e, hk]; decide
  · simp only [List.nil_append] at e
    subst e
    rcases lt2_head h2 with e | e <;> subst e <;> simp [kindOfA]

/-! ### field: the alias decision -/

theorem field_comp_step (n : Nat) (ih : SetComp n) : FieldSComp (n + 1) := by
  unfold FieldSComp
  rw [field_succ]
  refine cmp_withNode _ ?_
  intro s s' u c x q0 rest w hr hl hs ht hq hf _
  obtain ⟨al, nm, args, dirs, sels, rfl, hfit⟩ := hl
  rw [fitSel] at hfit
  have htail := lt1_of_parts _ args dirs sels hfit.1 hfit.2.1 hfit.2.2
  generalize htl : Ast.tArguments args ++ Ast.tDirectives dirs ++ Ast.tSubSels sels = tail at htail
  have hf2 : F2 q0.kind := f2_of_fsel hf
  have hqc : q0.kind ≠ .colon := by rcases hf with h | h | h | h <;> rw [h] <;> decide
  have hNT : Cmp (fun _ => True) (name >>= fun _ => fieldT1 n)
      (fun b x => ∃ x1 x2, x = x1 ++ x2 ∧ (∃ n, x1 = [.name n]) ∧ LT1 b x2) F2 (fun _ => True) :=
    cmp_bind (Hk := fun _ => True) (F1 := fun _ => True) cmp_name (fun _ _ => cmp_fieldT1 n ih)
      (fun _ _ _ _ => trivial) (fun _ _ => trivial) (fun _ h => h)
  unfold fieldBody at hr
  cases al with
  | none =>
    have hx : Ast.tSel (.field none nm args dirs sels) = .name nm :: tail := by
      simp [Ast.tSel, ← htl, List.append_assoc]
    rw [hx] at hs
    obtain ⟨t, i, c', rfl, hta, hi, hs'⟩ := spells_cons hs
    have hkt : t.kind = .name := kind_of_astOfV hta
    obtain ⟨ko, sP, hp, h2⟩ := bind_dec peek _ s s' u hr
    obtain ⟨rfl, eP, htP, hcur⟩ := peek_head s sP ko t (i ++ (c' ++ q0 :: rest)) w (by rw [ht]; simp) hp
    have hb : sP.recLimit - sP.recCur = s.recLimit - s.recCur := by rw [eP.recLimit, eP.recCur]
    simp only [hkt, beq_self_eq_true, if_true] at h2
    obtain ⟨k2, sQ, hq2, h3⟩ := bind_dec (peekN 2) _ sP s' u h2
    obtain ⟨hsQ, hk2⟩ := peekN2_spec sP sQ k2 t _ eP.w hcur htP (sigf_of_astOfV hta) hq2
    subst hsQ
    obtain ⟨t2, hh, hor⟩ := sig_head_after i c' q0 rest tail hi hs' hq
    have hnc : (k2 == some Kind.colon) = false := by
      rw [hk2, hh]; simp only [Option.map_some]
      rcases hor with ⟨_, rfl⟩ | ⟨a2, x', rfl, hta2⟩
      · simpa using hqc
      · rw [kind_of_astOfV hta2]; simpa using lt1_head htail
    simp only [hnc, Bool.false_eq_true, if_false] at h3
    obtain ⟨e, t3, _⟩ := hNT _ s' u (t :: i ++ c') _ q0 rest eP.w h3 ⟨[.name nm], tail, rfl, ⟨nm, rfl⟩, by rw [hb]; exact htail⟩
      hs (by rw [htP]; simp) hq hf2 trivial
    exact ⟨by simpa using eP.trans e, t3, trivial⟩
  | some a =>
    have hx : Ast.tSel (.field (some a) nm args dirs sels) = .name a :: (.p .colon :: .name nm :: tail) := by
      simp [Ast.tSel, ← htl, List.append_assoc]
    rw [hx] at hs
    obtain ⟨t, i, c', rfl, hta, hi, hs'⟩ := spells_cons hs
    have hkt : t.kind = .name := kind_of_astOfV hta
    obtain ⟨ko, sP, hp, h2⟩ := bind_dec peek _ s s' u hr
    obtain ⟨rfl, eP, htP, hcur⟩ := peek_head s sP ko t (i ++ (c' ++ q0 :: rest)) w (by rw [ht]; simp) hp
    have hb : sP.recLimit - sP.recCur = s.recLimit - s.recCur := by rw [eP.recLimit, eP.recCur]
    simp only [hkt, beq_self_eq_true, if_true] at h2
    obtain ⟨k2, sQ, hq2, h3⟩ := bind_dec (peekN 2) _ sP s' u h2
    obtain ⟨hsQ, hk2⟩ := peekN2_spec sP sQ k2 t _ eP.w hcur htP (sigf_of_astOfV hta) hq2
    subst hsQ
    obtain ⟨t2, hh, hor⟩ := sig_head_after i c' q0 rest _ hi hs' hq
    have hc : (k2 == some Kind.colon) = true := by
      rw [hk2, hh]; simp only [Option.map_some]
      rcases hor with ⟨h, _⟩ | ⟨a2, x', e, hta2⟩
      · cases h
      · injection e with e _
        subst e
        rw [kind_of_astOfV hta2]; rfl
    simp only [hc, if_true] at h3
    have hANT := cmp_bind (Hk := fun _ => True) (F := F2) (F1 := fun _ => True) cmp_alias (fun _ _ => hNT)
      (fun _ _ _ _ => trivial) (fun _ _ => trivial) (fun _ h => h)
    obtain ⟨e, t3, _⟩ := hANT _ s' u (t :: i ++ c') _ q0 rest eP.w h3
      ⟨[.name a, .p .colon], .name nm :: tail, rfl, ⟨a, rfl⟩, [.name nm], tail, rfl, ⟨nm, rfl⟩, by rw [hb]; exact htail⟩
      hs (by rw [htP]; simp) hq hf2 trivial
    exact ⟨by simpa using eP.trans e, t3, trivial⟩

/-! ### inline fragment -/

def LI2 (b : Nat) (x : List Ast.Tok) : Prop := ∃ x1 x2, x = x1 ++ x2 ∧ (LDirsNe b x1 ∨ x1 = []) ∧ LSet b x2
def LI1 (b : Nat) (x : List Ast.Tok) : Prop := ∃ x1 x2, x = x1 ++ x2 ∧ (LTc b x1 ∨ x1 = []) ∧ LI2 b x2

theorem cmp_inlT3 (n : Nat) (ih : SetComp n) : Cmp (fun _ => True) (inlT3 n) LSet (fun _ => True) (fun _ => True) := by
  unfold inlT3
  refine cmp_peekGuard (· == some .lCurly) ih fun b x h => ?_
  obtain ⟨x', rfl⟩ := lset_head h
  exact ⟨_, x', rfl, rfl⟩

theorem li2_head {b : Nat} {a : Ast.Tok} {x : List Ast.Tok} (h : LI2 b (a :: x)) : a = .p .lCurly ∨ a = .p .at := by
  obtain ⟨x1, x2, e, h1, h2⟩ := h
  rcases h1 with h1 | rfl
  · obtain ⟨ds, hne, e2, _⟩ := h1
    obtain ⟨x'', e3⟩ := tDirectives_head ds hne
    rw [e3] at e2
    subst e2
    simp only [List.cons_append] at e
    injection e with e _
    right; exact e
  · simp only [List.nil_append] at e
    subst e
    obtain ⟨x', e⟩ := lset_head h2
    injection e with e _
    left; exact e

theorem li2_ne (b : Nat) : ¬ LI2 b [] := by
  rintro ⟨x1, x2, e, _, h2⟩
  obtain ⟨x', rfl⟩ := lset_head h2
  cases x1 <;> simp at e

theorem cmp_inlT2 (n : Nat) (ih : SetComp n) : Cmp (fun _ => True) (inlT2 n) LI2 (fun _ => True) (fun _ => True) := by
  have := cmp_optKind_ne (Hk := fun _ => True) (F := fun _ => True) .at (directives n false) (inlT3 n) (cmp_directivesNe n) (cmp_inlT3 n ih)
    (fun b x h => ldirsNe_head h)
    (by intro b a x h; obtain ⟨x', e⟩ := lset_head h; injection e with e _; subst e; simp [kindOfA])
    lset_ne (fun _ h => h)
  exact this

theorem li1_ne (b : Nat) : ¬ LI1 b [] := by
  rintro ⟨x1, x2, e, _, h2⟩
  cases x2 with
  | nil => exact li2_ne b h2
  | cons a r => cases x1 <;> simp at e

theorem cmp_inl1 (n : Nat) (ih : SetComp n) :
    Cmp (fun _ => True) (optKind .name typeCondition (inlT2 n)) LI1 (fun _ => True) (fun _ => True) :=
  cmp_optKind_ne (Hk := fun _ => True) (F := fun _ => True) .name typeCondition (inlT2 n) cmp_typeCondition (cmp_inlT2 n ih)
    (by rintro b x ⟨nn, rfl⟩; exact ⟨_, _, rfl, rfl⟩)
    (by intro b a x h; rcases li2_head h with e | e <;> subst e <;> simp [kindOfA])
    li2_ne (fun _ h => h)

theorem inline_comp_step (n : Nat) (ih : SetComp n) : InlineComp (n + 1) := by
  unfold InlineComp
  rw [inlineFragment_succ, inlineBody_eq]
  refine cmp_withNode _ ?_
  have h := cmp_bind_ne (Hk := fun _ => True) (F := fun _ => True) (cmp_bump "SPREAD") (fun _ _ => cmp_inl1 n ih)
    (fun _ _ _ _ => trivial) li1_ne (fun _ h => h)
  refine h.mono (fun _ h => h) ?_ (fun _ h => h) (fun _ h => h)
  rintro b x ⟨tc, dirs, sels, rfl, hfit⟩
  rw [fitSel] at hfit
  obtain ⟨hd, hne, hb1, hfs⟩ := hfit
  have hset : LSet b (.p .lCurly :: Ast.tSels sels ++ [.p .rCurly]) := ⟨sels, hne, rfl, hb1, hfs⟩
  have h2 : LI2 b (Ast.tDirectives dirs ++ (.p .lCurly :: Ast.tSels sels ++ [.p .rCurly])) :=
    ⟨_, _, rfl, ldirs_split b dirs hd, hset⟩
  cases tc with
  | none =>
    exact ⟨[.p .spread], _, by simp [Ast.tSel], ⟨_, rfl⟩, [], _, rfl, Or.inr rfl, h2⟩
  | some tn =>
    exact ⟨[.p .spread], _, by simp [Ast.tSel], ⟨_, rfl⟩, [.name Ast.sOn, .name tn], _, rfl, Or.inl ⟨tn, rfl⟩, h2⟩

theorem spells_split0 {c : List Tok} {x1 x2 : List Ast.Tok} (h : Spells c (x1 ++ x2)) :
    ∃ c1 c2, c = c1 ++ c2 ∧ Spells c1 x1 ∧ Spells c2 x2 := Parse.spells_split0 h

theorem tSel_head (f : Ast.Sel) : ∃ a x', Ast.tSel f = a :: x' ∧ (kindOfA a = .name ∨ kindOfA a = .spread) := Parse.tSel_head f

/-! ### one selection: the loop body, entered after `peek` -/

theorem selBody_comp (n : Nat) (ihf : FieldSComp n) (ihi : InlineComp n) (f : Ast.Sel) (sP sB : PState) (t : Tok)
    (tl1 : List Tok) (q1 : Tok) (r1 : List Tok) (cont set : Bool) (w : TW sP) (hcur : sP.current = some t)
    (hfit : fitSel f (sP.recLimit - sP.recCur)) (hs : Spells (t :: tl1) (Ast.tSel f))
    (ht : Toks sP = (t :: tl1) ++ q1 :: r1) (hq : Sigf q1) (hf : Fsel q1.kind)
    (h : (selBody n t.kind).run sP = .ok (cont, set) sB) :
    cont = true ∧ set = true ∧ Eat sP sB (t :: tl1) ∧ Toks sB = q1 :: r1 := by
  have hf2 : F2 q1.kind := f2_of_fsel hf
  have fin : ∀ (m : PI Unit) (sX : PState), (m >>= fun _ => (pure (true, true) : PI (Bool × Bool))).run sX = .ok (cont, set) sB →
      sX = sP → (∀ s2, m.run sP = .ok () s2 → Eat sP s2 (t :: tl1) ∧ Toks s2 = q1 :: r1) →
      cont = true ∧ set = true ∧ Eat sP sB (t :: tl1) ∧ Toks sB = q1 :: r1 := by
    intro m sX hm hX hcm
    subst hX
    obtain ⟨_, s2, h3, h4⟩ := bind_dec m _ _ sB (cont, set) hm
    rw [run_pure] at h4
    injection h4 with h4 h5
    injection h4 with h4a h4b
    subst h5
    obtain ⟨e, t2⟩ := hcm s2 h3
    exact ⟨h4a.symm, h4b.symm, e, t2⟩
  unfold selBody at h
  cases f with
  | field al nm args dirs sels =>
    have hk : t.kind = .name := by
      obtain ⟨a, x', e, _⟩ := tSel_head (.field al nm args dirs sels)
      have hka : kindOfA a = .name := by
        cases al <;> simp [Ast.tSel, List.append_assoc] at e <;> rw [← e.1] <;> rfl
      rw [e] at hs
      obtain ⟨t', tl', e', hta⟩ := spells_head hs
      injection e' with e' _
      subst e'
      rw [kind_of_astOfV hta, hka]
    simp only [hk, show (Kind.name == Kind.spread) = false from rfl, show (Kind.name == Kind.lCurly) = false from rfl,
      Bool.false_eq_true, if_false, beq_self_eq_true, if_true] at h
    refine fin (field n) sP h rfl ?_
    intro s2 h3
    obtain ⟨e, t2, _⟩ := ihf sP s2 () (t :: tl1) _ q1 r1 w h3 ⟨al, nm, args, dirs, sels, rfl, hfit⟩ hs ht hq hf trivial
    exact ⟨e, t2⟩
  | spread nm dirs =>
    rw [fitSel] at hfit
    have hx : Ast.tSel (.spread nm dirs) = .p .spread :: (.name nm :: Ast.tDirectives dirs) := by simp [Ast.tSel]
    have hs0 := hs
    rw [hx] at hs
    obtain ⟨t', i, c', e', hta, hi, hs'⟩ := spells_cons hs
    injection e' with e1 e2
    subst e1
    have hk : t.kind = .spread := kind_of_astOfV hta
    simp only [hk, beq_self_eq_true, if_true] at h
    obtain ⟨o, sQ, hq2, h2⟩ := bind_dec (peekTokenN 2) _ sP sB (cont, set) h
    obtain ⟨hsQ, ho⟩ := peekTokenN2_spec sP sQ o t (tl1 ++ q1 :: r1) w hcur (by simpa using ht) (sigf_of_astOfV hta) hq2
    obtain ⟨t2, hh, hor⟩ := sig_head_after i c' q1 r1 _ hi hs' hq
    have ho2 : o = some t2 := by rw [ho, e2]; simpa [List.append_assoc] using hh
    subst ho2
    rcases hor with ⟨h0, _⟩ | ⟨a2, x', e, hta2⟩
    · cases h0
    · injection e with e _
      subst e
      have hk2 : t2.kind = .name := kind_of_astOfV hta2
      have hd2 : t2.data = nm := data_of_astOfV_name hta2
      have hkw : kw "on" t2.data = false := by
        rw [hd2]; unfold kw
        simpa [Ast.sOn] using hfit.1
      simp only [hk2, beq_self_eq_true, hkw, Bool.not_false, Bool.and_self, if_true] at h2
      refine fin (fragmentSpread n) sQ h2 hsQ ?_
      intro s2 h3
      obtain ⟨e, t3, _⟩ := cmp_fragmentSpread n sP s2 () (t :: tl1) _ q1 r1 w h3 ⟨nm, dirs, rfl, hfit.1, hfit.2⟩ hs0 ht hq
        ⟨hf2.1, hf2.2.1⟩ trivial
      exact ⟨e, t3⟩
  | inline tc dirs sels =>
    have hfit0 := hfit
    rw [fitSel] at hfit
    obtain ⟨a2, x', hx, hka2⟩ : ∃ a2 x', Ast.tSel (.inline tc dirs sels) = .p .spread :: a2 :: x' ∧
        (a2 = .name Ast.sOn ∨ kindOfA a2 = .at ∨ kindOfA a2 = .lCurly) := by
      cases tc with
      | some tn => exact ⟨.name Ast.sOn, (Ast.tSel (.inline (some tn) dirs sels)).tail.tail, by simp [Ast.tSel, List.append_assoc], Or.inl rfl⟩
      | none =>
        cases dirs with
        | nil => exact ⟨.p .lCurly, (Ast.tSel (.inline none [] sels)).tail.tail, by simp [Ast.tSel, Ast.tDirectives], Or.inr (Or.inr rfl)⟩
        | cons d r => exact ⟨.p .at, (Ast.tSel (.inline none (d :: r) sels)).tail.tail, by simp [Ast.tSel, Ast.tDirectives, List.append_assoc], Or.inr (Or.inl rfl)⟩
    have hs0 := hs
    rw [hx] at hs
    obtain ⟨t', i, c', e', hta, hi, hs'⟩ := spells_cons hs
    injection e' with e1 e2
    subst e1
    have hk : t.kind = .spread := kind_of_astOfV hta
    simp only [hk, beq_self_eq_true, if_true] at h
    obtain ⟨o, sQ, hq2, h2⟩ := bind_dec (peekTokenN 2) _ sP sB (cont, set) h
    obtain ⟨hsQ, ho⟩ := peekTokenN2_spec sP sQ o t (tl1 ++ q1 :: r1) w hcur (by simpa using ht) (sigf_of_astOfV hta) hq2
    obtain ⟨t2, hh, hor⟩ := sig_head_after i c' q1 r1 _ hi hs' hq
    have ho2 : o = some t2 := by rw [ho, e2]; simpa [List.append_assoc] using hh
    subst ho2
    rcases hor with ⟨h0, _⟩ | ⟨a2', x'', e, hta2⟩
    · cases h0
    · injection e with e _
      subst e
      have hk2 := kind_of_astOfV hta2
      have c1 : (t2.kind == Kind.name && !kw "on" t2.data) = false := by
        rcases hka2 with h0 | h0 | h0
        · subst h0
          have hd2 : t2.data = Ast.sOn := data_of_astOfV_name hta2
          have : kw "on" t2.data = true := by rw [hd2]; unfold kw; simp [Ast.sOn]
          simp [this]
        · rw [hk2, h0]; rfl
        · rw [hk2, h0]; rfl
      have c2 : (t2.kind == Kind.at || t2.kind == Kind.name || t2.kind == Kind.lCurly) = true := by
        rcases hka2 with h0 | h0 | h0
        · subst h0; rw [hk2]; rfl
        · rw [hk2, h0]; rfl
        · rw [hk2, h0]; rfl
      simp only [c1, Bool.false_eq_true, if_false, c2, if_true] at h2
      refine fin (inlineFragment n) sQ h2 hsQ ?_
      intro s2 h3
      obtain ⟨e, t3, _⟩ := ihi sP s2 () (t :: tl1) _ q1 r1 w h3 ⟨tc, dirs, sels, rfl, hfit0⟩ hs0 ht hq trivial trivial
      exact ⟨e, t3⟩

/-! ### the selection loop -/

theorem selLoop_comp (n : Nat) (ihf : FieldSComp n) (ihi : InlineComp n) :
    ∀ (fuel : Nat) (ss : Ast.Sels) (flag : Bool) (s s' : PState) (r : Bool) (c : List Tok) (q0 : Tok) (rest : List Tok), TW s →
      (peekWhileFlagLoop (selBody n) fuel flag).run s = .ok r s' → fitSels ss (s.recLimit - s.recCur) →
      Spells c (Ast.tSels ss) → Toks s = c ++ q0 :: rest → Sigf q0 → (q0.kind = .rCurly ∨ q0.kind = .eof) →
      Eat s s' c ∧ Toks s' = q0 :: rest ∧ (ss = .nil → r = flag) ∧ (ss ≠ .nil → r = true) := by
  intro fuel
  induction fuel with
  | zero => intro ss flag s s' r c q0 rest _ h; simp [peekWhileFlagLoop, PI.outOfFuel] at h
  | succ fuel ih =>
    intro ss flag s s' r c q0 rest w h hfit hs ht hq hf
    unfold peekWhileFlagLoop at h
    obtain ⟨ko, sP, hp, h2⟩ := bind_dec peek _ s s' r h
    cases ss with
    | nil =>
      have := spells_nil_inv (by simpa [Ast.tSels] using hs)
      subst this
      obtain ⟨rfl, eP, htP, _⟩ := peek_head s sP ko q0 rest w (by simpa using ht) hp
      simp only [] at h2
      have h3 := getCurrent_dec _ sP s' r h2
      obtain ⟨cs, sB, hb, h4⟩ := bind_dec (selBody n q0.kind) _ sP s' r h3
      have hbody : cs = (false, false) ∧ sB = sP := by
        unfold selBody at hb
        rcases hf with hk | hk <;> rw [hk] at hb <;>
          simp only [show (Kind.rCurly == Kind.spread) = false from rfl, show (Kind.rCurly == Kind.lCurly) = false from rfl,
            show (Kind.rCurly == Kind.name) = false from rfl, show (Kind.eof == Kind.spread) = false from rfl,
            show (Kind.eof == Kind.lCurly) = false from rfl, show (Kind.eof == Kind.name) = false from rfl,
            Bool.false_eq_true, if_false] at hb <;>
          (rw [run_pure] at hb; injection hb with h1 h2; exact ⟨h1.symm, h2.symm⟩)
      obtain ⟨rfl, rfl⟩ := hbody
      simp only [Bool.false_eq_true, if_false, Bool.or_false] at h4
      rw [run_pure] at h4
      injection h4 with h4 h5
      subst h5
      exact ⟨eP, by simpa using htP, fun _ => h4.symm, fun h => absurd rfl h⟩
    | cons f tl =>
      rw [fitSels] at hfit
      rw [Ast.tSels] at hs
      obtain ⟨c1, c2, rfl, s1, s2⟩ := spells_split0 hs
      obtain ⟨a, x', e, _⟩ := tSel_head f
      obtain ⟨t, tl1, hc1, hta⟩ := spells_head (by rw [e] at s1; exact s1)
      subst hc1
      obtain ⟨q1, r1, hq1, hsq1, hfq1⟩ := next_after c2 tl q0 rest s2 hq hf
      have ht' : Toks s = (t :: tl1) ++ q1 :: r1 := by rw [ht, ← hq1]; simp
      obtain ⟨rfl, eP, htP, hcur⟩ := peek_head s sP ko t (tl1 ++ q1 :: r1) w (by simpa using ht') hp
      have hbP : sP.recLimit - sP.recCur = s.recLimit - s.recCur := by rw [eP.recLimit, eP.recCur]
      simp only [] at h2
      have h3 := getCurrent_dec _ sP s' r h2
      obtain ⟨cs, sB, hb, h4⟩ := bind_dec (selBody n t.kind) _ sP s' r h3
      obtain ⟨cont, st⟩ := cs
      obtain ⟨rfl, rfl, eB, tB⟩ := selBody_comp n ihf ihi f sP sB t tl1 q1 r1 cont st eP.w hcur (by rw [hbP]; exact hfit.1) s1
        (by rw [htP]; simp) hsq1 hfq1 hb
      simp only [if_true] at h4
      have h5 := getCurrent_dec _ sB s' r h4
      by_cases hsame : (sP.current == sB.current) = true
      · simp only [hsame, if_true] at h5
        exact absurd h5 (stuck_not_ok _ _ _)
      · simp only [hsame, Bool.false_eq_true, if_false] at h5
        have hbB : sB.recLimit - sB.recCur = s.recLimit - s.recCur := by rw [eB.recLimit, eB.recCur, hbP]
        obtain ⟨e2, t2, _, hr2⟩ := ih tl (flag || true) sB s' r c2 q0 rest eB.w h5 (by rw [hbB]; exact hfit.2) s2
          (by rw [tB, hq1]) hq hf
        refine ⟨(by simpa using (eP.trans eB).trans e2), t2, (fun h => (by cases h)), fun _ => ?_⟩
        by_cases htl : tl = .nil
        · subst htl
          have := (ih Ast.Sels.nil (flag || true) sB s' r c2 q0 rest eB.w h5 (by rw [hbB]; exact hfit.2) s2 (by rw [tB, hq1]) hq hf).2.2.1 rfl
          simpa using this
        · exact hr2 htl

/-! ### `selection` and `selection_set` -/

theorem sels_comp_step (n : Nat) (ihf : FieldSComp n) (ihi : InlineComp n) : SelsComp (n + 1) := by
  unfold SelsComp
  rw [selection_succ]
  intro s s' u c x q0 rest w hr hl hs ht hq hf _
  obtain ⟨ss, hne, rfl, hfit⟩ := hl
  obtain ⟨len, h1⟩ := srcLen_dec _ s s' () hr
  obtain ⟨b, s1, h2, h3⟩ := bind_dec _ _ s s' () h1
  obtain ⟨e, t1, _, hb⟩ := selLoop_comp n ihf ihi _ ss false s s1 b c q0 rest w h2 hfit hs ht hq hf
  have := hb hne
  subst this
  simp only [Bool.not_true, Bool.false_eq_true, if_false] at h3
  rw [run_pure] at h3
  injection h3 with _ h3
  subst h3
  exact ⟨e, t1, trivial⟩

theorem selSet_comp_step (n : Nat) (ihs : SelsComp n) : SetComp (n + 1) := by
  unfold SetComp
  rw [selectionSet_succ]
  have hin : Cmp (fun _ => True) (selection n >>= fun _ => (pure true : PI Bool))
      (fun b x => ∃ x1 x2, x = x1 ++ x2 ∧ LSels b x1 ∧ x2 = []) (fun k => k = .rCurly) (fun a => a = true) :=
    cmp_bind (Hk := fun _ => True) ihs (fun _ _ => cmp_pure _ _ true)
      (by intro b a x2 h; cases h) (fun k h => Or.inl h) (fun k h => h)
  have hrec : Cmp (fun _ => True) (withRec (limitErr >>= fun _ => pure false) (selection n >>= fun _ => (pure true : PI Bool)))
      (fun b x => 1 ≤ b ∧ LSels (b - 1) x) (fun k => k = .rCurly) (fun a => a = true) :=
    cmp_withRec _ _ hin (by rintro b x ⟨h1, h2⟩; exact ⟨h1, x, [], by simp, h2, rfl⟩)
  have hclose : ∀ a : Bool, a = true → Cmp (fun _ => True) (if a then expect .rCurly "R_CURLY" else pure ())
      (fun _ x => ∃ a, x = [a] ∧ kindOfA a = .rCurly) (fun _ => True) (fun _ => True) := by
    intro a ha
    subst ha
    simpa using cmp_expect .rCurly "R_CURLY"
  have h2 := cmp_bind_ne (Hk := fun _ => True) (F := fun _ => True) hrec hclose
    (by rintro b a x2 ⟨a', e, hk⟩; injection e with e _; subst e; exact hk)
    (by rintro b ⟨a, e, _⟩; cases e) (fun _ h => h)
  have h1 := cmp_bind (Hk := fun _ => True) (F := fun _ => True) (F1 := fun _ => True) (cmp_bump "L_CURLY") (fun _ _ => h2)
    (fun _ _ _ _ => trivial) (fun _ _ => trivial) (fun _ h => h)
  apply cmp_peek
  intro k _
  apply cmp_ite
  · intro _
    refine cmp_withNode _ ?_
    rw [selSetBody_eq]
    refine h1.mono (fun _ _ => trivial) ?_ (fun _ h => h) (fun _ h => h)
    rintro b x ⟨ss, hne, rfl, hb1, hfit⟩
    exact ⟨[.p .lCurly], Ast.tSels ss ++ [.p .rCurly], by simp, ⟨_, rfl⟩, Ast.tSels ss, [.p .rCurly], rfl,
      ⟨hb1, ss, hne, rfl, hfit⟩, _, rfl, rfl⟩
  · intro hk
    apply cmp_absurd
    intro b x cc q0 hl hs _ hkk
    obtain ⟨x', rfl⟩ := lset_head hl
    obtain ⟨t, tl, rfl, hta⟩ := spells_head hs
    simp only [headK] at hkk
    rw [kind_of_astOfV hta] at hkk
    simp [← hkk, kindOfA] at hk

/-- completeness of the whole selection family, by induction on the fuel -/
theorem sel_all_comp : ∀ n, SetComp n ∧ SelsComp n ∧ FieldSComp n ∧ InlineComp n
  | 0 => ⟨by unfold SetComp selectionSet; exact cmp_outOfFuel, by unfold SelsComp selection; exact cmp_outOfFuel,
          by unfold FieldSComp field; exact cmp_outOfFuel, by unfold InlineComp inlineFragment; exact cmp_outOfFuel⟩
  | n + 1 => by
    obtain ⟨a, b, c, d⟩ := sel_all_comp n
    exact ⟨selSet_comp_step n b, sels_comp_step n c d, field_comp_step n a, inline_comp_step n a⟩

/-- **`selection_set` is complete**: `{ Selection+ }` within the budget, followed by anything -/
theorem selectionSet_complete (n : Nat) : Cmp (fun _ => True) (selectionSet n) LSet (fun _ => True) (fun _ => True) :=
  (sel_all_comp n).1

theorem fieldSet_comp_braced (n : Nat) : Cmp (fun _ => True) (fieldSet n) LSet (fun _ => True) (fun _ => True) := by
  unfold fieldSet
  refine cmp_peekGuard (· == some .lCurly) (selectionSet_complete n) fun b x h => ?_
  obtain ⟨x', rfl⟩ := lset_head h
  exact ⟨_, x', rfl, rfl⟩

/-- brace-less form `a b { c }`: also one level of the recursion budget -/
theorem fieldSet_comp_bare (n : Nat) :
    Cmp (fun _ => True) (fieldSet n) (fun b x => 1 ≤ b ∧ LSels (b - 1) x) (fun k => k = .rCurly ∨ k = .eof) (fun _ => True) := by
  unfold fieldSet
  apply cmp_peek
  intro k _
  apply cmp_ite
  · intro hk
    apply cmp_absurd
    rintro b x cc q0 ⟨_, ss, hne, rfl, _⟩ hs _ hkk
    obtain ⟨a, x', e, hka⟩ := tSels_head ss hne
    rw [e] at hs
    obtain ⟨t, tl, rfl, hta⟩ := spells_head hs
    simp only [headK] at hkk
    rw [kind_of_astOfV hta] at hkk
    rcases hka with h | h <;> simp [← hkk, h] at hk
  · intro _
    refine cmp_withNode _ ?_
    exact cmp_withRec _ _ ((sel_all_comp n).2.1.mono (fun _ _ => trivial) (fun _ _ h => h) (fun _ h => h) (fun _ h => h))
      (fun b x h => h)

def FieldSetFit (b : Nat) (x : List Ast.Tok) : Prop :=
  ∃ ss, ss ≠ Ast.Sels.nil ∧ 1 ≤ b ∧ fitSels ss (b - 1) ∧ (x = .p .lCurly :: Ast.tSels ss ++ [.p .rCurly] ∨ x = Ast.tSels ss)

theorem FieldSetFit.isFieldSet {b : Nat} {x : List Ast.Tok} (h : FieldSetFit b x) : IsFieldSet x := by
  obtain ⟨ss, hne, _, _, hx⟩ := h
  exact ⟨ss, hne, hx⟩

theorem fieldSet_complete (n : Nat) :
    Cmp (fun _ => True) (fieldSet n) FieldSetFit (fun k => k = .eof) (fun _ => True) := by
  intro s s' a c x q0 rest w hr hl hs ht hq hf hk
  obtain ⟨ss, hne, hb, hfit, hx | hx⟩ := hl
  · exact fieldSet_comp_braced n s s' a c x q0 rest w hr ⟨ss, hne, hx, hb, hfit⟩ hs ht hq trivial trivial
  · exact fieldSet_comp_bare n s s' a c x q0 rest w hr ⟨hb, ss, hne, hx, hfit⟩ hs ht hq (Or.inr hf) trivial

/-- **acceptance is complete** for `Parser::parse_selection_set` (queue form): the queue is a spelling of a
    field set within the recursion limit, followed by the EOF token -/
theorem parseFieldSet_complete (rl : Nat) (src : Str) (x : List Ast.Tok) (c : List Tok) (e : Tok)
    (hclean : LexClean src) (htoks : srcToks src = c ++ [e]) (hsp : Spells c x) (he : e.kind = .eof)
    (hfit : FieldSetFit rl x) : (parse .selectionSet none rl src).errors = [] := by
  obtain ⟨root, htree⟩ := parseFieldSet_tree none rl src
  unfold parse runEntry at htree ⊢
  simp only [Entry.standalone, Entry.grammar] at htree ⊢
  generalize hs0 : ({ initState src none rl with builder := (initState src none rl).builder.startNode "SELECTION_SET" } : PState) = s0 at htree ⊢
  have w0 : TW s0 := by subst hs0; exact ⟨rfl, by intro h; simp [initState] at h⟩
  have ht0 : Toks s0 = c ++ e :: [] := by subst hs0; exact htoks
  have hnd0 : ¬ Doomed s0 := by
    subst hs0
    rintro (h | h)
    · exact h rfl
    · unfold LexClean at hclean
      rw [show ({ initState src none rl with builder := (initState src none rl).builder.startNode "SELECTION_SET" } : PState).lx
        = (initState src none 0).lx from rfl, hclean] at h
      cases h
  have hb0 : s0.recLimit - s0.recCur = rl := by subst hs0; simp [initState]
  cases hr : (fieldSet (fuelFor src) >>= fun _ => expectEndOfInput).run s0 with
  | abort w => simp [hr] at htree
  | panic m => simp [hr] at htree
  | ok a s =>
    simp only []
    obtain ⟨_, sT, hT, h2⟩ := bind_dec (fieldSet (fuelFor src)) _ s0 s a hr
    have hse : Sigf e := by unfold Sigf; rw [he]; rfl
    obtain ⟨eT, htT, _⟩ := fieldSet_complete (fuelFor src) s0 sT () c x e [] w0 hT (by rw [hb0]; exact hfit) hsp ht0 hse he trivial
    unfold expectEndOfInput at h2
    obtain ⟨_, sK, hK, h4⟩ := bind_dec skipIgnored _ sT s a h2
    obtain ⟨eK, htK, _⟩ := skip_exact sT sK [] e [] eT.w hK (by simpa using htT) (by intro x hx; cases hx) hse
    obtain ⟨k, sP, hP, h5⟩ := bind_dec peek _ sK s a h4
    obtain ⟨hk, eP, _, _⟩ := peek_head sK sP k e [] eK.w htK hP
    subst hk
    have h5' : (pure () : PI Unit).run sP = .ok a s := by
      simpa [errUnlessEnd, he] using h5
    rw [run_pure] at h5'
    injection h5' with _ h5'
    subst h5'
    have hnd : ¬ Doomed sP := by
      intro d
      exact hnd0 (eT.doom.mp (eK.doom.mp (eP.doom.mp d)))
    by_cases herr : sP.errors = []
    · exact herr
    · exact absurd (Or.inl herr) hnd

/-- the same in terms of significant tokens -/
theorem parseFieldSet_complete_sig (rl : Nat) (src : Str) (x : List Ast.Tok) (ts : List Tok) (e : Tok)
    (hclean : LexClean src) (hsig : sig (srcToks src) = ts ++ [e]) (he : e.kind = .eof)
    (hx : TokIs ts x) (hfit : FieldSetFit rl x) (hhead : HeadSig (srcToks src)) :
    (parse .selectionSet none rl src).errors = [] := by
  obtain ⟨c, c2, hc, h1, h2, hh2, hh1⟩ := sig_split (srcToks src) ts [e] hsig (by simp)
  obtain ⟨i, rfl, hi⟩ := sig_single_inv c2 e hh2 h2
  have htsne : ts ≠ [] := by
    intro h0; subst h0
    obtain ⟨ss, hne, _, _, hor⟩ := hfit
    unfold TokIs at hx
    rcases hor with rfl | rfl
    · simp at hx
    · obtain ⟨a, x', e', _⟩ := tSels_head ss hne
      rw [e'] at hx; simp at hx
  have hnoc : NoEof c := noEof_of_tokIs c x (by rw [h1]; exact hx)
  obtain ⟨pre, e0, hp, he0, hnop⟩ := stream_eof_end src.length (initState src none 0).lx (Nat.le_refl _) rfl rfl
  have hq : srcToks src = pre ++ [e0] := hp
  rw [hc] at hq
  obtain ⟨pre', hr, hnop'⟩ := split_eof c pre (e :: i) e0 hq.symm he0 hnoc hnop
  have hi0 : i = [] := by
    cases pre' with
    | nil => simp at hr; exact hr.2
    | cons y pre' =>
      exfalso
      simp only [List.cons_append] at hr
      injection hr with hr1 _
      exact hnop' y (by simp) (hr1 ▸ he)
  subst hi0
  exact parseFieldSet_complete rl src x c e hclean hc ⟨by rw [h1]; exact hx, hh1 htsne hhead⟩ he hfit

end Apollo.Parse.Exact
