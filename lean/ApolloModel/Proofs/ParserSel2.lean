import ApolloModel.Proofs.ParserSel1
/-
C07 / C05, selection sets: the two-token look-ahead `peek_n(2)` in terms of the queue; `name` and
`named_type` on a queue that starts with a Name token.
-/
set_option linter.unusedSimpArgs false
namespace Apollo.Parse
open Apollo.Rowan hiding Str
open Apollo.Lex hiding Str

/-! ### `peek_n(2)` sees the next significant token behind the current one -/

theorem aheadLoop_one : ∀ (fuel : Nat) (l : LexSt), l.limit = none → l.src.length + 2 ≤ fuel →
    aheadLoop fuel l 1 = (sig (toksOf (stream l))).head? := by
  intro fuel
  induction fuel with
  | zero => intro l _ h; omega
  | succ fuel ih =>
    intro l hl hf
    have hu := stream_unfold l hl
    unfold aheadLoop
    rcases lexNext_cases l hl with ⟨_, h⟩ | ⟨_, _, l', h, hfin, _, _⟩ | ⟨_, o, l', h, hlen, _, hl', _⟩
    · rw [h] at hu; simp only [h]; rw [hu]; rfl
    · rw [h] at hu
      simp only [] at hu
      have : stream l' = [] := by unfold stream; exact pull_finished _ _ hfin
      rw [hu, this]
      simp only [h]
      rfl
    · rw [h] at hu
      simp only [] at hu
      simp only [h]
      rw [hu]
      cases o with
      | tok t =>
        simp only []
        by_cases hi : (t.kind == .whitespace || t.kind == .comment || t.kind == .comma) = true
        · simp only [hi, if_true]
          rw [ih l' hl' (by omega)]
          have hig : isIgnoredKind t.kind = true := by
            simp only [isIgnoredKind]
            simp only [Bool.or_eq_true] at hi ⊢
            rcases hi with (h1 | h1) | h1
            · exact Or.inl (Or.inr h1)
            · exact Or.inl (Or.inl h1)
            · exact Or.inr h1
          simp [toksOf, outTok, sig, hig]
        · simp only [hi, Bool.false_eq_true, if_false, Nat.le_refl, if_true]
          have hig : isIgnoredKind t.kind = false := by
            simp only [isIgnoredKind]
            simp only [Bool.or_eq_true, not_or] at hi
            simp [hi.1.1, hi.1.2, hi.2]
          simp [toksOf, outTok, sig, hig]
      | err d i =>
        simp only []
        rw [ih l' hl' (by omega)]
        simp [toksOf, outTok, List.filterMap_cons]
      | limit i =>
        simp only []
        rw [ih l' hl' (by omega)]
        simp [toksOf, outTok, List.filterMap_cons]

theorem peekN2_spec (s s' : PState) (k : Option Kind) (t : Tok) (rest : List Tok) (w : TW s)
    (hc : s.current = some t) (ht : Toks s = t :: rest) (hni : isIgnoredKind t.kind = false)
    (h : (peekN 2).run s = .ok k s') : s' = s ∧ k = ((sig rest).head?).map (·.kind) := by
  obtain ⟨o, s1, h1, h2⟩ := bind_dec (peekTokenN 2) _ s s' k h
  unfold peekTokenN at h1
  simp only [] at h1
  injection h1 with h1 h1'
  subst h1'
  replace h2 := pure_dec h2
  obtain ⟨h2, rfl⟩ := h2
  refine ⟨rfl, ?_⟩
  rw [← h2, ← h1]
  have hrest : rest = toksOf (stream s.lx) := by
    unfold Toks at ht
    rw [hc] at ht
    simp only [Option.toList, List.cons_append, List.nil_append, List.cons.injEq, true_and] at ht
    exact ht.symm
  unfold lookahead
  rw [hc]
  have hnk : (t.kind == .whitespace || t.kind == .comment || t.kind == .comma) = false := by
    simp only [isIgnoredKind] at hni
    cases hk : t.kind <;> simp [hk] at hni ⊢
  simp only [hnk, Bool.false_eq_true, if_false]
  have : ¬ (2 ≤ 1) := by omega
  simp only [this, if_false]
  show Option.map _ (aheadLoop _ s.lx 1) = _
  rw [aheadLoop_one _ s.lx w.limit (by omega), hrest]

/-! ### helpers -/

theorem ifPeek_dec {α : Type} (k : Kind) (A B : PI α) (s s' : PState) (a : α) (w : TW s)
    (h : (peek >>= fun x => if x == some k then A else B).run s = .ok a s') :
    ∃ sP o, PeekObs s sP o ∧ ((o.map (·.kind) = some k ∧ A.run sP = .ok a s') ∨ (o.map (·.kind) ≠ some k ∧ B.run sP = .ok a s')) := by
  obtain ⟨ko, sP, hp, h2⟩ := bind_dec peek _ s s' a h
  obtain ⟨o, p, hko⟩ := peek_obs s sP ko w hp
  subst hko
  refine ⟨sP, o, p, ?_⟩
  by_cases hc : (o.map (·.kind) == some k) = true
  · simp only [hc, if_true] at h2
    exact Or.inl ⟨by simpa using hc, h2⟩
  · simp only [hc, Bool.false_eq_true, if_false] at h2
    exact Or.inr ⟨by simpa using hc, h2⟩

theorem PeekObs.eofEnd {s s' : PState} {o : Option Tok} (p : PeekObs s s' o) (he : EofEnd s) : EofEnd s' :=
  eofEnd_eat he p.eat (by intro x hx; cases hx)

theorem PeekObs.head_cons {s s' : PState} {t : Tok} (p : PeekObs s s' (some t)) : Toks s' = t :: (Toks s').tail := by
  have := p.head; rw [← p.toks] at this; exact toks_head_cons s' t this.symm

theorem settled_sig_head (s : PState) (h : Settled s) : (sig (Toks s)).head? = (Toks s).head? := by
  cases hq : Toks s with
  | nil => rfl
  | cons hd tl =>
    have hc := h.1
    rw [hq] at hc
    have := h.2 hd hc
    simp [sig, this]

theorem tokIs_name (t : Tok) (ign : List Tok) (hk : t.kind = .name) (hall : ∀ x ∈ ign, isIgnoredKind x.kind = true) :
    TokIs (sig (t :: ign)) [.name t.data] := by
  rw [sig_cons_ignV t ign (by rw [hk]; rfl) hall]
  exact TokIs.single t _ (by simp [astOfV, hk])

theorem tokIs_punct (t : Tok) (ign : List Tok) (p : Ast.P) (hni : isIgnoredKind t.kind = false)
    (ha : astOfV t = some (.p p)) (hall : ∀ x ∈ ign, isIgnoredKind x.kind = true) :
    TokIs (sig (t :: ign)) [.p p] := by
  rw [sig_cons_ignV t ign hni hall]
  exact TokIs.single t _ ha

theorem name_settled (s s' : PState) (t : Tok) (rest : List Tok) (w : TW s) (ht : Toks s = t :: rest) (hk : t.kind = .name)
    (h : name.run s = .ok () s') :
    ∃ ign, Eat s s' (t :: ign) ∧ (∀ x ∈ ign, isIgnoredKind x.kind = true) ∧ Settled s' := by
  unfold name at h
  obtain ⟨o, s1, h1, h2⟩ := bind_dec peekToken _ s s' () h
  have p := peekToken_obs s s1 o w h1
  have ho : o = some t := by rw [p.head, ht]; rfl
  subst ho
  simp only [hk, beq_self_eq_true, if_true] at h2
  have ht1 : Toks s1 = t :: rest := by rw [p.toks]; exact ht
  obtain ⟨s2, s3, e2, h3, o3⟩ := withNode_peeked "NAME" (bump "IDENT") s1 s' () t rest p.w ht1 (by rw [hk]; rfl) h2
  have ht2 : Toks s2 = t :: rest := by have := e2.toks; rw [ht1] at this; simpa using this.symm
  obtain ⟨ign, e3, hall, hset⟩ := bump_spec "IDENT" s2 s3 e2.w t rest ht2 h3
  exact ⟨ign, by simpa using ((p.eat.trans e2).trans e3).trans (Eat.ofObsEq o3 e3.w), hall, settled_obs o3 hset⟩

@[reducible] def IsNameTok (t : Tok) : List Ast.Tok → Prop := fun x => x = [.name t.data]

theorem cons_of_name {s s' : PState} {t : Tok} {ign : List Tok} (e : Eat s s' (t :: ign)) (he : EofEnd s) (hk : t.kind = .name)
    (hall : ∀ x ∈ ign, isIgnoredKind x.kind = true) : Cons s s' (IsNameTok t) :=
  Cons.ofEat e he (noEof_cons (by rw [hk]; decide) hall) (tokIs_name t ign hk hall)

theorem namedType_sound (s s' : PState) (t : Tok) (rest : List Tok) (w : TW s) (he : EofEnd s)
    (ht : Toks s = t :: rest) (hk : t.kind = .name) (h : namedType.run s = .ok () s') : Cons s s' (IsNameTok t) := by
  unfold namedType at h
  obtain ⟨sP, o, p, hor⟩ := ifPeek_dec .name _ _ s s' () w h
  have ho : o = some t := by rw [p.head, ht]; rfl
  subst ho
  rcases hor with ⟨_, h2⟩ | ⟨hne, _⟩
  · have htP : Toks sP = t :: rest := by rw [p.toks]; exact ht
    obtain ⟨s1, s2, e1, h3, o2⟩ := withNode_peeked "NAMED_TYPE" name sP s' () t rest p.w htP (by rw [hk]; rfl) h2
    have ht1 : Toks s1 = t :: rest := by have := e1.toks; rw [htP] at this; simpa using this.symm
    obtain ⟨ign, e3, hall, _⟩ := name_settled s1 s2 t rest e1.w ht1 hk h3
    have : Eat s s' (t :: ign) := by simpa using ((p.eat.trans e1).trans e3).trans (Eat.ofObsEq o2 e3.w)
    exact cons_of_name this he hk hall
  · exact absurd (by simp [hk]) hne

end Apollo.Parse
