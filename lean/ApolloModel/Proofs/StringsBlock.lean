import ApolloModel.Proofs.Strings4
/-
Lemmas for the block-form round trip (C09): `escapeTriple` / `replaceEscapedTriple`, line splitting
of what `serialize_block_string` prints, and the shape of `can_be_block_string`.
-/
namespace Apollo.Strs

/-! ### `escapeTriple` -/

theorem escapeTriple_triple (rest : Str) :
    escapeTriple ('"' :: '"' :: '"' :: rest) = '\\' :: '"' :: '"' :: '"' :: escapeTriple rest := by
  rw [escapeTriple]

theorem escapeTriple_nil : escapeTriple [] = [] := by rw [escapeTriple]

theorem triple_cases (s : Str) : (∃ rest, s = '"' :: '"' :: '"' :: rest) ∨ (∀ rest, s ≠ '"' :: '"' :: '"' :: rest) := by
  match s with
  | '"' :: '"' :: '"' :: rest => exact Or.inl ⟨rest, rfl⟩
  | [] => right; intro rest h; cases h
  | [c] => right; intro rest h; cases h
  | [c, d] => right; intro rest h; cases h
  | c :: d :: e :: rest =>
    by_cases h : c = '"' ∧ d = '"' ∧ e = '"'
    · obtain ⟨rfl, rfl, rfl⟩ := h; exact Or.inl ⟨rest, rfl⟩
    · right; intro r hr
      simp only [List.cons.injEq] at hr
      exact h ⟨hr.1, hr.2.1, hr.2.2.1⟩

theorem escapeTriple_cons (c : Char) (rest : Str) (h : ∀ r, c :: rest ≠ '"' :: '"' :: '"' :: r) :
    escapeTriple (c :: rest) = c :: escapeTriple rest := by
  rw [escapeTriple]
  intro r h1 h2
  exact h r (by rw [h1, h2])

theorem replace_triple (rest : Str) :
    replaceEscapedTriple ('\\' :: '"' :: '"' :: '"' :: rest) = '"' :: '"' :: '"' :: replaceEscapedTriple rest := by
  rw [replaceEscapedTriple]

theorem replace_cons (c : Char) (rest : Str) (h : ∀ r, c :: rest ≠ '\\' :: '"' :: '"' :: '"' :: r) :
    replaceEscapedTriple (c :: rest) = c :: replaceEscapedTriple rest := by
  rw [replaceEscapedTriple]
  intro r h1 h2
  exact h r (by rw [h1, h2])

theorem escapeTriple_ind (P : Str → Prop) (hnil : P [])
    (htriple : ∀ rest, P rest → P ('"' :: '"' :: '"' :: rest))
    (hcons : ∀ c rest, (∀ r, c :: rest ≠ '"' :: '"' :: '"' :: r) → P rest → P (c :: rest)) : ∀ s, P s := by
  intro s
  induction hn : s.length using Nat.strongRecOn generalizing s with
  | _ n ih =>
    rcases triple_cases s with ⟨rest, rfl⟩ | h
    · exact htriple rest (ih rest.length (by simp at hn; omega) rest rfl)
    · cases s with
      | nil => exact hnil
      | cons c rest => exact hcons c rest h (ih rest.length (by simp at hn; omega) rest rfl)

theorem escapeTriple_head_of_triple_free (s : Str) :
    (∃ rest, s = '"' :: '"' :: '"' :: rest ∧ escapeTriple s = '\\' :: '"' :: '"' :: '"' :: escapeTriple rest) ∨
    (s = [] ∧ escapeTriple s = []) ∨
    (∃ c rest, s = c :: rest ∧ (∀ r, s ≠ '"' :: '"' :: '"' :: r) ∧ escapeTriple s = c :: escapeTriple rest) := by
  rcases triple_cases s with ⟨rest, rfl⟩ | h
  · exact Or.inl ⟨rest, rfl, escapeTriple_triple rest⟩
  · cases s with
    | nil => exact Or.inr (Or.inl ⟨rfl, escapeTriple_nil⟩)
    | cons c rest => exact Or.inr (Or.inr ⟨c, rest, rfl, h, escapeTriple_cons c rest h⟩)

theorem escapeTriple_not_triple (s r : Str) : escapeTriple s ≠ '"' :: '"' :: '"' :: r := by
  intro e
  rcases escapeTriple_head_of_triple_free s with ⟨_, _, h1⟩ | ⟨_, h1⟩ | ⟨c, rest, rfl, hs, h1⟩
  · rw [h1] at e; simp at e
  · rw [h1] at e; cases e
  · rw [h1] at e
    simp only [List.cons.injEq] at e
    obtain ⟨rfl, e⟩ := e
    rcases escapeTriple_head_of_triple_free rest with ⟨_, _, h2⟩ | ⟨_, h2⟩ | ⟨c2, r2, rfl, _, h2⟩
    · rw [h2] at e; simp at e
    · rw [h2] at e; cases e
    · rw [h2] at e
      simp only [List.cons.injEq] at e
      obtain ⟨rfl, e⟩ := e
      rcases escapeTriple_head_of_triple_free r2 with ⟨_, _, h3⟩ | ⟨_, h3⟩ | ⟨c3, r3, rfl, _, h3⟩
      · rw [h3] at e; simp at e
      · rw [h3] at e; cases e
      · rw [h3] at e
        simp only [List.cons.injEq] at e
        obtain ⟨rfl, _⟩ := e
        exact hs r3 rfl

/-- unescaping `\"""` undoes `serialize_line`, for every line -/
theorem replace_escapeTriple : ∀ s : Str, replaceEscapedTriple (escapeTriple s) = s := by
  apply escapeTriple_ind
  · rw [escapeTriple_nil, replaceEscapedTriple]
  · intro rest ih
    rw [escapeTriple_triple, replace_triple, ih]
  · intro c rest h ih
    rw [escapeTriple_cons c rest h, replace_cons, ih]
    intro r e
    simp only [List.cons.injEq] at e
    exact escapeTriple_not_triple rest r e.2

theorem mem_escapeTriple (x : Char) : ∀ s : Str, x ∈ escapeTriple s → x ∈ s ∨ x = '\\' := by
  apply escapeTriple_ind
  · intro h; rw [escapeTriple_nil] at h; cases h
  · intro rest ih h
    rw [escapeTriple_triple] at h
    simp only [List.mem_cons] at h ⊢
    rcases h with h | h | h | h | h
    · exact Or.inr h
    · exact Or.inl (Or.inl h)
    · exact Or.inl (Or.inl h)
    · exact Or.inl (Or.inl h)
    · rcases ih h with h | h
      · exact Or.inl (Or.inr (Or.inr (Or.inr h)))
      · exact Or.inr h
  · intro c rest hc ih h
    rw [escapeTriple_cons c rest hc] at h
    simp only [List.mem_cons] at h ⊢
    rcases h with h | h
    · exact Or.inl (Or.inl h)
    · rcases ih h with h | h
      · exact Or.inl (Or.inr h)
      · exact Or.inr h

theorem takeWhile_ws_escapeTriple : ∀ s : Str, (escapeTriple s).takeWhile isWs = s.takeWhile isWs := by
  apply escapeTriple_ind
  · rw [escapeTriple_nil]
  · intro rest _
    rw [escapeTriple_triple]
    simp [List.takeWhile_cons, isWs]
  · intro c rest hc ih
    rw [escapeTriple_cons c rest hc]
    simp only [List.takeWhile_cons, ih]

theorem all_ws_escapeTriple : ∀ s : Str, (escapeTriple s).all isWs = s.all isWs := by
  apply escapeTriple_ind
  · rw [escapeTriple_nil]
  · intro rest _
    rw [escapeTriple_triple]
    simp [isWs]
  · intro c rest hc ih
    rw [escapeTriple_cons c rest hc]
    simp only [List.all_cons, ih]

/-! ### line splitting -/

theorem splitLinesAux_nl (cur rest : Str) : splitLinesAux cur ('\n' :: rest) = cur :: splitLinesAux [] rest := by
  rw [splitLinesAux]

theorem splitLinesAux_plain (cur : Str) (c : Char) (rest : Str) (h1 : c ≠ '\r') (h2 : c ≠ '\n') :
    splitLinesAux cur (c :: rest) = splitLinesAux (cur ++ [c]) rest := by
  rw [splitLinesAux]
  · intro r e _; exact h1 e
  · intro e; exact h1 e
  · intro e; exact h2 e

def NoBreak (y : Str) : Prop := ∀ c ∈ y, c ≠ '\n' ∧ c ≠ '\r'

theorem splitLinesAux_append (y : Str) (hy : NoBreak y) : ∀ (acc rest : Str),
    splitLinesAux acc (y ++ rest) = splitLinesAux (acc ++ y) rest := by
  induction y with
  | nil => intro acc rest; simp
  | cons c y ih =>
    intro acc rest
    have hc := hy c (by simp)
    rw [List.cons_append, splitLinesAux_plain acc c _ hc.2 hc.1, ih (fun d hd => hy d (by simp [hd]))]
    simp

/-- the raw text `\n y₁ \n y₂ … \n yₖ` splits into `cur, y₁, …, yₖ` -/
theorem splitLinesAux_flatMap : ∀ (ys : List Str), (∀ y ∈ ys, NoBreak y) → ∀ cur : Str,
    splitLinesAux cur (ys.flatMap fun y => '\n' :: y) = cur :: ys := by
  intro ys
  induction ys with
  | nil => intro _ cur; simp [splitLinesAux]
  | cons y ys ih =>
    intro h cur
    simp only [List.flatMap_cons, List.cons_append]
    rw [splitLinesAux_nl, splitLinesAux_append y (h y (by simp))]
    simp only [List.nil_append]
    cases ys with
    | nil => simp [splitLinesAux]
    | cons y2 ys2 =>
      have := ih (fun z hz => h z (by simp [hz])) y
      rw [this]

theorem go_nl (cur rest : Str) : splitNl.go cur ('\n' :: rest) = cur :: splitNl.go [] rest := by
  rw [splitNl.go]

theorem go_plain (cur : Str) (c : Char) (rest : Str) (h : c ≠ '\n') :
    splitNl.go cur (c :: rest) = splitNl.go (cur ++ [c]) rest := by
  rw [splitNl.go]
  intro e; exact h e

theorem go_nil (cur : Str) : splitNl.go cur [] = [cur] := by rw [splitNl.go]

theorem joinNl_cons_cons (a b : Str) (ls : List Str) : joinNl (a :: b :: ls) = a ++ '\n' :: joinNl (b :: ls) := by
  rw [joinNl]
  intro e; cases e

theorem go_ne_nil : ∀ (s cur : Str), splitNl.go cur s ≠ [] := by
  intro s
  induction s with
  | nil => intro cur; rw [go_nil]; simp
  | cons c s ih =>
    intro cur
    by_cases h : c = '\n'
    · subst h; rw [go_nl]; simp
    · rw [go_plain cur c s h]; exact ih _

theorem joinNl_go : ∀ (s cur : Str), joinNl (splitNl.go cur s) = cur ++ s := by
  intro s
  induction s with
  | nil => intro cur; rw [go_nil]; simp [joinNl]
  | cons c s ih =>
    intro cur
    by_cases h : c = '\n'
    · subst h
      rw [go_nl]
      cases hg : splitNl.go [] s with
      | nil => exact absurd hg (go_ne_nil s [])
      | cons a ls =>
        rw [joinNl_cons_cons, ← hg, ih []]
        simp
    · rw [go_plain cur c s h, ih]; simp

theorem joinNl_splitNl (s : Str) : joinNl (splitNl s) = s := by
  have := joinNl_go s []
  simpa [splitNl] using this

/-- no piece contains a line feed; a carriage return only if the string had one -/
theorem go_pieces : ∀ (s cur : Str), (∀ c ∈ cur, c ≠ '\n' ∧ (c = '\r' → '\r' ∈ cur ++ s)) →
    ∀ l ∈ splitNl.go cur s, ∀ c ∈ l, c ≠ '\n' ∧ (c = '\r' → '\r' ∈ cur ++ s) := by
  intro s
  induction s with
  | nil => intro cur h l hl; rw [go_nil] at hl; simp at hl; subst hl; simpa using h
  | cons d s ih =>
    intro cur h l hl
    by_cases hd : d = '\n'
    · subst hd
      rw [go_nl] at hl
      rcases List.mem_cons.mp hl with e | e
      · subst e; exact h
      · intro c hc
        have := ih [] (by intro c hc; cases hc) l e c hc
        refine ⟨this.1, fun hr => ?_⟩
        have := this.2 hr
        simp only [List.nil_append] at this
        simp [this]
    · rw [go_plain cur d s hd] at hl
      have h' : ∀ c ∈ cur ++ [d], c ≠ '\n' ∧ (c = '\r' → '\r' ∈ (cur ++ [d]) ++ s) := by
        intro c hc
        rcases List.mem_append.mp hc with e | e
        · have := h c e
          exact ⟨this.1, fun hr => by have := this.2 hr; simpa using this⟩
        · simp at e; subst e
          exact ⟨hd, fun hr => by subst hr; simp⟩
      intro c hc
      have := ih (cur ++ [d]) h' l hl c hc
      exact ⟨this.1, fun hr => by have := this.2 hr; simpa using this⟩

theorem splitNl_noBreak (s : Str) (hcr : s.contains '\r' = false) : ∀ l ∈ splitNl s, NoBreak l := by
  intro l hl c hc
  have := go_pieces s [] (by intro c hc; cases hc) l (by simpa [splitNl] using hl) c hc
  refine ⟨this.1, fun hr => ?_⟩
  have h2 := this.2 hr
  simp only [List.nil_append] at h2
  have : s.contains '\r' = true := by simpa using h2
  rw [hcr] at this; cases this

end Apollo.Strs
