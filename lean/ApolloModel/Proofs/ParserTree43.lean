import ApolloModel.Proofs.ParserTree42
/-
C08 (pipeline): the liberties.  `unlead` removes a leading separator; `looseConv`, the exact budget, the well-formedness
facts and `LooseDef.named` do not see it.
-/
set_option linter.unusedSimpArgs false
set_option linter.unusedVariables false

namespace Apollo.Parse
open Apollo.Rowan hiding Str
open Apollo.Lex hiding Str
open Apollo.FromCst (looseConv rootsConv rootsConv_full)

theorem looseConv_unlead (l : LooseDef) : looseConv l.unlead = looseConv l := by
  cases l with
  | object desc nm sep ds fs | interface desc nm sep ds fs | objectExt nm sep ds fs | interfaceExt nm sep ds fs
  | union desc nm ds sep | unionExt nm ds sep =>
    cases sep with
    | none => rfl
    | some v => obtain ⟨lead, first, ns⟩ := v; rfl
  | _ => rfl

theorem wf_unlead (l : LooseDef) : l.unlead.wf = l.wf := by
  cases l with
  | object desc nm sep ds fs | interface desc nm sep ds fs | objectExt nm sep ds fs | interfaceExt nm sep ds fs
  | union desc nm ds sep | unionExt nm ds sep =>
    cases sep with
    | none => rfl
    | some v => obtain ⟨lead, first, ns⟩ := v; rfl
  | _ => rfl

theorem named_unlead (l : LooseDef) (h : l.named) : l.unlead.named := by
  cases l with
  | object desc nm sep ds fs | interface desc nm sep ds fs | objectExt nm sep ds fs | interfaceExt nm sep ds fs
  | union desc nm ds sep | unionExt nm ds sep =>
    cases sep with
    | none => exact h
    | some v => obtain ⟨lead, first, ns⟩ := v; exact h
  | _ => exact h

theorem looseFitX_unlead (b : Nat) (l : LooseDef) : Exact.looseFitX b l.unlead ↔ Exact.looseFitX b l := by
  cases l with
  | object desc nm sep ds fs | interface desc nm sep ds fs | objectExt nm sep ds fs | interfaceExt nm sep ds fs
  | union desc nm ds sep | unionExt nm ds sep =>
    cases sep with
    | none => exact Iff.rfl
    | some v => obtain ⟨lead, first, ns⟩ := v; simp [LooseDef.unlead, Exact.looseFitX, Exact.looseFit]
  | _ => exact Iff.rfl

theorem named_unlead_strict (l : LooseDef) (hn : l.named) : l.unlead.strict = some (looseConv l) := by
  cases l with
  | schema desc ds roots =>
    obtain ⟨rs, hr⟩ := hn
    simp [LooseDef.unlead, LooseDef.strict, hr, looseConv, rootsConv_full roots rs hr]
  | schemaExt ds roots =>
    obtain ⟨rs, hr⟩ := hn
    simp [LooseDef.unlead, LooseDef.strict, hr, looseConv, rootsConv_full roots rs hr]
  | object desc nm sep ds fs | interface desc nm sep ds fs | objectExt nm sep ds fs | interfaceExt nm sep ds fs
  | union desc nm ds sep | unionExt nm ds sep =>
    cases sep with
    | none => rfl
    | some v => obtain ⟨lead, first, ns⟩ := v; rfl
  | _ => rfl

theorem unlead_toks_subset (l : LooseDef) (a : Ast.Tok) (h : a ∈ l.unlead.toks) : a ∈ l.toks := by
  revert h
  cases l with
  | object desc nm sep ds fs | interface desc nm sep ds fs | objectExt nm sep ds fs | interfaceExt nm sep ds fs
  | union desc nm ds sep | unionExt nm ds sep =>
    cases sep with
    | none => exact id
    | some v =>
      obtain ⟨lead, first, ns⟩ := v
      cases lead <;> simp only [LooseDef.unlead, LooseDef.toks, objectLikeToks, unionToks, tSepOpt, tSepLead, kwE, kwPart_true,
        if_true, Bool.false_eq_true, if_false, List.mem_append, List.mem_cons, List.nil_append, List.cons_append,
        List.append_assoc] <;> intro h <;> grind
  | directive desc nm args rep lead first rest =>
    cases lead <;> simp only [LooseDef.unlead, LooseDef.toks, directiveToks, tSepLead, kwPart_true, if_true, Bool.false_eq_true,
      if_false, List.mem_append, List.mem_cons, List.nil_append, List.cons_append, List.append_assoc] <;> intro h <;> grind
  | _ => exact id

end Apollo.Parse
