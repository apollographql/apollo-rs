import ApolloModel.Proofs.ParserValue7
/-
Values: `value`, the induction on the fuel, and `arguments`; then the statements without the budget.
-/
set_option linter.unusedSimpArgs false
namespace Apollo.Parse
open Apollo.Rowan hiding Str
open Apollo.Lex hiding Str

theorem argumentTail_err (n : Nat) (c : Bool) (k : Option Kind) (s1 s2 : PState) (hk : k ≠ some Kind.colon) (w : TW s1)
    (hne : Toks s1 ≠ []) (h : (argumentTail n c k).run s1 = .ok () s2) : Doomed s2 := by
  unfold argumentTail at h
  have : (k == some Kind.colon) = false := by simpa using hk
  simp only [this, Bool.false_eq_true, if_false] at h
  exact (err_adv s1 s2 w h).2 hne

namespace Exact

theorem value_sound_step (n : Nat) (hl : ListSound n) (ho : ObjSound n) : ValSound (n + 1) := by
  intro c pp s s' w he h hnd
  have hnds : ¬ Doomed s := fun d => hnd ((good_value (n + 1) c pp s () s' w h).doom d)
  rw [value_succ] at h
  obtain ⟨ko, sP, hp, h2⟩ := bind_dec peek _ s s' () h
  obtain ⟨o, p, hko⟩ := peek_obs s sP ko w hp
  subst hko
  have heP : EofEnd sP := eofEnd_eat he p.eat (by intro x hx; cases hx)
  have hneP : Toks sP ≠ [] := by rw [p.toks]; exact eofEnd_nonempty s he hnds
  cases o with
  | none =>
    exfalso
    have hh := p.head
    have : Toks s = [] := by
      cases ht : Toks s with
      | nil => rfl
      | cons a b => rw [ht] at hh; cases hh
    exact eofEnd_nonempty s he hnds this
  | some t =>
    have htP : Toks sP = t :: (Toks sP).tail := by
      have := p.head; rw [← p.toks] at this; exact toks_head_cons sP t this.symm
    refine ValOk.transfer ?_ p.toks (bud_peek p)
    simp only [Option.map_some] at h2
    cases hk : t.kind <;> simp only [hk, valueBranch] at h2 <;> first
      | exact absurd (valueErr_dooms pp sP s' p.w hneP h2) hnd
      | exact variableBranch_sound c pp sP s' p.w heP t _ htP hk h2 hnd
      | exact nameValue_sound c sP s' p.w heP t _ htP hk h2 hnd
      | exact hl c sP s' t _ p.w heP htP hk h2 hnd
      | exact ho c sP s' t _ p.w heP htP hk h2 hnd
      | exact scalar_branch "INT_VALUE" "INT" c sP s' p.w heP t _ htP (by rw [hk]; rfl) (by rw [hk]; decide)
          (.int t.data) _ (by simp [astOfV, hk]) rfl rfl h2
      | exact scalar_branch "FLOAT_VALUE" "FLOAT" c sP s' p.w heP t _ htP (by rw [hk]; rfl) (by rw [hk]; decide)
          (.float t.data) _ (by simp [astOfV, hk]) rfl rfl h2
      | exact scalar_branch "STRING_VALUE" "STRING" c sP s' p.w heP t _ htP (by rw [hk]; rfl) (by rw [hk]; decide)
          (.str ((Strs.decodeStringToken t.data).getD [])) _ (by simp [astOfV, hk]) rfl rfl h2

theorem all_sound : ∀ n, ValSound n ∧ ListSound n ∧ ObjSound n ∧ FieldSound n
  | 0 => by
    refine ⟨?_, ?_, ?_, ?_⟩
    · intro c p s s' _ _ h; simp [value, PI.outOfFuel] at h
    · intro c s s' t rest _ _ _ _ h; simp [listValue, PI.outOfFuel] at h
    · intro c s s' t rest _ _ _ _ h; simp [objectValue, PI.outOfFuel] at h
    · intro c B s s' t rest _ _ _ _ _ h; simp [objectField, PI.outOfFuel] at h
  | n + 1 => by
    obtain ⟨v, l, o, f⟩ := all_sound n
    exact ⟨value_sound_step n l o, listValue_sound n v, objectValue_sound n f, objectField_sound n v⟩

/-- **`value.rs`, acceptance is sound** -/
theorem value_sound (n : Nat) : ValSound n := (all_sound n).1

/-! ### arguments -/

theorem argument_sound (n : Nat) (c : Bool) (B : Nat) : ItemSpecB B AtEof .name (argument n c) (QFieldK 0 c B) := by
  intro s s' t rest w he hB ht hk h hnd
  rw [argument_eq] at h
  rw [← hB]
  exact namedValue_sound 0 "ARGUMENT" c (argumentTail n c) (good_argumentTail n c)
    (fun k s1 s2 hk' w1 hne1 hr => argumentTail_err n c k s1 s2 hk' w1 hne1 hr)
    (value n c false) (by simp [argumentTail]) (good_value n c false)
    (fun s1 s2 w1 he1 _ hr hnd2 => value_sound n c false s1 s2 w1 he1 hr hnd2) s s' t rest w he ht hk h hnd

theorem args_of_items (c : Bool) (B : Nat) : ∀ (items : List (List Ast.Tok)), (∀ x ∈ items, QFieldK 0 c B x) →
    ∃ args, items.flatten = Ast.tArgItems args ∧ argsFit c B args ∧ args.length = items.length
  | [], _ => ⟨[], rfl, (by intro a ha; cases ha), rfl⟩
  | x :: items, h => by
    obtain ⟨nm, v, hx, hv⟩ := h x (by simp)
    obtain ⟨args, ha, hok, hlen⟩ := args_of_items c B items (fun y hy => h y (by simp [hy]))
    refine ⟨(nm, v) :: args, ?_, ?_, by simp [hlen]⟩
    · simp [List.flatten_cons, hx, ha, Ast.tArgItems]
    · intro a ha'
      rcases List.mem_cons.mp ha' with rfl | ha'
      · exact ⟨hv.1, by have := hv.2; omega⟩
      · exact hok a ha'

/-- **`argument.rs::arguments`**: started on `(`, an error-free run consumes exactly the tokens of a non-empty
    argument list `( Name : Value … )` -/
theorem arguments_sound (n : Nat) (c : Bool) (s s' : PState) (t : Tok) (rest : List Tok) (w : TW s) (he : EofEnd s)
    (ht : Toks s = t :: rest) (hk : t.kind = .lParen) (h : (arguments n c).run s = .ok () s') (hnd : ¬ Doomed s') :
    ∃ cs args, Toks s = cs ++ Toks s' ∧ NoEof cs ∧ EofEnd s' ∧ args ≠ [] ∧
      TokIs (sig cs) (Ast.tArguments args) ∧ argsFit c (bud s) args := by
  obtain ⟨cs, items, h1, h2, h3, hne, h4, h5⟩ := parenItems_sound "ARGUMENTS" .name (argument n c) (argumentsRest n c) rfl
    (QFieldK 0 c (bud s)) (good_argument n c) s s' t rest w he ht hk (argument_sound n c (bud s)) h hnd
  obtain ⟨args, hargs, hok, hlen⟩ := args_of_items c (bud s) items h5
  have hane : args ≠ [] := by
    rintro rfl
    exact hne (List.eq_nil_of_length_eq_zero hlen.symm)
  refine ⟨cs, args, h1, h2, h3, hane, ?_, hok⟩
  have hemp : args.isEmpty = false := by
    cases args with
    | nil => exact absurd rfl hane
    | cons a r => rfl
  rw [hargs] at h4
  simpa [Ast.tArguments, hemp] using h4

end Exact

def ValSound (n : Nat) : Prop :=
  ∀ c p s s', TW s → EofEnd s → (value n c p).run s = .ok () s' → ¬ Doomed s' → ValOk c s s'


theorem value_sound (n : Nat) : ValSound n :=
  fun c p s s' w he h hnd => (Exact.value_sound n c p s s' w he h hnd).forget

def argsOk (c : Bool) (args : List (Ast.Str × Ast.Value)) : Prop := ∀ a ∈ args, valueOk c a.2 = true

theorem arguments_sound (n : Nat) (c : Bool) (s s' : PState) (t : Tok) (rest : List Tok) (w : TW s) (he : EofEnd s)
    (ht : Toks s = t :: rest) (hk : t.kind = .lParen) (h : (arguments n c).run s = .ok () s') (hnd : ¬ Doomed s') :
    ∃ cs args, Toks s = cs ++ Toks s' ∧ NoEof cs ∧ EofEnd s' ∧ args ≠ [] ∧
      TokIs (sig cs) (Ast.tArguments args) ∧ argsOk c args := by
  obtain ⟨cs, args, h1, h2, h3, h4, h5, h6⟩ := Exact.arguments_sound n c s s' t rest w he ht hk h hnd
  exact ⟨cs, args, h1, h2, h3, h4, h5, fun a ha => (h6 a ha).1⟩

end Apollo.Parse
