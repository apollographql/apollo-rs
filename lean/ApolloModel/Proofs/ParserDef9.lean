import ApolloModel.Proofs.ParserDef8
/-
C05, type-system definitions: operation types and root operation type definitions,
with what the parser lets through (`query:` with no named type is accepted) exposed in the relation.
-/
set_option linter.unusedSimpArgs false
namespace Apollo.Parse
open Apollo.Rowan hiding Str
open Apollo.Lex hiding Str

theorem name_sig : ∀ k : Kind, (k == Kind.name) = true → isIgnoredKind k = false := kindEq_sig rfl

theorem acc_opBump {E : PState → Prop} (t : Tok) (sk : SK) (op : Ast.OpType) (hd : t.data = op.name.toList) :
    Acc E (fun q => KindP (· == .name) q ∧ q.head? = some t) (bump sk) (fun _ x => x = [.name op.name.toList]) := by
  refine (acc_bump sk (fun t' => t'.kind = .name ∧ t'.data = op.name.toList) (fun x => x = [.name op.name.toList]) ?_).mono ?_
    (fun _ _ h => h)
  · rintro t' ⟨hk, hd'⟩
    exact ⟨by rw [hk]; rfl, by rw [hk]; decide, _, by simp [astOfV, hk, hd'], rfl⟩
  · rintro q ⟨⟨t', hh, hk⟩, h2⟩
    rw [hh] at h2
    have : t' = t := by simpa using h2
    subst this
    exact ⟨t', hh, by simpa using hk, hd⟩

/-- `operation_type` on a Name token: one of the three keywords -/
theorem acc_operationType {E : PState → Prop} (hE : Early E) :
    Acc E (KindP (· == .name)) operationType (fun _ x => ∃ op : Ast.OpType, x = [.name op.name.toList]) := by
  unfold operationType
  apply acc_peekData
  intro o
  cases o with
  | none =>
    refine acc_absurd (good_pure ()) ?_
    rintro q ⟨⟨t, hh, _⟩, h2⟩
    rw [hh] at h2; cases h2
  | some t =>
    simp only [Option.map]
    refine acc_withNode hE _ (fun q hq => kindP_sig _ name_sig q hq.1) ?_
    apply acc_ite
    · intro hk
      exact (acc_opBump t _ .query (by have h0 := hk; simp only [kw, beq_iff_eq] at h0; exact h0)).mono (fun _ h => h) (fun _ _ h => ⟨.query, h⟩)
    · intro _
      apply acc_ite
      · intro hk
        exact (acc_opBump t _ .subscription (by have h0 := hk; simp only [kw, beq_iff_eq] at h0; exact h0)).mono (fun _ h => h) (fun _ _ h => ⟨.subscription, h⟩)
      · intro _
        apply acc_ite
        · intro hk
          exact (acc_opBump t _ .mutation (by have h0 := hk; simp only [kw, beq_iff_eq] at h0; exact h0)).mono (fun _ h => h) (fun _ _ h => ⟨.mutation, h⟩)
        · intro _; exact acc_errAndPop

/-- `named_type` silently does nothing when no Name follows -/
theorem acc_namedType {E : PState → Prop} (hE : Early E) {H : List Tok → Prop} :
    Acc E H namedType (fun _ x => (∃ nm, x = [.name nm]) ∨ x = []) := by
  unfold namedType
  refine acc_ifKind .name _ _ _ ?_ ?_
  · exact (acc_withNodeAny hE "NAMED_TYPE" (acc_name (H := fun _ => True))).mono (fun _ _ => trivial) (fun _ _ h => Or.inl h)
  · exact (acc_pure E _ ()).mono (fun _ _ => trivial) (fun _ _ h => Or.inr h.2)

/-- **`schema.rs::root_operation_type_definition`**: either the printer's `op : Name`, or — accepted by the code, not by the
    grammar — `op :` with the named type missing. -/
theorem acc_rootOperationTypeDefinition {E : PState → Prop} (hE : Early E) :
    Acc E (KindP (· == .name)) rootOperationTypeDefinition
      (fun _ x => ∃ op : Ast.OpType, (∃ nm, x = Ast.tRootOp (op, nm)) ∨ x = [.name op.name.toList, .p .colon]) := by
  unfold rootOperationTypeDefinition
  refine acc_withNode hE _ (kindP_sig _ name_sig) ?_
  have hc : Acc E (fun _ => True) (peek >>= fun k => if k == some .colon then (bump "COLON" >>= fun _ => namedType) else err)
      (fun _ x => (∃ nm, x = [.p .colon, .name nm]) ∨ x = [.p .colon]) := by
    refine acc_ifKind .colon _ _ _ ?_ acc_err
    refine (acc_bind hE acc_colon (fun _ => acc_namedType hE)).mono (fun _ h => h) ?_
    rintro _ x ⟨_, x1, x2, e, h1, h2⟩
    rcases h2 with ⟨nm, h2⟩ | h2
    · exact Or.inl ⟨nm, by rw [e, h1, h2]; rfl⟩
    · exact Or.inr (by rw [e, h1, h2]; rfl)
  refine (acc_bind hE (acc_operationType hE) (fun _ => hc)).mono (fun _ h => h) ?_
  rintro _ x ⟨_, x1, x2, e, ⟨op, h1⟩, h2⟩
  refine ⟨op, ?_⟩
  rcases h2 with ⟨nm, h2⟩ | h2
  · exact Or.inl ⟨nm, by rw [e, h1, h2]; rfl⟩
  · exact Or.inr (by rw [e, h1, h2]; rfl)

/-- reading an `Acc` statement without early exit as a plain soundness statement -/
theorem Acc.sound {α : Type} {H : List Tok → Prop} {m : PI α} {R : α → List Ast.Tok → Prop} (h : Acc (fun _ => False) H m R)
    (s s' : PState) (a : α) (w : TW s) (he : EofEnd s) (hq : H (Toks s)) (hr : m.run s = .ok a s') (hnd : ¬ Doomed s') :
    ∃ cs x, Toks s = cs ++ Toks s' ∧ NoEof cs ∧ EofEnd s' ∧ (sig cs).map astOfV = x.map some ∧ R a x := by
  obtain ⟨cs, a1, a2, a3, a4⟩ := h.2 s a s' w he hq hr hnd
  rcases a4 with ⟨x, hx, hR⟩ | h4
  · exact ⟨cs, x, a1, a2, a3, hx, hR⟩
  · exact absurd h4 id

end Apollo.Parse
