import ApolloModel.Model.AstParse
/-
Token-level printer (`t…` functions): the token stream of each `serialize_impl`, stated directly by
recursion on the AST, and the lemmas `toksOf (c… x) = t… x` that connect it to the command model.
-/
namespace Apollo.Ast

@[simp] theorem toksOf_nil : toksOf [] = [] := rfl

@[simp] theorem toksOf_append (a b : List Cmd) : toksOf (a ++ b) = toksOf a ++ toksOf b := by
  induction a with
  | nil => rfl
  | cons c a ih => cases c <;> simp [toksOf, ih]

@[simp] theorem toksOf_tok (t : Tok) (r : List Cmd) : toksOf (.tok t :: r) = t :: toksOf r := rfl
@[simp] theorem toksOf_str (b : Bool) (s : Str) (r : List Cmd) : toksOf (.str b s :: r) = .str s :: toksOf r := rfl
@[simp] theorem toksOf_raw (s : Str) (r : List Cmd) : toksOf (.raw s :: r) = toksOf r := rfl
@[simp] theorem toksOf_indent (r : List Cmd) : toksOf (.indent :: r) = toksOf r := rfl
@[simp] theorem toksOf_indentOrSpace (r : List Cmd) : toksOf (.indentOrSpace :: r) = toksOf r := rfl
@[simp] theorem toksOf_dedent (r : List Cmd) : toksOf (.dedent :: r) = toksOf r := rfl
@[simp] theorem toksOf_dedentOrSpace (r : List Cmd) : toksOf (.dedentOrSpace :: r) = toksOf r := rfl
@[simp] theorem toksOf_newLineOrSpace (r : List Cmd) : toksOf (.newLineOrSpace :: r) = toksOf r := rfl
@[simp] theorem toksOf_beginSingle (r : List Cmd) : toksOf (.beginSingle :: r) = toksOf r := rfl
@[simp] theorem toksOf_endSingle (r : List Cmd) : toksOf (.endSingle :: r) = toksOf r := rfl
@[simp] theorem toksOf_rawIfNewlines (s : Str) (r : List Cmd) : toksOf (.rawIfNewlines s :: r) = toksOf r := rfl
@[simp] theorem toksOf_kw (s : String) (r : List Cmd) : toksOf (kw s :: r) = .name s.toList :: toksOf r := rfl
@[simp] theorem toksOf_pn (k : P) (r : List Cmd) : toksOf (pn k :: r) = .p k :: toksOf r := rfl
@[simp] theorem toksOf_nm (s : Str) (r : List Cmd) : toksOf (nm s :: r) = .name s :: toksOf r := rfl
@[simp] theorem toksOf_sp (r : List Cmd) : toksOf (sp :: r) = toksOf r := rfl

def toksAll (items : List (List Cmd)) : List Tok := (items.map toksOf).flatten

@[simp] theorem toksAll_nil : toksAll [] = [] := rfl
@[simp] theorem toksAll_cons (a : List Cmd) (r : List (List Cmd)) : toksAll (a :: r) = toksOf a ++ toksAll r := by
  simp [toksAll]

theorem toksOf_flatten_sep (pre : List Cmd) (hpre : toksOf pre = []) (items : List (List Cmd)) :
    toksOf ((items.map fun v => pre ++ v).flatten) = toksAll items := by
  induction items with
  | nil => rfl
  | cons a r ih => simp [hpre, ih]

theorem toksOf_commaSeparated (o c : P) (items : List (List Cmd)) :
    toksOf (commaSeparated o c items) = .p o :: toksAll items ++ [.p c] := by
  cases items with
  | nil => rfl
  | cons a r =>
    have h := toksOf_flatten_sep [.raw [','], .newLineOrSpace] rfl r
    simp only [commaSeparated, toksOf_append, toksOf_pn, toksOf_indent, toksOf_rawIfNewlines, toksOf_dedent,
      toksOf_nil, toksAll_cons]
    simp only [List.cons_append, List.nil_append] at h ⊢
    rw [h]

theorem toksOf_curly (items : List (List Cmd)) :
    toksOf (curly items) = .p .lCurly :: toksAll items ++ [.p .rCurly] := by
  cases items with
  | nil => rfl
  | cons a r =>
    have h := toksOf_flatten_sep [.newLineOrSpace] rfl r
    simp only [curly, toksOf_append, toksOf_pn, toksOf_indentOrSpace, toksOf_dedentOrSpace, toksOf_nil, toksAll_cons]
    simp only [List.cons_append, List.nil_append] at h ⊢
    rw [h]

/-! ### values -/

mutual
def tValue : Value → List Tok
  | .null => [.name sNull]
  | .bool true => [.name sTrue]
  | .bool false => [.name sFalse]
  | .enum n => [.name n]
  | .str s => [.str s]
  | .var n => [.p .dollar, .name n]
  | .float t => [.float t]
  | .int t => [.int t]
  | .list vs => .p .lBracket :: tValues vs ++ [.p .rBracket]
  | .obj fs => .p .lCurly :: tObjFields fs ++ [.p .rCurly]
def tValues : Values → List Tok
  | .nil => []
  | .cons v tl => tValue v ++ tValues tl
def tObjFields : ObjFields → List Tok
  | .nil => []
  | .cons n v tl => .name n :: .p .colon :: tValue v ++ tObjFields tl
end

mutual
theorem toksOf_cValue : ∀ v : Value, toksOf (cValue v) = tValue v
  | .null => rfl
  | .bool true => rfl
  | .bool false => rfl
  | .enum _ => rfl
  | .str _ => rfl
  | .var _ => rfl
  | .float _ => rfl
  | .int _ => rfl
  | .list vs => by simp [cValue, tValue, toksOf_commaSeparated, toksAll_cValues vs]
  | .obj fs => by simp [cValue, tValue, toksOf_commaSeparated, toksAll_cObjFields fs]
theorem toksAll_cValues : ∀ vs : Values, toksAll (cValues vs) = tValues vs
  | .nil => rfl
  | .cons v tl => by simp [cValues, tValues, toksOf_cValue v, toksAll_cValues tl]
theorem toksAll_cObjFields : ∀ fs : ObjFields, toksAll (cObjFields fs) = tObjFields fs
  | .nil => rfl
  | .cons n v tl => by simp [cObjFields, tObjFields, toksOf_cValue v, toksAll_cObjFields tl]
end

end Apollo.Ast
