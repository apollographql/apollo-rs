import ApolloModel.Proofs.TypedVars5
/-
C18: reducing the hypothesis `DocOk` of the variable theorems.
 * what `document_from_ast` (ExecRules.build) itself guarantees needs no hypothesis: every field of a built
   selection set is defined on the type it is selected on (undefined fields are dropped with a build diagnostic),
   every operation has its root type;
 * with a schema whose input types are closed, the shape facts about literals reduce to "the argument's type is known".
What remains (`DocOkW`): arguments and directives are defined, spreads name fragments, type conditions are
composite types, no fragment is on a spread cycle — one structural rule each.
-/
namespace Apollo.ExecRules
open Apollo Apollo.Spec

def FieldsDefined (s : RSchema) : String → RSels → Prop
  | _, .nil => True
  | t, .field name _ _ sub rest =>
    (∃ fd, s.field t name = some fd ∧ FieldsDefined s fd.ty.innerNamedType sub) ∧ FieldsDefined s t rest
  | t, .spread _ _ rest => FieldsDefined s t rest
  | t, .inline tc _ sub rest =>
    (match tc with
     | none => FieldsDefined s t sub
     | some c => FieldsDefined s c sub) ∧ FieldsDefined s t rest

theorem buildSels_fieldsDefined (s : RSchema) : ∀ (raw : RSels) (parent : String), FieldsDefined s parent (buildSels s parent raw) := by
  intro raw
  induction raw with
  | nil => intro parent; simp [buildSels, FieldsDefined]
  | field name dirs args sub rest ihs ihr =>
    intro parent
    simp only [buildSels]
    cases hf : s.field parent name with
    | none => exact ihr parent
    | some fd =>
      simp only
      split
      · exact ihr parent
      · exact ⟨⟨fd, hf, ihs _⟩, ihr parent⟩
  | spread f dirs rest ihr => intro parent; simp only [buildSels, FieldsDefined]; exact ihr parent
  | inline tc dirs sub rest ihs ihr =>
    intro parent
    cases tc with
    | none => simp only [buildSels, FieldsDefined]; exact ⟨ihs parent, ihr parent⟩
    | some t =>
      simp only [buildSels]
      split
      · exact ihr parent
      · exact ⟨ihs t, ihr parent⟩

/-- `SelsOk` without the clause "the field is defined on its parent type" -/
def SelsOkW (s : RSchema) (doc : RBuilt) : String → RSels → Prop
  | _, .nil => True
  | t, .field name dirs args sub rest =>
    dirsOk s dirs ∧ (∀ fd, s.field t name = some fd → argsOk s fd.args args ∧ SelsOkW s doc fd.ty.innerNamedType sub) ∧
      SelsOkW s doc t rest
  | t, .spread f dirs rest => dirsOk s dirs ∧ (doc.findFrag f).isSome ∧ SelsOkW s doc t rest
  | t, .inline tc dirs sub rest =>
    dirsOk s dirs ∧
      (match tc with
       | none => SelsOkW s doc t sub
       | some c => isCompositeType s c = true ∧ SelsOkW s doc c sub) ∧
      SelsOkW s doc t rest

theorem selsOk_of_defined (s : RSchema) (doc : RBuilt) : ∀ (t : RSels) (ty : String),
    FieldsDefined s ty t → SelsOkW s doc ty t → SelsOk s doc ty t := by
  intro t
  induction t with
  | nil => intro ty _ _; trivial
  | field name dirs args sub rest ihs ihr =>
    intro ty hd hw
    obtain ⟨⟨fd, hf, hds⟩, hdr⟩ := hd
    obtain ⟨h1, h2, h3⟩ := hw
    obtain ⟨ha, hs⟩ := h2 fd hf
    exact ⟨h1, ⟨fd, hf, ha, ihs _ hds hs⟩, ihr ty hdr h3⟩
  | spread f dirs rest ihr =>
    intro ty hd hw
    exact ⟨hw.1, hw.2.1, ihr ty hd hw.2.2⟩
  | inline tc dirs sub rest ihs ihr =>
    intro ty hd hw
    obtain ⟨hds, hdr⟩ := hd
    obtain ⟨h1, h2, h3⟩ := hw
    refine ⟨h1, ?_, ihr ty hdr h3⟩
    cases tc with
    | none => exact ihs ty hds h2
    | some c => exact ⟨h2.1, ihs c hds h2.2⟩

/-- what `document_from_ast` guarantees for everything it keeps -/
structure BuiltInv (s : RSchema) (st : RBuilt) : Prop where
  ops : ∀ o ∈ st.ops, ∃ t, s.root o.ty = some t ∧ FieldsDefined s t o.sels
  frags : ∀ f ∈ st.frags, FieldsDefined s f.tc f.sels

theorem buildDef_inv (s : RSchema) (st : RBuilt) (d : RDef) (h : BuiltInv s st) : BuiltInv s (buildDef s st d) := by
  cases d with
  | typeSystem => exact h
  | frag f =>
    simp only [buildDef]
    split
    · exact h
    · split
      · exact h
      · refine ⟨h.ops, ?_⟩
        intro g hg
        simp only [List.mem_append, List.mem_singleton] at hg
        rcases hg with hg | rfl
        · exact h.frags g hg
        · exact buildSels_fieldsDefined s f.sels f.tc
  | op o =>
    simp only [buildDef]
    cases hr : s.root o.ty with
    | none =>
      simp only [Option.map_none]
      split <;> split <;> exact h
    | some t =>
      -- the only change: `ops` gains the operation built under its root type
      have hnew : ∀ st' : RBuilt, st'.frags = st.frags →
          (∀ x ∈ st'.ops, x ∈ st.ops ∨ x = { o with sels := buildSels s t o.sels }) → BuiltInv s st' :=
        fun st' hf hx => ⟨fun x hx' => (hx x hx').elim (h.ops x) (· ▸ ⟨t, hr, buildSels_fieldsDefined s o.sels t⟩), hf ▸ h.frags⟩
      simp only [Option.map_some]
      split
      · split
        · exact h
        · exact hnew _ rfl fun x hx => by simpa [RBuilt.ops, or_assoc] using hx
      · split
        · exact h
        · refine hnew _ rfl fun x hx => ?_
          simp only [RBuilt.ops, List.mem_append, Option.toList_some, List.mem_singleton] at hx ⊢
          exact hx.elim .inr fun hx => .inl (.inr hx)

theorem build_inv (s : RSchema) (ast : RAst) : BuiltInv s (build s ast) :=
  List.foldlRecOn ast (buildDef s) ⟨by intro o ho; simp [RBuilt.ops] at ho, by intro f hf; cases hf⟩
    fun st h d _ => buildDef_inv s st d h

structure DocOkW (s : RSchema) (doc : RBuilt) : Prop where
  frags : ∀ f d, doc.findFrag f = some d →
    dirsOk s d.dirs ∧ isCompositeType s d.tc = true ∧ (reach doc d.sels).contains d.name = false ∧ SelsOkW s doc d.tc d.sels
  ops : ∀ o ∈ doc.ops, dirsOk s o.dirs ∧ ∀ t, s.root o.ty = some t → SelsOkW s doc t o.sels

theorem docOk_of_built (s : RSchema) (ast : RAst) (h : DocOkW s (build s ast)) : DocOk s (build s ast) := by
  have inv := build_inv s ast
  refine ⟨?_, ?_⟩
  · intro f d hf
    obtain ⟨h1, h2, h3, h4⟩ := h.frags f d hf
    have hmem : d ∈ (build s ast).frags := List.mem_of_find?_eq_some hf
    exact ⟨h1, h2, h3, selsOk_of_defined s _ d.sels d.tc (inv.frags d hmem) h4⟩
  · intro o ho
    obtain ⟨h1, h2⟩ := h.ops o ho
    obtain ⟨t, hr, hd⟩ := inv.ops o ho
    exact ⟨h1, t, hr, selsOk_of_defined s _ o.sels t hd (h2 t hr)⟩

theorem argsOk_of_closed (s : RSchema) (hc : InputClosed s) (defs : List InDef) (args : List RArg)
    (h : ∀ a ∈ args, ∃ d, defs.find? (·.name == a.name) = some d ∧ (s.kindForValue d.ty.innerNamedType).isSome) :
    argsOk s defs args := by
  intro a ha
  obtain ⟨d, hd, hk⟩ := h a ha
  exact ⟨d, hd, litOk_of_closed s hc _ d.ty a.value hk⟩

end Apollo.ExecRules
