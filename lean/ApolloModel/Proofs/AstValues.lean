import ApolloModel.Proofs.AstTokens
/-
Round trip of values and types through the reference parser: for every value (unbounded nesting),
`pValue` reads back exactly the value whose tokens were printed, and stops where the printer stopped.
-/
namespace Apollo.Ast

mutual
/-- the only constraint a parsed value satisfies beyond its shape: an enum value is not `true`, `false`, `null` -/
def wfValue : Value → Bool
  | .enum n => n != sTrue && n != sFalse && n != sNull
  | .list vs => wfValues vs
  | .obj fs => wfObjFields fs
  | _ => true
def wfValues : Values → Bool
  | .nil => true
  | .cons v tl => wfValue v && wfValues tl
def wfObjFields : ObjFields → Bool
  | .nil => true
  | .cons _ v tl => wfValue v && wfObjFields tl
end

mutual
def szValue : Value → Nat
  | .list vs => szValues vs + 1
  | .obj fs => szObjFields fs + 1
  | _ => 1
def szValues : Values → Nat
  | .nil => 1
  | .cons v tl => szValue v + szValues tl + 1
def szObjFields : ObjFields → Nat
  | .nil => 1
  | .cons _ v tl => szValue v + szObjFields tl + 1
end

def valueStart : Tok → Bool
  | .p .dollar | .p .lBracket | .p .lCurly | .name _ | .int _ | .float _ | .str _ => true
  | _ => false

theorem tValue_head (v : Value) : ∃ t r, tValue v = t :: r ∧ valueStart t = true := by
  cases v with
  | bool b => cases b <;> exact ⟨_, _, rfl, rfl⟩
  | _ => exact ⟨_, _, rfl, rfl⟩

/-- a token list that does not start with `t` matches no pattern `t :: _`: the side condition of the
    fall-through equations of the parser functions -/
theorem head_ne {ts : List Tok} {t : Tok} (h : ts.head? ≠ some t) (r : List Tok) : ts = t :: r → False := by
  rintro rfl
  exact h rfl

theorem pValues_step (f : Nat) (t : Tok) (r : List Tok) (h : t ≠ .p .rBracket) (v : Value) (r1 : List Tok)
    (vs : Values) (r' : List Tok) (h1 : pValue f (t :: r) = some (v, r1)) (h2 : pValues f r1 = some (vs, r')) :
    pValues (f + 1) (t :: r) = some (.cons v vs, r') := by
  rw [pValues]
  · simp only [h1, h2]
  · exact fun _ e => h (List.cons.inj e).1

mutual
theorem value_roundtrip : ∀ (v : Value) (f : Nat) (rest : List Tok), wfValue v = true → szValue v ≤ f →
    pValue f (tValue v ++ rest) = some (v, rest)
  | .null, f + 1, rest, _, _ => by simp [tValue, pValue, sNull, sTrue, sFalse]
  | .bool true, f + 1, rest, _, _ => by simp [tValue, pValue, sTrue]
  | .bool false, f + 1, rest, _, _ => by simp [tValue, pValue, sTrue, sFalse]
  | .enum n, f + 1, rest, h, _ => by
      simp [wfValue] at h
      simp [tValue, pValue, h]
  | .str s, f + 1, rest, _, _ => by simp [tValue, pValue]
  | .var n, f + 1, rest, _, _ => by simp [tValue, pValue]
  | .float t, f + 1, rest, _, _ => by simp [tValue, pValue]
  | .int t, f + 1, rest, _, _ => by simp [tValue, pValue]
  | .list vs, f + 1, rest, h, hs => by
      have := values_roundtrip vs f rest (by simpa [wfValue] using h) (by simp [szValue] at hs; omega)
      simp [tValue, pValue, this]
  | .obj fs, f + 1, rest, h, hs => by
      have := objFields_roundtrip fs f rest (by simpa [wfValue] using h) (by simp [szValue] at hs; omega)
      simp [tValue, pValue, this]
  | .null, 0, _, _, hs | .bool _, 0, _, _, hs | .enum _, 0, _, _, hs | .str _, 0, _, _, hs | .var _, 0, _, _, hs
  | .float _, 0, _, _, hs | .int _, 0, _, _, hs | .list _, 0, _, _, hs | .obj _, 0, _, _, hs => by
      simp [szValue] at hs
theorem values_roundtrip : ∀ (vs : Values) (f : Nat) (rest : List Tok), wfValues vs = true → szValues vs ≤ f →
    pValues f (tValues vs ++ .p .rBracket :: rest) = some (vs, rest)
  | .nil, f + 1, rest, _, _ => by simp [tValues, pValues]
  | .cons v tl, f + 1, rest, h, hs => by
      simp [wfValues] at h
      simp [szValues] at hs
      obtain ⟨t, r, ht, hst⟩ := tValue_head v
      have hv := value_roundtrip v f (tValues tl ++ .p .rBracket :: rest) h.1 (by omega)
      have htl := values_roundtrip tl f rest h.2 (by omega)
      have hne : t ≠ .p .rBracket := by intro e; subst e; simp [valueStart] at hst
      simp only [tValues, List.append_assoc]
      rw [ht] at hv ⊢
      simp only [List.cons_append] at hv ⊢
      exact pValues_step f t _ hne _ _ _ _ hv htl
  | .nil, 0, _, _, hs | .cons _ _, 0, _, _, hs => by simp [szValues] at hs
theorem objFields_roundtrip : ∀ (fs : ObjFields) (f : Nat) (rest : List Tok), wfObjFields fs = true → szObjFields fs ≤ f →
    pObjFields f (tObjFields fs ++ .p .rCurly :: rest) = some (fs, rest)
  | .nil, f + 1, rest, _, _ => by simp [tObjFields, pObjFields]
  | .cons n v tl, f + 1, rest, h, hs => by
      simp [wfObjFields] at h
      simp [szObjFields] at hs
      have hv := value_roundtrip v f (tObjFields tl ++ .p .rCurly :: rest) h.1 (by omega)
      have htl := objFields_roundtrip tl f rest h.2 (by omega)
      simp [tObjFields, pObjFields, hv, htl]
  | .nil, 0, _, _, hs | .cons _ _ _, 0, _, _, hs => by simp [szObjFields] at hs
end

/-! ### types -/

def tTy : Ty → List Tok
  | .named n => [.name n]
  | .nonNullNamed n => [.name n, .p .bang]
  | .list t => .p .lBracket :: tTy t ++ [.p .rBracket]
  | .nonNullList t => .p .lBracket :: tTy t ++ [.p .rBracket, .p .bang]

theorem toksOf_cTy (t : Ty) : toksOf (cTy t) = tTy t := by
  induction t with
  | named n => rfl
  | nonNullNamed n => rfl
  | list t ih => simp [cTy, tTy, ih]
  | nonNullList t ih => simp [cTy, tTy, ih]

def szTy : Ty → Nat
  | .named _ | .nonNullNamed _ => 1
  | .list t | .nonNullList t => szTy t + 1

/-- a type reads back provided the token after it is not `!` (the printer never writes `!!`) -/
theorem ty_roundtrip (t : Ty) : ∀ (f : Nat) (rest : List Tok), szTy t ≤ f → rest.head? ≠ some (.p .bang) →
    pTy f (tTy t ++ rest) = some (t, rest) := by
  induction t with
  | named n =>
    intro f rest hs hr
    cases f with
    | zero => simp [szTy] at hs
    | succ f => exact pTy.eq_3 f n rest (head_ne hr)
  | nonNullNamed n =>
    intro f rest hs _
    cases f with
    | zero => simp [szTy] at hs
    | succ f => simp [tTy, pTy]
  | list t ih =>
    intro f rest hs hr
    cases f with
    | zero => simp [szTy] at hs
    | succ f =>
      have := ih f (.p .rBracket :: rest) (by simp [szTy] at hs; omega) (by simp)
      simp only [tTy, List.cons_append, List.append_assoc, List.nil_append]
      rw [pTy]
      simp only [this]
      cases rest with
      | nil => rfl
      | cons a rest =>
        simp only [List.head?_cons, ne_eq, Option.some.injEq] at hr
        cases a with
        | p k => cases k <;> first | exact absurd rfl hr | rfl
        | _ => rfl
  | nonNullList t ih =>
    intro f rest hs _
    cases f with
    | zero => simp [szTy] at hs
    | succ f =>
      have := ih f (.p .rBracket :: .p .bang :: rest) (by simp [szTy] at hs; omega) (by simp)
      simp [tTy, pTy, this]

end Apollo.Ast
