import ApolloModel.Proofs.ParserExactT15
/-
EXACT SOUNDNESS (namespace Apollo.Parse.Exact): the assembly at the guard `itemFitX`.  (1) `X.*`: the notions of ParserExactS14 at the
sound-side guard `itemFitX` (= `itemFit` with `looseFitX` for schema definitions / extensions: without "every
root operation type has its named type", which the recorded finding `schema { query: }` makes unprovable).  (2) the
fields of `X.DefExact` (ParserExactT8-T15; the object, interface and union extensions below) and the document theorems without hypotheses.
-/
set_option linter.unusedSimpArgs false
namespace Apollo.Parse.Exact
open Apollo.Rowan hiding Str
open Apollo.Lex hiding Str

def itemFitX (b : Nat) : DocItem → Prop
  | .exec _ d => execFit b d
  | .loose l => looseFitX b l

theorem itemFitX_of_fit (b : Nat) (i : DocItem) (h : itemFit b i) : itemFitX b i := by
  cases i with
  | exec oe d => exact h
  | loose l => exact looseFitX_of_looseFit b l h

end Apollo.Parse.Exact

namespace Apollo.Parse.Exact.X
open Apollo.Rowan hiding Str
open Apollo.Lex hiding Str

@[reducible] def ItemRes (s s' : PState) : Prop :=
  ∃ (cs : List Tok) (i : DocItem), Toks s = cs ++ Toks s' ∧ NoEof cs ∧ EofEnd s' ∧ TokIs (sig cs) (DocItem.toks i) ∧
    itemFitX (bud s) i ∧ ∀ q, (sig (Toks s')).head? = some q → itemFollowQ i q

def DefSound (H : List Tok → Prop) (m : PI Unit) : Prop :=
  ∀ s s', TW s → EofEnd s → (LexQ (Toks s) ∧ H (Toks s)) → m.run s = .ok () s' → ¬ Doomed s' → ItemRes s s'

structure DefExact (n : Nat) : Prop where
  directive : DefSound (DStart "directive".toList) (directiveDefinition n)
  enumDef : DefSound (DStart "enum".toList) (enumTypeDefinition n)
  input : DefSound (DStart "input".toList) (inputObjectTypeDefinition n)
  interface : DefSound (DStart "interface".toList) (interfaceTypeDefinition n)
  object : DefSound (DStart "type".toList) (objectTypeDefinition n)
  scalar : DefSound (DStart "scalar".toList) (scalarTypeDefinition n)
  schema : DefSound (DStart "schema".toList) (schemaDefinition n)
  union : DefSound (DStart "union".toList) (unionTypeDefinition n)
  schemaExt : DefSound (EStart "schema".toList) (schemaExtension n)
  scalarExt : DefSound (EStart "scalar".toList) (scalarTypeExtension n)
  objectExt : DefSound (EStart "type".toList) (objectTypeExtension n)
  interfaceExt : DefSound (EStart "interface".toList) (interfaceTypeExtension n)
  unionExt : DefSound (EStart "union".toList) (unionTypeExtension n)
  enumExt : DefSound (EStart "enum".toList) (enumTypeExtension n)
  inputExt : DefSound (EStart "input".toList) (inputObjectTypeExtension n)

theorem DefExact.toG {n : Nat} (L : DefExact n) : DefExactG itemFitX n :=
  ⟨L.directive, L.enumDef, L.input, L.interface, L.object, L.scalar, L.schema, L.union, L.schemaExt, L.scalarExt, L.objectExt,
    L.interfaceExt, L.unionExt, L.enumExt, L.inputExt⟩

/-- **the dispatcher of `document()`**: on a token of a kind other than EOF, an error-free run consumes exactly
    the tokens of one definition of the grammar -/
theorem dispatch_soundG {n : Nat} (L : DefExact n) (s s' : PState) (t : Tok) (rest : List Tok)
    (w : TW s) (he : EofEnd s) (hs : LexQ (Toks s)) (hc : s.current = some t) (ht : Toks s = t :: rest)
    (h : (documentDispatch n t.kind).run s = .ok () s') (hnd : ¬ Doomed s') : ItemRes s s' :=
  documentDispatch_reach (L.toG.dispatch (fun _ _ _ => Iff.rfl)) s s' t rest w he hs hc ht h hnd

end Apollo.Parse.Exact.X

/-! ## object / interface type extensions -/

namespace Apollo.Parse.Exact
open Apollo.Rowan hiding Str
open Apollo.Lex hiding Str

/-- what follows the name of an object / interface extension: at least one of the three parts is written -/
def ObjExtR (b : Nat) (cur : Option Tok) (x : List Ast.Tok) : Prop :=
  ∃ impl ds x2, x = tSepOpt [.name Ast.sImplements] .amp impl ++ (Ast.tDirectives ds ++ x2) ∧ dirsFit true b ds ∧
    (LFields b x2 ∨ (x2 = [] ∧ (impl ≠ none ∨ ds ≠ []) ∧ ∀ t, cur = some t → t.kind ≠ .lCurly))

abbrev extFieldsTail (n : Nat) (m : Bool) : PI Unit := extDirs n (extBodyK .lCurly (fieldsDefinition n)) m

theorem good_extFieldsTail (n : Nat) (m : Bool) : Good (extFieldsTail n m) :=
  good_extDirs n _ (good_extBodyK _ (acc_fieldsDefinition n).1) m

theorem sp_extFieldsTail (n : Nat) (m : Bool) : SP (extFieldsTail n m) :=
  sp_extDirs n _ (good_extBodyK _ (acc_fieldsDefinition n).1) (sp_extBodyK _ (acc_fieldsDefinition n).1 (se_fieldsDefinition n).sp) m

theorem extFieldsTail_sound (n : Nat) (m : Bool) (s s' : PState) (w : TW s) (he : EofEnd s)
    (h : (extFieldsTail n m).run s = .ok () s') (hnd : ¬ Doomed s') :
    Cons s s' (fun x => ∃ ds x2, x = Ast.tDirectives ds ++ x2 ∧ dirsFit true (bud s) ds ∧
      (LFields (bud s) x2 ∨ (x2 = [] ∧ (ds ≠ [] ∨ m = true) ∧ ∀ t, s'.current = some t → t.kind ≠ .lCurly))) :=
  extDirsBody_sound n _ LFields (acc_fieldsDefinition n).1
    (fun q1 q2 t rest w1 he1 ht hk h1 hnd1 => fieldsDefinition_sound n q1 q2 t rest w1 he1 ht hk h1 hnd1) m s s' w he h hnd

theorem implExt_sound (n : Nat) (s s' : PState) (w : TW s) (he : EofEnd s) (hl : LexQ (Toks s))
    (h : (optData2 "implements" implementsInterfaces (extFieldsTail n true) (extFieldsTail n false)).run s = .ok () s') (hnd : ¬ Doomed s') :
    Cons s s' (ObjExtR (bud s) s'.current) := by
  have gT := good_extFieldsTail n
  have hnds : ¬ Doomed s := by
    intro d
    have g : Good (optData2 "implements" implementsInterfaces (extFieldsTail n true) (extFieldsTail n false)) := by
      unfold optData2
      exact good_bind _ _ good_peekData (fun _ => good_ite _ _ _ (good_bind _ _ good_implementsInterfacesT (fun _ => gT true)) (gT false))
    exact hnd ((g s () s' w h).doom d)
  obtain ⟨t, tl, htq⟩ : ∃ t tl, Toks s = t :: tl := by
    cases hq : Toks s with
    | nil => exact absurd hq (eofEnd_nonempty s he hnds)
    | cons t tl => exact ⟨t, tl, rfl⟩
  unfold optData2 at h
  obtain ⟨d, sp, a, b⟩ := bind_dec peekData _ s s' () h
  obtain ⟨rfl, ep, htp⟩ := peekData_head s sp d t tl w htq a
  have hep : EofEnd sp := eofEnd_eat he ep (by intro x hx; cases hx)
  have h0 : Toks s = Toks sp := by simpa using ep.toks
  have hlp : LexQ (Toks sp) := by rw [← h0]; exact hl
  by_cases hc : kwOpt "implements" (some t.data) = true
  · simp only [hc, if_true] at b
    obtain ⟨_, sI, b1, b2⟩ := bind_dec implementsInterfaces _ sp s' () b
    have aI := good_implementsInterfacesT sp () sI ep.w b1
    have hndI : ¬ Doomed sI := fun dd => hnd ((gT true sI () s' aI.w b2).doom dd)
    have hd : t.data = "implements".toList := by
      have := kwOpt_eq hc
      injection this
    have c1 := cons_of_acc (acc_implementsInterfaces (E := E0) early_false) sp sI () ep.w hep ⟨hlp, t, by rw [htp]; rfl, hd⟩ b1 hndI
    have c2 := extFieldsTail_sound n true sI s' aI.w c1.eofEnd b2 hnd
    refine ((c1.seq c2).transport h0 rfl c2.eofEnd).weaken ?_
    rintro z ⟨x, y, rfl, ⟨lead, first, rest, rfl⟩, ds, x2, rfl, hds, hor⟩
    rw [bud_adv aI, bud_eat ep] at hds hor
    refine ⟨some (lead, first, rest), ds, x2, by simp [tSepOpt], hds, ?_⟩
    rcases hor with hf | ⟨rfl, _, hcur⟩
    · exact Or.inl hf
    · exact Or.inr ⟨rfl, Or.inl (by intro hh; cases hh), hcur⟩
  · simp only [hc, Bool.false_eq_true, if_false] at b
    have c2 := extFieldsTail_sound n false sp s' ep.w hep b hnd
    refine (c2.transport h0 rfl c2.eofEnd).weaken ?_
    rintro z ⟨ds, x2, rfl, hds, hor⟩
    rw [bud_eat ep] at hds hor
    refine ⟨none, ds, x2, by simp [tSepOpt], hds, ?_⟩
    rcases hor with hf | ⟨rfl, hm, hcur⟩
    · exact Or.inl hf
    · refine Or.inr ⟨rfl, Or.inr ?_, hcur⟩
      rcases hm with hm | hm
      · exact hm
      · cases hm

theorem good_objExtTail (n : Nat) : Good (objExtTail n) := by
  unfold objExtTail optData2
  exact good_bind _ _ good_nameOrErr (fun _ => good_bind _ _ good_peekData (fun _ => good_ite _ _ _
    (good_bind _ _ good_implementsInterfacesT (fun _ => good_extFieldsTail n true)) (good_extFieldsTail n false)))

theorem sp_objExtTail (n : Nat) : SP (objExtTail n) := by
  unfold objExtTail optData2
  exact sp_bind good_nameOrErr (fun _ => good_bind _ _ good_peekData (fun _ => good_ite _ _ _
      (good_bind _ _ good_implementsInterfacesT (fun _ => good_extFieldsTail n true)) (good_extFieldsTail n false))) se_nameOrErr.sp
    (fun _ => sp_bind good_peekData (fun _ => good_ite _ _ _
      (good_bind _ _ good_implementsInterfacesT (fun _ => good_extFieldsTail n true)) (good_extFieldsTail n false)) sp_peekData
      (fun _ => sp_ite _ _ _ (sp_bind good_implementsInterfacesT (fun _ => good_extFieldsTail n true) se_implementsInterfaces.sp
        (fun _ => sp_extFieldsTail n true)) (sp_extFieldsTail n false)))

theorem objExtTail_sound (n : Nat) (s s' : PState) (w : TW s) (he : EofEnd s) (hl : LexQ (Toks s))
    (h : (objExtTail n).run s = .ok () s') (hnd : ¬ Doomed s') :
    Cons s s' (fun x => ∃ nm x2, x = .name nm :: x2 ∧ ObjExtR (bud s) s'.current x2) := by
  unfold objExtTail at h
  obtain ⟨_, s1, h1, h2⟩ := bind_dec nameOrErr _ s s' () h
  have a1 := good_nameOrErr s () s1 w h1
  have g2 : Good (optData2 "implements" implementsInterfaces (extFieldsTail n true) (extFieldsTail n false)) := by
    unfold optData2
    exact good_bind _ _ good_peekData (fun _ => good_ite _ _ _ (good_bind _ _ good_implementsInterfacesT (fun _ => good_extFieldsTail n true)) (good_extFieldsTail n false))
  have hnd1 : ¬ Doomed s1 := fun d => hnd ((g2 s1 () s' a1.w h2).doom d)
  have c1 := cons_of_acc (acc_nameOrErr (E := fun _ => False) (H := fun _ => True)) s s1 () w he trivial h1 hnd1
  have hl1 : LexQ (Toks s1) := by
    obtain ⟨cs, _, a, _⟩ := c1
    rw [a] at hl; exact hl.suffix
  have c2 := implExt_sound n s1 s' a1.w c1.eofEnd hl1 h2 hnd
  refine (c1.seq c2).weaken ?_
  rintro z ⟨x, y, rfl, ⟨nm, rfl⟩, hy⟩
  rw [bud_adv a1] at hy
  exact ⟨nm, y, rfl, hy⟩

theorem objLikeExt_sound (K : SK) (word : String) (hw : KwWord word) (sk2 : SK) (n : Nat)
    (mk : Str → SepC → List Ast.Directive → List Ast.FieldDef → LooseDef)
    (htoks : ∀ nm impl ds fs, (mk nm impl ds fs).toks = kwE word ++ objectLikeToks nm impl ds fs)
    (hfit : ∀ b nm impl ds fs, looseFit b (mk nm impl ds fs) ↔ ((impl ≠ none ∨ ds ≠ [] ∨ fs ≠ []) ∧ objFit b ds fs))
    (hopen : ∀ nm impl ds fs, openBody (mk nm impl ds fs) ↔ fs = []) :
    DefSound (EStart word.toList) (withNode K (bump "extend_KW" >>= fun _ => bump sk2 >>= fun _ => objExtTail n)) := by
  refine defSound_of_loose _ _ ?_
  intro s s' w he hq hs hr hnd
  have hset := ext2_settled K "extend_KW" sk2 _ (good_objExtTail n) (sp_objExtTail n) s s' w hr hnd
  have c := ext2_soundQ K word hw "extend_KW" sk2 (objExtTail n)
    (fun b cur x => ∃ nm x2, x = .name nm :: x2 ∧ ObjExtR b cur x2) (good_objExtTail n)
    (fun q q' wq heq hlq hrq hndq => objExtTail_sound n q q' wq heq hlq hrq hndq) s s' w he hq hs hr hnd
  obtain ⟨cs, x, a, b, e, d, x1, rfl, nm, x2, rfl, impl, ds, x3, rfl, hds, hor⟩ := c
  rcases hor with ⟨fs, hne, rfl, hfs⟩ | ⟨rfl, hsome, hcur⟩
  · refine ⟨cs, mk nm impl ds fs, a, b, e, ?_, (hfit _ _ _ _ _).mpr ⟨Or.inr (Or.inr hne), hds, hfs⟩, hset, ?_⟩
    · rw [htoks]; simpa [kwE, objectLikeToks, List.append_assoc] using d
    · intro ho; exact absurd ((hopen _ _ _ _).mp ho) hne
  · refine ⟨cs, mk nm impl ds [], a, b, e, ?_, (hfit _ _ _ _ _).mpr ⟨?_, hds, by intro f hf; cases hf⟩, hset, fun _ => hcur⟩
    · rw [htoks]; simpa [kwE, objectLikeToks, Ast.tBraced, Ast.tFieldDefItems, List.append_assoc] using d
    · rcases hsome with h1 | h1
      · exact Or.inl h1
      · exact Or.inr (Or.inl h1)

theorem objectExt_sound (n : Nat) : DefSound (EStart "type".toList) (objectTypeExtension n) := by
  rw [objectTypeExtension_eq]
  exact objLikeExt_sound "OBJECT_TYPE_EXTENSION" "type" kwWord_type "type_KW" n LooseDef.objectExt
    (fun _ _ _ _ => rfl) (fun _ _ _ _ _ => Iff.rfl) (fun _ _ _ _ => Iff.rfl)

theorem interfaceExt_sound (n : Nat) : DefSound (EStart "interface".toList) (interfaceTypeExtension n) := by
  rw [interfaceTypeExtension_eq]
  exact objLikeExt_sound "INTERFACE_TYPE_EXTENSION" "interface" kwWord_interface "interface_KW" n LooseDef.interfaceExt
    (fun _ _ _ _ => rfl) (fun _ _ _ _ _ => Iff.rfl) (fun _ _ _ _ => Iff.rfl)

end Apollo.Parse.Exact


/-! ## union type extension -/

namespace Apollo.Parse.Exact
open Apollo.Rowan hiding Str
open Apollo.Lex hiding Str

def UMembersR (_ : Nat) (x : List Ast.Tok) : Prop := ∃ lead first rest, x = .p .eq :: tSepLead .pipe lead first rest

theorem unionExtTail_sound (n : Nat) (s s' : PState) (w : TW s) (he : EofEnd s)
    (h : (nameDirsBodyExt n .eq unionMemberTypes).run s = .ok () s') (hnd : ¬ Doomed s') :
    Cons s s' (fun x => ∃ nm ds ms, x = .name nm :: (Ast.tDirectives ds ++ tSepOpt [.p .eq] .pipe ms) ∧ dirsFit true (bud s) ds ∧
      (ds ≠ [] ∨ ms ≠ none)) := by
  have gb := good_unionMemberTypesT
  have hb : ∀ s s' t rest, TW s → EofEnd s → Toks s = t :: rest → t.kind = .eq → unionMemberTypes.run s = .ok () s' → ¬ Doomed s' →
      Cons s s' (UMembersR (bud s)) := fun a a' ta ra wa hea hta hka hra hnda =>
    cons_of_acc (acc_unionMemberTypes (E := E0) early_false) a a' () wa hea ⟨ta, by rw [hta]; rfl, by simp [hka]⟩ hra hnda
  unfold nameDirsBodyExt at h
  obtain ⟨_, s1, h1, h2⟩ := bind_dec nameOrErr _ s s' () h
  have a1 := good_nameOrErr s () s1 w h1
  have hnd1 : ¬ Doomed s1 := fun d => hnd ((good_extDirs n _ (good_extBodyK _ gb) false s1 () s' a1.w h2).doom d)
  have c1 := cons_of_acc (acc_nameOrErr (E := fun _ => False) (H := fun _ => True)) s s1 () w he trivial h1 hnd1
  have c2 := extDirsBody_sound n unionMemberTypes UMembersR gb hb false s1 s' a1.w c1.eofEnd h2 hnd
  refine (c1.seq c2).weaken ?_
  rintro z ⟨x, y, rfl, ⟨nm, rfl⟩, ds, x2, rfl, hds, hor⟩
  rw [bud_adv a1] at hds
  rcases hor with ⟨lead, first, rest, rfl⟩ | ⟨rfl, hm, _⟩
  · exact ⟨nm, ds, some (lead, first, rest), by simp [tSepOpt], hds, Or.inr (by intro hh; cases hh)⟩
  · refine ⟨nm, ds, none, by simp [tSepOpt], hds, Or.inl ?_⟩
    rcases hm with hm | hm
    · exact hm
    · cases hm

theorem unionExt_sound (n : Nat) : DefSound (EStart "union".toList) (unionTypeExtension n) := by
  intro s s' w he hq hr hnd
  rw [unionTypeExtension_eq] at hr
  have gt : Good (nameDirsBodyExt n .eq unionMemberTypes) :=
    good_bind _ _ good_nameOrErr (fun _ => good_extDirs n _ (good_extBodyK _ good_unionMemberTypesT) false)
  have c := ext2_sound "UNION_TYPE_EXTENSION" "union" kwWord_union "extend_KW" "union_KW" (nameDirsBodyExt n .eq unionMemberTypes)
    (fun b _ x => ∃ nm ds ms, x = .name nm :: (Ast.tDirectives ds ++ tSepOpt [.p .eq] .pipe ms) ∧ dirsFit true b ds ∧ (ds ≠ [] ∨ ms ≠ none)) gt
    (fun q q' wq heq hrq hndq => unionExtTail_sound n q q' wq heq hrq hndq) s s' w he hq.1 hq.2 hr hnd
  obtain ⟨cs, x, a, b, e, d, x1, rfl, nm, ds, ms, rfl, hds, hne⟩ := c
  exact ⟨cs, .loose (.unionExt nm ds ms), a, b, e, by simpa [DocItem.toks, LooseDef.toks, kwE, List.append_assoc] using d, ⟨hne, hds⟩,
    fun q _ ho => ho.elim⟩

end Apollo.Parse.Exact

/-! ## ASSEMBLY -/

namespace Apollo.Parse.Exact
open Apollo.Rowan hiding Str
open Apollo.Lex hiding Str

theorem schemaDef_fieldX (n : Nat) : X.DefSound (DStart "schema".toList) (schemaDefinition n) :=
  defSoundG_of_loose (lf := looseFitX) (fun _ _ hl => hl) _ _ (schemaDef_soundX n)

theorem schemaExt_fieldX (n : Nat) : X.DefSound (EStart "schema".toList) (schemaExtension n) :=
  defSoundG_of_loose (lf := looseFitX) (fun _ _ hl => hl) _ _ (schemaExt_soundX n)

/-- the fields of `X.DefExact` that stay hypotheses: none -/
structure DefRemaining (n : Nat) : Prop where
  trivial : True

theorem defExactX_of_remaining {n : Nat} (R : DefRemaining n) : X.DefExact n where
  directive := DefSoundG.mono itemFitX_of_fit (directiveDef_sound n)
  enumDef := DefSoundG.mono itemFitX_of_fit (enumDef_sound n)
  input := DefSoundG.mono itemFitX_of_fit (inputDef_sound n)
  interface := DefSoundG.mono itemFitX_of_fit (interfaceDef_sound n)
  object := DefSoundG.mono itemFitX_of_fit (objectDef_sound n)
  scalar := DefSoundG.mono itemFitX_of_fit (scalarDef_sound n)
  schema := schemaDef_fieldX n
  union := DefSoundG.mono itemFitX_of_fit (unionDef_sound n)
  schemaExt := schemaExt_fieldX n
  scalarExt := DefSoundG.mono itemFitX_of_fit (scalarExt_sound n)
  objectExt := DefSoundG.mono itemFitX_of_fit (objectExt_sound n)
  interfaceExt := DefSoundG.mono itemFitX_of_fit (interfaceExt_sound n)
  unionExt := DefSoundG.mono itemFitX_of_fit (unionExt_sound n)
  enumExt := DefSoundG.mono itemFitX_of_fit (enumExt_sound n)
  inputExt := DefSoundG.mono itemFitX_of_fit (inputExt_sound n)

theorem defRemaining_done (n : Nat) : DefRemaining n := ⟨trivial⟩

/-- **document_accept_sound_exact, unconditional**: zero errors ⇒ `docToks its ++ EOF`, `itemFitX rl`, `DocFollowX` -/
theorem document_accept_sound_exact_unconditional (rl : Nat) (src : Str) (herr : (parse .document none rl src).errors = []) :
    LexClean src ∧ ∃ (ts : List Tok) (its : List DocItem) (e : Tok), sig (srcToks src) = ts ++ [e] ∧ e.kind = .eof ∧
      TokIs ts (docToks its) ∧ its ≠ [] ∧ (∀ i ∈ its, itemFitX rl i) ∧ DocFollowX its :=
  parseDocument_sound_exactG (fun _ _ _ => Iff.rfl) (fun n => (defExactX_of_remaining (defRemaining_done n)).toG) rl src herr

/-- **the sandwich without hypotheses**: `{itemFit, DocFollowOk}` ⊆ accepted ⊆ `{itemFitX, DocFollowX}`; the gaps are the recorded finding (a root
    operation type without its named type) and a shorthand query directly after a type-system definition with a written body -/
theorem document_sandwich_final (rl : Nat) (src : Str) :
    ((parse .document none rl src).errors = [] →
      LexClean src ∧ ∃ (ts : List Tok) (its : List DocItem) (e : Tok), sig (srcToks src) = ts ++ [e] ∧ e.kind = .eof ∧
        TokIs ts (docToks its) ∧ its ≠ [] ∧ (∀ i ∈ its, itemFitX rl i) ∧ DocFollowX its) ∧
    ((LexClean src ∧ ∃ (ts : List Tok) (its : List DocItem) (e : Tok), sig (srcToks src) = ts ++ [e] ∧ e.kind = .eof ∧
        TokIs ts (docToks its) ∧ its ≠ [] ∧ (∀ i ∈ its, itemFit rl i) ∧ DocFollowOk its) →
      (parse .document none rl src).errors = []) := by
  refine ⟨document_accept_sound_exact_unconditional rl src, ?_⟩
  rintro ⟨hclean, ts, its, e, h1, h2, h3, h4, h5, h6⟩
  exact parseDocument_complete_items rl src its ts e hclean h1 h2 h3 h4 h5 h6

end Apollo.Parse.Exact
