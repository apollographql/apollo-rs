import ApolloModel.Proofs.AstTokens
/-
Property C08, text level: the serializer never glues two tokens together.

`scan` walks a command list keeping the class of the last token written since the last *guaranteed*
ignored text (a write that happens in every configuration: `raw " "`, `raw ","`, `new_line_or_space`,
`indent_or_space`, `dedent_or_space`; NOT `indent` / `dedent` / `rawIfNewlines`, which write nothing when
newlines are disabled).  It fails when a token would directly follow a token it cannot follow:
name/number after name/number, string after string, `...` after a number.
It never fails on the commands of a document (`separated_document` in AstText3.lean).
-/
namespace Apollo.Ast

inductive Cls where
  | word | num | str | spread | other
  deriving DecidableEq, Repr

def clsTok : Tok → Cls
  | .name _ => .word
  | .int _ | .float _ => .num
  | .str _ => .str
  | .p .spread => .spread
  | .p _ => .other

/-- `conflict a b`: a token of class `b` written directly after a token of class `a` would not lex back
    to the two tokens (`ab`, `a1`, `1a`, `12`, `""""`, `1...`) -/
def conflict : Cls → Cls → Bool
  | .word, .word | .word, .num | .num, .word | .num, .num => true
  | .str, .str => true
  | .num, .spread => true
  | _, _ => false

def conflictO (st : Option Cls) (c : Cls) : Bool :=
  match st with
  | some p => conflict p c
  | none => false

def isIgnoredChar (c : Char) : Bool := c == ' ' || c == ',' || c == '\t' || c == '\n' || c == '\r' || c == '﻿'

def sepStep (st : Option Cls) : Cmd → Option (Option Cls)
  | .tok t => if conflictO st (clsTok t) then none else some (some (clsTok t))
  | .str _ _ => if conflictO st .str then none else some (some .str)
  | .raw s => if s.isEmpty then some st else if s.all isIgnoredChar then some none else none
  | .indentOrSpace | .dedentOrSpace | .newLineOrSpace => some none
  | .indent | .dedent | .beginSingle | .endSingle => some st
  | .rawIfNewlines s => if s.all isIgnoredChar then some st else none

def scan : Option Cls → List Cmd → Option (Option Cls)
  | st, [] => some st
  | st, c :: cs => (sepStep st c).bind (fun e => scan e cs)

/-- no two tokens are glued, in any configuration -/
def separated (cs : List Cmd) : Prop := (scan none cs).isSome = true

def Ok (st : Option Cls) (cs : List Cmd) : Prop := (scan st cs).isSome = true
def Any (cs : List Cmd) : Prop := ∀ st, Ok st cs
def Clean (st : Option Cls) : Prop := st = none ∨ st = some .other

theorem clean_none : Clean none := .inl rfl
theorem clean_other : Clean (some .other) := .inr rfl

theorem scan_append (st : Option Cls) (a b : List Cmd) :
    scan st (a ++ b) = (scan st a).bind (fun e => scan e b) := by
  induction a generalizing st with
  | nil => simp [scan]
  | cons c cs ih =>
    simp only [List.cons_append, scan]
    cases sepStep st c with
    | none => simp
    | some e => simp [ih]

theorem ok_append {st : Option Cls} {a b : List Cmd} (h1 : Ok st a) (h2 : ∀ e, scan st a = some e → Ok e b) :
    Ok st (a ++ b) := by
  unfold Ok at *
  rw [scan_append]
  cases h : scan st a with
  | none => simp [h] at h1
  | some e => simpa using h2 e h

theorem ok_append_any {st : Option Cls} {a b : List Cmd} (h1 : Ok st a) (h2 : Any b) : Ok st (a ++ b) :=
  ok_append h1 (fun e _ => h2 e)

theorem any_append {a b : List Cmd} (h1 : Any a) (h2 : Any b) : Any (a ++ b) :=
  fun st => ok_append_any (h1 st) h2

theorem ok_nil (st : Option Cls) : Ok st [] := by simp [Ok, scan]
theorem any_nil : Any [] := fun st => ok_nil st

/-! peeling literal commands -/

theorem ok_cons {st e : Option Cls} {c : Cmd} {cs : List Cmd} (hs : sepStep st c = some e) (h : Ok e cs) :
    Ok st (c :: cs) := by
  simpa [Ok, scan, hs] using h

theorem ok_sp {st : Option Cls} {cs : List Cmd} (h : Ok none cs) : Ok st (sp :: cs) :=
  ok_cons rfl h
theorem ok_comma {st : Option Cls} {cs : List Cmd} (h : Ok none cs) : Ok st (.raw [','] :: cs) :=
  ok_cons rfl h
theorem ok_nl {st : Option Cls} {cs : List Cmd} (h : Ok none cs) : Ok st (.newLineOrSpace :: cs) :=
  ok_cons rfl h
theorem ok_indentOrSpace {st : Option Cls} {cs : List Cmd} (h : Ok none cs) : Ok st (.indentOrSpace :: cs) :=
  ok_cons rfl h
theorem ok_dedentOrSpace {st : Option Cls} {cs : List Cmd} (h : Ok none cs) : Ok st (.dedentOrSpace :: cs) :=
  ok_cons rfl h
theorem ok_indent {st : Option Cls} {cs : List Cmd} (h : Ok st cs) : Ok st (.indent :: cs) :=
  ok_cons rfl h
theorem ok_dedent {st : Option Cls} {cs : List Cmd} (h : Ok st cs) : Ok st (.dedent :: cs) :=
  ok_cons rfl h
theorem ok_beginSingle {st : Option Cls} {cs : List Cmd} (h : Ok st cs) : Ok st (.beginSingle :: cs) :=
  ok_cons rfl h
theorem ok_endSingle {st : Option Cls} {cs : List Cmd} (h : Ok st cs) : Ok st (.endSingle :: cs) :=
  ok_cons rfl h
theorem ok_rawIfNl_comma {st : Option Cls} {cs : List Cmd} (h : Ok st cs) : Ok st (.rawIfNewlines [','] :: cs) :=
  ok_cons rfl h
theorem ok_rawIfNl_nl {st : Option Cls} {cs : List Cmd} (h : Ok st cs) : Ok st (.rawIfNewlines ['\n'] :: cs) :=
  ok_cons rfl h
theorem ok_tok {st : Option Cls} {t : Tok} {cs : List Cmd} (hc : conflictO st (clsTok t) = false)
    (h : Ok (some (clsTok t)) cs) : Ok st (.tok t :: cs) :=
  ok_cons (by simp [sepStep, hc]) h
theorem ok_pn {st : Option Cls} {k : P} {cs : List Cmd} (hk : k ≠ .spread) (h : Ok (some .other) cs) :
    Ok st (pn k :: cs) := by
  have hcls : clsTok (.p k) = .other := by cases k <;> simp_all [clsTok]
  refine ok_tok ?_ (by rw [hcls]; exact h)
  rw [hcls]; cases st with
  | none => rfl
  | some p => cases p <;> rfl
theorem ok_spread {st : Option Cls} {cs : List Cmd} (hs : st ≠ some .num) (h : Ok (some .spread) cs) :
    Ok st (pn .spread :: cs) := by
  refine ok_tok ?_ h
  cases st with
  | none => rfl
  | some p => cases p <;> simp_all [conflictO, conflict, clsTok]
theorem ok_nm {st : Option Cls} {n : Str} {cs : List Cmd} (hs : st = none ∨ st = some .other ∨ st = some .spread)
    (h : Ok (some .word) cs) : Ok st (nm n :: cs) := by
  refine ok_tok ?_ h
  rcases hs with hs | hs | hs <;> subst hs <;> rfl
theorem ok_kw {st : Option Cls} {n : String} {cs : List Cmd} (hs : st = none ∨ st = some .other ∨ st = some .spread)
    (h : Ok (some .word) cs) : Ok st (kw n :: cs) := ok_nm (n := n.toList) hs h
theorem ok_str {st : Option Cls} {b : Bool} {s : Str} {cs : List Cmd} (hs : st ≠ some .str)
    (h : Ok (some .str) cs) : Ok st (.str b s :: cs) := by
  have : conflictO st .str = false := by
    cases st with
    | none => rfl
    | some p => cases p <;> simp_all [conflictO, conflict]
  exact ok_cons (by simp [sepStep, this]) h

theorem Clean.nm {st : Option Cls} (h : Clean st) : st = none ∨ st = some .other ∨ st = some .spread := by
  rcases h with h | h
  · exact .inl h
  · exact .inr (.inl h)
theorem Clean.ne_str {st : Option Cls} (h : Clean st) : st ≠ some .str := by
  rcases h with h | h <;> subst h <;> simp
theorem Clean.ne_num {st : Option Cls} (h : Clean st) : st ≠ some .num := by
  rcases h with h | h <;> subst h <;> simp

/-! containers -/

theorem ok_flatten_sep (sep : List Cmd) (hsep : ∀ st cs, Ok none cs → Ok st (sep ++ cs))
    (items : List (List Cmd)) (hi : ∀ item ∈ items, Ok none item) (tail : List Cmd) (ht : Any tail) :
    Any ((items.map fun v => sep ++ v).flatten ++ tail) := by
  induction items with
  | nil => simpa using ht
  | cons v r ih =>
    intro st
    simp only [List.map_cons, List.flatten_cons, List.append_assoc]
    exact hsep st _ (ok_append_any (hi v (List.mem_cons_self ..)) (ih (fun i hi' => hi i (List.mem_cons_of_mem _ hi'))))

theorem any_curly (items : List (List Cmd)) (hi : ∀ item ∈ items, Ok none item) : Any (curly items) := by
  intro st
  cases items with
  | nil => exact ok_pn (by simp) (ok_pn (by simp) (ok_nil _))
  | cons first rest =>
    simp only [curly, List.cons_append, List.nil_append, List.append_assoc]
    refine ok_pn (by simp) (ok_indentOrSpace ?_)
    refine ok_append_any (hi first (List.mem_cons_self ..)) ?_
    have := ok_flatten_sep [.newLineOrSpace] (fun st cs h => ok_nl h) rest
      (fun i hi' => hi i (List.mem_cons_of_mem _ hi')) [.dedentOrSpace, pn .rCurly]
      (fun st => ok_dedentOrSpace (ok_pn (by simp) (ok_nil _)))
    simpa using this

theorem any_commaSeparated (o c : P) (ho : o ≠ .spread) (hc : c ≠ .spread) (items : List (List Cmd))
    (hi : ∀ item ∈ items, ∀ st, Clean st → Ok st item) : Any (commaSeparated o c items) := by
  intro st
  cases items with
  | nil => exact ok_pn ho (ok_pn hc (ok_nil _))
  | cons first rest =>
    simp only [commaSeparated, List.cons_append, List.nil_append, List.append_assoc]
    refine ok_pn ho (ok_indent ?_)
    refine ok_append_any (hi first (List.mem_cons_self ..) _ clean_other) ?_
    have := ok_flatten_sep [.raw [','], .newLineOrSpace] (fun st cs h => ok_comma (ok_nl h)) rest
      (fun i hi' => hi i (List.mem_cons_of_mem _ hi') none clean_none) [.rawIfNewlines [','], .dedent, pn c]
      (fun st => ok_rawIfNl_comma (ok_dedent (ok_pn hc (ok_nil _))))
    simpa using this

end Apollo.Ast
