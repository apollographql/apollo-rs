import ApolloModel.Proofs.ParserComplete27
import ApolloModel.Proofs.ParserExactC28
/-
C05 (completeness of the whole Document grammar): type-system definitions, the document loop and
`Parser::parse` under the over-charging depth `vdepth`.  As in ParserComplete16, the guards stated with `vdepth` imply their
`Exact` counterparts, and each statement is the `Exact` one under the stronger guard.
-/
namespace Apollo.Parse
open Apollo.Rowan hiding Str
open Apollo.Lex hiding Str

/-! ### the guards imply the exact ones -/

theorem ivdFit.exact {b : Nat} {v : Ast.InputValueDef} (h : ivdFit b v) : Exact.ivdFit b v :=
  ⟨h.1, fun d hd => ⟨(h.2.1 d hd).1, Nat.le_trans (exact_vdepth_le d) (h.2.1 d hd).2⟩, h.2.2.exact⟩

theorem fieldFit.exact {b : Nat} {f : Ast.FieldDef} (h : fieldFit b f) : Exact.fieldFit b f :=
  ⟨fun a ha => (h.1 a ha).exact, h.2.1, h.2.2.exact⟩

theorem enumValFit.exact {b : Nat} {v : Ast.EnumValueDef} (h : enumValFit b v) : Exact.enumValFit b v :=
  ⟨h.1, h.2.exact⟩

theorem objFit.exact {b : Nat} {ds : List Ast.Directive} {fs : List Ast.FieldDef} (h : objFit b ds fs) : Exact.objFit b ds fs :=
  ⟨h.1.exact, fun f hf => (h.2 f hf).exact⟩

theorem looseFit.exact {b : Nat} : ∀ {l : LooseDef}, looseFit b l → Exact.looseFit b l
  | .scalar .., h => dirsFit.exact h
  | .object .., h => objFit.exact h
  | .interface .., h => objFit.exact h
  | .union .., h => dirsFit.exact h
  | .enum .., h => ⟨dirsFit.exact h.1, fun v hv => (h.2 v hv).exact⟩
  | .input .., h => ⟨dirsFit.exact h.1, fun v hv => (h.2 v hv).exact⟩
  | .directive .., h => ⟨fun a ha => (h.1 a ha).exact, h.2⟩
  | .schema .., h => ⟨dirsFit.exact h.1, h.2⟩
  | .scalarExt .., h => ⟨h.1, dirsFit.exact h.2⟩
  | .objectExt .., h => ⟨h.1, objFit.exact h.2⟩
  | .interfaceExt .., h => ⟨h.1, objFit.exact h.2⟩
  | .unionExt .., h => ⟨h.1, dirsFit.exact h.2⟩
  | .enumExt .., h => ⟨h.1, dirsFit.exact h.2.1, fun v hv => (h.2.2 v hv).exact⟩
  | .inputExt .., h => ⟨h.1, dirsFit.exact h.2.1, fun v hv => (h.2.2 v hv).exact⟩
  | .schemaExt .., h => ⟨h.1, dirsFit.exact h.2.1, h.2.2⟩

theorem looseFollow.exact {l : LooseDef} {q : Tok} (h : looseFollow l q) : Exact.looseFollow l q := by
  cases l <;> exact h

theorem ItemOk.exact {b : Nat} {x : List Ast.Tok} {q : Tok} : ItemOk b x q → Exact.ItemOk b x q
  | .inl h => .inl h.exact
  | .inr ⟨l, e, hf, hq⟩ => .inr ⟨l, e, hf.exact, hq.exact⟩

theorem DocOk.exact {b : Nat} : ∀ {items : List (List Ast.Tok)}, DocOk b items → Exact.DocOk b items
  | [], _ => trivial
  | _ :: _, h => ⟨fun q hq => (h.1 q hq).exact, DocOk.exact h.2⟩

theorem IsDocFit.exact {rl : Nat} {x : List Ast.Tok} : IsDocFit rl x → Exact.IsDocFit rl x
  | ⟨items, ne, e, h⟩ => ⟨items, ne, e, h.exact⟩

theorem execFit.exact {rl : Nat} {d : Ast.Definition} (h : execFit rl d) : Exact.execFit rl d := by
  cases d with
  | operation _ _ vars dirs sels =>
    exact ⟨fun v hv => (h.1 v hv).exact, h.2.1.exact, h.2.2.1, h.2.2.2.1, fitSels.exact _ _ h.2.2.2.2⟩
  | fragment _ _ dirs sels => exact ⟨h.1, h.2.1.exact, h.2.2.1, h.2.2.2.1, fitSels.exact _ _ h.2.2.2.2⟩
  | _ => exact h

theorem itemFit.exact {rl : Nat} : ∀ {i : DocItem}, itemFit rl i → Exact.itemFit rl i
  | .exec .., h => execFit.exact h
  | .loose _, h => looseFit.exact h

theorem itemFollowA.exact {i : DocItem} {f : Option Ast.Tok} (h : itemFollowA i f) : Exact.itemFollowA i f := by
  cases i with
  | exec _ _ => trivial
  | loose l => cases l <;> exact h

theorem DocFollowOk.exact : ∀ {its : List DocItem}, DocFollowOk its → Exact.DocFollowOk its
  | [], _ => trivial
  | _ :: _, h => ⟨h.1.exact, DocFollowOk.exact h.2⟩

theorem loose_dispatch_comp (n : Nat) (sP s2 : PState) (t : Tok) (tl1 : List Tok) (l : LooseDef) (q1 : Tok) (r1 : List Tok)
    (w : TW sP) (lq : LexQ (Toks sP)) (hcur : sP.current = some t) (hfit : looseFit (sP.recLimit - sP.recCur) l)
    (hfol : looseFollow l q1) (hs : Spells (t :: tl1) l.toks) (ht : Toks sP = (t :: tl1) ++ q1 :: r1) (hq : Sigf q1)
    (h : (documentDispatch n t.kind).run sP = .ok () s2) : Eat sP s2 (t :: tl1) ∧ Toks s2 = q1 :: r1 :=
  Exact.loose_dispatch_comp n sP s2 t tl1 l q1 r1 w lq hcur hfit.exact hfol.exact hs ht hq h

theorem itemOk_head {b : Nat} {x : List Ast.Tok} {q : Tok} (h : ItemOk b x q) :
    ∃ a x', x = a :: x' ∧ (kindOfA a = .name ∨ kindOfA a = .lCurly ∨ kindOfA a = .stringValue) :=
  Exact.itemOk_head h.exact

theorem item_dispatch_comp (n : Nat) (sP s2 : PState) (t : Tok) (tl1 : List Tok) (x : List Ast.Tok) (q1 : Tok) (r1 : List Tok)
    (w : TW sP) (lq : LexQ (Toks sP)) (hcur : sP.current = some t) (hcq : t.kind = .lCurly → t.data = ['{'])
    (hl : ItemOk (sP.recLimit - sP.recCur) x q1) (hs : Spells (t :: tl1) x) (ht : Toks sP = (t :: tl1) ++ q1 :: r1) (hq : Sigf q1)
    (h : (documentDispatch n t.kind).run sP = .ok () s2) : Eat sP s2 (t :: tl1) ∧ Toks s2 = q1 :: r1 :=
  Exact.item_dispatch_comp n sP s2 t tl1 x q1 r1 w lq hcur hcq hl.exact hs ht hq h

theorem docOk_first {b : Nat} {item : List Ast.Tok} {r : List (List Ast.Tok)} (h : DocOk b (item :: r)) (c : List Tok) (e : Tok)
    (hs : Spells c (item :: r).flatten) (he : e.kind = .eof) :
    ∃ t tl1, c = t :: tl1 ∧ Sigf t ∧ (t.kind = .name ∨ t.kind = .lCurly ∨ t.kind = .stringValue) :=
  Exact.docOk_first h.exact c e hs he

theorem document_compG (n : Nat) (items : List (List Ast.Tok)) (s s' : PState) (i0 c : List Tok) (e : Tok) (rest : List Tok)
    (w : TW s) (lq : LexQ (Toks s)) (hcq : CurlyQ (Toks s)) (hne : items ≠ []) (hall : DocOk (s.recLimit - s.recCur) items)
    (hi0 : Ign i0) (hs : Spells c items.flatten) (ht : Toks s = i0 ++ (c ++ e :: rest)) (he : e.kind = .eof)
    (h : (document n).run s = .ok () s') : Eat s s' (i0 ++ c) ∧ Toks s' = e :: rest :=
  Exact.document_compG n items s s' i0 c e rest w lq hcq hne hall.exact hi0 hs ht he h

theorem isDocFit_ne {rl : Nat} {x : List Ast.Tok} (h : IsDocFit rl x) : x ≠ [] :=
  Exact.isDocFit_ne h.exact

/-- `itemFit` implies `DocItem.ok`: the completeness language lies inside the soundness language -/
theorem itemFit_ok (rl : Nat) (i : DocItem) (h : itemFit rl i) : i.ok :=
  Exact.itemFit_ok rl i h.exact

/-- **C05 `document_accept_complete`** (proof level): every document `its` of the grammar within the recursion limit, each
    definition allowed before the next, in any spelling, parses with zero errors -/
theorem parseDocument_complete_items (rl : Nat) (src : Str) (its : List DocItem) (ts : List Tok) (e : Tok)
    (hclean : LexClean src) (hsig : sig (srcToks src) = ts ++ [e]) (he : e.kind = .eof) (hx : TokIs ts (docToks its))
    (hne : its ≠ []) (hfit : ∀ i ∈ its, itemFit rl i) (hfol : DocFollowOk its) :
    (parse .document none rl src).errors = [] :=
  Exact.parseDocument_complete_items rl src its ts e hclean hsig he hx hne (fun i hi => (hfit i hi).exact) hfol.exact

end Apollo.Parse
