import ApolloModel.Proofs.ParserType2
import ApolloModel.Proofs.AstValues
/-
C07 / C05, type entry point, towards the soundness of `ty.rs` (if parsing a type leaves no error, the
tokens it consumed are the tokens of one `Type` of the grammar `Type : NamedType | [Type] | Type!`):
`ty.rs::parse` cut into named pieces, each of them `Good`, and the vocabulary of the statement — significant
tokens `sig`, `IsTy`, the end-of-file sentinel `EofEnd`.
-/
set_option linter.unusedSimpArgs false
namespace Apollo.Parse
open Apollo.Rowan hiding Str
open Apollo.Lex hiding Str

/-! ### `ty.rs::parse` cut into named pieces -/

def tyListBody (n : Nat) : PI TyRes := do
  bump "L_BRACK"
  let inner ← withRec (do limitErr; pure none) (do pure (some (← tyParse n)))
  match inner with
  | none => pure TyRes.early
  | some res =>
    match res with
    | .errTok t => errAtToken t
    | _ => pure ()
    expect .rBracket "R_BRACK"
    pure TyRes.ok

def tyBody (n : Nat) : PI TyRes := do
  match ← peek with
  | some .lBracket => withNode "LIST_TYPE" (tyListBody n)
  | some .name => withNode "NAMED_TYPE" (withNode "NAME" (do eat "IDENT"; pure TyRes.ok))
  | some _ => do
    match ← popDrop with
    | some t => pure (TyRes.errTok t)
    | none => pure TyRes.errNone
  | none => pure TyRes.errNone

def tyCond (r : TyRes) : PI Bool :=
  match r with
  | .ok => do
    skipIgnored
    pure ((← peek) == some .bang)
  | _ => pure false

theorem tyParse_succ (n : Nat) : tyParse (n + 1) = (do
    let r ← wrapIf "NON_NULL_TYPE" (tyBody n) tyCond (eat "BANG")
    match r with
    | .ok => skipIgnored
    | _ => pure ()
    pure r) := rfl

/-! ### every piece is `Good` (errors only accumulate, the recursion counter is restored) -/

theorem good_tyCond (r : TyRes) : Good (tyCond r) := by
  cases r <;> first
    | exact good_pure _
    | exact good_bind _ _ good_skipIgnored (fun _ => good_bind _ _ good_peek (fun _ => good_pure _))

theorem good_tyListBody (n : Nat) (ih : Good (tyParse n)) : Good (tyListBody n) := by
  unfold tyListBody
  refine good_bind _ _ (good_bump _) (fun _ => good_bind _ _
    (good_withRec _ _ (good_bind _ _ good_limitErr (fun _ => good_pure _)) (good_bind _ _ ih (fun _ => good_pure _))) ?_)
  intro inner
  cases inner with
  | none => exact good_pure _
  | some res =>
    have jp : Good (expect .rBracket "R_BRACK" >>= fun _ => (pure TyRes.ok : PI TyRes)) :=
      good_bind _ _ (good_expect _ _) (fun _ => good_pure _)
    cases res <;> first
      | exact jp
      | exact good_bind _ _ (good_pushErr _) (fun _ => jp)

theorem good_tyBody (n : Nat) (ih : Good (tyParse n)) : Good (tyBody n) := by
  unfold tyBody
  refine good_bind _ _ good_peek ?_
  intro k
  cases k with
  | none => exact good_pure _
  | some k =>
    cases k <;> first
      | exact good_withNode _ _ (good_tyListBody n ih)
      | exact good_withNode _ _ (good_withNode _ _ (good_bind _ _ (good_eat _) (fun _ => good_pure _)))
      | (refine good_bind _ _ good_popDrop ?_
         intro o
         cases o <;> exact good_pure _)

theorem good_tyParse : ∀ (n : Nat), Good (tyParse n)
  | 0 => by intro s a s' _ h; simp [tyParse, PI.outOfFuel] at h
  | n + 1 => by
    rw [tyParse_succ]
    refine good_bind _ _ (good_wrapIf _ _ _ _ (good_tyBody n (good_tyParse n)) good_tyCond (good_eat _)) ?_
    intro r
    cases r <;> first
      | exact good_pure _
      | exact good_bind _ _ good_skipIgnored (fun _ => good_pure _)

/-! ### significant tokens, types, the end-of-file sentinel -/

def sig (ts : List Tok) : List Tok := ts.filter (fun t => !isIgnoredKind t.kind)

/-- a parser token as a token of the reference grammar (only the kinds a type is made of) -/
def astOf (t : Tok) : Option Ast.Tok :=
  match t.kind with
  | .name => some (.name t.data)
  | .bang => some (.p .bang)
  | .lBracket => some (.p .lBracket)
  | .rBracket => some (.p .rBracket)
  | _ => none

def IsTy (ts : List Tok) (t : Ast.Ty) : Prop := ts.map astOf = (Ast.tTy t).map some

def NoEof (c : List Tok) : Prop := ∀ x ∈ c, x.kind ≠ .eof

def EofEnd (s : PState) : Prop :=
  Doomed s ∨ ∃ pre e, Toks s = pre ++ [e] ∧ e.kind = .eof ∧ NoEof pre

theorem sig_append (a b : List Tok) : sig (a ++ b) = sig a ++ sig b := by simp [sig]

theorem sig_ignored (ign : List Tok) (h : ∀ t ∈ ign, isIgnoredKind t.kind = true) : sig ign = [] := by
  apply List.filter_eq_nil_iff.mpr
  intro t ht
  simp [h t ht]

theorem sig_single (t : Tok) (h : isIgnoredKind t.kind = false) : sig [t] = [t] := by simp [sig, h]

theorem eofEnd_nonempty (s : PState) (h : EofEnd s) (hd : ¬ Doomed s) : Toks s ≠ [] := by
  rcases h with h | ⟨pre, e, h, _, _⟩
  · exact absurd h hd
  · rw [h]; simp

theorem split_eof : ∀ (c pre r : List Tok) (e : Tok), pre ++ [e] = c ++ r → e.kind = .eof → NoEof c → NoEof pre →
    ∃ pre', r = pre' ++ [e] ∧ NoEof pre' := by
  intro c
  induction c with
  | nil => intro pre r e h _ _ hp; exact ⟨pre, by simpa using h.symm, hp⟩
  | cons x c ih =>
    intro pre r e h he hc hp
    cases pre with
    | nil =>
      simp only [List.nil_append, List.cons_append] at h
      injection h with h1 _
      exact absurd (h1 ▸ he) (hc x (by simp))
    | cons y pre =>
      simp only [List.cons_append] at h
      injection h with _ h2
      exact ih pre r e h2 he (fun z hz => hc z (by simp [hz])) (fun z hz => hp z (by simp [hz]))

theorem eofEnd_eat {s s' : PState} {c : List Tok} (h : EofEnd s) (e : Eat s s' c) (hc : NoEof c) : EofEnd s' := by
  rcases h with h | ⟨pre, x, h, hx, hp⟩
  · exact Or.inl (e.doom.mpr h)
  · rw [e.toks] at h
    obtain ⟨pre', h', hp'⟩ := split_eof c pre (Toks s') x h.symm hx hc hp
    exact Or.inr ⟨pre', x, h', hx, hp'⟩

theorem eofEnd_same (s s' : PState) (h : EofEnd s) (hc : s'.current = s.current) (hl : s'.lx = s.lx)
    (he : s'.errors = s.errors) : EofEnd s' := by
  have ht : Toks s' = Toks s := by unfold Toks; rw [hc, hl]
  rcases h with h | h
  · exact Or.inl ((doomed_same _ _ he hl).mpr h)
  · rw [← ht] at h; exact Or.inr h

theorem noEof_ignored (ign : List Tok) (h : ∀ t ∈ ign, isIgnoredKind t.kind = true) : NoEof ign := by
  intro x hx hk
  have := h x hx
  rw [hk] at this
  simp [isIgnoredKind] at this

theorem noEof_append {a b : List Tok} (ha : NoEof a) (hb : NoEof b) : NoEof (a ++ b) := by
  intro x hx
  rcases List.mem_append.mp hx with h | h
  · exact ha x h
  · exact hb x h

/-- after `peek` saw a significant token, `skip_ignored` has nothing to skip -/
theorem skip_nothing (s s' : PState) (t : Tok) (rest ign : List Tok) (ht : Toks s = t :: rest)
    (hni : isIgnoredKind t.kind = false) (e : Eat s s' ign) (hall : ∀ x ∈ ign, isIgnoredKind x.kind = true) : ign = [] := by
  cases ign with
  | nil => rfl
  | cons x ign =>
    have := e.toks
    rw [ht] at this
    simp only [List.cons_append] at this
    injection this with h1 _
    have := hall x (by simp)
    rw [← h1, hni] at this
    cases this

end Apollo.Parse
