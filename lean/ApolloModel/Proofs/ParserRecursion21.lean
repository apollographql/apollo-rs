import ApolloModel.Proofs.ParserRecursion20
/-
C04, token limit at the parser level: the rules of the calculus "`m` keeps a state
invariant `P`" for invariants that only look at the lexer state, the error list, `accept_errors` and the
recursion tracker's `high`/`limit` (`StInv P`).  The recursion guard's limit branch is only run in states whose
high-water mark already exceeds the limit (`KeepsHit`).
-/
set_option linter.unusedSimpArgs false
set_option linter.unusedVariables false
namespace Apollo.Parse
open Apollo.Rowan hiding Str
open Apollo.Lex hiding Str

structure Keeps (P : PState → Prop) {α : Type} (m : PI α) : Prop where
  k : ∀ s a s', P s → m.run s = .ok a s' → P s'

/-- kept when started above the recursion limit (the `on_limit` branch of the recursion guard) -/
structure KeepsHit (P : PState → Prop) {α : Type} (m : PI α) : Prop where
  k : ∀ s a s', P s → s.recHigh > s.recLimit → m.run s = .ok a s' → P s'

class StInv (P : PState → Prop) : Prop where
  cong : ∀ s s', s'.lx = s.lx → s'.errors = s.errors → s'.acceptErrors = s.acceptErrors → s'.recHigh = s.recHigh →
    s'.recLimit = s.recLimit → P s → P s'
  next : ∀ fuel s, P s → P (nextTokenRaw fuel s).2
  err : ∀ s e, e.kind ≠ .limit → s.acceptErrors = true → P s → P { s with errors := s.errors ++ [e] }
  high : ∀ s h, s.recHigh ≤ h → P s → P { s with recHigh := h }
  limit : ∀ s i, s.recHigh > s.recLimit → P s →
    P { s with errors := if s.acceptErrors then s.errors ++ [⟨i, 0, .limit⟩] else s.errors, acceptErrors := false }

variable {P : PState → Prop}

theorem kp_same [StInv P] {α : Type} {m : PI α}
    (h : ∀ s a s', m.run s = .ok a s' → s'.lx = s.lx ∧ s'.errors = s.errors ∧ s'.acceptErrors = s.acceptErrors ∧
      s'.recHigh = s.recHigh ∧ s'.recLimit = s.recLimit) : Keeps P m := by
  constructor
  intro s a s' hp hr
  obtain ⟨h1, h2, h3, h4, h5⟩ := h s a s' hr
  exact StInv.cong s s' h1 h2 h3 h4 h5 hp

theorem kp_of_Same [StInv P] {s s' : PState} (o : Same s s') (hp : P s) : P s' :=
  StInv.cong s s' o.lx o.errors o.accept o.recHigh o.recLimit hp

theorem kp_pure [StInv P] {α : Type} (a : α) : Keeps P (pure a : PI α) := by
  constructor
  intro s a' s' hp h
  rw [run_pure] at h
  injection h with _ h
  subst h
  exact hp

theorem kp_bind [StInv P] {α β : Type} (m : PI α) (f : α → PI β) (hm : Keeps P m) (hf : ∀ a, Keeps P (f a)) :
    Keeps P (m >>= f) := by
  constructor
  intro s b s'' hp h
  obtain ⟨a, s', h1, h2⟩ := bind_dec m f s s'' b h
  exact (hf a).k s' b s'' (hm.k s a s' hp h1) h2

theorem kp_withNode [StInv P] {α : Type} (kind : SK) (body : PI α) (hs : Keeps P skipIgnored) (hb : Keeps P body) :
    Keeps P (withNode kind body) := by
  constructor
  intro s a s' hp h
  obtain ⟨s1, s2, o1, hr, o2⟩ := withNode_decS kind body s s' a h
  exact kp_of_Same o2 ((kp_bind _ _ hs (fun _ => hb)).k s1 a s2 (kp_of_Same o1 hp) hr)

theorem kp_withRec [StInv P] {α : Type} (onLimit body : PI α) (hl : KeepsHit P onLimit) (hb : Keeps P body) :
    Keeps P (withRec onLimit body) := by
  constructor
  intro s a s' hp h
  rcases withRec_decH onLimit body s s' a h with ⟨hover, hrun⟩ | ⟨hunder, s2, hrun, hs'⟩
  · refine hl.k _ a s' (StInv.high s _ (Nat.le_max_left _ _) hp) ?_ hrun
    show max s.recHigh (s.recCur + 1) > s.recLimit
    omega
  · subst hs'
    have h2 : P s2 := hb.k { s with recCur := s.recCur + 1, recHigh := max s.recHigh (s.recCur + 1) } a s2
      (StInv.cong { s with recHigh := max s.recHigh (s.recCur + 1) } _ rfl rfl rfl rfl rfl
        (StInv.high s _ (Nat.le_max_left _ _) hp)) hrun
    exact StInv.cong s2 _ rfl rfl rfl rfl rfl h2

theorem kp_wrapIf [StInv P] {α : Type} (kind : SK) (body : PI α) (cond : α → PI Bool) (inner : PI Unit)
    (hb : Keeps P body) (hc : ∀ a, Keeps P (cond a)) (hi : Keeps P inner) : Keeps P (wrapIf kind body cond inner) := by
  constructor
  intro s a s' hp h
  obtain ⟨s1, s2, s3, c, o1, h1, h2, hrest⟩ := wrapIf_decS kind body cond inner s s' a h
  have p3 : P s3 := (hc a).k s2 c s3 (hb.k s1 a s2 (kp_of_Same o1 hp) h1) h2
  rcases hrest with ⟨_, rfl⟩ | ⟨_, s4, s5, o4, h5, o5⟩
  · exact p3
  · exact kp_of_Same o5 (hi.k s4 () s5 (kp_of_Same o4 p3) h5)

/-! ### primitives -/

theorem kp_outOfFuel [StInv P] {α : Type} : Keeps P (PI.outOfFuel : PI α) := ⟨fun s a s' _ h => by simp [PI.outOfFuel] at h⟩
theorem kp_stuck [StInv P] {α : Type} : Keeps P (PI.stuck : PI α) := ⟨fun s a s' _ h => by simp [PI.stuck] at h⟩

theorem kp_peekToken [StInv P] : Keeps P peekToken := by
  constructor
  intro s o s' hp h
  unfold peekToken at h
  simp only [] at h
  cases hc : s.current with
  | some t => simp only [hc, Res.ok.injEq] at h; obtain ⟨_, rfl⟩ := h; exact hp
  | none =>
    simp only [hc, Res.ok.injEq] at h
    obtain ⟨_, rfl⟩ := h
    exact StInv.cong (nextTokenRaw (s.lx.src.length + 3) s).2 _ rfl rfl rfl rfl rfl (StInv.next _ s hp)

theorem kp_moveCurToPending [StInv P] : Keeps P moveCurToPending := by
  refine kp_same ?_
  intro s b s' h
  unfold moveCurToPending at h
  simp only [] at h
  cases hc : s.current with
  | none => simp only [hc] at h; injection h with _ h; subst h; exact ⟨rfl, rfl, rfl, rfl, rfl⟩
  | some t => simp only [hc] at h; split at h <;> (injection h with _ h; subst h; exact ⟨rfl, rfl, rfl, rfl, rfl⟩)

theorem kp_srcLen [StInv P] : Keeps P srcLen :=
  kp_same (fun s a s' h => by unfold srcLen at h; simp only [] at h; injection h with _ h; subst h; exact ⟨rfl, rfl, rfl, rfl, rfl⟩)

theorem kp_getCurrent [StInv P] : Keeps P getCurrent :=
  kp_same (fun s a s' h => by unfold getCurrent at h; simp only [] at h; injection h with _ h; subst h; exact ⟨rfl, rfl, rfl, rfl, rfl⟩)

theorem kp_pushIgnored [StInv P] : Keeps P pushIgnored :=
  kp_same (fun s a s' h => by unfold pushIgnored at h; simp only [] at h; injection h with _ h; subst h; exact ⟨rfl, rfl, rfl, rfl, rfl⟩)

theorem kp_moveCurToTree [StInv P] (kind : SK) : Keeps P (moveCurToTree kind) := by
  refine kp_same ?_
  intro s a s' h
  unfold moveCurToTree at h
  simp only [] at h
  cases hc : s.current with
  | none => simp only [hc] at h; injection h with _ h; subst h; exact ⟨rfl, rfl, rfl, rfl, rfl⟩
  | some t => simp only [hc] at h; injection h with _ h; subst h; exact ⟨rfl, rfl, rfl, rfl, rfl⟩

theorem kp_popDrop [StInv P] : Keeps P popDrop := by
  refine kp_same ?_
  intro s a s' h
  unfold popDrop at h
  simp only [] at h
  cases hc : s.current with
  | none => simp only [hc] at h; injection h with _ h; subst h; exact ⟨rfl, rfl, rfl, rfl, rfl⟩
  | some t => simp only [hc] at h; injection h with _ h; subst h; exact ⟨rfl, rfl, rfl, rfl, rfl⟩

theorem kp_peekTokenN [StInv P] (n : Nat) : Keeps P (peekTokenN n) :=
  kp_same (fun s a s' h => by unfold peekTokenN at h; simp only [] at h; injection h with _ h; subst h; exact ⟨rfl, rfl, rfl, rfl, rfl⟩)

theorem kp_assertRecZero [StInv P] : Keeps P assertRecZero :=
  kp_same (fun s a s' h => by unfold assertRecZero at h; simp only [] at h; injection h with _ h; subst h; exact ⟨rfl, rfl, rfl, rfl, rfl⟩)

theorem kp_pushErr [StInv P] (e : PErr) (he : e.kind ≠ .limit) : Keeps P (pushErr e) := by
  constructor
  intro s a s' hp h
  unfold pushErr errUpdate at h
  simp only [] at h
  injection h with _ h
  subst h
  by_cases ha : s.acceptErrors = true
  · simp only [ha, if_true]
    exact StInv.cong { s with errors := s.errors ++ [e] } _ rfl rfl ha.symm rfl rfl (StInv.err s e he ha hp)
  · have ha' : s.acceptErrors = false := by simpa using ha
    simp only [ha', Bool.false_eq_true, if_false]
    exact StInv.cong s _ rfl rfl ha'.symm rfl rfl hp

theorem kh_limitErr [StInv P] : KeepsHit P limitErr := by
  constructor
  intro s a s' hp hh h
  unfold limitErr at h
  obtain ⟨o, s1, h1, h2⟩ := bind_dec peekToken _ s s' () h
  have p1 : P s1 := kp_peekToken.k s o s1 hp h1
  have o1 := plain_peekToken.out s o s1 h1
  cases o with
  | none =>
    simp only [] at h2
    rw [run_pure] at h2
    injection h2 with _ h2
    subst h2
    exact p1
  | some t =>
    simp only [] at h2
    unfold errUpdate at h2
    simp only [] at h2
    injection h2 with _ h2
    subst h2
    exact StInv.limit s1 t.index (by rw [o1.recHigh, o1.recLimit]; exact hh) p1

theorem kh_bind_pure [StInv P] {α : Type} (a : α) : KeepsHit P (limitErr >>= fun _ => (pure a : PI α)) := by
  constructor
  intro s b s'' hp hh h
  obtain ⟨u, s', h1, h2⟩ := bind_dec limitErr _ s s'' b h
  rw [run_pure] at h2
  injection h2 with _ h2
  subst h2
  exact kh_limitErr.k s u s' hp hh h1

end Apollo.Parse
