import ApolloModel.Proofs.ParserTreeDef5
/-
C08 (pipeline), type-system definitions: the parser side of the named definitions (scalar, enum, input object, union,
object, interface) and of their extensions: every error-free run consumed the tokens of ONE loose definition `l` and
appended ONE element, a `NamedDefTree l`; the well-formedness facts are exported.
-/
set_option linter.unusedSimpArgs false
set_option linter.unusedVariables false

namespace Apollo.Parse
open Apollo.Rowan hiding Str
open Apollo.Lex hiding Str
open Apollo.FromCst (TyTree DescPre OptDirs All2 NamedTy NamesNode OptNames ItemsNode OptItems FieldTree EvTree IvdTree Hd AllToks
  NamedDefTree ScalarLike ObjLike UnionLike EnumLike InputLike)

theorem tr_nameOrErr {E : PState → Prop} {H : List Tok → Prop} :
    Tr E H nameOrErr (fun _ cs e => ∃ t : Tok, t.kind = .name ∧ isValidName t.data = true ∧ cs = [t] ∧ e = [nameNode t.data]) := by
  unfold nameOrErr
  exact tr_peekIf _ _ _ _ tr_name tr_err

/-- the optional keyword of a definition: `if peek_data == word { bump }` -/
def KwPartT (word : String) (sk : SK) (seen : Bool) (cs : List Tok) (e : List Elem) : Prop :=
  if seen then ∃ t : Tok, t.data = word.toList ∧ t.kind = .name ∧ cs = [t] ∧ e = [Elem.tok sk t.data] else cs = [] ∧ e = []

theorem tr_optKw {α : Type} {E : PState → Prop} (hE : Early E) {H : List Tok → Prop} (word : String) (hw : KwWord word) (sk : SK)
    (hk : isJunkKind sk = false) (rest : PI α) (R : α → List Tok → List Elem → Prop) (hr : Tr E (fun _ => True) rest R) :
    Tr E H (optKw word sk rest)
      (fun a cs e => ∃ (seen : Bool) (c1 c2 : List Tok) (e1 e2 : List Elem), cs = c1 ++ c2 ∧ e = e1 ++ e2 ∧
        KwPartT word sk seen c1 e1 ∧ R a c2 e2) := by
  unfold optKw
  apply tr_peekData
  intro o
  refine tr_ite _ (fun hkw => ?_) (fun _ => ?_)
  · have hb : Tr E (fun q => H q ∧ q.head? = o) (bump sk) _ := (tr_bumpKw (E := E) word hw sk hk).mono (by
      rintro q ⟨_, hq⟩
      cases o with
      | none => simp [kwOpt] at hkw
      | some t => exact ⟨t, hq, by simpa [kwOpt] using hkw⟩) (fun _ _ _ h => h)
    refine (tr_bind hE hb (fun _ => hr)).mono (fun _ h => h) ?_
    rintro a cs e ⟨_, c1, c2, e1, e2, rfl, rfl, h1, h2⟩
    exact ⟨true, c1, c2, e1, e2, rfl, rfl, by simpa [KwPartT] using h1, h2⟩
  · refine hr.mono (fun _ _ => trivial) ?_
    intro a cs e h
    exact ⟨false, [], cs, [], e, rfl, rfl, by simp [KwPartT], h⟩

theorem kwPartT_toks {word : String} {sk : SK} {seen : Bool} {cs : List Tok} {e : List Elem} (h : KwPartT word sk seen cs e) :
    TokIs cs (kwPart word seen) ∧ AllToks e := by
  cases seen with
  | false =>
    obtain ⟨rfl, rfl⟩ : cs = [] ∧ e = [] := by simpa [KwPartT] using h
    exact ⟨TokIs.nil, FromCst.allToks_nil⟩
  | true =>
    obtain ⟨t, hd, hk, rfl, rfl⟩ : ∃ t : Tok, t.data = word.toList ∧ t.kind = .name ∧ cs = [t] ∧ e = [Elem.tok sk t.data] := by
      simpa [KwPartT] using h
    refine ⟨TokIs.single t _ ?_, FromCst.allToks_cons _ _ FromCst.allToks_nil⟩
    rw [show astOfV t = some (.name t.data) from by simp [astOfV, hk], hd]

/-- weaken the entry condition, using that the queue comes from the lexer -/
theorem Tr.monoL {α : Type} {E : PState → Prop} {H H' : List Tok → Prop} {m : PI α} {R : α → List Tok → List Elem → Prop}
    (h : Tr E H' m R) (hH : ∀ q, LexQ q → H q → H' q) : Tr E H m R :=
  ⟨h.1, fun s a s' w hi he hlq hq hr hnd => h.2 s a s' w hi he hlq (hH _ hlq.1 hq) hr hnd⟩

/-- `bind` with a custom fact about the queue after the first part -/
theorem tr_bind_transfer {α β : Type} {E : PState → Prop} (hE : Early E) {H H2 : List Tok → Prop} {m : PI α} {f : α → PI β}
    {R1 : α → List Tok → List Elem → Prop} {R2 : α → β → List Tok → List Elem → Prop}
    (h1 : Tr E H m R1)
    (htr : ∀ s a s', TW s → LexQ (Toks s) → H (Toks s) → m.run s = .ok a s' → H2 (Toks s'))
    (h2 : ∀ a, Tr E H2 (f a) (R2 a)) :
    Tr E H (m >>= f) (fun b cs e => ∃ a c1 c2 e1 e2, cs = c1 ++ c2 ∧ e = e1 ++ e2 ∧ R1 a c1 e1 ∧ R2 a b c2 e2) := by
  refine ⟨good_bind _ _ h1.1 (fun a => (h2 a).1), ?_⟩
  intro s b s'' w hi he hlq hq hr hnd
  obtain ⟨a, s', hr1, hr2⟩ := bind_dec m f s s'' b hr
  have ad := h1.1 s a s' w hr1
  have hi' := (run_inv_added m s hi a s' hr1).1
  have hnd' : ¬ Doomed s' := fun d => hnd (((h2 a).1 s' b s'' ad.w hr2).doom d)
  obtain ⟨c1, d1, t1, n1, e1, b1, r1⟩ := h1.2 s a s' w hi he hlq hq hr1 hnd'
  obtain ⟨c2, d2, t2, n2, e2, b2, r2⟩ := (h2 a).2 s' b s'' ad.w hi' e1 (LQ.suffix (cs := c1) (by rw [← t1]; exact hlq))
    (htr s a s' w hlq.1 hq hr1) hr2 hnd
  refine ⟨c1 ++ c2, d1 ++ d2, by rw [t1, t2, List.append_assoc], noEof_append n1 n2, e2,
    by rw [b2, b1, List.append_assoc], ?_⟩
  rcases r1 with r1 | ev
  · rcases r2 with r2 | ev2
    · exact Or.inl ⟨a, sig c1, sig c2, sigE d1, sigE d2, sig_append _ _, sigE_append _ _, r1, r2⟩
    · exact Or.inr ev2
  · exact Or.inr (hE.carries s' s'' c2 e1 hnd' ev t2 n2)

theorem tr_optKw_there {α : Type} {E : PState → Prop} (hE : Early E) (word : String) (hw : KwWord word) (sk : SK)
    (hk : isJunkKind sk = false) (rest : PI α) (R : α → List Tok → List Elem → Prop) (hr : Tr E (fun _ => True) rest R) :
    Tr E (HeadData word) (optKw word sk rest)
      (fun a cs e => ∃ (c1 c2 : List Tok) (e1 e2 : List Elem), cs = c1 ++ c2 ∧ e = e1 ++ e2 ∧
        KwPartT word sk true c1 e1 ∧ R a c2 e2) := by
  unfold optKw
  apply tr_peekData
  intro o
  refine tr_ite _ (fun hkw => ?_) (fun hkw => ?_)
  · have hb : Tr E (fun q => HeadData word q ∧ q.head? = o) (bump sk) _ :=
      (tr_bumpKw (E := E) word hw sk hk).mono (fun q hq => hq.1) (fun _ _ _ h => h)
    refine (tr_bind hE hb (fun _ => hr)).mono (fun _ h => h) ?_
    rintro a cs e ⟨_, c1, c2, e1, e2, rfl, rfl, h1, h2⟩
    exact ⟨c1, c2, e1, e2, rfl, rfl, by simpa [KwPartT] using h1, h2⟩
  · refine tr_absurd hr.1 ?_
    rintro q ⟨⟨t, hh, hd⟩, h2⟩
    rw [hh] at h2
    subst h2
    simp [kwOpt, hd] at hkw

/-- the way the dispatcher enters a definition makes its first token significant -/
theorem defStart_sig {word : String} (hw : KwWord word) :
    ∀ q, LexQ q → DefStart word q → ∃ t rest, q = t :: rest ∧ isIgnoredKind t.kind = false := by
  intro q hl hs
  rcases hs with hs | ⟨t, rest, t2, hq, hk, _, _⟩
  · exact kwWord_sig hw q ⟨hl, hs⟩
  · exact ⟨t, rest, hq, by rw [hk]; rfl⟩

/-- `Description? keyword rest`, entered the way the dispatcher enters a definition: the keyword IS consumed -/
theorem tr_descKwEntered {α : Type} {E : PState → Prop} (hE : Early E) (word : String) (hw : KwWord word) (sk : SK)
    (hk : isJunkKind sk = false) (rest : PI α) (R : α → List Tok → List Elem → Prop) (hr : Tr E (fun _ => True) rest R) :
    Tr E (DefStart word) (optKind .stringValue description (optKw word sk rest))
      (fun a cs e => ∃ (d : Option Ast.Str) (c1 c2 : List Tok) (pre e2 : List Elem), cs = c1 ++ c2 ∧ e = pre ++ e2 ∧
        TokIs c1 (Ast.tDescription d) ∧ DescPre d pre ∧
        ∃ (c3 c4 : List Tok) (e3 e4 : List Elem), c2 = c3 ++ c4 ∧ e2 = e3 ++ e4 ∧ KwPartT word sk true c3 e3 ∧ R a c4 e4) := by
  have hkw := tr_optKw_there hE word hw sk hk rest R hr
  have hname : ∀ q t, LexQ q → q.head? = some t → t.data = word.toList → t.kind = .name := by
    intro q t hl hh hd
    obtain ⟨c, r, hc1, hc2⟩ := hw
    exact hl.headKw hh word c r hc1 hc2 hd
  unfold optKind
  apply tr_peek
  intro k
  refine tr_ite _ (fun hkk => ?_) (fun hkk => ?_)
  · have hk' : k = some Kind.stringValue := by simpa using hkk
    have hd : Tr E (fun q => DefStart word q ∧ q.head?.map (·.kind) = k) description _ :=
      (tr_description hE).mono (fun q hq => kindP_of_head hq.2 hkk) (fun _ _ _ h => h)
    refine (tr_bind_transfer hE (H2 := HeadData word) hd ?_ (fun _ => hkw)).mono (fun _ h => h) ?_
    · rintro s _ s1 w hl ⟨hs, hkind⟩ hrun
      rcases hs with ⟨t, hh, hd'⟩ | ⟨t, rest0, t2, hq, hkt, hh2, hd2⟩
      · exfalso
        have := hname _ t hl hh hd'
        rw [hh, hk'] at hkind
        simp [this] at hkind
      · obtain ⟨ign, e1, hall, set1⟩ := description_spec s s1 w t rest0 hq (by rw [hkt]; rfl) hrun
        have hrest : rest0 = ign ++ Toks s1 := by
          have := e1.toks; rw [hq] at this; simpa using this
        rw [hrest, sig_append, sig_ignored ign hall, List.nil_append, settled_sig_head s1 set1] at hh2
        exact ⟨t2, hh2, hd2⟩
    · rintro a cs e ⟨_, c1, c2, e1, e2, rfl, rfl, ⟨t, sv, hkt, hsv, rfl, hpre⟩, h2⟩
      exact ⟨some sv, [t], c2, e1, e2, rfl, rfl, TokIs.single t _ (by simp [astOfV, hkt, hsv]), hpre, h2⟩
  · refine (hkw.monoL ?_).mono (fun _ h => h)
      (fun a cs e h => ⟨none, [], cs, [], e, rfl, rfl, TokIs.nil, Or.inl ⟨rfl, rfl⟩, h⟩)
    rintro q hl ⟨hs, hkind⟩
    rcases hs with hs | ⟨t, rest0, t2, hq, hkt, _, _⟩
    · exact hs
    · exfalso
      rw [hq] at hkind
      simp only [List.head?_cons, Option.map_some] at hkind
      rw [← hkind, hkt] at hkk
      simp at hkk

/-- the shape `Description? keyword Name tail`, entered the way the dispatcher enters it -/
theorem tr_defShape {E : PState → Prop} (hE : Early E) (word : String) (hw : KwWord word) (sk : SK)
    (hk : isJunkKind sk = false) (n : Nat) (tail : PI Unit) (Rt : List Tok → List Elem → Prop)
    (ht : Tr E (fun _ => True) tail (fun _ => Rt)) :
    Tr E (DefStart word) (defShape word sk n tail)
      (fun _ cs e => ∃ (desc : Option Ast.Str) (tn : Tok) (hd : List Elem) (c1 c2 : List Tok) (e2 : List Elem),
        cs = c1 ++ c2 ∧ e = hd ++ nameNode tn.data :: e2 ∧
        TokIs c1 (Ast.tDescription desc ++ kwPart word true ++ [.name tn.data]) ∧ isValidName tn.data = true ∧ Hd desc hd ∧
        Rt c2 e2) := by
  unfold defShape
  have h1 := tr_bind hE (tr_nameOrErr (E := E) (H := fun _ => True)) (fun _ => ht)
  refine (tr_descKwEntered hE word hw sk hk _ _ h1).mono (fun _ h => h) ?_
  rintro _ cs e ⟨desc, c1, c2, pre, e2, rfl, rfl, hd1, hd2, c3, c4, e3, e4, rfl, rfl, hkw, _, c5, c6, e5, e6, rfl, rfl,
    ⟨tn, hkn, hvn, rfl, rfl⟩, hrt⟩
  obtain ⟨hk1, hk2⟩ := kwPartT_toks hkw
  refine ⟨desc, tn, pre ++ e3, c1 ++ (c3 ++ [tn]), c6, e6, by simp, by simp, ?_, hvn, ⟨pre, e3, rfl, hd2, hk2⟩, hrt⟩
  have := hd1.append (hk1.append (TokIs.single tn (.name tn.data) (by simp [astOfV, hkn])))
  simpa [List.append_assoc] using this

theorem tr_optBodyK {E : PState → Prop} {H : List Tok → Prop} (k0 : Kind) (body : PI Unit) (L : List Tok → List Elem → Prop)
    (hb : Tr E (KindP (· == k0)) body (fun _ => L)) :
    Tr E H (optBodyK k0 body) (fun _ cs e => L cs e ∨ (cs = [] ∧ e = [])) := by
  unfold optBodyK
  refine tr_ifKind k0 _ _ _ (hb.mono (fun _ h => h) (fun _ _ _ h => Or.inl h)) ?_
  exact (tr_pure E _ ()).mono (fun _ _ => trivial) (fun _ _ _ h => Or.inr h.2)

/-- `Directives? Body?` -/
theorem tr_dirsBody (n : Nat) (k0 : Kind) (body : PI Unit) (L : List Tok → List Elem → Prop)
    (hb : Tr NoE (KindP (· == k0)) body (fun _ => L)) {H : List Tok → Prop} :
    Tr NoE H (dirsBody n k0 body)
      (fun _ cs e => ∃ (ds : List Ast.Directive) (c1 c2 : List Tok) (td e2 : List Elem), cs = c1 ++ c2 ∧ e = td ++ e2 ∧
        TokIs c1 (Ast.tDirectives ds) ∧ dirsOk true ds ∧ OptDirs ds td ∧ (L c2 e2 ∨ (c2 = [] ∧ e2 = []))) := by
  unfold dirsBody
  exact tr_optDirectives n true _ (tr_optBodyK (E := NoE) (H := fun _ => True) k0 body L hb)

/-! ### scalar -/

theorem tr_scalarTypeDefinition (n : Nat) :
    Tr NoE (DefStart "scalar") (scalarTypeDefinition n)
      (fun _ cs e => ∃ (desc : Option Ast.Str) (nm : Ast.Str) (ds : List Ast.Directive) (ed : Elem),
        TokIs cs (scalarToks desc true nm ds) ∧ Ast.wfDirs ds = true ∧ e = [ed] ∧ NamedDefTree (.scalar desc nm ds) ed) := by
  rw [scalarTypeDefinition_eq]
  refine (tr_withNodeL early_false "SCALAR_TYPE_DEFINITION" (defStart_sig kwWord_scalar)
    (tr_defShape early_false "scalar" kwWord_scalar "scalar_KW" (by decide) n _ _ (tr_optDirsEnd (E := NoE) (H := fun _ => True) n))).mono
    (fun _ h => h) ?_
  rintro _ cs e ⟨inner, rfl, desc, tn, hd, c1, c2, e2, rfl, hin, h1, hv, hhd, ds, hd1, hd2, hd3⟩
  refine ⟨desc, tn.data, ds, _, ?_, dirsOk_wf true ds hd2, rfl, inner, hd, e2, rfl, hv, hhd, hd3, hin⟩
  have := h1.append hd1
  simpa [scalarToks, List.append_assoc] using this

/-! ### enum, input object -/

theorem tBraced_ne {α : Type} (items : List Ast.Tok) : Ast.tBraced items false = .p .lCurly :: items ++ [.p .rCurly] := by
  simp [Ast.tBraced]

theorem tr_enumTypeDefinition (n : Nat) :
    Tr NoE (DefStart "enum") (enumTypeDefinition n)
      (fun _ cs e => ∃ (desc : Option Ast.Str) (nm : Ast.Str) (ds : List Ast.Directive) (vs : List Ast.EnumValueDef)
        (ed : Elem), TokIs cs (enumToks desc true nm ds vs) ∧ Ast.wfDirs ds = true ∧ Ast.wfEnumValueDefs vs = true ∧
        (∀ v ∈ vs, isValueKeyword v.value = false) ∧ e = [ed] ∧ NamedDefTree (.enum desc nm ds vs) ed) := by
  rw [enumTypeDefinition_eq']
  refine (tr_withNodeL early_false "ENUM_TYPE_DEFINITION" (defStart_sig kwWord_enum)
    (tr_defShape early_false "enum" kwWord_enum "enum_KW" (by decide) n _ _
      (tr_dirsBody n .lCurly _ _ (tr_enumValuesDefinition n) (H := fun _ => True)))).mono (fun _ h => h) ?_
  rintro _ cs e ⟨inner, rfl, desc, tn, hd, c1, c2, e2, rfl, hin, h1, hv, hhd, ds, c3, c4, td, e4, rfl, rfl, hd1, hd2, hd3, hb⟩
  rcases hb with ⟨vs, ea, hne, hv1, hv2, hv3, rfl, hv5⟩ | ⟨rfl, rfl⟩
  · refine ⟨desc, tn.data, ds, vs, _, ?_, dirsOk_wf true ds hd2, hv2, hv3, rfl, inner, hd, td, [ea], rfl, hv, hhd, hd3,
      Or.inr ⟨ea, rfl, hv5⟩, hin⟩
    have hemp : vs.isEmpty = false := by cases vs with | nil => exact absurd rfl hne | cons _ _ => rfl
    have := h1.append (hd1.append hv1)
    simpa [enumToks, Ast.tEnumBody, Ast.tBraced, hemp, List.append_assoc] using this
  · refine ⟨desc, tn.data, ds, [], _, ?_, dirsOk_wf true ds hd2, rfl, (by intro v hv; cases hv), rfl, inner, hd, td, [], rfl,
      hv, hhd, hd3, Or.inl ⟨rfl, rfl⟩, hin⟩
    have := h1.append hd1
    simpa [enumToks, Ast.tEnumBody, Ast.tBraced, Ast.tEnumValueDefItems, List.append_assoc] using this

theorem ivdsR_items {cs : List Tok} {e : List Elem}
    (h : IvdsR "INPUT_FIELDS_DEFINITION" "L_CURLY" "R_CURLY" (.p .lCurly) (.p .rCurly) cs e) :
    ∃ (vs : List Ast.InputValueDef) (ea : Elem), vs ≠ [] ∧ TokIs cs (.p .lCurly :: Ast.tIVDItems vs ++ [.p .rCurly]) ∧
      Ast.wfIVDs vs = true ∧ e = [ea] ∧ ItemsNode "INPUT_FIELDS_DEFINITION" "L_CURLY" "R_CURLY" IvdTree vs ea := h

theorem tr_inputObjectTypeDefinition (n : Nat) :
    Tr NoE (DefStart "input") (inputObjectTypeDefinition n)
      (fun _ cs e => ∃ (desc : Option Ast.Str) (nm : Ast.Str) (ds : List Ast.Directive) (fs : List Ast.InputValueDef)
        (ed : Elem), TokIs cs (inputToks desc true nm ds fs) ∧ Ast.wfDirs ds = true ∧ Ast.wfIVDs fs = true ∧ e = [ed] ∧
        NamedDefTree (.input desc nm ds fs) ed) := by
  rw [inputObjectTypeDefinition_eq']
  refine (tr_withNodeL early_false "INPUT_OBJECT_TYPE_DEFINITION" (defStart_sig kwWord_input)
    (tr_defShape early_false "input" kwWord_input "input_KW" (by decide) n _ _
      (tr_dirsBody n .lCurly _ _ (tr_inputFieldsDefinition n) (H := fun _ => True)))).mono (fun _ h => h) ?_
  rintro _ cs e ⟨inner, rfl, desc, tn, hd, c1, c2, e2, rfl, hin, h1, hv, hhd, ds, c3, c4, td, e4, rfl, rfl, hd1, hd2, hd3, hb⟩
  rcases hb with hb | ⟨rfl, rfl⟩
  · obtain ⟨vs, ea, hne, hv1, hv2, rfl, hv5⟩ := ivdsR_items hb
    refine ⟨desc, tn.data, ds, vs, _, ?_, dirsOk_wf true ds hd2, hv2, rfl, inner, hd, td, [ea], rfl, hv, hhd, hd3,
      Or.inr ⟨ea, rfl, hv5⟩, hin⟩
    have hemp : vs.isEmpty = false := by cases vs with | nil => exact absurd rfl hne | cons _ _ => rfl
    have := h1.append (hd1.append hv1)
    simpa [inputToks, Ast.tInputBody, Ast.tBraced, hemp, List.append_assoc] using this
  · refine ⟨desc, tn.data, ds, [], _, ?_, dirsOk_wf true ds hd2, rfl, rfl, inner, hd, td, [], rfl,
      hv, hhd, hd3, Or.inl ⟨rfl, rfl⟩, hin⟩
    have := h1.append hd1
    simpa [inputToks, Ast.tInputBody, Ast.tBraced, Ast.tIVDItems, List.append_assoc] using this

/-! ### union -/

theorem tr_unionTypeDefinition (n : Nat) :
    Tr NoE (DefStart "union") (unionTypeDefinition n)
      (fun _ cs e => ∃ (desc : Option Ast.Str) (nm : Ast.Str) (ds : List Ast.Directive) (ms : SepC) (ed : Elem),
        TokIs cs (unionToks desc true nm ds ms) ∧ Ast.wfDirs ds = true ∧ e = [ed] ∧ NamedDefTree (.union desc nm ds ms) ed) := by
  rw [unionTypeDefinition_eq]
  refine (tr_withNodeL early_false "UNION_TYPE_DEFINITION" (defStart_sig kwWord_union)
    (tr_defShape early_false "union" kwWord_union "union_KW" (by decide) n _ _
      (tr_dirsBody n .eq _ _ (tr_unionMemberTypes early_false) (H := fun _ => True)))).mono (fun _ h => h) ?_
  rintro _ cs e ⟨inner, rfl, desc, tn, hd, c1, c2, e2, rfl, hin, h1, hv, hhd, ds, c3, c4, td, e4, rfl, rfl, hd1, hd2, hd3, hb⟩
  rcases hb with ⟨lead, first, rest, en, hm1, rfl, hm3⟩ | ⟨rfl, rfl⟩
  · refine ⟨desc, tn.data, ds, some (lead, first, rest), _, ?_, dirsOk_wf true ds hd2, rfl, inner, hd, td, [en], rfl,
      hv, hhd, hd3, Or.inr ⟨en, rfl, hm3⟩, hin⟩
    have := h1.append (hd1.append hm1)
    simpa [unionToks, tSepOpt, List.append_assoc] using this
  · refine ⟨desc, tn.data, ds, none, _, ?_, dirsOk_wf true ds hd2, rfl, inner, hd, td, [], rfl,
      hv, hhd, hd3, Or.inl ⟨rfl, rfl⟩, hin⟩
    have := h1.append hd1
    simpa [unionToks, tSepOpt, List.append_assoc] using this

/-! ### object, interface -/

/-- the optional `implements …` clause, then `rest` -/
def ImplR (R : List Tok → List Elem → Prop) (cs : List Tok) (e : List Elem) : Prop :=
  ∃ (impl : SepC) (c1 c2 : List Tok) (ti e2 : List Elem), cs = c1 ++ c2 ∧ e = ti ++ e2 ∧
    TokIs c1 (tSepOpt [.name Ast.sImplements] .amp impl) ∧ OptNames "IMPLEMENTS_INTERFACES" (sepNames impl) ti ∧ R c2 e2

theorem implR_some {R : List Tok → List Elem → Prop} {cs : List Tok} {e : List Elem}
    (h : ∃ c1 c2 e1 e2, cs = c1 ++ c2 ∧ e = e1 ++ e2 ∧ NamesR "IMPLEMENTS_INTERFACES" [.name Ast.sImplements] .amp c1 e1 ∧ R c2 e2) :
    ImplR R cs e := by
  obtain ⟨c1, c2, e1, e2, rfl, rfl, ⟨lead, first, rest, en, h1, rfl, h3⟩, h4⟩ := h
  exact ⟨some (lead, first, rest), c1, c2, [en], e2, rfl, rfl, by simpa [tSepOpt] using h1, Or.inr ⟨en, rfl, h3⟩, h4⟩

theorem implR_none {R : List Tok → List Elem → Prop} {cs : List Tok} {e : List Elem} (h : R cs e) : ImplR R cs e :=
  ⟨none, [], cs, [], e, rfl, rfl, TokIs.nil, Or.inl ⟨rfl, rfl⟩, h⟩

theorem tr_optImplTok (rest : PI Unit) (R : List Tok → List Elem → Prop) (hr : Tr NoE (fun _ => True) rest (fun _ => R))
    {H : List Tok → Prop} : Tr NoE H (optImplTok rest) (fun _ => ImplR R) := by
  unfold optImplTok
  apply tr_peekToken
  intro o
  cases o with
  | none => exact hr.mono (fun _ _ => trivial) (fun _ _ _ h => implR_none h)
  | some t =>
    simp only []
    refine tr_ite _ (fun hk => ?_) (fun _ => hr.mono (fun _ _ => trivial) (fun _ _ _ h => implR_none h))
    have hd : t.data = "implements".toList := by
      have : kw "implements" t.data = true := by
        cases h1 : (t.kind == Kind.name) <;> simp [h1] at hk ⊢; exact hk
      simpa [kw] using this
    have hb : Tr NoE (fun q => H q ∧ q.head? = some t) implementsInterfaces _ :=
      (tr_implementsInterfaces early_false).mono (fun q hq => ⟨t, hq.2, hd⟩) (fun _ _ _ h => h)
    refine (tr_bind early_false hb (fun _ => hr)).mono (fun _ h => h) ?_
    rintro _ cs e ⟨_, c1, c2, e1, e2, h1, h2, h3, h4⟩
    exact implR_some ⟨c1, c2, e1, e2, h1, h2, h3, h4⟩

theorem tr_optImplData (restT restF : PI Unit) (R : List Tok → List Elem → Prop) (hT : Tr NoE (fun _ => True) restT (fun _ => R))
    (hF : Tr NoE (fun _ => True) restF (fun _ => R)) {H : List Tok → Prop} :
    Tr NoE H (optData2 "implements" implementsInterfaces restT restF) (fun _ => ImplR R) := by
  unfold optData2
  apply tr_peekData
  intro o
  refine tr_ite _ (fun hk => ?_) (fun _ => hF.mono (fun _ _ => trivial) (fun _ _ _ h => implR_none h))
  have hb : Tr NoE (fun q => H q ∧ q.head? = o) implementsInterfaces _ :=
    (tr_implementsInterfaces early_false).mono (by
      rintro q ⟨_, hq⟩
      cases o with
      | none => simp [kwOpt] at hk
      | some t => exact ⟨t, hq, by simpa [kwOpt] using hk⟩) (fun _ _ _ h => h)
  refine (tr_bind early_false hb (fun _ => hT)).mono (fun _ h => h) ?_
  rintro _ cs e ⟨_, c1, c2, e1, e2, h1, h2, h3, h4⟩
  exact implR_some ⟨c1, c2, e1, e2, h1, h2, h3, h4⟩

/-- `Directives? FieldsDefinition?` -/
def FieldsTailR (cs : List Tok) (e : List Elem) : Prop :=
  ∃ (ds : List Ast.Directive) (fs : List Ast.FieldDef) (td tf : List Elem),
    TokIs cs (Ast.tDirectives ds ++ Ast.tBraced (Ast.tFieldDefItems fs) fs.isEmpty) ∧ Ast.wfDirs ds = true ∧ Ast.wfFieldDefs fs = true ∧
    e = td ++ tf ∧ OptDirs ds td ∧ OptItems "FIELDS_DEFINITION" "L_CURLY" "R_CURLY" FieldTree fs tf

theorem tr_fieldsTail (n : Nat) {H : List Tok → Prop} : Tr NoE H (dirsBody n .lCurly (fieldsDefinition n)) (fun _ => FieldsTailR) := by
  refine (tr_dirsBody n .lCurly _ _ (tr_fieldsDefinition n)).mono (fun _ h => h) ?_
  rintro _ cs e ⟨ds, c1, c2, td, e2, rfl, rfl, hd1, hd2, hd3, hb⟩
  rcases hb with ⟨fs, ea, hne, hf1, hf2, rfl, hf4⟩ | ⟨rfl, rfl⟩
  · have hemp : fs.isEmpty = false := by cases fs with | nil => exact absurd rfl hne | cons _ _ => rfl
    refine ⟨ds, fs, td, [ea], ?_, dirsOk_wf true ds hd2, hf2, rfl, hd3, Or.inr ⟨ea, rfl, hf4⟩⟩
    have := hd1.append hf1
    simpa [Ast.tBraced, hemp] using this
  · exact ⟨ds, [], td, [], by simpa [Ast.tBraced, Ast.tFieldDefItems] using hd1, dirsOk_wf true ds hd2, rfl, by simp, hd3,
      Or.inl ⟨rfl, rfl⟩⟩

theorem objLike_assemble (K : SK) (desc : Option Ast.Str) (tn : Tok) (hd inner : List Elem) (cs' : List Tok) (e2 : List Elem)
    (hv : isValidName tn.data = true) (hhd : Hd desc hd) (hin : sigE inner = hd ++ nameNode tn.data :: e2)
    (h : ImplR FieldsTailR cs' e2) :
    ∃ (impl : SepC) (ds : List Ast.Directive) (fs : List Ast.FieldDef),
      TokIs cs' (tSepOpt [.name Ast.sImplements] .amp impl ++ Ast.tDirectives ds ++ Ast.tBraced (Ast.tFieldDefItems fs) fs.isEmpty) ∧
      Ast.wfDirs ds = true ∧ Ast.wfFieldDefs fs = true ∧ ObjLike K desc tn.data (sepNames impl) ds fs (.node K inner) := by
  obtain ⟨impl, c1, c2, ti, e3, rfl, rfl, h1, h2, ds, fs, td, tf, h3, h4, h5, rfl, h7, h8⟩ := h
  refine ⟨impl, ds, fs, ?_, h4, h5, inner, hd, ti, td, tf, rfl, hv, hhd, h2, h7, h8, hin⟩
  have := h1.append h3
  simpa [List.append_assoc] using this

theorem tr_objectTypeDefinition (n : Nat) :
    Tr NoE (DefStart "type") (objectTypeDefinition n)
      (fun _ cs e => ∃ (desc : Option Ast.Str) (nm : Ast.Str) (impl : SepC) (ds : List Ast.Directive)
        (fs : List Ast.FieldDef) (ed : Elem), TokIs cs (Ast.tDescription desc ++ kwPart "type" true ++ objectLikeToks nm impl ds fs) ∧
        Ast.wfDirs ds = true ∧ Ast.wfFieldDefs fs = true ∧ e = [ed] ∧ NamedDefTree (.object desc nm impl ds fs) ed) := by
  rw [objectTypeDefinition_eq]
  refine (tr_withNodeL early_false "OBJECT_TYPE_DEFINITION" (defStart_sig kwWord_type)
    (tr_defShape early_false "type" kwWord_type "type_KW" (by decide) n _ _
      (tr_optImplTok _ _ (tr_fieldsTail n (H := fun _ => True)) (H := fun _ => True)))).mono (fun _ h => h) ?_
  rintro _ cs e ⟨inner, rfl, desc, tn, hd, c1, c2, e2, rfl, hin, h1, hv, hhd, himpl⟩
  obtain ⟨impl, ds, fs, h2, h3, h4, h5⟩ := objLike_assemble "OBJECT_TYPE_DEFINITION" desc tn hd inner c2 e2 hv hhd hin himpl
  refine ⟨desc, tn.data, impl, ds, fs, _, ?_, h3, h4, rfl, h5⟩
  have := h1.append h2
  simpa [objectLikeToks, List.append_assoc] using this

theorem tr_interfaceTypeDefinition (n : Nat) :
    Tr NoE (DefStart "interface") (interfaceTypeDefinition n)
      (fun _ cs e => ∃ (desc : Option Ast.Str) (nm : Ast.Str) (impl : SepC) (ds : List Ast.Directive)
        (fs : List Ast.FieldDef) (ed : Elem), TokIs cs (Ast.tDescription desc ++ kwPart "interface" true ++ objectLikeToks nm impl ds fs) ∧
        Ast.wfDirs ds = true ∧ Ast.wfFieldDefs fs = true ∧ e = [ed] ∧ NamedDefTree (.interface desc nm impl ds fs) ed) := by
  rw [interfaceTypeDefinition_eq]
  refine (tr_withNodeL early_false "INTERFACE_TYPE_DEFINITION" (defStart_sig kwWord_interface)
    (tr_defShape early_false "interface" kwWord_interface "interface_KW" (by decide) n _ _
      (tr_optImplData _ _ _ (tr_fieldsTail n (H := fun _ => True)) (tr_fieldsTail n (H := fun _ => True)) (H := fun _ => True)))).mono
    (fun _ h => h) ?_
  rintro _ cs e ⟨inner, rfl, desc, tn, hd, c1, c2, e2, rfl, hin, h1, hv, hhd, himpl⟩
  obtain ⟨impl, ds, fs, h2, h3, h4, h5⟩ := objLike_assemble "INTERFACE_TYPE_DEFINITION" desc tn hd inner c2 e2 hv hhd hin himpl
  refine ⟨desc, tn.data, impl, ds, fs, _, ?_, h3, h4, rfl, h5⟩
  have := h1.append h2
  simpa [objectLikeToks, List.append_assoc] using this

end Apollo.Parse

namespace Apollo.Parse
open Apollo.Rowan hiding Str
open Apollo.Lex hiding Str
open Apollo.FromCst (TyTree DescPre OptDirs DirsNode All2 NamedTy NamesNode OptNames ItemsNode OptItems FieldTree EvTree IvdTree Hd AllToks
  NamedDefTree ScalarLike ObjLike UnionLike EnumLike InputLike)

/-- `extend <keyword> rest`: both keyword tokens, as the look-ahead of the dispatcher established -/
theorem tr_bump2 {α : Type} (w1 w2 : String) (hw1 : KwWord w1) (hw2 : KwWord w2) (sk1 sk2 : SK)
    (hj1 : isJunkKind sk1 = false) (hj2 : isJunkKind sk2 = false) (rest : PI α) (R : α → List Tok → List Elem → Prop)
    (hr : Tr NoE (fun _ => True) rest R) :
    Tr NoE (Ext2 w1 w2) (bump sk1 >>= fun _ => bump sk2 >>= fun _ => rest)
      (fun a cs e => ∃ (t1 t2 : Tok) (c2 : List Tok) (e2 : List Elem), t1.data = w1.toList ∧ t1.kind = .name ∧
        t2.data = w2.toList ∧ t2.kind = .name ∧ cs = t1 :: t2 :: c2 ∧
        e = Elem.tok sk1 t1.data :: Elem.tok sk2 t2.data :: e2 ∧ R a c2 e2) := by
  have h1 := tr_bumpKw (E := NoE) w1 hw1 sk1 hj1
  have h2 := tr_bind early_false (tr_bumpKw (E := NoE) w2 hw2 sk2 hj2) (fun _ => hr)
  refine ⟨good_bind _ _ (good_bump sk1) (fun _ => h2.1), ?_⟩
  intro s a s' w hi he hlq ⟨t1, rest0, t2, hq, hd1, hh2, hd2⟩ hrun hnd
  have st : St s := ⟨w, hi, he, hlq⟩
  obtain ⟨_, s1, hr1, hr'⟩ := bind_dec (bump sk1) _ s s' a hrun
  obtain ⟨ign1, e1, hall1, set1⟩ := bump_spec sk1 s s1 w t1 rest0 hq hr1
  have hnd1 : ¬ Doomed s1 := fun d => hnd ((h2.1 s1 a s' e1.w hr').doom d)
  obtain ⟨st1, res1⟩ := St.step h1 st ⟨t1, by rw [hq]; rfl, hd1⟩ hr1 hnd1
  have hrest : rest0 = ign1 ++ Toks s1 := by
    have := e1.toks; rw [hq] at this; simpa using this
  rw [hrest, sig_append, sig_ignored ign1 hall1, List.nil_append, settled_sig_head s1 set1] at hh2
  obtain ⟨_, res2⟩ := St.step h2 st1 ⟨t2, hh2, hd2⟩ hr' hnd
  refine (res1.seq res2).weaken ?_
  rintro cs e ⟨c1, c2, x1, x2, rfl, rfl, ⟨t, a1, a2, rfl, rfl⟩, _, c3, c4, e3, e4, rfl, rfl, ⟨t', b1, b2, rfl, rfl⟩, hR⟩
  exact ⟨t, t', c4, e4, a1, a2, b1, b2, rfl, rfl, hR⟩

theorem tr_extEnd {E : PState → Prop} {H : List Tok → Prop} (meets : Bool) :
    Tr E H (extEnd meets) (fun _ cs e => cs = [] ∧ e = []) := by
  unfold extEnd
  refine tr_ite _ (fun _ => tr_err) (fun _ => (tr_pure E _ ()).mono (fun _ _ => trivial) (fun _ _ _ h => h.2))

/-- `if peek == k { body }` at the end of an extension -/
theorem tr_extBodyK (k0 : Kind) (body : PI Unit) (L : List Tok → List Elem → Prop) (hb : Tr NoE (KindP (· == k0)) body (fun _ => L))
    (meets : Bool) {H : List Tok → Prop} :
    Tr NoE H (extBodyK k0 body meets) (fun _ cs e => L cs e ∨ (cs = [] ∧ e = [])) := by
  refine (tr_optKind2 early_false k0 body _ _ L (fun _ cs e => cs = [] ∧ e = []) hb (tr_extEnd true) (tr_extEnd meets)).mono
    (fun _ h => h) ?_
  rintro _ cs e ⟨c1, c2, e1, e2, rfl, rfl, h1, rfl, rfl⟩
  rcases h1 with h1 | ⟨rfl, rfl⟩
  · exact Or.inl (by simpa using h1)
  · exact Or.inr ⟨rfl, rfl⟩

/-- `Directives? Body?` of an extension -/
theorem tr_extDirs (n : Nat) (k0 : Kind) (body : PI Unit) (L : List Tok → List Elem → Prop)
    (hb : Tr NoE (KindP (· == k0)) body (fun _ => L)) (meets : Bool) {H : List Tok → Prop} :
    Tr NoE H (extDirs n (extBodyK k0 body) meets)
      (fun _ cs e => ∃ (ds : List Ast.Directive) (c1 c2 : List Tok) (td e2 : List Elem), cs = c1 ++ c2 ∧ e = td ++ e2 ∧
        TokIs c1 (Ast.tDirectives ds) ∧ dirsOk true ds ∧ OptDirs ds td ∧ (L c2 e2 ∨ (c2 = [] ∧ e2 = []))) := by
  unfold extDirs
  have hd : Tr NoE (KindP (· == .at)) (directives n true) _ := (tr_directives n true).atKind
  refine (tr_optKind2 early_false .at (directives n true) _ _ _ _ hd (tr_extBodyK k0 body L hb true) (tr_extBodyK k0 body L hb meets)).mono
    (fun _ h => h) ?_
  rintro _ cs e ⟨c1, c2, e1, e2, rfl, rfl, h1, h2⟩
  rcases h1 with ⟨ds, ed, hd1, hd2, rfl, hd4⟩ | ⟨rfl, rfl⟩
  · exact ⟨ds, c1, c2, [ed], e2, rfl, rfl, hd1, hd2, Or.inr ⟨ed, rfl, hd4⟩, h2⟩
  · exact ⟨[], [], c2, [], e2, rfl, rfl, TokIs.nil, (by intro d hd; cases hd), Or.inl ⟨rfl, rfl⟩, h2⟩

theorem hd_ext (sk1 sk2 : SK) (d1 d2 : Str) : Hd none [Elem.tok sk1 d1, Elem.tok sk2 d2] :=
  ⟨[], _, rfl, Or.inl ⟨rfl, rfl⟩, FromCst.allToks_cons _ _ (FromCst.allToks_cons _ _ FromCst.allToks_nil)⟩

theorem kwE_toks (w : String) (t1 t2 : Tok) (h1 : t1.data = "extend".toList) (k1 : t1.kind = .name) (h2 : t2.data = w.toList)
    (k2 : t2.kind = .name) : TokIs [t1, t2] (kwE w) := by
  refine TokIs.cons (t := t1) ?_ (TokIs.single t2 _ ?_)
  · rw [show astOfV t1 = some (.name t1.data) from by simp [astOfV, k1], h1]
  · rw [show astOfV t2 = some (.name t2.data) from by simp [astOfV, k2], h2]

/-! ### scalar extension -/

theorem tr_scalarTypeExtension (n : Nat) :
    Tr NoE (Ext2 "extend" "scalar") (scalarTypeExtension n)
      (fun _ cs e => ∃ (nm : Ast.Str) (ds : List Ast.Directive) (ed : Elem), TokIs cs (LooseDef.toks (.scalarExt nm ds)) ∧
        Ast.wfDirs ds = true ∧ e = [ed] ∧ NamedDefTree (.scalarExt nm ds) ed) := by
  rw [scalarTypeExtension_eq]
  have hd : Tr NoE (KindP (· == .at)) (directives n true) _ := (tr_directives n true).atKind
  have ht := tr_bind early_false (tr_nameOrErr (E := NoE) (H := fun _ => True))
    (fun _ => tr_ifKind (E := NoE) (H := fun _ => True) .at _ _ _ hd tr_err)
  unfold scalarExtTail
  refine (tr_withNodeL early_false "SCALAR_TYPE_EXTENSION" (fun q hl hq => ext2_sig kwWord_extend q ⟨hl, hq⟩)
    (tr_bump2 "extend" "scalar" kwWord_extend kwWord_scalar "extend_KW" "scalar_KW" (by decide) (by decide) _ _ ht)).mono (fun _ h => h) ?_
  rintro _ cs e ⟨inner, rfl, t1, t2, c2, e2, a1, a2, b1, b2, rfl, hin, _, c3, c4, e3, e4, rfl, rfl, ⟨tn, hkn, hvn, rfl, rfl⟩,
    ds, ed, hd1, hd2, rfl, hd4⟩
  refine ⟨tn.data, ds, _, ?_, dirsOk_wf true ds hd2, rfl, inner, _, [ed], rfl, hvn, hd_ext _ _ t1.data t2.data,
    Or.inr ⟨ed, rfl, hd4⟩, by rw [hin]; rfl⟩
  have := (kwE_toks "scalar" t1 t2 a1 a2 b1 b2).append (TokIs.cons (t := tn) (x := .name tn.data) (by simp [astOfV, hkn]) hd1)
  simpa [LooseDef.toks] using this

/-! ### union, enum, input object extensions -/

theorem tr_nameDirsBodyExt (n : Nat) (k0 : Kind) (body : PI Unit) (L : List Tok → List Elem → Prop)
    (hb : Tr NoE (KindP (· == k0)) body (fun _ => L)) :
    Tr NoE (fun _ => True) (nameDirsBodyExt n k0 body)
      (fun _ cs e => ∃ (tn : Tok) (ds : List Ast.Directive) (c1 c2 : List Tok) (td e2 : List Elem), tn.kind = .name ∧
        isValidName tn.data = true ∧ cs = tn :: (c1 ++ c2) ∧ e = nameNode tn.data :: (td ++ e2) ∧
        TokIs c1 (Ast.tDirectives ds) ∧ dirsOk true ds ∧ OptDirs ds td ∧ (L c2 e2 ∨ (c2 = [] ∧ e2 = []))) := by
  unfold nameDirsBodyExt
  refine (tr_bind early_false (tr_nameOrErr (E := NoE) (H := fun _ => True))
    (fun _ => tr_extDirs n k0 body L hb false (H := fun _ => True))).mono (fun _ h => h) ?_
  rintro _ cs e ⟨_, c1, c2, e1, e2, rfl, rfl, ⟨tn, hkn, hvn, rfl, rfl⟩, ds, c3, c4, td, e4, rfl, rfl, h1, h2, h3, h4⟩
  exact ⟨tn, ds, c3, c4, td, e4, hkn, hvn, rfl, rfl, h1, h2, h3, h4⟩

theorem tr_unionTypeExtension (n : Nat) :
    Tr NoE (Ext2 "extend" "union") (unionTypeExtension n)
      (fun _ cs e => ∃ (nm : Ast.Str) (ds : List Ast.Directive) (ms : SepC) (ed : Elem),
        TokIs cs (LooseDef.toks (.unionExt nm ds ms)) ∧ Ast.wfDirs ds = true ∧ e = [ed] ∧ NamedDefTree (.unionExt nm ds ms) ed) := by
  rw [unionTypeExtension_eq]
  refine (tr_withNodeL early_false "UNION_TYPE_EXTENSION" (fun q hl hq => ext2_sig kwWord_extend q ⟨hl, hq⟩)
    (tr_bump2 "extend" "union" kwWord_extend kwWord_union "extend_KW" "union_KW" (by decide) (by decide) _ _
      (tr_nameDirsBodyExt n .eq _ _ (tr_unionMemberTypes early_false)))).mono (fun _ h => h) ?_
  rintro _ cs e ⟨inner, rfl, t1, t2, c2, e2, a1, a2, b1, b2, rfl, hin, tn, ds, c3, c4, td, e4, hkn, hvn, rfl, rfl, hd1, hd2, hd3, hb⟩
  have hnm : TokIs [tn] [Ast.Tok.name tn.data] := TokIs.single tn _ (by simp [astOfV, hkn])
  rcases hb with ⟨lead, first, rest, en, hm1, rfl, hm3⟩ | ⟨rfl, rfl⟩
  · refine ⟨tn.data, ds, some (lead, first, rest), _, ?_, dirsOk_wf true ds hd2, rfl, inner, _, td, [en], rfl, hvn,
      hd_ext _ _ t1.data t2.data, hd3, Or.inr ⟨en, rfl, hm3⟩, by rw [hin]; rfl⟩
    have := (kwE_toks "union" t1 t2 a1 a2 b1 b2).append (hnm.append (hd1.append hm1))
    simpa [LooseDef.toks, tSepOpt, List.append_assoc] using this
  · refine ⟨tn.data, ds, none, _, ?_, dirsOk_wf true ds hd2, rfl, inner, _, td, [], rfl, hvn,
      hd_ext _ _ t1.data t2.data, hd3, Or.inl ⟨rfl, rfl⟩, by rw [hin]; rfl⟩
    have := (kwE_toks "union" t1 t2 a1 a2 b1 b2).append (hnm.append hd1)
    simpa [LooseDef.toks, tSepOpt, List.append_assoc] using this

theorem tr_enumTypeExtension (n : Nat) :
    Tr NoE (Ext2 "extend" "enum") (enumTypeExtension n)
      (fun _ cs e => ∃ (nm : Ast.Str) (ds : List Ast.Directive) (vs : List Ast.EnumValueDef) (ed : Elem),
        TokIs cs (LooseDef.toks (.enumExt nm ds vs)) ∧ Ast.wfDirs ds = true ∧ Ast.wfEnumValueDefs vs = true ∧
        (∀ v ∈ vs, isValueKeyword v.value = false) ∧ e = [ed] ∧ NamedDefTree (.enumExt nm ds vs) ed) := by
  rw [enumTypeExtension_eq]
  refine (tr_withNodeL early_false "ENUM_TYPE_EXTENSION" (fun q hl hq => ext2_sig kwWord_extend q ⟨hl, hq⟩)
    (tr_bump2 "extend" "enum" kwWord_extend kwWord_enum "extend_KW" "enum_KW" (by decide) (by decide) _ _
      (tr_nameDirsBodyExt n .lCurly _ _ (tr_enumValuesDefinition n)))).mono (fun _ h => h) ?_
  rintro _ cs e ⟨inner, rfl, t1, t2, c2, e2, a1, a2, b1, b2, rfl, hin, tn, ds, c3, c4, td, e4, hkn, hvn, rfl, rfl, hd1, hd2, hd3, hb⟩
  have hnm : TokIs [tn] [Ast.Tok.name tn.data] := TokIs.single tn _ (by simp [astOfV, hkn])
  rcases hb with ⟨vs, ea, hne, hv1, hv2, hv3, rfl, hv5⟩ | ⟨rfl, rfl⟩
  · refine ⟨tn.data, ds, vs, _, ?_, dirsOk_wf true ds hd2, hv2, hv3, rfl, inner, _, td, [ea], rfl, hvn,
      hd_ext _ _ t1.data t2.data, hd3, Or.inr ⟨ea, rfl, hv5⟩, by rw [hin]; rfl⟩
    have hemp : vs.isEmpty = false := by cases vs with | nil => exact absurd rfl hne | cons _ _ => rfl
    have := (kwE_toks "enum" t1 t2 a1 a2 b1 b2).append (hnm.append (hd1.append hv1))
    simpa [LooseDef.toks, Ast.tEnumBody, Ast.tBraced, hemp, List.append_assoc] using this
  · refine ⟨tn.data, ds, [], _, ?_, dirsOk_wf true ds hd2, rfl, (by intro v hv; cases hv), rfl, inner, _, td, [], rfl, hvn,
      hd_ext _ _ t1.data t2.data, hd3, Or.inl ⟨rfl, rfl⟩, by rw [hin]; rfl⟩
    have := (kwE_toks "enum" t1 t2 a1 a2 b1 b2).append (hnm.append hd1)
    simpa [LooseDef.toks, Ast.tEnumBody, Ast.tBraced, Ast.tEnumValueDefItems, List.append_assoc] using this

theorem tr_inputObjectTypeExtension (n : Nat) :
    Tr NoE (Ext2 "extend" "input") (inputObjectTypeExtension n)
      (fun _ cs e => ∃ (nm : Ast.Str) (ds : List Ast.Directive) (fs : List Ast.InputValueDef) (ed : Elem),
        TokIs cs (LooseDef.toks (.inputExt nm ds fs)) ∧ Ast.wfDirs ds = true ∧ Ast.wfIVDs fs = true ∧ e = [ed] ∧
        NamedDefTree (.inputExt nm ds fs) ed) := by
  rw [inputObjectTypeExtension_eq]
  refine (tr_withNodeL early_false "INPUT_OBJECT_TYPE_EXTENSION" (fun q hl hq => ext2_sig kwWord_extend q ⟨hl, hq⟩)
    (tr_bump2 "extend" "input" kwWord_extend kwWord_input "extend_KW" "input_KW" (by decide) (by decide) _ _
      (tr_nameDirsBodyExt n .lCurly _ _ (tr_inputFieldsDefinition n)))).mono (fun _ h => h) ?_
  rintro _ cs e ⟨inner, rfl, t1, t2, c2, e2, a1, a2, b1, b2, rfl, hin, tn, ds, c3, c4, td, e4, hkn, hvn, rfl, rfl, hd1, hd2, hd3, hb⟩
  have hnm : TokIs [tn] [Ast.Tok.name tn.data] := TokIs.single tn _ (by simp [astOfV, hkn])
  rcases hb with hb | ⟨rfl, rfl⟩
  · obtain ⟨vs, ea, hne, hv1, hv2, rfl, hv5⟩ := ivdsR_items hb
    refine ⟨tn.data, ds, vs, _, ?_, dirsOk_wf true ds hd2, hv2, rfl, inner, _, td, [ea], rfl, hvn,
      hd_ext _ _ t1.data t2.data, hd3, Or.inr ⟨ea, rfl, hv5⟩, by rw [hin]; rfl⟩
    have hemp : vs.isEmpty = false := by cases vs with | nil => exact absurd rfl hne | cons _ _ => rfl
    have := (kwE_toks "input" t1 t2 a1 a2 b1 b2).append (hnm.append (hd1.append hv1))
    simpa [LooseDef.toks, Ast.tInputBody, Ast.tBraced, hemp, List.append_assoc] using this
  · refine ⟨tn.data, ds, [], _, ?_, dirsOk_wf true ds hd2, rfl, rfl, inner, _, td, [], rfl, hvn,
      hd_ext _ _ t1.data t2.data, hd3, Or.inl ⟨rfl, rfl⟩, by rw [hin]; rfl⟩
    have := (kwE_toks "input" t1 t2 a1 a2 b1 b2).append (hnm.append hd1)
    simpa [LooseDef.toks, Ast.tInputBody, Ast.tBraced, Ast.tIVDItems, List.append_assoc] using this

/-! ### object, interface extensions -/

theorem tr_extFieldsTail (n : Nat) (meets : Bool) {H : List Tok → Prop} :
    Tr NoE H (extDirs n (extBodyK .lCurly (fieldsDefinition n)) meets) (fun _ => FieldsTailR) := by
  refine (tr_extDirs n .lCurly _ _ (tr_fieldsDefinition n) meets).mono (fun _ h => h) ?_
  rintro _ cs e ⟨ds, c1, c2, td, e2, rfl, rfl, hd1, hd2, hd3, hb⟩
  rcases hb with ⟨fs, ea, hne, hf1, hf2, rfl, hf4⟩ | ⟨rfl, rfl⟩
  · have hemp : fs.isEmpty = false := by cases fs with | nil => exact absurd rfl hne | cons _ _ => rfl
    refine ⟨ds, fs, td, [ea], ?_, dirsOk_wf true ds hd2, hf2, rfl, hd3, Or.inr ⟨ea, rfl, hf4⟩⟩
    have := hd1.append hf1
    simpa [Ast.tBraced, hemp] using this
  · exact ⟨ds, [], td, [], by simpa [Ast.tBraced, Ast.tFieldDefItems] using hd1, dirsOk_wf true ds hd2, rfl, by simp, hd3,
      Or.inl ⟨rfl, rfl⟩⟩

theorem tr_objExtTail (n : Nat) :
    Tr NoE (fun _ => True) (objExtTail n)
      (fun _ cs e => ∃ (tn : Tok) (c2 : List Tok) (e2 : List Elem), tn.kind = .name ∧ isValidName tn.data = true ∧ cs = tn :: c2 ∧
        e = nameNode tn.data :: e2 ∧ ImplR FieldsTailR c2 e2) := by
  unfold objExtTail
  refine (tr_bind early_false (tr_nameOrErr (E := NoE) (H := fun _ => True))
    (fun _ => tr_optImplData _ _ _ (tr_extFieldsTail n true (H := fun _ => True)) (tr_extFieldsTail n false (H := fun _ => True))
      (H := fun _ => True))).mono (fun _ h => h) ?_
  rintro _ cs e ⟨_, c1, c2, e1, e2, rfl, rfl, ⟨tn, hkn, hvn, rfl, rfl⟩, h2⟩
  exact ⟨tn, c2, e2, hkn, hvn, rfl, rfl, h2⟩

theorem tr_objectTypeExtension (n : Nat) :
    Tr NoE (Ext2 "extend" "type") (objectTypeExtension n)
      (fun _ cs e => ∃ (nm : Ast.Str) (impl : SepC) (ds : List Ast.Directive) (fs : List Ast.FieldDef) (ed : Elem),
        TokIs cs (LooseDef.toks (.objectExt nm impl ds fs)) ∧ Ast.wfDirs ds = true ∧ Ast.wfFieldDefs fs = true ∧ e = [ed] ∧
        NamedDefTree (.objectExt nm impl ds fs) ed) := by
  rw [objectTypeExtension_eq]
  refine (tr_withNodeL early_false "OBJECT_TYPE_EXTENSION" (fun q hl hq => ext2_sig kwWord_extend q ⟨hl, hq⟩)
    (tr_bump2 "extend" "type" kwWord_extend kwWord_type "extend_KW" "type_KW" (by decide) (by decide) _ _ (tr_objExtTail n))).mono
    (fun _ h => h) ?_
  rintro _ cs e ⟨inner, rfl, t1, t2, c2, e2, a1, a2, b1, b2, rfl, hin, tn, c3, e3, hkn, hvn, rfl, rfl, himpl⟩
  obtain ⟨impl, ds, fs, h2, h3, h4, h5⟩ := objLike_assemble "OBJECT_TYPE_EXTENSION" none tn _ inner c3 e3 hvn
    (hd_ext "extend_KW" "type_KW" t1.data t2.data) (by rw [hin]; rfl) himpl
  refine ⟨tn.data, impl, ds, fs, _, ?_, h3, h4, rfl, h5⟩
  have := (kwE_toks "type" t1 t2 a1 a2 b1 b2).append ((TokIs.single tn (.name tn.data) (by simp [astOfV, hkn])).append h2)
  simpa [LooseDef.toks, objectLikeToks, List.append_assoc] using this

theorem tr_interfaceTypeExtension (n : Nat) :
    Tr NoE (Ext2 "extend" "interface") (interfaceTypeExtension n)
      (fun _ cs e => ∃ (nm : Ast.Str) (impl : SepC) (ds : List Ast.Directive) (fs : List Ast.FieldDef) (ed : Elem),
        TokIs cs (LooseDef.toks (.interfaceExt nm impl ds fs)) ∧ Ast.wfDirs ds = true ∧ Ast.wfFieldDefs fs = true ∧ e = [ed] ∧
        NamedDefTree (.interfaceExt nm impl ds fs) ed) := by
  rw [interfaceTypeExtension_eq]
  refine (tr_withNodeL early_false "INTERFACE_TYPE_EXTENSION" (fun q hl hq => ext2_sig kwWord_extend q ⟨hl, hq⟩)
    (tr_bump2 "extend" "interface" kwWord_extend kwWord_interface "extend_KW" "interface_KW" (by decide) (by decide) _ _
      (tr_objExtTail n))).mono (fun _ h => h) ?_
  rintro _ cs e ⟨inner, rfl, t1, t2, c2, e2, a1, a2, b1, b2, rfl, hin, tn, c3, e3, hkn, hvn, rfl, rfl, himpl⟩
  obtain ⟨impl, ds, fs, h2, h3, h4, h5⟩ := objLike_assemble "INTERFACE_TYPE_EXTENSION" none tn _ inner c3 e3 hvn
    (hd_ext "extend_KW" "interface_KW" t1.data t2.data) (by rw [hin]; rfl) himpl
  refine ⟨tn.data, impl, ds, fs, _, ?_, h3, h4, rfl, h5⟩
  have := (kwE_toks "interface" t1 t2 a1 a2 b1 b2).append ((TokIs.single tn (.name tn.data) (by simp [astOfV, hkn])).append h2)
  simpa [LooseDef.toks, objectLikeToks, List.append_assoc] using this

end Apollo.Parse
