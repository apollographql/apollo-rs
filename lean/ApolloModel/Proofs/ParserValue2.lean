import ApolloModel.Proofs.ParserValue1
/-
C05, values: `value.rs` cut into named pieces, and `Good` for all of them and for
`argument.rs` / `directive.rs`.
-/
set_option linter.unusedSimpArgs false
namespace Apollo.Parse
open Apollo.Rowan hiding Str
open Apollo.Lex hiding Str

def nameValueBranch (o : Option Tok) : PI Unit :=
  match o with
  | some t =>
    if kw "true" t.data then withNode "BOOLEAN_VALUE" (bump "true_KW")
    else if kw "false" t.data then withNode "BOOLEAN_VALUE" (bump "false_KW")
    else if kw "null" t.data then withNode "NULL_VALUE" (bump "null_KW")
    else enumValue
  | none => pure ()

def valueErr (popOnError : Bool) : PI Unit := if popOnError then errAndPop else err

def variableBranch (isConst popOnError : Bool) : PI Unit :=
  if isConst then valueErr popOnError >>= fun _ => variableNode else variableNode

def valueBranch (n : Nat) (isConst popOnError : Bool) (k : Option Kind) : PI Unit :=
  match k with
  | some .dollar => variableBranch isConst popOnError
  | some .int => withNode "INT_VALUE" (bump "INT")
  | some .float => withNode "FLOAT_VALUE" (bump "FLOAT")
  | some .stringValue => withNode "STRING_VALUE" (bump "STRING")
  | some .name => peekToken >>= nameValueBranch
  | some .lBracket => listValue n isConst
  | some .lCurly => objectValue n isConst
  | _ => valueErr popOnError

theorem value_succ (n : Nat) (isConst popOnError : Bool) :
    value (n + 1) isConst popOnError = peek >>= valueBranch n isConst popOnError := by
  rw [value]; rfl

def listLoopBody (n : Nat) (isConst : Bool) (node : Kind) : PI Bool :=
  if node == .rBracket then (bump "R_BRACK" >>= fun _ => pure false)
  else if node == .eof then pure false
  else withRec (limitErr >>= fun _ => pure false) (value n isConst true >>= fun _ => pure true)

theorem listValue_succ (n : Nat) (isConst : Bool) :
    listValue (n + 1) isConst = withNode "LIST_VALUE" (bump "L_BRACK" >>= fun _ => peekWhile (listLoopBody n isConst)) := by
  rw [listValue]; rfl

def objectFieldTail (n : Nat) (isConst : Bool) (k : Option Kind) : PI Unit :=
  if k == some .colon then (bump "COLON" >>= fun _ => withRec limitErr (value n isConst true)) else err

theorem objectField_succ (n : Nat) (isConst : Bool) :
    objectField (n + 1) isConst = withNode "OBJECT_FIELD" (name >>= fun _ => peek >>= objectFieldTail n isConst) := by
  rw [objectField]; rfl

theorem objectValue_succ (n : Nat) (isConst : Bool) :
    objectValue (n + 1) isConst = withNode "OBJECT_VALUE" (bump "L_CURLY" >>= fun _ =>
      peekWhileKind .name (objectField n isConst) >>= fun _ => expect .rCurly "R_CURLY") := by
  first | rfl | (rw [objectValue]; try rfl)

def argumentTail (n : Nat) (isConst : Bool) (k : Option Kind) : PI Unit :=
  if k == some .colon then (bump "COLON" >>= fun _ => value n isConst false) else err

theorem argument_eq (n : Nat) (isConst : Bool) :
    argument n isConst = withNode "ARGUMENT" (name >>= fun _ => peek >>= argumentTail n isConst) := rfl

def argumentsRest (n : Nat) (isConst : Bool) : PI Unit :=
  peekWhileKind .name (argument n isConst) >>= fun _ => expect .rParen "R_PAREN"

def argumentsFirst (n : Nat) (isConst : Bool) (k : Option Kind) : PI Unit :=
  if k == some .name then (argument n isConst >>= fun _ => argumentsRest n isConst)
  else (err >>= fun _ => argumentsRest n isConst)

theorem arguments_eq (n : Nat) (isConst : Bool) :
    arguments n isConst = withNode "ARGUMENTS" (bump "L_PAREN" >>= fun _ => peek >>= argumentsFirst n isConst) := rfl

def directiveTail (n : Nat) (isConst : Bool) (k : Option Kind) : PI Unit :=
  if k == some .lParen then arguments n isConst else pure ()

theorem directive_eq (n : Nat) (isConst : Bool) :
    directive n isConst = withNode "DIRECTIVE" (expect .at "AT" >>= fun _ => name >>= fun _ => peek >>= directiveTail n isConst) := rfl

/-! ### `Good` -/

theorem good_valueErr (p : Bool) : Good (valueErr p) := good_ite _ _ _ good_errAndPop good_err

theorem good_nameValueBranch (o : Option Tok) : Good (nameValueBranch o) := by
  cases o with
  | none => exact good_pure _
  | some t =>
    exact good_ite _ _ _ (good_withNode _ _ (good_bump _)) (good_ite _ _ _ (good_withNode _ _ (good_bump _))
      (good_ite _ _ _ (good_withNode _ _ (good_bump _)) good_enumValue))

theorem good_variableBranch (c p : Bool) : Good (variableBranch c p) :=
  good_ite _ _ _ (good_bind _ _ (good_valueErr p) (fun _ => good_variableNode)) good_variableNode

structure GoodAll (n : Nat) : Prop where
  value : ∀ c p, Good (value n c p)
  list : ∀ c, Good (listValue n c)
  obj : ∀ c, Good (objectValue n c)
  field : ∀ c, Good (objectField n c)

theorem good_listLoopBody (n : Nat) (c : Bool) (ih : GoodAll n) (k : Kind) : Good (listLoopBody n c k) :=
  good_ite _ _ _ (good_bind _ _ (good_bump _) (fun _ => good_pure _))
    (good_ite _ _ _ (good_pure _)
      (good_withRec _ _ (good_bind _ _ good_limitErr (fun _ => good_pure _)) (good_bind _ _ (ih.value c true) (fun _ => good_pure _))))

theorem good_objectFieldTail (n : Nat) (c : Bool) (ih : GoodAll n) (k : Option Kind) : Good (objectFieldTail n c k) :=
  good_ite _ _ _ (good_bind _ _ (good_bump _) (fun _ => good_withRec _ _ good_limitErr (ih.value c true))) good_err

theorem goodAll : ∀ n, GoodAll n
  | 0 => ⟨fun _ _ => by simp only [value]; exact good_outOfFuel, fun _ => by simp only [listValue]; exact good_outOfFuel,
      fun _ => by simp only [objectValue]; exact good_outOfFuel, fun _ => by simp only [objectField]; exact good_outOfFuel⟩
  | n + 1 => by
    have ih := goodAll n
    refine ⟨?_, ?_, ?_, ?_⟩
    · intro c p
      rw [value_succ]
      refine good_bind _ _ good_peek ?_
      intro k
      cases k with
      | none => exact good_valueErr p
      | some k =>
        cases k <;> first
          | exact good_valueErr p
          | exact good_variableBranch c p
          | exact good_withNode _ _ (good_bump _)
          | exact good_bind _ _ good_peekToken good_nameValueBranch
          | exact ih.list c
          | exact ih.obj c
    · intro c
      rw [listValue_succ]
      exact good_withNode _ _ (good_bind _ _ (good_bump _) (fun _ => good_peekWhile _ (good_listLoopBody n c ih)))
    · intro c
      rw [objectValue_succ]
      exact good_withNode _ _ (good_bind _ _ (good_bump _) (fun _ => good_bind _ _
        (good_peekWhileKind _ _ (ih.field c)) (fun _ => good_expect _ _)))
    · intro c
      rw [objectField_succ]
      exact good_withNode _ _ (good_bind _ _ good_name (fun _ => good_bind _ _ good_peek (good_objectFieldTail n c ih)))

theorem good_value (n : Nat) (c p : Bool) : Good (value n c p) := (goodAll n).value c p

theorem good_argumentTail (n : Nat) (c : Bool) (k : Option Kind) : Good (argumentTail n c k) :=
  good_ite _ _ _ (good_bind _ _ (good_bump _) (fun _ => good_value n c false)) good_err

theorem good_argument (n : Nat) (c : Bool) : Good (argument n c) := by
  rw [argument_eq]
  exact good_withNode _ _ (good_bind _ _ good_name (fun _ => good_bind _ _ good_peek (good_argumentTail n c)))

theorem good_argumentsRest (n : Nat) (c : Bool) : Good (argumentsRest n c) :=
  good_bind _ _ (good_peekWhileKind _ _ (good_argument n c)) (fun _ => good_expect _ _)

theorem good_arguments (n : Nat) (c : Bool) : Good (arguments n c) := by
  rw [arguments_eq]
  refine good_withNode _ _ (good_bind _ _ (good_bump _) (fun _ => good_bind _ _ good_peek (fun k => ?_)))
  exact good_ite _ _ _ (good_bind _ _ (good_argument n c) (fun _ => good_argumentsRest n c))
    (good_bind _ _ good_err (fun _ => good_argumentsRest n c))

theorem good_directive (n : Nat) (c : Bool) : Good (directive n c) := by
  rw [directive_eq]
  exact good_withNode _ _ (good_bind _ _ (good_expect _ _) (fun _ => good_bind _ _ good_name (fun _ => good_bind _ _ good_peek
    (fun k => good_ite _ _ _ (good_arguments n c) (good_pure _)))))

theorem good_directives (n : Nat) (c : Bool) : Good (directives n c) :=
  good_withNode _ _ (good_peekWhileKind _ _ (good_directive n c))

end Apollo.Parse
