import ApolloModel.Proofs.ParserTree17
import ApolloModel.Proofs.ParserComplete16
import ApolloModel.Proofs.ParserSel7
/-
C08 (pipeline): `Parser::parse_selection_set` — the entry point `selection::field_set`, the root handed out by
`finish_standalone`, `convert_selection_set` on it, and the agreement with the reference parser.
-/
set_option linter.unusedSimpArgs false
set_option linter.unusedVariables false

namespace Apollo.FromCst
open Apollo.Rowan Apollo.Ast
open Apollo.Parse (isJunk isJunkKind sigE nameNode)

variable {R : List Loc}

/-- the root of `Parser::parse_selection_set`: `SELECTION_SET[{ Selection+ }]` or, brace-less, `SELECTION_SET[Selection+]` -/
inductive FieldSetNode : Sels → Elem → Prop
  | braced (sels : Sels) (es : Elem) : SelSetNode sels es → FieldSetNode sels es
  | bare (sels : Sels) (cs : List Elem) : SelsTree sels (sigE cs) → FieldSetNode sels (.node "SELECTION_SET" cs)

theorem FieldSetNode.kind {sels : Sels} {e : Elem} (h : FieldSetNode sels e) : ∃ cs, e = .node "SELECTION_SET" cs := by
  match h with
  | .braced _ _ hss => cases hss with | mk _ cs _ _ _ _ _ => exact ⟨cs, rfl⟩
  | .bare _ cs _ => exact ⟨cs, rfl⟩

/-- `convert_selection_set` on the root of a field set -/
theorem fieldSet_collect (n : Nat) (sels : Sels) (root : Elem) (h : FieldSetNode sels root) (hs : size root ≤ n + 1)
    (R : List Loc) (s : Nat) (hp : ∀ x ∈ nameRanges root s, x ∈ R) :
    ∃ l, collectM (cSelection n) (childrenP isSelectionKind (⟨(root, s), hp⟩ : PE R)) = some (selsToList sels, l) := by
  match root, h, hs, hp with
  | root, .braced _ _ hss, hs, hp => exact selSet_collect n sels root hss (fun es h1 h2 => cSels_selsTree n sels es h1 h2) hs R s hp
  | _, .bare _ cs hes, hs, hp =>
    have hfilter : cs.filter (nodeP isSelectionKind) = sigE cs := by rw [filter_nodeP_sigE]; exact hes.filter
    have hmap := childrenP_map (R := R) isSelectionKind "SELECTION_SET" cs s hp
    rw [hfilter] at hmap
    have hsz : sizeList (sigE cs) ≤ n := by
      have := sizeList_sigE_le cs
      simp only [size] at hs
      omega
    exact collectM_conv (R := R) (fun R => @cSelection R n) _ (sigE cs) (selsToList sels) hmap
      (cSels_selsTree n sels _ hes hsz)

end Apollo.FromCst

namespace Apollo.Parse
open Apollo.Rowan hiding Str
open Apollo.Lex hiding Str
open Apollo.FromCst (SelTree SelSetNode SelsTree FieldSetNode selsToList)

def FieldSetR (cs : List Tok) (e : List Elem) : Prop :=
  ∃ (sels : Ast.Sels) (es : Elem), sels ≠ .nil ∧ Ast.wfSels sels = true ∧
    (TokIs cs (.p .lCurly :: Ast.tSels sels ++ [.p .rCurly]) ∨ TokIs cs (Ast.tSels sels)) ∧ e = [es] ∧ FieldSetNode sels es

theorem tr_limitErr {E : PState → Prop} {H : List Tok → Prop} {R : Unit → List Tok → List Elem → Prop} : Tr E H limitErr R := by
  apply tr_never
  refine ⟨good_limitErr, ?_⟩
  intro s a s' w he _ hr hnd
  exfalso
  obtain ⟨ad, d⟩ := limitErr_adv s s' w hr
  have hnds : ¬ Doomed s := fun dd => hnd (ad.doom dd)
  exact hnd (d (eofEnd_nonempty s he hnds))

/-- **selection.rs `field_set`** -/
theorem tr_fieldSet (n : Nat) : Tr NoE (fun _ => True) (fieldSet n) (fun _ => FieldSetR) := by
  unfold fieldSet
  refine tr_ifKind .lCurly _ _ _ ?_ ?_
  · refine (tr_selSet n).mono (fun _ => kindP_headK) ?_
    rintro _ cs e ⟨sels, es, hne, hwf, h1, rfl, h3⟩
    exact ⟨sels, es, hne, hwf, Or.inl h1, rfl, .braced sels es h3⟩
  · have hsel : Tr NoE (fun _ => True) (selection n) (fun _ => SelsR) := (selAll n).sel
    refine (tr_withNodeAny early_false "SELECTION_SET" (tr_withRec early_false tr_limitErr hsel)).mono (fun _ _ => trivial) ?_
    rintro _ cs e ⟨inner, rfl, sels, hne, hwf, h1, h2⟩
    exact ⟨sels, _, hne, hwf, Or.inr h1, rfl, .bare sels inner h2⟩

theorem peek_pending (s sP : PState) (k : Option Kind) (hp : peek.run s = .ok k sP) (hnd : ¬ Doomed sP) :
    sP.pending = s.pending := by
  unfold peek at hp
  obtain ⟨o', sQ, hq, hq2⟩ := bind_dec peekToken _ s sP _ hp
  rw [run_pure] at hq2
  injection hq2 with _ hq3
  subst hq3
  exact peekToken_pending s sQ o' hq hnd

theorem fieldSet_exact (n : Nat) (s s' : PState) (st : St s) (hpend : s.pending = [])
    (h : (fieldSet n).run s = .ok () s') (hnd : ¬ Doomed s') :
    ∃ l : List Elem, l.length ≤ 1 ∧ s'.builder.children = s.builder.children ++ l := by
  have hnds : ¬ Doomed s := fun d => hnd ((good_fieldSet n s () s' st.w h).doom d)
  unfold fieldSet at h
  obtain ⟨k, sP, hp, h2⟩ := bind_dec peek _ s s' _ h
  obtain ⟨o, p, hk⟩ := peek_obs s sP k st.w hp
  have hiP := (run_inv_added peek s st.inv _ sP hp).1
  have hbP : sP.builder = s.builder := keeps_peek s _ sP hp
  have hndP : ¬ Doomed sP := fun d => hnds (p.doom.mp d)
  have hpP : sP.pending = [] := by rw [peek_pending s sP k hp hndP, hpend]
  by_cases hkc : (k == some Kind.lCurly) = true
  · simp only [hkc, if_true] at h2
    cases n with
    | zero => simp [selectionSet, PI.outOfFuel] at h2
    | succ m =>
      rw [selectionSet_succ] at h2
      obtain ⟨k2, sP2, hp2, h3⟩ := bind_dec peek _ sP s' _ h2
      obtain ⟨o2, p2, hk2⟩ := peek_obs sP sP2 k2 p.w hp2
      have hiP2 := (run_inv_added peek sP hiP _ sP2 hp2).1
      have hbP2 : sP2.builder = sP.builder := keeps_peek sP _ sP2 hp2
      have hndP2 : ¬ Doomed sP2 := fun d => hndP (p2.doom.mp d)
      have hpP2 : sP2.pending = [] := by rw [peek_pending sP sP2 k2 hp2 hndP2, hpP]
      by_cases hkc2 : (k2 == some Kind.lCurly) = true
      · simp only [hkc2, if_true] at h3
        obtain ⟨inner, hout⟩ := withNode_exact _ _ sP2 hiP2 _ s' h3
        exact ⟨[Elem.node "SELECTION_SET" inner], by simp, by rw [hout, hbP2, hbP, hpP2]; simp⟩
      · simp only [hkc2, Bool.false_eq_true, if_false] at h3
        have h3' : (pure () : PI Unit).run sP2 = .ok () s' := h3
        rw [run_pure] at h3'
        injection h3' with _ h4
        subst h4
        exact ⟨[], by simp, by rw [hbP2, hbP]; simp⟩
  · simp only [hkc, Bool.false_eq_true, if_false] at h2
    obtain ⟨inner, hout⟩ := withNode_exact _ _ sP hiP _ s' h2
    exact ⟨[Elem.node "SELECTION_SET" inner], by simp, by rw [hout, hbP, hpP]; simp⟩

/-- **The tree of an accepted field set.**  If `Parser::parse_selection_set` (model; no token limit, any recursion limit)
    returns a tree and no error, the source lexes cleanly, its significant tokens are `{ Selection+ }` or `Selection+`
    followed by the end of input, for a non-empty well-formed list of selections, and the tree returned IS
    `SELECTION_SET[{ … }]` resp. `SELECTION_SET[…]` with the selections' trees as its only child nodes. -/
theorem parseFieldSet_cst (rl : Nat) (src : Str) (root : Elem)
    (h : (parse .selectionSet none rl src).outcome = .tree root) (herr : (parse .selectionSet none rl src).errors = []) :
    LexClean src ∧ ∃ (sels : Ast.Sels) (ts : List Tok) (e : Tok), sig (srcToks src) = ts ++ [e] ∧ e.kind = .eof ∧
      sels ≠ .nil ∧ Ast.wfSels sels = true ∧
      (TokIs ts (.p .lCurly :: Ast.tSels sels ++ [.p .rCurly]) ∨ TokIs ts (Ast.tSels sels)) ∧ FieldSetNode sels root := by
  unfold parse runEntry at h herr
  simp only [Entry.standalone, Entry.grammar] at h herr
  generalize hs0 : ({ initState src none rl with builder := (initState src none rl).builder.startNode "SELECTION_SET" } : PState) = s0 at h herr
  obtain ⟨st0, htoks, hch0, hpa0, hpe0, hdoom⟩ := standalone_st src rl "SELECTION_SET" s0 hs0
  have hinv := st0.inv
  have w0 := st0.w
  have he0 := st0.eof
  cases hr : (fieldSet (fuelFor src) >>= fun _ => expectEndOfInput).run s0 with
  | abort w => simp [hr] at h
  | panic m => simp [hr] at h
  | ok a s =>
    simp only [hr] at h herr
    obtain ⟨_, s1, hfs, hend⟩ := bind_dec (fieldSet (fuelFor src)) _ s0 s () hr
    have a1 := good_fieldSet (fuelFor src) s0 () s1 w0 hfs
    have a2 := good_expectEndOfInput s1 () s a1.w hend
    obtain ⟨hi1, _⟩ := PI.run_ok _ s0 hinv _ s1 hfs
    have hex := expectEndOfInput_exhausted s1 s hi1 a1.w.limit hend herr
    have hnd : ¬ Doomed s := by
      rintro (hd | hd)
      · exact hd herr
      · rw [hasErr_src_nil s.lx a2.w.limit hex.2] at hd; cases hd
    have hnd1 : ¬ Doomed s1 := fun d => hnd (a2.doom d)
    have hnd0 : ¬ Doomed s0 := fun d => hnd1 (a1.doom d)
    have hclean : LexClean src := by
      by_cases hc : LexClean src
      · exact hc
      · exact absurd (hdoom.mpr hc) hnd0
    refine ⟨hclean, ?_⟩
    have hbs : s.builder = s1.builder := keeps_expectEndOfInput s1 () s hend
    obtain ⟨st1, cs, added, tc, nc, ec, bc, rc⟩ := St.step (tr_fieldSet (fuelFor src)) st0 trivial hfs hnd1
    rcases rc with ⟨sels, es, hne, hwf, htok, hsig, hnode⟩ | f
    · obtain ⟨l, hl1, hl2⟩ := fieldSet_exact _ s0 s1 st0 hpe0 hfs hnd1
      have hadd : added = l := by
        rw [hl2] at bc
        exact (List.append_cancel_left bc).symm
      have hl : l = [es] := by
        rw [hadd] at hsig
        cases l with
        | nil => simp [sigE] at hsig
        | cons x l' =>
          cases l' with
          | nil =>
            have hx : x = es := sigE_singleton_eq (junk := []) rfl (by simpa using hsig)
            rw [hx]
          | cons y l'' => simp at hl1
      have hchild : s.builder.children = [es] := by rw [hbs, hl2, hch0, hl]; rfl
      have hpar : s.builder.parents = [("SELECTION_SET", 0)] := by
        have hf := (fieldSet (fuelFor src) >>= fun _ => expectEndOfInput).ok s0 hinv
        simp only [hr, Post] at hf
        rw [hf.2.parents, hpa0]
      obtain ⟨cs', rfl⟩ := hnode.kind
      have hroot : finishStandalone s.builder ["SELECTION_SET"] = some (Elem.node "SELECTION_SET" cs') := by
        simp only [finishStandalone, Builder.finishNode, hpar, hchild, List.take_zero, List.nil_append, List.drop_zero,
          Builder.finish, List.mem_singleton, if_true]
      rw [hroot] at h
      simp only [Outcome.tree.injEq] at h
      subst h
      obtain ⟨ign, ee, hrest, hall, hek⟩ := expectEnd_eof s1 s a1.w ec hend hnd
      refine ⟨sels, sig cs, ee, ?_, hek, hne, hwf, htok, hnode⟩
      rw [← htoks, tc, hrest, sig_append, sig_append, sig_ignored ign hall]
      have : sig [ee] = [ee] := sig_single ee (by rw [hek]; rfl)
      rw [this]; simp
    · exact absurd f id

theorem tSels_head_ne_lCurly (ss : Ast.Sels) (r : List Ast.Tok) : Ast.tSels ss ≠ .p .lCurly :: r := by
  cases ss with
  | nil => simp [Ast.tSels]
  | cons s tl =>
    cases s with
    | field alias name args dirs sels => cases alias <;> simp [Ast.tSels, Ast.tSel]
    | spread name dirs => simp [Ast.tSels, Ast.tSel]
    | inline tc dirs sels => cases tc <;> simp [Ast.tSels, Ast.tSel]

theorem tSels_injective {a b : Ast.Sels} (ha : a ≠ .nil) (hb : b ≠ .nil) (hwa : Ast.wfSels a = true) (hwb : Ast.wfSels b = true)
    (h : Ast.tSels a = Ast.tSels b) : a = b := by
  have h1 := Ast.selsNE_roundtrip a (max (Ast.szSels a) (Ast.szSels b)) [] ha hwa (Nat.le_max_left _ _)
  have h2 := Ast.selsNE_roundtrip b (max (Ast.szSels a) (Ast.szSels b)) [] hb hwb (Nat.le_max_right _ _)
  rw [h] at h1
  rw [h1] at h2
  simpa using h2

/-- **stage (iii), entry point**: for an accepted field set, `convert_selection_set` on the tree of
    `Parser::parse_selection_set` and the reference parser on the significant tokens (in braces) return the same selections -/
theorem parseFieldSet_fromCst_agrees (rl : Nat) (src : Str) (root : Elem)
    (h : (parse .selectionSet none rl src).outcome = .tree root) (herr : (parse .selectionSet none rl src).errors = []) :
    ∃ (sels : Ast.Sels) (ts : List Tok) (e : Tok) (x : List Ast.Tok), sig (srcToks src) = ts ++ [e] ∧ e.kind = .eof ∧ TokIs ts x ∧
      sels ≠ .nil ∧ (x = .p .lCurly :: Ast.tSels sels ++ [.p .rCurly] ∨ x = Ast.tSels sels) ∧ FieldSetNode sels root ∧
      (∀ (R : List FromCst.Loc) (s : Nat) (hp : ∀ y ∈ nameRanges root s, y ∈ R),
        ∃ l, FromCst.collectM (FromCst.cSelection (FromCst.size root))
          (FromCst.childrenP FromCst.isSelectionKind (⟨(root, s), hp⟩ : FromCst.PE R)) = some (selsToList sels, l)) ∧
      Ast.pSelectionSet (Ast.szSels sels) (.p .lCurly :: Ast.tSels sels ++ [.p .rCurly]) = some (sels, []) := by
  obtain ⟨_, sels, ts, e, h1, h2, hne, hwf, h3, h4⟩ := parseFieldSet_cst rl src root h herr
  have hconv := FromCst.fieldSet_collect (FromCst.size root) sels root h4 (Nat.le_succ _)
  have href : Ast.pSelectionSet (Ast.szSels sels) (.p .lCurly :: Ast.tSels sels ++ [.p .rCurly]) = some (sels, []) := by
    simpa [Ast.pSelectionSet] using Ast.selsNE_roundtrip sels _ [] hne hwf (Nat.le_refl _)
  rcases h3 with h3 | h3
  · exact ⟨sels, ts, e, _, h1, h2, h3, hne, Or.inl rfl, h4, hconv, href⟩
  · exact ⟨sels, ts, e, _, h1, h2, h3, hne, Or.inr rfl, h4, hconv, href⟩

/-- C08, selection sets: whenever the significant tokens of a cleanly lexing source spell a non-empty
    well-formed list of selections `ss` — in braces (no ignored token in front) or brace-less — within the recursion
    limit, `Parser::parse_selection_set` accepts and `convert_selection_set` on its tree returns `ss` itself -/
theorem pipeline_print_parse_fieldset (rl : Nat) (src : Str) (ss : Ast.Sels) (ts : List Tok) (e : Tok)
    (hclean : LexClean src) (hsig : sig (srcToks src) = ts ++ [e]) (he : e.kind = .eof)
    (hne : ss ≠ Ast.Sels.nil) (hwf : Ast.wfSels ss = true) (hb : 1 ≤ rl) (hfit : fitSels ss (rl - 1))
    (hx : (TokIs ts (.p .lCurly :: Ast.tSels ss ++ [.p .rCurly]) ∧ HeadSig (srcToks src)) ∨ TokIs ts (Ast.tSels ss)) :
    (parse .selectionSet none rl src).errors = [] ∧
    ∃ root, (parse .selectionSet none rl src).outcome = .tree root ∧ FieldSetNode ss root ∧
      ∀ (R : List FromCst.Loc) (s : Nat) (hp : ∀ y ∈ nameRanges root s, y ∈ R),
        ∃ l, FromCst.collectM (FromCst.cSelection (FromCst.size root))
          (FromCst.childrenP FromCst.isSelectionKind (⟨(root, s), hp⟩ : FromCst.PE R)) = some (selsToList ss, l) := by
  have herr := parseFieldSet_complete_full rl src ss ts e hclean hsig he hne hb hfit hx
  obtain ⟨root, hroot⟩ := parseFieldSet_tree none rl src
  obtain ⟨_, sels, ts', e', h1, h2, hne', hwf', h3, h4⟩ := parseFieldSet_cst rl src root hroot herr
  have hts : ts' = ts := by
    have h := hsig.symm.trans h1
    have hl := congrArg List.length h
    simp at hl
    exact ((List.append_inj h hl).1).symm
  subst hts
  have hx' : TokIs ts' (.p .lCurly :: Ast.tSels ss ++ [.p .rCurly]) ∨ TokIs ts' (Ast.tSels ss) := by
    rcases hx with ⟨hx, _⟩ | hx
    · exact Or.inl hx
    · exact Or.inr hx
  have heq : sels = ss := by
    rcases h3 with h3 | h3 <;> rcases hx' with hx' | hx'
    · unfold TokIs at h3 hx'
      rw [h3] at hx'
      have := map_some_inj hx'
      simp only [List.cons_append, List.cons.injEq, true_and] at this
      exact tSels_injective hne' hne hwf' hwf (List.append_cancel_right this)
    · exfalso
      unfold TokIs at h3 hx'
      rw [h3] at hx'
      have := map_some_inj hx'
      exact tSels_head_ne_lCurly ss _ this.symm
    · exfalso
      unfold TokIs at h3 hx'
      rw [h3] at hx'
      have := map_some_inj hx'
      exact tSels_head_ne_lCurly sels _ this
    · unfold TokIs at h3 hx'
      rw [h3] at hx'
      exact tSels_injective hne' hne hwf' hwf (map_some_inj hx')
  subst heq
  exact ⟨herr, root, hroot, h4, FromCst.fieldSet_collect (FromCst.size root) sels root h4 (Nat.le_succ _)⟩

end Apollo.Parse
