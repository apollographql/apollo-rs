import ApolloModel.Proofs.ParserComplete28
/-
C08 / C05: the printed document in the completeness language.  `itemsOfDocument` turns a document of the
abstract syntax into the `DocItem`s of `document_accept_complete` (the inverse of `strictItems`), and the two side
conditions of the completeness theorem that do not depend on the recursion limit are proved for it: `strictItems`
gives the document back, and `DocFollowOk` holds (the next definition always starts with a description or a keyword).
-/
set_option linter.unusedSimpArgs false
namespace Apollo.Parse
open Apollo.Rowan hiding Str
open Apollo.Lex hiding Str

/-- a separated list of the abstract syntax, written without the leading separator -/
def sepOf : List Ast.Str → SepC
  | [] => none
  | a :: r => some (false, a, r)

theorem sepLead_sepOf (l : List Ast.Str) : sepLead (sepOf l) = false := by cases l <;> rfl
theorem sepNames_sepOf (l : List Ast.Str) : sepNames (sepOf l) = l := by cases l <;> rfl
theorem sepOf_ne_none {l : List Ast.Str} (h : l ≠ []) : sepOf l ≠ none := by
  cases l with
  | nil => exact absurd rfl h
  | cons a r => intro h'; cases h'

def looseRoots (roots : List (Ast.OpType × Ast.Str)) : List (Ast.OpType × Option Ast.Str) := roots.map fun r => (r.1, some r.2)

theorem fullRoots_looseRoots : ∀ roots : List (Ast.OpType × Ast.Str), fullRoots (looseRoots roots) = some roots
  | [] => rfl
  | (op, nm) :: r => by
    have ih := fullRoots_looseRoots r
    simp only [looseRoots, List.map_cons] at ih ⊢
    simp only [fullRoots, ih, Option.map_some]

theorem looseRoots_named (roots : List (Ast.OpType × Ast.Str)) : ∀ r ∈ looseRoots roots, r.2 ≠ none := by
  intro r hr
  obtain ⟨x, _, rfl⟩ := List.mem_map.mp hr
  intro h; cases h

/-- **one definition of the abstract syntax as an item of the completeness language**: operations and fragments as they
    are (`oe`: the shorthand form when it applies), a type-system definition or extension as the strict `LooseDef`
    (no leading separator, every root operation type with its named type) -/
def itemOfDef (oe : Bool) : Ast.Definition → DocItem
  | .operation ty name vars dirs sels => .exec oe (.operation ty name vars dirs sels)
  | .fragment name tc dirs sels => .exec oe (.fragment name tc dirs sels)
  | .directiveDef desc nm args rep [] => .loose (.directive desc nm args rep false [] [])
  | .directiveDef desc nm args rep (f :: r) => .loose (.directive desc nm args rep false f r)
  | .schemaDef desc ds roots => .loose (.schema desc ds (looseRoots roots))
  | .scalarDef desc nm ds => .loose (.scalar desc nm ds)
  | .objectDef desc nm impls ds fs => .loose (.object desc nm (sepOf impls) ds fs)
  | .interfaceDef desc nm impls ds fs => .loose (.interface desc nm (sepOf impls) ds fs)
  | .unionDef desc nm ds ms => .loose (.union desc nm ds (sepOf ms))
  | .enumDef desc nm ds vs => .loose (.enum desc nm ds vs)
  | .inputDef desc nm ds fs => .loose (.input desc nm ds fs)
  | .schemaExt ds roots => .loose (.schemaExt ds (looseRoots roots))
  | .scalarExt nm ds => .loose (.scalarExt nm ds)
  | .objectExt nm impls ds fs => .loose (.objectExt nm (sepOf impls) ds fs)
  | .interfaceExt nm impls ds fs => .loose (.interfaceExt nm (sepOf impls) ds fs)
  | .unionExt nm ds ms => .loose (.unionExt nm ds (sepOf ms))
  | .enumExt nm ds vs => .loose (.enumExt nm ds vs)
  | .inputExt nm ds fs => .loose (.inputExt nm ds fs)

/-- the `output_empty` flag is kept on operations and fragments (`DocItem.exec` carries it); the tokens of a type-system
    definition do not depend on it (`tDefinition_flag`) -/
def itemFlag (oe : Bool) : Ast.Definition → Bool
  | .operation .. => oe
  | .fragment .. => oe
  | _ => false

theorem itemFlag_false (d : Ast.Definition) : itemFlag false d = false := by cases d <;> rfl

theorem tDefinition_flag (oe : Bool) (d : Ast.Definition) : Ast.tDefinition (itemFlag oe d) d = Ast.tDefinition oe d := by
  cases d <;> rfl

theorem itemOfDef_strict (oe : Bool) (d : Ast.Definition) (hwf : Ast.wfDefinition d = true) :
    (itemOfDef oe d).strict = some (itemFlag oe d, d) := by
  cases d with
  | operation ty name vars dirs sels => rfl
  | fragment name tc dirs sels => rfl
  | directiveDef desc nm args rep locs =>
    cases locs with
    | nil => simp [Ast.wfDefinition] at hwf
    | cons f r => simp [itemOfDef, DocItem.strict, LooseDef.strict, itemFlag]
  | schemaDef desc ds roots => simp [itemOfDef, DocItem.strict, LooseDef.strict, itemFlag, fullRoots_looseRoots]
  | scalarDef desc nm ds => simp [itemOfDef, DocItem.strict, LooseDef.strict, itemFlag]
  | objectDef desc nm impls ds fs => simp [itemOfDef, DocItem.strict, LooseDef.strict, itemFlag, sepLead_sepOf, sepNames_sepOf]
  | interfaceDef desc nm impls ds fs => simp [itemOfDef, DocItem.strict, LooseDef.strict, itemFlag, sepLead_sepOf, sepNames_sepOf]
  | unionDef desc nm ds ms => simp [itemOfDef, DocItem.strict, LooseDef.strict, itemFlag, sepLead_sepOf, sepNames_sepOf]
  | enumDef desc nm ds vs => simp [itemOfDef, DocItem.strict, LooseDef.strict, itemFlag]
  | inputDef desc nm ds fs => simp [itemOfDef, DocItem.strict, LooseDef.strict, itemFlag]
  | schemaExt ds roots => simp [itemOfDef, DocItem.strict, LooseDef.strict, itemFlag, fullRoots_looseRoots]
  | scalarExt nm ds => simp [itemOfDef, DocItem.strict, LooseDef.strict, itemFlag]
  | objectExt nm impls ds fs => simp [itemOfDef, DocItem.strict, LooseDef.strict, itemFlag, sepLead_sepOf, sepNames_sepOf]
  | interfaceExt nm impls ds fs => simp [itemOfDef, DocItem.strict, LooseDef.strict, itemFlag, sepLead_sepOf, sepNames_sepOf]
  | unionExt nm ds ms => simp [itemOfDef, DocItem.strict, LooseDef.strict, itemFlag, sepLead_sepOf, sepNames_sepOf]
  | enumExt nm ds vs => simp [itemOfDef, DocItem.strict, LooseDef.strict, itemFlag]
  | inputExt nm ds fs => simp [itemOfDef, DocItem.strict, LooseDef.strict, itemFlag]

theorem itemOfDef_toks (oe : Bool) (d : Ast.Definition) (hwf : Ast.wfDefinition d = true) :
    (itemOfDef oe d).toks = Ast.tDefinition oe d := by
  rw [DocItem.toks_strict _ _ (itemOfDef_strict oe d hwf)]
  exact tDefinition_flag oe d

/-- **the printed document in the completeness language**: the serializer's shape — the shorthand form only for the
    first definition (`oe` = `output_empty` at the start) -/
def itemsOfDocument (oe : Bool) : List Ast.Definition → List DocItem
  | [] => []
  | d :: r => itemOfDef oe d :: r.map (itemOfDef false)

theorem strictItems_tail : ∀ r : List Ast.Definition, (∀ x ∈ r, Ast.wfDefinition x = true) →
    strictItems (r.map (itemOfDef false)) = some (r.map fun x => (false, x))
  | [], _ => rfl
  | d :: r, h => by
    have h1 := itemOfDef_strict false d (h d (by simp))
    rw [itemFlag_false] at h1
    have h2 := strictItems_tail r (fun x hx => h x (by simp [hx]))
    simp only [List.map_cons, strictItems, h1, h2]

/-- **`strictItems` inverts `itemsOfDocument`** on well-formed documents (the flag of a type-system definition in front
    is normalised to `false`: its tokens do not depend on it, `tDefinition_flag`) -/
theorem strictItems_itemsOfDocument (oe : Bool) (d : Ast.Definition) (r : List Ast.Definition)
    (h : ∀ x ∈ d :: r, Ast.wfDefinition x = true) :
    strictItems (itemsOfDocument oe (d :: r)) = some ((itemFlag oe d, d) :: r.map fun x => (false, x)) := by
  have h1 := itemOfDef_strict oe d (h d (by simp))
  have h2 := strictItems_tail r (fun x hx => h x (by simp [hx]))
  simp only [itemsOfDocument, strictItems, h1, h2]

theorem itemsToks_flag (oe : Bool) (d : Ast.Definition) (r : List Ast.Item) :
    Ast.itemsToks ((itemFlag oe d, d) :: r) = Ast.itemsToks ((oe, d) :: r) := by
  rw [Ast.itemsToks_cons, Ast.itemsToks_cons]
  exact congrArg (· ++ Ast.itemsToks r) (tDefinition_flag oe d)

/-! ### `DocFollowOk` of the printed shape -/

/-- how a definition that is not the first one starts (or the end of the document): a description, or a keyword
    (never `{`, `@`, `(`, `&`, `|`, `=`, and never the Name `implements`) -/
def StartOk (f : Option Ast.Tok) : Prop :=
  f = none ∨ (∃ s, f = some (.str s)) ∨ (∃ w, f = some (.name w) ∧ w ≠ "implements".toList)

theorem looseFollowG_of_kind (l : LooseDef) (k : Kind) (p : Prop) (hk : k = .eof ∨ k = .name ∨ k = .stringValue) (hp : p) :
    looseFollowG l k p := by
  rcases hk with rfl | rfl | rfl <;> cases l <;> simp [looseFollowG, Fbody, hp]

theorem looseFollowA_of_start (l : LooseDef) (f : Option Ast.Tok) (h : StartOk f) : looseFollowA l f := by
  unfold looseFollowA
  rcases h with rfl | ⟨s, rfl⟩ | ⟨w, rfl, hw⟩
  · exact looseFollowG_of_kind l _ _ (Or.inl rfl) (by intro h; cases h)
  · exact looseFollowG_of_kind l _ _ (Or.inr (Or.inr rfl)) (by intro h; cases h)
  · refine looseFollowG_of_kind l _ _ (Or.inr (Or.inl rfl)) ?_
    intro h
    injection h with h
    injection h with h
    exact hw h

theorem startOk_desc (desc : Option Ast.Str) (w : String) (x : List Ast.Tok) (hw : w.toList ≠ "implements".toList) :
    StartOk (Ast.tDescription desc ++ .name w.toList :: x).head? := by
  cases desc with
  | none => exact Or.inr (Or.inr ⟨w.toList, rfl, hw⟩)
  | some s => exact Or.inr (Or.inl ⟨s, rfl⟩)

theorem tDefinition_start (d : Ast.Definition) : StartOk (Ast.tDefinition false d).head? ∧ Ast.tDefinition false d ≠ [] := by
  have nd : ∀ (desc : Option Ast.Str) (w : String) (x : List Ast.Tok), Ast.tDescription desc ++ .name w.toList :: x ≠ [] := by
    intro desc w x; cases desc <;> simp [Ast.tDescription]
  cases d with
  | operation ty name vars dirs sels =>
    have : Ast.tDefinition false (.operation ty name vars dirs sels) =
        .name ty.name.toList :: ((match name with | some n => [.name n] | none => []) ++ Ast.tVarDefs vars ++ Ast.tDirectives dirs ++ Ast.tSelSet sels) := by
      cases name <;> simp [Ast.tDefinition, Ast.isShorthand, List.append_assoc]
    rw [this]
    refine ⟨Or.inr (Or.inr ⟨_, rfl, ?_⟩), by simp⟩
    cases ty <;> decide
  | fragment name tc dirs sels => exact ⟨Or.inr (Or.inr ⟨_, rfl, by decide⟩), by simp [Ast.tDefinition]⟩
  | directiveDef desc nm args rep locs =>
    have e : Ast.tDefinition false (.directiveDef desc nm args rep locs) = Ast.tDescription desc ++ .name "directive".toList ::
        (.p .at :: .name nm :: (Ast.tArgsDef args ++ ((if rep then [.name Ast.sRepeatable] else []) ++ Ast.tSepList [.name Ast.sOn] .pipe locs))) := by
      simp only [Ast.tDefinition, List.append_assoc, List.cons_append]
    rw [e]
    exact ⟨startOk_desc desc "directive" _ (by decide), nd desc "directive" _⟩
  | schemaDef desc ds roots =>
    have e : Ast.tDefinition false (.schemaDef desc ds roots) = Ast.tDescription desc ++ .name "schema".toList ::
        (Ast.tDirectives ds ++ (.p .lCurly :: (Ast.tRootOpItems roots ++ [.p .rCurly]))) := by
      simp only [Ast.tDefinition, List.append_assoc, List.cons_append]
    rw [e]
    exact ⟨startOk_desc desc "schema" _ (by decide), nd desc "schema" _⟩
  | scalarDef desc nm ds => exact ⟨startOk_desc desc "scalar" _ (by decide), nd desc "scalar" _⟩
  | objectDef desc nm impls ds fs => exact ⟨startOk_desc desc "type" _ (by decide), nd desc "type" _⟩
  | interfaceDef desc nm impls ds fs => exact ⟨startOk_desc desc "interface" _ (by decide), nd desc "interface" _⟩
  | unionDef desc nm ds ms => exact ⟨startOk_desc desc "union" _ (by decide), nd desc "union" _⟩
  | enumDef desc nm ds vs => exact ⟨startOk_desc desc "enum" _ (by decide), nd desc "enum" _⟩
  | inputDef desc nm ds fs => exact ⟨startOk_desc desc "input" _ (by decide), nd desc "input" _⟩
  | schemaExt ds roots => exact ⟨Or.inr (Or.inr ⟨_, rfl, by decide⟩), by simp [Ast.tDefinition]⟩
  | scalarExt nm ds => exact ⟨Or.inr (Or.inr ⟨_, rfl, by decide⟩), by simp [Ast.tDefinition]⟩
  | objectExt nm impls ds fs => exact ⟨Or.inr (Or.inr ⟨_, rfl, by decide⟩), by simp [Ast.tDefinition]⟩
  | interfaceExt nm impls ds fs => exact ⟨Or.inr (Or.inr ⟨_, rfl, by decide⟩), by simp [Ast.tDefinition]⟩
  | unionExt nm ds ms => exact ⟨Or.inr (Or.inr ⟨_, rfl, by decide⟩), by simp [Ast.tDefinition]⟩
  | enumExt nm ds vs => exact ⟨Or.inr (Or.inr ⟨_, rfl, by decide⟩), by simp [Ast.tDefinition]⟩
  | inputExt nm ds fs => exact ⟨Or.inr (Or.inr ⟨_, rfl, by decide⟩), by simp [Ast.tDefinition]⟩

theorem startOk_tail : ∀ r : List Ast.Definition, (∀ x ∈ r, Ast.wfDefinition x = true) →
    StartOk (docToks (r.map (itemOfDef false))).head?
  | [], _ => Or.inl rfl
  | d :: r, h => by
    have ht : docToks ((d :: r).map (itemOfDef false)) = Ast.tDefinition false d ++ docToks (r.map (itemOfDef false)) := by
      simp [docToks, itemOfDef_toks false d (h d (by simp))]
    obtain ⟨h1, h2⟩ := tDefinition_start d
    rw [ht]
    cases hx : Ast.tDefinition false d with
    | nil => exact absurd hx h2
    | cons a x => rw [hx] at h1; exact h1

theorem itemFollowA_of_start (i : DocItem) (f : Option Ast.Tok) (h : StartOk f) : itemFollowA i f := by
  cases i with
  | exec oe d => trivial
  | loose l => exact looseFollowA_of_start l f h

theorem docFollowOk_tail : ∀ r : List Ast.Definition, (∀ x ∈ r, Ast.wfDefinition x = true) →
    DocFollowOk (r.map (itemOfDef false))
  | [], _ => trivial
  | d :: r, h =>
    ⟨itemFollowA_of_start _ _ (startOk_tail r (fun x hx => h x (by simp [hx]))), docFollowOk_tail r (fun x hx => h x (by simp [hx]))⟩

/-- **docFollowOk_of_printed**: in the printer's shape (shorthand only in front) every definition may be followed by the
    next one — the follow guard `DocFollowOk` of `document_accept_complete` is a theorem for printed documents -/
theorem docFollowOk_of_printed (oe : Bool) (ds : List Ast.Definition) (h : ∀ x ∈ ds, Ast.wfDefinition x = true) :
    DocFollowOk (itemsOfDocument oe ds) := by
  cases ds with
  | nil => trivial
  | cons d r =>
    exact ⟨itemFollowA_of_start _ _ (startOk_tail r (fun x hx => h x (by simp [hx]))),
      docFollowOk_tail r (fun x hx => h x (by simp [hx]))⟩

/-! ### the recursion-limit hypothesis, on the definitions of the AST -/

/-- **a definition within the recursion limit `rl`**, with the guards of `document_accept_complete` read on the
    abstract syntax (`itemFit` of its item): nesting of types, values and selection sets within `rl`; `Const` default
    values and definition-side directives; enum values not `true`/`false`/`null`; spread / fragment names ≠ `on`;
    non-empty selection sets; directive locations among the nineteen names; an extension has at least one component -/
def definitionFit (rl : Nat) (d : Ast.Definition) : Prop := itemFit rl (itemOfDef false d)

theorem itemFit_itemOfDef (rl : Nat) (oe : Bool) (d : Ast.Definition) (h : definitionFit rl d) : itemFit rl (itemOfDef oe d) := by
  cases d with
  | directiveDef desc nm args rep locs => cases locs <;> exact h
  | _ => exact h

theorem itemFit_itemsOfDocument (rl : Nat) (oe : Bool) (ds : List Ast.Definition) (h : ∀ x ∈ ds, definitionFit rl x) :
    ∀ i ∈ itemsOfDocument oe ds, itemFit rl i := by
  cases ds with
  | nil => intro i hi; cases hi
  | cons d r =>
    intro i hi
    rcases List.mem_cons.mp hi with rfl | hi
    · exact itemFit_itemOfDef rl oe d (h d (by simp))
    · obtain ⟨x, hx, rfl⟩ := List.mem_map.mp hi
      exact h x (by simp [hx])

/-- what `definitionFit` says, definition kind by definition kind -/
theorem definitionFit_operation (rl : Nat) (ty : Ast.OpType) (name : Option Ast.Str) (vars : List Ast.VarDef)
    (dirs : List Ast.Directive) (sels : Ast.Sels) :
    definitionFit rl (.operation ty name vars dirs sels) ↔
      ((∀ v ∈ vars, varFit rl v) ∧ dirsFit false rl dirs ∧ sels ≠ Ast.Sels.nil ∧ 1 ≤ rl ∧ fitSels sels (rl - 1)) := Iff.rfl

theorem definitionFit_fragment (rl : Nat) (name tc : Ast.Str) (dirs : List Ast.Directive) (sels : Ast.Sels) :
    definitionFit rl (.fragment name tc dirs sels) ↔
      (name ≠ Ast.sOn ∧ dirsFit false rl dirs ∧ sels ≠ Ast.Sels.nil ∧ 1 ≤ rl ∧ fitSels sels (rl - 1)) := Iff.rfl

theorem definitionFit_objectDef (rl : Nat) (desc : Option Ast.Str) (nm : Ast.Str) (impls : List Ast.Str) (ds : List Ast.Directive)
    (fs : List Ast.FieldDef) :
    definitionFit rl (.objectDef desc nm impls ds fs) ↔ (dirsFit true rl ds ∧ ∀ f ∈ fs, fieldFit rl f) := Iff.rfl

theorem definitionFit_objectExt (rl : Nat) (nm : Ast.Str) (impls : List Ast.Str) (ds : List Ast.Directive) (fs : List Ast.FieldDef) :
    definitionFit rl (.objectExt nm impls ds fs) ↔
      ((sepOf impls ≠ none ∨ ds ≠ [] ∨ fs ≠ []) ∧ dirsFit true rl ds ∧ ∀ f ∈ fs, fieldFit rl f) := Iff.rfl

theorem definitionFit_scalarDef (rl : Nat) (desc : Option Ast.Str) (nm : Ast.Str) (ds : List Ast.Directive) :
    definitionFit rl (.scalarDef desc nm ds) ↔ dirsFit true rl ds := Iff.rfl

theorem definitionFit_schemaDef (rl : Nat) (desc : Option Ast.Str) (ds : List Ast.Directive) (roots : List (Ast.OpType × Ast.Str)) :
    definitionFit rl (.schemaDef desc ds roots) ↔
      (dirsFit true rl ds ∧ looseRoots roots ≠ [] ∧ ∀ r ∈ looseRoots roots, r.2 ≠ none) := Iff.rfl

end Apollo.Parse
