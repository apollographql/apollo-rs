import ApolloModel.Proofs.ParserComplete13
import ApolloModel.Proofs.ParserDoc5
/-
C05 / C07 (completeness): `select_definition` on the keywords of executable definitions, and `document()`
with the entry point `Parser::parse`, proved once for an arbitrary guard on the definitions (`ItemGuard`).
-/
set_option linter.unusedSimpArgs false
namespace Apollo.Parse
open Apollo.Rowan hiding Str
open Apollo.Lex hiding Str

/-- `select_definition` / `extensions` on the characters of a literal keyword: every test of the chain is evaluated -/
macro "select_kw" : tactic =>
  `(tactic| simp only [selectDefinition, extSel, kw_toList, kwOpt_toList, String.reduceEq, decide_false, decide_true,
      Bool.or_self, Bool.or_false, Bool.or_true, Bool.false_eq_true, if_false, if_true])

/-! ### `select_definition` on the keywords of executable definitions -/

theorem selectDefinition_opType (n : Nat) (ty : Ast.OpType) : selectDefinition n ty.name.toList = operationDefinition n := by
  cases ty <;> simp only [Ast.OpType.name] <;> select_kw

theorem selectDefinition_curly (n : Nat) : selectDefinition n ['{'] = operationDefinition n := by
  show selectDefinition n "{".toList = _
  select_kw

theorem selectDefinition_fragment (n : Nat) : selectDefinition n "fragment".toList = fragmentDefinition n := by
  select_kw

def LExecDef (b : Nat) (x : List Ast.Tok) : Prop := LOperation b x ∨ LFragment b x

/-! ### the document loop -/

theorem eat_flagged (s : PState) (w : TW s) : Eat s (flagged s) [] := ⟨rfl, Iff.rfl, tw_flagged w, rfl, rfl, rfl⟩

theorem parseDocument_tree (tl : Option Nat) (rl : Nat) (src : Str) :
    ∃ root, (parse .document tl rl src).outcome = .tree root := by
  cases h : (parse .document tl rl src).outcome with
  | tree root => exact ⟨root, rfl⟩
  | panic m => exact absurd h (parse_no_panic .document tl rl src m)
  | abort w => exact absurd h (parse_document_terminates tl rl src w)

def IsExecDocFit (rl : Nat) (x : List Ast.Tok) : Prop :=
  ∃ items : List (List Ast.Tok), items ≠ [] ∧ x = items.flatten ∧ ∀ i ∈ items, LExecDef rl i

theorem ign_split : ∀ (l : List Tok), ∃ i l', l = i ++ l' ∧ Ign i ∧ HeadSig l'
  | [] => ⟨[], [], rfl, (by intro x hx; cases hx), (by intro hd tl h; cases h)⟩
  | a :: r => by
    by_cases ha : isIgnoredKind a.kind = true
    · obtain ⟨i, l', e, hi, hh⟩ := ign_split r
      exact ⟨a :: i, l', (by rw [e]; rfl), (by intro x hx; rcases List.mem_cons.mp hx with rfl | hx; exact ha; exact hi x hx), hh⟩
    · refine ⟨[], a :: r, rfl, (by intro x hx; cases hx), ?_⟩
      intro hd tl h
      injection h with h _
      subst h
      unfold Sigf
      simpa using ha

theorem ign_kind_ne_lCurly {t : Tok} (h : isIgnoredKind t.kind = true) : (some t.kind == some Kind.lCurly) = false := by
  cases hk : t.kind <;> simp [hk, isIgnoredKind] at h ⊢

/-! ### the document loop over an item guard

`document()` is proved complete once, for any guard `ok b x q` ("`x` is one definition within the budget `b` when the
token `q` follows") of which two things are known: how a definition starts, and that the document dispatch consumes
it exactly.  `I` is what the dispatch may assume of the token queue: a property the tokens of every source have and
every suffix keeps. -/

/-- the token `q` is the end of input (`none`) or spells the grammar token `a` -/
def FollowTokOf (f : Option Ast.Tok) (q : Tok) : Prop :=
  match f with
  | none => q.kind = .eof
  | some a => astOfV q = some a

structure ItemGuard (I : List Tok → Prop) (ok : Nat → List Ast.Tok → Tok → Prop) : Prop where
  init : ∀ src, I (srcToks src)
  suffix : ∀ {cs q}, I (cs ++ q) → I q
  head : ∀ {b x q}, ok b x q → ∃ a x', x = a :: x' ∧ (kindOfA a = .name ∨ kindOfA a = .lCurly ∨ kindOfA a = .stringValue)
  dispatch : ∀ (n : Nat) (sP s2 : PState) (t : Tok) (tl1 : List Tok) (x : List Ast.Tok) (q1 : Tok) (r1 : List Tok),
    TW sP → I (Toks sP) → sP.current = some t → (t.kind = .lCurly → t.data = ['{']) →
    ok (sP.recLimit - sP.recCur) x q1 → Spells (t :: tl1) x → Toks sP = (t :: tl1) ++ q1 :: r1 → Sigf q1 →
    (documentDispatch n t.kind).run sP = .ok () s2 → Eat sP s2 (t :: tl1) ∧ Toks s2 = q1 :: r1

/-- a list of definitions, each allowed before the first token of what follows it -/
def DocOkFor (ok : Nat → List Ast.Tok → Tok → Prop) (b : Nat) : List (List Ast.Tok) → Prop
  | [] => True
  | x :: r => (∀ q, FollowTokOf r.flatten.head? q → ok b x q) ∧ DocOkFor ok b r

variable {I : List Tok → Prop} {ok : Nat → List Ast.Tok → Tok → Prop}

theorem ItemGuard.docLoop (g : ItemGuard I ok) (n : Nat) : ∀ (items : List (List Ast.Tok)) (fuel : Nat) (s s' : PState) (c : List Tok) (e : Tok) (rest : List Tok),
    TW s → I (Toks s) → CurlyQ (Toks s) → (peekWhileLoop (documentStep n) fuel).run s = .ok () s' →
    DocOkFor ok (s.recLimit - s.recCur) items → Spells c items.flatten → Toks s = c ++ e :: rest → e.kind = .eof →
    Eat s s' c ∧ Toks s' = e :: rest := by
  intro items
  induction items with
  | nil =>
    intro fuel s s' c e rest w _ _ hr _ hs ht he
    have := spells_nil_inv (by simpa using hs)
    subst this
    cases fuel with
    | zero => simp [peekWhileLoop, PI.outOfFuel] at hr
    | succ fuel =>
      unfold peekWhileLoop at hr
      obtain ⟨ko, sP, hp, h2⟩ := bind_dec peek _ s s' () hr
      obtain ⟨rfl, eP, htP, _⟩ := peek_head s sP ko e rest w (by simpa using ht) hp
      simp only [] at h2
      have h3 := getCurrent_dec _ sP s' () h2
      obtain ⟨b, sB, hb, h4⟩ := bind_dec (documentStep n e.kind) _ sP s' () h3
      unfold documentStep at hb
      simp only [he, beq_self_eq_true, if_true] at hb
      obtain ⟨_, sC, hc1, hc2⟩ := bind_dec assertRecZero _ sP sB b hb
      rw [assertRecZero_run] at hc1
      injection hc1 with _ hc1
      subst hc1
      rw [run_pure] at hc2
      injection hc2 with hb' hs'
      subst hb' hs'
      simp only [Bool.false_eq_true, if_false] at h4
      rw [run_pure] at h4
      injection h4 with _ h4
      subst h4
      exact ⟨by simpa using eP.trans (eat_flagged sP eP.w), by rw [toks_flagged]; simpa using htP⟩
  | cons item r ih =>
    intro fuel s s' c e rest w lq hcq hr hall hs ht he
    cases fuel with
    | zero => simp [peekWhileLoop, PI.outOfFuel] at hr
    | succ fuel =>
      obtain ⟨hitem, hrest⟩ := hall
      have hse : Sigf e := by unfold Sigf; rw [he]; rfl
      obtain ⟨c1, c2, rfl, s1, s2⟩ := spells_split0 (x1 := item) (x2 := r.flatten) (by simpa using hs)
      -- the token after this definition
      obtain ⟨q1, r1, hq1, hsq1, hfq1⟩ : ∃ q1 r1, c2 ++ e :: rest = q1 :: r1 ∧ Sigf q1 ∧ FollowTokOf r.flatten.head? q1 := by
        cases hrf : r.flatten with
        | nil =>
          have := spells_nil_inv (by rw [hrf] at s2; exact s2)
          subst this
          exact ⟨e, rest, rfl, hse, he⟩
        | cons a x' =>
          obtain ⟨t', tl', rfl, hta'⟩ := spells_head (by rw [hrf] at s2; exact s2)
          exact ⟨t', tl' ++ e :: rest, rfl, sigf_of_astOfV hta', hta'⟩
      have hok := hitem q1 hfq1
      obtain ⟨a, x', rfl, hka⟩ := g.head hok
      obtain ⟨t, tl1, hc1, hta⟩ := spells_head s1
      subst hc1
      have hkt : t.kind = kindOfA a := kind_of_astOfV hta
      have ht' : Toks s = (t :: tl1) ++ q1 :: r1 := by rw [ht, ← hq1]; simp
      unfold peekWhileLoop at hr
      obtain ⟨ko, sP, hp, h2⟩ := bind_dec peek _ s s' () hr
      obtain ⟨rfl, eP, htP, hcur⟩ := peek_head s sP ko t (tl1 ++ q1 :: r1) w (by simpa using ht') hp
      have hbP : sP.recLimit - sP.recCur = s.recLimit - s.recCur := by rw [eP.recLimit, eP.recCur]
      simp only [] at h2
      have h3 := getCurrent_dec _ sP s' () h2
      obtain ⟨b, sB, hb, h4⟩ := bind_dec (documentStep n t.kind) _ sP s' () h3
      unfold documentStep at hb
      have hne : (t.kind == Kind.eof) = false := by rw [hkt]; rcases hka with h | h | h <;> rw [h] <;> rfl
      simp only [hne, Bool.false_eq_true, if_false] at hb
      obtain ⟨_, sC, hc1, hc2⟩ := bind_dec assertRecZero _ sP sB b hb
      rw [assertRecZero_run] at hc1
      injection hc1 with _ hc1
      subst hc1
      obtain ⟨_, sD, hd1, hd2⟩ := bind_dec (documentDispatch n t.kind) _ _ sB b hc2
      rw [run_pure] at hd2
      injection hd2 with hb' hs'
      subst hb' hs'
      have htmem : t ∈ Toks s := by rw [ht']; simp
      have hTP : Toks sP = (t :: tl1) ++ q1 :: r1 := by rw [htP]; simp
      obtain ⟨eD, tD⟩ := g.dispatch n (flagged sP) sD t tl1 (a :: x') q1 r1 (tw_flagged eP.w)
        (by rw [toks_flagged, hTP, ← ht']; exact lq) hcur (hcq t htmem)
        (by show ok (sP.recLimit - sP.recCur) _ _; rw [hbP]; exact hok) s1 (by rw [toks_flagged, hTP]) hsq1 hd1
      simp only [if_true] at h4
      have h5 := getCurrent_dec _ sD s' () h4
      by_cases hsame : (sP.current == sD.current) = true
      · simp only [hsame, if_true] at h5
        exact absurd h5 (stuck_not_ok _ _ _)
      · simp only [hsame, Bool.false_eq_true, if_false] at h5
        have eSD : Eat s sD (t :: tl1) := by simpa using (eP.trans (eat_flagged sP eP.w)).trans eD
        have hbD : sD.recLimit - sD.recCur = s.recLimit - s.recCur := by rw [eSD.recLimit, eSD.recCur]
        have hsuf : Toks s = (t :: tl1) ++ Toks sD := eSD.toks
        obtain ⟨eR, tR⟩ := ih fuel sD s' c2 e rest eSD.w (by rw [hsuf] at lq; exact g.suffix lq) (by rw [hsuf] at hcq; exact hcq.suffix) h5
          (by rw [hbD]; exact hrest) s2 (by rw [tD, hq1]) he
        exact ⟨eSD.trans eR, tR⟩

theorem ItemGuard.first (g : ItemGuard I ok) {b : Nat} {item : List Ast.Tok} {r : List (List Ast.Tok)} (h : DocOkFor ok b (item :: r)) (c : List Tok) (e : Tok)
    (hs : Spells c (item :: r).flatten) (he : e.kind = .eof) :
    ∃ t tl1, c = t :: tl1 ∧ Sigf t ∧ (t.kind = .name ∨ t.kind = .lCurly ∨ t.kind = .stringValue) := by
  obtain ⟨c1, c2, rfl, s1, s2⟩ := spells_split0 (x1 := item) (x2 := r.flatten) (by simpa using hs)
  obtain ⟨q1, hfq1⟩ : ∃ q1, FollowTokOf r.flatten.head? q1 := by
    cases hrf : r.flatten with
    | nil => exact ⟨e, he⟩
    | cons a x' =>
      obtain ⟨t', tl', _, hta'⟩ := spells_head (by rw [hrf] at s2; exact s2)
      exact ⟨t', hta'⟩
  obtain ⟨a, x', rfl, hka⟩ := g.head (h.1 q1 hfq1)
  obtain ⟨t, tl1, hc1, hta⟩ := spells_head s1
  exact ⟨t, tl1 ++ c2, by rw [hc1]; rfl, sigf_of_astOfV hta, by rw [kind_of_astOfV hta]; exact hka⟩

theorem ItemGuard.body_comp (g : ItemGuard I ok) (n : Nat) (items : List (List Ast.Tok)) (s s' : PState) (c : List Tok) (e : Tok) (rest : List Tok)
    (w : TW s) (lq : I (Toks s)) (hcq : CurlyQ (Toks s)) (hne : items ≠ []) (hall : DocOkFor ok (s.recLimit - s.recCur) items)
    (hs : Spells c items.flatten) (ht : Toks s = c ++ e :: rest) (he : e.kind = .eof)
    (h : (documentBody n).run s = .ok () s') : Eat s s' c ∧ Toks s' = e :: rest := by
  cases items with
  | nil => exact absurd rfl hne
  | cons item r =>
  obtain ⟨t, tl1, hc, _, hkt⟩ := g.first hall c e hs he
  unfold documentBody at h
  obtain ⟨ko, sP, hp, h2⟩ := bind_dec peek _ s s' () h
  obtain ⟨rfl, eP, htP, _⟩ := peek_head s sP ko t (tl1 ++ e :: rest) w (by rw [ht, hc]; simp) hp
  obtain ⟨_, sE, hE, h3⟩ := bind_dec (errIfEmpty _) _ sP s' () h2
  unfold errIfEmpty at hE
  have hemp : (some t.kind == none || some t.kind == some Kind.eof) = false := by
    rcases hkt with h0 | h0 | h0 <;> rw [h0] <;> rfl
  simp only [hemp, Bool.false_eq_true, if_false] at hE
  rw [run_pure] at hE
  injection hE with _ hE
  subst hE
  obtain ⟨_, sL, hL, h4⟩ := bind_dec (peekWhile (documentStep n)) _ sP s' () h3
  unfold peekWhile at hL
  obtain ⟨fuel, h5⟩ := srcLen_dec _ sP sL () hL
  have hbP : sP.recLimit - sP.recCur = s.recLimit - s.recCur := by rw [eP.recLimit, eP.recCur]
  have hTP : Toks sP = c ++ e :: rest := by rw [htP, hc]; simp
  obtain ⟨eL, tL⟩ := g.docLoop n (item :: r) _ sP sL c e rest eP.w (by rw [hTP, ← ht]; exact lq) (by rw [hTP, ← ht]; exact hcq) h5
    (by rw [hbP]; exact hall) hs hTP he
  have o4 := pushIgnored_obs sL s' h4
  exact ⟨by simpa using (eP.trans eL).trans (Eat.ofObsEq o4 eL.w), by rw [o4.toks]; exact tL⟩

/-- `document()`: ignored tokens in front are allowed -/
theorem ItemGuard.document_comp (g : ItemGuard I ok) (n : Nat) (items : List (List Ast.Tok)) (s s' : PState) (i0 c : List Tok) (e : Tok) (rest : List Tok)
    (w : TW s) (lq : I (Toks s)) (hcq : CurlyQ (Toks s)) (hne : items ≠ []) (hall : DocOkFor ok (s.recLimit - s.recCur) items)
    (hi0 : Ign i0) (hs : Spells c items.flatten) (ht : Toks s = i0 ++ (c ++ e :: rest)) (he : e.kind = .eof)
    (h : (document n).run s = .ok () s') : Eat s s' (i0 ++ c) ∧ Toks s' = e :: rest := by
  unfold document at h
  obtain ⟨s0, s2, o0, hr0, o2⟩ := withNode_dec "DOCUMENT" (documentBody n) s s' () h
  obtain ⟨_, s1, hsk, hb⟩ := bind_dec skipIgnored _ s0 s2 () hr0
  obtain ⟨t, tl1, hc, hst, _⟩ : ∃ t tl1, c = t :: tl1 ∧ Sigf t ∧ True := by
    cases items with
    | nil => exact absurd rfl hne
    | cons item r =>
      obtain ⟨t, tl1, hc, hst, _⟩ := g.first hall c e hs he
      exact ⟨t, tl1, hc, hst, trivial⟩
  obtain ⟨e1, t1, _⟩ := skip_exact s0 s1 i0 t (tl1 ++ e :: rest) (o0.w w) hsk (by rw [o0.toks, ht, hc]; simp) hi0 hst
  have e01 : Eat s s1 i0 := by simpa using (Eat.ofObsEq o0 w).trans e1
  have hb1 : s1.recLimit - s1.recCur = s.recLimit - s.recCur := by rw [e01.recLimit, e01.recCur]
  have hT1 : Toks s1 = c ++ e :: rest := by rw [t1, hc]; simp
  have hsuf : Toks s = i0 ++ Toks s1 := e01.toks
  obtain ⟨eB, tB⟩ := g.body_comp n items s1 s2 c e rest e01.w (by rw [hsuf] at lq; exact g.suffix lq)
    (by rw [hsuf] at hcq; exact hcq.suffix) hne (by rw [hb1]; exact hall) hs hT1 he hb
  exact ⟨by simpa using (e01.trans eB).trans (Eat.ofObsEq o2 eB.w), by rw [o2.toks]; exact tB⟩

/-- **acceptance is complete** for `Parser::parse` on documents within the guard (queue form) -/
theorem ItemGuard.parse_complete (g : ItemGuard I ok) (rl : Nat) (src : Str) (items : List (List Ast.Tok)) (i0 c : List Tok) (e : Tok)
    (hclean : LexClean src) (htoks : srcToks src = i0 ++ (c ++ [e])) (hi0 : Ign i0) (hsp : Spells c items.flatten)
    (he : e.kind = .eof) (hne : items ≠ []) (hall : DocOkFor ok rl items) : (parse .document none rl src).errors = [] := by
  obtain ⟨root, htree⟩ := parseDocument_tree none rl src
  unfold parse runEntry at htree ⊢
  simp only [Entry.standalone, Entry.grammar] at htree ⊢
  have w0 : TW (initState src none rl) := ⟨rfl, by intro h; simp [initState] at h⟩
  have ht0 : Toks (initState src none rl) = srcToks src := rfl
  have hnd0 : ¬ Doomed (initState src none rl) := by
    rintro (h | h)
    · exact h rfl
    · unfold LexClean at hclean
      rw [show (initState src none rl).lx = (initState src none 0).lx from rfl, hclean] at h
      cases h
  have hb0 : (initState src none rl).recLimit - (initState src none rl).recCur = rl := by simp [initState]
  cases hr : (document (fuelFor src)).run (initState src none rl) with
  | abort w => simp [hr] at htree
  | panic m => simp [hr] at htree
  | ok a s =>
    simp only []
    obtain ⟨eD, _⟩ := g.document_comp (fuelFor src) items _ s i0 c e [] w0 (by rw [ht0]; exact g.init src)
      (by rw [ht0]; exact curlyQ_srcToks src) hne (by rw [hb0]; exact hall) hi0 hsp (by rw [ht0, htoks]) he hr
    have hnd : ¬ Doomed s := fun d => hnd0 (eD.doom.mp d)
    by_cases herr : s.errors = []
    · exact herr
    · exact absurd (Or.inl herr) hnd

theorem ItemGuard.flatten_ne (g : ItemGuard I ok) {rl : Nat} {items : List (List Ast.Tok)} (hne : items ≠ [])
    (hall : DocOkFor ok rl items) : items.flatten ≠ [] := by
  cases items with
  | nil => exact absurd rfl hne
  | cons item r =>
    intro h0
    have h1 : item = [] ∧ r.flatten = [] := by simpa using h0
    obtain ⟨a, x', e, _⟩ := g.head (hall.1 ⟨.eof, [], 0⟩ (by rw [h1.2]; rfl))
    rw [h1.1] at e
    cases e

/-- the same in terms of the significant tokens of the source -/
theorem ItemGuard.parse_complete_sig (g : ItemGuard I ok) (rl : Nat) (src : Str) (items : List (List Ast.Tok)) (ts : List Tok) (e : Tok)
    (hclean : LexClean src) (hsig : sig (srcToks src) = ts ++ [e]) (he : e.kind = .eof)
    (hx : TokIs ts items.flatten) (hne : items ≠ []) (hall : DocOkFor ok rl items) :
    (parse .document none rl src).errors = [] := by
  obtain ⟨i0, l', hl, hi0, hhead⟩ := ign_split (srcToks src)
  have hsig' : sig l' = ts ++ [e] := by rw [← hsig, hl, sig_ign_append _ _ hi0]
  obtain ⟨c, c2, hc, h1, h2, hh2, hh1⟩ := sig_split l' ts [e] hsig' (by simp)
  obtain ⟨i, rfl, hi⟩ := sig_single_inv c2 e hh2 h2
  have htsne : ts ≠ [] := by
    intro h0; subst h0
    have := g.flatten_ne hne hall
    unfold TokIs at hx
    cases hx' : items.flatten with
    | nil => exact this hx'
    | cons a r => rw [hx'] at hx; simp at hx
  have hnoc : NoEof c := noEof_of_tokIs c _ (by rw [h1]; exact hx)
  obtain ⟨pre, e0, hp, he0, hnop⟩ := stream_eof_end src.length (initState src none 0).lx (Nat.le_refl _) rfl rfl
  have hq : srcToks src = pre ++ [e0] := hp
  rw [hl, hc] at hq
  have hq' : pre ++ [e0] = (i0 ++ c) ++ (e :: i) := by rw [← hq]; simp
  obtain ⟨pre', hr, hnop'⟩ := split_eof (i0 ++ c) pre (e :: i) e0 hq' he0 (noEof_append (noEof_ignored i0 hi0) hnoc) hnop
  have hi00 : i = [] := by
    cases pre' with
    | nil => simp at hr; exact hr.2
    | cons y pre' =>
      exfalso
      simp only [List.cons_append] at hr
      injection hr with hr1 _
      exact hnop' y (by simp) (hr1 ▸ he)
  subst hi00
  exact g.parse_complete rl src items i0 c e hclean (by rw [hl, hc]) hi0 ⟨by rw [h1]; exact hx, hh1 htsne hhead⟩ he hne hall

end Apollo.Parse
