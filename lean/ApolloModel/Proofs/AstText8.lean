import ApolloModel.Proofs.AstText7
/-
Property C08, text level: the syntax of integer literals (`-?(0|[1-9][0-9]*)`) and what may follow a number.
-/
namespace Apollo.Ast
open Apollo.Lex (isNameStart isNameContinue isAsciiDigit)

def wfNatLit : Str → Bool
  | [] => false
  | ['0'] => true
  | c :: r => c != '0' && isAsciiDigit c && r.all isAsciiDigit

def wfIntLit : Str → Bool
  | '-' :: r => wfNatLit r
  | r => wfNatLit r

theorem notCont_facts (c : Char) (h : isNameContinue c = false) :
    isAsciiDigit c = false ∧ isNameStart c = false ∧ (c == 'e') = false ∧ (c == 'E') = false := by
  refine ⟨?_, ?_, ?_, ?_⟩
  · cases hd : isAsciiDigit c with
    | false => rfl
    | true =>
      exfalso
      simp only [isAsciiDigit, Bool.and_eq_true, decide_eq_true_eq] at hd
      simp only [isNameContinue, Bool.or_eq_false_iff, Bool.and_eq_false_iff, decide_eq_false_iff_not] at h
      omega
  · cases hd : isNameStart c with
    | false => rfl
    | true =>
      exfalso
      simp only [isNameStart, Bool.or_eq_true, Bool.and_eq_true, decide_eq_true_eq, beq_iff_eq] at hd
      simp only [isNameContinue, Bool.or_eq_false_iff, Bool.and_eq_false_iff, decide_eq_false_iff_not, beq_eq_false_iff_ne] at h
      omega
  · cases hq : (c == 'e') with
    | false => rfl
    | true => have : c = 'e' := by simpa using hq
              subst this; revert h; decide
  · cases hq : (c == 'E') with
    | false => rfl
    | true => have : c = 'E' := by simpa using hq
              subst this; revert h; decide

theorem follow_num (c : Char) (h : followChar .num c = true) :
    isAsciiDigit c = false ∧ isNameStart c = false ∧ (c == 'e') = false ∧ (c == 'E') = false ∧ (c == '.') = false := by
  simp only [followChar, Bool.and_eq_true, Bool.not_eq_true', bne_iff_ne, ne_eq] at h
  obtain ⟨h1, h2, h3, h4⟩ := notCont_facts c h.1
  exact ⟨h1, h2, h3, h4, by simpa using h.2⟩

theorem digit_not_ignored (c : Char) (h : isAsciiDigit c = true ∨ c = '-') : isIgnoredChar c = false := by
  cases hi : isIgnoredChar c with
  | false => rfl
  | true =>
    exfalso
    simp only [isIgnoredChar, Bool.or_eq_true, beq_iff_eq] at hi
    rcases hi with ((((hi | hi) | hi) | hi) | hi) | hi <;> subst hi <;> revert h <;> decide

/-- every IntValue token written has the IntValue syntax (property C10: `IntValue::valid_syntax`) -/
def IntsWf (segs : List Seg) : Prop := ∀ s x, Seg.tok (.int s) x ∈ segs → wfIntLit s = true
/-- float literals lex back: follows from the FloatValue syntax by `tokOk_float_spec` -/
def FloatsLex (segs : List Seg) : Prop := ∀ s x, Seg.tok (.float s) x ∈ segs → TokOk (.float s) x

end Apollo.Ast
