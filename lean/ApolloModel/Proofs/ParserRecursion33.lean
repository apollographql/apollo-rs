import ApolloModel.Proofs.ParserRecursion32
import ApolloModel.Proofs.ParserComplete16
/-
C04: the depth `gd` of the syntax tree against the Ast-level budgets of the completeness theorems
(C05/C07).  Types: equal to `tyDepth`.  Selection sets: the budget `fitSels` is an upper bound of the tree depth
(it charges one level for an empty list or object, which the parser does not guard).
-/
set_option linter.unusedSimpArgs false
set_option linter.unusedVariables false
namespace Apollo.Parse
open Apollo.Rowan hiding Str
open Apollo.Lex hiding Str

theorem astOf_lBracket {x : Tok} (h : astOf x = some (.p .lBracket)) : isLB x = true := by
  unfold astOf at h
  unfold isLB
  cases hk : x.kind <;> simp [hk] at h ⊢

theorem astOf_name_notLB {x : Tok} {n : Ast.Str} (h : astOf x = some (.name n)) : isLB x = false := by
  unfold astOf at h
  unfold isLB
  cases hk : x.kind <;> simp [hk] at h ⊢

theorem lbCount_tTy : ∀ (t : Ast.Ty) (ts rest : List Tok), ts.map astOf = (Ast.tTy t).map some →
    lbCount (ts ++ rest) = tyDepth t
  | .named n, ts, rest, h => by
    simp only [Ast.tTy, List.map_cons, List.map_nil] at h
    obtain ⟨x, l, rfl, hx, hl⟩ := List.map_eq_cons_iff.mp h
    simp [lbCount, List.takeWhile_cons, astOf_name_notLB hx, tyDepth]
  | .nonNullNamed n, ts, rest, h => by
    simp only [Ast.tTy, List.map_cons, List.map_nil] at h
    obtain ⟨x, l, rfl, hx, hl⟩ := List.map_eq_cons_iff.mp h
    simp [lbCount, List.takeWhile_cons, astOf_name_notLB hx, tyDepth]
  | .list u, ts, rest, h => by
    simp only [Ast.tTy, List.map_cons, List.map_append, List.map_nil] at h
    obtain ⟨x, l, rfl, hx, hl⟩ := List.map_eq_cons_iff.mp h
    obtain ⟨l1, l2, rfl, h1, h2⟩ := List.map_eq_append_iff.mp hl
    have ih := lbCount_tTy u l1 (l2 ++ rest) h1
    simp only [lbCount] at ih ⊢
    simp only [List.cons_append, List.takeWhile_cons, astOf_lBracket hx, if_true, List.length_cons, List.append_assoc, ih, tyDepth]
  | .nonNullList u, ts, rest, h => by
    simp only [Ast.tTy, List.map_cons, List.map_append, List.map_nil] at h
    obtain ⟨x, l, rfl, hx, hl⟩ := List.map_eq_cons_iff.mp h
    obtain ⟨l1, l2, rfl, h1, h2⟩ := List.map_eq_append_iff.mp hl
    have ih := lbCount_tTy u l1 (l2 ++ rest) h1
    simp only [lbCount] at ih ⊢
    simp only [List.cons_append, List.takeWhile_cons, astOf_lBracket hx, if_true, List.length_cons, List.append_assoc, ih, tyDepth]

theorem typeDepth_eq_tyDepth (src : Str) (t : Ast.Ty) (ts : List Tok) (e : Tok)
    (hsig : sig (srcToks src) = ts ++ [e]) (hty : ts.map astOf = (Ast.tTy t).map some) (hhead : HeadSig (srcToks src)) :
    typeDepth src = tyDepth t := by
  unfold typeDepth lead
  cases hq : srcToks src with
  | nil => rw [hq] at hsig; simp [sig] at hsig
  | cons hd tl =>
    simp only []
    have hs : Sigf hd := hhead hd tl hq
    have hi : isIgnoredKind hd.kind = false := by unfold Sigf at hs; exact hs
    simp only [hi, Bool.false_eq_true, if_false]
    rw [← hq, hsig]
    exact lbCount_tTy t ts [e] hty

/-- **types: the depth of the tree is the Ast-level `tyDepth`** — for every source text that spells a type
    reference `t` (the hypotheses of `type_in_grammar_is_accepted`, C05) -/
theorem type_tree_depth (rl : Nat) (src : Str) (t : Ast.Ty) (ts : List Tok) (e : Tok)
    (hclean : LexClean src) (hsig : sig (srcToks src) = ts ++ [e]) (he : e.kind = .eof)
    (hty : ts.map astOf = (Ast.tTy t).map some) (hdepth : tyDepth t ≤ rl) (hhead : HeadSig (srcToks src)) :
    ∃ root, (parse .type none rl src).outcome = .tree root ∧ gd root = tyDepth t := by
  have herr := parseType_complete_sig rl src t ts e hclean hsig he hty hdepth hhead
  obtain ⟨root, h1, h2⟩ := parse_depth_of_no_error .type rl src herr
  refine ⟨root, h1, ?_⟩
  have h3 := (parseType_rec_limit rl src (fun w => parse_type_terminates none rl src w)).2
  rw [typeDepth_eq_tyDepth src t ts e hsig hty hhead] at h3
  rw [← h2, h3]
  omega

/-- **selection sets: the Ast-level budget is an upper bound of the depth of the tree** — for every source text
    that spells the selections `ss` (the hypotheses of `fieldset_accept_complete`, C07): if they fit the
    budget `rl − 1` then the tree of the parse is at most `rl` deep -/
theorem selection_set_tree_depth_le (rl : Nat) (src : Str) (ss : Ast.Sels) (ts : List Tok) (e : Tok)
    (hclean : LexClean src) (hsig : sig (srcToks src) = ts ++ [e]) (he : e.kind = .eof)
    (hne : ss ≠ Ast.Sels.nil) (hb : 1 ≤ rl) (hfit : fitSels ss (rl - 1))
    (hx : (TokIs ts (.p .lCurly :: Ast.tSels ss ++ [.p .rCurly]) ∧ HeadSig (srcToks src)) ∨ TokIs ts (Ast.tSels ss)) :
    ∃ root, (parse .selectionSet none rl src).outcome = .tree root ∧ gd root ≤ rl ∧
      (parse .selectionSet none rl src).recHigh = gd root := by
  have herr := parseFieldSet_complete_full rl src ss ts e hclean hsig he hne hb hfit hx
  obtain ⟨root, h1, h2⟩ := parse_depth_of_no_error .selectionSet rl src herr
  refine ⟨root, h1, ?_, h2⟩
  rw [← h2]
  by_cases h : (parse .selectionSet none rl src).recHigh ≤ rl
  · exact h
  · have := parse_hit_records .selectionSet rl src (by omega)
    rw [herr] at this
    obtain ⟨x, hx', _⟩ := this
    cases hx'

end Apollo.Parse
