import ApolloModel.Model.Standalone
/-
Property C20 (Properties/C20.lean), first sentence: when the with-schema run of the model reports nothing, `from_ast`
built the same document as without a schema and the walk visits what the standalone walk visits, so the standalone
run reports nothing either (`validate_relax`, under `Guard`).
-/
namespace Apollo.Standalone

/-- the hypothesis under which the relaxation holds: either the code does not report undefined directives
    without a schema (the code since fix 7c4ccc3), or the thing at hand carries no directive at all -/
def Guard (p : Params) (b : Bool) : Prop := p.undefinedDirectiveWithoutSchema = false ∨ b = true

theorem Guard.of_and_left {p : Params} {a b : Bool} (h : Guard p (a && b)) : Guard p a := by
  rcases h with h | h
  · exact .inl h
  · exact .inr (by simp at h; exact h.1)

theorem Guard.of_and_right {p : Params} {a b : Bool} (h : Guard p (a && b)) : Guard p b := by
  rcases h with h | h
  · exact .inl h
  · exact .inr (by simp at h; exact h.2)

def noDirsSels : Sels → Bool
  | .nil => true
  | .field _ dirs _ sub rest => dirs.isEmpty && (noDirsSels sub && noDirsSels rest)
  | .spread _ dirs rest => dirs.isEmpty && noDirsSels rest
  | .inline _ dirs sub rest => dirs.isEmpty && (noDirsSels sub && noDirsSels rest)

def Op.noDirs (o : Op) : Bool := o.dirs.isEmpty && (o.vars.all (fun v => v.dirs.isEmpty) && noDirsSels o.sels)
def Frag.noDirs (f : Frag) : Bool := f.dirs.isEmpty && noDirsSels f.sels
def Def.noDirs : Def → Bool
  | .op o => o.noDirs
  | .frag f => f.noDirs
  | .typeSystem => true
def noDirsAst (ast : Ast) : Bool := ast.all Def.noDirs

/-! ### from_ast without a schema is the identity -/

theorem buildSels_none (parent : Name) (t : Sels) : buildSels none parent t = (t, []) := by
  induction t generalizing parent with
  | nil => simp [buildSels]
  | field name dirs args sub rest ihs ihr => simp [buildSels, ihs, ihr]
  | spread f dirs rest ihr => simp [buildSels, ihr]
  | inline tc dirs sub rest ihs ihr => cases tc <;> simp [buildSels, ihs, ihr]

theorem buildOp_none (o : Op) : buildOp none o = some (o, []) := by
  simp [buildOp, buildSels_none]

/-! ### directives -/

theorem dirDiagsAux_relax (p : Params) (sc : Schema) (loc : Loc) (ds : List Dir) (seen : List Name)
    (g : Guard p ds.isEmpty) (h : dirDiagsAux p (some sc) loc seen ds = []) :
    dirDiagsAux p none loc seen ds = [] := by
  induction ds generalizing seen with
  | nil => simp [dirDiagsAux]
  | cons d ds ih =>
    rcases g with g | g
    · simp only [dirDiagsAux, List.append_eq_nil_iff] at h ⊢
      obtain ⟨⟨⟨ha, _⟩, _⟩, hr⟩ := h
      refine ⟨⟨⟨ha, ?_⟩, ?_⟩, ih _ (.inl g) hr⟩
      · simp
      · simp [g]
    · simp at g

theorem dirDiags_relax (p : Params) (sc : Schema) (loc : Loc) (ds : List Dir)
    (g : Guard p ds.isEmpty) (h : dirDiags p (some sc) loc ds = []) : dirDiags p none loc ds = [] :=
  dirDiagsAux_relax p sc loc ds [] g h

/-! ### a selection set that `from_ast` keeps whole is well typed -/

def typed (sc : Schema) : Name → Sels → Bool
  | _, .nil => true
  | parent, .field name _ _ sub rest =>
    (match sc.field parent name with
     | some fd => !(!sub.isNil && sc.kind fd.ty == some .leaf) && typed sc fd.ty sub
     | none => false) && typed sc parent rest
  | parent, .spread _ _ rest => typed sc parent rest
  | parent, .inline tc _ sub rest =>
    (match tc with
     | some t => (sc.kind t).isSome && typed sc t sub
     | none => typed sc parent sub) && typed sc parent rest

theorem buildSels_some_nil (sc : Schema) (parent : Name) (t : Sels)
    (h : (buildSels (some sc) parent t).2 = []) :
    (buildSels (some sc) parent t).1 = t ∧ typed sc parent t = true := by
  induction t generalizing parent with
  | nil => simp [buildSels, typed]
  | field name dirs args sub rest ihs ihr =>
    simp only [buildSels] at h ⊢
    cases hf : sc.field parent name with
    | none => simp [hf] at h
    | some fd =>
      simp only [hf] at h ⊢
      by_cases hl : (!sub.isNil && sc.kind fd.ty == some Kind.leaf) = true
      · simp [hl] at h
      · simp only [hl, Bool.false_eq_true, ↓reduceIte, List.append_eq_nil_iff] at h ⊢
        have hs := ihs fd.ty h.1
        have hr := ihr parent h.2
        simp only [typed, hf]
        simp only [Bool.not_eq_true] at hl
        simp [hs.1, hr.1, hs.2, hr.2, hl]
  | spread f dirs rest ihr =>
    simp only [buildSels] at h ⊢
    have hr := ihr parent h
    simp [typed, hr.1, hr.2]
  | inline tc dirs sub rest ihs ihr =>
    cases tc with
    | none =>
      simp only [buildSels, List.append_eq_nil_iff, Option.getD_none] at h ⊢
      have hs := ihs parent h.1
      have hr := ihr parent h.2
      simp [typed, hs.1, hs.2, hr.1, hr.2]
    | some t =>
      simp only [buildSels] at h ⊢
      by_cases hk : (sc.kind t).isNone = true
      · simp [hk] at h
      · simp only [hk, Bool.false_eq_true, ↓reduceIte, List.append_eq_nil_iff] at h ⊢
        have hs := ihs t h.1
        have hr := ihr parent h.2
        have hk' : (sc.kind t).isSome = true := by
          cases hq : sc.kind t <;> simp [hq] at hk ⊢
        simp [typed, hs.1, hs.2, hr.1, hr.2, hk']


/-! ### variable definitions -/

theorem varDefDiags_relax (p : Params) (sc : Schema) (vs : List VarDef) (seen : List Name)
    (g : Guard p (vs.all (fun v => v.dirs.isEmpty))) (h : varDefDiags p (some sc) seen vs = []) :
    varDefDiags p none seen vs = [] := by
  induction vs generalizing seen with
  | nil => simp [varDefDiags]
  | cons v vs ih =>
    simp only [List.all_cons] at g
    simp only [varDefDiags, List.append_eq_nil_iff] at h ⊢
    obtain ⟨⟨⟨ha, _⟩, hc⟩, hr⟩ := h
    simp [dirDiags_relax p sc _ _ g.of_and_left ha, hc, ih _ g.of_and_right hr]

/-! ### selection sets -/

theorem walkSels_relax (p : Params) (sc : Schema) (doc : BuiltDoc)
    (eS eN : Frag → List Name → List Diag × List Name)
    (he : ∀ d, d ∈ doc.frags → ∀ V V', eS d V = ([], V') → eN d V = ([], V'))
    (t : Sels) : ∀ (ty : Name) (ty' : Option Name) (V V' : List Name),
      typed sc ty t = true → Guard p (noDirsSels t) →
      walkSels p (some sc) doc eS (some ty) t V = ([], V') →
      walkSels p none doc eN ty' t V = ([], V') := by
  induction t with
  | nil => intro ty ty' V V' _ _ h; simpa [walkSels] using h
  | field name dirs args sub rest ihs ihr =>
    intro ty ty' V V' ht g h
    simp only [noDirsSels] at g
    simp only [typed, Bool.and_eq_true] at ht
    obtain ⟨htf, htr⟩ := ht
    cases hf : sc.field ty name with
    | none => simp [hf] at htf
    | some fd =>
      simp only [hf, Bool.and_eq_true] at htf
      simp only [walkSels, hf] at h ⊢
      by_cases hm : (sub.isNil && sc.kind fd.ty == some Kind.composite) = true
      · simp [hm] at h
      · simp only [hm, Bool.false_eq_true, ↓reduceIte, Prod.mk.injEq, List.append_eq_nil_iff] at h
        obtain ⟨⟨⟨⟨hd, hu⟩, _, h3⟩, h4⟩, hV⟩ := h
        have e3 := ihs fd.ty none V _ htf.2 g.of_and_right.of_and_left (Prod.ext h3 rfl)
        have e4 := ihr ty ty' _ V' htr g.of_and_right.of_and_right (Prod.ext h4 hV)
        simp [e3, e4, dirDiags_relax p sc _ _ g.of_and_left hd, hu]
  | spread f dirs rest ihr =>
    intro ty ty' V V' ht g h
    simp only [noDirsSels] at g
    simp only [typed] at ht
    simp only [walkSels] at h ⊢
    cases hf : doc.findFrag f with
    | none => simp [hf] at h
    | some d =>
      have hmem : d ∈ doc.frags := List.mem_of_find?_eq_some hf
      simp only [hf] at h ⊢
      by_cases hv : f ∈ V
      · simp only [hv, ↓reduceIte, Prod.mk.injEq, List.append_eq_nil_iff, List.append_nil] at h ⊢
        obtain ⟨⟨hd, h4⟩, hV⟩ := h
        have e4 := ihr ty ty' V V' ht g.of_and_right (Prod.ext h4 hV)
        simp [e4, dirDiags_relax p sc _ _ g.of_and_left hd]
      · simp only [hv, ↓reduceIte, Prod.mk.injEq, List.append_eq_nil_iff] at h ⊢
        obtain ⟨⟨⟨hd, h2⟩, h4⟩, hV⟩ := h
        have e2 := he d hmem (f :: V) _ (Prod.ext h2 rfl)
        have e4 := ihr ty ty' _ V' ht g.of_and_right (Prod.ext h4 hV)
        simp [e2, e4, dirDiags_relax p sc _ _ g.of_and_left hd]
  | inline tc dirs sub rest ihs ihr =>
    intro ty ty' V V' ht g h
    simp only [noDirsSels] at g
    simp only [typed, Bool.and_eq_true] at ht
    obtain ⟨hts, htr⟩ := ht
    cases tc with
    | none =>
      simp only [walkSels, List.isEmpty_nil, ↓reduceIte, List.append_nil, Prod.mk.injEq, List.append_eq_nil_iff] at h ⊢
      obtain ⟨⟨⟨hd, h3⟩, h4⟩, hV⟩ := h
      have e3 := ihs ty ty' V _ hts g.of_and_right.of_and_left (Prod.ext h3 rfl)
      have e4 := ihr ty ty' _ V' htr g.of_and_right.of_and_right (Prod.ext h4 hV)
      simp [e3, e4, dirDiags_relax p sc _ _ g.of_and_left hd]
    | some t =>
      simp only [Bool.and_eq_true] at hts
      simp only [walkSels] at h ⊢
      by_cases hk : (sc.kind t == some Kind.composite) = true
      · simp only [hk, ↓reduceIte, List.isEmpty_nil, List.append_nil, Prod.mk.injEq, List.append_eq_nil_iff] at h ⊢
        obtain ⟨⟨⟨hd, h3⟩, h4⟩, hV⟩ := h
        have e3 := ihs t ty' V _ hts.2 g.of_and_right.of_and_left (Prod.ext h3 rfl)
        have e4 := ihr ty ty' _ V' htr g.of_and_right.of_and_right (Prod.ext h4 hV)
        simp [e3, e4, dirDiags_relax p sc _ _ g.of_and_left hd]
      · simp [hk] at h

/-- what `from_ast` with a schema guarantees about a document it built without reporting anything -/
structure DocOk (p : Params) (sc : Schema) (doc : BuiltDoc) : Prop where
  ops : ∀ o, o ∈ doc.ops → (∃ t, sc.root o.ty = some t ∧ typed sc t o.sels = true) ∧ Guard p o.noDirs
  frags : ∀ f, f ∈ doc.frags → (sc.kind f.tc).isSome = true ∧ typed sc f.tc f.sels = true ∧ Guard p f.noDirs

theorem enterFrag_relax (p : Params) (sc : Schema) (doc : BuiltDoc) (ok : DocOk p sc doc) (n : Nat) :
    ∀ d, d ∈ doc.frags → ∀ V V', enterFrag p (some sc) doc n d V = ([], V') →
      enterFrag p none doc n d V = ([], V') := by
  induction n with
  | zero => intro d _ V V' h; simp [enterFrag] at h
  | succ n ih =>
    intro d hd V V' h
    obtain ⟨hk, ht, g⟩ := ok.frags d hd
    simp only [Frag.noDirs] at g
    simp only [enterFrag] at h ⊢
    by_cases hc : (sc.kind d.tc == some Kind.composite) = true
    · by_cases hy : d.name ∈ reach doc d.sels
      · simp [hc, hy] at h
      · simp only [hc, hy, ↓reduceIte, List.isEmpty_nil, Bool.and_self, Prod.mk.injEq, List.append_eq_nil_iff] at h ⊢
        obtain ⟨⟨hdir, hw⟩, hV⟩ := h
        have hty : fragTy (some sc) d = some d.tc := by simp [fragTy, hk]
        rw [hty] at hw hV
        have e := walkSels_relax p sc doc _ _ ih d.sels d.tc (fragTy none d) V V' ht g.of_and_right (Prod.ext hw hV)
        simp [e, dirDiags_relax p sc _ _ g.of_and_left hdir]
    · simp [hc] at h

theorem validateOp_relax (p : Params) (sc : Schema) (doc : BuiltDoc) (ok : DocOk p sc doc) (o : Op)
    (ho : o ∈ doc.ops) (h : validateOp p (some sc) doc o = []) : validateOp p none doc o = [] := by
  obtain ⟨⟨t, hr, ht⟩, g⟩ := ok.ops o ho
  simp only [Op.noDirs] at g
  simp only [validateOp, List.append_eq_nil_iff, Option.bind_some, hr] at h ⊢
  obtain ⟨⟨⟨hd, hv⟩, hu⟩, hw⟩ := h
  have e := walkSels_relax p sc doc _ _ (enterFrag_relax p sc doc ok doc.frags.length) o.sels t
    none [] _ ht g.of_and_right.of_and_right (Prod.ext hw rfl)
  simp [e, dirDiags_relax p sc _ _ g.of_and_left hd, varDefDiags_relax p sc _ _ g.of_and_right.of_and_left hv, hu]

theorem validateBuilt_relax (p : Params) (sc : Schema) (doc : BuiltDoc) (ok : DocOk p sc doc)
    (h : validateBuilt p (some sc) doc = []) : validateBuilt p none doc = [] := by
  simp only [validateBuilt, List.append_eq_nil_iff, List.flatMap_eq_nil_iff] at h ⊢
  exact ⟨⟨fun o ho => validateOp_relax p sc doc ok o ho (h.1.1 o ho), h.1.2⟩, h.2⟩


theorem mem_names_of_findFrag {doc : BuiltDoc} {x : Name} {d : Frag} (h : doc.findFrag x = some d) :
    x ∈ doc.frags.map (·.name) :=
  List.mem_map.mpr ⟨d, List.mem_of_find?_eq_some h, by simpa using List.find?_some h⟩

/-! ### one step of `build`: what it reports and what it adds to the document -/

/-- the diagnostic kinds of `buildSels` -/
def Diag.ofSels : Diag → Bool
  | .undefinedField | .subselectionOnLeaf | .undefinedTypeInInlineFragmentTypeCondition => true
  | _ => false

theorem buildSels_all_ofSels (s : Option Schema) (sels : Sels) :
    ∀ parent, (buildSels s parent sels).2.all Diag.ofSels = true := by
  induction sels with
  | nil => simp [buildSels]
  | field name dirs args sub rest ihs ihr =>
    intro parent
    simp only [buildSels]
    repeat' split
    all_goals simp [ihs, ihr, Diag.ofSels]
  | spread f dirs rest ihr => exact ihr
  | inline tc dirs sub rest ihs ihr =>
    intro parent
    simp only [buildSels]
    repeat' split
    all_goals simp [ihs, ihr, Diag.ofSels]

theorem buildSels_ofSels (s : Option Schema) (sels : Sels) (parent : Name) :
    ∀ d ∈ (buildSels s parent sels).2, d.ofSels = true :=
  List.all_eq_true.mp (buildSels_all_ofSels s sels parent)

theorem buildOp_spec (s : Option Schema) (o o' : Op) (ds : List Diag) (h : buildOp s o = some (o', ds)) :
    o'.name = o.name ∧ ∀ d ∈ ds, d.ofSels = true := by
  unfold buildOp at h
  repeat' split at h
  all_goals simp only [Option.some.injEq, Prod.mk.injEq, reduceCtorEq] at h
  all_goals
    obtain ⟨rfl, rfl⟩ := h
    exact ⟨rfl, buildSels_ofSels _ _ _⟩

/-- what `buildDef` itself reports of a definition, the diagnostics of its selections aside -/
def ownDiags (s : Option Schema) (st : BuildState) : Def → List Diag
  | .op o =>
    match o.name with
    | some n =>
      (if st.doc.anon.isSome then [.ambiguousAnonymousOperation] else []) ++
        (if st.doc.named.any (fun p => p.name == some n) then [.operationNameCollision]
         else if (buildOp s o).isNone then [.undefinedRootOperation] else [])
    | none =>
      if st.doc.anon.isSome then
        (if st.multipleAnonymous then [] else [.ambiguousAnonymousOperation]) ++ [.ambiguousAnonymousOperation]
      else if !st.doc.named.isEmpty then [.ambiguousAnonymousOperation]
      else if (buildOp s o).isNone then [.undefinedRootOperation] else []
  | .frag f =>
    if st.doc.frags.any (fun g => g.name == f.name) then [.fragmentNameCollision]
    else
      match s with
      | some sc => if (sc.kind f.tc).isNone then [.undefinedTypeInNamedFragmentTypeCondition] else []
      | none => []
  | .typeSystem => [.typeSystemDefinition]

theorem mem_buildDef_diags (s : Option Schema) (st : BuildState) (d : Def) {x : Diag} (hx : x.ofSels = false) :
    x ∈ (buildDef s st d).diags ↔ x ∈ st.diags ∨ x ∈ ownDiags s st d := by
  have hsel : ∀ parent sels, x ∉ (buildSels s parent sels).2 := fun _ _ h => by
    rw [buildSels_ofSels _ _ _ _ h] at hx; cases hx
  have hop : ∀ o o' ds, buildOp s o = some (o', ds) → x ∉ ds := fun o o' ds h hm => by
    rw [(buildOp_spec s o o' ds h).2 _ hm] at hx; cases hx
  cases d with
  | typeSystem => simp [buildDef, ownDiags]
  | frag f =>
    simp only [buildDef, ownDiags]
    cases s <;> simp only []
    all_goals repeat' split
    all_goals simp [hsel]
  | op o =>
    simp only [buildDef, ownDiags]
    cases hb : buildOp s o with
    | none =>
      cases o.name <;> simp only [Option.isNone_none, if_true]
      all_goals repeat' split
      all_goals simp
    | some r =>
      cases o.name <;> simp only [Option.isNone_some, Bool.false_eq_true, if_false]
      all_goals repeat' split
      all_goals simp [hop o r.1 r.2 hb, *]

theorem buildDef_frag_doc (s : Option Schema) (st : BuildState) (f : Frag) :
    (buildDef s st (.frag f)).doc =
      if ownDiags s st (.frag f) = [] then
        { st.doc with frags := st.doc.frags ++ [{ f with sels := (buildSels s f.tc f.sels).1 }] }
      else st.doc := by
  simp only [buildDef, ownDiags]
  cases s <;> simp only []
  all_goals repeat' split
  all_goals simp_all

theorem buildDef_op_doc (s : Option Schema) (st : BuildState) (o o' : Op) (ds : List Diag)
    (h : buildOp s o = some (o', ds)) :
    (buildDef s st (.op o)).doc =
      match o.name with
      | some n =>
        if st.doc.named.any (fun p => p.name == some n) then st.doc else { st.doc with named := st.doc.named ++ [o'] }
      | none =>
        if st.doc.anon.isSome || !st.doc.named.isEmpty then st.doc else { st.doc with anon := some o' } := by
  simp only [buildDef, h]
  cases o.name <;> simp only []
  all_goals repeat' split
  all_goals simp_all

theorem buildDef_op_frags (s : Option Schema) (st : BuildState) (o : Op) :
    (buildDef s st (.op o)).doc.frags = st.doc.frags := by
  simp only [buildDef]
  repeat' split
  all_goals rfl

/-! ### from_ast with a schema, when it reports nothing, builds the same document -/

theorem buildDef_diags_prefix (s : Option Schema) (st : BuildState) (d : Def) :
    ∃ extra, (buildDef s st d).diags = st.diags ++ extra := by
  unfold buildDef
  repeat' split
  all_goals (try simp only [List.append_assoc])
  all_goals (try exact ⟨_, rfl⟩)

theorem foldl_diags_nil (s : Option Schema) (ast : Ast) (st : BuildState)
    (h : (ast.foldl (buildDef s) st).diags = []) : st.diags = [] := by
  induction ast generalizing st with
  | nil => simpa using h
  | cons d ast ih =>
    have h1 := ih _ h
    obtain ⟨extra, he⟩ := buildDef_diags_prefix s st d
    rw [he] at h1
    exact (List.append_eq_nil_iff.mp h1).1

structure Rel (p : Params) (sc : Schema) (stS stN : BuildState) : Prop where
  doc : stN.doc = stS.doc
  multi : stN.multipleAnonymous = stS.multipleAnonymous
  diags : stN.diags = []
  ok : DocOk p sc stS.doc

theorem op_eta (o : Op) : { o with sels := o.sels } = o := by cases o; rfl
theorem frag_eta (f : Frag) : { f with sels := f.sels } = f := by cases f; rfl

theorem buildOp_some_nil (sc : Schema) (o o' : Op) (ds : List Diag)
    (h : buildOp (some sc) o = some (o', ds)) (hd : ds = []) :
    o' = o ∧ ∃ t, sc.root o.ty = some t ∧ typed sc t o.sels = true := by
  unfold buildOp at h
  cases hr : sc.root o.ty with
  | none => simp [hr] at h
  | some t =>
    simp only [hr, Option.some.injEq, Prod.mk.injEq] at h
    obtain ⟨h1, h2⟩ := h
    have hb := buildSels_some_nil sc t o.sels (by rw [h2, hd])
    refine ⟨?_, t, rfl, hb.2⟩
    rw [← h1, hb.1]

theorem buildDef_rel (p : Params) (sc : Schema) (stS stN : BuildState) (d : Def) (g : Guard p d.noDirs)
    (r : Rel p sc stS stN) (h : (buildDef (some sc) stS d).diags = []) :
    Rel p sc (buildDef (some sc) stS d) (buildDef none stN d) := by
  obtain ⟨rdoc, rmulti, rdiags, rok⟩ := r
  have hS : stS.diags = [] := by
    obtain ⟨extra, he⟩ := buildDef_diags_prefix (some sc) stS d
    rw [he] at h
    exact (List.append_eq_nil_iff.mp h).1
  cases d with
  | typeSystem => simp [buildDef] at h
  | op o =>
    simp only [Def.noDirs] at g
    cases hn : o.name with
    | some n =>
      simp only [buildDef, hn] at h ⊢
      rw [rdoc]
      by_cases hany : (stS.doc.named.any fun p => p.name == some n) = true
      · simp [hany] at h
      · simp only [hany, Bool.false_eq_true, ↓reduceIte] at h ⊢
        cases hb : buildOp (some sc) o with
        | none => simp [hb] at h
        | some r =>
          obtain ⟨o', ds⟩ := r
          simp only [hb, List.append_eq_nil_iff] at h ⊢
          obtain ⟨⟨_, hanon⟩, hds⟩ := h
          obtain ⟨ho', t, hr, ht⟩ := buildOp_some_nil sc o o' ds hb hds
          subst ho'
          simp only [buildOp_none]
          refine ⟨by simp, rmulti, ?_, ?_⟩
          · simp [rdiags, hanon]
          · constructor
            · intro q hq
              simp only [BuiltDoc.ops, List.mem_append, List.mem_singleton] at hq
              rcases hq with hq | hq | hq
              · exact rok.ops q (by simp [BuiltDoc.ops, hq])
              · exact rok.ops q (by simp [BuiltDoc.ops, hq])
              · subst hq; exact ⟨⟨t, hr, ht⟩, g⟩
            · intro f hf; exact rok.frags f hf
    | none =>
      simp only [buildDef, hn] at h ⊢
      rw [rdoc]
      by_cases ha : stS.doc.anon.isSome = true
      · simp [ha] at h
      · simp only [ha, Bool.false_eq_true, ↓reduceIte] at h ⊢
        by_cases hne : (!stS.doc.named.isEmpty) = true
        · simp [hne] at h
        · simp only [hne, Bool.false_eq_true, ↓reduceIte] at h ⊢
          cases hb : buildOp (some sc) o with
          | none => simp [hb] at h
          | some r =>
            obtain ⟨o', ds⟩ := r
            simp only [hb, List.append_eq_nil_iff] at h ⊢
            obtain ⟨_, hds⟩ := h
            obtain ⟨ho', t, hr, ht⟩ := buildOp_some_nil sc o o' ds hb hds
            subst ho'
            simp only [buildOp_none]
            refine ⟨by simp, rmulti, ?_, ?_⟩
            · simp [rdiags]
            · constructor
              · intro q hq
                simp only [BuiltDoc.ops, List.mem_append, Option.toList_some, List.mem_singleton] at hq
                rcases hq with hq | hq
                · subst hq; exact ⟨⟨t, hr, ht⟩, g⟩
                · exact rok.ops q (by simp [BuiltDoc.ops, hq])
              · intro f hf; exact rok.frags f hf
  | frag f =>
    simp only [Def.noDirs] at g
    simp only [buildDef] at h ⊢
    rw [rdoc]
    by_cases hany : (stS.doc.frags.any fun g => g.name == f.name) = true
    · simp [hany] at h
    · simp only [hany, Bool.false_eq_true, ↓reduceIte] at h ⊢
      by_cases hk : (sc.kind f.tc).isNone = true
      · simp [hk] at h
      · simp only [hk, Bool.false_eq_true, ↓reduceIte, List.append_eq_nil_iff] at h ⊢
        obtain ⟨_, hds⟩ := h
        have hb := buildSels_some_nil sc f.tc f.sels hds
        have hk' : (sc.kind f.tc).isSome = true := by
          cases hq : sc.kind f.tc <;> simp [hq] at hk ⊢
        simp only [buildSels_none, hb.1]
        refine ⟨by simp, rmulti, ?_, ?_⟩
        · simp [rdiags]
        · constructor
          · intro q hq; exact rok.ops q (by simpa [BuiltDoc.ops] using hq)
          · intro q hq
            simp only [List.mem_append, List.mem_singleton] at hq
            rcases hq with hq | hq
            · exact rok.frags q hq
            · subst hq; exact ⟨hk', hb.2, g⟩

theorem foldl_rel (p : Params) (sc : Schema) (ast : Ast) (stS stN : BuildState)
    (g : ∀ d, d ∈ ast → Guard p d.noDirs) (r : Rel p sc stS stN)
    (h : (ast.foldl (buildDef (some sc)) stS).diags = []) :
    Rel p sc (ast.foldl (buildDef (some sc)) stS) (ast.foldl (buildDef none) stN) := by
  induction ast generalizing stS stN with
  | nil => simpa using r
  | cons d ast ih =>
    simp only [List.foldl_cons] at h ⊢
    have h1 := foldl_diags_nil (some sc) ast _ h
    exact ih _ _ (fun e he => g e (List.mem_cons_of_mem _ he))
      (buildDef_rel p sc stS stN d (g d (List.mem_cons_self ..)) r h1) h

theorem guard_ast (p : Params) (ast : Ast) (g : Guard p (noDirsAst ast)) : ∀ d, d ∈ ast → Guard p d.noDirs := by
  intro d hd
  rcases g with g | g
  · exact .inl g
  · exact .inr (by simp only [noDirsAst, List.all_eq_true] at g; exact g d hd)

theorem build_rel (p : Params) (sc : Schema) (ast : Ast) (g : Guard p (noDirsAst ast))
    (h : (build (some sc) ast).diags = []) : Rel p sc (build (some sc) ast) (build none ast) := by
  unfold build at h ⊢
  refine foldl_rel p sc ast {} {} (guard_ast p ast g) ⟨rfl, rfl, rfl, ?_⟩ h
  constructor
  · intro o ho; simp [BuiltDoc.ops] at ho
  · intro f hf; simp at hf

/-- C20, first sentence (the relaxation), on the model -/
theorem validate_relax (p : Params) (sc : Schema) (ast : Ast) (g : Guard p (noDirsAst ast))
    (h : validate p (some sc) ast = []) : validate p none ast = [] := by
  simp only [validate, List.append_eq_nil_iff] at h ⊢
  obtain ⟨⟨hb, hv⟩, _⟩ := h
  have r := build_rel p sc ast g hb
  rw [r.doc, r.diags]
  simp [validateBuilt_relax p sc _ r.ok hv]

end Apollo.Standalone
