import ApolloModel.Spec.SchemaBuildRules
import ApolloModel.Proofs.StickyBuild
import ApolloModel.Proofs.SchemaBuild
/-
C14: `SchemaBuilder` (one pass over the definitions with a queue of orphan extensions,
Model/SchemaBuild.lean) reports no error iff the document satisfies the specification's two-pass
reading `BuildSpec` (Spec/SchemaBuildRules.lean).  Loop invariant: after a prefix `pre` that produced no
error, the builder's state is the one the specification's reading functions describe (`Inv`), and the
prefix satisfies the order-free part of the specification restricted to what is known so far
(`PrefixSpec`).  `finishRaw` adds exactly the rules that need the whole document.
Here: the reading functions on `pre ++ [d]`, and `PrefixSpec` with its step form `PrefixSpec_snoc`; `Inv` is in
SchemaBuildSpec3, the theorem (`build_errors_iff_spec`) in SchemaBuildSpec5.
-/
namespace Apollo.SchemaBuild

/-! ### reverse induction -/

theorem snoc_induction {α : Type} {P : List α → Prop} (nil : P []) (snoc : ∀ l a, P l → P (l ++ [a])) :
    ∀ l, P l := by
  intro l
  have h : ∀ r : List α, P r.reverse := by
    intro r
    induction r with
    | nil => exact nil
    | cons a r ih => rw [List.reverse_cons]; exact snoc _ _ ih
  have := h l.reverse
  rwa [List.reverse_reverse] at this

/-! ### the reading functions on `pre ++ [d]` -/

def names (its : List Item) : List Name := its.map (·.name)

theorem typeDefNames_snoc (pre : List Def) (d : Def) :
    typeDefNames (pre ++ [d]) = typeDefNames pre ++ (if d.defKind.isSome then [d.name] else []) := by
  unfold typeDefNames
  rw [List.filter_append, List.map_append]
  by_cases h : d.defKind.isSome <;> simp [h]

theorem dirDefNames_snoc (pre : List Def) (d : Def) :
    dirDefNames (pre ++ [d]) = dirDefNames pre ++ (if d.isDirectiveDef then [d.name] else []) := by
  unfold dirDefNames
  rw [List.filter_append, List.map_append]
  by_cases h : d.isDirectiveDef <;> simp [h]

theorem definedKind_snoc (pre : List Def) (d : Def) (n : Name) :
    definedKind (pre ++ [d]) n = (definedKind pre n).or (if d.name == n then d.defKind else none) := by
  unfold definedKind
  rw [List.findSome?_append]
  simp

theorem kindOfName_snoc (pre : List Def) (d : Def) (n : Name) :
    kindOfName (pre ++ [d]) n =
      match kindOfName pre n with
      | some k => some k
      | none => if d.name == n then d.defKind else none := by
  unfold kindOfName
  rw [definedKind_snoc]
  cases builtinKind n with
  | some k => rfl
  | none =>
    cases definedKind pre n with
    | some k => rfl
    | none => simp

theorem partsOf_snoc (pre : List Def) (d : Def) (n : Name) :
    partsOf (pre ++ [d]) n = partsOf pre n ++ (if d.isTypePart && d.name == n then [d] else []) := by
  unfold partsOf
  rw [List.filter_append]
  by_cases h : (d.isTypePart && d.name == n) = true
  · simp [h]
  · simp [h]

theorem partsOf_flatMap_snoc (g : Def → List Name) (pre : List Def) (d : Def) (n : Name) :
    (partsOf (pre ++ [d]) n).flatMap g = (partsOf pre n).flatMap g ++ (if d.isTypePart && d.name == n then g d else []) := by
  rw [partsOf_snoc, List.flatMap_append]
  by_cases h : (d.isTypePart && d.name == n) = true <;> simp [h]

theorem memberNames_snoc (pre : List Def) (d : Def) (n : Name) :
    memberNames (pre ++ [d]) n = memberNames pre n ++ (if d.isTypePart && d.name == n then names d.members else []) :=
  partsOf_flatMap_snoc _ pre d n

theorem ifaceNames_snoc (pre : List Def) (d : Def) (n : Name) :
    ifaceNames (pre ++ [d]) n = ifaceNames pre n ++ (if d.isTypePart && d.name == n then names d.interfaces else []) :=
  partsOf_flatMap_snoc _ pre d n

theorem schemaDefCount_snoc (pre : List Def) (d : Def) :
    schemaDefCount (pre ++ [d]) = schemaDefCount pre + (if d.isSchemaDef then 1 else 0) := by
  unfold schemaDefCount
  rw [List.filter_append, List.length_append]
  by_cases h : d.isSchemaDef <;> simp [h]

theorem schemaExts_snoc (pre : List Def) (d : Def) :
    schemaExts (pre ++ [d]) = schemaExts pre ++ (if d.isSchemaExt then [d] else []) := by
  unfold schemaExts
  rw [List.filter_append]
  by_cases h : d.isSchemaExt <;> simp [h]

theorem schemaOpNames_snoc (pre : List Def) (d : Def) :
    schemaOpNames (pre ++ [d]) = schemaOpNames pre ++ (if d.isSchemaPart then names d.members else []) := by
  unfold schemaOpNames
  rw [List.filter_append, List.flatMap_append]
  by_cases h : d.isSchemaPart <;> simp [h, names]

theorem builtinKind_none_iff (n : Name) : builtinKind n = none ↔ n ∉ builtinTypeNames := by
  unfold builtinKind builtinTypeNames findType
  rw [Option.map_eq_none_iff, List.find?_eq_none]
  simp only [List.mem_map, not_exists, not_and, beq_iff_eq]

theorem definedKind_none_iff (ds : List Def) (n : Name) : definedKind ds n = none ↔ n ∉ typeDefNames ds := by
  unfold definedKind typeDefNames
  rw [List.findSome?_eq_none_iff]
  simp only [List.mem_map, List.mem_filter, not_exists, not_and, and_imp]
  constructor
  · intro h d hd hk heq
    have := h d hd
    rw [heq] at this
    simp at this
    rw [this] at hk; cases hk
  · intro h d hd
    by_cases heq : d.name = n
    · have := fun hk => h d hd hk heq
      cases hdk : d.defKind with
      | none => simp
      | some k => rw [hdk] at this; simp at this
    · simp [heq]

theorem kindOfName_none_iff (ds : List Def) (n : Name) :
    kindOfName ds n = none ↔ n ∉ builtinTypeNames ++ typeDefNames ds := by
  rw [List.mem_append, not_or, ← builtinKind_none_iff, ← definedKind_none_iff]
  unfold kindOfName
  cases builtinKind n with
  | some k => simp
  | none => simp


theorem kindOfName_snoc_noDef (pre : List Def) (d : Def) (n : Name) (h : d.defKind = none) :
    kindOfName (pre ++ [d]) n = kindOfName pre n := by
  rw [kindOfName_snoc, h]
  cases kindOfName pre n <;> simp

theorem kindOfName_snoc_other (pre : List Def) (d : Def) (n : Name) (h : ¬ d.name = n) :
    kindOfName (pre ++ [d]) n = kindOfName pre n := by
  rw [kindOfName_snoc]
  cases kindOfName pre n <;> simp [h]

theorem kindOfName_snoc_known (pre : List Def) (d : Def) (n : Name) (k : Kind) (h : kindOfName pre n = some k) :
    kindOfName (pre ++ [d]) n = some k := by
  rw [kindOfName_snoc, h]

theorem kindOfName_snoc_new (pre : List Def) (d : Def) (h : kindOfName pre d.name = none) :
    kindOfName (pre ++ [d]) d.name = d.defKind := by
  rw [kindOfName_snoc, h]; simp

/-! ### the order-free specification on a prefix -/

/-- the type part of the specification, restricted to what a prefix of the document can know: an extension of
    a name that is not defined *yet* is not judged -/
structure PT (pre : List Def) : Prop where
  uniqueTypes : (builtinTypeNames ++ typeDefNames pre).Nodup
  extensionsMatch : ∀ e ∈ pre, ∀ k, e.tag = .typeExt k → ∀ k', kindOfName pre e.name = some k' → k' = k
  uniqueMembers : ∀ n, kindOfName pre n ≠ none → (memberNames pre n).Nodup
  uniqueInterfaces : ∀ n, kindOfName pre n ≠ none → (ifaceNames pre n).Nodup

/-- what a type definition or extension `d` must satisfy after `pre` -/
def TOK (pre : List Def) (d : Def) : Prop :=
  (∀ k, d.tag = .typeDef k →
      kindOfName pre d.name = none ∧
      (∀ e ∈ pre, e.name = d.name → ∀ k', e.tag = .typeExt k' → k' = k) ∧
      (memberNames pre d.name ++ names d.members).Nodup ∧ (ifaceNames pre d.name ++ names d.interfaces).Nodup) ∧
  (∀ k, d.tag = .typeExt k → ∀ k', kindOfName pre d.name = some k' →
      k' = k ∧ (memberNames pre d.name ++ names d.members).Nodup ∧ (ifaceNames pre d.name ++ names d.interfaces).Nodup)

theorem extKind_some (d : Def) (k : Kind) : d.extKind = some k ↔ d.tag = .typeExt k := by
  unfold Def.extKind
  cases d.tag <;> simp

theorem defKind_some (d : Def) (k : Kind) : d.defKind = some k ↔ d.tag = .typeDef k := by
  unfold Def.defKind
  cases d.tag <;> simp

theorem kindOfName_snoc_ne_none (pre : List Def) (d : Def) (n : Name) (h : kindOfName pre n ≠ none) :
    kindOfName (pre ++ [d]) n ≠ none := by
  cases hk : kindOfName pre n with
  | none => exact absurd hk h
  | some x => rw [kindOfName_snoc_known _ _ _ _ hk]; simp

/-- the names of a type stay distinct when the part `d` comes: `F` is `memberNames` or `ifaceNames`, `g` the
    names `d` brings -/
theorem uniqueParts_snoc {F : List Def → Name → List Name} {g : Def → List Name}
    (hF : ∀ pre d n, F (pre ++ [d]) n = F pre n ++ (if d.isTypePart && d.name == n then g d else []))
    (pre : List Def) (d : Def) :
    (∀ n, kindOfName (pre ++ [d]) n ≠ none → (F (pre ++ [d]) n).Nodup) ↔
      (∀ n, kindOfName pre n ≠ none → (F pre n).Nodup) ∧
      (d.isTypePart = true → kindOfName (pre ++ [d]) d.name ≠ none → (F pre d.name ++ g d).Nodup) := by
  constructor
  · intro h
    refine ⟨fun n hn => ?_, fun hp hn => ?_⟩
    · have := h n (kindOfName_snoc_ne_none pre d n hn)
      rw [hF, List.nodup_append] at this
      exact this.1
    · simpa [hF, hp] using h d.name hn
  · intro ⟨hold, hnew⟩ n hn
    rw [hF]
    by_cases hc : (d.isTypePart && d.name == n) = true
    · rw [if_pos hc]
      simp only [Bool.and_eq_true, beq_iff_eq] at hc
      obtain ⟨hp, rfl⟩ := hc
      exact hnew hp hn
    · rw [if_neg hc, List.append_nil]
      apply hold n
      by_cases hname : d.name = n
      · have hp : d.isTypePart = false := by simpa [hname] using hc
        have hdk : d.defKind = none := by
          cases hk : d.defKind with
          | none => rfl
          | some k => simp [Def.isTypePart, hk] at hp
        rwa [kindOfName_snoc_noDef pre d n hdk] at hn
      · rwa [kindOfName_snoc_other pre d n hname] at hn

theorem PT_snoc_typeDef (pre : List Def) (d : Def) (k : Kind) (htag : d.tag = .typeDef k) :
    PT (pre ++ [d]) ↔ PT pre ∧ TOK pre d := by
  have hdk : d.defKind = some k := by simp [Def.defKind, htag]
  have hpart : d.isTypePart = true := by simp [Def.isTypePart, hdk]
  constructor
  · intro h
    have hut := h.uniqueTypes
    rw [typeDefNames_snoc, hdk] at hut
    simp only [Option.isSome_some, if_true] at hut
    rw [← List.append_assoc, List.nodup_append] at hut
    have hnone : kindOfName pre d.name = none := by
      rw [kindOfName_none_iff]
      intro hmem
      exact hut.2.2 _ hmem _ (List.mem_singleton.mpr rfl) rfl
    have hnew : kindOfName (pre ++ [d]) d.name = some k := by rw [kindOfName_snoc_new _ _ hnone, hdk]
    have hM := (uniqueParts_snoc memberNames_snoc pre d).mp h.uniqueMembers
    have hI := (uniqueParts_snoc ifaceNames_snoc pre d).mp h.uniqueInterfaces
    refine ⟨⟨hut.1, ?_, hM.1, hI.1⟩, ⟨?_, ?_⟩⟩
    · intro e he ke hke k' hk'
      exact h.extensionsMatch e (List.mem_append_left _ he) ke hke k' (kindOfName_snoc_known _ _ _ _ hk')
    · intro k1 hk1
      have : k1 = k := by rw [htag] at hk1; cases hk1; rfl
      subst this
      refine ⟨hnone, ?_, hM.2 hpart (by rw [hnew]; simp), hI.2 hpart (by rw [hnew]; simp)⟩
      intro e he hname k' hk'
      have h1 : kindOfName (pre ++ [d]) e.name = some k1 := by rw [hname]; exact hnew
      exact (h.extensionsMatch e (List.mem_append_left _ he) k' hk' k1 h1).symm
    · intro k1 hk1; rw [htag] at hk1; cases hk1
  · intro ⟨h, hok⟩
    obtain ⟨hnone, hexts, hmem, hifs⟩ := hok.1 k htag
    refine ⟨?_, ?_, (uniqueParts_snoc memberNames_snoc pre d).mpr ⟨h.uniqueMembers, fun _ _ => hmem⟩,
      (uniqueParts_snoc ifaceNames_snoc pre d).mpr ⟨h.uniqueInterfaces, fun _ _ => hifs⟩⟩
    · rw [typeDefNames_snoc, hdk]
      simp only [Option.isSome_some, if_true]
      rw [← List.append_assoc, List.nodup_append]
      refine ⟨h.uniqueTypes, by simp, ?_⟩
      intro a ha b hb hab
      have hb' : b = d.name := by simpa using hb
      rw [kindOfName_none_iff] at hnone
      exact hnone (by rw [← hb', ← hab]; exact ha)
    · intro e he ke hke k' hk'
      rcases List.mem_append.mp he with he | he
      · cases hk : kindOfName pre e.name with
        | some x =>
          rw [kindOfName_snoc_known _ _ _ _ hk] at hk'
          rw [← Option.some.inj hk']
          exact h.extensionsMatch e he ke hke x hk
        | none =>
          rw [kindOfName_snoc, hk] at hk'
          by_cases hname : d.name = e.name
          · simp [hname, hdk] at hk'
            rw [← hk']
            exact (hexts e he hname.symm ke hke).symm
          · simp [hname] at hk'
      · have : e = d := by simpa using he
        subst this
        rw [htag] at hke; cases hke

theorem PT_snoc_noDef (pre : List Def) (d : Def) (hdk : d.defKind = none) :
    PT (pre ++ [d]) ↔ PT pre ∧ TOK pre d := by
  have hk : ∀ n, kindOfName (pre ++ [d]) n = kindOfName pre n := fun n => kindOfName_snoc_noDef pre d n hdk
  have htd : typeDefNames (pre ++ [d]) = typeDefNames pre := by rw [typeDefNames_snoc, hdk]; simp
  constructor
  · intro h
    have hM := (uniqueParts_snoc memberNames_snoc pre d).mp h.uniqueMembers
    have hI := (uniqueParts_snoc ifaceNames_snoc pre d).mp h.uniqueInterfaces
    refine ⟨⟨?_, ?_, hM.1, hI.1⟩, ⟨?_, ?_⟩⟩
    · rw [← htd]; exact h.uniqueTypes
    · intro e he ke hke k' hk'
      exact h.extensionsMatch e (List.mem_append_left _ he) ke hke k' (by rw [hk]; exact hk')
    · intro k1 hk1
      rw [(defKind_some d k1).mpr hk1] at hdk; cases hdk
    · intro k1 hk1 k' hk'
      have hpart : d.isTypePart = true := by simp [Def.isTypePart, (extKind_some d k1).mpr hk1]
      exact ⟨h.extensionsMatch d (by simp) k1 hk1 k' (by rw [hk]; exact hk'),
        hM.2 hpart (by rw [hk, hk']; simp), hI.2 hpart (by rw [hk, hk']; simp)⟩
  · intro ⟨h, hok⟩
    -- a part that is not a definition is an extension; `TOK` judges it when its name is known
    have key : d.isTypePart = true → kindOfName (pre ++ [d]) d.name ≠ none →
        (memberNames pre d.name ++ names d.members).Nodup ∧ (ifaceNames pre d.name ++ names d.interfaces).Nodup := by
      intro hp hn
      have : d.extKind.isSome = true := by simpa [Def.isTypePart, hdk] using hp
      obtain ⟨k1, hk1⟩ := Option.isSome_iff_exists.mp this
      rw [hk] at hn
      cases hk' : kindOfName pre d.name with
      | none => exact absurd hk' hn
      | some k' => exact (hok.2 k1 ((extKind_some d k1).mp hk1) k' hk').2
    refine ⟨?_, ?_, (uniqueParts_snoc memberNames_snoc pre d).mpr ⟨h.uniqueMembers, fun hp hn => (key hp hn).1⟩,
      (uniqueParts_snoc ifaceNames_snoc pre d).mpr ⟨h.uniqueInterfaces, fun hp hn => (key hp hn).2⟩⟩
    · rw [htd]; exact h.uniqueTypes
    · intro e he ke hke k' hk'
      rw [hk] at hk'
      rcases List.mem_append.mp he with he | he
      · exact h.extensionsMatch e he ke hke k' hk'
      · have : e = d := by simpa using he
        subst this
        exact (hok.2 ke hke k' hk').1

theorem PT_snoc (pre : List Def) (d : Def) : PT (pre ++ [d]) ↔ PT pre ∧ TOK pre d := by
  cases hdk : d.defKind with
  | none => exact PT_snoc_noDef pre d hdk
  | some k => exact PT_snoc_typeDef pre d k ((defKind_some d k).mp hdk)

/-! schema part -/

structure PS (pre : List Def) : Prop where
  loneSchema : schemaDefCount pre ≤ 1
  uniqueOps : schemaDefCount pre ≠ 0 → (schemaOpNames pre).Nodup

def SOK (pre : List Def) (d : Def) : Prop :=
  (d.isSchemaDef = true → schemaDefCount pre = 0 ∧ (schemaOpNames pre ++ names d.members).Nodup) ∧
  (d.isSchemaExt = true → schemaDefCount pre ≠ 0 → (schemaOpNames pre ++ names d.members).Nodup)

theorem schemaDef_not_ext (d : Def) (h : d.isSchemaDef = true) : d.isSchemaExt = false := by
  unfold Def.isSchemaDef at h
  unfold Def.isSchemaExt
  have : d.tag = .schemaDef := by simpa using h
  rw [this]; rfl

theorem PS_snoc (pre : List Def) (d : Def) : PS (pre ++ [d]) ↔ PS pre ∧ SOK pre d := by
  by_cases hsd : d.isSchemaDef = true
  · have hse := schemaDef_not_ext d hsd
    have hpart : d.isSchemaPart = true := by simp [Def.isSchemaPart, hsd]
    constructor
    · intro h
      have h1 := h.loneSchema
      rw [schemaDefCount_snoc, if_pos hsd] at h1
      have h0 : schemaDefCount pre = 0 := by omega
      have h2 := h.uniqueOps (by rw [schemaDefCount_snoc, if_pos hsd]; omega)
      rw [schemaOpNames_snoc, if_pos hpart] at h2
      exact ⟨⟨by omega, fun hne => absurd h0 hne⟩, ⟨fun _ => ⟨h0, h2⟩, fun hx => by rw [hse] at hx; cases hx⟩⟩
    · intro ⟨_, hok⟩
      obtain ⟨h0, h2⟩ := hok.1 hsd
      refine ⟨?_, ?_⟩
      · rw [schemaDefCount_snoc, if_pos hsd]; omega
      · intro _; rw [schemaOpNames_snoc, if_pos hpart]; exact h2
  · have hc : schemaDefCount (pre ++ [d]) = schemaDefCount pre := by rw [schemaDefCount_snoc, if_neg hsd]; rfl
    by_cases hse : d.isSchemaExt = true
    · have hpart : d.isSchemaPart = true := by simp [Def.isSchemaPart, hse]
      constructor
      · intro h
        refine ⟨⟨by rw [← hc]; exact h.loneSchema, ?_⟩, ⟨fun hx => absurd hx hsd, ?_⟩⟩
        · intro hne
          have := h.uniqueOps (by rw [hc]; exact hne)
          rw [schemaOpNames_snoc, List.nodup_append] at this
          exact this.1
        · intro _ hne
          have := h.uniqueOps (by rw [hc]; exact hne)
          rw [schemaOpNames_snoc, if_pos hpart] at this
          exact this
      · intro ⟨h, hok⟩
        refine ⟨by rw [hc]; exact h.loneSchema, ?_⟩
        intro hne
        rw [hc] at hne
        rw [schemaOpNames_snoc, if_pos hpart]
        exact hok.2 hse hne
    · have hpart : d.isSchemaPart = false := by simp [Def.isSchemaPart, hsd, hse]
      have ho : schemaOpNames (pre ++ [d]) = schemaOpNames pre := by rw [schemaOpNames_snoc, hpart]; simp
      constructor
      · intro h
        exact ⟨⟨by rw [← hc]; exact h.loneSchema, fun hne => by rw [← ho]; exact h.uniqueOps (by rw [hc]; exact hne)⟩,
          ⟨fun hx => absurd hx hsd, fun hx => absurd hx hse⟩⟩
      · intro ⟨h, _⟩
        exact ⟨by rw [hc]; exact h.loneSchema, fun hne => by rw [ho]; exact h.uniqueOps (by rw [← hc]; exact hne)⟩

/-! directive definitions and executable definitions -/

theorem PD_snoc (pre : List Def) (d : Def) :
    (dirDefNames (pre ++ [d])).Nodup ↔ (dirDefNames pre).Nodup ∧ (d.isDirectiveDef = true → d.name ∉ dirDefNames pre) := by
  rw [dirDefNames_snoc]
  by_cases h : d.isDirectiveDef = true
  · rw [if_pos h, List.nodup_append]
    constructor
    · intro ⟨h1, _, h3⟩
      exact ⟨h1, fun _ hm => h3 _ hm _ (List.mem_singleton.mpr rfl) rfl⟩
    · intro ⟨h1, h2⟩
      refine ⟨h1, by simp, ?_⟩
      intro a ha b hb hab
      have : b = d.name := by simpa using hb
      exact h2 h (by rw [← this, ← hab]; exact ha)
  · rw [if_neg h, List.append_nil]
    exact ⟨fun h1 => ⟨h1, fun hx => absurd hx h⟩, fun h1 => h1.1⟩

def NoExec (ds : List Def) : Prop := ∀ d ∈ ds, d.tag ≠ .operation ∧ d.tag ≠ .fragment

theorem PX_snoc (pre : List Def) (d : Def) :
    NoExec (pre ++ [d]) ↔ NoExec pre ∧ (d.tag ≠ .operation ∧ d.tag ≠ .fragment) := by
  unfold NoExec
  constructor
  · intro h
    exact ⟨fun e he => h e (List.mem_append_left _ he), h d (by simp)⟩
  · intro ⟨h1, h2⟩ e he
    rcases List.mem_append.mp he with he | he
    · exact h1 e he
    · have : e = d := by simpa using he
      subst this; exact h2

structure PrefixSpec (pre : List Def) : Prop where
  noExec : NoExec pre
  dirs : (dirDefNames pre).Nodup
  schema : PS pre
  types : PT pre

structure StepOK (pre : List Def) (d : Def) : Prop where
  noExec : d.tag ≠ .operation ∧ d.tag ≠ .fragment
  dirs : d.isDirectiveDef = true → d.name ∉ dirDefNames pre
  schema : SOK pre d
  types : TOK pre d

theorem PrefixSpec_snoc (pre : List Def) (d : Def) : PrefixSpec (pre ++ [d]) ↔ PrefixSpec pre ∧ StepOK pre d := by
  constructor
  · intro ⟨h1, h2, h3, h4⟩
    rw [PX_snoc] at h1; rw [PD_snoc] at h2; rw [PS_snoc] at h3; rw [PT_snoc] at h4
    exact ⟨⟨h1.1, h2.1, h3.1, h4.1⟩, ⟨h1.2, h2.2, h3.2, h4.2⟩⟩
  · intro ⟨⟨a1, a2, a3, a4⟩, ⟨b1, b2, b3, b4⟩⟩
    exact ⟨(PX_snoc pre d).mpr ⟨a1, b1⟩, (PD_snoc pre d).mpr ⟨a2, b2⟩, (PS_snoc pre d).mpr ⟨a3, b3⟩, (PT_snoc pre d).mpr ⟨a4, b4⟩⟩

theorem PrefixSpec_nil : PrefixSpec [] := by
  refine ⟨?_, ?_, ⟨?_, ?_⟩, ⟨?_, ?_, ?_, ?_⟩⟩
  · intro d hd; cases hd
  · simp [dirDefNames]
  · simp [schemaDefCount]
  · simp [schemaOpNames]
  · simp [typeDefNames, builtinTypeNames, builtinTypes]
  · intro e he; cases he
  · intro n _; simp [memberNames, partsOf]
  · intro n _; simp [ifaceNames, partsOf]

end Apollo.SchemaBuild
