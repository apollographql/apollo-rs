import ApolloModel.Proofs.SchemaBuildSpec4
/-
C14: the whole loop (`add_ast_document`, `scan_spec`), `build_inner` (`finish_spec`), and the theorem
`build_errors_iff_spec`.
-/
namespace Apollo.SchemaBuild

/-! ### errors only grow (no invariant needed) -/

theorem views_self (cs : List Comp) : Views cs (cs.map (·.name)) := by
  intro m
  simp only [hasName, List.any_eq_true, beq_iff_eq, List.mem_map]

def Mono (a b : List Err) : Prop := ∃ new, b = a ++ new

theorem Mono.refl (a : List Err) : Mono a a := ⟨[], by simp⟩
theorem Mono.trans {a b c : List Err} (h1 : Mono a b) (h2 : Mono b c) : Mono a c := by
  obtain ⟨n1, e1⟩ := h1; obtain ⟨n2, e2⟩ := h2
  exact ⟨n1 ++ n2, by rw [e2, e1, List.append_assoc]⟩
theorem Grow.mono {a b : List Err} {P : Prop} (h : Grow a b P) : Mono a b := by
  obtain ⟨n, e, _⟩ := h; exact ⟨n, e⟩
theorem Mono.ne_nil {a b : List Err} (h : Mono a b) (ha : a ≠ []) : b ≠ [] := by
  obtain ⟨n, e⟩ := h
  intro hb
  rw [hb] at e
  exact ha (List.append_eq_nil_iff.mp e.symm).1

theorem extendBody_mono (dupI dupM : Name → Diag) (origin : Option Pos) (b : Body) (d : Def) (errs : List Err) :
    Mono errs (extendBody dupI dupM origin b d errs).2 :=
  (extendBody_spec dupI dupM origin b d errs _ _ (views_self _) (views_self _)).2.2.mono

theorem schemaFold_mono : ∀ (exts : List Def) (acc : SchemaDefn × List Err), Mono acc.2 (exts.foldl schemaStep acc).2 := by
  intro exts
  induction exts with
  | nil => intro acc; exact Mono.refl _
  | cons e r ih =>
    intro acc
    rw [List.foldl_cons]
    exact (extendBody_mono noIface dupRoot (some e.pos) acc.1.body e acc.2).trans (ih (schemaStep acc e))

theorem step_mono (s : Builder) (d : Def) : Mono s.errors (step s d).errors := by
  cases htag : d.tag with
  | schemaDef =>
    rw [step_schemaDef s d htag]
    unfold stepSchemaDef
    by_cases h : s.schemaFound = true
    · rw [if_pos h]; exact ⟨[_], rfl⟩
    · rw [if_neg h]
      exact (extendBody_mono noIface dupRoot none Body.empty d s.errors).trans (schemaFold_mono s.orphanSchemaExts (schemaOfDef d s.errors))
  | schemaExt =>
    rw [step_schemaExt s d htag]
    unfold stepSchemaExt
    by_cases h : s.schemaFound = true
    · rw [if_pos h]; exact extendBody_mono noIface dupRoot (some d.pos) s.schemaDef.body d s.errors
    · rw [if_neg h]; exact Mono.refl _
  | directiveDef =>
    rw [step_directiveDef s d htag]
    unfold stepDirectiveDef
    cases findDir s.directiveDefs d.name with
    | none => exact Mono.refl _
    | some prev =>
      by_cases h : prev.builtin = true
      · simp only [h, if_true]; exact Mono.refl _
      · simp only [h]; exact ⟨[_], rfl⟩
  | typeDef k =>
    rw [step_typeDef s d k htag]
    cases hf : findType s.types d.name with
    | none =>
      rw [stepTypeDef_fresh s k d hf]
      exact (typeFromAst_spec k d _ s.errors).2.2.2.mono
    | some prev =>
      unfold stepTypeDef
      rw [hf]
      by_cases h1 : (s.ignoreBuiltin && prev.builtin) = true
      · simp only [h1, if_true]; exact Mono.refl _
      · by_cases h2 : (k == Kind.scalar && prev.builtin) = true
        · simp only [h1, h2]; exact ⟨[_], rfl⟩
        · simp only [h1, h2]; exact ⟨[_], rfl⟩
  | typeExt k =>
    rw [step_typeExt s d k htag]
    unfold stepTypeExt
    cases findType s.types d.name with
    | none => exact Mono.refl _
    | some t =>
      by_cases h : t.kind = k
      · simp only [h, if_true]
        exact extendBody_mono _ _ _ _ _ _
      · simp only [h]; exact ⟨[_], rfl⟩
  | operation =>
    rw [step_operation s d htag]; exact ⟨[_], rfl⟩
  | fragment =>
    rw [step_fragment s d htag]; exact ⟨[_], rfl⟩

/-! ### the initial state -/

theorem Inv_init : Inv [] (Builder.new false false) := by
  have hbody : ∀ n t, findType builtinTypes n = some t → t.body = Body.empty := by
    intro n t ht
    have hmem : t ∈ builtinTypes := List.mem_of_find?_eq_some ht
    simp only [builtinTypes, List.map_cons, List.map_nil, List.mem_cons, List.not_mem_nil, or_false] at hmem
    rcases hmem with h | h | h | h | h | h | h | h | h | h | h | h | h <;> rw [h]
  refine ⟨rfl, rfl, ⟨?_, ?_, ?_, ?_⟩, ⟨?_, ?_, ?_⟩, ⟨?_, ?_⟩⟩
  · intro n
    show (findType builtinTypes n).map (·.kind) = kindOfName [] n
    unfold kindOfName builtinKind definedKind
    cases (findType builtinTypes n).map (·.kind) <;> simp
  · intro n t ht; rw [hbody n t ht]; exact views_nil
  · intro n t ht; rw [hbody n t ht]; exact views_nil
  · rfl
  · simp [Builder.new, schemaDefCount]
  · intro h; simp [Builder.new] at h
  · intro _; exact ⟨rfl, rfl⟩
  · intro n _; simp [dirDefNames]
  · intro n e he
    have hmem : e ∈ builtinDirectives := List.mem_of_find?_eq_some he
    have : e.builtin = true := by
      simp only [builtinDirectives, List.map_cons, List.map_nil, List.mem_cons, List.not_mem_nil, or_false] at hmem
      rcases hmem with h | h | h | h <;> rw [h]
    simp [this, dirDefNames]

theorem wf_prefix {pre : List Def} {d : Def} (h : WellFormed (pre ++ [d])) : WellFormed pre :=
  fun e he hp => h e (List.mem_append_left _ he) hp

/-- the loop of `add_ast_document`: no error iff the prefix specification holds, and then the state is the
    one the reading functions describe -/
theorem scan_spec : ∀ (ds : List Def), WellFormed ds →
    ((addDocument (Builder.new false false) ds).errors = [] ↔ PrefixSpec ds) ∧
    ((addDocument (Builder.new false false) ds).errors = [] → Inv ds (addDocument (Builder.new false false) ds)) := by
  apply snoc_induction
  · intro _
    exact ⟨⟨fun _ => PrefixSpec_nil, fun _ => rfl⟩, fun _ => Inv_init⟩
  · intro pre d ih hwf
    obtain ⟨ih1, ih2⟩ := ih (wf_prefix hwf)
    have hfold : addDocument (Builder.new false false) (pre ++ [d]) = step (addDocument (Builder.new false false) pre) d := by
      unfold addDocument; rw [List.foldl_append]; rfl
    rw [hfold, PrefixSpec_snoc]
    by_cases he : (addDocument (Builder.new false false) pre).errors = []
    · have hinv := ih2 he
      have hp := ih1.mp he
      obtain ⟨g, hstep⟩ := step_spec pre _ d hinv hp hwf
      refine ⟨?_, fun h => hstep (by rw [h, he])⟩
      rw [g.nil_iff]
      exact ⟨fun h => ⟨hp, h.2⟩, fun h => ⟨he, h.2⟩⟩
    · have hne := (step_mono (addDocument (Builder.new false false) pre) d).ne_nil he
      exact ⟨⟨fun h => absurd h hne, fun h => absurd (ih1.mpr h.1) he⟩, fun h => absurd h hne⟩

/-! ### `build_inner` -/

def orphanErr (e : Def) : Err := ⟨e.namePos, .orphanTypeExtension e.name⟩
def orphanErrs (Q : List Def) : List Err :=
  (firstNames Q).flatMap (fun n => (Q.filter (fun e => e.name == n)).map orphanErr)

theorem orphanInner : ∀ (l : List Def) (a : Builder),
    l.foldl (fun (a : Builder) e => push a e.namePos (.orphanTypeExtension e.name)) a =
      { a with errors := a.errors ++ l.map orphanErr } := by
  intro l
  induction l with
  | nil => intro a; simp
  | cons e r ih =>
    intro a
    rw [List.foldl_cons, ih]
    simp [push, orphanErr]

theorem orphanOuter (Q : List Def) : ∀ (ns : List Name) (acc : Builder),
    ns.foldl (fun (acc : Builder) n =>
        (Q.filter (fun e => e.name == n)).foldl
          (fun (a : Builder) e => push a e.namePos (.orphanTypeExtension e.name)) acc) acc =
      { acc with errors := acc.errors ++ ns.flatMap (fun n => (Q.filter (fun e => e.name == n)).map orphanErr) } := by
  intro ns
  induction ns with
  | nil => intro acc; simp
  | cons n r ih =>
    intro acc
    rw [List.foldl_cons, orphanInner, ih]
    simp [List.flatMap_cons]

theorem schemaOrphanFold : ∀ (l : List Def) (a : Builder),
    l.foldl (fun (a : Builder) e => push a e.pos .orphanSchemaExtension) a =
      { a with errors := a.errors ++ l.map (fun e => ⟨e.pos, .orphanSchemaExtension⟩) } := by
  intro l
  induction l with
  | nil => intro a; simp
  | cons e r ih =>
    intro a
    rw [List.foldl_cons, ih]
    simp [push]

theorem finishRaw_errors (s : Builder) (ha : s.adopt = false) : (finishRaw s).errors =
    if s.schemaFound then s.errors ++ orphanErrs s.orphanQ
    else if !(implicitRoots s.types).isEmpty then
      (s.orphanSchemaExts.foldl schemaStep (setRoots s.schemaDef (implicitRoots s.types), s.errors ++ orphanErrs s.orphanQ)).2
    else s.errors ++ orphanErrs s.orphanQ ++ s.orphanSchemaExts.map (fun e => ⟨e.pos, .orphanSchemaExtension⟩) := by
  unfold finishRaw
  simp only [ha, Bool.false_eq_true, if_false]
  rw [orphanOuter]
  dsimp only
  by_cases hf : s.schemaFound = true
  · simp only [hf, if_true]; rfl
  · simp only [hf]
    by_cases hr : (!(implicitRoots s.types).isEmpty) = true
    · simp only [hr, if_true]; rfl
    · simp only [hr]
      rw [schemaOrphanFold]
      rfl

theorem orphanErrs_nil_iff (Q : List Def) : orphanErrs Q = [] ↔ Q = [] := by
  constructor
  · intro h
    cases Q with
    | nil => rfl
    | cons e r =>
      exfalso
      unfold orphanErrs at h
      rw [List.flatMap_eq_nil_iff] at h
      have := h e.name (by simp [firstNames])
      simp at this
  · intro h; rw [h]; rfl

theorem insertBy_ne_nil {α : Type} (lt : α → α → Bool) (x : α) (l : List α) : insertBy lt x l ≠ [] := by
  cases l with
  | nil => simp [insertBy]
  | cons y ys => unfold insertBy; split <;> simp

theorem sortBy_nil_iff {α : Type} (lt : α → α → Bool) (l : List α) : sortBy lt l = [] ↔ l = [] := by
  cases l with
  | nil => simp [sortBy]
  | cons x xs => simp [sortBy, insertBy_ne_nil]

theorem isObject_eq {ds : List Def} {s : Builder} (h : TInv ds s) (n : Name) :
    isObject s.types n = (kindOfName ds n == some Kind.object) := by
  unfold isObject
  rw [← h.kinds n]
  cases findType s.types n with
  | none => rfl
  | some t => simp

theorem implicitRoots_names {ds : List Def} {s : Builder} (h : TInv ds s) :
    (implicitRoots s.types).map (·.name) = implicitOps ds := by
  unfold implicitRoots implicitOps
  rw [List.map_map]
  have : (fun p : Name × Name => isObject s.types p.2) = (fun p => kindOfName ds p.2 == some Kind.object) := by
    funext p; exact isObject_eq h p.2
  rw [this]
  rfl

theorem implicitOps_nodup (ds : List Def) : (implicitOps ds).Nodup := by
  unfold implicitOps
  apply List.Nodup.sublist (l₂ := ["query", "mutation", "subscription"])
  · exact (List.filter_sublist (l := [("query", "Query"), ("mutation", "Mutation"), ("subscription", "Subscription")])).map (·.1)
  · decide

/-- what `build_inner` adds to the loop: the rules that need the whole document -/
structure FinishOK (ds : List Def) : Prop where
  noOrphan : ∀ e ∈ ds, ∀ k, e.tag = .typeExt k → kindOfName ds e.name ≠ none
  schemaExtended : schemaDefCount ds = 0 → schemaExts ds ≠ [] → implicitOps ds ≠ []
  implicitOps : schemaDefCount ds = 0 → (implicitOps ds ++ schemaOpNames ds).Nodup

theorem queue_nil_iff {ds : List Def} {s : Builder} (h : TInv ds s) :
    s.orphanQ = [] ↔ ∀ e ∈ ds, ∀ k, e.tag = .typeExt k → kindOfName ds e.name ≠ none := by
  rw [h.queue, List.filter_eq_nil_iff]
  constructor
  · intro hq e he k hk hnone
    apply hq e he
    simp [(extKind_some e k).mpr hk, hnone]
  · intro hq e he hc
    simp only [Bool.and_eq_true, Option.isNone_iff_eq_none] at hc
    obtain ⟨k, hk⟩ := Option.isSome_iff_exists.mp hc.1
    exact hq e he k ((extKind_some e k).mp hk) hc.2

theorem finish_spec (ds : List Def) (s : Builder) (hi : Inv ds s) (hwf : WellFormed ds) (he : s.errors = []) :
    (finishRaw s).errors = [] ↔ FinishOK ds := by
  rw [finishRaw_errors s hi.adopt, he]
  simp only [List.nil_append]
  have hq := queue_nil_iff hi.t
  by_cases hf : s.schemaFound = true
  · have hc := hi.sch.found.mp hf
    rw [if_pos hf, orphanErrs_nil_iff, hq]
    exact ⟨fun h => ⟨h, fun h0 => absurd h0 hc, fun h0 => absurd h0 hc⟩, fun h => h.noOrphan⟩
  · rw [if_neg hf]
    have hnf : s.schemaFound = false := by simpa using hf
    have hc : schemaDefCount ds = 0 := by
      cases hcc : schemaDefCount ds with
      | zero => rfl
      | succ m => exact absurd (hi.sch.found.mpr (by rw [hcc]; simp)) hf
    obtain ⟨hexts, hsd⟩ := hi.sch.whenNot hnf
    have hnames := implicitRoots_names hi.t
    by_cases hr : (!(implicitRoots s.types).isEmpty) = true
    · rw [if_pos hr]
      have hne : implicitOps ds ≠ [] := by
        rw [← hnames]
        intro h
        have : implicitRoots s.types = [] := List.map_eq_nil_iff.mp h
        rw [this] at hr; simp at hr
      have hv : Views (setRoots s.schemaDef (implicitRoots s.types)).body.members (implicitOps ds) := by
        rw [hsd, ← hnames]
        have : (setRoots ⟨none, Body.empty⟩ (implicitRoots s.types)).body.members = implicitRoots s.types := by
          simp [setRoots, Body.empty]
        rw [this]
        exact views_self _
      have hvi : Views (setRoots s.schemaDef (implicitRoots s.types)).body.interfaces [] := by
        rw [hsd]; exact views_nil
      have hwfq : ∀ e ∈ s.orphanSchemaExts, e.interfaces = [] := by
        intro e hmem
        rw [hexts] at hmem
        unfold schemaExts at hmem
        obtain ⟨hm, hx⟩ := List.mem_filter.mp hmem
        exact hwf e hm (by simp [Def.isSchemaPart, hx])
      obtain ⟨_, _, g⟩ := schemaFold_spec s.orphanSchemaExts
        (setRoots s.schemaDef (implicitRoots s.types), orphanErrs s.orphanQ) (implicitOps ds) hv hvi hwfq
      rw [g.nil_iff, orphanErrs_nil_iff, hq]
      have hchain := chain_nodup mems s.orphanSchemaExts (implicitOps ds)
      rw [hexts, ← schemaOpNames_of_count hc] at hchain
      constructor
      · intro ⟨h1, h2⟩
        exact ⟨h1, fun _ _ => hne, fun _ => hchain.mp ⟨implicitOps_nodup ds, by rw [← hexts]; exact h2⟩⟩
      · intro h
        exact ⟨h.noOrphan, by rw [hexts]; exact (hchain.mpr (h.implicitOps hc)).2⟩
    · rw [if_neg hr]
      have hnil : implicitOps ds = [] := by
        rw [← hnames]
        have : implicitRoots s.types = [] := by
          cases hl : implicitRoots s.types with
          | nil => rfl
          | cons a b => rw [hl] at hr; simp at hr
        rw [this]; rfl
      rw [List.append_eq_nil_iff, orphanErrs_nil_iff, hq, List.map_eq_nil_iff, hexts]
      constructor
      · intro ⟨h1, h2⟩
        refine ⟨h1, fun _ hx => absurd h2 hx, fun _ => ?_⟩
        rw [hnil, schemaOpNames_of_count hc, h2]; simp
      · intro h
        refine ⟨h.noOrphan, ?_⟩
        cases hx : schemaExts ds with
        | nil => rfl
        | cons a b => exact absurd hnil (h.schemaExtended hc (by rw [hx]; simp))

theorem BuildSpec_iff (ds : List Def) : BuildSpec ds ↔ PrefixSpec ds ∧ FinishOK ds := by
  constructor
  · intro h
    refine ⟨⟨h.noExecutable, h.uniqueDirectives, ⟨h.loneSchema, ?_⟩, ⟨h.uniqueTypes, ?_, h.uniqueMembers, h.uniqueInterfaces⟩⟩, ⟨?_, ?_, ?_⟩⟩
    · intro hc
      have := h.uniqueRootOps
      unfold rootOpNames at this
      rw [if_neg hc] at this
      simpa using this
    · intro e he k hk k' hk'
      rw [h.extensionsMatch e he k hk] at hk'
      exact (Option.some.inj hk').symm
    · intro e he k hk
      rw [h.extensionsMatch e he k hk]; simp
    · intro hc hx
      rcases h.schemaExtended hx with h1 | h1
      · exact absurd hc h1
      · exact h1
    · intro hc
      have := h.uniqueRootOps
      unfold rootOpNames at this
      rw [if_pos hc] at this
      exact this
  · intro ⟨hp, hf⟩
    refine ⟨hp.noExec, hp.schema.loneSchema, hp.types.uniqueTypes, hp.dirs, ?_, ?_, hp.types.uniqueMembers, hp.types.uniqueInterfaces, ?_⟩
    · intro e he k hk
      cases hkn : kindOfName ds e.name with
      | none => exact absurd hkn (hf.noOrphan e he k hk)
      | some k' => rw [hp.types.extensionsMatch e he k hk k' hkn]
    · intro hx
      by_cases hc : schemaDefCount ds = 0
      · exact Or.inr (hf.schemaExtended hc hx)
      · exact Or.inl hc
    · unfold rootOpNames
      by_cases hc : schemaDefCount ds = 0
      · rw [if_pos hc]; exact hf.implicitOps hc
      · rw [if_neg hc]; simpa using hp.schema.uniqueOps hc

theorem step_adopt (s : Builder) (d : Def) : (step s d).adopt = s.adopt := by
  cases htag : d.tag with
  | schemaDef => rw [step_schemaDef s d htag]; exact (stepSchemaDef_frame s d).1
  | schemaExt => rw [step_schemaExt s d htag]; exact (stepSchemaExt_frame s d).1
  | directiveDef =>
    rw [step_directiveDef s d htag]; exact (stepDirectiveDef_frame s d).1
  | typeDef k =>
    rw [step_typeDef s d k htag]; exact (stepTypeDef_frame s k d).1
  | typeExt k =>
    rw [step_typeExt s d k htag]; exact (stepTypeExt_frame s k d).1
  | operation =>
    rw [step_operation s d htag]; rfl
  | fragment =>
    rw [step_fragment s d htag]; rfl

theorem addDocument_adopt : ∀ (ds : List Def) (s : Builder), (addDocument s ds).adopt = s.adopt := by
  intro ds
  induction ds with
  | nil => intro s; rfl
  | cons d r ih =>
    intro s
    unfold addDocument
    rw [List.foldl_cons]
    exact (ih (step s d)).trans (step_adopt s d)

theorem finishRaw_mono (s : Builder) (ha : s.adopt = false) : Mono s.errors (finishRaw s).errors := by
  rw [finishRaw_errors s ha]
  by_cases hf : s.schemaFound = true
  · rw [if_pos hf]; exact ⟨_, rfl⟩
  · rw [if_neg hf]
    by_cases hr : (!(implicitRoots s.types).isEmpty) = true
    · rw [if_pos hr]
      exact Mono.trans ⟨_, rfl⟩ (schemaFold_mono s.orphanSchemaExts (setRoots s.schemaDef (implicitRoots s.types), s.errors ++ orphanErrs s.orphanQ))
    · rw [if_neg hr, List.append_assoc]; exact ⟨_, rfl⟩

/-- `build_inner` and the final sort only add diagnostics: an error-free build had an error-free scan -/
theorem scan_errors_of_build {ds : List Def} (hb : (build (Builder.new false false) [ds]).errors = []) :
    (addDocument (Builder.new false false) ds).errors = [] := by
  have h1 : (build (Builder.new false false) [ds]).errors =
    sortBy Err.lt (finishRaw (addDocument (Builder.new false false) ds)).errors := rfl
  rw [h1, sortBy_nil_iff] at hb
  exact Classical.byContradiction fun hne =>
    (finishRaw_mono _ (addDocument_adopt ds (Builder.new false false))).ne_nil hne hb

/-- **`SchemaBuilder::build` reports no error iff the document satisfies the specification's rules on names**
    (one document, default builder) -/
theorem build_errors_iff_spec (ds : List Def) (hwf : WellFormed ds) :
    (build (Builder.new false false) [ds]).errors = [] ↔ BuildSpec ds := by
  have hb : (build (Builder.new false false) [ds]).errors =
      sortBy Err.lt (finishRaw (addDocument (Builder.new false false) ds)).errors := rfl
  rw [hb, sortBy_nil_iff, BuildSpec_iff]
  obtain ⟨h1, h2⟩ := scan_spec ds hwf
  by_cases he : (addDocument (Builder.new false false) ds).errors = []
  · rw [finish_spec ds _ (h2 he) hwf he]
    exact ⟨fun h => ⟨h1.mp he, h⟩, fun h => h.2⟩
  · constructor
    · intro h
      exact absurd (scan_errors_of_build (by rw [hb, sortBy_nil_iff]; exact h)) he
    · intro h; exact absurd (h1.mpr h.1) he

end Apollo.SchemaBuild
