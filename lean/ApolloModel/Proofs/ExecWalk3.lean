import ApolloModel.Proofs.ExecWalk2
/-
C17, document level, typed rules: the document, diagnostic by diagnostic (`typedDiags_mem_iff`): what is
reported is what the per-argument check reports for an argument some operation reaches, or an impossible spread.
-/
set_option linter.unusedSimpArgs false
set_option linter.unusedVariables false
namespace Apollo.ExecRules.Mem
open Apollo Apollo.Spec Apollo.ExecRules

/-- argument `a` with definition `df` is checked for operation `o` with the variable definitions `vars`: an argument
    of a directive of the operation, of a directive of one of its variable definitions (no variables in scope), or
    of a field or directive the operation reaches -/
inductive OpArg (s : RSchema) (doc : RBuilt) (o : ROp) : List RVarDef → InDef → RArg → Prop
  | opDir {df a} : (Site.dirs o.dirs).HasArg s df a → OpArg s doc o o.vars df a
  | varDir {v df a} : v ∈ o.vars → (Site.dirs v.dirs).HasArg s df a → OpArg s doc o [] df a
  | reached {site df a} : Reaches s doc (s.root o.ty) o.sels site → site.HasArg s df a → OpArg s doc o o.vars df a

theorem typedDiags_mem_iff (s : RSchema) (ast : RAst) (d : TDiag) :
    d ∈ typedDiags s ast ↔
      ∃ o ∈ (build s ast).ops,
        (∃ vars df a, OpArg s (build s ast) o vars df a ∧ d ∈ argDiags s vars df a) ∨
          (∃ t c, Reaches s (build s ast) (s.root o.ty) o.sels (.spread t c) ∧ d ∈ spreadDiags s t c) := by
  unfold typedDiags
  simp only [List.mem_flatMap, opDiags, List.mem_append, walk_mem_iff, dirsDiags_mem_iff, site_mem_iff]
  constructor
  · rintro ⟨o, ho, h⟩
    refine ⟨o, ho, ?_⟩
    rcases h with (⟨df, a, h1, h2⟩ | ⟨v, hv, df, a, h1, h2⟩) | ⟨site, hr, h⟩
    · exact .inl ⟨o.vars, df, a, .opDir h1, h2⟩
    · exact .inl ⟨[], df, a, .varDir hv h1, h2⟩
    · rcases h with ⟨df, a, h1, h2⟩ | ⟨t, c, rfl, h2⟩
      · exact .inl ⟨o.vars, df, a, .reached hr h1, h2⟩
      · exact .inr ⟨t, c, hr, h2⟩
  · rintro ⟨o, ho, h⟩
    refine ⟨o, ho, ?_⟩
    rcases h with ⟨vars, df, a, hoa, h2⟩ | ⟨t, c, hr, h2⟩
    · cases hoa with
      | opDir h1 => exact .inl (.inl ⟨df, a, h1, h2⟩)
      | varDir hv h1 => exact .inl (.inr ⟨_, hv, df, a, h1, h2⟩)
      | reached hr h1 => exact .inr ⟨_, hr, .inl ⟨df, a, h1, h2⟩⟩
    · exact .inr ⟨_, hr, .inr ⟨t, c, rfl, h2⟩⟩

end Apollo.ExecRules.Mem
