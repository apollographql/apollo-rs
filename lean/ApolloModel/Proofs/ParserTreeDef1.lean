import ApolloModel.Proofs.ParserTree22
import ApolloModel.Proofs.AstDocument3
/-
C08 (pipeline), type-system definitions: descriptions, default values, the type of a definition, input value definitions
and the lists of them (arguments definition, input fields definition) — tree shapes, conversion lemmas, and the parser
side (`ty`, `description`, `default_value`, the generic braced list).
-/
set_option linter.unusedSimpArgs false
set_option linter.unusedVariables false

namespace Apollo.FromCst
open Apollo.Rowan Apollo.Ast
open Apollo.Parse (isJunk isJunkKind sigE nameNode)

variable {R : List Loc}

/-- the optional `DESCRIPTION[STRING_VALUE[STRING]]` in front of a definition -/
def DescPre (d : Option Ast.Str) (pre : List Elem) : Prop :=
  (d = none ∧ pre = []) ∨
  (∃ dcs tk s, d = some s ∧ pre = [.node "DESCRIPTION" dcs] ∧ sigE dcs = [.node "STRING_VALUE" [.tok "STRING" tk]] ∧
    Strs.decodeStringToken tk = some s)

theorem descPre_kinds {d : Option Ast.Str} {pre : List Elem} (h : DescPre d pre) : pre = [] ∨ ∃ c, pre = [.node "DESCRIPTION" c] := by
  rcases h with ⟨_, rfl⟩ | ⟨c, _, _, _, rfl, _⟩
  · exact Or.inl rfl
  · exact Or.inr ⟨c, rfl⟩

/-- `self.description().convert()?` on a node whose DESCRIPTION child (if any) is known -/
theorem descOf_conv (k : SK) (cs : List Elem) (d : Option Ast.Str) (pre : List Elem) (hpre : DescPre d pre)
    (hfind : (sigE cs).find? (nodeP (· == "DESCRIPTION")) = pre.head?) :
    ConvE (fun R => @descOf R) d (.node k cs) := by
  intro R s hp
  rcases hpre with ⟨rfl, rfl⟩ | ⟨dcs, tk, sv, rfl, rfl, hsig, hdec⟩
  · have := childP_none (R := R) (· == "DESCRIPTION") k cs s hp (by rw [find_nodeP_sigE]; exact hfind)
    refine ⟨[], ?_⟩
    show optM (child "DESCRIPTION" _) _ = _
    rw [child_eq_childP, this]; rfl
  · obtain ⟨s', h', hc⟩ := childP_some (R := R) (· == "DESCRIPTION") k cs s hp _ (by rw [find_nodeP_sigE]; exact hfind)
    have hf2 : dcs.find? (nodeP (· == "STRING_VALUE")) = some (.node "STRING_VALUE" [.tok "STRING" tk]) := by
      rw [find_nodeP_sigE, hsig]; simp [List.find?_cons, nodeP_node]
    obtain ⟨s'', h'', hc2⟩ := childP_some (R := R) (· == "STRING_VALUE") "DESCRIPTION" dcs s' h' _ hf2
    refine ⟨[] ++ [], ?_⟩
    show optM (child "DESCRIPTION" _) _ = _
    rw [child_eq_childP, hc]
    refine optM_some _ _ _ _ ?_
    simp only [child_eq_childP, hc2]
    simp [cStringValue, textOfFirstToken, hdec, M.ofOpt]

/-- the optional `DEFAULT_VALUE[= value]` -/
def DefaultPre (d : Option Value) (pre : List Elem) : Prop :=
  (d = none ∧ pre = []) ∨
  (∃ v dcs eq ev, d = some v ∧ pre = [.node "DEFAULT_VALUE" dcs] ∧ sigE dcs = [.tok "EQ" eq, ev] ∧ ValTree v ev)

theorem defaultPre_kinds {d : Option Value} {pre : List Elem} (h : DefaultPre d pre) :
    pre = [] ∨ ∃ c, pre = [.node "DEFAULT_VALUE" c] := by
  rcases h with ⟨_, rfl⟩ | ⟨_, c, _, _, _, rfl, _⟩
  · exact Or.inl rfl
  · exact Or.inr ⟨c, rfl⟩

theorem defaultOf_conv (n : Nat) (k : SK) (cs : List Elem) (d : Option Value) (pre : List Elem) (hpre : DefaultPre d pre)
    (hfind : (sigE cs).find? (nodeP (· == "DEFAULT_VALUE")) = pre.head?) (hmem : ∀ e ∈ pre, e ∈ sigE cs)
    (hs : size (.node k cs) ≤ n + 1) : ConvE (fun R => @defaultOf R n) d (.node k cs) := by
  intro R s hp
  rcases hpre with ⟨rfl, rfl⟩ | ⟨v, dcs, eq, ev, rfl, rfl, hsig, hv⟩
  · have := childP_none (R := R) (· == "DEFAULT_VALUE") k cs s hp (by rw [find_nodeP_sigE]; exact hfind)
    refine ⟨[], ?_⟩
    show optM (child "DEFAULT_VALUE" _) _ = _
    rw [child_eq_childP, this]; rfl
  · obtain ⟨s', h', hc⟩ := childP_some (R := R) (· == "DEFAULT_VALUE") k cs s hp _ (by rw [find_nodeP_sigE]; exact hfind)
    have hfv : dcs.find? (nodeP isValueKind) = some ev := by
      rw [find_nodeP_sigE, hsig]; simp [List.find?_cons, nodeP_tok, hv.nodeP]
    obtain ⟨s'', h'', hc2⟩ := childP_some (R := R) isValueKind "DEFAULT_VALUE" dcs s' h' ev hfv
    have hsz : size ev ≤ n := by
      have h1 := size_le_sizeList (mem_sigE (hmem (Elem.node "DEFAULT_VALUE" dcs) (by simp)))
      have h2 := size_le_sizeList (mem_sigE (cs := dcs) (e := ev) (by rw [hsig]; simp))
      rw [size_node] at hs h1; omega
    obtain ⟨l2, hl2⟩ := cValue_valTree n v ev hv hsz R s'' h''
    refine ⟨([] ++ l2) ++ [], ?_⟩
    show optM (child "DEFAULT_VALUE" _) _ = _
    rw [child_eq_childP, hc]
    refine optM_some _ _ _ _ ?_
    unfold valueOf
    rw [hc2]
    exact bind_ok rfl hl2

/-- `x.ty()?` then convert -/
theorem typeOf_conv (n : Nat) (k : SK) (cs : List Elem) (t : Ty) (ety : Elem) (ht : TyTree t ety)
    (hfind : (sigE cs).find? (nodeP isTypeKind) = some ety) (hs : size (.node k cs) ≤ n + 1) :
    ConvE (fun R => @typeOf R n) t (.node k cs) := by
  intro R s hp
  obtain ⟨s', h', hc⟩ := childP_some (R := R) isTypeKind k cs s hp ety (by rw [find_nodeP_sigE]; exact hfind)
  have hsz : size ety ≤ n := by
    have hm : ety ∈ sigE cs := by
      have := List.find?_some (p := nodeP isTypeKind) (l := sigE cs) hfind
      exact List.mem_of_find?_eq_some hfind
    have h1 := size_le_sizeList (mem_sigE hm)
    rw [size_node] at hs; omega
  obtain ⟨l, hl⟩ := cType_tyTree n t ety ht hsz R s' h'
  refine ⟨[] ++ l, ?_⟩
  show typeOf n _ = _
  unfold typeOf
  rw [hc]
  exact bind_ok rfl hl

end Apollo.FromCst

namespace Apollo.Parse
open Apollo.Rowan hiding Str
open Apollo.Lex hiding Str
open Apollo.FromCst (TyTree ValTree DescPre DefaultPre OptDirs DirsNode All2)

theorem tr_peekIf {α : Type} {E : PState → Prop} {H : List Tok → Prop} (c : Option Kind → Bool) (a b : PI α)
    (R : α → List Tok → List Elem → Prop) (ha : Tr E (fun _ => True) a R) (hb : Tr E (fun _ => True) b R) :
    Tr E H (peek >>= fun k => if c k then a else b) R := by
  apply tr_peek
  intro k
  apply tr_ite
  · intro _; exact ha.mono (fun _ _ => trivial) (fun _ _ _ h => h)
  · intro _; exact hb.mono (fun _ _ => trivial) (fun _ _ _ h => h)

def TyR (cs : List Tok) (e : List Elem) : Prop := ∃ t e0, TokIs cs (Ast.tTy t) ∧ e = [e0] ∧ TyTree t e0

/-- `description`: a String token under `DESCRIPTION[STRING_VALUE[…]]` -/
theorem tr_description {E : PState → Prop} (hE : Early E) :
    Tr E (KindP (· == .stringValue)) description
      (fun _ cs e => ∃ (t : Tok) (sv : Ast.Str), t.kind = .stringValue ∧ Strs.decodeStringToken t.data = some sv ∧ cs = [t] ∧
        DescPre (some sv) e) := by
  unfold description
  have hleaf := tr_leaf (E := E) "STRING_VALUE" "STRING" (by decide) (fun t => t.kind = .stringValue)
    (by intro t h; rw [h]; exact ⟨rfl, by decide⟩)
  have hH : ∀ q, KindP (· == Kind.stringValue) q → HeadP (fun t : Tok => t.kind = .stringValue) q := by
    intro q ⟨t, h1, h2⟩; exact ⟨t, h1, by simpa using h2⟩
  refine (tr_withNode hE "DESCRIPTION" ?_ hleaf).mono hH ?_
  · rintro q ⟨t, hh, hk⟩
    cases q with
    | nil => cases hh
    | cons a b =>
      simp only [List.head?_cons, Option.some.injEq] at hh
      subst hh
      exact ⟨a, b, rfl, by rw [hk]; rfl⟩
  · rintro _ cs e ⟨inner, rfl, t, hk, hf, rfl, hin⟩
    obtain ⟨sv, hsv⟩ := Option.isSome_iff_exists.mp (hf.2 hk)
    exact ⟨t, sv, hk, hsv, rfl, Or.inr ⟨inner, t.data, sv, rfl, rfl, hin, hsv⟩⟩

theorem tr_optDesc {α : Type} {E : PState → Prop} (hE : Early E) {H : List Tok → Prop} (rest : PI α)
    (R : α → List Tok → List Elem → Prop) (hr : Tr E (fun _ => True) rest R) :
    Tr E H (optKind .stringValue description rest)
      (fun a cs e => ∃ (d : Option Ast.Str) (c1 c2 : List Tok) (pre e2 : List Elem), cs = c1 ++ c2 ∧ e = pre ++ e2 ∧
        TokIs c1 (Ast.tDescription d) ∧ DescPre d pre ∧ R a c2 e2) := by
  refine (tr_optKind hE .stringValue description rest _ R (tr_description hE) hr).mono (fun _ h => h) ?_
  rintro a cs e ⟨c1, c2, e1, e2, rfl, rfl, h1, h2⟩
  rcases h1 with ⟨t, sv, hk, hsv, rfl, hpre⟩ | ⟨rfl, rfl⟩
  · exact ⟨some sv, [t], c2, e1, e2, rfl, rfl, TokIs.single t _ (by simp [astOfV, hk, hsv]), hpre, h2⟩
  · exact ⟨none, [], c2, [], e2, rfl, rfl, TokIs.nil, Or.inl ⟨rfl, rfl⟩, h2⟩

/-- `default_value`: `= Value` (constant) under one DEFAULT_VALUE node -/
theorem tr_defaultValueD (n : Nat) :
    Tr AtEof (KindP (· == .eq)) (defaultValue n)
      (fun _ cs e => ∃ (v : Ast.Value), TokIs cs (Ast.tDefault (some v)) ∧ valueOk true v = true ∧ DefaultPre (some v) e) :=
  (tr_defaultValue n).atKind.mono (fun _ h => h)
    (fun _ _ _ ⟨v, dcs, t, ev, h1, h2, h3, h4, h5⟩ => ⟨v, h1, h2, Or.inr ⟨v, dcs, t.data, ev, rfl, h3, h4, h5⟩⟩)

theorem tr_optDirsEnd (n : Nat) {E : PState → Prop} {H : List Tok → Prop} :
    Tr E H (optDirsEnd n) (fun _ cs e => ∃ (ds : List Ast.Directive), TokIs cs (Ast.tDirectives ds) ∧ dirsOk true ds ∧ OptDirs ds e) := by
  unfold optDirsEnd
  exact Tr.anyE (tr_optDirs n true)

end Apollo.Parse

namespace Apollo.FromCst
open Apollo.Rowan Apollo.Ast
open Apollo.Parse (isJunk isJunkKind sigE nameNode)

variable {R : List Loc}

theorem nodeP_ty_ne {t : Ty} {e : Elem} (ht : TyTree t e) (K : SK) (hK : isTypeKind K = false) : nodeP (· == K) e = false := by
  obtain ⟨k, cs, rfl, hk⟩ := ht.kind
  rw [nodeP_node]
  cases hkk : (k == K) with
  | false => rfl
  | true =>
    have : k = K := by simpa using hkk
    subst this
    rw [hK] at hk; cases hk

/-- `INPUT_VALUE_DEFINITION[Description? NAME : Type DefaultValue? Directives?]` -/
def IvdTree (v : InputValueDef) (e : Elem) : Prop :=
  ∃ cs pre col ety pd td, e = .node "INPUT_VALUE_DEFINITION" cs ∧ isValidName v.name = true ∧ DescPre v.desc pre ∧
    TyTree v.ty ety ∧ DefaultPre v.default pd ∧ OptDirs v.dirs td ∧
    sigE cs = pre ++ nameNode v.name :: .tok "COLON" col :: ety :: (pd ++ td)

theorem ivdTree_nodeP {v : InputValueDef} {e : Elem} (h : IvdTree v e) : nodeP (· == "INPUT_VALUE_DEFINITION") e = true := by
  obtain ⟨cs, _, _, _, _, _, rfl, _⟩ := h; simp [nodeP_node]

macro "find_defs" : tactic => `(tactic|
  (simp [List.find?_cons, List.find?_append, nodeP_node, nodeP_tok, nameNode, *]))

theorem cInputValueDefinition_conv (n : Nat) (v : InputValueDef) (e : Elem) (h : IvdTree v e) (hs : size e ≤ n + 1) :
    ConvE (fun R => @cInputValueDefinition R n) v e := by
  obtain ⟨cs, pre, col, ety, pd, td, rfl, hvn, hpre, hty, hpd, htd, hsig⟩ := h
  obtain ⟨desc, name, ty, dflt, dirs⟩ := v
  simp only at hvn hpre hty hpd htd hsig
  intro R s hp
  have t1 := nodeP_ty_ne hty "DESCRIPTION" rfl
  have t2 := nodeP_ty_ne hty "NAME" rfl
  have t3 := nodeP_ty_ne hty "DEFAULT_VALUE" rfl
  have t4 := nodeP_ty_ne hty "DIRECTIVES" rfl
  have t5 := hty.nodeP
  have hfd : (sigE cs).find? (nodeP (· == "DEFAULT_VALUE")) = pd.head? := by
    rw [hsig]
    rcases descPre_kinds hpre with rfl | ⟨c1, rfl⟩ <;> rcases defaultPre_kinds hpd with rfl | ⟨c2, rfl⟩ <;>
      rcases optDirs_kinds htd with rfl | ⟨c3, rfl⟩ <;> find_defs
  obtain ⟨l1, hl1⟩ := defaultOf_conv n _ cs dflt pd hpd hfd (by intro e he; rw [hsig]; simp [he]) hs R s hp
  have hft : (sigE cs).find? (nodeP isTypeKind) = some ety := by
    rw [hsig]
    rcases descPre_kinds hpre with rfl | ⟨c1, rfl⟩ <;> find_defs <;> simp [isTypeKind]
  obtain ⟨l2, hl2⟩ := typeOf_conv n _ cs ty ety hty hft hs R s hp
  have hfde : (sigE cs).find? (nodeP (· == "DESCRIPTION")) = pre.head? := by
    rw [hsig]
    rcases descPre_kinds hpre with rfl | ⟨c1, rfl⟩ <;> rcases defaultPre_kinds hpd with rfl | ⟨c2, rfl⟩ <;>
      rcases optDirs_kinds htd with rfl | ⟨c3, rfl⟩ <;> find_defs
  obtain ⟨l3, hl3⟩ := descOf_conv _ cs desc pre hpre hfde R s hp
  have hfn : (sigE cs).find? (nodeP (· == "NAME")) = some (nameNode name) := by
    rw [hsig]; rcases descPre_kinds hpre with rfl | ⟨c1, rfl⟩ <;> find_defs
  obtain ⟨l4, hl4⟩ := nameOf_node _ cs name hvn hfn R s hp
  have hfdir : (sigE cs).find? (nodeP (· == "DIRECTIVES")) = td.head? := by
    rw [hsig]
    rcases descPre_kinds hpre with rfl | ⟨c1, rfl⟩ <;> rcases defaultPre_kinds hpd with rfl | ⟨c2, rfl⟩ <;>
      rcases optDirs_kinds htd with rfl | ⟨c3, rfl⟩ <;> find_defs
  obtain ⟨l5, hl5⟩ := directivesOf_conv n _ cs dirs td htd hfdir (by intro e he; rw [hsig]; simp [he]) hs R s hp
  refine ⟨l1 ++ (l2 ++ (l3 ++ (l4 ++ (l5 ++ [])))), ?_⟩
  show cInputValueDefinition n _ = _
  unfold cInputValueDefinition
  exact bind_ok hl1 (bind_ok hl2 (bind_ok hl3 (bind_ok hl4 (bind_ok hl5 (pure_ok _)))))

/-- a container of input value definitions: `K[open Ivd+ close]` -/
def IvdsNode (K osk csk : SK) (vs : List InputValueDef) (e : Elem) : Prop :=
  ∃ cs o c es, e = .node K cs ∧ sigE cs = .tok osk o :: (es ++ [.tok csk c]) ∧ All2 (fun e v => IvdTree v e) es vs

def OptIvds (K osk csk : SK) (vs : List InputValueDef) (tail : List Elem) : Prop :=
  (vs = [] ∧ tail = []) ∨ (∃ e, tail = [e] ∧ IvdsNode K osk csk vs e)

theorem optIvds_kinds {K osk csk : SK} {vs : List InputValueDef} {t : List Elem} (h : OptIvds K osk csk vs t) :
    t = [] ∨ ∃ c, t = [.node K c] := by
  rcases h with ⟨_, rfl⟩ | ⟨_, rfl, c, _, _, _, rfl, _⟩
  · exact Or.inl rfl
  · exact Or.inr ⟨c, rfl⟩

theorem inputValuesOf_conv (n : Nat) (K osk csk : SK) (k : SK) (cs : List Elem) (vs : List InputValueDef) (tail : List Elem)
    (hopt : OptIvds K osk csk vs tail) (hfind : (sigE cs).find? (nodeP (· == K)) = tail.head?)
    (hmem : ∀ e ∈ tail, e ∈ sigE cs) (hs : size (.node k cs) ≤ n + 2) :
    ConvE (fun R => @inputValuesOf R n K) vs (.node k cs) := by
  intro R s hp
  rcases hopt with ⟨rfl, rfl⟩ | ⟨ea, rfl, cs', o, c, es, rfl, hsig, hall⟩
  · have := childP_none (R := R) (· == K) k cs s hp (by rw [find_nodeP_sigE]; exact hfind)
    refine ⟨[], ?_⟩
    show inputValuesOf n K _ = _
    unfold inputValuesOf
    rw [child_eq_childP, this]; rfl
  · obtain ⟨s', h', hc⟩ := childP_some (R := R) (· == K) k cs s hp _ (by rw [find_nodeP_sigE]; exact hfind)
    have hfilter : cs'.filter (nodeP (· == "INPUT_VALUE_DEFINITION")) = es := by
      rw [filter_nodeP_sigE, hsig]
      simp [List.filter_cons, nodeP_tok, List.filter_append, all2_filter _ _ (fun a e h => ivdTree_nodeP h) es vs hall]
    have hmap := childrenP_map (R := R) (· == "INPUT_VALUE_DEFINITION") K cs' s' h'
    rw [hfilter] at hmap
    have hszs : sizeList es ≤ n + 1 := by
      have h1 := size_le_sizeList (mem_sigE (hmem (Elem.node K cs') (by simp)))
      have h2 : sizeList (sigE cs') ≤ sizeList cs' := sizeList_sigE_le cs'
      rw [hsig] at h2
      simp only [sizeList, sizeList_append, size] at h1 h2 hs
      omega
    have hconv := all2_conv (fun R => @cInputValueDefinition R n) IvdTree (n + 1)
      (fun a e h hsz => cInputValueDefinition_conv n a e h hsz) es vs hall hszs
    obtain ⟨l, hl⟩ := collectM_conv (R := R) (fun R => @cInputValueDefinition R n) _ es vs hmap hconv
    refine ⟨l, ?_⟩
    show inputValuesOf n K _ = _
    unfold inputValuesOf
    rw [child_eq_childP, hc]
    exact hl

end Apollo.FromCst

namespace Apollo.Parse
open Apollo.Rowan hiding Str
open Apollo.Lex hiding Str
open Apollo.FromCst (TyTree ValTree DescPre DefaultPre OptDirs DirsNode All2 IvdTree IvdsNode OptIvds)

/-- `open first-item item* close` -/
theorem tr_braced (openK : Kind) (openSk : SK) (closeK : Kind) (closeSk : SK) (hjo : isJunkKind openSk = false)
    (hjc : isJunkKind closeSk = false) (first : Option Kind → Bool) (p : Kind → Bool) (item : PI Unit)
    (Q : List Tok → List Elem → Prop) (hnio : isIgnoredKind openK = false) (hneo : openK ≠ .eof)
    (hnic : isIgnoredKind closeK = false) (hnec : closeK ≠ .eof)
    (hfirst : ∀ k, first k = true → ∃ kk, k = some kk ∧ p kk = true)
    (hitem : Tr AtEof (KindP p) item (fun _ => Q)) :
    Tr NoE (KindP (· == openK)) (bracedBody openSk first p item closeK closeSk)
      (fun _ cs e => ∃ (to tc : Tok) (c1 ci : List Tok) (e1 ei : List Elem), to.kind = openK ∧ tc.kind = closeK ∧
        cs = to :: (c1 ++ ci) ++ [tc] ∧ e = Elem.tok openSk to.data :: (e1 ++ ei) ++ [Elem.tok closeSk tc.data] ∧
        Q c1 e1 ∧ ItemsT Q ci ei) := by
  unfold bracedBody
  have gtail : Good (bracedTail p item closeK closeSk) :=
    good_bind _ _ (good_peekWhile _ (good_itemsBody p item hitem.1)) (fun _ => good_expect _ _)
  have hloop := tr_itemsWhile (E := AtEof) early_atEof (H := fun _ => True) p item Q hitem
  have hsel : Tr NoE (fun _ => True) (peek >>= fun k => if first k then (item >>= fun _ => bracedTail p item closeK closeSk)
      else (err >>= fun _ => bracedTail p item closeK closeSk))
      (fun _ cs e => ∃ (tc : Tok) (c1 ci : List Tok) (e1 ei : List Elem), tc.kind = closeK ∧ cs = (c1 ++ ci) ++ [tc] ∧
        e = (e1 ++ ei) ++ [Elem.tok closeSk tc.data] ∧ Q c1 e1 ∧ ItemsT Q ci ei) := by
    apply tr_peek
    intro k
    refine tr_ite _ (fun hk => ?_) (fun _ => tr_never (acc_err' _ gtail))
    obtain ⟨kk, rfl, hp⟩ := hfirst k hk
    have hit : Tr AtEof (fun q => True ∧ q.head?.map (·.kind) = some kk) item (fun _ => Q) :=
      hitem.mono (fun q hq => by
        cases hh : q.head? with
        | none => rw [hh] at hq; cases hq.2
        | some t => exact ⟨t, hh, by have := hq.2; rw [hh] at this; simp at this; rw [this]; exact hp⟩) (fun _ _ _ h => h)
    have h12 := tr_bind early_atEof hit (fun _ => hloop)
    have hc := tr_close closeK closeSk hjc hnic hnec h12
    unfold bracedTail
    refine (hc.of_run (fun s => run_assoc _ _ _ s)).mono (fun _ h => h) ?_
    rintro _ cs e ⟨_, c1, e1, t, rfl, rfl, hkt, _, x1, x2, y1, y2, rfl, rfl, hfirst', hitems⟩
    exact ⟨t, x1, x2, y1, y2, hkt, rfl, rfl, hfirst', hitems⟩
  have hb := tr_bind early_false (tr_bump (E := NoE) openSk hjo (fun t => t.kind = openK)
    (by intro t h; rw [h]; exact ⟨hnio, hneo⟩)) (fun _ => hsel)
  refine hb.mono (fun q ⟨t, h1, h2⟩ => ⟨t, h1, by simpa using h2⟩) ?_
  rintro _ cs e ⟨_, c1, c2, e1, e2, rfl, rfl, ⟨t, hk, _, rfl, rfl⟩, tc, x1, ci, y1, ei, hkc, rfl, rfl, hq1, hit⟩
  exact ⟨t, tc, x1, ci, y1, ei, hk, hkc, by simp, by simp, hq1, hit⟩

/-! ### input value definition -/

def IvdR (cs : List Tok) (e : List Elem) : Prop :=
  ∃ (v : Ast.InputValueDef) (ev : Elem), TokIs cs (Ast.tIVD v) ∧ Ast.wfDefault v.default = true ∧ dirsOk true v.dirs ∧
    e = [ev] ∧ IvdTree v ev

theorem tr_ivd (n : Nat) : Tr AtEof (KindP isNameOrStringK) (inputValueDefinition n) (fun _ => IvdR) := by
  rw [inputValueDefinition_eq]
  have hAfter : Tr AtEof (fun _ => True) (ivdAfterTy n) (fun _ cs e => ∃ (d : Option Ast.Value) (ds : List Ast.Directive)
      (pd td : List Elem), TokIs cs (Ast.tDefault d ++ Ast.tDirectives ds) ∧ Ast.wfDefault d = true ∧ dirsOk true ds ∧
        e = pd ++ td ∧ DefaultPre d pd ∧ OptDirs ds td) := by
    refine (tr_optKind early_atEof .eq (defaultValue n) (optDirsEnd n) _ _ (tr_defaultValueD n) (tr_optDirsEnd n)).mono (fun _ h => h) ?_
    rintro _ cs e ⟨c1, c2, e1, e2, rfl, rfl, h1, ds, hd1, hd2, hd3⟩
    rcases h1 with ⟨v, hv1, hv2, hv3⟩ | ⟨rfl, rfl⟩
    · exact ⟨some v, ds, e1, e2, hv1.append hd1, valueOk_wf true v hv2, hd2, rfl, hv3, hd3⟩
    · exact ⟨none, ds, [], e2, by simpa [Ast.tDefault] using hd1, rfl, hd2, rfl, Or.inl ⟨rfl, rfl⟩, hd3⟩
  have hType : Tr AtEof (fun _ => True) (ivdType n) (fun _ cs e => ∃ (t : Ast.Ty) (ety : Elem) (d : Option Ast.Value)
      (ds : List Ast.Directive) (pd td : List Elem), TokIs cs (Ast.tTy t ++ Ast.tDefault d ++ Ast.tDirectives ds) ∧
        Ast.wfDefault d = true ∧ dirsOk true ds ∧ e = ety :: (pd ++ td) ∧ TyTree t ety ∧ DefaultPre d pd ∧ OptDirs ds td) := by
    unfold ivdType
    refine tr_peekIf _ _ _ _ ?_ tr_err
    refine (tr_bind early_atEof (tr_ty n) (fun _ => hAfter)).mono (fun _ h => h) ?_
    rintro _ cs e ⟨_, c1, c2, e1, e2, rfl, rfl, ⟨t, e0, ht1, rfl, ht3⟩, d, ds, pd, td, h1, h2, h3, rfl, h5, h6⟩
    exact ⟨t, e0, d, ds, pd, td, by simpa [List.append_assoc] using ht1.append h1, h2, h3, rfl, ht3, h5, h6⟩
  have hColon : Tr AtEof (fun _ => True) (ivdColon n) (fun _ cs e => ∃ (tc : Tok) (t : Ast.Ty) (ety : Elem) (d : Option Ast.Value)
      (ds : List Ast.Directive) (pd td : List Elem), TokIs cs (.p .colon :: Ast.tTy t ++ Ast.tDefault d ++ Ast.tDirectives ds) ∧
        Ast.wfDefault d = true ∧ dirsOk true ds ∧ e = Elem.tok "COLON" tc.data :: ety :: (pd ++ td) ∧ TyTree t ety ∧
        DefaultPre d pd ∧ OptDirs ds td) := by
    unfold ivdColon
    have hb := tr_bind early_atEof (tr_bumpK (E := AtEof) "COLON" (by decide) .colon rfl (by decide)) (fun _ => hType)
    refine (tr_ifKind .colon _ _ _ hb.atKind tr_err).mono
      (fun _ h => h) ?_
    rintro _ cs e ⟨_, c1, c2, e1, e2, rfl, rfl, ⟨tc, hk, _, rfl, rfl⟩, t, ety, d, ds, pd, td, h1, h2, h3, rfl, h5, h6, h7⟩
    exact ⟨tc, t, ety, d, ds, pd, td, TokIs.cons (by simp [astOfV, hk]) (by simpa [List.append_assoc] using h1), h2, h3, rfl, h5, h6, h7⟩
  have hName := tr_bind early_atEof (tr_name (E := AtEof) (H := fun _ => True)) (fun _ => hColon)
  have hBody := tr_optDesc early_atEof (H := KindP isNameOrStringK) _ _ hName
  refine (tr_withNode early_atEof "INPUT_VALUE_DEFINITION" (kindP_sig _ nameOrString_sig) hBody).mono (fun _ h => h) ?_
  rintro _ cs e ⟨inner, rfl, desc, c1, c2, pre, e2, rfl, hin, hd1, hd2, _, c3, c4, e3, e4, rfl, rfl,
    ⟨tn, hkn, hvn, rfl, rfl⟩, tc, t, ety, d, ds, pd, td, h1, h2, h3, rfl, h5, h6, h7⟩
  refine ⟨⟨desc, tn.data, t, d, ds⟩, _, ?_, h2, h3, rfl, inner, pre, tc.data, ety, pd, td, rfl, hvn, hd2, h5, h6, h7, by rw [hin]; rfl⟩
  have := hd1.append (TokIs.cons (t := tn) (x := .name tn.data) (by simp [astOfV, hkn]) h1)
  simpa [Ast.tIVD, List.append_assoc] using this

theorem itemsT_ivds : ∀ (cs : List Tok) (e : List Elem), ItemsT IvdR cs e →
    ∃ vs : List Ast.InputValueDef, TokIs cs (Ast.tIVDItems vs) ∧ Ast.wfIVDs vs = true ∧ All2 (fun e v => IvdTree v e) e vs := by
  rintro cs e ⟨items, rfl, rfl, hall⟩
  induction items with
  | nil => exact ⟨[], TokIs.nil, rfl, All2.nil⟩
  | cons i items ih =>
    obtain ⟨vs, h1, h2, h3⟩ := ih (fun j hj => hall j (List.mem_cons_of_mem _ hj))
    obtain ⟨v, ev, hv1, hv2, hv3, hv4, hv5⟩ := hall i List.mem_cons_self
    refine ⟨v :: vs, ?_, ?_, ?_⟩
    · simp only [List.map_cons, List.flatten_cons, Ast.tIVDItems]
      exact hv1.append h1
    · simp only [Ast.wfIVDs, Bool.and_eq_true]
      exact ⟨⟨hv2, dirsOk_wf true _ hv3⟩, h2⟩
    · simp only [List.map_cons, List.flatten_cons, hv4]
      exact All2.cons hv5 h3

/-- a non-empty list of input value definitions between `open` and `close`, as one `K` node -/
def IvdsR (K osk csk : SK) (xo xc : Ast.Tok) (cs : List Tok) (e : List Elem) : Prop :=
  ∃ (vs : List Ast.InputValueDef) (ea : Elem), vs ≠ [] ∧ TokIs cs (xo :: Ast.tIVDItems vs ++ [xc]) ∧ Ast.wfIVDs vs = true ∧
    e = [ea] ∧ IvdsNode K osk csk vs ea

theorem tr_ivdsBody (n : Nat) (openK : Kind) (osk : SK) (closeK : Kind) (csk : SK) (xo xc : Ast.Tok)
    (hjo : isJunkKind osk = false) (hjc : isJunkKind csk = false)
    (hxo : ∀ t : Tok, t.kind = openK → astOfV t = some xo) (hnio : isIgnoredKind openK = false) (hneo : openK ≠ .eof)
    (hxc : ∀ t : Tok, t.kind = closeK → astOfV t = some xc) (hnic : isIgnoredKind closeK = false) (hnec : closeK ≠ .eof) :
    Tr NoE (KindP (· == openK)) (bracedBody osk isNameOrString isNameOrStringK (inputValueDefinition n) closeK csk)
      (fun _ cs e => ∃ (vs : List Ast.InputValueDef) (o c : Str) (es : List Elem), vs ≠ [] ∧
        TokIs cs (xo :: Ast.tIVDItems vs ++ [xc]) ∧ Ast.wfIVDs vs = true ∧
        e = Elem.tok osk o :: (es ++ [Elem.tok csk c]) ∧ All2 (fun e v => IvdTree v e) es vs) := by
  refine (tr_braced openK osk closeK csk hjo hjc isNameOrString isNameOrStringK (inputValueDefinition n) IvdR hnio hneo hnic hnec
    isNameOrString_first (tr_ivd n)).mono (fun _ h => h) ?_
  rintro _ cs e ⟨to, tc, c1, ci, e1, ei, hko, hkc, rfl, rfl, hq1, hit⟩
  obtain ⟨vs, h1, h2, h3⟩ := itemsT_ivds _ _ (itemsT_cons hq1 hit)
  refine ⟨vs, to.data, tc.data, e1 ++ ei, ?_, ?_, h2, rfl, h3⟩
  · rintro rfl
    obtain ⟨v, ev, _, _, _, rfl, _⟩ := hq1
    cases h3
  · have := (TokIs.cons (hxo to hko) h1).append (TokIs.single tc xc (hxc tc hkc))
    simpa using this

theorem tr_argumentsDefinition (n : Nat) :
    Tr NoE (KindP (· == .lParen)) (argumentsDefinition n)
      (fun _ => IvdsR "ARGUMENTS_DEFINITION" "L_PAREN" "R_PAREN" (.p .lParen) (.p .rParen)) := by
  unfold argumentsDefinition
  rw [argumentsDefinitionBody_eq]
  refine (tr_withNode early_false "ARGUMENTS_DEFINITION" (kindP_sig _ lParen_sig)
    (tr_ivdsBody n .lParen "L_PAREN" .rParen "R_PAREN" (.p .lParen) (.p .rParen) (by decide) (by decide)
      (by intro t ht; simp [astOfV, ht]) rfl (by decide) (by intro t ht; simp [astOfV, ht]) rfl (by decide))).mono (fun _ h => h) ?_
  rintro _ cs e ⟨inner, rfl, vs, o, c, es, hne, h1, h2, hin, h3⟩
  exact ⟨vs, _, hne, h1, h2, rfl, inner, o, c, es, rfl, hin, h3⟩

theorem tr_inputFieldsDefinition (n : Nat) :
    Tr NoE (KindP (· == .lCurly)) (inputFieldsDefinition n)
      (fun _ => IvdsR "INPUT_FIELDS_DEFINITION" "L_CURLY" "R_CURLY" (.p .lCurly) (.p .rCurly)) := by
  rw [inputFieldsDefinition_eq]
  refine (tr_withNode early_false "INPUT_FIELDS_DEFINITION" (kindP_sig _ lCurly_sig)
    (tr_ivdsBody n .lCurly "L_CURLY" .rCurly "R_CURLY" (.p .lCurly) (.p .rCurly) (by decide) (by decide)
      (by intro t ht; simp [astOfV, ht]) rfl (by decide) (by intro t ht; simp [astOfV, ht]) rfl (by decide))).mono (fun _ h => h) ?_
  rintro _ cs e ⟨inner, rfl, vs, o, c, es, hne, h1, h2, hin, h3⟩
  exact ⟨vs, _, hne, h1, h2, rfl, inner, o, c, es, rfl, hin, h3⟩

end Apollo.Parse
