import ApolloModel.Proofs.ParserRecursion28
import ApolloModel.Proofs.ParserSel1
/-
C04, closed form of the nesting depth: the guard sites of value.rs — every item of a list value,
the value of every object field.

`AD Pr` (what is added to the tree satisfies `Pr`, the tracker is left alone) for the token-level primitives,
what `bump` puts into the tree, "an accepted value adds a node" (`N1`), then `GD` for `list_value` and
`object_field` given `GD` of the values inside.
-/
set_option linter.unusedSimpArgs false
set_option linter.unusedVariables false
namespace Apollo.Parse
open Apollo.Rowan hiding Str
open Apollo.Lex hiding Str

/-! ### what the token-level primitives add to the tree -/

structure Mon (Pr : List Elem → Prop) : Prop where
  nil : Pr []
  app : ∀ a b, Pr a → Pr b → Pr (a ++ b)
  pend : ∀ ps : List Pending, Pr (ps.map pendingElem)

structure AD (Pr : List Elem → Prop) {α : Type} (m : PI α) : Prop where
  d : ∀ s a s', Inv s → m.run s = .ok a s' → ∃ added, s'.builder.children = s.builder.children ++ added ∧ Pr added ∧
    s'.recHigh = s.recHigh

variable {Pr : List Elem → Prop}

theorem ad_nil (M : Mon Pr) {α : Type} {m : PI α}
    (h : ∀ s a s', m.run s = .ok a s' → s'.builder.children = s.builder.children ∧ s'.recHigh = s.recHigh) : AD Pr m := by
  constructor
  intro s a s' _ hr
  obtain ⟨h1, h2⟩ := h s a s' hr
  exact ⟨[], by simp [h1], M.nil, h2⟩

theorem ad_pure (M : Mon Pr) {α : Type} (a : α) : AD Pr (pure a : PI α) :=
  ad_nil M (fun s a' s' h => by rw [run_pure] at h; injection h with _ h; subst h; exact ⟨rfl, rfl⟩)

theorem ad_bind (M : Mon Pr) {α β : Type} (m : PI α) (f : α → PI β) (hm : AD Pr m) (hf : ∀ a, AD Pr (f a)) : AD Pr (m >>= f) := by
  constructor
  intro s b s'' hi h
  obtain ⟨a, s', h1, h2⟩ := bind_dec m f s s'' b h
  obtain ⟨hi', _⟩ := post_of_run m s hi a s' h1
  obtain ⟨a1, k1, g1, r1⟩ := hm.d s a s' hi h1
  obtain ⟨a2, k2, g2, r2⟩ := (hf a).d s' b s'' hi' h2
  exact ⟨a1 ++ a2, by rw [k2, k1, List.append_assoc], M.app _ _ g1 g2, r2.trans r1⟩

theorem ad_ite {α : Type} (c : Bool) (a b : PI α) (ha : AD Pr a) (hb : AD Pr b) : AD Pr (if c then a else b) := by
  cases c <;> simp [ha, hb]

theorem peekToken_kids (s s' : PState) (o : Option Tok) (h : peekToken.run s = .ok o s') :
    s'.builder.children = s.builder.children ∧ s'.recHigh = s.recHigh := by
  have hp := plain_peekToken.out s o s' h
  refine ⟨?_, hp.recHigh⟩
  unfold peekToken at h
  simp only [] at h
  cases hc : s.current with
  | some t => simp only [hc, Res.ok.injEq] at h; obtain ⟨_, rfl⟩ := h; rfl
  | none =>
    simp only [hc, Res.ok.injEq] at h
    obtain ⟨_, rfl⟩ := h
    have hb := (nextTokenRaw_spec (s.lx.src.length + 3) s).builder
    show (nextTokenRaw (s.lx.src.length + 3) s).2.builder.children = _
    simp [hb]

theorem ad_peekToken (M : Mon Pr) : AD Pr peekToken := ad_nil M (fun s a s' h => peekToken_kids s s' a h)

theorem ad_moveCurToPending (M : Mon Pr) : AD Pr moveCurToPending := by
  refine ad_nil M ?_
  intro s b s' h
  unfold moveCurToPending at h
  simp only [] at h
  cases hc : s.current with
  | none => simp only [hc] at h; injection h with _ h; subst h; exact ⟨rfl, rfl⟩
  | some t => simp only [hc] at h; split at h <;> (injection h with _ h; subst h; exact ⟨rfl, rfl⟩)

theorem ad_srcLen (M : Mon Pr) : AD Pr srcLen :=
  ad_nil M (fun s a s' h => by unfold srcLen at h; simp only [] at h; injection h with _ h; subst h; exact ⟨rfl, rfl⟩)

theorem ad_pushErr (M : Mon Pr) (e : PErr) : AD Pr (pushErr e) :=
  ad_nil M (fun s a s' h => by unfold pushErr errUpdate at h; simp only [] at h; injection h with _ h; subst h; exact ⟨rfl, rfl⟩)

theorem ad_pushIgnored (M : Mon Pr) : AD Pr pushIgnored := by
  constructor
  intro s a s' _ h
  unfold pushIgnored at h; simp only [] at h; injection h with _ h; subst h
  exact ⟨_, rfl, M.pend _, rfl⟩

theorem ad_moveCurToTree (M : Mon Pr) (kind : SK) (hK : ∀ t, Pr [Elem.tok kind t]) : AD Pr (moveCurToTree kind) := by
  constructor
  intro s a s' _ h
  unfold moveCurToTree at h
  simp only [] at h
  cases hc : s.current with
  | none => simp only [hc] at h; injection h with _ h; subst h; exact ⟨[], by simp, M.nil, rfl⟩
  | some t =>
    simp only [hc] at h; injection h with _ h; subst h
    exact ⟨s.pending.map pendingElem ++ [.tok kind t.data], by simp [List.append_assoc], M.app _ _ (M.pend _) (hK _), rfl⟩

theorem ad_skipIgnoredLoop (M : Mon Pr) : ∀ fuel, AD Pr (skipIgnoredLoop fuel)
  | 0 => ⟨fun s a s' _ h => by simp [skipIgnoredLoop, PI.outOfFuel] at h⟩
  | fuel + 1 => by
    unfold skipIgnoredLoop
    exact ad_bind M _ _ (ad_peekToken M) (fun _ => ad_bind M _ _ (ad_moveCurToPending M)
      (fun b => ad_ite b _ _ (ad_skipIgnoredLoop M fuel) (ad_pure M _)))

theorem ad_skipIgnored (M : Mon Pr) : AD Pr skipIgnored := by
  unfold skipIgnored
  exact ad_bind M _ _ (ad_srcLen M) (fun n => ad_skipIgnoredLoop M (n + 3))

theorem ad_peek (M : Mon Pr) : AD Pr peek := by
  unfold peek
  exact ad_bind M _ _ (ad_peekToken M) (fun _ => ad_pure M _)

theorem ad_eat (M : Mon Pr) (k : SK) (hK : ∀ t, Pr [Elem.tok k t]) : AD Pr (eat k) := by
  unfold eat
  exact ad_bind M _ _ (ad_pushIgnored M) (fun _ => ad_bind M _ _ (ad_peekToken M) (fun _ => ad_moveCurToTree M k hK))

theorem ad_bump (M : Mon Pr) (k : SK) (hK : ∀ t, Pr [Elem.tok k t]) : AD Pr (bump k) := by
  unfold bump
  exact ad_bind M _ _ (ad_eat M k hK) (fun _ => ad_skipIgnored M)

theorem ad_err (M : Mon Pr) : AD Pr err := by
  unfold err
  refine ad_bind M _ _ (ad_peekToken M) (fun o => ?_)
  cases o with
  | none => exact ad_pure M _
  | some t => exact ad_pushErr M _

theorem ad_withNode (M : Mon Pr) {α : Type} (K : SK) (body : PI α) (hK : ∀ cs, Pr cs → Pr [Elem.node K cs])
    (hb : AD Pr body) : AD Pr (withNode K body) := by
  constructor
  intro s a s' hi h
  obtain ⟨s2, cs, b, hr, hi0, hcs, rfl, hbc⟩ := withNode_added K body s s' a hi h
  obtain ⟨ad, k, g, r⟩ := (ad_bind M _ _ (ad_skipIgnored M) (fun _ => hb)).d _ a s2 hi0 hr
  have : ad = cs := List.append_cancel_left (k.symm.trans hcs)
  subst this
  exact ⟨_, hbc, M.app _ _ (M.pend _) (hK _ g), r⟩

theorem ad_name (M : Mon Pr) (hI : ∀ t, Pr [Elem.tok "IDENT" t]) (hN : ∀ cs, Pr cs → Pr [Elem.node "NAME" cs]) : AD Pr name := by
  unfold name
  refine ad_bind M _ _ (ad_peekToken M) (fun o => ?_)
  cases o with
  | none => exact ad_err M
  | some t => exact ad_ite _ _ _ (ad_withNode M _ _ hN (ad_bump M _ hI)) (ad_err M)

theorem mon_allTok : Mon AllTok :=
  ⟨fun e he => (by cases he), fun a b => allTok_append, allTok_pending⟩

theorem allTok_single (k : SK) (t : Rowan.Str) : AllTok [Elem.tok k t] := fun e he => by simp at he; exact ⟨_, _, he⟩

def NoColon (es : List Elem) : Prop := gdl es = 0 ∧ hasTok "COLON" es = false

theorem hasTok_pending (ps : List Pending) : hasTok "COLON" (ps.map pendingElem) = false := by
  induction ps with
  | nil => rfl
  | cons p ps ih =>
    cases p with
    | ignored t =>
      simp only [List.map_cons, pendingElem, hasTok, ih, Bool.or_false]
      cases t.kind <;> decide
    | error d => simp only [List.map_cons, pendingElem, hasTok, ih, Bool.or_false]; decide

theorem mon_noColon : Mon NoColon :=
  ⟨⟨rfl, rfl⟩, fun a b ha hb => ⟨by rw [gdl_append, ha.1, hb.1]; rfl, by rw [hasTok_append, ha.2, hb.2]; rfl⟩,
   fun ps => ⟨gdl_pending ps, hasTok_pending ps⟩⟩

theorem fn_name : AD NoColon name :=
  ad_name mon_noColon (fun t => ⟨gdl_tok _ _, by simp [hasTok]⟩)
    (fun cs h => ⟨by rw [gdl_single, gd_plain (by decide)]; exact h.1, by simp [hasTok]⟩)

/-! ### token presence -/

theorem peek_cur (s : PState) (t : Tok) (h : s.current = some t) : peek.run s = .ok (some t.kind) s := by
  show (peekToken >>= fun o => (pure (o.map (·.kind)) : PI (Option Kind))).run s = _
  rw [run_bind, peekToken_current s t h]
  rfl

theorem peek_some_cur (s s' : PState) (k : Kind) (h : peek.run s = .ok (some k) s') : ∃ t, s'.current = some t ∧ t.kind = k := by
  obtain ⟨o, s1, hpt, hpk⟩ := peek_run s
  rw [hpk] at h
  injection h with h1 h2
  subst h2
  cases o with
  | none => simp at h1
  | some t =>
    simp only [Option.map_some, Option.some.injEq] at h1
    exact ⟨t, peekToken_some s s1 t hpt, h1⟩

theorem bump_hasTok (K : SK) (s s' : PState) (u : Unit) (t : Tok) (hi : Inv s) (hc : s.current = some t)
    (h : (bump K).run s = .ok u s') : ∃ added, s'.builder.children = s.builder.children ++ added ∧ hasTok K added = true := by
  unfold bump eat at h
  obtain ⟨_, s1, h1, h2⟩ := bind_dec _ _ s s' u h
  obtain ⟨_, s2, h3, h4⟩ := bind_dec pushIgnored _ s s1 _ h1
  obtain ⟨o, s3, h5, h6⟩ := bind_dec peekToken _ s2 s1 _ h4
  have e2 : s2 = { s with builder := { s.builder with children := s.builder.children ++ s.pending.map pendingElem }, pending := [] } := by
    have : pushIgnored.run s = .ok () { s with builder := { s.builder with children := s.builder.children ++ s.pending.map pendingElem }, pending := [] } := rfl
    rw [this] at h3; injection h3 with _ h3; exact h3.symm
  have hc2 : s2.current = some t := by rw [e2]; exact hc
  rw [peekToken_current s2 t hc2] at h5
  injection h5 with h5a h5b
  subst h5a h5b
  unfold moveCurToTree at h6
  simp only [hc2] at h6
  injection h6 with _ h6
  obtain ⟨hi1, _⟩ := post_of_run (pushIgnored >>= fun _ => peekToken >>= fun _ => moveCurToTree K) s hi _ s1 h1
  obtain ⟨a3, k3, _, _⟩ := (ad_skipIgnored mon_allTok).d s1 u s' hi1 h2
  refine ⟨(s.pending.map pendingElem ++ (s2.pending.map pendingElem ++ [.tok K t.data])) ++ a3, ?_, ?_⟩
  · rw [k3, ← h6]
    simp only []
    rw [e2]
    simp [List.append_assoc]
  · simp [hasTok_append, hasTok]

/-! ### an accepted value adds a node -/

/-- started with a token in `current` and errors being accepted, a run that records no error adds a node -/
def N1 {α : Type} (m : PI α) : Prop :=
  ∀ s a s', Inv s → s.current.isSome = true → s.acceptErrors = true → m.run s = .ok a s' → s'.errors = s.errors →
    ∃ added, s'.builder.children = s.builder.children ++ added ∧ hasNode added = true

theorem n1_withNode {α : Type} (K : SK) (body : PI α) : N1 (withNode K body) := by
  intro s a s' hi _ _ h _
  obtain ⟨s2, cs, b, _, _, _, rfl, hbc⟩ := withNode_added K body s s' a hi h
  exact ⟨_, hbc, by simp [hasNode_append, hasNode]⟩

theorem hasNode_after {α β : Type} (m : PI α) (f : α → PI β) (s s'' : PState) (b : β) (hi : Inv s)
    (h : (m >>= f).run s = .ok b s'')
    (h2 : ∀ a s', Inv s' → (f a).run s' = .ok b s'' → ∃ added, s''.builder.children = s'.builder.children ++ added ∧ hasNode added = true) :
    ∃ added, s''.builder.children = s.builder.children ++ added ∧ hasNode added = true := by
  obtain ⟨a, s', hr1, hr2⟩ := bind_dec m f s s'' b h
  obtain ⟨hi', fr⟩ := post_of_run m s hi a s' hr1
  obtain ⟨a1, k1⟩ := fr.children
  obtain ⟨a2, k2, n2⟩ := h2 a s' hi' hr2
  exact ⟨a1 ++ a2, by rw [k2, k1, List.append_assoc], by simp [hasNode_append, n2]⟩

theorem err_records (s s' : PState) (u : Unit) (hi : Inv s) (t : Tok) (hc : s.current = some t) (ha : s.acceptErrors = true)
    (h : err.run s = .ok u s') : s'.errors ≠ s.errors := by
  unfold err at h
  rw [run_bind, peekToken_current s t hc] at h
  simp only [] at h
  unfold pushErr errUpdate at h
  simp only [] at h
  injection h with _ h
  subst h
  simp [ha]

theorem errAndPop_records (s s' : PState) (u : Unit) (hi : Inv s) (t : Tok) (hc : s.current = some t) (ha : s.acceptErrors = true)
    (h : errAndPop.run s = .ok u s') : s'.errors ≠ s.errors := by
  unfold errAndPop at h
  obtain ⟨_, s2, h3, h4⟩ := bind_dec pushIgnored _ s s' u h
  have e2 : s2 = { s with builder := { s.builder with children := s.builder.children ++ s.pending.map pendingElem }, pending := [] } := by
    have : pushIgnored.run s = .ok () { s with builder := { s.builder with children := s.builder.children ++ s.pending.map pendingElem }, pending := [] } := rfl
    rw [this] at h3; injection h3 with _ h3; exact h3.symm
  have hc2 : s2.current = some t := by rw [e2]; exact hc
  rw [run_bind, peekToken_current s2 t hc2] at h4
  simp only [] at h4
  obtain ⟨_, s3, h5, h6⟩ := bind_dec (moveCurToTree "ERROR") _ s2 s' u h4
  obtain ⟨_, s4, h7, h8⟩ := bind_dec (pushErr (tokErr t)) _ s3 s' u h6
  have e3 : s3.errors = s.errors ∧ s3.acceptErrors = true := by
    unfold moveCurToTree at h5
    simp only [hc2] at h5
    injection h5 with _ h5
    subst h5
    rw [e2]
    exact ⟨rfl, ha⟩
  have e4 : s4.errors = s.errors ++ [tokErr t] := by
    unfold pushErr errUpdate at h7
    simp only [] at h7
    injection h7 with _ h7
    subst h7
    simp [e3.1, e3.2]
  obtain ⟨hi2, _⟩ := post_of_run pushIgnored s hi _ s2 h3
  obtain ⟨hi3, _⟩ := post_of_run _ s2 hi2 _ s3 h5
  obtain ⟨hi4, _⟩ := post_of_run _ s3 hi3 _ s4 h7
  obtain ⟨ex, ad, w, _⟩ := gdCalc.skipIgnored.g s4 u s' hi4 h8
  rw [w.errs, e4]
  intro hcon
  have := congrArg List.length hcon
  simp at this

theorem n1_value (n : Nat) (c : Bool) : N1 (value (n + 1) c true) := by
  intro s a s' hi hcur ha h herr
  obtain ⟨t, hc⟩ := Option.isSome_iff_exists.mp hcur
  rw [value_succ, run_bind, peek_cur s t hc] at h
  simp only [] at h
  have wn : ∀ (K : SK) (body : PI Unit), (withNode K body).run s = .ok a s' →
      ∃ added, s'.builder.children = s.builder.children ++ added ∧ hasNode added = true :=
    fun K body hr => n1_withNode K body s a s' hi hcur ha hr herr
  have verr : (valueErr true).run s = .ok a s' → False := fun hr => by
    have : (valueErr true) = errAndPop := rfl
    rw [this] at hr
    exact errAndPop_records s s' a hi t hc ha hr herr
  cases hk : t.kind <;> rw [hk] at h <;> simp only [valueBranch] at h
  case dollar =>
    unfold variableBranch at h
    cases c with
    | true =>
      simp only [if_true] at h
      exact hasNode_after _ _ s s' a hi h (fun _ s1 hi1 hr => by
        unfold variableNode at hr
        obtain ⟨s2, cs, b, _, _, _, rfl, hbc⟩ := withNode_added _ _ s1 s' a hi1 hr
        exact ⟨_, hbc, by simp [hasNode_append, hasNode]⟩)
    | false =>
      simp only [Bool.false_eq_true, if_false] at h
      unfold variableNode at h
      exact wn _ _ h
  case int => exact wn _ _ h
  case float => exact wn _ _ h
  case stringValue => exact wn _ _ h
  case name =>
    rw [run_bind, peekToken_current s t hc] at h
    simp only [nameValueBranch] at h
    split at h
    · exact wn _ _ h
    · split at h
      · exact wn _ _ h
      · split at h
        · exact wn _ _ h
        · unfold enumValue at h
          exact wn _ _ h
  case lBracket =>
    cases n with
    | zero => simp [listValue, PI.outOfFuel] at h
    | succ m => rw [listValue_succ] at h; exact wn _ _ h
  case lCurly =>
    cases n with
    | zero => simp [objectValue, PI.outOfFuel] at h
    | succ m => rw [objectValue_succ] at h; exact wn _ _ h
  all_goals exact (verr h).elim

theorem peek_out (s s' : PState) (k : Option Kind) (hi : Inv s) (h : peek.run s = .ok k s') :
    ∃ e, GWOut s s' e [] ∧ s'.recHigh = s.recHigh := by
  obtain ⟨e, a0, w, _⟩ := gdCalc.peek.g s k s' hi h
  obtain ⟨a1, k1, g1, r1⟩ := (ad_peek mon_allTok).d s k s' hi h
  obtain ⟨o, s1, hpt, hpk⟩ := peek_run s
  rw [hpk] at h
  injection h with _ h
  subst h
  have := (peekToken_kids s s1 o hpt).1
  have ha0 : a0 = [] := by
    have := w.kids
    rw [‹s1.builder.children = s.builder.children›] at this
    exact (List.self_eq_append_right.mp this)
  subst ha0
  exact ⟨e, w, r1⟩

theorem bump_out (K : SK) (s s' : PState) (u : Unit) (hi : Inv s) (h : (bump K).run s = .ok u s') :
    ∃ e a, GWOut s s' e a ∧ AllTok a ∧ s'.recHigh = s.recHigh := by
  obtain ⟨e, a0, w, _⟩ := (gdCalc.bump K).g s u s' hi h
  obtain ⟨a1, k1, g1, r1⟩ := (ad_bump mon_allTok K (allTok_single K)).d s u s' hi h
  have : a1 = a0 := List.append_cancel_left (k1.symm.trans w.kids)
  subst this
  exact ⟨e, a1, w, g1, r1⟩

theorem GWOut.trans {a b c : PState} {e1 e2 : List PErr} {a1 a2 : List Elem} (h1 : GWOut a b e1 a1) (h2 : GWOut b c e2 a2) :
    GWOut a c (e1 ++ e2) (a1 ++ a2) :=
  ⟨by rw [h2.errs, h1.errs, List.append_assoc], by rw [h2.kids, h1.kids, List.append_assoc], Nat.le_trans h1.mono h2.mono,
   fun he => by
    obtain ⟨he1, he2⟩ := List.append_eq_nil_iff.mp he
    rw [h2.acc he2, h1.acc he1]⟩

/-- the item loop of a list value: every item one level down -/
theorem listLoop_gd (n : Nat) (c : Bool) (hv : GD (value n c true)) (hn : N1 (value n c true)) :
    ∀ (fuel : Nat) (s s' : PState), Inv s → (peekWhileLoop (listLoopBody n c) fuel).run s = .ok () s' →
      ∃ extra added, GWOut s s' extra added ∧
        (extra = [] → s.acceptErrors = true → s'.recHigh ≤ s.recLimit → s.recCur ≤ s.recHigh →
          s'.recHigh = max s.recHigh (s.recCur + idl added)) := by
  intro fuel
  induction fuel with
  | zero => intro s s' _ h; simp [peekWhileLoop, PI.outOfFuel] at h
  | succ fuel ih =>
    intro s s' hi h
    unfold peekWhileLoop at h
    obtain ⟨ko, sP, hp, h2⟩ := bind_dec peek _ s s' () h
    obtain ⟨hiP, frP⟩ := post_of_run peek s hi ko sP hp
    obtain ⟨e0, w0, r0⟩ := peek_out s sP ko hi hp
    cases ko with
    | none =>
      simp only [] at h2
      rw [run_pure] at h2
      injection h2 with _ h2
      subst h2
      exact ⟨e0, [], w0, fun _ _ _ hc => by rw [r0]; simp [idl]; omega⟩
    | some k =>
      simp only [] at h2
      obtain ⟨t, hct, hkt⟩ := peek_some_cur s sP k hp
      have h3 := getCurrent_dec _ sP s' () h2
      obtain ⟨b, sB, hb, h4⟩ := bind_dec (listLoopBody n c k) _ sP s' () h3
      obtain ⟨hiB, frB⟩ := post_of_run _ sP hiP b sB hb
      unfold listLoopBody at hb
      by_cases hk1 : (k == Kind.rBracket) = true
      · simp only [hk1, if_true] at hb
        obtain ⟨_, sC, hc1, hc2⟩ := bind_dec (bump "R_BRACK") _ sP sB b hb
        rw [run_pure] at hc2
        injection hc2 with hb' hs'
        subst hb' hs'
        simp only [Bool.false_eq_true, if_false] at h4
        rw [run_pure] at h4
        injection h4 with _ h4
        subst h4
        obtain ⟨e1, a1, w1, g1, r1⟩ := bump_out _ sP sC () hiP hc1
        refine ⟨e0 ++ e1, [] ++ a1, w0.trans w1, fun _ _ _ hc => ?_⟩
        rw [r1, r0, List.nil_append, allTok_idl g1]
        omega
      · simp only [hk1, Bool.false_eq_true, if_false] at hb
        by_cases hk2 : (k == Kind.eof) = true
        · simp only [hk2, if_true] at hb
          rw [run_pure] at hb
          injection hb with hb' hs'
          subst hb' hs'
          simp only [Bool.false_eq_true, if_false] at h4
          rw [run_pure] at h4
          injection h4 with _ h4
          subst h4
          exact ⟨e0, [], w0, fun _ _ _ hc => by rw [r0]; simp [idl]; omega⟩
        · simp only [hk2, Bool.false_eq_true, if_false] at hb
          have hbody : GD (value n c true >>= fun _ => (pure true : PI Bool)) := gd_bind _ _ hv (fun _ => gd_pure _)
          obtain ⟨e1, a1, w1, x1⟩ := (gd1_withRec _ _ (gw_bind_pure false) hbody).g sP b sB hiP hb
          -- the rest of the loop
          have hrest : ∃ e2 a2, GWOut sB s' e2 a2 ∧ (b = false → a2 = [] ∧ s'.recHigh = sB.recHigh) ∧
              (e2 = [] → sB.acceptErrors = true → s'.recHigh ≤ sB.recLimit → sB.recCur ≤ sB.recHigh →
                s'.recHigh = max sB.recHigh (sB.recCur + idl a2)) := by
            cases b with
            | false =>
              simp only [Bool.false_eq_true, if_false] at h4
              rw [run_pure] at h4
              injection h4 with _ h4
              subst h4
              exact ⟨[], [], ⟨by simp, by simp, Nat.le_refl _, fun _ => rfl⟩, fun _ => ⟨rfl, rfl⟩,
                fun _ _ _ hc => by simp [idl]; omega⟩
            | true =>
              simp only [if_true] at h4
              have h5 := getCurrent_dec _ sB s' () h4
              by_cases hsame : (sP.current == sB.current) = true
              · simp only [hsame, if_true] at h5
                exact absurd h5 (stuck_not_ok _ _ _)
              · simp only [hsame, Bool.false_eq_true, if_false] at h5
                obtain ⟨e2, a2, w2, x2⟩ := ih sB s' hiB h5
                exact ⟨e2, a2, w2, fun hb => (by cases hb), x2⟩
          obtain ⟨e2, a2, w2, hfalse, x2⟩ := hrest
          refine ⟨e0 ++ (e1 ++ e2), [] ++ (a1 ++ a2), w0.trans (w1.trans w2), ?_⟩
          intro he ha hh hc
          obtain ⟨he0, he12⟩ := List.append_eq_nil_iff.mp he
          obtain ⟨he1, he2⟩ := List.append_eq_nil_iff.mp he12
          have haP : sP.acceptErrors = true := by rw [w0.acc he0]; exact ha
          have hlP : sP.recLimit = s.recLimit := frP.recLimit
          have hcP : sP.recCur = s.recCur := frP.recCur
          have hhB : sB.recHigh ≤ sP.recLimit := by rw [hlP]; exact Nat.le_trans w2.mono hh
          have hcurP : sP.recCur ≤ sP.recHigh := by rw [hcP, r0]; exact hc
          have r1 := x1 he1 haP hhB hcurP
          -- the guard was not hit: the value ran, and added a node
          have hnode : hasNode a1 = true := by
            rcases withRec_decH _ _ sP sB b hb with ⟨hover, hrun⟩ | ⟨hunder, s2, hrun, hsB⟩
            · exfalso
              have := w1.mono
              have h1 : sP.recCur + 1 > sP.recLimit := hover
              rw [r1] at hhB
              omega
            · obtain ⟨u, s3, hv1, hv2⟩ := bind_dec (value n c true) _ _ s2 b hrun
              rw [run_pure] at hv2
              injection hv2 with _ hv2
              subst hv2
              have hi0 : Inv { sP with recCur := sP.recCur + 1, recHigh := max sP.recHigh (sP.recCur + 1) } :=
                ⟨hiP.text, hiP.parents, hiP.lexDone, hiP.eofTok, hiP.errNonempty⟩
              have herrs : s3.errors = sP.errors := by
                have := w1.errs
                rw [he1, List.append_nil, hsB] at this
                exact this
              obtain ⟨ad, kad, nad⟩ := hn _ u s3 hi0 (by show sP.current.isSome = true; rw [hct]; rfl) haP hv1 herrs
              have : ad = a1 := by
                have hk := w1.kids
                rw [hsB] at hk
                exact List.append_cancel_left (kad.symm.trans hk)
              rw [← this]
              exact nad
          have hidl : idl a1 = gdl a1 + 1 := by rw [(idl_eq a1).1, hnode]; rfl
          have haB : sB.acceptErrors = true := by rw [w1.acc he1]; exact haP
          have hlB : sB.recLimit = s.recLimit := frB.recLimit.trans hlP
          have hcB : sB.recCur = s.recCur := frB.recCur.trans hcP
          have r2 := x2 he2 haB (by rw [hlB]; exact hh) (by rw [hcB]; exact Nat.le_trans hc (Nat.le_trans (by rw [r0]; exact Nat.le_refl _) w1.mono))
          rw [r2, r1, hcB, hcP, r0, List.nil_append, idl_append, hidl]
          omega

/-- a computation that is both `GD` and `AD Pr`: one set of additions for both -/
theorem out_of {α : Type} {m : PI α} (hg : GD m) (ha : AD Pr m) (s : PState) (a : α) (s' : PState) (hi : Inv s)
    (h : m.run s = .ok a s') : ∃ e ad, GWOut s s' e ad ∧ Pr ad ∧ s'.recHigh = s.recHigh := by
  obtain ⟨e, a0, w, _⟩ := hg.g s a s' hi h
  obtain ⟨a1, k1, g1, r1⟩ := ha.d s a s' hi h
  have : a1 = a0 := List.append_cancel_left (k1.symm.trans w.kids)
  subst this
  exact ⟨e, a1, w, g1, r1⟩

theorem gd_listValue_succ (n : Nat) (c : Bool) (hv : GD (value n c true)) (hn : N1 (value n c true)) :
    GD (listValue (n + 1) c) := by
  rw [listValue_succ]
  constructor
  intro s a s' hi h
  obtain ⟨s2, cs, b, hr, hi0, hcs, rfl, hb⟩ := withNode_added _ _ s s' a hi h
  obtain ⟨u1, sa, h1, h2⟩ := bind_dec skipIgnored _ _ s2 a hr
  obtain ⟨hia, fra⟩ := post_of_run _ _ hi0 u1 sa h1
  obtain ⟨ea, aa, wa, ga, ra⟩ := out_of gdCalc.skipIgnored (ad_skipIgnored mon_allTok) _ u1 sa hi0 h1
  obtain ⟨u2, sb, h3, h4⟩ := bind_dec (bump "L_BRACK") _ sa s2 a h2
  obtain ⟨hib, frb⟩ := post_of_run _ _ hia u2 sb h3
  obtain ⟨eb, ab, wb, gb, rb⟩ := bump_out _ sa sb u2 hia h3
  unfold peekWhile at h4
  obtain ⟨fuel, h5⟩ := srcLen_dec _ sb s2 a h4
  obtain ⟨el, al, wl, xl⟩ := listLoop_gd n c hv hn (fuel + 3) sb s2 hib h5
  have wtot := (wa.trans wb).trans wl
  have hcs2 : (aa ++ ab) ++ al = cs := List.append_cancel_left (wtot.kids.symm.trans hcs)
  subst hcs2
  refine ⟨(ea ++ eb) ++ el, s.pending.map pendingElem ++ [Elem.node "LIST_VALUE" ((aa ++ ab) ++ al)],
    ⟨wtot.errs, hb, wtot.mono, wtot.acc⟩, ?_⟩
  intro he ha hh hc
  obtain ⟨heab, hel⟩ := List.append_eq_nil_iff.mp he
  obtain ⟨hea, heb⟩ := List.append_eq_nil_iff.mp heab
  have hcb : sb.recCur = s.recCur := (frb.recCur.trans fra.recCur)
  have hlb : sb.recLimit = s.recLimit := (frb.recLimit.trans fra.recLimit)
  have hrb : sb.recHigh = s.recHigh := rb.trans ra
  have hab : sb.acceptErrors = true := by rw [wb.acc heb, wa.acc hea]; exact ha
  have r := xl hel hab (by rw [hlb]; exact hh) (by rw [hcb, hrb]; exact hc)
  show s2.recHigh = _
  rw [r, hrb, hcb, gdl_append, gdl_pending, gdl_single, gd_listValue, idl_append, idl_append, allTok_idl ga, allTok_idl gb]
  show max s.recHigh (s.recCur + idl al) = max s.recHigh (s.recCur + max 0 (max (max 0 0) (idl al)) + 0)
  omega

theorem gd_objectField_succ (n : Nat) (c : Bool) (hv : GD (value n c true)) : GD (objectField (n + 1) c) := by
  rw [objectField_succ]
  constructor
  intro s a s' hi h
  obtain ⟨s2, cs, b, hr, hi0, hcs, rfl, hb⟩ := withNode_added _ _ s s' a hi h
  obtain ⟨u1, sa, h1, h2⟩ := bind_dec skipIgnored _ _ s2 a hr
  obtain ⟨hia, fra⟩ := post_of_run _ _ hi0 u1 sa h1
  obtain ⟨ea, aa, wa, ga, ra⟩ := out_of gdCalc.skipIgnored (ad_skipIgnored mon_noColon) _ u1 sa hi0 h1
  obtain ⟨u2, sb, h3, h4⟩ := bind_dec name _ sa s2 a h2
  obtain ⟨hib, frb⟩ := post_of_run _ _ hia u2 sb h3
  obtain ⟨eb, ab, wb, gb, rb⟩ := out_of gdCalc.name fn_name sa u2 sb hia h3
  obtain ⟨k, sc, h5, h6⟩ := bind_dec peek _ sb s2 a h4
  obtain ⟨hic, frc⟩ := post_of_run _ _ hib k sc h5
  obtain ⟨ec, wc, rc⟩ := peek_out sb sc k hib h5
  have hcc : sc.recCur = s.recCur := (frc.recCur.trans (frb.recCur.trans fra.recCur))
  have hlc : sc.recLimit = s.recLimit := (frc.recLimit.trans (frb.recLimit.trans fra.recLimit))
  have hrc : sc.recHigh = s.recHigh := rc.trans (rb.trans ra)
  unfold objectFieldTail at h6
  by_cases hk : (k == some Kind.colon) = true
  · simp only [hk, if_true] at h6
    have hks : k = some Kind.colon := by simpa using hk
    subst hks
    obtain ⟨t, hct, _⟩ := peek_some_cur sb sc _ h5
    obtain ⟨u4, sd, h7, h8⟩ := bind_dec (bump "COLON") _ sc s2 a h6
    obtain ⟨hid, frd⟩ := post_of_run _ _ hic u4 sd h7
    obtain ⟨ed, ad, wd, gd', rd⟩ := bump_out _ sc sd u4 hic h7
    obtain ⟨ad2, kd2, hcol⟩ := bump_hasTok "COLON" sc sd u4 t hic hct h7
    have : ad2 = ad := List.append_cancel_left (kd2.symm.trans wd.kids)
    subst this
    obtain ⟨ev, av, wv, xv⟩ := (gd1_withRec _ _ gw_limitErr hv).g sd a s2 hid h8
    have wtot := (((wa.trans wb).trans wc).trans wd).trans wv
    have hcs2 : (((aa ++ ab) ++ []) ++ ad2) ++ av = cs := List.append_cancel_left (wtot.kids.symm.trans hcs)
    subst hcs2
    refine ⟨_, s.pending.map pendingElem ++ [Elem.node "OBJECT_FIELD" ((((aa ++ ab) ++ []) ++ ad2) ++ av)],
      ⟨wtot.errs, hb, wtot.mono, wtot.acc⟩, ?_⟩
    intro he ha hh hc
    obtain ⟨he1, hev⟩ := List.append_eq_nil_iff.mp he
    obtain ⟨he2, hed⟩ := List.append_eq_nil_iff.mp he1
    obtain ⟨he3, hec⟩ := List.append_eq_nil_iff.mp he2
    obtain ⟨hea, heb⟩ := List.append_eq_nil_iff.mp he3
    have had : sd.acceptErrors = true := by rw [wd.acc hed, wc.acc hec, wb.acc heb, wa.acc hea]; exact ha
    have hcd : sd.recCur = s.recCur := frd.recCur.trans hcc
    have hld : sd.recLimit = s.recLimit := frd.recLimit.trans hlc
    have hrd : sd.recHigh = s.recHigh := rd.trans hrc
    have r := xv hev had (by rw [hld]; exact hh) (by rw [hcd, hrd]; exact hc)
    have hcolon : hasTok "COLON" ((((aa ++ ab) ++ []) ++ ad2) ++ av) = true := by
      simp [hasTok_append, hcol]
    show s2.recHigh = _
    rw [r, hrd, hcd, gdl_append, gdl_pending, gdl_single, gd_objectField, hcolon]
    simp only [if_true, gdl_append, ga.1, gb.1, allTok_gdl gd', gdl]
    omega
  · simp only [hk, Bool.false_eq_true, if_false] at h6
    obtain ⟨ed, ad, wd, gd', rd⟩ := out_of gdCalc.err (ad_err mon_noColon) sc a s2 hic h6
    have wtot := ((wa.trans wb).trans wc).trans wd
    have hcs2 : ((aa ++ ab) ++ []) ++ ad = cs := List.append_cancel_left (wtot.kids.symm.trans hcs)
    subst hcs2
    refine ⟨_, s.pending.map pendingElem ++ [Elem.node "OBJECT_FIELD" (((aa ++ ab) ++ []) ++ ad)],
      ⟨wtot.errs, hb, wtot.mono, wtot.acc⟩, ?_⟩
    intro he ha hh hc
    have hcolon : hasTok "COLON" (((aa ++ ab) ++ []) ++ ad) = false := by
      simp [hasTok_append, ga.2, gb.2, gd'.2, hasTok]
    show s2.recHigh = _
    rw [rd, hrc, gdl_append, gdl_pending, gdl_single, gd_objectField, hcolon]
    simp only [Bool.false_eq_true, if_false, gdl_append, ga.1, gb.1, gd'.1, gdl]
    omega

end Apollo.Parse
