import ApolloModel.Proofs.CoercionFuel
/- C28: coerced values conform to their type; the variables loop against CoerceVariableValues. -/
namespace Apollo.Coercion
open Apollo Apollo.Spec AList

theorem zip_exists_right {α β : Type} : ∀ (xs : List α) (ys : List β) (y : β), y ∈ ys → xs.length = ys.length →
    ∃ x, (x, y) ∈ xs.zip ys := by
  intro xs
  induction xs with
  | nil => intro ys y h hl; cases ys with
    | nil => simp at h
    | cons b ys => simp at hl
  | cons a xs ih =>
    intro ys y h hl
    cases ys with
    | nil => simp at h
    | cons b ys =>
      simp only [List.mem_cons] at h
      rcases h with rfl | h
      · exact ⟨a, by simp⟩
      · obtain ⟨x, hx⟩ := ih ys y h (by simpa using hl)
        exact ⟨x, by simp [hx]⟩

/-- a value produced by input coercion (with coerced defaults) conforms to the type -/
theorem coerces_conforms {R : Rules} {s : ExecSchema} (hraw : R.rawDefaults = false) {ty : Ty} {v r : Json}
    (h : Coerces R s ty v r) : Conforms s ty r := by
  induction h with
  | null ty hn => exact Conforms.null ty hn
  | listItems ty inner xs ys hsh hl _ ih =>
    refine Conforms.list ty inner ys hsh ?_
    intro y hy
    obtain ⟨x, hx⟩ := zip_exists_right xs ys y hy hl
    exact ih (x, y) hx
  | listSingle ty inner v r hsh _ _ _ ih =>
    refine Conforms.list ty inner [r] hsh ?_
    intro y hy
    simp only [List.mem_singleton] at hy
    subst hy
    exact ih
  | scalar ty name v hsh htd hn hok => exact Conforms.scalar ty name v hsh htd hn hok
  | «enum» ty name values x hsh htd hx => exact Conforms.enum ty name values x hsh htd hx
  | inputObject ty name fields kvs r hsh htd p1 p2 p3 _ p5 _ _ p8 ih4 ih6 =>
    refine Conforms.inputObject ty name fields r hsh htd p2 ?_ ?_
    · intro fd rv hfd hr
      cases hg : get? kvs fd.name with
      | some fv => exact ih4 fd fv rv hfd hg hr
      | none =>
        cases hd : fd.default with
        | some d => exact ih6 fd d rv hfd hg hd hr hraw
        | none =>
          have := (p8 fd hfd hg hd).2
          rw [hr] at this
          cases this
    · intro fd hfd hr
      cases hg : get? kvs fd.name with
      | some fv =>
        have := p3 fd hfd (by simp [hg])
        simp [hr] at this
      | none =>
        cases hd : fd.default with
        | some d =>
          have := p5 fd d hfd hg hd
          simp [hr] at this
        | none => exact ⟨(p8 fd hfd hg hd).1, rfl⟩

/-- every variable default is already in coerced form -/
def VarDefaultsCanonical (R : Rules) (s : ExecSchema) (defs : List InputDef) : Prop :=
  ∀ vd d, vd ∈ defs → vd.default = some d → Coerces R s vd.ty d.toJson d.toJson

theorem vars_sound (R : Rules) (s : ExecSchema) (hwf : SchemaWF s)
    (hdef : R.rawDefaults = true ∨ CanonicalDefaults R s)
    (defs : List InputDef) (hnd : (fieldNames defs).Nodup)
    (hvd : R.rawDefaults = true ∨ VarDefaultsCanonical R s defs)
    (values r : AList Json) (h : coerceVariableValues s defs values = .ok r) :
    CoercesVars R s defs values r := by
  unfold coerceVariableValues at h
  obtain ⟨c1, c2⟩ := coerceDefs_ok _ values defs [] r hnd h
  refine ⟨?_, ?_⟩
  · intro k hk
    by_cases hm : k ∈ fieldNames defs
    · exact hm
    · rw [c1 k hm] at hk
      simp [get?] at hk
  · intro vd hvdm
    obtain ⟨o1, o2, o3⟩ := c2 vd hvdm
    cases hg : get? values vd.name with
    | some v =>
      obtain ⟨rv, hf, hr⟩ := o1 v hg
      exact ⟨rv, hr, coerceValue_sound R s hwf hdef _ _ _ _ hf⟩
    | none =>
      cases hd : vd.default with
      | some d =>
        refine ⟨d.toJson, o2 hg d hd, ?_⟩
        unfold DefaultOutcome
        rcases hvd with hvd | hvd
        · simp [hvd]
        · cases hraw : R.rawDefaults with
          | true => simp
          | false => simpa using hvd vd d hvdm hd
      | none =>
        obtain ⟨hnn, hr⟩ := o3 hg hd
        exact ⟨hnn, by rw [hr]; simp [get?]⟩

theorem vars_refuse (R : Rules) (s : ExecSchema)
    (defs : List InputDef) (values : AList Json) (e : CoerceErr)
    (h : coerceVariableValues s defs values = .error e) (he : e ≠ .outOfFuel) :
    ¬ ∃ r, CoercesVars R s defs values r := by
  unfold coerceVariableValues at h
  obtain ⟨vd, hvdm, hcase⟩ := coerceDefs_err _ values defs [] e h
  rintro ⟨r, _, hall⟩
  have hv := hall vd hvdm
  rcases hcase with ⟨v, hg, hf⟩ | ⟨hg, hd, hnn, _⟩
  · simp only [hg] at hv
    obtain ⟨rv, _, hc⟩ := hv
    exact coerceValue_refuse R s _ _ _ _ hf he ⟨rv, hc⟩
  · simp only [hg, hd] at hv
    rw [hnn] at hv
    cases hv.1

theorem vars_fuel (s : ExecSchema) (defs : List InputDef) (values : AList Json) :
    coerceVariableValues s defs values ≠ .error .outOfFuel := by
  intro h
  unfold coerceVariableValues at h
  obtain ⟨vd, hvdm, hcase⟩ := coerceDefs_err _ values defs [] _ h
  rcases hcase with ⟨v, hg, hf⟩ | ⟨_, _, _, he⟩
  · refine coerceValue_fuel s _ vd.ty v ?_ hf
    have hsz := size_get? values vd.name v hg
    have hmul := Nat.mul_le_mul_right (maxDepthTypes s.types + 1) hsz
    have hdep := depth_mem defs vd hvdm
    unfold fuelForVars
    rw [Nat.add_mul]
    generalize v.size * (maxDepthTypes s.types + 1) = A at *
    generalize Json.sizeFields values * (maxDepthTypes s.types + 1) = B at *
    omega
  · cases he

/-- a request error of the model is a request error of CoerceVariableValues, whichever way defaults are treated: the
    fuel never runs out, and every other error is refused -/
theorem vars_error_refuse (R : Rules) (s : ExecSchema) (defs : List InputDef) (values : AList Json) (e : CoerceErr)
    (h : coerceVariableValues s defs values = .error e) : ¬ ∃ r, CoercesVars R s defs values r :=
  vars_refuse R s defs values e h fun he => vars_fuel s defs values (he ▸ h)

/-- the model succeeds exactly when CoerceVariableValues has a result, for rules `R` that use defaults as written or
    when every default is written in coerced form -/
theorem vars_ok_iff (R : Rules) (s : ExecSchema) (hwf : SchemaWF s) (hdef : R.rawDefaults = true ∨ CanonicalDefaults R s)
    (defs : List InputDef) (hnd : (fieldNames defs).Nodup) (hvd : R.rawDefaults = true ∨ VarDefaultsCanonical R s defs)
    (values : AList Json) :
    (∃ r, coerceVariableValues s defs values = .ok r) ↔ ∃ r, CoercesVars R s defs values r := by
  refine ⟨fun ⟨r, h⟩ => ⟨r, vars_sound R s hwf hdef defs hnd hvd values r h⟩, fun hspec => ?_⟩
  cases h : coerceVariableValues s defs values with
  | ok r => exact ⟨r, rfl⟩
  | error e => exact absurd hspec (vars_error_refuse R s defs values e h)

theorem vars_keys (s : ExecSchema) (defs : List InputDef) (hnd : (fieldNames defs).Nodup)
    (values r : AList Json) (h : coerceVariableValues s defs values = .ok r) (k : String) :
    (get? r k).isSome = true ↔
      ∃ vd, vd ∈ defs ∧ vd.name = k ∧ ((get? values k).isSome = true ∨ vd.default.isSome = true) := by
  unfold coerceVariableValues at h
  obtain ⟨c1, c2⟩ := coerceDefs_ok _ values defs [] r hnd h
  constructor
  · intro hk
    by_cases hm : k ∈ fieldNames defs
    · simp only [fieldNames, List.mem_map] at hm
      obtain ⟨vd, hvdm, rfl⟩ := hm
      refine ⟨vd, hvdm, rfl, ?_⟩
      obtain ⟨_, _, o3⟩ := c2 vd hvdm
      cases hg : get? values vd.name with
      | some v => simp
      | none =>
        cases hd : vd.default with
        | some d => simp
        | none =>
          have := (o3 hg hd).2
          rw [this] at hk
          simp [get?] at hk
    · rw [c1 k hm] at hk
      simp [get?] at hk
  · rintro ⟨vd, hvdm, rfl, hor⟩
    obtain ⟨o1, o2, _⟩ := c2 vd hvdm
    cases hg : get? values vd.name with
    | some v =>
      obtain ⟨rv, _, hr⟩ := o1 v hg
      simp [hr]
    | none =>
      cases hd : vd.default with
      | some d => simp [o2 hg d hd]
      | none => simp [hg, hd] at hor

end Apollo.Coercion
