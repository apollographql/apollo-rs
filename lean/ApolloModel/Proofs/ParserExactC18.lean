import ApolloModel.Proofs.ParserExactC16
import ApolloModel.Proofs.ParserComplete19
/-
C05 (completeness of the whole Document grammar), exact budget: input value definitions, arguments
definitions, field definitions, enum value definitions and their braced lists.
-/
set_option linter.unusedSimpArgs false
namespace Apollo.Parse.Exact
open Apollo.Rowan hiding Str
open Apollo.Lex hiding Str

theorem peekData_head (s s' : PState) (od : Option Str) (t : Tok) (tl : List Tok) (w : TW s) (ht : Toks s = t :: tl)
    (h : peekData.run s = .ok od s') : od = some t.data ∧ Eat s s' [] ∧ Toks s' = t :: tl := Parse.peekData_head s s' od t tl w ht h

/-- `if p.peek_data() == Some(word) { m; restT } else { restF }` when the word is there -/
theorem cmp_optData2_some {α : Type} {Hk : Kind → Prop} (word : String) (m : PI Unit) (restT restF : PI α)
    {Lm Lr : Nat → List Ast.Tok → Prop} {Fm F : Kind → Prop} {Q : α → Prop}
    (hm : Cmp (fun _ => True) m Lm Fm (fun _ => True)) (hT : Cmp (fun _ => True) restT Lr F Q)
    (hmhead : ∀ b x, Lm b x → ∃ x', x = .name word.toList :: x')
    (hrhead : ∀ b a x, Lr b (a :: x) → Fm (kindOfA a)) (hF : ∀ k, F k → Fm k) :
    Cmp Hk (optData2 word m restT restF) (fun b x => ∃ x1 x2, x = x1 ++ x2 ∧ Lm b x1 ∧ Lr b x2) F Q :=
  Parse.cmp_optData2_some word m restT restF hm hT hmhead hrhead hF

/-! ### input value definition -/

def LIVDcore (b : Nat) (x : List Ast.Tok) : Prop :=
  ∃ x1 x2, x = x1 ++ x2 ∧ (∃ n, x1 = [.name n]) ∧ ∃ x3, x2 = .p .colon :: x3 ∧ LVarTail b x3

theorem cmp_inputValueDefinition (n : Nat) : Cmp (fun _ => True) (inputValueDefinition n) LIVD Fvd (fun _ => True) := by
  rw [inputValueDefinition_eq]
  refine cmp_withNode _ ?_
  unfold ivdBody
  have hcore : Cmp (fun _ => True) (name >>= fun _ => ivdColon n) LIVDcore Fvd (fun _ => True) :=
    cmp_bind (Hk := fun _ => True) (F1 := fun _ => True) cmp_name (fun _ _ => cmp_ivdColon n)
      (fun _ _ _ _ => trivial) (fun _ _ => trivial) (fun _ h => h)
  have := cmp_optDesc (Hk := fun _ => True) _ hcore
    (by rintro b a x ⟨x1, x2, e, ⟨nn, rfl⟩, _⟩; simp only [List.cons_append, List.nil_append] at e; injection e with e _; subst e; simp [kindOfA])
    (by rintro b ⟨x1, x2, e, ⟨nn, rfl⟩, _⟩; simp at e)
  refine this.mono (fun _ h => h) ?_ (fun _ h => h) (fun _ h => h)
  rintro b x ⟨v, rfl, hty, hdef, hdirs⟩
  refine ⟨v.desc, _, by simp [Ast.tIVD, List.append_assoc], [.name v.name], _, rfl, ⟨_, rfl⟩, _, rfl,
    Ast.tTy v.ty, _, rfl, ⟨v.ty, rfl, hty⟩, Ast.tDefault v.default, Ast.tDirectives v.dirs, rfl, ?_, ⟨v.dirs, rfl, hdirs⟩⟩
  cases hd : v.default with
  | none => right; rfl
  | some d => left; exact ⟨d, rfl, hdef d hd⟩

theorem livd_head {b : Nat} {x : List Ast.Tok} (h : LIVD b x) : ∃ a x', x = a :: x' ∧ isNameOrStringK (kindOfA a) = true := by
  obtain ⟨v, rfl, _⟩ := h
  cases hd : v.desc with
  | none => exact ⟨.name v.name, _, by simp [Ast.tIVD, hd, Ast.tDescription, List.append_assoc]; rfl, rfl⟩
  | some d => exact ⟨.str d, _, by simp [Ast.tIVD, hd, Ast.tDescription, List.append_assoc]; rfl, rfl⟩

theorem ivdItems_ok (b : Nat) : ∀ vs, (∀ v ∈ vs, ivdFit b v) → ∀ i ∈ ivdItems vs, LIVD b i
  | [], _ => by intro i hi; cases hi
  | v :: r, h => by
    intro i hi
    simp only [ivdItems, List.mem_cons] at hi
    rcases hi with rfl | hi
    · exact ⟨v, rfl, h v (by simp)⟩
    · exact ivdItems_ok b r (fun x hx => h x (by simp [hx])) i hi

theorem cmp_argumentsDefinitionBody (n : Nat) :
    Cmp (fun _ => True) (argumentsDefinitionBody n) LArgsDef (fun _ => True) (fun _ => True) := by
  rw [argumentsDefinitionBody_eq]
  have := cmp_braced "L_PAREN" isNameOrString isNameOrStringK (inputValueDefinition n) .rParen "R_PAREN" (.p .lParen) (.p .rParen)
    LIVD Fvd (cmp_inputValueDefinition n) (fun b x h => livd_head h) fvd_of_nameOrString isNameOrString_of rfl rfl (by simp [Fvd])
  refine this.mono (fun _ h => h) ?_ (fun _ h => h) (fun _ h => h)
  rintro b x ⟨args, hne, rfl, hfit⟩
  cases args with
  | nil => exact absurd rfl hne
  | cons v r =>
    refine ⟨Ast.tIVD v, ivdItems r, ivdItems_ok b (v :: r) hfit, ?_⟩
    simp [Ast.tArgsDef, Ast.tIVDItems, ivdItems_flatten]

theorem cmp_argumentsDefinition (n : Nat) :
    Cmp (fun _ => True) (argumentsDefinition n) LArgsDef (fun _ => True) (fun _ => True) := by
  unfold argumentsDefinition
  exact cmp_withNode _ (cmp_argumentsDefinitionBody n)

theorem largsDef_head {b : Nat} {x : List Ast.Tok} (h : LArgsDef b x) : ∃ a x', x = a :: x' ∧ kindOfA a = .lParen := by
  obtain ⟨args, hne, rfl, _⟩ := h
  cases args with
  | nil => exact absurd rfl hne
  | cons v r => exact ⟨.p .lParen, Ast.tIVDItems (v :: r) ++ [.p .rParen], by simp [Ast.tArgsDef], rfl⟩

theorem cmp_inputFieldsDefinition (n : Nat) :
    Cmp (fun _ => True) (inputFieldsDefinition n) LInputFields (fun _ => True) (fun _ => True) := by
  rw [inputFieldsDefinition_eq]
  refine cmp_withNode _ ?_
  have := cmp_braced "L_CURLY" isNameOrString isNameOrStringK (inputValueDefinition n) .rCurly "R_CURLY" (.p .lCurly) (.p .rCurly)
    LIVD Fvd (cmp_inputValueDefinition n) (fun b x h => livd_head h) fvd_of_nameOrString isNameOrString_of rfl rfl (by simp [Fvd])
  refine this.mono (fun _ h => h) ?_ (fun _ h => h) (fun _ h => h)
  rintro b x ⟨args, hne, rfl, hfit⟩
  cases args with
  | nil => exact absurd rfl hne
  | cons v r =>
    refine ⟨Ast.tIVD v, ivdItems r, ivdItems_ok b (v :: r) hfit, ?_⟩
    simp [Ast.tBraced, Ast.tIVDItems, ivdItems_flatten]

/-! ### field definition -/

def LDirsNeB (c : Bool) (b : Nat) (x : List Ast.Tok) : Prop := ∃ ds, ds ≠ [] ∧ x = Ast.tDirectives ds ∧ dirsFit c b ds

theorem cmp_directivesNeB (n : Nat) (c : Bool) :
    Cmp (fun _ => True) (directives n c) (LDirsNeB c) (fun k => k ≠ .at ∧ k ≠ .lParen) (fun _ => True) :=
  (directives_complete n c).mono (fun _ h => h) (by rintro b x ⟨ds, _, rfl, h⟩; exact ⟨ds, rfl, h⟩) (fun _ h => h) (fun _ h => h)

theorem ldirsNeB_head {c : Bool} {b : Nat} {x : List Ast.Tok} (h : LDirsNeB c b x) : ∃ a x', x = a :: x' ∧ kindOfA a = .at := by
  obtain ⟨ds, hne, rfl, _⟩ := h
  obtain ⟨x', e⟩ := tDirectives_head ds hne
  exact ⟨_, x', e, rfl⟩

theorem ldirsB_split (c : Bool) (b : Nat) (ds : List Ast.Directive) (h : dirsFit c b ds) :
    LDirsNeB c b (Ast.tDirectives ds) ∨ Ast.tDirectives ds = [] := by
  by_cases hne : ds = []
  · subst hne; right; rfl
  · left; exact ⟨ds, hne, rfl, h⟩

def LFdType (b : Nat) (x : List Ast.Tok) : Prop :=
  ∃ x1 x2, x = x1 ++ x2 ∧ LTy b x1 ∧ ∃ y1 y2, x2 = y1 ++ y2 ∧ (LDirsNeB true b y1 ∨ y1 = []) ∧ y2 = []

theorem cmp_fdType (n : Nat) : Cmp (fun _ => True) (fdType n) LFdType Ffd (fun _ => True) := by
  unfold fdType
  have hd := cmp_optKind (Hk := fun _ => True) (F := fun k => k ≠ Kind.at ∧ k ≠ Kind.lParen) .at (directives n true) peekNop
    (cmp_directivesNeB n true) cmp_peekNop (fun b x h => ldirsNeB_head h) (by rintro b a x h; cases h)
    (fun k h => ⟨h.1, h, trivial⟩)
  have hb : Cmp (fun _ => True) (ty n >>= fun _ => optKind .at (directives n true) peekNop) LFdType Ffd (fun _ => True) :=
    cmp_bind (Hk := fun _ => True) (cmp_ty n) (fun _ _ => hd)
      (by rintro b a x2 ⟨y1, y2, e, h1, rfl⟩
          rcases h1 with h1 | rfl
          · obtain ⟨a', x', rfl, hk⟩ := ldirsNeB_head h1
            simp only [List.append_nil] at e
            injection e with e _
            rw [e, hk]; decide
          · simp at e)
      (fun k h => h.1) (fun k h => ⟨h.2.1, h.2.2⟩)
  refine cmp_peekGuard _ hb ?_
  rintro b x ⟨x1, x2, rfl, ⟨t, rfl, _⟩, _⟩
  obtain ⟨a, x', e, hka⟩ := tTy_head t
  exact ⟨a, x' ++ x2, by rw [e]; rfl, by rcases hka with h | h <;> simp [h]⟩

theorem cmp_fdColon (n : Nat) :
    Cmp (fun _ => True) (fdColon n) (fun b x => ∃ x2, x = .p .colon :: x2 ∧ LFdType b x2) Ffd (fun _ => True) := by
  unfold fdColon
  exact cmp_tokThen (.p .colon) "COLON" (cmp_fdType n)

def LFdColon (b : Nat) (x : List Ast.Tok) : Prop := ∃ x2, x = .p .colon :: x2 ∧ LFdType b x2
def LFdArgs (b : Nat) (x : List Ast.Tok) : Prop := ∃ x1 x2, x = x1 ++ x2 ∧ (LArgsDef b x1 ∨ x1 = []) ∧ LFdColon b x2
def LFdCore (b : Nat) (x : List Ast.Tok) : Prop := ∃ x1 x2, x = x1 ++ x2 ∧ (∃ n, x1 = [.name n]) ∧ LFdArgs b x2

theorem cmp_fieldDefinition (n : Nat) : Cmp (fun _ => True) (fieldDefinition n) LFieldDef Ffd (fun _ => True) := by
  rw [fieldDefinition_eq]
  refine cmp_withNode _ ?_
  unfold fdBody
  have hargs : Cmp (fun _ => True) (optKind .lParen (argumentsDefinition n) (fdColon n)) LFdArgs Ffd (fun _ => True) :=
    cmp_optKind_ne (Hk := fun _ => True) .lParen (argumentsDefinition n) (fdColon n) (cmp_argumentsDefinition n) (cmp_fdColon n)
      (fun b x h => largsDef_head h)
      (by rintro b a x ⟨x2, e, _⟩; injection e with e _; subst e; simp [kindOfA])
      (by rintro b ⟨x2, e, _⟩; cases e) (fun _ h => h)
  have hcore : Cmp (fun _ => True) (name >>= fun _ => optKind .lParen (argumentsDefinition n) (fdColon n)) LFdCore Ffd (fun _ => True) :=
    cmp_bind (Hk := fun _ => True) (F1 := fun _ => True) cmp_name (fun _ _ => hargs)
      (fun _ _ _ _ => trivial) (fun _ _ => trivial) (fun _ h => h)
  have := cmp_optDesc (Hk := fun _ => True) _ hcore
    (by rintro b a x ⟨x1, x2, e, ⟨nn, rfl⟩, _⟩; simp only [List.cons_append, List.nil_append] at e; injection e with e _; subst e; simp [kindOfA])
    (by rintro b ⟨x1, x2, e, ⟨nn, rfl⟩, _⟩; simp at e)
  refine this.mono (fun _ h => h) ?_ (fun _ h => h) (fun _ h => h)
  rintro b x ⟨f, rfl, hargsfit, hty, hdirs⟩
  refine ⟨f.desc, _, by simp [Ast.tFieldDef, List.append_assoc], [.name f.name], _, rfl, ⟨_, rfl⟩,
    Ast.tArgsDef f.args, _, rfl, ?_, _, rfl, Ast.tTy f.ty, Ast.tDirectives f.dirs, rfl, ⟨f.ty, rfl, hty⟩, Ast.tDirectives f.dirs, [], (by simp),
    ldirsB_split true b f.dirs hdirs, rfl⟩
  by_cases ha : f.args = []
  · right; rw [ha]; rfl
  · left; exact ⟨f.args, ha, rfl, hargsfit⟩

theorem lfieldDef_head {b : Nat} {x : List Ast.Tok} (h : LFieldDef b x) : ∃ a x', x = a :: x' ∧ isNameOrStringK (kindOfA a) = true := by
  obtain ⟨v, rfl, _⟩ := h
  cases hd : v.desc with
  | none => exact ⟨.name v.name, _, by simp [Ast.tFieldDef, hd, Ast.tDescription, List.append_assoc]; rfl, rfl⟩
  | some d => exact ⟨.str d, _, by simp [Ast.tFieldDef, hd, Ast.tDescription, List.append_assoc]; rfl, rfl⟩

theorem fdItems_ok (b : Nat) : ∀ vs, (∀ v ∈ vs, fieldFit b v) → ∀ i ∈ fdItems vs, LFieldDef b i
  | [], _ => by intro i hi; cases hi
  | v :: r, h => by
    intro i hi
    simp only [fdItems, List.mem_cons] at hi
    rcases hi with rfl | hi
    · exact ⟨v, rfl, h v (by simp)⟩
    · exact fdItems_ok b r (fun x hx => h x (by simp [hx])) i hi

theorem cmp_fieldsDefinition (n : Nat) :
    Cmp (fun _ => True) (fieldsDefinition n) LFields (fun _ => True) (fun _ => True) := by
  rw [fieldsDefinition_eq]
  refine cmp_withNode _ ?_
  have := cmp_braced "L_CURLY" isNameOrString isNameOrStringK (fieldDefinition n) .rCurly "R_CURLY" (.p .lCurly) (.p .rCurly)
    LFieldDef Ffd (cmp_fieldDefinition n) (fun b x h => lfieldDef_head h) ffd_of_nameOrString isNameOrString_of rfl rfl (by simp [Ffd])
  refine this.mono (fun _ h => h) ?_ (fun _ h => h) (fun _ h => h)
  rintro b x ⟨fs, hne, rfl, hfit⟩
  cases fs with
  | nil => exact absurd rfl hne
  | cons v r =>
    refine ⟨Ast.tFieldDef v, fdItems r, fdItems_ok b (v :: r) hfit, ?_⟩
    simp [Ast.tBraced, Ast.tFieldDefItems, fdItems_flatten]

/-! ### enum values -/

def LEvCore (b : Nat) (x : List Ast.Tok) : Prop :=
  ∃ x1 x2, x = x1 ++ x2 ∧ (∃ n, x1 = [.name n] ∧ isValueKeyword n = false) ∧ LDirs true b x2

theorem lenumVal_head {b : Nat} {x : List Ast.Tok} (h : LEnumVal b x) : ∃ a x', x = a :: x' ∧ isNameOrStringK (kindOfA a) = true := by
  obtain ⟨v, rfl, _⟩ := h
  cases hd : v.desc with
  | none => exact ⟨.name v.value, _, by simp [Ast.tEnumValueDef, hd, Ast.tDescription]; rfl, rfl⟩
  | some d => exact ⟨.str d, _, by simp [Ast.tEnumValueDef, hd, Ast.tDescription]; rfl, rfl⟩

theorem cmp_enumValueDefinition (n : Nat) : Cmp (fun _ => True) (enumValueDefinition n) LEnumVal Fdir (fun _ => True) := by
  rw [enumValueDefinition_eq]
  have hcore : Cmp (fun _ => True) (enumValue >>= fun _ => optDirsEnd n) LEvCore Fdir (fun _ => True) :=
    cmp_bind (Hk := fun _ => True) (F1 := fun _ => True) cmp_enumValue (fun _ _ => cmp_optDirsEnd n)
      (fun _ _ _ _ => trivial) (fun _ _ => trivial) (fun _ h => h)
  have hbody := cmp_optDesc (Hk := fun _ => True) _ hcore
    (by rintro b a x ⟨x1, x2, e, ⟨nn, rfl, _⟩, _⟩; simp only [List.cons_append, List.nil_append] at e; injection e with e _; subst e; simp [kindOfA])
    (by rintro b ⟨x1, x2, e, ⟨nn, rfl, _⟩, _⟩; simp at e)
  have hL : ∀ b x, LEnumVal b x → ∃ desc x2, x = Ast.tDescription desc ++ x2 ∧ LEvCore b x2 := by
    rintro b x ⟨v, rfl, hk, hd⟩
    exact ⟨v.desc, _, rfl, [.name v.value], _, rfl, ⟨_, rfl, hk⟩, v.dirs, rfl, hd⟩
  refine cmp_peekGuard _ ((cmp_withNode "ENUM_VALUE_DEFINITION" (by unfold evBody; exact hbody)).mono (fun _ h => h) hL (fun _ h => h) (fun _ h => h)) ?_
  intro b x h
  obtain ⟨a, x', e, hk⟩ := lenumVal_head h
  exact ⟨a, x', e, isNameOrString_of _ hk⟩

theorem evItems_ok (b : Nat) : ∀ vs, (∀ v ∈ vs, enumValFit b v) → ∀ i ∈ evItems vs, LEnumVal b i
  | [], _ => by intro i hi; cases hi
  | v :: r, h => by
    intro i hi
    simp only [evItems, List.mem_cons] at hi
    rcases hi with rfl | hi
    · exact ⟨v, rfl, h v (by simp)⟩
    · exact evItems_ok b r (fun x hx => h x (by simp [hx])) i hi

theorem cmp_enumValuesDefinition (n : Nat) :
    Cmp (fun _ => True) (enumValuesDefinition n) LEnumVals (fun _ => True) (fun _ => True) := by
  rw [enumValuesDefinition_eq]
  refine cmp_withNode _ ?_
  have := cmp_braced "L_CURLY" isNameOrString isNameOrStringK (enumValueDefinition n) .rCurly "R_CURLY" (.p .lCurly) (.p .rCurly)
    LEnumVal Fdir (cmp_enumValueDefinition n) (fun b x h => lenumVal_head h) fdir_of_nameOrString isNameOrString_of rfl rfl (by simp [Fdir])
  refine this.mono (fun _ h => h) ?_ (fun _ h => h) (fun _ h => h)
  rintro b x ⟨fs, hne, rfl, hfit⟩
  cases fs with
  | nil => exact absurd rfl hne
  | cons v r =>
    refine ⟨Ast.tEnumValueDef v, evItems r, evItems_ok b (v :: r) hfit, ?_⟩
    simp [Ast.tBraced, Ast.tEnumValueDefItems, evItems_flatten]

end Apollo.Parse.Exact
