import ApolloModel.Proofs.ParserExactT1
/-
Exact (budget-carrying) soundness for the type-system family: the common shape
`Description? keyword? Name tail` (`defShape`) of the scalar, enum, input object, union, object and interface type definitions
splits into a budget-free prefix and the tail, so the budget of the tail is the budget of the start state; the scalar type definition.
-/
set_option linter.unusedSimpArgs false
namespace Apollo.Parse.Exact
open Apollo.Rowan hiding Str
open Apollo.Lex hiding Str

theorem bind_intro {α β : Type} (m : PI α) (f : α → PI β) (s s1 : PState) (a : α) (r : Res β)
    (h1 : m.run s = .ok a s1) (h2 : (f a).run s1 = r) : (m >>= f).run s = r := by
  rw [run_bind, h1]; exact h2

theorem defShape_split (word : String) (sk : SK) (n : Nat) (tail : PI Unit) (s s' : PState)
    (h : (defShape word sk n tail).run s = .ok () s') :
    ∃ s1, (defShape word sk n (pure ())).run s = .ok () s1 ∧ tail.run s1 = .ok () s' := by
  unfold defShape optKind optKw at *
  have hname : ∀ q q', (nameOrErr >>= fun _ => tail).run q = .ok () q' →
      ∃ s1, (nameOrErr >>= fun _ => (pure () : PI Unit)).run q = .ok () s1 ∧ tail.run s1 = .ok () q' := by
    intro q q' hq
    obtain ⟨_, s1, a, b⟩ := bind_dec nameOrErr _ q q' () hq
    exact ⟨s1, bind_intro _ _ q s1 () _ a rfl, b⟩
  have hkw : ∀ q q', (peekData >>= fun d => if kwOpt word d then (bump sk >>= fun _ => (nameOrErr >>= fun _ => tail)) else (nameOrErr >>= fun _ => tail)).run q = .ok () q' →
      ∃ s1, (peekData >>= fun d => if kwOpt word d then (bump sk >>= fun _ => (nameOrErr >>= fun _ => (pure () : PI Unit))) else (nameOrErr >>= fun _ => (pure () : PI Unit))).run q = .ok () s1 ∧
        tail.run s1 = .ok () q' := by
    intro q q' hq
    obtain ⟨d, qd, a, b⟩ := bind_dec peekData _ q q' () hq
    by_cases hc : kwOpt word d = true
    · simp only [hc, if_true] at b
      obtain ⟨_, qb, b1, b2⟩ := bind_dec (bump sk) _ qd q' () b
      obtain ⟨s1, c1, c2⟩ := hname qb q' b2
      exact ⟨s1, bind_intro _ _ q qd d _ a (by simp only [hc, if_true]; exact bind_intro _ _ qd qb () _ b1 c1), c2⟩
    · simp only [hc, Bool.false_eq_true, if_false] at b
      obtain ⟨s1, c1, c2⟩ := hname qd q' b
      exact ⟨s1, bind_intro _ _ q qd d _ a (by simp only [hc, Bool.false_eq_true, if_false]; exact c1), c2⟩
  obtain ⟨k, qp, a, b⟩ := bind_dec peek _ s s' () h
  by_cases hc : (k == some Kind.stringValue) = true
  · simp only [hc, if_true] at b
    obtain ⟨_, qb, b1, b2⟩ := bind_dec description _ qp s' () b
    obtain ⟨s1, c1, c2⟩ := hkw qb s' b2
    exact ⟨s1, bind_intro _ _ s qp k _ a (by simp only [hc, if_true]; exact bind_intro _ _ qp qb () _ b1 c1), c2⟩
  · simp only [hc, Bool.false_eq_true, if_false] at b
    obtain ⟨s1, c1, c2⟩ := hkw qp s' b
    exact ⟨s1, bind_intro _ _ s qp k _ a (by simp only [hc, Bool.false_eq_true, if_false]; exact c1), c2⟩

/-- `Description? keyword? Name tail`: the tail runs at the budget of the start state.  `NameData word` holds of no word
    (`nameData_false`, ParserDef8), so this form is vacuous; the form that is used is `defShape_soundLF`. -/
theorem defShape_sound (word : String) (sk : SK) (hw : NameData word) (n : Nat) (tail : PI Unit) (L : Nat → List Ast.Tok → Prop)
    (gt : Good tail)
    (ht : ∀ s s', TW s → EofEnd s → tail.run s = .ok () s' → ¬ Doomed s' → Cons s s' (L (bud s)))
    (s s' : PState) (w : TW s) (he : EofEnd s) (h : (defShape word sk n tail).run s = .ok () s') (hnd : ¬ Doomed s') :
    Cons s s' (fun x => ∃ desc seen nm x2, x = Ast.tDescription desc ++ kwPart word seen ++ .name nm :: x2 ∧ L (bud s) x2) := by
  obtain ⟨s1, h1, h2⟩ := defShape_split word sk n tail s s' h
  have hacc := acc_defShape (E := fun _ => False) early_false (H := fun _ => True) word sk hw n (pure ()) (fun x => x = [])
    ((acc_pure (fun _ => False) (fun _ => True) ()).mono (fun _ _ => trivial) (fun _ _ h => h.2))
  have a1 := hacc.1 s () s1 w h1
  have hnd1 : ¬ Doomed s1 := fun d => hnd ((gt s1 () s' a1.w h2).doom d)
  have c1 := cons_of_acc hacc s s1 () w he trivial h1 hnd1
  have c2 := ht s1 s' a1.w c1.eofEnd h2 hnd
  refine (c1.seq c2).weaken ?_
  rintro z ⟨x, y, rfl, ⟨desc, seen, nm, x2, rfl, rfl⟩, hy⟩
  rw [bud_adv a1] at hy
  exact ⟨desc, seen, nm, y, by simp, hy⟩

/-- **`Description? keyword? Name tail`** on a lexer queue (`LexQ`), where the keyword is known to be a Name token (`KwWord`): the tail
    runs at the budget of the start state, on a lexer queue too, and its result may mention the final state -/
theorem defShape_soundLF (word : String) (sk : SK) (hw : KwWord word) (n : Nat) (tail : PI Unit) (L : Nat → PState → List Ast.Tok → Prop)
    (gt : Good tail)
    (ht : ∀ s s', TW s → EofEnd s → LexQ (Toks s) → tail.run s = .ok () s' → ¬ Doomed s' → Cons s s' (L (bud s) s'))
    (s s' : PState) (w : TW s) (he : EofEnd s) (hq : LexQ (Toks s)) (h : (defShape word sk n tail).run s = .ok () s') (hnd : ¬ Doomed s') :
    Cons s s' (fun x => ∃ desc seen nm x2, x = Ast.tDescription desc ++ kwPart word seen ++ .name nm :: x2 ∧ L (bud s) s' x2) := by
  obtain ⟨s1, h1, h2⟩ := defShape_split word sk n tail s s' h
  have hacc := accL_defShape word hw sk n (pure ()) (fun x => x = [])
    ((acc_pure E0 LexQ ()).mono (fun _ h => h) (fun _ _ h => h.2))
  have a1 := hacc.1 s () s1 w h1
  have hnd1 : ¬ Doomed s1 := fun d => hnd ((gt s1 () s' a1.w h2).doom d)
  have c1 := cons_of_acc hacc s s1 () w he hq h1 hnd1
  have hq1 : LexQ (Toks s1) := by
    obtain ⟨cs, _, a, _⟩ := c1
    rw [a] at hq; exact hq.suffix
  have c2 := ht s1 s' a1.w c1.eofEnd hq1 h2 hnd
  refine (c1.seq c2).weaken ?_
  rintro z ⟨x, y, rfl, ⟨desc, seen, nm, x2, rfl, rfl⟩, hy⟩
  rw [bud_adv a1] at hy
  exact ⟨desc, seen, nm, y, by simp, hy⟩

/-- **scalar type definition**, entered on a significant token of a lexer queue: `scalarToks` with the directives within the budget -/
theorem scalarTypeDefinition_sound (n : Nat) (s s' : PState) (t : Tok) (rest : List Tok) (w : TW s) (he : EofEnd s)
    (hq : LexQ (Toks s)) (ht : Toks s = t :: rest) (hni : isIgnoredKind t.kind = false)
    (h : (scalarTypeDefinition n).run s = .ok () s') (hnd : ¬ Doomed s') :
    Cons s s' (fun x => ∃ desc seen nm ds, x = scalarToks desc seen nm ds ∧ dirsFit true (bud s) ds) := by
  rw [scalarTypeDefinition_eq] at h
  obtain ⟨s1, s2, e1, h1, o2, _, he1, hnd2⟩ := withNode_entered _ _ s s' () t rest w he ht hni h hnd
  have h0 : Toks s = Toks s1 := by simpa using e1.toks
  have c := defShape_soundLF "scalar" "scalar_KW" kwWord_scalar n (optDirsEnd n) (fun b _ x => ∃ ds, x = Ast.tDirectives ds ∧ dirsFit true b ds)
    (good_optDirsEnd n) (fun q q' wq heq _ hr hndq => optDirsEnd_sound n q q' wq heq hr hndq) s1 s2 e1.w he1 (by rw [← h0]; exact hq) h1 hnd2
  refine (c.node e1 o2).weaken ?_
  rintro z ⟨desc, seen, nm, x2, rfl, ds, rfl, hds⟩
  rw [bud_eat e1] at hds
  exact ⟨desc, seen, nm, ds, rfl, hds⟩

end Apollo.Parse.Exact
