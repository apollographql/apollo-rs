import ApolloModel.Proofs.AstDocument2
/-
Documents: a list of definitions, the first of which may be written in the shorthand form.
-/
namespace Apollo.Ast

theorem defFollow_tDefinition (d : Definition) (X : List Tok) : defFollow (tDefinition false d ++ X) = true := by
  cases d with
  | operation ty name vars dirs sels =>
    cases ty <;> simp [tDefinition, isShorthand, defFollow, isDefKeyword, OpType.name]
  | directiveDef desc | schemaDef desc | scalarDef desc | objectDef desc | interfaceDef desc | unionDef desc
  | enumDef desc | inputDef desc =>
    cases desc <;> simp [tDefinition, tDescription, defFollow, isDefKeyword]
  | _ => simp [tDefinition, defFollow, isDefKeyword]

def tDefinitions (ds : List Definition) : List Tok := (ds.map (tDefinition false)).flatten

theorem defFollow_tDefinitions (ds : List Definition) : defFollow (tDefinitions ds) = true := by
  cases ds with
  | nil => rfl
  | cons d r => simpa [tDefinitions] using defFollow_tDefinition d _

def wfDefinitions : List Definition → Bool
  | [] => true
  | d :: r => wfDefinition d && wfDefinitions r

def szDefinitions : List Definition → Nat
  | [] => 1
  | d :: r => szDefinition d + szDefinitions r + 1

theorem pDefinitions_cons (f : Nat) (ts : List Tok) (hne : ts ≠ []) (d : Definition) (r : List Tok)
    (ds : List Definition) (h1 : pDefinition f ts = some (d, r)) (h2 : pDefinitions f r = some ds) :
    pDefinitions (f + 1) ts = some (d :: ds) := by
  cases ts with
  | nil => exact absurd rfl hne
  | cons a t => simp [pDefinitions, h1, h2]

theorem defFollow_cons_ne_nil {d : Definition} {X : List Tok} : tDefinition false d ++ X ≠ [] := by
  intro e
  have h := defFollow_tDefinition d X
  cases d <;> simp_all [tDefinition, isShorthand]

theorem definitions_roundtrip : ∀ (ds : List Definition) (f : Nat), wfDefinitions ds = true → szDefinitions ds ≤ f →
    pDefinitions f (tDefinitions ds) = some ds
  | [], f + 1, _, _ => by simp [tDefinitions, pDefinitions]
  | d :: r, f + 1, h, hs => by
      simp [wfDefinitions] at h
      simp [szDefinitions] at hs
      have h1 := definition_roundtrip d f (tDefinitions r) h.1 (by omega) (defFollow_tDefinitions r)
      have h2 := definitions_roundtrip r f h.2 (by omega)
      have e : tDefinitions (d :: r) = tDefinition false d ++ tDefinitions r := by simp [tDefinitions]
      rw [e]
      exact pDefinitions_cons f _ defFollow_cons_ne_nil d _ r h1 h2
  | [], 0, _, hs | _ :: _, 0, _, hs => by simp [szDefinitions] at hs

/-- the shorthand form `{ … }` of the first definition reads back as the anonymous query it abbreviates -/
theorem shorthand_roundtrip (ty : OpType) (name : Option Str) (vars : List VarDef) (dirs : List Directive) (sels : Sels)
    (f : Nat) (rest : List Tok) (hsh : isShorthand true ty name vars dirs = true) (h : wfSels sels = true)
    (hne : sels ≠ .nil) (hs : szSels sels ≤ f) :
    pDefinition f (tDefinition true (.operation ty name vars dirs sels) ++ rest)
      = some (.operation ty name vars dirs sels, rest) := by
  simp only [isShorthand, Bool.true_and, Bool.and_eq_true, beq_iff_eq, Option.isNone_iff_eq_none,
    List.isEmpty_iff] at hsh
  obtain ⟨⟨⟨rfl, rfl⟩, rfl⟩, rfl⟩ := hsh
  have := selsNE_roundtrip sels f rest hne h hs
  simp only [tDefinition, isShorthand, tSelSet, List.cons_append, List.append_assoc, List.nil_append]
  simp [pDefinition, pSelectionSet, this]

theorem isShorthand_false (ty : OpType) (name : Option Str) (vars : List VarDef) (dirs : List Directive) :
    isShorthand false ty name vars dirs = false := by simp [isShorthand]

theorem tDefinition_noShorthand (d : Definition)
    (h : ∀ ty name vars dirs sels, d = .operation ty name vars dirs sels → isShorthand true ty name vars dirs = false) :
    tDefinition true d = tDefinition false d := by
  cases d with
  | operation ty name vars dirs sels =>
    have h' := h ty name vars dirs sels rfl
    simp only [tDefinition, h', isShorthand_false]
  | _ => rfl

theorem tDefinition_true (d : Definition) :
    tDefinition true d = tDefinition false d ∨
      ∃ ty name vars dirs sels, d = .operation ty name vars dirs sels ∧ isShorthand true ty name vars dirs = true := by
  cases d with
  | operation ty name vars dirs sels =>
    by_cases hsh : isShorthand true ty name vars dirs = true
    · exact .inr ⟨_, _, _, _, _, rfl, hsh⟩
    · exact .inl (tDefinition_noShorthand _ (by
        intro ty' name' vars' dirs' sels' e
        cases e
        simpa using hsh))
  | _ => exact .inl rfl

theorem first_definition_roundtrip (oe : Bool) (d : Definition) (f : Nat) (rest : List Tok) (h : wfDefinition d = true)
    (hs : szDefinition d ≤ f) (hr : defFollow rest = true) :
    pDefinition f (tDefinition oe d ++ rest) = some (d, rest) := by
  cases oe with
  | false => exact definition_roundtrip d f rest h hs hr
  | true =>
    rcases tDefinition_true d with e | ⟨ty, name, vars, dirs, sels, rfl, hsh⟩
    · rw [e]
      exact definition_roundtrip d f rest h hs hr
    · simp only [wfDefinition, Bool.and_eq_true] at h
      simp only [szDefinition] at hs
      exact shorthand_roundtrip ty name vars dirs sels f rest hsh h.1.2 (nonNil_ne h.2) (by omega)

theorem tDefinition_ne_nil (oe : Bool) (d : Definition) (X : List Tok) : tDefinition oe d ++ X ≠ [] := by
  cases oe with
  | false => exact defFollow_cons_ne_nil
  | true =>
    rcases tDefinition_true d with e | ⟨ty, name, vars, dirs, sels, rfl, hsh⟩
    · rw [e]
      exact defFollow_cons_ne_nil
    · simp [tDefinition, hsh, tSelSet]

/-- **Document round trip at token level**: for a non-empty document satisfying `wfDefinitions`, whatever
    `output_empty` was when the first definition was written, the reference parser (with fuel at least
    `szDefinitions`) reads the printed token stream back to exactly the document. -/
theorem document_roundtrip (oe : Bool) (doc : Document) (f : Nat) (hne : doc ≠ []) (h : wfDefinitions doc = true)
    (hs : szDefinitions doc ≤ f) : pDocument f (tDocument oe doc) = some doc := by
  cases doc with
  | nil => exact absurd rfl hne
  | cons d r =>
    cases f with
    | zero => simp [szDefinitions] at hs
    | succ f =>
      simp [wfDefinitions] at h
      simp [szDefinitions] at hs
      have h1 := first_definition_roundtrip oe d f (tDefinitions r) h.1 (by omega) (defFollow_tDefinitions r)
      have h2 := definitions_roundtrip r f h.2 (by omega)
      have := pDefinitions_cons f _ (tDefinition_ne_nil oe d (tDefinitions r)) d _ r h1 h2
      simp only [tDocument, pDocument]
      show (match pDefinitions (f + 1) (tDefinition oe d ++ tDefinitions r) with | some [] => none | x => x) = _
      rw [this]

end Apollo.Ast
