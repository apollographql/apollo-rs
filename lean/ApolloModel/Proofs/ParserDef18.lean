import ApolloModel.Proofs.ParserDef17
/-
C05, type-system definitions: the type-system half of the `select_definition` dispatch.
-/
set_option linter.unusedSimpArgs false
namespace Apollo.Parse
open Apollo.Rowan hiding Str
open Apollo.Lex hiding Str

/-- with a significant current token, `peek_token_n(2)` is the first significant token of the rest of the queue -/
theorem peekTokenN2_spec (s s' : PState) (o : Option Tok) (t : Tok) (rest : List Tok) (w : TW s)
    (hc : s.current = some t) (ht : Toks s = t :: rest) (hni : isIgnoredKind t.kind = false)
    (h : (peekTokenN 2).run s = .ok o s') : s' = s ∧ o = (sig rest).head? := by
  unfold peekTokenN at h
  simp only [] at h
  injection h with h1 h1'
  subst h1'
  refine ⟨rfl, ?_⟩
  rw [← h1]
  have hrest : rest = toksOf (stream s.lx) := by
    unfold Toks at ht
    rw [hc] at ht
    simp only [Option.toList, List.cons_append, List.nil_append, List.cons.injEq, true_and] at ht
    exact ht.symm
  unfold lookahead
  rw [hc]
  have hnk : (t.kind == .whitespace || t.kind == .comment || t.kind == .comma) = false := by
    simp only [isIgnoredKind] at hni
    cases hk : t.kind <;> simp [hk] at hni ⊢
  simp only [hnk, Bool.false_eq_true, if_false]
  have : ¬ (2 ≤ 1) := by omega
  simp only [this, if_false]
  show aheadLoop _ s.lx 1 = _
  rw [aheadLoop_one _ s.lx w.limit (by omega), hrest]

theorem peekDataN2_dec {α : Type} (f : Option Str → PI α) (s s' : PState) (a : α) (t : Tok) (rest : List Tok) (w : TW s)
    (hc : s.current = some t) (ht : Toks s = t :: rest) (hni : isIgnoredKind t.kind = false)
    (h : (peekDataN 2 >>= f).run s = .ok a s') : (f (((sig rest).head?).map (·.data))).run s = .ok a s' := by
  obtain ⟨d, s1, h1, h2⟩ := bind_dec (peekDataN 2) f s s' a h
  obtain ⟨o, s2, h3, h4⟩ := bind_dec (peekTokenN 2) _ s s1 d h1
  obtain ⟨rfl, ho⟩ := peekTokenN2_spec s s2 o t rest w hc ht hni h3
  replace h4 := pure_dec h4
  obtain ⟨h4, rfl⟩ := h4
  rw [← h4, ho] at h2
  exact h2

def LooseDef.kws : LooseDef → List String
  | .scalar .. => ["scalar"]
  | .object .. => ["type"]
  | .interface .. => ["interface"]
  | .union .. => ["union"]
  | .enum .. => ["enum"]
  | .input .. => ["input"]
  | .directive .. => ["directive"]
  | .schema .. => ["schema"]
  | .scalarExt .. => ["extend", "scalar"]
  | .objectExt .. => ["extend", "type"]
  | .interfaceExt .. => ["extend", "interface"]
  | .unionExt .. => ["extend", "union"]
  | .enumExt .. => ["extend", "enum"]
  | .inputExt .. => ["extend", "input"]
  | .schemaExt .. => ["extend", "schema"]

def DefConcl (s s' : PState) (ks : List String) : Prop :=
  ∃ cs l, Toks s = cs ++ Toks s' ∧ NoEof cs ∧ EofEnd s' ∧ (sig cs).map astOfV = (LooseDef.toks l).map some ∧ l.kws = ks

theorem def_finish {H : List Tok → Prop} {m : PI Unit} {R : Unit → List Ast.Tok → Prop} (ks : List String)
    (hacc : Acc E0 H m R) (hR : ∀ x, R () x → ∃ l : LooseDef, x = l.toks ∧ l.kws = ks)
    (s s' : PState) (w : TW s) (he : EofEnd s) (hq : H (Toks s)) (hr : m.run s = .ok () s') (hnd : ¬ Doomed s') :
    DefConcl s s' ks := by
  obtain ⟨cs, x, a1, a2, a3, hx, hRx⟩ := hacc.sound s s' () w he hq hr hnd
  obtain ⟨l, e, hk⟩ := hR x hRx
  exact ⟨cs, l, a1, a2, a3, by rw [← e]; exact hx, hk⟩

def defWords : List String := ["directive", "enum", "input", "interface", "type", "scalar", "schema", "union"]

theorem selected_definition_sound (n : Nat) (word : String) (hword : word ∈ defWords) (s s' : PState) (w : TW s) (he : EofEnd s)
    (hq : LexQ (Toks s) ∧ DefStart word (Toks s))
    (h : (selectDefinition n word.toList).run s = .ok () s') (hnd : ¬ Doomed s') : DefConcl s s' [word] := by
  simp only [defWords, List.mem_cons, List.mem_singleton, List.not_mem_nil, or_false] at hword
  rcases hword with rfl | rfl | rfl | rfl | rfl | rfl | rfl | rfl
  · refine def_finish _ (ent_directive n) ?_ s s' w he hq h hnd
    rintro x ⟨desc, nm, args, rep, lead, first, rest, e, _, _⟩
    exact ⟨.directive desc nm args rep lead first rest, e, rfl⟩
  · refine def_finish _ (ent_enum n) ?_ s s' w he hq h hnd
    rintro x ⟨desc, nm, ds, vs, e⟩
    exact ⟨.enum desc nm ds vs, e, rfl⟩
  · refine def_finish _ (ent_input n) ?_ s s' w he hq h hnd
    rintro x ⟨desc, nm, ds, fs, e⟩
    exact ⟨.input desc nm ds fs, e, rfl⟩
  · refine def_finish _ (ent_interface n) ?_ s s' w he hq h hnd
    rintro x ⟨desc, nm, impl, ds, fs, e⟩
    exact ⟨.interface desc nm impl ds fs, e, rfl⟩
  · refine def_finish _ (ent_object n) ?_ s s' w he hq h hnd
    rintro x ⟨desc, nm, impl, ds, fs, e⟩
    exact ⟨.object desc nm impl ds fs, e, rfl⟩
  · refine def_finish _ (ent_scalar n) ?_ s s' w he hq h hnd
    rintro x ⟨desc, nm, ds, e⟩
    exact ⟨.scalar desc nm ds, e, rfl⟩
  · refine def_finish _ (ent_schema n) ?_ s s' w he hq h hnd
    rintro x ⟨desc, ds, roots, _, e⟩
    exact ⟨.schema desc ds roots, e, rfl⟩
  · refine def_finish _ (ent_union n) ?_ s s' w he hq h hnd
    rintro x ⟨desc, nm, ds, ms, e⟩
    exact ⟨.union desc nm ds ms, e, rfl⟩

/-- the `peek_data` branch of the dispatcher, at the state level -/
theorem peekData_match_dec (f : Str → PI Unit) (g : PI Unit) (s s' : PState) (t : Tok) (rest : List Tok) (w : TW s) (he : EofEnd s)
    (ht : Toks s = t :: rest)
    (h : (peekData >>= fun o => match o with | some d => f d | none => g).run s = .ok () s') :
    ∃ sP, TW sP ∧ EofEnd sP ∧ Toks sP = Toks s ∧ sP.current = some t ∧ (f t.data).run sP = .ok () s' := by
  obtain ⟨d, s1, h1, h2⟩ := bind_dec peekData _ s s' () h
  unfold peekData at h1
  obtain ⟨o, sP, h3, h4⟩ := bind_dec peekToken _ s s1 d h1
  have p := peekToken_obs s sP o w h3
  replace h4 := pure_dec h4
  obtain ⟨h4, rfl⟩ := h4
  have ho : o = some t := by rw [p.head, ht]; rfl
  subst ho
  rw [← h4] at h2
  exact ⟨sP, p.w, eofEnd_eat he p.eat (by intro x hx; cases hx), p.toks, p.current, h2⟩

theorem kwWord_of_defWords (word : String) (hword : word ∈ defWords) : KwWord word := by
  simp only [defWords, List.mem_cons, List.mem_singleton, List.not_mem_nil, or_false] at hword
  rcases hword with rfl | rfl | rfl | rfl | rfl | rfl | rfl | rfl
  · exact kwWord_directive
  · exact kwWord_enum
  · exact kwWord_input
  · exact kwWord_interface
  · exact kwWord_type
  · exact kwWord_scalar
  · exact kwWord_schema
  · exact kwWord_union

/-- **The type-system definitions through the dispatcher.** `document()` calls the dispatcher with the kind of the
    current token `t`; if the selecting text (the token after a description, else `t` itself) is one of the eight
    definition keywords and no error is added, the consumed tokens are those of ONE loose definition of that kind. -/
theorem dispatch_definition_sound (n : Nat) (word : String) (hword : word ∈ defWords) (s s' : PState) (t : Tok) (rest : List Tok)
    (w : TW s) (he : EofEnd s) (hl : LexQ (Toks s)) (hc : s.current = some t) (ht : Toks s = t :: rest)
    (hsel : (t.kind = .stringValue ∧ ∃ t2, (sig rest).head? = some t2 ∧ t2.data = word.toList) ∨ t.data = word.toList)
    (h : (documentDispatch n t.kind).run s = .ok () s') (hnd : ¬ Doomed s') : DefConcl s s' [word] := by
  have hkw : KwWord word := kwWord_of_defWords word hword
  unfold documentDispatch at h
  rcases hsel with ⟨hk, t2, hh2, hd2⟩ | hd
  · rw [hk] at h
    simp only [beq_self_eq_true, if_true] at h
    have h2 := peekDataN2_dec _ s s' () t rest w hc ht (by rw [hk]; rfl) h
    rw [hh2] at h2
    simp only [Option.map_some, hd2] at h2
    exact selected_definition_sound n word hword s s' w he ⟨hl, Or.inr ⟨t, rest, t2, ht, hk, hh2, hd2⟩⟩ h2 hnd
  · obtain ⟨c, r, hc1, hc2⟩ := hkw
    have hkn : t.kind = .name := hl.headKw (by rw [ht]; rfl) word c r hc1 hc2 hd
    rw [hkn] at h
    have e1 : (Kind.name == Kind.stringValue) = false := by decide
    simp only [e1, Bool.false_eq_true, if_false, beq_self_eq_true, Bool.true_or, if_true] at h
    obtain ⟨sP, wP, heP, htP, _, h2⟩ := peekData_match_dec _ _ s s' t rest w he ht h
    rw [hd] at h2
    obtain ⟨cs, l, a1, a2, a3, a4, a5⟩ := selected_definition_sound n word hword sP s' wP heP
      ⟨by rw [htP]; exact hl, Or.inl ⟨t, by rw [htP, ht]; rfl, hd⟩⟩ h2 hnd
    exact ⟨cs, l, by rw [← htP]; exact a1, a2, a3, a4, a5⟩

/-! ### extensions -/

def extSel (n : Nat) (d : Option Str) : PI Unit :=
  if kwOpt "schema" d then schemaExtension n
  else if kwOpt "scalar" d then scalarTypeExtension n
  else if kwOpt "type" d then objectTypeExtension n
  else if kwOpt "interface" d then interfaceTypeExtension n
  else if kwOpt "union" d then unionTypeExtension n
  else if kwOpt "enum" d then enumTypeExtension n
  else if kwOpt "input" d then inputObjectTypeExtension n
  else errAndPop

theorem extensions_eq (n : Nat) : extensions n = peekDataN 2 >>= extSel n := rfl

def extWords : List String := ["schema", "scalar", "type", "interface", "union", "enum", "input"]

/-- `extensions()` entered on the `extend` token, the next significant token being an extension keyword -/
theorem extensions_sound (n : Nat) (w2 : String) (hw2 : w2 ∈ extWords) (s s' : PState) (t : Tok) (rest : List Tok) (t2 : Tok)
    (w : TW s) (he : EofEnd s) (hl : LexQ (Toks s)) (hc : s.current = some t) (ht : Toks s = t :: rest)
    (hd : t.data = "extend".toList) (hh2 : (sig rest).head? = some t2) (hd2 : t2.data = w2.toList)
    (h : (extensions n).run s = .ok () s') (hnd : ¬ Doomed s') : DefConcl s s' ["extend", w2] := by
  obtain ⟨c, r, hc1, hc2⟩ := kwWord_extend
  have hkn : t.kind = .name := hl.headKw (by rw [ht]; rfl) "extend" c r hc1 hc2 hd
  rw [extensions_eq] at h
  have h2 := peekDataN2_dec _ s s' () t rest w hc ht (by rw [hkn]; rfl) h
  rw [hh2] at h2
  simp only [Option.map_some, hd2] at h2
  have hq : ∀ w2', t2.data = w2'.toList → (LexQ (Toks s) ∧ Ext2 "extend" w2' (Toks s)) :=
    fun w2' hd' => ⟨hl, t, rest, t2, ht, hd, hh2, hd'⟩
  simp only [extWords, List.mem_cons, List.mem_singleton, List.not_mem_nil, or_false] at hw2
  rcases hw2 with rfl | rfl | rfl | rfl | rfl | rfl | rfl
  · refine def_finish _ (accL_schemaExtension n) ?_ s s' w he (hq _ hd2) h2 hnd
    rintro x ⟨ds, roots, e⟩
    exact ⟨.schemaExt ds roots, e, rfl⟩
  · refine def_finish _ (accL_scalarTypeExtension n) ?_ s s' w he (hq _ hd2) h2 hnd
    rintro x ⟨nm, ds, e⟩
    exact ⟨.scalarExt nm ds, e, rfl⟩
  · refine def_finish _ (accL_objectTypeExtension n) ?_ s s' w he (hq _ hd2) h2 hnd
    rintro x ⟨nm, impl, ds, fs, e⟩
    exact ⟨.objectExt nm impl ds fs, e, rfl⟩
  · refine def_finish _ (accL_interfaceTypeExtension n) ?_ s s' w he (hq _ hd2) h2 hnd
    rintro x ⟨nm, impl, ds, fs, e⟩
    exact ⟨.interfaceExt nm impl ds fs, e, rfl⟩
  · refine def_finish _ (accL_unionTypeExtension n) ?_ s s' w he (hq _ hd2) h2 hnd
    rintro x ⟨nm, ds, ms, e⟩
    exact ⟨.unionExt nm ds ms, by rw [e]; simp [LooseDef.toks, kwE], rfl⟩
  · refine def_finish _ (accL_enumTypeExtension n) ?_ s s' w he (hq _ hd2) h2 hnd
    rintro x ⟨nm, ds, vs, e⟩
    exact ⟨.enumExt nm ds vs, e, rfl⟩
  · refine def_finish _ (accL_inputObjectTypeExtension n) ?_ s s' w he (hq _ hd2) h2 hnd
    rintro x ⟨nm, ds, fs, e⟩
    exact ⟨.inputExt nm ds fs, e, rfl⟩

/-- **The type-system extensions through the dispatcher**: the current token reads `extend`, the next significant
    token one of the seven extension keywords. -/
theorem dispatch_extension_sound (n : Nat) (w2 : String) (hw2 : w2 ∈ extWords) (s s' : PState) (t : Tok) (rest : List Tok) (t2 : Tok)
    (w : TW s) (he : EofEnd s) (hl : LexQ (Toks s)) (ht : Toks s = t :: rest)
    (hd : t.data = "extend".toList) (hh2 : (sig rest).head? = some t2) (hd2 : t2.data = w2.toList)
    (h : (documentDispatch n t.kind).run s = .ok () s') (hnd : ¬ Doomed s') : DefConcl s s' ["extend", w2] := by
  obtain ⟨c, r, hc1, hc2⟩ := kwWord_extend
  have hkn : t.kind = .name := hl.headKw (by rw [ht]; rfl) "extend" c r hc1 hc2 hd
  unfold documentDispatch at h
  rw [hkn] at h
  have e1 : (Kind.name == Kind.stringValue) = false := by decide
  simp only [e1, Bool.false_eq_true, if_false, beq_self_eq_true, Bool.true_or, if_true] at h
  obtain ⟨sP, wP, heP, htP, hcP, h2⟩ := peekData_match_dec _ _ s s' t rest w he ht h
  rw [hd] at h2
  have e : selectDefinition n "extend".toList = extensions n := rfl
  rw [e] at h2
  obtain ⟨cs, l, a1, a2, a3, a4, a5⟩ := extensions_sound n w2 hw2 sP s' t rest t2 wP heP (by rw [htP]; exact hl) hcP
    (by rw [htP]; exact ht) hd hh2 hd2 h2 hnd
  exact ⟨cs, l, by rw [← htP]; exact a1, a2, a3, a4, a5⟩

end Apollo.Parse
