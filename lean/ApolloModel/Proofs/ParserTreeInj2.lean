import ApolloModel.Proofs.ParserTreeInj1
/-
C08 (pipeline), injectivity: tokens that the serializer writes force the accepted loose definition to be STRICT — no
leading `&` / `|` (the token list would be one token longer than the printer's), every root operation type with its
named type (the reference parser fails otherwise).
-/
set_option linter.unusedSimpArgs false
set_option linter.unusedVariables false

namespace Apollo.Parse
open Apollo.FromCst (looseConv looseConv_strict rootsConv)

theorem sepLead_true {i : SepC} (h : sepLead i = true) : ∃ first ns, i = some (true, first, ns) := by
  cases i with
  | none => simp [sepLead] at h
  | some v => obtain ⟨lead, first, ns⟩ := v; simp only [sepLead] at h; subst h; exact ⟨first, ns, rfl⟩

/-- the same loose definition without the leading separator -/
def LooseDef.unlead : LooseDef → LooseDef
  | .object desc nm (some (_, first, ns)) ds fs => .object desc nm (some (false, first, ns)) ds fs
  | .interface desc nm (some (_, first, ns)) ds fs => .interface desc nm (some (false, first, ns)) ds fs
  | .union desc nm ds (some (_, first, ns)) => .union desc nm ds (some (false, first, ns))
  | .directive desc nm args rep _ first rest => .directive desc nm args rep false first rest
  | .objectExt nm (some (_, first, ns)) ds fs => .objectExt nm (some (false, first, ns)) ds fs
  | .interfaceExt nm (some (_, first, ns)) ds fs => .interfaceExt nm (some (false, first, ns)) ds fs
  | .unionExt nm ds (some (_, first, ns)) => .unionExt nm ds (some (false, first, ns))
  | l => l

theorem loose_tokens_strict (l : LooseDef) (d : Ast.Definition) (hw : l.wf = true) (hd : Ast.wfDefinition d = true)
    (h : l.toks = Ast.tDefinition false d) : l.strict = some d := by
  have hc := loose_tokens_determine_definition l d hw hd h
  cases hs : l.strict with
  | some d' => rw [← looseConv_strict l d' hs, hc]
  | none =>
    exfalso
    have h2 := Ast.definition_roundtrip d (Ast.szDefinition (looseConv l) + Ast.szDefinition d) [] hd (by omega) rfl
    rw [List.append_nil, ← h] at h2
    subst hc
    -- a leading separator: the same tokens without it are the printer's tokens, too
    have lead : l.unlead.strict = some (looseConv l) → l.toks = l.unlead.toks := fun hu => by
      rw [h, LooseDef.toks_strict _ _ hu]
    cases l <;> simp [LooseDef.strict] at hs
    case object desc nm sep ds fs | interface desc nm sep ds fs | union desc nm ds sep | objectExt nm sep ds fs
        | interfaceExt nm sep ds fs | unionExt nm ds sep =>
      obtain ⟨first, ns, rfl⟩ := sepLead_true hs
      have e := lead rfl
      simp [LooseDef.unlead, LooseDef.toks, objectLikeToks, unionToks, tSepOpt, tSepLead] at e
    case directive desc nm args rep lead' first rest =>
      subst hs
      have e := lead rfl
      simp [LooseDef.unlead, LooseDef.toks, directiveToks, tSepLead] at e
    case schema desc ds roots | schemaExt ds roots =>
      rw [loose_parse_nameless _ hw (by rintro ⟨rs, hr⟩; rw [hr] at hs; cases hs) _ (by omega)] at h2
      cases h2

end Apollo.Parse
