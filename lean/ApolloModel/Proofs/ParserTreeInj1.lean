import ApolloModel.Proofs.ParserTreeDef13
/-
C08 (pipeline), injectivity: the tokens of an accepted loose type-system definition determine the definition.
The reference parser `pDefinition` is run on `l.toks`: it accepts a leading `&` / `|` (and returns `looseConv l`), it
fails on a root operation type without its named type; on the printer's tokens of a well-formed `d` it returns `d`
(`Ast.definition_roundtrip`).  Hence `l.toks = tDefinition false d` forces `looseConv l = d`.
-/
set_option linter.unusedSimpArgs false
set_option linter.unusedVariables false

namespace Apollo.Parse
open Apollo.FromCst (looseConv looseConv_strict rootsConv)

/-! ### separated lists with an optional leading separator -/

theorem sepLead_roundtrip (sep : Ast.P) (lead : Bool) (first : Str) (ns : List Str) (f : Nat) (rest : List Ast.Tok)
    (hs : ns.length ≤ f) (hr : rest.head? ≠ some (.p sep)) :
    Ast.pSepList sep f (tSepLead sep lead first ns ++ rest) = some (first :: ns, rest) := by
  have := Ast.sepNames_roundtrip sep ns f rest hs hr
  cases lead <;> simp [tSepLead, Ast.pSepList, this]

theorem implementsLoose_roundtrip (impl : SepC) (f : Nat) (rest : List Ast.Tok) (hs : (sepNames impl).length ≤ f)
    (hr : rest.head? ≠ some (.p .amp)) (hi : rest.head? ≠ some (.name Ast.sImplements)) :
    Ast.pImplements f (tSepOpt [.name Ast.sImplements] .amp impl ++ rest) = some (sepNames impl, rest) := by
  cases impl with
  | none => simpa [tSepOpt, sepNames, Ast.tSepList] using Ast.implements_roundtrip [] f rest (by simp) hr hi
  | some v =>
    obtain ⟨lead, first, ns⟩ := v
    have := sepLead_roundtrip .amp lead first ns f rest (by simp [sepNames] at hs; omega) hr
    simp only [tSepOpt, sepNames, List.cons_append, List.nil_append, List.append_assoc] at this ⊢
    simp [Ast.pImplements, this]

theorem unionMembersLoose_roundtrip (ms : SepC) (f : Nat) (rest : List Ast.Tok) (hs : (sepNames ms).length ≤ f)
    (hr : rest.head? ≠ some (.p .pipe)) (he : rest.head? ≠ some (.p .eq)) :
    Ast.pUnionMembers f (tSepOpt [.p .eq] .pipe ms ++ rest) = some (sepNames ms, rest) := by
  cases ms with
  | none => simpa [tSepOpt, sepNames, Ast.tSepList] using Ast.unionMembers_roundtrip [] f rest (by simp) hr he
  | some v =>
    obtain ⟨lead, first, ns⟩ := v
    have := sepLead_roundtrip .pipe lead first ns f rest (by simp [sepNames] at hs; omega) hr
    simp only [tSepOpt, sepNames, List.cons_append, List.nil_append, List.append_assoc] at this ⊢
    simp [Ast.pUnionMembers, this]

theorem objectLikeLoose_roundtrip (nm : Str) (impl : SepC) (ds : List Ast.Directive) (fs : List Ast.FieldDef) (f : Nat)
    (h1 : Ast.wfDirs ds = true) (h2 : Ast.wfFieldDefs fs = true)
    (hs : (sepNames impl).length + Ast.szDirs ds + Ast.szFieldDefs fs ≤ f) :
    Ast.pObjectTypeLike f (objectLikeToks nm impl ds fs) = some ((nm, sepNames impl, ds, fs), []) := by
  have a := implementsLoose_roundtrip impl f (Ast.tDirectives ds ++ (Ast.tBraced (Ast.tFieldDefItems fs) fs.isEmpty ++ []))
    (by omega)
    (by
      intro e
      rcases Ast.head_tDirectives _ _ _ e with h | e
      · cases h
      · rcases Ast.head_tBraced _ _ _ _ e with h | e
        · cases h
        · cases e)
    (by
      intro e
      rcases Ast.head_tDirectives _ _ _ e with h | e
      · cases h
      · rcases Ast.head_tBraced _ _ _ _ e with h | e
        · cases h
        · cases e)
  have b := Ast.directives_roundtrip ds f (Ast.tBraced (Ast.tFieldDefItems fs) fs.isEmpty ++ []) h1 (by omega)
    (by
      constructor <;> intro e <;> rcases Ast.head_tBraced _ _ _ _ e with h | e
      · cases h
      · cases e
      · cases h
      · cases e)
  have c := Ast.fieldsDefinition_roundtrip fs f [] h2 (by omega) (by simp)
  simp only [objectLikeToks, List.cons_append, List.append_assoc, List.append_nil] at a b c ⊢
  simp [Ast.pObjectTypeLike, a, b, c]

theorem unionLoose_roundtrip (nm : Str) (ds : List Ast.Directive) (ms : SepC) (f : Nat)
    (h1 : Ast.wfDirs ds = true) (hs : Ast.szDirs ds + (sepNames ms).length ≤ f) :
    Ast.pUnionBody f (.name nm :: Ast.tDirectives ds ++ tSepOpt [.p .eq] .pipe ms) = some ((nm, ds, sepNames ms), []) := by
  have b := Ast.directives_roundtrip ds f (tSepOpt [.p .eq] .pipe ms ++ []) h1 (by omega)
    (by
      cases ms with
      | none => simp [tSepOpt, Ast.dirFollow]
      | some v => obtain ⟨lead, first, ns⟩ := v; simp [tSepOpt, Ast.dirFollow])
  have c := unionMembersLoose_roundtrip ms f [] (by omega) (by simp) (by simp)
  simp only [List.cons_append, List.append_assoc, List.append_nil] at b c ⊢
  simp [Ast.pUnionBody, b, c]

theorem directiveLoose_roundtrip (desc : Option Str) (nm : Str) (args : List Ast.InputValueDef) (rep lead : Bool)
    (first : Str) (rest : List Str) (f : Nat) (h1 : Ast.wfIVDs args = true) (hs : Ast.szIVDs args + (first :: rest).length ≤ f) :
    Ast.pTypeSystemRest f desc "directive".toList
      (.p .at :: .name nm :: Ast.tArgsDef args ++ kwPart "repeatable" rep ++ .name Ast.sOn :: tSepLead .pipe lead first rest)
      = some (.directiveDef desc nm args rep (first :: rest), []) := by
  have a := Ast.argumentsDefinition_roundtrip args f
    (kwPart "repeatable" rep ++ .name Ast.sOn :: tSepLead .pipe lead first rest) h1 (by omega)
    (by cases rep <;> simp [Ast.notLParen, kwPart])
  have c := sepLead_roundtrip .pipe lead first rest f [] (by simp at hs; omega) (by simp)
  have hro : Ast.sOn ≠ Ast.sRepeatable := by decide
  have hrep : "repeatable".toList = Ast.sRepeatable := rfl
  cases rep with
  | true =>
    simp only [kwPart, if_true, List.cons_append, List.nil_append, List.append_assoc, List.append_nil, hrep] at a c ⊢
    simp [Ast.pTypeSystemRest, a, c]
  | false =>
    simp only [kwPart, Bool.false_eq_true, if_false, List.cons_append, List.nil_append, List.append_assoc, List.append_nil] at a c ⊢
    simp [Ast.pTypeSystemRest, a, c, hro]

/-! ### a root operation type without its named type is not read -/

theorem pRootOpsTail_colon (f : Nat) (X : List Ast.Tok) : Ast.pRootOpsTail f (.p .colon :: X) = none := by
  cases f <;> simp [Ast.pRootOpsTail]

theorem rootsTail_fail : ∀ (roots : List (Ast.OpType × Option Str)) (f : Nat) (rest : List Ast.Tok), fullRoots roots = none →
    Ast.pRootOpsTail f (tRootOpItemsF roots ++ .p .rCurly :: rest) = none
  | [], _, _, h => by simp [fullRoots] at h
  | _, 0, _, _ => by simp [Ast.pRootOpsTail]
  | (op, some nm) :: r, f + 1, rest, h => by
    have hr : fullRoots r = none := by
      cases hh : fullRoots r with
      | none => rfl
      | some x => simp [fullRoots, hh] at h
    have ih := rootsTail_fail r f rest hr
    simp only [tRootOpItemsF, List.map_cons, List.flatten_cons, tRootOpF, List.cons_append, List.nil_append,
      List.append_assoc] at ih ⊢
    simp [Ast.pRootOpsTail, Ast.opTypeOf_name, ih]
  | (op, none) :: r, f + 1, rest, _ => by
    cases r with
    | nil => simp [tRootOpItemsF, tRootOpF, Ast.pRootOpsTail]
    | cons r0 rs =>
      obtain ⟨op', o⟩ := r0
      simp only [tRootOpItemsF, List.map_cons, List.flatten_cons, tRootOpF, List.cons_append, List.nil_append,
        List.append_assoc]
      simp [Ast.pRootOpsTail, Ast.opTypeOf_name, pRootOpsTail_colon]

theorem fullRoots_nil_ne {roots : List (Ast.OpType × Option Str)} (h : fullRoots roots = none) : roots ≠ [] := by
  rintro rfl; simp [fullRoots] at h

/-! ### the reference parser on the tokens of a loose definition -/

theorem strict_parse (l : LooseDef) (d : Ast.Definition) (h : l.strict = some d) (hw : l.wf = true) (f : Nat)
    (hf : Ast.szDefinition (looseConv l) ≤ f) : Ast.pDefinition f l.toks = some (looseConv l, []) := by
  rw [looseConv_strict l d h] at hf ⊢
  rw [LooseDef.toks_strict l d h]
  have := Ast.definition_roundtrip d f [] (LooseDef.wf_strict l d h hw) hf rfl
  simpa using this

/-- every root operation type of a schema definition / extension has its named type -/
def LooseDef.named : LooseDef → Prop
  | .schema _ _ roots => ∃ rs, fullRoots roots = some rs
  | .schemaExt _ roots => ∃ rs, fullRoots roots = some rs
  | _ => True

/-- a leading separator is accepted by `pSepList` and not represented -/
theorem loose_parse_named (l : LooseDef) (hw : l.wf = true) (hn : l.named) (f : Nat) (hf : Ast.szDefinition (looseConv l) ≤ f) :
    Ast.pDefinition f l.toks = some (looseConv l, []) := by
  cases l with
  | scalar desc nm ds | enum desc nm ds vs | input desc nm ds fs | scalarExt nm ds | enumExt nm ds vs | inputExt nm ds fs =>
    exact strict_parse _ _ rfl hw f hf
  | object desc nm impl ds fs | interface desc nm impl ds fs =>
    simp only [LooseDef.wf, Bool.and_eq_true] at hw
    simp only [looseConv, Ast.szDefinition] at hf
    have b := objectLikeLoose_roundtrip nm impl ds fs f hw.1 hw.2 (by omega)
    simp only [LooseDef.toks, kwPart_true, looseConv, List.append_assoc, List.cons_append, List.nil_append]
    rw [Ast.typeSystem_dispatch f desc _ _ (by simp [Ast.opTypeOf]) (by simp) (by simp)]
    simp [Ast.pTypeSystemRest, b]
  | union desc nm ds ms =>
    simp only [LooseDef.wf] at hw
    simp only [looseConv, Ast.szDefinition] at hf
    have b := unionLoose_roundtrip nm ds ms f hw (by omega)
    simp only [LooseDef.toks, unionToks, kwPart_true, looseConv, List.append_assoc, List.cons_append, List.nil_append] at b ⊢
    rw [Ast.typeSystem_dispatch f desc _ _ (by simp [Ast.opTypeOf]) (by simp) (by simp)]
    simp [Ast.pTypeSystemRest, b]
  | directive desc nm args rep lead first rest =>
    simp only [LooseDef.wf] at hw
    simp only [looseConv, Ast.szDefinition] at hf
    have b := directiveLoose_roundtrip desc nm args rep lead first rest f hw (by simp at hf ⊢; omega)
    simp only [LooseDef.toks, directiveToks, kwPart_true, looseConv, List.append_assoc, List.cons_append, List.nil_append] at b ⊢
    rw [Ast.typeSystem_dispatch f desc _ _ (by simp [Ast.opTypeOf]) (by simp) (by simp)]
    exact b
  | objectExt nm impl ds fs | interfaceExt nm impl ds fs =>
    simp only [LooseDef.wf, Bool.and_eq_true] at hw
    simp only [looseConv, Ast.szDefinition] at hf
    have b := objectLikeLoose_roundtrip nm impl ds fs f hw.1 hw.2 (by omega)
    simp only [LooseDef.toks, kwE, looseConv, List.append_assoc, List.cons_append, List.nil_append]
    rw [Ast.extension_dispatch]
    simp [Ast.pExtensionRest, b]
  | unionExt nm ds ms =>
    simp only [LooseDef.wf] at hw
    simp only [looseConv, Ast.szDefinition] at hf
    have b := unionLoose_roundtrip nm ds ms f hw (by omega)
    simp only [LooseDef.toks, kwE, looseConv, List.append_assoc, List.cons_append, List.nil_append] at b ⊢
    rw [Ast.extension_dispatch]
    simp [Ast.pExtensionRest, b]
  | schema desc ds roots =>
    obtain ⟨rs', hr⟩ := hn
    exact strict_parse _ (.schemaDef desc ds rs') (by simp [LooseDef.strict, hr]) hw f hf
  | schemaExt ds roots =>
    obtain ⟨rs', hr⟩ := hn
    exact strict_parse _ (.schemaExt ds rs') (by simp [LooseDef.strict, hr]) hw f hf

theorem loose_parse_nameless (l : LooseDef) (hw : l.wf = true) (hn : ¬ l.named) (f : Nat) (hf : Ast.szDefinition (looseConv l) ≤ f) :
    Ast.pDefinition f l.toks = none := by
  cases l with
  | schema desc ds roots =>
    cases hr : fullRoots roots with
    | some rs' => exact absurd ⟨rs', hr⟩ hn
    | none =>
      simp only [LooseDef.wf, Bool.and_eq_true] at hw
      simp only [looseConv, Ast.szDefinition] at hf
      have b := Ast.directives_roundtrip ds f (.p .lCurly :: tRootOpItemsF roots ++ [.p .rCurly]) hw.1 (by omega)
        (by simp [Ast.dirFollow])
      have c := rootsTail_fail roots f [] hr
      simp only [LooseDef.toks, schemaToks, kwPart_true, List.append_assoc, List.cons_append, List.nil_append] at b c ⊢
      rw [Ast.typeSystem_dispatch f desc _ _ (by simp [Ast.opTypeOf]) (by simp) (by simp)]
      simp [Ast.pTypeSystemRest, b, Ast.pRootOps, c]
  | schemaExt ds roots =>
    cases hr : fullRoots roots with
    | some rs' => exact absurd ⟨rs', hr⟩ hn
    | none =>
      simp only [LooseDef.wf] at hw
      simp only [looseConv, Ast.szDefinition] at hf
      have hne := fullRoots_nil_ne hr
      have hemp : roots.isEmpty = false := by cases roots with | nil => exact absurd rfl hne | cons _ _ => rfl
      have b := Ast.directives_roundtrip ds f (.p .lCurly :: tRootOpItemsF roots ++ [.p .rCurly]) hw (by omega)
        (by simp [Ast.dirFollow])
      have c := rootsTail_fail roots f [] hr
      simp only [LooseDef.toks, kwE, Ast.tBraced, hemp, Bool.false_eq_true, if_false, List.append_assoc, List.cons_append,
        List.nil_append] at b c ⊢
      rw [Ast.extension_dispatch]
      simp [Ast.pExtensionRest, b, Ast.pRootOps, c]
  | _ => exact absurd trivial hn

/-- **the reference parser on the tokens of an accepted loose definition**: it returns `looseConv l` — a leading
    separator is accepted by `pSepList` and not represented — or fails (a root operation type without its named type) -/
theorem loose_parse (l : LooseDef) (hw : l.wf = true) (f : Nat) (hf : Ast.szDefinition (looseConv l) ≤ f) :
    Ast.pDefinition f l.toks = some (looseConv l, []) ∨ Ast.pDefinition f l.toks = none := by
  by_cases hn : l.named
  · exact Or.inl (loose_parse_named l hw hn f hf)
  · exact Or.inr (loose_parse_nameless l hw hn f hf)

/-- **the tokens of an accepted loose definition determine the definition**: if the tokens consumed for `l` are the
    tokens the serializer writes for a well-formed `d`, then what `from_cst` makes of `l` is `d` -/
theorem loose_tokens_determine_definition (l : LooseDef) (d : Ast.Definition) (hw : l.wf = true) (hd : Ast.wfDefinition d = true)
    (h : l.toks = Ast.tDefinition false d) : looseConv l = d := by
  have h1 := loose_parse l hw (Ast.szDefinition (looseConv l) + Ast.szDefinition d) (by omega)
  have h2 := Ast.definition_roundtrip d (Ast.szDefinition (looseConv l) + Ast.szDefinition d) [] hd (by omega) rfl
  rw [List.append_nil, ← h] at h2
  rcases h1 with h1 | h1
  · rw [h1] at h2
    injection h2 with h2
    injection h2
  · rw [h1] at h2
    cases h2

end Apollo.Parse
