import ApolloModel.Proofs.NameHeap
import ApolloModel.Properties.C31
/-
C30: the invariant of the `Name` history model and what each kind of slot update needs to preserve it.
`Inv`: (1) the heap is `Ok` for the handle count of the current slots, (2) every handle is
well-formed (`SlotWf`): the tag bit says `Arc` exactly when the pointer is a heap pointer, the
location read back is the one supplied, the stored length and the text behind the pointer are the
ones supplied, (3) the type-confusion ghost counter is 0.
-/
namespace Apollo.NameHeap
open Apollo.Rc Apollo.Rc.Heap Apollo.FileId

/-! ### tag packing facts (from C31) -/

theorem lt_of_bit63 (n : Nat) (h : n < 2 ^ 64) (hb : n.testBit 63 = false) : n < 2 ^ 63 := by
  rw [Nat.testBit_eq_decide_div_mod_eq] at hb
  simp at hb
  omega

theorem pack_some_spec (tag : Bool) (fid p : Nat) (hf : fid < 2 ^ 64) (hp : pack tag fid = some p) :
    tagOf p = tag ∧ fileIdOf p = fid := by
  have hb : fid.testBit 63 = false := by
    cases hb : fid.testBit 63 with
    | false => rfl
    | true => have := (Apollo.C31.pack_none_iff tag fid).mpr hb; rw [this] at hp; cases hp
  obtain ⟨p', hp', ht, hi, _⟩ := Apollo.C31.pack_unpack tag fid (lt_of_bit63 fid hf hb)
  rw [hp] at hp'
  cases hp'
  exact ⟨ht, hi⟩

theorem tagOf_packNone (b : Bool) : tagOf (packNone b) = b := by cases b <;> decide
theorem fileIdOf_packNone (b : Bool) : fileIdOf (packNone b) = NONE := by cases b <;> decide

/-! ### the invariant -/

def SlotWf (h : Heap Text) : Slot → Prop
  | .empty => True
  | .name n =>
      tagOf n.tagged = n.ptr.isHeap ∧ n.location = n.gLoc ∧ n.len = byteLen n.gText ∧
      (match n.ptr with
        | .heap c => h.valOf c = some n.gText
        | .static t => t = n.gText)
  | .arc c g => h.valOf c = some g

structure Inv (st : St) : Prop where
  heap : st.heap.Ok (refsOf owns st.slots)
  wf : ∀ s ∈ st.slots, SlotWf st.heap s
  confused : st.confused = 0

theorem SlotWf.mono {h h' : Heap Text} (hv : ∀ c v, h.valOf c = some v → h'.valOf c = some v) {s : Slot}
    (hs : SlotWf h s) : SlotWf h' s := by
  cases s with
  | empty => trivial
  | name n =>
    obtain ⟨a, b, c, d⟩ := hs
    refine ⟨a, b, c, ?_⟩
    cases hp : n.ptr with
    | heap c => rw [hp] at d; exact hv _ _ d
    | static t => rw [hp] at d; exact d
  | arc c g => exact hv _ _ hs

theorem wf_set {h : Heap Text} {slots : List Slot} (i : Nat) {s : Slot}
    (hw : ∀ x ∈ slots, SlotWf h x) (hs : SlotWf h s) : ∀ x ∈ slots.set i s, SlotWf h x := by
  intro x hx
  rcases List.mem_or_eq_of_mem_set hx with h1 | h1
  · exact hw x h1
  · subst h1; exact hs

theorem wf_mono_all {h h' : Heap Text} {slots : List Slot} (hv : ∀ c v, h.valOf c = some v → h'.valOf c = some v)
    (hw : ∀ x ∈ slots, SlotWf h x) : ∀ x ∈ slots, SlotWf h' x := fun x hx => (hw x hx).mono hv

theorem isEmptyAt_iff {st : St} {i : Nat} : isEmptyAt st i = true ↔ st.slots[i]? = some .empty := by
  unfold isEmptyAt
  cases h : st.slots[i]? with
  | none => simp
  | some s => cases s <;> simp

theorem slotAt_ne_empty {st : St} {i : Nat} {s : Slot} (h : slotAt st i = s) (hs : s ≠ .empty) :
    st.slots[i]? = some s := by
  unfold slotAt at h
  rw [List.getD_eq_getElem?_getD] at h
  cases hg : st.slots[i]? with
  | none => rw [hg] at h; exact absurd h.symm hs
  | some s' => rw [hg] at h; simp at h; rw [h]

theorem slotAt_name {st : St} {i : Nat} {n : Name} (h : slotAt st i = .name n) : st.slots[i]? = some (.name n) :=
  slotAt_ne_empty h Slot.noConfusion

theorem slotAt_arc {st : St} {i c : Nat} {g : Text} (h : slotAt st i = .arc c g) : st.slots[i]? = some (.arc c g) :=
  slotAt_ne_empty h Slot.noConfusion

theorem mem_of_get {slots : List Slot} {i : Nat} {s : Slot} (h : slots[i]? = some s) : s ∈ slots :=
  List.mem_of_getElem? h

theorem refs_pos {slots : List Slot} {i : Nat} {s : Slot} {c : Nat} (h : slots[i]? = some s) (ho : owns s = some c) :
    1 ≤ refsOf owns slots c := refsOf_pos_of_mem owns c slots i s h ho

theorem get_set_empty {slots : List Slot} {src dst : Nat} (hd : slots[dst]? = some .empty) :
    (slots.set src .empty)[dst]? = some .empty := by
  rw [List.getElem?_set]
  by_cases e : src = dst
  · subst e
    obtain ⟨hlt, _⟩ := List.getElem?_eq_some_iff.mp hd
    simp [hlt]
  · simp [e, hd]

/-! ### building blocks: one heap effect + one slot update -/

theorem inv_replace_same {st : St} (inv : Inv st) {i : Nat} {old s : Slot} (hi : st.slots[i]? = some old)
    (ho : owns s = owns old) (hw : SlotWf st.heap s) : Inv (setSlot st i s) := by
  refine ⟨?_, wf_set i inv.wf hw, inv.confused⟩
  apply inv.heap.congr
  intro c
  have := refs_replace owns s hi c
  have e : weight owns s c = weight owns old c := by unfold weight; rw [ho]
  simp only [setSlot]
  omega

theorem inv_replace_none {st : St} (inv : Inv st) {i : Nat} {old s : Slot} (hi : st.slots[i]? = some old)
    (ho : owns old = none) (hs : owns s = none) (hw : SlotWf st.heap s) : Inv (setSlot st i s) :=
  inv_replace_same inv hi (hs.trans ho.symm) hw

theorem inv_alloc_put {st : St} (inv : Inv st) {dst : Nat} (t : Text) {s : Slot} (hd : st.slots[dst]? = some .empty)
    (ho : owns s = some st.heap.cells.length) (hw : SlotWf (st.heap.alloc t).1 s) :
    Inv (setSlot { st with heap := (st.heap.alloc t).1 } dst s) := by
  refine ⟨?_, ?_, inv.confused⟩
  · apply alloc_ok t inv.heap
    intro c
    have := refs_replace owns s hd c
    rw [weight_none (s := Slot.empty) rfl, weight_some ho] at this
    simpa [setSlot] using this
  · exact wf_set dst (wf_mono_all (fun c v => alloc_valOf_old st.heap t) inv.wf) hw

theorem inv_incr_put {st : St} (inv : Inv st) {dst c : Nat} {s : Slot} (hd : st.slots[dst]? = some .empty)
    (hc : 1 ≤ refsOf owns st.slots c) (ho : owns s = some c) (hw : SlotWf st.heap s) :
    Inv (setSlot { st with heap := st.heap.incr c } dst s) := by
  refine ⟨?_, ?_, inv.confused⟩
  · apply incr_ok inv.heap hc
    intro c'
    have := refs_replace owns s hd c'
    rw [weight_none (s := Slot.empty) rfl, weight_some ho] at this
    simpa [setSlot] using this
  · refine wf_set dst (wf_mono_all ?_ inv.wf) (hw.mono ?_) <;>
    · intro c' v hv; show (st.heap.incr c).valOf c' = some v; rw [incr_valOf]; exact hv

theorem inv_decr_clear {st : St} (inv : Inv st) {i c : Nat} {old : Slot} (hi : st.slots[i]? = some old)
    (ho : owns old = some c) : Inv (setSlot { st with heap := st.heap.decr c } i .empty) := by
  refine ⟨?_, ?_, inv.confused⟩
  · apply decr_ok inv.heap (refs_pos hi ho)
    intro c'
    have := refs_replace owns .empty hi c'
    rw [weight_none (s := Slot.empty) rfl, weight_some ho] at this
    simpa [setSlot] using this
  · refine wf_set i (wf_mono_all ?_ inv.wf) trivial
    intro c' v hv; show (st.heap.decr c).valOf c' = some v; rw [decr_valOf]; exact hv

theorem inv_move {st : St} (inv : Inv st) {src dst c : Nat} {old s : Slot} (hi : st.slots[src]? = some old)
    (ho : owns old = some c) (hd : st.slots[dst]? = some .empty) (hs : owns s = some c) (hw : SlotWf st.heap s) :
    Inv (setSlot (setSlot st src .empty) dst s) := by
  refine ⟨?_, wf_set dst (wf_set src inv.wf trivial) hw, inv.confused⟩
  apply inv.heap.congr
  intro c'
  have h1 := refs_replace owns .empty hi c'
  have h2 := refs_replace owns s (get_set_empty (src := src) hd) c'
  rw [weight_none (s := Slot.empty) rfl] at h1 h2
  have e : weight owns s c' = weight owns old c' := by unfold weight; rw [hs, ho]
  simp only [setSlot]
  omega

end Apollo.NameHeap
