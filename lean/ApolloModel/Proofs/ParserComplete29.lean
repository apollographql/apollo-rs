import ApolloModel.Proofs.ParserComplete28
import ApolloModel.Proofs.ParserRecursion5
/-
C07: `parseType_iff`, which `type_accept_iff` restates — the exact accepted language of `Parser::parse_type`.
Soundness (`parseType_sound'`, ParserType6) gives
the type; the two guards of completeness are recovered from an error-free run: the list nesting is within the
recursion limit (C04: no limit error ⇒ `typeDepth src ≤ rl`, and `typeDepth` of `tTy t` is `tyDepth t`), and the input
does not start with an ignored token (`ty.rs` peeks before it skips: the ignored token is dropped with an error).
-/
set_option linter.unusedSimpArgs false
namespace Apollo.Parse
open Apollo.Rowan hiding Str
open Apollo.Lex hiding Str

/-- on an ignored first token `ty.rs::parse` does not return `Ok` -/
theorem tyParse_ignored_head (n : Nat) (s s' : PState) (r : TyRes) (t : Tok) (rest : List Tok) (w : TW s)
    (ht : Toks s = t :: rest) (hi : isIgnoredKind t.kind = true) (h : (tyParse (n + 1)).run s = .ok r s') : r ≠ TyRes.ok := by
  rw [tyParse_succ] at h
  obtain ⟨r0, sW, hw, h2⟩ := bind_dec _ _ s s' r h
  obtain ⟨s1, s2, s3, c, o1, hb, _, _⟩ := wrapIf_dec _ _ _ _ s sW r0 hw
  have hr0 : r0 ≠ TyRes.ok := by
    unfold tyBody at hb
    obtain ⟨ko, sP, hp, h3⟩ := bind_dec peek _ s1 s2 r0 hb
    obtain ⟨rfl, _, _, _⟩ := peek_head s1 sP ko t rest (o1.w w) (by rw [o1.toks]; exact ht) hp
    have hk : t.kind = .comment ∨ t.kind = .whitespace ∨ t.kind = .comma := by
      cases hk : t.kind <;> simp [hk, isIgnoredKind] at hi <;> simp
    rcases hk with hk | hk | hk <;> simp only [hk] at h3 <;>
      (obtain ⟨o, sQ, _, h4⟩ := bind_dec popDrop _ sP s2 r0 h3
       cases o <;> simp only [] at h4 <;> rw [run_pure] at h4 <;> injection h4 with h4 _ <;> rw [← h4] <;> intro hc <;> cases hc)
  cases r0 with
  | ok => exact absurd rfl hr0
  | errTok tk =>
    simp only [] at h2
    rw [run_pure] at h2
    injection h2 with h2 _
    rw [← h2]; intro hc; cases hc
  | errNone =>
    simp only [] at h2
    rw [run_pure] at h2
    injection h2 with h2 _
    rw [← h2]; intro hc; cases hc
  | early =>
    simp only [] at h2
    rw [run_pure] at h2
    injection h2 with h2 _
    rw [← h2]; intro hc; cases hc

theorem parseType_head (rl : Nat) (src : Str) (herr : (parse .type none rl src).errors = []) : HeadSig (srcToks src) := by
  intro hd tl hsrc
  obtain ⟨root, h⟩ := parseType_tree none rl src
  unfold parse runEntry at h herr
  simp only [Entry.standalone, Entry.grammar] at h herr
  generalize hs0 : ({ initState src none rl with builder := (initState src none rl).builder.startNode "NAMED_TYPE" } : PState) = s0 at h herr
  have hinv : Inv s0 := by
    subst hs0
    exact ⟨fun _ => by simp [initState, Builder.new, Builder.startNode, textList, pendingText, curText],
      fun p hp => by simp [initState, Builder.new, Builder.startNode] at hp; simp [hp, initState, Builder.new],
      fun h => by simp [initState] at h, fun t h => by simp [initState] at h, fun h => by simp [initState] at h⟩
  have w0 : TW s0 := by subst hs0; exact ⟨rfl, by intro h; simp [initState] at h⟩
  have htoks : Toks s0 = srcToks src := by subst hs0; rfl
  have he0 : EofEnd s0 := by
    right
    obtain ⟨pre, e, hp, he, hno⟩ := stream_eof_end src.length (initState src none 0).lx (Nat.le_refl _) rfl rfl
    exact ⟨pre, e, by rw [htoks]; exact hp, he, hno⟩
  cases hr : (ty (fuelFor src) >>= fun _ => expectEndOfInput).run s0 with
  | abort w => simp [hr] at h
  | panic m => simp [hr] at h
  | ok a s =>
    simp only [hr] at h herr
    -- as in `type_sound_run`: the result of `ty.rs::parse` is `Ok`
    obtain ⟨_, s1, h1, h2⟩ := bind_dec (ty (fuelFor src)) _ s0 s () hr
    obtain ⟨hi1, hl1⟩ := PI.run_ok _ s0 hinv _ s1 h1
    have a1 := good_ty (fuelFor src) s0 () s1 w0 h1
    have a2 := good_expectEndOfInput s1 () s a1.w h2
    have hex := expectEndOfInput_exhausted s1 s hi1 a1.w.limit h2 herr
    have hnd : ¬ Doomed s := by
      rintro (hd | hd)
      · exact hd herr
      · rw [hasErr_src_nil s.lx a2.w.limit hex.2] at hd; cases hd
    have hnd1 : ¬ Doomed s1 := fun d => hnd (a2.doom d)
    unfold ty at h1
    obtain ⟨r, sT, hT, h3⟩ := bind_dec (tyParse (fuelFor src)) _ s0 s1 () h1
    have aT := good_tyParse (fuelFor src) s0 r sT w0 hT
    have hok : r = .ok := by
      cases r with
      | ok => rfl
      | early =>
        exfalso
        simp only [] at h3; rw [run_pure] at h3; injection h3 with _ h3; subst h3
        rcases tyParse_sound (fuelFor src) s0 sT _ w0 he0 hT hnd1 with ⟨tk, hx⟩ | ⟨hx, _⟩ <;> cases hx
      | errTok tk =>
        exfalso
        simp only [] at h3
        exact hnd1 (errAtToken_adv tk sT s1 aT.w h3).2
      | errNone =>
        exfalso
        simp only [] at h3
        have hndT : ¬ Doomed sT := fun d => hnd1 ((good_err sT () s1 aT.w h3).doom d)
        rcases tyParse_sound (fuelFor src) s0 sT _ w0 he0 hT hndT with ⟨tk, hx⟩ | ⟨hx, _⟩ <;> cases hx
    subst hok
    by_cases hig : isIgnoredKind hd.kind = true
    · exfalso
      have hf : fuelFor src = (4 * src.length + 19) + 1 := by unfold fuelFor; omega
      rw [hf] at hT
      exact tyParse_ignored_head _ s0 sT _ hd tl w0 (by rw [htoks]; exact hsrc) hig hT rfl
    · unfold Sigf; simpa using hig

theorem lbCount_tTy : ∀ (t : Ast.Ty) (ts suf : List Tok), ts.map astOf = (Ast.tTy t).map some → lbCount (ts ++ suf) = tyDepth t := by
  intro t
  induction t with
  | named n =>
    intro ts suf h
    simp only [Ast.tTy, List.map_cons, List.map_nil] at h
    obtain ⟨x, l, rfl, hx, hl⟩ := List.map_eq_cons_iff.mp h
    have hk : x.kind = .name := by unfold astOf at hx; cases hk : x.kind <;> simp [hk] at hx <;> rfl
    simp [lbCount, isLB, hk, tyDepth]
  | nonNullNamed n =>
    intro ts suf h
    simp only [Ast.tTy, List.map_cons, List.map_nil] at h
    obtain ⟨x, l, rfl, hx, hl⟩ := List.map_eq_cons_iff.mp h
    have hk : x.kind = .name := by unfold astOf at hx; cases hk : x.kind <;> simp [hk] at hx <;> rfl
    simp [lbCount, isLB, hk, tyDepth]
  | list u ih =>
    intro ts suf h
    simp only [Ast.tTy, List.map_cons, List.map_append] at h
    obtain ⟨x, l, rfl, hx, hl⟩ := List.map_eq_cons_iff.mp h
    obtain ⟨l1, l2, rfl, h1, h2⟩ := List.map_eq_append_iff.mp hl
    have hk : x.kind = .lBracket := (astOf_p hx).2.1 rfl
    have := ih l1 (l2 ++ suf) h1
    simp only [lbCount, List.cons_append, List.append_assoc] at this ⊢
    simp [List.takeWhile_cons, isLB, hk, tyDepth, this]
  | nonNullList u ih =>
    intro ts suf h
    simp only [Ast.tTy, List.map_cons, List.map_append] at h
    obtain ⟨x, l, rfl, hx, hl⟩ := List.map_eq_cons_iff.mp h
    obtain ⟨l1, l2, rfl, h1, h2⟩ := List.map_eq_append_iff.mp hl
    have hk : x.kind = .lBracket := (astOf_p hx).2.1 rfl
    have := ih l1 (l2 ++ suf) h1
    simp only [lbCount, List.cons_append, List.append_assoc] at this ⊢
    simp [List.takeWhile_cons, isLB, hk, tyDepth, this]

/-- **C07 `type_accept_iff`** (proof level) -/
theorem parseType_iff (rl : Nat) (src : Str) :
    (parse .type none rl src).errors = [] ↔
      (LexClean src ∧ ∃ (t : Ast.Ty) (ts : List Tok) (e : Tok), sig (srcToks src) = ts ++ [e] ∧ e.kind = .eof ∧
        ts.map astOf = (Ast.tTy t).map some ∧ tyDepth t ≤ rl ∧ HeadSig (srcToks src)) := by
  constructor
  · intro herr
    obtain ⟨hclean, t, ts, e, h1, h2, h3⟩ := parseType_sound' rl src herr
    have hhead := parseType_head rl src herr
    refine ⟨hclean, t, ts, e, h1, h2, h3, ?_, hhead⟩
    have hlim := (parseType_rec_limit rl src (fun w => parse_type_terminates none rl src w)).1
    have hno : ¬ HasLim (parse .type none rl src).errors := by
      rw [herr]; rintro ⟨x, hx, _⟩; cases hx
    have hd : typeDepth src ≤ rl := by
      by_cases hgt : typeDepth src > rl
      · exact absurd (hlim.mpr hgt) hno
      · omega
    have hlead : typeDepth src = tyDepth t := by
      unfold typeDepth lead
      cases hs : srcToks src with
      | nil => rw [hs] at h1; simp [sig] at h1
      | cons x r =>
        have hx : isIgnoredKind x.kind = false := by
          have := hhead x r hs; unfold Sigf at this; exact this
        simp only [hx, Bool.false_eq_true, if_false]
        rw [← hs, h1]
        exact lbCount_tTy t ts [e] h3
    rw [← hlead]; exact hd
  · rintro ⟨hclean, t, ts, e, h1, h2, h3, h4, h5⟩
    exact parseType_complete_sig rl src t ts e hclean h1 h2 h3 h4 h5

end Apollo.Parse
