import ApolloModel.Proofs.ParserRecursion27
/-
C04, closed form of the nesting depth: `checkpoint … wrap_node`; the judgement `GD` as a
compositional predicate.
-/
set_option linter.unusedSimpArgs false
set_option linter.unusedVariables false
namespace Apollo.Parse
open Apollo.Rowan hiding Str
open Apollo.Lex hiding Str

theorem wiPre_run (s : PState) : pushIgnored.run s = .ok () (wiPre s) := rfl

/-- `checkpoint … wrap_node(kind)` with a kind that costs nothing -/
theorem gd_wrapIf {α : Type} (kind : SK) (body : PI α) (cond : α → PI Bool) (inner : PI Unit) (hK : PlainKind kind)
    (hb : GD body) (hc : ∀ a, GD (cond a)) (hin : GD inner) : GD (wrapIf kind body cond inner) := by
  have hM : GD (body >>= fun a => cond a >>= fun c => (pure (a, c) : PI (α × Bool))) :=
    gd_bind _ _ hb (fun a => gd_bind _ _ (hc a) (fun c => gd_pure _))
  constructor
  intro s a s' hi h
  rw [wrapIf_run] at h
  obtain ⟨hi1, fr1⟩ := post_of_run pushIgnored s hi () (wiPre s) (wiPre_run s)
  have hbase : (wiPre s).builder.children = s.builder.children ++ s.pending.map pendingElem := rfl
  cases hr : (body >>= fun a => cond a >>= fun c => (pure (a, c) : PI (α × Bool))).run (wiPre s) with
  | abort w => rw [hr] at h; cases h
  | panic m => rw [hr] at h; cases h
  | ok ac s2 =>
    obtain ⟨a2, c⟩ := ac
    rw [hr] at h
    simp only [] at h
    obtain ⟨hi2, fr2⟩ := post_of_run _ _ hi1 (a2, c) s2 hr
    obtain ⟨e1, a1, w1, x1⟩ := hM.g _ (a2, c) s2 hi1 hr
    cases c with
    | false =>
      simp only [Bool.false_eq_true, if_false, Res.ok.injEq] at h
      obtain ⟨rfl, rfl⟩ := h
      refine ⟨e1, s.pending.map pendingElem ++ a1, ⟨w1.errs, by rw [w1.kids, hbase, List.append_assoc], w1.mono, w1.acc⟩, ?_⟩
      intro he ha hh hcur
      have r := x1 he ha hh hcur
      rw [r, gdl_append, gdl_pending]
      show max s.recHigh (s.recCur + gdl a1 + 0) = max s.recHigh (s.recCur + max 0 (gdl a1) + 0)
      omega
    | true =>
      simp only [if_true] at h
      have hlen : (wiPre s).builder.checkpoint ≤ s2.builder.children.length := by
        simp [Builder.checkpoint, w1.kids]
      have hfirst : ∀ p ∈ s2.builder.parents, p.2 ≤ (wiPre s).builder.checkpoint := by
        intro p hp; rw [fr2.parents] at hp; exact hi1.parents p hp
      have hsn : s2.builder.startNodeAt (wiPre s).builder.checkpoint kind =
          some { s2.builder with parents := (kind, (wiPre s).builder.checkpoint) :: s2.builder.parents } := by
        unfold Builder.startNodeAt
        simp only [hlen, if_true]
        cases hps : s2.builder.parents with
        | nil => rfl
        | cons p ps =>
          obtain ⟨k0, f0⟩ := p
          have := hfirst (k0, f0) (by simp [hps])
          simp only [ge_iff_le, this, if_true]
      rw [hsn] at h
      simp only [] at h
      have hi2' : Inv { s2 with builder := { s2.builder with parents := (kind, (wiPre s).builder.checkpoint) :: s2.builder.parents } } := by
        refine ⟨hi2.text, ?_, hi2.lexDone, hi2.eofTok, hi2.errNonempty⟩
        intro p hp
        simp only [List.mem_cons] at hp
        rcases hp with rfl | hp
        · exact hlen
        · exact hi2.parents p hp
      cases hr3 : inner.run { s2 with builder := { s2.builder with parents := (kind, (wiPre s).builder.checkpoint) :: s2.builder.parents } } with
      | abort w => rw [hr3] at h; cases h
      | panic m => rw [hr3] at h; cases h
      | ok u3 s3 =>
        rw [hr3] at h
        simp only [] at h
        obtain ⟨hi3, fr3⟩ := post_of_run _ _ hi2' u3 s3 hr3
        obtain ⟨e3, a3, w3, x3⟩ := hin.g _ u3 s3 hi2' hr3
        have hp3 : s3.builder.parents = (kind, (wiPre s).builder.checkpoint) :: s2.builder.parents := fr3.parents
        simp only [Builder.finishNode, hp3, Res.ok.injEq] at h
        obtain ⟨rfl, rfl⟩ := h
        have hc3 : s3.builder.children = (wiPre s).builder.children ++ (a1 ++ a3) := by
          rw [w3.kids]
          show s2.builder.children ++ a3 = _
          rw [w1.kids, List.append_assoc]
        refine ⟨e1 ++ e3, s.pending.map pendingElem ++ [Elem.node kind (a1 ++ a3)],
          ⟨by rw [w3.errs]; show s2.errors ++ e3 = _; rw [w1.errs, List.append_assoc]; rfl, ?_,
           Nat.le_trans w1.mono w3.mono, fun he => ?_⟩, ?_⟩
        · show List.take (wiPre s).builder.checkpoint s3.builder.children ++
            [Elem.node kind (List.drop (wiPre s).builder.checkpoint s3.builder.children)] = _
          rw [hc3]
          simp only [Builder.checkpoint]
          rw [List.take_left' rfl, List.drop_left' rfl, hbase, List.append_assoc]
        · obtain ⟨he1, he3⟩ := List.append_eq_nil_iff.mp he
          have := w3.acc he3
          rw [this]
          exact w1.acc he1
        · intro he ha hh hcur
          obtain ⟨he1, he3⟩ := List.append_eq_nil_iff.mp he
          have r1 := x1 he1 ha (Nat.le_trans w3.mono hh) hcur
          have rl2 : s2.recLimit = s.recLimit := fr2.recLimit.trans fr1.recLimit
          have rc2 : s2.recCur = s.recCur := fr2.recCur.trans fr1.recCur
          have r3 := x3 he3 (by show s2.acceptErrors = true; rw [w1.acc he1]; exact ha)
            (by show s3.recHigh ≤ s2.recLimit; rw [rl2]; exact hh)
            (by show s2.recCur ≤ s2.recHigh; rw [rc2]; exact Nat.le_trans hcur w1.mono)
          show s3.recHigh = _
          rw [r3]
          show max s2.recHigh (s2.recCur + gdl a3 + 0) = _
          rw [r1, rc2, gdl_append, gdl_pending, gdl_single, gd_plain hK, gdl_append]
          show max (max s.recHigh (s.recCur + gdl a1 + 0)) (s.recCur + gdl a3 + 0) =
            max s.recHigh (s.recCur + max 0 (max (gdl a1) (gdl a3)) + 0)
          omega

theorem gdTok : TokenCalc @GD where
  pure := gd_pure
  bind := gd_bind
  outOfFuel := gd_outOfFuel
  stuck := gd_stuck
  peekToken := gd_peekToken
  peekTokenN := gd_peekTokenN
  srcLen := gd_srcLen
  getCurrent := gd_getCurrent
  moveCurToPending := gd_moveCurToPending
  pushIgnored := gd_pushIgnored
  moveCurToTree := gd_moveCurToTree
  assertRecZero := gd_assertRecZero
  errAtToken := fun t => gd_pushErr _

/-- `GD` is a compositional predicate; its node rule holds for the kinds that cost nothing (`NAME` is one). -/
theorem gdCalc : GrammarCalc @GD where
  toTokenCalc := gdTok
  withNode := fun kind body hk hs hb => gd_withNode kind body hk.2 hs hb
  name := gd_bind _ _ gd_peekToken fun o => by
    cases o with
    | none => exact gdTok.err
    | some t => exact gd_ite _ _ _ (gd_withNode _ _ (by decide) gdTok.skipIgnored (gdTok.bump _)) gdTok.err

end Apollo.Parse
