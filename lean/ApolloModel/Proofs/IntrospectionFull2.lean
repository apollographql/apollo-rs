import ApolloModel.Proofs.IntrospectionFull
/-
C24: the executor does not look inside resolver objects — two families of resolver objects related by
a map that commutes with `resolve_field` give the same response (`executeG_map`).  With
Proofs/IntrospectionFull.lean: the whole response of the model is the whole response of the specification
(`partialExecute_eq_spec`).
-/
set_option linter.unusedSimpArgs false
set_option linter.unusedVariables false
namespace Apollo.Introspection
open Apollo Apollo.Exec

section Functorial
variable {ι κ : Type} (h : ι → κ) (P : ι → Prop)
  (r1 : ι → String → AList Json → Option (RVg ι)) (r2 : κ → String → AList Json → Option (RVg κ))

def RecRel (rec1 : RecG ι) (rec2 : RecG κ) : Prop :=
  ∀ p ty rv fields st, AllObj P rv → rec2 p ty (mapRV h rv) fields st = rec1 p ty rv fields st

theorem completeItemsG_map (rec1 : RecG ι) (rec2 : RecG κ) (hrec : RecRel h P rec1 rec2)
    (path : Path) (ty inner : Ty) (fields : List Sel) :
    ∀ (items : List (RVg ι)) (i : Nat) (acc : List Json) (st : St), AllObjs P items →
      completeItemsG rec2 path ty inner fields (mapRVs h items) i acc st =
        completeItemsG rec1 path ty inner fields items i acc st := by
  intro items
  induction items with
  | nil => intro i acc st _; simp [mapRVs, completeItemsG]
  | cons item rest ih =>
    intro i acc st hall
    simp only [AllObjs] at hall
    have hitem := hrec (path ++ [.idx i]) inner item fields st hall.1
    cases item with
    | error => simp [mapRVs, mapRV, completeItemsG]
    | leaf j =>
      simp only [mapRVs, mapRV, completeItemsG] at hitem ⊢
      rw [hitem]
      cases hr : rec1 (path ++ [.idx i]) inner (.leaf j) fields st with
      | mk r st1 =>
        simp only []
        cases tryNullify inner r with
        | ok o => cases o <;> simp only [] <;> exact ih _ _ _ hall.2
        | error e => cases e <;> rfl
    | list xs =>
      simp only [mapRVs, mapRV, completeItemsG] at hitem ⊢
      rw [hitem]
      cases hr : rec1 (path ++ [.idx i]) inner (.list xs) fields st with
      | mk r st1 =>
        simp only []
        cases tryNullify inner r with
        | ok o => cases o <;> simp only [] <;> exact ih _ _ _ hall.2
        | error e => cases e <;> rfl
    | object t o =>
      simp only [mapRVs, mapRV, completeItemsG] at hitem ⊢
      rw [hitem]
      cases hr : rec1 (path ++ [.idx i]) inner (.object t o) fields st with
      | mk r st1 =>
        simp only []
        cases tryNullify inner r with
        | ok o => cases o <;> simp only [] <;> exact ih _ _ _ hall.2
        | error e => cases e <;> rfl
    | skip =>
      simp only [mapRVs, mapRV, completeItemsG] at hitem ⊢
      rw [hitem]
      cases hr : rec1 (path ++ [.idx i]) inner .skip fields st with
      | mk r st1 =>
        simp only []
        cases tryNullify inner r with
        | ok o => cases o <;> simp only [] <;> exact ih _ _ _ hall.2
        | error e => cases e <;> rfl

theorem completeListG_map (rec1 : RecG ι) (rec2 : RecG κ) (hrec : RecRel h P rec1 rec2)
    (path : Path) (ty : Ty) (fields : List Sel) (items : List (RVg ι)) (st : St) (hall : AllObjs P items) :
    completeListG rec2 path ty fields (mapRVs h items) st = completeListG rec1 path ty fields items st := by
  unfold completeListG
  cases ty.shape with
  | named n => rfl
  | list inner => exact completeItemsG_map h P rec1 rec2 hrec path ty inner fields items 0 [] st hall

variable (hmap : ∀ o f a, P o → (r1 o f a).map (mapRV h) = r2 (h o) f a)
  (hok : ∀ o f a rv, P o → r1 o f a = some rv → AllObj P rv)

include hmap hok in
theorem execFieldG_map (rec1 : RecG ι) (rec2 : RecG κ) (hrec : RecRel h P rec1 rec2) (env : Env) (path : Path)
    (objTy : String) (obj : ι) (hobj : P obj) (fdef : FieldDef) (fields : List Sel) (st : St) :
    execFieldG rec2 r2 env path objTy (h obj) fdef fields st = execFieldG rec1 r1 env path objTy obj fdef fields st := by
  unfold execFieldG
  cases fields with
  | nil => rfl
  | cons f0 rest =>
    simp only []
    cases hargs : coerceArgs env f0.fargs fdef.args [] with
    | none => rfl
    | some args =>
      simp only []
      by_cases hn : f0.fname = "__typename"
      · simp only [hn, if_true]
        have := hrec path fdef.ty (.leaf (.str objTy)) (f0 :: rest) st (by simp [AllObj])
        simp only [mapRV] at this
        rw [this]
      · simp only [hn, if_false]
        rw [← hmap obj f0.fname args hobj]
        cases hr : r1 obj f0.fname args with
        | none => rfl
        | some rv =>
          have hrv := hok obj f0.fname args rv hobj hr
          have := hrec path fdef.ty rv (f0 :: rest) st hrv
          cases rv with
          | error => simp [mapRV]
          | leaf j => simp only [Option.map, mapRV] at this ⊢; rw [this]
          | list xs => simp only [Option.map, mapRV] at this ⊢; rw [this]
          | object t o => simp only [Option.map, mapRV] at this ⊢; rw [this]
          | skip => simp only [Option.map, mapRV] at this ⊢; rw [this]

include hmap hok in
theorem execGroupsG_map (rec1 : RecG ι) (rec2 : RecG κ) (hrec : RecRel h P rec1 rec2) (env : Env) (path : Path)
    (objTy : String) (obj : ι) (hobj : P obj) :
    ∀ (groups : AList (List Sel)) (acc : AList Json) (st : St),
      execGroupsG rec2 r2 env path objTy (h obj) groups acc st = execGroupsG rec1 r1 env path objTy obj groups acc st := by
  intro groups
  induction groups with
  | nil => intro acc st; rfl
  | cons g rest ih =>
    intro acc st
    obtain ⟨key, fields⟩ := g
    cases fields with
    | nil => simp only [execGroupsG]; exact ih acc st
    | cons f0 more =>
      simp only [execGroupsG]
      cases env.schema.typeField? objTy f0.fname with
      | none => simp only []; exact ih acc st
      | some fdef =>
        simp only []
        rw [execFieldG_map h P r1 r2 hmap hok rec1 rec2 hrec env _ objTy obj hobj fdef (f0 :: more) st]
        cases execFieldG rec1 r1 env (path ++ [.key key]) objTy obj fdef (f0 :: more) st with
        | mk r st1 =>
          cases r with
          | error e => rfl
          | ok o => cases o <;> simp only [] <;> exact ih _ _

include hmap hok in
theorem execSelSetG_map (rec1 : RecG ι) (rec2 : RecG κ) (hrec : RecRel h P rec1 rec2) (env : Env) (path : Path)
    (objTy : String) (obj : ι) (hobj : P obj) (sels : List Sel) (st : St) :
    execSelSetG rec2 r2 env path objTy (h obj) sels st = execSelSetG rec1 r1 env path objTy obj sels st := by
  unfold execSelSetG
  cases collectFields env objTy env.cfuel sels [] [] with
  | none => rfl
  | some vg => exact execGroupsG_map h P r1 r2 hmap hok rec1 rec2 hrec env path objTy obj hobj vg.2 [] st

include hmap hok in
theorem completeValueG_map (env : Env) : ∀ n, RecRel h P (completeValueG r1 env n) (completeValueG r2 env n) := by
  intro n
  induction n with
  | zero => intro p ty rv fields st _; rfl
  | succ n ih =>
    intro p ty rv fields st hrv
    cases rv with
    | skip => simp [mapRV, completeValueG]
    | error => simp [mapRV, completeValueG]
    | leaf j => cases j <;> simp [mapRV, completeValueG]
    | list xs =>
      simp only [mapRV, completeValueG]
      exact completeListG_map h P _ _ ih p ty fields xs st hrv
    | object t o =>
      simp only [mapRV, completeValueG]
      cases ty.shape with
      | list inner => rfl
      | named tyName =>
        simp only []
        cases env.schema.kind? tyName with
        | none => rfl
        | some k =>
          have hsel := execSelSetG_map h P r1 r2 hmap hok _ _ ih env p t o hrv (subSelections fields) st
          cases k <;> simp only [] <;> first | rfl | (rw [hsel])

include hmap hok in
theorem executeG_map (fuel : Nat) (env : Env) (root : ι) (hroot : P root) (sels : List Sel) :
    executeG fuel r2 env (h root) sels = executeG fuel r1 env root sels := by
  unfold executeG
  rw [execSelSetG_map h P r1 r2 hmap hok _ _ (completeValueG_map h P r1 r2 hmap hok env fuel) env [] _ root hroot sels]

end Functorial
open Apollo.Spec.Introspection in
/-- THE WHOLE RESPONSE: for every schema whose type names are distinct and whose `@deprecated` is the
    built-in directive, every introspection query (any selection shape: aliases, fragments, arguments,
    variables, `@skip`/`@include`, `__typename`, concrete root fields next to `__schema` / `__type`),
    every fuel: `partial_execute` as modelled = the response §4.2 + §6 prescribe, with `defaultValue`
    read as "the literal as written". -/
theorem partialExecute_eq_spec (s : ISchema) (hu : typeNamesDistinct s = true) (hdep : deprecatedIsBuiltin s = true)
    (fuel cfuel : Nat) (frags : AList Frag) (vars : AList Json) (sels : List Sel) :
    partialExecute fuel cfuel s frags vars sels = specResponse asWritten fuel cfuel s frags vars sels := by
  unfold partialExecute specResponse
  exact (executeG_map toSpec (ObjOk s) (resolveI s) (specField asWritten s)
    (fun o f a ho => resolve_spec s hdep o ho f a) (fun o f a rv _ h => resolve_ok s hu o f a rv h)
    fuel _ .root trivial sels).symm

end Apollo.Introspection
