import ApolloModel.Proofs.ExecValues
import ApolloModel.Proofs.ExecWalk2
import ApolloModel.Proofs.ExecRules
/-
C17: the link between the two models of the per-argument check — `ExecRules.argDiags` on `RVal` (values as far as
the variable rules look at them: var / null / opaque literal / list / object; the model the document-level walk
theorems are about) and `ExecValues.argValueDiags` on full `ValueCheck.Value`s (the model of §5.6.1–4).
`rvalOf` forgets the scalar literals.
-/
set_option linter.unusedVariables false
namespace Apollo.ExecValues
open Apollo Apollo.ExecRules

mutual
def rvalOf : ValueCheck.Value → RVal
  | .variable n => .var n
  | .null => .null
  | .list vs => .list (rvalsOf vs)
  | .object fs => .obj (rfieldsOf fs)
  | .int _ => .lit
  | .float _ => .lit
  | .string => .lit
  | .boolean => .lit
  | .enum _ => .lit
def rvalsOf : ValueCheck.Values → List RVal
  | .nil => []
  | .cons v tl => rvalOf v :: rvalsOf tl
def rfieldsOf : ValueCheck.Fields → List (String × RVal)
  | .nil => []
  | .cons n v tl => (n, rvalOf v) :: rfieldsOf tl
end

def rvarOf (v : XVarDef) : RVarDef := { name := v.name, ty := toTy v.ty, default := v.default, dirs := [] }
def inDefOf (name : String) (ty : ValueCheck.Ty) (hd : Bool) : InDef := { name := name, ty := toTy ty, hasDefault := hd }
def inDefOfField (f : ValueCheck.InField) : InDef := inDefOf f.name f.ty f.hasDefault

def tdiagX : TDiag → XDiag
  | .undefinedVariable _ => .value .undefinedVariable
  | .disallowedVariableUsage _ => .disallowedVariableUsage
  | _ => .value .unsupportedValueType

inductive KindRel : TKind → ValueCheck.TypeDef → Prop
  | scalar (b : Bool) : KindRel (.scalar b) (.scalar b)
  | enum (vs : List String) : KindRel .enum (.enum vs)
  | input (fields : List ValueCheck.InField) : KindRel (.inputObject (fields.map inDefOfField)) (.input fields)
  | object (i : List String) : KindRel (.object i) .other
  | interface (i : List String) : KindRel (.interface i) .other
  | union (m : List String) : KindRel (.union m) .other

/-- the two views of one schema, as far as values look at it -/
def SchemaRel (s : RSchema) (S : ValueCheck.Schema) : Prop :=
  ∀ n, (s.kindForValue n = none ∧ S.lookup n = none) ∨ ∃ k td, s.kindForValue n = some k ∧ S.lookup n = some td ∧ KindRel k td

theorem toTy_inner (t : ValueCheck.Ty) : (toTy t).innerNamedType = t.innerNamed := by
  induction t with
  | named n => rfl
  | nonNullNamed n => rfl
  | list t ih => simpa [toTy, Ty.innerNamedType, ValueCheck.Ty.innerNamed] using ih
  | nonNullList t ih => simpa [toTy, Ty.innerNamedType, ValueCheck.Ty.innerNamed] using ih

theorem toTy_isList (t : ValueCheck.Ty) : (toTy t).isList = t.isList := by cases t <;> rfl
theorem toTy_itemTy (t : ValueCheck.Ty) : itemTy (toTy t) = toTy t.itemType := by cases t <;> rfl

theorem kindRel_isInput {k : TKind} {td : ValueCheck.TypeDef} (h : KindRel k td) : k.isInput = td.isInputType := by
  cases h <;> rfl

theorem find_rvars (xvars : List XVarDef) (n : String) :
    (xvars.map rvarOf).find? (·.name == n) = (xvars.find? (fun x => x.name == n)).map rvarOf := by
  induction xvars with
  | nil => rfl
  | cons x rest ih =>
    simp only [List.map_cons, List.find?_cons]
    have : (rvarOf x).name = x.name := rfl
    rw [this]
    cases (x.name == n) <;> simp [ih]

theorem usageFails_agree (xvars : List XVarDef) (an : String) (ty : ValueCheck.Ty) (hd : Bool) (v : ValueCheck.Value) :
    ExecRules.usageFails (xvars.map rvarOf) (inDefOf an ty hd) (rvalOf v) = ExecValues.usageFails xvars ty hd v := by
  cases v <;> simp only [rvalOf, ExecRules.usageFails, ExecValues.usageFails]
  rename_i n
  rw [find_rvars]
  cases xvars.find? (fun x => x.name == n) <;> rfl

/-- a VARIABLE given directly as the argument value: the two models report the same, diagnostic for diagnostic
    (`DisallowedVariableUsage`; `UndefinedVariable`; `UnsupportedValueType` where the position's type is not an input
    type or its named type is not the variable's) -/
theorem arg_variable_agrees (s : RSchema) (S : ValueCheck.Schema) (h : SchemaRel s S) (xvars : List XVarDef)
    (an : String) (ty : ValueCheck.Ty) (hd : Bool) (n : String) :
    (argDiags s (xvars.map rvarOf) (inDefOf an ty hd) { name := an, value := rvalOf (.variable n) }).map tdiagX =
      argValueDiags S xvars ty hd (.variable n) := by
  have hu := usageFails_agree xvars an ty hd (.variable n)
  simp only [rvalOf] at hu
  simp only [argDiags, rvalOf, argValueDiags, hu]
  by_cases hf : ExecValues.usageFails xvars ty hd (.variable n) = true
  · simp [hf, tdiagX]
  · simp only [hf, Bool.false_eq_true, if_false]
    simp only [valueDiags, ValueCheck.check, inDefOf, toTy_inner]
    rcases h ty.innerNamed with ⟨h1, h2⟩ | ⟨k, td, h1, h2, hr⟩
    · simp [h1, h2]
    · simp only [h1, h2, varValueDiags, ValueCheck.variableDiags, find_rvars]
      rw [find_checkVars]
      cases hx : xvars.find? (fun x => x.name == n) with
      | none => simp [tdiagX]
      | some vd =>
        simp only [Option.map_some, rvarOf, toTy_inner, kindRel_isInput hr]
        cases hr <;> by_cases he : vd.ty.innerNamed = ty.innerNamed <;>
          simp [ValueCheck.TypeDef.isInputType, he, tdiagX]


/-! ### `UndefinedVariable` inside literals: the two descents agree -/

def HasUV (l : List TDiag) : Prop := ∃ n, TDiag.undefinedVariable n ∈ l

theorem hasUV_nil : HasUV [] ↔ False := by simp [HasUV]
theorem hasUV_append (a b : List TDiag) : HasUV (a ++ b) ↔ HasUV a ∨ HasUV b := by
  simp only [HasUV, List.mem_append]
  constructor
  · rintro ⟨n, h | h⟩
    · exact .inl ⟨n, h⟩
    · exact .inr ⟨n, h⟩
  · rintro (⟨n, h⟩ | ⟨n, h⟩)
    · exact ⟨n, .inl h⟩
    · exact ⟨n, .inr h⟩
theorem hasUV_flatMap {α : Type} (l : List α) (f : α → List TDiag) : HasUV (l.flatMap f) ↔ ∃ x ∈ l, HasUV (f x) := by
  simp only [HasUV, List.mem_flatMap]
  constructor
  · rintro ⟨n, x, hx, h⟩; exact ⟨x, hx, n, h⟩
  · rintro ⟨x, hx, n, h⟩; exact ⟨n, x, hx, h⟩
theorem hasUV_cons_flatMap {α : Type} (x : α) (l : List α) (f : α → List TDiag) :
    HasUV ((x :: l).flatMap f) ↔ HasUV (f x) ∨ HasUV (l.flatMap f) := by
  rw [List.flatMap_cons, hasUV_append]

theorem uv_not_uniqueDiags : ∀ (names seen : List String), ValueCheck.Diag.undefinedVariable ∉ ValueCheck.uniqueDiags seen names
  | [], _ => by simp [ValueCheck.uniqueDiags]
  | n :: rest, seen => by
    simp only [ValueCheck.uniqueDiags, List.mem_append, not_or]
    refine ⟨?_, uv_not_uniqueDiags rest _⟩
    split <;> simp

theorem varDefined_agree (xvars : List XVarDef) (n : String) :
    (xvars.map rvarOf).any (·.name == n) = ValueCheck.varDefined (checkVars xvars) n := by
  simp only [ValueCheck.varDefined, checkVars, List.any_map]
  rfl

theorem depth_pos' (v : RVal) : 0 < RVal.depth v := by cases v <;> simp [RVal.depth]

mutual
theorem opaque_agree (xvars : List XVarDef) : ∀ (v : ValueCheck.Value) (k : Nat), RVal.depth (rvalOf v) ≤ k →
    (HasUV (opaqueVars (xvars.map rvarOf) k (rvalOf v)) ↔ ValueCheck.Diag.undefinedVariable ∈ ValueCheck.opaqueDiags (checkVars xvars) v)
  | v, 0, h => by have := depth_pos' (rvalOf v); omega
  | .variable n, k + 1, _ => by
    simp only [rvalOf, opaqueVars, ValueCheck.opaqueDiags, varDefined_agree]
    cases ValueCheck.varDefined (checkVars xvars) n <;> simp [HasUV]
  | .list vs, k + 1, h => by
    simp only [rvalOf, RVal.depth] at h
    simp only [rvalOf, opaqueVars, ValueCheck.opaqueDiags]
    exact opaqueList_agree xvars vs k (by omega)
  | .object fs, k + 1, h => by
    simp only [rvalOf, RVal.depth] at h
    simp only [rvalOf, opaqueVars, ValueCheck.opaqueDiags, List.mem_append, uv_not_uniqueDiags, false_or]
    exact opaqueFields_agree xvars fs k (by omega)
  | .null, k + 1, _ => by simp [rvalOf, opaqueVars, ValueCheck.opaqueDiags, HasUV]
  | .int _, k + 1, _ => by simp [rvalOf, opaqueVars, ValueCheck.opaqueDiags, HasUV]
  | .float _, k + 1, _ => by simp [rvalOf, opaqueVars, ValueCheck.opaqueDiags, HasUV]
  | .string, k + 1, _ => by simp [rvalOf, opaqueVars, ValueCheck.opaqueDiags, HasUV]
  | .boolean, k + 1, _ => by simp [rvalOf, opaqueVars, ValueCheck.opaqueDiags, HasUV]
  | .enum _, k + 1, _ => by simp [rvalOf, opaqueVars, ValueCheck.opaqueDiags, HasUV]
theorem opaqueList_agree (xvars : List XVarDef) : ∀ (vs : ValueCheck.Values) (k : Nat), RVal.depthList (rvalsOf vs) ≤ k →
    (HasUV ((rvalsOf vs).flatMap (opaqueVars (xvars.map rvarOf) k)) ↔
      ValueCheck.Diag.undefinedVariable ∈ ValueCheck.opaqueList (checkVars xvars) vs)
  | .nil, k, _ => by simp [rvalsOf, ValueCheck.opaqueList, HasUV]
  | .cons v tl, k, h => by
    simp only [rvalsOf, RVal.depthList] at h
    simp only [rvalsOf, hasUV_cons_flatMap, ValueCheck.opaqueList, List.mem_append]
    rw [opaque_agree xvars v k (by omega), opaqueList_agree xvars tl k (by omega)]
theorem opaqueFields_agree (xvars : List XVarDef) : ∀ (fs : ValueCheck.Fields) (k : Nat), RVal.depthFields (rfieldsOf fs) ≤ k →
    (HasUV ((rfieldsOf fs).flatMap fun kv => opaqueVars (xvars.map rvarOf) k kv.2) ↔
      ValueCheck.Diag.undefinedVariable ∈ ValueCheck.opaqueFields (checkVars xvars) fs)
  | .nil, k, _ => by simp [rfieldsOf, ValueCheck.opaqueFields, HasUV]
  | .cons n v tl, k, h => by
    simp only [rfieldsOf, RVal.depthFields] at h
    simp only [rfieldsOf, hasUV_cons_flatMap, ValueCheck.opaqueFields, List.mem_append]
    rw [opaque_agree xvars v k (by omega), opaqueFields_agree xvars tl k (by omega)]
end


theorem uv_not_int (td : ValueCheck.TypeDef) (n : String) (i : Int) : ValueCheck.Diag.undefinedVariable ∉ ValueCheck.intDiags td n i := by
  unfold ValueCheck.intDiags; repeat' split
  all_goals simp
theorem uv_not_float (td : ValueCheck.TypeDef) (n : String) (b : Bool) : ValueCheck.Diag.undefinedVariable ∉ ValueCheck.floatDiags td n b := by
  unfold ValueCheck.floatDiags; repeat' split
  all_goals simp
theorem uv_not_string (td : ValueCheck.TypeDef) (n : String) : ValueCheck.Diag.undefinedVariable ∉ ValueCheck.stringDiags td n := by
  unfold ValueCheck.stringDiags; repeat' split
  all_goals simp
theorem uv_not_boolean (td : ValueCheck.TypeDef) (n : String) : ValueCheck.Diag.undefinedVariable ∉ ValueCheck.booleanDiags td n := by
  unfold ValueCheck.booleanDiags; repeat' split
  all_goals simp
theorem uv_not_enum (td : ValueCheck.TypeDef) (v : String) : ValueCheck.Diag.undefinedVariable ∉ ValueCheck.enumDiags td v := by
  unfold ValueCheck.enumDiags; repeat' split
  all_goals simp
theorem uv_not_required (f : ValueCheck.InField) (fs : ValueCheck.Fields) : ValueCheck.Diag.undefinedVariable ∉ ValueCheck.requiredDiags f fs := by
  unfold ValueCheck.requiredDiags; split <;> simp
theorem uv_not_undefinedField (fields : List ValueCheck.InField) (names : List String) :
    ValueCheck.Diag.undefinedVariable ∉ ValueCheck.undefinedFieldDiags fields names := by
  unfold ValueCheck.undefinedFieldDiags; split <;> simp
theorem not_hasUV_keyDiags (fields : List InDef) (kvs : List (String × RVal)) : ¬ HasUV (keyDiags fields kvs) := by
  unfold keyDiags HasUV; split <;> simp


/-- scalar and enum literals and `null` contain no variable: neither descent reports `UndefinedVariable` for them -/
theorem leaf_agree (s : RSchema) (S : ValueCheck.Schema) (xvars : List XVarDef) (v : ValueCheck.Value) (hl : IsLeaf v)
    (ty : ValueCheck.Ty) (k : Nat) :
    HasUV (valueDiags s (xvars.map rvarOf) k (toTy ty) (rvalOf v)) ↔
      ValueCheck.Diag.undefinedVariable ∈ ValueCheck.check S (checkVars xvars) ty v := by
  refine iff_of_false ?_ ?_
  · cases k with
    | zero => simp [valueDiags, HasUV]
    | succ k => cases v <;> simp only [IsLeaf] at hl <;> simp only [rvalOf, valueDiags] <;> split <;> simp [HasUV]
  · cases v <;> simp only [IsLeaf] at hl <;> simp only [ValueCheck.check] <;> split <;>
      simp [uv_not_int, uv_not_float, uv_not_string, uv_not_boolean, uv_not_enum]

section Agree
variable (s : RSchema) (S : ValueCheck.Schema) (hrel : SchemaRel s S) (xvars : List XVarDef)
include hrel


mutual
theorem check_agree : ∀ (v : ValueCheck.Value) (ty : ValueCheck.Ty) (k : Nat), RVal.depth (rvalOf v) ≤ k →
    (HasUV (valueDiags s (xvars.map rvarOf) k (toTy ty) (rvalOf v)) ↔
      ValueCheck.Diag.undefinedVariable ∈ ValueCheck.check S (checkVars xvars) ty v)
  | v, ty, 0, h => by have := depth_pos' (rvalOf v); omega
  | .int i, ty, k + 1, _ => leaf_agree s S xvars (.int i) trivial ty _
  | .float b, ty, k + 1, _ => leaf_agree s S xvars (.float b) trivial ty _
  | .string, ty, k + 1, _ => leaf_agree s S xvars .string trivial ty _
  | .boolean, ty, k + 1, _ => leaf_agree s S xvars .boolean trivial ty _
  | .enum e, ty, k + 1, _ => leaf_agree s S xvars (.enum e) trivial ty _
  | .null, ty, k + 1, _ => leaf_agree s S xvars .null trivial ty _
  | .variable n, ty, k + 1, _ => by
    simp only [rvalOf, valueDiags, ValueCheck.check, toTy_inner]
    rcases hrel ty.innerNamed with ⟨h1, h2⟩ | ⟨kd, td, h1, h2, hr⟩
    · simp [h1, h2, HasUV]
    · simp only [h1, h2, varValueDiags, ValueCheck.variableDiags, find_rvars, find_checkVars]
      cases hx : xvars.find? (fun x => x.name == n) with
      | none => simp [HasUV]
      | some vd =>
        simp only [Option.map_some]
        constructor
        · intro h; exfalso; revert h; split <;> simp [HasUV]
        · intro h; exfalso; revert h; cases td <;> (try split) <;> simp
  | .list vs, ty, k + 1, h => by
    simp only [rvalOf, RVal.depth] at h
    simp only [rvalOf, valueDiags, ValueCheck.check, toTy_inner]
    rcases hrel ty.innerNamed with ⟨h1, h2⟩ | ⟨kd, td, h1, h2, hr⟩
    · simp [h1, h2, HasUV]
    · simp only [h1, h2]
      cases hl : ty.isList with
      | true =>
        have hi := kindRel_isInput hr
        cases hin : td.isInputType with
        | true =>
          simp only [acceptsList, toTy_isList, hl, Bool.true_or, Bool.not_true, Bool.false_eq_true, if_false, hi, hin, if_true,
            toTy_itemTy]
          exact checkItems_agree vs ty.itemType k (by omega)
        | false =>
          simp [acceptsList, toTy_isList, hl, hi, hin, HasUV]
      | false =>
        cases hr with
        | scalar b =>
          cases b with
          | false =>
            simp only [acceptsList, toTy_isList, hl, Bool.false_or, Bool.not_true, Bool.not_false, Bool.false_eq_true, if_false, if_true]
            exact opaqueList_agree xvars vs k (by omega)
          | true => simp [acceptsList, toTy_isList, hl, HasUV]
        | _ => simp [acceptsList, toTy_isList, hl, HasUV]
  | .object fs, ty, k + 1, h => by
    simp only [rvalOf, RVal.depth] at h
    simp only [rvalOf, valueDiags, ValueCheck.check, toTy_inner]
    rcases hrel ty.innerNamed with ⟨h1, h2⟩ | ⟨kd, td, h1, h2, hr⟩
    · simp [h1, h2, HasUV]
    · simp only [h1, h2]
      cases hr with
      | scalar b =>
        cases b with
        | false =>
          simp only [List.mem_append, uv_not_uniqueDiags, false_or]
          exact opaqueFields_agree xvars fs k (by omega)
        | true => simp [HasUV]
      | input fields =>
        simp only [hasUV_append, not_hasUV_keyDiags, false_or, List.mem_append, uv_not_uniqueDiags, uv_not_undefinedField,
          List.flatMap_map, hasUV_flatMap, List.mem_flatMap, uv_not_required]
        constructor
        · rintro ⟨f, hf, hu⟩
          exact ⟨f, hf, (checkFirst_agree fs f.ty f.name k (by omega)).mp hu⟩
        · rintro ⟨f, hf, hu⟩
          exact ⟨f, hf, (checkFirst_agree fs f.ty f.name k (by omega)).mpr hu⟩
      | _ => simp [HasUV]
theorem checkItems_agree : ∀ (vs : ValueCheck.Values) (ty : ValueCheck.Ty) (k : Nat), RVal.depthList (rvalsOf vs) ≤ k →
    (HasUV ((rvalsOf vs).flatMap (valueDiags s (xvars.map rvarOf) k (toTy ty))) ↔
      ValueCheck.Diag.undefinedVariable ∈ ValueCheck.checkItems S (checkVars xvars) ty vs)
  | .nil, ty, k, _ => by simp [rvalsOf, ValueCheck.checkItems, HasUV]
  | .cons v tl, ty, k, h => by
    simp only [rvalsOf, RVal.depthList] at h
    simp only [rvalsOf, hasUV_cons_flatMap, ValueCheck.checkItems, List.mem_append]
    rw [check_agree v ty k (by omega), checkItems_agree tl ty k (by omega)]
theorem checkFirst_agree : ∀ (fs : ValueCheck.Fields) (ty : ValueCheck.Ty) (name : String) (k : Nat),
    RVal.depthFields (rfieldsOf fs) ≤ k →
    (HasUV (match (rfieldsOf fs).find? (·.1 == name) with
        | some (_, x) => valueDiags s (xvars.map rvarOf) k (toTy ty) x
        | none => []) ↔
      ValueCheck.Diag.undefinedVariable ∈ ValueCheck.checkFirst S (checkVars xvars) ty name fs)
  | .nil, ty, name, k, _ => by simp [rfieldsOf, ValueCheck.checkFirst, HasUV]
  | .cons n v tl, ty, name, k, h => by
    simp only [rfieldsOf, RVal.depthFields] at h
    simp only [rfieldsOf, List.find?_cons, ValueCheck.checkFirst]
    by_cases hn : (n == name) = true
    · simp only [hn, if_true]
      exact check_agree v ty k (by omega)
    · simp only [hn, Bool.false_eq_true, if_false]
      exact checkFirst_agree tl ty name k (by omega)
end

end Agree



/-! ### the value walk never reports `DisallowedVariableUsage` -/

theorem argDiags_disallowed (s : RSchema) (vars : List RVarDef) (df : InDef) (a : RArg) (n : String)
    (h : TDiag.disallowedVariableUsage n ∈ argDiags s vars df a) :
    a.value = .var n ∧ argDiags s vars df a = [.disallowedVariableUsage n] := by
  unfold argDiags at h ⊢
  split at h
  · rename_i m hv
    rw [hv]
    by_cases hf : ExecRules.usageFails vars df (.var m) = true
    · simp only [hf, if_true, List.mem_singleton] at h ⊢
      cases h
      exact ⟨rfl, rfl⟩
    · simp only [hf, Bool.false_eq_true, if_false] at h
      exact absurd h (dis_not_valueDiags s vars n _ _ _)
  · exact absurd h (dis_not_valueDiags s vars n _ _ _)

theorem value_mem_map (l : List ValueCheck.Diag) (d : ValueCheck.Diag) : XDiag.value d ∈ l.map XDiag.value ↔ d ∈ l := by
  simp [List.mem_map]

/-- `UndefinedVariable` for one argument: the two models agree, whatever the value (variables at any depth of lists,
    input objects and custom-scalar literals) -/
theorem arg_undefinedVariable_agrees (s : RSchema) (S : ValueCheck.Schema) (hrel : SchemaRel s S) (xvars : List XVarDef)
    (an : String) (ty : ValueCheck.Ty) (hd : Bool) (v : ValueCheck.Value) :
    HasUV (argDiags s (xvars.map rvarOf) (inDefOf an ty hd) { name := an, value := rvalOf v }) ↔
      XDiag.value .undefinedVariable ∈ argValueDiags S xvars ty hd v := by
  have hu := usageFails_agree xvars an ty hd v
  have key : ∀ k, RVal.depth (rvalOf v) ≤ k →
      (HasUV (valueDiags s (xvars.map rvarOf) k (toTy ty) (rvalOf v)) ↔
        XDiag.value .undefinedVariable ∈ (ValueCheck.check S (checkVars xvars) ty v).map XDiag.value) := by
    intro k hk
    rw [value_mem_map]
    exact check_agree s S hrel xvars v ty k hk
  cases v with
  | «variable» n =>
    simp only [rvalOf] at hu key
    simp only [argDiags, rvalOf, argValueDiags, hu]
    by_cases hf : ExecValues.usageFails xvars ty hd (.variable n) = true
    · simp [hf, HasUV]
    · simp only [hf, Bool.false_eq_true, if_false]
      exact key 2 (by simp [RVal.depth])
  | _ => simpa [argDiags, rvalOf, argValueDiags, ExecValues.usageFails, inDefOf] using key _ (Nat.le_succ _)

theorem arg_disallowed_agrees (s : RSchema) (S : ValueCheck.Schema) (xvars : List XVarDef)
    (an : String) (ty : ValueCheck.Ty) (hd : Bool) (v : ValueCheck.Value) :
    XDiag.disallowedVariableUsage ∈ argValueDiags S xvars ty hd v ↔
      ∃ n, v = .variable n ∧
        argDiags s (xvars.map rvarOf) (inDefOf an ty hd) { name := an, value := rvalOf v } = [.disallowedVariableUsage n] := by
  have hu := usageFails_agree xvars an ty hd v
  by_cases hf : ExecValues.usageFails xvars ty hd v = true
  · cases v with
    | «variable» n =>
      simp only [rvalOf] at hu
      simp [argDiags, rvalOf, argValueDiags, hu, hf]
    | _ => simp [ExecValues.usageFails] at hf
  · have hf' : ExecValues.usageFails xvars ty hd v = false := by simpa using hf
    constructor
    · intro h
      simp [argValueDiags, hf'] at h
    · rintro ⟨n, rfl, h⟩
      simp only [rvalOf] at hu
      simp only [argDiags, rvalOf, hu, hf', Bool.false_eq_true, if_false] at h
      exact absurd (h ▸ List.mem_singleton.mpr rfl) (dis_not_valueDiags s _ n _ _ _)

theorem arg_quiet_variables (s : RSchema) (S : ValueCheck.Schema) (hrel : SchemaRel s S) (xvars : List XVarDef)
    (an : String) (ty : ValueCheck.Ty) (hd : Bool) (v : ValueCheck.Value)
    (h : argDiags s (xvars.map rvarOf) (inDefOf an ty hd) { name := an, value := rvalOf v } = []) :
    XDiag.disallowedVariableUsage ∉ argValueDiags S xvars ty hd v ∧
      XDiag.value .undefinedVariable ∉ argValueDiags S xvars ty hd v := by
  constructor
  · intro hm
    obtain ⟨n, _, he⟩ := (arg_disallowed_agrees s S xvars an ty hd v).mp hm
    rw [h] at he; cases he
  · intro hm
    have := (arg_undefinedVariable_agrees s S hrel xvars an ty hd v).mpr hm
    rw [h] at this
    exact hasUV_nil.mp this

end Apollo.ExecValues
