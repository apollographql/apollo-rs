import ApolloModel.Proofs.ParserExactT6
/-
C05, exact soundness for the type-system family: definitions of the shape `Description? keyword Name tail` entered
the way the dispatcher enters them (`DStart`): the keyword IS consumed; `Directives? Body?` (`dirsBody`) with the budget and
with the follow fact "the next token is not the body opener when the body is absent" (`HeadNot`).
-/
set_option linter.unusedSimpArgs false
namespace Apollo.Parse.Exact
open Apollo.Rowan hiding Str
open Apollo.Lex hiding Str

/-- the body of `accL_defEntered` (ParserDef16) without its node -/
theorem accL_defEnteredBody (word : String) (hw : KwWord word) (sk : SK) (tail : PI Unit) (L : List Ast.Tok → Prop)
    (ht : Acc E0 LexQ tail (fun _ => L)) :
    Acc E0 (fun q => LexQ q ∧ DefStart word q) (optKind .stringValue description (optKw word sk tail))
      (fun _ x => ∃ desc x2, x = Ast.tDescription desc ++ .name word.toList :: x2 ∧ L x2) := by
  have hkw := accL_optKw_there early_false word hw sk tail _ ht
  have hname : ∀ q t, LexQ q → q.head? = some t → t.data = word.toList → t.kind = .name := by
    intro q t hl hh hd
    obtain ⟨c, r, hc1, hc2⟩ := hw
    exact hl.headKw hh word c r hc1 hc2 hd
  unfold optKind
  apply acc_peek
  intro k
  apply acc_ite
  · intro hk
    have hk' : k = some Kind.stringValue := by simpa using hk
    -- the head is a string: the description case
    have hd : Acc E0 (fun q => (LexQ q ∧ DefStart word q) ∧ q.head?.map (·.kind) = k) description
        (fun _ x => ∃ d, x = Ast.tDescription (some d)) :=
      (acc_description early_false).mono (fun q hq => kindP_of_head hq.2 hk) (fun _ _ h => h)
    refine (acc_bind_transfer early_false (H2 := fun q => LexQ q ∧ HeadData word q) hd ?_ (fun _ => hkw)).mono (fun _ h => h) ?_
    · rintro s _ s1 w ⟨⟨hl, hs⟩, hkind⟩ hrun
      rcases hs with ⟨t, hh, hd'⟩ | ⟨t, rest, t2, hq, hkt, hh2, hd2⟩
      · exfalso
        have := hname _ t hl hh hd'
        rw [hh, hk'] at hkind
        simp [this] at hkind
      · obtain ⟨ign, e1, hall, set1⟩ := description_spec s s1 w t rest hq (by rw [hkt]; rfl) hrun
        have hrest : rest = ign ++ Toks s1 := by
          have := e1.toks; rw [hq] at this; simpa using this
        refine ⟨by have := hl; rw [e1.toks] at this; exact this.suffix, t2, ?_, hd2⟩
        rw [hrest, sig_append, sig_ignored ign hall] at hh2
        simp only [List.nil_append] at hh2
        cases hq1 : Toks s1 with
        | nil => rw [hq1] at hh2; cases hh2
        | cons a b =>
          have hsa : isIgnoredKind a.kind = false := set1.2 a (by rw [set1.1, hq1]; rfl)
          have hab : a :: b = [a] ++ b := rfl
          rw [hq1, hab, sig_append, sig_single a hsa] at hh2
          simpa using hh2
    · rintro _ x ⟨_, x1, x2, e, ⟨d, h1⟩, x3, e3, h3⟩
      exact ⟨some d, x3, by rw [e, h1, e3], h3⟩
  · intro hk
    refine hkw.mono ?_ (fun _ x ⟨x2, e, h2⟩ => ⟨none, x2, by rw [e]; rfl, h2⟩)
    rintro q ⟨⟨hl, hs⟩, hkind⟩
    rcases hs with hs | ⟨t, rest, t2, hq, hkt, _, _⟩
    · exact ⟨hl, hs⟩
    · exfalso
      rw [hq] at hkind
      simp only [List.head?_cons, Option.map_some] at hkind
      rw [← hkind, hkt] at hk
      simp at hk

theorem dStart_sig {w : Str} {q : List Tok} (h : DStart w q) : ∃ t rest, q = t :: rest ∧ isIgnoredKind t.kind = false := by
  obtain ⟨t, rest, hq, hor⟩ := h
  refine ⟨t, rest, hq, ?_⟩
  rcases hor with ⟨hk | hk, _⟩ | ⟨hk, _⟩ <;> rw [hk] <;> rfl

/-- **`Description? keyword Name tail` entered by the dispatcher**: the keyword is consumed, the tail runs at the budget
    of the start state, on a lexer queue; `L` may also speak about the token current at the end -/
theorem defShape_soundEL (word : String) (sk : SK) (hw : KwWord word) (n : Nat) (tail : PI Unit) (L : Nat → Option Tok → List Ast.Tok → Prop)
    (gt : Good tail)
    (ht : ∀ s s', TW s → EofEnd s → LexQ (Toks s) → tail.run s = .ok () s' → ¬ Doomed s' → Cons s s' (L (bud s) s'.current))
    (s s' : PState) (w : TW s) (he : EofEnd s) (hq : LexQ (Toks s)) (hs : DefStart word (Toks s))
    (h : (defShape word sk n tail).run s = .ok () s') (hnd : ¬ Doomed s') :
    Cons s s' (fun x => ∃ desc nm x2, x = Ast.tDescription desc ++ .name word.toList :: .name nm :: x2 ∧ L (bud s) s'.current x2) := by
  obtain ⟨s1, h1, h2⟩ := defShape_split word sk n tail s s' h
  have hacc := accL_defEnteredBody word hw sk (nameOrErr >>= fun _ => (pure () : PI Unit)) (fun x => ∃ nm, x = [.name nm])
    ((accL_bind early_false (fun _ h => h) acc_nameOrErr (fun _ => (acc_pure E0 LexQ ()).mono (fun _ h => h) (fun _ _ h => h.2))).mono (fun _ h => h)
      (by rintro _ x ⟨_, x1, x2, e, ⟨nm, h1⟩, h2⟩; exact ⟨nm, by rw [e, h1, h2]; rfl⟩))
  have h1' : (optKind .stringValue description (optKw word sk (nameOrErr >>= fun _ => (pure () : PI Unit)))).run s = .ok () s1 := h1
  have a1 := hacc.1 s () s1 w h1'
  have hnd1 : ¬ Doomed s1 := fun d => hnd ((gt s1 () s' a1.w h2).doom d)
  have c1 := cons_of_acc hacc s s1 () w he ⟨hq, hs⟩ h1' hnd1
  have hq1 : LexQ (Toks s1) := by
    obtain ⟨cs, _, a, _⟩ := c1
    rw [a] at hq; exact hq.suffix
  have c2 := ht s1 s' a1.w c1.eofEnd hq1 h2 hnd
  refine (c1.seq c2).weaken ?_
  rintro z ⟨x, y, rfl, ⟨desc, x2, rfl, nm, rfl⟩, hy⟩
  rw [bud_adv a1] at hy
  exact ⟨desc, nm, y, by simp, hy⟩

theorem defNode_soundL (K : SK) (word : String) (sk : SK) (hw : KwWord word) (n : Nat) (tail : PI Unit) (L : Nat → Option Tok → List Ast.Tok → Prop)
    (gt : Good tail)
    (ht : ∀ s s', TW s → EofEnd s → LexQ (Toks s) → tail.run s = .ok () s' → ¬ Doomed s' → Cons s s' (L (bud s) s'.current))
    (s s' : PState) (w : TW s) (he : EofEnd s) (hq : LexQ (Toks s)) (hs : DStart word.toList (Toks s))
    (h : (withNode K (defShape word sk n tail)).run s = .ok () s') (hnd : ¬ Doomed s') :
    Cons s s' (fun x => ∃ desc nm x2, x = Ast.tDescription desc ++ .name word.toList :: .name nm :: x2 ∧ L (bud s) s'.current x2) := by
  obtain ⟨t, rest, htq, hni⟩ := dStart_sig hs
  obtain ⟨s1, s2, e1, h1, o2, _, he1, hnd2⟩ := withNode_entered _ _ s s' () t rest w he htq hni h hnd
  have h0 : Toks s = Toks s1 := by simpa using e1.toks
  have c := defShape_soundEL word sk hw n tail L gt ht s1 s2 e1.w he1 (by rw [← h0]; exact hq)
    (by rw [← h0]; exact defStart_of_DStart word _ hs) h1 hnd2
  refine (c.node e1 o2).weaken ?_
  rintro z ⟨desc, nm, x2, rfl, hl⟩
  rw [bud_eat e1, ← o2.current] at hl
  exact ⟨desc, nm, x2, rfl, hl⟩

theorem defNode_sound (K : SK) (word : String) (sk : SK) (hw : KwWord word) (n : Nat) (tail : PI Unit) (L : Nat → Option Tok → List Ast.Tok → Prop)
    (gt : Good tail)
    (ht : ∀ s s', TW s → EofEnd s → tail.run s = .ok () s' → ¬ Doomed s' → Cons s s' (L (bud s) s'.current))
    (s s' : PState) (w : TW s) (he : EofEnd s) (hq : LexQ (Toks s)) (hs : DStart word.toList (Toks s))
    (h : (withNode K (defShape word sk n tail)).run s = .ok () s') (hnd : ¬ Doomed s') :
    Cons s s' (fun x => ∃ desc nm x2, x = Ast.tDescription desc ++ .name word.toList :: .name nm :: x2 ∧ L (bud s) s'.current x2) :=
  defNode_soundL K word sk hw n tail L gt (fun q q' wq heq _ => ht q q' wq heq) s s' w he hq hs h hnd

theorem defNode_settled (K : SK) (word : String) (sk : SK) (n : Nat) (tail : PI Unit) (gt : Good tail) (ht : SP tail)
    (s s' : PState) (w : TW s) (h : (withNode K (defShape word sk n tail)).run s = .ok () s') (hnd : ¬ Doomed s') : Settled s' := by
  rcases se_withNode K _ (se_defShape word sk n tail gt ht).sp s () s' w h with h1 | h1
  · exact h1
  · exact absurd h1 hnd

def HeadNot (k0 : Kind) (s : PState) : Prop := ∀ t, (Toks s).head? = some t → t.kind ≠ k0

theorem HeadNot.toks {k0 : Kind} {s s' : PState} (h : HeadNot k0 s) (ht : Toks s' = Toks s) : HeadNot k0 s' := by
  intro t hh; rw [ht] at hh; exact h t hh

theorem HeadNot.current {k0 : Kind} {s : PState} (h : HeadNot k0 s) (t : Tok) (hc : s.current = some t) : t.kind ≠ k0 :=
  h t (by simp [Toks, hc])

/-- `if peek == k0 { body }` with a budgeted body; when the body is absent the next token is not `k0` -/
theorem optBodyK_sound (k0 : Kind) (body : PI Unit) (L : Nat → List Ast.Tok → Prop)
    (hb : ∀ s s' t rest, TW s → EofEnd s → Toks s = t :: rest → t.kind = k0 → body.run s = .ok () s' → ¬ Doomed s' → Cons s s' (L (bud s)))
    (s s' : PState) (w : TW s) (he : EofEnd s) (h : (optBodyK k0 body).run s = .ok () s') (hnd : ¬ Doomed s') :
    Cons s s' (fun x => L (bud s) x ∨ (x = [] ∧ HeadNot k0 s')) := by
  unfold optBodyK at h
  obtain ⟨sP, o, p, hor⟩ := ifPeek_dec k0 _ _ s s' () w h
  have heP := p.eofEnd he
  rcases hor with ⟨hk, h2⟩ | ⟨hk, h2⟩
  · obtain ⟨t, rfl, hkt⟩ := peeked_kind hk
    have c := hb sP s' t _ p.w heP p.head_cons hkt h2 hnd
    exact (c.transport p.toks.symm rfl c.eofEnd).weaken (fun x hx => Or.inl (by rw [bud_peek p] at hx; exact hx))
  · rw [run_pure] at h2
    injection h2 with _ h2
    subst h2
    refine (Cons.nil p.toks heP).weaken ?_
    rintro x rfl
    refine Or.inr ⟨rfl, ?_⟩
    intro t ht hkt
    apply hk
    have ho : o = some t := by rw [p.head, ← p.toks]; exact ht
    rw [ho]; simp [hkt]

theorem good_optBodyKH (k0 : Kind) (body : PI Unit) (gb : Good body) : Good (optBodyK k0 body) :=
  good_ifPeek k0 body gb

/-- `Directives? Body?` (`dirsBody`): constant directives within the budget, the body budgeted -/
theorem dirsBody_soundH (n : Nat) (k0 : Kind) (body : PI Unit) (L : Nat → List Ast.Tok → Prop) (gb : Good body)
    (hb : ∀ s s' t rest, TW s → EofEnd s → Toks s = t :: rest → t.kind = k0 → body.run s = .ok () s' → ¬ Doomed s' → Cons s s' (L (bud s)))
    (s s' : PState) (w : TW s) (he : EofEnd s) (h : (dirsBody n k0 body).run s = .ok () s') (hnd : ¬ Doomed s') :
    Cons s s' (fun x => ∃ ds x2, x = Ast.tDirectives ds ++ x2 ∧ dirsFit true (bud s) ds ∧ (L (bud s) x2 ∨ (x2 = [] ∧ HeadNot k0 s'))) := by
  unfold dirsBody optKind at h
  obtain ⟨s1, h1, h2⟩ := optThen_dec .at (directives n true) (optBodyK k0 body) s s' h
  have a1 := good_opt .at _ (good_directives n true) s () s1 w h1
  have hnd1 : ¬ Doomed s1 := fun d => hnd ((good_optBodyKH k0 body gb s1 () s' a1.w h2).doom d)
  have c1 := optDirsEnd_sound n s s1 w he (by unfold optDirsEnd; exact h1) hnd1
  have c2 := optBodyK_sound k0 body L hb s1 s' a1.w c1.eofEnd h2 hnd
  refine (c1.seq c2).weaken ?_
  rintro z ⟨x, y, rfl, ⟨ds, rfl, hds⟩, hy⟩
  rw [bud_adv a1] at hy
  exact ⟨ds, y, rfl, hds, hy⟩

theorem good_dirsBodyK (n : Nat) (k0 : Kind) (body : PI Unit) (gb : Good body) : Good (dirsBody n k0 body) :=
  good_bind _ _ good_peek (fun _ => good_ite _ _ _ (good_bind _ _ (good_directives n true) (fun _ => good_optBodyKH k0 body gb)) (good_optBodyKH k0 body gb))

theorem dirsBody_sound (n : Nat) (body : PI Unit) (LB : Nat → List Ast.Tok → Prop) (gb : Good body)
    (hb : ∀ s s' t rest, TW s → EofEnd s → Toks s = t :: rest → t.kind = .lCurly → body.run s = .ok () s' → ¬ Doomed s' → Cons s s' (LB (bud s)))
    (s s' : PState) (w : TW s) (he : EofEnd s) (h : (dirsBody n .lCurly body).run s = .ok () s') (hnd : ¬ Doomed s') :
    Cons s s' (fun x => ∃ ds x2, x = Ast.tDirectives ds ++ x2 ∧ dirsFit true (bud s) ds ∧
      (LB (bud s) x2 ∨ (x2 = [] ∧ ∀ t, s'.current = some t → t.kind ≠ .lCurly))) :=
  (dirsBody_soundH n .lCurly body LB gb hb s s' w he h hnd).weaken
    (fun _ ⟨ds, x2, e, hds, hor⟩ => ⟨ds, x2, e, hds, hor.imp_right (fun ⟨e2, hh⟩ => ⟨e2, hh.current⟩)⟩)

theorem dstart_head {w : Str} {q : List Tok} (c : Char) (r : Str) (hw : w = c :: r) (hc : isNameStart c = true)
    (h : LexQ q ∧ DStart w q) : ∃ t rest, q = t :: rest ∧ isIgnoredKind t.kind = false :=
  dStart_sig h.2

theorem good_unionMemberTypes : Good unionMemberTypes := (acc_unionMemberTypes (E := E0) early_false).1

end Apollo.Parse.Exact
