import ApolloModel.Proofs.ExecutionSpec
/- C26: the executor model refines the specification's algorithms: CompleteValue, the list
   loop, ExecuteField, the field loop, ExecuteSelectionSet, and the whole execution (`execute_eq_spec`). -/
namespace Apollo.ExecSpec
open Apollo Apollo.Exec

/-- reading a specification outcome in the Rust shape -/
def toOut : Res (Option Json) → Out
  | .ok v => .ok v
  | .raised => .error .propagate
  | .outOfFuel => .error .fuel

def toMap : Res (AList Json) → Except Fail (AList Json)
  | .ok m => .ok m
  | .raised => .error .propagate
  | .outOfFuel => .error .fuel

/-- catching at a position = `try_nullify` with the position's type -/
theorem toOut_catchAt (ty : Ty) (r : Res (Option Json)) : toOut (catchAt ty r) = tryNullify ty (toOut r) := by
  cases r with
  | ok v => rfl
  | outOfFuel => rfl
  | raised => cases h : ty.isNonNull <;> simp [catchAt, toOut, tryNullify, h]

theorem tryNullify_idem (ty : Ty) (r : Out) : tryNullify ty (tryNullify ty r) = tryNullify ty r := by
  cases r with
  | ok v => rfl
  | error e =>
    cases e with
    | fuel => rfl
    | propagate => cases h : ty.isNonNull <;> simp [tryNullify, h]

/-- The model's `complete_value` and the specification's CompleteValue, seen from the position that
    called them: the model may already have turned a propagation into `null` (`complete_list_value`
    nullifies the list itself), the specification leaves every catch to the position; after the
    position's own catch the two agree, with the same errors. -/
def Refines (recM : Rec) (recS : Complete) : Prop :=
  ∀ path ty rv fields st,
    (tryNullify ty (recM path ty rv fields st).1, (recM path ty rv fields st).2) =
    (toOut (catchAt ty (recS path ty rv fields st).1), (recS path ty rv fields st).2)

theorem items_refine (recM : Rec) (recS : Complete) (href : Refines recM recS) (path : Path) (ty inner : Ty) (fields : List Sel) :
    ∀ items i acc st,
      (tryNullify ty (Exec.completeItems recM path ty inner fields items i acc st).1,
        (Exec.completeItems recM path ty inner fields items i acc st).2) =
      (toOut (catchAt ty (completeItems recS Choices.apollo path inner fields items i acc st).1),
        (completeItems recS Choices.apollo path inner fields items i acc st).2) := by
  intro items
  induction items with
  | nil => intro i acc st; rfl
  | cons item rest ih =>
    intro i acc st
    by_cases he : item = RV.error
    · subst he
      simp only [Exec.completeItems, completeItems, Choices.apollo, if_true, raise]
      rw [toOut_catchAt]
      rfl
    · have hM : Exec.completeItems recM path ty inner fields (item :: rest) i acc st =
          (match recM (path ++ [.idx i]) inner item fields st with
          | (r, st1) =>
            match tryNullify inner r with
            | .ok none => Exec.completeItems recM path ty inner fields rest (i + 1) acc st1
            | .ok (some v) => Exec.completeItems recM path ty inner fields rest (i + 1) (acc ++ [v]) st1
            | .error .propagate => (tryNullify ty (.error .propagate), st1)
            | .error .fuel => (.error .fuel, st1)) := by
        cases item <;> first | rfl | exact absurd rfl he
      have hS : completeItems recS Choices.apollo path inner fields (item :: rest) i acc st =
          (match recS (path ++ [.idx i]) inner item fields st with
          | (completedItem, st1) =>
            match catchAt inner completedItem with
            | .raised => (.raised, st1)
            | .outOfFuel => (.outOfFuel, st1)
            | .ok none => completeItems recS Choices.apollo path inner fields rest (i + 1) acc st1
            | .ok (some v) => completeItems recS Choices.apollo path inner fields rest (i + 1) (acc ++ [v]) st1) := by
        cases item <;> first | rfl | exact absurd rfl he
      rw [hM, hS]
      have hr := href (path ++ [.idx i]) inner item fields st
      generalize recM (path ++ [.idx i]) inner item fields st = resM at *
      generalize recS (path ++ [.idx i]) inner item fields st = resS at *
      obtain ⟨rm, stm⟩ := resM
      obtain ⟨rs, sts⟩ := resS
      simp only [Prod.mk.injEq] at hr
      obtain ⟨hval, hst⟩ := hr
      subst hst
      simp only
      rw [hval]
      cases hc : catchAt inner rs with
      | raised =>
        show (tryNullify ty (tryNullify ty (.error .propagate)), stm) = (toOut (catchAt ty .raised), stm)
        rw [tryNullify_idem, toOut_catchAt]
        rfl
      | outOfFuel => rfl
      | ok o =>
        cases o with
        | none => simp only [toOut]; exact ih (i + 1) acc stm
        | some v => simp only [toOut]; exact ih (i + 1) (acc ++ [v]) stm

/-- ExecuteField + the catch of its position = `execute_field` (which nullifies itself) -/
theorem execField_refines (recM : Rec) (recS : Complete) (href : Refines recM recS) (env : Env) (path : Path)
    (objTy : String) (objId : Nat) (fdef : FieldDef) (f0 : Sel) (tl : List Sel) (st : St) :
    Exec.execField recM env path objTy objId fdef (f0 :: tl) st =
      (toOut (catchAt fdef.ty (executeField recS Choices.apollo env path objTy objId fdef f0 (f0 :: tl) st).1),
       (executeField recS Choices.apollo env path objTy objId fdef f0 (f0 :: tl) st).2) := by
  unfold executeField
  rw [coerceArgumentValues_eq]
  unfold Exec.execField
  cases hargs : coerceArgs env f0.fargs fdef.args [] with
  | none =>
    simp only [hargs, raise]
    rw [toOut_catchAt]
    cases h : fdef.ty.isNonNull <;> simp [toOut, tryNullify, h]
  | some args =>
    simp only [hargs, resolveFieldValue_eq]
    by_cases hn : f0.fname = "__typename"
    · simp only [hn, if_true]
      have := href path fdef.ty (.leaf (.str objTy)) (f0 :: tl) st
      simp only [Prod.mk.injEq] at this ⊢
      exact this
    · simp only [hn, if_false]
      cases hw : env.world.get? objId f0.fname with
      | none =>
        simp only [raise]
        rw [toOut_catchAt]
        rfl
      | some rv =>
        cases rv with
        | error =>
          simp only [raise]
          rw [toOut_catchAt]
          rfl
        | echo =>
          have := href path fdef.ty (.leaf (.obj args)) (f0 :: tl) st
          simp only [Prod.mk.injEq] at this ⊢
          exact this
        | leaf j =>
          have := href path fdef.ty (.leaf j) (f0 :: tl) st
          simp only [Prod.mk.injEq] at this ⊢
          exact this
        | list items =>
          have := href path fdef.ty (.list items) (f0 :: tl) st
          simp only [Prod.mk.injEq] at this ⊢
          exact this
        | object t id =>
          have := href path fdef.ty (.object t id) (f0 :: tl) st
          simp only [Prod.mk.injEq] at this ⊢
          exact this
        | skip =>
          have := href path fdef.ty .skip (f0 :: tl) st
          simp only [Prod.mk.injEq] at this ⊢
          exact this

theorem groups_refine (recM : Rec) (recS : Complete) (href : Refines recM recS) (env : Env) (path : Path)
    (objTy : String) (objId : Nat) : ∀ groups acc st,
    Exec.execGroups recM env path objTy objId groups acc st =
      (toMap (executeGroups recS Choices.apollo env path objTy objId groups acc st).1,
       (executeGroups recS Choices.apollo env path objTy objId groups acc st).2) := by
  intro groups
  induction groups with
  | nil => intro acc st; rfl
  | cons g rest ih =>
    intro acc st
    obtain ⟨key, fields⟩ := g
    cases fields with
    | nil => simp only [Exec.execGroups, executeGroups]; exact ih acc st
    | cons f0 tl =>
      simp only [Exec.execGroups, executeGroups]
      cases htf : env.schema.typeField? objTy f0.fname with
      | none => simp only; exact ih acc st
      | some fdef =>
        simp only
        rw [execField_refines recM recS href env (path ++ [Seg.key key]) objTy objId fdef f0 tl st]
        generalize executeField recS Choices.apollo env (path ++ [Seg.key key]) objTy objId fdef f0 (f0 :: tl) st = executed
        obtain ⟨r, st1⟩ := executed
        simp only
        cases hc : catchAt fdef.ty r with
        | raised => rfl
        | outOfFuel => rfl
        | ok o =>
          cases o with
          | none => simp only [toOut]; exact ih acc st1
          | some v => simp only [toOut]; exact ih (AList.insert acc key v) st1

/-- ExecuteSelectionSet = `execute_selection_set` -/
theorem selSet_refines (recM : Rec) (recS : Complete) (href : Refines recM recS) (env : Env) (path : Path)
    (objTy : String) (objId : Nat) (sels : List Sel) (st : St) :
    Exec.execSelSet recM env path objTy objId sels st =
      (toMap (executeSelectionSet recS Choices.apollo env path objTy objId sels st).1,
       (executeSelectionSet recS Choices.apollo env path objTy objId sels st).2) := by
  unfold Exec.execSelSet executeSelectionSet
  rw [collectFields_eq]
  cases Exec.collectFields env objTy env.cfuel sels [] [] with
  | none => rfl
  | some p =>
    obtain ⟨v, groups⟩ := p
    exact groups_refine recM recS href env path objTy objId groups [] st


theorem raise_refines (ty : Ty) (path : Path) (st : St) :
    (tryNullify ty (Except.error Fail.propagate : Out), st.push path) =
      (toOut (catchAt ty (raise (α := Option Json) path st).1), (raise (α := Option Json) path st).2) := by
  rw [toOut_catchAt]
  rfl

/-- the specification raises for a result that is neither a value, a list nor an object -/
theorem spec_leaf_nonnull (env : Env) (n : Nat) (path : Path) (ty : Ty) (j : Json) (hj : j ≠ .null) (fields : List Sel) (st : St) :
    completeValue Choices.apollo env (n + 1) path ty (.leaf j) fields st =
      (match ty.shape with
       | .list _ => raise path st
       | .named tyName =>
         match env.schema.kind? tyName with
         | some .scalar => if leafScalarOk tyName j then (.ok (some j), st) else raise path st
         | some (.enum values) =>
           (match j with
            | .str x => if values.contains x then (.ok (some j), st) else raise path st
            | _ => raise path st)
         | _ => raise path st) := by
  cases j <;> first | exact absurd rfl hj | skip
  all_goals
    simp only [completeValue, isNullResult, Bool.false_eq_true, if_false]
    cases ty.shape with
    | list inner => rfl
    | named tyName =>
      simp only
      cases env.schema.kind? tyName with
      | none => rfl
      | some k => cases k <;> rfl

theorem model_leaf_nonnull (env : Env) (n : Nat) (path : Path) (ty : Ty) (j : Json) (hj : j ≠ .null) (fields : List Sel) (st : St) :
    Exec.completeValue env (n + 1) path ty (.leaf j) fields st =
      (match ty.shape with
       | .list _ => (.error .propagate, st.push path)
       | .named tyName =>
         match env.schema.kind? tyName with
         | some .scalar => if leafScalarOk tyName j then (.ok (some j), st) else (.error .propagate, st.push path)
         | some (.enum values) =>
           (match j with
            | .str x => if values.contains x then (.ok (some j), st) else (.error .propagate, st.push path)
            | _ => (.error .propagate, st.push path))
         | _ => (.error .propagate, st.push path)) := by
  cases j <;> first | exact absurd rfl hj | skip
  all_goals
    simp only [Exec.completeValue]
    cases ty.shape with
    | list inner => rfl
    | named tyName =>
      simp only
      cases env.schema.kind? tyName with
      | none => rfl
      | some k => cases k <;> simp [completeLeaf]


theorem completeValue_refines (env : Env) : ∀ n, Refines (Exec.completeValue env n) (completeValue Choices.apollo env n) := by
  intro n
  induction n with
  | zero =>
    intro path ty rv fields st
    simp [Exec.completeValue, completeValue, tryNullify, catchAt, toOut]
  | succ n ih =>
    intro path ty rv fields st
    have hraise := raise_refines ty path st
    cases rv with
    | skip => simp [Exec.completeValue, completeValue, Choices.apollo, tryNullify, catchAt, toOut]
    | error =>
      have hS : completeValue Choices.apollo env (n + 1) path ty .error fields st = raise path st := by
        simp only [completeValue, isNullResult, Bool.false_eq_true, if_false]
        cases ty.shape with
        | list inner => rfl
        | named tyName => cases env.schema.kind? tyName <;> rfl
      rw [hS]
      simpa [Exec.completeValue] using hraise
    | echo =>
      have hS : completeValue Choices.apollo env (n + 1) path ty .echo fields st = raise path st := by
        simp only [completeValue, isNullResult, Bool.false_eq_true, if_false]
        cases ty.shape with
        | list inner => rfl
        | named tyName => cases env.schema.kind? tyName <;> rfl
      rw [hS]
      simpa [Exec.completeValue] using hraise
    | leaf j =>
      by_cases hj : j = .null
      · subst hj
        simp only [Exec.completeValue, completeValue, isNullResult, if_true]
        cases h : ty.isNonNull with
        | true => simpa [h] using hraise
        | false => simp [tryNullify, catchAt, toOut]
      · rw [spec_leaf_nonnull env n path ty j hj, model_leaf_nonnull env n path ty j hj]
        cases ty.shape with
        | list inner => exact hraise
        | named tyName =>
          simp only
          cases env.schema.kind? tyName with
          | none => exact hraise
          | some k =>
            cases k with
            | scalar =>
              simp only
              split
              · simp [tryNullify, catchAt, toOut]
              · exact hraise
            | «enum» values =>
              simp only
              cases j <;> first | exact hraise | skip
              simp only
              split
              · simp [tryNullify, catchAt, toOut]
              · exact hraise
            | inputObject fs => exact hraise
            | object d => exact hraise
            | interface => exact hraise
            | union ms => exact hraise
    | list items =>
      simp only [Exec.completeValue, completeValue, isNullResult, Bool.false_eq_true, if_false, completeList]
      cases ty.shape with
      | named tyName =>
        simp only
        cases env.schema.kind? tyName with
        | none => exact hraise
        | some k => cases k <;> exact hraise
      | list inner =>
        exact items_refine _ _ ih path ty inner fields items 0 [] st
    | object resolvedTy id =>
      simp only [Exec.completeValue, completeValue, isNullResult, Bool.false_eq_true, if_false]
      cases ty.shape with
      | list inner => exact hraise
      | named tyName =>
        simp only
        cases hk : env.schema.kind? tyName with
        | none => exact hraise
        | some k =>
          have hposs := isPossibleType_eq env.schema tyName k hk resolvedTy
          have hsel := selSet_refines _ _ ih env path resolvedTy id (subSelections fields) st
          cases k with
          | inputObject fs =>
            simp only
            have : isPossibleType env.schema tyName (.inputObject fs) resolvedTy = false := by
              rw [hposs]; rfl
            simp only [this, Bool.false_eq_true, if_false]
            exact hraise
          | scalar =>
            simp only [hposs, resolveObjectType, Bool.false_eq_true, if_false]
            exact hraise
          | «enum» vs =>
            simp only [hposs, resolveObjectType, Bool.false_eq_true, if_false]
            exact hraise
          | object d =>
            simp only [hposs, mergeSelectionSets_eq]
            split
            · rw [hsel]
              generalize executeSelectionSet (completeValue Choices.apollo env n) Choices.apollo env path resolvedTy id (subSelections fields) st = res
              obtain ⟨r, st1⟩ := res
              cases r <;> simp [toMap, tryNullify, catchAt, toOut] <;> cases ty.isNonNull <;> simp
            · exact hraise
          | interface =>
            simp only [hposs, mergeSelectionSets_eq]
            split
            · rw [hsel]
              generalize executeSelectionSet (completeValue Choices.apollo env n) Choices.apollo env path resolvedTy id (subSelections fields) st = res
              obtain ⟨r, st1⟩ := res
              cases r <;> simp [toMap, tryNullify, catchAt, toOut] <;> cases ty.isNonNull <;> simp
            · exact hraise
          | union ms =>
            simp only [hposs, mergeSelectionSets_eq]
            split
            · rw [hsel]
              generalize executeSelectionSet (completeValue Choices.apollo env n) Choices.apollo env path resolvedTy id (subSelections fields) st = res
              obtain ⟨r, st1⟩ := res
              cases r <;> simp [toMap, tryNullify, catchAt, toOut] <;> cases ty.isNonNull <;> simp
            · exact hraise

/-- The refinement: for every schema, operation, coerced variables, world and fuel, the model of
    apollo-compiler's executor and the specification's algorithms (with apollo-compiler's documented
    choices) give the same response: same data (key order included), same errors with the same paths in
    the same order — and run out of fuel together. -/
theorem execute_eq_spec (fuel : Nat) (env : Env) (sels : List Sel) :
    Exec.execute fuel env sels = execute Choices.apollo fuel env sels := by
  unfold Exec.execute execute
  rw [selSet_refines _ _ (completeValue_refines env fuel)]
  generalize executeSelectionSet (completeValue Choices.apollo env fuel) Choices.apollo env [] env.schema.query 0 sels { errors := [] } = res
  obtain ⟨r, st⟩ := res
  cases r <;> rfl


end Apollo.ExecSpec
