import ApolloModel.Spec.ExecValidation
/-
C17: `sameValue` (validation/selection.rs `same_value`) decides the specification's equality of argument values
`SpecEq` on values whose object literals repeat no field (`sameValue_iff_unique_aux`).
-/
namespace Apollo.ExecVal
open Apollo Apollo.Spec Apollo.Spec.ExecVal

mutual
/-- no input-object literal with two fields of the same name anywhere inside (rule 5.6.3) -/
def uniqueFields : Value → Bool
  | .list l => uniqueFieldsList l
  | .object fs => uniqueKeys fs && uniqueFieldsFields fs
  | _ => true
def uniqueFieldsList : List Value → Bool
  | [] => true
  | a :: l => uniqueFields a && uniqueFieldsList l
def uniqueFieldsFields : List (String × Value) → Bool
  | [] => true
  | kv :: rest => uniqueFields kv.2 && uniqueFieldsFields rest
def uniqueKeys : List (String × Value) → Bool
  | [] => true
  | kv :: rest => (lookupFirst kv.1 rest).isNone && uniqueKeys rest
end

theorem listEq_length {l r : List Value} (h : ListEq l r) : l.length = r.length := by
  induction l generalizing r with
  | nil => cases h; rfl
  | cons a l ih => cases h with | cons _ h => simp [ih h]

/-- pigeonhole: one more element of `r` outside `l` would make `k :: l` a longer list without repetition inside `r` -/
theorem subset_of_nodup_length (l r : List String) (hl : l.Nodup) (hlen : l.length = r.length)
    (hsub : ∀ k ∈ l, k ∈ r) : ∀ k ∈ r, k ∈ l := by
  intro k hk
  apply Classical.byContradiction
  intro hkl
  have := List.Nodup.length_le_of_subset (List.nodup_cons.mpr ⟨hkl, hl⟩) (List.forall_mem_cons.mpr ⟨hk, hsub⟩ : ∀ x ∈ k :: l, x ∈ r)
  simp only [List.length_cons] at this
  omega

abbrev Fields := List (String × Value)

theorem lookup_none_iff (k : String) (r : Fields) : lookupFirst k r = none ↔ k ∉ r.map Prod.fst := by
  induction r with
  | nil => simp [lookupFirst]
  | cons kv r ih =>
    obtain ⟨k', w⟩ := kv
    by_cases h : k = k'
    · subst h; simp [lookupFirst]
    · have h' : (k == k') = false := by simpa using h
      simp [lookupFirst, h', ih, h]

theorem lookup_mem (k : String) (v : Value) (r : Fields) (h : lookupFirst k r = some v) : (k, v) ∈ r := by
  induction r with
  | nil => simp [lookupFirst] at h
  | cons kv r ih =>
    obtain ⟨k', w⟩ := kv
    by_cases hk : k = k'
    · subst hk; simp [lookupFirst] at h; simp [h]
    · have h' : (k == k') = false := by simpa using hk
      simp only [lookupFirst, h', Bool.false_eq_true, if_false] at h
      exact List.mem_cons_of_mem _ (ih h)

theorem lookup_unique (k : String) (v : Value) (r : Fields) (hu : uniqueKeys r = true) (hm : (k, v) ∈ r) :
    lookupFirst k r = some v := by
  induction r with
  | nil => simp at hm
  | cons kv r ih =>
    obtain ⟨k', w⟩ := kv
    simp only [uniqueKeys, Bool.and_eq_true, Option.isNone_iff_eq_none] at hu
    rcases List.mem_cons.mp hm with h | h
    · cases h; simp [lookupFirst]
    · by_cases hk : k = k'
      · subst hk
        have := (lookup_none_iff k r).mp hu.1
        exact absurd (List.mem_map.mpr ⟨(k, v), h, rfl⟩) this
      · have h' : (k == k') = false := by simpa using hk
        simp only [lookupFirst, h', Bool.false_eq_true, if_false]
        exact ih hu.2 h

theorem uniqueKeys_nodup (l : Fields) (h : uniqueKeys l = true) : (l.map Prod.fst).Nodup := by
  induction l with
  | nil => simp
  | cons kv l ih =>
    simp only [uniqueKeys, Bool.and_eq_true, Option.isNone_iff_eq_none] at h
    simp only [List.map_cons, List.nodup_cons]
    exact ⟨(lookup_none_iff _ _).mp h.1, ih h.2⟩

theorem uniqueFields_of_mem (l : Fields) (h : uniqueFieldsFields l = true) (k : String) (v : Value)
    (hm : (k, v) ∈ l) : uniqueFields v = true := by
  induction l with
  | nil => simp at hm
  | cons kv l ih =>
    simp only [uniqueFieldsFields, Bool.and_eq_true] at h
    rcases List.mem_cons.mp hm with hm | hm
    · subst hm; exact h.1
    · exact ih h.2 hm

theorem hasField_iff (k : String) (v : Value) (r : Fields) :
    HasField k v r ↔ ∃ v', (k, v') ∈ r ∧ SpecEq v v' := by
  induction r with
  | nil => exact ⟨(fun h => nomatch h), fun ⟨_, h, _⟩ => nomatch h⟩
  | cons kv r ih =>
    constructor
    · intro h
      cases h with
      | here he => exact ⟨_, by simp, he⟩
      | there ht => obtain ⟨v', hm, he⟩ := ih.mp ht; exact ⟨v', List.mem_cons_of_mem _ hm, he⟩
    · rintro ⟨v', hm, he⟩
      rcases List.mem_cons.mp hm with hm | hm
      · subst hm; exact HasField.here he
      · exact HasField.there (ih.mpr ⟨v', hm, he⟩)

theorem fieldOf_iff (k : String) (v : Value) (l : Fields) :
    FieldOf k v l ↔ ∃ v', (k, v') ∈ l ∧ SpecEq v' v := by
  induction l with
  | nil => exact ⟨(fun h => nomatch h), fun ⟨_, h, _⟩ => nomatch h⟩
  | cons kv l ih =>
    constructor
    · intro h
      cases h with
      | here he => exact ⟨_, by simp, he⟩
      | there ht => obtain ⟨v', hm, he⟩ := ih.mp ht; exact ⟨v', List.mem_cons_of_mem _ hm, he⟩
    · rintro ⟨v', hm, he⟩
      rcases List.mem_cons.mp hm with hm | hm
      · subst hm; exact FieldOf.here he
      · exact FieldOf.there (ih.mpr ⟨v', hm, he⟩)

theorem fieldsSub_iff (l r : Fields) : FieldsSub l r ↔ ∀ k v, (k, v) ∈ l → HasField k v r := by
  induction l with
  | nil => exact ⟨(fun _ _ _ h => nomatch h), fun _ => FieldsSub.nil⟩
  | cons kv l ih =>
    obtain ⟨k0, v0⟩ := kv
    constructor
    · intro h k v hm
      cases h with
      | cons hf hs =>
        rcases List.mem_cons.mp hm with hm | hm
        · cases hm; exact hf
        · exact ih.mp hs k v hm
    · intro h
      exact FieldsSub.cons (h k0 v0 (by simp)) (ih.mpr fun k v hm => h k v (List.mem_cons_of_mem _ hm))

theorem fieldsSup_iff (l r : Fields) : FieldsSup l r ↔ ∀ k v, (k, v) ∈ r → FieldOf k v l := by
  induction r with
  | nil => exact ⟨(fun _ _ _ h => nomatch h), fun _ => FieldsSup.nil⟩
  | cons kv r ih =>
    obtain ⟨k0, v0⟩ := kv
    constructor
    · intro h k v hm
      cases h with
      | cons hf hs =>
        rcases List.mem_cons.mp hm with hm | hm
        · cases hm; exact hf
        · exact ih.mp hs k v hm
    · intro h
      exact FieldsSup.cons (h k0 v0 (by simp)) (ih.mpr fun k v hm => h k v (List.mem_cons_of_mem _ hm))

theorem allFields_iff (l r : Fields) :
    allFields l r = true ↔ ∀ k v, (k, v) ∈ l → ∃ v', lookupFirst k r = some v' ∧ sameValue v v' = true := by
  induction l with
  | nil => simp [allFields]
  | cons kv l ih =>
    obtain ⟨k0, v0⟩ := kv
    simp only [allFields, Bool.and_eq_true, ih]
    have hf : fieldIn (k0, v0) r = true ↔ ∃ v', lookupFirst k0 r = some v' ∧ sameValue v0 v' = true := by
      simp only [fieldIn]
      cases lookupFirst k0 r with
      | none => simp
      | some w => simp
    rw [hf]
    constructor
    · rintro ⟨h0, hr⟩ k v hm
      rcases List.mem_cons.mp hm with hm | hm
      · cases hm; exact h0
      · exact hr k v hm
    · intro h
      exact ⟨h k0 v0 (by simp), fun k v hm => h k v (List.mem_cons_of_mem _ hm)⟩

theorem sizeOf_field_lt (l : Fields) (k : String) (v : Value) (hm : (k, v) ∈ l) :
    sizeOf v < sizeOf (Value.object l) := by
  have := List.sizeOf_lt_of_mem hm
  simp only [Value.object.sizeOf_spec, Prod.mk.sizeOf_spec] at *
  omega

theorem zipAll_iff_listEq_u (n : Nat)
    (ih : ∀ a : Value, sizeOf a < n → ∀ b, uniqueFields a = true → uniqueFields b = true →
      (sameValue a b = true ↔ SpecEq a b)) :
    ∀ l r : List Value, (∀ a ∈ l, sizeOf a < n) → uniqueFieldsList l = true → uniqueFieldsList r = true →
      l.length = r.length → (zipAll l r = true ↔ ListEq l r) := by
  intro l
  induction l with
  | nil =>
    intro r _ _ _ hlen
    cases r with
    | nil => simp [zipAll]; exact ListEq.nil
    | cons b r => simp at hlen
  | cons a l ihl =>
    intro r hsz hfl hfr hlen
    cases r with
    | nil => simp at hlen
    | cons b r =>
      simp only [uniqueFieldsList, Bool.and_eq_true] at hfl hfr
      have ha := ih a (hsz a (by simp)) b hfl.1 hfr.1
      have hl := ihl r (fun x hx => hsz x (by simp [hx])) hfl.2 hfr.2 (by simpa using hlen)
      simp only [zipAll, Bool.and_eq_true]
      constructor
      · intro ⟨h1, h2⟩; exact ListEq.cons (ha.mp h1) (hl.mp h2)
      · intro h
        cases h with
        | cons h1 h2 => exact ⟨ha.mpr h1, hl.mpr h2⟩

theorem object_case (n : Nat)
    (ih : ∀ a : Value, sizeOf a < n → ∀ b, uniqueFields a = true → uniqueFields b = true →
      (sameValue a b = true ↔ SpecEq a b))
    (l r : Fields) (hsz : ∀ k v, (k, v) ∈ l → sizeOf v < n)
    (hul : uniqueKeys l = true) (hfl : uniqueFieldsFields l = true)
    (hur : uniqueKeys r = true) (hfr : uniqueFieldsFields r = true) :
    ((l.length == r.length) = true ∧ allFields l r = true) ↔ (FieldsSub l r ∧ FieldsSup l r) := by
  have hnl := uniqueKeys_nodup l hul
  have hnr := uniqueKeys_nodup r hur
  constructor
  · rintro ⟨hlen, hall⟩
    have hlen : l.length = r.length := by simpa using hlen
    have hall := (allFields_iff l r).mp hall
    have hsub : ∀ k v, (k, v) ∈ l → ∃ v', (k, v') ∈ r ∧ SpecEq v v' := by
      intro k v hm
      obtain ⟨v', hl', hs⟩ := hall k v hm
      have hm' := lookup_mem k v' r hl'
      exact ⟨v', hm', (ih v (hsz k v hm) v' (uniqueFields_of_mem l hfl k v hm) (uniqueFields_of_mem r hfr k v' hm')).mp hs⟩
    refine ⟨(fieldsSub_iff l r).mpr fun k v hm => (hasField_iff k v r).mpr (hsub k v hm), ?_⟩
    apply (fieldsSup_iff l r).mpr
    intro k v' hm'
    -- pigeonhole: every key of r is a key of l
    have hkeys : ∀ x ∈ l.map Prod.fst, x ∈ r.map Prod.fst := by
      intro x hx
      obtain ⟨⟨k0, v0⟩, hm0, rfl⟩ := List.mem_map.mp hx
      obtain ⟨w, hw, _⟩ := hsub k0 v0 hm0
      exact List.mem_map.mpr ⟨(k0, w), hw, rfl⟩
    have hk : k ∈ l.map Prod.fst :=
      subset_of_nodup_length _ _ hnl (by simpa using hlen) hkeys k (List.mem_map.mpr ⟨(k, v'), hm', rfl⟩)
    obtain ⟨⟨k1, v⟩, hm, hk1⟩ := List.mem_map.mp hk
    simp only at hk1; subst hk1
    obtain ⟨w, hw, hs⟩ := hsub k1 v hm
    have e1 := lookup_unique k1 w r hur hw
    have e2 := lookup_unique k1 v' r hur hm'
    have : w = v' := by rw [e1] at e2; exact Option.some.inj e2
    subst this
    exact (fieldOf_iff k1 w l).mpr ⟨v, hm, hs⟩
  · rintro ⟨hsub, hsup⟩
    have hsub := (fieldsSub_iff l r).mp hsub
    have hsup := (fieldsSup_iff l r).mp hsup
    have h1 : ∀ x ∈ l.map Prod.fst, x ∈ r.map Prod.fst := by
      intro x hx
      obtain ⟨⟨k0, v0⟩, hm0, rfl⟩ := List.mem_map.mp hx
      obtain ⟨w, hw, _⟩ := (hasField_iff k0 v0 r).mp (hsub k0 v0 hm0)
      exact List.mem_map.mpr ⟨(k0, w), hw, rfl⟩
    have h2 : ∀ x ∈ r.map Prod.fst, x ∈ l.map Prod.fst := by
      intro x hx
      obtain ⟨⟨k0, v0⟩, hm0, rfl⟩ := List.mem_map.mp hx
      obtain ⟨w, hw, _⟩ := (fieldOf_iff k0 v0 l).mp (hsup k0 v0 hm0)
      exact List.mem_map.mpr ⟨(k0, w), hw, rfl⟩
    have l1 := hnl.length_le_of_subset h1
    have l2 := hnr.length_le_of_subset h2
    simp only [List.length_map] at l1 l2
    refine ⟨by simp; omega, (allFields_iff l r).mpr ?_⟩
    intro k v hm
    obtain ⟨w, hw, hs⟩ := (hasField_iff k v r).mp (hsub k v hm)
    exact ⟨w, lookup_unique k w r hur hw,
      (ih v (hsz k v hm) w (uniqueFields_of_mem l hfl k v hm) (uniqueFields_of_mem r hfr k w hw)).mpr hs⟩

theorem sameValue_iff_unique_aux : ∀ n : Nat, ∀ a : Value, sizeOf a < n → ∀ b,
    uniqueFields a = true → uniqueFields b = true → (sameValue a b = true ↔ SpecEq a b) := by
  intro n
  induction n with
  | zero => intro a h; omega
  | succ n ih =>
    intro a hsz b hfa hfb
    cases a with
    | null => cases b <;> simp [sameValue] <;> first | exact SpecEq.null | (intro h; cases h)
    | enum x | var x | str x | float x | int x | bool x =>
      cases b <;> simp only [sameValue, beq_iff_eq, Bool.false_eq_true, false_iff] <;> first
        | exact ⟨fun h => h ▸ by constructor, fun h => by cases h; rfl⟩
        | (intro h; cases h)
    | object l =>
      cases b with
      | object r =>
        simp only [uniqueFields, Bool.and_eq_true] at hfa hfb
        have hsz' : ∀ k v, (k, v) ∈ l → sizeOf v < n := by
          intro k v hm
          have := sizeOf_field_lt l k v hm
          omega
        have hobj := object_case n ih l r hsz' hfa.1 hfa.2 hfb.1 hfb.2
        simp only [sameValue]
        constructor
        · intro h
          by_cases hlen : (l.length == r.length) = true
          · rw [if_pos hlen] at h
            have := hobj.mp ⟨hlen, h⟩
            exact SpecEq.object this.1 this.2
          · rw [if_neg hlen] at h; cases h
        · intro h
          cases h with
          | object h1 h2 =>
            have := hobj.mpr ⟨h1, h2⟩
            rw [if_pos this.1]; exact this.2
      | _ => simp [sameValue]; intro h; cases h
    | list l =>
      cases b with
      | list r =>
        simp only [uniqueFields] at hfa hfb
        have hsz' : ∀ x ∈ l, sizeOf x < n := by
          intro x hx
          have := List.sizeOf_lt_of_mem hx
          simp only [Value.list.sizeOf_spec] at hsz
          omega
        simp only [sameValue, Bool.and_eq_true, beq_iff_eq]
        constructor
        · intro ⟨hlen, h⟩
          exact SpecEq.list ((zipAll_iff_listEq_u n ih l r hsz' hfa hfb hlen).mp h)
        · intro h
          cases h with
          | list h =>
            have hlen : l.length = r.length := listEq_length h
            exact ⟨hlen, (zipAll_iff_listEq_u n ih l r hsz' hfa hfb hlen).mpr h⟩
      | _ => simp [sameValue]; intro h; cases h

end Apollo.ExecVal
