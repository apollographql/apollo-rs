import ApolloModel.Model.BuiltinScalars
/-
C16: the built-in scalar bookkeeping at the end of `validate_schema` is idempotent for every iteration
order of the hash set, restores exactly a pruned scalar that becomes referenced, and does not change
what the type lookup of the value check returns.
-/
namespace Apollo.Scalars


theorem flatMap_filter_refs (p : Name × TypeDef → Bool) (l : List (Name × TypeDef))
    (h : ∀ e ∈ l, p e = false → e.2.refs = []) :
    (l.filter p).flatMap (·.2.refs) = l.flatMap (·.2.refs) := by
  induction l with
  | nil => rfl
  | cons e es ih =>
    have ih' := ih (fun x hx => h x (by simp [hx]))
    by_cases hp : p e = true
    · simp [hp, ih']
    · have hp' : p e = false := by simpa using hp
      simp [hp', ih', h e (by simp) hp']

/-- entries dropped by `retain` are built-in scalar definitions, which reference nothing -/
theorem dropped_refs (s : Schema) (wf : WellFormed s) (e : Name × TypeDef) (he : e ∈ s.types)
    (hk : keep s e = false) : e.2.refs = [] := by
  unfold keep at hk
  simp only [Bool.or_eq_false_iff, Bool.not_eq_false'] at hk
  have := wf.2 e he hk.1.1 hk.1.2
  rw [this]; rfl

theorem allRefs_bookkeeping (order : List Name → List Name) (s : Schema) (wf : WellFormed s) :
    (bookkeeping order s).allRefs = s.allRefs := by
  unfold bookkeeping Schema.allRefs
  simp only [List.flatMap_append]
  have hnew : ((order (usedAndUndefined s)).map fun n => (n, builtinDef)).flatMap (·.2.refs) = [] := by
    induction order (usedAndUndefined s) with
    | nil => rfl
    | cons x xs ih => simp [builtinDef]
  rw [hnew, List.append_nil]
  split
  · rfl
  · rw [flatMap_filter_refs _ _ (fun e he hk => dropped_refs s wf e he hk)]

theorem mem_usedAndDefined (s : Schema) (b : Name) :
    b ∈ usedAndDefined s ↔ b ∈ builtinScalars ∧ s.allRefs.contains b = true ∧ s.defined b = true := by
  simp [usedAndDefined, List.mem_filter]

theorem mem_usedAndUndefined (s : Schema) (b : Name) :
    b ∈ usedAndUndefined s ↔ b ∈ builtinScalars ∧ s.allRefs.contains b = true ∧ s.defined b = false := by
  simp [usedAndUndefined, List.mem_filter]

theorem filter_split_length {α : Type} (p q : α → Bool) (l : List α) :
    (l.filter fun x => p x && q x).length + (l.filter fun x => p x && !q x).length = (l.filter p).length := by
  induction l with
  | nil => rfl
  | cons x xs ih =>
    cases hp : p x <;> cases hq : q x <;> simp [hp, hq] <;> omega

theorem allUsed_referenced (s : Schema) (h : allUsed s = true) (b : Name) (hb : b ∈ builtinScalars) :
    s.allRefs.contains b = true := by
  unfold allUsed usedAndDefined usedAndUndefined at h
  rw [filter_split_length (fun b => s.allRefs.contains b) (fun b => s.defined b)] at h
  have hlen : (builtinScalars.filter fun b => s.allRefs.contains b).length = builtinScalars.length := by
    simpa using h
  have hall := List.filter_eq_self.mp (List.Sublist.eq_of_length (List.filter_sublist) hlen)
  exact hall b hb

theorem defined_iff (s : Schema) (n : Name) : s.defined n = true ↔ ∃ e ∈ s.types, e.1 = n := by
  simp [Schema.defined, List.any_eq_true]

theorem referenced_defined_after (order : List Name → List Name) (horder : ∀ l x, x ∈ l → x ∈ order l)
    (s : Schema) (b : Name) (hb : b ∈ builtinScalars) (hr : s.allRefs.contains b = true) :
    (bookkeeping order s).defined b = true := by
  rw [defined_iff]
  by_cases hd : s.defined b = true
  · obtain ⟨e, he, hn⟩ := (defined_iff s b).mp hd
    refine ⟨e, ?_, hn⟩
    unfold bookkeeping
    simp only [List.mem_append]
    left
    split
    · exact he
    · rw [List.mem_filter]
      refine ⟨he, ?_⟩
      unfold keep
      have : e.1 ∈ usedAndDefined s := by
        rw [hn]; exact (mem_usedAndDefined s b).mpr ⟨hb, hr, hd⟩
      simp [this]
  · have hd' : s.defined b = false := by simpa using hd
    refine ⟨(b, builtinDef), ?_, rfl⟩
    unfold bookkeeping
    simp only [List.mem_append, List.mem_map]
    right
    exact ⟨b, horder _ _ ((mem_usedAndUndefined s b).mpr ⟨hb, hr, hd'⟩), rfl⟩

/-- `retain` only ever drops a built-in scalar definition that is not both referenced and defined -/
theorem keep_iff (t : Schema) (e : Name × TypeDef) :
    keep t e = true ↔ (e.2.isBuiltIn = true → e.1 ∈ builtinScalars → e.1 ∈ usedAndDefined t) := by
  unfold keep
  cases e.2.isBuiltIn <;> simp [Decidable.imp_iff_not_or]

theorem keep_of_referenced (t : Schema) (e : Name × TypeDef) (he : e ∈ t.types)
    (h : e.2.isBuiltIn = true → e.1 ∈ builtinScalars → t.allRefs.contains e.1 = true) : keep t e = true :=
  (keep_iff t e).mpr fun hb hm =>
    (mem_usedAndDefined t e.1).mpr ⟨hm, h hb hm, (defined_iff t e.1).mpr ⟨e, he, rfl⟩⟩

theorem referenced_of_kept (s : Schema) (e : Name × TypeDef) (hb : e.2.isBuiltIn = true)
    (hm : e.1 ∈ builtinScalars) (h : allUsed s = true ∨ keep s e = true) : s.allRefs.contains e.1 = true := by
  rcases h with hall | hk
  · exact allUsed_referenced s hall e.1 hm
  · exact ((mem_usedAndDefined s e.1).mp ((keep_iff s e).mp hk hb hm)).2.1


/-- a faithful iteration order: some rearrangement of the set's elements -/
def IsOrder (order : List Name → List Name) : Prop := ∀ l, (order l).Perm l

theorem IsOrder.mem {order : List Name → List Name} (ho : IsOrder order) (l : List Name) (x : Name) :
    x ∈ order l ↔ x ∈ l := (ho l).mem_iff

theorem IsOrder.nil {order : List Name → List Name} (ho : IsOrder order) : order [] = [] :=
  List.perm_nil.mp (ho [])

theorem IsOrder.single {order : List Name → List Name} (ho : IsOrder order) (b : Name) : order [b] = [b] :=
  List.perm_singleton.mp (ho [b])

/-- where an entry of the map after a pass comes from: it survived `retain`, or it was re-inserted -/
theorem mem_bookkeeping_types (order : List Name → List Name) (ho : IsOrder order) (s : Schema)
    (e : Name × TypeDef) (he : e ∈ (bookkeeping order s).types) :
    (e ∈ s.types ∧ (allUsed s = true ∨ keep s e = true)) ∨ (e.1 ∈ usedAndUndefined s ∧ e.2 = builtinDef) := by
  unfold bookkeeping at he
  rcases List.mem_append.mp he with he | he
  · left
    split at he
    · exact ⟨he, Or.inl ‹_›⟩
    · exact ⟨(List.mem_filter.mp he).1, Or.inr (List.mem_filter.mp he).2⟩
  · right
    obtain ⟨n, hn, rfl⟩ := List.mem_map.mp he
    exact ⟨(ho.mem _ _).mp hn, rfl⟩

theorem referenced_after (order : List Name → List Name) (ho : IsOrder order) (s : Schema)
    (e : Name × TypeDef) (he : e ∈ (bookkeeping order s).types) (hb : e.2.isBuiltIn = true)
    (hm : e.1 ∈ builtinScalars) : s.allRefs.contains e.1 = true := by
  rcases mem_bookkeeping_types order ho s e he with ⟨_, h⟩ | ⟨h, _⟩
  · exact referenced_of_kept s e hb hm h
  · exact ((mem_usedAndUndefined s e.1).mp h).2.1

theorem keep_after (order : List Name → List Name) (ho : IsOrder order) (s : Schema) (wf : WellFormed s)
    (e : Name × TypeDef) (he : e ∈ (bookkeeping order s).types) : keep (bookkeeping order s) e = true :=
  keep_of_referenced _ e he fun hb hm => by
    rw [allRefs_bookkeeping order s wf]; exact referenced_after order ho s e he hb hm

theorem usedAndUndefined_after (order : List Name → List Name) (ho : IsOrder order) (s : Schema) (wf : WellFormed s) :
    usedAndUndefined (bookkeeping order s) = [] := by
  have hrefs := allRefs_bookkeeping order s wf
  unfold usedAndUndefined
  rw [List.filter_eq_nil_iff]
  intro b hb
  simp only [Bool.and_eq_true, Bool.not_eq_true', not_and, Bool.not_eq_false]
  intro hr
  rw [hrefs] at hr
  exact referenced_defined_after order (fun l x hx => (ho.mem l x).mpr hx) s b hb hr

theorem bookkeeping_of_clean (order : List Name → List Name) (ho : IsOrder order) (t : Schema)
    (h2 : usedAndUndefined t = []) (h3 : ∀ e ∈ t.types, keep t e = true) : bookkeeping order t = t := by
  unfold bookkeeping
  simp only [h2, ho.nil, List.map_nil, List.append_nil]
  have : (if allUsed t = true then t.types else t.types.filter (keep t)) = t.types := by
    split
    · rfl
    · exact List.filter_eq_self.mpr h3
  rw [this]

/-- **C16** — re-validating a validated schema leaves the type map identical, including which
    built-in scalars are present (for every iteration order of the hash set). -/
theorem revalidate_fixpoint (order : List Name → List Name) (ho : IsOrder order) (s : Schema) (wf : WellFormed s) :
    bookkeeping order (bookkeeping order s) = bookkeeping order s :=
  bookkeeping_of_clean order ho _ (usedAndUndefined_after order ho s wf) (keep_after order ho s wf)

theorem fixpoint_facts (order : List Name → List Name) (ho : IsOrder order) (s : Schema)
    (hfix : bookkeeping order s = s) :
    usedAndUndefined s = [] ∧ ∀ e ∈ s.types, allUsed s = true ∨ keep s e = true := by
  have htypes : (bookkeeping order s).types = s.types := by rw [hfix]
  unfold bookkeeping at htypes
  simp only [] at htypes
  -- nothing can have been inserted: an inserted name would be both undefined and present
  have hu : usedAndUndefined s = [] := by
    cases hl : usedAndUndefined s with
    | nil => rfl
    | cons x xs =>
      exfalso
      have hx : x ∈ order (usedAndUndefined s) := (ho.mem _ _).mpr (by simp [hl])
      have hin : (x, builtinDef) ∈ s.types := by
        rw [← htypes]
        simp only [List.mem_append, List.mem_map]
        exact Or.inr ⟨x, hx, rfl⟩
      have hd : s.defined x = true := (defined_iff s x).mpr ⟨_, hin, rfl⟩
      have hx' : x ∈ usedAndUndefined s := by simp [hl]
      have := ((mem_usedAndUndefined s x).mp hx').2.2
      rw [hd] at this
      exact absurd this (by simp)
  refine ⟨hu, ?_⟩
  intro e he
  rcases mem_bookkeeping_types order ho s e (by rw [hfix]; exact he) with ⟨_, h⟩ | ⟨h, _⟩
  · exact h
  · rw [hu] at h; cases h

theorem builtin_nodup : builtinScalars.Nodup := by decide

/-- **C16** — if a reference to a previously pruned built-in scalar `B` is added to a validated
    schema, re-validation appends exactly the definition of `B` and changes nothing else. -/
theorem restore_exact (order : List Name → List Name) (ho : IsOrder order) (s : Schema)
    (hfix : bookkeeping order s = s) (B : Name) (hB : B ∈ builtinScalars) (hund : s.defined B = false) :
    bookkeeping order { s with directiveRefs := B :: s.directiveRefs } =
      { s with directiveRefs := B :: s.directiveRefs, types := s.types ++ [(B, builtinDef)] } := by
  obtain ⟨hu, hkeep⟩ := fixpoint_facts order ho s hfix
  -- references after the change
  have hrefs : ∀ n, ({ s with directiveRefs := B :: s.directiveRefs } : Schema).allRefs.contains n =
      (n == B || s.allRefs.contains n) := by
    intro n; simp [Schema.allRefs]
  have hdef : ∀ n, ({ s with directiveRefs := B :: s.directiveRefs } : Schema).defined n = s.defined n := fun _ => rfl
  -- exactly B is used and undefined now
  have hnew : usedAndUndefined { s with directiveRefs := B :: s.directiveRefs } = [B] := by
    have hold : ∀ b ∈ builtinScalars, ¬ (s.allRefs.contains b = true ∧ s.defined b = false) := by
      intro b hb hc
      have : b ∈ usedAndUndefined s := (mem_usedAndUndefined s b).mpr ⟨hb, hc.1, hc.2⟩
      rw [hu] at this; simp at this
    unfold usedAndUndefined
    have hp : ∀ b ∈ builtinScalars, (({ s with directiveRefs := B :: s.directiveRefs } : Schema).allRefs.contains b &&
        !({ s with directiveRefs := B :: s.directiveRefs } : Schema).defined b) = (b == B) := by
      intro b hb
      rw [hrefs, hdef]
      by_cases hbb : b = B
      · subst hbb; simp [hund]
      · have h1 : (b == B) = false := by simpa using hbb
        have := hold b hb
        cases hc : s.allRefs.contains b <;> cases hd : s.defined b <;> simp_all
    rw [List.filter_congr hp]
    -- filter (· == B) over a duplicate-free list containing B
    have : ∀ (l : List Name), l.Nodup → B ∈ l → l.filter (· == B) = [B] := by
      intro l
      induction l with
      | nil => intro _ h; simp at h
      | cons x xs ih =>
        intro hn hm
        rw [List.nodup_cons] at hn
        by_cases hx : x = B
        · subst hx
          have : xs.filter (· == x) = [] := by
            rw [List.filter_eq_nil_iff]; intro y hy; simp; intro e; subst e; exact hn.1 hy
          simp [this]
        · have hx' : (x == B) = false := by simpa using hx
          have hm' : B ∈ xs := by
            rcases List.mem_cons.mp hm with h | h
            · exact absurd h.symm hx
            · exact h
          simp [hx', ih hn.2 hm']
    exact this _ builtin_nodup hB
  -- every existing entry is kept
  have hkeep' : ∀ e ∈ s.types, keep { s with directiveRefs := B :: s.directiveRefs } e = true := fun e he =>
    keep_of_referenced _ e he fun hb hm => by rw [hrefs, referenced_of_kept s e hb hm (hkeep e he)]; simp
  unfold bookkeeping
  simp only [hnew, ho.single B, List.map_cons, List.map_nil]
  have : (if allUsed { s with directiveRefs := B :: s.directiveRefs } = true then s.types
      else s.types.filter (keep { s with directiveRefs := B :: s.directiveRefs })) = s.types := by
    split
    · rfl
    · exact List.filter_eq_self.mpr hkeep'
  rw [this]


theorem find?_congr' {α : Type} {p q : α → Bool} : ∀ (l : List α), (∀ x ∈ l, p x = q x) → l.find? p = l.find? q
  | [], _ => rfl
  | x :: xs, h => by
    have hx := h x List.mem_cons_self
    have ih := find?_congr' xs (fun y hy => h y (List.mem_cons_of_mem _ hy))
    simp only [List.find?_cons, hx, ih]

theorem lookup_builtin_total (s : Schema) (b : Name) (hb : b ∈ builtinScalars) :
    (lookupForValue s b).isSome = true := by
  unfold lookupForValue
  cases h : s.types.find? (·.1 == b) with
  | some e => rfl
  | none => simp [hb]

/-- in a map whose entries named like built-in scalars are the built-in definitions, the lookup of a built-in
    scalar is its built-in definition, present or pruned -/
theorem lookup_builtin_of (t : Schema) (h : ∀ e ∈ t.types, e.1 ∈ builtinScalars → e.2 = builtinDef)
    (b : Name) (hb : b ∈ builtinScalars) : lookupForValue t b = some builtinDef := by
  unfold lookupForValue
  cases hf : t.types.find? (·.1 == b) with
  | none => simp [hb]
  | some e =>
    have hname : e.1 = b := by simpa using List.find?_some hf
    show some e.2 = some builtinDef
    rw [h e (List.mem_of_find?_eq_some hf) (hname ▸ hb)]

theorem lookup_builtin_exact (s : Schema) (wf : WellFormed s)
    (hbuilt : ∀ e ∈ s.types, builtinScalars.contains e.1 = true → e.2.isBuiltIn = true)
    (b : Name) (hb : b ∈ builtinScalars) : lookupForValue s b = some builtinDef :=
  lookup_builtin_of s (fun e he hm => wf.2 e he (hbuilt e he (by simpa using hm)) (by simpa using hm)) b hb

theorem lookup_builtin_after (order : List Name → List Name) (ho : IsOrder order) (s : Schema) (wf : WellFormed s)
    (hbuilt : ∀ e ∈ s.types, builtinScalars.contains e.1 = true → e.2.isBuiltIn = true)
    (b : Name) (hb : b ∈ builtinScalars) : lookupForValue (bookkeeping order s) b = some builtinDef := by
  refine lookup_builtin_of _ (fun e he hm => ?_) b hb
  rcases mem_bookkeeping_types order ho s e he with ⟨h, _⟩ | ⟨_, h⟩
  · exact wf.2 e h (hbuilt e h (by simpa using hm)) (by simpa using hm)
  · exact h

theorem lookup_other_unchanged (order : List Name → List Name) (ho : IsOrder order) (s : Schema)
    (n : Name) (hn : n ∉ builtinScalars) : lookupForValue (bookkeeping order s) n = lookupForValue s n := by
  have hc : builtinScalars.contains n = false := by simpa using hn
  have hfind : (bookkeeping order s).types.find? (·.1 == n) = s.types.find? (·.1 == n) := by
    unfold bookkeeping
    simp only [List.find?_append]
    have hins : ((order (usedAndUndefined s)).map fun m => (m, builtinDef)).find? (·.1 == n) = none := by
      rw [List.find?_eq_none]
      intro e he
      obtain ⟨m, hm, rfl⟩ := List.mem_map.mp he
      have := ((mem_usedAndUndefined s m).mp ((ho.mem _ _).mp hm)).1
      simp only [beq_iff_eq]
      intro heq
      exact hn (heq ▸ this)
    rw [hins, Option.or_none]
    split
    · rfl
    · rw [List.find?_filter]
      apply find?_congr'
      intro e _
      by_cases hen : e.1 = n
      · simp [keep, hen, hn]
      · simp [hen]
  unfold lookupForValue
  rw [hfind]

/-- what the value check looks up is the same before and after a validation pass, for every name -/
theorem value_lookup_stable (order : List Name → List Name) (ho : IsOrder order) (s : Schema) (wf : WellFormed s)
    (hbuilt : ∀ e ∈ s.types, builtinScalars.contains e.1 = true → e.2.isBuiltIn = true) (n : Name) :
    lookupForValue (bookkeeping order s) n = lookupForValue s n := by
  by_cases hn : n ∈ builtinScalars
  · rw [lookup_builtin_after order ho s wf hbuilt n hn, lookup_builtin_exact s wf hbuilt n hn]
  · exact lookup_other_unchanged order ho s n hn

end Apollo.Scalars
