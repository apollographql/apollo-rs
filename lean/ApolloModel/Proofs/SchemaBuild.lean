import ApolloModel.Model.SchemaBuild
/-
Lemmas about the `SchemaBuilder` model for C13 (the lookups and `step_types_cases` also serve C12 and C14):
lookups in the type and directive maps, the builder as a fold over sources, the stable sort of diagnostics
under an order-preserving relabelling, the commutation of queued ("orphan") extensions with the definition
they wait for — once as a statement about any fold with a queue, then for type extensions and for schema
extensions —, what one definition does to the type map and the queue (`step_types_cases`), and the invariant
`QueueOk` of the orphan queue.
-/
namespace Apollo.SchemaBuild

/-! ### lookups by name -/

theorem find_replace {α : Type} (nm : α → Name) (a : Name) (y : α) (hy : nm y = a) (n : Name) : ∀ (l : List α),
    (l.map (fun x => if nm x == a then y else x)).find? (fun x => nm x == n) =
      if n = a then (l.find? (fun x => nm x == a)).map (fun _ => y) else l.find? (fun x => nm x == n) := by
  intro l
  induction l with
  | nil => simp
  | cons x l ih =>
    simp only [List.map_cons]
    by_cases hxa : nm x = a
    · have e1 : (if nm x == a then y else x) = y := by simp [hxa]
      rw [e1]
      by_cases hna : n = a
      · rw [if_pos hna, List.find?_cons_of_pos (by simp [hy, hna]), List.find?_cons_of_pos (by simp [hxa])]; rfl
      · have h1 : ¬ a = n := fun h => hna h.symm
        rw [if_neg hna, List.find?_cons_of_neg (by simp [hy, h1]), List.find?_cons_of_neg (by simp [hxa, h1]), ih, if_neg hna]
    · have e1 : (if nm x == a then y else x) = x := by simp [hxa]
      rw [e1]
      by_cases hxn : nm x = n
      · have hna : ¬ n = a := fun h => hxa (hxn.trans h)
        rw [if_neg hna, List.find?_cons_of_pos (by simp [hxn]), List.find?_cons_of_pos (by simp [hxn])]
      · rw [List.find?_cons_of_neg (by simp [hxn]), ih]
        by_cases hna : n = a
        · rw [if_pos hna, if_pos hna, List.find?_cons_of_neg (by simp [hxa])]
        · rw [if_neg hna, if_neg hna, List.find?_cons_of_neg (by simp [hxn])]

theorem findType_append (ts : List TypeEntry) (t : TypeEntry) (n : Name) :
    findType (ts ++ [t]) n = (findType ts n).or (if t.name == n then some t else none) := by
  unfold findType
  rw [List.find?_append]
  simp [List.find?_cons]
  split <;> simp_all

theorem findType_setType (ts : List TypeEntry) (n : Name) (t' : TypeEntry) (h : t'.name = n) (m : Name) :
    findType (setType ts n t') m = if m = n then (findType ts n).map (fun _ => t') else findType ts m := by
  unfold findType setType
  exact find_replace (fun t : TypeEntry => t.name) n t' h m ts

theorem findType_name {ts : List TypeEntry} {n : Name} {t : TypeEntry} (h : findType ts n = some t) : t.name = n := by
  unfold findType at h
  have := List.find?_some h
  simpa using this

theorem findType_append_none (ts : List TypeEntry) (t : TypeEntry) (n : Name) (h : findType ts n = none)
    (ht : t.name ≠ n) : findType (ts ++ [t]) n = none := by
  rw [findType_append, h]
  simp [ht]

theorem findType_setType_none (ts : List TypeEntry) (m : Name) (t' : TypeEntry) (n : Name)
    (h : findType ts n = none) (ht : t'.name ≠ n) : findType (setType ts m t') n = none := by
  unfold findType setType at *
  rw [List.find?_eq_none] at *
  intro x hx
  rw [List.mem_map] at hx
  obtain ⟨y, hy, rfl⟩ := hx
  have := h y hy
  split
  · simpa using ht
  · exact this

theorem findDir_append (ds : List DirEntry) (x : DirEntry) (n : Name) :
    findDir (ds ++ [x]) n = (findDir ds n).or (if x.name == n then some x else none) := by
  unfold findDir
  rw [List.find?_append]
  simp [List.find?_cons]
  split <;> simp_all

theorem findDir_replace (ds : List DirEntry) (a : Name) (y : DirEntry) (h : y.name = a) (n : Name) :
    findDir (ds.map (fun x => if x.name == a then y else x)) n =
      if n = a then (findDir ds a).map (fun _ => y) else findDir ds n := by
  unfold findDir
  exact find_replace (fun t : DirEntry => t.name) a y h n ds

/-! ### `type_definition!` and `type_extension!` by the outcome of the lookup -/

theorem stepTypeDef_fresh (s : Builder) (k : Kind) (d : Def) (hf : findType s.types d.name = none) :
    stepTypeDef s k d =
      { s with types := s.types ++ [(typeFromAst k d (s.orphanQ.filter (fun e => e.name == d.name)) s.errors).1],
               orphanQ := s.orphanQ.filter (fun e => !(e.name == d.name)),
               errors := (typeFromAst k d (s.orphanQ.filter (fun e => e.name == d.name)) s.errors).2 } := by
  unfold stepTypeDef; rw [hf]

theorem stepTypeExt_orphan (s : Builder) (k : Kind) (e : Def) (hf : findType s.types e.name = none) :
    stepTypeExt s k e = { s with orphanQ := s.orphanQ ++ [e] } := by
  unfold stepTypeExt; rw [hf]

theorem stepTypeExt_found (s : Builder) (k : Kind) (e : Def) (t : TypeEntry) (hf : findType s.types e.name = some t)
    (hk : t.kind = k) :
    stepTypeExt s k e = { s with types := setType s.types e.name (extendType t e s.errors).1,
                                 errors := (extendType t e s.errors).2 } := by
  unfold stepTypeExt; rw [hf]; simp [hk]

theorem stepTypeExt_mismatch (s : Builder) (k : Kind) (e : Def) (t : TypeEntry)
    (hf : findType s.types e.name = some t) (hk : ¬ t.kind = k) :
    stepTypeExt s k e = push s e.namePos (.typeExtensionKindMismatch e.name k t.kind) := by
  unfold stepTypeExt; rw [hf]; simp [hk]

/-! ### compositionality: folds over sources -/

theorem addDocument_append (s : Builder) (a b : List Def) :
    addDocument s (a ++ b) = addDocument (addDocument s a) b := by
  simp [addDocument, List.foldl_append]

theorem addSources_flatten (srcs : List (List Def)) (s : Builder) :
    addSources s srcs = addDocument s srcs.flatten := by
  simp only [addSources, addDocument, List.foldl_flatten]
  rfl

theorem xaddSources_flatten (srcs : List (List XDef)) (s : XBuilder) :
    xaddSources s srcs = xaddDocument s srcs.flatten := by
  simp only [xaddSources, xaddDocument, List.foldl_flatten]
  rfl

/-! ### stable sort under an order-preserving relabelling -/

theorem mem_insertBy {α : Type} (lt : α → α → Bool) (x : α) : ∀ (l : List α) (a : α),
    a ∈ insertBy lt x l ↔ a = x ∨ a ∈ l := by
  intro l
  induction l with
  | nil => intro a; simp [insertBy]
  | cons y ys ih =>
    intro a
    unfold insertBy
    by_cases h : lt x y = true
    · simp [h]
    · simp only [h, Bool.false_eq_true, if_false, List.mem_cons, ih]
      constructor
      · rintro (h | h | h) <;> simp [h]
      · rintro (h | h | h) <;> simp [h]

theorem mem_sortBy {α : Type} (lt : α → α → Bool) : ∀ (l : List α) (a : α), a ∈ sortBy lt l ↔ a ∈ l := by
  intro l
  induction l with
  | nil => intro a; simp [sortBy]
  | cons x xs ih => intro a; simp [sortBy, mem_insertBy, ih]

theorem insertBy_map {α β : Type} (lt : α → α → Bool) (lt' : β → β → Bool) (f : α → β) (x : α) :
    ∀ (l : List α), (∀ y ∈ l, lt' (f x) (f y) = lt x y) →
      insertBy lt' (f x) (l.map f) = (insertBy lt x l).map f := by
  intro l
  induction l with
  | nil => intro _; simp [insertBy]
  | cons y ys ih =>
    intro h
    have hy := h y (by simp)
    have ih' := ih (fun z hz => h z (by simp [hz]))
    simp only [List.map_cons, insertBy, hy]
    by_cases c : lt x y = true
    · simp [c]
    · simp [c, ih']

theorem sortBy_map {α β : Type} (lt : α → α → Bool) (lt' : β → β → Bool) (f : α → β) :
    ∀ (l : List α), (∀ x ∈ l, ∀ y ∈ l, lt' (f x) (f y) = lt x y) →
      sortBy lt' (l.map f) = (sortBy lt l).map f := by
  intro l
  induction l with
  | nil => intro _; simp [sortBy]
  | cons x xs ih =>
    intro h
    have ih' := ih (fun a ha b hb => h a (by simp [ha]) b (by simp [hb]))
    simp only [List.map_cons, sortBy, ih']
    apply insertBy_map
    intro y hy
    exact h x (by simp) y (by simp [(mem_sortBy lt xs y).mp hy])

/-- files laid out one after another: a later file starts after the end of an earlier one -/
theorem base_mono (base len : Nat → Nat) (hbase : ∀ f, base f + len f ≤ base (f + 1)) :
    ∀ (d f : Nat), base f + len f ≤ base (f + 1 + d) := by
  intro d
  induction d with
  | zero => intro f; exact hbase f
  | succ d ih =>
    intro f
    have h1 := ih f
    have h2 := hbase (f + 1 + d)
    rw [show f + 1 + (d + 1) = f + 1 + d + 1 by omega]
    omega

/-! ### a fold that queues some elements until the element they wait for arrives

`isExt` elements are put on a queue while the state is still `Undef`ined; the element `d` then consumes the
queue (`define`), and an `isExt` element that comes after `d` is applied exactly as if it had been the next
one on the queue.  Every other element neither looks at the queue nor changes it.  Then the queued elements
may as well be moved directly behind `d`. -/

section Queue
variable {σ δ : Type} {step : σ → δ → σ} {isExt isDef : δ → Bool} {clear : σ → σ} {queue : σ → List δ}
  {Undef : σ → Prop}

theorem foldl_collect_queue
    (hother : ∀ s x, isExt x = false → isDef x = false → Undef s →
      clear (step s x) = step (clear s) x ∧ queue (step s x) = queue s ∧ Undef (step s x))
    (hext : ∀ s e, isExt e = true → Undef s →
      clear (step s e) = clear s ∧ queue (step s e) = queue s ++ [e] ∧ Undef (step s e)) :
    ∀ (l : List δ) (s : σ), (∀ x ∈ l, isDef x = false) → Undef s →
      clear (l.foldl step s) = (l.filter (fun x => !isExt x)).foldl step (clear s)
      ∧ queue (l.foldl step s) = queue s ++ l.filter isExt
      ∧ Undef (l.foldl step s) := by
  intro l
  induction l with
  | nil => intro s _ hs; simp [hs]
  | cons x l ih =>
    intro s hl hs
    have hl' : ∀ y ∈ l, isDef y = false := fun y hy => hl y (by simp [hy])
    simp only [List.foldl_cons]
    cases he : isExt x with
    | true =>
      obtain ⟨a, b, c⟩ := hext s x he hs
      obtain ⟨i1, i2, i3⟩ := ih (step s x) hl' c
      exact ⟨by rw [i1, a]; simp [he], by rw [i2, b]; simp [he], i3⟩
    | false =>
      obtain ⟨a, b, c⟩ := hother s x he (hl x (by simp)) hs
      obtain ⟨i1, i2, i3⟩ := ih (step s x) hl' c
      exact ⟨by rw [i1, a]; simp [he], by rw [i2, b]; simp [he], i3⟩

theorem foldl_queue_commutes {define : σ → List δ → σ} {d : δ}
    (hother : ∀ s x, isExt x = false → isDef x = false → Undef s →
      clear (step s x) = step (clear s) x ∧ queue (step s x) = queue s ∧ Undef (step s x))
    (hext : ∀ s e, isExt e = true → Undef s →
      clear (step s e) = clear s ∧ queue (step s e) = queue s ++ [e] ∧ Undef (step s e))
    (hclear : ∀ s, Undef s → Undef (clear s))
    (hdef : ∀ s, Undef s → step s d = define (clear s) (queue s))
    (hlate : ∀ u q e, Undef u → isExt e = true → step (define u q) e = define u (q ++ [e]))
    (s : σ) (l : List δ) (hs : Undef s) (hl : ∀ x ∈ l, isDef x = false) :
    (l ++ [d]).foldl step s = (l.filter (fun x => !isExt x) ++ d :: l.filter isExt).foldl step s := by
  obtain ⟨a1, a2, a3⟩ := foldl_collect_queue hother hext l s hl hs
  obtain ⟨b1, b2, b3⟩ := foldl_collect_queue hother hext (l.filter (fun x => !isExt x)) s
    (fun x hx => hl x (List.mem_filter.mp hx).1) hs
  have hmid : (l.filter (fun x => !isExt x)).filter (fun x => !isExt x) = l.filter (fun x => !isExt x) := by simp
  have hnone : (l.filter (fun x => !isExt x)).filter isExt = [] := by simp
  rw [hmid] at b1
  rw [hnone, List.append_nil] at b2
  have hu := hclear _ b3
  rw [b1] at hu
  -- the extensions behind `d` are applied one by one to what `d` built from the queue
  have late : ∀ (es : List δ) (q : List δ), (∀ e ∈ es, isExt e = true) →
      es.foldl step (define ((l.filter (fun x => !isExt x)).foldl step (clear s)) q)
        = define ((l.filter (fun x => !isExt x)).foldl step (clear s)) (q ++ es) := by
    intro es
    induction es with
    | nil => intro q _; simp
    | cons e es ih =>
      intro q hes
      rw [List.foldl_cons, hlate _ q e hu (hes e (by simp)), ih _ (fun x hx => hes x (by simp [hx]))]
      simp
  rw [List.foldl_append, List.foldl_append, List.foldl_cons, List.foldl_cons, List.foldl_nil,
    hdef _ a3, a1, a2, hdef _ b3, b1, b2, late _ _ (fun e he => (List.mem_filter.mp he).2)]

end Queue

/-! ### type extensions before the definition of their type -/

def isExtOf (n : Name) (x : Def) : Bool :=
  match x.tag with
  | .typeExt _ => x.name == n
  | _ => false

def isDefOf (n : Name) (x : Def) : Bool :=
  match x.tag with
  | .typeDef _ => x.name == n
  | _ => false

def strip (n : Name) (s : Builder) : Builder :=
  { s with orphanQ := s.orphanQ.filter (fun e => !(e.name == n)) }

def queued (n : Name) (s : Builder) : List Def := s.orphanQ.filter (fun e => e.name == n)

@[simp] theorem strip_types (n : Name) (s : Builder) : (strip n s).types = s.types := rfl
@[simp] theorem strip_errors (n : Name) (s : Builder) : (strip n s).errors = s.errors := rfl
@[simp] theorem push_types (s : Builder) (p : Pos) (d : Diag) : (push s p d).types = s.types := rfl
@[simp] theorem push_orphanQ (s : Builder) (p : Pos) (d : Diag) : (push s p d).orphanQ = s.orphanQ := rfl
theorem strip_push (n : Name) (s : Builder) (p : Pos) (d : Diag) : strip n (push s p d) = push (strip n s) p d := rfl

theorem isExtOf_iff {n : Name} {x : Def} : isExtOf n x = true ↔ (∃ k, x.tag = .typeExt k) ∧ x.name = n := by
  unfold isExtOf
  cases x.tag <;> simp

theorem filter_ne_eq {n m : Name} (h : m ≠ n) (q : List Def) :
    (q.filter (fun e => !(e.name == n))).filter (fun e => e.name == m) = q.filter (fun e => e.name == m) := by
  rw [List.filter_filter]
  congr 1
  funext e
  by_cases c : e.name = m
  · subst c; simp [h]
  · simp [c]

theorem filter_ne_comm (n m : Name) (q : List Def) :
    (q.filter (fun e => !(e.name == m))).filter (fun e => !(e.name == n))
      = (q.filter (fun e => !(e.name == n))).filter (fun e => !(e.name == m)) := by
  rw [List.filter_filter, List.filter_filter]
  congr 1
  funext e
  exact Bool.and_comm _ _

theorem extendType_name (t : TypeEntry) (e : Def) (errs : List Err) : (extendType t e errs).1.name = t.name := rfl
theorem extendType_kind (t : TypeEntry) (e : Def) (errs : List Err) : (extendType t e errs).1.kind = t.kind := rfl

theorem adoptStep_name (k : Kind) (acc : TypeEntry × List Err) (e : Def) : (adoptStep k acc e).1.name = acc.1.name := by
  unfold adoptStep; split <;> rfl
theorem adoptStep_kind (k : Kind) (acc : TypeEntry × List Err) (e : Def) : (adoptStep k acc e).1.kind = acc.1.kind := by
  unfold adoptStep; split <;> rfl

theorem typeFromAst_name (k : Kind) (d : Def) (exts : List Def) (errs : List Err) :
    (typeFromAst k d exts errs).1.name = d.name ∧ (typeFromAst k d exts errs).1.kind = k := by
  have fold : ∀ (es : List Def) (acc : TypeEntry × List Err),
      (es.foldl (adoptStep k) acc).1.name = acc.1.name ∧ (es.foldl (adoptStep k) acc).1.kind = acc.1.kind := by
    intro es
    induction es with
    | nil => intro acc; exact ⟨rfl, rfl⟩
    | cons e es ih =>
      intro acc
      rw [List.foldl_cons, (ih _).1, (ih _).2, adoptStep_name, adoptStep_kind]
      exact ⟨rfl, rfl⟩
  exact fold exts (typeOfDef k d errs)

/-! #### a definition that is neither an extension nor the definition of `n` neither sees nor touches the
queued extensions of `n`, and keeps `n` undefined -/

theorem stepTypeDef_other (n : Name) (s : Builder) (k : Kind) (x : Def) (hx : x.name ≠ n)
    (hn : findType s.types n = none) :
    strip n (stepTypeDef s k x) = stepTypeDef (strip n s) k x ∧ queued n (stepTypeDef s k x) = queued n s
      ∧ findType (stepTypeDef s k x).types n = none := by
  unfold stepTypeDef
  simp only [strip_types]
  cases hf : findType s.types x.name with
  | none =>
    refine ⟨?_, filter_ne_eq (Ne.symm hx) _, findType_append_none _ _ _ hn ?_⟩
    · simp only [strip, filter_ne_eq hx, filter_ne_comm]
    · rw [(typeFromAst_name _ _ _ _).1]; exact hx
  | some prev =>
    simp only [show (strip n s).ignoreBuiltin = s.ignoreBuiltin from rfl]
    split
    · exact ⟨rfl, rfl, hn⟩
    · split <;> exact ⟨rfl, rfl, hn⟩

theorem stepTypeExt_other (n : Name) (s : Builder) (k : Kind) (x : Def) (hx : x.name ≠ n)
    (hn : findType s.types n = none) :
    strip n (stepTypeExt s k x) = stepTypeExt (strip n s) k x ∧ queued n (stepTypeExt s k x) = queued n s
      ∧ findType (stepTypeExt s k x).types n = none := by
  unfold stepTypeExt
  simp only [strip_types]
  cases hf : findType s.types x.name with
  | none => exact ⟨by simp [strip, List.filter_append, hx], by simp [queued, List.filter_append, hx], hn⟩
  | some t =>
    simp only []
    split
    · exact ⟨rfl, rfl, findType_setType_none _ _ _ _ hn (by rw [extendType_name, findType_name hf]; exact hx)⟩
    · exact ⟨rfl, rfl, hn⟩

theorem stepDirectiveDef_other (n : Name) (s : Builder) (x : Def) (hn : findType s.types n = none) :
    strip n (stepDirectiveDef s x) = stepDirectiveDef (strip n s) x ∧ queued n (stepDirectiveDef s x) = queued n s
      ∧ findType (stepDirectiveDef s x).types n = none := by
  unfold stepDirectiveDef
  rw [show (strip n s).directiveDefs = s.directiveDefs from rfl]
  cases findDir s.directiveDefs x.name with
  | none => exact ⟨rfl, rfl, hn⟩
  | some prev =>
    simp only []
    split <;> exact ⟨rfl, rfl, hn⟩

theorem step_other (n : Name) (s : Builder) (x : Def) (h1 : isExtOf n x = false) (h2 : isDefOf n x = false)
    (hn : findType s.types n = none) :
    strip n (step s x) = step (strip n s) x ∧ queued n (step s x) = queued n s
      ∧ findType (step s x).types n = none := by
  unfold step
  cases ht : x.tag with
  | schemaDef =>
    simp only []
    rw [show (strip n s).schemaFound = s.schemaFound from rfl]
    split <;> exact ⟨rfl, rfl, hn⟩
  | schemaExt =>
    simp only []
    rw [show (strip n s).schemaFound = s.schemaFound from rfl]
    split <;> exact ⟨rfl, rfl, hn⟩
  | directiveDef => exact stepDirectiveDef_other n s x hn
  | typeDef k => exact stepTypeDef_other n s k x (by intro hn; simp [isDefOf, ht, hn] at h2) hn
  | typeExt k => exact stepTypeExt_other n s k x (by intro hn; simp [isExtOf, ht, hn] at h1) hn
  | operation => exact ⟨rfl, rfl, hn⟩
  | fragment => exact ⟨rfl, rfl, hn⟩

/-! #### an extension of the still undefined `n` is just queued -/

theorem step_ext_orphan (n : Name) (s : Builder) (e : Def) (he : isExtOf n e = true)
    (hn : findType s.types n = none) :
    strip n (step s e) = strip n s ∧ queued n (step s e) = queued n s ++ [e]
      ∧ findType (step s e).types n = none := by
  obtain ⟨⟨k, ht⟩, hname⟩ := isExtOf_iff.mp he
  have : step s e = { s with orphanQ := s.orphanQ ++ [e] } := by
    unfold step
    rw [ht]
    simp only []
    unfold stepTypeExt
    rw [hname, hn]
  rw [this]
  exact ⟨by simp [strip, List.filter_append, hname], by simp [queued, List.filter_append, hname], hn⟩

/-! #### the definition of `n` arrives -/

/-- `type_definition!` for a fresh name, written in terms of the stripped builder and the queue of `n` -/
def defineWith (k : Kind) (d : Def) (u : Builder) (exts : List Def) : Builder :=
  let r := typeFromAst k d exts u.errors
  { u with types := u.types ++ [r.1], errors := r.2 }

theorem step_define (n : Name) (k : Kind) (d : Def) (s : Builder) (ht : d.tag = .typeDef k) (hname : d.name = n)
    (hn : findType s.types n = none) : step s d = defineWith k d (strip n s) (queued n s) := by
  unfold step
  rw [ht]
  simp only []
  unfold stepTypeDef
  rw [hname, hn]
  rfl

/-- after the definition, an extension is handled in place exactly as adopting it from the queue would
    have handled it: `extend_ast` for the definition's kind, the kind-mismatch diagnostic otherwise -/
theorem step_ext_defined (n : Name) (k : Kind) (u : Builder) (ts : List TypeEntry) (t : TypeEntry) (e : Def)
    (hu : u.types = ts ++ [t]) (hts : findType ts n = none) (htn : t.name = n) (htk : t.kind = k)
    (k' : Kind) (he : e.tag = .typeExt k') (hen : e.name = n) :
    step u e = { u with types := ts ++ [(adoptStep k (t, u.errors) e).1], errors := (adoptStep k (t, u.errors) e).2 } := by
  unfold step
  rw [he]
  simp only []
  unfold stepTypeExt
  have hfind : findType u.types e.name = some t := by
    rw [hu, hen, findType_append, hts]
    simp [htn]
  rw [hfind]
  by_cases hk : k' = k
  · subst hk
    simp only [htk, if_true, adoptStep, he]
    have hset : setType u.types e.name (extendType t e u.errors).1 = ts ++ [(extendType t e u.errors).1] := by
      rw [hu, hen]
      unfold setType
      rw [List.map_append]
      congr 1
      · unfold findType at hts
        rw [List.find?_eq_none] at hts
        have hm : List.map (fun t_1 => if (t_1.name == n) = true then (extendType t e u.errors).1 else t_1) ts
            = List.map id ts := by
          apply List.map_congr_left
          intro y hy
          have := hts y hy
          simp only [id]
          split
          · rename_i h; exact absurd h this
          · rfl
        rw [hm, List.map_id]
      · simp [htn]
    rw [hset]
  · have hk2 : ¬ (k = k') := fun h => hk h.symm
    have hk3 : ¬ (DefTag.typeExt k' = DefTag.typeExt k) := by intro h; injection h with h; exact hk h
    simp only [if_false, adoptStep, he, hk3, push, kindOfExt, htk, ← hu, hk2]

theorem addDocument_exts_defined (n : Name) (k : Kind) (ts : List TypeEntry) (hts : findType ts n = none) :
    ∀ (es : List Def) (u : Builder) (t : TypeEntry),
    u.types = ts ++ [t] → t.name = n → t.kind = k →
    (∀ e ∈ es, (∃ k', e.tag = .typeExt k') ∧ e.name = n) →
    addDocument u es = { u with types := ts ++ [(es.foldl (adoptStep k) (t, u.errors)).1],
                                errors := (es.foldl (adoptStep k) (t, u.errors)).2 } := by
  intro es
  induction es with
  | nil => intro u t hu _ _ _; simp [addDocument, ← hu]
  | cons e es ih =>
    intro u t hu htn htk hes
    obtain ⟨⟨k', he⟩, hen⟩ := hes e (by simp)
    simp only [addDocument, List.foldl_cons] at ih ⊢
    rw [step_ext_defined n k u ts t e hu hts htn htk k' he hen]
    have := ih { u with types := ts ++ [(adoptStep k (t, u.errors) e).1], errors := (adoptStep k (t, u.errors) e).2 }
      (adoptStep k (t, u.errors) e).1 rfl (by rw [adoptStep_name]; exact htn) (by rw [adoptStep_kind]; exact htk)
      (fun x hx => hes x (by simp [hx]))
    rw [this]

/-- the core of `C13.type_ext_commutes`: extensions of the undefined type `n` (of any kind) interleaved with other
    definitions, then the definition of `n` = the other definitions, the definition of `n`, then the
    extensions, in their order -/
theorem type_ext_commutes_state (n : Name) (k : Kind) (d : Def) (s : Builder) (l : List Def)
    (hfresh : findType s.types n = none) (ht : d.tag = .typeDef k) (hname : d.name = n)
    (hnodef : ∀ x ∈ l, isDefOf n x = false) :
    addDocument s (l ++ [d]) =
      addDocument s (l.filter (fun x => !(isExtOf n x)) ++ d :: l.filter (isExtOf n)) := by
  refine foldl_queue_commutes (clear := strip n) (queue := queued n) (isDef := isDefOf n)
    (Undef := fun s => findType s.types n = none) (define := defineWith k d)
    (step_other n) (step_ext_orphan n) (fun _ h => h) (fun s => step_define n k d s ht hname) ?_ s l hfresh hnodef
  intro u q e hu he
  obtain ⟨⟨k', hk'⟩, hen⟩ := isExtOf_iff.mp he
  have hnk := typeFromAst_name k d q u.errors
  rw [step_ext_defined n k (defineWith k d u q) u.types _ e rfl hu (hnk.1.trans hname) hnk.2 k' hk' hen]
  simp only [defineWith, typeFromAst, List.foldl_append]
  rfl

/-! ### schema extensions before the schema definition -/

def isSchemaExt (x : Def) : Bool := x.tag == .schemaExt
def isSchemaDef (x : Def) : Bool := x.tag == .schemaDef

def clearS (s : Builder) : Builder := { s with orphanSchemaExts := [] }

theorem stepTypeDef_clearS (s : Builder) (k : Kind) (x : Def) :
    clearS (stepTypeDef s k x) = stepTypeDef (clearS s) k x
    ∧ (stepTypeDef s k x).orphanSchemaExts = s.orphanSchemaExts
    ∧ (stepTypeDef s k x).schemaFound = s.schemaFound := by
  unfold stepTypeDef
  simp only [show (clearS s).types = s.types from rfl, show (clearS s).orphanQ = s.orphanQ from rfl,
    show (clearS s).errors = s.errors from rfl, show (clearS s).ignoreBuiltin = s.ignoreBuiltin from rfl]
  cases findType s.types x.name with
  | none => exact ⟨rfl, rfl, rfl⟩
  | some prev =>
    simp only []
    split
    · exact ⟨rfl, rfl, rfl⟩
    · split <;> exact ⟨rfl, rfl, rfl⟩

theorem stepTypeExt_clearS (s : Builder) (k : Kind) (x : Def) :
    clearS (stepTypeExt s k x) = stepTypeExt (clearS s) k x
    ∧ (stepTypeExt s k x).orphanSchemaExts = s.orphanSchemaExts
    ∧ (stepTypeExt s k x).schemaFound = s.schemaFound := by
  unfold stepTypeExt
  simp only [show (clearS s).types = s.types from rfl, show (clearS s).orphanQ = s.orphanQ from rfl,
    show (clearS s).errors = s.errors from rfl]
  cases findType s.types x.name with
  | none => exact ⟨rfl, rfl, rfl⟩
  | some t =>
    simp only []
    split <;> exact ⟨rfl, rfl, rfl⟩

theorem stepDirectiveDef_clearS (s : Builder) (x : Def) :
    clearS (stepDirectiveDef s x) = stepDirectiveDef (clearS s) x
    ∧ (stepDirectiveDef s x).orphanSchemaExts = s.orphanSchemaExts
    ∧ (stepDirectiveDef s x).schemaFound = s.schemaFound := by
  unfold stepDirectiveDef
  simp only [show (clearS s).directiveDefs = s.directiveDefs from rfl]
  cases findDir s.directiveDefs x.name with
  | none => exact ⟨rfl, rfl, rfl⟩
  | some prev =>
    simp only []
    split <;> exact ⟨rfl, rfl, rfl⟩

theorem step_clearS (s : Builder) (x : Def) (h1 : isSchemaExt x = false) (h2 : isSchemaDef x = false) :
    clearS (step s x) = step (clearS s) x
    ∧ (step s x).orphanSchemaExts = s.orphanSchemaExts
    ∧ (step s x).schemaFound = s.schemaFound := by
  unfold step
  cases ht : x.tag with
  | schemaDef => simp [isSchemaDef, ht] at h2
  | schemaExt => simp [isSchemaExt, ht] at h1
  | directiveDef => exact stepDirectiveDef_clearS s x
  | typeDef k => exact stepTypeDef_clearS s k x
  | typeExt k => exact stepTypeExt_clearS s k x
  | operation => exact ⟨rfl, rfl, rfl⟩
  | fragment => exact ⟨rfl, rfl, rfl⟩

theorem step_schemaExt_orphan (s : Builder) (e : Def) (he : isSchemaExt e = true) (hs : s.schemaFound = false) :
    step s e = { s with orphanSchemaExts := s.orphanSchemaExts ++ [e] } := by
  have ht : e.tag = .schemaExt := by simpa [isSchemaExt] using he
  unfold step
  rw [ht]
  simp [hs]

def defineSchemaWith (d : Def) (u : Builder) (exts : List Def) : Builder :=
  let r := schemaFromAst d exts u.errors
  { u with schemaDef := r.1, schemaFound := true, orphanSchemaExts := [], errors := r.2 }

theorem step_defineSchema (d : Def) (s : Builder) (ht : d.tag = .schemaDef) (hs : s.schemaFound = false) :
    step s d = defineSchemaWith d (clearS s) s.orphanSchemaExts := by
  unfold step
  rw [ht]
  simp only [hs]
  rfl

theorem step_schemaExt_found (u : Builder) (e : Def) (hu : u.schemaFound = true) (he : isSchemaExt e = true) :
    step u e = { u with schemaDef := (schemaStep (u.schemaDef, u.errors) e).1,
                        errors := (schemaStep (u.schemaDef, u.errors) e).2 } := by
  have ht : e.tag = .schemaExt := by simpa [isSchemaExt] using he
  unfold step
  rw [ht]
  simp only [hu, if_true]
  rfl

theorem addDocument_schemaExts_found : ∀ (es : List Def) (u : Builder),
    u.schemaFound = true → (∀ e ∈ es, isSchemaExt e = true) →
    addDocument u es = { u with schemaDef := (es.foldl schemaStep (u.schemaDef, u.errors)).1,
                                errors := (es.foldl schemaStep (u.schemaDef, u.errors)).2 } := by
  intro es
  induction es with
  | nil => intro u _ _; simp [addDocument]
  | cons e es ih =>
    intro u hu hes
    simp only [addDocument, List.foldl_cons] at ih ⊢
    rw [step_schemaExt_found u e hu (hes e (by simp))]
    exact ih _ hu (fun x hx => hes x (by simp [hx]))

theorem schema_ext_commutes_state (d : Def) (s : Builder) (l : List Def)
    (hfresh : s.schemaFound = false) (ht : d.tag = .schemaDef)
    (hnodef : ∀ x ∈ l, isSchemaDef x = false) :
    addDocument s (l ++ [d]) =
      addDocument s (l.filter (fun x => !(isSchemaExt x)) ++ d :: l.filter isSchemaExt) := by
  refine foldl_queue_commutes (clear := clearS) (queue := (·.orphanSchemaExts)) (isDef := isSchemaDef)
    (Undef := fun s => s.schemaFound = false) (define := defineSchemaWith d)
    ?_ ?_ (fun _ h => h) (fun s => step_defineSchema d s ht) ?_ s l hfresh hnodef
  · intro s x h1 h2 hs
    obtain ⟨c1, c2, c3⟩ := step_clearS s x h1 h2
    exact ⟨c1, c2, c3.trans hs⟩
  · intro s e he hs
    rw [step_schemaExt_orphan s e he hs]
    exact ⟨rfl, rfl, hs⟩
  · intro u q e _ he
    rw [step_schemaExt_found _ e rfl he]
    simp only [defineSchemaWith, schemaFromAst, List.foldl_append]
    rfl

/-! ### the type map and the orphan queue under one definition -/

/-- what one definition does to `types` and to the orphan queue: nothing; a new type that takes its
    extensions off the queue; an extension applied in place; an extension put on the queue -/
theorem step_types_cases (s : Builder) (d : Def) :
    ((step s d).types = s.types ∧ (step s d).orphanQ = s.orphanQ) ∨
    (∃ k, d.tag = .typeDef k ∧ findType s.types d.name = none ∧
      (step s d).types
        = s.types ++ [(typeFromAst k d (s.orphanQ.filter (fun e => e.name == d.name)) s.errors).1] ∧
      (step s d).orphanQ = s.orphanQ.filter (fun e => !(e.name == d.name))) ∨
    (∃ k t, d.tag = .typeExt k ∧ findType s.types d.name = some t ∧ t.kind = k ∧
      (step s d).types = setType s.types d.name (extendType t d s.errors).1 ∧
      (step s d).orphanQ = s.orphanQ) ∨
    (∃ k, d.tag = .typeExt k ∧ findType s.types d.name = none ∧
      (step s d).types = s.types ∧ (step s d).orphanQ = s.orphanQ ++ [d]) := by
  unfold step
  cases ht : d.tag with
  | schemaDef => simp only []; split <;> exact Or.inl ⟨rfl, rfl⟩
  | schemaExt => simp only []; split <;> exact Or.inl ⟨rfl, rfl⟩
  | operation => exact Or.inl ⟨rfl, rfl⟩
  | fragment => exact Or.inl ⟨rfl, rfl⟩
  | directiveDef =>
    simp only []
    unfold stepDirectiveDef
    cases findDir s.directiveDefs d.name with
    | none => exact Or.inl ⟨rfl, rfl⟩
    | some prev => simp only []; split <;> exact Or.inl ⟨rfl, rfl⟩
  | typeDef k =>
    simp only []
    unfold stepTypeDef
    cases hf : findType s.types d.name with
    | none => exact Or.inr (Or.inl ⟨k, rfl, rfl, rfl, rfl⟩)
    | some prev =>
      simp only []
      split
      · exact Or.inl ⟨rfl, rfl⟩
      · split <;> exact Or.inl ⟨rfl, rfl⟩
  | typeExt k =>
    simp only []
    unfold stepTypeExt
    cases hf : findType s.types d.name with
    | none => exact Or.inr (Or.inr (Or.inr ⟨k, rfl, rfl, rfl, rfl⟩))
    | some t =>
      simp only []
      split
      · exact Or.inr (Or.inr (Or.inl ⟨k, t, rfl, rfl, ‹_›, rfl, rfl⟩))
      · exact Or.inl ⟨rfl, rfl⟩

/-! ### the orphan-queue invariant -/

def QueueOk (s : Builder) : Prop :=
  ∀ e ∈ s.orphanQ, findType s.types e.name = none ∧ ∃ k, e.tag = .typeExt k

theorem step_queueOk (s : Builder) (x : Def) (h : QueueOk s) : QueueOk (step s x) := by
  unfold QueueOk
  rcases step_types_cases s x with ⟨ht, hq⟩ | ⟨k, _, hf, ht, hq⟩ | ⟨k, t, _, hf, _, ht, hq⟩ | ⟨k, htag, hf, ht, hq⟩ <;>
    rw [ht, hq]
  · exact h
  · intro e he
    have hm := List.mem_filter.mp he
    obtain ⟨h1, h2⟩ := h e hm.1
    refine ⟨findType_append_none _ _ _ h1 ?_, h2⟩
    rw [(typeFromAst_name _ _ _ _).1]
    intro hc
    have := hm.2
    simp [hc] at this
  · intro e he
    obtain ⟨h1, h2⟩ := h e he
    refine ⟨findType_setType_none _ _ _ _ h1 ?_, h2⟩
    rw [extendType_name, findType_name hf]
    intro hc
    rw [hc, h1] at hf
    cases hf
  · intro e he
    rcases List.mem_append.mp he with he | he
    · exact h e he
    · have : e = x := by simpa using he
      subst this
      exact ⟨hf, k, htag⟩

theorem addDocument_queueOk : ∀ (l : List Def) (s : Builder), QueueOk s → QueueOk (addDocument s l) := by
  intro l
  induction l with
  | nil => intro s h; exact h
  | cons x l ih => intro s h; exact ih (step s x) (step_queueOk s x h)

theorem addSources_queueOk (srcs : List (List Def)) (s : Builder) (h : QueueOk s) : QueueOk (addSources s srcs) := by
  rw [addSources_flatten]; exact addDocument_queueOk _ s h

end Apollo.SchemaBuild
