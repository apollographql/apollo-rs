import ApolloModel.Proofs.ParserExactT14
/-
C05, exact soundness for the type-system family: `schema` definition and extension against `looseFitXX` — the exact
guard (only the last root operation type may lack its named type), matching `cmpT_schemaDefinitionX` /
`cmpT_schemaExtensionX` (ParserExactC31) — and, as corollaries, against the coarser `looseFitX`.
-/
set_option linter.unusedSimpArgs false
namespace Apollo.Parse.Exact
open Apollo.Rowan hiding Str
open Apollo.Lex hiding Str

/-- `{ RootOperationTypeDefinition+ }` then `K`: only the last root can be nameless -/
theorem rootsBlock_soundXX (K : PI Unit) (LK : List Ast.Tok → Prop) (hK : Acc E0 (fun _ => True) K (fun _ => LK))
    (s s' : PState) (t : Tok) (rest : List Tok) (w : TW s) (he : EofEnd s) (ht : Toks s = t :: rest) (hk : t.kind = .lCurly)
    (h : (rootsBlock K).run s = .ok () s') (hnd : ¬ Doomed s') :
    Cons s s' (fun x => ∃ (roots : List (Ast.OpType × Option Ast.Str)) (xk : List Ast.Tok), roots ≠ [] ∧ rootsLastOnly roots ∧
      x = .p .lCurly :: (tRootOpItemsF roots ++ xk) ∧ LK xk) := by
  have hni : isIgnoredKind t.kind = false := by rw [hk]; rfl
  unfold rootsBlock at h
  obtain ⟨_, s1, h1, h2⟩ := bind_dec (bump "L_CURLY") _ s s' () h
  obtain ⟨ign, eb, hall, _⟩ := bump_spec "L_CURLY" s s1 w t rest ht h1
  have c0 : Cons s s1 (fun x => x = [.p .lCurly]) :=
    Cons.ofEat eb he (noEof_cons (by rw [hk]; decide) hall) (tokIs_punct t ign .lCurly hni (by simp [astOfV, hk]) hall)
  obtain ⟨len, h3⟩ := srcLen_dec _ s1 s' () h2
  obtain ⟨has, sL, h4, h5⟩ := bind_dec _ _ s1 s' () h3
  have aL := good_flagLoop .name rootOperationTypeDefinition good_rootOp (len + 3) false s1 has sL eb.w h4
  have gT : Good (if !has then (err >>= fun _ => K) else K) := good_ite _ _ _ (good_bind _ _ good_err (fun _ => hK.1)) hK.1
  have hndL : ¬ Doomed sL := fun d => hnd ((gT sL () s' aL.w h5).doom d)
  have c1 := rootsLoop_sound (len + 3) false s1 has sL eb.w c0.eofEnd h4 hndL
  cases has with
  | false =>
    exfalso
    simp only [Bool.not_false, if_true] at h5
    obtain ⟨_, sE, h6, h7⟩ := bind_dec err _ sL s' () h5
    obtain ⟨aE, dE⟩ := err_adv sL sE aL.w h6
    exact hnd ((hK.1 sE () s' aE.w h7).doom (dE (eofEnd_nonempty sL c1.eofEnd hndL)))
  | true =>
    simp only [Bool.not_true, Bool.false_eq_true, if_false] at h5
    have c2 := cons_of_acc hK sL s' () aL.w c1.eofEnd trivial h5 hnd
    refine ((c0.seq c1).seq c2).weaken ?_
    rintro z ⟨xy, y, rfl, ⟨x0, x1, rfl, rfl, roots, rfl, hlast, hhas, _⟩, hy⟩
    refine ⟨roots, y, ?_, hlast, by simp, hy⟩
    rintro rfl
    simp at hhas

def RootsRX (x : List Ast.Tok) : Prop :=
  ∃ roots : List (Ast.OpType × Option Ast.Str), roots ≠ [] ∧ rootsLastOnly roots ∧ x = .p .lCurly :: tRootOpItemsF roots ++ [.p .rCurly]

theorem sBraces_soundXX (s s' : PState) (w : TW s) (he : EofEnd s) (h : sBraces.run s = .ok () s') (hnd : ¬ Doomed s') :
    Cons s s' RootsRX := by
  unfold sBraces at h
  obtain ⟨sP, o, p, hor⟩ := ifPeek_dec .lCurly _ _ s s' () w h
  have heP := p.eofEnd he
  rcases hor with ⟨hkc, h5⟩ | ⟨_, h5⟩
  · obtain ⟨tc, rfl, hkc2⟩ := peeked_kind hkc
    have c := rootsBlock_soundXX _ (fun x => x = [.p .rCurly])
      (acc_expect .rCurly "R_CURLY" (.p .rCurly) (by intro t ht; simp [astOfV, ht]) rfl (by decide)) sP s' tc _ p.w heP p.head_cons hkc2 h5 hnd
    refine (c.transport p.toks.symm rfl c.eofEnd).weaken ?_
    rintro z ⟨roots, xk, hne, hl, rfl, rfl⟩
    exact ⟨roots, hne, hl, by simp⟩
  · exfalso
    exact hnd (err_dooms sP s' p.w heP h5)

theorem schemaTail_soundXX (n : Nat) (s s' : PState) (w : TW s) (he : EofEnd s)
    (h : (optKind .at (directives n true) sBraces).run s = .ok () s') (hnd : ¬ Doomed s') :
    Cons s s' (fun x => ∃ ds roots, roots ≠ [] ∧ rootsLastOnly roots ∧
      x = Ast.tDirectives ds ++ .p .lCurly :: tRootOpItemsF roots ++ [.p .rCurly] ∧ dirsFit true (bud s) ds) := by
  unfold optKind at h
  obtain ⟨s1, h1, h2⟩ := optThen_dec .at (directives n true) sBraces s s' h
  have a1 := good_optDirsEnd n s () s1 w h1
  have hnd1 : ¬ Doomed s1 := fun d => hnd ((good_sBraces s1 () s' a1.w h2).doom d)
  have c1 := optDirsEnd_sound n s s1 w he h1 hnd1
  have c2 := sBraces_soundXX s1 s' a1.w c1.eofEnd h2 hnd
  refine (c1.seq c2).weaken ?_
  rintro z ⟨x, y, rfl, ⟨ds, rfl, hds⟩, roots, hne, hl, rfl⟩
  exact ⟨ds, roots, hne, hl, by simp, hds⟩

/-- **schema definition, exact**: in the shape `defSound_of_loose` (ParserExactS14) expects, with `looseFitXX` — the
    guard that `cmpT_schemaDefinitionX` shows sufficient — in place of `looseFit` -/
theorem schemaDef_soundXX (n : Nat) (s s' : PState) (w : TW s) (he : EofEnd s) (hq : LexQ (Toks s)) (hs : DStart "schema".toList (Toks s))
    (hr : (schemaDefinition n).run s = .ok () s') (hnd : ¬ Doomed s') :
    ∃ (cs : List Tok) (l : LooseDef), Toks s = cs ++ Toks s' ∧ NoEof cs ∧ EofEnd s' ∧ TokIs (sig cs) l.toks ∧ looseFitXX (bud s) l ∧
      Settled s' ∧ (openBody l → ∀ t, s'.current = some t → t.kind ≠ .lCurly) := by
  have hset := schemaDef_settled n s s' w hr hnd
  rw [schemaDefinition_eq] at hr
  have gT : Good (optKind .at (directives n true) sBraces) :=
    good_bind _ _ good_peek (fun _ => good_ite _ _ _ (good_bind _ _ (good_directives n true) (fun _ => good_sBraces)) good_sBraces)
  obtain ⟨t, rest, htq, hni⟩ := dStart_sig hs
  obtain ⟨s1, s2, e1, h1, o2, _, he1, hnd2⟩ := withNode_entered _ _ s s' () t rest w he htq hni hr hnd
  have h0 : Toks s = Toks s1 := by simpa using e1.toks
  obtain ⟨sm, hp, ht⟩ := kwShape_split "schema" "schema_KW" _ s1 s2 h1
  have hacc := accL_defEnteredBody "schema" kwWord_schema "schema_KW" (pure () : PI Unit) (fun x => x = []) acc_pureL
  have am := hacc.1 s1 () sm e1.w hp
  have hndm : ¬ Doomed sm := fun d => hnd2 ((gT sm () s2 am.w ht).doom d)
  have c1 := cons_of_acc hacc s1 sm () e1.w he1 ⟨by rw [← h0]; exact hq, by rw [← h0]; exact defStart_of_DStart "schema" _ hs⟩ hp hndm
  have c2 := schemaTail_soundXX n sm s2 am.w c1.eofEnd ht hnd2
  have c := (c1.seq c2).node e1 o2
  obtain ⟨cs, x, a, b, e, d, x1, x2, rfl, ⟨desc, x3, rfl, rfl⟩, ds, roots, hne, hl, rfl, hds⟩ := c
  rw [bud_adv am, bud_eat e1] at hds
  refine ⟨cs, .schema desc ds roots, a, b, e, ?_, ⟨hds, hne, hl⟩, hset, fun ho => ho.elim⟩
  simpa [LooseDef.toks, schemaToks, kwPart, List.append_assoc] using d

/-! ### schema extension -/

def RootsXX (m : Bool) (cur : Option Tok) (x : List Ast.Tok) : Prop :=
  RootsRX x ∨ (x = [] ∧ m = true ∧ ∀ t, cur = some t → t.kind ≠ .lCurly)

theorem schemaExtBraces_soundXX (m : Bool) (s s' : PState) (w : TW s) (he : EofEnd s)
    (h : (schemaExtBraces m).run s = .ok () s') (hnd : ¬ Doomed s') : Cons s s' (RootsXX m s'.current) := by
  unfold schemaExtBraces at h
  obtain ⟨sP, o, p, hor⟩ := ifPeek_dec .lCurly _ _ s s' () w h
  have heP := p.eofEnd he
  rcases hor with ⟨hkc, h5⟩ | ⟨hkc, h5⟩
  · obtain ⟨tc, rfl, hkc2⟩ := peeked_kind hkc
    have hK : Acc E0 (fun _ => True) (expect .rCurly "R_CURLY" >>= fun _ => extEnd true) (fun _ x => x = [.p .rCurly]) := by
      refine (acc_bind early_false (acc_expect .rCurly "R_CURLY" (.p .rCurly) (by intro t ht; simp [astOfV, ht]) rfl (by decide))
        (fun _ => acc_extEnd true)).mono (fun _ h => h) ?_
      rintro _ x ⟨_, x1, x2, e, h1, h2⟩
      rw [e, h1, h2]; rfl
    have c := rootsBlock_soundXX _ (fun x => x = [.p .rCurly]) hK sP s' tc _ p.w heP p.head_cons hkc2 h5 hnd
    refine (c.transport p.toks.symm rfl c.eofEnd).weaken ?_
    rintro z ⟨roots, xk, hne, hl, rfl, rfl⟩
    exact Or.inl ⟨roots, hne, hl, by simp⟩
  · obtain ⟨hm, hss⟩ := extEnd_ok m sP s' p.w heP h5 hnd
    rw [hss]
    refine (Cons.nil p.toks heP).weaken ?_
    rintro z rfl
    refine Or.inr ⟨rfl, hm, ?_⟩
    intro t ht hk
    rw [p.current] at ht
    subst ht
    exact hkc (by simp [hk])

/-- **schema extension, exact** (`looseFitXX`, see `schemaDef_soundXX`) -/
theorem schemaExt_soundXX (n : Nat) (s s' : PState) (w : TW s) (he : EofEnd s) (hq : LexQ (Toks s)) (hs : EStart "schema".toList (Toks s))
    (hr : (schemaExtension n).run s = .ok () s') (hnd : ¬ Doomed s') :
    ∃ (cs : List Tok) (l : LooseDef), Toks s = cs ++ Toks s' ∧ NoEof cs ∧ EofEnd s' ∧ TokIs (sig cs) l.toks ∧ looseFitXX (bud s) l ∧
      Settled s' ∧ (openBody l → ∀ t, s'.current = some t → t.kind ≠ .lCurly) := by
  rw [schemaExtension_eq] at hr
  have gt : Good (extDirs n schemaExtBraces false) := good_extDirs n _ good_schemaExtBraces false
  have hset := ext2_settled "SCHEMA_EXTENSION" "extend_KW" "schema_KW" _ gt
    (sp_extDirs n _ good_schemaExtBraces sp_schemaExtBraces false) s s' w hr hnd
  have c := ext2_sound "SCHEMA_EXTENSION" "schema" kwWord_schema "extend_KW" "schema_KW" (extDirs n schemaExtBraces false)
    (fun b cur x => ∃ ds x2, x = Ast.tDirectives ds ++ x2 ∧ dirsFit true b ds ∧
      ((ds ≠ [] ∧ RootsXX true cur x2) ∨ (ds = [] ∧ RootsXX false cur x2))) gt
    (fun q q' wq heq hrq hndq => extDirs_soundG n _ good_schemaExtBraces (fun _ => RootsXX)
      (fun m q1 q2 w1 he1 h1 hnd1 => schemaExtBraces_soundXX m q1 q2 w1 he1 h1 hnd1) false q q' wq heq hrq hndq)
    s s' w he hq hs hr hnd
  obtain ⟨cs, x, a, b, e, d, x1, rfl, ds, x2, rfl, hds, hor⟩ := c
  have key : (∃ roots, roots ≠ [] ∧ rootsLastOnly roots ∧ x2 = .p .lCurly :: tRootOpItemsF roots ++ [.p .rCurly]) ∨
      (x2 = [] ∧ ds ≠ [] ∧ ∀ t, s'.current = some t → t.kind ≠ .lCurly) := by
    rcases hor with ⟨hne, hx⟩ | ⟨_, hx⟩
    · rcases hx with hx | ⟨h1, _, h3⟩
      · exact Or.inl hx
      · exact Or.inr ⟨h1, hne, h3⟩
    · rcases hx with hx | ⟨_, h2, _⟩
      · exact Or.inl hx
      · cases h2
  rcases key with ⟨roots, hne, hl, rfl⟩ | ⟨rfl, hdne, hcur⟩
  · have hemp : roots.isEmpty = false := by cases roots with | nil => exact absurd rfl hne | cons _ _ => rfl
    refine ⟨cs, .schemaExt ds roots, a, b, e, ?_, ⟨Or.inr hne, hds, hl⟩, hset, ?_⟩
    · simpa [LooseDef.toks, kwE, Ast.tBraced, hemp, List.append_assoc] using d
    · intro ho; exact absurd ho hne
  · refine ⟨cs, .schemaExt ds [], a, b, e, ?_, ⟨Or.inl hdne, hds, by intro r hr; simp at hr⟩, hset, fun _ => hcur⟩
    simpa [LooseDef.toks, kwE, Ast.tBraced, tRootOpItemsF, List.append_assoc] using d

/-! ### up to the recorded finding

`looseFitX` forgets which root operation types have their named type. -/

/-- **schema definition**, exact up to the recorded finding: in the shape `defSound_of_loose` (ParserExactS14) expects,
    with `looseFitX` (no root-name clause) in place of `looseFit` -/
theorem schemaDef_soundX (n : Nat) (s s' : PState) (w : TW s) (he : EofEnd s) (hq : LexQ (Toks s)) (hs : DStart "schema".toList (Toks s))
    (hr : (schemaDefinition n).run s = .ok () s') (hnd : ¬ Doomed s') :
    ∃ (cs : List Tok) (l : LooseDef), Toks s = cs ++ Toks s' ∧ NoEof cs ∧ EofEnd s' ∧ TokIs (sig cs) l.toks ∧ looseFitX (bud s) l ∧
      Settled s' ∧ (openBody l → ∀ t, s'.current = some t → t.kind ≠ .lCurly) := by
  obtain ⟨cs, l, a, b, c, d, e, f⟩ := schemaDef_soundXX n s s' w he hq hs hr hnd
  exact ⟨cs, l, a, b, c, d, looseFitX_of_XX _ l e, f⟩

/-- **schema extension**, exact up to the recorded finding (`looseFitX`, see `schemaDef_soundX`) -/
theorem schemaExt_soundX (n : Nat) (s s' : PState) (w : TW s) (he : EofEnd s) (hq : LexQ (Toks s)) (hs : EStart "schema".toList (Toks s))
    (hr : (schemaExtension n).run s = .ok () s') (hnd : ¬ Doomed s') :
    ∃ (cs : List Tok) (l : LooseDef), Toks s = cs ++ Toks s' ∧ NoEof cs ∧ EofEnd s' ∧ TokIs (sig cs) l.toks ∧ looseFitX (bud s) l ∧
      Settled s' ∧ (openBody l → ∀ t, s'.current = some t → t.kind ≠ .lCurly) := by
  obtain ⟨cs, l, a, b, c, d, e, f⟩ := schemaExt_soundXX n s s' w he hq hs hr hnd
  exact ⟨cs, l, a, b, c, d, looseFitX_of_XX _ l e, f⟩

end Apollo.Parse.Exact
