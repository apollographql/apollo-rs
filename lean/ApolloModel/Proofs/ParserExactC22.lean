import ApolloModel.Proofs.ParserExactC18
import ApolloModel.Proofs.ParserComplete22
/-
C05 (completeness of the whole Document grammar), exact budget: the eight type-system definitions — scalar,
enum, input object, union; object and interface (the `implements` look-ahead on the token text); directive
definitions and schema definitions.
-/
set_option linter.unusedSimpArgs false
namespace Apollo.Parse.Exact
open Apollo.Rowan hiding Str
open Apollo.Lex hiding Str

/-! ### `Directives? Body?` -/

/-- `Directives?` in front of `rest`, whose sentences (and, where it may be empty, follow tokens) are not `@` or `(` -/
theorem cmp_dirsThen {Hk : Kind → Prop} (n : Nat) (rest : PI Unit) {Lo : Nat → List Ast.Tok → Prop} {F : Kind → Prop}
    (ho : Cmp (fun _ => True) rest Lo F (fun _ => True))
    (hohead : ∀ b a x, Lo b (a :: x) → kindOfA a ≠ .at ∧ kindOfA a ≠ .lParen)
    (hnil : ∀ b k, Lo b [] → F k → k ≠ .at ∧ k ≠ .lParen) :
    Cmp Hk (optKind .at (directives n true) rest)
      (fun b x => ∃ ds x2, x = Ast.tDirectives ds ++ x2 ∧ dirsFit true b ds ∧ Lo b x2) F (fun _ => True) := by
  refine (cmp_optKindG (Hk := Hk) .at (directives n true) rest (cmp_directivesNeB n true) ho (fun b x h => ldirsNeB_head h)
    (fun b a x h => ⟨(hohead b a x h).1, hohead b a x h⟩) (fun b k h hf => ⟨(hnil b k h hf).1, hnil b k h hf⟩) (fun _ h => h)).mono
    (fun _ h => h) ?_ (fun _ h => h) (fun _ h => h)
  rintro b x ⟨ds, x2, rfl, hd, h2⟩
  exact ⟨_, x2, rfl, ldirsB_split true b ds hd, h2⟩

theorem cmp_dirsBody {Hk : Kind → Prop} (n : Nat) (k0 : Kind) (body : PI Unit) {Lb : Nat → List Ast.Tok → Prop} {Fb : Kind → Prop}
    (hb : Cmp (fun _ => True) body Lb Fb (fun _ => True))
    (hbhead : ∀ b x, Lb b x → ∃ a x', x = a :: x' ∧ kindOfA a = k0) (hk1 : k0 ≠ .at) (hk2 : k0 ≠ .lParen) :
    Cmp Hk (dirsBody n k0 body)
      (fun b x => ∃ ds x2, x = Ast.tDirectives ds ++ x2 ∧ dirsFit true b ds ∧ (Lb b x2 ∨ x2 = []))
      (fun k => k ≠ .at ∧ k ≠ .lParen ∧ k ≠ k0 ∧ Fb k) (fun _ => True) := by
  refine cmp_dirsThen n _ ((cmp_optU (Hk := fun _ => True) k0 body hb hbhead).mono (fun _ h => h) (fun _ _ h => h) (fun _ h => h.2.2) (fun _ h => h))
    ?_ (fun _ _ _ hf => ⟨hf.1, hf.2.1⟩)
  rintro b a x (h | h)
  · rw [kind_of_head hbhead h]; exact ⟨hk1, hk2⟩
  · cases h

/-! ### scalar, enum, input object, union -/

def LScalar (b : Nat) (x : List Ast.Tok) : Prop := ∃ desc nm ds, x = scalarToks desc true nm ds ∧ dirsFit true b ds

theorem cmpT_scalarTypeDefinition (n : Nat) :
    CmpT (fun _ => True) (scalarTypeDefinition n) LScalar (fun t => t.kind ≠ .at ∧ t.kind ≠ .lParen) (fun _ => True) := by
  rw [scalarTypeDefinition_eq]
  refine cmpT_withNode _ ?_
  refine (cmpT_defShape (Hk := fun _ => True) "scalar" "scalar_KW" n _ (cmp_optDirsEnd (Hk := fun _ => True) n).toT).mono (fun _ h => h) ?_ (fun _ h => h) (fun _ h => h)
  rintro b x ⟨desc, nm, ds, rfl, hd⟩
  exact ⟨desc, nm, Ast.tDirectives ds, by simp [scalarToks, kwPart], ds, rfl, hd⟩

def LEnum (b : Nat) (x : List Ast.Tok) : Prop :=
  ∃ desc nm ds vs, x = enumToks desc true nm ds vs ∧ dirsFit true b ds ∧ ∀ v ∈ vs, enumValFit b v

theorem lenumVals_head {b : Nat} {x : List Ast.Tok} (h : LEnumVals b x) : ∃ a x', x = a :: x' ∧ kindOfA a = .lCurly := by
  obtain ⟨vs, hne, rfl, _⟩ := h
  cases vs with
  | nil => exact absurd rfl hne
  | cons v r => exact ⟨.p .lCurly, Ast.tEnumValueDefItems (v :: r) ++ [.p .rCurly], by simp [Ast.tBraced], rfl⟩

theorem linputFields_head {b : Nat} {x : List Ast.Tok} (h : LInputFields b x) : ∃ a x', x = a :: x' ∧ kindOfA a = .lCurly := by
  obtain ⟨vs, hne, rfl, _⟩ := h
  cases vs with
  | nil => exact absurd rfl hne
  | cons v r => exact ⟨.p .lCurly, Ast.tIVDItems (v :: r) ++ [.p .rCurly], by simp [Ast.tBraced], rfl⟩

theorem lfields_head {b : Nat} {x : List Ast.Tok} (h : LFields b x) : ∃ a x', x = a :: x' ∧ kindOfA a = .lCurly := by
  obtain ⟨vs, hne, rfl, _⟩ := h
  cases vs with
  | nil => exact absurd rfl hne
  | cons v r => exact ⟨.p .lCurly, Ast.tFieldDefItems (v :: r) ++ [.p .rCurly], by simp [Ast.tBraced], rfl⟩

def Fbody (k : Kind) : Prop := k ≠ .at ∧ k ≠ .lParen ∧ k ≠ .lCurly

theorem cmpT_enumTypeDefinition (n : Nat) :
    CmpT (fun _ => True) (enumTypeDefinition n) LEnum (fun t => Fbody t.kind) (fun _ => True) := by
  rw [enumTypeDefinition_eq']
  refine cmpT_withNode _ ?_
  have hb := cmp_dirsBody (Hk := fun _ => True) n .lCurly (enumValuesDefinition n) (cmp_enumValuesDefinition n)
    (fun b x h => lenumVals_head h) (by decide) (by decide)
  refine (cmpT_defShape (Hk := fun _ => True) "enum" "enum_KW" n _ hb.toT).mono (fun _ h => h) ?_ (fun t h => ⟨h.1, h.2.1, h.2.2, trivial⟩) (fun _ h => h)
  rintro b x ⟨desc, nm, ds, vs, rfl, hd, hv⟩
  refine ⟨desc, nm, Ast.tDirectives ds ++ Ast.tBraced (Ast.tEnumValueDefItems vs) vs.isEmpty,
    by simp [enumToks, kwPart, Ast.tEnumBody], ds, Ast.tBraced (Ast.tEnumValueDefItems vs) vs.isEmpty, rfl, hd, ?_⟩
  by_cases hvs : vs = []
  · subst hvs; right; rfl
  · left; exact ⟨vs, hvs, rfl, hv⟩

def LInput (b : Nat) (x : List Ast.Tok) : Prop :=
  ∃ desc nm ds fs, x = inputToks desc true nm ds fs ∧ dirsFit true b ds ∧ ∀ v ∈ fs, ivdFit b v

theorem cmpT_inputObjectTypeDefinition (n : Nat) :
    CmpT (fun _ => True) (inputObjectTypeDefinition n) LInput (fun t => Fbody t.kind) (fun _ => True) := by
  rw [inputObjectTypeDefinition_eq']
  refine cmpT_withNode _ ?_
  have hb := cmp_dirsBody (Hk := fun _ => True) n .lCurly (inputFieldsDefinition n) (cmp_inputFieldsDefinition n)
    (fun b x h => linputFields_head h) (by decide) (by decide)
  refine (cmpT_defShape (Hk := fun _ => True) "input" "input_KW" n _ hb.toT).mono (fun _ h => h) ?_ (fun t h => ⟨h.1, h.2.1, h.2.2, trivial⟩) (fun _ h => h)
  rintro b x ⟨desc, nm, ds, vs, rfl, hd, hv⟩
  refine ⟨desc, nm, Ast.tDirectives ds ++ Ast.tBraced (Ast.tIVDItems vs) vs.isEmpty,
    by simp [inputToks, kwPart, Ast.tInputBody], ds, Ast.tBraced (Ast.tIVDItems vs) vs.isEmpty, rfl, hd, ?_⟩
  by_cases hvs : vs = []
  · subst hvs; right; rfl
  · left; exact ⟨vs, hvs, rfl, hv⟩

def LUnion (b : Nat) (x : List Ast.Tok) : Prop := ∃ desc nm ds ms, x = unionToks desc true nm ds ms ∧ dirsFit true b ds

theorem cmpT_unionTypeDefinition (n : Nat) :
    CmpT (fun _ => True) (unionTypeDefinition n) LUnion
      (fun t => t.kind ≠ .at ∧ t.kind ≠ .lParen ∧ t.kind ≠ .eq ∧ t.kind ≠ .pipe) (fun _ => True) := by
  rw [unionTypeDefinition_eq]
  refine cmpT_withNode _ ?_
  have hb := cmp_dirsBody (Hk := fun _ => True) n .eq unionMemberTypes cmp_unionMemberTypes
    (by rintro b x ⟨lead, first, rest, rfl⟩; exact ⟨_, _, rfl, rfl⟩) (by decide) (by decide)
  refine (cmpT_defShape (Hk := fun _ => True) "union" "union_KW" n _ hb.toT).mono (fun _ h => h) ?_ (fun t h => h) (fun _ h => h)
  rintro b x ⟨desc, nm, ds, ms, rfl, hd⟩
  exact ⟨desc, nm, Ast.tDirectives ds ++ tSepOpt [.p .eq] .pipe ms, by simp [unionToks, kwPart], ds, _, rfl, hd, tSepOpt_members b ms⟩

def NotImplTok (t : Tok) : Prop := ¬ (t.kind = .name ∧ t.data = "implements".toList)

/-! ### object and interface type definitions -/

def LFieldsTail (b : Nat) (x : List Ast.Tok) : Prop :=
  ∃ ds x2, x = Ast.tDirectives ds ++ x2 ∧ dirsFit true b ds ∧ (LFields b x2 ∨ x2 = [])

theorem cmp_fieldsTail (n : Nat) :
    Cmp (fun _ => True) (dirsBody n .lCurly (fieldsDefinition n)) LFieldsTail (fun k => k ≠ .at ∧ k ≠ .lParen ∧ k ≠ .lCurly ∧ True) (fun _ => True) :=
  cmp_dirsBody (Hk := fun _ => True) n .lCurly (fieldsDefinition n) (cmp_fieldsDefinition n) (fun b x h => lfields_head h) (by decide) (by decide)

theorem dirsThen_head {P : Kind → Prop} {Lo : List Ast.Directive → List Ast.Tok → Prop} {c : Bool} {b : Nat} {a : Ast.Tok} {x : List Ast.Tok}
    (hat : P .at) (hohead : ∀ a x, Lo [] (a :: x) → P (kindOfA a))
    (h : ∃ ds x2, a :: x = Ast.tDirectives ds ++ x2 ∧ dirsFit c b ds ∧ Lo ds x2) :
    P (kindOfA a) := by
  obtain ⟨ds, x2, e, _, h2⟩ := h
  cases ds with
  | cons d r =>
    simp only [Ast.tDirectives, List.cons_append] at e
    injection e with e _
    rw [e]; exact hat
  | nil =>
    simp only [Ast.tDirectives, List.nil_append] at e
    subst e
    exact hohead _ _ h2

theorem lfieldsTail_head {b : Nat} {a : Ast.Tok} {x : List Ast.Tok} (h : LFieldsTail b (a :: x)) : kindOfA a ≠ .name ∧ kindOfA a ≠ .amp := by
  refine dirsThen_head (P := fun k => k ≠ .name ∧ k ≠ .amp) (Lo := fun _ x2 => LFields b x2 ∨ x2 = []) ⟨by decide, by decide⟩ ?_ h
  rintro a x (h | h)
  · rw [kind_of_head (L := LFields) (fun _ _ h => lfields_head h) h]; exact ⟨by decide, by decide⟩
  · cases h

def objFit (b : Nat) (ds : List Ast.Directive) (fs : List Ast.FieldDef) : Prop := dirsFit true b ds ∧ ∀ f ∈ fs, fieldFit b f

theorem objectLike_tail (b : Nat) (nm : Ast.Str) (impl : Option (Bool × Ast.Str × List Ast.Str)) (ds : List Ast.Directive)
    (fs : List Ast.FieldDef) (h : objFit b ds fs) :
    ∃ x2, objectLikeToks nm impl ds fs = .name nm :: x2 ∧ LImplThen LFieldsTail b x2 := by
  refine ⟨tSepOpt [.name Ast.sImplements] .amp impl ++ (Ast.tDirectives ds ++ Ast.tBraced (Ast.tFieldDefItems fs) fs.isEmpty),
    by simp [objectLikeToks, List.append_assoc], impl, _, rfl, ds, _, rfl, h.1, ?_⟩
  by_cases hfs : fs = []
  · subst hfs; right; rfl
  · left; exact ⟨fs, hfs, rfl, h.2⟩

/-- what may follow an object / interface type (definition or extension): not `@ ( { &`, and not the Name `implements` -/
def FObj (t : Tok) : Prop := (t.kind ≠ .at ∧ t.kind ≠ .lParen ∧ t.kind ≠ .lCurly ∧ True) ∧ t.kind ≠ .amp ∧ NotImplTok t

def LObject (word : String) (b : Nat) (x : List Ast.Tok) : Prop :=
  ∃ desc nm impl ds fs, x = Ast.tDescription desc ++ kwPart word true ++ objectLikeToks nm impl ds fs ∧ objFit b ds fs

theorem cmpT_objectTypeDefinition (n : Nat) :
    CmpT (fun _ => True) (objectTypeDefinition n) (LObject "type") FObj (fun _ => True) := by
  rw [objectTypeDefinition_eq]
  refine cmpT_withNode _ ?_
  have ht := cmpT_optImplTok (Hk := fun _ => True) _ (cmp_fieldsTail n) (fun b a x h => lfieldsTail_head h)
  refine (cmpT_defShape (Hk := fun _ => True) "type" "type_KW" n _ ht).mono (fun _ h => h) ?_ (fun t h => h) (fun _ h => h)
  rintro b x ⟨desc, nm, impl, ds, fs, rfl, hfit⟩
  obtain ⟨x2, e, h2⟩ := objectLike_tail b nm impl ds fs hfit
  exact ⟨desc, nm, x2, by rw [e]; simp [kwPart], h2⟩

theorem cmpT_interfaceTypeDefinition (n : Nat) :
    CmpT (fun _ => True) (interfaceTypeDefinition n) (LObject "interface") FObj (fun _ => True) := by
  rw [interfaceTypeDefinition_eq]
  refine cmpT_withNode _ ?_
  have ht := cmpT_optDataImpl (Hk := fun _ => True) _ _ (cmp_fieldsTail n) (cmp_fieldsTail n) (fun b a x h => lfieldsTail_head h)
  refine (cmpT_defShape (Hk := fun _ => True) "interface" "interface_KW" n _ ht).mono (fun _ h => h) ?_ (fun t h => h) (fun _ h => h)
  rintro b x ⟨desc, nm, impl, ds, fs, rfl, hfit⟩
  obtain ⟨x2, e, h2⟩ := objectLike_tail b nm impl ds fs hfit
  exact ⟨desc, nm, x2, by rw [e]; simp [kwPart], h2⟩

/-! ### directive locations -/

def LDirName (b : Nat) (x : List Ast.Tok) : Prop :=
  ∃ x1 x2, x = x1 ++ x2 ∧ (∃ n, x1 = [.name n]) ∧ ∃ y1 y2, x2 = y1 ++ y2 ∧ (LArgsDef b y1 ∨ y1 = []) ∧ LRep b y2

theorem cmp_dName (n : Nat) : Cmp (fun _ => True) (dName n) LDirName (fun k => k ≠ .pipe) (fun _ => True) := by
  unfold dName
  have hargs := cmp_optKind_ne (Hk := fun _ => True) (F := fun k => k ≠ Kind.pipe) .lParen (argumentsDefinition n)
    (optKw "repeatable" "repeatable_KW" dOn) (cmp_argumentsDefinition n) cmp_dRep (fun b x h => largsDef_head h)
    (by intro b a x h; rw [lrep_head h]; exact ⟨by decide, trivial⟩) lrep_ne (fun _ h => h)
  exact cmp_bind (Hk := fun _ => True) (F1 := fun _ => True) cmp_name (fun _ _ => hargs)
    (fun _ _ _ _ => trivial) (fun _ _ => trivial) (fun _ h => h)

def LDirAt (b : Nat) (x : List Ast.Tok) : Prop := ∃ x2, x = .p .at :: x2 ∧ LDirName b x2

theorem cmp_dAt (n : Nat) : Cmp (fun _ => True) (dAt n) LDirAt (fun k => k ≠ .pipe) (fun _ => True) := by
  unfold dAt
  exact cmp_tokThen (.p .at) "AT" (cmp_dName n)

def LDirective (b : Nat) (x : List Ast.Tok) : Prop :=
  ∃ desc nm args rep lead first rest, x = directiveToks desc true nm args rep lead first rest ∧
    (∀ a ∈ args, ivdFit b a) ∧ IsDirLoc first ∧ ∀ r ∈ rest, IsDirLoc r

theorem cmp_directiveDefinition (n : Nat) :
    Cmp (fun _ => True) (directiveDefinition n) LDirective (fun k => k ≠ .pipe) (fun _ => True) := by
  rw [directiveDefinition_eq]
  refine cmp_withNode _ ?_
  have h2 := cmp_optKwSeen (Hk := fun _ => True) "directive" "directive_KW" (dAt n) (cmp_dAt n)
  have h3 := cmp_optDesc (Hk := fun _ => True) _ h2
    (by rintro b a x ⟨x2, e, _⟩; injection e with e _; subst e; simp [kindOfA])
    (by rintro b ⟨x2, e, _⟩; cases e)
  refine h3.mono (fun _ h => h) ?_ (fun _ h => h) (fun _ h => h)
  rintro b x ⟨desc, nm, args, rep, lead, first, rest, rfl, hargs, h1, h2⟩
  refine ⟨desc, .name "directive".toList :: .p .at :: .name nm :: (Ast.tArgsDef args ++ (kwPart "repeatable" rep ++ .name Ast.sOn :: tSepLead .pipe lead first rest)),
    (by unfold directiveToks; rw [kwPart_true]; simp only [List.append_assoc, List.cons_append, List.nil_append]), _, rfl, _, rfl, [.name nm], _, rfl, ⟨nm, rfl⟩,
    Ast.tArgsDef args, _, rfl, ?_, rep, _, rfl, _, rfl, lead, first, rest, rfl, h1, h2⟩
  by_cases ha : args = []
  · subst ha; right; rfl
  · left; exact ⟨args, ha, rfl, hargs⟩

/-! ### schema definition -/

def LSchema (b : Nat) (x : List Ast.Tok) : Prop :=
  ∃ (desc : Option Ast.Str) (ds : List Ast.Directive) (roots : List (Ast.OpType × Ast.Str)), roots ≠ [] ∧
    x = schemaToks desc true ds (roots.map fun r => (r.1, some r.2)) ∧ dirsFit true b ds

theorem cmp_schemaDefinition (n : Nat) :
    Cmp (fun _ => True) (schemaDefinition n) LSchema (fun _ => True) (fun _ => True) := by
  rw [schemaDefinition_eq]
  refine cmp_withNode _ ?_
  have h1 := cmp_optKind_ne (Hk := fun _ => True) (F := fun _ => True) .at (directives n true) sBraces (cmp_directivesNeB n true) cmp_sBraces
    (fun b x h => ldirsNeB_head h)
    (by rintro b a x ⟨roots, _, e⟩; injection e with e _; subst e; exact ⟨by decide, by decide, by decide⟩)
    (by rintro b ⟨roots, _, e⟩; cases e) (fun _ h => h)
  have h2 := cmp_optKwSeen (Hk := fun _ => True) "schema" "schema_KW" _ h1
  have h3 := cmp_optDesc (Hk := fun _ => True) _ h2
    (by rintro b a x ⟨x2, e, _⟩; injection e with e _; subst e; simp [kindOfA])
    (by rintro b ⟨x2, e, _⟩; cases e)
  refine h3.mono (fun _ h => h) ?_ (fun _ h => h) (fun _ h => h)
  rintro b x ⟨desc, ds, roots, hne, rfl, hd⟩
  exact ⟨desc, .name "schema".toList :: (Ast.tDirectives ds ++ (.p .lCurly :: Ast.tRootOpItems roots ++ [.p .rCurly])),
    (by unfold schemaToks; rw [kwPart_true, tRootOpItemsF_full]; simp only [List.append_assoc, List.cons_append, List.nil_append]), _, rfl, Ast.tDirectives ds, _, rfl,
    ldirsB_split true b ds hd, roots, hne, rfl⟩

end Apollo.Parse.Exact
