import ApolloModel.Proofs.ParserTree32
import ApolloModel.Proofs.ParserComplete28
/-
C08 (pipeline): the run of `document()` on a document of a completeness language — the SAME run seen by the tree calculus
and by a completeness calculus: the parser's decomposition is the given one.  Proved once over the facts both
completeness calculi provide (`DocComp`); here the instance for `Apollo.Parse.DocOk`.
-/
set_option linter.unusedSimpArgs false
set_option linter.unusedVariables false

namespace Apollo.Parse
open Apollo.Rowan hiding Str
open Apollo.Lex hiding Str
open Apollo.FromCst (All2)

abbrev Aligned (Q : List Tok → List Elem → Prop) (trs : List (List Tok × List Elem)) (items : List (List Ast.Tok)) : Prop :=
  All2 (fun (tr : List Tok × List Elem) (x : List Ast.Tok) => Q tr.1 tr.2 ∧ TokIs tr.1 x) trs items

/-- what the tree calculus uses of a completeness calculus for `document()`: `D b items` is its guard of a document within
    the recursion budget `b`, `I b x q` its guard of one definition `x` in front of the token `q`.  The two calculi
    (`Apollo.Parse`, `Apollo.Parse.Exact`) differ in the guards, not in these facts. -/
structure DocComp (I : Nat → List Ast.Tok → Tok → Prop) (D : Nat → List (List Ast.Tok) → Prop) : Prop where
  cons : ∀ {b : Nat} {x : List Ast.Tok} {r : List (List Ast.Tok)}, D b (x :: r) →
    (∀ q, FollowTokOf r.flatten.head? q → I b x q) ∧ D b r
  head : ∀ {b : Nat} {x : List Ast.Tok} {q : Tok}, I b x q →
    ∃ a x', x = a :: x' ∧ (kindOfA a = .name ∨ kindOfA a = .lCurly ∨ kindOfA a = .stringValue)
  first : ∀ {b : Nat} {item : List Ast.Tok} {r : List (List Ast.Tok)}, D b (item :: r) → ∀ (c : List Tok) (e : Tok),
    Spells c (item :: r).flatten → e.kind = .eof →
    ∃ t tl1, c = t :: tl1 ∧ Sigf t ∧ (t.kind = .name ∨ t.kind = .lCurly ∨ t.kind = .stringValue)
  ne : ∀ {b : Nat} {items : List (List Ast.Tok)}, items ≠ [] → D b items → items.flatten ≠ []
  dispatch : ∀ (n : Nat) (sP s2 : PState) (t : Tok) (tl1 : List Tok) (x : List Ast.Tok) (q1 : Tok) (r1 : List Tok),
    TW sP → LexQ (Toks sP) → sP.current = some t → (t.kind = .lCurly → t.data = ['{']) →
    I (sP.recLimit - sP.recCur) x q1 → Spells (t :: tl1) x → Toks sP = (t :: tl1) ++ q1 :: r1 → Sigf q1 →
    (documentDispatch n t.kind).run sP = .ok () s2 → Eat sP s2 (t :: tl1) ∧ Toks s2 = q1 :: r1
  document : ∀ (n : Nat) (items : List (List Ast.Tok)) (s s' : PState) (i0 c : List Tok) (e : Tok) (rest : List Tok),
    TW s → LexQ (Toks s) → CurlyQ (Toks s) → items ≠ [] → D (s.recLimit - s.recCur) items → Ign i0 →
    Spells c items.flatten → Toks s = i0 ++ (c ++ e :: rest) → e.kind = .eof → (document n).run s = .ok () s' →
    Eat s s' (i0 ++ c) ∧ Toks s' = e :: rest

theorem docComp : DocComp ItemOk DocOk where
  cons h := h
  head := itemOk_head
  first := docOk_first
  ne hne h := isDocFit_ne ⟨_, hne, rfl, h⟩
  dispatch := item_dispatch_comp
  document := document_compG

section
variable {I : Nat → List Ast.Tok → Tok → Prop} {D : Nat → List (List Ast.Tok) → Prop}

/-- **the loop of `document()` on a document of a completeness language**: the run is the one completeness describes
    (each dispatch consumes exactly the tokens of the next definition), and the tree calculus says what it built -/
theorem docLoop_trC (C : DocComp I D) {n : Nat} {Q : List Tok → List Elem → Prop} (L : DefTrs n Q) :
    ∀ (items : List (List Ast.Tok)) (fuel : Nat) (s s' : PState) (c : List Tok) (e : Tok) (rest : List Tok),
    St s → CurlyQ (Toks s) → (peekWhileLoop (documentStep n) fuel).run s = .ok () s' → ¬ Doomed s' →
    D (s.recLimit - s.recCur) items → Spells c items.flatten → Toks s = c ++ e :: rest → e.kind = .eof →
    ∃ added trs, s'.builder.children = s.builder.children ++ added ∧ sigE added = (trs.map (·.2)).flatten ∧
      Aligned Q trs items := by
  intro items
  induction items with
  | nil =>
    intro fuel s s' c e rest st _ hr hnd _ hs ht he
    have hc : c = [] := spells_nil_inv (by simpa using hs)
    subst hc
    cases fuel with
    | zero => simp [peekWhileLoop, PI.outOfFuel] at hr
    | succ fuel =>
      obtain ⟨sP, t, p, _, hbP, hstep⟩ := docLoop_turn n fuel s s' st hr hnd
      have hte : some t = some e := by rw [p.head, ht]; rfl
      injection hte with hte
      rcases hstep with ⟨_, rfl⟩ | ⟨hk, _⟩
      · refine ⟨[], [], ?_, rfl, All2.nil⟩
        show sP.builder.children = _
        rw [hbP]; simp
      · exact absurd (hte ▸ he) hk
  | cons item r ih =>
    intro fuel s s' c e rest st hcq hr hnd hall hs ht he
    have w := st.w
    have lq : LexQ (Toks s) := st.lq.1
    cases fuel with
    | zero => simp [peekWhileLoop, PI.outOfFuel] at hr
    | succ fuel =>
      obtain ⟨hitem, hrest⟩ := C.cons hall
      have hse : Sigf e := by unfold Sigf; rw [he]; rfl
      obtain ⟨c1, c2, rfl, s1, s2⟩ := spells_split0 (x1 := item) (x2 := r.flatten) (by simpa using hs)
      obtain ⟨q1, r1, hq1, hsq1, hfq1⟩ : ∃ q1 r1, c2 ++ e :: rest = q1 :: r1 ∧ Sigf q1 ∧ FollowTokOf r.flatten.head? q1 := by
        cases hrf : r.flatten with
        | nil =>
          have := spells_nil_inv (by rw [hrf] at s2; exact s2)
          subst this
          exact ⟨e, rest, rfl, hse, he⟩
        | cons a x' =>
          obtain ⟨t', tl', rfl, hta'⟩ := spells_head (by rw [hrf] at s2; exact s2)
          exact ⟨t', tl' ++ e :: rest, rfl, sigf_of_astOfV hta', hta'⟩
      have hok := hitem q1 hfq1
      obtain ⟨a, x', rfl, hka⟩ := C.head hok
      obtain ⟨t, tl1, hc1, hta⟩ := spells_head s1
      subst hc1
      have hkt : t.kind = kindOfA a := kind_of_astOfV hta
      have ht' : Toks s = (t :: tl1) ++ q1 :: r1 := by rw [ht, ← hq1]; simp
      obtain ⟨sP, t0, p, stP, hbldP, hstep⟩ := docLoop_turn n fuel s s' st hr hnd
      have ht0 : some t = some t0 := by rw [p.head, ht']; rfl
      injection ht0 with ht0
      subst ht0
      have eP := p.eat
      have hcur := p.current
      have hbP : sP.recLimit - sP.recCur = s.recLimit - s.recCur := by rw [eP.recLimit, eP.recCur]
      have hne : t.kind ≠ .eof := by rw [hkt]; rcases hka with h | h | h <;> rw [h] <;> decide
      rcases hstep with ⟨hk, _⟩ | ⟨_, sD, hd1, h5⟩
      · exact absurd hk hne
      · have htmem : t ∈ Toks s := by rw [ht']; simp
        have hTP : Toks sP = (t :: tl1) ++ q1 :: r1 := by rw [p.toks, ht']
        obtain ⟨eD, tD⟩ := C.dispatch n (flagged sP) sD t tl1 (a :: x') q1 r1 (tw_flagged eP.w)
          (by rw [toks_flagged, hTP, ← ht']; exact lq) hcur (hcq t htmem)
          (by show I (sP.recLimit - sP.recCur) _ _; rw [hbP]; exact hok) s1 (by rw [toks_flagged, hTP]) hsq1 hd1
        have eSD : Eat s sD (t :: tl1) := by simpa using (eP.trans (eat_flagged sP eP.w)).trans eD
        have hbD : sD.recLimit - sD.recCur = s.recLimit - s.recCur := by rw [eSD.recLimit, eSD.recCur]
        have hsuf : Toks s = (t :: tl1) ++ Toks sD := eSD.toks
        -- the tree calculus on the same dispatch run
        have stF := st_flagged stP
        have aD := good_documentDispatch (defLemmas n) t.kind (flagged sP) () sD stF.w hd1
        have hndD : ¬ Doomed sD := fun d => hnd ((good_peekWhileLoop _ (good_documentStep (defLemmas n)) fuel sD () s' aD.w h5).doom d)
        obtain ⟨c1', d1, t1, n1, e1', b1, r1'⟩ := documentDispatch_tr L (flagged sP) sD t (tl1 ++ q1 :: r1) stF hcur
          (by rw [toks_flagged, hTP]; simp) hd1 hndD
        have hcs : c1' = t :: tl1 := by
          have := t1.symm.trans eD.toks
          exact List.append_cancel_right this
        subst hcs
        have stD : St sD := ⟨aD.w, (run_inv_added (documentDispatch n t.kind) (flagged sP) stF.inv () sD hd1).1, e1',
          LQ.suffix (cs := t :: tl1) (by rw [← t1]; exact stF.lq)⟩
        obtain ⟨added2, trs2, g1, g2, g3⟩ := ih fuel sD s' c2 e rest stD (by rw [hsuf] at hcq; exact hcq.suffix) h5 hnd
          (by rw [hbD]; exact hrest) s2 (by rw [tD, hq1]) he
        have b1' : sD.builder.children = s.builder.children ++ d1 := by
          rw [b1]; show sP.builder.children ++ d1 = _; rw [hbldP]
        rcases r1' with q1' | f
        · refine ⟨d1 ++ added2, (sig (t :: tl1), sigE d1) :: trs2, by rw [g1, b1', List.append_assoc], ?_, All2.cons ⟨q1', s1.1⟩ g3⟩
          simp [sigE_append, g2]
        · exact absurd f id

theorem documentBody_trC (C : DocComp I D) {n : Nat} {Q : List Tok → List Elem → Prop} (L : DefTrs n Q) (items : List (List Ast.Tok))
    (s s' : PState) (c : List Tok) (e : Tok) (rest : List Tok) (st : St s) (hcq : CurlyQ (Toks s)) (hne : items ≠ [])
    (hall : D (s.recLimit - s.recCur) items) (hs : Spells c items.flatten) (ht : Toks s = c ++ e :: rest) (he : e.kind = .eof)
    (h : (documentBody n).run s = .ok () s') (hnd : ¬ Doomed s') :
    ∃ added trs, s'.builder.children = s.builder.children ++ added ∧ sigE added = (trs.map (·.2)).flatten ∧
      Aligned Q trs items := by
  cases items with
  | nil => exact absurd rfl hne
  | cons item r =>
  obtain ⟨t, tl1, hc, _, hkt⟩ := C.first hall c e hs he
  unfold documentBody at h
  obtain ⟨ko, sP, hp, h2⟩ := bind_dec peek _ s s' () h
  obtain ⟨rfl, eP, htP, _⟩ := peek_head s sP ko t (tl1 ++ e :: rest) st.w (by rw [ht, hc]; simp) hp
  have hbldP : sP.builder = s.builder := keeps_peek s _ sP hp
  obtain ⟨_, sE, hE, h3⟩ := bind_dec (errIfEmpty _) _ sP s' () h2
  unfold errIfEmpty at hE
  have hemp : (some t.kind == none || some t.kind == some Kind.eof) = false := by
    rcases hkt with h0 | h0 | h0 <;> rw [h0] <;> rfl
  simp only [hemp, Bool.false_eq_true, if_false] at hE
  rw [run_pure] at hE
  injection hE with _ hE
  subst hE
  obtain ⟨_, sL, hL, h4⟩ := bind_dec (peekWhile (documentStep n)) _ sP s' () h3
  unfold peekWhile at hL
  obtain ⟨fuel, h5⟩ := srcLen_dec _ sP sL () hL
  have hbP : sP.recLimit - sP.recCur = s.recLimit - s.recCur := by rw [eP.recLimit, eP.recCur]
  have hTP : Toks sP = c ++ e :: rest := by rw [htP, hc]; simp
  have stP : St sP := ⟨eP.w, (run_inv_added peek s st.inv _ sP hp).1, eofEnd_eat st.eof eP (by intro x hx; cases hx),
    by rw [hTP, ← ht]; exact st.lq⟩
  have o4 := pushIgnored_obs sL s' h4
  have hndL : ¬ Doomed sL := fun d => hnd (o4.doomed.mpr d)
  obtain ⟨added, trs, g1, g2, g3⟩ := docLoop_trC C L (item :: r) _ sP sL c e rest stP (by rw [hTP, ← ht]; exact hcq) h5 hndL
    (by rw [hbP]; exact hall) hs hTP he
  have e4 : pushIgnored.run sL = .ok () { sL with builder := { sL.builder with children := sL.builder.children ++ sL.pending.map pendingElem }, pending := [] } := rfl
  rw [e4] at h4
  injection h4 with _ h4
  refine ⟨added ++ sL.pending.map pendingElem, trs, ?_, ?_, g3⟩
  · rw [← h4]
    show sL.builder.children ++ sL.pending.map pendingElem = _
    rw [g1, hbldP, List.append_assoc]
  · rw [sigE_append, sigE_pending, List.append_nil]; exact g2

theorem document_trC (C : DocComp I D) {n : Nat} {Q : List Tok → List Elem → Prop} (L : DefTrs n Q) (items : List (List Ast.Tok))
    (s s' : PState) (i0 c : List Tok) (e : Tok) (rest : List Tok) (st : St s) (hcq : CurlyQ (Toks s)) (hne : items ≠ [])
    (hall : D (s.recLimit - s.recCur) items) (hi0 : Ign i0) (hs : Spells c items.flatten)
    (ht : Toks s = i0 ++ (c ++ e :: rest)) (he : e.kind = .eof)
    (h : (document n).run s = .ok () s') (hnd : ¬ Doomed s') :
    ∃ inner trs, s'.builder.children = s.builder.children ++ s.pending.map pendingElem ++ [Elem.node "DOCUMENT" inner] ∧
      sigE inner = (trs.map (·.2)).flatten ∧ Aligned Q trs items := by
  unfold document at h
  obtain ⟨s0, s2, inner, o0, hinv0, hp0, hr0, o2, hin, hout⟩ := withNode_tree "DOCUMENT" (documentBody n) s st.inv () s' h
  obtain ⟨_, s1, hsk, hb⟩ := bind_dec skipIgnored _ s0 s2 () hr0
  have st0 : St s0 := st.obs o0 hinv0
  obtain ⟨t, tl1, hc, hst, _⟩ : ∃ t tl1, c = t :: tl1 ∧ Sigf t ∧ True := by
    cases items with
    | nil => exact absurd rfl hne
    | cons item r =>
      obtain ⟨t, tl1, hc, hst, _⟩ := C.first hall c e hs he
      exact ⟨t, tl1, hc, hst, trivial⟩
  obtain ⟨e1, t1, _⟩ := skip_exact s0 s1 i0 t (tl1 ++ e :: rest) st0.w hsk (by rw [o0.toks, ht, hc]; simp) hi0 hst
  have e01 : Eat s s1 i0 := by simpa using (Eat.ofObsEq o0 st.w).trans e1
  have hb1 : s1.recLimit - s1.recCur = s.recLimit - s.recCur := by rw [e01.recLimit, e01.recCur]
  have hT1 : Toks s1 = c ++ e :: rest := by rw [t1, hc]; simp
  have hsuf : Toks s = i0 ++ Toks s1 := e01.toks
  have st1 : St s1 := ⟨e01.w, (run_inv_added skipIgnored s0 hinv0 () s1 hsk).1, eofEnd_eat st.eof e01 (noEof_ignored i0 hi0),
    LQ.suffix (cs := i0) (by rw [← hsuf]; exact st.lq)⟩
  have hk1 : s1.builder = s0.builder := keeps_skipIgnored s0 () s1 hsk
  have hnd2 : ¬ Doomed s2 := fun d => hnd (o2.doomed.mpr d)
  obtain ⟨added, trs, g1, g2, g3⟩ := documentBody_trC C L items s1 s2 c e rest st1 (by rw [hsuf] at hcq; exact hcq.suffix) hne
    (by rw [hb1]; exact hall) hs hT1 he hb hnd2
  have hinner : inner = added := by
    rw [hk1, hin] at g1
    exact List.append_cancel_left g1
  subst hinner
  exact ⟨inner, trs, hout, g2, g3⟩

theorem srcToks_split (src : Str) (x : List Ast.Tok) (ts : List Tok) (e : Tok) (hsig : sig (srcToks src) = ts ++ [e])
    (he : e.kind = .eof) (hx : TokIs ts x) (hxne : x ≠ []) :
    ∃ i0 c, srcToks src = i0 ++ (c ++ [e]) ∧ Ign i0 ∧ Spells c x := by
  obtain ⟨i0, l', hl, hi0, hhead⟩ := ign_split (srcToks src)
  have hsig' : sig l' = ts ++ [e] := by rw [← hsig, hl, sig_ign_append _ _ hi0]
  obtain ⟨c, c2, hc, h1, h2, hh2, hh1⟩ := sig_split l' ts [e] hsig' (by simp)
  obtain ⟨i, rfl, hi⟩ := sig_single_inv c2 e hh2 h2
  have htsne : ts ≠ [] := by
    intro h0; subst h0
    unfold TokIs at hx
    cases x with
    | nil => exact hxne rfl
    | cons a r => simp at hx
  have hnoc : NoEof c := noEof_of_tokIs c x (by rw [h1]; exact hx)
  obtain ⟨pre, e0, hp, he0, hnop⟩ := stream_eof_end src.length (initState src none 0).lx (Nat.le_refl _) rfl rfl
  have hq : srcToks src = pre ++ [e0] := hp
  rw [hl, hc] at hq
  have hq' : pre ++ [e0] = (i0 ++ c) ++ (e :: i) := by rw [← hq]; simp
  obtain ⟨pre', hr, hnop'⟩ := split_eof (i0 ++ c) pre (e :: i) e0 hq' he0 (noEof_append (noEof_ignored i0 hi0) hnoc) hnop
  have hi00 : i = [] := by
    cases pre' with
    | nil => simp at hr; exact hr.2
    | cons y pre' =>
      exfalso
      simp only [List.cons_append] at hr
      injection hr with hr1 _
      exact hnop' y (by simp) (hr1 ▸ he)
  subst hi00
  exact ⟨i0, c, by rw [hl, hc], hi0, by rw [h1]; exact hx, hh1 htsne hhead⟩

/-- **The tree of a document of a completeness language**: for a source whose significant tokens spell the
    definitions `items` (each within the budget and allowed before the next, `D`), the accepted run of
    `Parser::parse` decomposes the tokens into EXACTLY these definitions, and the tree's significant children are, one
    per definition, what the selected definition parser built (`Q`) -/
theorem parseDocument_cstC (C : DocComp I D) {Q : List Tok → List Elem → Prop} (L : ∀ n, DefTrs n Q) (rl : Nat) (src : Str)
    (root : Elem) (h : (parse .document none rl src).outcome = .tree root) (items : List (List Ast.Tok)) (hne : items ≠ [])
    (hdoc : D rl items) (ts : List Tok) (e : Tok) (hclean : LexClean src) (hsig : sig (srcToks src) = ts ++ [e])
    (he : e.kind = .eof) (hx : TokIs ts items.flatten) :
    ∃ inner trs, root = Elem.node "DOCUMENT" inner ∧ sigE inner = (trs.map (·.2)).flatten ∧ Aligned Q trs items := by
  have hxne : items.flatten ≠ [] := C.ne hne hdoc
  obtain ⟨i0, c, htoks, hi0, hsp⟩ := srcToks_split src _ ts e hsig he hx hxne
  unfold parse runEntry at h
  simp only [Entry.standalone, Entry.grammar] at h
  have st0 := st_init src rl
  have w0 := st0.w
  have ht0 : Toks (initState src none rl) = srcToks src := rfl
  have hnd0 : ¬ Doomed (initState src none rl) := fun d => (doomed_init src rl).mp d hclean
  have hb0 : (initState src none rl).recLimit - (initState src none rl).recCur = rl := by simp [initState]
  cases hr : (document (fuelFor src)).run (initState src none rl) with
  | abort w => simp [hr] at h
  | panic m => simp [hr] at h
  | ok a s =>
    simp only [hr] at h
    obtain ⟨eD, _⟩ := C.document (fuelFor src) items _ s i0 c e [] w0 (by rw [ht0]; exact lexQ_srcToks src)
      (by rw [ht0]; exact curlyQ_srcToks src) hne (by rw [hb0]; exact hdoc) hi0 hsp (by rw [ht0, htoks]) he hr
    have hnd : ¬ Doomed s := fun d => hnd0 (eD.doom.mp d)
    obtain ⟨inner, trs, g1, g2, g3⟩ := document_trC C (L (fuelFor src)) items _ s i0 c e [] st0
      (by rw [ht0]; exact curlyQ_srcToks src) hne (by rw [hb0]; exact hdoc) hi0 hsp (by rw [ht0, htoks]) he hr hnd
    have hchild : s.builder.children = [Elem.node "DOCUMENT" inner] := by rw [g1]; rfl
    simp only [Builder.finish, hchild, Outcome.tree.injEq] at h
    exact ⟨inner, trs, h.symm, g2, g3⟩

end

/-- `docLoop_trC` for the completeness calculus of `Apollo.Parse` (`docComp`) -/
theorem docLoop_trG {n : Nat} {Q : List Tok → List Elem → Prop} (L : DefTrs n Q) :
    ∀ (items : List (List Ast.Tok)) (fuel : Nat) (s s' : PState) (c : List Tok) (e : Tok) (rest : List Tok),
    St s → CurlyQ (Toks s) → (peekWhileLoop (documentStep n) fuel).run s = .ok () s' → ¬ Doomed s' →
    DocOk (s.recLimit - s.recCur) items → Spells c items.flatten → Toks s = c ++ e :: rest → e.kind = .eof →
    ∃ added trs, s'.builder.children = s.builder.children ++ added ∧ sigE added = (trs.map (·.2)).flatten ∧
      Aligned Q trs items :=
  docLoop_trC docComp L

/-- `parseDocument_cstC` for the completeness calculus of `Apollo.Parse`: the guard of the document is `DocOk` -/
theorem parseDocument_cstG {Q : List Tok → List Elem → Prop} (L : ∀ n, DefTrs n Q) (rl : Nat) (src : Str) (root : Elem)
    (h : (parse .document none rl src).outcome = .tree root) (items : List (List Ast.Tok)) (hne : items ≠ [])
    (hdoc : DocOk rl items) (ts : List Tok) (e : Tok) (hclean : LexClean src) (hsig : sig (srcToks src) = ts ++ [e])
    (he : e.kind = .eof) (hx : TokIs ts items.flatten) :
    ∃ inner trs, root = Elem.node "DOCUMENT" inner ∧ sigE inner = (trs.map (·.2)).flatten ∧ Aligned Q trs items :=
  parseDocument_cstC docComp L rl src root h items hne hdoc ts e hclean hsig he hx

end Apollo.Parse
