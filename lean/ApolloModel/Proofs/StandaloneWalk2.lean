import ApolloModel.Proofs.StandaloneWalk
/-
C17, document level, the rules of the validation walk: every diagnostic of the walk of one operation is one
of a reachable site (soundness), every diagnostic of every reachable site is reported (completeness — no hypothesis
on the document; the fuel of `enterFrag`, the number of fragment definitions, never runs out: pigeonhole on
`validated_fragments`).
-/
set_option linter.unusedSimpArgs false
set_option linter.unusedVariables false
namespace Apollo.Standalone.Walk
open Apollo Apollo.Standalone

/-- the body of the fragment definition is walked -/
def fragGuard (sc : Schema) (doc : BuiltDoc) (f : Frag) : Bool := (fragTcd sc f).isEmpty && (fragCyc doc f).isEmpty

theorem enterFrag_succ_eq (p : Params) (sc : Schema) (doc : BuiltDoc) (n : Nat) (f : Frag) (V : List Name) :
    enterFrag p (some sc) doc (n + 1) f V =
      if fragGuard sc doc f then
        (dirDiags p (some sc) .fragmentDefinition f.dirs ++
            (walkSels p (some sc) doc (enterFrag p (some sc) doc n) (fragTy (some sc) f) f.sels V).1,
          (walkSels p (some sc) doc (enterFrag p (some sc) doc n) (fragTy (some sc) f) f.sels V).2)
      else (dirDiags p (some sc) .fragmentDefinition f.dirs ++ fragTcd sc f ++ fragCyc doc f, V) := by
  simp only [enterFrag, fragGuard, fragTcd, fragCyc]
  rfl

/-- the sites reachable from a selection set of type `ty`: its own and, through every spread the walk meets, the
    fragment definition and — when its type condition is composite and it is not on a cycle — what its body reaches -/
inductive Reaches (sc : Schema) (doc : BuiltDoc) : Option Name → Sels → Site → Prop
  | here {ty t site} : site ∈ localSites sc ty t → Reaches sc doc ty t site
  | fragDef {ty t f fr} : f ∈ localSpreads sc ty t → doc.findFrag f = some fr → Reaches sc doc ty t (.fragDef fr)
  | frag {ty t f fr site} : f ∈ localSpreads sc ty t → doc.findFrag f = some fr → fragGuard sc doc fr = true →
      Reaches sc doc (fragTy (some sc) fr) fr.sels site → Reaches sc doc ty t site

theorem enterFrag_diag_origin (p : Params) (sc : Schema) (doc : BuiltDoc) :
    ∀ (n : Nat) (fr : Frag) (W : List Name) (d : Diag), d ∈ (enterFrag p (some sc) doc n fr W).1 →
      d = .outOfFuel ∨ d ∈ (Site.fragDef fr).diags p sc doc ∨
        (fragGuard sc doc fr = true ∧ ∃ site, Reaches sc doc (fragTy (some sc) fr) fr.sels site ∧ d ∈ site.diags p sc doc) := by
  intro n
  induction n with
  | zero => intro fr W d h; simp [enterFrag] at h; exact .inl h
  | succ n ih =>
    intro fr W d h
    rw [enterFrag_succ_eq] at h
    by_cases hg : fragGuard sc doc fr = true
    · simp only [hg, if_true, List.mem_append] at h
      rcases h with h | h
      · exact .inr (.inl (by simp [Site.diags, h]))
      · rcases walk_diag_origin p sc doc _ fr.sels _ W d h with ⟨site, hs, hd⟩ | ⟨f, hf, fr', W', hfr, hd⟩
        · exact .inr (.inr ⟨hg, site, .here hs, hd⟩)
        · rcases ih fr' W' d hd with h1 | h1 | ⟨h1, site, hr, hd'⟩
          · exact .inl h1
          · exact .inr (.inr ⟨hg, .fragDef fr', .fragDef hf hfr, h1⟩)
          · exact .inr (.inr ⟨hg, site, .frag hf hfr h1 hr, hd'⟩)
    · simp only [hg, Bool.false_eq_true, if_false] at h
      exact .inr (.inl h)

/-- SOUNDNESS: every diagnostic of the walk is one of a reachable site (or `outOfFuel`, see `walk_fuel_suffices`) -/
theorem walk_diag_reaches (p : Params) (sc : Schema) (doc : BuiltDoc) (n : Nat) (ty : Option Name) (t : Sels)
    (V : List Name) (d : Diag) (h : d ∈ (walkSels p (some sc) doc (enterFrag p (some sc) doc n) ty t V).1) :
    d = .outOfFuel ∨ ∃ site, Reaches sc doc ty t site ∧ d ∈ site.diags p sc doc := by
  rcases walk_diag_origin p sc doc _ t ty V d h with ⟨site, hs, hd⟩ | ⟨f, hf, fr', W', hfr, hd⟩
  · exact .inr ⟨site, .here hs, hd⟩
  · rcases enterFrag_diag_origin p sc doc n fr' W' d hd with h1 | h1 | ⟨h1, site, hr, hd'⟩
    · exact .inl h1
    · exact .inr ⟨.fragDef fr', .fragDef hf hfr, h1⟩
    · exact .inr ⟨site, .frag hf hfr h1 hr, hd'⟩

/-! ### completeness -/

def allDefined (doc : BuiltDoc) (W : List Name) : Prop := ∀ x ∈ W, (doc.findFrag x).isSome

theorem marked_le_frags (doc : BuiltDoc) (W : List Name) (hn : W.Nodup) (hd : allDefined doc W) : W.length ≤ doc.frags.length := by
  have hsub : ∀ x ∈ W, x ∈ doc.frags.map (·.name) := fun x hx =>
    (Option.isSome_iff_exists.mp (hd x hx)).elim fun _ hf => mem_names_of_findFrag hf
  simpa using List.Nodup.length_le_of_subset hn hsub

variable (Q : Diag → Prop)

def FragQ (p : Params) (sc : Schema) (doc : BuiltDoc) (W : List Name) (fr : Frag) : Prop :=
  (∀ d ∈ (Site.fragDef fr).diags p sc doc, Q d) ∧
    (fragGuard sc doc fr = true →
      (∀ site ∈ localSites sc (fragTy (some sc) fr) fr.sels, ∀ d ∈ site.diags p sc doc, Q d) ∧
        ∀ h ∈ localSpreads sc (fragTy (some sc) fr) fr.sels, (doc.findFrag h).isSome → h ∈ W)

def DoneQ (p : Params) (sc : Schema) (doc : BuiltDoc) (W : List Name) (g : Name) : Prop :=
  ∃ fr, doc.findFrag g = some fr ∧ FragQ Q p sc doc W fr

theorem DoneQ.mono {Q : Diag → Prop} {p : Params} {sc : Schema} {doc : BuiltDoc} {W W' : List Name} {g : Name}
    (h : DoneQ Q p sc doc W g) (hs : ∀ x ∈ W, x ∈ W') : DoneQ Q p sc doc W' g := by
  obtain ⟨fr, h1, h2, h3⟩ := h
  exact ⟨fr, h1, h2, fun a => ⟨(h3 a).1, fun x hx hd => hs x ((h3 a).2 x hx hd)⟩⟩

structure WalkQ (p : Params) (sc : Schema) (doc : BuiltDoc) (ty : Option Name) (t : Sels) (V V' : List Name) : Prop where
  mono : ∀ x ∈ V, x ∈ V'
  len : V.length ≤ V'.length
  nodup : V.Nodup → V'.Nodup
  defd : allDefined doc V → allDefined doc V'
  locals : ∀ site ∈ localSites sc ty t, ∀ d ∈ site.diags p sc doc, Q d
  spreads : ∀ g ∈ localSpreads sc ty t, (doc.findFrag g).isSome → g ∈ V'
  fresh : ∀ g ∈ V', g ∈ V ∨ DoneQ Q p sc doc V' g

theorem WalkQ.here {p : Params} {sc : Schema} {doc : BuiltDoc} {ty : Option Name} {t : Sels} {V : List Name}
    (hl : ∀ site ∈ localSites sc ty t, ∀ d ∈ site.diags p sc doc, Q d)
    (hs : ∀ g ∈ localSpreads sc ty t, (doc.findFrag g).isSome → g ∈ V) : WalkQ Q p sc doc ty t V V :=
  ⟨fun _ h => h, Nat.le_refl _, fun h => h, fun h => h, hl, hs, fun _ h => .inl h⟩

theorem walkQ_nil (p : Params) (sc : Schema) (doc : BuiltDoc) (ty : Option Name) (V : List Name) :
    WalkQ Q p sc doc ty .nil V V :=
  .here Q (by simp [localSites]) (by simp [localSpreads])

/-- a node with something walked below it (`ta`, `a`) and the rest of its selection set (`tb`, `b`) -/
theorem WalkQ.seq {Q : Diag → Prop} {p : Params} {sc : Schema} {doc : BuiltDoc} {ta tb ty : Option Name} {a b t : Sels}
    {V V1 V2 : List Name} {extra : List Site}
    (h1 : WalkQ Q p sc doc ta a V V1) (h2 : WalkQ Q p sc doc tb b V1 V2)
    (hextra : ∀ site ∈ extra, ∀ d ∈ site.diags p sc doc, Q d)
    (hl : localSites sc ty t = extra ++ (localSites sc ta a ++ localSites sc tb b))
    (hs : localSpreads sc ty t = localSpreads sc ta a ++ localSpreads sc tb b) : WalkQ Q p sc doc ty t V V2 := by
  refine ⟨fun x hx => h2.mono x (h1.mono x hx), Nat.le_trans h1.len h2.len, fun h => h2.nodup (h1.nodup h),
    fun h => h2.defd (h1.defd h), ?_, ?_, ?_⟩
  · intro x hx
    rw [hl, List.mem_append, List.mem_append] at hx
    rcases hx with h | h | h
    · exact hextra x h
    · exact h1.locals x h
    · exact h2.locals x h
  · intro g hg hd
    rw [hs] at hg
    rcases List.mem_append.mp hg with h | h
    · exact h2.mono g (h1.spreads g h hd)
    · exact h2.spreads g h hd
  · intro g hg
    rcases h2.fresh g hg with h | h
    · rcases h1.fresh g h with h' | h'
      · exact .inl h'
      · exact .inr (h'.mono h2.mono)
    · exact .inr h

def HandlerQ (p : Params) (sc : Schema) (doc : BuiltDoc) (m : Nat) (e : Frag → List Name → List Diag × List Name) : Prop :=
  ∀ fr W, W.Nodup → allDefined doc W → m ≤ W.length → (∀ d ∈ (e fr W).1, Q d) →
    FragQ Q p sc doc (e fr W).2 fr ∧ (∀ x ∈ W, x ∈ (e fr W).2) ∧ W.length ≤ (e fr W).2.length ∧ (e fr W).2.Nodup ∧
      allDefined doc (e fr W).2 ∧ ∀ g ∈ (e fr W).2, g ∈ W ∨ DoneQ Q p sc doc (e fr W).2 g


theorem walkSels_walkQ (p : Params) (sc : Schema) (doc : BuiltDoc)
    (e : Frag → List Name → List Diag × List Name) (m : Nat) (he : HandlerQ Q p sc doc (m + 1) e) :
    ∀ (t : Sels) (ty : Option Name) (V : List Name), V.Nodup → allDefined doc V → m ≤ V.length →
      (∀ d ∈ (walkSels p (some sc) doc e ty t V).1, Q d) → WalkQ Q p sc doc ty t V (walkSels p (some sc) doc e ty t V).2 := by
  intro t
  induction t with
  | nil =>
    intro ty V _ _ _ _
    simp only [walkSels]
    exact walkQ_nil Q p sc doc ty V
  | field name dirs args sub rest ihs ihr =>
    intro ty V hnd hdf hm h
    rw [walk_field_eq] at h ⊢
    simp only [List.forall_mem_append] at h
    have e3 := fieldSub_ind sc ty name (M := fun ta a => ∀ V, V.Nodup → allDefined doc V → m ≤ V.length →
        (∀ d ∈ (walkSels p (some sc) doc e ta a V).1, Q d) → WalkQ Q p sc doc ta a V (walkSels p (some sc) doc e ta a V).2)
      (fun V _ _ _ _ => walkQ_nil Q p sc doc none V) ihs V hnd hdf hm h.1.2
    have e4 := ihr ty _ (e3.nodup hnd) (e3.defd hdf) (Nat.le_trans hm e3.len) h.2
    exact e3.seq e4 (List.forall_mem_singleton.mpr h.1.1) (localSites_field ..) (localSpreads_field ..)
  | spread f dirs rest ihr =>
    intro ty V hnd hdf hm h
    simp only [walkSels, List.forall_mem_append] at h ⊢
    obtain ⟨⟨h1, h2⟩, h4⟩ := h
    -- the spread by itself, up to the marked set from which the rest is walked
    have e1 : WalkQ Q p sc doc ty (.spread f dirs .nil) V
        (match doc.findFrag f with
          | some d => if f ∈ V then ([], V) else e d (f :: V)
          | none => ([.undefinedFragment], V)).2 := by
      cases hf : doc.findFrag f with
      | none =>
        simp only [hf] at h2
        refine .here Q ?_ (by simp [localSpreads, hf])
        simpa [localSites, Site.diags, hf, or_imp, forall_and] using And.intro h1 h2
      | some fr =>
        have hsite : ∀ site ∈ localSites sc ty (.spread f dirs .nil), ∀ d ∈ site.diags p sc doc, Q d := by
          simpa [localSites, Site.diags, hf] using h1
        by_cases hv : f ∈ V
        · simp only [hv, if_true]
          exact .here Q hsite (by simpa [localSpreads] using fun _ => hv)
        · simp only [hf, hv, if_false] at h2 ⊢
          have hdf1 : allDefined doc (f :: V) := by
            intro x hx
            rcases List.mem_cons.mp hx with rfl | hx
            · rw [hf]; rfl
            · exact hdf x hx
          obtain ⟨q1, q2, q3, q4, q5, q6⟩ := he fr (f :: V) (List.nodup_cons.mpr ⟨hv, hnd⟩) hdf1 (by simp; omega) h2
          refine ⟨fun x hx => q2 x (List.mem_cons_of_mem _ hx), Nat.le_trans (by simp) q3, fun _ => q4, fun _ => q5, hsite,
            by simpa [localSpreads] using fun _ => q2 f (List.mem_cons_self ..), fun g hg => ?_⟩
          rcases q6 g hg with hg | hg
          · rcases List.mem_cons.mp hg with rfl | hg
            · exact .inr ⟨fr, hf, q1⟩
            · exact .inl hg
          · exact .inr hg
    have e4 := ihr ty _ (e1.nodup hnd) (e1.defd hdf) (Nat.le_trans hm e1.len) h4
    exact e1.seq e4 (extra := []) (by simp) (by simp [localSites]) (by simp [localSpreads])
  | inline tc dirs sub rest ihs ihr =>
    intro ty V hnd hdf hm h
    rw [walk_inline_eq] at h ⊢
    simp only [List.forall_mem_append] at h
    have e3 := inlineSub_ind sc ty tc (M := fun ta a => ∀ V, V.Nodup → allDefined doc V → m ≤ V.length →
        (∀ d ∈ (walkSels p (some sc) doc e ta a V).1, Q d) → WalkQ Q p sc doc ta a V (walkSels p (some sc) doc e ta a V).2)
      (fun V _ _ _ _ => walkQ_nil Q p sc doc none V) ihs V hnd hdf hm h.1.2
    have e4 := ihr ty _ (e3.nodup hnd) (e3.defd hdf) (Nat.le_trans hm e3.len) h.2
    exact e3.seq e4 (List.forall_mem_singleton.mpr h.1.1) (localSites_inline ..) (localSpreads_inline ..)

theorem enterFrag_handlerQ (p : Params) (sc : Schema) (doc : BuiltDoc) :
    ∀ (n m : Nat), doc.frags.length < n + m → HandlerQ Q p sc doc m (enterFrag p (some sc) doc n) := by
  intro n
  induction n with
  | zero =>
    intro m hlt fr W hnd hdf hm _
    have := marked_le_frags doc W hnd hdf
    omega
  | succ n ih =>
    intro m hlt fr W hnd hdf hm h
    rw [enterFrag_succ_eq] at h ⊢
    by_cases hg : fragGuard sc doc fr = true
    · simp only [hg, if_true, List.forall_mem_append] at h ⊢
      have w := walkSels_walkQ Q p sc doc _ m (ih (m + 1) (by omega)) fr.sels (fragTy (some sc) fr) W hnd hdf hm h.2
      refine ⟨⟨?_, fun _ => ⟨w.locals, w.spreads⟩⟩, w.mono, w.len, w.nodup hnd, w.defd hdf, w.fresh⟩
      have hg' := hg
      simp only [fragGuard, Bool.and_eq_true, List.isEmpty_iff] at hg'
      simp only [Site.diags, hg'.1, hg'.2, List.append_nil]
      exact h.1
    · simp only [hg, Bool.false_eq_true, if_false] at h ⊢
      refine ⟨⟨?_, fun hc => absurd hc hg⟩, fun _ hx => hx, Nat.le_refl _, hnd, hdf, fun _ hg => .inl hg⟩
      simpa [Site.diags] using h

theorem reaches_reported (p : Params) (sc : Schema) (doc : BuiltDoc) (W : List Name)
    (hclosed : ∀ g ∈ W, DoneQ Q p sc doc W g) :
    ∀ (ty : Option Name) (t : Sels) (site : Site), Reaches sc doc ty t site →
      (∀ g ∈ localSpreads sc ty t, (doc.findFrag g).isSome → g ∈ W) →
      (∀ x ∈ localSites sc ty t, ∀ d ∈ x.diags p sc doc, Q d) → ∀ d ∈ site.diags p sc doc, Q d := by
  intro ty t site hr
  induction hr with
  | here h => intro _ hl; exact hl _ h
  | fragDef hf hd =>
    intro hs _
    obtain ⟨fr', hd', hq, _⟩ := hclosed _ (hs _ hf (by rw [hd]; rfl))
    rw [hd] at hd'; cases hd'
    exact hq
  | frag hf hd hg _ ih =>
    intro hs _
    obtain ⟨fr', hd', _, hq⟩ := hclosed _ (hs _ hf (by rw [hd]; rfl))
    rw [hd] at hd'; cases hd'
    exact ih (hq hg).2 (hq hg).1

/-- the diagnostics of the validation walk of one operation (`validated_fragments` empty at the start, fuel = the
    number of fragment definitions) -/
def walkOut (p : Params) (sc : Schema) (doc : BuiltDoc) (ty : Option Name) (t : Sels) : List Diag :=
  (walkSels p (some sc) doc (enterFrag p (some sc) doc doc.frags.length) ty t []).1

/-- COMPLETENESS (no hypothesis on the document): whatever a reachable site reports is reported by the walk -/
theorem walk_complete (p : Params) (sc : Schema) (doc : BuiltDoc) (ty : Option Name) (t : Sels)
    (h : ∀ d ∈ walkOut p sc doc ty t, Q d) : ∀ site, Reaches sc doc ty t site → ∀ d ∈ site.diags p sc doc, Q d := by
  have w := walkSels_walkQ Q p sc doc _ 0 (enterFrag_handlerQ Q p sc doc doc.frags.length 1 (by omega)) t ty []
    List.nodup_nil (by intro x hx; cases hx) (Nat.zero_le _) h
  have hclosed : ∀ g ∈ (walkSels p (some sc) doc (enterFrag p (some sc) doc doc.frags.length) ty t []).2,
      DoneQ Q p sc doc (walkSels p (some sc) doc (enterFrag p (some sc) doc doc.frags.length) ty t []).2 g := by
    intro g hg
    rcases w.fresh g hg with hn | hd
    · cases hn
    · exact hd
  intro site hr
  exact reaches_reported Q p sc doc _ hclosed ty t site hr w.spreads w.locals

end Apollo.Standalone.Walk
