import ApolloModel.Proofs.ParserLossless
/-
Termination of the parser model (C01): the two model aborts — out of fuel, and the `peek_while`
progress assertion (`stuck`) — cannot happen.

Two measures on the token-stream part of the state (`current`, `lx`):
* `Mm`  — how many tokens can still be consumed (bounds loop iterations and recursion depth),
* `Phi` — where the first unconsumed token starts (strictly increases with every consumed token and
          is determined by `current` when there is one: so progress ⇒ `current` changed ⇒ not stuck).
Every primitive is monotone in both; consuming a token is strict in both.
-/
set_option linter.unusedSimpArgs false
set_option linter.unusedVariables false
namespace Apollo.Parse
open Apollo.Rowan hiding Str
open Apollo.Lex hiding Str

/-! ### byte lengths -/

theorem utf8Len_foldl (s : Str) (n : Nat) : s.foldl (fun n c => n + c.utf8Size) n = n + utf8Len s := by
  induction s generalizing n with
  | nil => simp [utf8Len]
  | cons c cs ih =>
    simp only [utf8Len, List.foldl_cons, Nat.zero_add]
    rw [ih, ih c.utf8Size]
    omega

theorem utf8Len_cons (c : Char) (s : Str) : utf8Len (c :: s) = c.utf8Size + utf8Len s := by
  simp only [utf8Len, List.foldl_cons, Nat.zero_add]
  rw [utf8Len_foldl]
  rfl

theorem utf8Len_append (a b : Str) : utf8Len (a ++ b) = utf8Len a + utf8Len b := by
  induction a with
  | nil => simp [utf8Len]
  | cons c cs ih => simp only [List.cons_append, utf8Len_cons, ih]; omega

theorem utf8Len_pos {s : Str} (h : s ≠ []) : 0 < utf8Len s := by
  cases s with
  | nil => exact absurd rfl h
  | cons c cs =>
    rw [utf8Len_cons]
    have := Char.utf8Size_pos c
    omega

/-! ### the measures -/

def lexM (l : LexSt) : Nat := if l.finished then 0 else l.src.length + 1

def MmT (c : Option Tok) (l : LexSt) : Nat := (if c.isSome then 1 else 0) + lexM l

def PhiT (c : Option Tok) (l : LexSt) : Nat :=
  match c with
  | some t => 2 * t.index
  | none => 2 * l.pos + (if l.finished then 1 else 0)

def Mm (s : PState) : Nat := MmT s.current s.lx
def Phi (s : PState) : Nat := PhiT s.current s.lx

def StrictT (s : PState) (c : Option Tok) (l : LexSt) : Prop := MmT c l < Mm s ∧ Phi s < PhiT c l

/-- position bookkeeping of the lexer and of the current token -/
structure W (s : PState) : Prop where
  pos : s.lx.pos + utf8Len s.lx.src = s.lx.total
  cur : ∀ t, s.current = some t → t.kind ≠ .eof → t.data ≠ [] ∧ t.index + utf8Len t.data = s.lx.pos
  curEof : ∀ t, s.current = some t → t.kind = .eof → t.index = s.lx.total
  eof : ∀ t, s.current = some t → t.kind = .eof → t.data = [] ∧ s.lx.src = [] ∧ s.lx.finished = true

def Mono (s s' : PState) : Prop := Mm s' ≤ Mm s ∧ Phi s ≤ Phi s'
def Strict (s s' : PState) : Prop := Mm s' < Mm s ∧ Phi s < Phi s'
def Keep (s s' : PState) : Prop :=
  s.current.isSome = true → (s'.current = s.current ∧ s'.lx = s.lx) ∨ Strict s s'

theorem Mono.refl (s : PState) : Mono s s := ⟨Nat.le_refl _, Nat.le_refl _⟩
theorem Mono.trans {a b c : PState} (h1 : Mono a b) (h2 : Mono b c) : Mono a c :=
  ⟨Nat.le_trans h2.1 h1.1, Nat.le_trans h1.2 h2.2⟩
theorem Strict.mono {a b : PState} (h : Strict a b) : Mono a b := ⟨Nat.le_of_lt h.1, Nat.le_of_lt h.2⟩
theorem Strict.trans_mono {a b c : PState} (h1 : Strict a b) (h2 : Mono b c) : Strict a c :=
  ⟨Nat.lt_of_le_of_lt h2.1 h1.1, Nat.lt_of_lt_of_le h1.2 h2.2⟩
theorem Mono.trans_strict {a b c : PState} (h1 : Mono a b) (h2 : Strict b c) : Strict a c :=
  ⟨Nat.lt_of_lt_of_le h2.1 h1.1, Nat.lt_of_le_of_lt h1.2 h2.2⟩

theorem Keep.refl (s : PState) : Keep s s := fun _ => Or.inl ⟨rfl, rfl⟩

theorem Keep.trans {a b c : PState} (h1 : Keep a b) (m1 : Mono a b) (h2 : Keep b c) (m2 : Mono b c) : Keep a c := by
  intro ha
  rcases h1 ha with ⟨hc, hl⟩ | hs
  · rcases h2 (by rw [hc]; exact ha) with ⟨hc2, hl2⟩ | hs2
    · exact Or.inl ⟨hc2.trans hc, hl2.trans hl⟩
    · right
      have e1 : Mm b = Mm a := by simp [Mm, MmT, hc, hl]
      have e2 : Phi b = Phi a := by simp [Phi, PhiT, hc, hl]
      exact ⟨by rw [← e1]; exact hs2.1, by rw [← e2]; exact hs2.2⟩
  · exact Or.inr (hs.trans_mono m2)

/-- measures only look at `current` and `lx` -/
theorem Mm_congr {s s' : PState} (hc : s'.current = s.current) (hl : s'.lx = s.lx) : Mm s' = Mm s := by
  simp [Mm, MmT, hc, hl]
theorem Phi_congr {s s' : PState} (hc : s'.current = s.current) (hl : s'.lx = s.lx) : Phi s' = Phi s := by
  simp [Phi, PhiT, hc, hl]
theorem W_congr {s s' : PState} (hc : s'.current = s.current) (hl : s'.lx = s.lx) (h : W s) : W s' :=
  ⟨by rw [hl]; exact h.pos, fun t ht => by rw [hl]; exact h.cur t (hc ▸ ht), fun t ht => by rw [hl]; exact h.curEof t (hc ▸ ht),
   fun t ht => by rw [hl]; exact h.eof t (hc ▸ ht)⟩
theorem Mono_congr {s s' : PState} (hc : s'.current = s.current) (hl : s'.lx = s.lx) : Mono s s' :=
  ⟨Nat.le_of_eq (Mm_congr hc hl), Nat.le_of_eq (Phi_congr hc hl).symm⟩
theorem Keep_congr {s s' : PState} (hc : s'.current = s.current) (hl : s'.lx = s.lx) : Keep s s' :=
  fun _ => Or.inl ⟨hc, hl⟩

/-- with a current token, `Phi` is a function of it: progress means the token changed -/
theorem strict_current_ne {s s' : PState} (h : Strict s s') (hs : s.current.isSome = true) :
    s'.current ≠ s.current := by
  intro e
  cases hc : s.current with
  | none => simp [hc] at hs
  | some t =>
    have h2 := h.2
    simp only [Phi, PhiT, e, hc] at h2
    omega

/-! ### the lexer -/

theorem lexNext_step (l : LexSt) (hp : l.pos + utf8Len l.src = l.total) :
    (lexNext l).2.total = l.total ∧ (lexNext l).2.pos + utf8Len (lexNext l).2.src = l.total ∧
    l.pos ≤ (lexNext l).2.pos ∧
    (match (lexNext l).1 with
     | none => l.finished = true ∧ (lexNext l).2 = l
     | some (.tok t) => l.finished = false ∧
        (t.kind ≠ .eof → t.data ≠ [] ∧ t.index = l.pos ∧ (lexNext l).2.pos = l.pos + utf8Len t.data ∧
          (lexNext l).2.src.length < l.src.length ∧ (lexNext l).2.finished = false) ∧
        (t.kind = .eof → t.index = l.total ∧ (lexNext l).2.finished = true ∧ (lexNext l).2.src = [] ∧
          l.src = [] ∧ (lexNext l).2.pos = l.pos)
     | some (.err d i) => l.finished = false ∧ (lexNext l).2.src.length < l.src.length ∧ (lexNext l).2.finished = false
     | some (.limit i) => l.finished = false ∧ (lexNext l).2.finished = true ∧ (lexNext l).2.src = l.src ∧
        (lexNext l).2.pos = l.pos) := by
  unfold lexNext
  by_cases hf : l.finished = true
  · simp [hf, hp]
  · have hf' : l.finished = false := by simpa using hf
    simp only [hf, Bool.false_eq_true, if_false]
    by_cases hc : (lexCheck l).1 = true
    · simp [hc, hp, hf']
    · simp only [hc, Bool.false_eq_true, if_false]
      cases hs : l.src with
      | nil =>
        rw [hs] at hp
        simp [hp, hf']
      | cons c rest =>
        simp only []
        have hcat := Lex.advance_concat (c :: rest)
        have hprog := Lex.advance_progress c rest
        have hlen : utf8Len (advance (c :: rest)).1.data + utf8Len (advance (c :: rest)).2 = utf8Len (c :: rest) := by
          rw [← utf8Len_append, hcat]
        have hposd := utf8Len_pos hprog.1
        rw [hs] at hp
        cases hr : (advance (c :: rest)).1 with
        | tok k d =>
          simp only [hr, Item.data] at hlen hprog hposd
          simp only [hr]
          refine ⟨by trivial, ?_, ?_, ?_⟩
          · simp only [Item.data]; omega
          · simp only [Item.data]; omega
          · refine ⟨by first | trivial | exact hf', ?_, ?_⟩
            · intro _; exact ⟨hprog.1, by first | trivial | rfl, by first | trivial | rfl, hprog.2, by first | trivial | exact hf'⟩
            · intro hk; exact absurd hk (Lex.advance_kind_ne_eof c rest k d hr)
        | err d =>
          simp only [hr, Item.data] at hlen hprog hposd
          simp only [hr]
          refine ⟨by trivial, ?_, ?_, ?_⟩
          · simp only [Item.data]; omega
          · simp only [Item.data]; omega
          · exact ⟨by first | trivial | exact hf', hprog.2, by first | trivial | exact hf'⟩
        | limit =>
          simp only [hr, Item.data] at hprog
          exact absurd rfl hprog.1

structure NextM (s : PState) (r : Option Tok × PState) : Prop where
  total : r.2.lx.total = s.lx.total
  pos : r.2.lx.pos + utf8Len r.2.lx.src = s.lx.total
  posMono : s.lx.pos ≤ r.2.lx.pos
  lexMono : lexM r.2.lx ≤ lexM s.lx
  fin : s.lx.finished = true → r.2.lx = s.lx ∧ r.1 = none
  none : r.1 = none → r.2.lx.finished = true
  tok : ∀ t, r.1 = some t → s.lx.finished = false ∧ 1 + lexM r.2.lx ≤ lexM s.lx ∧ s.lx.pos ≤ t.index ∧
    (t.kind ≠ .eof → t.data ≠ [] ∧ t.index + utf8Len t.data = r.2.lx.pos) ∧ (t.kind = .eof → t.index = s.lx.total)

theorem nextTokenRaw_fin_m (fuel : Nat) (s : PState) (hp : s.lx.pos + utf8Len s.lx.src = s.lx.total)
    (hf : s.lx.finished = true) : NextM s (nextTokenRaw fuel s) := by
  have e : nextTokenRaw fuel s = (none, s) := by
    cases fuel with
    | zero => rfl
    | succ n => simp [nextTokenRaw, lexNext_finished s.lx hf]
  rw [e]
  exact ⟨rfl, hp, Nat.le_refl _, Nat.le_refl _, fun _ => ⟨rfl, rfl⟩, fun _ => hf, fun t h => by simp at h⟩

theorem nextTokenRaw_m : ∀ (fuel : Nat) (s : PState), s.lx.pos + utf8Len s.lx.src = s.lx.total →
    s.lx.src.length < fuel → NextM s (nextTokenRaw fuel s)
  | 0, s, _, hl => by omega
  | fuel + 1, s, hp, hl => by
    have hstep := lexNext_step s.lx hp
    unfold nextTokenRaw
    cases hn : lexNext s.lx with
    | mk o l' =>
      rw [hn] at hstep
      simp only [] at hstep
      obtain ⟨htot, hpos, hpm, hcase⟩ := hstep
      cases o with
      | none =>
        simp only [] at hcase ⊢
        obtain ⟨hfin, hl'⟩ := hcase
        subst hl'
        exact ⟨rfl, hp, Nat.le_refl _, Nat.le_refl _, fun _ => ⟨rfl, rfl⟩, fun _ => hfin, fun t h => by simp at h⟩
      | some out =>
        cases out with
        | tok t =>
          simp only [] at hcase ⊢
          obtain ⟨hnf, hne, heof⟩ := hcase
          refine ⟨htot, hpos, hpm, ?_, fun h => by simp [hnf] at h, fun h => by simp at h, ?_⟩
          · by_cases hk : t.kind = .eof
            · simp [lexM, (heof hk).2.1]
            · have := hne hk
              simp only [lexM, hnf, this.2.2.2.2, Bool.false_eq_true, if_false]; omega
          · intro t' ht'
            simp only [Option.some.injEq] at ht'
            subst ht'
            refine ⟨hnf, ?_, ?_, ?_, fun hk => (heof hk).1⟩
            · by_cases hk : t.kind = .eof
              · simp [lexM, (heof hk).2.1, hnf]
              · have := hne hk
                simp only [lexM, hnf, this.2.2.2.2, Bool.false_eq_true, if_false]; omega
            · by_cases hk : t.kind = .eof
              · have := heof hk
                rw [this.1, ← hp]; omega
              · rw [(hne hk).2.1]; exact Nat.le_refl _
            · intro hk
              have := hne hk
              exact ⟨this.1, by rw [this.2.1, this.2.2.1]⟩
        | err d i =>
          simp only [] at hcase ⊢
          obtain ⟨hnf, hlen, hnf'⟩ := hcase
          have ih := nextTokenRaw_m fuel { s with
            lx := l', pending := if d.isEmpty then s.pending else s.pending ++ [.error d],
            errors := s.errors ++ [⟨i, utf8Len d, .lexer⟩] } (by simpa [htot] using hpos) (by simp only []; omega)
          have hlm : lexM l' ≤ lexM s.lx := by simp only [lexM, hnf, hnf', Bool.false_eq_true, if_false]; omega
          refine ⟨ih.total.trans htot, by simpa [htot] using ih.pos, Nat.le_trans hpm ih.posMono,
            Nat.le_trans ih.lexMono hlm, fun h => by simp [hnf] at h, ih.none, ?_⟩
          intro t ht
          have := ih.tok t ht
          simp only [] at this
          exact ⟨hnf, by omega, by omega, this.2.2.2.1, fun hk => by rw [this.2.2.2.2 hk, htot]⟩
        | limit i =>
          simp only [] at hcase ⊢
          obtain ⟨hnf, hfin', hsrc, hpos'⟩ := hcase
          have ih := nextTokenRaw_fin_m fuel { s with lx := l', acceptErrors := false, errors := s.errors ++ [⟨i, 0, .limit⟩] }
            (by simpa [htot] using hpos) hfin'
          have hfix := ih.fin hfin'
          simp only [] at hfix
          refine ⟨ih.total.trans htot, by simpa [htot] using ih.pos, Nat.le_trans hpm ih.posMono, ?_,
            fun h => by simp [hnf] at h, ih.none, ?_⟩
          · rw [hfix.1]; simp [lexM, hfin']
          · intro t ht; rw [hfix.2] at ht; simp at ht

theorem nextToken_m (s : PState) (hp : s.lx.pos + utf8Len s.lx.src = s.lx.total) : NextM s (nextToken s) :=
  nextTokenRaw_m _ s hp (by omega)

/-! ### terminating runs -/

def Run {α : Type} (m : PI α) (s : PState) (Q : α → Option Tok → LexSt → Prop) : Prop :=
  ∃ a s', m.run s = .ok a s' ∧ W s' ∧ Mono s s' ∧ Keep s s' ∧ Q a s'.current s'.lx

theorem Run.weaken {α : Type} {m : PI α} {s : PState} {Q Q' : α → Option Tok → LexSt → Prop}
    (h : Run m s Q) (hq : ∀ a c l, Q a c l → Q' a c l) : Run m s Q' := by
  obtain ⟨a, s', hr, hw, hm, hk, hq'⟩ := h
  exact ⟨a, s', hr, hw, hm, hk, hq a _ _ hq'⟩

theorem run_pure' {α : Type} (a : α) (s : PState) (hw : W s) {Q : α → Option Tok → LexSt → Prop}
    (hq : Q a s.current s.lx) : Run (pure a : PI α) s Q :=
  ⟨a, s, rfl, hw, Mono.refl s, Keep.refl s, hq⟩

theorem run_bind' {α β : Type} {m : PI α} {f : α → PI β} {s : PState}
    {Q1 : α → Option Tok → LexSt → Prop} {Q : β → Option Tok → LexSt → Prop}
    (h1 : Run m s Q1)
    (h2 : ∀ a s1, W s1 → Mono s s1 → Keep s s1 → Q1 a s1.current s1.lx → Run (f a) s1 Q) :
    Run (m >>= f) s Q := by
  obtain ⟨a, s1, hr1, hw1, hm1, hk1, hq1⟩ := h1
  obtain ⟨b, s2, hr2, hw2, hm2, hk2, hq2⟩ := h2 a s1 hw1 hm1 hk1 hq1
  refine ⟨b, s2, ?_, hw2, hm1.trans hm2, hk1.trans hm1 hk2 hm2, hq2⟩
  rw [run_bind, hr1]; exact hr2

theorem run_frame {α : Type} (m : PI α) (s : PState) (hw : W s) (a : α) (s' : PState)
    (hr : m.run s = .ok a s') (hc : s'.current = s.current) (hl : s'.lx = s.lx)
    {Q : α → Option Tok → LexSt → Prop} (hq : Q a s.current s.lx) : Run m s Q := by
  exact ⟨a, s', hr, W_congr hc hl hw, Mono_congr hc hl, Keep_congr hc hl, by rw [hc, hl]; exact hq⟩

theorem run_consume {α : Type} (m : PI α) (s : PState) (hw : W s) (a : α) (s' : PState) (t : Tok)
    (hr : m.run s = .ok a s') (hc : s.current = some t) (hc' : s'.current = none) (hl : s'.lx = s.lx)
    {Q : α → Option Tok → LexSt → Prop} (hq : StrictT s none s.lx → Q a none s.lx) : Run m s Q := by
  have hst : Strict s s' := by
    refine ⟨by simp [Mm, MmT, hc, hc', hl], ?_⟩
    simp only [Phi, PhiT, hc, hc', hl]
    by_cases hk : t.kind = .eof
    · have h1 := hw.curEof t hc hk
      have h2 := hw.eof t hc hk
      have h3 := hw.pos
      rw [h2.2.1] at h3
      simp only [utf8Len, List.foldl_nil, Nat.add_zero] at h3
      simp [h2.2.2]; omega
    · have h1 := hw.cur t hc hk
      have := utf8Len_pos h1.1
      omega
  have hw' : W s' :=
    ⟨by rw [hl]; exact hw.pos, fun t' h => by simp [hc'] at h, fun t' h => by simp [hc'] at h, fun t' h => by simp [hc'] at h⟩
  exact ⟨a, s', hr, hw', hst.mono, fun _ => Or.inr hst, by rw [hc', hl]; exact hq (by rw [← hc', ← hl]; exact hst)⟩

/-- `peek_token`, `err`, `limit_err`, `err_at_token`: only look at the current token -/
def Looked (s : PState) (c : Option Tok) (l : LexSt) : Prop :=
  (c = none → l.finished = true) ∧ (s.current.isSome = true → c = s.current ∧ l = s.lx)

theorem peekToken_run' (s : PState) (hw : W s) :
    Run peekToken s (fun a c l => a = c ∧ Looked s c l) := by
  cases hc : s.current with
  | some t =>
    exact run_frame _ s hw _ s (peekToken_current s t hc) rfl rfl ⟨hc.symm, fun h => by simp [hc] at h, fun _ => ⟨rfl, rfl⟩⟩
  | none =>
    have hr : peekToken.run s = .ok (nextToken s).1 { (nextToken s).2 with current := (nextToken s).1 } := by
      simp [peekToken, hc]
    have nm := nextToken_m s hw.pos
    have sp := nextToken_spec s
    refine ⟨_, _, hr, ?_, ⟨?_, ?_⟩, fun h => by simp [hc] at h, rfl, nm.none, fun h => by simp [hc] at h⟩
    · refine ⟨by simp only []; rw [nm.total]; exact nm.pos, ?_, ?_, ?_⟩
      · intro t ht hk; exact ((nm.tok t ht).2.2.2.1 hk)
      · intro t ht hk; simp only []; rw [nm.total]; exact (nm.tok t ht).2.2.2.2 hk
      · intro t ht hk; exact sp.eof t ht hk
    · simp only [Mm, MmT, hc, Option.isSome_none, Bool.false_eq_true, if_false, Nat.zero_add]
      cases hn : (nextToken s).1 with
      | none => simpa using nm.lexMono
      | some t => have := (nm.tok t hn).2.1; simp; omega
    · simp only [Phi, PhiT, hc]
      cases hn : (nextToken s).1 with
      | none =>
        have := nm.none hn
        have := nm.posMono
        simp only [*]
        split <;> simp <;> omega
      | some t =>
        have h := nm.tok t hn
        simp only [h.1, Bool.false_eq_true, if_false]
        omega

/-! ### primitives -/

theorem keep_none_strict {s s' : PState} (hk : Keep s s') (hs : s.current.isSome = true) (hn : s'.current = none) :
    Strict s s' := by
  rcases hk hs with ⟨hc, _⟩ | h
  · rw [hn] at hc; rw [← hc] at hs; simp at hs
  · exact h

theorem keep_then_strict {s1 s2 s3 : PState} (hk : Keep s1 s2) (hm : Mono s1 s2)
    (hs : s1.current.isSome = true) (h23 : s2.current.isSome = true → Strict s2 s3) (hm23 : Mono s2 s3) :
    Strict s1 s3 := by
  rcases hk hs with ⟨hc, hl⟩ | h
  · have := h23 (by rw [hc]; exact hs)
    exact ⟨by rw [← Mm_congr hc hl]; exact this.1, by rw [← Phi_congr hc hl]; exact this.2⟩
  · exact h.trans_mono hm23

theorem moveCurToPending_run (s : PState) (hw : W s) :
    Run moveCurToPending s (fun b c l => (b = true → StrictT s c l) ∧
      (b = false → c = s.current ∧ l = s.lx ∧ ∀ t, c = some t → isIgnoredKind t.kind = false)) := by
  cases hc : s.current with
  | none =>
    have hr : moveCurToPending.run s = .ok false s := by simp [moveCurToPending, hc]
    exact ⟨false, s, hr, hw, Mono.refl s, Keep.refl s, fun h => absurd h (by decide), fun _ => ⟨hc, rfl, fun t h => by simp [hc] at h⟩⟩
  | some t =>
    by_cases hig : isIgnoredKind t.kind = true
    · have hr : moveCurToPending.run s = .ok true { s with current := none, pending := s.pending ++ [.ignored t] } := by
        simp [moveCurToPending, hc, hig]
      exact run_consume _ s hw true _ t hr hc rfl rfl fun h => ⟨fun _ => h, fun h => absurd h (by decide)⟩
    · have hr : moveCurToPending.run s = .ok false s := by simp [moveCurToPending, hc, hig]
      exact ⟨false, s, hr, hw, Mono.refl s, Keep.refl s, fun h => absurd h (by decide),
        fun _ => ⟨hc, rfl, fun t' h => by rw [hc] at h; cases h; simpa using hig⟩⟩

/-- what holds of the token stream after `skip_ignored` -/
def Skipped (c : Option Tok) (l : LexSt) : Prop :=
  (c = none → l.finished = true) ∧ ∀ t, c = some t → isIgnoredKind t.kind = false

theorem skipIgnoredLoop_run : ∀ (fuel : Nat) (s : PState), W s → Mm s + 1 ≤ fuel →
    Run (skipIgnoredLoop fuel) s (fun _ c l => Skipped c l)
  | 0, s, _, h => by omega
  | fuel + 1, s, hw, hf => by
    unfold skipIgnoredLoop
    apply run_bind' (peekToken_run' s hw)
    intro a s1 hw1 hm1 hk1 hq1
    apply run_bind' (moveCurToPending_run s1 hw1)
    intro b s2 hw2 hm2 hk2 hq2
    cases b with
    | true =>
      simp only [if_true]
      have hst := hq2.1 rfl
      exact skipIgnoredLoop_run fuel s2 hw2 (by have := hst.1; have := hm1.1; unfold Mm at *; omega)
    | false =>
      simp only [Bool.false_eq_true, if_false]
      obtain ⟨hc, hl, hig⟩ := hq2.2 rfl
      refine run_pure' () s2 hw2 ⟨?_, hig⟩
      intro hn
      rw [hl]; exact hq1.2.1 (by rw [← hc]; exact hn)

theorem Mm_le (s : PState) : Mm s ≤ s.lx.src.length + 2 := by
  simp only [Mm, MmT, lexM]
  split <;> split <;> omega

theorem srcLen_run (s : PState) (hw : W s) :
    Run srcLen s (fun n c l => n = s.lx.src.length ∧ c = s.current ∧ l = s.lx) :=
  ⟨_, s, rfl, hw, Mono.refl s, Keep.refl s, rfl, rfl, rfl⟩

theorem skipIgnored_run (s : PState) (hw : W s) :
    Run skipIgnored s (fun _ c l => Skipped c l) := by
  unfold skipIgnored
  apply run_bind' (srcLen_run s hw)
  intro n s1 hw1 hm1 hk1 hq1
  obtain ⟨rfl, hc, hl⟩ := hq1
  exact skipIgnoredLoop_run _ s1 hw1 (by have := Mm_le s1; rw [hl] at this; omega)

theorem pushIgnored_run (s : PState) (hw : W s) :
    Run pushIgnored s (fun _ c l => c = s.current ∧ l = s.lx) :=
  run_frame pushIgnored s hw () _ rfl rfl rfl ⟨rfl, rfl⟩

theorem getCurrent_run (s : PState) (hw : W s) :
    Run getCurrent s (fun a c l => a = s.current ∧ c = s.current ∧ l = s.lx) :=
  ⟨_, s, rfl, hw, Mono.refl s, Keep.refl s, rfl, rfl, rfl⟩

theorem peekTokenN_run (n : Nat) (s : PState) (hw : W s) :
    Run (peekTokenN n) s (fun _ c l => c = s.current ∧ l = s.lx) :=
  ⟨_, s, rfl, hw, Mono.refl s, Keep.refl s, rfl, rfl⟩

theorem moveCurToTree_run (kind : SK) (s : PState) (hw : W s) :
    Run (moveCurToTree kind) s (fun _ c l => c = none ∧ l = s.lx) := by
  cases hc : s.current with
  | none =>
    have hr : (moveCurToTree kind).run s = .ok () s := by simp [moveCurToTree, hc]
    exact ⟨(), s, hr, hw, Mono.refl s, Keep.refl s, hc, rfl⟩
  | some t =>
    have hr : (moveCurToTree kind).run s = .ok () { s with current := none, builder := { s.builder with children := s.builder.children ++ s.pending.map pendingElem ++ [.tok kind t.data] }, pending := [], deadBranch := s.deadBranch || !s.pending.isEmpty } := by
      simp [moveCurToTree, hc]
    exact run_consume _ s hw () _ t hr hc rfl rfl fun _ => ⟨rfl, rfl⟩

/-- after `eat`/`bump`/`err_and_pop`: a token was consumed, or the input is exhausted -/
def Consumed (s : PState) (c : Option Tok) (l : LexSt) : Prop :=
  (s.current.isSome = true → StrictT s c l) ∧ (StrictT s c l ∨ (c = none ∧ l.finished = true))

theorem eat_run (kind : SK) (s : PState) (hw : W s) :
    Run (eat kind) s (fun _ c l => c = none ∧ Consumed s c l) := by
  unfold eat
  apply run_bind' (pushIgnored_run s hw)
  intro _ s1 hw1 hm1 hk1 hq1
  apply run_bind' (peekToken_run' s1 hw1)
  intro a s2 hw2 hm2 hk2 hq2
  obtain ⟨a', s3, hr, hw3, hm3, hk3, hc3, hl3⟩ := moveCurToTree_run kind s2 hw2
  have hm13 : Mono s1 s3 := hm2.trans hm3
  have hk13 : Keep s1 s3 := hk2.trans hm2 hk3 hm3
  refine ⟨a', s3, hr, hw3, hm3, hk3, hc3, ?_, ?_⟩
  · intro hs
    have hs1 : s1.current.isSome = true := by rw [hq1.1]; exact hs
    have := keep_none_strict hk13 hs1 hc3
    exact ⟨by rw [← Mm_congr hq1.1 hq1.2]; exact this.1, by rw [← Phi_congr hq1.1 hq1.2]; exact this.2⟩
  · cases hcur : s2.current with
    | none =>
      right
      refine ⟨hc3, ?_⟩
      rw [hl3]; exact hq2.2.1 hcur
    | some t =>
      left
      have hst : Strict s2 s3 := keep_none_strict hk3 (by simp [hcur]) hc3
      have h13 : Strict s1 s3 := hm2.trans_strict hst
      exact ⟨by rw [← Mm_congr hq1.1 hq1.2]; exact h13.1, by rw [← Phi_congr hq1.1 hq1.2]; exact h13.2⟩

theorem strictT_of_congr {s s1 : PState} {c : Option Tok} {l : LexSt} (hc : s1.current = s.current) (hl : s1.lx = s.lx)
    (h : StrictT s1 c l) : StrictT s c l :=
  ⟨by rw [← Mm_congr hc hl]; exact h.1, by rw [← Phi_congr hc hl]; exact h.2⟩

theorem bump_run (kind : SK) (s : PState) (hw : W s) :
    Run (bump kind) s (fun _ c l => Consumed s c l ∧ Skipped c l) := by
  unfold bump
  apply run_bind' (eat_run kind s hw)
  intro _ s1 hw1 hm1 hk1 hq1
  obtain ⟨a, s2, hr, hw2, hm2, hk2, hq2⟩ := skipIgnored_run s1 hw1
  refine ⟨a, s2, hr, hw2, hm2, hk2, ⟨?_, ?_⟩, hq2⟩
  · intro hs
    exact (Strict.trans_mono (hq1.2.1 hs) hm2)
  · rcases hq1.2.2 with hst | ⟨hc, hf⟩
    · exact Or.inl (Strict.trans_mono hst hm2)
    · -- exhausted before: skip_ignored finds nothing
      by_cases hn : s2.current = none
      · right
        exact ⟨hn, hq2.1 hn⟩
      · left
        -- cannot happen, but progress is a consequence anyway: the lexer was finished, so `Mm s1 = 0`
        exfalso
        have h0 : Mm s1 = 0 := by simp [Mm, MmT, lexM, hq1.1, hf]
        have : Mm s2 ≤ Mm s1 := hm2.1
        have h2 : Mm s2 ≥ 1 := by
          cases hc2 : s2.current with
          | none => exact absurd hc2 hn
          | some t => simp [Mm, MmT, hc2]
        omega

theorem errUpdate_run (f : PState → List PErr × Bool) (hf hf2) (s : PState) (hw : W s) :
    Run (errUpdate f hf hf2) s (fun _ c l => c = s.current ∧ l = s.lx) :=
  run_frame _ s hw () { s with errors := (f s).1, acceptErrors := (f s).2 } rfl rfl rfl ⟨rfl, rfl⟩

theorem pushErr_run (e : PErr) (s : PState) (hw : W s) :
    Run (pushErr e) s (fun _ c l => c = s.current ∧ l = s.lx) := errUpdate_run _ _ _ s hw

theorem looked_of_peek {s s1 : PState} (hk : Keep s s1) (hm : Mono s s1) {a : Option Tok}
    (hq : a = s1.current ∧ (a = none → s1.lx.finished = true)) (hnostrict : s.current.isSome = true → s1.current = s.current ∧ s1.lx = s.lx) :
    Looked s s1.current s1.lx :=
  ⟨fun h => hq.2 (by rw [hq.1]; exact h), hnostrict⟩

theorem err_run (s : PState) (hw : W s) : Run err s (fun _ c l => Looked s c l) := by
  unfold err
  apply run_bind' (peekToken_run' s hw)
  intro a s1 hw1 hm1 hk1 hq1
  cases a with
  | none => exact run_pure' () s1 hw1 hq1.2
  | some t => exact (pushErr_run _ s1 hw1).weaken (fun _ c l h => by rw [h.1, h.2]; exact hq1.2)

theorem limitErr_run (s : PState) (hw : W s) : Run limitErr s (fun _ c l => Looked s c l) := by
  unfold limitErr
  apply run_bind' (peekToken_run' s hw)
  intro a s1 hw1 hm1 hk1 hq1
  cases a with
  | none => exact run_pure' () s1 hw1 hq1.2
  | some t => exact (errUpdate_run _ _ _ s1 hw1).weaken (fun _ c l h => by rw [h.1, h.2]; exact hq1.2)

theorem errAtToken_run (t : Tok) (s : PState) (hw : W s) :
    Run (errAtToken t) s (fun _ c l => c = s.current ∧ l = s.lx) := pushErr_run _ s hw

theorem peek_run' (s : PState) (hw : W s) :
    Run peek s (fun k c l => k = c.map (·.kind) ∧ Looked s c l) := by
  unfold peek
  apply run_bind' (peekToken_run' s hw)
  intro a s1 hw1 hm1 hk1 hq1
  exact run_pure' _ s1 hw1 ⟨by rw [hq1.1], hq1.2⟩

theorem peekData_run' (s : PState) (hw : W s) :
    Run peekData s (fun k c l => k = c.map (·.data) ∧ Looked s c l) := by
  unfold peekData
  apply run_bind' (peekToken_run' s hw)
  intro a s1 hw1 hm1 hk1 hq1
  exact run_pure' _ s1 hw1 ⟨by rw [hq1.1], hq1.2⟩

theorem errAndPop_run (s : PState) (hw : W s) :
    Run errAndPop s (fun _ c l => Consumed s c l) := by
  unfold errAndPop
  apply run_bind' (pushIgnored_run s hw)
  intro _ s1 hw1 hm1 hk1 hq1
  apply run_bind' (peekToken_run' s1 hw1)
  intro a s2 hw2 hm2 hk2 hq2
  cases a with
  | none =>
    refine run_pure' () s2 hw2 ⟨?_, Or.inr ⟨hq2.1.symm, hq2.2.1 hq2.1.symm⟩⟩
    intro hs
    have := hq2.2.2 (by rw [hq1.1]; exact hs)
    rw [← hq2.1, hq1.1] at this
    rw [← this.1] at hs; simp at hs
  | some t =>
    simp only []
    apply run_bind' (moveCurToTree_run "ERROR" s2 hw2)
    intro _ s3' hw3' hm3' hk3' hq3'
    apply run_bind' (pushErr_run _ s3' hw3')
    intro _ s4 hw4 hm4 hk4 hq4
    obtain ⟨a5, s5, hr5, hw5, hm5, hk5, hq5⟩ := skipIgnored_run s4 hw4
    have hst' : Strict s2 s3' := keep_none_strict hk3' (by rw [← hq2.1]; rfl) hq3'.1
    have hs25 : Strict s2 s5 := (hst'.trans_mono hm4).trans_mono hm5
    have hs15 : Strict s1 s5 := hm2.trans_strict hs25
    have : StrictT s s5.current s5.lx := strictT_of_congr hq1.1 hq1.2 hs15
    exact ⟨a5, s5, hr5, hw5, hm5, hk5, fun _ => this, Or.inl this⟩

theorem popDrop_run (s : PState) (hw : W s) :
    Run popDrop s (fun a c l => a = s.current ∧ c = none ∧ l = s.lx) := by
  cases hc : s.current with
  | none =>
    have hr : popDrop.run s = .ok none { s with deadBranch := true } := by simp [popDrop, hc]
    exact run_frame popDrop s hw none _ hr rfl rfl ⟨rfl, hc, rfl⟩
  | some t =>
    have hr : popDrop.run s = .ok (some t) { s with current := none, dropped := s.dropped || !t.data.isEmpty } := by
      simp [popDrop, hc]
    exact run_consume _ s hw (some t) _ t hr hc rfl rfl fun _ => ⟨rfl, rfl, rfl⟩

theorem expect_run (token : Kind) (kind : SK) (s : PState) (hw : W s) :
    Run (expect token kind) s (fun _ c l => (c = none → l.finished = true) ∧
      (∀ t, s.current = some t → t.kind = token → StrictT s c l)) := by
  unfold expect
  apply run_bind' (peekToken_run' s hw)
  intro a s1 hw1 hm1 hk1 hq1
  cases a with
  | none =>
    refine run_pure' () s1 hw1 ⟨hq1.2.1, ?_⟩
    intro t ht _
    have := hq1.2.2 (by simp [ht])
    rw [← hq1.1, ht] at this
    simp at this
  | some t =>
    simp only []
    by_cases hk : (t.kind == token) = true
    · simp only [hk, if_true]
      refine (bump_run kind s1 hw1).weaken ?_
      intro _ c l h
      refine ⟨h.2.1, ?_⟩
      intro t' ht' _
      have hsame := hq1.2.2 (by simp [ht'])
      exact strictT_of_congr hsame.1 hsame.2 (h.1.1 (by rw [← hq1.1]; rfl))
    · simp only [hk, Bool.false_eq_true, if_false]
      refine (pushErr_run _ s1 hw1).weaken ?_
      intro _ c l h
      rw [h.1, h.2]
      refine ⟨hq1.2.1, ?_⟩
      intro t' ht' hk'
      have hsame := hq1.2.2 (by simp [ht'])
      rw [← hq1.1, ht'] at hsame
      simp only [Option.some.injEq] at hsame
      rw [← hsame.1] at hk'
      simp [hk'] at hk

end Apollo.Parse
