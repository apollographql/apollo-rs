import ApolloModel.Proofs.ParserTermination2
/-
C01, termination: guarded consumption `GC`, the post-condition of loop bodies ("a token is consumed when the current one
satisfies the guard"), with its rules; the families argument.rs / directive.rs; then selection.rs,
field.rs, fragment.rs: the cycle selectionSet → selection → field → selectionSet, and the entry point
`Parser::parse_selection_set`.
-/
set_option linter.unusedSimpArgs false
set_option linter.unusedVariables false
namespace Apollo.Parse
open Apollo.Rowan hiding Str
open Apollo.Lex hiding Str

section
variable {α β γ : Type} {B : Nat}

theorem tb_name : TB B name := tb_term name_term
theorem tb_value {n : Nat} {c p : Bool} (hb : 2 * B + 2 ≤ n) : TB B (value n c p) :=
  fun s hw hB => ta_of ((value_family n).value c p s hw (by omega))
theorem tb_ty {n : Nat} (hb : B + 1 ≤ n) : TB B (ty n) := fun s hw hB => ty_term n s hw (by omega)

theorem tb_namedType : TB B namedType := tb_bind tb_peek fun _ => tb_ite (tb_withNode tb_name) (tb_pure _)
theorem tb_description : TB B description := tb_withNode (tb_withNode tb_bump)
theorem tb_nameOrErr : TB B nameOrErr := tb_bind tb_peek fun _ => tb_ite tb_name tb_err

theorem tb_fragmentName : TB B fragmentName :=
  tb_withNode (tb_bind tb_peekToken fun o => by
    cases o
    · exact tb_err
    · exact tb_ite tb_err (tb_ite tb_name tb_err))

theorem tb_typeCondition : TB B typeCondition :=
  tb_withNode (tb_bind tb_peekToken fun o => by
    cases o
    · exact tb_err
    · exact tb_alt tb_bump tb_err fun _ => tb_bind tb_peek fun _ => tb_ite tb_namedType tb_err)

theorem tb_operationType : TB B operationType :=
  tb_bind tb_peekData fun o => by
    cases o
    · exact tb_pure _
    · exact tb_withNode (tb_ite tb_bump (tb_ite tb_bump (tb_ite tb_bump tb_errAndPop)))

theorem tb_directiveLocation : TB B directiveLocation :=
  tb_bind tb_peekToken fun o => by
    cases o
    · exact tb_pure _
    · refine tb_ite ?_ tb_err
      split
      · exact tb_withNode tb_bump
      · exact tb_err

end

theorem ta_peekN (n : Nat) (s : PState) (hw : W s) : TA (peekN n) s :=
  (tb_bind tb_peekTokenN fun _ => tb_pure _) s hw (Nat.le_refl _)
theorem ta_peekDataN (n : Nat) (s : PState) (hw : W s) : TA (peekDataN n) s :=
  (tb_bind tb_peekTokenN fun _ => tb_pure _) s hw (Nat.le_refl _)
theorem ta_eat (k : SK) (s : PState) (hw : W s) : TA (eat k) s := ta_of (eat_run k s hw).term
theorem ta_srcLen (s : PState) (hw : W s) : TA srcLen s := ta_of (srcLen_run s hw).term
theorem ta_variableNode (s : PState) (hw : W s) : TA variableNode s := ta_of (variableNode_term s hw)
theorem ta_assertRecZero (s : PState) (hw : W s) : TA assertRecZero s :=
  ta_of (run_frame assertRecZero s hw () { s with deadBranch := s.deadBranch || !(s.recCur == 0) } rfl rfl rfl (Q := Any) trivial).term
theorem ta_alias (s : PState) (hw : W s) : TA alias s :=
  (tb_withNode (tb_bind tb_name fun _ => tb_bump)) s hw (Nat.le_refl _)
theorem ta_description (s : PState) (hw : W s) : TA description s := tb_description s hw (Nat.le_refl _)
theorem ta_operationType (s : PState) (hw : W s) : TA operationType s := tb_operationType s hw (Nat.le_refl _)

/-! ### "consumes the current token when it satisfies `G`" -/

def GC {α : Type} (G : Tok → Prop) (s : PState) : α → Option Tok → LexSt → Prop :=
  fun _ c l => ∀ t, s.current = some t → G t → StrictT s c l

theorem gc_of_consP {G : Tok → Prop} {s : PState} {m : PI Unit} (h : Term m s (ConsP s)) : Term m s (GC G s) :=
  h.weaken (fun _ c l hq t ht _ => hq (by rw [ht]; rfl))

/-- after a guarded first step, the rest runs with strictly fewer tokens left than `M0` -/
theorem gc_first_or {α β : Type} {G : Tok → Prop} {first : PI α} {rest : α → PI β} {s : PState} {M0 B : Nat}
    (hor : (∃ t, s.current = some t ∧ G t) ∨ Mm s < M0) (hle : Mm s ≤ M0) (hB : M0 ≤ B + 1)
    (h1 : Term first s (GC G s)) (h2 : ∀ a, TB B (rest a)) :
    Term (first >>= rest) s (GC G s) :=
  term_bind h1 fun a s1 hw1 hm1 _ hq1 =>
    have hB1 : Mm s1 ≤ B := by
      rcases hor with ⟨t, ht, hg⟩ | hlt
      · have := (hq1 t ht hg).1; unfold Mm at *; omega
      · have := hm1.1; omega
    (h2 a s1 hw1 hB1).post fun _ _ _ hm2 _ _ t ht hg => Strict.trans_mono (hq1 t ht hg) hm2

theorem gc_first {α β : Type} {G : Tok → Prop} {first : PI α} {rest : α → PI β} {s : PState}
    (h1 : Term first s (GC G s)) (h2 : ∀ a, TB (Mm s) (rest a)) :
    Term (first >>= rest) s (GC G s) :=
  gc_first_or (M0 := Mm s + 1) (Or.inr (Nat.lt_succ_self _)) (Nat.le_succ _) (Nat.le_refl _) h1 h2

theorem gc_look {α β : Type} {G : Tok → Prop} {look : PI α} {f : α → PI β} {s : PState}
    {Q1 : α → Option Tok → LexSt → Prop}
    (h1 : Term look s (fun a c l => Q1 a c l ∧ (s.current.isSome = true → c = s.current ∧ l = s.lx)))
    (h2 : ∀ a s1, W s1 → Mm s1 ≤ Mm s → Q1 a s1.current s1.lx → Term (f a) s1 (GC G s1)) :
    Term (look >>= f) s (GC G s) :=
  term_bind h1 fun a s1 hw1 hm1 _ hq1 => (h2 a s1 hw1 hm1.1 hq1.1).post fun _ _ _ _ _ hq2 t ht hg =>
    have hsame := hq1.2 (by rw [ht]; rfl)
    strictT_of_congr hsame.1 hsame.2 (hq2 t (by rw [hsame.1]; exact ht) hg)

theorem gc_peek {β : Type} {G : Tok → Prop} {f : Option Kind → PI β} {s : PState} (hw : W s)
    (h : ∀ k s1, W s1 → Mm s1 ≤ Mm s → k = s1.current.map (·.kind) → Term (f k) s1 (GC G s1)) :
    Term (peek >>= f) s (GC G s) :=
  gc_look (Q1 := fun k c _ => k = c.map (·.kind)) ((peek_run' s hw).term.weaken (fun _ _ _ hq => ⟨hq.1, hq.2.2⟩)) h

theorem gc_peekToken {β : Type} {G : Tok → Prop} {f : Option Tok → PI β} {s : PState} (hw : W s)
    (h : ∀ k s1, W s1 → Mm s1 ≤ Mm s → k = s1.current → Term (f k) s1 (GC G s1)) :
    Term (peekToken >>= f) s (GC G s) :=
  gc_look (Q1 := fun k c _ => k = c) ((peekToken_run' s hw).term.weaken (fun _ _ _ hq => ⟨hq.1, hq.2.2⟩)) h

theorem gc_peekData {β : Type} {G : Tok → Prop} {f : Option Str → PI β} {s : PState} (hw : W s)
    (h : ∀ k s1, W s1 → Mm s1 ≤ Mm s → k = s1.current.map (·.data) → Term (f k) s1 (GC G s1)) :
    Term (peekData >>= f) s (GC G s) :=
  gc_look (Q1 := fun k c _ => k = c.map (·.data)) ((peekData_run' s hw).term.weaken (fun _ _ _ hq => ⟨hq.1, hq.2.2⟩)) h

/-- through `start_node` … `finish_node`: the embedded `skip_ignored` keeps the token or consumes it, and
    the body is told which -/
theorem gc_withNode_kept {α : Type} {G : Tok → Prop} (kind : SK) (body : PI α) (s : PState) (hw : W s)
    (h : ∀ s2, W s2 → Mm s2 ≤ Mm s → (∀ t, s.current = some t → s2.current = some t ∨ Mm s2 < Mm s) →
      Term body s2 (GC G s2)) :
    Term (withNode kind body) s (GC G s) := by
  refine withNode_term kind body s hw fun s1 hw1 hc1 hl1 => ?_
  have hM1 : Mm s1 = Mm s := Mm_congr hc1 hl1
  refine term_bind (skipIgnored_run s1 hw1).term fun _ s2 hw2 hm2 hk2 _ => ?_
  have hkept : ∀ t, s.current = some t → (s2.current = s1.current ∧ s2.lx = s1.lx) ∨ Strict s1 s2 :=
    fun t ht => hk2 (by rw [hc1, ht]; rfl)
  refine (h s2 hw2 (by have := hm2.1; omega) fun t ht => (hkept t ht).imp (fun hc => by rw [hc.1, hc1, ht])
    fun hst => by have := hst.1; omega).post fun _ sF _ hmF _ hqF t ht hg => strictT_of_congr hc1 hl1 ?_
  rcases hkept t ht with ⟨hc, hl⟩ | hst
  · exact strictT_of_congr hc hl (hqF t (by rw [hc, hc1, ht]) hg)
  · exact hst.trans_mono hmF

theorem gc_withNode {α : Type} {G : Tok → Prop} (kind : SK) (body : PI α) (s : PState) (hw : W s)
    (h : ∀ s2, W s2 → Mm s2 ≤ Mm s → Term body s2 (GC G s2)) : Term (withNode kind body) s (GC G s) :=
  gc_withNode_kept kind body s hw fun s2 hw2 hM2 _ => h s2 hw2 hM2

theorem gc_withNode_or {α : Type} {G : Tok → Prop} (kind : SK) (body : PI α) (s : PState) (hw : W s)
    (hcur : ∃ t, s.current = some t ∧ G t)
    (h : ∀ s2, W s2 → Mm s2 ≤ Mm s → ((∃ t, s2.current = some t ∧ G t) ∨ Mm s2 < Mm s) → Term body s2 (GC G s2)) :
    Term (withNode kind body) s (GC G s) := by
  obtain ⟨t, ht, hg⟩ := hcur
  exact gc_withNode_kept kind body s hw fun s2 hw2 hM2 hk =>
    h s2 hw2 hM2 ((hk t ht).imp (fun h2 => ⟨t, h2, hg⟩) id)

theorem gc_name (s : PState) (hw : W s) : Term name s (GC (fun t => t.kind = .name) s) := name_term s hw
theorem gc_expect (token : Kind) (k : SK) (s : PState) (hw : W s) :
    Term (expect token k) s (GC (fun t => t.kind = token) s) :=
  (expect_run token k s hw).term.weaken (fun _ _ _ h => h.2)
theorem gc_bump {G : Tok → Prop} (k : SK) (s : PState) (hw : W s) : Term (bump k) s (GC G s) :=
  (bump_run k s hw).term.weaken (fun _ c l h t ht _ => h.1.1 (by rw [ht]; rfl))
theorem gc_errAndPop {G : Tok → Prop} (s : PState) (hw : W s) : Term errAndPop s (GC G s) :=
  (errAndPop_run s hw).term.weaken (fun _ c l h t ht _ => h.1 (by rw [ht]; rfl))
theorem gc_variableNode {G : Tok → Prop} (s : PState) (hw : W s) : Term variableNode s (GC G s) :=
  gc_of_consP (variableNode_term s hw)
theorem gc_weaken {α : Type} {G G' : Tok → Prop} {m : PI α} {s : PState} (h : Term m s (GC G s))
    (hg : ∀ t, G' t → G t) : Term m s (GC G' s) :=
  h.weaken (fun _ c l hq t ht hg' => hq t ht (hg t hg'))

/-! ### loops -/

theorem tb_peekWhileKind {B : Nat} {k : Kind} {body : PI Unit}
    (h : ∀ s, W s → Mm s ≤ B → Term body s (GC (fun t => t.kind = k) s)) : TB B (peekWhileKind k body) :=
  fun s hw hB => peekWhileKind_term k body s hw (fun s1 hw1 hM1 hcur => (h s1 hw1 (Nat.le_trans hM1 hB)).weaken
    (fun _ c l hq => by obtain ⟨t, ht, hk⟩ := hcur; exact hq t ht hk))

theorem tb_peekWhile {B : Nat} {body : Kind → PI Bool}
    (h : ∀ kind s, W s → Mm s ≤ B →
      Term (body kind) s (fun b c l => b = true → ∀ t, s.current = some t → t.kind = kind → StrictT s c l)) :
    TB B (peekWhile body) :=
  fun s hw hB => peekWhile_term body s hw (fun kind s1 hw1 hM1 hcur => (h kind s1 hw1 (Nat.le_trans hM1 hB)).weaken
    (fun b c l hq hb => by obtain ⟨t, ht, hk⟩ := hcur; exact hq hb t ht hk))

theorem gc_then_true {G : Tok → Prop} {m : PI Unit} {s : PState} (h : Term m s (GC G s)) :
    Term (m >>= fun _ => pure true) s (fun b c l => b = true → ∀ t, s.current = some t → G t → StrictT s c l) :=
  (gc_first h fun _ => tb_pure true).weaken (fun _ _ _ hq _ => hq)

theorem ta_false_post {s : PState} (hw : W s) {P : Prop} :
    Term (pure false : PI Bool) s (fun b _ _ => b = true → P) :=
  term_pure false s hw (fun h => by simp at h)

/-! ### argument.rs, directive.rs -/

theorem gc_argument (n : Nat) (isConst : Bool) (s : PState) (hw : W s) (hb : 4 * Mm s + 4 ≤ n) :
    Term (argument n isConst) s (GC (fun t => t.kind = .name) s) := by
  unfold argument
  refine gc_withNode _ _ s hw fun s2 hw2 hM2 => gc_first (gc_name s2 hw2) fun _ => ?_
  exact tb_bind tb_peek fun _ => tb_ite (tb_bind tb_bump fun _ => tb_value (by omega)) tb_err

theorem tb_arguments {B n : Nat} {isConst : Bool} (hb : 4 * B + 4 ≤ n) : TB B (arguments n isConst) :=
  have harg : ∀ s, W s → Mm s ≤ B → Term (argument n isConst) s (GC (fun t => t.kind = .name) s) :=
    fun s hw hB => gc_argument n isConst s hw (by omega)
  tb_withNode (tb_bind tb_bump fun _ => tb_bind tb_peek fun _ =>
    tb_alt (fun s hw hB => ta_of (harg s hw hB)) tb_err fun _ =>
      tb_bind (tb_peekWhileKind harg) fun _ => tb_expect)

theorem ta_arguments (n : Nat) (isConst : Bool) (s : PState) (hw : W s) (hb : 4 * Mm s + 4 ≤ n) :
    TA (arguments n isConst) s := tb_arguments hb s hw (Nat.le_refl _)

theorem gc_directive (n : Nat) (isConst : Bool) (s : PState) (hw : W s) (hb : 4 * Mm s + 4 ≤ n) :
    Term (directive n isConst) s (GC (fun t => t.kind = .at) s) := by
  unfold directive
  refine gc_withNode _ _ s hw fun s2 hw2 hM2 => gc_first (gc_expect .at "AT" s2 hw2) fun _ => ?_
  exact tb_bind tb_name fun _ => tb_bind tb_peek fun _ => tb_ite (tb_arguments (by omega)) (tb_pure _)

theorem tb_directives {B n : Nat} {isConst : Bool} (hb : 4 * B + 4 ≤ n) : TB B (directives n isConst) :=
  tb_withNode (tb_peekWhileKind fun s hw hB => gc_directive n isConst s hw (by omega))

theorem ta_directives (n : Nat) (isConst : Bool) (s : PState) (hw : W s) (hb : 4 * Mm s + 4 ≤ n) :
    TA (directives n isConst) s := tb_directives hb s hw (Nat.le_refl _)

/-! ### selection.rs, field.rs, fragment.rs -/

/-- `peek_while` whose closure also sets a flag -/
theorem peekWhileFlagLoop_term (body : Kind → PI (Bool × Bool)) : ∀ (fuel : Nat) (flag : Bool) (s : PState), W s →
    Mm s + 1 ≤ fuel →
    (∀ kind s1, W s1 → Mm s1 ≤ Mm s → (∃ t, s1.current = some t ∧ t.kind = kind) →
      Term (body kind) s1 (fun r c l => r.1 = true → ∀ t, s1.current = some t → t.kind = kind → StrictT s1 c l)) →
    TA (peekWhileFlagLoop body fuel flag) s
  | 0, _, s, _, h, _ => by omega
  | fuel + 1, flag, s, hw, hf, hbody => by
    unfold peekWhileFlagLoop
    refine ta_peek_cases hw (fun s1 hw1 => ta_pure _ s1 hw1) fun kind s1 hw1 hM1 hcur => ?_
    obtain ⟨t, ht, hk⟩ := hcur
    exact iteration_term (cont := Prod.fst) hw1 ⟨t, ht⟩
      ((hbody kind s1 hw1 hM1 ⟨t, ht, hk⟩).weaken fun _ _ _ h hc => h hc t ht hk)
      (fun _ s2 hw2 hM2 => peekWhileFlagLoop_term body fuel _ s2 hw2 (by omega)
        fun kind' s3 hw3 hM3 hc3 => hbody kind' s3 hw3 (by omega) hc3)
      (fun _ s2 hw2 => ta_pure _ s2 hw2)

theorem peekWhileKindFlagLoop_term (expectK : Kind) (body : PI Unit) : ∀ (fuel : Nat) (flag : Bool) (s : PState), W s →
    Mm s + 1 ≤ fuel →
    (∀ s1, W s1 → Mm s1 ≤ Mm s → Term body s1 (GC (fun t => t.kind = expectK) s1)) →
    TA (peekWhileKindFlagLoop expectK body fuel flag) s
  | 0, _, s, _, h, _ => by omega
  | fuel + 1, flag, s, hw, hf, hbody => by
    unfold peekWhileKindFlagLoop
    refine ta_peek_cases hw (fun s1 hw1 => ta_pure _ s1 hw1) fun kind s1 hw1 hM1 hcur => ?_
    refine term_ite (fun _ => ta_pure _ s1 hw1) fun hkk => ?_
    have hke : kind = expectK := by simpa using hkk
    obtain ⟨t, ht, hk⟩ := hcur
    exact iteration_term (cont := fun _ => true) (stop := fun _ => pure flag) hw1 ⟨t, ht⟩
      ((hbody s1 hw1 hM1).weaken fun _ _ _ h _ => h t ht (hke ▸ hk))
      (fun _ s2 hw2 hM2 => peekWhileKindFlagLoop_term expectK body fuel _ s2 hw2 (by omega)
        fun s3 hw3 hM3 => hbody s3 hw3 (by omega))
      (fun _ s2 hw2 => ta_pure _ s2 hw2)

abbrev GAny : Tok → Prop := fun _ => True

theorem gc_peek' {β : Type} {G : Tok → Prop} {f : Option Kind → PI β} {s : PState} (hw : W s)
    (h : ∀ k s1, W s1 → Mm s1 ≤ Mm s → k = s1.current.map (·.kind) →
      (s.current.isSome = true → s1.current = s.current) → Term (f k) s1 (GC G s1)) :
    Term (peek >>= f) s (GC G s) :=
  gc_look (Q1 := fun k c _ => k = c.map (·.kind) ∧ (s.current.isSome = true → c = s.current))
    ((peek_run' s hw).term.weaken (fun _ _ _ hq => ⟨⟨hq.1, fun hs => (hq.2.2 hs).1⟩, hq.2.2⟩))
    (fun k s1 hw1 hM1 hq => h k s1 hw1 hM1 hq.1 hq.2)

/-- `peek_n` and `peek_data_n` only look: the token stream is untouched -/
theorem gc_lookN {β γ : Type} {G : Tok → Prop} (n : Nat) {g : Option Tok → γ} {f : γ → PI β} {s : PState} (hw : W s)
    (h : ∀ k s1, W s1 → Mm s1 ≤ Mm s → s1.current = s.current → Term (f k) s1 (GC G s1)) :
    Term ((peekTokenN n >>= fun t => pure (g t)) >>= f) s (GC G s) :=
  gc_look (Q1 := fun _ c _ => c = s.current)
    ((term_bind (peekTokenN_run n s hw).term fun _ s1 hw1 _ _ hq1 => term_pure _ s1 hw1 hq1).weaken
      fun _ _ _ hq => ⟨hq.1, fun _ => hq⟩)
    (fun k s1 hw1 hM1 hc1 => h k s1 hw1 hM1 hc1)

theorem gc_fragmentSpread (n : Nat) (s : PState) (hw : W s) (hb : 4 * Mm s + 4 ≤ n) :
    Term (fragmentSpread n) s (GC GAny s) := by
  unfold fragmentSpread
  refine gc_withNode _ _ s hw fun s2 hw2 hM2 => gc_first (gc_bump _ s2 hw2) fun _ => ?_
  exact tb_bind tb_peek fun _ => tb_alt tb_fragmentName tb_err fun _ =>
    tb_bind tb_peek fun _ => tb_ite (tb_directives (by omega)) (tb_pure _)

theorem gc_alias (s : PState) (hw : W s) : Term alias s (GC (fun t => t.kind = .name) s) :=
  gc_withNode _ _ s hw fun s2 hw2 _ => gc_first (gc_name s2 hw2) fun _ => tb_bump

def FlagPost (kind : Kind) (s : PState) : Bool × Bool → Option Tok → LexSt → Prop :=
  fun r c l => r.1 = true → ∀ t, s.current = some t → t.kind = kind → StrictT s c l

theorem flag_of_gc {G : Tok → Prop} {kind : Kind} {m : PI Unit} {s : PState} {r : Bool × Bool}
    (h : Term m s (GC G s)) (hg : ∀ t, t.kind = kind → G t) :
    Term (m >>= fun _ => pure r) s (FlagPost kind s) :=
  (gc_first h fun _ => tb_pure r).weaken (fun _ c l hq _ t ht hk => hq t ht (hg t hk))

theorem flag_false {kind : Kind} {s : PState} (hw : W s) (b : Bool) :
    Term (pure (false, b) : PI (Bool × Bool)) s (FlagPost kind s) :=
  term_pure _ s hw (fun h => by simp at h)

structure SelGoal (n : Nat) : Prop where
  ss : ∀ s, W s → 4 * Mm s + 2 ≤ n → Term (selectionSet n) s (GC (fun t => t.kind = .lCurly) s)
  sel : ∀ s, W s → 4 * Mm s + 5 ≤ n → TA (selection n) s
  field : ∀ s, W s → 4 * Mm s + 4 ≤ n → (∃ t, s.current = some t ∧ t.kind = .name) →
    Term (field n) s (GC (fun t => t.kind = .name) s)
  inl : ∀ s, W s → 4 * Mm s + 4 ≤ n → (∃ t, s.current = some t ∧ GAny t) → Term (inlineFragment n) s (GC GAny s)

theorem sel_ss (n : Nat) (ih : SelGoal n) :
    ∀ s, W s → 4 * Mm s + 2 ≤ n + 1 → Term (selectionSet (n + 1)) s (GC (fun t => t.kind = .lCurly) s) := by
  intro s hw hb
  unfold selectionSet
  refine gc_peek hw fun k s1 hw1 hM1 hk => ?_
  split
  · rename_i hcond
    have hcur : ∃ t, s1.current = some t ∧ t.kind = .lCurly := cur_of_kind hk (by simpa using hcond)
    have hpos := mm_pos_of_current (s := s1) (by obtain ⟨t, ht, _⟩ := hcur; exact ⟨t, ht⟩)
    refine gc_withNode_or _ _ s1 hw1 hcur fun s2 hw2 hM2 hor => ?_
    refine gc_first_or (M0 := Mm s1) (B := Mm s1 - 1) hor hM2 (by omega) (gc_bump _ s2 hw2) fun _ => ?_
    refine tb_bind (tb_withRec (tb_bind tb_limitErr fun _ => tb_pure _) ?_) fun _ => tb_ite tb_expect (tb_pure _)
    exact tb_bind (fun s4 hw4 hM4 => ih.sel s4 hw4 (by omega)) fun _ => tb_pure _
  · exact term_pure _ s1 hw1 (fun t ht hg => by
      exfalso
      rename_i hcond
      apply hcond
      rw [hk, ht]; simp [hg])

theorem sel_sel (n : Nat) (ih : SelGoal n) : ∀ s, W s → 4 * Mm s + 5 ≤ n + 1 → TA (selection (n + 1)) s := by
  intro s hw hb
  unfold selection
  apply term_bind (srcLen_run s hw).term
  intro len s1 hw1 hm1 hk1 hq1
  obtain ⟨rfl, hc1, hl1⟩ := hq1
  have hM1 : Mm s1 = Mm s := Mm_congr hc1 hl1
  refine ta_bind ?_ ?_
  · refine peekWhileFlagLoop_term _ _ _ s1 hw1 (by have := Mm_le s; omega) ?_
    intro kind s2 hw2 hM2 hcur2
    obtain ⟨t2, ht2, hkind2⟩ := hcur2
    split
    · -- `...`
      refine (term_bind (Q := FlagPost kind s2) (peekTokenN_run 2 s2 hw2).term ?_)
      intro next s3 hw3 hm3 hk3 hq3
      have tr : ∀ {c : Option Tok} {l : LexSt} {r : Bool × Bool}, FlagPost kind s3 r c l → FlagPost kind s2 r c l := by
        intro c l r h hr t ht hk
        exact strictT_of_congr hq3.1 hq3.2 (h hr t (by rw [hq3.1]; exact ht) hk)
      have hM3 : Mm s3 = Mm s2 := Mm_congr hq3.1 hq3.2
      cases next with
      | none =>
        simp only []
        refine (term_bind (Q := FlagPost kind s2) (errAndPop_run s3 hw3).term ?_)
        intro _ s4 hw4 _ _ _
        exact term_pure _ s4 hw4 (fun h => by simp at h)
      | some nx =>
        simp only []
        have hfs := gc_fragmentSpread n s3 hw3 (by omega)
        refine Term.weaken ?_ (fun r c l h => tr h)
        split
        · exact flag_of_gc hfs (fun _ _ => trivial)
        · split
          · exact flag_of_gc (ih.inl s3 hw3 (by omega) ⟨t2, by rw [hq3.1, ht2], trivial⟩) (fun _ _ => trivial)
          · refine Term.weaken (Q := GC GAny s3) ?_ (fun r c l h _ t ht _ => h t ht trivial)
            refine gc_look (Q1 := fun _ _ _ => True) ((err_run s3 hw3).term.weaken (fun _ _ _ h => ⟨trivial, h.2⟩)) ?_
            intro _ s4 hw4 _ _
            exact gc_first (gc_bump _ s4 hw4) fun _ => tb_pure _
    · split
      · exact flag_false hw2 _
      · split
        · rename_i hname
          have hkn : kind = Kind.name := by simpa using hname
          exact flag_of_gc (ih.field s2 hw2 (by omega) ⟨t2, ht2, by rw [hkind2, hkn]⟩) (fun t ht => by rw [ht, hkn])
        · exact flag_false hw2 _
  · intro has s2 hw2 hM2
    split
    · exact ta_of (err_run s2 hw2).term
    · exact ta_pure _ s2 hw2

theorem sel_field (n : Nat) (ih : SelGoal n) : ∀ s, W s → 4 * Mm s + 4 ≤ n + 1 →
    (∃ t, s.current = some t ∧ t.kind = .name) → Term (field (n + 1)) s (GC (fun t => t.kind = .name) s) := by
  intro s hw hb hcur
  have hpos := mm_pos_of_current (s := s) (by obtain ⟨t, ht, _⟩ := hcur; exact ⟨t, ht⟩)
  -- what follows the name runs after a consumed token
  have hrest : TB (Mm s - 1) (do
      if (← peek) == some .lParen then arguments n false
      if (← peek) == some .at then directives n false
      if (← peek) == some .lCurly then selectionSet n) :=
    tb_when tb_peek (tb_arguments (by omega)) fun _ => tb_when tb_peek (tb_directives (by omega)) fun _ =>
      tb_bind tb_peek fun _ => tb_ite (fun s1 hw1 hM1 => ta_of (ih.ss s1 hw1 (by omega))) (tb_pure _)
  unfold field
  refine gc_withNode_or _ _ s hw hcur fun s2 hw2 hM2 hor => ?_
  refine gc_peek' hw2 fun k s3 hw3 hM3 hk hkept => ?_
  refine term_ite (fun hcond => ?_) (fun hcond => ?_)
  · have hcur3 : ∃ t, s3.current = some t ∧ t.kind = .name := cur_of_kind hk (by simpa using hcond)
    refine gc_lookN 2 hw3 fun k2 s4 hw4 hM4 hc4 => ?_
    have hcur4 : ∃ t, s4.current = some t ∧ t.kind = .name := by rw [hc4]; exact hcur3
    refine term_ite (fun _ => ?_) (fun _ => ?_)
    · exact gc_first_or (M0 := Mm s) (Or.inl hcur4) (by omega) (by omega) (gc_alias s4 hw4) fun _ =>
        tb_bind tb_name fun _ => hrest
    · exact gc_first_or (M0 := Mm s) (Or.inl hcur4) (by omega) (by omega) (gc_name s4 hw4) fun _ => hrest
  · -- the token is not a Name any more: it was consumed before (so fewer tokens are left)
    have hlt : Mm s2 < Mm s := by
      rcases hor with ⟨t, ht, hkn⟩ | h
      · exfalso
        apply hcond
        have := hkept (by rw [ht]; rfl)
        rw [hk, this, ht]; simp [hkn]
      · exact h
    refine Term.weaken (Q := Any) ?_ (fun _ c l _ t ht hkn => by
      exfalso; apply hcond; rw [hk, ht]; simp [hkn])
    exact tb_bind tb_err (fun _ => hrest) s3 hw3 (by omega)

theorem sel_inl (n : Nat) (ih : SelGoal n) : ∀ s, W s → 4 * Mm s + 4 ≤ n + 1 →
    (∃ t, s.current = some t ∧ GAny t) → Term (inlineFragment (n + 1)) s (GC GAny s) := by
  intro s hw hb hcur
  have hpos := mm_pos_of_current (s := s) (by obtain ⟨t, ht, _⟩ := hcur; exact ⟨t, ht⟩)
  unfold inlineFragment
  refine gc_withNode_or _ _ s hw hcur fun s2 hw2 hM2 hor => ?_
  refine gc_first_or (M0 := Mm s) (B := Mm s - 1) hor hM2 (by omega) (gc_bump _ s2 hw2) fun _ => ?_
  exact tb_when tb_peek tb_typeCondition fun _ => tb_when tb_peek (tb_directives (by omega)) fun _ =>
    tb_bind tb_peek fun _ => tb_ite (fun s1 hw1 hM1 => ta_of (ih.ss s1 hw1 (by omega))) tb_err

theorem sel_family : ∀ n, SelGoal n
  | 0 => ⟨fun s _ h => by omega, fun s _ h => by omega, fun s _ h _ => by omega, fun s _ h _ => by omega⟩
  | n + 1 => ⟨sel_ss n (sel_family n), sel_sel n (sel_family n), sel_field n (sel_family n), sel_inl n (sel_family n)⟩

theorem tb_selectionSet {B n : Nat} (hb : 4 * B + 2 ≤ n) : TB B (selectionSet n) :=
  fun s hw hB => ta_of ((sel_family n).ss s hw (by omega))

theorem tb_fieldSet {B n : Nat} (hb : 4 * B + 5 ≤ n) : TB B (fieldSet n) :=
  tb_bind tb_peek fun _ => tb_ite (tb_selectionSet (by omega))
    (tb_withNode (tb_withRec tb_limitErr fun s hw hB => (sel_family n).sel s hw (by omega)))

theorem parse_selection_set_terminates (tl : Option Nat) (rl : Nat) (src : Str) (w : Abort) :
    (parse .selectionSet tl rl src).outcome ≠ .abort w := by
  intro h
  obtain ⟨s0, hc, hl, habort⟩ := runEntry_abort .selectionSet (fuelFor src) (initState src tl rl) w h
  simp only [Entry.grammar] at habort
  have hw0 : W s0 := W_congr hc hl (init_W src tl rl)
  have hM : Mm s0 = src.length + 1 := by rw [Mm_congr hc hl, init_Mm]
  have ht : TA (fieldSet (fuelFor src) >>= fun _ => expectEndOfInput) s0 := by
    refine ta_bind (tb_fieldSet (by unfold fuelFor; omega) s0 hw0 (Nat.le_refl _)) ?_
    intro _ s1 hw1 _
    exact expectEndOfInput_term s1 hw1
  exact ht.1 w habort

end Apollo.Parse
