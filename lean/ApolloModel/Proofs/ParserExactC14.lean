import ApolloModel.Proofs.ParserExactC12
import ApolloModel.Proofs.ParserComplete15
/-
C05 / C07 (completeness), exact budget: executable definitions through the document dispatch.
-/
set_option linter.unusedSimpArgs false
namespace Apollo.Parse.Exact
open Apollo.Rowan hiding Str
open Apollo.Lex hiding Str

/-! ### `select_definition` on the keywords of executable definitions -/

def LExecDef (b : Nat) (x : List Ast.Tok) : Prop := LOperation b x ∨ LFragment b x

/-- **`executable definition` is complete**: whichever definition parser the document dispatch selects -/
theorem dispatch_comp (n : Nat) (sP s2 : PState) (t : Tok) (tl1 : List Tok) (x : List Ast.Tok) (q1 : Tok) (r1 : List Tok)
    (w : TW sP) (hcur : sP.current = some t) (hcq : t.kind = .lCurly → t.data = ['{'])
    (hl : LExecDef (sP.recLimit - sP.recCur) x) (hs : Spells (t :: tl1) x) (ht : Toks sP = (t :: tl1) ++ q1 :: r1) (hq : Sigf q1)
    (h : (documentDispatch n t.kind).run sP = .ok () s2) : Eat sP s2 (t :: tl1) ∧ Toks s2 = q1 :: r1 := by
  have viaData : ∀ (m : PI Unit) (Lx : Nat → List Ast.Tok → Prop), selectDefinition n t.data = m → (t.kind = .name ∨ t.kind = .lCurly) →
      Cmp (fun _ => True) m Lx (fun _ => True) (fun _ => True) → Lx (sP.recLimit - sP.recCur) x → Eat sP s2 (t :: tl1) ∧ Toks s2 = q1 :: r1 := by
    intro m Lx hm hk hc hlx
    unfold documentDispatch at h
    have hk1 : (t.kind == Kind.stringValue) = false := by rcases hk with h0 | h0 <;> rw [h0] <;> rfl
    have hk2 : (t.kind == Kind.name || t.kind == Kind.lCurly) = true := by rcases hk with h0 | h0 <;> rw [h0] <;> rfl
    simp only [hk1, hk2, Bool.false_eq_true, if_false, if_true] at h
    obtain ⟨d, sQ, hq2, h3⟩ := bind_dec peekData _ sP s2 () h
    obtain ⟨hsQ, hd⟩ := peekData_cur sP sQ d t hcur hq2
    subst hsQ hd
    simp only [] at h3
    rw [hm] at h3
    obtain ⟨e, t2, _⟩ := hc _ s2 () (t :: tl1) x q1 r1 w h3 hlx hs ht hq trivial trivial
    exact ⟨e, t2⟩
  rcases hl with (hl | hl) | hl
  · -- full operation
    obtain ⟨ty, nm, vs, ds, ss, rfl, hrest⟩ := hl
    obtain ⟨x', e⟩ := tOperation_head ty nm vs ds ss
    have hs' := hs
    rw [e] at hs'
    obtain ⟨t', tl', e', hta⟩ := spells_head hs'
    injection e' with e1 _
    subst e1
    have hd : t.data = ty.name.toList := data_of_astOfV_name hta
    exact viaData (operationDefinition n) LOperation (by rw [hd]; exact selectDefinition_opType n ty) (Or.inl (kind_of_astOfV hta))
      (operationDefinition_complete n) (Or.inl ⟨ty, nm, vs, ds, ss, rfl, hrest⟩)
  · -- shorthand
    obtain ⟨x', e⟩ := lset_head hl
    have hs' := hs
    rw [e] at hs'
    obtain ⟨t', tl', e', hta⟩ := spells_head hs'
    injection e' with e1 _
    subst e1
    have hk : t.kind = .lCurly := kind_of_astOfV hta
    exact viaData (operationDefinition n) LOperation (by rw [hcq hk]; exact selectDefinition_curly n) (Or.inr hk)
      (operationDefinition_complete n) (Or.inr hl)
  · obtain ⟨nm, tc, ds, ss, rfl, hrest⟩ := hl
    have hs' := hs
    simp only [Ast.tDefinition] at hs'
    obtain ⟨t', tl', e', hta⟩ := spells_head hs'
    injection e' with e1 _
    subst e1
    have hd : t.data = "fragment".toList := data_of_astOfV_name hta
    exact viaData (fragmentDefinition n) LFragment (by rw [hd]; exact selectDefinition_fragment n) (Or.inl (kind_of_astOfV hta))
      (fragmentDefinition_complete n) ⟨nm, tc, ds, ss, rfl, hrest⟩

/-! ### the document loop -/

theorem lexecDef_head {b : Nat} {x : List Ast.Tok} (h : LExecDef b x) :
    ∃ a x', x = a :: x' ∧ (kindOfA a = .name ∨ kindOfA a = .lCurly) := by
  rcases h with (h | h) | h
  · obtain ⟨ty, nm, vs, ds, ss, rfl, _⟩ := h
    obtain ⟨x', e⟩ := tOperation_head ty nm vs ds ss
    exact ⟨_, x', e, Or.inl rfl⟩
  · obtain ⟨x', e⟩ := lset_head h
    exact ⟨_, x', e, Or.inr rfl⟩
  · obtain ⟨nm, tc, ds, ss, rfl, _⟩ := h
    exact ⟨.name "fragment".toList, _, by simp only [Ast.tDefinition]; rfl, Or.inl rfl⟩

theorem eat_flagged (s : PState) (w : TW s) : Eat s (flagged s) [] := Parse.eat_flagged s w

end Apollo.Parse.Exact
