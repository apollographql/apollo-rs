import ApolloModel.Proofs.ParserExactS7
import ApolloModel.Proofs.ParserType7
import ApolloModel.Proofs.ParserSel9
/-
EXACT SOUNDNESS (namespace Apollo.Parse.Exact): variable definitions, state-indexed — an error-free run of
`variable_definitions` consumes `( $name : Type DefaultValue? Directives? … )` where every type, default value and
directive argument is within the recursion budget of the START state (`Exact.LVarDefs (bud s)`).
-/
set_option linter.unusedSimpArgs false
namespace Apollo.Parse.Exact
open Apollo.Rowan hiding Str
open Apollo.Lex hiding Str

/-- `err` where a token is left records an error -/
theorem err_dooms (s s' : PState) (w : TW s) (he : EofEnd s) (h : err.run s = .ok () s') : Doomed s' :=
  Classical.byContradiction fun hnd =>
    hnd ((err_adv s s' w h).2 (eofEnd_nonempty s he (fun d => hnd ((good_err s () s' w h).doom d))))

/-! ### `Cons` with the "stopped at the end of input" alternative -/

@[reducible] def ConsE (s s' : PState) (P : List Ast.Tok → Prop) : Prop :=
  ∃ cs, Toks s = cs ++ Toks s' ∧ NoEof cs ∧ EofEnd s' ∧ ((∃ x, TokIs (sig cs) x ∧ P x) ∨ AtEof s')

theorem _root_.Apollo.Parse.Cons.toE {s s' : PState} {P : List Ast.Tok → Prop} (h : Cons s s' P) : ConsE s s' P := by
  obtain ⟨cs, x, a, b, c, d, e⟩ := h
  exact ⟨cs, a, b, c, Or.inl ⟨x, d, e⟩⟩

/-- what an acceptance judgement says of one run, its relation read at the budget of the start state and the queue left -/
theorem _root_.Apollo.Parse.AccQ.consE {α : Type} {H : List Tok → Prop} {m : PI α} {R : Nat → List Tok → α → List Ast.Tok → Prop}
    (h : AccQ AtEof H m R) {s s' : PState} {a : α} (w : TW s) (he : EofEnd s) (hq : H (Toks s)) (hr : m.run s = .ok a s')
    (hnd : ¬ Doomed s') : ConsE s s' (R (bud s) (Toks s') a) :=
  h.2 s a s' w he hq hr hnd

theorem _root_.Apollo.Parse.AccQ.cons {α : Type} {H : List Tok → Prop} {m : PI α} {R : Nat → List Tok → α → List Ast.Tok → Prop}
    (h : AccQ (fun _ => False) H m R) {s s' : PState} {a : α} (w : TW s) (he : EofEnd s) (hq : H (Toks s)) (hr : m.run s = .ok a s')
    (hnd : ¬ Doomed s') : Cons s s' (R (bud s) (Toks s') a) := by
  obtain ⟨cs, a1, a2, a3, a4⟩ := h.2 s a s' w he hq hr hnd
  rcases a4 with ⟨x, hx, hr'⟩ | e
  · exact ⟨cs, x, a1, a2, a3, hx, hr'⟩
  · exact e.elim

theorem _root_.Apollo.Parse.Cons.seqE {s s1 s2 : PState} {P Q : List Ast.Tok → Prop} (h1 : Cons s s1 P) (h2 : ConsE s1 s2 Q) :
    ConsE s s2 (fun z => ∃ x y, z = x ++ y ∧ P x ∧ Q y) := by
  obtain ⟨c1, x, t1, n1, _, k1, p1⟩ := h1
  obtain ⟨c2, t2, n2, e2, r2⟩ := h2
  refine ⟨c1 ++ c2, by rw [t1, t2, List.append_assoc], noEof_append n1 n2, e2, ?_⟩
  rcases r2 with ⟨y, k2, p2⟩ | ha
  · exact Or.inl ⟨x ++ y, by rw [sig_append]; exact k1.append k2, x, y, rfl, p1, p2⟩
  · exact Or.inr ha

theorem ConsE.seq {s s1 s2 : PState} {P Q : List Ast.Tok → Prop} (h1 : ConsE s s1 P) (hnd : ¬ Doomed s1) (h2 : Cons s1 s2 Q) :
    ConsE s s2 (fun z => ∃ x y, z = x ++ y ∧ P x ∧ Q y) := by
  obtain ⟨c1, t1, n1, e1, r1⟩ := h1
  obtain ⟨c2, y, t2, n2, e2, k2, p2⟩ := h2
  refine ⟨c1 ++ c2, by rw [t1, t2, List.append_assoc], noEof_append n1 n2, e2, ?_⟩
  rcases r1 with ⟨x, k1, p1⟩ | ha
  · exact Or.inl ⟨x ++ y, by rw [sig_append]; exact k1.append k2, x, y, rfl, p1, p2⟩
  · exact Or.inr (atEof_rest s1 s2 c2 e1 hnd ha t2 n2)

theorem ConsE.weaken {s s' : PState} {P Q : List Ast.Tok → Prop} (h : ConsE s s' P) (hpq : ∀ x, P x → Q x) : ConsE s s' Q := by
  obtain ⟨c, a, b, d, r⟩ := h
  refine ⟨c, a, b, d, ?_⟩
  rcases r with ⟨x, e, f⟩ | ha
  · exact Or.inl ⟨x, e, hpq x f⟩
  · exact Or.inr ha

theorem atEof_toks {s s' : PState} (h : Toks s' = Toks s) (ha : AtEof s) : AtEof s' := by
  obtain ⟨e, hh, hk⟩ := ha
  exact ⟨e, by rw [h]; exact hh, hk⟩

theorem ConsE.transport {s s' s0 s1 : PState} {P : List Ast.Tok → Prop} (h : ConsE s s' P) (h0 : Toks s0 = Toks s)
    (h1 : Toks s1 = Toks s') (he : EofEnd s1) : ConsE s0 s1 P := by
  obtain ⟨c, a, b, _, r⟩ := h
  refine ⟨c, by rw [h0, h1]; exact a, b, he, ?_⟩
  rcases r with r | ha
  · exact Or.inl r
  · exact Or.inr (atEof_toks h1 ha)

/-! ### `ty` -/

/-- **`ty.rs::ty` is sound with the budget**: the consumed tokens are a type whose list nesting fits the budget -/
theorem ty_sound (n : Nat) (s s' : PState) (w : TW s) (he : EofEnd s) (h : (ty n).run s = .ok () s') (hnd : ¬ Doomed s') :
    Cons s s' (fun x => ∃ t, x = Ast.tTy t ∧ tyDepth t ≤ bud s) := by
  have ok := ty_ok n s s' w he h hnd
  obtain ⟨c, t, hc, hty, hno, hd⟩ := ok.ex
  exact ⟨c, Ast.tTy t, hc, hno, ok.eof, isTy_tokIs _ _ hty, t, rfl, hd⟩

/-! ### the pieces of a variable definition -/

/-- `$ Name` -/
theorem variableNode_sound (s s' : PState) (t : Tok) (rest : List Tok) (w : TW s) (he : EofEnd s)
    (ht : Toks s = t :: rest) (hk : t.kind = .dollar) (h : variableNode.run s = .ok () s') (hnd : ¬ Doomed s') :
    Cons s s' (fun x => ∃ nm, x = [.p .dollar, .name nm]) := by
  have hni : isIgnoredKind t.kind = false := by rw [hk]; rfl
  unfold variableNode at h
  obtain ⟨s1, s2, e1, h1, o2, ht1, he1, hnd2⟩ := withNode_entered "VARIABLE" _ s s' () t rest w he ht hni h hnd
  obtain ⟨_, s3, h3, h4⟩ := bind_dec (bump "DOLLAR") _ s1 s2 () h1
  obtain ⟨ign, e3, hall, _⟩ := bump_spec "DOLLAR" s1 s3 e1.w t rest ht1 h3
  have c0 : Cons s1 s3 (fun x => x = [.p .dollar]) :=
    Cons.ofEat e3 he1 (noEof_cons (by rw [hk]; decide) hall) (tokIs_punct t ign .dollar hni (by simp [astOfV, hk]) hall)
  have he3 := c0.eofEnd
  have hnd3 : ¬ Doomed s3 := fun d => hnd2 ((good_name s3 () s2 e3.w h4).doom d)
  obtain ⟨t2, rest2, ign2, hq, hk2, en, hall2⟩ := name_spec s3 s2 e3.w (eofEnd_nonempty s3 he3 hnd3) h4 hnd2
  have c1 : Cons s3 s2 (IsNameTok t2) := cons_of_name en he3 hk2 hall2
  have c := (c0.seq c1).node e1 o2
  exact c.weaken (by rintro z ⟨x, y, rfl, rfl, rfl⟩; exact ⟨t2.data, rfl⟩)

/-- `if p.peek() == Some(T![@]) { directives(Constness::Const) }` -/
theorem optDirsEnd_sound (n : Nat) (s s' : PState) (w : TW s) (he : EofEnd s)
    (h : (optDirsEnd n).run s = .ok () s') (hnd : ¬ Doomed s') :
    Cons s s' (fun x => ∃ ds, x = Ast.tDirectives ds ∧ dirsFit true (bud s) ds) :=
  (accQ_optDirsEnd (H := fun _ => True) n).cons w he trivial h hnd

theorem good_optDirsEnd (n : Nat) : Good (optDirsEnd n) :=
  good_ifPeek .at _ (good_directives n true)

theorem good_defaultValue (n : Nat) : Good (defaultValue n) :=
  good_withNode _ _ (good_bind _ _ (good_bump _) (fun _ => good_value n true false))

theorem good_ivdAfterTy (n : Nat) : Good (ivdAfterTy n) :=
  good_bind _ _ good_peek (fun _ => good_ite _ _ _ (good_bind _ _ (good_defaultValue n) (fun _ => good_optDirsEnd n)) (good_optDirsEnd n))

theorem good_ivdType (n : Nat) : Good (ivdType n) :=
  good_bind _ _ good_peek (fun _ => good_ite _ _ _ (good_bind _ _ (good_ty n) (fun _ => good_ivdAfterTy n)) good_err)

theorem good_ivdColon (n : Nat) : Good (ivdColon n) :=
  good_bind _ _ good_peek (fun _ => good_ite _ _ _ (good_bind _ _ (good_bump _) (fun _ => good_ivdType n)) good_err)

theorem good_variableDefinition (n : Nat) : Good (variableDefinition n) := by
  rw [variableDefinition_eq]
  exact good_withNode _ _ (good_bind _ _ good_variableNode (fun _ => good_ivdColon n))

def QVar (B : Nat) (x : List Ast.Tok) : Prop := ∃ v : Ast.VarDef, x = Ast.tVarDef v ∧ varFit B v

/-- `Type DefaultValue? Directives?` behind the colon -/
theorem ivdType_sound (n : Nat) (s s' : PState) (w : TW s) (he : EofEnd s)
    (h : (ivdType n).run s = .ok () s') (hnd : ¬ Doomed s') :
    ConsE s s' (fun x => ∃ t d ds, x = Ast.tTy t ++ Ast.tDefault d ++ Ast.tDirectives ds ∧ tyDepth t ≤ bud s ∧
      (∀ v, d = some v → valueOk true v = true ∧ vdepth v ≤ bud s) ∧ dirsFit true (bud s) ds) :=
  (accQ_ivdType n).consE w he trivial h hnd

/-- **one variable definition** `$ Name : Type DefaultValue? Directives?`, every part within the budget -/
theorem variableDefinition_sound (n : Nat) (B : Nat) : ItemSpecB B AtEof .dollar (variableDefinition n) (QVar B) := by
  intro s s' t rest w he hB ht hk h hnd
  have hni : isIgnoredKind t.kind = false := by rw [hk]; rfl
  rw [variableDefinition_eq] at h
  obtain ⟨s1, s2, e1, h1, o2, ht1, he1, hnd2⟩ := withNode_entered "VARIABLE_DEFINITION" _ s s' () t rest w he ht hni h hnd
  have h0 : Toks s = Toks s1 := by simpa using e1.toks
  obtain ⟨_, s3, h3, h4⟩ := bind_dec variableNode _ s1 s2 () h1
  have a3 := good_variableNode s1 () s3 e1.w h3
  have hnd3 : ¬ Doomed s3 := fun d => hnd2 ((good_ivdColon n s3 () s2 a3.w h4).doom d)
  have c0 := variableNode_sound s1 s3 t rest e1.w he1 ht1 hk h3 hnd3
  have he3 := c0.eofEnd
  unfold ivdColon at h4
  obtain ⟨sP, o, p, hor⟩ := ifPeek_dec .colon _ _ s3 s2 () a3.w h4
  have heP := p.eofEnd he3
  rcases hor with ⟨hkc, h5⟩ | ⟨_, h5⟩
  · obtain ⟨tc, rfl, hkc2⟩ := peeked_kind hkc
    have hnic : isIgnoredKind tc.kind = false := by rw [hkc2]; rfl
    obtain ⟨_, s5, h6, h7⟩ := bind_dec (bump "COLON") _ sP s2 () h5
    obtain ⟨ign2, ec, hall2, _⟩ := bump_spec "COLON" sP s5 p.w tc _ p.head_cons h6
    have c1 : Cons sP s5 (fun x => x = [.p .colon]) :=
      Cons.ofEat ec heP (noEof_cons (by rw [hkc2]; decide) hall2) (tokIs_punct tc ign2 .colon hnic (by simp [astOfV, hkc2]) hall2)
    have c1' : Cons s3 s5 _ := c1.transport p.toks.symm rfl c1.eofEnd
    have c2 := ivdType_sound n s5 s2 ec.w c1.eofEnd h7 hnd2
    have he2 : EofEnd s2 := by obtain ⟨_, _, _, e, _⟩ := c2; exact e
    have c := ((c0.seq c1').seqE c2).transport h0 o2.toks (eofEnd_same _ _ he2 o2.current o2.lx o2.errors)
    have hb5 : bud s5 = B := by rw [bud_eat ec, bud_peek p, bud_adv a3, bud_eat e1, hB]
    exact c.weaken (by
      rintro z ⟨xy, y, rfl, ⟨x1, x2, rfl, ⟨nm, rfl⟩, rfl⟩, t, d, ds, rfl, htd, hd, hds⟩
      rw [hb5] at htd hd hds
      exact ⟨⟨nm, t, d, ds⟩, by simp [Ast.tVarDef, List.append_assoc], htd, hd, hds⟩)
  · exfalso
    exact hnd2 (err_dooms sP s2 p.w heP h5)

end Apollo.Parse.Exact
