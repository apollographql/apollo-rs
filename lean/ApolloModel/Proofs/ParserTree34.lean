import ApolloModel.Proofs.ParserTree33
import ApolloModel.Proofs.ParserTreeInj1
/-
C08 (pipeline): printed documents through the real pipeline — the parser's decomposition of a strict document of a
completeness language is the given one (ParserTree33), the tokens of each type-system item determine its definition
(`loose_tokens_determine_definition`), hence `Document::from_cst` returns the document.
-/
set_option linter.unusedSimpArgs false
set_option linter.unusedVariables false

namespace Apollo.Parse
open Apollo.Rowan hiding Str
open Apollo.Lex hiding Str
open Apollo.FromCst (All2 looseConv)

theorem execFit_executable {rl : Nat} {d : Ast.Definition} (h : execFit rl d) : isExecutable d = true := by
  cases d <;> first | rfl | exact absurd h (by simp [execFit])

theorem tokIs_inj {ts : List Tok} {x y : List Ast.Tok} (h1 : TokIs ts x) (h2 : TokIs ts y) : x = y := by
  unfold TokIs at h1 h2
  exact map_some_inj (h1.symm.trans h2)

theorem aligned_conv : ∀ (its : List DocItem) (trs : List (List Tok × List Elem)) (items0 : List Ast.Item),
    strictItems its = some items0 → (∀ a ∈ items0, Ast.wfDefinition a.2 = true) →
    (∀ oe d, DocItem.exec oe d ∈ its → isExecutable d = true) →
    Aligned (fun cs e => ExecItemR cs e ∨ TsAny cs e) trs (its.map DocItem.toks) →
    ∃ eds, (trs.map (·.2)).flatten = eds ∧ All2 (fun e (a : Ast.Item) => DefConv a.2 e) eds items0
  | [], trs, items0, hs, _, _, hal => by
    simp only [strictItems, Option.some.injEq] at hs
    subst hs
    cases hal
    exact ⟨[], rfl, All2.nil⟩
  | i :: r, trs, items0, hs, hw, hexec, hal => by
    simp only [strictItems] at hs
    cases hi : i.strict with
    | none => rw [hi] at hs; simp at hs
    | some a =>
      cases hr : strictItems r with
      | none => rw [hi, hr] at hs; simp at hs
      | some b =>
        rw [hi, hr] at hs
        simp only [Option.some.injEq] at hs
        subst hs
        simp only [List.map_cons] at hal
        cases hal with
        | @cons tr x trs' xs hhead htail =>
          obtain ⟨eds, g1, g2⟩ := aligned_conv r trs' b hr (fun y hy => hw y (List.mem_cons_of_mem _ hy))
            (fun oe d hj => hexec oe d (List.mem_cons_of_mem _ hj)) htail
          have hwa : Ast.wfDefinition a.2 = true := hw a List.mem_cons_self
          obtain ⟨hq, htok⟩ := hhead
          have key : ∃ ed, tr.2 = [ed] ∧ DefConv a.2 ed := by
            cases i with
            | exec oe d =>
              simp only [DocItem.strict, Option.some.injEq] at hi
              subst hi
              have hex : isExecutable d = true := hexec oe d List.mem_cons_self
              rcases hq with ⟨it, ed, h1, h2, h3, h4, h5, _⟩ | ⟨l', ed, h1, _, _, _⟩
              · have heq : Ast.tDefinition it.1 it.2 = Ast.tDefinition oe d := tokIs_inj h1 htok
                have p1 := Ast.closed_roundtrip it.1 it.2 (max (Ast.szDefinition it.2) (Ast.szDefinition d)) []
                  (exec_closed h5) h2 (Nat.le_max_left _ _)
                have p2 := Ast.closed_roundtrip oe d (max (Ast.szDefinition it.2) (Ast.szDefinition d)) []
                  (exec_closed hex) hwa (Nat.le_max_right _ _)
                rw [heq, p2] at p1
                simp only [Option.some.injEq, Prod.mk.injEq, and_true] at p1
                exact ⟨ed, h3, by rw [p1]; exact h4⟩
              · exfalso
                have heq : l'.toks = Ast.tDefinition oe d := tokIs_inj h1 htok
                have e1 := looseDef_tsStart l'
                have e2 := exec_head oe d [] hex
                rw [List.append_nil, ← heq, e1] at e2
                cases e2
            | loose l =>
              simp only [DocItem.strict, Option.map_eq_some_iff] at hi
              obtain ⟨d, hd, rfl⟩ := hi
              have hlt : l.toks = Ast.tDefinition false d := LooseDef.toks_strict l d hd
              rcases hq with ⟨it, ed, h1, h2, h3, h4, h5, _⟩ | ⟨l', ed, h1, h2, h3, h4⟩
              · exfalso
                have heq : Ast.tDefinition it.1 it.2 = l.toks := tokIs_inj h1 htok
                have e1 := looseDef_tsStart l
                have e2 := exec_head it.1 it.2 [] h5
                rw [List.append_nil, heq, e1] at e2
                cases e2
              · have heq : l'.toks = Ast.tDefinition false d := (tokIs_inj h1 htok).trans hlt
                have hconv := loose_tokens_determine_definition l' d h2 hwa heq
                obtain ⟨K, kcs, rfl, hk, _⟩ := FromCst.defTree_kind l' ed h4
                refine ⟨_, h3, ?_⟩
                rw [← hconv]
                exact ⟨by rw [FromCst.nodeP_node]; exact hk, fun m hm => FromCst.cDefinition_defTree m l' _ h4 hm⟩
          obtain ⟨ed, he, hc⟩ := key
          exact ⟨ed :: eds, by simp only [List.map_cons, List.flatten_cons, he, g1]; rfl, All2.cons hc g2⟩

/-- a strict document through the pipeline, given that some completeness calculus accepts it (`hdoc`): the parser's
    decomposition is the given one, and the tokens of each item determine its definition -/
theorem pipeline_strict_of_comp {I : Nat → List Ast.Tok → Tok → Prop} {D : Nat → List (List Ast.Tok) → Prop} (C : DocComp I D)
    (rl : Nat) (src : Str) (its : List DocItem) (items0 : List Ast.Item)
    (hstrict : strictItems its = some items0) (hwf : ∀ a ∈ items0, Ast.wfDefinition a.2 = true) (hne : its ≠ [])
    (hexec : ∀ oe d, DocItem.exec oe d ∈ its → isExecutable d = true) (hdoc : D rl (its.map DocItem.toks))
    (ts : List Tok) (e : Tok) (hclean : LexClean src) (hsig : sig (srcToks src) = ts ++ [e]) (he : e.kind = .eof)
    (hx : TokIs ts (Ast.itemsToks items0)) :
    ∃ root, (parse .document none rl src).outcome = .tree root ∧ (FromCst.fromCst root).1 = items0.map (·.2) := by
  have htoks := (strictItems_toks its items0 hstrict).1
  have hx' : TokIs ts (its.map DocItem.toks).flatten := by
    have : (its.map DocItem.toks).flatten = docToks its := rfl
    rw [this, htoks]; exact hx
  obtain ⟨root, hroot⟩ := parseDocument_tree none rl src
  refine ⟨root, hroot, ?_⟩
  obtain ⟨inner, trs, g1, g2, g3⟩ := parseDocument_cstC C (fun n => defTrs_of_ts n TsAny (tsTrs n)) rl src root hroot
    (its.map DocItem.toks) (by simpa using hne) hdoc ts e hclean hsig he hx'
  obtain ⟨eds, k1, k2⟩ := aligned_conv its trs items0 hstrict hwf hexec g3
  rw [g1]
  exact fromCst_document inner eds items0 (by rw [g2, k1]) k2

/-- **pipeline, strict documents of the completeness language, token level**: a source without lexer error whose
    significant tokens are the printer's tokens of the strict items `its` (well-formed, within the recursion limit, each
    definition allowed before the next) is accepted, and `Document::from_cst` on the tree returns exactly the definitions -/
theorem pipeline_strict_document (rl : Nat) (src : Str) (its : List DocItem) (items0 : List Ast.Item)
    (hstrict : strictItems its = some items0) (hwf : ∀ a ∈ items0, Ast.wfDefinition a.2 = true)
    (hne : its ≠ []) (hfit : ∀ i ∈ its, itemFit rl i) (hfol : DocFollowOk its)
    (ts : List Tok) (e : Tok) (hclean : LexClean src) (hsig : sig (srcToks src) = ts ++ [e]) (he : e.kind = .eof)
    (hx : TokIs ts (Ast.itemsToks items0)) :
    (parse .document none rl src).errors = [] ∧
    ∃ root, (parse .document none rl src).outcome = .tree root ∧ (FromCst.fromCst root).1 = items0.map (·.2) :=
  ⟨parseDocument_complete_items rl src its ts e hclean hsig he (by rw [(strictItems_toks its items0 hstrict).1]; exact hx) hne hfit hfol,
    pipeline_strict_of_comp docComp rl src its items0 hstrict hwf hne (fun _ _ h => execFit_executable (hfit _ h))
      (docOk_of_items rl its hfit hfol) ts e hclean hsig he hx⟩

end Apollo.Parse
