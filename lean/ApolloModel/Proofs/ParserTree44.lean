import ApolloModel.Proofs.ParserTree43
/-
C08 (pipeline): the leading-separator liberty.  An item of an accepted document all of whose root operation types are
named is within the exact budget of the run, leading separator or not; the AST `from_cst` returns is the strict reading
of the items without their leading separators.
-/
set_option linter.unusedSimpArgs false
set_option linter.unusedVariables false

namespace Apollo.Parse.Exact
open Apollo.Rowan hiding Str
open Apollo.Lex hiding Str
open Apollo.FromCst (All2 looseConv)

/-- **identification with a leading separator**: the item of the exact soundness calculus spelled by the same tokens as a
    loose definition of the tree calculus with all root names present has the same reading without the separator -/
theorem lead_item_fit (rl : Nat) (l : LooseDef) (hw : l.wf = true) (hn : l.named)
    (cs : List Tok) (h1 : TokIs cs l.toks) (i' : DocItem) (h2 : TokIs cs i'.toks) (hf : itemFitX rl i') : looseFitX rl l := by
  cases i' with
  | exec oe' d' =>
    exfalso
    have hf' : execFit rl d' := hf
    have heq : Ast.tDefinition oe' d' = l.toks := tokIs_inj h2 h1
    have e1 := looseDef_tsStart l
    have e2 := exec_head oe' d' [] (execFit_executable hf')
    rw [List.append_nil, heq, e1] at e2
    cases e2
  | loose l' =>
    have hf' : looseFitX rl l' := hf
    have hw' := looseFitX_wf rl l' hf'
    have heq : l'.toks = l.toks := tokIs_inj h2 h1
    have pA := loose_parse_named l hw hn (Ast.szDefinition (looseConv l) + Ast.szDefinition (looseConv l')) (by omega)
    have hn' : l'.named := by
      by_cases hn' : l'.named
      · exact hn'
      · exfalso
        have pB := loose_parse_nameless l' hw' hn' (Ast.szDefinition (looseConv l) + Ast.szDefinition (looseConv l')) (by omega)
        rw [heq, pA] at pB
        cases pB
    have pB := loose_parse_named l' hw' hn' (Ast.szDefinition (looseConv l) + Ast.szDefinition (looseConv l')) (by omega)
    rw [heq, pA] at pB
    have hconv : looseConv l = looseConv l' := by
      injection pB with pB
      injection pB
    have e1 := itemOfDef_of_strict l.unlead _ (named_unlead_strict l hn)
    have e2 := itemOfDef_of_strict l'.unlead _ (named_unlead_strict l' hn')
    rw [← hconv, e1] at e2
    have hu : l.unlead = l'.unlead := DocItem.loose.inj e2
    exact (looseFitX_unlead rl l).mp (by rw [hu]; exact (looseFitX_unlead rl l').mpr hf')

def _root_.Apollo.Parse.DocItem.unlead : DocItem → DocItem
  | .exec oe d => .exec oe d
  | .loose l => .loose l.unlead

def _root_.Apollo.Parse.DocItem.named : DocItem → Prop
  | .exec _ _ => True
  | .loose l => l.named

def _root_.Apollo.Parse.DocItem.flag : DocItem → Bool
  | .exec oe _ => oe
  | .loose _ => false

theorem docItem_fitN (rl : Nat) (cs : List Tok) (e : List Elem) (h : FitQ (fun cs e => ExecItemR cs e ∨ TsAny cs e) rl cs e) :
    ∃ (i : DocItem) (ed : Elem), TokIs cs i.toks ∧ i.wfB ∧ e = [ed] ∧ DefConv i.conv ed ∧ (i.named → itemFitX rl i) := by
  obtain ⟨hq, i', hi1, hi2⟩ := h
  rcases hq with ⟨it, ed, a, b, c, d, e', _⟩ | ⟨l, ed, a, b, c, d⟩
  · exact ⟨.exec it.1 it.2, ed, a, b, c, d, fun _ => exec_item_fit rl it b e' cs a i' hi1 hi2⟩
  · obtain ⟨K, kcs, rfl, hk, _⟩ := FromCst.defTree_kind l ed d
    exact ⟨.loose l, _, a, b, c, ⟨by rw [FromCst.nodeP_node]; exact hk, fun m hm => FromCst.cDefinition_defTree m l _ d hm⟩,
      fun hn => lead_item_fit rl l b hn cs a i' hi1 hi2⟩

theorem unlead_strict_each (i : DocItem) (hn : i.named) : i.unlead.strict = some (i.flag, i.conv) := by
  cases i with
  | exec oe d => rfl
  | loose l => simp [DocItem.unlead, DocItem.strict, named_unlead_strict l hn, DocItem.conv, DocItem.flag]

theorem strictItems_unlead : ∀ (its : List DocItem), (∀ i ∈ its, i.named) →
    ∃ items, strictItems (its.map DocItem.unlead) = some items ∧ items.map (·.2) = its.map DocItem.conv
  | [], _ => ⟨[], rfl, rfl⟩
  | i :: r, h => by
    obtain ⟨items, h1, h2⟩ := strictItems_unlead r (fun j hj => h j (List.mem_cons_of_mem _ hj))
    refine ⟨(i.flag, i.conv) :: items, ?_, ?_⟩
    · simp only [List.map_cons, strictItems, unlead_strict_each i (h i List.mem_cons_self), h1]
    · simp [h2]

/-- **every accepted document all of whose root operation types are named** (leading separators allowed): the AST
    `from_cst` returns is the list of the strict definitions `items` of the items without their leading separators; they
    are well-formed, within the exact budget of the run, and their printer's tokens are among the source's tokens -/
theorem parseDocument_agrees_named (rl : Nat) (src : Str) (root : Elem)
    (h : (parse .document none rl src).outcome = .tree root) (herr : (parse .document none rl src).errors = []) :
    LexClean src ∧ ∃ (ts : List Tok) (e : Tok) (its : List DocItem), sig (srcToks src) = ts ++ [e] ∧ e.kind = .eof ∧
      its ≠ [] ∧ TokIs ts (docToks its) ∧ (FromCst.fromCst root).1 = its.map DocItem.conv ∧
      ((∀ i ∈ its, i.named) → ∃ items : List Ast.Item, items ≠ [] ∧ (FromCst.fromCst root).1 = items.map (·.2) ∧
        (∀ a ∈ items, Ast.wfDefinition a.2 = true) ∧ (∀ x ∈ items.map (·.2), definitionFit rl x) ∧
        (∀ t ∈ Ast.itemsToks items, t ∈ docToks its)) := by
  obtain ⟨hclean, ts, e, inner, h1, h2, hroot, items, hne, hts, hsig, hall⟩ :=
    parseDocument_cstS (fun n => defTrs_of_ts n TsAny (tsTrs n)) (fun n => defExactX_of_remaining (defRemaining_done n)) rl src root h herr
  obtain ⟨its, eds, g1, g2, g3, g4, g5⟩ := docItems_collectX (fun i => i.named → itemFitX rl i) items
    (fun i hi => docItem_fitN rl i.1 i.2 (hall i hi))
  have hne' : its ≠ [] := by
    intro h0
    rw [h0] at g3
    cases items with
    | nil => exact hne rfl
    | cons a b => simp at g3
  have hfrom : (FromCst.fromCst root).1 = its.map DocItem.conv := by
    rw [hroot]
    have := fromCst_document inner eds (its.map (fun i => ((false, i.conv) : Ast.Item))) (by rw [hsig, g2])
      (all2_map_right _ _ _ _ g5)
    rw [this, List.map_map]
    rfl
  refine ⟨hclean, ts, e, its, h1, h2, hne', by rw [hts]; exact g1, hfrom, ?_⟩
  intro hnamed
  obtain ⟨sitems, hs, hmap⟩ := strictItems_unlead its hnamed
  have hwfB : ∀ i ∈ its.map DocItem.unlead, i.wfB := by
    intro i hi
    obtain ⟨j, hj, rfl⟩ := List.mem_map.mp hi
    cases j with
    | exec oe d => exact (g4 _ hj).1
    | loose l =>
      show l.unlead.wf = true
      rw [wf_unlead]; exact (g4 _ hj).1
  obtain ⟨hc, hw⟩ := strictItems_conv (its.map DocItem.unlead) sitems hs hwfB
  obtain ⟨ht, hlen⟩ := strictItems_toks (its.map DocItem.unlead) sitems hs
  have hne'' : sitems ≠ [] := by
    rintro rfl
    cases its with
    | nil => exact hne' rfl
    | cons a b => simp at hlen
  have hfit : ∀ i ∈ its.map DocItem.unlead, itemFit rl i := by
    intro i hi
    obtain ⟨j, hj, rfl⟩ := List.mem_map.mp hi
    obtain ⟨a, ha⟩ := strict_each (its.map DocItem.unlead) sitems hs _ hi
    refine itemFit_of_itemFitX_strict rl _ a ha ?_
    have hfj := (g4 j hj).2 (hnamed j hj)
    cases j with
    | exec oe d => exact hfj
    | loose l => exact (looseFitX_unlead rl l).mpr hfj
  refine ⟨sitems, hne'', by rw [hfrom, hmap], hw, definitionFit_of_strict_items rl _ sitems hs hfit, ?_⟩
  intro t ht'
  rw [← ht] at ht'
  unfold docToks at ht' ⊢
  obtain ⟨x, hx, htx⟩ := List.mem_flatten.mp ht'
  obtain ⟨i, hi, rfl⟩ := List.mem_map.mp hx
  obtain ⟨j, hj, rfl⟩ := List.mem_map.mp hi
  refine List.mem_flatten.mpr ⟨j.toks, List.mem_map.mpr ⟨j, hj, rfl⟩, ?_⟩
  cases j with
  | exec oe d => exact htx
  | loose l => exact unlead_toks_subset l t htx

end Apollo.Parse.Exact
