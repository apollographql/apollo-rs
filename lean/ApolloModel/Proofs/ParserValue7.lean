import ApolloModel.Proofs.ParserValue6
/-
Values: `list_value`, `object_field`, `object_value`.
-/
set_option linter.unusedSimpArgs false
namespace Apollo.Parse
open Apollo.Rowan hiding Str
open Apollo.Lex hiding Str

theorem srcLen_dec {α : Type} (f : Nat → PI α) (s s' : PState) (a : α)
    (h : (srcLen >>= f).run s = .ok a s') : ∃ n, (f n).run s = .ok a s' := by
  obtain ⟨n, s1, h1, h2⟩ := bind_dec srcLen _ s s' a h
  have e : srcLen.run s = .ok s.lx.src.length s := rfl
  rw [e] at h1
  cases h1
  exact ⟨_, h2⟩

theorem objectFieldTail_err (n : Nat) (c : Bool) (k : Option Kind) (s1 s2 : PState) (hk : k ≠ some Kind.colon) (w : TW s1)
    (hne : Toks s1 ≠ []) (h : (objectFieldTail n c k).run s1 = .ok () s2) : Doomed s2 := by
  unfold objectFieldTail at h
  have : (k == some Kind.colon) = false := by simpa using hk
  simp only [this, Bool.false_eq_true, if_false] at h
  exact (err_adv s1 s2 w h).2 hne

namespace Exact

theorem listValue_sound (n : Nat) (ih : ValSound n) : ListSound (n + 1) := by
  intro c s s' t rest w he ht hk h hnd
  have hni : isIgnoredKind t.kind = false := by rw [hk]; rfl
  have hne : t.kind ≠ .eof := by rw [hk]; decide
  rw [listValue_succ] at h
  obtain ⟨s1, s2, e1, h1, o2, ht1, he1, hnd2⟩ := withNode_entered _ _ s s' () t rest w he ht hni h hnd
  obtain ⟨_, s3, h3, h4⟩ := bind_dec (bump "L_BRACK") _ s1 s2 () h1
  obtain ⟨ign, eb, hall, _⟩ := bump_spec "L_BRACK" s1 s3 e1.w t rest ht1 h3
  have he3 : EofEnd s3 := eofEnd_eat he1 eb (noEof_cons hne hall)
  unfold peekWhile at h4
  obtain ⟨fuel, h5⟩ := srcLen_dec _ s3 s2 () h4
  obtain ⟨cs, hcs, hno, he2, hr⟩ := listLoop_sound n c ih _ s3 s2 eb.w he3 h5 hnd2
  have e13 : Eat s s3 (t :: ign) := by simpa using e1.trans eb
  refine ⟨⟨(t :: ign) ++ cs, ?_, noEof_append (noEof_cons hne hall) hno, ?_⟩, eofEnd_same _ _ he2 o2.current o2.lx o2.errors⟩
  · rw [e13.toks, hcs, o2.toks, List.append_assoc]
  · rcases hr with ⟨vs, hvs, hvo⟩ | ⟨e, hh, hke⟩
    · rcases hvo with ⟨hvo, hvd⟩
      refine Or.inl ⟨.list vs, ?_, by simpa [valueOk] using hvo, by simp only [vdepth]; rw [bud_eat e13] at hvd; omega⟩
      rw [sig_append, sig_cons_ignV t ign hni hall]
      have := (TokIs.single t (.p .lBracket) (by simp [astOfV, hk])).append hvs
      simpa [Ast.tValue] using this
    · exact Or.inr ⟨e, by rw [o2.toks]; exact hh, hke⟩

/-- `Name : Value`: an object field (`K = 1`) or an argument (`K = 0`) -/
def QFieldK (K : Nat) (c : Bool) (B : Nat) (x : List Ast.Tok) : Prop :=
  ∃ nm v, x = .name nm :: .p .colon :: Ast.tValue v ∧ valueOk c v = true ∧ vdepth v + K ≤ B

def FieldSound (n : Nat) : Prop := ∀ c B, ItemSpecB B AtEof .name (objectField n c) (QFieldK 1 c B)

/-- `Name : <value under the recursion guard>` inside a node; shared by object fields and arguments -/
theorem namedValue_sound (KK : Nat) (K : SK) (c : Bool) (tail : Option Kind → PI Unit)
    (htail_good : ∀ k, Good (tail k))
    (htail_err : ∀ k s1 s2, k ≠ some Kind.colon → TW s1 → Toks s1 ≠ [] → (tail k).run s1 = .ok () s2 → Doomed s2)
    (inner : PI Unit)
    (htail_colon : tail (some .colon) = (bump "COLON" >>= fun _ => inner))
    (hinner_good : Good inner)
    (hinner : ∀ s1 s2, TW s1 → EofEnd s1 → Toks s1 ≠ [] → inner.run s1 = .ok () s2 → ¬ Doomed s2 → ValOkK KK c s1 s2)
    (s s' : PState) (t : Tok) (rest : List Tok) (w : TW s) (he : EofEnd s) (ht : Toks s = t :: rest) (hk : t.kind = .name)
    (h : (withNode K (name >>= fun _ => peek >>= tail)).run s = .ok () s') (hnd : ¬ Doomed s') :
    ∃ cs, Toks s = cs ++ Toks s' ∧ NoEof cs ∧ EofEnd s' ∧ ((∃ x, TokIs (sig cs) x ∧ QFieldK KK c (bud s) x) ∨ AtEof s') := by
  have hni : isIgnoredKind t.kind = false := by rw [hk]; rfl
  have hne : t.kind ≠ .eof := by rw [hk]; decide
  obtain ⟨s1, s2, e1, h1, o2, ht1, he1, hnd2⟩ := withNode_entered _ _ s s' () t rest w he ht hni h hnd
  obtain ⟨_, s3, h3, h4⟩ := bind_dec name _ s1 s2 () h1
  have a3 := good_name s1 () s3 e1.w h3
  have gtail : Good (peek >>= tail) := good_bind _ _ good_peek htail_good
  have hnd3 : ¬ Doomed s3 := fun d => hnd2 ((gtail s3 () s2 a3.w h4).doom d)
  obtain ⟨t', rest', ign1, hq, _, en, hall1⟩ := name_spec s1 s3 e1.w (by rw [ht1]; simp) h3 hnd3
  rw [ht1] at hq
  injection hq with hq _
  subst hq
  have he3 : EofEnd s3 := eofEnd_eat he1 en (noEof_cons hne hall1)
  obtain ⟨ko, sP, hp, h5⟩ := bind_dec peek _ s3 s2 () h4
  obtain ⟨o, p, hko⟩ := peek_obs s3 sP ko en.w hp
  subst hko
  have heP : EofEnd sP := eofEnd_eat he3 p.eat (by intro x hx; cases hx)
  have hneP : Toks sP ≠ [] := by rw [p.toks]; exact eofEnd_nonempty s3 he3 hnd3
  by_cases hcol : o.map (·.kind) = some Kind.colon
  · rw [hcol, htail_colon] at h5
    obtain ⟨tc, hoc, hkc⟩ := peeked_kind hcol
    subst hoc
    have htP : Toks sP = tc :: (Toks sP).tail := by
      have := p.head; rw [← p.toks] at this; exact toks_head_cons sP tc this.symm
    obtain ⟨_, s6, h6, h7⟩ := bind_dec (bump "COLON") _ sP s2 () h5
    obtain ⟨ign2, ec, hall2, _⟩ := bump_spec "COLON" sP s6 p.w tc _ htP h6
    have hnic : isIgnoredKind tc.kind = false := by rw [hkc]; rfl
    have hnec : tc.kind ≠ .eof := by rw [hkc]; decide
    have he6 : EofEnd s6 := eofEnd_eat heP ec (noEof_cons hnec hall2)
    have hnd6 : ¬ Doomed s6 := fun d => hnd2 ((hinner_good s6 () s2 ec.w h7).doom d)
    obtain ⟨⟨cv, hcv, hnov, hrv⟩, hev⟩ := hinner s6 s2 ec.w he6 (eofEnd_nonempty s6 he6 hnd6) h7 hnd2
    have e16 : Eat s s6 ((t :: ign1) ++ (tc :: ign2)) := by simpa using ((e1.trans en).trans p.eat).trans ec
    refine ⟨(t :: ign1) ++ (tc :: ign2) ++ cv, ?_, noEof_append (noEof_append (noEof_cons hne hall1) (noEof_cons hnec hall2)) hnov,
      eofEnd_same _ _ hev o2.current o2.lx o2.errors, ?_⟩
    · rw [e16.toks, hcv, o2.toks]; simp [List.append_assoc]
    · rcases hrv with ⟨v, hv, hvo⟩ | ⟨e, hh, hke⟩
      · rcases hvo with ⟨hvo, hvd⟩
        refine Or.inl ⟨_, ?_, ⟨t.data, v, rfl, hvo, by rw [bud_eat e16] at hvd; exact hvd⟩⟩
        rw [sig_append, sig_append, sig_cons_ignV t ign1 hni hall1, sig_cons_ignV tc ign2 hnic hall2]
        have := (TokIs.cons (t := t) (x := .name t.data) (by simp [astOfV, hk])
          (TokIs.single tc (.p .colon) (by simp [astOfV, hkc]))).append hv
        simpa using this
      · exact Or.inr ⟨e, by rw [o2.toks]; exact hh, hke⟩
  · exfalso
    exact hnd2 (htail_err _ sP s2 hcol p.w hneP h5)

theorem objectField_sound (n : Nat) (ih : ValSound n) : FieldSound (n + 1) := by
  intro c B s s' t rest w he hB ht hk h hnd
  rw [objectField_succ] at h
  rw [← hB]
  refine namedValue_sound 1 "OBJECT_FIELD" c (objectFieldTail n c) (good_objectFieldTail n c (goodAll n))
    (fun k s1 s2 hk' w1 hne1 hr => objectFieldTail_err n c k s1 s2 hk' w1 hne1 hr)
    (withRec limitErr (value n c true)) (by simp [objectFieldTail])
    (good_withRec _ _ good_limitErr (good_value n c true)) ?_ s s' t rest w he ht hk h hnd
  intro s1 s2 w1 he1 hne1 hr hnd2
  exact (withRec_value c () limitErr (value n c true)
    (fun s3 s4 a w3 hne3 hr3 => (limitErr_adv s3 s4 w3 hr3).2 hne3) (good_value n c true)
    (fun s3 s4 a w3 he3 hr3 hnd4 => ⟨rfl, ih c true s3 s4 w3 he3 hr3 hnd4⟩) s1 s2 () w1 he1 hne1 hr hnd2).2.1

theorem fields_of_items (c : Bool) (B : Nat) : ∀ (items : List (List Ast.Tok)), (∀ x ∈ items, QFieldK 1 c B x) →
    ∃ fs, items.flatten = Ast.tObjFields fs ∧ fieldsOk c fs = true ∧ fdepth fs ≤ B
  | [], _ => ⟨.nil, rfl, rfl, by simp [fdepth]⟩
  | x :: items, h => by
    obtain ⟨nm, v, hx, hv, hvd⟩ := h x (by simp)
    obtain ⟨fs, hfs, hfo, hfd⟩ := fields_of_items c B items (fun y hy => h y (by simp [hy]))
    refine ⟨.cons nm v fs, ?_, by simp [fieldsOk, hv, hfo], by simp only [fdepth]; omega⟩
    simp [List.flatten_cons, hx, hfs, Ast.tObjFields]

theorem objectValue_sound (n : Nat) (ih : FieldSound n) : ObjSound (n + 1) := by
  intro c s s' t rest w he ht hk h hnd
  have hni : isIgnoredKind t.kind = false := by rw [hk]; rfl
  have hne : t.kind ≠ .eof := by rw [hk]; decide
  rw [objectValue_succ] at h
  obtain ⟨s1, s2, e1, h1, o2, ht1, he1, hnd2⟩ := withNode_entered _ _ s s' () t rest w he ht hni h hnd
  obtain ⟨_, s3, h3, h4⟩ := bind_dec (bump "L_CURLY") _ s1 s2 () h1
  obtain ⟨ign, eb, hall, _⟩ := bump_spec "L_CURLY" s1 s3 e1.w t rest ht1 h3
  have he3 : EofEnd s3 := eofEnd_eat he1 eb (noEof_cons hne hall)
  obtain ⟨_, sL, h5, h6⟩ := bind_dec (peekWhileKind .name (objectField n c)) _ s3 s2 () h4
  have gf : Good (objectField n c) := (goodAll n).field c
  have aL := good_peekWhileKind _ _ gf s3 () sL eb.w h5
  have hndL : ¬ Doomed sL := fun d => hnd2 ((good_expect _ _ sL () s2 aL.w h6).doom d)
  obtain ⟨cs, hcs, hno, heL, hr⟩ := peekWhileKind_sound (bud s3) AtEof carries_atEof .name (objectField n c) (QFieldK 1 c (bud s3)) gf (ih c (bud s3)) s3 sL eb.w he3 rfl h5 hndL
  obtain ⟨_, hex⟩ := expect_spec .rCurly "R_CURLY" sL s2 aL.w h6
  rcases hex with ⟨hemp, _⟩ | hd | ⟨t2, rest2, ign2, hq, hk2, e2, hall2, _⟩
  · exact absurd hemp (eofEnd_nonempty sL heL hndL)
  · exact absurd hd hnd2
  · have hni2 : isIgnoredKind t2.kind = false := by rw [hk2]; rfl
    have hne2 : t2.kind ≠ .eof := by rw [hk2]; decide
    rcases hr with ⟨items, hi, hall3⟩ | ⟨e, hh, hke⟩
    · obtain ⟨fs, hfs, hfo, hfd⟩ := fields_of_items c (bud s3) items hall3
      have e13 : Eat s s3 (t :: ign) := by simpa using e1.trans eb
      refine ⟨⟨(t :: ign) ++ cs ++ (t2 :: ign2), ?_, noEof_append (noEof_append (noEof_cons hne hall) hno) (noEof_cons hne2 hall2),
        Or.inl ⟨.obj fs, ?_, by simpa [valueOk] using hfo, by simp only [vdepth]; rw [bud_eat e13] at hfd; omega⟩⟩,
        eofEnd_same _ _ (eofEnd_eat heL e2 (noEof_cons hne2 hall2)) o2.current o2.lx o2.errors⟩
      · rw [e13.toks, hcs, e2.toks, o2.toks]; simp [List.append_assoc]
      · rw [sig_append, sig_append, sig_cons_ignV t ign hni hall, sig_cons_ignV t2 ign2 hni2 hall2]
        rw [hfs] at hi
        have := ((TokIs.single t (.p .lCurly) (by simp [astOfV, hk])).append hi).append
          (TokIs.single t2 (.p .rCurly) (by simp [astOfV, hk2]))
        simpa [Ast.tValue] using this
    · exfalso
      rw [hq] at hh
      simp only [List.head?_cons, Option.some.injEq] at hh
      subst hh
      rw [hk2] at hke
      cases hke

end Exact
end Apollo.Parse
