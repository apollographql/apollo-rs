import ApolloModel.Proofs.ParserExactS11
import ApolloModel.Proofs.ParserExactC15
import ApolloModel.Proofs.ParserDoc4
import ApolloModel.Proofs.ParserDef19
/-
EXACT SOUNDNESS (namespace Apollo.Parse.Exact): executable-only documents.  The dispatcher and the loop of
`document()` on queues WITHOUT a String token and without one of the nine type-system keywords (`ExecQ`), with the recursion
budget; the levels above the loop are `parseDocument_frame` of ParserDoc3.  An error-free parse means the significant tokens are one or more
executable definitions within the exact budget (`Exact.IsExecDocFit rl`), the language of
`Exact.parseDocument_complete_sig` — hence an "if and only if" for such sources.
-/
set_option linter.unusedSimpArgs false
namespace Apollo.Parse.Exact
open Apollo.Rowan hiding Str
open Apollo.Lex hiding Str

/-- the text is none of the nine keywords that select a type-system definition or extension -/
def NotTsWord (d : Str) : Prop :=
  d ≠ "directive".toList ∧ d ≠ "enum".toList ∧ d ≠ "extend".toList ∧ d ≠ "input".toList ∧ d ≠ "interface".toList ∧
  d ≠ "type".toList ∧ d ≠ "scalar".toList ∧ d ≠ "schema".toList ∧ d ≠ "union".toList

/-- a queue for an executable-only document: no String token (description) and no type-system keyword -/
def ExecQ (q : List Tok) : Prop := ∀ t ∈ q, t.kind ≠ .stringValue ∧ NotTsWord t.data

theorem ExecQ.suffix {cs q : List Tok} (h : ExecQ (cs ++ q)) : ExecQ q := fun t ht => h t (List.mem_append_right _ ht)

def LExecDefs (B : Nat) (x : List Ast.Tok) : Prop := ∃ items : List (List Ast.Tok), x = items.flatten ∧ ∀ i ∈ items, LExecDef B i

theorem kw_false {w : String} {d : Str} (h : d ≠ w.toList) : kw w d = false := by
  unfold kw; exact beq_false_of_ne h

/-- **the dispatcher of `document()` on an executable-only queue**: an error-free run consumes exactly one executable
    definition within the budget -/
theorem execDispatch_sound (n : Nat) (s s' : PState) (t : Tok) (rest : List Tok)
    (w : TW s) (he : EofEnd s) (hs : LexQ (Toks s)) (hg : ExecQ (Toks s)) (hc : s.current = some t) (ht : Toks s = t :: rest)
    (h : (documentDispatch n t.kind).run s = .ok () s') (hnd : ¬ Doomed s') : Cons s s' (LExecDef (bud s)) := by
  obtain ⟨hks, g1, g2, g3, g4, g5, g6, g7, g8, g9⟩ := hg t (by rw [ht]; exact List.mem_cons_self ..)
  unfold documentDispatch at h
  have hk : (t.kind == Kind.stringValue) = false := beq_false_of_ne hks
  simp only [hk, Bool.false_eq_true, if_false] at h
  by_cases hk2 : (t.kind == .name || t.kind == .lCurly) = true
  · simp only [hk2, if_true] at h
    obtain ⟨d, s1, e1, e2⟩ := bind_dec peekData _ s s' () h
    obtain ⟨rfl, hdat⟩ := peekData_cur s s1 d t hc e1
    subst hdat
    simp only [] at e2
    unfold selectDefinition at e2
    simp only [kw_false g1, kw_false g2, kw_false g3, kw_false g4, kw_false g5, kw_false g6, kw_false g7, kw_false g8,
      kw_false g9, Bool.false_eq_true, if_false] at e2
    by_cases hf : kw "fragment" t.data = true
    · simp only [hf, if_true] at e2
      have hd : t.data = "fragment".toList := kw_iff.mp hf
      have hkn : t.kind = .name := hs.headKw (by rw [ht]; rfl) "fragment" 'f' "ragment".toList rfl rfl hd
      exact (fragmentDefinition_sound n s1 s' t rest w he ht hkn hd e2 hnd).weaken (fun x hx => Or.inr hx)
    · simp only [hf, Bool.false_eq_true, if_false] at e2
      by_cases ho : (kw "query" t.data || kw "mutation" t.data || kw "subscription" t.data || kw "{" t.data) = true
      · simp only [ho, if_true] at e2
        exact (operationDefinition_sound n s1 s' w he e2 hnd).weaken (fun x hx => Or.inl hx)
      · simp only [ho, Bool.false_eq_true, if_false] at e2
        exact absurd (errAndPop_never s1 s' w he e2) hnd
  · simp only [hk2, Bool.false_eq_true, if_false] at h
    exact absurd (errAndPop_never s s' w he h) hnd

/-- **the loop of `document()`**: an error-free run consumes a sequence of executable definitions within the budget and stops
    in front of the EOF token, nowhere else -/
theorem docLoop_sound (n B : Nat) : ∀ (fuel : Nat) (s s' : PState), TW s → EofEnd s → LexQ (Toks s) → ExecQ (Toks s) → bud s = B →
    (peekWhileLoop (documentStep n) fuel).run s = .ok () s' → ¬ Doomed s' →
    ∃ cs x, Toks s = cs ++ Toks s' ∧ NoEof cs ∧ EofEnd s' ∧ TokIs (sig cs) x ∧ LExecDefs B x ∧ AtEof s' := by
  intro fuel
  induction fuel with
  | zero => intro s s' _ _ _ _ _ h; simp [peekWhileLoop, PI.outOfFuel] at h
  | succ fuel ih =>
    intro s s' w he hs hg hB h hnd
    rcases docLoop_step (defLemmas n) fuel s s' w he h hnd with ⟨ht, he', hat⟩ | ⟨sF, sD, t, rest, eF, heF, hc, htF, hD, aD, hndD, h5⟩
    · exact ⟨[], [], by rw [ht]; rfl, (by intro x hx; cases hx), he', TokIs.nil, ⟨[], rfl, by intro i hi; cases hi⟩, hat⟩
    · have hsF : LexQ (Toks sF) := by rw [eF.toks] at hs; exact hs
      have hgF : ExecQ (Toks sF) := by rw [eF.toks] at hg; exact hg
      have hBF : bud sF = B := by rw [bud_eat eF, hB]
      obtain ⟨c1, x1, t1, n1, e1', hx1, hd1⟩ := execDispatch_sound n sF sD t rest eF.w heF hsF hgF hc htF hD hndD
      rw [hBF] at hd1
      have hsD : LexQ (Toks sD) := by rw [t1] at hsF; exact hsF.suffix
      have hgD : ExecQ (Toks sD) := by rw [t1] at hgF; exact hgF.suffix
      have hBD : bud sD = B := by rw [bud_adv aD, hBF]
      obtain ⟨c2, x2, t2, n2, e2', hx2, ⟨items, hxi, hall⟩, hat⟩ := ih sD s' aD.w e1' hsD hgD hBD h5 hnd
      refine ⟨c1 ++ c2, x1 ++ x2, by rw [eF.toks, t1, t2, List.nil_append, List.append_assoc], noEof_append n1 n2, e2', ?_,
        ⟨x1 :: items, by simp [hxi], ?_⟩, hat⟩
      · rw [sig_append]; exact hx1.append hx2
      · intro i hi'
        rcases List.mem_cons.mp hi' with rfl | hi'
        · exact hd1
        · exact hall i hi'

theorem execDocument_accept_sound (rl : Nat) (src : Str) (root : Elem) (hg : ExecQ (srcToks src))
    (h : (parse .document none rl src).outcome = .tree root) (herr : (parse .document none rl src).errors = []) :
    LexClean src ∧ ∃ ts x e, sig (srcToks src) = ts ++ [e] ∧ e.kind = .eof ∧ TokIs ts x ∧ IsExecDocFit rl x := by
  obtain ⟨hc, ts, x, e, h1, h2, h3, hne, items, rfl, hall⟩ :=
    parseDocument_frame defLemmas (Pre := fun s => LexQ (Toks s) ∧ ExecQ (Toks s) ∧ bud s = rl) (R := LExecDefs rl)
      (fun a b c e hp => by
        obtain ⟨hq, hg, hB⟩ := hp
        rw [e.toks] at hq hg
        exact ⟨hq.suffix, hg.suffix, by rw [bud_eat e, hB]⟩)
      (fun n fuel s s' w he hp => docLoop_sound n rl fuel s s' w he hp.1 hp.2.1 hp.2.2)
      rl src root (fun hq => ⟨hq, hg, by simp [bud, initState]⟩) h herr
  exact ⟨hc, ts, _, e, h1, h2, h3, items, by rintro rfl; exact hne rfl, rfl, hall⟩

end Apollo.Parse.Exact
