import ApolloModel.Proofs.ParserExactS13
import ApolloModel.Proofs.ParserExactC28
/-
EXACT SOUNDNESS (namespace Apollo.Parse.Exact): the document level for the WHOLE grammar, parameterised by the
item guard `fit` and by the exact soundness of the fifteen type-system definition / extension parsers against it
(`DefExactG fit`): dispatch, loop, `document()`, `Parser::parse` — an error-free parse means the significant tokens are
`docToks its` for a non-empty list of items, each within the guard (`fit rl`) and each allowed before the next (`Exact.DocFollowX`).
At the guard `Exact.itemFit`, with `Exact.parseDocument_complete_items`, this is `document_sandwichG`.
-/
set_option linter.unusedSimpArgs false
namespace Apollo.Parse.Exact
open Apollo.Rowan hiding Str
open Apollo.Lex hiding Str

/-- the braces body of the definition was not written (so a `{` right after it would have been read as its body) -/
def openBody : LooseDef → Prop
  | .object _ _ _ _ fs => fs = []
  | .interface _ _ _ _ fs => fs = []
  | .objectExt _ _ _ fs => fs = []
  | .interfaceExt _ _ _ fs => fs = []
  | .enum _ _ _ vs => vs = []
  | .enumExt _ _ vs => vs = []
  | .input _ _ _ fs => fs = []
  | .inputExt _ _ fs => fs = []
  | .schemaExt _ roots => roots = []
  | _ => False

/-- **the follow condition a definition parser establishes on the actual next significant token**: after a type-system
    definition whose braces body is absent the next token is not `{` -/
def itemFollowQ : DocItem → Tok → Prop
  | .loose l, q => openBody l → q.kind ≠ .lCurly
  | .exec .., _ => True

/-- the same on the abstract syntax: `f` is the first grammar token of the next definition, `none` at the end -/
def itemFollowX : DocItem → Option Ast.Tok → Prop
  | .loose l, f => openBody l → f ≠ some (.p .lCurly)
  | .exec .., _ => True

/-- **the exact follow condition of a document**: only a definition without its braces body restricts what follows -/
def DocFollowX : List DocItem → Prop
  | [] => True
  | i :: r => itemFollowX i (docToks r).head? ∧ DocFollowX r

/-- the follow guard of the completeness theorem implies the exact one -/
theorem itemFollowX_of_A (i : DocItem) (f : Option Ast.Tok) (h : itemFollowA i f) : itemFollowX i f := by
  cases i with
  | exec oe d => trivial
  | loose l =>
    intro ho hf
    subst hf
    have hA : looseFollowG l Kind.lCurly _ := h
    cases l <;> first
      | exact ho
      | exact hA.1.2.2.1 rfl
      | exact hA.2.2 rfl

theorem docFollowX_of_ok : ∀ its : List DocItem, DocFollowOk its → DocFollowX its
  | [], _ => trivial
  | i :: r, h => ⟨itemFollowX_of_A i _ h.1, docFollowX_of_ok r h.2⟩

/-! ### the item guard as a parameter

The guards `itemFit`, `itemFitX`, `itemFitXX` differ only on schema definitions and extensions.  The document level asks of a
guard `fit` only that on executable definitions it is `execFit`, so everything below is proved for an arbitrary such `fit`;
`ItemRes`, `DefSound`, `DefExact` and their namesakes under `X` and `XX` are `ItemResG`, `DefSoundG`, `DefExactG` at the three guards. -/

/-- what one call of a definition parser establishes: it consumed the tokens of ONE item within the budget of the start
    state, and the next significant token may follow it -/
@[reducible] def ItemResG (fit : Nat → DocItem → Prop) (s s' : PState) : Prop :=
  ∃ (cs : List Tok) (i : DocItem), Toks s = cs ++ Toks s' ∧ NoEof cs ∧ EofEnd s' ∧ TokIs (sig cs) (DocItem.toks i) ∧
    fit (bud s) i ∧ ∀ q, (sig (Toks s')).head? = some q → itemFollowQ i q

/-- exact soundness of one definition parser, entered the way the dispatcher enters it on a lexer queue -/
def DefSoundG (fit : Nat → DocItem → Prop) (H : List Tok → Prop) (m : PI Unit) : Prop := Reaches (ItemResG fit) H m

theorem DefSoundG.mono {fit fit' : Nat → DocItem → Prop} (hm : ∀ b i, fit b i → fit' b i) {H : List Tok → Prop} {m : PI Unit}
    (h : DefSoundG fit H m) : DefSoundG fit' H m := by
  intro s s' w he hq hr hnd
  obtain ⟨cs, i, a, b, c, d, e, f⟩ := h s s' w he hq hr hnd
  exact ⟨cs, i, a, b, c, d, hm _ _ e, f⟩

/-- exact soundness of the eight type-system definition parsers and the seven extension parsers -/
structure DefExactG (fit : Nat → DocItem → Prop) (n : Nat) : Prop where
  directive : DefSoundG fit (DStart "directive".toList) (directiveDefinition n)
  enumDef : DefSoundG fit (DStart "enum".toList) (enumTypeDefinition n)
  input : DefSoundG fit (DStart "input".toList) (inputObjectTypeDefinition n)
  interface : DefSoundG fit (DStart "interface".toList) (interfaceTypeDefinition n)
  object : DefSoundG fit (DStart "type".toList) (objectTypeDefinition n)
  scalar : DefSoundG fit (DStart "scalar".toList) (scalarTypeDefinition n)
  schema : DefSoundG fit (DStart "schema".toList) (schemaDefinition n)
  union : DefSoundG fit (DStart "union".toList) (unionTypeDefinition n)
  schemaExt : DefSoundG fit (EStart "schema".toList) (schemaExtension n)
  scalarExt : DefSoundG fit (EStart "scalar".toList) (scalarTypeExtension n)
  objectExt : DefSoundG fit (EStart "type".toList) (objectTypeExtension n)
  interfaceExt : DefSoundG fit (EStart "interface".toList) (interfaceTypeExtension n)
  unionExt : DefSoundG fit (EStart "union".toList) (unionTypeExtension n)
  enumExt : DefSoundG fit (EStart "enum".toList) (enumTypeExtension n)
  inputExt : DefSoundG fit (EStart "input".toList) (inputObjectTypeExtension n)

@[reducible] def ItemRes (s s' : PState) : Prop :=
  ∃ (cs : List Tok) (i : DocItem), Toks s = cs ++ Toks s' ∧ NoEof cs ∧ EofEnd s' ∧ TokIs (sig cs) (DocItem.toks i) ∧
    itemFit (bud s) i ∧ ∀ q, (sig (Toks s')).head? = some q → itemFollowQ i q

def DefSound (H : List Tok → Prop) (m : PI Unit) : Prop :=
  ∀ s s', TW s → EofEnd s → (LexQ (Toks s) ∧ H (Toks s)) → m.run s = .ok () s' → ¬ Doomed s' → ItemRes s s'

/-- **the hypotheses of the document theorem**: exact soundness of the eight type-system definition parsers and the seven
    extension parsers (operation and fragment definitions are theorems: `op_item`, `frag_item`) -/
structure DefExact (n : Nat) : Prop where
  directive : DefSound (DStart "directive".toList) (directiveDefinition n)
  enumDef : DefSound (DStart "enum".toList) (enumTypeDefinition n)
  input : DefSound (DStart "input".toList) (inputObjectTypeDefinition n)
  interface : DefSound (DStart "interface".toList) (interfaceTypeDefinition n)
  object : DefSound (DStart "type".toList) (objectTypeDefinition n)
  scalar : DefSound (DStart "scalar".toList) (scalarTypeDefinition n)
  schema : DefSound (DStart "schema".toList) (schemaDefinition n)
  union : DefSound (DStart "union".toList) (unionTypeDefinition n)
  schemaExt : DefSound (EStart "schema".toList) (schemaExtension n)
  scalarExt : DefSound (EStart "scalar".toList) (scalarTypeExtension n)
  objectExt : DefSound (EStart "type".toList) (objectTypeExtension n)
  interfaceExt : DefSound (EStart "interface".toList) (interfaceTypeExtension n)
  unionExt : DefSound (EStart "union".toList) (unionTypeExtension n)
  enumExt : DefSound (EStart "enum".toList) (enumTypeExtension n)
  inputExt : DefSound (EStart "input".toList) (inputObjectTypeExtension n)

theorem DefExact.toG {n : Nat} (L : DefExact n) : DefExactG itemFit n :=
  ⟨L.directive, L.enumDef, L.input, L.interface, L.object, L.scalar, L.schema, L.union, L.schemaExt, L.scalarExt, L.objectExt,
    L.interfaceExt, L.unionExt, L.enumExt, L.inputExt⟩

/-! ### executable definitions as items -/

theorem item_of_lexec {fit : Nat → DocItem → Prop} (hx : ∀ b oe d, fit b (.exec oe d) ↔ execFit b d) (b : Nat) (x : List Ast.Tok) (h : LExecDef b x) :
    ∃ i : DocItem, i.toks = x ∧ fit b i ∧ ∀ q, itemFollowQ i q := by
  rcases h with (⟨ty, nm, vs, ds, ss, rfl, hv, hd, hne, hb, hf⟩ | ⟨ss, hne, rfl, hb, hf⟩) | ⟨nm, tc, ds, ss, rfl, hn, hd, hne, hb, hf⟩
  · exact ⟨.exec false (.operation ty nm vs ds ss), tOperation_eq ty nm vs ds ss, (hx ..).mpr ⟨hv, hd, hne, hb, hf⟩, fun _ => trivial⟩
  · refine ⟨.exec true (.operation .query none [] [] ss), ?_, (hx ..).mpr ⟨(by intro v hv; cases hv), (by intro d hd; cases hd), hne, hb, hf⟩, fun _ => trivial⟩
    show Ast.tDefinition true (.operation .query none [] [] ss) = _
    rw [shorthand_toks]; simp [Ast.tSelSet]
  · exact ⟨.exec false (.fragment nm tc ds ss), rfl, (hx ..).mpr ⟨hn, hd, hne, hb, hf⟩, fun _ => trivial⟩

theorem itemRes_of_cons {fit : Nat → DocItem → Prop} (hx : ∀ b oe d, fit b (.exec oe d) ↔ execFit b d) {s s' : PState} (c : Cons s s' (LExecDef (bud s))) :
    ItemResG fit s s' := by
  obtain ⟨cs, x, a, b, e, d, hl⟩ := c
  obtain ⟨i, rfl, hfit, hfol⟩ := item_of_lexec hx _ _ hl
  exact ⟨cs, i, a, b, e, d, hfit, fun q _ => hfol q⟩

theorem op_item {fit : Nat → DocItem → Prop} (hx : ∀ b oe d, fit b (.exec oe d) ↔ execFit b d) (n : Nat) (s s' : PState) (w : TW s) (he : EofEnd s)
    (h : (operationDefinition n).run s = .ok () s') (hnd : ¬ Doomed s') : ItemResG fit s s' :=
  itemRes_of_cons hx ((operationDefinition_sound n s s' w he h hnd).weaken (fun _ hx => Or.inl hx))

/-- `fragment_definition`, entered on the keyword (on a description it is never error-free) -/
theorem frag_item {fit : Nat → DocItem → Prop} (hx : ∀ b oe d, fit b (.exec oe d) ↔ execFit b d) (n : Nat) (s s' : PState) (w : TW s) (he : EofEnd s)
    (hq : LexQ (Toks s) ∧ DStart "fragment".toList (Toks s))
    (h : (fragmentDefinition n).run s = .ok () s') (hnd : ¬ Doomed s') : ItemResG fit s s' := by
  obtain ⟨hs, t, rest, ht, hstart⟩ := hq
  rcases hstart with ⟨_, hd⟩ | ⟨hk, _⟩
  · have hkn : t.kind = .name := hs.headKw (by rw [ht]; rfl) "fragment" 'f' "ragment".toList rfl rfl hd
    exact itemRes_of_cons hx ((fragmentDefinition_sound n s s' t rest w he ht hkn hd h hnd).weaken (fun _ hx => Or.inr hx))
  · exfalso
    obtain ⟨_, _, _, _, a4⟩ := (acc_fragmentDefinition_desc n (R := fun _ _ => False)).2 s () s' w he ⟨t, by rw [ht]; rfl, hk⟩ h hnd
    rcases a4 with ⟨_, _, f⟩ | f <;> exact f

/-! ### the dispatch -/

/-- with the operation and fragment definitions, which are theorems, the fifteen make up what the dispatcher needs -/
theorem DefExactG.dispatch {fit : Nat → DocItem → Prop} (hx : ∀ b oe d, fit b (.exec oe d) ↔ execFit b d) {n : Nat}
    (L : DefExactG fit n) : DispatchSound (ItemResG fit) n where
  directive := L.directive
  enumDef := L.enumDef
  fragment := frag_item hx n
  input := L.input
  interface := L.interface
  object := L.object
  opQuery := fun s s' w he _ => op_item hx n s s' w he
  opMutation := fun s s' w he _ => op_item hx n s s' w he
  opSubscription := fun s s' w he _ => op_item hx n s s' w he
  opShorthand := fun s s' w he _ => op_item hx n s s' w he
  scalar := L.scalar
  schema := L.schema
  union := L.union
  schemaExt := L.schemaExt
  scalarExt := L.scalarExt
  objectExt := L.objectExt
  interfaceExt := L.interfaceExt
  unionExt := L.unionExt
  enumExt := L.enumExt
  inputExt := L.inputExt

/-! ### follow conditions: from the actual token to the abstract syntax -/

theorem itemFollowX_of_tok (i : DocItem) (f : Option Ast.Tok) (q : Tok) (hq : FollowTokOf f q) (h : itemFollowQ i q) : itemFollowX i f := by
  cases i with
  | exec oe d => trivial
  | loose l =>
    intro ho hf
    subst hf
    have ha : astOfV q = some (.p .lCurly) := hq
    exact h ho (kind_of_astOfV ha)

theorem looseToks_ne (l : LooseDef) : l.toks ≠ [] := by
  intro h
  have hl := congrArg List.length h
  cases l <;>
    simp only [LooseDef.toks, scalarToks, unionToks, enumToks, inputToks, directiveToks, schemaToks, objectLikeToks, kwE, kwPart_true,
      Ast.tEnumBody, Ast.tInputBody, List.length_append, List.length_cons, List.length_nil] at hl <;> omega

theorem itemToks_ne {fit : Nat → DocItem → Prop} (hx : ∀ b oe d, fit b (.exec oe d) ↔ execFit b d) (b : Nat) (i : DocItem) (h : fit b i) : i.toks ≠ [] := by
  cases i with
  | loose l => exact looseToks_ne l
  | exec oe d =>
    have hl := execFit_lexec b oe d ((hx ..).mp h)
    rcases hl with (⟨ty, nm, vs, ds, ss, e, _⟩ | ⟨ss, _, e, _⟩) | ⟨nm, tc, ds, ss, e, _⟩
    · show Ast.tDefinition oe d ≠ []
      rw [e]; simp [tOperation]
    · show Ast.tDefinition oe d ≠ []
      rw [e]; simp
    · show Ast.tDefinition oe d ≠ []
      rw [e]; simp [Ast.tDefinition]

theorem sig_head_spelled (cs rest : List Tok) (x : List Ast.Tok) (hx : TokIs (sig cs) x) (hne : x ≠ []) :
    ∃ q, (sig (cs ++ rest)).head? = some q ∧ FollowTokOf x.head? q := by
  cases x with
  | nil => exact absurd rfl hne
  | cons a x' =>
    cases hc : sig cs with
    | nil => rw [hc] at hx; simp [TokIs] at hx
    | cons q c' =>
      rw [hc] at hx
      refine ⟨q, by rw [sig_append, hc]; rfl, ?_⟩
      have : astOfV q = some a := by
        have := congrArg List.head? hx
        simpa using this
      exact this

/-! ### the loop of `document()` -/

theorem docLoop_soundG {fit : Nat → DocItem → Prop} (hx : ∀ b oe d, fit b (.exec oe d) ↔ execFit b d) {n : Nat} (L : DefExactG fit n) (B : Nat) : ∀ (fuel : Nat) (s s' : PState), TW s → EofEnd s → LexQ (Toks s) → bud s = B →
    (peekWhileLoop (documentStep n) fuel).run s = .ok () s' → ¬ Doomed s' →
    ∃ (cs : List Tok) (its : List DocItem), Toks s = cs ++ Toks s' ∧ NoEof cs ∧ EofEnd s' ∧ TokIs (sig cs) (docToks its) ∧
      (∀ i ∈ its, fit B i) ∧ DocFollowX its ∧ AtEof s' ∧
      ∀ q, (sig (Toks s)).head? = some q → FollowTokOf (docToks its).head? q := by
  intro fuel
  induction fuel with
  | zero => intro s s' _ _ _ _ h; simp [peekWhileLoop, PI.outOfFuel] at h
  | succ fuel ih =>
    intro s s' w he hs hB h hnd
    rcases docLoop_step (defLemmas n) fuel s s' w he h hnd with ⟨ht, he', hat⟩ | ⟨sF, sD, t, rest, eF, heF, hc, htF, hD, aD, hndD, h5⟩
    · refine ⟨[], [], by rw [ht]; rfl, (by intro x hx; cases hx), he', TokIs.nil, (by intro i hi; cases hi), trivial, hat, ?_⟩
      obtain ⟨e, hh, hke⟩ := hat
      intro q hq
      rw [← ht] at hq
      cases hT : Toks s' with
      | nil => rw [hT] at hh; cases hh
      | cons a r =>
        rw [hT] at hh hq
        injection hh with hh
        subst hh
        have hsg : sig (a :: r) = a :: sig r := by simp [sig, isIgnoredKind, hke]
        rw [hsg] at hq
        injection hq with hq
        subst hq
        exact hke
    · have hsF : LexQ (Toks sF) := by rw [eF.toks] at hs; exact hs
      have hBF : bud sF = B := by rw [bud_eat eF, hB]
      obtain ⟨c1, i1, t1, n1, e1', hx1, hfit1, hfol1⟩ := documentDispatch_reach (L.dispatch hx) sF sD t rest eF.w heF hsF hc htF hD hndD
      rw [hBF] at hfit1
      have hsD : LexQ (Toks sD) := by rw [t1] at hsF; exact hsF.suffix
      have hBD : bud sD = B := by rw [bud_adv aD, hBF]
      obtain ⟨c2, its2, t2, n2, e2', hx2, hfit2, hfol2, hat, hlink⟩ := ih sD s' aD.w e1' hsD hBD h5 hnd
      have hne1 := itemToks_ne hx B i1 hfit1
      have hdoc : docToks (i1 :: its2) = i1.toks ++ docToks its2 := by simp [docToks]
      refine ⟨c1 ++ c2, i1 :: its2, by rw [eF.toks, t1, t2, List.nil_append, List.append_assoc], noEof_append n1 n2, e2', ?_, ?_,
        ⟨?_, hfol2⟩, hat, ?_⟩
      · rw [sig_append, hdoc]; exact hx1.append hx2
      · intro i hi'
        rcases List.mem_cons.mp hi' with rfl | hi'
        · exact hfit1
        · exact hfit2 i hi'
      · -- the follow condition of the first item: the next significant token is the head of what follows
        cases hsg : (sig (Toks sD)).head? with
        | none =>
          exfalso
          obtain ⟨e, hh, hke⟩ : ∃ e, (sig (Toks sD)).getLast? = some e ∧ e.kind = .eof := by
            rcases e1' with d | ⟨pre, e, hq, hke, _⟩
            · exact absurd d hndD
            · refine ⟨e, ?_, hke⟩
              rw [hq, sig_append]
              have : sig [e] = [e] := by simp [sig, isIgnoredKind, hke]
              rw [this]; simp
          cases hs0 : sig (Toks sD) with
          | nil => rw [hs0] at hh; cases hh
          | cons a r => rw [hs0] at hsg; cases hsg
        | some q => exact itemFollowX_of_tok i1 _ q (hlink q hsg) (hfol1 q hsg)
      · intro q hq
        rw [hdoc]
        obtain ⟨q', hq', hf'⟩ := sig_head_spelled c1 (Toks sD) i1.toks hx1 hne1
        rw [eF.toks, t1, List.nil_append, hq'] at hq
        injection hq with hq
        subst hq
        cases hti : i1.toks with
        | nil => exact absurd hti hne1
        | cons a x' => rw [hti] at hf'; exact hf'

/-! ### `document()` and the entry point -/

/-- `Parser::parse`: zero errors means the significant tokens are those of a non-empty list of items, each within the guard at
    the recursion limit, the list satisfying the exact follow condition -/
theorem parseDocument_sound_exactG {fit : Nat → DocItem → Prop} (hx : ∀ b oe d, fit b (.exec oe d) ↔ execFit b d)
    (L : ∀ n, DefExactG fit n) (rl : Nat) (src : Str) (herr : (parse .document none rl src).errors = []) :
    LexClean src ∧ ∃ (ts : List Tok) (its : List DocItem) (e : Tok), sig (srcToks src) = ts ++ [e] ∧ e.kind = .eof ∧
      TokIs ts (docToks its) ∧ its ≠ [] ∧ (∀ i ∈ its, fit rl i) ∧ DocFollowX its := by
  obtain ⟨root, h⟩ := parseDocument_tree none rl src
  obtain ⟨hc, ts, x, e, h1, h2, h3, hne, its, rfl, hfit, hfol⟩ :=
    parseDocument_frame defLemmas (Pre := fun s => LexQ (Toks s) ∧ bud s = rl)
      (R := fun x => ∃ its, x = docToks its ∧ (∀ i ∈ its, fit rl i) ∧ DocFollowX its)
      (fun a b c e hp => by
        obtain ⟨hq, hB⟩ := hp
        rw [e.toks] at hq
        exact ⟨hq.suffix, by rw [bud_eat e, hB]⟩)
      (fun n fuel s s' w he hp hr hnd => by
        obtain ⟨cs, its, a, b, c, d, e, f, g, _⟩ := docLoop_soundG hx (L n) rl fuel s s' w he hp.1 hp.2 hr hnd
        exact ⟨cs, _, a, b, c, d, ⟨its, rfl, e, f⟩, g⟩)
      rl src root (fun hq => ⟨hq, by simp [bud, initState]⟩) h herr
  exact ⟨hc, ts, its, e, h1, h2, h3, by rintro rfl; exact hne rfl, hfit, hfol⟩

/-- **the document sandwich at the exact budget, parameterised**: given the exact soundness of the fifteen type-system
    definition / extension parsers, zero errors IMPLIES the item decomposition with `itemFit rl` and the exact follow
    condition `DocFollowX`, and the decomposition with the (stronger) guard `DocFollowOk` IMPLIES zero errors.  That
    `DocFollowX` is enough for the converse too (`type T { a: Int } { b }` is accepted) is `parseDocument_complete_itemsX` of
    ParserExactS18, by the first-token analysis of ParserExactS17. -/
theorem document_sandwichG (L : ∀ n, DefExact n) (rl : Nat) (src : Str) :
    ((parse .document none rl src).errors = [] →
      LexClean src ∧ ∃ (ts : List Tok) (its : List DocItem) (e : Tok), sig (srcToks src) = ts ++ [e] ∧ e.kind = .eof ∧
        TokIs ts (docToks its) ∧ its ≠ [] ∧ (∀ i ∈ its, itemFit rl i) ∧ DocFollowX its) ∧
    ((LexClean src ∧ ∃ (ts : List Tok) (its : List DocItem) (e : Tok), sig (srcToks src) = ts ++ [e] ∧ e.kind = .eof ∧
        TokIs ts (docToks its) ∧ its ≠ [] ∧ (∀ i ∈ its, itemFit rl i) ∧ DocFollowOk its) →
      (parse .document none rl src).errors = []) := by
  refine ⟨parseDocument_sound_exactG (fun _ _ _ => Iff.rfl) (fun n => (L n).toG) rl src, ?_⟩
  rintro ⟨hclean, ts, its, e, h1, h2, h3, h4, h5, h6⟩
  exact parseDocument_complete_items rl src its ts e hclean h1 h2 h3 h4 h5 h6

/-- adaptor for the per-parser lemmas: consumed `l.toks` within the budget, the state afterwards is settled, and the
    current token is not `{` when the braces body is absent -/
theorem defSoundG_of_loose {fit : Nat → DocItem → Prop} {lf : Nat → LooseDef → Prop} (hl : ∀ b l, lf b l → fit b (.loose l))
    (H : List Tok → Prop) (m : PI Unit)
    (h : ∀ s s', TW s → EofEnd s → LexQ (Toks s) → H (Toks s) → m.run s = .ok () s' → ¬ Doomed s' →
      ∃ (cs : List Tok) (l : LooseDef), Toks s = cs ++ Toks s' ∧ NoEof cs ∧ EofEnd s' ∧ TokIs (sig cs) l.toks ∧ lf (bud s) l ∧
        Settled s' ∧ (openBody l → ∀ t, s'.current = some t → t.kind ≠ .lCurly)) : DefSoundG fit H m := by
  intro s s' w he hq hr hnd
  obtain ⟨cs, l, a, b, c, d, e, hset, f⟩ := h s s' w he hq.1 hq.2 hr hnd
  refine ⟨cs, .loose l, a, b, c, d, hl _ _ e, ?_⟩
  intro q hq' ho
  refine f ho q ?_
  rw [hset.1, ← settled_sig_head s' hset]
  exact hq'

theorem defSound_of_loose (H : List Tok → Prop) (m : PI Unit)
    (h : ∀ s s', TW s → EofEnd s → LexQ (Toks s) → H (Toks s) → m.run s = .ok () s' → ¬ Doomed s' →
      ∃ (cs : List Tok) (l : LooseDef), Toks s = cs ++ Toks s' ∧ NoEof cs ∧ EofEnd s' ∧ TokIs (sig cs) l.toks ∧ looseFit (bud s) l ∧
        Settled s' ∧ (openBody l → ∀ t, s'.current = some t → t.kind ≠ .lCurly)) : DefSound H m :=
  defSoundG_of_loose (fun _ _ hl => hl) H m h

end Apollo.Parse.Exact
