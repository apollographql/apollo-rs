import ApolloModel.Proofs.ParserExactS10
/-
EXACT SOUNDNESS (namespace Apollo.Parse.Exact): acceptance = grammar at state level for variable definitions,
operation definitions and fragment definitions (the two halves are `*_sound` of ParserExactS10 and `*_complete` of
ParserExactC12, both for the exact budget).
-/
set_option linter.unusedSimpArgs false
namespace Apollo.Parse.Exact
open Apollo.Rowan hiding Str
open Apollo.Lex hiding Str

theorem cons_split {s s' : PState} {P : List Ast.Tok → Prop} {cs : List Tok} {q0 : Tok} {rest : List Tok}
    (c : Cons s s' P) (ht : Toks s = cs ++ q0 :: rest) (ht' : Toks s' = q0 :: rest) : ∃ x, TokIs (sig cs) x ∧ P x := by
  obtain ⟨cs', x, a, _, _, d, e⟩ := c
  have hcs : cs' = cs := by
    rw [ht, ht'] at a
    exact (List.append_cancel_right a).symm
  subst hcs
  exact ⟨x, d, e⟩

theorem variableDefinitions_iff (n : Nat) (s s' : PState) (t : Tok) (tl : List Tok) (q0 : Tok) (rest : List Tok) (w : TW s)
    (he : EofEnd s) (hnd0 : ¬ Doomed s) (ht : Toks s = (t :: tl) ++ q0 :: rest) (hk : t.kind = .lParen) (hq : Sigf q0)
    (h : (variableDefinitions n).run s = .ok () s') :
    (¬ Doomed s' ∧ Toks s' = q0 :: rest) ↔ ∃ x, TokIs (sig (t :: tl)) x ∧ LVarDefs (s.recLimit - s.recCur) x := by
  constructor
  · rintro ⟨hnd, ht'⟩
    exact cons_split (variableDefinitions_sound n s s' t _ w he (by rw [ht]; rfl) hk h hnd) ht ht'
  · rintro ⟨x, h1, h2⟩
    have hhead : HeadSig (t :: tl) := by
      intro hd tl' e; injection e with e _; subst e; unfold Sigf; rw [hk]; rfl
    obtain ⟨e, t', _⟩ := cmp_variableDefinitions n s s' () (t :: tl) x q0 rest w h h2 ⟨h1, hhead⟩ ht hq trivial trivial
    exact ⟨fun d => hnd0 (e.doom.mp d), t'⟩

/-- **`operation_definition`, acceptance iff grammar** (one run): with the queue `cs ++ q0 :: rest` (`cs` not starting
    with an ignored token, `q0` significant), the run ended error-free right in front of `q0` exactly when `cs` spells a
    full operation definition or a shorthand `{ Selection+ }` within the exact budget -/
theorem operationDefinition_iff (n : Nat) (s s' : PState) (cs : List Tok) (q0 : Tok) (rest : List Tok) (w : TW s)
    (he : EofEnd s) (hnd0 : ¬ Doomed s) (ht : Toks s = cs ++ q0 :: rest) (hhead : HeadSig cs) (hq : Sigf q0)
    (h : (operationDefinition n).run s = .ok () s') :
    (¬ Doomed s' ∧ Toks s' = q0 :: rest) ↔ ∃ x, TokIs (sig cs) x ∧ LOperation (s.recLimit - s.recCur) x := by
  constructor
  · rintro ⟨hnd, ht'⟩
    exact cons_split (operationDefinition_sound n s s' w he h hnd) ht ht'
  · rintro ⟨x, h1, h2⟩
    obtain ⟨e, t, _⟩ := operationDefinition_complete n s s' () cs x q0 rest w h h2 ⟨h1, hhead⟩ ht hq trivial trivial
    exact ⟨fun d => hnd0 (e.doom.mp d), t⟩

/-- **`fragment_definition`, acceptance iff grammar** (one run, entered on the keyword `fragment` as the document
    dispatch does) -/
theorem fragmentDefinition_iff (n : Nat) (s s' : PState) (t : Tok) (tl : List Tok) (q0 : Tok) (rest : List Tok) (w : TW s)
    (he : EofEnd s) (hnd0 : ¬ Doomed s) (ht : Toks s = (t :: tl) ++ q0 :: rest) (hk : t.kind = .name)
    (hd : t.data = "fragment".toList) (hq : Sigf q0)
    (h : (fragmentDefinition n).run s = .ok () s') :
    (¬ Doomed s' ∧ Toks s' = q0 :: rest) ↔ ∃ x, TokIs (sig (t :: tl)) x ∧ LFragment (s.recLimit - s.recCur) x := by
  constructor
  · rintro ⟨hnd, ht'⟩
    exact cons_split (fragmentDefinition_sound n s s' t _ w he (by rw [ht]; rfl) hk hd h hnd) ht ht'
  · rintro ⟨x, h1, h2⟩
    have hhead : HeadSig (t :: tl) := by
      intro hd' tl' e; injection e with e _; subst e; unfold Sigf; rw [hk]; rfl
    obtain ⟨e, t', _⟩ := fragmentDefinition_complete n s s' () (t :: tl) x q0 rest w h h2 ⟨h1, hhead⟩ ht hq trivial trivial
    exact ⟨fun d => hnd0 (e.doom.mp d), t'⟩

end Apollo.Parse.Exact
