import ApolloModel.Proofs.ParserDoc3
/-
C05, top level: `DefLemmas` instantiated from the lemmas for the executable definitions
(Proofs/ParserSel9.lean) and those for the type-system definitions and extensions (Proofs/ParserDef15–16.lean),
and `acc_fragmentDefinition_desc` (`fragment_definition` entered on a description is never error-free).
-/
set_option linter.unusedSimpArgs false
namespace Apollo.Parse
open Apollo.Rowan hiding Str
open Apollo.Lex hiding Str

theorem Acc.or {α : Type} {E : PState → Prop} {H1 H2 : List Tok → Prop} {m : PI α} {R : α → List Ast.Tok → Prop}
    (h1 : Acc E H1 m R) (h2 : Acc E H2 m R) : Acc E (fun q => H1 q ∨ H2 q) m R :=
  ⟨h1.1, fun s a s' w he hq hr hnd => hq.elim (fun h => h1.2 s a s' w he h hr hnd) (fun h => h2.2 s a s' w he h hr hnd)⟩

theorem Exact.defStart_of_DStart (word : String) (q : List Tok) (h : DStart word.toList q) : DefStart word q := by
  obtain ⟨t, rest, rfl, hor⟩ := h
  rcases hor with ⟨_, hd⟩ | ⟨hk, t2, h2, hd2⟩
  · exact Or.inl ⟨t, rfl, hd⟩
  · exact Or.inr ⟨t, rest, t2, rfl, hk, h2, hd2⟩

theorem dstart_defStart {word : String} {q : List Tok} (h : LexQ q ∧ DStart word.toList q) : LexQ q ∧ DefStart word q :=
  ⟨h.1, Exact.defStart_of_DStart word q h.2⟩

theorem estart_ext2 {word : String} {q : List Tok} (h : LexQ q ∧ EStart word.toList q) : LexQ q ∧ Ext2 "extend" word q := by
  obtain ⟨hl, t, rest, t2, rfl, _, hd, h2, hd2⟩ := h
  exact ⟨hl, t, rest, t2, rfl, hd, h2, hd2⟩

theorem dstart_fragment {q : List Tok} (h : LexQ q ∧ DStart "fragment".toList q) :
    AtFragmentKw q ∨ HeadP (fun t : Tok => t.kind = .stringValue) q := by
  obtain ⟨hl, t, rest, rfl, h⟩ := h
  rcases h with ⟨_, hd⟩ | ⟨hk, _⟩
  · left
    have hk : t.kind = .name := hl t (List.mem_cons_self ..) 'f' "ragment".toList (by rw [hd]; rfl) (by decide)
    exact ⟨t, rfl, hk, hd⟩
  · right
    exact ⟨t, rfl, hk⟩

private theorem isDef_loose {x : List Ast.Tok} (l : LooseDef) (e : x = l.toks) : IsDef x := .inr (.inr ⟨l, e⟩)

/-- **`DefLemmas` holds**: every definition parser, entered the way the dispatcher enters it, consumes ONE definition -/
theorem defLemmas (n : Nat) : DefLemmas n where
  directive := (ent_directive n).mono (fun _ h => dstart_defStart h) (by
    rintro _ x ⟨desc, nm, args, rep, lead, first, rest, e, _, _⟩
    exact isDef_loose (.directive desc nm args rep lead first rest) e)
  enumDef := (ent_enum n).mono (fun _ h => dstart_defStart h) (by
    rintro _ x ⟨desc, nm, ds, vs, e⟩; exact isDef_loose (.enum desc nm ds vs) e)
  fragment := ((acc_fragmentDefinition n).mono (fun _ h => h) (fun _ x h => (.inr (.inl h) : IsDef x))
      |>.or (acc_fragmentDefinition_desc n)).mono
    (fun _ h => dstart_fragment h) (fun _ _ h => h)
  input := (ent_input n).mono (fun _ h => dstart_defStart h) (by
    rintro _ x ⟨desc, nm, ds, fs, e⟩; exact isDef_loose (.input desc nm ds fs) e)
  interface := (ent_interface n).mono (fun _ h => dstart_defStart h) (by
    rintro _ x ⟨desc, nm, impl, ds, fs, e⟩; exact isDef_loose (.interface desc nm impl ds fs) e)
  object := (ent_object n).mono (fun _ h => dstart_defStart h) (by
    rintro _ x ⟨desc, nm, impl, ds, fs, e⟩; exact isDef_loose (.object desc nm impl ds fs) e)
  opQuery := (acc_operationDefinition n).mono (fun _ _ => trivial) (fun _ _ h => .inl h)
  opMutation := (acc_operationDefinition n).mono (fun _ _ => trivial) (fun _ _ h => .inl h)
  opSubscription := (acc_operationDefinition n).mono (fun _ _ => trivial) (fun _ _ h => .inl h)
  opShorthand := (acc_operationDefinition n).mono (fun _ _ => trivial) (fun _ _ h => .inl h)
  scalar := (ent_scalar n).mono (fun _ h => dstart_defStart h) (by
    rintro _ x ⟨desc, nm, ds, e⟩; exact isDef_loose (.scalar desc nm ds) e)
  schema := (ent_schema n).mono (fun _ h => dstart_defStart h) (by
    rintro _ x ⟨desc, ds, roots, _, e⟩; exact isDef_loose (.schema desc ds roots) e)
  union := (ent_union n).mono (fun _ h => dstart_defStart h) (by
    rintro _ x ⟨desc, nm, ds, ms, e⟩; exact isDef_loose (.union desc nm ds ms) e)
  schemaExt := (accL_schemaExtension n).mono (fun _ h => estart_ext2 h) (by
    rintro _ x ⟨ds, roots, e⟩; exact isDef_loose (.schemaExt ds roots) e)
  scalarExt := (accL_scalarTypeExtension n).mono (fun _ h => estart_ext2 h) (by
    rintro _ x ⟨nm, ds, e⟩; exact isDef_loose (.scalarExt nm ds) e)
  objectExt := (accL_objectTypeExtension n).mono (fun _ h => estart_ext2 h) (by
    rintro _ x ⟨nm, impl, ds, fs, e⟩; exact isDef_loose (.objectExt nm impl ds fs) e)
  interfaceExt := (accL_interfaceTypeExtension n).mono (fun _ h => estart_ext2 h) (by
    rintro _ x ⟨nm, impl, ds, fs, e⟩; exact isDef_loose (.interfaceExt nm impl ds fs) e)
  unionExt := (accL_unionTypeExtension n).mono (fun _ h => estart_ext2 h) (by
    rintro _ x ⟨nm, ds, ms, e⟩; exact isDef_loose (.unionExt nm ds ms) (by rw [e]; simp [LooseDef.toks, kwE]))
  enumExt := (accL_enumTypeExtension n).mono (fun _ h => estart_ext2 h) (by
    rintro _ x ⟨nm, ds, vs, e⟩; exact isDef_loose (.enumExt nm ds vs) e)
  inputExt := (accL_inputObjectTypeExtension n).mono (fun _ h => estart_ext2 h) (by
    rintro _ x ⟨nm, ds, fs, e⟩; exact isDef_loose (.inputExt nm ds fs) e)

/-- **document_accept_sound, unconditional.** -/
theorem document_accept_sound' (rl : Nat) (src : Str) (root : Elem)
    (h : (parse .document none rl src).outcome = .tree root) (herr : (parse .document none rl src).errors = []) :
    LexClean src ∧ ∃ ts x e, sig (srcToks src) = ts ++ [e] ∧ e.kind = .eof ∧ TokIs ts x ∧ IsDocumentToks x :=
  document_accept_sound defLemmas rl src root h herr

end Apollo.Parse
