import ApolloModel.Proofs.ParserType3
/-
C07 / C05, type entry point: the soundness induction.  It is carried out in `Apollo.Parse.Exact`, with the recursion
budget in its statement (`Exact.TyOk`: the list nesting of the type consumed is within the budget of the start
state); `TyOk` is that statement with the depth forgotten.
-/
set_option linter.unusedSimpArgs false
namespace Apollo.Parse
open Apollo.Rowan hiding Str
open Apollo.Lex hiding Str

def IsBase (t : Ast.Ty) : Prop := (∃ n, t = .named n) ∨ (∃ u, t = .list u)

/-- `skip_ignored` right after a `start_node` whose caller has peeked a significant token -/
theorem withNode_peeked {α : Type} (kind : SK) (body : PI α) (s s' : PState) (a : α) (t : Tok) (rest : List Tok)
    (w : TW s) (ht : Toks s = t :: rest) (hni : isIgnoredKind t.kind = false)
    (h : (withNode kind body).run s = .ok a s') :
    ∃ s1 s2, Eat s s1 [] ∧ body.run s1 = .ok a s2 ∧ ObsEq s2 s' := by
  obtain ⟨s0, s2, o0, hr, o2⟩ := withNode_dec kind body s s' a h
  obtain ⟨_, s1, hs, hb⟩ := bind_dec skipIgnored _ s0 s2 a hr
  obtain ⟨ign, e, hall, _⟩ := skipIgnored_spec s0 s1 (o0.w w) hs
  have e0 := Eat.ofObsEq o0 w
  have : ign = [] := skip_nothing s0 s1 t rest ign (by rw [o0.toks]; exact ht) hni e hall
  subst this
  exact ⟨s1, s2, by simpa using e0.trans e, hb, o2⟩

theorem withNode_entered {α : Type} (kind : SK) (body : PI α) (s s' : PState) (a : α) (t : Tok) (rest : List Tok)
    (w : TW s) (he : EofEnd s) (ht : Toks s = t :: rest) (hni : isIgnoredKind t.kind = false)
    (h : (withNode kind body).run s = .ok a s') (hnd : ¬ Doomed s') :
    ∃ s1 s2, Eat s s1 [] ∧ body.run s1 = .ok a s2 ∧ ObsEq s2 s' ∧ Toks s1 = t :: rest ∧ EofEnd s1 ∧ ¬ Doomed s2 := by
  obtain ⟨s1, s2, e1, h1, o2⟩ := withNode_peeked kind body s s' a t rest w ht hni h
  have ht1 : Toks s1 = t :: rest := by have := e1.toks; rw [ht] at this; simpa using this.symm
  exact ⟨s1, s2, e1, h1, o2, ht1, eofEnd_eat he e1 (by intro x hx; cases hx), fun d => hnd (o2.doomed.mpr d)⟩

theorem nameBranch_sound (s s' : PState) (r : TyRes) (t : Tok) (rest : List Tok) (w : TW s)
    (ht : Toks s = t :: rest) (hk : t.kind = .name)
    (h : (withNode "NAMED_TYPE" (withNode "NAME" (do eat "IDENT"; pure TyRes.ok))).run s = .ok r s') :
    r = .ok ∧ Eat s s' [t] := by
  have hni : isIgnoredKind t.kind = false := by rw [hk]; rfl
  obtain ⟨s1, s2, e1, h1, o2⟩ := withNode_peeked _ _ s s' r t rest w ht hni h
  have ht1 : Toks s1 = t :: rest := by have := e1.toks; rw [ht] at this; simpa using this.symm
  obtain ⟨s3, s4, e3, h3, o4⟩ := withNode_peeked _ _ s1 s2 r t rest e1.w ht1 hni h1
  have ht3 : Toks s3 = t :: rest := by have := e3.toks; rw [ht1] at this; simpa using this.symm
  obtain ⟨_, s5, h5, h6⟩ := bind_dec (eat "IDENT") _ s3 s4 r h3
  replace h6 := pure_dec h6
  obtain ⟨h6, rfl⟩ := h6
  refine ⟨h6.symm, ?_⟩
  have e5 := (eat_head "IDENT" s3 s5 t rest e3.w ht3 h5).1
  simpa using (((e1.trans e3).trans e5).trans (Eat.ofObsEq o4 e5.w)).trans (Eat.ofObsEq o2 (o4.w e5.w))

theorem otherBranch_sound (s s' : PState) (r : TyRes) (t : Tok) (hc : s.current = some t) (w : TW s)
    (h : (popDrop >>= fun o => match o with
        | some t => (pure (TyRes.errTok t) : PI TyRes)
        | none => pure TyRes.errNone).run s = .ok r s') : r = .errTok t := by
  obtain ⟨o, s1, h1, h2⟩ := bind_dec popDrop _ s s' r h
  obtain ⟨_, ho⟩ := popDrop_spec s s1 o w h1
  rw [hc] at ho
  subst ho
  simp only [] at h2
  rw [run_pure] at h2
  injection h2 with h2 _
  exact h2.symm

theorem isTy_list (a b : Tok) (c : List Tok) (u : Ast.Ty) (ha : a.kind = .lBracket) (hb : b.kind = .rBracket)
    (h : IsTy c u) : IsTy (a :: c ++ [b]) (.list u) := by
  unfold IsTy at *
  simp [Ast.tTy, astOf, ha, hb, h]

theorem isTy_named (t : Tok) (hk : t.kind = .name) : IsTy [t] (.named t.data) := by
  simp [IsTy, Ast.tTy, astOf, hk]

def tyDepth : Ast.Ty → Nat
  | .named _ | .nonNullNamed _ => 0
  | .list t | .nonNullList t => tyDepth t + 1

/-- what a successful, error-free run of `ty.rs::parse` means -/
structure TyOk (s s' : PState) : Prop where
  ex : ∃ c t, Toks s = c ++ Toks s' ∧ IsTy (sig c) t ∧ NoEof c
  eof : EofEnd s'
  settled : Settled s'

def TySound (n : Nat) : Prop :=
  ∀ s s' r, TW s → EofEnd s → (tyParse n).run s = .ok r s' → ¬ Doomed s' →
    (∃ tk, r = TyRes.errTok tk) ∨ (r = TyRes.ok ∧ TyOk s s')

namespace Exact

def bud (s : PState) : Nat := s.recLimit - s.recCur

theorem bud_eat {s s' : PState} {c : List Tok} (e : Eat s s' c) : bud s' = bud s := by unfold bud; rw [e.recLimit, e.recCur]
theorem bud_adv {s s' : PState} (a : Adv s s') : bud s' = bud s := by unfold bud; rw [a.recLimit, a.recCur]
theorem bud_peek {s s' : PState} {o : Option Tok} (p : PeekObs s s' o) : bud s' = bud s := by unfold bud; rw [p.recLimit, p.recCur]
theorem bud_obs {s s' : PState} (o : ObsEq s s') : bud s' = bud s := by unfold bud; rw [o.recLimit, o.recCur]

/-- what a successful, error-free run of `ty.rs::parse` means -/
structure TyOk (s s' : PState) : Prop where
  ex : ∃ c t, Toks s = c ++ Toks s' ∧ IsTy (sig c) t ∧ NoEof c ∧ tyDepth t ≤ bud s
  eof : EofEnd s'
  settled : Settled s'

def TySound (n : Nat) : Prop :=
  ∀ s s' r, TW s → EofEnd s → (tyParse n).run s = .ok r s' → ¬ Doomed s' →
    (∃ tk, r = TyRes.errTok tk) ∨ (r = TyRes.ok ∧ TyOk s s')

theorem isTy_bang (b : Tok) (c : List Tok) (u : Ast.Ty) (hb : b.kind = .bang) (hu : IsBase u) (h : IsTy c u) :
    ∃ u', IsTy (c ++ [b]) u' ∧ tyDepth u' = tyDepth u := by
  unfold IsTy at *
  have hb' : astOf b = some (.p .bang) := by simp [astOf, hb]
  rcases hu with ⟨n, rfl⟩ | ⟨v, rfl⟩
  · refine ⟨.nonNullNamed n, ?_, by simp [tyDepth]⟩
    rw [List.map_append, h]
    simp [Ast.tTy, hb']
  · refine ⟨.nonNullList v, ?_, by simp [tyDepth]⟩
    rw [List.map_append, h]
    simp [Ast.tTy, hb']

theorem listBranch_sound (n : Nat) (ih : TySound n) (s s' : PState) (r : TyRes) (t : Tok) (rest : List Tok) (w : TW s)
    (he : EofEnd s) (ht : Toks s = t :: rest) (hk : t.kind = .lBracket)
    (h : (withNode "LIST_TYPE" (tyListBody n)).run s = .ok r s') (hnd : ¬ Doomed s') :
    r = .ok ∧ ∃ c u, Toks s = c ++ Toks s' ∧ IsTy (sig c) (.list u) ∧ NoEof c ∧ EofEnd s' ∧ tyDepth u + 1 ≤ bud s := by
  have hni : isIgnoredKind t.kind = false := by rw [hk]; rfl
  have hne : t.kind ≠ .eof := by rw [hk]; decide
  obtain ⟨s1, s2, e1, h1, o2, ht1, he1, hnd2⟩ := withNode_entered _ _ s s' r t rest w he ht hni h hnd
  -- the rest of the body is Good: no doom so far
  have gl := good_tyListBody n (good_tyParse n)
  unfold tyListBody at h1
  obtain ⟨_, s3, h3, h4⟩ := bind_dec (bump "L_BRACK") _ s1 s2 r h1
  unfold bump at h3
  obtain ⟨_, s3a, h3a, h3b⟩ := bind_dec (eat "L_BRACK") _ s1 s3 () h3
  have eb : Eat s1 s3a [t] := (eat_head "L_BRACK" s1 s3a t rest e1.w ht1 h3a).1
  obtain ⟨ign1, es, hall1, _⟩ := skipIgnored_spec s3a s3 eb.w h3b
  have e13 : Eat s1 s3 (t :: ign1) := by simpa using eb.trans es
  have he3 : EofEnd s3 := eofEnd_eat he1 e13
    (by intro x hx; rcases List.mem_cons.mp hx with rfl | hx; exact hne; exact noEof_ignored ign1 hall1 x hx)
  -- the recursion guard
  obtain ⟨inner, s4, h5, h6⟩ := bind_dec _ _ s3 s2 r h4
  -- everything after s4 is Good, so s4 is not doomed either; same for later states
  rcases withRec_dec _ _ s3 s4 inner h5 with ⟨_, sl, ol, hl⟩ | ⟨hle, sr1, sr2, c1, l1, er1, a1, r1, rl1, hr, c2, l2, er2, a2, r2, rl2⟩
  · -- recursion limit reached: `limit_err` dooms the parse
    exfalso
    obtain ⟨_, sl2, hl1, hl2⟩ := bind_dec limitErr _ sl s4 inner hl
    obtain ⟨rfl, rfl⟩ := pure_dec hl2
    have wl : TW sl := ol.w e13.w
    obtain ⟨al, dl⟩ := limitErr_adv sl sl2 wl hl1
    have hdl : Doomed sl2 := by
      by_cases hd : Doomed s3
      · exact al.doom (ol.doomed.mpr hd)
      · exact dl (by rw [ol.toks]; exact eofEnd_nonempty s3 he3 hd)
    obtain ⟨-, rfl⟩ := pure_dec h6
    exact hnd2 hdl
  · -- the nested type
    have wr1 : TW sr1 := w_same _ _ e13.w er1 l1 a1
    have her1 : EofEnd sr1 := eofEnd_same _ _ he3 c1 l1 er1
    obtain ⟨res, sr2', hr1, hr2⟩ := bind_dec (tyParse n) _ sr1 sr2 inner hr
    obtain ⟨rfl, rfl⟩ := pure_dec hr2
    have adv_r := good_tyParse n sr1 res sr2' wr1 hr1
    have w4 : TW s4 := w_same _ _ adv_r.w er2 l2 a2
    -- the tail: match res …; expect; pure ok
    simp only [] at h6
    have tail_good : ∀ (m : PI TyRes), Good m → m.run s4 = .ok r s2 → ¬ Doomed s4 := by
      intro m gm hm d
      exact hnd2 ((gm s4 r s2 w4 hm).doom d)
    have jp_good : Good (expect .rBracket "R_BRACK" >>= fun _ => (pure TyRes.ok : PI TyRes)) :=
      good_bind _ _ (good_expect _ _) (fun _ => good_pure _)
    have key : ∀ (hnd4 : ¬ Doomed s4) (hjp : (expect .rBracket "R_BRACK" >>= fun _ => (pure TyRes.ok : PI TyRes)).run s4 = .ok r s2)
        (hres : res = .ok ∨ res = .errNone ∨ res = .early),
        r = .ok ∧ ∃ c u, Toks s = c ++ Toks s' ∧ IsTy (sig c) (.list u) ∧ NoEof c ∧ EofEnd s' ∧ tyDepth u + 1 ≤ bud s := by
      intro hnd4 hjp hres
      have hndr : ¬ Doomed sr2' := fun d => hnd4 ((doomed_same _ _ er2 l2).mpr d)
      rcases ih sr1 sr2' res wr1 her1 hr1 hndr with ⟨tk, hx⟩ | ⟨_, ok⟩
      · rcases hres with h | h | h <;> rw [h] at hx <;> cases hx
      · obtain ⟨ci, u, hti, hty, hnoe, hdu⟩ := ok.ex
        have he4 : EofEnd s4 := eofEnd_same _ _ ok.eof c2 l2 er2
        have ht4 : Toks s4 = Toks sr2' := by unfold Toks; rw [c2, l2]
        obtain ⟨_, s5, h7, h8⟩ := bind_dec (expect .rBracket "R_BRACK") _ s4 s2 r hjp
        replace h8 := pure_dec h8
        obtain ⟨h8, rfl⟩ := h8
        refine ⟨h8.symm, ?_⟩
        obtain ⟨_, hex⟩ := expect_spec .rBracket "R_BRACK" s4 s5 w4 h7
        rcases hex with ⟨hemp, _⟩ | hd | ⟨t2, rest2, ign2, hq, hk2, e2, hall2, _⟩
        · exact absurd hemp (eofEnd_nonempty s4 he4 hnd4)
        · exact absurd hd hnd2
        · have hne2 : t2.kind ≠ .eof := by rw [hk2]; decide
          have hni2 : isIgnoredKind t2.kind = false := by rw [hk2]; rfl
          have hno2 : NoEof (t2 :: ign2) := by
            intro x hx; rcases List.mem_cons.mp hx with rfl | hx; exact hne2; exact noEof_ignored ign2 hall2 x hx
          refine ⟨t :: ign1 ++ ci ++ (t2 :: ign2), u, ?_, ?_, ?_, ?_, ?_⟩
          · have a := e1.toks
            have b := e13.toks
            have c' : Toks s3 = Toks sr1 := by unfold Toks; rw [c1, l1]
            have d := e2.toks
            rw [o2.toks]
            simp only [List.nil_append] at a
            rw [a, b, c', hti, ← ht4, d]
            simp [List.append_assoc]
          · have : sig (t :: ign1 ++ ci ++ (t2 :: ign2)) = t :: sig ci ++ [t2] := by
              have x1 : t :: ign1 ++ ci ++ (t2 :: ign2) = [t] ++ ign1 ++ ci ++ [t2] ++ ign2 := by simp
              rw [x1]
              simp only [sig_append, sig_ignored ign1 hall1, sig_ignored ign2 hall2, sig_single t hni, sig_single t2 hni2]
              simp
            rw [this]
            exact isTy_list t t2 (sig ci) u hk hk2 hty
          · refine noEof_append (noEof_append ?_ hnoe) hno2
            intro x hx; rcases List.mem_cons.mp hx with rfl | hx; exact hne; exact noEof_ignored ign1 hall1 x hx
          · exact eofEnd_same _ _ (eofEnd_eat he4 e2 hno2) o2.current o2.lx o2.errors
          · have hb1 : bud sr1 + 1 = bud s3 := by unfold bud; rw [r1, rl1]; omega
            have hb3 : bud s3 = bud s := by rw [bud_eat e13, bud_eat e1]
            omega
    cases res with
    | errTok tk =>
      exfalso
      simp only [] at h6
      obtain ⟨_, s5, h7, h8⟩ := bind_dec (errAtToken tk) _ s4 s2 r h6
      obtain ⟨a5, d5⟩ := errAtToken_adv tk s4 s5 w4 h7
      exact hnd2 ((jp_good s5 r s2 a5.w h8).doom d5)
    | ok => exact key (tail_good _ jp_good h6) h6 (Or.inl rfl)
    | errNone => exact key (tail_good _ jp_good h6) h6 (Or.inr (Or.inl rfl))
    | early => exact key (tail_good _ jp_good h6) h6 (Or.inr (Or.inr rfl))

theorem tyBody_sound (n : Nat) (ih : TySound n) (s s' : PState) (r : TyRes) (w : TW s) (he : EofEnd s)
    (h : (tyBody n).run s = .ok r s') (hnd : ¬ Doomed s') :
    (∃ tk, r = TyRes.errTok tk)
    ∨ (r = TyRes.ok ∧ ∃ c u, Toks s = c ++ Toks s' ∧ IsTy (sig c) u ∧ IsBase u ∧ NoEof c ∧ EofEnd s' ∧ tyDepth u ≤ bud s) := by
  unfold tyBody at h
  obtain ⟨k, sP, hp, h2⟩ := bind_dec peek _ s s' r h
  obtain ⟨o, p, hk⟩ := peek_obs s sP k w hp
  subst hk
  have heP : EofEnd sP := by
    rcases he with hd | hx
    · exact Or.inl (p.doom.mpr hd)
    · rw [← p.toks] at hx; exact Or.inr hx
  cases o with
  | none =>
    obtain ⟨-, rfl⟩ := pure_dec h2
    exact absurd p.nil (eofEnd_nonempty s he (fun d => hnd (p.doom.mpr d)))
  | some t =>
    have htP : Toks sP = t :: (Toks s).tail := by rw [p.toks]; exact p.cons
    have toS : ∀ c, Toks sP = c ++ Toks s' → Toks s = c ++ Toks s' := by intro c hc; rw [← p.toks]; exact hc
    simp only [Option.map_some] at h2
    by_cases hkl : t.kind = .lBracket
    · simp only [hkl] at h2
      obtain ⟨hr, c, u, hc, hty, hno, hee, hdu⟩ := listBranch_sound n ih sP s' r t _ p.w heP htP hkl h2 hnd
      exact Or.inr ⟨hr, c, .list u, toS c hc, hty, Or.inr ⟨u, rfl⟩, hno, hee, by rw [← bud_peek p]; simpa [tyDepth] using hdu⟩
    · by_cases hkn : t.kind = .name
      · simp only [hkn] at h2
        obtain ⟨hr, e⟩ := nameBranch_sound sP s' r t _ p.w htP hkn h2
        have hne : NoEof [t] := by intro x hx; simp at hx; subst hx; rw [hkn]; decide
        refine Or.inr ⟨hr, [t], .named t.data, toS _ e.toks, ?_, Or.inl ⟨_, rfl⟩, hne, eofEnd_eat heP e hne, by simp [tyDepth]⟩
        rw [sig_single t (by rw [hkn]; rfl)]
        exact isTy_named t hkn
      · refine Or.inl ⟨t, ?_⟩
        have hcur : sP.current = some t := p.current
        cases hk : t.kind <;>
          first
            | exact absurd hk hkl
            | exact absurd hk hkn
            | (simp only [hk] at h2; exact otherBranch_sound sP s' r t hcur p.w h2)

theorem tyParse_sound : ∀ (n : Nat), TySound n
  | 0 => by intro s s' r _ _ h; simp [tyParse, PI.outOfFuel] at h
  | n + 1 => by
    intro s s' r w he h hnd
    rw [tyParse_succ] at h
    obtain ⟨r0, sW, hw, h2⟩ := bind_dec _ _ s s' r h
    have gW : Good (wrapIf "NON_NULL_TYPE" (tyBody n) tyCond (eat "BANG")) :=
      good_wrapIf _ _ _ _ (good_tyBody n (good_tyParse n)) good_tyCond (good_eat _)
    have aW := gW s r0 sW w hw
    obtain ⟨s1, s2, s3, c, o1, hb, hc, hrest⟩ := wrapIf_dec _ _ _ _ s sW r0 hw
    have w1 := o1.w w
    have a2 := good_tyBody n (good_tyParse n) s1 r0 s2 w1 hb
    have a3 := good_tyCond r0 s2 c s3 a2.w hc
    have he1 : EofEnd s1 := eofEnd_same _ _ he o1.current o1.lx o1.errors
    -- the tail after the wrap: `match r with | .ok => skipIgnored | _ => pure (); pure r`
    cases r0 with
    | errTok tk => exact Or.inl ⟨tk, (pure_dec h2).1.symm⟩
    | errNone | early =>
      exfalso
      obtain ⟨-, rfl⟩ := pure_dec h2
      obtain ⟨rfl, rfl⟩ := pure_dec hc
      rcases hrest with ⟨_, rfl⟩ | ⟨hx, _⟩
      · rcases tyBody_sound n (tyParse_sound n) s1 _ _ w1 he1 hb hnd with ⟨tk, hx⟩ | ⟨hx, _⟩ <;> cases hx
      · cases hx
    | ok =>
      simp only [] at h2
      obtain ⟨_, sF, hf, h3⟩ := bind_dec skipIgnored _ sW s' r h2
      replace h3 := pure_dec h3
      obtain ⟨h3, rfl⟩ := h3
      refine Or.inr ⟨h3.symm, ?_⟩
      obtain ⟨ignB, eB, hallB, hsetB⟩ := skipIgnored_spec sW sF aW.w hf
      have hndW : ¬ Doomed sW := fun d => hnd (eB.doom.mpr d)
      -- the condition: skip_ignored, peek == `!`
      have hc' : (skipIgnored >>= fun _ => peek >>= fun k => (pure (k == some .bang) : PI Bool)).run s2 = .ok c s3 := hc
      obtain ⟨_, sA, hsA, hc2⟩ := bind_dec skipIgnored _ s2 s3 c hc'
      obtain ⟨ignA, eA, hallA, _⟩ := skipIgnored_spec s2 sA a2.w hsA
      obtain ⟨kk, sP, hpk, hc3⟩ := bind_dec peek _ sA s3 c hc2
      replace hc3 := pure_dec hc3
      obtain ⟨hc3, rfl⟩ := hc3
      obtain ⟨o, p, hkk⟩ := peek_obs sA sP kk eA.w hpk
      have e23 : Eat s2 sP ignA := by simpa using eA.trans p.eat
      rcases hrest with ⟨hcf, rfl⟩ | ⟨hct, s4, s5, o4, hi, o5⟩
      · -- no `!`
        have hnd2 : ¬ Doomed s2 := fun d => hndW (e23.doom.mpr d)
        rcases tyBody_sound n (tyParse_sound n) s1 s2 _ w1 he1 hb hnd2 with ⟨tk, hx⟩ | ⟨_, c0, u, hc0, hty, _, hno, hee, hdu⟩
        · cases hx
        · have etail : Eat s2 sF (ignA ++ ignB) := e23.trans eB
          have hnoT : NoEof (ignA ++ ignB) := noEof_append (noEof_ignored _ hallA) (noEof_ignored _ hallB)
          refine ⟨⟨c0 ++ (ignA ++ ignB), u, ?_, ?_, noEof_append hno hnoT, by rw [← bud_obs o1]; exact hdu⟩, eofEnd_eat hee etail hnoT, hsetB⟩
          · rw [← o1.toks, hc0, etail.toks]; simp [List.append_assoc]
          · rw [sig_append, sig_append, sig_ignored _ hallA, sig_ignored _ hallB]; simpa using hty
      · -- `!`: wrap into NON_NULL_TYPE
        have hbang : ∃ tb, o = some tb ∧ tb.kind = .bang := by
          rw [hkk] at hc3
          cases o with
          | none => rw [hct] at hc3; simp at hc3
          | some tb => rw [hct] at hc3; exact ⟨tb, rfl, by simpa using hc3.symm⟩
        obtain ⟨tb, rfl, hkb⟩ := hbang
        have w4 : TW s4 := o4.w p.w
        have ht4 : Toks s4 = tb :: (Toks sA).tail := by rw [o4.toks, p.toks]; exact p.cons
        have e45 : Eat s4 s5 [tb] := (eat_head "BANG" s4 s5 tb _ w4 ht4 hi).1
        have e2F : Eat s2 sF (ignA ++ [tb] ++ ignB) := by
          have := (((e23.trans (Eat.ofObsEq o4 p.w)).trans e45).trans (Eat.ofObsEq o5 e45.w)).trans eB
          simpa using this
        have hnd2 : ¬ Doomed s2 := fun d => hnd (e2F.doom.mpr d)
        rcases tyBody_sound n (tyParse_sound n) s1 s2 _ w1 he1 hb hnd2 with ⟨tk, hx⟩ | ⟨_, c0, u, hc0, hty, hbase, hno, hee, hdu⟩
        · cases hx
        · have hnb : NoEof [tb] := by intro x hx; simp at hx; subst hx; rw [hkb]; decide
          have hnoT : NoEof (ignA ++ [tb] ++ ignB) :=
            noEof_append (noEof_append (noEof_ignored _ hallA) hnb) (noEof_ignored _ hallB)
          obtain ⟨u', hu', hdu'⟩ := isTy_bang tb (sig c0) u hkb hbase hty
          refine ⟨⟨c0 ++ (ignA ++ [tb] ++ ignB), u', ?_, ?_, noEof_append hno hnoT, by rw [hdu', ← bud_obs o1]; exact hdu⟩, eofEnd_eat hee e2F hnoT, hsetB⟩
          · rw [← o1.toks, hc0, e2F.toks]; simp [List.append_assoc]
          · rw [sig_append, sig_append, sig_append, sig_ignored _ hallA, sig_ignored _ hallB,
              sig_single tb (by rw [hkb]; rfl)]
            simpa using hu'

theorem TyOk.forget {s s' : PState} (h : TyOk s s') : Parse.TyOk s s' := by
  obtain ⟨⟨c, t, a, b, d, _⟩, e, f⟩ := h
  exact ⟨⟨c, t, a, b, d⟩, e, f⟩

end Exact

theorem tyParse_sound : ∀ (n : Nat), TySound n :=
  fun n s s' r w he h hnd => (Exact.tyParse_sound n s s' r w he h hnd).imp id (fun ⟨hr, ok⟩ => ⟨hr, ok.forget⟩)

end Apollo.Parse
