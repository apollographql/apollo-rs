import ApolloModel.Proofs.ParserValue9
import ApolloModel.Proofs.ParserType5
import ApolloModel.Proofs.AstDefTokens
/-
C05, exact acceptance: the languages of the productions as functions of the recursion budget `b` — which selections, variable
definitions, operations, fragments, input values, fields and enum values fit `b` (`fitSel`, `varFit`, `ivdFit`, …) and the token
lists they are printed as (`LSet`, `LVarDefs`, `LOperation`, `LIVD`, `LArgsDef`, …).  Soundness (the acceptance calculus) and
completeness speak about the same predicates.
-/
namespace Apollo.Parse
open Apollo.Rowan hiding Str
open Apollo.Lex hiding Str

/-- the tokens of a full (non-shorthand) operation definition -/
def tOperation (ty : Ast.OpType) (name : Option Ast.Str) (vars : List Ast.VarDef) (dirs : List Ast.Directive) (sels : Ast.Sels) :
    List Ast.Tok :=
  .name ty.name.toList :: (match name with | some n => [.name n] | none => []) ++ Ast.tVarDefs vars ++ Ast.tDirectives dirs
    ++ Ast.tSelSet sels

namespace Exact

/-! ### selections -/

mutual
/-- the selection fits the budget `b`: every `{ … }` level costs one, argument values cost their nesting;
    also the two side conditions of the grammar: a spread name is not `on`, an inline fragment has selections -/
def fitSel : Ast.Sel → Nat → Prop
  | .field _ _ args dirs sels, b => argsFit false b args ∧ dirsFit false b dirs ∧ fitSub sels b
  | .spread nm dirs, b => nm ≠ Ast.sOn ∧ dirsFit false b dirs
  | .inline _ dirs sels, b => dirsFit false b dirs ∧ sels ≠ .nil ∧ 1 ≤ b ∧ fitSels sels (b - 1)
def fitSels : Ast.Sels → Nat → Prop
  | .nil, _ => True
  | .cons s tl, b => fitSel s b ∧ fitSels tl b
def fitSub : Ast.Sels → Nat → Prop
  | .nil, _ => True
  | .cons s tl, b => 1 ≤ b ∧ fitSel s (b - 1) ∧ fitSels tl (b - 1)
end

/-- `{ Selection+ }` -/
def LSet (b : Nat) (x : List Ast.Tok) : Prop :=
  ∃ ss, ss ≠ Ast.Sels.nil ∧ x = .p .lCurly :: Ast.tSels ss ++ [.p .rCurly] ∧ 1 ≤ b ∧ fitSels ss (b - 1)

def LSels (b : Nat) (x : List Ast.Tok) : Prop := ∃ ss, ss ≠ Ast.Sels.nil ∧ x = Ast.tSels ss ∧ fitSels ss b

/-! ### variable definitions, operations, fragments -/

def varFit (b : Nat) (v : Ast.VarDef) : Prop :=
  tyDepth v.ty ≤ b ∧ (∀ d, v.default = some d → valueOk true d = true ∧ vdepth d ≤ b) ∧ dirsFit true b v.dirs

def LVarDef (b : Nat) (x : List Ast.Tok) : Prop := ∃ v : Ast.VarDef, x = Ast.tVarDef v ∧ varFit b v

def LVarDefs (b : Nat) (x : List Ast.Tok) : Prop := ∃ vs, vs ≠ [] ∧ x = Ast.tVarDefs vs ∧ ∀ v ∈ vs, varFit b v

def LOpFull (b : Nat) (x : List Ast.Tok) : Prop :=
  ∃ ty nm vs ds ss, x = tOperation ty nm vs ds ss ∧ (∀ v ∈ vs, varFit b v) ∧ dirsFit false b ds ∧
    ss ≠ Ast.Sels.nil ∧ 1 ≤ b ∧ fitSels ss (b - 1)

def LOperation (b : Nat) (x : List Ast.Tok) : Prop := LOpFull b x ∨ LSet b x

def LFragment (b : Nat) (x : List Ast.Tok) : Prop :=
  ∃ nm tc ds ss, x = Ast.tDefinition false (.fragment nm tc ds ss) ∧ nm ≠ Ast.sOn ∧ dirsFit false b ds ∧
    ss ≠ Ast.Sels.nil ∧ 1 ≤ b ∧ fitSels ss (b - 1)

/-! ### input values, fields, enum values -/

def ivdFit (b : Nat) (v : Ast.InputValueDef) : Prop :=
  tyDepth v.ty ≤ b ∧ (∀ d, v.default = some d → valueOk true d = true ∧ vdepth d ≤ b) ∧ dirsFit true b v.dirs

def LIVD (b : Nat) (x : List Ast.Tok) : Prop := ∃ v : Ast.InputValueDef, x = Ast.tIVD v ∧ ivdFit b v

/-- `( InputValueDefinition+ )` -/
def LArgsDef (b : Nat) (x : List Ast.Tok) : Prop := ∃ args, args ≠ [] ∧ x = Ast.tArgsDef args ∧ ∀ a ∈ args, ivdFit b a

/-- `{ InputValueDefinition+ }` -/
def LInputFields (b : Nat) (x : List Ast.Tok) : Prop :=
  ∃ fs, fs ≠ [] ∧ x = Ast.tBraced (Ast.tIVDItems fs) fs.isEmpty ∧ ∀ a ∈ fs, ivdFit b a

def fieldFit (b : Nat) (f : Ast.FieldDef) : Prop :=
  (∀ a ∈ f.args, ivdFit b a) ∧ tyDepth f.ty ≤ b ∧ dirsFit true b f.dirs

def LFieldDef (b : Nat) (x : List Ast.Tok) : Prop := ∃ f : Ast.FieldDef, x = Ast.tFieldDef f ∧ fieldFit b f

/-- `{ FieldDefinition+ }` -/
def LFields (b : Nat) (x : List Ast.Tok) : Prop :=
  ∃ fs, fs ≠ [] ∧ x = Ast.tBraced (Ast.tFieldDefItems fs) fs.isEmpty ∧ ∀ a ∈ fs, fieldFit b a

def enumValFit (b : Nat) (v : Ast.EnumValueDef) : Prop := isValueKeyword v.value = false ∧ dirsFit true b v.dirs

def LEnumVal (b : Nat) (x : List Ast.Tok) : Prop := ∃ v : Ast.EnumValueDef, x = Ast.tEnumValueDef v ∧ enumValFit b v

/-- `{ EnumValueDefinition+ }` -/
def LEnumVals (b : Nat) (x : List Ast.Tok) : Prop :=
  ∃ vs, vs ≠ [] ∧ x = Ast.tBraced (Ast.tEnumValueDefItems vs) vs.isEmpty ∧ ∀ a ∈ vs, enumValFit b a

end Exact
end Apollo.Parse
