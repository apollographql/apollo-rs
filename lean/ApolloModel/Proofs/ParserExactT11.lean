import ApolloModel.Proofs.ParserExactT10
/-
C05, exact soundness for the type-system family: `schema` definition and extension, the parts that do not depend on
which root operation types have their named type.  Because of the recorded C05 finding (`schema { query: }` parses with
zero errors) the clause `∀ r ∈ roots, r.2 ≠ none` of `looseFit` is NOT established by an error-free run; `looseFitX` is
`looseFit` without that clause.  The two productions themselves are in ParserExactT15.
-/
set_option linter.unusedSimpArgs false
namespace Apollo.Parse.Exact
open Apollo.Rowan hiding Str
open Apollo.Lex hiding Str

/-- `looseFit` without the requirement that every root operation type has its named type (the recorded C05 finding:
    the parser accepts `schema { query: }`) -/
def looseFitX (b : Nat) : LooseDef → Prop
  | .schema _ ds roots => dirsFit true b ds ∧ roots ≠ []
  | .schemaExt ds roots => (ds ≠ [] ∨ roots ≠ []) ∧ dirsFit true b ds
  | l => looseFit b l

theorem looseFitX_of_looseFit (b : Nat) (l : LooseDef) (h : looseFit b l) : looseFitX b l := by
  cases l <;> first
    | exact h
    | exact ⟨h.1, h.2.1⟩

theorem looseFit_of_looseFitX (b : Nat) (l : LooseDef)
    (hr : ∀ d ds roots, (l = .schema d ds roots ∨ l = .schemaExt ds roots) → ∀ r ∈ roots, r.2 ≠ none)
    (h : looseFitX b l) : looseFit b l := by
  cases l <;> first
    | exact h
    | exact ⟨h.1, h.2, hr _ _ _ (Or.inl rfl)⟩
    | exact ⟨h.1, h.2, hr none _ _ (Or.inr rfl)⟩

theorem kwShape_split (word : String) (sk : SK) (tail : PI Unit) (s s' : PState)
    (h : (optKind .stringValue description (optKw word sk tail)).run s = .ok () s') :
    ∃ s1, (optKind .stringValue description (optKw word sk (pure ()))).run s = .ok () s1 ∧ tail.run s1 = .ok () s' := by
  unfold optKind optKw at *
  have hkw : ∀ q q', (peekData >>= fun d => if kwOpt word d then (bump sk >>= fun _ => tail) else tail).run q = .ok () q' →
      ∃ s1, (peekData >>= fun d => if kwOpt word d then (bump sk >>= fun _ => (pure () : PI Unit)) else (pure () : PI Unit)).run q = .ok () s1 ∧
        tail.run s1 = .ok () q' := by
    intro q q' hq
    obtain ⟨d, qd, a, b⟩ := bind_dec peekData _ q q' () hq
    by_cases hc : kwOpt word d = true
    · simp only [hc, if_true] at b
      obtain ⟨_, qb, b1, b2⟩ := bind_dec (bump sk) _ qd q' () b
      exact ⟨qb, bind_intro _ _ q qd d _ a (by simp only [hc, if_true]; exact bind_intro _ _ qd qb () _ b1 rfl), b2⟩
    · simp only [hc, Bool.false_eq_true, if_false] at b
      exact ⟨qd, bind_intro _ _ q qd d _ a (by simp only [hc, Bool.false_eq_true, if_false]; rfl), b⟩
  obtain ⟨k, qp, a, b⟩ := bind_dec peek _ s s' () h
  by_cases hc : (k == some Kind.stringValue) = true
  · simp only [hc, if_true] at b
    obtain ⟨_, qb, b1, b2⟩ := bind_dec description _ qp s' () b
    obtain ⟨s1, c1, c2⟩ := hkw qb s' b2
    exact ⟨s1, bind_intro _ _ s qp k _ a (by simp only [hc, if_true]; exact bind_intro _ _ qp qb () _ b1 c1), c2⟩
  · simp only [hc, Bool.false_eq_true, if_false] at b
    obtain ⟨s1, c1, c2⟩ := hkw qp s' b
    exact ⟨s1, bind_intro _ _ s qp k _ a (by simp only [hc, Bool.false_eq_true, if_false]; exact c1), c2⟩

theorem good_rootOp : Good rootOperationTypeDefinition := (acc_rootOperationTypeDefinition (E := fun _ => False) early_false).1

theorem se_rootsBlock (K : PI Unit) (gK : Good K) (hK : SE K) : SE (rootsBlock K) := by
  unfold rootsBlock
  exact se_bindR (good_bump _) (fun _ => se_bindR good_srcLen (fun len =>
    se_bindR (good_flagLoop .name rootOperationTypeDefinition good_rootOp (len + 3) false)
      (fun has => se_ite _ _ _ (se_bindR good_err (fun _ => hK)) hK)))

theorem good_rootsBlock (K : PI Unit) (gK : Good K) : Good (rootsBlock K) := by
  unfold rootsBlock
  exact good_bind _ _ (good_bump _) (fun _ => good_bind _ _ good_srcLen (fun len =>
    good_bind _ _ (good_flagLoop .name rootOperationTypeDefinition good_rootOp (len + 3) false)
      (fun has => good_ite _ _ _ (good_bind _ _ good_err (fun _ => gK)) gK)))

theorem good_sBraces : Good sBraces := by
  unfold sBraces
  exact good_bind _ _ good_peek (fun _ => good_ite _ _ _ (good_rootsBlock _ (good_expect _ _)) good_err)

theorem se_sBraces : SE sBraces := by
  unfold sBraces
  exact se_bindR good_peek (fun _ => se_ite _ _ _ (se_rootsBlock _ (good_expect _ _) (se_expect _ _)) se_err)

theorem schemaDef_settled (n : Nat) (s s' : PState) (w : TW s) (hr : (schemaDefinition n).run s = .ok () s') (hnd : ¬ Doomed s') :
    Settled s' := by
  rw [schemaDefinition_eq] at hr
  have hT : SE (optKind .at (directives n true) sBraces) :=
    se_bindR good_peek (fun _ => se_ite _ _ _ (se_bindR (good_directives n true) (fun _ => se_sBraces)) se_sBraces)
  have hK : SE (optKw "schema" "schema_KW" (optKind .at (directives n true) sBraces)) :=
    se_bindR good_peekData (fun _ => se_ite _ _ _ (se_bindR (good_bump _) (fun _ => hT)) hT)
  have hB : SE (optKind .stringValue description (optKw "schema" "schema_KW" (optKind .at (directives n true) sBraces))) :=
    se_bindR good_peek (fun _ => se_ite _ _ _ (se_bindR (acc_description (E := fun _ => False) early_false).1 (fun _ => hK)) hK)
  rcases se_withNode _ _ hB.sp s () s' w hr with h1 | h1
  · exact h1
  · exact absurd h1 hnd

/-! ### schema extension -/

theorem good_schemaExtBraces (m : Bool) : Good (schemaExtBraces m) := by
  unfold schemaExtBraces
  exact good_bind _ _ good_peek (fun _ => good_ite _ _ _
    (good_rootsBlock _ (good_bind _ _ (good_expect _ _) (fun _ => good_extEnd true))) (good_extEnd m))

theorem sp_schemaExtBraces (m : Bool) : SP (schemaExtBraces m) := by
  unfold schemaExtBraces
  have gK : Good (expect .rCurly "R_CURLY" >>= fun _ => extEnd true) := good_bind _ _ (good_expect _ _) (fun _ => good_extEnd true)
  have hK : SE (expect .rCurly "R_CURLY" >>= fun _ => extEnd true) :=
    se_bindL (good_expect _ _) (fun _ => good_extEnd true) (se_expect _ _) (fun _ => sp_extEnd true)
  exact sp_bind good_peek (fun _ => good_ite _ _ _ (good_rootsBlock _ gK) (good_extEnd m)) sp_peek
    (fun _ => sp_ite _ _ _ (se_rootsBlock _ gK hK).sp (sp_extEnd m))

end Apollo.Parse.Exact
