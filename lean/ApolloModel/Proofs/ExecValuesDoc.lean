import ApolloModel.Proofs.ExecValuesBridge
import ApolloModel.Proofs.ExecWalk3
/-
C17, document level, §5.6 / §5.8.3 / §5.8.5 for the variable-related value diagnostics: the walk theorems
(`Proofs/ExecWalk*.lean`, on the abstract per-argument check `argDiags`) composed with the bridge to the full
per-argument check `argValueDiags` (`Proofs/ExecValuesBridge.lean`) and with `arg_values_iff` (`Proofs/ExecValues.lean`).
-/
set_option linter.unusedVariables false
namespace Apollo.ExecValues
open Apollo Apollo.ExecRules Apollo.ExecRules.Mem

/-- `(xvars, ty, hd, v)` is a full-value presentation of the argument `a` checked against `df` with `vars`:
    the same variable definitions, the same argument definition, and `a`'s value is `v` with the scalar literals
    forgotten -/
structure Presents (vars : List RVarDef) (df : InDef) (a : RArg) (xvars : List XVarDef) (ty : ValueCheck.Ty) (hd : Bool)
    (v : ValueCheck.Value) : Prop where
  vars : vars = xvars.map rvarOf
  df : df = inDefOf a.name ty hd
  value : a.value = rvalOf v

theorem presents_arg {vars : List RVarDef} {df : InDef} {a : RArg} {xvars : List XVarDef} {ty : ValueCheck.Ty} {hd : Bool}
    {v : ValueCheck.Value} (h : Presents vars df a xvars ty hd v) (s : RSchema) :
    argDiags s vars df a = argDiags s (xvars.map rvarOf) (inDefOf a.name ty hd) { name := a.name, value := rvalOf v } := by
  obtain ⟨h1, h2, h3⟩ := h
  subst h1; subst h2
  cases a with
  | mk n val => simp only at h3; subst h3; rfl

theorem uv_not_spread (s : RSchema) (t c n : String) : TDiag.undefinedVariable n ∉ spreadDiags s t c := by
  unfold spreadDiags; repeat' split
  all_goals simp

/-- §5.8.3 at document level, on the walk's own per-argument check: `UndefinedVariable` is reported iff the
    per-argument check reports it for an argument some operation checks -/
theorem undefinedVariable_iff_doc (s : RSchema) (ast : RAst) :
    (∃ n, TDiag.undefinedVariable n ∈ typedDiags s ast) ↔
      ∃ o ∈ (build s ast).ops, ∃ vars df a, OpArg s (build s ast) o vars df a ∧ HasUV (argDiags s vars df a) := by
  constructor
  · rintro ⟨n, h⟩
    obtain ⟨o, ho, h⟩ := (typedDiags_mem_iff s ast _).mp h
    rcases h with ⟨vars, df, a, h1, h2⟩ | ⟨t, c, _, h2⟩
    · exact ⟨o, ho, vars, df, a, h1, n, h2⟩
    · exact absurd h2 (uv_not_spread s t c n)
  · rintro ⟨o, ho, vars, df, a, h1, n, h2⟩
    exact ⟨n, (typedDiags_mem_iff s ast _).mpr ⟨o, ho, .inl ⟨vars, df, a, h1, h2⟩⟩⟩

/-- … and in terms of the FULL per-argument check (`argValueDiags`, the model of §5.6.1–4 with variables): whenever
    every argument the walk checks has a full-value presentation, the document reports `UndefinedVariable` iff
    `value_of_correct_type`, run on the full value of some argument an operation reaches — with the argument's own
    definition and that operation's variable definitions — reports it.  (← needs no presentation hypothesis.) -/
theorem values_undefinedVariable_iff_doc (s : RSchema) (S : ValueCheck.Schema) (hrel : SchemaRel s S) (ast : RAst)
    (hp : ∀ o ∈ (build s ast).ops, ∀ vars df a, OpArg s (build s ast) o vars df a →
      ∃ xvars ty hd v, Presents vars df a xvars ty hd v) :
    (∃ n, TDiag.undefinedVariable n ∈ typedDiags s ast) ↔
      ∃ o ∈ (build s ast).ops, ∃ vars df a xvars ty hd v, OpArg s (build s ast) o vars df a ∧
        Presents vars df a xvars ty hd v ∧ XDiag.value .undefinedVariable ∈ argValueDiags S xvars ty hd v := by
  rw [undefinedVariable_iff_doc]
  constructor
  · rintro ⟨o, ho, vars, df, a, h1, h2⟩
    obtain ⟨xvars, ty, hd, v, hpr⟩ := hp o ho vars df a h1
    rw [presents_arg hpr s] at h2
    exact ⟨o, ho, vars, df, a, xvars, ty, hd, v, h1, hpr, (arg_undefinedVariable_agrees s S hrel xvars a.name ty hd v).mp h2⟩
  · rintro ⟨o, ho, vars, df, a, xvars, ty, hd, v, h1, hpr, h2⟩
    refine ⟨o, ho, vars, df, a, h1, ?_⟩
    rw [presents_arg hpr s]
    exact (arg_undefinedVariable_agrees s S hrel xvars a.name ty hd v).mpr h2

/-- §5.8.5 at document level, completeness: a `DisallowedVariableUsage` of the full per-argument check at an argument
    some operation reaches is reported for the document -/
theorem values_disallowed_doc (s : RSchema) (S : ValueCheck.Schema) (ast : RAst)
    (o : ROp) (ho : o ∈ (build s ast).ops) (vars : List RVarDef) (df : InDef) (a : RArg)
    (xvars : List XVarDef) (ty : ValueCheck.Ty) (hd : Bool) (v : ValueCheck.Value)
    (h1 : OpArg s (build s ast) o vars df a) (hpr : Presents vars df a xvars ty hd v)
    (h2 : XDiag.disallowedVariableUsage ∈ argValueDiags S xvars ty hd v) :
    ∃ n, TDiag.disallowedVariableUsage n ∈ typedDiags s ast := by
  obtain ⟨n, _, he⟩ := (arg_disallowed_agrees s S xvars a.name ty hd v).mp h2
  refine ⟨n, (typedDiags_mem_iff s ast _).mpr ⟨o, ho, .inl ⟨vars, df, a, h1, ?_⟩⟩⟩
  rw [presents_arg hpr s, he]
  exact List.mem_singleton.mpr rfl

/-- The variable-related part of the values rule, document level: when the typed rules report nothing for the
    document, every argument any operation reaches — under every full-value presentation — gets neither
    `DisallowedVariableUsage` nor `UndefinedVariable` from the full check; and conversely, if every reachable
    argument has a presentation on which the full check reports nothing, the document
    reports no `UndefinedVariable` -/
theorem values_rule_variables_doc (s : RSchema) (S : ValueCheck.Schema) (hrel : SchemaRel s S) (ast : RAst) :
    (typedDiags s ast = [] →
      ∀ o ∈ (build s ast).ops, ∀ vars df a xvars ty hd v, OpArg s (build s ast) o vars df a →
        Presents vars df a xvars ty hd v →
          XDiag.disallowedVariableUsage ∉ argValueDiags S xvars ty hd v ∧
            XDiag.value .undefinedVariable ∉ argValueDiags S xvars ty hd v) ∧
    ((∀ o ∈ (build s ast).ops, ∀ vars df a, OpArg s (build s ast) o vars df a →
        ∃ xvars ty hd v, Presents vars df a xvars ty hd v ∧ argValueDiags S xvars ty hd v = []) →
      ∀ n, TDiag.undefinedVariable n ∉ typedDiags s ast) := by
  constructor
  · intro hq o ho vars df a xvars ty hd v h1 hpr
    have hquiet : argDiags s vars df a = [] := by
      apply List.eq_nil_iff_forall_not_mem.mpr
      intro d hd'
      have := (typedDiags_mem_iff s ast d).mpr ⟨o, ho, .inl ⟨vars, df, a, h1, hd'⟩⟩
      rw [hq] at this; cases this
    rw [presents_arg hpr s] at hquiet
    exact arg_quiet_variables s S hrel xvars a.name ty hd v hquiet
  · intro hall n hm
    obtain ⟨o, ho, vars, df, a, h1, h2⟩ := (undefinedVariable_iff_doc s ast).mp ⟨n, hm⟩
    obtain ⟨xvars, ty, hd, v, hpr, hq⟩ := hall o ho vars df a h1
    rw [presents_arg hpr s] at h2
    have := (arg_undefinedVariable_agrees s S hrel xvars a.name ty hd v).mp h2
    rw [hq] at this; cases this


theorem dis_not_spread (s : RSchema) (t c n : String) : TDiag.disallowedVariableUsage n ∉ spreadDiags s t c := by
  unfold spreadDiags; repeat' split
  all_goals simp

theorem rvalOf_var {v : ValueCheck.Value} {n : String} (h : rvalOf v = .var n) : v = .variable n := by
  cases v <;> simp [rvalOf] at h
  subst h; rfl

theorem disallowed_presented (s : RSchema) (S : ValueCheck.Schema) {vars : List RVarDef} {df : InDef} {a : RArg}
    {xvars : List XVarDef} {ty : ValueCheck.Ty} {hd : Bool} {v : ValueCheck.Value} (hpr : Presents vars df a xvars ty hd v)
    {n : String} (h : TDiag.disallowedVariableUsage n ∈ argDiags s vars df a) :
    XDiag.disallowedVariableUsage ∈ argValueDiags S xvars ty hd v := by
  obtain ⟨hv, he⟩ := argDiags_disallowed s vars df a n h
  rw [presents_arg hpr s] at he
  exact (arg_disallowed_agrees s S xvars a.name ty hd v).mpr ⟨n, rvalOf_var (hpr.value ▸ hv), he⟩

/-- §5.8.5 at document level, in terms of the full per-argument check: whenever every argument the walk checks has a
    full-value presentation, the document reports `DisallowedVariableUsage` iff `validate_variable_usage` fails at
    some argument an operation reaches — with the argument's own definition (incl. its default) and that operation's
    variable definitions -/
theorem values_disallowed_iff_doc (s : RSchema) (S : ValueCheck.Schema) (ast : RAst)
    (hp : ∀ o ∈ (build s ast).ops, ∀ vars df a, OpArg s (build s ast) o vars df a →
      ∃ xvars ty hd v, Presents vars df a xvars ty hd v) :
    (∃ n, TDiag.disallowedVariableUsage n ∈ typedDiags s ast) ↔
      ∃ o ∈ (build s ast).ops, ∃ vars df a xvars ty hd v, OpArg s (build s ast) o vars df a ∧
        Presents vars df a xvars ty hd v ∧ XDiag.disallowedVariableUsage ∈ argValueDiags S xvars ty hd v := by
  constructor
  · rintro ⟨n, h⟩
    obtain ⟨o, ho, h⟩ := (typedDiags_mem_iff s ast _).mp h
    rcases h with ⟨vars, df, a, h1, h2⟩ | ⟨t, c, _, h2⟩
    · obtain ⟨xvars, ty, hd, v, hpr⟩ := hp o ho vars df a h1
      exact ⟨o, ho, vars, df, a, xvars, ty, hd, v, h1, hpr, disallowed_presented s S hpr h2⟩
    · exact absurd h2 (dis_not_spread s t c n)
  · rintro ⟨o, ho, vars, df, a, xvars, ty, hd, v, h1, hpr, h2⟩
    exact values_disallowed_doc s S ast o ho vars df a xvars ty hd v h1 hpr h2

/-- the specification side: if every argument any operation reaches has a full-value presentation that satisfies
    `ExecArgOK` (§5.6.1–4 with the variable rule of the code inside literals and §5.8.5 IsVariableUsageAllowed at the
    top) on a closed schema at a defined input type, the document reports neither `UndefinedVariable` nor
    `DisallowedVariableUsage` -/
theorem values_rule_spec_doc (s : RSchema) (S : ValueCheck.Schema) (hrel : SchemaRel s S) (hS : ValueCheck.Spec.Closed S) (ast : RAst)
    (hall : ∀ o ∈ (build s ast).ops, ∀ vars df a, OpArg s (build s ast) o vars df a →
      ∃ xvars ty hd v, Presents vars df a xvars ty hd v ∧ ValueCheck.Spec.Defined S ty ∧ ExecArgOK S xvars ty hd v) :
    ∀ n, TDiag.undefinedVariable n ∉ typedDiags s ast ∧ TDiag.disallowedVariableUsage n ∉ typedDiags s ast := by
  have hq : ∀ o ∈ (build s ast).ops, ∀ vars df a, OpArg s (build s ast) o vars df a →
      ∃ xvars ty hd v, Presents vars df a xvars ty hd v ∧ argValueDiags S xvars ty hd v = [] := by
    intro o ho vars df a h1
    obtain ⟨xvars, ty, hd, v, hpr, hdef, hok⟩ := hall o ho vars df a h1
    exact ⟨xvars, ty, hd, v, hpr, (arg_values_iff S hS xvars ty hd v hdef).mpr hok⟩
  intro n
  constructor
  · exact (values_rule_variables_doc s S hrel ast).2 hq n
  · intro hm
    obtain ⟨o, ho, h⟩ := (typedDiags_mem_iff s ast _).mp hm
    rcases h with ⟨vars, df, a, h1, h2⟩ | ⟨t, c, _, h2⟩
    · obtain ⟨xvars, ty, hd, v, hpr, hqq⟩ := hq o ho vars df a h1
      have := disallowed_presented s S hpr h2
      rw [hqq] at this; cases this
    · exact absurd h2 (dis_not_spread s t c n)

/-- the relation is inhabited: the two views of the schema without definitions (built-in scalars only) -/
theorem schemaRel_builtins : SchemaRel ⟨[], none, none, none, []⟩ ⟨[]⟩ := by
  intro n
  have e1 : ExecRules.builtinScalarNames = ValueCheck.builtinScalarNames := rfl
  cases h : ValueCheck.builtinScalarNames.contains n with
  | true =>
    exact .inr ⟨.scalar true, .scalar true,
      by simp only [RSchema.kindForValue, RSchema.typeInfo?, List.find?_nil, e1, h, if_true],
      by simp only [ValueCheck.Schema.lookup, List.find?_nil, h, if_true], .scalar true⟩
  | false =>
    exact .inl ⟨by simp only [RSchema.kindForValue, RSchema.typeInfo?, List.find?_nil, e1, h, Bool.false_eq_true, if_false],
      by simp only [ValueCheck.Schema.lookup, List.find?_nil, h, Bool.false_eq_true, if_false]⟩

end Apollo.ExecValues
