import ApolloModel.Proofs.ParserComplete3
import ApolloModel.Proofs.ParserTermination8
/-
C05 / C07 (completeness): what the value and selection grammars need besides the depth measure.

Two depth measures are in use.  `vdepth` (here) charges a list or object one level itself; `Exact.vdepth`
(ParserExactC5) charges the items, as `value.rs` does, and is never larger.  The rules are proved for the exact
measure; this file holds the over-charging measure with the guards stated in it (`argsFit`, `dirsFit`, `fitSels`,
`FieldSetFit`), and the rules that mention no depth at all: the lookahead `peek_n(2)`, alias, fragment name, type
condition, sequencing with a non-empty second part, the heads of selections, and the link to termination
(`Cmp.total`: with enough fuel the run finishes).
-/
set_option linter.unusedSimpArgs false
namespace Apollo.Parse
open Apollo.Rowan hiding Str
open Apollo.Lex hiding Str

mutual
/-- nesting of lists / objects, each charged one level itself (an upper bound of `Exact.vdepth`, which is what the
    recursion limit counts) -/
def vdepth : Ast.Value → Nat
  | .list vs => vsdepth vs + 1
  | .obj fs => fdepth fs + 1
  | _ => 0
def vsdepth : Ast.Values → Nat
  | .nil => 0
  | .cons v tl => max (vdepth v) (vsdepth tl)
def fdepth : Ast.ObjFields → Nat
  | .nil => 0
  | .cons _ v tl => max (vdepth v) (fdepth tl)
end

def LVal (c : Bool) (b : Nat) (x : List Ast.Tok) : Prop :=
  ∃ v, x = Ast.tValue v ∧ valueOk c v = true ∧ vdepth v ≤ b

theorem tValue_head (v : Ast.Value) : ∃ a x, Ast.tValue v = a :: x ∧ kindOfA a ≠ .rBracket ∧ kindOfA a ≠ .eof
    ∧ kindOfA a ≠ .colon ∧ kindOfA a ≠ .rCurly ∧ kindOfA a ≠ .rParen := by
  cases v with
  | bool b => cases b <;> exact ⟨_, _, rfl, by simp [kindOfA], by simp [kindOfA], by simp [kindOfA], by simp [kindOfA], by simp [kindOfA]⟩
  | _ => exact ⟨_, _, rfl, by simp [kindOfA], by simp [kindOfA], by simp [kindOfA], by simp [kindOfA], by simp [kindOfA]⟩

theorem kindOfA_ne_eof (a : Ast.Tok) : kindOfA a ≠ .eof := by
  cases a with
  | p k => cases k <;> simp [kindOfA]
  | _ => simp [kindOfA]

/-! ### objects, arguments and directives as lists of items -/

def fieldItems : Ast.ObjFields → List (List Ast.Tok)
  | .nil => []
  | .cons nm v tl => (.name nm :: .p .colon :: Ast.tValue v) :: fieldItems tl

theorem fieldItems_flatten : ∀ fs, (fieldItems fs).flatten = Ast.tObjFields fs
  | .nil => rfl
  | .cons nm v tl => by simp [fieldItems, Ast.tObjFields, fieldItems_flatten tl]

theorem cmp_outOfFuel {α : Type} {Hk : Kind → Prop} {L : Nat → List Ast.Tok → Prop} {F : Kind → Prop} {Q : α → Prop} :
    Cmp Hk (PI.outOfFuel : PI α) L F Q := by
  intro s s' a c x q0 rest _ hr; simp [PI.outOfFuel] at hr

def argItems : List (Ast.Str × Ast.Value) → List (List Ast.Tok)
  | [] => []
  | a :: r => (.name a.1 :: .p .colon :: Ast.tValue a.2) :: argItems r

theorem argItems_flatten : ∀ args, (argItems args).flatten = Ast.tArgItems args
  | [] => rfl
  | a :: r => by simp [argItems, Ast.tArgItems, argItems_flatten r]

def argsFit (c : Bool) (b : Nat) (args : List (Ast.Str × Ast.Value)) : Prop :=
  ∀ a ∈ args, valueOk c a.2 = true ∧ vdepth a.2 ≤ b

def LArgs (c : Bool) (b : Nat) (x : List Ast.Tok) : Prop :=
  ∃ args, args ≠ [] ∧ x = Ast.tArguments args ∧ argsFit c b args

def dirItems : List Ast.Directive → List (List Ast.Tok)
  | [] => []
  | d :: r => (.p .at :: .name d.name :: Ast.tArguments d.args) :: dirItems r

theorem dirItems_flatten : ∀ ds, (dirItems ds).flatten = Ast.tDirectives ds
  | [] => rfl
  | d :: r => by simp [dirItems, Ast.tDirectives, dirItems_flatten r]

def dirsFit (c : Bool) (b : Nat) (ds : List Ast.Directive) : Prop := ∀ d ∈ ds, argsFit c b d.args

def LDirs (c : Bool) (b : Nat) (x : List Ast.Tok) : Prop :=
  ∃ ds, x = Ast.tDirectives ds ∧ dirsFit c b ds

/-- from a settled state (the current token is the significant head of the queue), the lookahead `2` is the
    first significant token of the rest of the queue -/
theorem lookahead2_spec (s : PState) (t : Tok) (rest : List Tok) (w : TW s)
    (hc : s.current = some t) (ht : Toks s = t :: rest) (hni : isIgnoredKind t.kind = false) :
    lookahead s 2 = (sig rest).head? := by
  have hrest : rest = toksOf (stream s.lx) := by
    unfold Toks at ht
    rw [hc] at ht
    simp only [Option.toList, List.cons_append, List.nil_append, List.cons.injEq, true_and] at ht
    exact ht.symm
  unfold lookahead
  rw [hc]
  have hnk : (t.kind == .whitespace || t.kind == .comment || t.kind == .comma) = false := by
    simp only [isIgnoredKind] at hni
    cases hk : t.kind <;> simp [hk] at hni ⊢
  simp only [hnk, Bool.false_eq_true, if_false]
  have : ¬ (2 ≤ 1) := by omega
  simp only [this, if_false]
  show aheadLoop _ s.lx 1 = _
  rw [aheadLoop_one _ s.lx w.limit (by omega), hrest]

theorem peekTokenN2_spec (s s' : PState) (o : Option Tok) (t : Tok) (rest : List Tok) (w : TW s)
    (hc : s.current = some t) (ht : Toks s = t :: rest) (hni : isIgnoredKind t.kind = false)
    (h : (peekTokenN 2).run s = .ok o s') : s' = s ∧ o = (sig rest).head? := by
  unfold peekTokenN at h
  simp only [] at h
  injection h with h1 h2
  exact ⟨h2.symm, by rw [← h1]; exact lookahead2_spec s t rest w hc ht hni⟩

theorem sig_ign_append (i l : List Tok) (hi : Ign i) : sig (i ++ l) = sig l := by
  rw [sig_append, sig_ignored i hi]; rfl

theorem sig_head_after (i c' : List Tok) (q0 : Tok) (rest : List Tok) (x : List Ast.Tok) (hi : Ign i)
    (hs : Spells c' x) (hq : Sigf q0) :
    ∃ t2, (sig (i ++ (c' ++ q0 :: rest))).head? = some t2 ∧
      ((x = [] ∧ t2 = q0) ∨ (∃ a2 x', x = a2 :: x' ∧ astOfV t2 = some a2)) := by
  rw [sig_ign_append _ _ hi]
  cases x with
  | nil =>
    have := spells_nil_inv hs
    subst this
    exact ⟨q0, by simp [sig_cons_sig q0 rest hq], Or.inl ⟨rfl, rfl⟩⟩
  | cons a2 x' =>
    obtain ⟨t2, tl, rfl, hta⟩ := spells_head hs
    exact ⟨t2, by simp [sig_cons_sig t2 _ (sigf_of_astOfV hta)], Or.inr ⟨a2, x', rfl, hta⟩⟩

theorem data_of_astOfV_name {t : Tok} {n : Ast.Str} (h : astOfV t = some (.name n)) : t.data = n := by
  have hk : t.kind = .name := kind_of_astOfV h
  unfold astOfV at h; rw [hk] at h; simpa using h

/-! ### alias, fragment name, type condition -/

theorem cmp_alias : Cmp (fun _ => True) alias (fun _ x => ∃ a, x = [.name a, .p .colon]) (fun _ => True) (fun _ => True) := by
  unfold alias
  refine cmp_withNode _ ?_
  have := cmp_bind (Hk := fun _ => True) (F := fun _ => True) cmp_name (fun _ _ => cmp_bump "COLON")
    (fun _ _ _ _ => trivial) (fun _ _ => trivial) (fun _ _ => trivial)
  refine this.mono (fun _ h => h) ?_ (fun _ h => h) (fun _ h => h)
  rintro b x ⟨a, rfl⟩
  exact ⟨[.name a], [.p .colon], rfl, ⟨a, rfl⟩, _, rfl⟩

theorem cmp_fragmentName :
    Cmp (fun _ => True) fragmentName (fun _ x => ∃ n, x = [.name n] ∧ n ≠ Ast.sOn) (fun _ => True) (fun _ => True) := by
  unfold fragmentName
  refine cmp_withNode _ ?_
  intro s s' u c x q0 rest w hr hl hs ht hq hf hk
  obtain ⟨n, rfl, hnk⟩ := hl
  obtain ⟨t, i, rfl, hta, hi⟩ := spells_single hs
  have hkt : t.kind = .name := kind_of_astOfV hta
  have hd : t.data = n := data_of_astOfV_name hta
  obtain ⟨o, sP, hp, h2⟩ := bind_dec peekToken _ s s' u hr
  obtain ⟨rfl, eP, htP⟩ := peekToken_head s sP o t (i ++ q0 :: rest) w (by rw [ht]; simp) hp
  have hkw : kw "on" t.data = false := by
    rw [hd]; unfold kw
    simpa [Ast.sOn] using hnk
  simp only [hkt, beq_self_eq_true, if_true, hkw, Bool.false_eq_true, if_false, Bool.and_false] at h2
  obtain ⟨e, t2, _⟩ := cmp_name sP s' u (t :: i) [.name n] q0 rest eP.w h2 ⟨n, rfl⟩ hs (by rw [htP]; simp) hq trivial trivial
  exact ⟨by simpa using eP.trans e, t2, trivial⟩

theorem cmp_namedType : Cmp (fun _ => True) namedType (fun _ x => ∃ n, x = [.name n]) (fun _ => True) (fun _ => True) := by
  unfold namedType
  refine cmp_peekGuard (· == some .name) (cmp_withNode _ cmp_name) ?_
  rintro b x ⟨n, rfl⟩
  exact ⟨_, _, rfl, rfl⟩

theorem cmp_typeCondition :
    Cmp (fun _ => True) typeCondition (fun _ x => ∃ n, x = [.name Ast.sOn, .name n]) (fun _ => True) (fun _ => True) := by
  unfold typeCondition
  refine cmp_withNode _ ?_
  intro s s' u c x q0 rest w hr hl hs ht hq hf hk
  obtain ⟨n, rfl⟩ := hl
  obtain ⟨t, i, c', rfl, hta, hi, hs'⟩ := spells_cons hs
  obtain ⟨t2, i2, rfl, hta2, hi2⟩ := spells_single hs'
  have hkt : t.kind = .name := kind_of_astOfV hta
  have hd : t.data = Ast.sOn := data_of_astOfV_name hta
  obtain ⟨o, sP, hp, h2⟩ := bind_dec peekToken _ s s' u hr
  obtain ⟨rfl, eP, htP⟩ := peekToken_head s sP o t (i ++ (t2 :: i2) ++ q0 :: rest) w (by rw [ht]; simp) hp
  have hkw : kw "on" t.data = true := by rw [hd]; unfold kw; simp [Ast.sOn]
  simp only [hkt, beq_self_eq_true, hkw, Bool.and_true, if_true] at h2
  obtain ⟨_, sA, h3, h4⟩ := bind_dec (bump "on_KW") _ sP s' u h2
  have hs1 : Spells (t :: i) [.name Ast.sOn] := by
    refine ⟨?_, by intro hd tl e; injection e with e _; subst e; exact sigf_of_astOfV hta⟩
    rw [sig_cons_ignV t i (sigf_of_astOfV hta) hi]
    exact TokIs.single t _ hta
  obtain ⟨eA, tA, _⟩ := cmp_bump "on_KW" sP sA () (t :: i) _ t2 (i2 ++ q0 :: rest) eP.w h3 ⟨_, rfl⟩ hs1
    (by rw [htP]; simp) (sigf_of_astOfV hta2) trivial trivial
  obtain ⟨ko, sQ, hq2, h5⟩ := bind_dec peek _ sA s' u h4
  obtain ⟨rfl, eQ, htQ, _⟩ := peek_head sA sQ ko t2 _ eA.w tA hq2
  have hk2 : t2.kind = .name := kind_of_astOfV hta2
  simp only [hk2, beq_self_eq_true, if_true] at h5
  obtain ⟨eN, tN, _⟩ := cmp_namedType sQ s' u (t2 :: i2) [.name n] q0 rest eQ.w h5 ⟨n, rfl⟩ hs'
    (by rw [htQ]; simp) hq trivial trivial
  exact ⟨by simpa [List.append_assoc] using ((eP.trans eA).trans eQ).trans eN, tN, trivial⟩

/-! ### optional parts: `if p.peek() == Some(k0) { m }` -/

def optU (k0 : Kind) (m : PI Unit) : PI Unit := peek >>= fun k => if k == some k0 then m else pure ()

theorem cmp_optU {Hk : Kind → Prop} (k0 : Kind) (m : PI Unit) {Lm : Nat → List Ast.Tok → Prop} {Fm : Kind → Prop}
    (hm : Cmp (fun _ => True) m Lm Fm (fun _ => True))
    (hmhead : ∀ b x, Lm b x → ∃ a x', x = a :: x' ∧ kindOfA a = k0) :
    Cmp Hk (optU k0 m) (fun b x => Lm b x ∨ x = []) (fun k => k ≠ k0 ∧ Fm k) (fun _ => True) := by
  refine cmp_peekIf (· == some k0) (hm.mono (fun _ h => h) (fun _ _ h => h) (fun _ h => h.2) (fun _ h => h))
    ((cmp_pure _ _ ()).mono (fun _ h => h) (fun _ _ h => h) (fun _ h => h) (fun _ _ => trivial)) ?_ ?_ ?_
  · intro b x h
    obtain ⟨a, x', rfl, hk⟩ := hmhead b x h
    exact ⟨a, x', rfl, by simp [hk]⟩
  · intro b a x h; cases h
  · intro b k _ hf
    simpa using hf.1

def optDirs (n : Nat) : PI Unit := optU .at (directives n false)

theorem tDirectives_head (ds : List Ast.Directive) (hne : ds ≠ []) : ∃ x', Ast.tDirectives ds = .p .at :: x' := by
  cases ds with
  | nil => exact absurd rfl hne
  | cons d r => exact ⟨_, rfl⟩

/-! ### fragment spread -/

def spreadBody (n : Nat) : PI Unit :=
  bump "SPREAD" >>= fun _ => peek >>= fun k =>
    if k == some .name then (fragmentName >>= fun _ => optDirs n) else (err >>= fun _ => optDirs n)

theorem fragmentSpread_eq (n : Nat) : fragmentSpread n = withNode "FRAGMENT_SPREAD" (spreadBody n) := rfl

/-! ### sequencing when the second part is never empty -/

theorem cmp_bind_ne {α β : Type} {Hk : Kind → Prop} {m : PI α} {f : α → PI β} {L1 L2 : Nat → List Ast.Tok → Prop}
    {F1 F2 F : Kind → Prop} {Q1 : α → Prop} {Q : β → Prop}
    (h1 : Cmp Hk m L1 F1 Q1) (h2 : ∀ a, Q1 a → Cmp (fun _ => True) (f a) L2 F2 Q)
    (hhead : ∀ b a x2, L2 b (a :: x2) → F1 (kindOfA a)) (hne : ∀ b, ¬ L2 b []) (hF2 : ∀ k, F k → F2 k) :
    Cmp Hk (m >>= f) (fun b x => ∃ x1 x2, x = x1 ++ x2 ∧ L1 b x1 ∧ L2 b x2) F Q :=
  cmp_seq h1 h2 hhead (fun b _ h _ => absurd h (hne b)) hF2

theorem cmp_optKind_ne {α : Type} {Hk : Kind → Prop} (k0 : Kind) (m : PI Unit) (rest : PI α)
    {Lm Lr : Nat → List Ast.Tok → Prop} {Fm Fr F : Kind → Prop} {Q : α → Prop}
    (hm : Cmp (fun _ => True) m Lm Fm (fun _ => True)) (hr : Cmp (fun _ => True) rest Lr Fr Q)
    (hmhead : ∀ b x, Lm b x → ∃ a x', x = a :: x' ∧ kindOfA a = k0)
    (hrhead : ∀ b a x, Lr b (a :: x) → kindOfA a ≠ k0 ∧ Fm (kindOfA a))
    (hne : ∀ b, ¬ Lr b []) (hF : ∀ k, F k → Fr k) :
    Cmp Hk (optKind k0 m rest) (fun b x => ∃ x1 x2, x = x1 ++ x2 ∧ (Lm b x1 ∨ x1 = []) ∧ Lr b x2) F Q :=
  cmp_optKindG k0 m rest hm hr hmhead hrhead (fun b _ h _ => absurd h (hne b)) hF

/-! ### selections within a recursion budget -/

mutual
/-- the selection fits the budget `b`: every `{ … }` level costs one, argument values cost their nesting;
    also the two side conditions of the grammar: a spread name is not `on`, an inline fragment has selections -/
def fitSel : Ast.Sel → Nat → Prop
  | .field _ _ args dirs sels, b => argsFit false b args ∧ dirsFit false b dirs ∧ fitSub sels b
  | .spread nm dirs, b => nm ≠ Ast.sOn ∧ dirsFit false b dirs
  | .inline _ dirs sels, b => dirsFit false b dirs ∧ sels ≠ .nil ∧ 1 ≤ b ∧ fitSels sels (b - 1)
def fitSels : Ast.Sels → Nat → Prop
  | .nil, _ => True
  | .cons s tl, b => fitSel s b ∧ fitSels tl b
def fitSub : Ast.Sels → Nat → Prop
  | .nil, _ => True
  | .cons s tl, b => 1 ≤ b ∧ fitSel s (b - 1) ∧ fitSels tl (b - 1)
end

/-- `{ Selection+ }` -/
def LSet (b : Nat) (x : List Ast.Tok) : Prop :=
  ∃ ss, ss ≠ Ast.Sels.nil ∧ x = .p .lCurly :: Ast.tSels ss ++ [.p .rCurly] ∧ 1 ≤ b ∧ fitSels ss (b - 1)

/-- what may follow a selection: another selection, `}` or the end of input -/
def Fsel (k : Kind) : Prop := k = .name ∨ k = .spread ∨ k = .rCurly ∨ k = .eof

/-! ### follow sets and first tokens of selections -/

def F2 (k : Kind) : Prop := k ≠ .at ∧ k ≠ .lParen ∧ k ≠ .lCurly

theorem f2_of_fsel {k : Kind} (h : Fsel k) : F2 k := by
  rcases h with h | h | h | h <;> subst h <;> simp [F2]

def LTc (_ : Nat) (x : List Ast.Tok) : Prop := ∃ n, x = [.name Ast.sOn, .name n]
theorem inlineBody_eq (n : Nat) : inlineBody n = (bump "SPREAD" >>= fun _ => optKind .name typeCondition (inlT2 n)) := rfl

theorem spells_split0 {c : List Tok} {x1 x2 : List Ast.Tok} (h : Spells c (x1 ++ x2)) :
    ∃ c1 c2, c = c1 ++ c2 ∧ Spells c1 x1 ∧ Spells c2 x2 := by
  by_cases hx : x2 = []
  · subst hx
    exact ⟨c, [], by simp, by simpa using h, spells_nil⟩
  · exact spells_split h hx

theorem tSel_head (f : Ast.Sel) : ∃ a x', Ast.tSel f = a :: x' ∧ (kindOfA a = .name ∨ kindOfA a = .spread) := by
  cases f with
  | field al nm args dirs sels =>
    cases al with
    | none => exact ⟨.name nm, (Ast.tSel (.field none nm args dirs sels)).tail, by simp [Ast.tSel, List.append_assoc], Or.inl rfl⟩
    | some a => exact ⟨.name a, (Ast.tSel (.field (some a) nm args dirs sels)).tail, by simp [Ast.tSel, List.append_assoc], Or.inl rfl⟩
  | spread nm dirs => exact ⟨.p .spread, (Ast.tSel (.spread nm dirs)).tail, by simp [Ast.tSel], Or.inr rfl⟩
  | inline tc dirs sels =>
    cases tc with
    | none => exact ⟨.p .spread, (Ast.tSel (.inline none dirs sels)).tail, by simp [Ast.tSel, List.append_assoc], Or.inr rfl⟩
    | some t => exact ⟨.p .spread, (Ast.tSel (.inline (some t) dirs sels)).tail, by simp [Ast.tSel, List.append_assoc], Or.inr rfl⟩

theorem next_after (c2 : List Tok) (tl : Ast.Sels) (q0 : Tok) (rest : List Tok) (hs : Spells c2 (Ast.tSels tl)) (hq : Sigf q0)
    (hf : q0.kind = .rCurly ∨ q0.kind = .eof) :
    ∃ q1 r1, c2 ++ q0 :: rest = q1 :: r1 ∧ Sigf q1 ∧ Fsel q1.kind := by
  cases tl with
  | nil =>
    have := spells_nil_inv (by simpa [Ast.tSels] using hs)
    subst this
    exact ⟨q0, rest, rfl, hq, by rcases hf with h | h <;> simp [Fsel, h]⟩
  | cons f tl' =>
    obtain ⟨a, x', e, hk⟩ := tSel_head f
    rw [Ast.tSels, e] at hs
    obtain ⟨t, tl2, rfl, hta⟩ := spells_head (x := x' ++ Ast.tSels tl') (by simpa using hs)
    refine ⟨t, tl2 ++ q0 :: rest, rfl, sigf_of_astOfV hta, ?_⟩
    rw [kind_of_astOfV hta]
    rcases hk with h | h <;> simp [Fsel, h]

/-! ### `selection` and `selection_set` -/

theorem selSetBody_eq (n : Nat) : selSetBody n =
    (bump "L_CURLY" >>= fun _ => withRec (limitErr >>= fun _ => pure false) (selection n >>= fun _ => pure true) >>= fun ok =>
      if ok then expect .rCurly "R_CURLY" else pure ()) := rfl

theorem tSels_head (ss : Ast.Sels) (hne : ss ≠ .nil) :
    ∃ a x', Ast.tSels ss = a :: x' ∧ (kindOfA a = .name ∨ kindOfA a = .spread) := by
  cases ss with
  | nil => exact absurd rfl hne
  | cons f tl =>
    obtain ⟨a, x', e, hk⟩ := tSel_head f
    exact ⟨a, x' ++ Ast.tSels tl, by rw [Ast.tSels, e]; rfl, hk⟩

def FieldSetFit (b : Nat) (x : List Ast.Tok) : Prop :=
  ∃ ss, ss ≠ Ast.Sels.nil ∧ 1 ≤ b ∧ fitSels ss (b - 1) ∧ (x = .p .lCurly :: Ast.tSels ss ++ [.p .rCurly] ∨ x = Ast.tSels ss)

theorem FieldSetFit.isFieldSet {b : Nat} {x : List Ast.Tok} (h : FieldSetFit b x) : IsFieldSet x := by
  obtain ⟨ss, hne, _, _, hx⟩ := h
  exact ⟨ss, hne, hx⟩

theorem noEof_of_tokIs (c : List Tok) (x : List Ast.Tok) (h : TokIs (sig c) x) : NoEof c := by
  intro y hy hk
  by_cases hi : isIgnoredKind y.kind = true
  · rw [hk] at hi; simp [isIgnoredKind] at hi
  · have hmem : y ∈ sig c := by simp [sig, hy, hi]
    have : astOfV y ∈ (sig c).map astOfV := List.mem_map_of_mem hmem
    unfold TokIs at h
    rw [h] at this
    obtain ⟨a, _, ha⟩ := List.mem_map.mp this
    unfold astOfV at ha
    rw [hk] at ha
    cases ha

theorem run_finishes {α : Type} (m : PI α) (s : PState) {Q : α → Option Tok → LexSt → Prop}
    (hinv : Inv s) (ht : Term m s Q) : ∃ a s', m.run s = .ok a s' := by
  have hok := m.ok s hinv
  cases hr : m.run s with
  | ok a s' => exact ⟨a, s', rfl⟩
  | abort w => exact absurd hr (ht.1 w)
  | panic msg => rw [hr] at hok; exact absurd hok (by simp [Post])

/-- completeness judgement + termination = total completeness -/
theorem Cmp.total {m : PI Unit} {L : Nat → List Ast.Tok → Prop} {F : Kind → Prop} {Qt : Unit → Option Tok → LexSt → Prop}
    (h : Cmp (fun _ => True) m L F (fun _ => True)) (s : PState) (hinv : Inv s) (ht : Term m s Qt) (w : TW s)
    (c : List Tok) (x : List Ast.Tok) (q0 : Tok) (rest : List Tok) (hl : L (s.recLimit - s.recCur) x) (hs : Spells c x)
    (htk : Toks s = c ++ q0 :: rest) (hq : Sigf q0) (hf : F q0.kind) :
    ∃ s', m.run s = .ok () s' ∧ Eat s s' c ∧ Toks s' = q0 :: rest := by
  obtain ⟨a, s', hr⟩ := run_finishes m s hinv ht
  obtain ⟨e, t, _⟩ := h s s' a c x q0 rest w hr hl hs htk hq hf trivial
  exact ⟨s', hr, e, t⟩

end Apollo.Parse
