import ApolloModel.Model.MaxDepth
/- C25: the memoised depth-first check computes the expanded depth, or reports `tooDeep` exactly when that depth
   reaches the limit (`checkSet_spec`). -/
namespace Apollo.MaxDepth

theorem bounded_mono {k k' : Nat} (h : k ≤ k') : ∀ s, Bounded k s = true → Bounded k' s = true
  | .nil, _ => rfl
  | .field _ sub rest, hb => by
    simp only [Bounded, Bool.and_eq_true] at hb ⊢
    exact ⟨bounded_mono h sub hb.1, bounded_mono h rest hb.2⟩
  | .inline sub rest, hb => by
    simp only [Bounded, Bool.and_eq_true] at hb ⊢
    exact ⟨bounded_mono h sub hb.1, bounded_mono h rest hb.2⟩
  | .spread j rest, hb => by
    simp only [Bounded, Bool.and_eq_true, decide_eq_true_eq] at hb ⊢
    exact ⟨by omega, bounded_mono h rest hb.2⟩

theorem relSels_congr {R R' : Nat → Nat} {k : Nat} (h : ∀ j, j < k → R j = R' j) :
    ∀ s, Bounded k s = true → relSels R s = relSels R' s
  | .nil, _ => rfl
  | .field _ sub rest, hb => by
    simp only [Bounded, Bool.and_eq_true] at hb
    simp [relSels, relSels_congr h sub hb.1, relSels_congr h rest hb.2]
  | .inline sub rest, hb => by
    simp only [Bounded, Bool.and_eq_true] at hb
    simp [relSels, relSels_congr h sub hb.1, relSels_congr h rest hb.2]
  | .spread j rest, hb => by
    simp only [Bounded, Bool.and_eq_true, decide_eq_true_eq] at hb
    simp [relSels, h j hb.1, relSels_congr h rest hb.2]

theorem table_length (doc : Doc) : ∀ n, (table doc n).length = n
  | 0 => rfl
  | n + 1 => by simp [table, table_length doc n]

theorem table_prefix (doc : Doc) (m : Nat) : ∀ n, m ≤ n → ∀ i, i < m → (table doc n).getD i 0 = (table doc m).getD i 0
  | 0, h, i, hi => by omega
  | n + 1, h, i, hi => by
    by_cases hm : m = n + 1
    · subst hm; rfl
    · have ih := table_prefix doc m n (by omega) i hi
      rw [← ih]
      have hl := table_length doc n
      simp only [table]
      simp only [List.getD_eq_getElem?_getD]
      rw [List.getElem?_append_left (by omega)]

theorem frag_lt (doc : Doc) {j : Nat} {body : Sels} (h : doc.frag j = some body) : j < doc.frags.length := by
  unfold Doc.frag at h
  exact (List.getElem?_eq_some_iff.mp h).1

theorem fragDepth_unfold (doc : Doc) (wf : doc.WF) {j : Nat} {body : Sels} (h : doc.frag j = some body) :
    fragDepth doc j = relSels (fragDepth doc) body := by
  have hj := frag_lt doc h
  unfold fragDepth
  rw [table_prefix doc (j + 1) doc.frags.length (by omega) j (by omega)]
  have hl := table_length doc j
  simp only [table, h]
  simp only [List.getD_eq_getElem?_getD]
  rw [List.getElem?_append_right (by omega)]
  simp only [hl, Nat.sub_self, List.getElem?_cons_zero, Option.getD_some]
  apply relSels_congr (k := j) _ body (wf j body h)
  intro i hi
  have := table_prefix doc j doc.frags.length (by omega) i hi
  simp only [List.getD_eq_getElem?_getD] at this
  exact this.symm

def MemoOK (doc : Doc) (memo : Memo) : Prop := ∀ j r, memo.lookup j = some r → r = fragDepth doc j

/-- what a call on a selection set must do, at depth `d` with running maximum `acc` -/
def Spec (MAX : Nat) (doc : Doc) (f : Memo → Nat → Nat → Res) (s : Sels) : Prop :=
  ∀ memo d acc, MemoOK doc memo → d < MAX → d ≤ acc →
    (MAX ≤ d + relSels (fragDepth doc) s → f memo d acc = .error .tooDeep) ∧
    (d + relSels (fragDepth doc) s < MAX →
      ∃ memo', f memo d acc = .ok (max acc (d + relSels (fragDepth doc) s), memo') ∧ MemoOK doc memo')

def SpecSet (MAX : Nat) (doc : Doc) (f : Memo → Nat → Res) (s : Sels) : Prop :=
  ∀ memo d, MemoOK doc memo → d < MAX →
    (MAX ≤ d + relSels (fragDepth doc) s → f memo d = .error .tooDeep) ∧
    (d + relSels (fragDepth doc) s < MAX →
      ∃ memo', f memo d = .ok (d + relSels (fragDepth doc) s, memo') ∧ MemoOK doc memo')

theorem memoOK_insert {doc : Doc} {memo : Memo} {j r : Nat} (h : MemoOK doc memo) (hr : r = fragDepth doc j) :
    MemoOK doc ((j, r) :: memo) := by
  intro i x hx
  simp only [List.lookup] at hx
  split at hx
  · rename_i heq
    have : i = j := by simpa using heq
    simp only [Option.some.injEq] at hx
    subst hx; subst this; exact hr
  · exact h i x hx

/-- the verdict on the rest of a selection set (`g`, of depth `y`), once the selection in front of it has
    passed and contributed `x` to the running maximum -/
theorem spec_rest {MAX : Nat} {doc : Doc} {g : Res} {d acc acc' x y : Nat} (hx : d + x < MAX)
    (hacc : acc' = max acc (d + x))
    (h : (MAX ≤ d + y → g = .error .tooDeep) ∧
      (d + y < MAX → ∃ memo', g = .ok (max acc' (d + y), memo') ∧ MemoOK doc memo')) :
    (MAX ≤ d + max x y → g = .error .tooDeep) ∧
    (d + max x y < MAX → ∃ memo', g = .ok (max acc (d + max x y), memo') ∧ MemoOK doc memo') := by
  refine ⟨fun hm => h.1 (by omega), fun hm => ?_⟩
  obtain ⟨memo', e, ok⟩ := h.2 (by omega)
  exact ⟨memo', by rw [e, hacc]; congr 2; omega, ok⟩

theorem go_spec (MAX : Nat) (doc : Doc) (wf : doc.WF) (rec : Sels → Memo → Nat → Res) (k : Nat)
    (hrec : ∀ j body, j < k → doc.frag j = some body → SpecSet MAX doc (rec body) body) :
    ∀ s, Bounded k s = true → Spec MAX doc (fun memo d acc => go MAX doc rec s memo d acc) s
  | .nil, _ => by
    intro memo d acc hm hd hacc
    simp only [relSels, go, Nat.add_zero]
    exact ⟨fun h => by omega, fun _ => ⟨memo, by simp; omega, hm⟩⟩
  | .inline sub rest, hb => by
    simp only [Bounded, Bool.and_eq_true] at hb
    have ihs := go_spec MAX doc wf rec k hrec sub hb.1
    have ihr := go_spec MAX doc wf rec k hrec rest hb.2
    simp only [Spec] at ihs ihr ⊢
    intro memo d acc hm hd hacc
    simp only [relSels, go]
    by_cases h1 : MAX ≤ d + relSels (fragDepth doc) sub
    · simp only [(ihs memo d d hm hd (Nat.le_refl _)).1 h1]
      exact ⟨fun _ => trivial, fun h => by omega⟩
    · obtain ⟨memo1, e1, hm1⟩ := (ihs memo d d hm hd (Nat.le_refl _)).2 (by omega)
      simp only [e1]
      exact spec_rest (by omega) (by omega) (ihr memo1 d _ hm1 hd (by omega))
  | .field isList sub rest, hb => by
    simp only [Bounded, Bool.and_eq_true] at hb
    have ihs := go_spec MAX doc wf rec k hrec sub hb.1
    have ihr := go_spec MAX doc wf rec k hrec rest hb.2
    simp only [Spec] at ihs ihr ⊢
    intro memo d acc hm hd hacc
    simp only [relSels, go]
    cases isList with
    | false =>
      simp only [Bool.false_and, Bool.false_eq_true, if_false, Nat.zero_add]
      by_cases h1 : MAX ≤ d + relSels (fragDepth doc) sub
      · simp only [(ihs memo d d hm hd (Nat.le_refl _)).1 h1]
        exact ⟨fun _ => trivial, fun h => by omega⟩
      · obtain ⟨memo1, e1, hm1⟩ := (ihs memo d d hm hd (Nat.le_refl _)).2 (by omega)
        simp only [e1]
        exact spec_rest (by omega) (by omega) (ihr memo1 d _ hm1 hd (by omega))
    | true =>
      simp only [if_true, Bool.true_and, decide_eq_true_eq, ge_iff_le]
      by_cases h0 : MAX ≤ d + 1
      · simp only [h0, if_true]
        exact ⟨fun _ => trivial, fun h => by omega⟩
      · simp only [h0, if_false]
        by_cases h1 : MAX ≤ d + 1 + relSels (fragDepth doc) sub
        · simp only [(ihs memo (d + 1) (d + 1) hm (by omega) (Nat.le_refl _)).1 h1]
          exact ⟨fun _ => trivial, fun h => by omega⟩
        · obtain ⟨memo1, e1, hm1⟩ := (ihs memo (d + 1) (d + 1) hm (by omega) (Nat.le_refl _)).2 (by omega)
          simp only [e1]
          exact spec_rest (by omega) (by omega) (ihr memo1 d _ hm1 hd (by omega))
  | .spread j rest, hb => by
    simp only [Bounded, Bool.and_eq_true, decide_eq_true_eq] at hb
    have ihr := go_spec MAX doc wf rec k hrec rest hb.2
    simp only [Spec] at ihr ⊢
    intro memo d acc hm hd hacc
    simp only [relSels, go]
    cases hf : doc.frag j with
    | none =>
      have hz : fragDepth doc j = 0 := by
        unfold fragDepth
        have : doc.frags.length ≤ j := by
          unfold Doc.frag at hf; exact List.getElem?_eq_none_iff.mp hf
        simp only [List.getD_eq_getElem?_getD]
        rw [List.getElem?_eq_none (by rw [table_length]; exact this)]
        rfl
      simp only [hz]
      exact spec_rest (by omega) (by omega) (ihr memo d acc hm hd hacc)
    | some body =>
      simp only []
      cases hl : memo.lookup j with
      | some r =>
        have hr := hm j r hl
        subst hr
        simp only [ge_iff_le]
        by_cases h0 : MAX ≤ d + fragDepth doc j
        · simp only [h0, if_true]
          exact ⟨fun _ => trivial, fun h => by omega⟩
        · simp only [h0, if_false]
          exact spec_rest (by omega) rfl (ihr memo d _ hm hd (by omega))
      | none =>
        simp only []
        have hb' := hrec j body hb.1 hf memo d hm hd
        rw [← fragDepth_unfold doc wf hf] at hb'
        by_cases h0 : MAX ≤ d + fragDepth doc j
        · simp only [hb'.1 h0]
          exact ⟨fun _ => trivial, fun h => by omega⟩
        · obtain ⟨memo1, e1, hm1⟩ := hb'.2 (by omega)
          simp only [e1]
          exact spec_rest (by omega) rfl (ihr _ d _ (memoOK_insert hm1 (by omega)) hd (by omega))

theorem specSet_of_spec {MAX : Nat} {doc : Doc} {f : Memo → Nat → Nat → Res} {s : Sels}
    (h : Spec MAX doc f s) : SpecSet MAX doc (fun memo d => f memo d d) s := by
  intro memo d hm hd
  obtain ⟨h1, h2⟩ := h memo d d hm hd (Nat.le_refl _)
  refine ⟨h1, fun hlt => ?_⟩
  obtain ⟨m, e, hm'⟩ := h2 hlt
  exact ⟨m, by show f memo d d = _; rw [e]; congr 2; omega, hm'⟩

theorem checkSet_spec (MAX : Nat) (doc : Doc) (wf : doc.WF) :
    ∀ k s, Bounded k s = true → SpecSet MAX doc (checkSet MAX doc k s) s
  | 0, s, hb =>
    specSet_of_spec (f := fun memo d acc => go MAX doc _ s memo d acc)
      (go_spec MAX doc wf (fun _ _ _ => .error .fuel) 0 (fun j body hj _ => by omega) s hb)
  | k + 1, s, hb =>
    specSet_of_spec (f := fun memo d acc => go MAX doc _ s memo d acc) (go_spec MAX doc wf (checkSet MAX doc k) (k + 1)
      (fun j body _ hf => checkSet_spec MAX doc wf k body (bounded_mono (by omega) body (wf j body hf))) s hb)

end Apollo.MaxDepth
