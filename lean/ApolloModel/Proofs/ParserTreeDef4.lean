import ApolloModel.Proofs.ParserTreeDef3
/-
C08 (pipeline), type-system definitions: separated lists (implements interfaces, union member types, directive
locations) and root operation type definitions — tree shapes, conversion, parser side.
-/
set_option linter.unusedSimpArgs false
set_option linter.unusedVariables false

namespace Apollo.FromCst
open Apollo.Rowan Apollo.Ast
open Apollo.Parse (isJunk isJunkKind sigE nameNode)

variable {R : List Loc}

/-- `NAMED_TYPE[NAME[IDENT]]` -/
def NamedTy (nm : Ast.Str) (e : Elem) : Prop :=
  ∃ ncs, e = .node "NAMED_TYPE" ncs ∧ isValidName nm = true ∧ sigE ncs = [nameNode nm]

theorem nameOf_namedTy (nm : Ast.Str) (e : Elem) (h : NamedTy nm e) : ConvE (fun R => @nameOf R) nm e := by
  obtain ⟨ncs, rfl, hv, hs⟩ := h
  exact nameOf_node "NAMED_TYPE" ncs nm hv (by rw [hs]; rfl)

/-- a container whose NAMED_TYPE children are the names `names` (separators and the introducing token are
    tokens and do not matter to the conversion) -/
def NamesNode (K : SK) (names : List Ast.Str) (e : Elem) : Prop :=
  ∃ cs, e = .node K cs ∧ All2 (fun e n => NamedTy n e) ((sigE cs).filter (nodeP (· == "NAMED_TYPE"))) names

def OptNames (K : SK) (names : List Ast.Str) (tail : List Elem) : Prop :=
  (names = [] ∧ tail = []) ∨ (∃ e, tail = [e] ∧ NamesNode K names e)

theorem optNames_kinds {K : SK} {names : List Ast.Str} {t : List Elem} (h : OptNames K names t) : t = [] ∨ ∃ c, t = [.node K c] := by
  rcases h with ⟨_, rfl⟩ | ⟨_, rfl, c, rfl, _⟩
  · exact Or.inl rfl
  · exact Or.inr ⟨c, rfl⟩

theorem all2_convE {α : Type} (f : (R : List Loc) → PE R → M R α) (P : α → Elem → Prop) (hP : ∀ a e, P a e → ConvE f a e) :
    ∀ (es : List Elem) (as : List α), All2 (fun e a => P a e) es as → All2 (fun e a => ConvE f a e) es as
  | _, _, .nil => All2.nil
  | _, _, .cons h1 h2 => All2.cons (hP _ _ h1) (all2_convE f P hP _ _ h2)

theorem namedTypesOf_conv (K : SK) (k : SK) (cs : List Elem) (names : List Ast.Str) (tail : List Elem)
    (hopt : OptNames K names tail) (hfind : (sigE cs).find? (nodeP (· == K)) = tail.head?) :
    ConvE (fun R => @namedTypesOf R K) names (.node k cs) := by
  intro R s hp
  rcases hopt with ⟨rfl, rfl⟩ | ⟨ea, rfl, cs', rfl, hall⟩
  · have := childP_none (R := R) (· == K) k cs s hp (by rw [find_nodeP_sigE]; exact hfind)
    refine ⟨[], ?_⟩
    show namedTypesOf K _ = _
    unfold namedTypesOf
    rw [child_eq_childP, this]; rfl
  · obtain ⟨s', h', hc⟩ := childP_some (R := R) (· == K) k cs s hp _ (by rw [find_nodeP_sigE]; exact hfind)
    have hmap := childrenP_map (R := R) (· == "NAMED_TYPE") K cs' s' h'
    rw [filter_nodeP_sigE] at hmap
    obtain ⟨l, hl⟩ := collectM_conv (R := R) (fun R => @nameOf R) _ _ names hmap
      (all2_convE _ _ (fun a e h => nameOf_namedTy a e h) _ _ hall)
    refine ⟨l, ?_⟩
    show namedTypesOf K _ = _
    unfold namedTypesOf
    rw [child_eq_childP, hc]
    exact hl

/-! ### directive locations -/

/-- `DIRECTIVE_LOCATION[<NAME>_KW]` -/
def LocTree (nm : Ast.Str) (e : Elem) : Prop :=
  ∃ (k : String) (d : Rowan.Str), k ∈ Apollo.Parse.directiveLocationKeywords ∧ nm = k.toList ∧
    e = .node "DIRECTIVE_LOCATION" [.tok (k ++ "_KW") d]

theorem dirLoc_find : ∀ k ∈ Apollo.Parse.directiveLocationKeywords,
    (["QUERY", "MUTATION", "SUBSCRIPTION", "FIELD", "FRAGMENT_DEFINITION", "FRAGMENT_SPREAD", "INLINE_FRAGMENT",
      "VARIABLE_DEFINITION", "SCHEMA", "SCALAR", "OBJECT", "FIELD_DEFINITION", "ARGUMENT_DEFINITION", "INTERFACE",
      "UNION", "ENUM", "ENUM_VALUE", "INPUT_OBJECT", "INPUT_FIELD_DEFINITION"] : List String).find?
        (fun l => (k ++ "_KW") == l ++ "_KW") = some k := by decide

theorem cDirectiveLocation_conv (nm : Ast.Str) (e : Elem) (h : LocTree nm e) : ConvE (fun R => @cDirectiveLocation R) nm e := by
  obtain ⟨k, d, hk, rfl, rfl⟩ := h
  intro R s hp
  refine ⟨[], ?_⟩
  show cDirectiveLocation _ = _
  unfold cDirectiveLocation
  simp only [firstTok, firstTokList, dirLoc_find k hk]
  rfl

/-- the DIRECTIVE_LOCATIONS container, by its DIRECTIVE_LOCATION children -/
def LocsNode (locs : List Ast.Str) (e : Elem) : Prop :=
  ∃ cs, e = .node "DIRECTIVE_LOCATIONS" cs ∧ All2 (fun e n => LocTree n e) ((sigE cs).filter (nodeP (· == "DIRECTIVE_LOCATION"))) locs

theorem locationsOf_conv (k : SK) (cs : List Elem) (locs : List Ast.Str) (el : Elem) (hl : LocsNode locs el)
    (hfind : (sigE cs).find? (nodeP (· == "DIRECTIVE_LOCATIONS")) = some el) :
    ConvE (fun R => @locationsOf R) locs (.node k cs) := by
  intro R s hp
  obtain ⟨cs', rfl, hall⟩ := hl
  obtain ⟨s', h', hc⟩ := childP_some (R := R) (· == "DIRECTIVE_LOCATIONS") k cs s hp _ (by rw [find_nodeP_sigE]; exact hfind)
  have hmap := childrenP_map (R := R) (· == "DIRECTIVE_LOCATION") "DIRECTIVE_LOCATIONS" cs' s' h'
  rw [filter_nodeP_sigE] at hmap
  obtain ⟨l, hl⟩ := collectM_conv (R := R) (fun R => @cDirectiveLocation R) _ _ locs hmap
    (all2_convE _ _ (fun a e h => cDirectiveLocation_conv a e h) _ _ hall)
  refine ⟨l, ?_⟩
  show locationsOf _ = _
  unfold locationsOf
  rw [child_eq_childP, hc]
  exact hl

/-! ### root operation types -/

def rootKw : OpType → SK
  | .query => "query_KW"
  | .mutation => "mutation_KW"
  | .subscription => "subscription_KW"

/-- `ROOT_OPERATION_TYPE_DEFINITION[OPERATION_TYPE[kw] : NamedType?]` — the named type may be missing (KNOWN FINDING) -/
def RootTree (r : OpType × Option Ast.Str) (e : Elem) : Prop :=
  ∃ cs d col tail, e = .node "ROOT_OPERATION_TYPE_DEFINITION" cs ∧
    sigE cs = .node "OPERATION_TYPE" [.tok (rootKw r.1) d] :: .tok "COLON" col :: tail ∧
    ((r.2 = none ∧ tail = []) ∨ (∃ nm en, r.2 = some nm ∧ tail = [en] ∧ NamedTy nm en))

theorem rootTree_nodeP {r : OpType × Option Ast.Str} {e : Elem} (h : RootTree r e) :
    nodeP (· == "ROOT_OPERATION_TYPE_DEFINITION") e = true := by
  obtain ⟨cs, _, _, _, rfl, _⟩ := h; simp [nodeP_node]

theorem cRootOperation_some (op : OpType) (nm : Ast.Str) (e : Elem) (h : RootTree (op, some nm) e) :
    ConvE (fun R => @cRootOperation R) (op, nm) e := by
  obtain ⟨cs, d, col, tail, rfl, hsig, htail⟩ := h
  rcases htail with ⟨h0, _⟩ | ⟨nm', en, h0, rfl, hen⟩
  · cases h0
  · simp only [Option.some.injEq] at h0
    subst h0
    obtain ⟨ncs, rfl, hv, hns⟩ := hen
    intro R s hp
    have hf1 : cs.find? (nodeP (· == "OPERATION_TYPE")) = some (.node "OPERATION_TYPE" [.tok (rootKw op) d]) := by
      rw [find_nodeP_sigE, hsig]; simp [List.find?_cons, nodeP_node]
    obtain ⟨s1, h1, hc1⟩ := childP_some (R := R) (· == "OPERATION_TYPE") _ cs s hp _ hf1
    have hf2 : cs.find? (nodeP (· == "NAMED_TYPE")) = some (.node "NAMED_TYPE" ncs) := by
      rw [find_nodeP_sigE, hsig]; simp [List.find?_cons, nodeP_node, nodeP_tok]
    obtain ⟨s2, h2, hc2⟩ := childP_some (R := R) (· == "NAMED_TYPE") _ cs s hp _ hf2
    obtain ⟨l, hl⟩ := nameOf_node "NAMED_TYPE" ncs nm hv (by rw [hns]; rfl) R s2 h2
    have hot : cOperationType (⟨(Elem.node "OPERATION_TYPE" [.tok (rootKw op) d], s1), h1⟩ : PE R) = some (op, []) := by
      cases op <;> simp [cOperationType, firstTok, firstTokList, rootKw, M.pure']
    refine ⟨[] ++ ([] ++ ([] ++ (l ++ []))), ?_⟩
    show cRootOperation _ = _
    unfold cRootOperation
    rw [child_eq_childP, hc1]
    refine bind_ok rfl (bind_ok hot ?_)
    rw [child_eq_childP, hc2]
    exact bind_ok rfl (bind_ok hl (pure_ok _))

theorem cRootOperation_none (op : OpType) (e : Elem) (h : RootTree (op, none) e) (R : List Loc) (s : Nat)
    (hp : ∀ x ∈ nameRanges e s, x ∈ R) : cRootOperation (⟨(e, s), hp⟩ : PE R) = none := by
  obtain ⟨cs, d, col, tail, rfl, hsig, htail⟩ := h
  rcases htail with ⟨_, rfl⟩ | ⟨nm', en, h0, _, _⟩
  · have hf1 : cs.find? (nodeP (· == "OPERATION_TYPE")) = some (.node "OPERATION_TYPE" [.tok (rootKw op) d]) := by
      rw [find_nodeP_sigE, hsig]; simp [List.find?_cons, nodeP_node]
    obtain ⟨s1, h1, hc1⟩ := childP_some (R := R) (· == "OPERATION_TYPE") _ cs s hp _ hf1
    have hf2 : cs.find? (nodeP (· == "NAMED_TYPE")) = none := by
      rw [find_nodeP_sigE, hsig]; simp [List.find?_cons, nodeP_node, nodeP_tok]
    have hc2 := childP_none (R := R) (· == "NAMED_TYPE") _ cs s hp hf2
    have hot : cOperationType (⟨(Elem.node "OPERATION_TYPE" [.tok (rootKw op) d], s1), h1⟩ : PE R) = some (op, []) := by
      cases op <;> simp [cOperationType, firstTok, firstTokList, rootKw, M.pure']
    unfold cRootOperation
    rw [child_eq_childP, hc1]
    show M.bind' _ _ = none
    simp only [M.ofOpt, M.bind', hot, child_eq_childP, hc2]
    rfl
  · cases h0

/-- the root operation types that convert: those with their named type -/
def rootsConv : List (OpType × Option Ast.Str) → List (OpType × Ast.Str)
  | [] => []
  | (op, some nm) :: r => (op, nm) :: rootsConv r
  | (_, none) :: r => rootsConv r

theorem filterMapM_roots : ∀ (qs : List (PE R)) (rs : List (OpType × Option Ast.Str)),
    All2 (fun (q : PE R) r => RootTree r q.1.1) qs rs → ∃ l, filterMapM cRootOperation qs = (rootsConv rs, l)
  | [], [], _ => ⟨[], rfl⟩
  | [], _ :: _, h => by cases h
  | _ :: _, [], h => by cases h
  | q :: qs, (op, onm) :: rs, h => by
    cases h with
    | cons h1 h2 =>
      obtain ⟨l2, e2⟩ := filterMapM_roots qs rs h2
      obtain ⟨⟨e, s⟩, hp⟩ := q
      cases onm with
      | none =>
        have := cRootOperation_none op e h1 R s hp
        exact ⟨l2, by simp only [filterMapM, e2, this, rootsConv]⟩
      | some nm =>
        obtain ⟨l1, e1⟩ := cRootOperation_some op nm e h1 R s hp
        exact ⟨l1 ++ l2, by simp only [filterMapM, e2, e1, rootsConv]⟩

/-- `roots` of a schema definition / extension: the ROOT_OPERATION_TYPE_DEFINITION children -/
theorem rootsOf_conv (k : SK) (cs : List Elem) (rs : List (OpType × Option Ast.Str))
    (hall : All2 (fun e r => RootTree r e) ((sigE cs).filter (nodeP (· == "ROOT_OPERATION_TYPE_DEFINITION"))) rs) :
    ConvE (fun R => @rootsOf R) (rootsConv rs) (.node k cs) := by
  intro R s hp
  have hmap := childrenP_map (R := R) (· == "ROOT_OPERATION_TYPE_DEFINITION") k cs s hp
  rw [filter_nodeP_sigE] at hmap
  have hq : All2 (fun (q : PE R) r => RootTree r q.1.1)
      (childrenP (· == "ROOT_OPERATION_TYPE_DEFINITION") (⟨(Elem.node k cs, s), hp⟩ : PE R)) rs := by
    generalize childrenP (· == "ROOT_OPERATION_TYPE_DEFINITION") (⟨(Elem.node k cs, s), hp⟩ : PE R) = qs at hmap
    generalize (sigE cs).filter (nodeP (· == "ROOT_OPERATION_TYPE_DEFINITION")) = es at hmap hall
    subst hmap
    induction qs generalizing rs with
    | nil => cases hall; exact All2.nil
    | cons q qs ih =>
      cases hall with
      | cons h1 h2 => exact All2.cons h1 (ih _ h2)
  obtain ⟨l, hl⟩ := filterMapM_roots _ rs hq
  refine ⟨l, ?_⟩
  show rootsOf _ = _
  unfold rootsOf collectM
  rw [children_eq_childrenP, hl]

end Apollo.FromCst

namespace Apollo.Parse
open Apollo.Rowan hiding Str
open Apollo.Lex hiding Str
open Apollo.FromCst (TyTree DescPre OptDirs All2 NamedTy NamesNode OptNames LocTree LocsNode RootTree rootKw nodeP)

/-- `withNode` when the significance of the head token follows from the lexer fact `LexQ` -/
theorem tr_withNodeL {α : Type} {E : PState → Prop} (hE : Early E) {H : List Tok → Prop} (K : SK) {body : PI α}
    {R : α → List Tok → List Elem → Prop}
    (hsig : ∀ q, LexQ q → H q → ∃ t rest, q = t :: rest ∧ isIgnoredKind t.kind = false)
    (h : Tr E H body R) :
    Tr E H (withNode K body) (fun a cs e => ∃ inner, e = [Elem.node K inner] ∧ R a cs (sigE inner)) := by
  refine ⟨good_withNode K body h.1, ?_⟩
  intro s a s' w hi he hlq hq hr hnd
  obtain ⟨t, rest, ht, hni⟩ := hsig _ hlq.1 hq
  obtain ⟨s0, s2, inner, o0, hi0, _, hr2, o2, hin, hout⟩ := withNode_tree K body s hi a s' hr
  obtain ⟨_, s1, hs, hb⟩ := bind_dec skipIgnored _ s0 s2 a hr2
  obtain ⟨ign, e, hall, _⟩ := skipIgnored_spec s0 s1 (o0.w w) hs
  have : ign = [] := skip_nothing s0 s1 t rest ign (by rw [o0.toks]; exact ht) hni e hall
  subst this
  have e01 : Eat s s1 [] := by simpa using (Eat.ofObsEq o0 w).trans e
  have ht1 : Toks s1 = Toks s := by have := e01.toks; simpa using this.symm
  have he1 : EofEnd s1 := eofEnd_eat he e01 (by intro x hx; cases hx)
  have hi1 := (run_inv_added skipIgnored s0 hi0 () s1 hs).1
  have hnd2 : ¬ Doomed s2 := fun d => hnd (o2.doomed.mpr d)
  obtain ⟨cs, ad, a1, a2, a3, a4, a5⟩ := h.2 s1 a s2 e01.w hi1 he1 (hlq.of_eq ht1) (by rw [ht1]; exact hq) hb hnd2
  have hk1 : s1.builder = s0.builder := keeps_skipIgnored s0 () s1 hs
  have hinner : inner = ad := by
    rw [hk1] at a4
    rw [a4] at hin
    exact (List.append_cancel_left hin).symm
  subst hinner
  refine ⟨cs, s.pending.map pendingElem ++ [Elem.node K inner], ?_, a2, eofEnd_obs a3 o2, by rw [hout, List.append_assoc], ?_⟩
  · rw [← ht1, a1, o2.toks]
  · rcases a5 with r | ev
    · left
      rw [sigE_append, sigE_pending, List.nil_append, sigE_node]
      exact ⟨inner, rfl, r⟩
    · exact Or.inr (hE.toks s2 s' o2.toks ev)

/-- bumping a token whose text is the keyword `word` (as the look-ahead established) -/
theorem tr_bumpKw {E : PState → Prop} (word : String) (hw : KwWord word) (sk : SK) (hk : isJunkKind sk = false) :
    Tr E (HeadData word) (bump sk)
      (fun _ cs e => ∃ t : Tok, t.data = word.toList ∧ t.kind = .name ∧ cs = [t] ∧ e = [Elem.tok sk t.data]) := by
  obtain ⟨c, r, hw1, hw2⟩ := hw
  have hb := tr_bump (E := E) sk hk (fun t => t.data = word.toList ∧ t.kind = .name)
    (by rintro t ⟨_, h⟩; rw [h]; exact ⟨rfl, by decide⟩)
  refine ⟨hb.1, ?_⟩
  intro s a s' w hi he hlq ⟨t, hh, hd⟩ hr hnd
  have hkn : t.kind = .name := hlq.1.headKw hh word c r hw1 hw2 hd
  obtain ⟨cs, ad, a1, a2, a3, a4, a5⟩ := hb.2 s a s' w hi he hlq ⟨t, hh, hd, hkn⟩ hr hnd
  refine ⟨cs, ad, a1, a2, a3, a4, ?_⟩
  rcases a5 with ⟨t', ⟨h1, h2⟩, _, h3, h4⟩ | ev
  · exact Or.inl ⟨t', h1, h2, h3, h4⟩
  · exact Or.inr ev

/-! ### named types as list items -/

def SepItem (Q : Ast.Str → Elem → Prop) (cs : List Tok) (e : List Elem) : Prop :=
  ∃ (t : Tok) (ei : Elem), t.kind = .name ∧ cs = [t] ∧ e = [ei] ∧ Q t.data ei

theorem tr_namedTypeAtName {E : PState → Prop} (hE : Early E) :
    Tr E (KindP (· == .name)) namedType (fun _ => SepItem NamedTy) := by
  unfold namedType
  apply tr_peek
  intro k
  refine tr_ite _ (fun _ => ?_) (fun hk => ?_)
  · refine (tr_withNodeAny hE "NAMED_TYPE" (tr_name (E := E) (H := fun _ => True))).mono (fun _ _ => trivial) ?_
    rintro _ cs e ⟨inner, rfl, t, hk, hv, rfl, hin⟩
    exact ⟨t, _, hk, rfl, rfl, inner, rfl, hv, hin⟩
  · refine tr_absurd (good_pure ()) ?_
    rintro q ⟨⟨t, hh, hp⟩, h2⟩
    rw [hh] at h2
    subst h2
    simp at hk hp
    exact hk hp

theorem tr_nameItem {E : PState → Prop} (hE : Early E) {H : List Tok → Prop} : Tr E H nameItem (fun _ => SepItem NamedTy) := by
  unfold nameItem
  exact tr_ifKind .name _ _ _ (tr_namedTypeAtName hE) tr_err

/-! ### `parse_separated_list` -/

def SepR (psep : Ast.P) (IK : SK) (Q : Ast.Str → Elem → Prop) (cs : List Tok) (e : List Elem) : Prop :=
  ∃ (lead : Bool) (first : Ast.Str) (rest : List Ast.Str), TokIs cs (tSepLead psep lead first rest) ∧
    All2 (fun e n => Q n e) (e.filter (nodeP (· == IK))) (first :: rest)

theorem tr_sepList {E : PState → Prop} (hE : Early E) {H : List Tok → Prop} (sep : Kind) (sk : SK) (psep : Ast.P)
    (hjk : isJunkKind sk = false) (hx : ∀ t : Tok, t.kind = sep → astOfV t = some (.p psep))
    (hni : isIgnoredKind sep = false) (hne : sep ≠ .eof) (run : PI Unit) (IK : SK) (Q : Ast.Str → Elem → Prop)
    (hQ : ∀ n e, Q n e → nodeP (· == IK) e = true)
    (hrun : Tr E (fun _ => True) run (fun _ => SepItem Q)) :
    Tr E H (parseSeparatedList sep sk run) (fun _ => SepR psep IK Q) := by
  rw [parseSeparatedList_eq]
  have hbs := tr_bump (E := E) sk hjk (fun t => t.kind = sep) (by intro t h; rw [h]; exact ⟨hni, hne⟩)
  have hbs' : Tr E (KindP (· == sep)) (bump sk) (fun _ cs e => ∃ ts : Tok, ts.kind = sep ∧ cs = [ts] ∧ e = [Elem.tok sk ts.data]) :=
    hbs.mono (fun q ⟨t, h1, h2⟩ => ⟨t, h1, by simpa using h2⟩) (fun _ _ _ ⟨t, h1, _, h2, h3⟩ => ⟨t, h1, h2, h3⟩)
  let ItemQ : List Tok → List Elem → Prop := fun cs e => ∃ (ts t : Tok) (ei : Elem), ts.kind = sep ∧ t.kind = .name ∧
    cs = [ts, t] ∧ e = [Elem.tok sk ts.data, ei] ∧ Q t.data ei
  have hitem : Tr E (KindP (· == sep)) (bump sk >>= fun _ => run) (fun _ => ItemQ) := by
    refine (tr_bind hE hbs' (fun _ => hrun)).mono (fun _ h => h) ?_
    rintro _ cs e ⟨_, c1, c2, e1, e2, rfl, rfl, ⟨ts, h1, rfl, rfl⟩, t, ei, h2, rfl, rfl, h3⟩
    exact ⟨ts, t, ei, h1, h2, rfl, rfl, h3⟩
  have hitems : ∀ cs e, ItemsT ItemQ cs e → ∃ rest : List Ast.Str, TokIs cs (Ast.tSepNames psep rest) ∧
      All2 (fun e n => Q n e) (e.filter (nodeP (· == IK))) rest := by
    rintro cs e ⟨items, rfl, rfl, hall⟩
    induction items with
    | nil => exact ⟨[], TokIs.nil, All2.nil⟩
    | cons i items ih =>
      obtain ⟨rest, h1, h2⟩ := ih (fun j hj => hall j (List.mem_cons_of_mem _ hj))
      obtain ⟨ts, t, ei, hk1, hk2, hc, he, hq⟩ := hall i List.mem_cons_self
      refine ⟨t.data :: rest, ?_, ?_⟩
      · simp only [List.map_cons, List.flatten_cons, hc, Ast.tSepNames]
        exact TokIs.cons (hx ts hk1) (TokIs.cons (by simp [astOfV, hk2]) h1)
      · simp only [List.map_cons, List.flatten_cons, he, List.filter_append, List.filter_cons, FromCst.nodeP_tok, hQ _ _ hq]
        exact All2.cons hq h2
  have hrest : Tr E (fun _ => True) (sepRest sep sk run) (fun _ cs e => ∃ (first : Ast.Str) (rest : List Ast.Str),
      TokIs cs (.name first :: Ast.tSepNames psep rest) ∧ All2 (fun e n => Q n e) (e.filter (nodeP (· == IK))) (first :: rest)) := by
    unfold sepRest
    refine (tr_bind hE hrun (fun _ => tr_kindWhile hE sep _ ItemQ hitem)).mono (fun _ h => h) ?_
    rintro _ cs e ⟨_, c1, c2, e1, e2, rfl, rfl, ⟨t, ei, hk, rfl, rfl, hq⟩, hit⟩
    obtain ⟨rest, h1, h2⟩ := hitems _ _ hit
    refine ⟨t.data, rest, TokIs.cons (by simp [astOfV, hk]) h1, ?_⟩
    simp only [List.filter_append, List.filter_cons, hQ _ _ hq, List.filter_nil, List.cons_append, List.nil_append, if_true]
    exact All2.cons hq h2
  refine (tr_optKind hE sep (bump sk) _ _ _ hbs' hrest).mono (fun _ _ => trivial) ?_
  rintro _ cs e ⟨c1, c2, e1, e2, rfl, rfl, h1, first, rest, h2, h3⟩
  rcases h1 with ⟨ts, hk, rfl, rfl⟩ | ⟨rfl, rfl⟩
  · refine ⟨true, first, rest, ?_, ?_⟩
    · have := (TokIs.single ts _ (hx ts hk)).append h2
      simpa [tSepLead] using this
    · simpa [List.filter_cons, FromCst.nodeP_tok] using h3
  · exact ⟨false, first, rest, by simpa [tSepLead] using h2, by simpa using h3⟩

/-! ### implements interfaces, union member types -/

theorem namedTy_nodeP {n : Ast.Str} {e : Elem} (h : NamedTy n e) : nodeP (· == "NAMED_TYPE") e = true := by
  obtain ⟨c, rfl, _⟩ := h; simp [FromCst.nodeP_node]

/-- what a names container contributes: tokens `intro ++ tSepLead …`, one `K` node -/
def NamesR (K : SK) (intro : List Ast.Tok) (psep : Ast.P) (cs : List Tok) (e : List Elem) : Prop :=
  ∃ (lead : Bool) (first : Ast.Str) (rest : List Ast.Str) (en : Elem), TokIs cs (intro ++ tSepLead psep lead first rest) ∧
    e = [en] ∧ NamesNode K (first :: rest) en

theorem tr_implementsInterfaces {E : PState → Prop} (hE : Early E) :
    Tr E (HeadData "implements") implementsInterfaces (fun _ => NamesR "IMPLEMENTS_INTERFACES" [.name Ast.sImplements] .amp) := by
  rw [implementsInterfaces_eq]
  have hb := tr_bind hE (tr_bumpKw (E := E) "implements" kwWord_implements "implements_KW" (by decide))
    (fun _ => tr_sepList hE (H := fun _ => True) .amp "AMP" .amp (by decide) (by intro t ht; simp [astOfV, ht]) rfl (by decide)
      nameItem "NAMED_TYPE" NamedTy (fun n e h => namedTy_nodeP h) (tr_nameItem hE))
  refine (tr_withNodeL hE "IMPLEMENTS_INTERFACES" (fun q hl hq => kwWord_sig kwWord_implements q ⟨hl, hq⟩) hb).mono (fun _ h => h) ?_
  rintro _ cs e ⟨inner, rfl, _, c1, c2, e1, e2, rfl, hin, ⟨t, hd, hk, rfl, rfl⟩, lead, first, rest, h1, h2⟩
  refine ⟨lead, first, rest, _, ?_, rfl, inner, rfl, ?_⟩
  · refine TokIs.cons (t := t) ?_ h1
    rw [show astOfV t = some (.name t.data) from by simp [astOfV, hk], hd]; rfl
  · rw [hin]
    simpa [List.filter_cons, FromCst.nodeP_tok] using h2

theorem tr_unionMemberTypes {E : PState → Prop} (hE : Early E) :
    Tr E (KindP (· == .eq)) unionMemberTypes (fun _ => NamesR "UNION_MEMBER_TYPES" [.p .eq] .pipe) := by
  rw [unionMemberTypes_eq]
  have hbe' := (tr_bumpK (E := E) "EQ" (by decide) .eq rfl (by decide)).atKind
  have hb := tr_bind hE hbe'
    (fun _ => tr_sepList hE (H := fun _ => True) .pipe "PIPE" .pipe (by decide) (by intro t ht; simp [astOfV, ht]) rfl (by decide)
      nameItem "NAMED_TYPE" NamedTy (fun n e h => namedTy_nodeP h) (tr_nameItem hE))
  refine (tr_withNode hE "UNION_MEMBER_TYPES" (kindP_sig _ eq_sig) hb).mono (fun _ h => h) ?_
  rintro _ cs e ⟨inner, rfl, _, c1, c2, e1, e2, rfl, hin, ⟨t, hk, _, rfl, rfl⟩, lead, first, rest, h1, h2⟩
  refine ⟨lead, first, rest, _, ?_, rfl, inner, rfl, ?_⟩
  · exact TokIs.cons (by simp [astOfV, hk]) h1
  · rw [hin]
    simpa [List.filter_cons, FromCst.nodeP_tok] using h2

/-! ### directive locations -/

theorem locTree_nodeP {n : Ast.Str} {e : Elem} (h : LocTree n e) : nodeP (· == "DIRECTIVE_LOCATION") e = true := by
  obtain ⟨k, d, _, _, rfl⟩ := h; simp [FromCst.nodeP_node]

theorem dirLocKw_notJunk : ∀ k ∈ directiveLocationKeywords, isJunkKind (k ++ "_KW") = false := by decide

theorem tr_directiveLocation {E : PState → Prop} (hE : Early E) {H : List Tok → Prop} :
    Tr E H directiveLocation (fun _ => SepItem LocTree) := by
  unfold directiveLocation
  apply tr_peekToken
  intro o
  cases o with
  | none =>
    refine (tr_never (acc_emptyQueue (good_pure ()))).mono (fun _ h => h.2) (fun _ _ _ h => h)
  | some t =>
    simp only []
    refine tr_ite _ (fun hk => ?_) (fun _ => tr_err)
    have hk' : t.kind = .name := by simpa using hk
    split
    · rename_i k hf
      have hkw : t.data = k.toList := by
        have := List.find?_some hf
        simpa [kw] using this
      have hmem : k ∈ directiveLocationKeywords := List.mem_of_find?_eq_some hf
      have hj : isJunkKind (k ++ "_KW") = false := dirLocKw_notJunk k hmem
      refine (tr_leaf (E := E) "DIRECTIVE_LOCATION" (k ++ "_KW") hj (fun t' => t' = t)
        (by rintro t' rfl; rw [hk']; exact ⟨rfl, by decide⟩)).mono ?_ ?_
      · rintro q ⟨_, hq⟩; exact ⟨t, hq, rfl⟩
      · rintro _ cs e ⟨t', rfl, _, rfl, rfl⟩
        exact ⟨t', _, hk', rfl, rfl, k, t'.data, hmem, hkw, rfl⟩
    · exact tr_err

def LocationsR (cs : List Tok) (e : List Elem) : Prop :=
  ∃ (lead : Bool) (first : Ast.Str) (rest : List Ast.Str), TokIs cs (tSepLead .pipe lead first rest) ∧
    All2 (fun e n => LocTree n e) (e.filter (nodeP (· == "DIRECTIVE_LOCATION"))) (first :: rest)

theorem tr_directiveLocations {E : PState → Prop} (hE : Early E) {H : List Tok → Prop} :
    Tr E H directiveLocations (fun _ => LocationsR) := by
  unfold directiveLocations
  exact tr_sepList hE .pipe "PIPE" .pipe (by decide) (by intro t ht; simp [astOfV, ht]) rfl (by decide) directiveLocation
    "DIRECTIVE_LOCATION" LocTree (fun n e h => locTree_nodeP h) (tr_directiveLocation hE)

/-! ### root operation type definition -/

theorem tr_opBump {E : PState → Prop} (t : Tok) (op : Ast.OpType) (hd : t.data = op.name.toList) :
    Tr E (fun q => KindP (· == .name) q ∧ q.head? = some t) (withNode "OPERATION_TYPE" (bump (rootKw op)))
      (fun _ cs e => ∃ t' : Tok, t'.kind = .name ∧ t'.data = op.name.toList ∧ cs = [t'] ∧
        e = [Elem.node "OPERATION_TYPE" [Elem.tok (rootKw op) t'.data]]) := by
  have hj : isJunkKind (rootKw op) = false := by cases op <;> decide
  refine (tr_leaf (E := E) "OPERATION_TYPE" (rootKw op) hj (fun t' => t'.kind = .name ∧ t'.data = op.name.toList)
    (by rintro t' ⟨h, _⟩; rw [h]; exact ⟨rfl, by decide⟩)).mono ?_ ?_
  · rintro q ⟨⟨t', hh, hk⟩, h2⟩
    rw [hh] at h2
    have : t' = t := by simpa using h2
    subst this
    exact ⟨t', hh, by simpa using hk, hd⟩
  · rintro _ cs e ⟨t', ⟨h1, h2⟩, _, h3, h4⟩
    exact ⟨t', h1, h2, h3, h4⟩

/-- `operation_type` on a Name token: one of the three keywords, as `OPERATION_TYPE[<kw>_KW]` -/
theorem tr_operationTypeD {E : PState → Prop} (hE : Early E) :
    Tr E (KindP (· == .name)) operationType
      (fun _ cs e => ∃ (op : Ast.OpType) (t : Tok), t.kind = .name ∧ t.data = op.name.toList ∧ cs = [t] ∧
        e = [Elem.node "OPERATION_TYPE" [Elem.tok (rootKw op) t.data]]) := by
  unfold operationType
  apply tr_peekData
  intro o
  cases o with
  | none =>
    refine tr_absurd (good_pure ()) ?_
    rintro q ⟨⟨t, hh, _⟩, h2⟩
    rw [hh] at h2; cases h2
  | some t =>
    simp only [Option.map]
    by_cases h1 : kw "query" t.data = true
    · simp only [h1, if_true]
      exact (tr_opBump t .query (by have h0 := h1; simp only [kw, beq_iff_eq] at h0; exact h0)).mono (fun _ h => h)
        (fun _ _ _ ⟨t', a, b, c, d⟩ => ⟨.query, t', a, b, c, d⟩)
    · simp only [h1, Bool.false_eq_true, if_false]
      by_cases h2 : kw "subscription" t.data = true
      · simp only [h2, if_true]
        exact (tr_opBump t .subscription (by have h0 := h2; simp only [kw, beq_iff_eq] at h0; exact h0)).mono (fun _ h => h)
          (fun _ _ _ ⟨t', a, b, c, d⟩ => ⟨.subscription, t', a, b, c, d⟩)
      · simp only [h2, Bool.false_eq_true, if_false]
        by_cases h3 : kw "mutation" t.data = true
        · simp only [h3, if_true]
          exact (tr_opBump t .mutation (by have h0 := h3; simp only [kw, beq_iff_eq] at h0; exact h0)).mono (fun _ h => h)
            (fun _ _ _ ⟨t', a, b, c, d⟩ => ⟨.mutation, t', a, b, c, d⟩)
        · simp only [h3, Bool.false_eq_true, if_false]
          refine (tr_withNode (R := fun _ _ _ => False) hE "OPERATION_TYPE" (fun q hq => kindP_sig _ name_sig q hq.1) tr_errAndPop).mono
            (fun _ h => h) ?_
          rintro _ cs e ⟨_, _, hf⟩
          exact absurd hf id

/-- `named_type`: a Name under NAMED_TYPE, or — silently — nothing -/
theorem tr_namedTypeOpt {E : PState → Prop} (hE : Early E) {H : List Tok → Prop} :
    Tr E H namedType (fun _ cs e => SepItem NamedTy cs e ∨ (cs = [] ∧ e = [])) := by
  have h1 := tr_namedTypeAtName hE
  unfold namedType at h1 ⊢
  apply tr_peek
  intro k
  refine tr_ite _ (fun hk => ?_) (fun _ => ?_)
  · refine (tr_withNodeAny hE "NAMED_TYPE" (tr_name (E := E) (H := fun _ => True))).mono (fun _ _ => trivial) ?_
    rintro _ cs e ⟨inner, rfl, t, hk, hv, rfl, hin⟩
    exact Or.inl ⟨t, _, hk, rfl, rfl, inner, rfl, hv, hin⟩
  · exact (tr_pure E _ ()).mono (fun _ _ => trivial) (fun _ _ _ h => Or.inr h.2)

def RootR (cs : List Tok) (e : List Elem) : Prop :=
  ∃ (r : Ast.OpType × Option Ast.Str) (er : Elem), TokIs cs (tRootOpF r) ∧ e = [er] ∧ RootTree r er

theorem tr_rootOperationTypeDefinition {E : PState → Prop} (hE : Early E) :
    Tr E (KindP (· == .name)) rootOperationTypeDefinition (fun _ => RootR) := by
  unfold rootOperationTypeDefinition
  have hbc' := (tr_bumpK (E := E) "COLON" (by decide) .colon rfl (by decide)).atKind
  have hc := tr_ifKind (E := E) (H := fun _ => True) .colon _ _ _
    (tr_bind hE hbc' (fun _ => tr_namedTypeOpt hE (H := fun _ => True))) tr_err
  have hb := tr_bind hE (tr_operationTypeD hE) (fun _ => hc)
  refine (tr_withNode hE "ROOT_OPERATION_TYPE_DEFINITION" (kindP_sig _ name_sig) hb).mono (fun _ h => h) ?_
  rintro _ cs e ⟨inner, rfl, _, c1, c2, e1, e2, rfl, hin, ⟨op, t, hk, hd, rfl, rfl⟩, _, c3, c4, e3, e4, rfl, rfl,
    ⟨tc, hkc, _, rfl, rfl⟩, hnt⟩
  have hop : astOfV t = some (.name op.name.toList) := by
    rw [show astOfV t = some (.name t.data) from by simp [astOfV, hk], hd]
  have hcol : astOfV tc = some (.p .colon) := by simp [astOfV, hkc]
  rcases hnt with ⟨tn, en, hkn, rfl, rfl, hen⟩ | ⟨rfl, rfl⟩
  · refine ⟨(op, some tn.data), _, ?_, rfl, inner, t.data, tc.data, [en], rfl, by rw [hin]; rfl, Or.inr ⟨tn.data, en, rfl, rfl, hen⟩⟩
    exact TokIs.cons hop (TokIs.cons hcol (TokIs.single tn _ (by simp [astOfV, hkn])))
  · refine ⟨(op, none), _, ?_, rfl, inner, t.data, tc.data, [], rfl, by rw [hin]; rfl, Or.inl ⟨rfl, rfl⟩⟩
    exact TokIs.cons hop (TokIs.single tc _ hcol)

end Apollo.Parse
