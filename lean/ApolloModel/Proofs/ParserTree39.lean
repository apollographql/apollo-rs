import ApolloModel.Proofs.ParserTree38
import ApolloModel.Proofs.ParserExactS16
/-
C08 (pipeline): the exact guards.  `definitionFit` (exact) of the AST from `Exact.itemFit` of the strict items, and
`Exact.itemFitX → Exact.itemFit` on strict items (all root operation types have their named type).  The loop of
`document()` with the tree calculus AND the exact soundness calculus on the SAME dispatch run: every item the tree
calculus describes is also an item within the exact budget (`Exact.itemFitX`) spelled by the same tokens.  The exact
recursion budget of an executable definition implies its well-formedness; the item of the exact soundness calculus and
the item of the tree calculus on the same tokens are the same executable definition.
-/
set_option linter.unusedSimpArgs false
set_option linter.unusedVariables false

namespace Apollo.Parse.Exact
open Apollo.Rowan hiding Str
open Apollo.Lex hiding Str

theorem definitionFit_of_strict_items (rl : Nat) : ∀ (its : List DocItem) (items : List Ast.Item), strictItems its = some items →
    (∀ i ∈ its, itemFit rl i) → ∀ x ∈ items.map (·.2), definitionFit rl x :=
  itemOfDef_of_strictItems (itemFit rl) fun oe d h => by
    cases d <;> first | exact h | exact absurd h (by simp [itemFit, execFit])

theorem fullRoots_named : ∀ (roots : List (Ast.OpType × Option Ast.Str)) (rs : List (Ast.OpType × Ast.Str)),
    fullRoots roots = some rs → ∀ r ∈ roots, r.2 ≠ none
  | [], _, _ => by intro r hr; cases hr
  | (op, some nm) :: t, rs, h => by
    simp only [fullRoots, Option.map_eq_some_iff] at h
    obtain ⟨r', hr', _⟩ := h
    intro r hr
    rcases List.mem_cons.mp hr with rfl | hr
    · intro h0; cases h0
    · exact fullRoots_named t r' hr' r hr
  | (_, none) :: _, _, h => by simp [fullRoots] at h

/-- on a strict item the sound-side guard `itemFitX` is the complete-side guard `itemFit` -/
theorem itemFit_of_itemFitX_strict (b : Nat) (i : DocItem) (a : Ast.Item) (hs : i.strict = some a) (h : itemFitX b i) :
    itemFit b i := by
  cases i with
  | exec oe d => exact h
  | loose l =>
    simp only [DocItem.strict, Option.map_eq_some_iff] at hs
    obtain ⟨d, hd, _⟩ := hs
    refine looseFit_of_looseFitX b l ?_ h
    rintro dd ds roots (rfl | rfl)
    · simp only [LooseDef.strict, Option.map_eq_some_iff] at hd
      obtain ⟨rs, hr, _⟩ := hd
      exact fullRoots_named roots rs hr
    · simp only [LooseDef.strict, Option.map_eq_some_iff] at hd
      obtain ⟨rs, hr, _⟩ := hd
      exact fullRoots_named roots rs hr

end Apollo.Parse.Exact

namespace Apollo.Parse
open Apollo.Rowan hiding Str
open Apollo.Lex hiding Str

/-- one definition as the tree calculus sees it (`Q`) and as the exact soundness calculus sees it: the same tokens spell an
    item within the exact budget `B` -/
def FitQ (Q : List Tok → List Elem → Prop) (B : Nat) (cs : List Tok) (e : List Elem) : Prop :=
  Q cs e ∧ ∃ i : DocItem, TokIs cs i.toks ∧ Exact.itemFitX B i

/-- one dispatch seen by both calculi: the consumed tokens are the same, since both split the same queue -/
theorem documentDispatch_trS {n : Nat} {Q : List Tok → List Elem → Prop} (L : DefTrs n Q) (XL : Exact.X.DefExact n) :
    DispatchTr n (FitQ Q) := by
  intro s s' t rest st hc ht h hnd
  obtain ⟨c1, d1, t1, n1, e1, b1, r1⟩ := documentDispatch_tr L s s' t rest st hc ht h hnd
  obtain ⟨cs2, i, u1, _, _, u4, u5, _⟩ := Exact.X.dispatch_soundG XL s s' t rest st.w st.eof st.lq.1 hc ht h hnd
  have hcs : c1 = cs2 := List.append_cancel_right (t1.symm.trans u1)
  subst hcs
  exact ⟨c1, d1, t1, n1, e1, b1, r1.imp (fun q => ⟨q, i, u4, u5⟩) id⟩

/-- `docLoop_tr` with every item also within the exact budget `B` the loop runs with -/
theorem docLoop_trS {n : Nat} {Q : List Tok → List Elem → Prop} (L : DefTrs n Q) (XL : Exact.X.DefExact n) (B : Nat) :
    ∀ (fuel : Nat) (s s' : PState), St s → Exact.bud s = B →
    (peekWhileLoop (documentStep n) fuel).run s = .ok () s' → ¬ Doomed s' → AtEof s' ∧ TrRes NoE s s' (ItemsT (FitQ Q B)) :=
  docLoop_tr (documentDispatch_trS L XL) B

/-- `parseDocument_cst` with every item also within the exact budget: the recursion limit `rl` of the accepted run -/
theorem parseDocument_cstS {Q : List Tok → List Elem → Prop} (L : ∀ n, DefTrs n Q) (XL : ∀ n, Exact.X.DefExact n) (rl : Nat) (src : Str) (root : Elem)
    (h : (parse .document none rl src).outcome = .tree root) (herr : (parse .document none rl src).errors = []) :
    LexClean src ∧ ∃ ts e inner, sig (srcToks src) = ts ++ [e] ∧ e.kind = .eof ∧ root = Elem.node "DOCUMENT" inner ∧
      ∃ items : List (List Tok × List Elem), items ≠ [] ∧ ts = (items.map (·.1)).flatten ∧
        sigE inner = (items.map (·.2)).flatten ∧ ∀ i ∈ items, FitQ Q rl i.1 i.2 :=
  parseDocument_tr (fun n => documentDispatch_trS (L n) (XL n)) rl src root h herr

end Apollo.Parse

namespace Apollo.Parse.Exact
open Apollo.Rowan hiding Str
open Apollo.Lex hiding Str

theorem argsFit_wf {c : Bool} {b : Nat} {args : List (Ast.Str × Ast.Value)} (h : argsFit c b args) : Ast.wfArgs args = true :=
  argsOk_wf c args (fun a ha => (h a ha).1)

theorem dirsFit_wf {c : Bool} {b : Nat} {ds : List Ast.Directive} (h : dirsFit c b ds) : Ast.wfDirs ds = true :=
  dirsOk_wf c ds (fun d hd a ha => (h d hd a ha).1)

mutual
  theorem fitSel_wf : ∀ (s : Ast.Sel) (b : Nat), fitSel s b → Ast.wfSel s = true
    | .field _ _ args dirs sels, b, h => by
      simp only [fitSel] at h
      simp only [Ast.wfSel, Bool.and_eq_true]
      exact ⟨⟨argsFit_wf h.1, dirsFit_wf h.2.1⟩, fitSub_wf sels b h.2.2⟩
    | .spread nm dirs, b, h => by
      simp only [fitSel] at h
      simp only [Ast.wfSel, Bool.and_eq_true, bne_iff_ne, ne_eq]
      exact ⟨h.1, dirsFit_wf h.2⟩
    | .inline _ dirs sels, b, h => by
      simp only [fitSel] at h
      simp only [Ast.wfSel, Bool.and_eq_true]
      refine ⟨⟨dirsFit_wf h.1, fitSels_wf sels (b - 1) h.2.2.2⟩, ?_⟩
      cases sels with
      | nil => exact absurd rfl h.2.1
      | cons a r => rfl
  theorem fitSels_wf : ∀ (ss : Ast.Sels) (b : Nat), fitSels ss b → Ast.wfSels ss = true
    | .nil, _, _ => rfl
    | .cons s tl, b, h => by
      simp only [fitSels] at h
      simp only [Ast.wfSels, Bool.and_eq_true]
      exact ⟨fitSel_wf s b h.1, fitSels_wf tl b h.2⟩
  theorem fitSub_wf : ∀ (ss : Ast.Sels) (b : Nat), fitSub ss b → Ast.wfSels ss = true
    | .nil, _, _ => rfl
    | .cons s tl, b, h => by
      simp only [fitSub] at h
      simp only [Ast.wfSels, Bool.and_eq_true]
      exact ⟨fitSel_wf s (b - 1) h.2.1, fitSels_wf tl (b - 1) h.2.2⟩
end

theorem varsFit_wf {b : Nat} : ∀ (vars : List Ast.VarDef), (∀ v ∈ vars, varFit b v) → Ast.wfVarDefs vars = true
  | [], _ => rfl
  | v :: r, h => by
    simp only [Ast.wfVarDefs, Bool.and_eq_true]
    obtain ⟨_, hd, hdirs⟩ := h v (by simp)
    refine ⟨⟨?_, dirsFit_wf hdirs⟩, varsFit_wf r (fun x hx => h x (by simp [hx]))⟩
    cases hv : v.default with
    | none => rfl
    | some d => exact valueOk_wf true d (hd d hv).1

theorem execFit_wf {rl : Nat} {d : Ast.Definition} (h : execFit rl d) : Ast.wfDefinition d = true := by
  cases d with
  | operation ty name vars dirs sels =>
    obtain ⟨hv, hd, hne, _, hf⟩ := h
    simp only [Ast.wfDefinition, Bool.and_eq_true]
    refine ⟨⟨⟨varsFit_wf vars hv, dirsFit_wf hd⟩, fitSels_wf sels _ hf⟩, ?_⟩
    cases sels with
    | nil => exact absurd rfl hne
    | cons a r => rfl
  | fragment name tc dirs sels =>
    obtain ⟨hn, hd, hne, _, hf⟩ := h
    simp only [Ast.wfDefinition, Bool.and_eq_true, bne_iff_ne, ne_eq]
    refine ⟨⟨⟨hn, dirsFit_wf hd⟩, fitSels_wf sels _ hf⟩, ?_⟩
    cases sels with
    | nil => exact absurd rfl hne
    | cons a r => rfl
  | _ => exact absurd h (by simp [execFit])

/-- **identification, executable definitions**: the item of the exact soundness calculus spelled by the same tokens as an
    executable definition of the tree calculus is that definition; so the definition is within the exact budget -/
theorem exec_item_fit (rl : Nat) (it : Ast.Item) (hw : Ast.wfDefinition it.2 = true) (hex : isExecutable it.2 = true)
    (cs : List Tok) (h1 : TokIs cs (Ast.tDefinition it.1 it.2)) (i' : DocItem) (h2 : TokIs cs i'.toks) (hf : itemFitX rl i') :
    execFit rl it.2 := by
  cases i' with
  | exec oe' d' =>
    have hf' : execFit rl d' := hf
    have hw' := execFit_wf hf'
    have hex' := execFit_executable hf'
    have heq : Ast.tDefinition oe' d' = Ast.tDefinition it.1 it.2 := tokIs_inj h2 h1
    have p1 := Ast.closed_roundtrip oe' d' (max (Ast.szDefinition d') (Ast.szDefinition it.2)) [] (exec_closed hex') hw' (Nat.le_max_left _ _)
    have p2 := Ast.closed_roundtrip it.1 it.2 (max (Ast.szDefinition d') (Ast.szDefinition it.2)) [] (exec_closed hex) hw (Nat.le_max_right _ _)
    rw [heq, p2] at p1
    simp only [Option.some.injEq, Prod.mk.injEq, and_true] at p1
    rw [p1]; exact hf'
  | loose l' =>
    exfalso
    have heq : l'.toks = Ast.tDefinition it.1 it.2 := tokIs_inj h2 h1
    have e1 := looseDef_tsStart l'
    have e2 := exec_head it.1 it.2 [] hex
    rw [List.append_nil, ← heq, e1] at e2
    cases e2

theorem definitionFit_exec {rl : Nat} {d : Ast.Definition} (hex : isExecutable d = true) (h : execFit rl d) : definitionFit rl d := by
  cases d <;> first | exact h | exact absurd hex (by simp [isExecutable])

/-- **exact soundness and the tree calculus on the same run, executable documents**: an accepted document whose tree holds
    executable definitions only — `from_cst` returns well-formed executable definitions, each within the EXACT recursion
    budget `rl` of the accepted run -/
theorem parseExecutableDocument_fit (rl : Nat) (src : Str) (root : Elem)
    (h : (parse .document none rl src).outcome = .tree root) (herr : (parse .document none rl src).errors = [])
    (hexec : ExecRoot root) :
    LexClean src ∧ ∃ (ts : List Tok) (e : Tok) (its : List Ast.Item), sig (srcToks src) = ts ++ [e] ∧ e.kind = .eof ∧
      its ≠ [] ∧ TokIs ts (Ast.itemsToks its) ∧ (∀ i ∈ its, Ast.wfDefinition i.2 = true ∧ definitionFit rl i.2) ∧
      (FromCst.fromCst root).1 = its.map (·.2) := by
  obtain ⟨hclean, ts, e, inner, h1, h2, hroot, items, hne, hts, hsig, hall⟩ :=
    parseDocument_cstS (fun n => defTrs_of_ts n TsAny (tsTrs n)) (fun n => defExactX_of_remaining (defRemaining_done n)) rl src root h herr
  have hall' : ∀ i ∈ items, ∃ (it : Ast.Item) (ed : Elem), TokIs i.1 (Ast.tDefinition it.1 it.2) ∧ Ast.wfDefinition it.2 = true ∧
      i.2 = [ed] ∧ DefConv it.2 ed ∧ definitionFit rl it.2 := by
    intro i hi
    obtain ⟨hq, i', hi1, hi2⟩ := hall i hi
    rcases hq with ⟨it, ed, a, b, c, d, e', _⟩ | ⟨l, ed, a, b, c, d⟩
    · exact ⟨it, ed, a, b, c, d, definitionFit_exec e' (exec_item_fit rl it b e' i.1 a i' hi1 hi2)⟩
    · exfalso
      obtain ⟨K, kcs, rfl, hk1, hk2⟩ := FromCst.defTree_kind l ed d
      have hmem : Elem.node K kcs ∈ inner := by
        apply FromCst.mem_sigE
        rw [hsig]
        exact List.mem_flatten.mpr ⟨i.2, List.mem_map.mpr ⟨i, hi, rfl⟩, by rw [c]; simp⟩
      have := hexec "DOCUMENT" inner hroot _ hmem (by rw [FromCst.nodeP_node]; exact hk1)
      rw [FromCst.nodeP_node, hk2] at this
      cases this
  obtain ⟨its, g1, g2, g3, g4⟩ := document_fromCst_of_itemsX (fun it => definitionFit rl it.2) root inner ts items hroot hne hts hsig hall'
  exact ⟨hclean, ts, e, its, h1, h2, g1, g2, g3, g4⟩

end Apollo.Parse.Exact
