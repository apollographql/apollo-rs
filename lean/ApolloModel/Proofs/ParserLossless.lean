import ApolloModel.Proofs.Parser
/-
C02/C04: what the tree of a document covers.  With no token limit, when `document()` returns the
lexer is exhausted, so the invariant `Inv.text` says the tree text is the whole input (unless the
`dropped` ghost flag was raised, i.e. ty.rs threw a token away).
-/
namespace Apollo.Parse
open Apollo.Rowan hiding Str
open Apollo.Lex hiding Str

theorem advance_ne_limit (src : Lex.Str) : (advance src).1 ≠ .limit := by
  have key : ∀ (src : Lex.Str) (st : State) (kind : Kind) (e : Bool) (acc : Lex.Str),
      (runD st kind e acc src).1 ≠ .limit := by
    intro src
    induction src with
    | nil => intro st kind e acc; cases st <;> simp [runD, eofItem]
    | cons c rest ih =>
      intro st kind e acc
      unfold runD
      cases h : step st kind e acc c with
      | goto st' k' e' => exact ih st' k' e' _
      | incl o => cases o <;> simp [Out.mk]
      | excl o => cases o <;> simp [Out.mk]
  exact key src .start .eof false []

theorem lexNext_err_progress (l : LexSt) (d : Str) (i : Nat) (h : (lexNext l).1 = some (.err d i)) :
    (lexNext l).2.src.length < l.src.length := by
  unfold lexNext at h ⊢
  by_cases hf : l.finished = true
  · simp [hf] at h
  · simp only [hf, Bool.false_eq_true, if_false] at h ⊢
    by_cases hc : (lexCheck l).1 = true
    · simp [hc] at h
    · simp only [hc, Bool.false_eq_true, if_false] at h ⊢
      cases hs : l.src with
      | nil => simp [hs] at h
      | cons c rest =>
        simp only [hs] at h ⊢
        have hp := Lex.advance_progress c rest
        cases hr : (advance (c :: rest)).1 with
        | tok k d' => simp [hr] at h
        | err d' => simp only [hr]; exact hp.2
        | limit => exact absurd hr (advance_ne_limit _)

theorem lexNext_none_iff (l : LexSt) (h : (lexNext l).1 = none) : l.finished = true ∧ (lexNext l).2 = l := by
  unfold lexNext at h ⊢
  by_cases hf : l.finished = true
  · simp [hf]
  · simp only [hf, Bool.false_eq_true, if_false] at h
    by_cases hc : (lexCheck l).1 = true
    · simp [hc] at h
    · simp only [hc, Bool.false_eq_true, if_false] at h
      cases hs : l.src with
      | nil => simp [hs] at h
      | cons c rest =>
        simp only [hs] at h
        cases hr : (advance (c :: rest)).1 <;> simp [hr] at h

theorem nextTokenRaw_finished (fuel : Nat) (s : PState) (h : s.lx.finished = true) :
    (nextTokenRaw fuel s).2.lx.finished = true ∧ (nextTokenRaw fuel s).1 = none := by
  cases fuel with
  | zero => exact ⟨h, rfl⟩
  | succ n =>
    have := lexNext_finished s.lx h
    simp [nextTokenRaw, this, h]

theorem nextTokenRaw_none_finished : ∀ (fuel : Nat) (s : PState), s.lx.src.length + 2 ≤ fuel →
    (nextTokenRaw fuel s).1 = none → (nextTokenRaw fuel s).2.lx.finished = true
  | 0, s, hf, _ => by omega
  | fuel + 1, s, hf, h => by
    unfold nextTokenRaw at h ⊢
    cases hl : lexNext s.lx with
    | mk o l' =>
      simp only [hl] at h ⊢
      cases o with
      | none =>
        have := lexNext_none_iff s.lx (by rw [hl])
        rw [hl] at this
        simp only [] at this ⊢
        rw [this.2]; exact this.1
      | some out =>
        cases out with
        | tok t => simp at h
        | err d i =>
          simp only [] at h ⊢
          have hp := lexNext_err_progress s.lx d i (by rw [hl])
          rw [hl] at hp
          simp only [] at hp
          exact nextTokenRaw_none_finished fuel _ (by simp only []; omega) h
        | limit i =>
          simp only [] at h ⊢
          have hfin := lexNext_limit_finished s.lx i (by rw [hl])
          rw [hl] at hfin
          exact (nextTokenRaw_finished fuel _ hfin).1

theorem peekToken_none (s s' : PState) (h : peekToken.run s = .ok none s') :
    s'.current = none ∧ s'.lx.finished = true := by
  unfold peekToken at h
  simp only [] at h
  cases hc : s.current with
  | some t => simp [hc] at h
  | none =>
    simp only [hc, Res.ok.injEq] at h
    obtain ⟨h1, rfl⟩ := h
    refine ⟨h1, ?_⟩
    exact nextTokenRaw_none_finished _ s (by omega) h1

theorem peekToken_some (s s' : PState) (t : Tok) (h : peekToken.run s = .ok (some t) s') :
    s'.current = some t := by
  unfold peekToken at h
  simp only [] at h
  cases hc : s.current with
  | some t' => simp only [hc, Res.ok.injEq, Option.some.injEq] at h; obtain ⟨rfl, rfl⟩ := h; exact hc
  | none =>
    simp only [hc, Res.ok.injEq] at h
    obtain ⟨h1, rfl⟩ := h
    exact h1

theorem peekToken_total (s : PState) : ∃ o s', peekToken.run s = .ok o s' := by
  unfold peekToken
  simp only []
  cases s.current <;> exact ⟨_, _, rfl⟩

theorem peek_run (s : PState) : ∃ o s', peekToken.run s = .ok o s' ∧ peek.run s = .ok (o.map (·.kind)) s' := by
  obtain ⟨o, s', h⟩ := peekToken_total s
  refine ⟨o, s', h, ?_⟩
  show (peekToken >>= fun t => pure (t.map (·.kind))).run s = _
  rw [run_bind, h]
  rfl

def Exhausted (s : PState) : Prop := curText s.current = [] ∧ s.lx.src = []

theorem exhausted_of_peek_none (s s' : PState) (hi : Inv s') (hl : s'.lx.limit = none)
    (h : peekToken.run s = .ok none s') : Exhausted s' := by
  obtain ⟨hc, hf⟩ := peekToken_none s s' h
  exact ⟨by simp [hc, curText], hi.lexDone hf hl⟩

theorem exhausted_of_peek_eof (s s' : PState) (t : Tok) (hi : Inv s') (hk : t.kind = .eof)
    (h : peekToken.run s = .ok (some t) s') : Exhausted s' := by
  have hc := peekToken_some s s' t h
  obtain ⟨hd, hs, _⟩ := hi.eofTok t hc hk
  exact ⟨by simp [hc, curText, hd], hs⟩

theorem bind_pure_const {α β : Type} (m : PI α) (b : β) (s s' : PState) (r : β)
    (h : (m >>= fun _ => pure b).run s = .ok r s') : r = b := by
  rw [run_bind] at h
  cases hm : m.run s with
  | ok a s1 => simp only [hm] at h; rw [run_pure] at h; simp only [Res.ok.injEq] at h; exact h.1.symm
  | abort w => simp [hm] at h
  | panic msg => simp [hm] at h

/-- the closure of `document()` stops (returns `Break`) only on the EOF token, without touching
    the token stream -/
theorem documentStep_false (n : Nat) (kind : Kind) (s s' : PState)
    (h : (documentStep n kind).run s = .ok false s') :
    kind = .eof ∧ s'.current = s.current ∧ s'.lx = s.lx ∧ s'.pending = s.pending ∧ s'.builder = s.builder := by
  unfold documentStep at h
  by_cases hk : (kind == .eof) = true
  · simp only [hk, if_true] at h
    refine ⟨by simpa using hk, ?_⟩
    rw [run_bind] at h
    have : assertRecZero.run s = .ok () { s with deadBranch := s.deadBranch || !(s.recCur == 0) } := rfl
    simp only [this, run_pure, Res.ok.injEq] at h
    obtain ⟨_, rfl⟩ := h
    exact ⟨rfl, rfl, rfl, rfl⟩
  · simp only [hk, Bool.false_eq_true, if_false] at h
    exfalso
    rw [run_bind] at h
    have : assertRecZero.run s = .ok () { s with deadBranch := s.deadBranch || !(s.recCur == 0) } := rfl
    simp only [this] at h
    have := bind_pure_const _ true _ s' false h
    simp at this

theorem peekWhileLoop_doc_exit (n : Nat) : ∀ (fuel : Nat) (s s' : PState), Inv s → s.lx.limit = none →
    (peekWhileLoop (documentStep n) fuel).run s = .ok () s' → Exhausted s' ∧ Inv s' ∧ s'.lx.limit = none
  | 0, s, s', _, _, h => by simp [peekWhileLoop, PI.outOfFuel] at h
  | fuel + 1, s, s', hi, hl, h => by
    unfold peekWhileLoop at h
    rw [run_bind] at h
    obtain ⟨o, s1, hpt, hpk⟩ := peek_run s
    have hp1 := peekToken.ok s hi
    simp only [hpt, Post] at hp1
    obtain ⟨hi1, hf1⟩ := hp1
    have hl1 : s1.lx.limit = none := by rw [hf1.limit]; exact hl
    rw [hpk] at h
    cases o with
    | none =>
      simp only [Option.map_none, run_pure, Res.ok.injEq] at h
      obtain ⟨_, rfl⟩ := h
      exact ⟨exhausted_of_peek_none s s1 hi1 hl1 hpt, hi1, hl1⟩
    | some t =>
      simp only [Option.map_some] at h
      rw [run_bind] at h
      have hg : getCurrent.run s1 = .ok s1.current s1 := rfl
      simp only [hg] at h
      rw [run_bind] at h
      have hd := (documentStep n t.kind).ok s1 hi1
      cases hds : (documentStep n t.kind).run s1 with
      | abort w => simp [hds] at h
      | panic m => simp [hds, Post] at hd
      | ok b s2 =>
        simp only [hds, Post] at h hd
        obtain ⟨hi2, hf2⟩ := hd
        have hl2 : s2.lx.limit = none := by rw [hf2.limit]; exact hl1
        cases b with
        | false =>
          simp only [Bool.false_eq_true, if_false, run_pure, Res.ok.injEq] at h
          obtain ⟨_, rfl⟩ := h
          obtain ⟨hk, hc, hx, _⟩ := documentStep_false n t.kind s1 s2 hds
          have hex := exhausted_of_peek_eof s s1 t hi1 hk hpt
          exact ⟨⟨by rw [hc]; exact hex.1, by rw [hx]; exact hex.2⟩, hi2, hl2⟩
        | true =>
          simp only [if_true] at h
          rw [run_bind] at h
          have hg2 : getCurrent.run s2 = .ok s2.current s2 := rfl
          simp only [hg2] at h
          by_cases hb : (s1.current == s2.current) = true
          · simp [hb, PI.stuck] at h
          · simp only [hb, Bool.false_eq_true, if_false] at h
            exact peekWhileLoop_doc_exit n fuel s2 s' hi2 hl2 h

theorem PI.run_ok {α : Type} (m : PI α) (s : PState) (hi : Inv s) (a : α) (s' : PState)
    (h : m.run s = .ok a s') : Inv s' ∧ s'.lx.limit = s.lx.limit := by
  have := m.ok s hi
  simp only [h, Post] at this
  exact ⟨this.1, this.2.limit⟩

theorem documentBody_final (n : Nat) (s s' : PState) (hi : Inv s) (hl : s.lx.limit = none)
    (h : (documentBody n).run s = .ok () s') : s'.pending = [] ∧ Exhausted s' ∧ Inv s' := by
  unfold documentBody at h
  obtain ⟨k, s1, h1, h⟩ := bind_dec _ _ _ _ _ h
  obtain ⟨hi1, hl1⟩ := PI.run_ok peek s hi k s1 h1
  obtain ⟨u, s2, h2, h⟩ := bind_dec _ _ _ _ _ h
  obtain ⟨hi2, hl2⟩ := PI.run_ok _ s1 hi1 u s2 h2
  obtain ⟨u3, s3, h3, h⟩ := bind_dec _ _ _ _ _ h
  have hpi : pushIgnored.run s3 = .ok () { s3 with builder := { s3.builder with children := s3.builder.children ++ s3.pending.map pendingElem }, pending := [] } := rfl
  rw [hpi] at h
  simp only [Res.ok.injEq, true_and] at h
  unfold peekWhile at h3
  rw [run_bind] at h3
  have hsl : srcLen.run s2 = .ok s2.lx.src.length s2 := rfl
  simp only [hsl] at h3
  obtain ⟨hex, hi3, _⟩ := peekWhileLoop_doc_exit n _ s2 s3 hi2 (by rw [hl2, hl1]; exact hl) h3
  have hi' := (PI.run_ok pushIgnored s3 hi3 () _ hpi).1
  subst h
  exact ⟨rfl, hex, hi'⟩

theorem textList_single (e : Elem) : textList [e] = e.text := by simp [textList]

/-- **C02** — the document syntax tree is lossless: with no token limit, whenever `Parser::parse`
    returns a tree and no token was thrown away by ty.rs, the tree's text is exactly the input. -/
theorem lossless_document (rl : Nat) (src : Str) (root : Elem)
    (h : (parse .document none rl src).outcome = .tree root)
    (hd : (parse .document none rl src).dropped = false) : root.text = src := by
  unfold parse runEntry at h hd
  simp only [Entry.standalone, Entry.grammar] at h hd
  have hinv := init_inv src none rl
  cases hr : (Parse.document (fuelFor src)).run (initState src none rl) with
  | abort w => simp [hr] at h
  | panic m => simp [hr] at h
  | ok a s =>
    simp only [hr] at h hd
    obtain ⟨cs, s2, hc, _, hrun, hpend, hcur, hlx, hdrop, horig, _⟩ :=
      withNode_result "DOCUMENT" (documentBody (fuelFor src)) _ hinv a s hr
    have hch : s.builder.children = [Elem.node "DOCUMENT" cs] := by simpa [initState, Builder.new] using hc
    simp only [finish_single s.builder _ _ hch, Outcome.tree.injEq] at h
    subst h
    have hi0 : Inv (rawStartNode "DOCUMENT" { initState src none rl with builder := { (initState src none rl).builder with children := (initState src none rl).builder.children ++ (initState src none rl).pending.map pendingElem }, pending := [] }) :=
      ⟨fun _ => by simp [initState, Builder.new, rawStartNode, Builder.startNode, textList, pendingText, curText],
       fun p hp => by simp [initState, Builder.new, rawStartNode, Builder.startNode] at hp; simp [hp, initState, Builder.new, rawStartNode, Builder.startNode],
       fun hfin => by simp [initState, rawStartNode] at hfin, fun t ht => by simp [initState, rawStartNode] at ht,
       fun ha => by simp [initState, rawStartNode] at ha⟩
    obtain ⟨u, s1, hsk, hrun⟩ := bind_dec _ _ _ _ _ hrun
    obtain ⟨hi1, hl1⟩ := PI.run_ok skipIgnored _ hi0 u s1 hsk
    have hl1' : s1.lx.limit = none := by rw [hl1]; rfl
    obtain ⟨hp2, hex2, hi2⟩ := documentBody_final (fuelFor src) s1 s2 hi1 hl1' hrun
    have hfin := (PI.run_ok (Parse.document (fuelFor src)) _ hinv a s hr).1
    have ht := hfin.text hd
    have horig' : s.original = src := by
      have := (Parse.document (fuelFor src)).ok _ hinv
      simp only [hr, Post] at this
      rw [this.2.original]; rfl
    rw [hch, hpend, hp2, hcur, hlx, hex2.1, hex2.2, horig'] at ht
    simpa [textList_single, pendingText] using ht

/-- **C04 (prefix clause)** — with any token limit and any recursion limit, the text of the tree
    returned by `Parser::parse` is a prefix of the input (unless ty.rs dropped a token). -/
theorem tree_text_prefix (tl : Option Nat) (rl : Nat) (src : Str) (root : Elem)
    (h : (parse .document tl rl src).outcome = .tree root)
    (hd : (parse .document tl rl src).dropped = false) : root.text <+: src := by
  unfold parse runEntry at h hd
  simp only [Entry.standalone, Entry.grammar] at h hd
  have hinv := init_inv src tl rl
  cases hr : (Parse.document (fuelFor src)).run (initState src tl rl) with
  | abort w => simp [hr] at h
  | panic m => simp [hr] at h
  | ok a s =>
    simp only [hr] at h hd
    obtain ⟨cs, s2, hc, _⟩ := withNode_result "DOCUMENT" (documentBody (fuelFor src)) _ hinv a s hr
    have hch : s.builder.children = [Elem.node "DOCUMENT" cs] := by simpa [initState, Builder.new] using hc
    simp only [finish_single s.builder _ _ hch, Outcome.tree.injEq] at h
    subst h
    have hok := (Parse.document (fuelFor src)).ok _ hinv
    simp only [hr, Post] at hok
    have ht := hok.1.text hd
    have horig' : s.original = src := by rw [hok.2.original]; rfl
    rw [hch, horig', textList_single] at ht
    exact ⟨pendingText s.pending ++ (curText s.current ++ s.lx.src), by rw [← ht]; simp [List.append_assoc]⟩

/-- **C04 (no error after the token limit)** — once the token-limit error has been recorded (the
    lexer is finished and the parser stopped accepting errors), no later step adds an error. -/
theorem errors_frozen_after_limit {α : Type} (m : PI α) (s s' : PState) (a : α) (hi : Inv s)
    (hz : s.acceptErrors = false ∧ s.lx.finished = true) (h : m.run s = .ok a s') :
    s'.errors = s.errors := by
  have := m.ok s hi
  simp only [h, Post] at this
  exact (this.2.frozen hz).1

end Apollo.Parse
