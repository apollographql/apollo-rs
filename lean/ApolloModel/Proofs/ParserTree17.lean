import ApolloModel.Proofs.ParserTree15
/-
C08 (pipeline): selection.rs in the tree calculus — the flag loop, fragment spreads, type conditions, inline fragments,
fields (with the `peek_n(2)` alias look-ahead), the selection loop, selection sets, the induction over the nesting
depth, and `selection::field_set`.
-/
set_option linter.unusedSimpArgs false
set_option linter.unusedVariables false

namespace Apollo.Parse
open Apollo.Rowan hiding Str
open Apollo.Lex hiding Str
open Apollo.FromCst (OptArgs OptDirs DirsNode ArgsNode SelTree SelSetNode SelsTree OptSS AliasPre TcPre)

/-! ### well-formedness facts carried by the accepted arguments / directives -/

theorem argsOk_wf (c : Bool) : ∀ args : List (Ast.Str × Ast.Value), argsOk c args → Ast.wfArgs args = true
  | [], _ => rfl
  | a :: r, h => by
    simp only [Ast.wfArgs, Bool.and_eq_true]
    exact ⟨valueOk_wf c a.2 (h a List.mem_cons_self), argsOk_wf c r (fun b hb => h b (List.mem_cons_of_mem _ hb))⟩

theorem dirsOk_wf (c : Bool) : ∀ ds : List Ast.Directive, dirsOk c ds → Ast.wfDirs ds = true
  | [], _ => rfl
  | d :: r, h => by
    simp only [Ast.wfDirs, Bool.and_eq_true]
    exact ⟨argsOk_wf c d.args (h d List.mem_cons_self), dirsOk_wf c r (fun b hb => h b (List.mem_cons_of_mem _ hb))⟩

/-! ### `peek_while` with a captured flag -/

theorem tr_flagLoop {E : PState → Prop} (hE : Early E) (body : Kind → PI (Bool × Bool)) (Q : List Tok → List Elem → Prop)
    (hbody : ∀ k, Tr E (HeadK k) (body k)
      (fun r cs e => (r = (true, true) ∧ Q cs e) ∨ (r = (false, false) ∧ cs = [] ∧ e = []))) :
    ∀ fuel flag, Tr E (fun _ => True) (peekWhileFlagLoop body fuel flag)
      (fun res cs e => ∃ items : List (List Tok × List Elem), cs = (items.map (·.1)).flatten ∧ e = (items.map (·.2)).flatten ∧
        (∀ i ∈ items, Q i.1 i.2) ∧ res = (flag || !items.isEmpty))
  | 0, _ => tr_outOfFuel
  | fuel + 1, flag => by
    unfold peekWhileFlagLoop
    refine tr_peek (fun ko => ?_)
    cases ko with
    | none => exact tr_noToken (good_pure flag)
    | some k =>
      refine tr_getCurrent (fun before => ?_)
      refine (tr_bind hE ((hbody k).mono (fun _ h => h.2) (fun _ _ _ h => h))
        (R2 := fun r res cs e => ∃ items : List (List Tok × List Elem), cs = (items.map (·.1)).flatten ∧
          e = (items.map (·.2)).flatten ∧ (∀ i ∈ items, Q i.1 i.2) ∧ res = (flag || r.2 || !items.isEmpty))
        (fun r => ?_)).mono (fun _ h => h) ?_
      · obtain ⟨cont, set⟩ := r
        refine tr_ite cont (fun _ => tr_unlessStuck before (tr_flagLoop hE body Q hbody fuel (flag || set)))
          (fun _ => (tr_pure E _ (flag || set)).mono (fun _ h => h) ?_)
        rintro _ _ _ ⟨rfl, rfl, rfl⟩
        exact ⟨[], rfl, rfl, (by intro i hi; cases hi), by simp⟩
      · rintro res cs e ⟨r, c1, c2, e1, e2, rfl, rfl, h1, items, rfl, rfl, hall, rfl⟩
        rcases h1 with ⟨rfl, hq⟩ | ⟨rfl, rfl, rfl⟩
        · exact ⟨(c1, e1) :: items, by simp, by simp, List.forall_mem_cons.mpr ⟨hq, hall⟩, by simp⟩
        · exact ⟨items, by simp, by simp, hall, by simp⟩

theorem tr_optDirectives (n : Nat) (c : Bool) {α : Type} (rest : PI α) {R : α → List Tok → List Elem → Prop}
    (hr : Tr NoE (fun _ => True) rest R) {H : List Tok → Prop} :
    Tr NoE H (optKind .at (directives n c) rest)
      (fun a cs e => ∃ (ds : List Ast.Directive) (c1 c2 : List Tok) (td e2 : List Elem), cs = c1 ++ c2 ∧ e = td ++ e2 ∧ TokIs c1 (Ast.tDirectives ds) ∧
        dirsOk c ds ∧ OptDirs ds td ∧ R a c2 e2) := by
  refine (tr_optKind early_false .at (directives n c) rest _ R ((tr_directives n c).atKind) hr).mono (fun _ _ => trivial) ?_
  rintro a cs e ⟨c1, c2, e1, e2, rfl, rfl, h1, h2⟩
  rcases h1 with ⟨ds, ed, hd1, hd2, rfl, hd4⟩ | ⟨rfl, rfl⟩
  · exact ⟨ds, c1, c2, [ed], e2, rfl, rfl, hd1, hd2, Or.inr ⟨ed, rfl, hd4⟩, h2⟩
  · exact ⟨[], [], c2, [], e2, rfl, rfl, TokIs.nil, (by intro d hd; cases hd), Or.inl ⟨rfl, rfl⟩, h2⟩


theorem tr_optArgsThen (n : Nat) (c : Bool) {α : Type} (rest : PI α) {R : α → List Tok → List Elem → Prop}
    (hr : Tr NoE (fun _ => True) rest R) {H : List Tok → Prop} :
    Tr NoE H (optKind .lParen (arguments n c) rest)
      (fun a cs e => ∃ (args : List (Ast.Str × Ast.Value)) (c1 c2 : List Tok) (ta e2 : List Elem), cs = c1 ++ c2 ∧ e = ta ++ e2 ∧
        TokIs c1 (Ast.tArguments args) ∧ argsOk c args ∧ OptArgs args ta ∧ R a c2 e2) := by
  refine (tr_optKind early_false .lParen (arguments n c) rest _ R ((tr_arguments n c).atKind) hr).mono (fun _ _ => trivial) ?_
  rintro a cs e ⟨c1, c2, e1, e2, rfl, rfl, h1, h2⟩
  rcases h1 with ⟨args, ea, _, ha1, ha2, rfl, ha4⟩ | ⟨rfl, rfl⟩
  · exact ⟨args, c1, c2, [ea], e2, rfl, rfl, ha1, ha2, Or.inr ⟨ea, rfl, ha4⟩, h2⟩
  · exact ⟨[], [], c2, [], e2, rfl, rfl, TokIs.nil, (by intro d hd; cases hd), Or.inl ⟨rfl, rfl⟩, h2⟩

theorem tr_optDirs (n : Nat) (c : Bool) {H : List Tok → Prop} :
    Tr NoE H (peek >>= fun k => if k == some Kind.at then directives n c else pure ())
      (fun _ cs e => ∃ (ds : List Ast.Directive), TokIs cs (Ast.tDirectives ds) ∧ dirsOk c ds ∧ OptDirs ds e) := by
  refine tr_ifKind .at _ _ _ ((tr_directives n c).mono (fun _ => kindP_headK) ?_) ((tr_pure NoE _ ()).mono (fun _ h => h) ?_)
  · rintro _ cs e ⟨ds, ed, h1, h2, rfl, h4⟩
    exact ⟨ds, h1, h2, Or.inr ⟨ed, rfl, h4⟩⟩
  · rintro _ cs e ⟨_, rfl, rfl⟩
    exact ⟨[], TokIs.nil, (by intro d hd; cases hd), Or.inl ⟨rfl, rfl⟩⟩

/-! ### fragment names, spreads -/

theorem tr_fragmentName {H : List Tok → Prop} :
    Tr NoE H fragmentName (fun _ cs e => ∃ (t : Tok) (inner : List Elem), t.kind = .name ∧ isValidName t.data = true ∧
      t.data ≠ "on".toList ∧ cs = [t] ∧ e = [Elem.node "FRAGMENT_NAME" inner] ∧ sigE inner = [nameNode t.data]) := by
  unfold fragmentName
  refine (tr_withNodeAny (R := fun _ cs e => ∃ t : Tok, t.kind = .name ∧ isValidName t.data = true ∧ t.data ≠ "on".toList ∧
      cs = [t] ∧ e = [nameNode t.data]) early_false "FRAGMENT_NAME" ?_).mono (fun _ _ => trivial) ?_
  · apply tr_peekToken
    intro o
    cases o with
    | none => exact tr_err
    | some t =>
      simp only []
      refine tr_ite _ (fun _ => tr_err) (fun hon => tr_ite _ (fun hk => ?_) (fun _ => tr_err))
      have hk' : t.kind = .name := by simpa using hk
      refine (tr_nameAt (E := NoE) t).mono (fun _ h => h.2) ?_
      rintro _ cs e ⟨h1, h2, h3, h4⟩
      refine ⟨t, h1, h2, ?_, h3, h4⟩
      intro hd
      simp [hk', kw, hd] at hon
  · rintro _ cs e ⟨inner, rfl, t, h1, h2, h3, h4, h5⟩
    exact ⟨t, inner, h1, h2, h3, h4, rfl, h5⟩

def SelR (cs : List Tok) (e : List Elem) : Prop :=
  ∃ (sel : Ast.Sel) (es : Elem), TokIs cs (Ast.tSel sel) ∧ Ast.wfSel sel = true ∧ e = [es] ∧ SelTree sel es

theorem tr_fragmentSpread (n : Nat) : Tr NoE (HeadK .spread) (fragmentSpread n) (fun _ => SelR) := by
  unfold fragmentSpread
  have hdirs := tr_optDirs n false (H := fun _ => True)
  have hname : Tr NoE (fun _ => True) (peek >>= fun k => if k == some Kind.name then
      (fragmentName >>= fun _ => (peek >>= fun k => if k == some Kind.at then directives n false else pure ())) else
      (err >>= fun _ => (peek >>= fun k => if k == some Kind.at then directives n false else pure ()))) _ :=
    tr_ifKind .name _ _ _ ((tr_bind early_false (tr_fragmentName (H := fun _ => True)) (fun _ => hdirs)).mono (fun _ _ => trivial) (fun _ _ _ h => h))
      (tr_never (acc_err' _ hdirs.1))
  have hb := tr_bind early_false (tr_bumpK (E := NoE) "SPREAD" (by decide) .spread rfl (by decide)) (fun _ => hname)
  refine (tr_withNode early_false "FRAGMENT_SPREAD" (hsig_headK .spread rfl) hb).mono
    (fun _ h => h) ?_
  rintro _ cs e ⟨inner, rfl, _, c1, c2, e1, e2, rfl, hin, ⟨t, hk, _, rfl, rfl⟩, _, c3, c4, e3, e4, rfl, rfl,
    ⟨t2, fin, hk2, hv2, hon, rfl, rfl, hfin⟩, ds, hd1, hd2, hd3⟩
  have h1 : TokIs [t] [Ast.Tok.p .spread] := TokIs.single t _ (by simp [astOfV, hk])
  have h2 : TokIs [t2] [Ast.Tok.name t2.data] := TokIs.single t2 _ (by simp [astOfV, hk2])
  refine ⟨.spread t2.data ds, _, ?_, ?_, rfl, SelTree.spread t2.data ds inner fin e4 t.data hv2 hd3 hfin (by rw [hin]; simp)⟩
  · have := h1.append (h2.append hd1)
    simpa [Ast.tSel] using this
  · simp only [Ast.wfSel, Bool.and_eq_true, bne_iff_ne, ne_eq, Ast.sOn]
    exact ⟨hon, dirsOk_wf false ds hd2⟩

/-- a selection set `{ Selection+ }` as ONE node -/
def SelSetR (cs : List Tok) (e : List Elem) : Prop :=
  ∃ (sels : Ast.Sels) (es : Elem), sels ≠ .nil ∧ Ast.wfSels sels = true ∧
    TokIs cs (.p .lCurly :: Ast.tSels sels ++ [.p .rCurly]) ∧ e = [es] ∧ SelSetNode sels es

/-- `Selection+` -/
def SelsR (cs : List Tok) (e : List Elem) : Prop :=
  ∃ (sels : Ast.Sels), sels ≠ .nil ∧ Ast.wfSels sels = true ∧ TokIs cs (Ast.tSels sels) ∧ SelsTree sels e

structure SelAll (n : Nat) : Prop where
  selSet : Tr NoE (HeadK .lCurly) (selectionSet n) (fun _ => SelSetR)
  sel : Tr NoE (fun _ => True) (selection n) (fun _ => SelsR)
  field : Tr NoE (HeadK .name) (field n) (fun _ => SelR)
  inline : Tr NoE (HeadK .spread) (inlineFragment n) (fun _ => SelR)

/-! ### type condition -/

theorem tr_namedType : Tr NoE (HeadK .name) namedType
    (fun _ cs e => ∃ (t : Tok) (inner : List Elem), t.kind = .name ∧ isValidName t.data = true ∧ cs = [t] ∧
      e = [Elem.node "NAMED_TYPE" inner] ∧ sigE inner = [nameNode t.data]) := by
  unfold namedType
  apply tr_peek
  intro k
  refine tr_ite _ (fun hk => ?_) (fun hk => tr_absurd (good_pure _) ?_)
  · refine (tr_withNode (H := HeadK Kind.name) early_false "NAMED_TYPE" (hsig_headK .name rfl) (tr_name (E := NoE))).mono
      (fun _ h => h.1) ?_
    rintro _ cs e ⟨inner, rfl, t, h1, h2, h3, h4⟩
    exact ⟨t, inner, h1, h2, h3, rfl, h4⟩
  · rintro q ⟨h1, h2⟩
    unfold HeadK at h1
    rw [h1] at h2
    rw [← h2] at hk
    simp at hk

/-- `on NamedType` -/
theorem tr_typeCondition {H : List Tok → Prop} : Tr NoE H typeCondition
    (fun _ cs e => ∃ (t1 t2 : Tok) (tcs ncs : List Elem), t1.kind = .name ∧ t1.data = "on".toList ∧ t2.kind = .name ∧
      isValidName t2.data = true ∧ cs = [t1, t2] ∧ e = [Elem.node "TYPE_CONDITION" tcs] ∧
      sigE tcs = [Elem.tok "on_KW" t1.data, Elem.node "NAMED_TYPE" ncs] ∧ sigE ncs = [nameNode t2.data]) := by
  unfold typeCondition
  have hjp : Tr NoE (fun _ => True) (peek >>= fun k => if k == some Kind.name then namedType else err) _ :=
    tr_ifKind .name _ _ _ (tr_namedType.atKind) tr_err
  refine (tr_withNodeAny (R := fun _ cs e => ∃ (t1 t2 : Tok) (ncs : List Elem), t1.kind = .name ∧ t1.data = "on".toList ∧
      t2.kind = .name ∧ isValidName t2.data = true ∧ cs = [t1, t2] ∧
      e = [Elem.tok "on_KW" t1.data, Elem.node "NAMED_TYPE" ncs] ∧ sigE ncs = [nameNode t2.data]) early_false "TYPE_CONDITION" ?_).mono
    (fun _ _ => trivial) ?_
  · apply tr_peekToken
    intro o
    cases o with
    | none => exact tr_err
    | some t =>
      simp only []
      refine tr_ite _ (fun hon => ?_) (fun _ => tr_never (acc_err' _ hjp.1))
      have hk : t.kind = .name ∧ t.data = "on".toList := by
        simp only [Bool.and_eq_true, beq_iff_eq] at hon
        exact ⟨hon.1, kw_eq hon.2⟩
      refine (tr_bind early_false (tr_bump (E := NoE) "on_KW" (by decide) (fun t' => t' = t)
        (by rintro t' rfl; rw [hk.1]; exact ⟨rfl, by decide⟩)) (fun _ => hjp)).mono (fun q hq => ⟨t, hq.2, rfl⟩) ?_
      rintro _ cs e ⟨_, c1, c2, e1, e2, rfl, rfl, ⟨t', rfl, _, rfl, rfl⟩, t2, ncs, h1, h2, rfl, rfl, h5⟩
      exact ⟨t', t2, ncs, hk.1, hk.2, h1, h2, rfl, rfl, h5⟩
  · rintro _ cs e ⟨inner, rfl, t1, t2, ncs, h1, h2, h3, h4, h5, h6, h7⟩
    exact ⟨t1, t2, inner, ncs, h1, h2, h3, h4, h5, rfl, h6, h7⟩


/-! ### inline fragments -/

theorem inlineBody_opt (n : Nat) : inlineBody n = (bump "SPREAD" >>= fun _ => optKind .name typeCondition
    (optKind .at (directives n false) (peek >>= fun k => if k == some Kind.lCurly then selectionSet n else err))) := rfl

theorem tr_inlineFragment (n : Nat) (ih : SelAll n) : Tr NoE (HeadK .spread) (inlineFragment (n + 1)) (fun _ => SelR) := by
  rw [inlineFragment_succ, inlineBody_opt]
  have hss : Tr NoE (fun _ => True) (peek >>= fun k => if k == some Kind.lCurly then selectionSet n else err) (fun _ => SelSetR) :=
    tr_ifKind .lCurly _ _ _ (ih.selSet.atKind) tr_err
  have hd := tr_optDirectives n false _ hss (H := fun _ => True)
  have htc := tr_optKind early_false (H := fun _ => True) .name typeCondition _ _ _
    ((tr_typeCondition (H := KindP (· == Kind.name))).mono (fun _ h => h) (fun _ _ _ h => h)) hd
  have hb := tr_bind early_false (tr_bumpK (E := NoE) "SPREAD" (by decide) .spread rfl (by decide)) (fun _ => htc)
  refine (tr_withNode early_false "INLINE_FRAGMENT" (hsig_headK .spread rfl) hb).mono
    (fun _ h => h) ?_
  rintro _ cs e ⟨inner, rfl, _, c1, c2, e1, e2, rfl, hin, ⟨t, hk, _, rfl, rfl⟩, c3, c4, e3, e4, rfl, rfl, htcr,
    ds, c5, c6, td, e6, rfl, rfl, hd1, hd2, hd3, sels, ess, hne, hwf, hs1, rfl, hs3⟩
  have hsp : TokIs [t] [Ast.Tok.p .spread] := TokIs.single t _ (by simp [astOfV, hk])
  have hwfi : ∀ tc, Ast.wfSel (.inline tc ds sels) = true := by
    intro tc
    simp only [Ast.wfSel, Bool.and_eq_true]
    refine ⟨⟨dirsOk_wf false ds hd2, hwf⟩, ?_⟩
    cases sels with
    | nil => exact absurd rfl hne
    | cons a b => trivial
  rcases htcr with ⟨t1, t2, tcs, ncs, hk1, hd1', hk2, hv2, rfl, rfl, htcs, hncs⟩ | ⟨rfl, rfl⟩
  · refine ⟨.inline (some t2.data) ds sels, _, ?_, hwfi _, rfl,
      SelTree.inline (some t2.data) ds sels inner [Elem.node "TYPE_CONDITION" tcs] td ess t.data
        (Or.inr ⟨t2.data, tcs, ncs, t1.data, rfl, hv2, rfl, htcs, hncs⟩) hd3 hs3 (by rw [hin]; simp)⟩
    have ho : TokIs [t1, t2] [Ast.Tok.name Ast.sOn, Ast.Tok.name t2.data] :=
      TokIs.cons (by simp [astOfV, hk1, hd1', Ast.sOn]) (TokIs.single t2 _ (by simp [astOfV, hk2]))
    have := hsp.append (ho.append (hd1.append hs1))
    simpa [Ast.tSel, List.append_assoc] using this
  · refine ⟨.inline none ds sels, _, ?_, hwfi _, rfl,
      SelTree.inline none ds sels inner [] td ess t.data (Or.inl ⟨rfl, rfl⟩) hd3 hs3 (by rw [hin]; simp)⟩
    have := hsp.append (hd1.append hs1)
    simpa [Ast.tSel, List.append_assoc] using this

/-! ### small rules -/

theorem tr_peekTokenN {α : Type} {E : PState → Prop} {H : List Tok → Prop} (k : Nat) {f : Option Tok → PI α}
    {R : α → List Tok → List Elem → Prop} (h : ∀ o, Tr E H (f o) R) : Tr E H (peekTokenN k >>= f) R := by
  refine ⟨good_bind _ _ (good_peekTokenN k) (fun o => (h o).1), ?_⟩
  intro s a s' w hi he hlq hq hr hnd
  obtain ⟨o, s1, h1, h2⟩ := bind_dec (peekTokenN k) f s s' a hr
  have : s1 = s := by
    unfold peekTokenN at h1
    simp only [] at h1
    injection h1 with _ h1
    exact h1.symm
  subst this
  exact (h o).2 s1 a s' w hi he hlq hq h2 hnd

/-- `alias` when the look-ahead saw `Name :` — the ALIAS node holds exactly the name and the colon -/
theorem alias_tr (s s' : PState) (st : St s) (t : Tok) (rest0 : List Tok) (t2 : Tok) (ht : Toks s = t :: rest0)
    (hk : t.kind = .name) (h2 : (sig rest0).head? = some t2) (hk2 : t2.kind = .colon)
    (h : alias.run s = .ok () s') (hnd : ¬ Doomed s') :
    St s' ∧ TrRes NoE s s' (fun cs e => ∃ inner, cs = [t, t2] ∧ isValidName t.data = true ∧ e = [Elem.node "ALIAS" inner] ∧
      sigE inner = [nameNode t.data, Elem.tok "COLON" t2.data]) := by
  have hni : isIgnoredKind t.kind = false := by rw [hk]; rfl
  have hiS' := (run_inv_added alias s st.inv () s' h).1
  unfold alias at h
  obtain ⟨s0, s3, inner, o0, hi0, hp0, hr2, o3, hin, hout⟩ := withNode_tree "ALIAS" _ s st.inv () s' h
  obtain ⟨_, s1, hs, hb⟩ := bind_dec skipIgnored _ s0 s3 () hr2
  have st0 : St s0 := st.obs o0 hi0
  have ht0 : Toks s0 = t :: rest0 := by rw [o0.toks]; exact ht
  have hpk := skipIgnored_sig s0 s1 st0.w t rest0 ht0 hni hs
  have p1 := peekToken_obs s0 s1 _ st0.w hpk
  have st1 : St s1 := ⟨p1.w, (run_inv_added peekToken s0 hi0 _ s1 hpk).1,
    eofEnd_eat st0.eof p1.eat (by intro x hx; cases hx), by rw [p1.toks]; exact st0.lq⟩
  have ht1 : Toks s1 = t :: rest0 := by rw [p1.toks]; exact ht0
  have hb1 : s1.builder = s0.builder := keeps_peekToken s0 _ s1 hpk
  have hnd3 : ¬ Doomed s3 := fun d => hnd (o3.doomed.mpr d)
  obtain ⟨_, s2, hn, hbump⟩ := bind_dec name _ s1 s3 () hb
  have a12 := good_name s1 () s2 st1.w hn
  have hnd2 : ¬ Doomed s2 := fun d => hnd3 ((good_bump "COLON" s2 () s3 a12.w hbump).doom d)
  obtain ⟨st2, r2⟩ := St.step (tr_nameAt (E := NoE) t) st1 (by rw [ht1]; rfl) hn hnd2
  obtain ⟨ign, e12, hall, hset⟩ := name_settled s1 s2 t rest0 st1.w ht1 hk hn
  have hh2 : (Toks s2).head? = some t2 := by
    have h1 := e12.toks
    rw [ht1] at h1
    simp only [List.cons_append, List.cons.injEq, true_and] at h1
    rw [← settled_sig_head s2 hset, ← h2, h1, sig_append, sig_ignored ign hall]; rfl
  obtain ⟨st3, r3⟩ := St.step (tr_bump (E := NoE) "COLON" (by decide) (fun t' => t' = t2)
    (by rintro t' rfl; rw [hk2]; exact ⟨rfl, by decide⟩)) st2 ⟨t2, hh2, rfl⟩ hbump hnd3
  obtain ⟨cs, added, t1, n1, e1, b1, rr⟩ := r2.seq r3
  rcases rr with ⟨c1, c2, e1', e2, hcs, hes, ⟨_, hv, rfl, rfl⟩, t', rfl, _, rfl, rfl⟩ | f
  · have hinner : inner = added := by
      rw [b1, hb1] at hin
      exact (List.append_cancel_left hin).symm
    subst hinner
    refine ⟨st3.obs o3 hiS', cs, s.pending.map pendingElem ++ [Elem.node "ALIAS" inner], ?_, n1, eofEnd_obs e1 o3,
      by rw [hout, List.append_assoc], Or.inl ⟨inner, hcs, hv, ?_, hes⟩⟩
    · rw [← o0.toks, ← p1.toks, t1, o3.toks]
    · rw [sigE_append, sigE_pending, sigE_node]; rfl
  · exact absurd f id


/-! ### fields -/

def fieldTail (n : Nat) : PI Unit :=
  optKind .lParen (arguments n false) (optKind .at (directives n false)
    (peek >>= fun k => if k == some Kind.lCurly then selectionSet n else pure ()))

theorem fieldBody_eq (n : Nat) : fieldBody n = (peek >>= fun k => if k == some Kind.name then
    (peekN 2 >>= fun k2 => if k2 == some Kind.colon then (alias >>= fun _ => name >>= fun _ => fieldTail n)
      else (name >>= fun _ => fieldTail n))
    else (err >>= fun _ => fieldTail n)) := rfl

/-- arguments?, directives?, sub-selections? of a field -/
def FieldTailR (cs : List Tok) (e : List Elem) : Prop :=
  ∃ (args : List (Ast.Str × Ast.Value)) (dirs : List Ast.Directive) (sels : Ast.Sels) (ta td ts : List Elem),
    TokIs cs (Ast.tArguments args ++ Ast.tDirectives dirs ++ Ast.tSubSels sels) ∧
    (Ast.wfArgs args && Ast.wfDirs dirs && Ast.wfSels sels) = true ∧ OptArgs args ta ∧ OptDirs dirs td ∧
    OptSS sels ts ∧ e = ta ++ (td ++ ts)

theorem tr_fieldTail (n : Nat) (ih : SelAll n) : Tr NoE (fun _ => True) (fieldTail n) (fun _ => FieldTailR) := by
  unfold fieldTail
  have hsub : Tr NoE (fun _ => True) (peek >>= fun k => if k == some Kind.lCurly then selectionSet n else pure ())
      (fun _ cs e => ∃ sels : Ast.Sels, TokIs cs (Ast.tSubSels sels) ∧ Ast.wfSels sels = true ∧ OptSS sels e) := by
    refine tr_ifKind .lCurly _ _ _ (ih.selSet.mono (fun _ => kindP_headK) ?_) ((tr_pure NoE _ ()).mono (fun _ h => h) ?_)
    · rintro _ cs e ⟨sels, es, hne, hwf, h1, rfl, h3⟩
      refine ⟨sels, ?_, hwf, OptSS.some sels es h3⟩
      cases sels with
      | nil => exact absurd rfl hne
      | cons sl tl => rw [Ast.tSubSels_cons]; exact h1
    · rintro _ cs e ⟨_, rfl, rfl⟩
      exact ⟨.nil, TokIs.nil, rfl, OptSS.none⟩
  refine (tr_optArgsThen n false _ (tr_optDirectives n false _ hsub (H := fun _ => True)) (H := fun _ => True)).mono (fun _ h => h) ?_
  rintro _ cs e ⟨args, c1, c2, ta, e2, rfl, rfl, ha1, ha2, ha3, dirs, c3, c4, td, e4, rfl, rfl, hd1, hd2, hd3, sels, hs1, hwf, hs2⟩
  exact ⟨args, dirs, sels, ta, td, e4, by simpa [List.append_assoc] using ha1.append (hd1.append hs1),
    by simp [argsOk_wf false args ha2, dirsOk_wf false dirs hd2, hwf], ha3, hd3, hs2, rfl⟩

/-- the children of a FIELD node -/
def FieldBodyR (cs : List Tok) (e : List Elem) : Prop :=
  ∃ (alias : Option Ast.Str) (nm : Ast.Str) (args : List (Ast.Str × Ast.Value)) (dirs : List Ast.Directive) (sels : Ast.Sels)
    (pre ta td ts : List Elem), TokIs cs (Ast.tSel (.field alias nm args dirs sels)) ∧
    Ast.wfSel (.field alias nm args dirs sels) = true ∧ isValidName nm = true ∧
    AliasPre alias pre ∧ OptArgs args ta ∧ OptDirs dirs td ∧ OptSS sels ts ∧ e = pre ++ nameNode nm :: (ta ++ (td ++ ts))

theorem tr_nameTail (n : Nat) (ih : SelAll n) :
    Tr NoE (fun _ => True) (name >>= fun _ => fieldTail n)
      (fun _ cs e => ∃ (t : Tok) (c2 : List Tok) (e2 : List Elem), t.kind = .name ∧ isValidName t.data = true ∧
        cs = t :: c2 ∧ e = nameNode t.data :: e2 ∧ FieldTailR c2 e2) := by
  refine (tr_bind early_false (tr_name (E := NoE) (H := fun _ => True)) (fun _ => tr_fieldTail n ih)).mono (fun _ h => h) ?_
  rintro _ cs e ⟨_, c1, c2, e1, e2, rfl, rfl, ⟨t, hk, hv, rfl, rfl⟩, h2⟩
  exact ⟨t, c2, e2, hk, hv, rfl, rfl, h2⟩

theorem tr_fieldBody (n : Nat) (ih : SelAll n) : Tr NoE (HeadK .name) (fieldBody n) (fun _ => FieldBodyR) := by
  refine ⟨good_fieldBody n (goodSel n), ?_⟩
  intro s a s' w hi he hlq hq hr hnd
  rw [fieldBody_eq] at hr
  obtain ⟨k, sP, hp, h2⟩ := bind_dec peek _ s s' a hr
  obtain ⟨o, p, hk⟩ := peek_obs s sP k w hp
  subst hk
  obtain ⟨t, hh, hkt⟩ := headP_of_headK hq
  have ho : o = some t := by rw [p.head, hh]
  subst ho
  have hni : isIgnoredKind t.kind = false := by rw [hkt]; rfl
  simp only [Option.map_some, hkt, beq_self_eq_true, if_true] at h2
  have stP : St sP := ⟨p.w, (run_inv_added peek s hi _ sP hp).1, p.eofEnd he, by rw [p.toks]; exact hlq⟩
  have hbP : sP.builder = s.builder := keeps_peek s _ sP hp
  have htP : Toks sP = t :: (Toks sP).tail := p.head_cons
  have back : TrRes NoE sP s' FieldBodyR → TrRes NoE s s' FieldBodyR := by
    rintro ⟨c, d, t1, n1, e1, b1, r1⟩
    exact ⟨c, d, by rw [← p.toks]; exact t1, n1, e1, by rw [b1, hbP], r1⟩
  apply back
  obtain ⟨k2, sQ, hq2, h3⟩ := bind_dec (peekN 2) _ sP s' a h2
  unfold peekN at hq2
  obtain ⟨o2, sQ', hq3, hq4⟩ := bind_dec (peekTokenN 2) _ sP sQ k2 hq2
  obtain ⟨rfl, ho2⟩ := peekTokenN2_spec sP sQ' o2 t _ p.w p.current htP hni hq3
  rw [run_pure] at hq4
  injection hq4 with hk2 hsq
  subst hsq hk2
  by_cases hc : (o2.map (·.kind) == some Kind.colon) = true
  · simp only [hc, if_true] at h3
    have ht2 : ∃ t2, o2 = some t2 ∧ t2.kind = .colon := by
      cases o2 with
      | none => simp at hc
      | some t2 => exact ⟨t2, rfl, by simpa using hc⟩
    obtain ⟨t2, rfl, hk2⟩ := ht2
    obtain ⟨_, sA, hal, hrest⟩ := bind_dec alias _ sQ' s' a h3
    have aA := good_alias sQ' () sA p.w hal
    have hndA : ¬ Doomed sA := fun d => hnd (((tr_nameTail n ih).1 sA a s' aA.w hrest).doom d)
    obtain ⟨stA, rA⟩ := alias_tr sQ' sA stP t _ t2 htP hkt ho2.symm hk2 hal hndA
    obtain ⟨_, rB⟩ := St.step (tr_nameTail n ih) stA trivial hrest hnd
    refine (rA.seq rB).weaken ?_
    rintro cs e ⟨c1, c2, e1, e2, rfl, rfl, ⟨inner, rfl, hv, rfl, hin⟩, t3, c3, e3, hk3, hv3, rfl, rfl,
      args, dirs, sels, ta, td, ts, h1, hwf, h2', h3', h4', rfl⟩
    refine ⟨some t.data, t3.data, args, dirs, sels, [Elem.node "ALIAS" inner], ta, td, ts, ?_, hwf, hv3,
      Or.inr ⟨t.data, inner, t2.data, rfl, hv, rfl, hin⟩, h2', h3', h4', rfl⟩
    have ha : TokIs [t, t2] [Ast.Tok.name t.data, Ast.Tok.p .colon] :=
      TokIs.cons (by simp [astOfV, hkt]) (TokIs.single t2 _ (by simp [astOfV, hk2]))
    have hn : TokIs [t3] [Ast.Tok.name t3.data] := TokIs.single t3 _ (by simp [astOfV, hk3])
    have := ha.append (hn.append h1)
    simpa [Ast.tSel, List.append_assoc] using this
  · simp only [hc, Bool.false_eq_true, if_false] at h3
    obtain ⟨_, rB⟩ := St.step (tr_nameTail n ih) stP trivial h3 hnd
    refine rB.weaken ?_
    rintro cs e ⟨t3, c3, e3, hk3, hv3, rfl, rfl, args, dirs, sels, ta, td, ts, h1, hwf, h2', h3', h4', rfl⟩
    refine ⟨none, t3.data, args, dirs, sels, [], ta, td, ts, ?_, hwf, hv3, Or.inl ⟨rfl, rfl⟩, h2', h3', h4', rfl⟩
    have hn : TokIs [t3] [Ast.Tok.name t3.data] := TokIs.single t3 _ (by simp [astOfV, hk3])
    have := hn.append h1
    simpa [Ast.tSel, List.append_assoc] using this

theorem tr_field (n : Nat) (ih : SelAll n) : Tr NoE (HeadK .name) (field (n + 1)) (fun _ => SelR) := by
  rw [field_succ]
  refine (tr_withNode early_false "FIELD" (hsig_headK .name rfl) (tr_fieldBody n ih)).mono (fun _ h => h) ?_
  rintro _ cs e ⟨inner, rfl, alias, nm, args, dirs, sels, pre, ta, td, ts, h1, hwf, hv, h2, h3, h4, h5, hin⟩
  exact ⟨.field alias nm args dirs sels, _, h1, hwf, rfl, SelTree.field alias nm args dirs sels inner pre ta td ts hv h2 h3 h4 h5 hin⟩

/-- the closure of the selection loop -/
theorem tr_selBody (n : Nat) (ih : SelAll n) (k : Kind) :
    Tr NoE (HeadK k) (selBody n k)
      (fun r cs e => (r = (true, true) ∧ SelR cs e) ∨ (r = (false, false) ∧ cs = [] ∧ e = [])) := by
  unfold selBody
  have stop : ∀ {H : List Tok → Prop}, Tr NoE H (pure (false, false) : PI (Bool × Bool))
      (fun r cs e => (r = (true, true) ∧ SelR cs e) ∨ (r = (false, false) ∧ cs = [] ∧ e = [])) := by
    intro H
    refine (tr_pure NoE H (false, false)).mono (fun _ h => h) ?_
    rintro r cs e ⟨rfl, rfl, rfl⟩
    exact Or.inr ⟨rfl, rfl, rfl⟩
  have item : ∀ {H : List Tok → Prop} (m : PI Unit), Tr NoE H m (fun _ => SelR) →
      Tr NoE H (m >>= fun _ => (pure (true, true) : PI (Bool × Bool)))
        (fun r cs e => (r = (true, true) ∧ SelR cs e) ∨ (r = (false, false) ∧ cs = [] ∧ e = [])) := by
    intro H m hm
    refine (tr_bind early_false hm (fun _ => tr_pure NoE _ (true, true))).mono (fun _ h => h) ?_
    rintro r cs e ⟨_, c1, c2, e1, e2, rfl, rfl, h1, rfl, rfl, rfl⟩
    exact Or.inl ⟨rfl, by simpa using h1⟩
  refine tr_ite _ (fun h1 => ?_) (fun h1 => tr_ite _ (fun _ => stop) (fun h2 => tr_ite _ (fun h3 => ?_) (fun _ => stop)))
  · have hk : k = .spread := by simpa using h1
    subst hk
    apply tr_peekTokenN
    intro o
    cases o with
    | none => exact tr_never (acc_errAndPop' _ (good_pure _))
    | some next =>
      simp only []
      refine tr_ite _ (fun _ => item _ (tr_fragmentSpread n)) (fun _ => tr_ite _ (fun _ => item _ ih.inline) (fun _ => ?_))
      exact tr_never (acc_err' _ (good_bind _ _ (good_bump _) (fun _ => good_pure _)))
  · have hk : k = .name := by simpa using h3
    subst hk
    exact item _ ih.field

/-- `Selection+` -/
theorem tr_selection (n : Nat) (ih : SelAll n) : Tr NoE (fun _ => True) (selection (n + 1)) (fun _ => SelsR) := by
  rw [selection_succ]
  apply tr_srcLen
  intro len
  have hloop := tr_flagLoop early_false (selBody n) SelR (tr_selBody n ih) (len + 3) false
  have hfin : ∀ has : Bool, Tr NoE (fun _ => True) (if (!has) = true then err else pure ())
      (fun _ cs e => has = true ∧ cs = [] ∧ e = []) := by
    intro has
    cases has with
    | false => simpa using (tr_err (E := NoE) (H := fun _ => True) (R := fun _ cs e => false = true ∧ cs = [] ∧ e = []))
    | true =>
      refine (tr_pure NoE _ ()).mono (fun _ h => h) ?_
      rintro _ cs e ⟨_, rfl, rfl⟩
      exact ⟨rfl, rfl, rfl⟩
  refine (tr_bind early_false hloop hfin).mono (fun _ h => h) ?_
  rintro _ cs e ⟨has, c1, c2, e1, e2, rfl, rfl, ⟨items, rfl, rfl, hall, hres⟩, hhas, rfl, rfl⟩
  have hne : items ≠ [] := by
    intro h0
    rw [h0] at hres
    rw [hhas] at hres
    simp at hres
  clear hres hhas
  simp only [List.append_nil]
  induction items with
  | nil => exact absurd rfl hne
  | cons i items ih2 =>
    obtain ⟨sel, es, h1, hw, h2, h3⟩ := hall i List.mem_cons_self
    cases items with
    | nil =>
      refine ⟨.cons sel .nil, (by intro h; cases h), (by simp [Ast.wfSels, hw]), ?_, ?_⟩
      · simpa [Ast.tSels] using h1
      · simp only [List.map_cons, List.map_nil, List.flatten_cons, List.flatten_nil, List.append_nil, h2]
        exact SelsTree.cons sel es .nil [] h3 SelsTree.nil
    | cons j rest =>
      obtain ⟨sels, _, hws, hs1, hs2⟩ := ih2 (fun x hx => hall x (List.mem_cons_of_mem _ hx)) (by simp)
      refine ⟨.cons sel sels, (by intro h; cases h), (by simp [Ast.wfSels, hw, hws]), ?_, ?_⟩
      · simp only [List.map_cons, List.flatten_cons, Ast.tSels] at hs1 ⊢
        exact h1.append hs1
      · simp only [List.map_cons, List.flatten_cons, h2] at hs2 ⊢
        exact SelsTree.cons sel es sels _ h3 hs2

theorem selSetBody_bind (n : Nat) : selSetBody n = (bump "L_CURLY" >>= fun _ =>
    withRec (limitErr >>= fun _ => pure false) (selection n >>= fun _ => pure true) >>= fun ok =>
      if ok = true then expect .rCurly "R_CURLY" else pure ()) := rfl

/-- `{ Selection+ }` -/
theorem tr_selectionSet (n : Nat) (ih : SelAll n) : Tr NoE (HeadK .lCurly) (selectionSet (n + 1)) (fun _ => SelSetR) := by
  rw [selectionSet_succ]
  apply tr_peek
  intro k
  refine tr_ite _ (fun _ => ?_) (fun hk => tr_absurd (good_pure _) ?_)
  · rw [selSetBody_bind]
    have hrec : Tr NoE (fun _ => True) (withRec (limitErr >>= fun _ => pure false) (selection n >>= fun _ => pure true))
        (fun ok cs e => ok = true ∧ SelsR cs e) := by
      refine tr_withRec early_false (tr_limitErr_then _ (good_pure _)) ?_
      refine (tr_bind early_false ih.sel (fun _ => tr_pure NoE _ true)).mono (fun _ h => h) ?_
      rintro ok cs e ⟨_, c1, c2, e1, e2, rfl, rfl, h1, rfl, rfl, rfl⟩
      exact ⟨rfl, by simpa using h1⟩
    have hclose : ∀ ok : Bool, Tr NoE (fun _ => True) (if ok = true then expect .rCurly "R_CURLY" else pure ())
        (fun _ cs e => ok = true → ∃ t : Tok, t.kind = .rCurly ∧ cs = [t] ∧ e = [Elem.tok "R_CURLY" t.data]) := by
      intro ok
      cases ok with
      | false => exact ⟨good_pure _, by
          intro s a s' w hi he hlq _ hr _
          have hr' : (pure () : PI Unit).run s = .ok a s' := hr
          rw [run_pure] at hr'
          injection hr' with _ h2
          subst h2
          exact ⟨[], [], rfl, (by intro x hx; cases hx), he, by simp, Or.inl (by intro h; cases h)⟩⟩
      | true =>
        simp only [if_true]
        refine (tr_expect (E := NoE) .rCurly "R_CURLY" (by decide) rfl (by decide)).mono (fun _ h => h) ?_
        intro _ cs e h _; exact h
    have hb := tr_bind early_false (tr_bumpK (E := NoE) "L_CURLY" (by decide) .lCurly rfl (by decide)) (fun _ => tr_bind early_false hrec hclose)
    refine (tr_withNode early_false "SELECTION_SET" (hsig_headK .lCurly rfl) hb).mono
      (fun _ h => h.1) ?_
    rintro _ cs e ⟨inner, rfl, _, c1, c2, e1, e2, rfl, hin, ⟨t, hk, _, rfl, rfl⟩, ok, c3, c4, e3, e4, rfl, rfl, ⟨rfl, sels, hne, hwf, hs1, hs2⟩, hcl⟩
    obtain ⟨t2, hk2, rfl, rfl⟩ := hcl rfl
    refine ⟨sels, _, hne, hwf, ?_, rfl, SelSetNode.mk sels inner e3 t.data t2.data hs2 (by rw [hin]; simp)⟩
    have ha : TokIs [t] [Ast.Tok.p .lCurly] := TokIs.single t _ (by simp [astOfV, hk])
    have hb' : TokIs [t2] [Ast.Tok.p .rCurly] := TokIs.single t2 _ (by simp [astOfV, hk2])
    have := ha.append (hs1.append hb')
    simpa using this
  · rintro q ⟨h1, h2⟩
    unfold HeadK at h1
    rw [h1] at h2
    rw [← h2] at hk
    simp at hk

theorem selAll : ∀ n, SelAll n
  | 0 => ⟨by unfold selectionSet; exact tr_outOfFuel, by unfold selection; exact tr_outOfFuel,
      by unfold field; exact tr_outOfFuel, by unfold inlineFragment; exact tr_outOfFuel⟩
  | n + 1 =>
    have ih := selAll n
    ⟨tr_selectionSet n ih, tr_selection n ih, tr_field n ih, tr_inlineFragment n ih⟩

/-- **selection.rs**: a selection set accepted without error is `{ Selection+ }`, built as ONE SELECTION_SET node of the
    shape `SelSetNode sels` -/
theorem tr_selSet (n : Nat) : Tr NoE (HeadK .lCurly) (selectionSet n) (fun _ => SelSetR) := (selAll n).selSet

end Apollo.Parse
