import ApolloModel.Model.Smith
/-
C32: `saturate` computes exactly the names reachable from the roots (soundness, completeness and fuel
sufficiency); consequences for `closure`, `expand_transitive_*_implementations` and fragment pruning.
-/
namespace Apollo.SmithGen

/-! ### insertNew / foldl -/

theorem mem_insertNew {s : List Name} {x y : Name} : y ∈ insertNew s x ↔ y ∈ s ∨ y = x := by
  unfold insertNew
  by_cases h : s.contains x = true
  · simp only [h, if_true]
    constructor
    · exact Or.inl
    · rintro (h1 | h1)
      · exact h1
      · subst h1; simpa using h
  · simp only [h, Bool.false_eq_true, if_false, List.mem_append, List.mem_singleton]

theorem nodup_insertNew {s : List Name} {x : Name} (h : s.Nodup) : (insertNew s x).Nodup := by
  unfold insertNew
  by_cases hc : s.contains x = true
  · simp only [hc, if_true]; exact h
  · simp only [hc, Bool.false_eq_true, if_false]
    have hx : x ∉ s := by simpa using hc
    rw [List.nodup_append]
    refine ⟨h, by simp, ?_⟩
    intro a ha b hb e
    simp at hb; subst hb; subst e; exact hx ha

theorem length_insertNew_ge (s : List Name) (x : Name) : s.length ≤ (insertNew s x).length := by
  unfold insertNew; split <;> simp

theorem length_insertNew_new {s : List Name} {x : Name} (h : x ∉ s) : (insertNew s x).length = s.length + 1 := by
  unfold insertNew
  simp [h]

theorem mem_foldl_insertNew {l : List Name} : ∀ {s : List Name} {y : Name}, y ∈ l.foldl insertNew s ↔ y ∈ s ∨ y ∈ l := by
  induction l with
  | nil => intro s y; simp
  | cons x l ih =>
    intro s y
    simp only [List.foldl_cons, ih, mem_insertNew, List.mem_cons]
    exact or_assoc

theorem nodup_foldl_insertNew {l : List Name} : ∀ {s : List Name}, s.Nodup → (l.foldl insertNew s).Nodup := by
  induction l with
  | nil => intro s h; exact h
  | cons x l ih => intro s h; exact ih (nodup_insertNew h)

theorem length_foldl_ge {l : List Name} : ∀ {s : List Name}, s.length ≤ (l.foldl insertNew s).length := by
  induction l with
  | nil => intro s; exact Nat.le_refl _
  | cons x l ih => intro s; exact Nat.le_trans (length_insertNew_ge s x) ih

theorem length_foldl_gt {l : List Name} : ∀ {s : List Name}, (∃ y ∈ l, y ∉ s) → s.length + 1 ≤ (l.foldl insertNew s).length := by
  induction l with
  | nil => intro s ⟨y, hy, _⟩; cases hy
  | cons x l ih =>
    intro s ⟨y, hy, hys⟩
    simp only [List.foldl_cons]
    by_cases hx : x ∈ s
    · -- x already present: y must come from l
      have e : insertNew s x = s := by
        unfold insertNew
        simp [hx]
      rw [e]
      rcases List.mem_cons.mp hy with h | h
      · subst h; exact absurd hx hys
      · exact ih ⟨y, h, hys⟩
    · have := length_insertNew_new hx
      have h2 := length_foldl_ge (l := l) (s := insertNew s x)
      omega

/-! ### saturation -/

section Sat
variable (succ : Name → List Name)

def Stable (s : List Name) : Prop := ∀ x ∈ s, ∀ y ∈ succ x, y ∈ s

theorem stableB_iff (s : List Name) : stableB succ s = true ↔ Stable succ s := by
  unfold stableB Stable
  simp only [List.all_eq_true, List.mem_flatMap, List.contains_iff_mem]
  constructor
  · intro h x hx y hy; exact h y ⟨x, hx, hy⟩
  · rintro h y ⟨x, hx, hy⟩; exact h x hx y hy

theorem mem_expand {s : List Name} {y : Name} : y ∈ expand succ s ↔ y ∈ s ∨ ∃ x ∈ s, y ∈ succ x := by
  unfold expand
  rw [mem_foldl_insertNew, List.mem_flatMap]

theorem subset_saturate : ∀ (fuel : Nat) (s : List Name) (x : Name), x ∈ s → x ∈ saturate succ fuel s := by
  intro fuel
  induction fuel with
  | zero => intro s x h; exact h
  | succ fuel ih =>
    intro s x h
    simp only [saturate]
    split
    · exact h
    · exact ih _ x ((mem_expand succ).mpr (Or.inl h))

/-- everything `saturate` returns satisfies any property that holds on the start set and is
    inherited along `succ` (used with "is reachable" and with "belongs to the universe") -/
theorem saturate_induct (P : Name → Prop) (hstep : ∀ x y, P x → y ∈ succ x → P y) :
    ∀ (fuel : Nat) (s : List Name), (∀ x ∈ s, P x) → ∀ x ∈ saturate succ fuel s, P x := by
  intro fuel
  induction fuel with
  | zero => intro s h x hx; exact h x hx
  | succ fuel ih =>
    intro s h x hx
    simp only [saturate] at hx
    split at hx
    · exact h x hx
    · refine ih _ ?_ x hx
      intro y hy
      rcases (mem_expand succ).mp hy with h1 | ⟨z, hz, hyz⟩
      · exact h y h1
      · exact hstep z y (h z hz) hyz

theorem nodup_saturate : ∀ (fuel : Nat) (s : List Name), s.Nodup → (saturate succ fuel s).Nodup := by
  intro fuel
  induction fuel with
  | zero => intro s h; exact h
  | succ fuel ih =>
    intro s h
    simp only [saturate]
    split
    · exact h
    · exact ih _ (nodup_foldl_insertNew h)

theorem saturate_progress : ∀ (fuel : Nat) (s : List Name),
    Stable succ (saturate succ fuel s) ∨ s.length + fuel ≤ (saturate succ fuel s).length := by
  intro fuel
  induction fuel with
  | zero => intro s; right; simp [saturate]
  | succ fuel ih =>
    intro s
    simp only [saturate]
    split
    · rename_i h; left; exact (stableB_iff succ s).mp h
    · rename_i h
      have hns : ¬ Stable succ s := fun hs => h ((stableB_iff succ s).mpr hs)
      have hgt : s.length + 1 ≤ (expand succ s).length := by
        apply length_foldl_gt
        unfold Stable at hns
        simp only [Classical.not_forall] at hns
        obtain ⟨x, hx, y, hy, hys⟩ := hns
        exact ⟨y, List.mem_flatMap.mpr ⟨x, hx, hy⟩, hys⟩
      rcases ih (expand succ s) with h1 | h1
      · left; exact h1
      · right; omega

/-- fuel sufficiency: with a finite universe closed under `succ`, `|U| + 1` rounds reach a fixed point -/
theorem saturate_stable (U s : List Name) (fuel : Nat) (hs : s.Nodup) (hsU : ∀ x ∈ s, x ∈ U)
    (hU : ∀ x ∈ U, ∀ y ∈ succ x, y ∈ U) (hf : U.length < fuel) : Stable succ (saturate succ fuel s) := by
  rcases saturate_progress succ fuel s with h | h
  · exact h
  · exfalso
    have hnd := nodup_saturate succ fuel s hs
    have hsub : saturate succ fuel s ⊆ U := by
      intro x hx
      exact saturate_induct succ (· ∈ U) (fun a b ha hb => hU a ha b hb) fuel s hsU x hx
    have := hnd.length_le_of_subset hsub
    omega

inductive Reach (roots : List Name) : Name → Prop where
  | root {x : Name} : x ∈ roots → Reach roots x
  | step {x y : Name} : Reach roots x → y ∈ succ x → Reach roots y

theorem saturate_sound (roots : List Name) (fuel : Nat) (s : List Name) (h : ∀ x ∈ s, Reach succ roots x) :
    ∀ x ∈ saturate succ fuel s, Reach succ roots x :=
  saturate_induct succ (Reach succ roots) (fun _ _ hx hy => Reach.step hx hy) fuel s h

theorem stable_complete (roots r : List Name) (hroots : ∀ x ∈ roots, x ∈ r) (hst : Stable succ r) :
    ∀ x, Reach succ roots x → x ∈ r := by
  intro x hx
  induction hx with
  | root h => exact hroots _ h
  | step _ hy ih => exact hst _ ih _ hy

end Sat

/-! ### closure of the implements graph -/

theorem Graph.succ_mem (g : Graph) {x y : Name} : y ∈ g.succ x ↔ (x, y) ∈ g.edges := by
  unfold Graph.succ
  simp only [List.mem_map, List.mem_filter]
  constructor
  · rintro ⟨⟨a, b⟩, ⟨h1, h2⟩, h3⟩
    simp at h2 h3; subst h2; subst h3; exact h1
  · intro h; exact ⟨(x, y), ⟨h, by simp⟩, rfl⟩

theorem Graph.mem_closure (g : Graph) (start x : Name) :
    x ∈ g.closure start ↔ start ∈ g.nodes ∧ Reach g.succ [start] x := by
  unfold Graph.closure
  by_cases hn : g.nodes.contains start = true
  · have hn' : start ∈ g.nodes := by simpa using hn
    simp only [hn, if_true, hn', true_and]
    constructor
    · intro hx
      exact saturate_sound g.succ [start] _ [start] (fun y hy => Reach.root hy) x hx
    · intro hr
      refine stable_complete g.succ [start] _ (fun y hy => subset_saturate g.succ _ [start] y hy) ?_ x hr
      apply saturate_stable g.succ (g.universe [start]) [start] _ (by simp)
      · intro y hy; simp at hy; subst hy; simp [Graph.universe]
      · intro a _ b hb
        have := (g.succ_mem).mp hb
        simp only [Graph.universe, List.mem_append, List.mem_map]
        exact Or.inr ⟨(a, b), this, rfl⟩
      · omega
  · have hn' : ¬ start ∈ g.nodes := by simpa using hn
    simp [hn, hn']

/-! ### backfill of the transitive interfaces -/

theorem declared_modifyFirst (p : Def → Bool) (f : Def → Def) (name : Name) (extra : List Name)
    (hp : ∀ d, p d = true → d.name = name)
    (hf : ∀ d, (f d).name = d.name ∧ ∀ q, q ∈ (f d).interfaces ↔ q ∈ d.interfaces ∨ q ∈ extra) :
    ∀ (defs : List Def), defs.any p = true →
      ∀ q, q ∈ declared (modifyFirst p f defs) name ↔ q ∈ declared defs name ∨ q ∈ extra := by
  intro defs
  induction defs with
  | nil => intro h; simp at h
  | cons d ds ih =>
    intro h q
    simp only [modifyFirst]
    by_cases hd : p d = true
    · have hname := hp d hd
      have hfd := hf d
      simp only [hd, if_true, declared, List.filter_cons, hfd.1, hname, beq_self_eq_true, List.flatMap_cons,
        List.mem_append, hfd.2 q]
      exact or_right_comm
    · have hany : ds.any p = true := by
        simp only [List.any_cons, Bool.or_eq_true] at h
        rcases h with h | h
        · exact absurd h hd
        · exact h
      have := ih hany q
      simp only [hd, Bool.false_eq_true, if_false, declared, List.filter_cons] at this ⊢
      by_cases hn : (d.name == name) = true
      · simp only [hn, if_true, List.flatMap_cons, List.mem_append]
        rw [this]
        exact or_assoc.symm
      · simp only [hn, Bool.false_eq_true, if_false]
        exact this

theorem declared_modifyFirst_other (p : Def → Bool) (f : Def → Def) (name other : Name) (hne : other ≠ name)
    (hp : ∀ d, p d = true → d.name = name) (hf : ∀ d, (f d).name = d.name) :
    ∀ (defs : List Def), declared (modifyFirst p f defs) other = declared defs other := by
  intro defs
  induction defs with
  | nil => rfl
  | cons d ds ih =>
    simp only [modifyFirst]
    by_cases hd : p d = true
    · have hname := hp d hd
      have : (d.name == other) = false := by
        rw [hname]; simp; exact fun e => hne e.symm
      simp [hd, declared, List.filter_cons, hf d, this]
    · simp only [hd, Bool.false_eq_true, if_false, declared, List.filter_cons]
      simp only [declared] at ih
      split <;> simp [ih]

/-- what `expandTransitive` adds: the closure minus the type itself minus what extensions declare -/
def toAddOf (g : Graph) (defs : List Def) (name : Name) : List Name :=
  ((g.closure name).filter (· != name)).filter fun p =>
    !((defs.filter fun d => d.extend && d.name == name).flatMap (·.interfaces)).contains p

theorem byExt_subset_declared (defs : List Def) (name q : Name)
    (h : q ∈ (defs.filter fun d => d.extend && d.name == name).flatMap (·.interfaces)) : q ∈ declared defs name := by
  simp only [declared, List.mem_flatMap, List.mem_filter, Bool.and_eq_true] at h ⊢
  obtain ⟨d, ⟨hd, _, hn⟩, hq⟩ := h
  exact ⟨d, ⟨hd, hn⟩, hq⟩

theorem expandTransitive_declared (g : Graph) (defs : List Def) (name : Name)
    (hex : defs.any (fun d => d.name == name) = true) (q : Name) :
    q ∈ declared (expandTransitive g defs name) name ↔ q ∈ declared defs name ∨ (q ∈ g.closure name ∧ q ≠ name) := by
  have hf : ∀ d : Def, ({ d with interfaces := (toAddOf g defs name).foldl insertNew d.interfaces } : Def).name = d.name ∧
      ∀ q, q ∈ ({ d with interfaces := (toAddOf g defs name).foldl insertNew d.interfaces } : Def).interfaces ↔
        q ∈ d.interfaces ∨ q ∈ toAddOf g defs name := fun d => ⟨rfl, fun q => mem_foldl_insertNew⟩
  have key : q ∈ declared (expandTransitive g defs name) name ↔ q ∈ declared defs name ∨ q ∈ toAddOf g defs name := by
    unfold expandTransitive
    simp only
    split
    · rename_i hb
      exact declared_modifyFirst (fun d => !d.extend && d.name == name) _ name (toAddOf g defs name)
        (fun d hd => by simp at hd; exact hd.2) hf defs hb q
    · exact declared_modifyFirst (fun d => d.name == name) _ name (toAddOf g defs name)
        (fun d hd => by simpa using hd) hf defs hex q
  rw [key]
  constructor
  · rintro (h | h)
    · exact Or.inl h
    · simp only [toAddOf, List.mem_filter] at h
      exact Or.inr ⟨h.1.1, by simpa using h.1.2⟩
  · rintro (h | ⟨h1, h2⟩)
    · exact Or.inl h
    · by_cases hb : q ∈ (defs.filter fun d => d.extend && d.name == name).flatMap (·.interfaces)
      · exact Or.inl (byExt_subset_declared defs name q hb)
      · right
        simp only [toAddOf, List.mem_filter]
        exact ⟨⟨h1, by simpa using h2⟩, by simpa using hb⟩

theorem expandTransitive_other (g : Graph) (defs : List Def) (name other : Name) (hne : other ≠ name) :
    declared (expandTransitive g defs name) other = declared defs other := by
  unfold expandTransitive
  simp only
  split
  · apply declared_modifyFirst_other _ _ name other hne
    · intro d hd; simp at hd; exact hd.2
    · intro d; rfl
  · apply declared_modifyFirst_other _ _ name other hne
    · intro d hd; simpa using hd
    · intro d; rfl

/-! ### fragments -/

theorem mem_reachable (ops : List (List Name)) (frags : List Frag) (x : Name) :
    x ∈ reachable ops frags ↔ Reach (fragSucc frags) ops.flatten x := by
  unfold reachable
  have hroots : ∀ y, y ∈ ops.flatten.foldl insertNew [] ↔ y ∈ ops.flatten := by
    intro y; rw [mem_foldl_insertNew]; simp
  constructor
  · intro hx
    exact saturate_sound _ ops.flatten _ _ (fun y hy => Reach.root ((hroots y).mp hy)) x hx
  · intro hr
    refine stable_complete _ ops.flatten _ (fun y hy => subset_saturate _ _ _ y ((hroots y).mpr hy)) ?_ x hr
    apply saturate_stable _ (fragUniverse ops frags) _ _ (nodup_foldl_insertNew List.nodup_nil)
    · intro y hy
      simp only [fragUniverse, List.mem_append]
      exact Or.inl ((hroots y).mp hy)
    · intro a _ b hb
      simp only [fragUniverse, List.mem_append, List.mem_flatMap]
      right
      unfold fragSucc at hb
      split at hb
      · rename_i f hf
        exact ⟨f, List.mem_of_find?_eq_some hf, hb⟩
      · cases hb
    · omega

end Apollo.SmithGen
