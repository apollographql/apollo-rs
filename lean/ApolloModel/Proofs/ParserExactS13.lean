import ApolloModel.Proofs.ParserExactS12
/-
EXACT SOUNDNESS (namespace Apollo.Parse.Exact): `Parser::parse` on executable-only sources — zero errors if and
only if the significant tokens are one or more executable definitions within the exact recursion budget.
-/
set_option linter.unusedSimpArgs false
namespace Apollo.Parse.Exact
open Apollo.Rowan hiding Str
open Apollo.Lex hiding Str

/-- the guard of the executable-document theorem, on the SIGNIFICANT tokens of the source: none is a String (a
    description) and none has the text of one of the nine keywords that make `select_definition` start a type-system
    definition or extension (`directive enum extend input interface type scalar schema union`) -/
def ExecOnly (src : Str) : Prop := ∀ t ∈ sig (srcToks src), t.kind ≠ .stringValue ∧ NotTsWord t.data

/-- ignored tokens satisfy the guard anyway (lexer fact `LexQ`: a text that starts like a name is a Name token) -/
theorem execQ_of_execOnly (src : Str) (h : ExecOnly src) : ExecQ (srcToks src) := by
  intro t ht
  by_cases hi : isIgnoredKind t.kind = true
  · refine ⟨(by intro hk; rw [hk] at hi; cases hi), ?_⟩
    have hl := lexQ_srcToks src t ht
    have nk : ∀ (word : String) (c : Char) (r : Str), word.toList = c :: r → isNameStart c = true → t.data ≠ word.toList := by
      intro word c r hw hc hd
      have := hl c r (hd.trans hw) hc
      rw [this] at hi
      cases hi
    exact ⟨nk "directive" 'd' "irective".toList rfl rfl, nk "enum" 'e' "num".toList rfl rfl, nk "extend" 'e' "xtend".toList rfl rfl,
      nk "input" 'i' "nput".toList rfl rfl, nk "interface" 'i' "nterface".toList rfl rfl, nk "type" 't' "ype".toList rfl rfl,
      nk "scalar" 's' "calar".toList rfl rfl, nk "schema" 's' "chema".toList rfl rfl, nk "union" 'u' "nion".toList rfl rfl⟩
  · exact h t (by unfold sig; exact List.mem_filter.mpr ⟨ht, by simpa using hi⟩)

/-- **`Parser::parse` on an executable-only source: acceptance = grammar.**  For a source whose significant tokens
    contain no String and none of the nine type-system keywords: ZERO errors if and only if the source lexes cleanly and
    its significant tokens are one or more executable definitions — full operation definitions, shorthand selection
    sets, fragment definitions with a name other than `on` — each within the exact recursion budget `rl`
    (`Exact.IsExecDocFit rl`), followed by the end of input.  The direction ⇐ needs no guard. -/
theorem parseDocument_exec_iff (rl : Nat) (src : Str) (hg : ExecOnly src) :
    (parse .document none rl src).errors = [] ↔
      LexClean src ∧ ∃ ts x e, sig (srcToks src) = ts ++ [e] ∧ e.kind = .eof ∧ TokIs ts x ∧ IsExecDocFit rl x := by
  constructor
  · intro herr
    obtain ⟨root, hroot⟩ := parseDocument_tree none rl src
    exact execDocument_accept_sound rl src root (execQ_of_execOnly src hg) hroot herr
  · rintro ⟨hclean, ts, x, e, h1, h2, h3, h4⟩
    exact parseDocument_complete_sig rl src x ts e hclean h1 h2 h3 h4

end Apollo.Parse.Exact
