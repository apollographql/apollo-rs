import ApolloModel.Proofs.ParserRecursion26
/-
C04, closed form of the nesting depth: nodes.  What `start_node … finish_node` and
`checkpoint … wrap_node` add to the tree, the rule for a node kind that costs nothing, the rule for a node whose
body runs under the recursion guard, and the "flat" judgement (`FL`: adds only depth-free elements, leaves the
tracker alone) for the token-level primitives around the guards.
-/
set_option linter.unusedSimpArgs false
set_option linter.unusedVariables false
namespace Apollo.Parse
open Apollo.Rowan hiding Str
open Apollo.Lex hiding Str

/-- `start_node(K) … finish_node`: the body's additions end up as the children of one new `K` node, after the
    ignored tokens that were pending -/
theorem withNode_added {α : Type} (K : SK) (body : PI α) (s s' : PState) (a : α) (hi : Inv s)
    (h : (withNode K body).run s = .ok a s') :
    ∃ s2 cs b, (skipIgnored >>= fun _ => body).run (wnPre K s) = .ok a s2 ∧ Inv (wnPre K s) ∧
      s2.builder.children = (wnPre K s).builder.children ++ cs ∧ s' = { s2 with builder := b } ∧
      b.children = s.builder.children ++ (s.pending.map pendingElem ++ [Elem.node K cs]) := by
  rw [withNode_run] at h
  have hi0 := inv_wnPre K s hi
  cases hr : (skipIgnored >>= fun _ => body).run (wnPre K s) with
  | abort w => rw [hr] at h; cases h
  | panic m => rw [hr] at h; cases h
  | ok a2 s2 =>
    rw [hr] at h
    simp only [] at h
    obtain ⟨_, fr⟩ := post_of_run _ _ hi0 a2 s2 hr
    have hp : s2.builder.parents = (K, (s.builder.children ++ s.pending.map pendingElem).length) :: s.builder.parents := by
      rw [fr.parents]; rfl
    obtain ⟨cs, hcs⟩ := fr.children
    have hbase : (wnPre K s).builder.children = s.builder.children ++ s.pending.map pendingElem := rfl
    simp only [Builder.finishNode, hp, Res.ok.injEq] at h
    obtain ⟨rfl, rfl⟩ := h
    refine ⟨s2, cs, _, rfl, hi0, hcs, rfl, ?_⟩
    simp only []
    rw [hcs, hbase, List.take_left' rfl, List.drop_left' rfl, List.append_assoc]

theorem wnPre_fields (K : SK) (s : PState) :
    (wnPre K s).errors = s.errors ∧ (wnPre K s).acceptErrors = s.acceptErrors ∧ (wnPre K s).recHigh = s.recHigh ∧
    (wnPre K s).recCur = s.recCur ∧ (wnPre K s).recLimit = s.recLimit ∧ (wnPre K s).current = s.current :=
  ⟨rfl, rfl, rfl, rfl, rfl, rfl⟩

/-- a node of kind `K`: the depth of the node is `gdl cs + off`, the body's judgement has offset `off` -/
theorem gd_withNode_core {α : Type} (K : SK) (body : PI α) (off : Nat)
    (hin : ∀ s a s', Inv s → (skipIgnored >>= fun _ => body).run s = .ok a s' →
      ∃ extra added, GWOut s s' extra added ∧ Exact s s' extra added off)
    (hK : ∀ cs, gd (.node K cs) = gdl cs + off) : GD (withNode K body) := by
  constructor
  intro s a s' hi h
  obtain ⟨s2, cs, b, hr, hi0, hcs, rfl, hb⟩ := withNode_added K body s s' a hi h
  obtain ⟨e, ad, w, x⟩ := hin _ a s2 hi0 hr
  have hcs2 : ad = cs := List.append_cancel_left (w.kids.symm.trans hcs)
  subst hcs2
  refine ⟨e, s.pending.map pendingElem ++ [Elem.node K ad], ⟨w.errs, hb, w.mono, w.acc⟩, ?_⟩
  intro he ha hh hc
  have r := x he ha hh hc
  show s2.recHigh = _
  rw [r, gdl_append, gdl_pending, gdl_single, hK]
  show max s.recHigh (s.recCur + gdl ad + off) = max s.recHigh (s.recCur + max 0 (gdl ad + off) + 0)
  omega

/-! ### flat computations -/

/-- adds only depth-free elements (tokens, and nodes without guarded constructs) and leaves the tracker alone -/
structure FL {α : Type} (m : PI α) : Prop where
  f : ∀ s a s', Inv s → m.run s = .ok a s' → ∃ added, s'.builder.children = s.builder.children ++ added ∧ gdl added = 0 ∧
    s'.recHigh = s.recHigh

theorem fl_pure {α : Type} (a : α) : FL (pure a : PI α) := by
  constructor
  intro s a' s' _ h
  rw [run_pure] at h
  injection h with _ h
  subst h
  exact ⟨[], by simp, rfl, rfl⟩

theorem fl_bind {α β : Type} (m : PI α) (f : α → PI β) (hm : FL m) (hf : ∀ a, FL (f a)) : FL (m >>= f) := by
  constructor
  intro s b s'' hi h
  obtain ⟨a, s', h1, h2⟩ := bind_dec m f s s'' b h
  obtain ⟨hi', _⟩ := post_of_run m s hi a s' h1
  obtain ⟨a1, k1, g1, r1⟩ := hm.f s a s' hi h1
  obtain ⟨a2, k2, g2, r2⟩ := (hf a).f s' b s'' hi' h2
  exact ⟨a1 ++ a2, by rw [k2, k1, List.append_assoc], by rw [gdl_append, g1, g2]; rfl, r2.trans r1⟩

theorem fl_ite {α : Type} (c : Bool) (a b : PI α) (ha : FL a) (hb : FL b) : FL (if c then a else b) := by
  cases c <;> simp [ha, hb]

theorem fl_same {α : Type} {m : PI α}
    (h : ∀ s a s', m.run s = .ok a s' → s'.builder.children = s.builder.children ∧ s'.recHigh = s.recHigh) : FL m := by
  constructor
  intro s a s' _ hr
  obtain ⟨h1, h2⟩ := h s a s' hr
  exact ⟨[], by simp [h1], rfl, h2⟩

theorem fl_outOfFuel {α : Type} : FL (PI.outOfFuel : PI α) := ⟨fun s a s' _ h => by simp [PI.outOfFuel] at h⟩

theorem fl_peekToken : FL peekToken := by
  constructor
  intro s o s' hi h
  obtain ⟨e, ad, w, _⟩ := gd_peekToken.g s o s' hi h
  have hp := plain_peekToken.out s o s' h
  unfold peekToken at h
  simp only [] at h
  cases hc : s.current with
  | some t =>
    simp only [hc, Res.ok.injEq] at h
    obtain ⟨_, rfl⟩ := h
    exact ⟨[], by simp, rfl, rfl⟩
  | none =>
    simp only [hc, Res.ok.injEq] at h
    obtain ⟨_, rfl⟩ := h
    have hb := (nextTokenRaw_spec (s.lx.src.length + 3) s).builder
    exact ⟨[], by show (nextTokenRaw (s.lx.src.length + 3) s).2.builder.children = _; simp [hb], rfl, hp.recHigh⟩

theorem fl_moveCurToPending : FL moveCurToPending := by
  refine fl_same ?_
  intro s b s' h
  unfold moveCurToPending at h
  simp only [] at h
  cases hc : s.current with
  | none => simp only [hc] at h; injection h with _ h; subst h; exact ⟨rfl, rfl⟩
  | some t => simp only [hc] at h; split at h <;> (injection h with _ h; subst h; exact ⟨rfl, rfl⟩)

theorem fl_srcLen : FL srcLen :=
  fl_same (fun s a s' h => by unfold srcLen at h; simp only [] at h; injection h with _ h; subst h; exact ⟨rfl, rfl⟩)

theorem fl_pushIgnored : FL pushIgnored := by
  constructor
  intro s a s' _ h
  unfold pushIgnored at h; simp only [] at h; injection h with _ h; subst h
  exact ⟨_, rfl, gdl_pending _, rfl⟩

theorem fl_moveCurToTree (kind : SK) : FL (moveCurToTree kind) := by
  constructor
  intro s a s' _ h
  unfold moveCurToTree at h
  simp only [] at h
  cases hc : s.current with
  | none => simp only [hc] at h; injection h with _ h; subst h; exact ⟨[], by simp, rfl, rfl⟩
  | some t =>
    simp only [hc] at h; injection h with _ h; subst h
    exact ⟨s.pending.map pendingElem ++ [.tok kind t.data], by simp [List.append_assoc],
      by rw [gdl_append, gdl_pending, gdl_tok]; rfl, rfl⟩

theorem fl_pushErr (e : PErr) : FL (pushErr e) :=
  fl_same (fun s a s' h => by unfold pushErr errUpdate at h; simp only [] at h; injection h with _ h; subst h; exact ⟨rfl, rfl⟩)

theorem fl_skipIgnoredLoop : ∀ fuel, FL (skipIgnoredLoop fuel)
  | 0 => fl_outOfFuel
  | fuel + 1 => by
    unfold skipIgnoredLoop
    exact fl_bind _ _ fl_peekToken (fun _ => fl_bind _ _ fl_moveCurToPending
      (fun b => fl_ite b _ _ (fl_skipIgnoredLoop fuel) (fl_pure _)))

theorem fl_skipIgnored : FL skipIgnored := by
  unfold skipIgnored
  exact fl_bind _ _ fl_srcLen (fun n => fl_skipIgnoredLoop (n + 3))

theorem fl_peek : FL peek := by
  unfold peek
  exact fl_bind _ _ fl_peekToken (fun _ => fl_pure _)

theorem fl_eat (k : SK) : FL (eat k) := by
  unfold eat
  exact fl_bind _ _ fl_pushIgnored (fun _ => fl_bind _ _ fl_peekToken (fun _ => fl_moveCurToTree k))

theorem fl_bump (k : SK) : FL (bump k) := by
  unfold bump
  exact fl_bind _ _ (fl_eat k) (fun _ => fl_skipIgnored)

theorem fl_errAtToken (t : Tok) : FL (errAtToken t) := fl_pushErr _

theorem fl_err : FL err := by
  unfold err
  refine fl_bind _ _ fl_peekToken (fun o => ?_)
  cases o with
  | none => exact fl_pure _
  | some t => exact fl_pushErr _

theorem fl_expect (t : Kind) (k : SK) : FL (expect t k) := by
  unfold expect
  refine fl_bind _ _ fl_peekToken (fun o => ?_)
  cases o with
  | none => exact fl_pure _
  | some tk => exact fl_ite _ _ _ (fl_bump k) (fl_pushErr _)

theorem fl_withNode {α : Type} (K : SK) (body : PI α) (hK : PlainKind K) (hb : FL body) : FL (withNode K body) := by
  constructor
  intro s a s' hi h
  obtain ⟨s2, cs, b, hr, hi0, hcs, rfl, hbc⟩ := withNode_added K body s s' a hi h
  obtain ⟨ad, k, g, r⟩ := (fl_bind _ _ fl_skipIgnored (fun _ => hb)).f _ a s2 hi0 hr
  have : ad = cs := List.append_cancel_left (k.symm.trans hcs)
  subst this
  exact ⟨_, hbc, by rw [gdl_append, gdl_pending, gdl_single, gd_plain hK, g]; rfl, r⟩

theorem fl_name : FL name := by
  unfold name
  refine fl_bind _ _ fl_peekToken (fun o => ?_)
  cases o with
  | none => exact fl_err
  | some t => exact fl_ite _ _ _ (fl_withNode _ _ (by decide) (fl_bump _)) fl_err

/-! ### sequencing a guarded part with flat parts -/

theorem gd1_bind_left {α β : Type} (m : PI α) (f : α → PI β) (hm : GD m) (fm : FL m) (hf : ∀ a, GD1 (f a)) :
    GD1 (m >>= f) := by
  constructor
  intro s b s'' hi h
  obtain ⟨a, s', h1, h2⟩ := bind_dec m f s s'' b h
  obtain ⟨hi', fr⟩ := post_of_run m s hi a s' h1
  obtain ⟨e1, a1, w1, _⟩ := hm.g s a s' hi h1
  obtain ⟨a1', k1, g1, r1⟩ := fm.f s a s' hi h1
  have : a1' = a1 := List.append_cancel_left (k1.symm.trans w1.kids)
  subst this
  obtain ⟨e2, a2, w2, x2⟩ := (hf a).g s' b s'' hi' h2
  refine ⟨e1 ++ e2, a1' ++ a2, ⟨by rw [w2.errs, w1.errs, List.append_assoc], by rw [w2.kids, w1.kids, List.append_assoc],
    Nat.le_trans w1.mono w2.mono, fun he => ?_⟩, ?_⟩
  · obtain ⟨he1, he2⟩ := List.append_eq_nil_iff.mp he
    rw [w2.acc he2, w1.acc he1]
  · intro he ha hh hc
    obtain ⟨he1, he2⟩ := List.append_eq_nil_iff.mp he
    have r2 := x2 he2 (by rw [w1.acc he1]; exact ha) (by rw [fr.recLimit]; exact hh) (by rw [fr.recCur, r1]; exact hc)
    rw [r2, r1, fr.recCur, gdl_append, g1]
    omega

theorem gd1_bind_right {α β : Type} (m : PI α) (f : α → PI β) (hm : GD1 m) (hf : ∀ a, GD (f a)) (ff : ∀ a, FL (f a)) :
    GD1 (m >>= f) := by
  constructor
  intro s b s'' hi h
  obtain ⟨a, s', h1, h2⟩ := bind_dec m f s s'' b h
  obtain ⟨hi', fr⟩ := post_of_run m s hi a s' h1
  obtain ⟨e1, a1, w1, x1⟩ := hm.g s a s' hi h1
  obtain ⟨e2, a2, w2, _⟩ := (hf a).g s' b s'' hi' h2
  obtain ⟨a2', k2, g2, r2⟩ := (ff a).f s' b s'' hi' h2
  have : a2' = a2 := List.append_cancel_left (k2.symm.trans w2.kids)
  subst this
  refine ⟨e1 ++ e2, a1 ++ a2', ⟨by rw [w2.errs, w1.errs, List.append_assoc], by rw [w2.kids, w1.kids, List.append_assoc],
    Nat.le_trans w1.mono w2.mono, fun he => ?_⟩, ?_⟩
  · obtain ⟨he1, he2⟩ := List.append_eq_nil_iff.mp he
    rw [w2.acc he2, w1.acc he1]
  · intro he ha hh hc
    obtain ⟨he1, he2⟩ := List.append_eq_nil_iff.mp he
    have r1 := x1 he1 ha (by rw [← r2]; exact hh) hc
    rw [r2, r1, gdl_append, g2]
    omega

theorem gd_withNode {α : Type} (K : SK) (body : PI α) (hK : PlainKind K) (hs : GD skipIgnored) (hb : GD body) :
    GD (withNode K body) :=
  gd_withNode_core K body 0 (fun s a s' hi hr => (gd_bind _ _ hs (fun _ => hb)).g s a s' hi hr)
    (fun cs => by rw [gd_plain hK]; rfl)

/-- a `SELECTION_SET` / `LIST_TYPE` node: its body runs under the guard -/
theorem gd_withNode_guard {α : Type} (K : SK) (body : PI α) (hK : K = "SELECTION_SET" ∨ K = "LIST_TYPE")
    (hs : GD skipIgnored) (hb : GD1 body) : GD (withNode K body) :=
  gd_withNode_core K body 1 (fun s a s' hi hr => (gd1_bind_left _ _ hs fl_skipIgnored (fun _ => hb)).g s a s' hi hr)
    (fun cs => gd_guard hK cs)

end Apollo.Parse
