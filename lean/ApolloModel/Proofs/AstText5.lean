import ApolloModel.Proofs.AstText4
import ApolloModel.Proofs.LexerStrings
/-
Property C08, text level: connection to the lexer model (Model/Lexer.lean).  `sigToks` reads the lexer's items
as parser tokens; ignored text in front of text that does not start with an ignored character does not
change them (`skip_ignored`).
-/
namespace Apollo.Ast
open Apollo.Lex (advance lex lexAux Item Kind isWhitespaceAssimilated lex_punctuator lex_whitespace advance_progress)

/-! ### the lexer's items as parser tokens (same function as `Driver.sigToks` in Driver/D08.lean) -/

def punctOfKind : Kind → Option P
  | .bang => some .bang | .dollar => some .dollar | .amp => some .amp | .spread => some .spread
  | .colon => some .colon | .eq => some .eq | .at => some .at | .lParen => some .lParen
  | .rParen => some .rParen | .lBracket => some .lBracket | .rBracket => some .rBracket
  | .lCurly => some .lCurly | .rCurly => some .rCurly | .pipe => some .pipe
  | _ => none

/-- `none`: not a token; `some none`: ignored by the parser; `some (some t)`: the token -/
def sigItem (k : Kind) (d : Str) : Option (Option Tok) :=
  match k with
  | .whitespace | .comment | .comma | .eof => some none
  | .name => some (some (.name d))
  | .int => some (some (.int d))
  | .float => some (some (.float d))
  | .stringValue => (Strs.decodeStringToken d).map (fun s => some (.str s))
  | k => (punctOfKind k).map (fun p => some (.p p))

def sigToks : List Item → Option (List Tok)
  | [] => some []
  | .tok k d :: r =>
    match sigItem k d with
    | none => none
    | some none => sigToks r
    | some (some t) => (sigToks r).map (t :: ·)
  | _ :: _ => none

/-! ### the lexer, one item at a time -/

theorem lexAux_irrel : ∀ (fuel fuel' c c' : Nat) (src : Str), src.length < fuel → src.length < fuel' →
    lexAux fuel none c src = lexAux fuel' none c' src
  | 0, _, _, _, _, h, _ => by omega
  | _, 0, _, _, _, _, h => by omega
  | fuel + 1, fuel' + 1, c, c', [], _, _ => by simp [lexAux]
  | fuel + 1, fuel' + 1, c, c', x :: rest, h, h' => by
    have hp := (advance_progress x rest).2
    simp only [lexAux, Bool.false_eq_true, if_false]
    rw [lexAux_irrel fuel fuel' (c + 1) (c' + 1) (advance (x :: rest)).2
      (by simp only [List.length_cons] at h hp; omega) (by simp only [List.length_cons] at h' hp; omega)]

theorem lex_nil : lex none [] = [.tok .eof []] := by simp [lex, lexAux]

theorem lexAux_cons (f c : Nat) (x : Char) (rest : Str) :
    lexAux (f + 1) none c (x :: rest) = (advance (x :: rest)).1 :: lexAux f none (c + 1) (advance (x :: rest)).2 := by
  simp [lexAux]

theorem lex_cons (x : Char) (rest : Str) :
    lex none (x :: rest) = (advance (x :: rest)).1 :: lex none (advance (x :: rest)).2 := by
  have hp := (advance_progress x rest).2
  unfold lex
  simp only [List.length_cons]
  rw [lexAux_cons]
  rw [lexAux_irrel (rest.length + 1) ((advance (x :: rest)).2.length + 1) (0 + 1) 0 _
    (by simp only [List.length_cons] at hp; omega) (by omega)]

/-! ### ignored text is skipped -/

theorem ignored_cases (c : Char) (h : isIgnoredChar c = true) : c = ',' ∨ isWhitespaceAssimilated c = true := by
  simp only [isIgnoredChar, Bool.or_eq_true, beq_iff_eq] at h
  rcases h with ((((h | h) | h) | h) | h) | h <;> subst h <;> decide

def HeadNotIgnored : Str → Prop
  | [] => True
  | c :: _ => isIgnoredChar c = false

theorem ws_not_ignored_false (c : Char) (h : isIgnoredChar c = false) : isWhitespaceAssimilated c = false := by
  cases hw : isWhitespaceAssimilated c with
  | false => rfl
  | true =>
    exfalso
    simp only [isWhitespaceAssimilated, Bool.or_eq_true, beq_iff_eq] at hw
    have hc := Char.ofNat_toNat c
    rcases hw with (((hw | hw) | hw) | hw) | hw <;> (rw [hw] at hc; rw [← hc] at h; revert h; decide)

theorem dropWhile_ws (w rest : Str) (hw : strIgnored w = true) (hr : HeadNotIgnored rest) :
    ∃ w', w'.length ≤ w.length ∧ strIgnored w' = true ∧
      (w ++ rest).dropWhile isWhitespaceAssimilated = w' ++ rest := by
  induction w with
  | nil =>
    refine ⟨[], Nat.le_refl _, rfl, ?_⟩
    cases rest with
    | nil => simp
    | cons c r =>
      have := ws_not_ignored_false c hr
      simp [this]
  | cons d w ih =>
    have hd : isIgnoredChar d = true ∧ strIgnored w = true := by simpa [strIgnored] using hw
    by_cases hws : isWhitespaceAssimilated d = true
    · obtain ⟨w', hl, hi, he⟩ := ih hd.2
      exact ⟨w', by simp only [List.length_cons]; omega, hi, by simp [hws, he]⟩
    · exact ⟨d :: w, Nat.le_refl _, hw, by simp [hws]⟩

theorem skip_ignored : ∀ (n : Nat) (ws rest : Str), ws.length ≤ n → strIgnored ws = true → HeadNotIgnored rest →
    sigToks (lex none (ws ++ rest)) = sigToks (lex none rest)
  | _, [], rest, _, _, _ => by simp
  | 0, c :: w, _, h, _, _ => by simp at h
  | n + 1, c :: w, rest, hn, hw, hr => by
    have hc : isIgnoredChar c = true ∧ strIgnored w = true := by simpa [strIgnored] using hw
    simp only [List.cons_append]
    rw [lex_cons]
    rcases ignored_cases c hc.1 with hcomma | hws
    · subst hcomma
      rw [lex_punctuator ',' .comma (w ++ rest) (by decide)]
      simp only [sigToks, sigItem]
      exact skip_ignored n w rest (by simp only [List.length_cons] at hn; omega) hc.2 hr
    · rw [lex_whitespace c (w ++ rest) hws]
      simp only [sigToks, sigItem]
      obtain ⟨w', hl, hi, he⟩ := dropWhile_ws w rest hc.2 hr
      rw [he]
      exact skip_ignored n w' rest (by simp only [List.length_cons] at hn; omega) hi hr

end Apollo.Ast
