import ApolloModel.Model.SchemaSerialize
import ApolloModel.Proofs.SchemaBuild
import ApolloModel.Proofs.StickyBuild
/-
C12, on lists and bodies: re-building the definitions that `to_ast` emits for one type regroups every component
list by origin in `extensions()` order, and `extensions()` of a regrouped body is `extensions()` of the body.
-/
namespace Apollo.SchemaSerialize
open Apollo.SchemaBuild

/-! ### first occurrences -/

theorem mem_firstOcc : ∀ (l : List Pos) (x : Pos), x ∈ firstOcc l ↔ x ∈ l := by
  intro l
  induction l with
  | nil => intro x; simp [firstOcc]
  | cons y ys ih =>
    intro x
    simp only [firstOcc, List.mem_cons, List.mem_filter, ih]
    constructor
    · rintro (h | ⟨h, _⟩)
      · exact Or.inl h
      · exact Or.inr h
    · intro h
      by_cases e : x = y
      · exact Or.inl e
      · rcases h with h | h
        · exact Or.inl h
        · exact Or.inr ⟨h, by simpa using e⟩

theorem firstOcc_nodup : ∀ (l : List Pos), (firstOcc l).Nodup := by
  intro l
  induction l with
  | nil => simp [firstOcc]
  | cons y ys ih =>
    simp only [firstOcc, List.nodup_cons, List.mem_filter]
    refine ⟨?_, ih.filter _⟩
    rintro ⟨_, h⟩
    simp at h

/-! ### sticky extension with fresh names appends everything -/

def names (cs : List Comp) : List Name := cs.map (·.name)

theorem hasName_iff (cs : List Comp) (n : Name) : hasName cs n = true ↔ n ∈ names cs := by
  simp [hasName, names, List.any_eq_true]

theorem extendSticky_fresh (dup : Name → Diag) (o : Option Pos) (its : List Item) (cs : List Comp) (errs : List Err)
    (hfresh : ∀ it ∈ its, it.name ∉ names cs) (hnd : (its.map (·.name)).Nodup) :
    extendSticky dup o cs errs its = (cs ++ its.map (Item.toComp o), errs) := by
  obtain ⟨kept, new, heq, hiff, hall⟩ := extendSticky_shape dup o its cs errs
  have hnew : new = [] := hiff.mpr ⟨fun it hit => by
    cases h : hasName cs it.name with
    | false => rfl
    | true => exact absurd ((hasName_iff cs it.name).mp h) (hfresh it hit), hnd⟩
  rw [heq, hall hnew, hnew, List.append_nil]

/-! ### components round-trip through AST items -/

def HasPos (cs : List Comp) : Prop := ∀ c ∈ cs, c.pos.isSome = true

theorem toComp_toItem (c : Comp) (h : c.pos.isSome = true) : (Comp.toItem c).toComp c.origin = c := by
  obtain ⟨n, p, o, t⟩ := c
  cases p with
  | none => simp at h
  | some p => rfl

theorem partOf_toComp (o : Option Pos) (cs : List Comp) (h : HasPos cs) :
    (partOf o cs).map (Item.toComp o) = cs.filter (fun c => c.origin == o) := by
  unfold partOf
  rw [List.map_map]
  have : ∀ c ∈ cs.filter (fun c => c.origin == o), (Item.toComp o ∘ Comp.toItem) c = id c := by
    intro c hc
    have hm := List.mem_filter.mp hc
    have ho : c.origin = o := by simpa using hm.2
    simp only [Function.comp, id]
    rw [← ho]
    exact toComp_toItem c (h c hm.1)
  rw [List.map_congr_left this, List.map_id]

theorem partOf_names (o : Option Pos) (cs : List Comp) :
    (partOf o cs).map (·.name) = names (cs.filter (fun c => c.origin == o)) := by
  unfold partOf names
  rw [List.map_map]
  rfl

/-! ### names are distinct, so blocks of different origins have disjoint names -/

theorem nodup_map_inj {α β : Type} (f : α → β) : ∀ (l : List α), (l.map f).Nodup →
    ∀ a ∈ l, ∀ b ∈ l, f a = f b → a = b := by
  intro l
  induction l with
  | nil => intro _ a ha; cases ha
  | cons x xs ih =>
    intro hnd a ha b hb hab
    simp only [List.map_cons, List.nodup_cons] at hnd
    rcases List.mem_cons.mp ha with rfl | ha'
    · rcases List.mem_cons.mp hb with rfl | hb'
      · rfl
      · exact absurd (by rw [hab]; exact List.mem_map_of_mem hb') hnd.1
    · rcases List.mem_cons.mp hb with rfl | hb'
      · exact absurd (by rw [← hab]; exact List.mem_map_of_mem ha') hnd.1
      · exact ih hnd.2 a ha' b hb' hab

theorem regroup_prefix_fresh (cs : List Comp) (hnd : (names cs).Nodup) (P : List Pos) (e : Pos) (he : e ∉ P) :
    ∀ it ∈ partOf (some e) cs,
      it.name ∉ names (regroup P cs) := by
  intro it hit hmem
  unfold regroup at hmem
  unfold partOf at hit
  obtain ⟨c, hc, rfl⟩ := List.mem_map.mp hit
  have hcm := List.mem_filter.mp hc
  have hco : c.origin = some e := by simpa using hcm.2
  unfold names at hmem
  obtain ⟨c', hc', hn⟩ := List.mem_map.mp hmem
  have hc'cs : c' ∈ cs ∧ (c'.origin = none ∨ ∃ e' ∈ P, c'.origin = some e') := by
    rcases List.mem_append.mp hc' with h | h
    · have := List.mem_filter.mp h
      exact ⟨this.1, Or.inl (by simpa using this.2)⟩
    · obtain ⟨e', he', h'⟩ := List.mem_flatMap.mp h
      have := List.mem_filter.mp h'
      exact ⟨this.1, Or.inr ⟨e', he', by simpa using this.2⟩⟩
  have heq : c' = c := nodup_map_inj (fun c : Comp => c.name) cs (show (cs.map (fun c : Comp => c.name)).Nodup from hnd) c' hc'cs.1 c hcm.1 (by simpa [Comp.toItem] using hn)
  subst heq
  rcases hc'cs.2 with h | ⟨e', he', h⟩
  · rw [h] at hco; cases hco
  · rw [h] at hco
    injection hco with hco
    subst hco
    exact he he'

theorem filter_names_nodup (cs : List Comp) (hnd : (names cs).Nodup) (p : Comp → Bool) : (names (cs.filter p)).Nodup := by
  unfold names at *
  exact (List.filter_sublist.map _).nodup hnd

/-! ### one body through `extend_ast` -/

/-- a body of which every list is "definition components, then the components of the extensions `P`" -/
def groupedBody (b : Body) (P : List Pos) : Body :=
  ⟨regroup P b.directives, regroup P b.interfaces, regroup P b.members⟩

theorem regroup_snoc (P : List Pos) (e : Pos) (cs : List Comp) :
    regroup (P ++ [e]) cs = regroup P cs ++ cs.filter (fun c => c.origin == some e) := by
  simp [regroup, List.flatMap_append]

structure BodyWF (b : Body) : Prop where
  dpos : HasPos b.directives
  ipos : HasPos b.interfaces
  mpos : HasPos b.members
  inames : (names b.interfaces).Nodup
  mnames : (names b.members).Nodup

theorem extendBody_ext (dupI dupM : Name → Diag) (b : Body) (wf : BodyWF b) (P : List Pos) (e : Pos) (he : e ∉ P)
    (tag : DefTag) (n : Name) (errs : List Err) :
    extendBody dupI dupM (some e) (groupedBody b P) (defOfBody tag n e (some e) b) errs
      = (groupedBody b (P ++ [e]), errs) := by
  unfold extendBody defOfBody groupedBody
  simp only []
  rw [extendSticky_fresh dupI (some e) _ _ errs (regroup_prefix_fresh b.interfaces wf.inames P e he)
    (by rw [partOf_names]; exact filter_names_nodup _ wf.inames _)]
  simp only []
  rw [extendSticky_fresh dupM (some e) _ _ errs (regroup_prefix_fresh b.members wf.mnames P e he)
    (by rw [partOf_names]; exact filter_names_nodup _ wf.mnames _)]
  simp only [regroup_snoc, partOf_toComp _ _ wf.dpos, partOf_toComp _ _ wf.ipos, partOf_toComp _ _ wf.mpos]

theorem extendBody_def (dupI dupM : Name → Diag) (b : Body) (wf : BodyWF b)
    (tag : DefTag) (n : Name) (p : Pos) (errs : List Err) :
    extendBody dupI dupM none Body.empty (defOfBody tag n p none b) errs = (groupedBody b [], errs) := by
  unfold extendBody defOfBody groupedBody Body.empty
  simp only []
  rw [extendSticky_fresh dupI none _ _ errs (by intro it _; simp [names])
    (by rw [partOf_names]; exact filter_names_nodup _ wf.inames _)]
  simp only []
  rw [extendSticky_fresh dupM none _ _ errs (by intro it _; simp [names])
    (by rw [partOf_names]; exact filter_names_nodup _ wf.mnames _)]
  simp only [regroup, partOf_toComp _ _ wf.dpos, partOf_toComp _ _ wf.ipos, partOf_toComp _ _ wf.mpos,
    List.nil_append, List.flatMap_nil, List.append_nil]

/-- a state that depends on the list of extensions applied so far, and a step that appends one new extension -/
theorem foldl_blocks {σ α : Type} (g : List Pos → σ) (f : σ → α → σ) (mk : Pos → α)
    (hstep : ∀ P e, e ∉ P → f (g P) (mk e) = g (P ++ [e])) :
    ∀ (es P : List Pos), (P ++ es).Nodup → (es.map mk).foldl f (g P) = g (P ++ es) := by
  intro es
  induction es with
  | nil => intro P _; simp
  | cons e es ih =>
    intro P hnd
    have he : e ∉ P := fun h => (List.nodup_append.mp hnd).2.2 e h e (by simp) rfl
    rw [List.map_cons, List.foldl_cons, hstep P e he, ih (P ++ [e]) (by simpa using hnd), List.append_assoc]
    rfl

/-- adopting / applying the extension definitions of `to_ast` one after another -/
theorem foldl_adoptStep_exts (k : Kind) (n : Name) (b : Body) (wf : BodyWF b) (t0 : TypeEntry) :
    ∀ (es P : List Pos) (errs : List Err), (P ++ es).Nodup →
      (es.map (fun e => defOfBody (.typeExt k) n e (some e) b)).foldl (adoptStep k)
          ({ t0 with body := groupedBody b P }, errs)
        = ({ t0 with body := groupedBody b (P ++ es) }, errs) := by
  intro es P errs
  refine foldl_blocks (fun P => (({ t0 with body := groupedBody b P } : TypeEntry), errs)) _ _ ?_ es P
  intro P e he
  have := extendBody_ext (dupIface t0.kind n) (dupMember t0.kind n) b wf P e he (.typeExt k) n errs
  unfold defOfBody at this
  simp only [adoptStep, extendType, defOfBody, if_true, this]

/-! ### the parts of a regrouped list are the parts of the list -/

theorem filter_filter_origin (cs : List Comp) (o o' : Option Pos) :
    (cs.filter (fun c => c.origin == o')).filter (fun c => c.origin == o)
      = if o' = o then cs.filter (fun c => c.origin == o) else [] := by
  rw [List.filter_filter]
  by_cases h : o' = o
  · subst h
    simp
  · simp only [h, if_false]
    apply List.filter_eq_nil_iff.mpr
    intro c _
    by_cases h1 : c.origin = o
    · subst h1; simpa using fun h' => h h'.symm
    · simp [h1]

theorem flatMap_blocks_filter (cs : List Comp) (e : Pos) : ∀ (exts : List Pos), exts.Nodup →
    (exts.flatMap (fun e' => cs.filter (fun c => c.origin == some e'))).filter (fun c => c.origin == some e)
      = if e ∈ exts then cs.filter (fun c => c.origin == some e) else [] := by
  intro exts
  induction exts with
  | nil => intro _; simp
  | cons x xs ih =>
    intro hnd
    have hx := (List.nodup_cons.mp hnd)
    simp only [List.flatMap_cons, List.filter_append, filter_filter_origin, ih hx.2]
    by_cases h : x = e
    · subst h
      simp [hx.1]
    · have h' : ¬ (some x = some e) := by intro c; injection c with c; exact h c
      have h2 : ¬ (e = x) := fun c => h c.symm
      simp [h', h2]

theorem filter_regroup_some (cs : List Comp) (exts : List Pos) (hnd : exts.Nodup) (e : Pos) (he : e ∈ exts) :
    (regroup exts cs).filter (fun c => c.origin == some e) = cs.filter (fun c => c.origin == some e) := by
  unfold regroup
  rw [List.filter_append, filter_filter_origin, flatMap_blocks_filter cs e exts hnd]
  simp [he]

theorem flatMap_blocks_filter_none (cs : List Comp) : ∀ (exts : List Pos),
    (exts.flatMap (fun e' => cs.filter (fun c => c.origin == some e'))).filter (fun c => c.origin == none) = [] := by
  intro exts
  induction exts with
  | nil => simp
  | cons x xs ih => simp only [List.flatMap_cons, List.filter_append, filter_filter_origin, ih]; simp

theorem filter_regroup_none (cs : List Comp) (exts : List Pos) :
    (regroup exts cs).filter (fun c => c.origin == none) = cs.filter (fun c => c.origin == none) := by
  unfold regroup
  rw [List.filter_append, filter_filter_origin, flatMap_blocks_filter_none]
  simp

/-! ### a discovery order that agrees with an order in which every list is grouped changes nothing -/

theorem regroup_sublist (cs : List Comp) : ∀ (exts order : List Pos), exts.Sublist order → order.Nodup →
    (∀ e ∈ order, e ∉ exts → cs.filter (fun c => c.origin == some e) = []) →
    regroup exts cs = regroup order cs := by
  intro exts order h
  induction h with
  | slnil => intro _ _; rfl
  | @cons l₁ l₂ a hsub ih =>
    intro hnd hempty
    have hn := List.nodup_cons.mp hnd
    have ha : a ∉ l₁ := fun h => hn.1 (hsub.subset h)
    have := ih hn.2 (fun e he hne => hempty e (by simp [he]) hne)
    unfold regroup at this ⊢
    rw [List.flatMap_cons, hempty a (by simp) ha, List.nil_append]
    exact this
  | @cons_cons l₁ l₂ a hsub ih =>
    intro hnd hempty
    have hn := List.nodup_cons.mp hnd
    have := ih hn.2 (fun e he hne => hempty e (by simp [he]) (by
      intro hc
      rcases List.mem_cons.mp hc with rfl | hc
      · exact hn.1 he
      · exact hne hc))
    unfold regroup at this ⊢
    rw [List.flatMap_cons, List.flatMap_cons]
    have := List.append_cancel_left this
    rw [this]

/-- "the discovery order of `iter_origins` is consistent with every component list": there is an order of the
    extensions (for built schemas: the order in which they were applied) in which every list is grouped, and
    `extensions()` lists the extensions in that order -/
def Consistent (b : Body) : Prop :=
  ∃ order : List Pos, order.Nodup ∧ (extensionsOf b).Sublist order
    ∧ b.directives = regroup order b.directives ∧ b.interfaces = regroup order b.interfaces
    ∧ b.members = regroup order b.members

theorem origin_mem_extensionsOf (b : Body) (cs : List Comp)
    (hcs : cs = b.directives ∨ cs = b.interfaces ∨ cs = b.members) (e : Pos) (he : e ∉ extensionsOf b) :
    cs.filter (fun c => c.origin == some e) = [] := by
  apply List.filter_eq_nil_iff.mpr
  intro c hc hco
  apply he
  unfold extensionsOf
  rw [mem_firstOcc]
  unfold extOrigins
  rw [List.mem_filterMap]
  refine ⟨c, ?_, by simpa using hco⟩
  rcases hcs with rfl | rfl | rfl <;> simp [hc]

theorem regroupBody_of_consistent (b : Body) (h : Consistent b) : regroupBody b = b := by
  obtain ⟨order, hnd, hsub, hd, hi, hm⟩ := h
  unfold regroupBody
  simp only []
  rw [regroup_sublist b.directives _ order hsub hnd (fun e _ hne => origin_mem_extensionsOf b _ (Or.inl rfl) e hne),
      regroup_sublist b.interfaces _ order hsub hnd (fun e _ hne => origin_mem_extensionsOf b _ (Or.inr (Or.inl rfl)) e hne),
      regroup_sublist b.members _ order hsub hnd (fun e _ hne => origin_mem_extensionsOf b _ (Or.inr (Or.inr rfl)) e hne),
      ← hd, ← hi, ← hm]

/-! ### first occurrences of concatenations and of grouped lists -/

theorem firstOcc_append : ∀ (A B : List Pos),
    firstOcc (A ++ B) = firstOcc A ++ (firstOcc B).filter (fun y => !decide (y ∈ A)) := by
  intro A
  induction A with
  | nil => intro B; exact (List.filter_eq_self.mpr (by intro y _; simp)).symm
  | cons a A ih =>
    intro B
    simp only [List.cons_append, firstOcc, ih, List.filter_append, List.filter_filter]
    congr 2
    apply List.filter_congr
    intro y _
    by_cases h : y = a <;> simp [h]

/-- `L` sorted into blocks in the order `E` -/
def grp (E L : List Pos) : List Pos := E.flatMap (fun e => L.filter (fun y => y == e))

theorem mem_grp (E L : List Pos) (y : Pos) : y ∈ grp E L ↔ y ∈ E ∧ y ∈ L := by
  unfold grp
  simp only [List.mem_flatMap, List.mem_filter]
  constructor
  · rintro ⟨e, he, hy, hye⟩
    have : y = e := by simpa using hye
    subst this
    exact ⟨he, hy⟩
  · rintro ⟨h1, h2⟩
    exact ⟨y, h1, h2, by simp⟩

theorem firstOcc_block (L : List Pos) (e : Pos) :
    firstOcc (L.filter (fun y => y == e)) = if e ∈ L then [e] else [] := by
  induction L with
  | nil => simp [firstOcc]
  | cons x xs ih =>
    by_cases h : x = e
    · subst h
      simp only [List.filter_cons, beq_self_eq_true, if_true, firstOcc, ih, List.mem_cons, true_or]
      by_cases h2 : x ∈ xs <;> simp [h2]
    · have h' : (x == e) = false := by simpa using h
      have h3 : ¬ (e = x) := fun c => h c.symm
      simp only [List.filter_cons, h', Bool.false_eq_true, if_false, ih, List.mem_cons, h3, false_or]

theorem firstOcc_grp (L : List Pos) : ∀ (E : List Pos), E.Nodup →
    firstOcc (grp E L) = E.filter (fun e => decide (e ∈ L)) := by
  intro E
  induction E with
  | nil => intro _; simp [grp, firstOcc]
  | cons e E ih =>
    intro hnd
    have hn := List.nodup_cons.mp hnd
    have hrest : grp (e :: E) L = L.filter (fun y => y == e) ++ grp E L := by simp [grp]
    rw [hrest, firstOcc_append, firstOcc_block, ih hn.2]
    have hf : (E.filter (fun e => decide (e ∈ L))).filter (fun y => !decide (y ∈ L.filter (fun y => y == e)))
        = E.filter (fun e => decide (e ∈ L)) := by
      apply List.filter_eq_self.mpr
      intro y hy
      have hyE := (List.mem_filter.mp hy).1
      have : y ≠ e := fun c => hn.1 (c ▸ hyE)
      simp [List.mem_filter, this]
    rw [hf]
    by_cases h : e ∈ L <;> simp [h]

/-! ### the extension origins of a regrouped list -/

theorem filterMap_origin_filter (cs : List Comp) (o : Option Pos) :
    (cs.filter (fun c => c.origin == o)).filterMap (·.origin)
      = (cs.filterMap (·.origin)).filter (fun y => some y == o) := by
  induction cs with
  | nil => rfl
  | cons c cs ih =>
    cases ho : c.origin with
    | none => cases o <;> simp_all
    | some p =>
      by_cases h : some p = o
      · subst h; simp [ho, ih]
      · simp [ho, h, ih]

theorem filterMap_origin_regroup (E : List Pos) (cs : List Comp) :
    (regroup E cs).filterMap (·.origin) = grp E (cs.filterMap (·.origin)) := by
  unfold regroup grp
  rw [List.filterMap_append, filterMap_origin_filter, List.filter_eq_nil_iff.mpr (by simp), List.nil_append]
  induction E with
  | nil => rfl
  | cons e E ih => simp [List.flatMap_cons, List.filterMap_append, filterMap_origin_filter, ih]

/-! ### the main lemma on position lists -/

theorem filter_middle {α : Type} (p : α → Bool) (A B C : List α) (hA : ∀ a ∈ A, p a = false)
    (hB : ∀ b ∈ B, p b = true) (hC : ∀ c ∈ C, p c = false) : (A ++ B ++ C).filter p = B := by
  rw [List.filter_append, List.filter_append, List.filter_eq_nil_iff.mpr (fun a ha => by simp [hA a ha]),
    List.filter_eq_self.mpr hB, List.filter_eq_nil_iff.mpr (fun c hc => by simp [hC c hc])]
  simp

/-- `E`, the first occurrences over `X ++ Y ++ Z`, is those of `X`, then the new ones of `Y`, then the new
    ones of `Z`; regrouping `X`, `Y` and `Z` by `E` makes each of the three parts reappear in its place -/
theorem firstOcc_grp3 (X Y Z : List Pos) :
    firstOcc (grp (firstOcc (X ++ Y ++ Z)) X ++ grp (firstOcc (X ++ Y ++ Z)) Y ++ grp (firstOcc (X ++ Y ++ Z)) Z)
      = firstOcc (X ++ Y ++ Z) := by
  have hnd := firstOcc_nodup (X ++ Y ++ Z)
  generalize hE : firstOcc (X ++ Y ++ Z) = E at hnd ⊢
  have hmem : ∀ y, y ∈ E ↔ (y ∈ X ∨ y ∈ Y ∨ y ∈ Z) := by
    intro y; rw [← hE, mem_firstOcc]; simp
  have hdec : E = firstOcc X ++ (firstOcc Y).filter (fun y => !decide (y ∈ X))
      ++ (firstOcc Z).filter (fun y => !decide (y ∈ X ++ Y)) := by
    rw [← hE, firstOcc_append (X ++ Y) Z, firstOcc_append X Y]
  have hfil : ∀ p : Pos → Bool, E.filter p = (firstOcc X ++ (firstOcc Y).filter (fun y => !decide (y ∈ X))
      ++ (firstOcc Z).filter (fun y => !decide (y ∈ X ++ Y))).filter p := fun p => congrArg (List.filter p) hdec
  have hX : ∀ a ∈ firstOcc X, a ∈ grp E X := fun a ha =>
    (mem_grp E X a).mpr ⟨(hmem a).mpr (Or.inl ((mem_firstOcc X a).mp ha)), (mem_firstOcc X a).mp ha⟩
  have hY : ∀ a ∈ (firstOcc Y).filter (fun y => !decide (y ∈ X)), a ∈ Y ∧ a ∉ X ∧ a ∈ grp E Y := fun a ha => by
    have h := List.mem_filter.mp ha
    have hy := (mem_firstOcc Y a).mp h.1
    exact ⟨hy, by simpa using h.2, (mem_grp E Y a).mpr ⟨(hmem a).mpr (Or.inr (Or.inl hy)), hy⟩⟩
  have hZ : ∀ a ∈ (firstOcc Z).filter (fun y => !decide (y ∈ X ++ Y)), a ∈ Z ∧ a ∉ X ∧ a ∉ Y := fun a ha => by
    have h := List.mem_filter.mp ha
    have : a ∉ X ∧ a ∉ Y := by simpa using h.2
    exact ⟨(mem_firstOcc Z a).mp h.1, this.1, this.2⟩
  have hng : ∀ (L : List Pos) (a : Pos), a ∉ L → a ∉ grp E L := fun L a h c => h ((mem_grp E L a).mp c).2
  rw [firstOcc_append, firstOcc_append, firstOcc_grp X E hnd, firstOcc_grp Y E hnd, firstOcc_grp Z E hnd]
  simp only [List.filter_filter]
  have p1 : E.filter (fun e => decide (e ∈ X)) = firstOcc X := by
    rw [hfil, List.append_assoc]
    exact filter_middle _ [] _ _ (by simp) (fun a ha => by simpa using (mem_firstOcc X a).mp ha)
      (fun a ha => by
        rcases List.mem_append.mp ha with ha | ha
        · simpa using (hY a ha).2.1
        · simpa using (hZ a ha).2.1)
  have p2 : E.filter (fun a => !decide (a ∈ grp E X) && decide (a ∈ Y))
      = (firstOcc Y).filter (fun y => !decide (y ∈ X)) := by
    rw [hfil]
    exact filter_middle _ _ _ _ (fun a ha => by simp [hX a ha])
      (fun a ha => by simp [(hY a ha).1, hng X a (hY a ha).2.1]) (fun a ha => by simp [(hZ a ha).2.2])
  have p3 : E.filter (fun a => !decide (a ∈ grp E X ++ grp E Y) && decide (a ∈ Z))
      = (firstOcc Z).filter (fun y => !decide (y ∈ X ++ Y)) := by
    rw [hfil]
    have := filter_middle (fun a => !decide (a ∈ grp E X ++ grp E Y) && decide (a ∈ Z))
      (firstOcc X ++ (firstOcc Y).filter (fun y => !decide (y ∈ X)))
      ((firstOcc Z).filter (fun y => !decide (y ∈ X ++ Y))) []
      (fun a ha => by
        rcases List.mem_append.mp ha with ha | ha
        · simp [hX a ha]
        · simp [(hY a ha).2.2])
      (fun a ha => by simp [(hZ a ha).1, hng X a (hZ a ha).2.1, hng Y a (hZ a ha).2.2]) (by simp)
    simpa using this
  rw [p1, p2, p3]
  exact hdec.symm

theorem extensionsOf_regroupBody (b : Body) : extensionsOf (regroupBody b) = extensionsOf b := by
  unfold extensionsOf extOrigins regroupBody
  simp only [List.filterMap_append, filterMap_origin_regroup]
  have := firstOcc_grp3 (b.directives.filterMap (·.origin)) (b.interfaces.filterMap (·.origin)) (b.members.filterMap (·.origin))
  simp only [extensionsOf, extOrigins, List.filterMap_append] at this ⊢
  exact this

end Apollo.SchemaSerialize
