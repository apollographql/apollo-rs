import ApolloModel.Proofs.ParserSel5
import ApolloModel.Proofs.ParserType9
/-
C07 / C05, selection sets: the standalone entry point `Parser::parse_selection_set`
(`selection::field_set`): braced `{ … }` or brace-less selections, then the end of input — with the recursion
budget (`Exact.FieldSetExact`), and with the budget forgotten (`IsFieldSet`).
-/
set_option linter.unusedSimpArgs false
namespace Apollo.Parse
open Apollo.Rowan hiding Str
open Apollo.Lex hiding Str

/-- a standalone entry point `grammar; expect_end_of_input`: if no error is left, the whole queue is what the
    grammar consumed followed by the EOF token -/
theorem standalone_sound_run (m : PI Unit) (gm : Good m) (P : List Ast.Tok → Prop)
    (s0 s : PState) (hm : ∀ s', TW s0 → EofEnd s0 → m.run s0 = .ok () s' → ¬ Doomed s' → Cons s0 s' P) (hi : Inv s0) (w : TW s0) (he : EofEnd s0)
    (h : (m >>= fun _ => expectEndOfInput).run s0 = .ok () s) (herr : s.errors = []) :
    ¬ Doomed s0 ∧ ∃ x ts e, sig (Toks s0) = ts ++ [e] ∧ e.kind = .eof ∧ TokIs ts x ∧ P x := by
  obtain ⟨_, s1, h1, h2⟩ := bind_dec m _ s0 s () h
  obtain ⟨hi1, hl1⟩ := PI.run_ok _ s0 hi _ s1 h1
  have a1 := gm s0 () s1 w h1
  have a2 := good_expectEndOfInput s1 () s a1.w h2
  have hex := expectEndOfInput_exhausted s1 s hi1 a1.w.limit h2 herr
  have hnd : ¬ Doomed s := by
    rintro (hd | hd)
    · exact hd herr
    · rw [hasErr_src_nil s.lx a2.w.limit hex.2] at hd; cases hd
  have hnd1 : ¬ Doomed s1 := fun d => hnd (a2.doom d)
  refine ⟨fun d => hnd1 (a1.doom d), ?_⟩
  obtain ⟨c, x, hc, hno, he1, hx, hp⟩ := hm s1 w he h1 hnd1
  unfold expectEndOfInput at h2
  obtain ⟨_, sK, hK, h4⟩ := bind_dec skipIgnored _ s1 s () h2
  obtain ⟨ign, eK, hall, hset⟩ := skipIgnored_spec s1 sK a1.w hK
  obtain ⟨k, sP, hP, h5⟩ := bind_dec peek _ sK s () h4
  obtain ⟨o, p, hk⟩ := peek_obs sK sP k eK.w hP
  have heK : EofEnd sK := eofEnd_eat he1 eK (noEof_ignored ign hall)
  have hndK : ¬ Doomed sK := by
    intro d
    have : Good (errUnlessEnd k) := by unfold errUnlessEnd; split; exact good_pure _; exact good_err
    exact hnd ((this sP () s p.w h5).doom (p.doom.mpr d))
  have hhead : ∃ e, Toks sK = [e] ∧ e.kind = .eof := by
    rcases heK with d | ⟨pre, e, hq, hek, hnoe⟩
    · exact absurd d hndK
    · cases o with
      | none =>
        exfalso
        have hh := p.head
        rw [hq] at hh
        cases pre <;> cases hh
      | some t' =>
        have hkind : t'.kind = .eof := by
          subst hk
          unfold errUnlessEnd at h5
          by_cases hke : t'.kind = .eof
          · exact hke
          · exfalso
            have : (some t'.kind == none || some t'.kind == some Kind.eof) = false := by simp [hke]
            simp only [Option.map_some, this, Bool.false_eq_true, if_false] at h5
            have hne : Toks sP ≠ [] := by rw [p.toks, hq]; simp
            exact hnd ((err_adv sP s p.w h5).2 hne)
        have hh := p.head
        rw [hq] at hh
        cases pre with
        | nil => exact ⟨e, hq, hek⟩
        | cons y pre =>
          exfalso
          simp only [List.cons_append, List.head?_cons, Option.some.injEq] at hh
          subst hh
          exact hnoe t' (by simp) hkind
  obtain ⟨e, hq, hek⟩ := hhead
  refine ⟨x, sig c, e, ?_, hek, hx, hp⟩
  rw [hc, eK.toks, hq, sig_append, sig_append, sig_ignored ign hall]
  have : sig [e] = [e] := sig_single e (by rw [hek]; rfl)
  rw [this]; simp

/-- what `field_set` accepts: a braced selection set or, brace-less, a non-empty list of selections -/
def IsFieldSet (x : List Ast.Tok) : Prop :=
  ∃ ss, ss ≠ Ast.Sels.nil ∧ (x = .p .lCurly :: Ast.tSels ss ++ [.p .rCurly] ∨ x = Ast.tSels ss)

namespace Exact

/-- the exact language of `field_set` under the budget `b`: a braced selection set (then the queue must START with the
    `{`), or a brace-less selection list (one level of the budget as well) -/
def FieldSetExact (b : Nat) (headCurly : Prop) (x : List Ast.Tok) : Prop :=
  (LSet b x ∧ headCurly) ∨ (1 ≤ b ∧ LSels (b - 1) x)

theorem fieldSet_sound (n : Nat) (s s' : PState) (w : TW s) (he : EofEnd s)
    (h : (fieldSet n).run s = .ok () s') (hnd : ¬ Doomed s') :
    Cons s s' (FieldSetExact (bud s) (∃ t rest, Toks s = t :: rest ∧ t.kind = .lCurly)) := by
  unfold fieldSet at h
  obtain ⟨sP, o, p, hor⟩ := ifPeek_dec .lCurly _ _ s s' () w h
  have heP := p.eofEnd he
  rcases hor with ⟨hk, h2⟩ | ⟨_, h2⟩
  · obtain ⟨t, rfl, hkt⟩ := peeked_kind hk
    have c := (sel_all_sound n).1 sP s' t _ p.w heP p.head_cons hkt h2 hnd
    exact (c.transport p.toks.symm rfl c.eofEnd).weaken (by
      intro x hx
      rw [bud_peek p] at hx
      exact Or.inl ⟨hx, t, _, by rw [← p.toks]; exact p.head_cons, hkt⟩)
  · obtain ⟨s0, s2, o0, hr, o2⟩ := withNode_dec _ _ sP s' () h2
    obtain ⟨_, s1, hs, hb⟩ := bind_dec skipIgnored _ s0 s2 () hr
    obtain ⟨ign, e, hall, _⟩ := skipIgnored_spec s0 s1 (o0.w p.w) hs
    have e01 : Eat sP s1 ign := by simpa using (Eat.ofObsEq o0 p.w).trans e
    have he1 : EofEnd s1 := eofEnd_eat heP e01 (noEof_ignored ign hall)
    have hnd2 : ¬ Doomed s2 := fun d => hnd (o2.doomed.mpr d)
    rcases withRec_dec _ _ s1 s2 () hb with ⟨_, sl, ol, hl⟩ | ⟨hle, sr1, sr2, c1, l1, er1, a1, r1, rl1, hr', c2, l2, er2, a2, r2, rl2⟩
    · exfalso
      have wl : TW sl := ol.w e01.w
      have al := good_limitErr sl () s2 wl hl
      have hnd1 : ¬ Doomed s1 := fun d => hnd2 (al.doom (ol.doomed.mpr d))
      exact hnd2 ((limitErr_adv sl s2 wl hl).2 (by rw [ol.toks]; exact eofEnd_nonempty s1 he1 hnd1))
    · have wr1 : TW sr1 := w_same _ _ e01.w er1 l1 a1
      have her1 : EofEnd sr1 := eofEnd_same _ _ he1 c1 l1 er1
      have hndr : ¬ Doomed sr2 := fun d => hnd2 ((doomed_same _ _ er2 l2).mpr d)
      have cs := (sel_all_sound n).2.1 sr1 sr2 wr1 her1 hr' hndr
      have cs' : Cons s1 s' _ := cs.transport (toks_same _ _ c1 l1).symm (by rw [o2.toks]; exact toks_same _ _ c2 l2)
        (eofEnd_same _ _ (eofEnd_same _ _ cs.eofEnd c2 l2 er2) o2.current o2.lx o2.errors)
      have cign : Cons s s1 (fun x => x = []) :=
        ⟨ign, [], by rw [← p.toks]; exact e01.toks, noEof_ignored ign hall, he1, by rw [sig_ignored ign hall]; exact TokIs.nil, rfl⟩
      have hb1 : bud s1 = bud s := by rw [bud_eat e01, bud_peek p]
      have hbr : bud sr1 + 1 = bud s1 := by unfold bud; rw [r1, rl1]; omega
      exact (cign.seq cs').weaken (by
        rintro z ⟨x, y, rfl, rfl, hy⟩
        refine Or.inr ⟨by omega, ?_⟩
        rw [show bud s - 1 = bud sr1 by omega]
        simpa using hy)

theorem parseFieldSet_sound_tree (rl : Nat) (src : Str) (root : Elem)
    (h : (parse .selectionSet none rl src).outcome = .tree root) (herr : (parse .selectionSet none rl src).errors = []) :
    LexClean src ∧ ∃ x ts e, sig (srcToks src) = ts ++ [e] ∧ e.kind = .eof ∧ TokIs ts x ∧
      FieldSetExact rl (∃ t rest, srcToks src = t :: rest ∧ t.kind = .lCurly) x := by
  unfold parse runEntry at h herr
  simp only [Entry.standalone, Entry.grammar] at h herr
  generalize hs0 : ({ initState src none rl with builder := (initState src none rl).builder.startNode "SELECTION_SET" } : PState) = s0 at h herr
  obtain ⟨hinv, w0, htoks, hdoom, he0⟩ := standalone_start src rl _ s0 hs0
  have hb0 : bud s0 = rl := by subst hs0; simp [bud, initState]
  cases hr : (fieldSet (fuelFor src) >>= fun _ => expectEndOfInput).run s0 with
  | abort w => simp [hr] at h
  | panic m => simp [hr] at h
  | ok a s =>
    simp only [hr] at h herr
    obtain ⟨hnd, x, ts, e, h1, h2, h3, h4⟩ := standalone_sound_run (fieldSet (fuelFor src)) (good_fieldSet _)
      (FieldSetExact (bud s0) (∃ t rest, Toks s0 = t :: rest ∧ t.kind = .lCurly)) s0 s
      (fun s' w he h hnd => fieldSet_sound (fuelFor src) s0 s' w he h hnd) hinv w0 he0 hr herr
    rw [hb0, htoks] at h4
    refine ⟨?_, x, ts, e, by rw [← htoks]; exact h1, h2, h3, h4⟩
    by_cases hc : LexClean src
    · exact hc
    · exact absurd (hdoom.mpr hc) hnd

theorem FieldSetExact.forget {b : Nat} {c : Prop} {x : List Ast.Tok} (h : FieldSetExact b c x) : IsFieldSet x := by
  rcases h with ⟨⟨ss, hne, e, _⟩, _⟩ | ⟨_, ss, hne, e, _⟩
  · exact ⟨ss, hne, Or.inl e⟩
  · exact ⟨ss, hne, Or.inr e⟩

end Exact

/-- **`Parser::parse_selection_set`, acceptance is sound** (no token limit): if the parse ends with a tree and
    without any error, the source lexes cleanly and its significant tokens are a braced selection set
    `{ Selection+ }` or a brace-less non-empty list of selections, followed by the end of input. -/
theorem parseFieldSet_sound_tree (rl : Nat) (src : Str) (root : Elem)
    (h : (parse .selectionSet none rl src).outcome = .tree root) (herr : (parse .selectionSet none rl src).errors = []) :
    LexClean src ∧ ∃ x ts e, sig (srcToks src) = ts ++ [e] ∧ e.kind = .eof ∧ TokIs ts x ∧ IsFieldSet x := by
  obtain ⟨hc, x, ts, e, h1, h2, h3, h4⟩ := Exact.parseFieldSet_sound_tree rl src root h herr
  exact ⟨hc, x, ts, e, h1, h2, h3, h4.forget⟩

end Apollo.Parse
