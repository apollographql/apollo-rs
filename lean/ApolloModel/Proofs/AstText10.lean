import ApolloModel.Proofs.AstText9
/-
Property C08, text level: the block-string states of the lexer.
`bstep` is `step` restricted to the six block states (`none` = the closing `"""` was read); scanning
`escapeTriple s` never closes the string (`brun_escapeTriple`): the reason why `blockForm p n s` is read as one
token (`tokOk_block` in AstText11.lean).
-/
namespace Apollo.Ast
open Apollo.Lex (State step runD advance Item Kind blockStep done)
open Apollo.Strs (escapeTriple escapeTriple_ind escapeTriple_triple escapeTriple_cons escapeTriple_nil)

def isB : State → Bool
  | .blockStringLiteral | .blockQuote1 | .blockQuote2 | .blockStringLiteralBackslash
  | .blockBackslashQuote1 | .blockBackslashQuote2 => true
  | _ => false

/-- `blockStep` as a state -/
def bs (c : Char) : State :=
  if c == '\\' then .blockStringLiteralBackslash else if c == '"' then .blockQuote1 else .blockStringLiteral

def bstep : State → Char → Option State
  | .blockStringLiteral, c => some (bs c)
  | .blockQuote1, c => if c == '"' then some .blockQuote2 else some (bs c)
  | .blockQuote2, c => if c == '"' then none else some (bs c)
  | .blockStringLiteralBackslash, c =>
    if c == '"' then some .blockBackslashQuote1
    else if c == '\\' then some .blockStringLiteralBackslash else some .blockStringLiteral
  | .blockBackslashQuote1, c => if c == '"' then some .blockBackslashQuote2 else some (bs c)
  | .blockBackslashQuote2, c => if c == '"' then some .blockStringLiteral else some (bs c)
  | _, _ => none

theorem blockStep_bs (k : Kind) (e : Bool) (c : Char) : blockStep k e c = .goto (bs c) k e := by
  unfold blockStep bs
  split
  · rfl
  · split <;> rfl

theorem step_bstep (st : State) (k : Kind) (e : Bool) (acc : Str) (c : Char) (h : isB st = true) :
    step st k e acc c = match bstep st c with
      | some st' => .goto st' k e
      | none => .incl (done k e) := by
  cases st <;> simp only [isB, Bool.false_eq_true] at h <;> simp only [step, bstep, blockStep_bs]
  all_goals (repeat' split) <;> simp_all

theorem isB_bs (c : Char) : isB (bs c) = true := by
  unfold bs; split
  · rfl
  · split <;> rfl

theorem bstep_isB (st st' : State) (c : Char) (h : bstep st c = some st') : isB st' = true := by
  cases st <;> simp only [bstep, reduceCtorEq] at h
  all_goals (repeat' split at h) <;> simp_all [isB, isB_bs]
  all_goals (subst h; first | rfl | exact isB_bs c)

def brun : State → Str → Option State
  | st, [] => some st
  | st, c :: r => (bstep st c).bind (fun st' => brun st' r)

theorem brun_append (a b : Str) : ∀ st, brun st (a ++ b) = (brun st a).bind (fun st' => brun st' b) := by
  induction a with
  | nil => intro st; simp [brun]
  | cons c r ih =>
    intro st
    simp only [List.cons_append, brun]
    cases bstep st c with
    | none => simp
    | some st1 => simp [ih]

theorem brun_isB : ∀ (b : Str) (st st' : State), isB st = true → brun st b = some st' → isB st' = true
  | [], st, st', h, hr => by simp only [brun, Option.some.injEq] at hr; subst hr; exact h
  | c :: r, st, st', h, hr => by
    simp only [brun] at hr
    cases hb : bstep st c with
    | none => simp [hb] at hr
    | some st1 => exact brun_isB r st1 st' (bstep_isB st st1 c hb) (by simpa [hb] using hr)

theorem runD_brun (k : Kind) (e : Bool) : ∀ (b : Str) (st st' : State) (acc tail : Str), isB st = true →
    brun st b = some st' → runD st k e acc (b ++ tail) = runD st' k e (acc ++ b) tail
  | [], st, st', acc, tail, _, hr => by simp only [brun, Option.some.injEq] at hr; subst hr; simp
  | c :: r, st, st', acc, tail, h, hr => by
    simp only [brun] at hr
    cases hb : bstep st c with
    | none => simp [hb] at hr
    | some st1 =>
      simp only [List.cons_append, runD, step_bstep st k e acc c h, hb]
      rw [runD_brun k e r st1 st' (acc ++ [c]) tail (bstep_isB st st1 c hb) (by simpa [hb] using hr)]
      simp

/-! ### `escapeTriple s` never closes a block string -/

abbrev S : State := .blockStringLiteral
abbrev Q1 : State := .blockQuote1
abbrev Q2 : State := .blockQuote2
abbrev BS : State := .blockStringLiteralBackslash
abbrev BQ1 : State := .blockBackslashQuote1
abbrev BQ2 : State := .blockBackslashQuote2

/-- after one bare quote the source does not go on with two more, after two not with one more -/
def BInv (st : State) (s : Str) : Prop :=
  isB st = true ∧ (st = Q1 → ∀ r, s ≠ '"' :: '"' :: r) ∧ (st = Q2 → ∀ r, s ≠ '"' :: r)

def BGoal (s : Str) : Prop :=
  ∀ st, BInv st s → ∃ st', brun st (escapeTriple s) = some st' ∧
    (s = [] → st' = st) ∧ (∀ c, s.getLast? = some c → c ≠ '"' → c ≠ '\\' → st' = S)

theorem bs_other (c : Char) (h1 : c ≠ '"') (h2 : c ≠ '\\') : bs c = S := by
  simp [bs, h1, h2]

theorem bstep_other (st : State) (c : Char) (h : isB st = true) (h1 : c ≠ '"') (h2 : c ≠ '\\') : bstep st c = some S := by
  cases st <;> simp only [isB, Bool.false_eq_true] at h <;> simp [bstep, h1, h2, bs_other c h1 h2]

theorem bstep_backslash (st : State) (h : isB st = true) : bstep st '\\' = some BS := by
  cases st <;> simp only [isB, Bool.false_eq_true] at h <;> simp [bstep, bs]

theorem brun_escapeTriple : ∀ s, BGoal s := by
  apply escapeTriple_ind
  · -- []
    intro st _
    exact ⟨st, by simp [escapeTriple_nil, brun], fun _ => rfl, by simp⟩
  · -- `"""` :: rest
    intro rest ih st ⟨hb, h1, h2⟩
    have hne1 : st ≠ Q1 := fun h => h1 h _ rfl
    have hne2 : st ≠ Q2 := fun h => h2 h _ rfl
    have hrun : brun st ('\\' :: '"' :: '"' :: '"' :: escapeTriple rest) = brun S (escapeTriple rest) := by
      cases st <;> simp only [isB, Bool.false_eq_true] at hb <;> simp_all [brun, bstep, bs]
    obtain ⟨st', hr, hnil, hlast⟩ := ih S ⟨rfl, by simp, by simp⟩
    refine ⟨st', by rw [escapeTriple_triple, hrun, hr], by simp, ?_⟩
    intro c hc hq hbs
    cases rest with
    | nil => simp at hc; exact absurd hc.symm hq
    | cons d r =>
      refine hlast c ?_ hq hbs
      simpa [List.getLast?_cons_cons] using hc
  · -- c :: rest, not a triple
    intro c rest hnt ih st ⟨hb, h1, h2⟩
    rw [escapeTriple_cons c rest hnt]
    -- the state after `c`
    have key : ∃ st1, bstep st c = some st1 ∧ BInv st1 rest ∧ (c ≠ '"' → c ≠ '\\' → st1 = S) := by
      by_cases hq : c = '"'
      · subst hq
        cases st <;> simp only [isB, Bool.false_eq_true] at hb
        · -- S
          refine ⟨Q1, by simp [bstep, bs], ⟨rfl, ?_, by simp⟩, by simp⟩
          intro _ r hr; exact hnt r (by rw [hr])
        · -- Q1
          refine ⟨Q2, by simp [bstep], ⟨rfl, by simp, ?_⟩, by simp⟩
          intro _ r hr; exact h1 rfl r (by rw [hr])
        · -- Q2
          exact absurd rfl (h2 rfl rest)
        · exact ⟨BQ1, by simp [bstep], ⟨rfl, by simp, by simp⟩, by simp⟩
        · exact ⟨BQ2, by simp [bstep], ⟨rfl, by simp, by simp⟩, by simp⟩
        · exact ⟨S, by simp [bstep], ⟨rfl, by simp, by simp⟩, by simp⟩
      · by_cases hbs : c = '\\'
        · subst hbs
          exact ⟨BS, bstep_backslash st hb, ⟨rfl, by simp, by simp⟩, by simp⟩
        · exact ⟨S, bstep_other st c hb hq hbs, ⟨rfl, by simp, by simp⟩, fun _ _ => rfl⟩
    obtain ⟨st1, hstep, hinv, hS⟩ := key
    obtain ⟨st', hr, hnil, hlast⟩ := ih st1 hinv
    refine ⟨st', by simp [brun, hstep, hr], by simp, ?_⟩
    intro d hd hq hbs
    cases rest with
    | nil =>
      simp only [List.getLast?_singleton, Option.some.injEq] at hd
      subst hd
      rw [hnil rfl]
      exact hS hq hbs
    | cons x r =>
      refine hlast d ?_ hq hbs
      simpa [List.getLast?_cons_cons] using hd

end Apollo.Ast
