import ApolloModel.Proofs.ParserSel9
import ApolloModel.Proofs.ParserType10
/-
C05 / C07 (completeness): spellings and the completeness calculus.

`Spells c x`: the parser tokens `c` spell the grammar tokens `x` — the significant tokens of `c` are exactly
`x`, and `c` does not start with an ignored token (ignored tokens may follow every token).
`Cmp Hk m L F Q`: whenever the queue is `c ++ q0 :: rest` with `c` spelling a sentence `x` of `L` (under the
remaining recursion budget), `q0` significant with a kind allowed by `F`, and the kind at the head of the queue
satisfying `Hk`, every completed run of `m`
consumes exactly `c`, records no error, and returns a result satisfying `Q`.
The judgement is antitone in `L` (`Cmp.mono`).  Rules for sequencing, `peek`, nodes, the token-consuming primitives,
the recursion guard, optional constructs, scalar values and the item loop `peek_while_kind`.
-/
set_option linter.unusedSimpArgs false
namespace Apollo.Parse
open Apollo.Rowan hiding Str
open Apollo.Lex hiding Str

def Spells (c : List Tok) (x : List Ast.Tok) : Prop := TokIs (sig c) x ∧ HeadSig c

def kindOfA : Ast.Tok → Kind
  | .name _ => .name
  | .int _ => .int
  | .float _ => .float
  | .str _ => .stringValue
  | .p .bang => .bang | .p .dollar => .dollar | .p .amp => .amp | .p .spread => .spread | .p .colon => .colon
  | .p .eq => .eq | .p .at => .at | .p .lParen => .lParen | .p .rParen => .rParen | .p .lBracket => .lBracket
  | .p .rBracket => .rBracket | .p .lCurly => .lCurly | .p .rCurly => .rCurly | .p .pipe => .pipe

theorem kind_of_astOfV {t : Tok} {a : Ast.Tok} (h : astOfV t = some a) : t.kind = kindOfA a := by
  unfold astOfV at h
  cases hk : t.kind <;> simp [hk] at h <;> subst h <;> rfl

theorem sigf_of_astOfV {t : Tok} {a : Ast.Tok} (h : astOfV t = some a) : Sigf t := by
  unfold astOfV at h
  unfold Sigf
  cases hk : t.kind <;> simp [hk] at h <;> rfl

theorem spells_nil : Spells [] [] := ⟨TokIs.nil, by intro hd tl h; cases h⟩

theorem spells_nil_inv {c : List Tok} (h : Spells c []) : c = [] := by
  obtain ⟨h1, h2⟩ := h
  have hs : sig c = [] := by
    unfold TokIs at h1
    simpa using h1
  cases c with
  | nil => rfl
  | cons a b =>
    have := h2 a b rfl
    have hi := ign_of_sig_nil _ hs a (by simp)
    unfold Sigf at this
    rw [this] at hi; cases hi

theorem spells_split {c : List Tok} {x1 x2 : List Ast.Tok} (h : Spells c (x1 ++ x2)) (hne : x2 ≠ []) :
    ∃ c1 c2, c = c1 ++ c2 ∧ Spells c1 x1 ∧ Spells c2 x2 := by
  obtain ⟨h1, h2⟩ := h
  unfold TokIs at h1
  rw [List.map_append] at h1
  obtain ⟨A, B, hAB, hA, hB⟩ := List.map_eq_append_iff.mp h1
  have hBne : B ≠ [] := by
    intro e; subst e
    simp at hB
    exact hne hB
  obtain ⟨c1, c2, e, s1, s2, hh2, hh1⟩ := sig_split c A B hAB hBne
  refine ⟨c1, c2, e, ⟨by unfold TokIs; rw [s1]; exact hA, ?_⟩, ⟨by unfold TokIs; rw [s2]; exact hB, hh2⟩⟩
  by_cases hAe : A = []
  · subst hAe
    -- nothing significant in `c1`, and `c` starts with a significant token: `c1` is empty
    have hi := ign_of_sig_nil c1 s1
    cases c1 with
    | nil => intro hd tl hq; cases hq
    | cons a b =>
      exfalso
      have := h2 a (b ++ c2) (by rw [e]; rfl)
      have hia := hi a (by simp)
      unfold Sigf at this
      rw [this] at hia; cases hia
  · exact hh1 hAe h2

theorem spells_single {c : List Tok} {a : Ast.Tok} (h : Spells c [a]) : ∃ t i, c = t :: i ∧ astOfV t = some a ∧ Ign i := by
  obtain ⟨h1, h2⟩ := h
  unfold TokIs at h1
  obtain ⟨t, l, hs, ht, hl⟩ := List.map_eq_cons_iff.mp h1
  have : l = [] := by simpa using hl
  subst this
  obtain ⟨i, rfl, hi⟩ := sig_single_inv c t h2 hs
  exact ⟨t, i, rfl, ht, hi⟩

theorem spells_cons {c : List Tok} {a : Ast.Tok} {x : List Ast.Tok} (h : Spells c (a :: x)) :
    ∃ t i c', c = t :: i ++ c' ∧ astOfV t = some a ∧ Ign i ∧ Spells c' x := by
  by_cases hx : x = []
  · subst hx
    obtain ⟨t, i, e, ht, hi⟩ := spells_single h
    exact ⟨t, i, [], by simp [e], ht, hi, spells_nil⟩
  · obtain ⟨c1, c2, e, s1, s2⟩ := spells_split (x1 := [a]) (x2 := x) h hx
    obtain ⟨t, i, e1, ht, hi⟩ := spells_single s1
    exact ⟨t, i, c2, by rw [e, e1], ht, hi, s2⟩

theorem spells_head {c : List Tok} {a : Ast.Tok} {x : List Ast.Tok} (h : Spells c (a :: x)) :
    ∃ t tl, c = t :: tl ∧ astOfV t = some a := by
  obtain ⟨t, i, c', e, ht, _, _⟩ := spells_cons h
  exact ⟨t, i ++ c', by simp [e], ht⟩

/-- the kind of the first token of `c ++ [q0]` -/
def headK (c : List Tok) (q0 : Tok) : Kind :=
  match c with
  | [] => q0.kind
  | t :: _ => t.kind

theorem headK_toks (c : List Tok) (q0 : Tok) (rest : List Tok) :
    ∃ t tl, c ++ q0 :: rest = t :: tl ∧ t.kind = headK c q0 := by
  cases c with
  | nil => exact ⟨q0, rest, rfl, rfl⟩
  | cons a b => exact ⟨a, b ++ q0 :: rest, rfl, rfl⟩

theorem kind_of_head {L : Nat → List Ast.Tok → Prop} {k0 : Kind} (hhead : ∀ b x, L b x → ∃ a x', x = a :: x' ∧ kindOfA a = k0)
    {b : Nat} {a : Ast.Tok} {x : List Ast.Tok} (h : L b (a :: x)) : kindOfA a = k0 := by
  obtain ⟨a', x', e, hk⟩ := hhead _ _ h
  injection e with e _
  rw [e]; exact hk

theorem not_nil_of_head {L : Nat → List Ast.Tok → Prop} {k0 : Kind} (hhead : ∀ b x, L b x → ∃ a x', x = a :: x' ∧ kindOfA a = k0)
    (b : Nat) : ¬ L b [] := by
  intro h
  obtain ⟨a', x', e, _⟩ := hhead _ _ h
  cases e

def Cmp {α : Type} (Hk : Kind → Prop) (m : PI α) (L : Nat → List Ast.Tok → Prop) (F : Kind → Prop) (Q : α → Prop) : Prop :=
  ∀ s s' a c x q0 rest, TW s → m.run s = .ok a s' → L (s.recLimit - s.recCur) x → Spells c x →
    Toks s = c ++ q0 :: rest → Sigf q0 → F q0.kind → Hk (headK c q0) →
    Eat s s' c ∧ Toks s' = q0 :: rest ∧ Q a

theorem Cmp.mono {α : Type} {Hk Hk' : Kind → Prop} {m : PI α} {L L' : Nat → List Ast.Tok → Prop} {F F' : Kind → Prop} {Q Q' : α → Prop}
    (h : Cmp Hk m L F Q) (hH : ∀ k, Hk' k → Hk k) (hL : ∀ b x, L' b x → L b x) (hF : ∀ k, F' k → F k) (hQ : ∀ a, Q a → Q' a) :
    Cmp Hk' m L' F' Q' := by
  intro s s' a c x q0 rest w hr hl hs ht hq hf hk
  obtain ⟨e, t, q⟩ := h s s' a c x q0 rest w hr (hL _ _ hl) hs ht hq (hF _ hf) (hH _ hk)
  exact ⟨e, t, hQ a q⟩

theorem cmp_pure {α : Type} (Hk F : Kind → Prop) (a : α) : Cmp Hk (pure a : PI α) (fun _ x => x = []) F (fun a' => a' = a) := by
  intro s s' a' c x q0 rest w hr hl hs ht _ _ _
  rw [run_pure] at hr
  injection hr with h1 h2
  subst h1 h2 hl
  have := spells_nil_inv hs
  subst this
  exact ⟨Eat.refl s w, by simpa using ht, rfl⟩

theorem headK_nil {c : List Tok} (q0 : Tok) (h : Spells c []) : headK c q0 = q0.kind := by
  rw [spells_nil_inv h]; rfl

theorem headK_cons {c : List Tok} {a : Ast.Tok} {x : List Ast.Tok} (q0 : Tok) (h : Spells c (a :: x)) : headK c q0 = kindOfA a := by
  obtain ⟨t, tl, rfl, hta⟩ := spells_head h
  exact kind_of_astOfV hta

/-- sequencing: the follow set of the first part must contain the first tokens of the second part and, where the
    second part may be empty, the follow set of the whole -/
theorem cmp_seq {α β : Type} {Hk : Kind → Prop} {m : PI α} {f : α → PI β} {L1 L2 : Nat → List Ast.Tok → Prop}
    {F1 F2 F : Kind → Prop} {Q1 : α → Prop} {Q : β → Prop}
    (h1 : Cmp Hk m L1 F1 Q1) (h2 : ∀ a, Q1 a → Cmp (fun _ => True) (f a) L2 F2 Q)
    (hhead : ∀ b a x2, L2 b (a :: x2) → F1 (kindOfA a)) (hF1 : ∀ b k, L2 b [] → F k → F1 k) (hF2 : ∀ k, F k → F2 k) :
    Cmp Hk (m >>= f) (fun b x => ∃ x1 x2, x = x1 ++ x2 ∧ L1 b x1 ∧ L2 b x2) F Q := by
  intro s s'' b c x q0 rest w hr hl hs ht hq hf hk
  obtain ⟨x1, x2, rfl, hl1, hl2⟩ := hl
  obtain ⟨a, s', hr1, hr2⟩ := bind_dec m f s s'' b hr
  cases x2 with
  | nil =>
    rw [List.append_nil] at hs
    obtain ⟨e1, t1, q1⟩ := h1 s s' a c x1 q0 rest w hr1 hl1 hs ht hq (hF1 _ _ hl2 hf) hk
    have hb : s'.recLimit - s'.recCur = s.recLimit - s.recCur := by rw [e1.recLimit, e1.recCur]
    obtain ⟨e2, t2, q2⟩ := h2 a q1 s' s'' b [] [] q0 rest e1.w hr2 (by rw [hb]; exact hl2) spells_nil (by simpa using t1) hq (hF2 _ hf) trivial
    exact ⟨by simpa using e1.trans e2, t2, q2⟩
  | cons a2 x2 =>
    obtain ⟨c1, c2, rfl, s1, s2⟩ := spells_split hs (by simp)
    obtain ⟨t, tl, hc2, hta⟩ := spells_head s2
    have hkc : headK (c1 ++ c2) q0 = headK c1 t := by
      cases c1 with
      | nil => simp [headK, hc2]
      | cons u v => rfl
    obtain ⟨e1, t1, q1⟩ := h1 s s' a c1 x1 t (tl ++ q0 :: rest) w hr1 hl1 s1 (by rw [ht, hc2]; simp) (sigf_of_astOfV hta)
      (by rw [kind_of_astOfV hta]; exact hhead _ _ _ hl2) (by rw [← hkc]; exact hk)
    have hb : s'.recLimit - s'.recCur = s.recLimit - s.recCur := by rw [e1.recLimit, e1.recCur]
    obtain ⟨e2, t2, q2⟩ := h2 a q1 s' s'' b c2 (a2 :: x2) q0 rest e1.w hr2 (by rw [hb]; exact hl2) s2
      (by rw [t1, hc2]; simp) hq (hF2 _ hf) trivial
    exact ⟨e1.trans e2, t2, q2⟩

theorem cmp_bind {α β : Type} {Hk : Kind → Prop} {m : PI α} {f : α → PI β} {L1 L2 : Nat → List Ast.Tok → Prop}
    {F1 F2 F : Kind → Prop} {Q1 : α → Prop} {Q : β → Prop}
    (h1 : Cmp Hk m L1 F1 Q1) (h2 : ∀ a, Q1 a → Cmp (fun _ => True) (f a) L2 F2 Q)
    (hhead : ∀ b a x2, L2 b (a :: x2) → F1 (kindOfA a)) (hF1 : ∀ k, F k → F1 k) (hF2 : ∀ k, F k → F2 k) :
    Cmp Hk (m >>= f) (fun b x => ∃ x1 x2, x = x1 ++ x2 ∧ L1 b x1 ∧ L2 b x2) F Q :=
  cmp_seq h1 h2 hhead (fun _ k _ => hF1 k) hF2

/-- `peek` tells the continuation the kind of the first token -/
theorem cmp_peek {α : Type} {Hk : Kind → Prop} {f : Option Kind → PI α} {L : Nat → List Ast.Tok → Prop} {F : Kind → Prop} {Q : α → Prop}
    (h : ∀ k, Hk k → Cmp (fun k' => k' = k) (f (some k)) L F Q) : Cmp Hk (peek >>= f) L F Q := by
  intro s s' a c x q0 rest w hr hl hs ht hq hf hk
  obtain ⟨ko, sP, hp, h2⟩ := bind_dec peek f s s' a hr
  obtain ⟨t, tl, htt, hkt⟩ := headK_toks c q0 rest
  obtain ⟨hko, eP, htP, _⟩ := peek_head s sP ko t tl w (by rw [ht]; exact htt) hp
  subst hko
  have hb : sP.recLimit - sP.recCur = s.recLimit - s.recCur := by rw [eP.recLimit, eP.recCur]
  obtain ⟨e, t2, q⟩ := h t.kind (by rw [hkt]; exact hk) sP s' a c x q0 rest eP.w h2 (by rw [hb]; exact hl) hs
    (by rw [htP, ← htt]) hq hf hkt.symm
  exact ⟨by simpa using eP.trans e, t2, q⟩

theorem cmp_ite {α : Type} {Hk : Kind → Prop} (cnd : Bool) {a b : PI α} {L : Nat → List Ast.Tok → Prop} {F : Kind → Prop} {Q : α → Prop}
    (ha : cnd = true → Cmp Hk a L F Q) (hb : cnd = false → Cmp Hk b L F Q) : Cmp Hk (if cnd then a else b) L F Q := by
  cases cnd
  · simpa using hb rfl
  · simpa using ha rfl

theorem cmp_absurd {α : Type} {Hk : Kind → Prop} {m : PI α} {L : Nat → List Ast.Tok → Prop} {F : Kind → Prop} {Q : α → Prop}
    (h : ∀ b x c q0, L b x → Spells c x → F q0.kind → Hk (headK c q0) → False) : Cmp Hk m L F Q := by
  intro s s' a c x q0 rest _ _ hl hs _ _ hf hk
  exact absurd (h _ x c q0 hl hs hf hk) id

/-- a branch on the kind of the next token (`match p.peek()`): a sentence of `LT` shows by its first token that the
    test holds, one of `LF` that it fails; where `LF` has the empty sentence the follow token must fail the test -/
theorem cmp_peekIf {α : Type} {Hk : Kind → Prop} (cond : Option Kind → Bool) {a b : PI α} {LT LF : Nat → List Ast.Tok → Prop}
    {F : Kind → Prop} {Q : α → Prop}
    (hT : Cmp (fun _ => True) a LT F Q) (hF : Cmp (fun _ => True) b LF F Q)
    (hThead : ∀ b x, LT b x → ∃ a x', x = a :: x' ∧ cond (some (kindOfA a)) = true)
    (hFhead : ∀ b a x, LF b (a :: x) → cond (some (kindOfA a)) = false)
    (hFnil : ∀ b k, LF b [] → F k → cond (some k) = false) :
    Cmp Hk (peek >>= fun k => if cond k then a else b) (fun b x => LT b x ∨ LF b x) F Q := by
  apply cmp_peek
  intro k _
  -- the test on the peeked kind agrees with the side of the language the sentence is on
  have key : ∀ b x c q0, Spells c x → headK c q0 = k → F q0.kind → (LT b x → cond (some k) = true) ∧ (LF b x → cond (some k) = false) := by
    intro b x c q0 hs hk hf
    refine ⟨fun hl => ?_, fun hl => ?_⟩
    · obtain ⟨a1, x', rfl, hc⟩ := hThead b x hl
      rw [← hk, headK_cons q0 hs]; exact hc
    · cases x with
      | nil => rw [← hk, headK_nil q0 hs]; exact hFnil b _ hl hf
      | cons a1 x' => rw [← hk, headK_cons q0 hs]; exact hFhead b a1 x' hl
  intro s s' r c x q0 rest w hr hl hs ht hq hf hk
  obtain ⟨kT, kF⟩ := key _ x c q0 hs hk hf
  rcases hl with hl | hl
  · rw [kT hl, if_pos rfl] at hr
    exact hT s s' r c x q0 rest w hr hl hs ht hq hf trivial
  · rw [kF hl, if_neg Bool.false_ne_true] at hr
    exact hF s s' r c x q0 rest w hr hl hs ht hq hf trivial

/-- the branch that reports an error is never taken on a sentence -/
theorem cmp_peekGuard {α : Type} {Hk : Kind → Prop} (cond : Option Kind → Bool) {a b : PI α} {L : Nat → List Ast.Tok → Prop}
    {F : Kind → Prop} {Q : α → Prop} (hT : Cmp (fun _ => True) a L F Q)
    (hhead : ∀ b x, L b x → ∃ a x', x = a :: x' ∧ cond (some (kindOfA a)) = true) :
    Cmp Hk (peek >>= fun k => if cond k then a else b) L F Q :=
  (cmp_peekIf (LF := fun _ _ => False) cond hT (cmp_absurd fun _ _ _ _ h _ _ _ => h) hhead (fun _ _ _ h => h.elim) (fun _ _ h _ => h.elim)).mono
    (fun _ h => h) (fun _ _ h => Or.inl h) (fun _ h => h) (fun _ h => h)

/-- a node: `start_node` skips nothing because the queue starts with a significant token -/
theorem cmp_withNode {α : Type} {Hk : Kind → Prop} (K : SK) {body : PI α} {L : Nat → List Ast.Tok → Prop} {F : Kind → Prop} {Q : α → Prop}
    (h : Cmp Hk body L F Q) : Cmp Hk (withNode K body) L F Q := by
  intro s s' a c x q0 rest w hr hl hs ht hq hf hk
  obtain ⟨t, tl, htt, hkt⟩ := headK_toks c q0 rest
  have hst : Sigf t := by
    cases c with
    | nil => simp at htt; rw [← htt.1]; exact hq
    | cons u v => simp at htt; rw [← htt.1]; exact hs.2 u v rfl
  obtain ⟨s1, s2, e1, h1, o2⟩ := withNode_peeked K body s s' a t tl w (by rw [ht]; exact htt) hst hr
  have ht1 : Toks s1 = c ++ q0 :: rest := by have := e1.toks; rw [ht] at this; simpa using this.symm
  have hb : s1.recLimit - s1.recCur = s.recLimit - s.recCur := by rw [e1.recLimit, e1.recCur]
  obtain ⟨e, t2, q⟩ := h s1 s2 a c x q0 rest e1.w h1 (by rw [hb]; exact hl) hs ht1 hq hf hk
  exact ⟨by simpa using (e1.trans e).trans (Eat.ofObsEq o2 e.w), by rw [o2.toks]; exact t2, q⟩

/-- a consumed token followed by skipped ignored tokens, when the state is settled afterwards: exactly the
    ignored tokens of the spelling were skipped -/
theorem settle_unique (s s' : PState) (t q0 : Tok) (i ign rest : List Tok) (e : Eat s s' (t :: ign))
    (hign : ∀ x ∈ ign, isIgnoredKind x.kind = true) (hset : Settled s') (ht : Toks s = t :: i ++ q0 :: rest) (hi : Ign i) (hq : Sigf q0) :
    ign = i ∧ Toks s' = q0 :: rest := by
  have hT : Toks s' = [] ∨ ∃ hd tl, Toks s' = hd :: tl ∧ Sigf hd := by
    cases hq' : Toks s' with
    | nil => exact Or.inl rfl
    | cons hd tl =>
      refine Or.inr ⟨hd, tl, rfl, ?_⟩
      have hc := hset.1
      rw [hq'] at hc
      exact hset.2 hd hc
  have := e.toks
  rw [ht] at this
  simp only [List.cons_append, List.cons.injEq, true_and] at this
  exact ign_unique i ign q0 rest (Toks s') this hi hign hq hT

theorem cmp_bump (sk : SK) : Cmp (fun _ => True) (bump sk) (fun _ x => ∃ a, x = [a]) (fun _ => True) (fun _ => True) := by
  intro s s' u c x q0 rest w hr hl hs ht hq _ _
  obtain ⟨a, rfl⟩ := hl
  obtain ⟨t, i, rfl, hta, hi⟩ := spells_single hs
  have ht' : Toks s = t :: (i ++ q0 :: rest) := by rw [ht]; simp
  obtain ⟨ign, e, hall, hset⟩ := bump_spec sk s s' w t _ ht' hr
  obtain ⟨rfl, ht2⟩ := settle_unique s s' t q0 i ign rest e hall hset (by rw [ht]) hi hq
  exact ⟨e, ht2, trivial⟩

theorem cmp_name : Cmp (fun _ => True) name (fun _ x => ∃ n, x = [.name n]) (fun _ => True) (fun _ => True) := by
  intro s s' u c x q0 rest w hr hl hs ht hq _ _
  obtain ⟨n, rfl⟩ := hl
  obtain ⟨t, i, rfl, hta, hi⟩ := spells_single hs
  have hk : t.kind = .name := kind_of_astOfV hta
  have ht' : Toks s = t :: (i ++ q0 :: rest) := by rw [ht]; simp
  obtain ⟨ign, e, hall, hset⟩ := name_settled s s' t _ w ht' hk hr
  obtain ⟨rfl, ht2⟩ := settle_unique s s' t q0 i ign rest e hall hset (by rw [ht]) hi hq
  exact ⟨e, ht2, trivial⟩

theorem cmp_expect (k : Kind) (sk : SK) :
    Cmp (fun _ => True) (expect k sk) (fun _ x => ∃ a, x = [a] ∧ kindOfA a = k) (fun _ => True) (fun _ => True) := by
  intro s s' u c x q0 rest w hr hl hs ht hq _ _
  obtain ⟨a, rfl, hka⟩ := hl
  obtain ⟨t, i, rfl, hta, hi⟩ := spells_single hs
  have hk : t.kind = k := by rw [kind_of_astOfV hta, hka]
  obtain ⟨e, ht2, _⟩ := expect_match k sk s s' t q0 i rest w (by rw [ht]) hk hi hq hr
  exact ⟨e, ht2, trivial⟩

/-- the recursion guard: one unit of budget is spent on the body -/
theorem cmp_withRec {α : Type} {Hk : Kind → Prop} (onLimit body : PI α) {L L' : Nat → List Ast.Tok → Prop} {F : Kind → Prop} {Q : α → Prop}
    (h : Cmp Hk body L' F Q) (hL : ∀ b x, L b x → 1 ≤ b ∧ L' (b - 1) x) : Cmp Hk (withRec onLimit body) L F Q := by
  intro s s' a c x q0 rest w hr hl hs ht hq hf hk
  obtain ⟨hb1, hl'⟩ := hL _ _ hl
  rcases withRec_dec onLimit body s s' a hr with ⟨hlim, _⟩ | ⟨_, sr1, sr2, c1, l1, er1, a1, r1, rl1, hrb, c2, l2, er2, a2, r2, rl2⟩
  · omega
  · have wr1 : TW sr1 := w_same _ _ w er1 l1 a1
    have hbud : sr1.recLimit - sr1.recCur = s.recLimit - s.recCur - 1 := by rw [rl1, r1]; omega
    obtain ⟨e, t2, q⟩ := h sr1 sr2 a c x q0 rest wr1 hrb (by rw [hbud]; exact hl') hs (by rw [toks_same _ _ c1 l1]; exact ht) hq hf hk
    refine ⟨⟨?_, ?_, w_same _ _ e.w er2 l2 a2, ?_, ?_, ?_⟩, by rw [toks_same _ _ c2 l2]; exact t2, q⟩
    · rw [toks_same _ _ c2 l2, ← e.toks, toks_same _ _ c1 l1]
    · rw [doomed_same _ _ er2 l2, e.doom, doomed_same _ _ er1 l1]
    · rw [a2, e.accept, a1]
    · rw [r2, e.recCur, r1]; omega
    · rw [rl2, e.recLimit, rl1]

/-- `if p.peek() == Some(k0) { m; restT } else { restF }`; `hTnil`, `hFnil`: what is asked of the follow token where a
    continuation may be empty -/
theorem cmp_ifKindThen {α : Type} {Hk : Kind → Prop} (k0 : Kind) (m : PI Unit) (restT restF : PI α)
    {Lm LT LF : Nat → List Ast.Tok → Prop} {Fm F : Kind → Prop} {Q : α → Prop}
    (hm : Cmp (fun _ => True) m Lm Fm (fun _ => True)) (hT : Cmp (fun _ => True) restT LT F Q)
    (hF : Cmp (fun _ => True) restF LF F Q)
    (hmhead : ∀ b x, Lm b x → ∃ a x', x = a :: x' ∧ kindOfA a = k0)
    (hThead : ∀ b a x, LT b (a :: x) → Fm (kindOfA a)) (hTnil : ∀ b k, LT b [] → F k → Fm k)
    (hFhead : ∀ b a x, LF b (a :: x) → kindOfA a ≠ k0) (hFnil : ∀ b k, LF b [] → F k → k ≠ k0) :
    Cmp Hk (peek >>= fun k => if k == some k0 then (m >>= fun _ => restT) else restF)
      (fun b x => (∃ x1 x2, x = x1 ++ x2 ∧ Lm b x1 ∧ LT b x2) ∨ LF b x) F Q := by
  refine cmp_peekIf (· == some k0) (cmp_seq (Hk := fun _ => True) hm (fun _ _ => hT) hThead hTnil (fun _ h => h)) hF ?_ ?_ ?_
  · rintro b x ⟨x1, x2, rfl, h1, _⟩
    obtain ⟨a, x', rfl, hk⟩ := hmhead b x1 h1
    exact ⟨a, x' ++ x2, rfl, by simp [hk]⟩
  · intro b a x h
    simpa using hFhead b a x h
  · intro b k h hf
    simpa using hFnil b k h hf

/-- `if p.peek() == Some(k0) { m }; rest` -/
theorem cmp_optKindG {α : Type} {Hk : Kind → Prop} (k0 : Kind) (m : PI Unit) (rest : PI α)
    {Lm Lr : Nat → List Ast.Tok → Prop} {Fm Fr F : Kind → Prop} {Q : α → Prop}
    (hm : Cmp (fun _ => True) m Lm Fm (fun _ => True)) (hr : Cmp (fun _ => True) rest Lr Fr Q)
    (hmhead : ∀ b x, Lm b x → ∃ a x', x = a :: x' ∧ kindOfA a = k0)
    (hrhead : ∀ b a x, Lr b (a :: x) → kindOfA a ≠ k0 ∧ Fm (kindOfA a))
    (hnil : ∀ b k, Lr b [] → F k → k ≠ k0 ∧ Fm k) (hF : ∀ k, F k → Fr k) :
    Cmp Hk (optKind k0 m rest) (fun b x => ∃ x1 x2, x = x1 ++ x2 ∧ (Lm b x1 ∨ x1 = []) ∧ Lr b x2) F Q := by
  have hr' := hr.mono (fun _ h => h) (fun _ _ h => h) hF (fun _ h => h)
  refine (cmp_ifKindThen k0 m rest rest hm hr' hr' hmhead (fun b a x h => (hrhead b a x h).2) (fun b k h hf => (hnil b k h hf).2)
    (fun b a x h => (hrhead b a x h).1) (fun b k h hf => (hnil b k h hf).1)).mono (fun _ h => h) ?_ (fun _ h => h) (fun _ h => h)
  rintro b x ⟨x1, x2, rfl, h1 | rfl, h2⟩
  · exact Or.inl ⟨x1, x2, rfl, h1, h2⟩
  · exact Or.inr h2

theorem cmp_optKind {α : Type} {Hk : Kind → Prop} (k0 : Kind) (m : PI Unit) (rest : PI α)
    {Lm Lr : Nat → List Ast.Tok → Prop} {Fm Fr F : Kind → Prop} {Q : α → Prop}
    (hm : Cmp (fun _ => True) m Lm Fm (fun _ => True)) (hr : Cmp (fun _ => True) rest Lr Fr Q)
    (hmhead : ∀ b x, Lm b x → ∃ a x', x = a :: x' ∧ kindOfA a = k0)
    (hrhead : ∀ b a x, Lr b (a :: x) → kindOfA a ≠ k0 ∧ Fm (kindOfA a))
    (hF : ∀ k, F k → k ≠ k0 ∧ Fm k ∧ Fr k) :
    Cmp Hk (optKind k0 m rest) (fun b x => ∃ x1 x2, x = x1 ++ x2 ∧ (Lm b x1 ∨ x1 = []) ∧ Lr b x2) F Q :=
  cmp_optKindG k0 m rest hm hr hmhead hrhead (fun _ k _ hf => ⟨(hF k hf).1, (hF k hf).2.1⟩) (fun k hf => (hF k hf).2.2)

/-- `if p.peek() == Some(k0) { p.bump(); rest } else { p.err(…) }`: a required token `a0` of kind `k0` -/
theorem cmp_tokThen {α : Type} {Hk : Kind → Prop} (a0 : Ast.Tok) (sk : SK) {rest e : PI α} {Lr : Nat → List Ast.Tok → Prop}
    {F : Kind → Prop} {Q : α → Prop} (hr : Cmp (fun _ => True) rest Lr F Q) :
    Cmp Hk (peek >>= fun k => if k == some (kindOfA a0) then (bump sk >>= fun _ => rest) else e)
      (fun b x => ∃ x2, x = a0 :: x2 ∧ Lr b x2) F Q := by
  refine cmp_peekGuard (· == some (kindOfA a0)) ((cmp_bind (Hk := fun _ => True) (F := F) (F1 := fun _ => True) (cmp_bump sk)
    (fun _ _ => hr) (fun _ _ _ _ => trivial) (fun _ _ => trivial) (fun _ h => h)).mono (fun _ h => h) ?_ (fun _ h => h) (fun _ h => h)) ?_
  · rintro b x ⟨x2, rfl, h⟩
    exact ⟨[a0], x2, rfl, ⟨_, rfl⟩, h⟩
  · rintro b x ⟨x2, rfl, _⟩
    exact ⟨_, _, rfl, by simp⟩

theorem cmp_nodeBump (K sk : SK) : Cmp (fun _ => True) (withNode K (bump sk)) (fun _ x => ∃ a, x = [a]) (fun _ => True) (fun _ => True) :=
  cmp_withNode K (cmp_bump sk)

theorem cmp_variableNode :
    Cmp (fun _ => True) variableNode (fun _ x => ∃ n, x = [.p .dollar, .name n]) (fun _ => True) (fun _ => True) := by
  unfold variableNode
  refine cmp_withNode _ ?_
  have := cmp_bind (Hk := fun _ => True) (F := fun _ => True) (cmp_bump "DOLLAR") (fun _ _ => cmp_name)
    (fun _ _ _ _ => trivial) (fun _ _ => trivial) (fun _ _ => trivial)
  refine this.mono (fun _ h => h) ?_ (fun _ h => h) (fun _ h => h)
  rintro b x ⟨n, rfl⟩
  exact ⟨[.p .dollar], [.name n], rfl, ⟨_, rfl⟩, ⟨n, rfl⟩⟩

theorem peekToken_head (s s' : PState) (o : Option Tok) (t : Tok) (tl : List Tok) (w : TW s) (ht : Toks s = t :: tl)
    (h : peekToken.run s = .ok o s') : o = some t ∧ Eat s s' [] ∧ Toks s' = t :: tl := by
  have p := peekToken_obs s s' o w h
  exact ⟨by rw [p.head, ht]; rfl, p.eat, by rw [p.toks, ht]⟩

/-- `enum_value`: a Name other than `true`, `false`, `null` -/
theorem cmp_enumValue :
    Cmp (fun _ => True) enumValue (fun _ x => ∃ n, x = [.name n] ∧ isValueKeyword n = false) (fun _ => True) (fun _ => True) := by
  unfold enumValue
  refine cmp_withNode _ ?_
  intro s s' u c x q0 rest w hr hl hs ht hq hf hk
  obtain ⟨n, rfl, hnk⟩ := hl
  obtain ⟨t, i, rfl, hta, hi⟩ := spells_single hs
  have hkt : t.kind = .name := kind_of_astOfV hta
  have hd : t.data = n := by
    unfold astOfV at hta; rw [hkt] at hta; simpa using hta
  obtain ⟨o, sP, hp, h2⟩ := bind_dec peekToken _ s s' u hr
  obtain ⟨rfl, eP, htP⟩ := peekToken_head s sP o t (i ++ q0 :: rest) w (by rw [ht]; simp) hp
  have hkw : (kw "true" t.data || kw "false" t.data || kw "null" t.data) = false := by rw [hd]; exact hnk
  simp only [hkt, beq_self_eq_true, if_true, hkw, Bool.false_eq_true, if_false] at h2
  have hb : sP.recLimit - sP.recCur = s.recLimit - s.recCur := by rw [eP.recLimit, eP.recCur]
  obtain ⟨e, t2, _⟩ := cmp_name sP s' u (t :: i) [.name n] q0 rest eP.w h2 ⟨n, rfl⟩ hs (by rw [htP]; simp) hq trivial trivial
  exact ⟨by simpa using eP.trans e, t2, trivial⟩

/-- a Name token in value position: `true`, `false`, `null` or an enum value — every Name is accepted -/
theorem cmp_nameValue :
    Cmp (fun _ => True) (peekToken >>= nameValueBranch) (fun _ x => ∃ n, x = [.name n]) (fun _ => True) (fun _ => True) := by
  intro s s' u c x q0 rest w hr hl hs ht hq hf hk
  obtain ⟨n, rfl⟩ := hl
  obtain ⟨t, i, rfl, hta, hi⟩ := spells_single hs
  have hkt : t.kind = .name := kind_of_astOfV hta
  have hd : t.data = n := by
    unfold astOfV at hta; rw [hkt] at hta; simpa using hta
  obtain ⟨o, sP, hp, h2⟩ := bind_dec peekToken _ s s' u hr
  obtain ⟨rfl, eP, htP⟩ := peekToken_head s sP o t (i ++ q0 :: rest) w (by rw [ht]; simp) hp
  have hb : sP.recLimit - sP.recCur = s.recLimit - s.recCur := by rw [eP.recLimit, eP.recCur]
  have hTP : Toks sP = (t :: i) ++ q0 :: rest := by rw [htP]; simp
  simp only [nameValueBranch] at h2
  have fin : ∀ (m : PI Unit), m.run sP = .ok u s' →
      Cmp (fun _ => True) m (fun _ x => x = [.name n]) (fun _ => True) (fun _ => True) →
      Eat s s' (t :: i) ∧ Toks s' = q0 :: rest ∧ True := by
    intro m hm hc
    obtain ⟨e, t2, _⟩ := hc sP s' u (t :: i) [.name n] q0 rest eP.w hm rfl hs hTP hq trivial trivial
    exact ⟨by simpa using eP.trans e, t2, trivial⟩
  have nb : ∀ K sk, Cmp (fun _ => True) (withNode K (bump sk)) (fun _ x => x = [.name n]) (fun _ => True) (fun _ => True) :=
    fun K sk => (cmp_nodeBump K sk).mono (fun _ h => h) (fun _ x h => ⟨_, h⟩) (fun _ h => h) (fun _ h => h)
  by_cases h1 : kw "true" t.data = true
  · simp only [h1, if_true] at h2; exact fin _ h2 (nb _ _)
  · simp only [h1, Bool.false_eq_true, if_false] at h2
    by_cases h3 : kw "false" t.data = true
    · simp only [h3, if_true] at h2; exact fin _ h2 (nb _ _)
    · simp only [h3, Bool.false_eq_true, if_false] at h2
      by_cases h4 : kw "null" t.data = true
      · simp only [h4, if_true] at h2; exact fin _ h2 (nb _ _)
      · simp only [h4, Bool.false_eq_true, if_false] at h2
        refine fin _ h2 (cmp_enumValue.mono (fun _ h => h) ?_ (fun _ h => h) (fun _ h => h))
        rintro _ x rfl
        refine ⟨n, rfl, ?_⟩
        rw [← hd]
        simp [isValueKeyword, h1, h3, h4]

/-! ### the item loop -/

/-- `peek_while_kind(k, item)`: a list of items, each starting with a token of kind `k`, followed by a token of
    another kind -/
theorem cmp_kindWhileLoop (k : Kind) (item : PI Unit) (Li : Nat → List Ast.Tok → Prop) (Fi : Kind → Prop)
    (hitem : Cmp (fun _ => True) item Li Fi (fun _ => True))
    (hhead : ∀ b x, Li b x → ∃ a x', x = a :: x' ∧ kindOfA a = k) (hFk : Fi k) :
    ∀ (items : List (List Ast.Tok)) (fuel : Nat) (s s' : PState) (c : List Tok) (q0 : Tok) (rest : List Tok), TW s →
      (peekWhileKindLoop k item fuel).run s = .ok () s' → (∀ i ∈ items, Li (s.recLimit - s.recCur) i) →
      Spells c items.flatten → Toks s = c ++ q0 :: rest → Sigf q0 → q0.kind ≠ k → Fi q0.kind →
      Eat s s' c ∧ Toks s' = q0 :: rest := by
  intro items
  induction items with
  | nil =>
    intro fuel s s' c q0 rest w hr _ hs ht hq hne _
    have := spells_nil_inv (by simpa using hs)
    subst this
    cases fuel with
    | zero => simp [peekWhileKindLoop, PI.outOfFuel] at hr
    | succ fuel =>
      unfold peekWhileKindLoop at hr
      obtain ⟨ko, sP, hp, h2⟩ := bind_dec peek _ s s' () hr
      obtain ⟨rfl, eP, htP, _⟩ := peek_head s sP ko q0 rest w (by simpa using ht) hp
      have : (q0.kind != k) = true := by simpa using hne
      simp only [this, if_true] at h2
      rw [run_pure] at h2
      injection h2 with _ h2
      subst h2
      exact ⟨eP, htP⟩
  | cons it items ih =>
    intro fuel s s' c q0 rest w hr hall hs ht hq hne hfq
    obtain ⟨a, x', rfl, hka⟩ := hhead _ it (hall it (by simp))
    cases fuel with
    | zero => simp [peekWhileKindLoop, PI.outOfFuel] at hr
    | succ fuel =>
      -- split the spelling: this item, then the rest
      have hsplit : ∃ c1 c2, c = c1 ++ c2 ∧ Spells c1 (a :: x') ∧ Spells c2 items.flatten := by
        by_cases he : items.flatten = []
        · refine ⟨c, [], by simp, ?_, by rw [he]; exact spells_nil⟩
          simpa [he] using hs
        · exact spells_split (by simpa using hs) he
      obtain ⟨c1, c2, rfl, s1, s2⟩ := hsplit
      obtain ⟨t, tl, hc1, hta⟩ := spells_head s1
      unfold peekWhileKindLoop at hr
      obtain ⟨ko, sP, hp, h2⟩ := bind_dec peek _ s s' () hr
      obtain ⟨rfl, eP, htP, _⟩ := peek_head s sP ko t (tl ++ c2 ++ q0 :: rest) w (by rw [ht, hc1]; simp) hp
      have hkt : t.kind = k := by rw [kind_of_astOfV hta, hka]
      have : (t.kind != k) = false := by simp [hkt]
      simp only [this, Bool.false_eq_true, if_false] at h2
      have h3 := getCurrent_dec _ sP s' () h2
      obtain ⟨_, sB, hb, h4⟩ := bind_dec item _ sP s' () h3
      have h5 := getCurrent_dec _ sB s' () h4
      have hbud : sP.recLimit - sP.recCur = s.recLimit - s.recCur := by rw [eP.recLimit, eP.recCur]
      -- the follower of this item: the head of the remaining items, or `q0`
      obtain ⟨f, ftl, hfol, hsf, hff⟩ : ∃ f ftl, c2 ++ q0 :: rest = f :: ftl ∧ Sigf f ∧ Fi f.kind := by
        cases c2 with
        | nil => exact ⟨q0, rest, rfl, hq, hfq⟩
        | cons u v =>
          refine ⟨u, v ++ q0 :: rest, rfl, s2.2 u v rfl, ?_⟩
          -- `u` is the first token of the next item
          cases hit : items.flatten with
          | nil =>
            have := spells_nil_inv (by rw [hit] at s2; exact s2)
            cases this
          | cons a2 x2 =>
            obtain ⟨t2, tl2, hc2, hta2⟩ := spells_head (by rw [hit] at s2; exact s2)
            injection hc2 with h1 _
            subst h1
            -- the head of the flattened rest is the head of some item
            have : kindOfA a2 = k := by
              clear ih hr h2 h3 h4 h5 hb
              induction items with
              | nil => simp at hit
              | cons i0 is ih2 =>
                have hi0 := hall i0 (by simp)
                obtain ⟨a0, x0, rfl, hk0⟩ := hhead _ _ hi0
                simp at hit
                rw [← hit.1]; exact hk0
            rw [kind_of_astOfV hta2, this]; exact hFk
      obtain ⟨eB, tB, _⟩ := hitem sP sB () c1 (a :: x') f ftl eP.w hb (by rw [hbud]; exact hall _ (by simp)) s1
        (by rw [htP, hc1, ← hfol]; simp) hsf hff trivial
      by_cases hsame : (sP.current == sB.current) = true
      · simp only [hsame, if_true] at h5
        exact absurd h5 (stuck_not_ok _ _ _)
      · simp only [hsame, Bool.false_eq_true, if_false] at h5
        have hbud2 : sB.recLimit - sB.recCur = s.recLimit - s.recCur := by rw [eB.recLimit, eB.recCur, hbud]
        obtain ⟨eR, tR⟩ := ih fuel sB s' c2 q0 rest eB.w h5 (fun i hi => by rw [hbud2]; exact hall i (by simp [hi])) s2
          (by rw [tB, hfol]) hq hne hfq
        exact ⟨by simpa using (eP.trans eB).trans eR, tR⟩

end Apollo.Parse
