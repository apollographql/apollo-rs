import ApolloModel.Proofs.StringsBlock2
/-
C09, block form: `decodeStringToken (blockForm pre level s) = some s` for every white-space prefix,
every level and every string accepted by `can_be_block_string`.
-/
namespace Apollo.Strs

theorem indentStr_ws (pre : Str) (hpre : pre.all isWs = true) : ∀ level : Nat, (indentStr pre level).all isWs = true := by
  intro level
  unfold indentStr
  induction level with
  | zero => rfl
  | succ n ih => simp [List.replicate_succ, List.all_append, hpre, ih]

theorem decode_block_token (raw : Str) :
    decodeStringToken ('"' :: '"' :: '"' :: (raw ++ ['"', '"', '"'])) = some (unescapeBlockString raw) := by
  simp only [decodeStringToken]
  have hlen : ('"' :: '"' :: '"' :: (raw ++ ['"', '"', '"'])).length = raw.length + 6 := by simp
  rw [hlen, if_neg (by omega)]
  congr 2
  simp only [List.drop_succ_cons, List.drop_zero]
  have : raw.length + 6 - 6 = raw.length := by omega
  rw [this, List.take_left]

theorem go_noNl : ∀ (s cur : Str), (∀ c ∈ s, c ≠ '\n') → splitNl.go cur s = [cur ++ s] := by
  intro s
  induction s with
  | nil => intro cur _; rw [go_nil]; simp
  | cons c s ih =>
    intro cur h
    rw [go_plain cur c s (h c (by simp)), ih _ (fun d hd => h d (by simp [hd]))]
    simp

/-- single-line form: BlockStringValue of the escaped line is the line -/
theorem unescapeBlock_single (s : Str) (ok : BlockOk s) (hnl : s.contains '\n' = false) :
    unescapeBlockString (escapeTriple s) = s := by
  have hnl' : ∀ c ∈ s, c ≠ '\n' := by
    intro c hc e; subst e
    have : s.contains '\n' = true := by simpa using hc
    rw [hnl] at this; cases this
  have hsplit : splitNl s = [s] := by
    have := go_noNl s [] hnl'
    simpa [splitNl] using this
  obtain ⟨l1, rest, hL, hfirst⟩ := ok.first
  rw [hsplit] at hL
  simp only [List.cons.injEq] at hL
  obtain ⟨rfl, _⟩ := hL
  have hnb : NoBreak (escapeTriple s) := by
    intro c hc
    rcases mem_escapeTriple c s hc with h | h
    · refine ⟨hnl' c h, ?_⟩
      intro e; subst e
      have : s.contains '\r' = true := by simpa using h
      rw [ok.noCr] at this; cases this
    · subst h; constructor <;> decide
  have hlines : splitLines (escapeTriple s) = [escapeTriple s] := by
    unfold splitLines
    have := splitLinesAux_append (escapeTriple s) hnb [] []
    simp only [List.append_nil, List.nil_append] at this
    rw [this, splitLinesAux]
  have hf : isBlankLine (escapeTriple s) = false := by rw [isBlank_escapeTriple]; exact hfirst
  simp only [unescapeBlockString, hlines]
  have hc : commonIndent [escapeTriple s] = 0 := by simp [commonIndent, listMin?]
  rw [hc, stripIndent_zero]
  simp only [List.dropWhile_cons, hf, Bool.false_eq_true, if_false]
  rw [formatTruncate_eq _ _ hf]
  have : dropTrailingBlank [escapeTriple s] = [escapeTriple s] := by simp [dropTrailingBlank, hf]
  rw [this]
  simp [joinNl, replace_escapeTriple]

/-- **C09, block form** — for every white-space indent prefix, every level and every string that
    `can_be_block_string` accepts, decoding what `serialize_block_string` prints gives the string back. -/
theorem block_roundtrip (pre : Str) (level : Nat) (s : Str) (hpre : pre.all isWs = true)
    (h : canBeBlockString s = true) : decodeStringToken (blockForm pre level s) = some s := by
  have ok := canBeBlock_spec s h
  have hI := indentStr_ws pre hpre level
  unfold blockForm
  simp only []
  split
  · -- single line
    rename_i hm
    have hnl : s.contains '\n' = false := by
      cases hc : s.contains '\n' with
      | false => rfl
      | true =>
        simp at hm
        have : '\n' ∈ s := by simpa using hc
        exact absurd this hm.1.1.1
    have e : (['"', '"', '"'] ++ escapeTriple s ++ ['"', '"', '"'] : Str) =
        '"' :: '"' :: '"' :: (escapeTriple s ++ ['"', '"', '"']) := by simp
    rw [e, decode_block_token, unescapeBlock_single s ok hnl]
  · -- multi line
    have hbody : ((splitNl s).flatMap fun l =>
          if l.isEmpty then ['\n'] else '\n' :: indentStr pre level ++ escapeTriple l) ++ '\n' :: indentStr pre level =
        (((splitNl s).map (printedLine (indentStr pre level))) ++ [indentStr pre level]).flatMap fun y => '\n' :: y := by
      rw [List.flatMap_append, List.flatMap_map]
      simp only [List.flatMap_cons, List.flatMap_nil, List.append_nil]
      congr 2
      funext l
      unfold printedLine
      split <;> simp
    have e : (['"', '"', '"'] ++ ((splitNl s).flatMap fun l =>
          if l.isEmpty then ['\n'] else '\n' :: indentStr pre level ++ escapeTriple l) ++
          '\n' :: indentStr pre level ++ ['"', '"', '"'] : Str) =
        '"' :: '"' :: '"' :: ((((splitNl s).flatMap fun l =>
          if l.isEmpty then ['\n'] else '\n' :: indentStr pre level ++ escapeTriple l) ++ '\n' :: indentStr pre level) ++
          ['"', '"', '"']) := by simp
    rw [e, decode_block_token, hbody, unescapeBlock_printed _ s hI ok]

end Apollo.Strs
