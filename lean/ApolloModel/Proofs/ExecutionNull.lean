import ApolloModel.Proofs.Execution
/-
C26 (`execute_error_paths_lead_to_null`): every recorded error path leads to a `null` in `data` — walking the
response along the path reaches `null` at the path's position or at a proper prefix of it (the nearest nullable ancestor where the
error was caught).  List indices are part of paths; the one way an index can stop matching the output array
is `ResolvedValue::SkipForPartialExecution` as a list ITEM (the item is dropped, the index still advances —
the model follows the code), so worlds are required not to put `skip` inside lists.
-/
namespace Apollo.Exec
open Apollo

def jsonAt : Json → Path → Option Json
  | v, [] => some v
  | .obj m, .key k :: r =>
    match AList.get? m k with
    | some v => jsonAt v r
    | none => none
  | .arr xs, .idx i :: r =>
    match xs[i]? with
    | some v => jsonAt v r
    | none => none
  | _, _ :: _ => none

def LeadsNull (v : Json) (rel : Path) : Prop := ∃ q, q <+: rel ∧ jsonAt v q = some .null

theorem leads_null_self (rel : Path) : LeadsNull .null rel := ⟨[], List.nil_prefix, rfl⟩

theorem leads_arr {xs : List Json} {i : Nat} {v : Json} {rel : Path} (hi : xs[i]? = some v) (h : LeadsNull v rel) :
    LeadsNull (.arr xs) (.idx i :: rel) := by
  obtain ⟨q, hq, hn⟩ := h
  refine ⟨.idx i :: q, ?_, ?_⟩
  · obtain ⟨t, rfl⟩ := hq; exact ⟨t, rfl⟩
  · simp [jsonAt, hi, hn]

theorem leads_obj {m : AList Json} {k : String} {v : Json} {rel : Path} (hk : AList.get? m k = some v) (h : LeadsNull v rel) :
    LeadsNull (.obj m) (.key k :: rel) := by
  obtain ⟨q, hq, hn⟩ := h
  refine ⟨.key k :: q, ?_, ?_⟩
  · obtain ⟨t, rfl⟩ := hq; exact ⟨t, rfl⟩
  · simp [jsonAt, hk, hn]

theorem drop_seg {path p : Path} {seg : Seg} (h : (path ++ [seg]) <+: p) :
    p.drop path.length = seg :: p.drop (path ++ [seg]).length := by
  obtain ⟨t, rfl⟩ := h
  simp [List.append_assoc]

mutual
def RV.noSkip : RV → Bool
  | .skip => false
  | .list xs => RV.noSkipL xs
  | _ => true
def RV.noSkipL : List RV → Bool
  | [] => true
  | x :: xs => RV.noSkip x && RV.noSkipL xs
end

/-- `skip` does not occur as a list item (it may be the value of a field) -/
def RV.itemsClean : RV → Bool
  | .list xs => RV.noSkipL xs
  | _ => true

theorem noSkip_itemsClean {rv : RV} (h : rv.noSkip = true) : rv.itemsClean = true := by
  cases rv <;> simp_all [RV.noSkip, RV.itemsClean]

theorem noSkip_ne_skip {rv : RV} (h : rv.noSkip = true) : rv ≠ .skip := by
  intro e; subst e; simp [RV.noSkip] at h

def WorldClean (w : World) : Prop := ∀ e, e ∈ w → e.2.itemsClean = true

theorem world_get_clean : ∀ (w : World) (id : Nat) (f : String) (rv : RV), WorldClean w → w.get? id f = some rv →
    rv.itemsClean = true := by
  intro w
  induction w with
  | nil => intro id f rv _ h; simp [World.get?] at h
  | cons e rest ih =>
    intro id f rv hw h
    obtain ⟨⟨i, g⟩, r⟩ := e
    simp only [World.get?] at h
    split at h
    · cases h; exact hw ((i, g), rv) (by simp)
    · exact ih id f rv (fun e he => hw e (by simp [he])) h

/-- what every value-producing call guarantees about its new errors -/
def NullOut (path : Path) (st : St) (x : Out × St) : Prop :=
  ∃ new, Ext path st x.2 new ∧ (x.1 = .ok none → new = []) ∧
    (∀ v, x.1 = .ok (some v) → ∀ p, p ∈ new → LeadsNull v (p.drop path.length))

def RecNull (rec : Rec) : Prop := ∀ path ty rv fields st, rv.itemsClean = true →
  NullOut path st (rec path ty rv fields st) ∧ (rv ≠ .skip → (rec path ty rv fields st).1 ≠ .ok none)

theorem null_error_push (path : Path) (st : St) : NullOut path st (.error .propagate, st.push path) :=
  ⟨[path], ext_push path st, (by intro h; cases h), (by intro v h; cases h)⟩

/-- `try_nullify`: a caught propagation puts `null` at this very position -/
theorem null_tryNullify {path : Path} {ty : Ty} {st : St} {r : Out} {st' : St}
    (h : NullOut path st (r, st')) : NullOut path st (tryNullify ty r, st') := by
  obtain ⟨new, hext, hnone, hv⟩ := h
  refine ⟨new, hext, ?_, ?_⟩
  · intro he
    rcases tryNullify_cases ty r with ⟨j, hr, e⟩ | ⟨_, _, e⟩ | ⟨_, _, e⟩ | ⟨_, e⟩
    · rw [e] at he; cases he; exact hnone hr
    · rw [e] at he; cases he
    · rw [e] at he; cases he
    · rw [e] at he; cases he
  · intro v hvv p hp
    rcases tryNullify_cases ty r with ⟨j, hr, e⟩ | ⟨_, _, e⟩ | ⟨_, _, e⟩ | ⟨_, e⟩
    · rw [e] at hvv; cases hvv; exact hv v hr p hp
    · rw [e] at hvv; cases hvv
    · rw [e] at hvv; cases hvv; exact leads_null_self _
    · rw [e] at hvv; cases hvv

theorem completeLeaf_null (path : Path) (tyName : String) (k : Kind) (j : Json) (st : St) :
    NullOut path st (completeLeaf path tyName k j st) ∧ (completeLeaf path tyName k j st).1 ≠ .ok none := by
  have hok : ∀ v, NullOut path st (.ok (some v), st) ∧ ((Except.ok (some v) : Out), st).1 ≠ .ok none :=
    fun v => ⟨⟨[], ext_refl path st, (by intro h; cases h), (by intro _ _ p hp; cases hp)⟩, by simp⟩
  have herr : NullOut path st (.error .propagate, st.push path) ∧ ((Except.error Fail.propagate : Out), st.push path).1 ≠ .ok none :=
    ⟨null_error_push path st, by simp⟩
  unfold completeLeaf
  cases k with
  | object d => exact herr
  | interface => exact herr
  | union m => exact herr
  | inputObject f => exact herr
  | enum values =>
    cases j with
    | str x => simp only; split; exact hok _; exact herr
    | null => exact herr
    | bool b => exact herr
    | int z => exact herr
    | float t => exact herr
    | arr xs => exact herr
    | obj kvs => exact herr
  | scalar => simp only; split; exact hok _; exact herr

theorem getElem?_of_prefix {acc ys : List Json} {v : Json} (h : (acc ++ [v]) <+: ys) : ys[acc.length]? = some v := by
  obtain ⟨t, rfl⟩ := h
  simp [List.append_assoc]

/-- the item loop: the output array extends the accumulator, and every new error leads to a null in it (or
    the whole list became null) -/
theorem completeItems_null (rec : Rec) (hrec : RecNull rec) (path : Path) (ty inner : Ty) (fields : List Sel) :
    ∀ items i acc st, acc.length = i → RV.noSkipL items = true →
      ∃ new, Ext path st (completeItems rec path ty inner fields items i acc st).2 new ∧
        (completeItems rec path ty inner fields items i acc st).1 ≠ .ok none ∧
        ∀ v, (completeItems rec path ty inner fields items i acc st).1 = .ok (some v) →
          (v = .null ∨ ∃ ys, v = .arr ys ∧ acc <+: ys) ∧ ∀ p, p ∈ new → LeadsNull v (p.drop path.length) := by
  intro items
  induction items with
  | nil =>
    intro i acc st _ _
    simp only [completeItems]
    exact ⟨[], ext_refl path st, by simp, fun v h => by
      cases h; exact ⟨Or.inr ⟨acc, rfl, List.prefix_refl _⟩, fun p hp => by cases hp⟩⟩
  | cons item rest ih =>
    intro i acc st hlen hclean
    simp only [RV.noSkipL, Bool.and_eq_true] at hclean
    by_cases he : item = RV.error
    · subst he
      simp only [completeItems]
      exact ⟨[path ++ [.idx i]], ⟨by simp [St.push], by intro p hp; simp at hp; subst hp; exact List.prefix_append path _⟩,
        by simp, fun v h => by cases h⟩
    · have hunf : completeItems rec path ty inner fields (item :: rest) i acc st =
          (match rec (path ++ [.idx i]) inner item fields st with
          | (r, st1) =>
            match tryNullify inner r with
            | .ok none => completeItems rec path ty inner fields rest (i + 1) acc st1
            | .ok (some v) => completeItems rec path ty inner fields rest (i + 1) (acc ++ [v]) st1
            | .error .propagate => (tryNullify ty (.error .propagate), st1)
            | .error .fuel => (.error .fuel, st1)) := by
        cases item <;> first | rfl | exact absurd rfl he
      rw [hunf]
      obtain ⟨⟨n1, hext1, hnone1, hv1⟩, hns⟩ := hrec (path ++ [.idx i]) inner item fields st (noSkip_itemsClean hclean.1)
      have hns := hns (noSkip_ne_skip hclean.1)
      generalize rec (path ++ [.idx i]) inner item fields st = res at *
      obtain ⟨r, st1⟩ := res
      have hext1' : Ext path st st1 n1 := ext_weaken hext1
      -- what an item value `vi` at index `i` gives for the errors of the item
      have hitem : ∀ (vi : Json) (ys : List Json), (acc ++ [vi]) <+: ys →
          (∀ p, p ∈ n1 → LeadsNull vi (p.drop (path ++ [Seg.idx i]).length)) →
          ∀ p, p ∈ n1 → LeadsNull (.arr ys) (p.drop path.length) := by
        intro vi ys hpre hl p hp
        rw [drop_seg (hext1.2 p hp)]
        have := getElem?_of_prefix hpre
        rw [hlen] at this
        exact leads_arr this (hl p hp)
      simp only
      rcases tryNullify_cases inner r with ⟨j, hr, e⟩ | ⟨hr, _, e⟩ | ⟨hr, _, e⟩ | ⟨_, e⟩
      · rw [e]
        cases j with
        | none => exact absurd hr hns
        | some vi =>
          obtain ⟨n2, h2, hn2, hv2⟩ := ih (i + 1) (acc ++ [vi]) st1 (by simp [hlen]) hclean.2
          refine ⟨n1 ++ n2, ext_trans hext1' h2, hn2, ?_⟩
          intro v hv
          obtain ⟨hshape, hl2⟩ := hv2 v hv
          refine ⟨?_, ?_⟩
          · rcases hshape with h | ⟨ys, h, hpre⟩
            · exact Or.inl h
            · exact Or.inr ⟨ys, h, List.IsPrefix.trans (List.prefix_append acc [vi]) hpre⟩
          · intro p hp
            rcases List.mem_append.mp hp with hp | hp
            · rcases hshape with h | ⟨ys, h, hpre⟩
              · rw [h]; exact leads_null_self _
              · rw [h]; exact hitem vi ys hpre (hv1 vi hr) p hp
            · exact hl2 p hp
      · rw [e]
        refine ⟨n1, hext1', ?_, ?_⟩
        · cases hn : ty.isNonNull <;> simp [tryNullify, hn]
        · intro v hv
          cases hn : ty.isNonNull
          · simp [tryNullify, hn] at hv
            subst hv
            exact ⟨Or.inl rfl, fun p _ => leads_null_self _⟩
          · simp [tryNullify, hn] at hv
      · rw [e]
        obtain ⟨n2, h2, hn2, hv2⟩ := ih (i + 1) (acc ++ [.null]) st1 (by simp [hlen]) hclean.2
        refine ⟨n1 ++ n2, ext_trans hext1' h2, hn2, ?_⟩
        intro v hv
        obtain ⟨hshape, hl2⟩ := hv2 v hv
        refine ⟨?_, ?_⟩
        · rcases hshape with h | ⟨ys, h, hpre⟩
          · exact Or.inl h
          · exact Or.inr ⟨ys, h, List.IsPrefix.trans (List.prefix_append acc [.null]) hpre⟩
        · intro p hp
          rcases List.mem_append.mp hp with hp | hp
          · rcases hshape with h | ⟨ys, h, hpre⟩
            · rw [h]; exact leads_null_self _
            · rw [h]; exact hitem .null ys hpre (fun _ _ => leads_null_self _) p hp
          · exact hl2 p hp
      · rw [e]
        exact ⟨n1, hext1', by simp, fun v h => by cases h⟩

theorem completeList_null (rec : Rec) (hrec : RecNull rec) (path : Path) (ty : Ty) (fields : List Sel)
    (items : List RV) (hclean : RV.noSkipL items = true) (st : St) :
    NullOut path st (completeList rec path ty fields items st) ∧ (completeList rec path ty fields items st).1 ≠ .ok none := by
  unfold completeList
  split
  · exact ⟨null_error_push path st, by simp⟩
  · next inner _ =>
    obtain ⟨new, hext, hne, hv⟩ := completeItems_null rec hrec path ty inner fields items 0 [] st rfl hclean
    exact ⟨⟨new, hext, fun h => absurd h hne, fun v h => (hv v h).2⟩, hne⟩

theorem execField_null (rec : Rec) (hrec : RecNull rec) (env : Env) (hw : WorldClean env.world) (path : Path)
    (objTy : String) (objId : Nat) (fdef : FieldDef) (fields : List Sel) (st : St) :
    NullOut path st (execField rec env path objTy objId fdef fields st) := by
  unfold execField
  split
  · exact ⟨[], ext_refl path st, (fun _ => rfl), (by intro v h; cases h)⟩
  · next f0 tl =>
    split
    · split
      · exact null_error_push path st
      · exact ⟨[path], ext_push path st, (by intro h; cases h), fun v h p _ => by cases h; exact leads_null_self _⟩
    · next args _ =>
      simp only
      split
      · exact null_tryNullify (null_error_push path st)
      · next rv hres =>
        have hclean : rv.itemsClean = true := by
          by_cases hn : f0.fname = "__typename"
          · simp only [hn, if_true, Option.some.injEq] at hres
            subst hres; rfl
          · simp only [hn, if_false] at hres
            cases hg : env.world.get? objId f0.fname with
            | none => simp [hg] at hres
            | some w =>
              have hwc := world_get_clean _ _ _ _ hw hg
              cases w <;> simp [hg] at hres <;> (try subst hres) <;> first | rfl | exact hwc
        have := (hrec path fdef.ty rv (f0 :: tl) st hclean).1
        generalize rec path fdef.ty rv (f0 :: tl) st = res at *
        obtain ⟨r, st1⟩ := res
        exact null_tryNullify this

/-! ### the grouped field set has distinct response keys -/

def keysOf (g : AList (List Sel)) : List String := g.map (·.1)

theorem mem_keys_pushGroup : ∀ (g : AList (List Sel)) (k : String) (s : Sel) (x : String),
    x ∈ keysOf (pushGroup g k s) → x ∈ keysOf g ∨ x = k := by
  intro g
  induction g with
  | nil => intro k s x h; simp [pushGroup, keysOf] at h; exact Or.inr h
  | cons hd tl ih =>
    intro k s x h
    obtain ⟨k', fs⟩ := hd
    simp only [pushGroup] at h
    split at h
    · left; simpa [keysOf] using h
    · simp only [keysOf, List.map_cons, List.mem_cons] at h ⊢
      rcases h with h | h
      · exact Or.inl (Or.inl h)
      · rcases ih k s x h with h | h
        · exact Or.inl (Or.inr h)
        · exact Or.inr h

theorem pushGroup_keys_nodup : ∀ (g : AList (List Sel)) (k : String) (s : Sel),
    (keysOf g).Nodup → (keysOf (pushGroup g k s)).Nodup := by
  intro g
  induction g with
  | nil => intro k s _; simp [pushGroup, keysOf]
  | cons hd tl ih =>
    intro k s h
    obtain ⟨k', fs⟩ := hd
    simp only [keysOf, List.map_cons, List.nodup_cons] at h
    simp only [pushGroup]
    split
    · simpa [keysOf] using h
    · next hne =>
      simp only [keysOf, List.map_cons, List.nodup_cons]
      refine ⟨?_, ih k s h.2⟩
      intro hm
      rcases mem_keys_pushGroup tl k s k' hm with hm | hm
      · exact h.1 hm
      · exact hne hm

theorem collect_keys_nodup (env : Env) (objTy : String) : ∀ n sels visited groups v g,
    collectFields env objTy n sels visited groups = some (v, g) → (keysOf groups).Nodup → (keysOf g).Nodup := by
  intro n
  induction n with
  | zero => intro sels visited groups v g h; simp [collectFields] at h
  | succ n ih =>
    intro sels visited groups v g h hnd
    cases sels with
    | nil => simp only [collectFields, Option.some.injEq, Prod.mk.injEq] at h; rw [← h.2]; exact hnd
    | cons sel rest =>
      simp only [collectFields] at h
      split at h
      · exact ih rest visited groups v g h hnd
      · cases sel with
        | field a nm args dirs sub =>
          exact ih rest visited _ v g h (pushGroup_keys_nodup groups _ _ hnd)
        | spread name dirs =>
          simp only at h
          split at h
          · exact ih rest visited groups v g h hnd
          · split at h
            · exact ih rest _ groups v g h hnd
            · split at h
              · exact ih rest _ groups v g h hnd
              · next frag _ _ =>
                cases hb : collectFields env objTy n frag.sub (name :: visited) groups with
                | none => simp [hb] at h
                | some vg =>
                  obtain ⟨v1, g1⟩ := vg
                  simp only [hb] at h
                  exact ih rest v1 g1 v g h (ih frag.sub _ groups v1 g1 hb hnd)
        | inline cond dirs sub =>
          simp only at h
          have key : ∀ b : Bool,
              (if (!b) = true then collectFields env objTy n rest visited groups
               else
                 match collectFields env objTy n sub visited groups with
                 | none => none
                 | some (visited, groups) => collectFields env objTy n rest visited groups) = some (v, g) →
              (keysOf g).Nodup := by
            intro b hb
            cases b with
            | false => simp only [Bool.not_false, if_true] at hb; exact ih rest visited groups v g hb hnd
            | true =>
              simp only [Bool.not_true, Bool.false_eq_true, if_false] at hb
              cases hc : collectFields env objTy n sub visited groups with
              | none => simp [hc] at hb
              | some vg =>
                obtain ⟨v1, g1⟩ := vg
                simp only [hc] at hb
                exact ih rest v1 g1 v g hb (ih sub _ groups v1 g1 hc hnd)
          cases cond with
          | none => exact key true h
          | some c => exact key (fragmentApplies env.schema objTy c) h

/-! ### `IndexMap::insert` of a fresh key -/

theorem get_insert_self : ∀ (m : AList Json) (k : String) (v : Json), AList.get? (AList.insert m k v) k = some v := by
  intro m
  induction m with
  | nil => intro k v; simp [AList.insert, AList.get?]
  | cons e rest ih =>
    intro k v
    obtain ⟨k', v'⟩ := e
    simp only [AList.insert]
    split
    · next h => simp [AList.get?, h]
    · next h => simp [AList.get?, h, ih]

theorem get_insert_other : ∀ (m : AList Json) (k k0 : String) (v : Json), k0 ≠ k →
    AList.get? (AList.insert m k v) k0 = AList.get? m k0 := by
  intro m
  induction m with
  | nil => intro k k0 v h; simp [AList.insert, AList.get?, Ne.symm h]
  | cons e rest ih =>
    intro k k0 v h
    obtain ⟨k', v'⟩ := e
    simp only [AList.insert]
    split
    · next hk => subst hk; simp [AList.get?, Ne.symm h]
    · simp only [AList.get?]
      split
      · rfl
      · exact ih k k0 v h

theorem execGroups_null (rec : Rec) (hrec : RecNull rec) (env : Env) (hw : WorldClean env.world) (path : Path)
    (objTy : String) (objId : Nat) :
    ∀ groups acc st, (keysOf groups).Nodup → (∀ k, k ∈ keysOf groups → AList.get? acc k = none) →
      ∃ new, Ext path st (execGroups rec env path objTy objId groups acc st).2 new ∧
        ∀ m, (execGroups rec env path objTy objId groups acc st).1 = .ok m →
          (∀ k v, AList.get? acc k = some v → AList.get? m k = some v) ∧
          ∀ p, p ∈ new → LeadsNull (.obj m) (p.drop path.length) := by
  intro groups
  induction groups with
  | nil =>
    intro acc st _ _
    simp only [execGroups]
    exact ⟨[], ext_refl path st, fun m h => by cases h; exact ⟨fun _ _ h => h, fun p hp => by cases hp⟩⟩
  | cons gr rest ih =>
    intro acc st hnd hfresh
    obtain ⟨key, fields⟩ := gr
    simp only [keysOf, List.map_cons, List.nodup_cons] at hnd
    have hfresh_rest : ∀ k, k ∈ keysOf rest → AList.get? acc k = none :=
      fun k hk => hfresh k (by simp [keysOf] at hk ⊢; exact Or.inr hk)
    simp only [execGroups]
    split
    · exact ih acc st hnd.2 hfresh_rest
    · next f0 tl =>
      split
      · exact ih acc st hnd.2 hfresh_rest
      · next fdef _ =>
        obtain ⟨n1, hext1, hnone1, hv1⟩ := execField_null rec hrec env hw (path ++ [.key key]) objTy objId fdef (f0 :: tl) st
        generalize execField rec env (path ++ [.key key]) objTy objId fdef (f0 :: tl) st = res at *
        obtain ⟨r, st1⟩ := res
        have hext1' : Ext path st st1 n1 := ext_weaken hext1
        cases r with
        | error e => exact ⟨n1, hext1', fun m h => by cases h⟩
        | ok o =>
          cases o with
          | none =>
            have hn1 : n1 = [] := hnone1 rfl
            obtain ⟨n2, h2, hm2⟩ := ih acc st1 hnd.2 hfresh_rest
            refine ⟨n1 ++ n2, ext_trans hext1' h2, ?_⟩
            intro m hm
            obtain ⟨hkeep, hl⟩ := hm2 m hm
            refine ⟨hkeep, ?_⟩
            intro p hp
            rw [hn1] at hp
            exact hl p (by simpa using hp)
          | some v =>
            have hkey_fresh : AList.get? acc key = none := hfresh key (by simp [keysOf])
            obtain ⟨n2, h2, hm2⟩ := ih (AList.insert acc key v) st1 hnd.2 (by
              intro k hk
              have hne : k ≠ key := fun e => hnd.1 (e ▸ hk)
              rw [get_insert_other acc key k v hne]
              exact hfresh_rest k hk)
            refine ⟨n1 ++ n2, ext_trans hext1' h2, ?_⟩
            intro m hm
            obtain ⟨hkeep, hl⟩ := hm2 m hm
            refine ⟨?_, ?_⟩
            · intro k v0 hk
              apply hkeep
              have hne : k ≠ key := by
                intro e; rw [e, hkey_fresh] at hk; cases hk
              rw [get_insert_other acc key k v hne]; exact hk
            · intro p hp
              rcases List.mem_append.mp hp with hp | hp
              · rw [drop_seg (hext1.2 p hp)]
                exact leads_obj (hkeep key v (get_insert_self acc key v)) (hv1 v rfl p hp)
              · exact hl p hp

theorem execSelSet_null (rec : Rec) (hrec : RecNull rec) (env : Env) (hw : WorldClean env.world) (path : Path)
    (objTy : String) (objId : Nat) (sels : List Sel) (st : St) :
    ∃ new, Ext path st (execSelSet rec env path objTy objId sels st).2 new ∧
      ∀ m, (execSelSet rec env path objTy objId sels st).1 = .ok m → ∀ p, p ∈ new → LeadsNull (.obj m) (p.drop path.length) := by
  unfold execSelSet
  split
  · exact ⟨[], ext_refl path st, fun m h => by cases h⟩
  · next v g hc =>
    have hnd := collect_keys_nodup env objTy env.cfuel sels [] [] v g hc (by simp [keysOf])
    obtain ⟨new, hext, hm⟩ := execGroups_null rec hrec env hw path objTy objId g [] st hnd (by intro k _; rfl)
    exact ⟨new, hext, fun m h => (hm m h).2⟩

theorem completeValue_null (env : Env) (hw : WorldClean env.world) : ∀ n, RecNull (completeValue env n) := by
  intro n
  induction n with
  | zero =>
    intro path ty rv fields st _
    exact ⟨⟨[], ext_refl path st, (by intro h; cases h), (by intro v h; cases h)⟩, by simp [completeValue]⟩
  | succ n ih =>
    intro path ty rv fields st hclean
    have herr : NullOut path st (.error .propagate, st.push path) ∧
        (rv ≠ .skip → ((Except.error Fail.propagate : Out), st.push path).1 ≠ .ok none) :=
      ⟨null_error_push path st, fun _ => by simp⟩
    unfold completeValue
    split
    · exact ⟨⟨[], ext_refl path st, (fun _ => rfl), (by intro v h; cases h)⟩, fun h => absurd rfl h⟩
    · split
      · exact herr
      · exact ⟨⟨[], ext_refl path st, (by intro h; cases h), (by intro v _ p hp; cases hp)⟩, fun _ => by simp⟩
    · next items =>
      have := completeList_null _ ih path ty fields items (by simpa [RV.itemsClean] using hclean) st
      exact ⟨this.1, fun _ => this.2⟩
    · exact herr
    · exact herr
    · next rv' hskip hnull hlist herr' hecho =>
      split
      · exact herr
      · next tyName _ =>
        split
        · exact herr
        · exact herr
        · next k _ _ =>
          split
          · next j =>
            have := completeLeaf_null path tyName k j st
            exact ⟨this.1, fun _ => this.2⟩
          · next resolvedTy id =>
            split
            · obtain ⟨n1, hext1, hm1⟩ := execSelSet_null _ ih env hw path resolvedTy id (subSelections fields) st
              generalize execSelSet (completeValue env n) env path resolvedTy id (subSelections fields) st = res at *
              obtain ⟨r, st1⟩ := res
              cases r with
              | ok m =>
                exact ⟨⟨n1, hext1, (by intro h; cases h), fun v h p hp => by cases h; exact hm1 m rfl p hp⟩, fun _ => by simp⟩
              | error e => exact ⟨⟨n1, hext1, (by intro h; cases h), (by intro v h; cases h)⟩, fun _ => by simp⟩
            · exact herr
          · exact herr

/-- **Every error path leads to a null in `data`.**  For every response of the executor model (any schema,
    operation, variables, fuel; any world that does not put `skip` inside a list): either `data` is null, or
    walking `data` along the error's path reaches `null` at the path or at a prefix of it. -/
theorem execute_error_paths_lead_to_null (fuel : Nat) (env : Env) (hw : WorldClean env.world) (sels : List Sel)
    (r : Response) (h : execute fuel env sels = .response r) :
    ∀ p, p ∈ r.errors → match r.data with
      | none => True
      | some m => LeadsNull (.obj m) p := by
  unfold execute at h
  obtain ⟨new, hext, hm⟩ := execSelSet_null _ (completeValue_null env hw fuel) env hw [] env.schema.query 0 sels { errors := [] }
  generalize execSelSet (completeValue env fuel) env [] env.schema.query 0 sels { errors := [] } = res at *
  obtain ⟨x, st1⟩ := res
  cases x with
  | ok m =>
    simp only [Outcome.response.injEq] at h
    subst h
    intro p hp
    have hnew : st1.errors = new := by simpa using hext.1
    simp only
    have := hm m rfl p (by rw [← hnew]; exact hp)
    simpa using this
  | error e =>
    cases e with
    | propagate =>
      simp only [Outcome.response.injEq] at h
      subst h
      intro p _
      trivial
    | fuel => cases h

end Apollo.Exec
