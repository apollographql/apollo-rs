import ApolloModel.Proofs.ParserDef11
/-
C05, type-system definitions: the flag loop of `schema { … }`, trailing optional parts, and the
end of an extension (extensions thread a `meets` flag through their optional parts).
-/
set_option linter.unusedSimpArgs false
namespace Apollo.Parse
open Apollo.Rowan hiding Str
open Apollo.Lex hiding Str

theorem good_flagLoop (k : Kind) (body : PI Unit) (hb : Good body) : ∀ fuel flag, Good (peekWhileKindFlagLoop k body fuel flag)
  | 0, _ => good_outOfFuel
  | fuel + 1, flag => by
    unfold peekWhileKindFlagLoop
    refine good_bind _ _ good_peek ?_
    intro o
    cases o with
    | none => exact good_pure _
    | some kind =>
      refine good_ite _ _ _ (good_pure _) ?_
      refine good_bind _ _ good_getCurrent (fun before => good_bind _ _ hb (fun _ => good_bind _ _ good_getCurrent (fun after => ?_)))
      exact good_ite _ _ _ good_stuck (good_flagLoop k body hb fuel true)

/-- result of the flag loop: the items, and `has` is the incoming `flag` or "there was an item" -/
def FlagR (Q : List Ast.Tok → Prop) (flag has : Bool) (x : List Ast.Tok) : Prop :=
  ∃ items : List (List Ast.Tok), x = items.flatten ∧ (∀ i ∈ items, Q i) ∧ has = (flag || !items.isEmpty)

theorem flagLoop_res {E : PState → Prop} (hE : Early E) (k : Kind) (item : PI Unit) (Q : List Ast.Tok → Prop)
    (hitem : Acc E (KindP (· == k)) item (fun _ => Q)) : ∀ (fuel : Nat) (flag : Bool) (s : PState) (has : Bool) (s' : PState),
    TW s → EofEnd s → (peekWhileKindFlagLoop k item fuel flag).run s = .ok has s' → ¬ Doomed s' →
    AccRes E s s' (FlagR Q flag has) := by
  intro fuel
  induction fuel with
  | zero => intro flag s has s' _ _ h; simp [peekWhileKindFlagLoop, PI.outOfFuel] at h
  | succ fuel ih =>
    intro flag s has s' w he h hnd
    unfold peekWhileKindFlagLoop at h
    obtain ⟨ko, sP, hp, h2⟩ := bind_dec peek _ s s' has h
    obtain ⟨o, p', hko⟩ := peek_obs s sP ko w hp
    subst hko
    have heP : EofEnd sP := eofEnd_eat he p'.eat (by intro x hx; cases hx)
    have stop : s' = sP → has = flag → AccRes E s s' (FlagR Q flag has) := by
      intro e e2
      rw [e, e2]
      exact ⟨[], (by rw [p'.toks]; rfl), (by intro x hx; cases hx), heP,
        Or.inl ⟨[], TokIs.nil, [], rfl, (by intro i hi; cases hi), by simp⟩⟩
    cases o with
    | none =>
      simp only [Option.map_none] at h2
      rw [run_pure] at h2
      injection h2 with h2a h2
      exact stop h2.symm h2a.symm
    | some t =>
      simp only [Option.map_some] at h2
      by_cases hk : (t.kind != k) = true
      · simp only [hk, if_true] at h2
        rw [run_pure] at h2
        injection h2 with h2a h2
        exact stop h2.symm h2a.symm
      · simp only [hk, Bool.false_eq_true, if_false] at h2
        have hk' : (t.kind == k) = true := by simpa using hk
        have h3 := getCurrent_dec _ sP s' has h2
        obtain ⟨_, sI, hi, h4⟩ := bind_dec item _ sP s' has h3
        have h5 := getCurrent_dec _ sI s' has h4
        have aI := hitem.1 sP () sI p'.w hi
        by_cases hsame : (sP.current == sI.current) = true
        · simp only [hsame, if_true] at h5
          exact absurd h5 (stuck_not_ok _ _ _)
        · simp only [hsame, Bool.false_eq_true, if_false] at h5
          have hndI : ¬ Doomed sI := fun d => hnd ((good_flagLoop k item hitem.1 fuel true sI has s' aI.w h5).doom d)
          have hq : KindP (· == k) (Toks sP) := ⟨t, by rw [p'.toks]; exact p'.head.symm, hk'⟩
          have r1 := hitem.2 sP () sI p'.w heP hq hi hndI
          have ⟨_, _, _, e1, _⟩ := r1
          have r := (AccRes.seq hE hndI r1 (ih true sI has s' aI.w e1 h5 hnd)).mono (L' := FlagR Q flag has) (by
            rintro x ⟨x1, x2, rfl, hq1, items, rfl, hall, hhas⟩
            exact ⟨x1 :: items, rfl, List.forall_mem_cons.mpr ⟨hq1, hall⟩, by rw [hhas]; simp⟩)
          obtain ⟨cs, a1, a2⟩ := r
          exact ⟨cs, by rw [← p'.toks]; exact a1, a2⟩

theorem acc_flagLoop {E : PState → Prop} (hE : Early E) {H : List Tok → Prop} (k : Kind) (item : PI Unit) (Q : List Ast.Tok → Prop)
    (hitem : Acc E (KindP (· == k)) item (fun _ => Q)) (fuel : Nat) (flag : Bool) :
    Acc E H (peekWhileKindFlagLoop k item fuel flag) (FlagR Q flag) :=
  ⟨good_flagLoop k item hitem.1 fuel flag, fun s a s' w he _ h hnd => flagLoop_res hE k item Q hitem fuel flag s a s' w he h hnd⟩

theorem acc_srcLen {α : Type} {E : PState → Prop} {H : List Tok → Prop} {f : Nat → PI α} {R : α → List Ast.Tok → Prop}
    (h : ∀ n, Acc E H (f n) R) : Acc E H (srcLen >>= f) R := by
  refine ⟨good_bind _ _ good_srcLen (fun n => (h n).1), ?_⟩
  intro s a s' w he hq hr hnd
  obtain ⟨n, h5⟩ := srcLen_dec _ s s' a hr
  exact (h n).2 s a s' w he hq h5 hnd

/-! ### optional parts with two continuations -/

theorem accL_optKind2 {α : Type} {E : PState → Prop} (hE : Early E) (k0 : Kind) (m : PI Unit)
    (restT restF : PI α) (Lm : List Ast.Tok → Prop) (R : α → List Ast.Tok → Prop)
    (hm : Acc E (KindP (· == k0)) m (fun _ => Lm)) (hT : Acc E LexQ restT R) (hF : Acc E LexQ restF R) :
    Acc E LexQ (optKind2 k0 m restT restF) (fun a x => ∃ x1 x2, x = x1 ++ x2 ∧ (Lm x1 ∨ x1 = []) ∧ R a x2) :=
  acc_optKind2I hE (fun _ _ => LexQ.suffix) k0 m restT restF Lm R hm hT hF

/-- a trailing optional part: `if peek == k { body }` -/
def optBodyK (k0 : Kind) (body : PI Unit) : PI Unit := peek >>= fun k => if k == some k0 then body else pure ()

theorem acc_optBodyK {E : PState → Prop} {H : List Tok → Prop} (k0 : Kind) (body : PI Unit) (L : List Ast.Tok → Prop)
    (hb : Acc E (KindP (· == k0)) body (fun _ => L)) :
    Acc E H (optBodyK k0 body) (fun _ x => L x ∨ x = []) := by
  unfold optBodyK
  refine acc_ifKind k0 _ _ _ (hb.mono (fun _ h => h) (fun _ _ h => Or.inl h)) ?_
  exact (acc_pure E _ ()).mono (fun _ _ => trivial) (fun _ _ h => Or.inr h.2)

/-- the end of every extension with a `meets` flag -/
def extEnd (meets : Bool) : PI Unit := if !meets then err else pure ()

theorem acc_extEnd {E : PState → Prop} {H : List Tok → Prop} (meets : Bool) : Acc E H (extEnd meets) (fun _ x => x = []) := by
  unfold extEnd
  apply acc_ite
  · intro _; exact acc_err
  · intro _; exact (acc_pure E _ ()).mono (fun _ _ => trivial) (fun _ _ h => h.2)

end Apollo.Parse
