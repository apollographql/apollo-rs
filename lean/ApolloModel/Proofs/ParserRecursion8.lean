import ApolloModel.Proofs.ParserRecursion7
/-
C04, recursion limit across runs: the relation between the run with limit `r` and a run
with a larger limit `R` that is never hit ("the unlimited run"), and how it goes through the combinators.
Up to the first hit of `r` the two runs are in the same state (except for the limit itself); at the first
hit the limited run records the limit error with its high-water mark at `r + 1`, which it never exceeds,
while the unlimited run goes at least that deep.
-/
set_option linter.unusedSimpArgs false
set_option linter.unusedVariables false
namespace Apollo.Parse
open Apollo.Rowan hiding Str
open Apollo.Lex hiding Str

/-- single-run bounds, for any state: the high-water mark only grows, never beyond `limit + 1` -/
structure Bnd (s s' : PState) : Prop where
  lo : s.recHigh ≤ s'.recHigh
  hi : s'.recHigh ≤ max s.recHigh (s.recLimit + 1)
  lim : HasLim s.errors → HasLim s'.errors
  recCur : s'.recCur = s.recCur
  recLimit : s'.recLimit = s.recLimit
  gi : GI s → GI s'

theorem Bnd.refl (s : PState) : Bnd s s := ⟨Nat.le_refl _, by omega, fun h => h, rfl, rfl, fun h => h⟩

theorem Bnd.trans {a b c : PState} (h1 : Bnd a b) (h2 : Bnd b c) : Bnd a c :=
  ⟨Nat.le_trans h1.lo h2.lo, by have := h1.hi; have := h2.hi; have := h1.recLimit; omega,
   fun h => h2.lim (h1.lim h), h2.recCur.trans h1.recCur, h2.recLimit.trans h1.recLimit, fun h => h2.gi (h1.gi h)⟩

theorem PlainOut.bnd {s s' : PState} (h : PlainOut s s') : Bnd s s' :=
  ⟨by rw [h.recHigh]; exact Nat.le_refl _, by rw [h.recHigh]; omega, h.lim, h.recCur, h.recLimit, h.gi⟩

def BG {α : Type} (m : PI α) : Prop := ∀ s a s', s.recCur ≤ s.recLimit → m.run s = .ok a s' → Bnd s s'

theorem bg_of_plain {α : Type} {m : PI α} (h : Plain m) : BG m := fun s a s' _ hr => (h.out s a s' hr).bnd

theorem bg_bind {α β : Type} (m : PI α) (f : α → PI β) (hm : BG m) (hf : ∀ a, BG (f a)) : BG (m >>= f) := by
  intro s b s'' hc h
  obtain ⟨a, s', h1, h2⟩ := bind_dec m f s s'' b h
  have b1 := hm s a s' hc h1
  exact b1.trans (hf a s' b s'' (by rw [b1.recCur, b1.recLimit]; exact hc) h2)

theorem bgTok : TokenCalc @BG := plainTok.mono bg_of_plain bg_bind

theorem bg_peekWhileFlagLoop (body : Kind → PI (Bool × Bool)) (hb : ∀ k, BG (body k)) :
    ∀ fuel flag, BG (peekWhileFlagLoop body fuel flag) :=
  bgTok.peekWhileFlagLoop body hb

theorem Same.bnd {s s' : PState} (h : Same s s') : Bnd s s' := h.plainOut.bnd

theorem bg_withNode {α : Type} (kind : SK) (body : PI α) (hb : BG body) : BG (withNode kind body) := by
  intro s a s' hc h
  obtain ⟨s1, s2, o1, hr, o2⟩ := withNode_decS kind body s s' a h
  have b := bg_bind _ _ bgTok.skipIgnored (fun _ => hb) s1 a s2 (by rw [o1.recCur, o1.recLimit]; exact hc) hr
  exact (o1.bnd.trans b).trans o2.bnd

theorem bg_withRec {α : Type} (onLimit body : PI α) (hl : Plain onLimit) (hb : BG body) : BG (withRec onLimit body) := by
  intro s a s' hc h
  rcases withRec_decH onLimit body s s' a h with ⟨hover, hrun⟩ | ⟨hunder, s2, hrun, hs'⟩
  · have o := hl.out _ a s' hrun
    refine ⟨?_, ?_, o.lim, o.recCur, o.recLimit, fun g => o.gi ⟨g.lim, g.acc, g.nf⟩⟩
    · rw [o.recHigh]; simp only []; omega
    · rw [o.recHigh]; simp only []; omega
  · have o := hb _ a s2 (by simpa using hunder) hrun
    subst hs'
    refine ⟨?_, ?_, o.lim, ?_, o.recLimit, fun g => ?_⟩
    · have := o.lo; simp only [] at this ⊢; omega
    · have := o.hi; simp only [] at this ⊢; omega
    · have := o.recCur; simp only [] at this ⊢; omega
    · have g2 := o.gi ⟨g.lim, g.acc, g.nf⟩
      exact ⟨g2.lim, g2.acc, g2.nf⟩

/-! ### two runs -/

/-- both runs ended in the same state (up to the limit) -/
def Sync {α : Type} (s : PState) (r R : Nat) (ar aR : α) (sr sR : PState) : Prop :=
  ∃ t, sr = setL r t ∧ sR = setL R t ∧ ar = aR ∧ t.recHigh ≤ r ∧ t.recCur = s.recCur ∧ GI t

/-- the limited run hit its limit -/
def Div (r : Nat) (sr sR : PState) : Prop := HasLim sr.errors ∧ sr.recHigh = r + 1 ∧ r + 1 ≤ sR.recHigh

theorem cross_outcome {α : Type} {s : PState} {r R : Nat} {ar aR : α} {sr sR : PState}
    (h : Sync s r R ar aR sr sR ∨ Div r sr sR) :
    sr.recHigh = min sR.recHigh (r + 1) ∧ (HasLim sr.errors ↔ (sR.recHigh > r ∨ HasLim sR.errors)) := by
  rcases h with ⟨t, e1, e2, _, th, _, _⟩ | ⟨d1, d2, d3⟩
  · subst e1 e2
    refine ⟨?_, ?_⟩
    · show t.recHigh = min t.recHigh (r + 1)
      omega
    · show HasLim t.errors ↔ (t.recHigh > r ∨ HasLim t.errors)
      constructor
      · exact Or.inr
      · rintro (h | h)
        · omega
        · exact h
  · exact ⟨by omega, ⟨fun _ => Or.inl (by omega), fun _ => d1⟩⟩

/-- the cross-run property of a computation whose start state satisfies `c` on the current token -/
def XC {α : Type} (c : Option Tok → Prop) (m : PI α) : Prop :=
  ∀ (s : PState) (r R : Nat) (ar aR : α) (sr sR : PState), r ≤ R → s.recCur ≤ r → s.recHigh ≤ r → GI s → c s.current →
    m.run (setL r s) = .ok ar sr → m.run (setL R s) = .ok aR sR →
    Sync s r R ar aR sr sR ∨ Div r sr sR

def anyTok : Option Tok → Prop := fun _ => True
def someTok : Option Tok → Prop := fun o => o.isSome = true

/-- the same with a precondition on the whole start state -/
def XS {α : Type} (P : PState → Prop) (m : PI α) : Prop :=
  ∀ (s : PState) (r R : Nat) (ar aR : α) (sr sR : PState), r ≤ R → s.recCur ≤ r → s.recHigh ≤ r → GI s → P s →
    m.run (setL r s) = .ok ar sr → m.run (setL R s) = .ok aR sR →
    Sync s r R ar aR sr sR ∨ Div r sr sR

theorem xc_weaken {α : Type} {c : Option Tok → Prop} {m : PI α} (h : XC anyTok m) : XC c m :=
  fun s r R ar aR sr sR h1 h2 h3 g _ hr hR => h s r R ar aR sr sR h1 h2 h3 g trivial hr hR

theorem mapS_ok {α : Type} {f : PState → PState} {x : Res α} {a : α} {s' : PState} (h : Res.mapS f x = .ok a s') :
    ∃ t, x = .ok a t ∧ s' = f t := by
  cases x with
  | ok a' t => simp only [Res.mapS] at h; injection h with h1 h2; subst h1; exact ⟨t, rfl, h2.symm⟩
  | abort w => cases h
  | panic m => cases h

theorem xs_of_plain {α : Type} {P : PState → Prop} {m : PI α} (hm : Plain m) : XS P m := by
  intro s r R ar aR sr sR _ hc hh g _ hr hR
  rw [hm.blind] at hr hR
  obtain ⟨t, e1, rfl⟩ := mapS_ok hr
  obtain ⟨t', e2, rfl⟩ := mapS_ok hR
  rw [e1] at e2
  injection e2 with e3 e4
  subst e3 e4
  have o := hm.out s ar t e1
  exact Or.inl ⟨t, rfl, rfl, rfl, by rw [o.recHigh]; exact hh, o.recCur, o.gi g⟩

theorem xc_of_plain {α : Type} {c : Option Tok → Prop} {m : PI α} (hm : Plain m) : XC c m := xs_of_plain hm

/-- what a computation guarantees about the current token afterwards -/
def PostC {α : Type} (c : Option Tok → Prop) (m : PI α) (c' : α → Option Tok → Prop) : Prop :=
  ∀ s a s', GI s → c s.current → m.run s = .ok a s' → c' a s'.current

/-- Sequencing.  In step after `m`, the two runs continue in step or diverge in `f`; diverged in `m`, the bounds
    of `f` keep the limited run at `r + 1` and the other one above it. -/
theorem xs_bind {α β : Type} {P : PState → Prop} {c' : α → Option Tok → Prop} (m : PI α) (f : α → PI β)
    (hP : ∀ s L, P s → P (setL L s))
    (xm : XS P m) (bm : BG m) (pm : ∀ s a s', GI s → P s → m.run s = .ok a s' → c' a s'.current)
    (xf : ∀ a, XC (c' a) (f a)) (bf : ∀ a, BG (f a)) : XS P (m >>= f) := by
  intro s r R br bR sr sR hrR hc hh g hcs hr hR
  obtain ⟨a1, s1r, h1r, h2r⟩ := bind_dec m f _ sr br hr
  obtain ⟨a1R, s1R, h1R, h2R⟩ := bind_dec m f _ sR bR hR
  have b1r := bm _ a1 s1r (by simpa [setL] using hc) h1r
  have b1R := bm _ a1R s1R (by simp only [setL]; omega) h1R
  have b2R := bf a1R s1R bR sR (by rw [b1R.recCur, b1R.recLimit]; simp only [setL]; omega) h2R
  rcases xm s r R a1 a1R s1r s1R hrR hc hh g hcs h1r h1R with ⟨t, e1, e2, ea, th, tc, tg⟩ | ⟨d1, d2, d3⟩
  · subst e1 e2 ea
    have hct : c' a1 t.current := pm (setL r s) a1 (setL r t) (gi_setL g r) (hP s r hcs) h1r
    rcases xf a1 t r R br bR sr sR hrR (by rw [tc]; exact hc) th tg hct h2r h2R with ⟨t2, e1, e2, ea, th2, tc2, tg2⟩ | d
    · exact Or.inl ⟨t2, e1, e2, ea, th2, tc2.trans tc, tg2⟩
    · exact Or.inr d
  · have b2r := bf a1 s1r br sr (by rw [b1r.recCur, b1r.recLimit]; simpa [setL] using hc) h2r
    refine Or.inr ⟨b2r.lim d1, ?_, Nat.le_trans d3 b2R.lo⟩
    have := b2r.lo
    have := b2r.hi
    have hl : s1r.recLimit = r := by rw [b1r.recLimit]; rfl
    omega

theorem xc_bind {α β : Type} {c : Option Tok → Prop} {c' : α → Option Tok → Prop} (m : PI α) (f : α → PI β)
    (xm : XC c m) (bm : BG m) (pm : PostC c m c') (xf : ∀ a, XC (c' a) (f a)) (bf : ∀ a, BG (f a)) : XC c (m >>= f) :=
  xs_bind (P := fun s => c s.current) m f (fun _ _ h => h) xm bm pm xf bf

theorem xc_withNode {α : Type} {c : Option Tok → Prop} (kind : SK) (body : PI α)
    (h : XC c (skipIgnored >>= fun _ => body)) : XC c (withNode kind body) := by
  intro s r R ar aR sr sR hrR hc hh g hcs hr hR
  rw [withNode_run] at hr hR
  have e1 : wnPre kind (setL r s) = setL r (wnPre kind s) := rfl
  have e2 : wnPre kind (setL R s) = setL R (wnPre kind s) := rfl
  rw [e1] at hr
  rw [e2] at hR
  cases h1 : (skipIgnored >>= fun _ => body).run (setL r (wnPre kind s)) with
  | abort w => rw [h1] at hr; cases hr
  | panic m => rw [h1] at hr; cases hr
  | ok a2 s2 =>
    cases h2 : (skipIgnored >>= fun _ => body).run (setL R (wnPre kind s)) with
    | abort w => rw [h2] at hR; cases hR
    | panic m => rw [h2] at hR; cases hR
    | ok a2R s2R =>
      rw [h1] at hr
      rw [h2] at hR
      simp only [] at hr hR
      cases hf : s2.builder.finishNode with
      | none => rw [hf] at hr; cases hr
      | some b =>
        cases hfR : s2R.builder.finishNode with
        | none => rw [hfR] at hR; cases hR
        | some bR =>
          rw [hf] at hr
          rw [hfR] at hR
          injection hr with hr1 hr2
          injection hR with hR1 hR2
          subst hr1 hr2 hR1 hR2
          rcases h (wnPre kind s) r R _ _ s2 s2R hrR hc hh ⟨g.lim, g.acc, g.nf⟩ hcs h1 h2 with ⟨t, e1, e2, ea, th, tc, tg⟩ | ⟨d1, d2, d3⟩
          · subst e1 e2 ea
            have hbb : b = bR := by
              have : (setL r t).builder.finishNode = (setL R t).builder.finishNode := rfl
              rw [hf, hfR] at this
              injection this
            subst hbb
            exact Or.inl ⟨{ t with builder := b }, rfl, rfl, rfl, th, tc, ⟨tg.lim, tg.acc, tg.nf⟩⟩
          · exact Or.inr ⟨d1, d2, d3⟩

/-- the recursion guard: in step while the limited run is below its limit; the first hit is the divergence -/
theorem xc_withRec {α : Type} (onLimit body : PI α) (hl : Plain onLimit)
    (hrec : ∀ s a s', GI s → s.current.isSome = true → onLimit.run s = .ok a s' → HasLim s'.errors)
    (xb : XC someTok body) (bb : BG body) : XC someTok (withRec onLimit body) := by
  intro s r R ar aR sr sR hrR hc hh g hcs hr hR
  rcases withRec_decH onLimit body _ sR aR hR with ⟨hoverR, hrunR⟩ | ⟨hunderR, s2R, hrunR, hsR⟩
  · -- the larger limit is hit: then `r = R` is hit at the same place
    have h1 : s.recCur + 1 > R := hoverR
    have oR := hl.out _ aR sR hrunR
    have hRh : sR.recHigh = max s.recHigh (s.recCur + 1) := oR.recHigh
    rcases withRec_decH onLimit body _ sr ar hr with ⟨hover, hrun⟩ | ⟨hunder, s2, hrun, hsr⟩
    · have o := hl.out _ ar sr hrun
      have hrh : sr.recHigh = max s.recHigh (s.recCur + 1) := o.recHigh
      refine Or.inr ⟨hrec { setL r s with recHigh := max (setL r s).recHigh ((setL r s).recCur + 1) } ar sr ⟨g.lim, g.acc, g.nf⟩ hcs hrun, ?_, ?_⟩
      · omega
      · omega
    · exfalso
      have : s.recCur + 1 ≤ r := hunder
      omega
  · have b2R := bb _ aR s2R (by simpa using hunderR) hrunR
    have hs2R : s2R.recHigh = sR.recHigh := by rw [hsR]
    rcases withRec_decH onLimit body _ sr ar hr with ⟨hover, hrun⟩ | ⟨hunder, s2, hrun, hsr⟩
    · -- first hit
      have o := hl.out _ ar sr hrun
      have hcur : s.recCur = r := by
        have : s.recCur + 1 > r := hover
        omega
      refine Or.inr ⟨hrec { setL r s with recHigh := max (setL r s).recHigh ((setL r s).recCur + 1) } ar sr ⟨g.lim, g.acc, g.nf⟩ hcs hrun, ?_, ?_⟩
      · have : sr.recHigh = max s.recHigh (s.recCur + 1) := o.recHigh
        omega
      · have := b2R.lo
        simp only [setL] at this
        omega
    · -- in step
      have hunder' : s.recCur + 1 ≤ r := hunder
      let sp : PState := { s with recCur := s.recCur + 1, recHigh := max s.recHigh (s.recCur + 1) }
      have er : ({ setL r s with recCur := (setL r s).recCur + 1, recHigh := max (setL r s).recHigh ((setL r s).recCur + 1) } : PState) = setL r sp := rfl
      have eR : ({ setL R s with recCur := (setL R s).recCur + 1, recHigh := max (setL R s).recHigh ((setL R s).recCur + 1) } : PState) = setL R sp := rfl
      rw [er] at hrun
      rw [eR] at hrunR
      rcases xb sp r R ar aR s2 s2R hrR (by simp only [sp]; omega) (by simp only [sp]; omega) ⟨g.lim, g.acc, g.nf⟩ hcs hrun hrunR
        with ⟨t, e1, e2, ea, th, tc, tg⟩ | ⟨d1, d2, d3⟩
      · subst e1 e2 ea hsr hsR
        refine Or.inl ⟨{ t with recCur := t.recCur - 1 }, rfl, rfl, rfl, th, ?_, ⟨tg.lim, tg.acc, tg.nf⟩⟩
        simp only [sp] at tc
        simp only []
        omega
      · subst hsr hsR
        exact Or.inr ⟨d1, d2, d3⟩

end Apollo.Parse
