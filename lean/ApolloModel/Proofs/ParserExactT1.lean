import ApolloModel.Proofs.ParserExactS13
import ApolloModel.Proofs.ParserExactC28
/-
Exact (budget-carrying) soundness for the type-system family, read at one run: input value, enum value and field
definitions and the parenthesised / braced lists of them, in the predicates `LIVD`, `LEnumVal`, `LFieldDef`, `LArgsDef`,
`LInputFields`, `LEnumVals`, `LFields` at the budget of the start state.  Each is its acceptance judgement
(`accQ_ivd`, …, ParserDef5–8) unfolded at the run.
-/
set_option linter.unusedSimpArgs false
namespace Apollo.Parse.Exact
open Apollo.Rowan hiding Str
open Apollo.Lex hiding Str

theorem optDesc_sound (s s' : PState) (w : TW s) (he : EofEnd s)
    (h : (peek >>= fun k => if k == some Kind.stringValue then description else pure ()).run s = .ok () s') (hnd : ¬ Doomed s') :
    Cons s s' (fun x => ∃ d, x = Ast.tDescription d) := by
  have hacc : Acc (fun _ => False) (fun _ => True) (peek >>= fun k => if k == some Kind.stringValue then description else pure ())
      (fun _ x => ∃ d, x = Ast.tDescription d) := by
    refine acc_ifKind .stringValue _ _ _ ?_ ?_
    · exact (acc_description early_false).mono (fun _ h => h) (fun _ x ⟨d, hd⟩ => ⟨some d, hd⟩)
    · exact (acc_pure _ _ ()).mono (fun _ _ => trivial) (fun _ x h => ⟨none, by rw [h.2]; rfl⟩)
  exact cons_of_acc hacc s s' () w he trivial h hnd

theorem good_optDesc : Good (peek >>= fun k => if k == some Kind.stringValue then description else pure ()) :=
  good_opt .stringValue _ (acc_description (E := fun _ => False) early_false).1

/-- **one input value definition** `Description? Name : Type DefaultValue? Directives?`, every part within the budget;
    entered on a Name or String token -/
theorem ivd_sound (n : Nat) (s s' : PState) (t : Tok) (rest : List Tok) (w : TW s) (he : EofEnd s)
    (ht : Toks s = t :: rest) (hk : isNameOrStringK t.kind = true)
    (h : (inputValueDefinition n).run s = .ok () s') (hnd : ¬ Doomed s') :
    ConsE s s' (fun x => ∃ v : Ast.InputValueDef, x = Ast.tIVD v ∧ ivdFit (bud s) v) :=
  (accQ_ivd n).consE w he (kindP_ofCons ht hk) h hnd

/-- **one enum value definition** `Description? EnumValue Directives[Const]?`, entered on a Name or String token -/
theorem enumValueDefinition_sound (n : Nat) (s s' : PState) (t : Tok) (rest : List Tok) (w : TW s) (he : EofEnd s)
    (ht : Toks s = t :: rest) (hk : isNameOrStringK t.kind = true)
    (h : (enumValueDefinition n).run s = .ok () s') (hnd : ¬ Doomed s') :
    Cons s s' (fun x => ∃ v : Ast.EnumValueDef, x = Ast.tEnumValueDef v ∧ enumValFit (bud s) v) :=
  (accQ_enumValueDefinition early_false n).cons w he (kindP_ofCons ht hk) h hnd

/-- **one field definition** `Description? Name ArgumentsDefinition? : Type Directives[Const]?`, entered on a Name or String -/
theorem fieldDefinition_sound (n : Nat) (s s' : PState) (t : Tok) (rest : List Tok) (w : TW s) (he : EofEnd s)
    (ht : Toks s = t :: rest) (hk : isNameOrStringK t.kind = true)
    (h : (fieldDefinition n).run s = .ok () s') (hnd : ¬ Doomed s') : Cons s s' (LFieldDef (bud s)) :=
  (accQ_fieldDefinition early_false n).cons w he (kindP_ofCons ht hk) h hnd

theorem good_argumentsDefinition (n : Nat) : Good (argumentsDefinition n) := (accQ_argumentsDefinition n).1

/-- **`( InputValueDefinition+ )`**, entered on the `(` -/
theorem argumentsDefinition_sound (n : Nat) (s s' : PState) (t : Tok) (rest : List Tok) (w : TW s) (he : EofEnd s)
    (ht : Toks s = t :: rest) (hk : t.kind = .lParen)
    (h : (argumentsDefinition n).run s = .ok () s') (hnd : ¬ Doomed s') : Cons s s' (LArgsDef (bud s)) :=
  (accQ_argumentsDefinition n).cons w he (kindP_ofCons ht (by simp [hk])) h hnd

/-- **`{ InputValueDefinition+ }`**, entered on the `{` -/
theorem inputFieldsDefinition_sound (n : Nat) (s s' : PState) (t : Tok) (rest : List Tok) (w : TW s) (he : EofEnd s)
    (ht : Toks s = t :: rest) (hk : t.kind = .lCurly)
    (h : (inputFieldsDefinition n).run s = .ok () s') (hnd : ¬ Doomed s') : Cons s s' (LInputFields (bud s)) :=
  (accQ_inputFieldsDefinition n).cons w he (kindP_ofCons ht (by simp [hk])) h hnd

/-- **`{ EnumValueDefinition+ }`**, entered on the `{` -/
theorem enumValuesDefinition_sound (n : Nat) (s s' : PState) (t : Tok) (rest : List Tok) (w : TW s) (he : EofEnd s)
    (ht : Toks s = t :: rest) (hk : t.kind = .lCurly)
    (h : (enumValuesDefinition n).run s = .ok () s') (hnd : ¬ Doomed s') : Cons s s' (LEnumVals (bud s)) :=
  (accQ_enumValuesDefinition n).cons w he (kindP_ofCons ht (by simp [hk])) h hnd

/-- **`{ FieldDefinition+ }`**, entered on the `{` -/
theorem fieldsDefinition_sound (n : Nat) (s s' : PState) (t : Tok) (rest : List Tok) (w : TW s) (he : EofEnd s)
    (ht : Toks s = t :: rest) (hk : t.kind = .lCurly)
    (h : (fieldsDefinition n).run s = .ok () s') (hnd : ¬ Doomed s') : Cons s s' (LFields (bud s)) :=
  (accQ_fieldsDefinition n).cons w he (kindP_ofCons ht (by simp [hk])) h hnd

end Apollo.Parse.Exact
