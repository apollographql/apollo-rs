import ApolloModel.Proofs.ParserComplete10
/-
C05 / C07 (completeness), exact budget (namespace Apollo.Parse.Exact): `vdepth` charges the ITEMS of a list /
object, not the list, as the recursion guard in `value.rs` does.  Values — every well-formed value whose nesting
fits the recursion budget is consumed without error — then arguments and directives.
-/
set_option linter.unusedSimpArgs false
namespace Apollo.Parse.Exact
open Apollo.Rowan hiding Str
open Apollo.Lex hiding Str

def LVal (c : Bool) (b : Nat) (x : List Ast.Tok) : Prop :=
  ∃ v, x = Ast.tValue v ∧ valueOk c v = true ∧ vdepth v ≤ b

def ValComp (n : Nat) : Prop :=
  ∀ c p, Cmp (fun _ => True) (value n c p) (LVal c) (fun _ => True) (fun _ => True)

theorem kindOfA_ne_eof (a : Ast.Tok) : kindOfA a ≠ .eof := Parse.kindOfA_ne_eof a

/-! ### list values -/

theorem listLoop_comp (n : Nat) (c : Bool) (ih : ValComp n) :
    ∀ (fuel : Nat) (vs : Ast.Values) (s s' : PState) (cv : List Tok) (q0 : Tok) (rest : List Tok), TW s →
      (peekWhileLoop (listLoopBody n c) fuel).run s = .ok () s' → valuesOk c vs = true → vsdepth vs ≤ s.recLimit - s.recCur →
      Spells cv (Ast.tValues vs ++ [.p .rBracket]) → Toks s = cv ++ q0 :: rest → Sigf q0 →
      Eat s s' cv ∧ Toks s' = q0 :: rest := by
  intro fuel
  induction fuel with
  | zero => intro vs s s' cv q0 rest w hr; simp [peekWhileLoop, PI.outOfFuel] at hr
  | succ fuel ihl =>
  intro vs
  cases vs with
  | nil =>
    intro s s' cv q0 rest w hr _ _ hs ht hq
    have hfuel : True := trivial
    cases hfuel with
    | intro =>
      simp only [Ast.tValues, List.nil_append] at hs
      obtain ⟨t, i, rfl, hta, hi⟩ := spells_single hs
      unfold peekWhileLoop at hr
      obtain ⟨ko, sP, hp, h2⟩ := bind_dec peek _ s s' () hr
      obtain ⟨rfl, eP, htP, _⟩ := peek_head s sP ko t (i ++ q0 :: rest) w (by rw [ht]; simp) hp
      have hk : t.kind = .rBracket := kind_of_astOfV hta
      simp only [] at h2
      have h3 := getCurrent_dec _ sP s' () h2
      obtain ⟨b, sB, hb, h4⟩ := bind_dec (listLoopBody n c t.kind) _ sP s' () h3
      unfold listLoopBody at hb
      simp only [hk, beq_self_eq_true, if_true] at hb
      obtain ⟨_, sC, hc1, hc2⟩ := bind_dec (bump "R_BRACK") _ sP sB b hb
      rw [run_pure] at hc2
      injection hc2 with hb' hs'
      subst hb' hs'
      simp only [Bool.false_eq_true, if_false] at h4
      rw [run_pure] at h4
      injection h4 with _ h4
      subst h4
      obtain ⟨e, t2, _⟩ := cmp_bump "R_BRACK" sP sC () (t :: i) [.p .rBracket] q0 rest eP.w hc1 ⟨_, rfl⟩ hs (by rw [htP]; simp) hq trivial trivial
      exact ⟨by simpa using eP.trans e, t2⟩
  | cons v tl =>
    intro s s' cv q0 rest w hr hok hdep hs ht hq
    have hfuel : True := trivial
    cases hfuel with
    | intro =>
      simp only [valuesOk, Bool.and_eq_true] at hok
      simp only [vsdepth] at hdep
      simp only [Ast.tValues, List.append_assoc] at hs
      obtain ⟨a, xv, hxv, hnr, hne, _⟩ := tValue_head v
      obtain ⟨c1, c2, rfl, s1, s2⟩ := spells_split hs (by simp)
      obtain ⟨t, tl1, hc1, hta⟩ := spells_head (by rw [hxv] at s1; exact s1)
      obtain ⟨f, ftl, hc2, htf⟩ : ∃ f ftl, c2 = f :: ftl ∧ Sigf f := by
        cases c2 with
        | nil =>
          have := s2.1
          cases tl <;> simp [TokIs, sig, Ast.tValues] at this
        | cons u r => exact ⟨u, r, rfl, s2.2 u r rfl⟩
      unfold peekWhileLoop at hr
      obtain ⟨ko, sP, hp, h2⟩ := bind_dec peek _ s s' () hr
      obtain ⟨rfl, eP, htP, _⟩ := peek_head s sP ko t (tl1 ++ c2 ++ q0 :: rest) w (by rw [ht, hc1]; simp) hp
      have hk : t.kind = kindOfA a := kind_of_astOfV hta
      simp only [] at h2
      have h3 := getCurrent_dec _ sP s' () h2
      obtain ⟨b, sB, hb, h4⟩ := bind_dec (listLoopBody n c t.kind) _ sP s' () h3
      unfold listLoopBody at hb
      have hk1 : (t.kind == Kind.rBracket) = false := by rw [hk]; simpa using hnr
      have hk2 : (t.kind == Kind.eof) = false := by rw [hk]; simpa using hne
      simp only [hk1, hk2, Bool.false_eq_true, if_false] at hb
      have hbud : sP.recLimit - sP.recCur = s.recLimit - s.recCur := by rw [eP.recLimit, eP.recCur]
      -- the nested value under the recursion guard
      have hbody : Cmp (fun _ => True) (value n c true >>= fun _ => (pure true : PI Bool)) (LVal c) (fun _ => True) (fun b => b = true) := by
        have := cmp_bind (Hk := fun _ => True) (F := fun _ => True) (ih c true) (fun _ _ => cmp_pure (fun _ => True) (fun _ => True) true)
          (fun _ _ _ h => by cases h) (fun _ _ => trivial) (fun _ _ => trivial)
        exact this.mono (fun _ h => h) (fun b x h => ⟨x, [], by simp, h, rfl⟩) (fun _ h => h) (fun _ h => h)
      have hrec := cmp_withRec (Hk := fun _ => True) (limitErr >>= fun _ => (pure false : PI Bool)) _ hbody
        (L := fun b x => ∃ v', x = Ast.tValue v' ∧ valueOk c v' = true ∧ vdepth v' + 1 ≤ b)
        (by rintro b x ⟨v', rfl, hv1, hv2⟩; exact ⟨by omega, v', rfl, hv1, by omega⟩)
      obtain ⟨eB, tB, hbt⟩ := hrec sP sB b c1 (Ast.tValue v) f (ftl ++ q0 :: rest) eP.w hb
        ⟨v, rfl, hok.1, by rw [hbud]; omega⟩ s1 (by rw [htP, hc1, hc2]; simp) htf trivial trivial
      subst hbt
      simp only [if_true] at h4
      have h5 := getCurrent_dec _ sB s' () h4
      by_cases hsame : (sP.current == sB.current) = true
      · simp only [hsame, if_true] at h5
        exact absurd h5 (stuck_not_ok _ _ _)
      · simp only [hsame, Bool.false_eq_true, if_false] at h5
        have hbud2 : sB.recLimit - sB.recCur = s.recLimit - s.recCur := by rw [eB.recLimit, eB.recCur, hbud]
        obtain ⟨eR, tR⟩ := ihl tl sB s' c2 q0 rest eB.w h5 hok.2 (by rw [hbud2]; omega) s2 (by rw [tB, hc2]; simp) hq
        exact ⟨by simpa using (eP.trans eB).trans eR, tR⟩

def LList (c : Bool) (b : Nat) (x : List Ast.Tok) : Prop :=
  ∃ vs, x = .p .lBracket :: Ast.tValues vs ++ [.p .rBracket] ∧ valuesOk c vs = true ∧ vsdepth vs ≤ b

def LField (c : Bool) (b : Nat) (x : List Ast.Tok) : Prop :=
  ∃ nm v, x = .name nm :: .p .colon :: Ast.tValue v ∧ valueOk c v = true ∧ vdepth v + 1 ≤ b

def LObj (c : Bool) (b : Nat) (x : List Ast.Tok) : Prop :=
  ∃ fs, x = .p .lCurly :: Ast.tObjFields fs ++ [.p .rCurly] ∧ fieldsOk c fs = true ∧ fdepth fs ≤ b

def ListComp (n : Nat) : Prop := ∀ c, Cmp (fun _ => True) (listValue n c) (LList c) (fun _ => True) (fun _ => True)
def FieldComp (n : Nat) : Prop := ∀ c, Cmp (fun _ => True) (objectField n c) (LField c) (fun _ => True) (fun _ => True)
def ObjComp (n : Nat) : Prop := ∀ c, Cmp (fun _ => True) (objectValue n c) (LObj c) (fun _ => True) (fun _ => True)

theorem listValue_comp (n : Nat) (ih : ValComp n) : ListComp (n + 1) := by
  intro c
  rw [listValue_succ]
  refine cmp_withNode _ ?_
  intro s s' u cv x q0 rest w hr hl hs ht hq _ _
  obtain ⟨vs, rfl, hok, hdep⟩ := hl
  obtain ⟨t, i, c', rfl, hta, hi, hs'⟩ := spells_cons hs
  obtain ⟨f, ftl, hc', hsf⟩ : ∃ f ftl, c' = f :: ftl ∧ Sigf f := by
    cases c' with
    | nil =>
      have := hs'.1
      cases vs <;> simp [TokIs, sig, Ast.tValues] at this
    | cons a b => exact ⟨a, b, rfl, hs'.2 a b rfl⟩
  obtain ⟨_, s1, h1, h2⟩ := bind_dec (bump "L_BRACK") _ s s' u hr
  have hs1 : Spells (t :: i) [.p .lBracket] := by
    refine ⟨?_, by intro hd tl e; injection e with e _; subst e; exact sigf_of_astOfV hta⟩
    rw [sig_cons_ignV t i (sigf_of_astOfV hta) hi]
    exact TokIs.single t _ hta
  obtain ⟨e1, t1, _⟩ := cmp_bump "L_BRACK" s s1 () (t :: i) [.p .lBracket] f (ftl ++ q0 :: rest) w h1 ⟨_, rfl⟩ hs1
    (by rw [ht, hc']; simp) hsf trivial trivial
  unfold peekWhile at h2
  obtain ⟨fuel, h3⟩ := srcLen_dec _ s1 s' u h2
  have hbud : s1.recLimit - s1.recCur = s.recLimit - s.recCur := by rw [e1.recLimit, e1.recCur]
  obtain ⟨e2, t2⟩ := listLoop_comp n c ih _ vs s1 s' c' q0 rest e1.w h3 hok (by rw [hbud]; exact hdep) hs'
    (by rw [t1, hc']; simp) hq
  exact ⟨by simpa using e1.trans e2, t2, trivial⟩

theorem objectField_comp (n : Nat) (ih : ValComp n) : FieldComp (n + 1) := by
  intro c
  rw [objectField_succ]
  refine cmp_withNode _ ?_
  have hval : Cmp (fun _ => True) (withRec limitErr (value n c true))
      (fun b x => ∃ v, x = Ast.tValue v ∧ valueOk c v = true ∧ vdepth v + 1 ≤ b) (fun _ => True) (fun _ => True) :=
    cmp_withRec _ _ (ih c true) (by rintro b x ⟨v, rfl, h1, h2⟩; exact ⟨by omega, v, rfl, h1, by omega⟩)
  have htail : Cmp (fun _ => True) (peek >>= objectFieldTail n c)
      (fun b x => ∃ v, x = .p .colon :: Ast.tValue v ∧ valueOk c v = true ∧ vdepth v + 1 ≤ b) (fun _ => True) (fun _ => True) :=
    (cmp_tokThen (.p .colon) "COLON" hval).mono (fun _ h => h) (fun b x ⟨v, e, h⟩ => ⟨_, e, v, rfl, h⟩) (fun _ h => h) (fun _ h => h)
  have := cmp_bind (Hk := fun _ => True) (F := fun _ => True) cmp_name (fun _ _ => htail)
    (fun _ _ _ _ => trivial) (fun _ _ => trivial) (fun _ _ => trivial)
  refine this.mono (fun _ h => h) ?_ (fun _ h => h) (fun _ h => h)
  rintro b x ⟨nm, v, rfl, h1, h2⟩
  exact ⟨[.name nm], .p .colon :: Ast.tValue v, rfl, ⟨nm, rfl⟩, v, rfl, h1, h2⟩

theorem fieldItems_ok (c : Bool) (b : Nat) : ∀ fs, fieldsOk c fs = true → fdepth fs ≤ b → ∀ i ∈ fieldItems fs, LField c b i
  | .nil, _, _ => by intro i hi; cases hi
  | .cons nm v tl, hok, hd => by
    simp only [fieldsOk, Bool.and_eq_true] at hok
    simp only [fdepth] at hd
    intro i hi
    simp only [fieldItems, List.mem_cons] at hi
    rcases hi with rfl | hi
    · exact ⟨nm, v, rfl, hok.1, by omega⟩
    · exact fieldItems_ok c b tl hok.2 (by omega) i hi

theorem objectValue_comp (n : Nat) (ih : FieldComp n) : ObjComp (n + 1) := by
  intro c
  rw [objectValue_succ]
  refine cmp_withNode _ ?_
  intro s s' u cv x q0 rest w hr hl hs ht hq _ _
  obtain ⟨fs, rfl, hok, hdep⟩ := hl
  obtain ⟨t, i, c', rfl, hta, hi, hs'⟩ := spells_cons hs
  obtain ⟨cf, cb, rfl, sf, sb⟩ : ∃ cf cb, c' = cf ++ cb ∧ Spells cf (Ast.tObjFields fs) ∧ Spells cb [.p .rCurly] := by
    exact spells_split hs' (by simp)
  obtain ⟨tb, ib, rfl, htb, hib⟩ := spells_single sb
  obtain ⟨f, ftl, hcf, hsf⟩ : ∃ f ftl, cf ++ tb :: ib = f :: ftl ∧ Sigf f := by
    cases cf with
    | nil => exact ⟨tb, ib, rfl, sigf_of_astOfV htb⟩
    | cons a b => exact ⟨a, b ++ tb :: ib, rfl, sf.2 a b rfl⟩
  obtain ⟨_, s1, h1, h2⟩ := bind_dec (bump "L_CURLY") _ s s' u hr
  have hs1 : Spells (t :: i) [.p .lCurly] := by
    refine ⟨?_, by intro hd tl e; injection e with e _; subst e; exact sigf_of_astOfV hta⟩
    rw [sig_cons_ignV t i (sigf_of_astOfV hta) hi]
    exact TokIs.single t _ hta
  obtain ⟨e1, t1, _⟩ := cmp_bump "L_CURLY" s s1 () (t :: i) [.p .lCurly] f (ftl ++ q0 :: rest) w h1 ⟨_, rfl⟩ hs1
    (by rw [ht]; have := congrArg (· ++ q0 :: rest) hcf; simp at this; simp [this]) hsf trivial trivial
  obtain ⟨_, s2, h3, h4⟩ := bind_dec (peekWhileKind .name (objectField n c)) _ s1 s' u h2
  unfold peekWhileKind at h3
  obtain ⟨fuel, h5⟩ := srcLen_dec _ s1 s2 () h3
  have hbud : s1.recLimit - s1.recCur = s.recLimit - s.recCur := by rw [e1.recLimit, e1.recCur]
  have hkb : tb.kind = .rCurly := kind_of_astOfV htb
  obtain ⟨e2, t2⟩ := cmp_kindWhileLoop .name (objectField n c) (LField c) (fun _ => True) (ih c)
    (by rintro b x ⟨nm, v, rfl, _, _⟩; exact ⟨_, _, rfl, rfl⟩) trivial (fieldItems fs) _ s1 s2 cf tb (ib ++ q0 :: rest) e1.w h5
    (by rw [hbud]; exact fieldItems_ok c _ fs hok hdep) (by rw [fieldItems_flatten]; exact sf)
    (by rw [t1]; have := congrArg (· ++ q0 :: rest) hcf; simp at this; simp [this]) (sigf_of_astOfV htb) (by rw [hkb]; decide) trivial
  obtain ⟨e3, t3, _⟩ := cmp_expect .rCurly "R_CURLY" s2 s' u (tb :: ib) [.p .rCurly] q0 rest e2.w h4 ⟨_, rfl, rfl⟩ sb
    (by rw [t2]; simp) hq trivial trivial
  exact ⟨by simpa [List.append_assoc] using (e1.trans e2).trans e3, t3, trivial⟩

theorem value_comp_step (n : Nat) (hlist : ListComp n) (hobj : ObjComp n) : ValComp (n + 1) := by
  intro c p
  rw [value_succ]
  apply cmp_peek
  intro k _ s s' u cc x q0 rest w hr hl hs ht hq hf hk
  obtain ⟨v, rfl, hok, hd⟩ := hl
  obtain ⟨a, xv, hxv, _⟩ := tValue_head v
  obtain ⟨t, tl, hcc, hta⟩ := spells_head (by rw [hxv] at hs; exact hs)
  have hkk : k = kindOfA a := by
    rw [← hk, hcc]; simp only [headK]; exact kind_of_astOfV hta
  subst hkk
  have nb : ∀ (K sk : SK) (a0 : Ast.Tok) (m : PI Unit), m = withNode K (bump sk) → Ast.tValue v = [a0] →
      m.run s = .ok u s' → Eat s s' cc ∧ Toks s' = q0 :: rest ∧ True := by
    intro K sk a0 m hm hx hrun
    subst hm
    exact cmp_nodeBump K sk s s' u cc _ q0 rest w hrun ⟨a0, hx⟩ hs ht hq trivial trivial
  have nv : ∀ (nm : Ast.Str), Ast.tValue v = [.name nm] → a = .name nm →
      (valueBranch n c p (some (kindOfA a))).run s = .ok u s' → Eat s s' cc ∧ Toks s' = q0 :: rest ∧ True := by
    intro nm hx ha hrun
    subst ha
    exact cmp_nameValue s s' u cc _ q0 rest w hrun ⟨nm, hx⟩ hs ht hq trivial trivial
  cases v with
  | null => simp only [Ast.tValue, List.cons.injEq] at hxv; exact nv _ rfl hxv.1.symm hr
  | bool bb => cases bb <;> (simp only [Ast.tValue, List.cons.injEq] at hxv; exact nv _ rfl hxv.1.symm hr)
  | enum nm => simp only [Ast.tValue, List.cons.injEq] at hxv; exact nv _ rfl hxv.1.symm hr
  | str sv =>
    simp only [Ast.tValue, List.cons.injEq] at hxv
    obtain ⟨rfl, _⟩ := hxv
    exact nb "STRING_VALUE" "STRING" _ _ rfl rfl hr
  | float sv =>
    simp only [Ast.tValue, List.cons.injEq] at hxv
    obtain ⟨rfl, _⟩ := hxv
    exact nb "FLOAT_VALUE" "FLOAT" _ _ rfl rfl hr
  | int sv =>
    simp only [Ast.tValue, List.cons.injEq] at hxv
    obtain ⟨rfl, _⟩ := hxv
    exact nb "INT_VALUE" "INT" _ _ rfl rfl hr
  | var nm =>
    simp only [Ast.tValue, List.cons.injEq] at hxv
    obtain ⟨rfl, _⟩ := hxv
    have hc : c = false := by simpa [valueOk] using hok
    subst hc
    have hr' : variableNode.run s = .ok u s' := hr
    exact cmp_variableNode s s' u cc _ q0 rest w hr' ⟨nm, rfl⟩ hs ht hq trivial trivial
  | list vs =>
    simp only [Ast.tValue, List.cons.injEq] at hxv
    obtain ⟨rfl, _⟩ := hxv
    have hr' : (listValue n c).run s = .ok u s' := hr
    exact hlist c s s' u cc _ q0 rest w hr' ⟨vs, rfl, by simpa [valueOk] using hok, by simpa [vdepth] using hd⟩ hs ht hq trivial trivial
  | obj fs =>
    simp only [Ast.tValue, List.cons.injEq] at hxv
    obtain ⟨rfl, _⟩ := hxv
    have hr' : (objectValue n c).run s = .ok u s' := hr
    exact hobj c s s' u cc _ q0 rest w hr' ⟨fs, rfl, by simpa [valueOk] using hok, by simpa [vdepth] using hd⟩ hs ht hq trivial trivial

theorem value_all_comp : ∀ n, ValComp n ∧ ListComp n ∧ ObjComp n ∧ FieldComp n
  | 0 => ⟨by intro c p; unfold value; exact cmp_outOfFuel, by intro c; unfold listValue; exact cmp_outOfFuel,
          by intro c; unfold objectValue; exact cmp_outOfFuel, by intro c; unfold objectField; exact cmp_outOfFuel⟩
  | n + 1 => by
    obtain ⟨a, b, c, d⟩ := value_all_comp n
    exact ⟨value_comp_step n b c, listValue_comp n a, objectValue_comp n d, objectField_comp n a⟩

/-- **`value.rs::value` is complete**: every well-formed value (`c`, the constant context: no variables) whose list /
    object nesting is within the remaining recursion budget, spelled with ignored tokens after any token and
    followed by any significant token, is consumed exactly and without error -/
theorem value_complete (n : Nat) (c p : Bool) : Cmp (fun _ => True) (value n c p) (LVal c) (fun _ => True) (fun _ => True) :=
  (value_all_comp n).1 c p

def LArg (c : Bool) (b : Nat) (x : List Ast.Tok) : Prop :=
  ∃ nm v, x = .name nm :: .p .colon :: Ast.tValue v ∧ valueOk c v = true ∧ vdepth v ≤ b

theorem cmp_argument (n : Nat) (c : Bool) : Cmp (fun _ => True) (argument n c) (LArg c) (fun _ => True) (fun _ => True) := by
  rw [argument_eq]
  refine cmp_withNode _ ?_
  have htail : Cmp (fun _ => True) (peek >>= argumentTail n c)
      (fun b x => ∃ v, x = .p .colon :: Ast.tValue v ∧ valueOk c v = true ∧ vdepth v ≤ b) (fun _ => True) (fun _ => True) :=
    (cmp_tokThen (.p .colon) "COLON" (value_complete n c false)).mono (fun _ h => h) (fun b x ⟨v, e, h⟩ => ⟨_, e, v, rfl, h⟩) (fun _ h => h) (fun _ h => h)
  have := cmp_bind (Hk := fun _ => True) (F := fun _ => True) cmp_name (fun _ _ => htail)
    (fun _ _ _ _ => trivial) (fun _ _ => trivial) (fun _ _ => trivial)
  refine this.mono (fun _ h => h) ?_ (fun _ h => h) (fun _ h => h)
  rintro b x ⟨nm, v, rfl, h1, h2⟩
  exact ⟨[.name nm], .p .colon :: Ast.tValue v, rfl, ⟨nm, rfl⟩, v, rfl, h1, h2⟩

theorem argItems_ok (c : Bool) (b : Nat) : ∀ args, argsFit c b args → ∀ i ∈ argItems args, LArg c b i
  | [], _ => by intro i hi; cases hi
  | a :: r, h => by
    intro i hi
    simp only [argItems, List.mem_cons] at hi
    rcases hi with rfl | hi
    · exact ⟨a.1, a.2, rfl, (h a (by simp)).1, (h a (by simp)).2⟩
    · exact argItems_ok c b r (fun x hx => h x (by simp [hx])) i hi

def LArgs (c : Bool) (b : Nat) (x : List Ast.Tok) : Prop :=
  ∃ args, args ≠ [] ∧ x = Ast.tArguments args ∧ argsFit c b args

/-- **`arguments` is complete**: `( Name : Value … )` with at least one argument -/
theorem arguments_complete (n : Nat) (c : Bool) : Cmp (fun _ => True) (arguments n c) (LArgs c) (fun _ => True) (fun _ => True) := by
  rw [arguments_eq]
  refine cmp_withNode _ ?_
  intro s s' u cv x q0 rest w hr hl hs ht hq _ _
  obtain ⟨args, hne, rfl, hfit⟩ := hl
  cases args with
  | nil => exact absurd rfl hne
  | cons a0 ar =>
  have hx : Ast.tArguments (a0 :: ar) = .p .lParen :: ((.name a0.1 :: .p .colon :: Ast.tValue a0.2) ++ (Ast.tArgItems ar ++ [.p .rParen])) := by
    simp [Ast.tArguments, Ast.tArgItems]
  rw [hx] at hs
  obtain ⟨t, i, c', rfl, hta, hi, hs'⟩ := spells_cons hs
  obtain ⟨c1, c23, rfl, s1, s23⟩ := spells_split hs' (by simp)
  obtain ⟨c2, c3, rfl, s2, s3⟩ : ∃ c2 c3, c23 = c2 ++ c3 ∧ Spells c2 (Ast.tArgItems ar) ∧ Spells c3 [.p .rParen] :=
    spells_split s23 (by simp)
  obtain ⟨tb, ib, rfl, htb, hib⟩ := spells_single s3
  obtain ⟨t1, tl1, hc1, hta1⟩ := spells_head s1
  have hkb : tb.kind = .rParen := kind_of_astOfV htb
  obtain ⟨f, ftl, hcf, hsf⟩ : ∃ f ftl, c2 ++ tb :: ib = f :: ftl ∧ Sigf f := by
    cases c2 with
    | nil => exact ⟨tb, ib, rfl, sigf_of_astOfV htb⟩
    | cons a b => exact ⟨a, b ++ tb :: ib, rfl, s2.2 a b rfl⟩
  have hcf' : c2 ++ tb :: (ib ++ q0 :: rest) = f :: (ftl ++ q0 :: rest) := by
    have := congrArg (· ++ q0 :: rest) hcf; simpa using this
  obtain ⟨_, sA, h1, h2⟩ := bind_dec (bump "L_PAREN") _ s s' u hr
  have hs1 : Spells (t :: i) [.p .lParen] := by
    refine ⟨?_, by intro hd tl e; injection e with e _; subst e; exact sigf_of_astOfV hta⟩
    rw [sig_cons_ignV t i (sigf_of_astOfV hta) hi]
    exact TokIs.single t _ hta
  obtain ⟨e1, tA, _⟩ := cmp_bump "L_PAREN" s sA () (t :: i) [.p .lParen] t1 (tl1 ++ (c2 ++ tb :: ib) ++ q0 :: rest) w h1 ⟨_, rfl⟩ hs1
    (by rw [ht, hc1]; simp) (sigf_of_astOfV hta1) trivial trivial
  -- the first argument
  obtain ⟨ko, sP, hp, h3⟩ := bind_dec peek _ sA s' u h2
  obtain ⟨rfl, eP, htP, _⟩ := peek_head sA sP ko t1 _ e1.w tA hp
  have hk1 : t1.kind = .name := kind_of_astOfV hta1
  unfold argumentsFirst at h3
  simp only [hk1, beq_self_eq_true, if_true] at h3
  obtain ⟨_, sB, h4, h5⟩ := bind_dec (argument n c) _ sP s' u h3
  have hbP : sP.recLimit - sP.recCur = s.recLimit - s.recCur := by rw [eP.recLimit, eP.recCur, e1.recLimit, e1.recCur]
  obtain ⟨eB, tB, _⟩ := cmp_argument n c sP sB () c1 _ f (ftl ++ q0 :: rest) eP.w h4
    ⟨a0.1, a0.2, rfl, (hfit a0 (by simp)).1, by rw [hbP]; exact (hfit a0 (by simp)).2⟩ s1
    (by rw [htP, hc1]; simp [hcf']) hsf trivial trivial
  -- the remaining arguments and the closing parenthesis
  unfold argumentsRest at h5
  obtain ⟨_, sC, h6, h7⟩ := bind_dec (peekWhileKind .name (argument n c)) _ sB s' u h5
  unfold peekWhileKind at h6
  obtain ⟨fuel, h8⟩ := srcLen_dec _ sB sC () h6
  have hbB : sB.recLimit - sB.recCur = s.recLimit - s.recCur := by rw [eB.recLimit, eB.recCur, hbP]
  obtain ⟨eC, tC⟩ := cmp_kindWhileLoop .name (argument n c) (LArg c) (fun _ => True) (cmp_argument n c)
    (by rintro b x ⟨nm, v, rfl, _, _⟩; exact ⟨_, _, rfl, rfl⟩) trivial (argItems ar) _ sB sC c2 tb (ib ++ q0 :: rest) eB.w h8
    (by rw [hbB]; exact argItems_ok c _ ar (fun x hx => hfit x (by simp [hx]))) (by rw [argItems_flatten]; exact s2)
    (by rw [tB]; exact hcf'.symm) (sigf_of_astOfV htb) (by rw [hkb]; decide) trivial
  obtain ⟨eD, tD, _⟩ := cmp_expect .rParen "R_PAREN" sC s' u (tb :: ib) [.p .rParen] q0 rest eC.w h7 ⟨_, rfl, rfl⟩ s3
    (by rw [tC]; simp) hq trivial trivial
  exact ⟨by simpa [List.append_assoc] using (((e1.trans eP).trans eB).trans eC).trans eD, tD, trivial⟩

/-! ### directives -/

def LDirTail (c : Bool) (b : Nat) (x : List Ast.Tok) : Prop :=
  ∃ args, x = Ast.tArguments args ∧ argsFit c b args

/-- the optional arguments of a directive; when they are absent the next token must not be `(` -/
theorem cmp_directiveTail (n : Nat) (c : Bool) :
    Cmp (fun _ => True) (peek >>= directiveTail n c) (LDirTail c) (fun k => k ≠ .lParen) (fun _ => True) := by
  intro s s' a cv x q0 rest w hr hl hs ht hq hf hk
  obtain ⟨args, rfl, hfit⟩ := hl
  by_cases hne : args = []
  · subst hne
    have hA : Cmp (fun _ => True) (peek >>= directiveTail n c) (fun _ x => x = []) (fun k => k ≠ .lParen) (fun _ => True) := by
      apply cmp_peek
      intro k _
      unfold directiveTail
      apply cmp_ite
      · intro hk
        apply cmp_absurd
        rintro b x cc q1 rfl hs hf hkk
        have := spells_nil_inv hs
        subst this
        simp only [headK] at hkk
        rw [← hkk] at hk
        simp at hk
        exact hf hk
      · intro _
        exact (cmp_pure _ _ ()).mono (fun _ h => h) (fun _ _ h => h) (fun _ h => h) (fun _ _ => trivial)
    exact hA s s' a cv _ q0 rest w hr (by simp [Ast.tArguments]) hs ht hq hf trivial
  · have hB : Cmp (fun _ => True) (peek >>= directiveTail n c) (LArgs c) (fun _ => True) (fun _ => True) := by
      apply cmp_peek
      intro k _
      unfold directiveTail
      apply cmp_ite
      · intro _
        exact (arguments_complete n c).mono (fun _ _ => trivial) (fun _ _ h => h) (fun _ h => h) (fun _ h => h)
      · intro hk
        apply cmp_absurd
        rintro b x cc q1 ⟨args, hne, rfl, _⟩ hs _ hkk
        cases args with
        | nil => exact hne rfl
        | cons a0 ar =>
        have hx : Ast.tArguments (a0 :: ar) = .p .lParen :: (Ast.tArgItems (a0 :: ar) ++ [.p .rParen]) := by simp [Ast.tArguments]
        rw [hx] at hs
        obtain ⟨t, tl, rfl, hta⟩ := spells_head hs
        simp only [headK] at hkk
        rw [kind_of_astOfV hta] at hkk
        simp [← hkk, kindOfA] at hk
    exact hB s s' a cv _ q0 rest w hr ⟨args, hne, rfl, hfit⟩ hs ht hq trivial trivial

def LDir (c : Bool) (b : Nat) (x : List Ast.Tok) : Prop :=
  ∃ d : Ast.Directive, x = .p .at :: .name d.name :: Ast.tArguments d.args ∧ argsFit c b d.args

theorem cmp_directive (n : Nat) (c : Bool) :
    Cmp (fun _ => True) (directive n c) (LDir c) (fun k => k ≠ .lParen) (fun _ => True) := by
  rw [directive_eq]
  refine cmp_withNode _ ?_
  have h2 := cmp_bind (Hk := fun _ => True) (F := fun k => k ≠ .lParen) (F1 := fun _ => True) cmp_name (fun _ _ => cmp_directiveTail n c)
    (fun _ _ _ _ => trivial) (fun _ _ => trivial) (fun _ h => h)
  have h1 := cmp_bind (Hk := fun _ => True) (F := fun k => k ≠ .lParen) (F1 := fun _ => True) (cmp_expect .at "AT") (fun _ _ => h2)
    (fun _ _ _ _ => trivial) (fun _ _ => trivial) (fun _ h => h)
  refine h1.mono (fun _ h => h) ?_ (fun _ h => h) (fun _ h => h)
  rintro b x ⟨d, rfl, hfit⟩
  exact ⟨[.p .at], .name d.name :: Ast.tArguments d.args, rfl, ⟨_, rfl, rfl⟩, [.name d.name], Ast.tArguments d.args, rfl, ⟨_, rfl⟩, d.args, rfl, hfit⟩

theorem dirItems_ok (c : Bool) (b : Nat) : ∀ ds, dirsFit c b ds → ∀ i ∈ dirItems ds, LDir c b i
  | [], _ => by intro i hi; cases hi
  | d :: r, h => by
    intro i hi
    simp only [dirItems, List.mem_cons] at hi
    rcases hi with rfl | hi
    · exact ⟨d, rfl, h d (by simp)⟩
    · exact dirItems_ok c b r (fun x hx => h x (by simp [hx])) i hi

def LDirs (c : Bool) (b : Nat) (x : List Ast.Tok) : Prop :=
  ∃ ds, x = Ast.tDirectives ds ∧ dirsFit c b ds

/-- **`directives` is complete** (possibly empty list); the follow token is neither `@` nor `(` -/
theorem directives_complete (n : Nat) (c : Bool) :
    Cmp (fun _ => True) (directives n c) (LDirs c) (fun k => k ≠ .at ∧ k ≠ .lParen) (fun _ => True) := by
  unfold directives
  refine cmp_withNode _ ?_
  intro s s' u cv x q0 rest w hr hl hs ht hq hf _
  obtain ⟨ds, rfl, hfit⟩ := hl
  unfold peekWhileKind at hr
  obtain ⟨fuel, h8⟩ := srcLen_dec _ s s' () hr
  obtain ⟨e, t⟩ := cmp_kindWhileLoop .at (directive n c) (LDir c) (fun k => k ≠ .lParen) (cmp_directive n c)
    (by rintro b x ⟨d, rfl, _⟩; exact ⟨_, _, rfl, rfl⟩) (by decide) (dirItems ds) _ s s' cv q0 rest w h8
    (dirItems_ok c _ ds hfit) (by rw [dirItems_flatten]; exact hs) ht hq hf.1 hf.2
  exact ⟨e, t, trivial⟩

end Apollo.Parse.Exact
