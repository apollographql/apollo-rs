import ApolloModel.Proofs.ParserDef10
/-
C05, type-system definitions: implements_interfaces, union_member_types, directive_locations.
-/
set_option linter.unusedSimpArgs false
namespace Apollo.Parse
open Apollo.Rowan hiding Str
open Apollo.Lex hiding Str

theorem acc_namedTypeAtName {E : PState → Prop} (hE : Early E) :
    Acc E (KindP (· == .name)) namedType (fun _ x => ∃ nm, x = [.name nm]) := by
  unfold namedType
  apply acc_peek
  intro k
  apply acc_ite
  · intro _
    exact (acc_withNodeAny hE "NAMED_TYPE" (acc_name (H := fun _ => True))).mono (fun _ _ => trivial) (fun _ _ h => h)
  · intro hk
    refine acc_absurd (good_pure ()) ?_
    rintro q ⟨⟨t, hh, hp⟩, h2⟩
    rw [hh] at h2
    subst h2
    simp at hk hp
    exact hk hp

/-- the item of the `&` and `|` lists: a named type, which must be there -/
def nameItem : PI Unit := peek >>= fun k => if k == some .name then namedType else err

theorem acc_nameItem {E : PState → Prop} (hE : Early E) {H : List Tok → Prop} :
    Acc E H nameItem (fun _ x => ∃ nm, x = [.name nm] ∧ True) := by
  unfold nameItem
  exact acc_ifKind .name _ _ _ ((acc_namedTypeAtName hE).mono (fun _ h => h) (fun _ _ ⟨nm, h⟩ => ⟨nm, h, trivial⟩)) acc_err

theorem kwWord_sig {word : String} (hw : KwWord word) :
    ∀ q, (LexQ q ∧ HeadData word q) → ∃ t rest, q = t :: rest ∧ isIgnoredKind t.kind = false := by
  rintro q ⟨hl, t, hh, hd⟩
  obtain ⟨c, r, hw1, hw2⟩ := hw
  have hk := hl.headKw hh word c r hw1 hw2 hd
  cases q with
  | nil => cases hh
  | cons a b =>
    simp only [List.head?_cons, Option.some.injEq] at hh
    subst hh
    exact ⟨a, b, rfl, by rw [hk]; rfl⟩

theorem kwWord_implements : KwWord "implements" := ⟨'i', "mplements".toList, rfl, by decide⟩

theorem implementsInterfaces_eq : implementsInterfaces = withNode "IMPLEMENTS_INTERFACES"
    (bump "implements_KW" >>= fun _ => parseSeparatedList .amp "AMP" nameItem) := rfl

/-- **`object.rs::implements_interfaces`** entered on the `implements` keyword:
    `implements &? Name (& Name)*`. -/
theorem acc_implementsInterfaces {E : PState → Prop} (hE : Early E) :
    Acc E (fun q => LexQ q ∧ HeadData "implements" q) implementsInterfaces
      (fun _ x => ∃ lead first rest, x = .name Ast.sImplements :: tSepLead .amp lead first rest) := by
  rw [implementsInterfaces_eq]
  refine acc_withNode hE _ (kwWord_sig kwWord_implements) ?_
  refine (acc_bind hE (accL_bumpKw "implements" kwWord_implements "implements_KW")
    (fun _ => acc_sepList hE .amp "AMP" .amp (by intro t ht; simp [astOfV, ht]) rfl (by decide) nameItem (fun _ => True)
      (acc_nameItem hE))).mono (fun _ h => h) ?_
  rintro _ x ⟨_, x1, x2, e, h1, lead, first, rest, h2, _, _⟩
  exact ⟨lead, first, rest, by rw [e, h1, h2]; rfl⟩

theorem unionMemberTypes_eq : unionMemberTypes = withNode "UNION_MEMBER_TYPES"
    (bump "EQ" >>= fun _ => parseSeparatedList .pipe "PIPE" nameItem) := rfl

theorem eq_sig : ∀ k : Kind, (k == Kind.eq) = true → isIgnoredKind k = false := kindEq_sig rfl

/-- **`union_.rs::union_member_types`** entered on `=`: `= |? Name (| Name)*`. -/
theorem acc_unionMemberTypes {E : PState → Prop} (hE : Early E) :
    Acc E (KindP (· == .eq)) unionMemberTypes
      (fun _ x => ∃ lead first rest, x = .p .eq :: tSepLead .pipe lead first rest) := by
  rw [unionMemberTypes_eq]
  refine acc_withNode hE _ (kindP_sig _ eq_sig) ?_
  refine (acc_bind hE (acc_bumpKind .eq "EQ" (.p .eq) (by intro t ht; simp [astOfV, ht]) rfl (by decide))
    (fun _ => acc_sepList hE .pipe "PIPE" .pipe (by intro t ht; simp [astOfV, ht]) rfl (by decide) nameItem (fun _ => True)
      (acc_nameItem hE))).mono (fun _ h => h) ?_
  rintro _ x ⟨_, x1, x2, e, h1, lead, first, rest, h2, _, _⟩
  exact ⟨lead, first, rest, by rw [e, h1, h2]; rfl⟩

def IsDirLoc (nm : Str) : Prop := nm ∈ directiveLocationKeywords.map String.toList

/-- **`directive.rs::directive_location`**: one of the nineteen location names -/
theorem acc_directiveLocation {E : PState → Prop} (hE : Early E) {H : List Tok → Prop} :
    Acc E H directiveLocation (fun _ x => ∃ nm, x = [.name nm] ∧ IsDirLoc nm) := by
  apply acc_nonempty
  unfold directiveLocation
  apply acc_peekToken
  intro o
  cases o with
  | none =>
    refine acc_absurd (good_pure ()) ?_
    rintro q ⟨⟨_, hne⟩, h2⟩
    cases q with
    | nil => exact hne rfl
    | cons a b => cases h2
  | some t =>
    simp only []
    apply acc_ite
    · intro hk
      have hk' : t.kind = .name := by simpa using hk
      split
      · rename_i k hf
        have hkw : t.data = k.toList := by
          have := List.find?_some hf
          simpa [kw] using this
        have hmem : k ∈ directiveLocationKeywords := List.mem_of_find?_eq_some hf
        refine acc_withNode hE _ ?_ ?_
        · rintro q ⟨_, hq⟩
          cases q with
          | nil => cases hq
          | cons a b =>
            simp only [List.head?_cons, Option.some.injEq] at hq
            subst hq
            exact ⟨a, b, rfl, by rw [hk']; rfl⟩
        · refine (acc_bump _ (fun t' => t' = t) (fun x => x = [.name k.toList]) ?_).mono ?_
            (fun _ x h => ⟨k.toList, h, List.mem_map.mpr ⟨k, hmem, rfl⟩⟩)
          · rintro t' rfl
            exact ⟨by rw [hk']; rfl, by rw [hk']; decide, _, by simp [astOfV, hk', hkw], rfl⟩
          · rintro q ⟨_, hq⟩
            exact ⟨t, hq, rfl⟩
      · exact acc_err
    · intro _; exact acc_err

/-- **`directive.rs::directive_locations`**: `|? Location (| Location)*`. -/
theorem acc_directiveLocations {E : PState → Prop} (hE : Early E) {H : List Tok → Prop} :
    Acc E H directiveLocations
      (fun _ x => ∃ lead first rest, x = tSepLead .pipe lead first rest ∧ IsDirLoc first ∧ ∀ r ∈ rest, IsDirLoc r) := by
  unfold directiveLocations
  exact acc_sepList hE .pipe "PIPE" .pipe (by intro t ht; simp [astOfV, ht]) rfl (by decide) directiveLocation IsDirLoc
    (acc_directiveLocation hE)

end Apollo.Parse
