import ApolloModel.Proofs.AstText8
import ApolloModel.Proofs.LexerTokens
import ApolloModel.Proofs.StringsBlock3
/-
Property C08, text level: numbers in the grammar's own terms (IsIntValue / IsFloatValue, via the C03
completeness theorems) and string literals in the quoted form lex back to their tokens.
-/
namespace Apollo.Ast
open Apollo.Lex (advance Item Kind isNameStart isNameContinue isAsciiDigit lex_int_complete lex_float_complete
  lex_string_complete LexStringChars D NS lexDigit_iff lexNameStart_iff specDigit_false_iff specNameStart_false_iff)
open Apollo.Spec.Lexical (IsIntValue IsFloatValue IsIntegerPart NumberLookaheadOk IsNegativeSignOpt)

theorem lookahead_of_follow (rest : Str) (h : FollowOk .num rest) : NumberLookaheadOk rest := by
  cases rest with
  | nil => trivial
  | cons c r =>
    obtain ⟨h1, h2, _, _, h5⟩ := follow_num c h
    refine ⟨(specDigit_false_iff c).mpr ?_, by simpa using h5, (specNameStart_false_iff c).mpr ?_⟩
    · intro hd; rw [(lexDigit_iff c).mpr hd] at h1; cases h1
    · intro hn; rw [(lexNameStart_iff c).mpr hn] at h2; cases h2

theorem intPart_head (i : Str) (h : IsIntegerPart i) : ∃ c r, i = c :: r ∧ (isAsciiDigit c = true ∨ c = '-') := by
  obtain ⟨neg, ds, rfl, hneg, hds⟩ := h
  have hds' : ∃ d r, ds = d :: r ∧ isAsciiDigit d = true := by
    rcases hds with hz | ⟨d, rest, hd, hnz, _⟩
    · exact ⟨'0', [], hz, by decide⟩
    · refine ⟨d, rest, hd, (lexDigit_iff d).mpr ?_⟩
      have := (Lex.specNonZero_iff d).mp hnz
      exact ⟨by omega, this.2⟩
  rcases hneg with hn | hn
  · subst hn
    obtain ⟨d, r, hd, hdig⟩ := hds'
    exact ⟨d, r, by simp [hd], .inl hdig⟩
  · subst hn
    exact ⟨'-', ds, by simp, .inr rfl⟩

theorem headOk_num_of_intPart (i tail : Str) (h : IsIntegerPart i) : HeadOk .num (i ++ tail) := by
  obtain ⟨c, r, rfl, hc⟩ := intPart_head i h
  simp only [List.cons_append, HeadOk, headChar, digit_not_ignored c hc, Bool.not_false, Bool.true_and,
    Bool.or_eq_true, beq_iff_eq]
  exact hc

/-- **IntValue tokens lex back** (the grammar's IntValue, C03 `lex_int_complete`) -/
theorem tokOk_int_spec (t : Str) (h : IsIntValue t) : TokOk (.int t) t := by
  refine ⟨by have := headOk_num_of_intPart t [] h; simp only [List.append_nil] at this; exact this, ?_⟩
  intro rest hf
  exact ⟨.int, t, lex_int_complete t rest h (lookahead_of_follow rest hf), rfl⟩

theorem intLit_spec (s : Str) (h : wfIntLit s = true) : IsIntValue s := by
  have nat : ∀ r, wfNatLit r = true → IsIntegerPart r ∧ ∀ x xs, r = x :: xs → x ≠ '-' := by
    intro r hr
    cases r with
    | nil => simp [wfNatLit] at hr
    | cons c r =>
      by_cases hz : c = '0'
      · subst hz
        cases r with
        | nil => exact ⟨⟨[], ['0'], rfl, .inl rfl, .inl rfl⟩, by simp⟩
        | cons x xs => simp [wfNatLit] at hr
      · have hr' : isAsciiDigit c = true ∧ ∀ d ∈ r, isAsciiDigit d = true := by
          cases r <;> simp_all [wfNatLit]
        have hc : 48 ≤ c.toNat ∧ c.toNat ≤ 57 := (lexDigit_iff c).mp hr'.1
        have h48 : c.toNat ≠ 48 := fun e => hz (by rw [← Char.ofNat_toNat c, e])
        refine ⟨⟨[], c :: r, rfl, .inl rfl, .inr ⟨c, r, rfl, (Lex.specNonZero_iff c).mpr ⟨by omega, hc.2⟩, ?_⟩⟩, ?_⟩
        · rw [List.all_eq_true]
          exact fun d hd => (Lex.specDigit_iff d).mpr ((lexDigit_iff d).mp (hr'.2 d hd))
        · intro x xs e hx
          cases e
          subst hx
          exact absurd hc.1 (by decide)
  unfold wfIntLit at h
  split at h
  · obtain ⟨neg, ds, rfl, hneg, hds⟩ := (nat _ h).1
    rcases hneg with rfl | rfl
    · exact ⟨['-'], ds, rfl, .inr rfl, hds⟩
    · exact absurd rfl ((nat _ h).2 '-' _ rfl)
  · exact (nat s h).1

theorem tokOk_int (s : Str) (h : wfIntLit s = true) : TokOk (.int s) s := tokOk_int_spec s (intLit_spec s h)

theorem numbersLex_doc (pre : Option Str) (level : Nat) (doc : Document)
    (hint : IntsWf (docSegs pre level doc)) (hfl : FloatsLex (docSegs pre level doc)) :
    NumbersLex (docSegs pre level doc) := by
  intro t x hm hc
  cases t with
  | int s =>
    rcases render_tok_text _ _ _ x hm with hx | hs
    · rw [hx]; exact tokOk_int s (hint s x hm)
    · simp [clsTok] at hs
  | float s => exact hfl s x hm
  | name n => simp [clsTok] at hc
  | str s => simp [clsTok] at hc
  | p k => cases k <;> simp [clsTok] at hc

/-- **FloatValue tokens lex back** (C03 `lex_float_complete`) -/
theorem tokOk_float_spec (t : Str) (h : IsFloatValue t) : TokOk (.float t) t := by
  refine ⟨?_, ?_⟩
  · obtain ⟨i, f, e, rfl, hi, _⟩ := h
    have := headOk_num_of_intPart i (f ++ e) hi
    simp only [← List.append_assoc] at this
    exact this
  · intro rest hf
    exact ⟨.float, t, lex_float_complete t rest h (lookahead_of_follow rest hf), rfl⟩

/-! ### the quoted form -/

/-- the `\u00XY` escapes the serializer writes (control characters) are hex digits and not surrogates -/
theorem esc_unicode_ok : ∀ n, n < 32 →
    Spec.Lexical.isHexDigit (Strs.hexUpper (n / 16)) = true ∧ Spec.Lexical.isHexDigit (Strs.hexUpper (n % 16)) = true ∧
    Lex.isSurrogate (((Lex.hexVal '0' * 16 + Lex.hexVal '0') * 16 + Lex.hexVal (Strs.hexUpper (n / 16))) * 16 +
      Lex.hexVal (Strs.hexUpper (n % 16))) = false := by
  decide

theorem lsc_escapeChar (c : Char) : LexStringChars (Strs.escapeChar c) := by
  unfold Strs.escapeChar
  split
  · exact .escaped (by decide) .nil
  · split
    · exact .escaped (by decide) .nil
    · split
      · exact .escaped (by decide) .nil
      · split
        · exact .escaped (by decide) .nil
        · split
          · exact .escaped (by decide) .nil
          · split
            · exact .escaped (by decide) .nil
            · split
              · next h =>
                have hlt : c.toNat < 32 := by simp only [Bool.and_eq_true, decide_eq_true_eq] at h; exact h.1
                obtain ⟨h1, h2, h3⟩ := esc_unicode_ok c.toNat hlt
                exact .unicode (by decide) (by decide) h1 h2 h3 .nil
              · next hn _ hr hq hb _ =>
                refine .plain (by simpa using hq) (by simpa using hb) ?_ .nil
                simp only [Spec.Lexical.isLineTerminator, Bool.or_eq_false_iff]
                exact ⟨by simpa using hn, by simpa using hr⟩

theorem lsc_flatMap (s : Str) : LexStringChars (s.flatMap Strs.escapeChar) := by
  induction s with
  | nil => exact .nil
  | cons c r ih => simpa using Lex.lsc_append (lsc_escapeChar c) ih

theorem quote_not_ignored : isIgnoredChar '"' = false := by decide

/-- **quoted string literals lex back and decode to the string** -/
theorem tokOk_quoted (s : Str) : TokOk (.str s) (Strs.quotedForm s) := by
  refine ⟨by simp [Strs.quotedForm, HeadOk, headChar, clsTok, quote_not_ignored], ?_⟩
  intro rest hf
  refine ⟨.stringValue, Strs.quotedForm s, ?_, ?_⟩
  · have hl : s.flatMap Strs.escapeChar = [] → rest.head? ≠ some '"' := by
      intro _
      cases rest with
      | nil => simp
      | cons c r =>
        have : c ≠ '"' := by simpa [FollowOk, followChar, clsTok] using hf
        simpa using this
    have := lex_string_complete (s.flatMap Strs.escapeChar) rest (lsc_flatMap s) hl
    simpa [Strs.quotedForm, List.append_assoc] using this
  · simp [sigItem, Strs.quoted_roundtrip s]

end Apollo.Ast
