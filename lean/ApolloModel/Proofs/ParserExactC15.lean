import ApolloModel.Proofs.ParserExactC14
import ApolloModel.Proofs.ParserComplete15
/-
C05 / C07 (completeness), exact budget: `document()` and the entry point `Parser::parse` on executable
documents, as the instance of `ItemGuard` whose guard ignores the follow token.
-/
set_option linter.unusedSimpArgs false
namespace Apollo.Parse.Exact
open Apollo.Rowan hiding Str
open Apollo.Lex hiding Str

theorem parseDocument_tree (tl : Option Nat) (rl : Nat) (src : Str) :
    ∃ root, (parse .document tl rl src).outcome = .tree root := Parse.parseDocument_tree tl rl src

def IsExecDocFit (rl : Nat) (x : List Ast.Tok) : Prop :=
  ∃ items : List (List Ast.Tok), items ≠ [] ∧ x = items.flatten ∧ ∀ i ∈ items, LExecDef rl i

/-- executable definitions as an item guard: what follows does not matter, and nothing is asked of the queue -/
theorem execGuard : ItemGuard (fun _ => True) (fun b x _ => LExecDef b x) where
  init _ := trivial
  suffix _ := trivial
  head h := by
    obtain ⟨a, x', e, hk⟩ := lexecDef_head h
    exact ⟨a, x', e, hk.elim Or.inl (fun h => Or.inr (Or.inl h))⟩
  dispatch n sP s2 t tl1 x q1 r1 w _ hcur hcq hl hs ht hq h := dispatch_comp n sP s2 t tl1 x q1 r1 w hcur hcq hl hs ht hq h

theorem docOkFor_exec {b : Nat} : ∀ {items : List (List Ast.Tok)}, (∀ i ∈ items, LExecDef b i) →
    DocOkFor (fun b x _ => LExecDef b x) b items
  | [], _ => trivial
  | _ :: _, h => ⟨fun _ _ => h _ (by simp), docOkFor_exec fun i hi => h i (by simp [hi])⟩

theorem docLoop_comp (n : Nat) : ∀ (items : List (List Ast.Tok)) (fuel : Nat) (s s' : PState) (c : List Tok) (e : Tok) (rest : List Tok),
    TW s → CurlyQ (Toks s) → (peekWhileLoop (documentStep n) fuel).run s = .ok () s' →
    (∀ i ∈ items, LExecDef (s.recLimit - s.recCur) i) → Spells c items.flatten → Toks s = c ++ e :: rest → e.kind = .eof →
    Eat s s' c ∧ Toks s' = e :: rest :=
  fun items fuel s s' c e rest w hcq hr hall => execGuard.docLoop n items fuel s s' c e rest w trivial hcq hr (docOkFor_exec hall)

/-- **acceptance is complete** for `Parser::parse` on executable documents, in terms of the significant tokens of the
    source: no condition on ignored tokens at all -/
theorem parseDocument_complete_sig (rl : Nat) (src : Str) (x : List Ast.Tok) (ts : List Tok) (e : Tok)
    (hclean : LexClean src) (hsig : sig (srcToks src) = ts ++ [e]) (he : e.kind = .eof)
    (hx : TokIs ts x) (hfit : IsExecDocFit rl x) : (parse .document none rl src).errors = [] := by
  obtain ⟨items, hne, rfl, hall⟩ := hfit
  exact execGuard.parse_complete_sig rl src items ts e hclean hsig he hx hne (docOkFor_exec hall)

end Apollo.Parse.Exact
