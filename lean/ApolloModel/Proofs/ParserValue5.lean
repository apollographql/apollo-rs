import ApolloModel.Proofs.ParserValue4
/-
Values: the loop `peek_while_kind` over items of one kind.  The item specification may depend on the recursion budget
of the state the loop started in (`ItemSpecB`); `ItemSpec` is the case where it does not.
-/
set_option linter.unusedSimpArgs false
namespace Apollo.Parse
open Apollo.Rowan hiding Str
open Apollo.Lex hiding Str

theorem getCurrent_dec {α : Type} (f : Option Tok → PI α) (s s' : PState) (a : α)
    (h : (getCurrent >>= f).run s = .ok a s') : (f s.current).run s = .ok a s' := by
  obtain ⟨o, s1, h1, h2⟩ := bind_dec getCurrent _ s s' a h
  have e : getCurrent.run s = .ok s.current s := rfl
  rw [e] at h1
  cases h1
  exact h2

theorem stuck_not_ok {α : Type} (s s' : PState) (a : α) : (PI.stuck : PI α).run s ≠ .ok a s' := by
  simp [PI.stuck]

/-- result of a run over a sequence of items: the consumed tokens are the concatenation of well-formed items
    (`Q` says what one item is) — or the run stopped at the end of input -/
@[reducible] def ItemsOk (E : PState → Prop) (Q : List Ast.Tok → Prop) (s s' : PState) : Prop :=
  ∃ cs, Toks s = cs ++ Toks s' ∧ NoEof cs ∧ EofEnd s' ∧
    ((∃ items : List (List Ast.Tok), TokIs (sig cs) items.flatten ∧ ∀ x ∈ items, Q x) ∨ E s')

/-- one item: what the loop body must guarantee when it starts on a token of the expected kind -/
@[reducible] def ItemSpec (E : PState → Prop) (k : Kind) (body : PI Unit) (Q : List Ast.Tok → Prop) : Prop :=
  ∀ s s' t rest, TW s → EofEnd s → Toks s = t :: rest → t.kind = k → body.run s = .ok () s' → ¬ Doomed s' →
    ∃ cs, Toks s = cs ++ Toks s' ∧ NoEof cs ∧ EofEnd s' ∧ ((∃ x, TokIs (sig cs) x ∧ Q x) ∨ E s')

theorem atEof_rest (s s' : PState) (cs : List Tok) (he : EofEnd s) (hnd : ¬ Doomed s) (ha : AtEof s)
    (ht : Toks s = cs ++ Toks s') (hno : NoEof cs) : AtEof s' := by
  obtain ⟨e, hq, hk⟩ := atEof_single s he hnd ha
  rw [hq] at ht
  cases cs with
  | nil => exact ⟨e, by simp at ht; rw [← ht]; rfl, hk⟩
  | cons x cs =>
    exfalso
    simp only [List.cons_append] at ht
    injection ht with h1 _
    exact hno x (by simp) (h1 ▸ hk)

/-- how the "stopped early" alternative `E` of an item propagates through the rest of a run -/
@[reducible] def Carries (E : PState → Prop) : Prop :=
  ∀ sB s' c2, EofEnd sB → ¬ Doomed sB → E sB → Toks sB = c2 ++ Toks s' → NoEof c2 → E s'

theorem carries_atEof : Carries AtEof := fun sB s' c2 a b d e f => atEof_rest sB s' c2 a b d e f

theorem carries_false : Carries (fun _ => False) := fun _ _ _ _ _ d _ _ => d

namespace Exact

theorem peeked_kind {o : Option Tok} {k : Kind} (h : o.map (·.kind) = some k) : ∃ t, o = some t ∧ t.kind = k := by
  cases o with
  | none => cases h
  | some t => exact ⟨t, rfl, Option.some.inj h⟩

/-- `ItemSpec` for a body that starts with recursion budget `B` -/
@[reducible] def ItemSpecB (B : Nat) (E : PState → Prop) (k : Kind) (body : PI Unit) (Q : List Ast.Tok → Prop) : Prop :=
  ∀ s s' t rest, TW s → EofEnd s → bud s = B → Toks s = t :: rest → t.kind = k → body.run s = .ok () s' → ¬ Doomed s' →
    ∃ cs, Toks s = cs ++ Toks s' ∧ NoEof cs ∧ EofEnd s' ∧ ((∃ x, TokIs (sig cs) x ∧ Q x) ∨ E s')

theorem peekWhileKindLoop_sound (B : Nat) (E : PState → Prop) (hE : Carries E) (k : Kind) (body : PI Unit) (Q : List Ast.Tok → Prop) (hgood : Good body)
    (hitem : ItemSpecB B E k body Q) : ∀ (fuel : Nat) (s s' : PState), TW s → EofEnd s → bud s = B →
      (peekWhileKindLoop k body fuel).run s = .ok () s' → ¬ Doomed s' → ItemsOk E Q s s'
  | 0, s, s', _, _, _, h, _ => by simp [peekWhileKindLoop, PI.outOfFuel] at h
  | fuel + 1, s, s', w, he, hB, h, hnd => by
    unfold peekWhileKindLoop at h
    obtain ⟨ko, sP, hp, h2⟩ := bind_dec peek _ s s' () h
    obtain ⟨o, p, hko⟩ := peek_obs s sP ko w hp
    subst hko
    have heP : EofEnd sP := eofEnd_eat he p.eat (by intro x hx; cases hx)
    have stop : s' = sP → ItemsOk E Q s s' := by
      intro e
      rw [e]
      unfold ItemsOk
      refine ⟨[], ?_, ?_, heP, Or.inl ⟨[], TokIs.nil, ?_⟩⟩
      · rw [p.toks]; rfl
      · intro x hx; cases hx
      · intro x hx; cases hx
    cases o with
    | none =>
      simp only [Option.map_none] at h2
      rw [run_pure] at h2
      injection h2 with _ h2
      exact stop h2.symm
    | some t =>
      simp only [Option.map_some] at h2
      by_cases hk : (t.kind != k) = true
      · simp only [hk, if_true] at h2
        rw [run_pure] at h2
        injection h2 with _ h2
        exact stop h2.symm
      · simp only [hk, Bool.false_eq_true, if_false] at h2
        have hkk : t.kind = k := by simpa using hk
        have h3 := getCurrent_dec _ sP s' () h2
        obtain ⟨_, sB, hb, h4⟩ := bind_dec body _ sP s' () h3
        have h5 := getCurrent_dec _ sB s' () h4
        have aB := hgood sP () sB p.w hb
        by_cases hsame : (sP.current == sB.current) = true
        · simp only [hsame, if_true] at h5
          exact absurd h5 (stuck_not_ok _ _ _)
        · simp only [hsame, Bool.false_eq_true, if_false] at h5
          have hndB : ¬ Doomed sB := fun d => hnd ((good_peekWhileKindLoop k body hgood fuel sB () s' aB.w h5).doom d)
          have htP : Toks sP = t :: (Toks sP).tail := by
            have := p.head; rw [← p.toks] at this; exact toks_head_cons sP t this.symm
          obtain ⟨c1, hc1, hno1, he1, hr1⟩ := hitem sP sB t _ p.w heP (by rw [bud_peek p]; exact hB) htP hkk hb hndB
          obtain ⟨c2, hc2, hno2, he2, hr2⟩ := peekWhileKindLoop_sound B E hE k body Q hgood hitem fuel sB s' aB.w he1 (by rw [bud_adv aB, bud_peek p]; exact hB) h5 hnd
          refine ⟨c1 ++ c2, by rw [← p.toks, hc1, hc2, List.append_assoc], noEof_append hno1 hno2, he2, ?_⟩
          rcases hr1 with ⟨x, hx, hq⟩ | ha
          · rcases hr2 with ⟨items, hi, hall⟩ | ha2
            · refine Or.inl ⟨x :: items, ?_, ?_⟩
              · rw [sig_append]; simpa using hx.append hi
              · intro y hy
                rcases List.mem_cons.mp hy with rfl | hy
                · exact hq
                · exact hall y hy
            · exact Or.inr ha2
          · exact Or.inr (hE sB s' c2 he1 hndB ha hc2 hno2)

theorem peekWhileKind_sound (B : Nat) (E : PState → Prop) (hE : Carries E) (k : Kind) (body : PI Unit) (Q : List Ast.Tok → Prop) (hgood : Good body)
    (hitem : ItemSpecB B E k body Q) (s s' : PState) (w : TW s) (he : EofEnd s) (hB : bud s = B)
    (h : (peekWhileKind k body).run s = .ok () s') (hnd : ¬ Doomed s') : ItemsOk E Q s s' := by
  unfold peekWhileKind at h
  obtain ⟨n, s1, h1, h2⟩ := bind_dec srcLen _ s s' () h
  have : s1 = s := by
    unfold srcLen at h1
    simp only [] at h1
    injection h1 with _ h1
    exact h1.symm
  subst this
  exact peekWhileKindLoop_sound B E hE k body Q hgood hitem _ s1 s' w he hB h2 hnd

/-- **`( Item+ )`** as `arguments` and `variable_definitions` parse it: after `(` one item of kind `kd` is required
    (anything else is an error), further items are optional, then `)` -/
theorem parenItems_sound (K : SK) (kd : Kind) (item tail : PI Unit)
    (htail : tail = (peekWhileKind kd item >>= fun _ => expect .rParen "R_PAREN"))
    (Q : List Ast.Tok → Prop) (gi : Good item)
    (s s' : PState) (t : Tok) (rest : List Tok) (w : TW s) (he : EofEnd s) (ht : Toks s = t :: rest) (hk : t.kind = .lParen)
    (hitem : ItemSpecB (bud s) AtEof kd item Q)
    (h : (withNode K (bump "L_PAREN" >>= fun _ => peek >>= fun k =>
      if k == some kd then (item >>= fun _ => tail) else (err >>= fun _ => tail))).run s = .ok () s') (hnd : ¬ Doomed s') :
    ∃ cs items, Toks s = cs ++ Toks s' ∧ NoEof cs ∧ EofEnd s' ∧ items ≠ [] ∧
      TokIs (sig cs) ([.p .lParen] ++ items.flatten ++ [.p .rParen]) ∧ ∀ x ∈ items, Q x := by
  have hni : isIgnoredKind t.kind = false := by rw [hk]; rfl
  have hne : t.kind ≠ .eof := by rw [hk]; decide
  obtain ⟨s1, s2, e1, h1, o2, ht1, he1, hnd2⟩ := withNode_entered _ _ s s' () t rest w he ht hni h hnd
  obtain ⟨_, s3, h3, h4⟩ := bind_dec (bump "L_PAREN") _ s1 s2 () h1
  obtain ⟨ign, eb, hall, _⟩ := bump_spec "L_PAREN" s1 s3 e1.w t rest ht1 h3
  have he3 : EofEnd s3 := eofEnd_eat he1 eb (noEof_cons hne hall)
  obtain ⟨ko, sP, hp, h5⟩ := bind_dec peek _ s3 s2 () h4
  obtain ⟨o, p, hko⟩ := peek_obs s3 sP ko eb.w hp
  subst hko
  have heP : EofEnd sP := eofEnd_eat he3 p.eat (by intro x hx; cases hx)
  have gtail : Good tail := by
    rw [htail]; exact good_bind _ _ (good_peekWhileKind _ _ gi) (fun _ => good_expect _ _)
  have e1P : Eat s sP (t :: ign) := by simpa using (e1.trans eb).trans p.eat
  have hbP : bud sP = bud s := bud_eat e1P
  by_cases hkn : (o.map (·.kind) == some kd) = true
  · simp only [hkn, if_true] at h5
    obtain ⟨ta, hoa, hka⟩ := peeked_kind (eq_of_beq hkn)
    subst hoa
    have htP : Toks sP = ta :: (Toks sP).tail := by
      have := p.head; rw [← p.toks] at this; exact toks_head_cons sP ta this.symm
    obtain ⟨_, sA, h6, h7⟩ := bind_dec item _ sP s2 () h5
    have aA := gi sP () sA p.w h6
    have hndA : ¬ Doomed sA := fun d => hnd2 ((gtail sA () s2 aA.w h7).doom d)
    obtain ⟨c1, hc1, hno1, heA, hr1⟩ := hitem sP sA ta _ p.w heP hbP htP hka h6 hndA
    rw [htail] at h7
    obtain ⟨_, sL, h8, h9⟩ := bind_dec (peekWhileKind kd item) _ sA s2 () h7
    have aL := good_peekWhileKind _ _ gi sA () sL aA.w h8
    have hndL : ¬ Doomed sL := fun d => hnd2 ((good_expect _ _ sL () s2 aL.w h9).doom d)
    obtain ⟨c2, hc2, hno2, heL, hr2⟩ := peekWhileKind_sound (bud s) AtEof carries_atEof kd item Q gi hitem sA sL aA.w heA
      (by rw [bud_adv aA, hbP]) h8 hndL
    obtain ⟨_, hex⟩ := expect_spec .rParen "R_PAREN" sL s2 aL.w h9
    rcases hex with ⟨hemp, _⟩ | hd | ⟨t2, rest2, ign2, hq, hk2, e2, hall2, _⟩
    · exact absurd hemp (eofEnd_nonempty sL heL hndL)
    · exact absurd hd hnd2
    · have hni2 : isIgnoredKind t2.kind = false := by rw [hk2]; rfl
      have hne2 : t2.kind ≠ .eof := by rw [hk2]; decide
      -- the loop did not stop at the end of input: `)` was found
      have notEof : ¬ AtEof sL := by
        rintro ⟨e, hh, hke⟩
        rw [hq] at hh
        simp only [List.head?_cons, Option.some.injEq] at hh
        subst hh
        rw [hk2] at hke
        cases hke
      rcases hr1 with ⟨x, hx, hqx⟩ | ha
      · rcases hr2 with ⟨items, hi, hall3⟩ | ha2
        · refine ⟨(t :: ign) ++ (c1 ++ c2) ++ (t2 :: ign2), x :: items, ?_,
            noEof_append (noEof_append (noEof_cons hne hall) (noEof_append hno1 hno2)) (noEof_cons hne2 hall2),
            eofEnd_same _ _ (eofEnd_eat heL e2 (noEof_cons hne2 hall2)) o2.current o2.lx o2.errors, by simp, ?_, ?_⟩
          · rw [e1P.toks, hc1, hc2, e2.toks, o2.toks]; simp [List.append_assoc]
          · rw [sig_append, sig_append, sig_append, sig_cons_ignV t ign hni hall, sig_cons_ignV t2 ign2 hni2 hall2]
            have := ((TokIs.single t (.p .lParen) (by simp [astOfV, hk])).append (hx.append hi)).append
              (TokIs.single t2 (.p .rParen) (by simp [astOfV, hk2]))
            simpa using this
          · intro y hy
            rcases List.mem_cons.mp hy with rfl | hy
            · exact hqx
            · exact hall3 y hy
        · exact absurd ha2 notEof
      · exact absurd (atEof_rest sA sL c2 heA hndA ha hc2 hno2) notEof
  · exfalso
    simp only [hkn, Bool.false_eq_true, if_false] at h5
    obtain ⟨_, sE, h6, h7⟩ := bind_dec err _ sP s2 () h5
    obtain ⟨aE, dE⟩ := err_adv sP sE p.w h6
    have hndP : ¬ Doomed sP := fun d => hnd2 ((gtail sE () s2 aE.w h7).doom (aE.doom d))
    exact hnd2 ((gtail sE () s2 aE.w h7).doom (dE (eofEnd_nonempty sP heP hndP)))

end Exact

theorem peekWhileKind_sound (E : PState → Prop) (hE : Carries E) (k : Kind) (body : PI Unit) (Q : List Ast.Tok → Prop) (hgood : Good body)
    (hitem : ItemSpec E k body Q) (s s' : PState) (w : TW s) (he : EofEnd s)
    (h : (peekWhileKind k body).run s = .ok () s') (hnd : ¬ Doomed s') : ItemsOk E Q s s' :=
  Exact.peekWhileKind_sound (Exact.bud s) E hE k body Q hgood (fun s1 s2 t rest w1 he1 _ => hitem s1 s2 t rest w1 he1)
    s s' w he rfl h hnd

end Apollo.Parse
