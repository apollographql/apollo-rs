import ApolloModel.Proofs.ParserExactS16
import ApolloModel.Proofs.ParserExactC42
/-
EXACT COMPLETENESS (namespace Apollo.Parse.Exact): the first-token analysis of `DocItem.toks`.  A definition starts with a
description, `{`, or a Name other than `implements`; hence the per-item follow conditions of the completeness calculus
(`@ ( & = |`, the Name `implements`) hold whenever the next item is a definition, and only `DocFollowX` is left to ask.
-/
set_option linter.unusedSimpArgs false
namespace Apollo.Parse.Exact
open Apollo.Rowan hiding Str
open Apollo.Lex hiding Str

def HeadA (a : Ast.Tok) : Prop := (∃ s, a = .str s) ∨ a = .p .lCurly ∨ (∃ w, a = .name w ∧ w ≠ "implements".toList)

theorem looseDef_headA (l : LooseDef) : ∃ a x', l.toks = a :: x' ∧ HeadA a := by
  have hd : ∀ (desc : Option Ast.Str) (w : String) (x : List Ast.Tok), w.toList ≠ "implements".toList →
      ∃ a' x', Ast.tDescription desc ++ Ast.Tok.name w.toList :: x = a' :: x' ∧ HeadA a' := by
    intro desc w x hw
    cases desc with
    | none => exact ⟨_, x, rfl, Or.inr (Or.inr ⟨_, rfl, hw⟩)⟩
    | some d => exact ⟨.str d, _, rfl, Or.inl ⟨d, rfl⟩⟩
  -- a definition starts with its optional description and its keyword, an extension with `extend`
  cases l <;> simp only [LooseDef.toks, scalarToks, unionToks, enumToks, inputToks, directiveToks, schemaToks, kwPart_true, kwE,
    List.append_assoc, List.cons_append, List.nil_append]
  all_goals first
    | exact hd _ _ _ (by decide)
    | exact ⟨_, _, rfl, Or.inr (Or.inr ⟨_, rfl, by decide⟩)⟩

theorem item_headA (b : Nat) (i : DocItem) (h : itemFit b i) : ∃ a x', i.toks = a :: x' ∧ HeadA a := by
  cases i with
  | loose l => exact looseDef_headA l
  | exec oe d =>
    have hl := execFit_lexec b oe d h
    rcases hl with (⟨ty, nm, vs, ds, ss, e, _⟩ | ⟨ss, _, e, _⟩) | ⟨nm, tc, ds, ss, e, _⟩
    · refine ⟨.name ty.name.toList, _, by show Ast.tDefinition oe d = _; rw [e]; rfl, Or.inr (Or.inr ⟨_, rfl, ?_⟩)⟩
      cases ty <;> decide
    · exact ⟨.p .lCurly, _, by show Ast.tDefinition oe d = _; rw [e]; rfl, Or.inr (Or.inl rfl)⟩
    · exact ⟨.name "fragment".toList, _, by show Ast.tDefinition oe d = _; rw [e]; rfl, Or.inr (Or.inr ⟨_, rfl, by decide⟩)⟩

def FollowGood (q : Tok) : Prop :=
  (q.kind = .eof ∨ q.kind = .stringValue ∨ q.kind = .lCurly ∨ q.kind = .name) ∧ NotImplTok q

theorem followGood_of {f : Option Ast.Tok} {q : Tok} (hq : FollowTokOf f q) (hf : f = none ∨ ∃ a, f = some a ∧ HeadA a) : FollowGood q := by
  rcases hf with rfl | ⟨a, rfl, ha⟩
  · have hk : q.kind = .eof := hq
    exact ⟨Or.inl hk, by rintro ⟨h1, _⟩; rw [hk] at h1; cases h1⟩
  · have hv : astOfV q = some a := hq
    have hk := kind_of_astOfV hv
    rcases ha with ⟨s, rfl⟩ | rfl | ⟨w, rfl, hw⟩
    · exact ⟨Or.inr (Or.inl hk), by rintro ⟨h1, _⟩; rw [hk] at h1; cases h1⟩
    · exact ⟨Or.inr (Or.inr (Or.inl hk)), by rintro ⟨h1, _⟩; rw [hk] at h1; cases h1⟩
    · exact ⟨Or.inr (Or.inr (Or.inr hk)), by rintro ⟨_, h2⟩; exact hw (by rw [← data_of_astOfV_name hv]; exact h2)⟩

theorem looseFollowY_of_good (l : LooseDef) (q : Tok) (hg : FollowGood q) (hx : openBody l → q.kind ≠ .lCurly) : Y.looseFollowY l q := by
  obtain ⟨hk, hni⟩ := hg
  have h1 : q.kind ≠ .at := by rcases hk with h | h | h | h <;> rw [h] <;> decide
  have h2 : q.kind ≠ .lParen := by rcases hk with h | h | h | h <;> rw [h] <;> decide
  have h3 : q.kind ≠ .amp := by rcases hk with h | h | h | h <;> rw [h] <;> decide
  have h4 : q.kind ≠ .eq := by rcases hk with h | h | h | h <;> rw [h] <;> decide
  have h5 : q.kind ≠ .pipe := by rcases hk with h | h | h | h <;> rw [h] <;> decide
  cases l with
  | scalar a b c => exact ⟨h1, h2⟩
  | scalarExt a b => exact ⟨h1, h2⟩
  | union a b c d => exact ⟨h1, h2, h4, h5⟩
  | unionExt a b c => exact ⟨h1, h2, h4, h5⟩
  | directive a b c d e f g => exact h5
  | schema a b c => trivial
  | object a b c d fs =>
    by_cases hfs : fs = []
    · exact Or.inr ⟨⟨h1, h2, hx hfs, trivial⟩, h3, hni⟩
    · exact Or.inl ⟨hfs, h3, hni⟩
  | interface a b c d fs =>
    by_cases hfs : fs = []
    · exact Or.inr ⟨⟨h1, h2, hx hfs, trivial⟩, h3, hni⟩
    · exact Or.inl ⟨hfs, h3, hni⟩
  | objectExt a b c fs =>
    by_cases hfs : fs = []
    · exact Or.inr ⟨⟨h1, h2, hx hfs, trivial⟩, h3, hni⟩
    · exact Or.inl ⟨hfs, h3, hni⟩
  | interfaceExt a b c fs =>
    by_cases hfs : fs = []
    · exact Or.inr ⟨⟨h1, h2, hx hfs, trivial⟩, h3, hni⟩
    · exact Or.inl ⟨hfs, h3, hni⟩
  | enum a b c vs =>
    by_cases hvs : vs = []
    · exact Or.inr ⟨h1, h2, hx hvs⟩
    · exact Or.inl hvs
  | enumExt a b vs =>
    by_cases hvs : vs = []
    · exact Or.inr ⟨h1, h2, hx hvs⟩
    · exact Or.inl hvs
  | input a b c fs =>
    by_cases hvs : fs = []
    · exact Or.inr ⟨h1, h2, hx hvs⟩
    · exact Or.inl hvs
  | inputExt a b fs =>
    by_cases hvs : fs = []
    · exact Or.inr ⟨h1, h2, hx hvs⟩
    · exact Or.inl hvs
  | schemaExt a roots =>
    by_cases hvs : roots = []
    · exact Or.inr ⟨h1, h2, hx hvs⟩
    · exact Or.inl hvs

end Apollo.Parse.Exact
