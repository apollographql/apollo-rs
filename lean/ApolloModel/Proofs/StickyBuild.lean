import ApolloModel.Model.SchemaBuild
/-
C14/C15: the build-time uniqueness rules on the model of `extend_sticky` / `collect_sticky`
(Model/SchemaBuild.lean, property C13): a collision diagnostic is pushed iff a name occurs twice, and the
built list never contains a name twice (the first definition wins).
-/
namespace Apollo.SchemaBuild

theorem hasName_false_iff (cs : List Comp) (n : Name) : hasName cs n = false ↔ ∀ c ∈ cs, c.name ≠ n := by
  simp [hasName, List.any_eq_false]

theorem hasName_append_single (cs : List Comp) (c : Comp) (n : Name) :
    hasName (cs ++ [c]) n = (hasName cs n || c.name == n) := by
  simp [hasName, List.any_append]

theorem extendSticky_hasName (dup : Name → Diag) (origin : Option Pos) : ∀ (items : List Item) (cs : List Comp)
    (errs : List Err) (n : Name),
    hasName (extendSticky dup origin cs errs items).1 n = true ↔ (hasName cs n = true ∨ n ∈ items.map (·.name)) := by
  intro items
  induction items with
  | nil => intro cs errs n; simp [extendSticky]
  | cons it rest ih =>
    intro cs errs n
    unfold extendSticky
    split
    · rename_i h
      rw [ih, List.map_cons, List.mem_cons]
      constructor
      · rintro (h1 | h1)
        · exact Or.inl h1
        · exact Or.inr (Or.inr h1)
      · rintro (h1 | h1 | h1)
        · exact Or.inl h1
        · exact Or.inl (h1 ▸ h)
        · exact Or.inr h1
    · rw [ih, hasName_append_single, Bool.or_eq_true, List.map_cons, List.mem_cons, beq_iff_eq, or_assoc]
      simp only [Item.toComp, eq_comm]

/-- what `extend_sticky` returns: the items it kept are appended with the given origin, one diagnostic per
    dropped item; nothing is dropped iff no name of `items` is already present or repeated -/
theorem extendSticky_shape (dup : Name → Diag) (origin : Option Pos) : ∀ (items : List Item) (cs : List Comp) (errs : List Err),
    ∃ kept new, extendSticky dup origin cs errs items = (cs ++ kept.map (Item.toComp origin), errs ++ new) ∧
      (new = [] ↔ (∀ it ∈ items, hasName cs it.name = false) ∧ (items.map (·.name)).Nodup) ∧
      (new = [] → kept = items) := by
  intro items
  induction items with
  | nil => intro cs errs; exact ⟨[], [], by simp [extendSticky], by simp, fun _ => rfl⟩
  | cons it rest ih =>
    intro cs errs
    unfold extendSticky
    by_cases h : hasName cs it.name = true
    · simp only [h, if_true]
      obtain ⟨kept, new', heq, _⟩ := ih cs (errs ++ [⟨it.errPos, dup it.name⟩])
      refine ⟨kept, ⟨it.errPos, dup it.name⟩ :: new', by rw [heq]; simp, ?_, fun hc => by cases hc⟩
      constructor
      · intro hc; cases hc
      · intro ⟨h1, _⟩
        have := h1 it List.mem_cons_self
        rw [h] at this; cases this
    · have hf : hasName cs it.name = false := by simpa using h
      simp only [hf, Bool.false_eq_true, if_false]
      obtain ⟨kept, new', heq, hiff, hall⟩ := ih (cs ++ [it.toComp origin]) errs
      refine ⟨it :: kept, new', by rw [heq]; simp, ?_, fun hn => by rw [hall hn]⟩
      rw [hiff]
      simp only [hasName_append_single, Bool.or_eq_false_iff, Item.toComp, List.mem_cons, forall_eq_or_imp,
        List.map_cons, List.nodup_cons, beq_eq_false_iff_ne, ne_eq]
      constructor
      · intro ⟨h1, hnd⟩
        refine ⟨⟨hf, fun x hx => (h1 x hx).1⟩, ?_, hnd⟩
        intro hmem
        obtain ⟨x, hx, hname⟩ := List.mem_map.mp hmem
        exact (h1 x hx).2 hname.symm
      · intro ⟨⟨_, h1⟩, hnot, hnd⟩
        refine ⟨fun x hx => ⟨h1 x hx, ?_⟩, hnd⟩
        intro heq
        exact hnot (List.mem_map.mpr ⟨x, hx, heq.symm⟩)

theorem extendSticky_errs (dup : Name → Diag) (origin : Option Pos) (items : List Item) (cs : List Comp) (errs : List Err) :
    ∃ new, (extendSticky dup origin cs errs items).2 = errs ++ new ∧
      (new = [] ↔ (∀ it ∈ items, hasName cs it.name = false) ∧ (items.map (·.name)).Nodup) := by
  obtain ⟨_, new, heq, hiff, _⟩ := extendSticky_shape dup origin items cs errs
  exact ⟨new, by rw [heq], hiff⟩

/-- `BuildError::…Collision` / `Duplicate…` is reported iff a name occurs twice in the same list
    (already present from the definition or an earlier extension, or repeated in this one). -/
theorem extendSticky_reports_iff_duplicate (dup : Name → Diag) (origin : Option Pos) (items : List Item)
    (cs : List Comp) (errs : List Err) :
    (extendSticky dup origin cs errs items).2 = errs ↔
      (∀ it ∈ items, hasName cs it.name = false) ∧ (items.map (·.name)).Nodup := by
  obtain ⟨new, hnew, hiff⟩ := extendSticky_errs dup origin items cs errs
  rw [hnew, ← hiff]
  constructor
  · intro h; exact List.append_right_eq_self.mp h
  · intro h; rw [h]; simp

/-- the built list never contains a name twice if it did not before (`extendSticky_shape`: what was there stays in
    front, so the first definition wins) -/
theorem extendSticky_names_nodup (dup : Name → Diag) (origin : Option Pos) : ∀ (items : List Item) (cs : List Comp) (errs : List Err),
    (cs.map (·.name)).Nodup → ((extendSticky dup origin cs errs items).1.map (·.name)).Nodup := by
  intro items
  induction items with
  | nil => intro cs errs h; simpa [extendSticky] using h
  | cons it rest ih =>
    intro cs errs hnd
    unfold extendSticky
    by_cases h : hasName cs it.name = true
    · simp only [h, if_true]; exact ih cs _ hnd
    · have hf : hasName cs it.name = false := by simpa using h
      simp only [hf, Bool.false_eq_true, if_false]
      apply ih
      rw [List.map_append, List.nodup_append]
      refine ⟨hnd, by simp, ?_⟩
      intro a ha b hb hab
      have hb' : b = it.name := by simpa [Item.toComp] using hb
      obtain ⟨c, hc, hcn⟩ := List.mem_map.mp ha
      exact (hasName_false_iff cs it.name).mp hf c hc (by rw [hcn, hab, hb'])

end Apollo.SchemaBuild
