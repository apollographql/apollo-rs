import ApolloModel.Proofs.ParserExactC29
import ApolloModel.Proofs.ParserExactT11
/-
C05 (completeness at the exact budget): the symmetric side of the recorded finding
`accepts-root-operation-without-type`.  `root_operation_type_definition` calls `named_type`, which does nothing when no
Name follows; hence a root operation type may lack its named type EXACTLY when the next token is not a Name — inside
`{ … }` that is the LAST root only (in `query: mutation: M` the Name `mutation` is taken as the type of `query`, and the
following `:` is an error).  The item rule for a nameless root, the flag loop with a distinguished last item,
`{ Root* NamelessRoot }`; then `schema` definition and extension accept every `LooseDef.schema` / `.schemaExt` within
`looseFitXX` — `looseFit` where only the LAST root operation type may lack its named type (`schema { query: }`,
`extend schema @d { query: Q mutation: }`); kernel-evaluated examples on both sides (`schema_nameless_root_witnesses`).
-/
set_option linter.unusedSimpArgs false
namespace Apollo.Parse.Exact
open Apollo.Rowan hiding Str
open Apollo.Lex hiding Str

/-- `named_type` when no Name follows: nothing is consumed -/
theorem cmp_namedTypeNone : Cmp (fun _ => True) namedType (fun _ x => x = []) (fun k => k ≠ .name) (fun _ => True) := by
  unfold namedType
  apply cmp_peek
  intro k _
  apply cmp_ite
  · intro hk
    apply cmp_absurd
    rintro b x cc q0 rfl hs hf hkk
    have := spells_nil_inv hs
    subst this
    simp only [headK] at hkk
    rw [hkk] at hf
    simp at hk
    exact hf hk
  · intro _
    exact (cmp_pure _ _ ()).mono (fun _ _ => trivial) (fun _ _ h => h) (fun _ _ => trivial) (fun _ _ => trivial)

/-- a root operation type without its named type: `OperationType :` -/
def LRootOpN (_ : Nat) (x : List Ast.Tok) : Prop := ∃ op : Ast.OpType, x = [.name op.name.toList, .p .colon]

theorem cmp_rootOpNameless :
    Cmp (fun _ => True) rootOperationTypeDefinition LRootOpN (fun k => k ≠ .name) (fun _ => True) := by
  unfold rootOperationTypeDefinition
  refine cmp_withNode _ ?_
  have hcolon : Cmp (fun _ => True) (peek >>= fun k => if k == some Kind.colon then (bump "COLON" >>= fun _ => namedType) else err)
      (fun _ x => x = [.p .colon]) (fun k => k ≠ .name) (fun _ => True) := by
    apply cmp_peek
    intro k _
    apply cmp_ite
    · intro _
      have := cmp_bind (Hk := fun k' => k' = k) (F := fun k => k ≠ Kind.name) (F1 := fun _ => True)
        ((cmp_bump "COLON").mono (fun _ _ => trivial) (fun _ _ h => h) (fun _ h => h) (fun _ h => h))
        (fun _ _ => cmp_namedTypeNone) (fun _ _ _ _ => trivial) (fun _ _ => trivial) (fun _ h => h)
      refine this.mono (fun _ h => h) ?_ (fun _ h => h) (fun _ h => h)
      rintro b x rfl
      exact ⟨[.p .colon], [], rfl, ⟨_, rfl⟩, rfl⟩
    · intro hk
      apply cmp_absurd
      rintro b x cc q0 rfl hs _ hkk
      obtain ⟨tk, tl, rfl, hta⟩ := spells_head hs
      simp only [headK] at hkk
      rw [kind_of_astOfV hta] at hkk
      simp [← hkk, kindOfA] at hk
  have := cmp_bind (Hk := fun _ => True) (F := fun k => k ≠ Kind.name) (F1 := fun _ => True) cmp_operationType (fun _ _ => hcolon)
    (fun _ _ _ _ => trivial) (fun _ _ => trivial) (fun _ h => h)
  refine this.mono (fun _ h => h) ?_ (fun _ h => h) (fun _ h => h)
  rintro b x ⟨op, rfl⟩
  exact ⟨[.name op.name.toList], [.p .colon], rfl, ⟨op, rfl⟩, rfl⟩

/-- the kind loop with a flag, the LAST item being of a second language with its own follow condition -/
theorem cmp_flagLoopLast (k : Kind) (item : PI Unit) (Li : Nat → List Ast.Tok → Prop) (Fi : Kind → Prop)
    (Ll : Nat → List Ast.Tok → Prop) (Fl : Kind → Prop)
    (hitem : Cmp (fun _ => True) item Li Fi (fun _ => True)) (hlast : Cmp (fun _ => True) item Ll Fl (fun _ => True))
    (hhead : ∀ b x, Li b x → ∃ a x', x = a :: x' ∧ kindOfA a = k)
    (hheadL : ∀ b x, Ll b x → ∃ a x', x = a :: x' ∧ kindOfA a = k) (hFk : Fi k) :
    ∀ (items : List (List Ast.Tok)) (last : List Ast.Tok) (fuel : Nat) (flag : Bool) (s s' : PState) (r : Bool) (c : List Tok) (q0 : Tok) (rest : List Tok),
      TW s → (peekWhileKindFlagLoop k item fuel flag).run s = .ok r s' → (∀ i ∈ items, Li (s.recLimit - s.recCur) i) →
      Ll (s.recLimit - s.recCur) last →
      Spells c (items.flatten ++ last) → Toks s = c ++ q0 :: rest → Sigf q0 → q0.kind ≠ k → Fl q0.kind →
      Eat s s' c ∧ Toks s' = q0 :: rest ∧ r = true := by
  intro items
  induction items with
  | nil =>
    intro last fuel flag s s' r c q0 rest w hr _ hl hs ht hq hne hfq
    simp only [List.flatten_nil, List.nil_append] at hs
    obtain ⟨a, x', rfl, hka⟩ := hheadL _ last hl
    cases fuel with
    | zero => simp [peekWhileKindFlagLoop, PI.outOfFuel] at hr
    | succ fuel =>
      obtain ⟨t, tl, hc1, hta⟩ := spells_head hs
      unfold peekWhileKindFlagLoop at hr
      obtain ⟨ko, sP, hp, h2⟩ := bind_dec peek _ s s' r hr
      obtain ⟨rfl, eP, htP, _⟩ := peek_head s sP ko t (tl ++ q0 :: rest) w (by rw [ht, hc1]; simp) hp
      have hkt : t.kind = k := by rw [kind_of_astOfV hta, hka]
      have : (t.kind != k) = false := by simp [hkt]
      simp only [this, Bool.false_eq_true, if_false] at h2
      have h3 := getCurrent_dec _ sP s' r h2
      obtain ⟨_, sB, hb, h4⟩ := bind_dec item _ sP s' r h3
      have h5 := getCurrent_dec _ sB s' r h4
      have hbud : sP.recLimit - sP.recCur = s.recLimit - s.recCur := by rw [eP.recLimit, eP.recCur]
      obtain ⟨eB, tB, _⟩ := hlast sP sB () c (a :: x') q0 rest eP.w hb (by rw [hbud]; exact hl) hs
        (by rw [htP, hc1]; simp) hq hfq trivial
      by_cases hsame : (sP.current == sB.current) = true
      · simp only [hsame, if_true] at h5
        exact absurd h5 (stuck_not_ok _ _ _)
      · simp only [hsame, Bool.false_eq_true, if_false] at h5
        obtain ⟨eR, tR, hrR⟩ := cmp_kindWhileFlagLoop k item (fun _ _ => False) (fun _ => True)
          (fun _ _ _ _ _ _ _ _ _ hf _ _ _ _ _ => hf.elim) (fun _ _ hf => hf.elim) trivial [] fuel true sB s' r [] q0 rest eB.w h5
          (by intro i hi; cases hi) (by simpa using spells_nil) (by simpa using tB) hq hne trivial
        exact ⟨by simpa using (eP.trans eB).trans eR, tR, by simp [hrR]⟩
  | cons it items ih =>
    intro last fuel flag s s' r c q0 rest w hr hall hl hs ht hq hne hfq
    obtain ⟨a, x', rfl, hka⟩ := hhead _ it (hall it (by simp))
    cases fuel with
    | zero => simp [peekWhileKindFlagLoop, PI.outOfFuel] at hr
    | succ fuel =>
      obtain ⟨c1, c2, rfl, s1, s2⟩ := spells_split0 (x1 := a :: x') (x2 := items.flatten ++ last) (by simpa [List.append_assoc] using hs)
      obtain ⟨t, tl, hc1, hta⟩ := spells_head s1
      obtain ⟨f, ftl, hfol, hsf, hff⟩ := next_item_head (Li := fun b x => Li b x ∨ Ll b x) (P := fun k' => k' = k) (b := s.recLimit - s.recCur)
        (by rintro b x (h | h); exact hhead b x h; exact hheadL b x h) (items ++ [last])
        (by intro i hi; rcases List.mem_append.mp hi with hi | hi
            · exact Or.inl (hall i (by simp [hi]))
            · rw [List.mem_singleton.mp hi]; exact Or.inr hl) c2 (by simpa using s2) q0 rest hq
      have hFf : Fi f.kind := by
        rcases hff with ⟨h0, _, _⟩ | h
        · simp at h0
        · rw [h]; exact hFk
      unfold peekWhileKindFlagLoop at hr
      obtain ⟨ko, sP, hp, h2⟩ := bind_dec peek _ s s' r hr
      obtain ⟨rfl, eP, htP, _⟩ := peek_head s sP ko t (tl ++ c2 ++ q0 :: rest) w (by rw [ht, hc1]; simp) hp
      have hkt : t.kind = k := by rw [kind_of_astOfV hta, hka]
      have : (t.kind != k) = false := by simp [hkt]
      simp only [this, Bool.false_eq_true, if_false] at h2
      have h3 := getCurrent_dec _ sP s' r h2
      obtain ⟨_, sB, hb, h4⟩ := bind_dec item _ sP s' r h3
      have h5 := getCurrent_dec _ sB s' r h4
      have hbud : sP.recLimit - sP.recCur = s.recLimit - s.recCur := by rw [eP.recLimit, eP.recCur]
      obtain ⟨eB, tB, _⟩ := hitem sP sB () c1 (a :: x') f ftl eP.w hb (by rw [hbud]; exact hall _ (by simp)) s1
        (by rw [htP, hc1, ← hfol]; simp) hsf hFf trivial
      by_cases hsame : (sP.current == sB.current) = true
      · simp only [hsame, if_true] at h5
        exact absurd h5 (stuck_not_ok _ _ _)
      · simp only [hsame, Bool.false_eq_true, if_false] at h5
        have hbud2 : sB.recLimit - sB.recCur = s.recLimit - s.recCur := by rw [eB.recLimit, eB.recCur, hbud]
        obtain ⟨eR, tR, hrR⟩ := ih last fuel true sB s' r c2 q0 rest eB.w h5 (fun i hi => by rw [hbud2]; exact hall i (by simp [hi]))
          (by rw [hbud2]; exact hl) s2 (by rw [tB, hfol]) hq hne hfq
        exact ⟨by simpa using (eP.trans eB).trans eR, tR, hrR⟩

/-- `{ RootOperationTypeDefinition* OperationType : }` then the continuation `K` (which starts with `}`) -/
theorem cmp_rootsBlockN {α : Type} (K : PI α) {Lk : Nat → List Ast.Tok → Prop} {F : Kind → Prop} {Q : α → Prop}
    (hK : Cmp (fun _ => True) K Lk F Q) (hKhead : ∀ b x, Lk b x → ∃ x', x = .p .rCurly :: x') :
    Cmp (fun _ => True) (rootsBlock K)
      (fun b x => ∃ (pre : List (Ast.OpType × Ast.Str)) (op : Ast.OpType) (xk : List Ast.Tok),
        x = .p .lCurly :: (Ast.tRootOpItems pre ++ ([.name op.name.toList, .p .colon] ++ xk)) ∧ Lk b xk) F Q := by
  intro s s' u cv x q0 rest w hr hl hs ht hq hf _
  obtain ⟨pre, op, xk, rfl, hlk⟩ := hl
  obtain ⟨xk', rfl⟩ := hKhead _ _ hlk
  obtain ⟨t, i, c', rfl, hta, hi, hs'⟩ := spells_cons hs
  obtain ⟨c2, c3, rfl, s2, s3⟩ := spells_split (x1 := Ast.tRootOpItems pre ++ [.name op.name.toList, .p .colon]) (x2 := .p .rCurly :: xk')
    (by simpa [List.append_assoc] using hs') (by simp)
  obtain ⟨tb, tlb, hc3, htb⟩ := spells_head s3
  have hkb : tb.kind = .rCurly := kind_of_astOfV htb
  obtain ⟨f, ftl, hfol, hsf, _⟩ := next_item_head (Li := fun b x => LRootOp b x ∨ LRootOpN b x) (P := fun k => k = Kind.name) (b := 0)
    (by rintro b x (⟨r, rfl⟩ | ⟨o, rfl⟩); exact ⟨_, _, rfl, rfl⟩; exact ⟨_, _, rfl, rfl⟩)
    (rootItems pre ++ [[.name op.name.toList, .p .colon]])
    (by intro i hi; rcases List.mem_append.mp hi with hi | hi
        · exact Or.inl (rootItems_ok 0 pre i hi)
        · rw [List.mem_singleton.mp hi]; exact Or.inr ⟨op, rfl⟩) c2
    (by simpa [rootItems_flatten] using s2) tb (tlb ++ q0 :: rest) (sigf_of_astOfV htb)
  unfold rootsBlock at hr
  obtain ⟨_, sA, h1, h2⟩ := bind_dec (bump "L_CURLY") _ s s' u hr
  have hs1 : Spells (t :: i) [.p .lCurly] := by
    refine ⟨?_, by intro hd tl e; injection e with e _; subst e; exact sigf_of_astOfV hta⟩
    rw [sig_cons_ignV t i (sigf_of_astOfV hta) hi]
    exact TokIs.single t _ hta
  obtain ⟨e1, tA, _⟩ := cmp_bump "L_CURLY" s sA () (t :: i) [.p .lCurly] f (ftl) w h1 ⟨_, rfl⟩ hs1
    (by rw [ht, ← hfol, hc3]; simp) hsf trivial trivial
  obtain ⟨len, h3⟩ := srcLen_dec _ sA s' u h2
  obtain ⟨has, sB, h4, h5⟩ := bind_dec _ _ sA s' u h3
  have hbA : sA.recLimit - sA.recCur = s.recLimit - s.recCur := by rw [e1.recLimit, e1.recCur]
  obtain ⟨eB, tB, hhas⟩ := cmp_flagLoopLast .name rootOperationTypeDefinition LRootOp (fun _ => True) LRootOpN (fun k => k ≠ .name)
    cmp_rootOperationTypeDefinition cmp_rootOpNameless (by rintro b x ⟨r, rfl⟩; exact ⟨_, _, rfl, rfl⟩)
    (by rintro b x ⟨o, rfl⟩; exact ⟨_, _, rfl, rfl⟩) trivial (rootItems pre) [.name op.name.toList, .p .colon] _ false sA sB has c2 tb
    (tlb ++ q0 :: rest) e1.w h4 (rootItems_ok _ pre) ⟨op, rfl⟩ (by rw [rootItems_flatten]; exact s2) (by rw [tA, hfol]) (sigf_of_astOfV htb)
    (by rw [hkb]; decide) (by rw [hkb]; decide)
  subst hhas
  simp only [Bool.not_true, Bool.false_eq_true, if_false] at h5
  have hbB : sB.recLimit - sB.recCur = s.recLimit - s.recCur := by rw [eB.recLimit, eB.recCur, hbA]
  obtain ⟨eK, tK, q⟩ := hK sB s' u c3 _ q0 rest eB.w h5 (by rw [hbB]; exact hlk) s3 (by rw [tB, hc3]; simp) hq hf trivial
  exact ⟨by simpa [List.append_assoc] using (e1.trans eB).trans eK, tK, q⟩

def rootsLastOnly (roots : List (Ast.OpType × Option Ast.Str)) : Prop := ∀ r ∈ roots.dropLast, r.2 ≠ none

/-- **the exact guard of the schema productions**: `looseFit`, except that the LAST root operation type of a schema
    definition / extension may lack its named type (the recorded C05 finding).  Between `looseFit` and `looseFitX`. -/
def looseFitXX (b : Nat) : LooseDef → Prop
  | .schema _ ds roots => dirsFit true b ds ∧ roots ≠ [] ∧ rootsLastOnly roots
  | .schemaExt ds roots => (ds ≠ [] ∨ roots ≠ []) ∧ dirsFit true b ds ∧ rootsLastOnly roots
  | l => looseFit b l

theorem looseFitX_of_XX (b : Nat) (l : LooseDef) (h : looseFitXX b l) : looseFitX b l := by
  cases l <;> first
    | exact h
    | exact ⟨h.1, h.2.1⟩

theorem looseFitXX_of_looseFit (b : Nat) (l : LooseDef) (h : looseFit b l) : looseFitXX b l := by
  cases l <;> first
    | exact h
    | exact ⟨h.1, h.2.1, fun r hr => h.2.2 r (List.dropLast_subset _ hr)⟩

theorem roots_split (roots : List (Ast.OpType × Option Ast.Str)) (hne : roots ≠ []) (h : rootsLastOnly roots) :
    (∃ named : List (Ast.OpType × Ast.Str), named ≠ [] ∧ roots = named.map fun r => (r.1, some r.2)) ∨
    (∃ (pre : List (Ast.OpType × Ast.Str)) (op : Ast.OpType), roots = (pre.map fun r => (r.1, some r.2)) ++ [(op, none)]) := by
  obtain ⟨pre, hpre⟩ := strict_roots roots.dropLast h
  have hsplit : roots = roots.dropLast ++ [roots.getLast hne] := (List.dropLast_concat_getLast hne).symm
  cases hl : roots.getLast hne with
  | mk op o =>
    cases o with
    | none => exact Or.inr ⟨pre, op, by rw [← hpre, ← hl]; exact hsplit⟩
    | some nm =>
      refine Or.inl ⟨pre ++ [(op, nm)], by simp, ?_⟩
      rw [List.map_append, ← hpre]
      simpa [hl] using hsplit

theorem tRootOpItemsF_nameless (pre : List (Ast.OpType × Ast.Str)) (op : Ast.OpType) :
    tRootOpItemsF ((pre.map fun r => (r.1, some r.2)) ++ [(op, none)]) = Ast.tRootOpItems pre ++ [.name op.name.toList, .p .colon] := by
  have h := tRootOpItemsF_full pre
  unfold tRootOpItemsF at h ⊢
  rw [List.map_append, List.flatten_append, h]
  simp [tRootOpF]

/-- `{ RootOperationTypeDefinition+ }`, the last root possibly nameless -/
def LSBracesX (_ : Nat) (x : List Ast.Tok) : Prop :=
  ∃ roots : List (Ast.OpType × Option Ast.Str), roots ≠ [] ∧ rootsLastOnly roots ∧ x = .p .lCurly :: tRootOpItemsF roots ++ [.p .rCurly]

theorem lsBracesX_cases {b : Nat} {x : List Ast.Tok} (h : LSBracesX b x) :
    LSBraces b x ∨ ∃ (pre : List (Ast.OpType × Ast.Str)) (op : Ast.OpType),
      x = .p .lCurly :: (Ast.tRootOpItems pre ++ ([.name op.name.toList, .p .colon] ++ [.p .rCurly])) := by
  obtain ⟨roots, hne, hl, rfl⟩ := h
  rcases roots_split roots hne hl with ⟨named, hn, rfl⟩ | ⟨pre, op, rfl⟩
  · exact Or.inl ⟨named, hn, by rw [tRootOpItemsF_full]⟩
  · exact Or.inr ⟨pre, op, by rw [tRootOpItemsF_nameless]; simp [List.append_assoc]⟩

theorem cmp_sBracesX : Cmp (fun _ => True) sBraces LSBracesX (fun _ => True) (fun _ => True) := by
  intro s s' u c x q0 rest w hr hl hs ht hq hf hk
  rcases lsBracesX_cases hl with h | ⟨pre, op, rfl⟩
  · exact cmp_sBraces s s' u c x q0 rest w hr h hs ht hq hf hk
  · have hN : Cmp (fun _ => True) sBraces (fun _ x => ∃ (pre : List (Ast.OpType × Ast.Str)) (op : Ast.OpType),
        x = .p .lCurly :: (Ast.tRootOpItems pre ++ ([.name op.name.toList, .p .colon] ++ [.p .rCurly]))) (fun _ => True) (fun _ => True) := by
      unfold sBraces
      refine cmp_peekGuard (· == some .lCurly) ((cmp_rootsBlockN (expect .rCurly "R_CURLY") (cmp_expect .rCurly "R_CURLY")
        (by rintro b x ⟨a, rfl, hk⟩; rw [kindOfA_rCurly hk]; exact ⟨[], rfl⟩)).mono (fun _ h => h) ?_ (fun _ h => h) (fun _ h => h)) ?_
      · rintro b x ⟨pre, op, rfl⟩
        exact ⟨pre, op, [.p .rCurly], rfl, _, rfl, rfl⟩
      · rintro b x ⟨pre, op, rfl⟩
        exact ⟨_, _, rfl, rfl⟩
    exact hN s s' u c _ q0 rest w hr ⟨pre, op, rfl⟩ hs ht hq hf hk

def LSchemaX (b : Nat) (x : List Ast.Tok) : Prop :=
  ∃ (desc : Option Ast.Str) (ds : List Ast.Directive) (roots : List (Ast.OpType × Option Ast.Str)),
    x = (LooseDef.schema desc ds roots).toks ∧ looseFitXX b (.schema desc ds roots)

theorem cmp_schemaDefinitionX (n : Nat) :
    Cmp (fun _ => True) (schemaDefinition n) LSchemaX (fun _ => True) (fun _ => True) := by
  rw [schemaDefinition_eq]
  refine cmp_withNode _ ?_
  have h1 := cmp_optKind_ne (Hk := fun _ => True) (F := fun _ => True) .at (directives n true) sBraces (cmp_directivesNeB n true) cmp_sBracesX
    (fun b x h => ldirsNeB_head h)
    (by rintro b a x ⟨roots, _, _, e⟩; injection e with e _; subst e; exact ⟨by decide, by decide, by decide⟩)
    (by rintro b ⟨roots, _, _, e⟩; cases e) (fun _ h => h)
  have h2 := cmp_optKwSeen (Hk := fun _ => True) "schema" "schema_KW" _ h1
  have h3 := cmp_optDesc (Hk := fun _ => True) _ h2
    (by rintro b a x ⟨x2, e, _⟩; injection e with e _; subst e; simp [kindOfA])
    (by rintro b ⟨x2, e, _⟩; cases e)
  refine h3.mono (fun _ h => h) ?_ (fun _ h => h) (fun _ h => h)
  rintro b x ⟨desc, ds, roots, rfl, hd, hne, hl⟩
  exact ⟨desc, .name "schema".toList :: (Ast.tDirectives ds ++ (.p .lCurly :: tRootOpItemsF roots ++ [.p .rCurly])),
    (by show schemaToks desc true ds roots = _; unfold schemaToks; rw [kwPart_true]; simp only [List.append_assoc, List.cons_append, List.nil_append]), _, rfl, Ast.tDirectives ds, _, rfl,
    ldirsB_split true b ds hd, roots, hne, hl, rfl⟩

theorem cmpT_schemaDefinitionX (n : Nat) :
    CmpT (fun _ => True) (schemaDefinition n) LSchemaX (fun _ => True) (fun _ => True) := (cmp_schemaDefinitionX n).toT

/-! ### schema extension -/

theorem cmp_schemaExtBracesX (meets : Bool) :
    Cmp (fun _ => True) (schemaExtBraces meets) (fun b x => LSBracesX b x ∨ (x = [] ∧ meets = true)) (fun k => k ≠ .lCurly) (fun _ => True) := by
  intro s s' a c x q0 rst w hrun hl hs ht hq hf hkh
  rcases hl with hl | hl
  · rcases lsBracesX_cases hl with h | ⟨pre, op, rfl⟩
    · exact cmp_schemaExtBraces meets s s' a c x q0 rst w hrun (Or.inl h) hs ht hq hf hkh
    · have hN : Cmp (fun _ => True) (schemaExtBraces meets) (fun _ x => ∃ (pre : List (Ast.OpType × Ast.Str)) (op : Ast.OpType),
          x = .p .lCurly :: (Ast.tRootOpItems pre ++ ([.name op.name.toList, .p .colon] ++ [.p .rCurly]))) (fun k => k ≠ .lCurly) (fun _ => True) := by
        unfold schemaExtBraces
        refine cmp_peekGuard (· == some .lCurly)
          ((cmp_rootsBlockN _ cmp_closeExt (by rintro b x rfl; exact ⟨[], rfl⟩)).mono (fun _ h => h) ?_ (fun _ h => h) (fun _ h => h)) ?_
        · rintro b x ⟨pre, op, rfl⟩
          exact ⟨pre, op, [.p .rCurly], rfl, rfl⟩
        · rintro b x ⟨pre, op, rfl⟩
          exact ⟨_, _, rfl, rfl⟩
      exact hN s s' a c _ q0 rst w hrun ⟨pre, op, rfl⟩ hs ht hq hf hkh
  · exact cmp_schemaExtBraces meets s s' a c x q0 rst w hrun (Or.inr hl) hs ht hq hf hkh

def LSchemaExtX (b : Nat) (x : List Ast.Tok) : Prop :=
  ∃ (ds : List Ast.Directive) (roots : List (Ast.OpType × Option Ast.Str)),
    x = (LooseDef.schemaExt ds roots).toks ∧ looseFitXX b (.schemaExt ds roots)

/-- **completeness of `schema_extension` for `looseFitXX`**: the token after it must not continue it (`Fbody`: not `@`,
    `(`, `{`) -/
theorem cmpT_schemaExtensionX (n : Nat) :
    CmpT (fun _ => True) (schemaExtension n) LSchemaExtX (fun t => Fbody t.kind) (fun _ => True) := by
  rw [schemaExtension_eq]
  refine cmpT_withNode _ ?_
  have hd := cmp_extDirs (Hk := fun _ => True) (F := Fbody) n schemaExtBraces false
    (Ln := fun m b x => LSBracesX b x ∨ (x = [] ∧ m = true))
    (fun m => (cmp_schemaExtBracesX m).mono (fun _ h => h) (fun _ _ h => h) (fun k h => h.2.2) (fun _ h => h))
    (by rintro m b a x (⟨roots, _, _, e⟩ | ⟨h, _⟩)
        · injection e with e _
          subst e; exact ⟨by decide, by decide⟩
        · cases h)
    (fun k h => ⟨h.1, h.2.1⟩)
  refine (cmpT_ext (Hk := fun _ => True) "schema" _ _ _ hd.toT).mono (fun _ h => h) ?_ (fun _ h => h) (fun _ h => h)
  rintro b x ⟨ds, roots, rfl, hne, hdf, hl⟩
  refine ⟨Ast.tDirectives ds ++ Ast.tBraced (tRootOpItemsF roots) roots.isEmpty,
    by simp [LooseDef.toks, List.append_assoc], ds, _, rfl, hdf, ?_⟩
  by_cases hr : roots = []
  · subst hr
    refine Or.inr ⟨rfl, ?_⟩
    rcases hne with h | h
    · cases ds with
      | nil => exact absurd rfl h
      | cons _ _ => rfl
    · exact absurd rfl h
  · refine Or.inl ⟨roots, hr, hl, ?_⟩
    have : roots.isEmpty = false := by cases roots with | nil => exact absurd rfl hr | cons _ _ => rfl
    rw [this]
    simp [Ast.tBraced]

/-! ### kernel-evaluated examples: a nameless last root is accepted, a nameless earlier root is not -/

theorem schema_nameless_root_witnesses :
    (parse .document none 500 "schema { query: }".toList).errors = [] ∧
    (parse .document none 500 "schema { query: Q mutation: }".toList).errors = [] ∧
    (parse .document none 500 "extend schema @d { query: }".toList).errors = [] ∧
    (parse .document none 500 "extend schema { query: Q subscription: }".toList).errors = [] ∧
    (parse .document none 500 "schema { query: mutation }".toList).errors = [] ∧
    (parse .document none 500 "schema { query: mutation: M }".toList).errors ≠ [] ∧
    (parse .document none 500 "extend schema { query: subscription: S }".toList).errors ≠ [] ∧
    (parse .document none 500 "schema { query }".toList).errors ≠ [] := by decide +kernel

end Apollo.Parse.Exact
