import ApolloModel.Proofs.ParserTreeDef9
/-
C08 (pipeline), type-system definitions through the dispatcher (`documentDispatch` → `selectDefinition` / `extensions`):
`tr_typeSystemDefinition`, and the well-formedness facts of the accepted loose definition in one Boolean
(`LooseDef.wf`), enough for the printer/parser round trip (`LooseDef.wf_strict`).
-/
set_option linter.unusedSimpArgs false
set_option linter.unusedVariables false

namespace Apollo.Parse
open Apollo.Rowan hiding Str
open Apollo.Lex hiding Str
open Apollo.FromCst (DefTree NamedDefTree defTree_of_named)

/-- the well-formedness facts the parser establishes for an accepted loose definition -/
def LooseDef.wf : LooseDef → Bool
  | .scalar _ _ ds => Ast.wfDirs ds
  | .object _ _ _ ds fs => Ast.wfDirs ds && Ast.wfFieldDefs fs
  | .interface _ _ _ ds fs => Ast.wfDirs ds && Ast.wfFieldDefs fs
  | .union _ _ ds _ => Ast.wfDirs ds
  | .enum _ _ ds vs => Ast.wfDirs ds && Ast.wfEnumValueDefs vs && vs.all (fun v => !isValueKeyword v.value)
  | .input _ _ ds fs => Ast.wfDirs ds && Ast.wfIVDs fs
  | .directive _ _ args _ _ _ _ => Ast.wfIVDs args
  | .schema _ ds roots => Ast.wfDirs ds && !roots.isEmpty
  | .scalarExt _ ds => Ast.wfDirs ds
  | .objectExt _ _ ds fs => Ast.wfDirs ds && Ast.wfFieldDefs fs
  | .interfaceExt _ _ ds fs => Ast.wfDirs ds && Ast.wfFieldDefs fs
  | .unionExt _ ds _ => Ast.wfDirs ds
  | .enumExt _ ds vs => Ast.wfDirs ds && Ast.wfEnumValueDefs vs && vs.all (fun v => !isValueKeyword v.value)
  | .inputExt _ ds fs => Ast.wfDirs ds && Ast.wfIVDs fs
  | .schemaExt ds _ => Ast.wfDirs ds

theorem fullRoots_isEmpty : ∀ (rs : List (Ast.OpType × Option Ast.Str)) (rs' : List (Ast.OpType × Ast.Str)),
    fullRoots rs = some rs' → rs'.isEmpty = rs.isEmpty
  | [], rs', h => by simp [fullRoots] at h; subst h; rfl
  | (op, some nm) :: r, rs', h => by
    simp only [fullRoots, Option.map_eq_some_iff] at h
    obtain ⟨r', _, e⟩ := h
    subst e; rfl
  | (_, none) :: _, _, h => by simp [fullRoots] at h

/-- without the two deviations, the accepted definition satisfies the hypotheses of the printer/parser round trip -/
theorem LooseDef.wf_strict (l : LooseDef) (d : Ast.Definition) (h : l.strict = some d) (hw : l.wf = true) :
    Ast.wfDefinition d = true := by
  cases l <;> simp only [LooseDef.strict] at h
  case scalar | input | scalarExt | inputExt => injection h with h; subst h; exact hw
  case object | interface | union | objectExt | interfaceExt | unionExt =>
    split at h
    · cases h
    · injection h with h; subst h; exact hw
  case enum desc nm ds vs | enumExt nm ds vs =>
    injection h with h; subst h
    simp only [LooseDef.wf, Bool.and_eq_true] at hw
    simp [Ast.wfDefinition, hw.1.1, hw.1.2]
  case directive desc nm args rep lead first rest =>
    split at h
    · cases h
    · injection h with h; subst h
      simp only [LooseDef.wf] at hw
      simp [Ast.wfDefinition, hw]
  case schema desc ds roots =>
    simp only [Option.map_eq_some_iff] at h
    obtain ⟨rs', hr, e⟩ := h
    subst e
    simp only [LooseDef.wf] at hw
    simp only [Ast.wfDefinition, fullRoots_isEmpty roots rs' hr]
    exact hw
  case schemaExt ds roots =>
    simp only [Option.map_eq_some_iff] at h
    obtain ⟨rs', hr, e⟩ := h
    subst e
    exact hw

/-- what one type-system definition / extension contributes: the tokens of ONE loose definition `l` with the keywords
    `ks`, ONE element, the tree of `l` -/
def TsR (ks : List String) (cs : List Tok) (e : List Elem) : Prop :=
  ∃ (l : LooseDef) (ed : Elem), l.kws = ks ∧ TokIs cs l.toks ∧ l.wf = true ∧ e = [ed] ∧ DefTree l ed

theorem all_notKeyword {vs : List Ast.EnumValueDef} (h : ∀ v ∈ vs, isValueKeyword v.value = false) :
    vs.all (fun v => !isValueKeyword v.value) = true :=
  List.all_eq_true.mpr (fun v hv => by simp [h v hv])

theorem selected_definition_tree (n : Nat) (word : String) (hword : word ∈ defWords) (s s' : PState) (st : St s)
    (hq : DefStart word (Toks s)) (h : (selectDefinition n word.toList).run s = .ok () s') (hnd : ¬ Doomed s') :
    St s' ∧ TrRes NoE s s' (TsR [word]) := by
  simp only [defWords, List.mem_cons, List.mem_singleton, List.not_mem_nil, or_false] at hword
  rcases hword with rfl | rfl | rfl | rfl | rfl | rfl | rfl | rfl
  · have e : selectDefinition n "directive".toList = directiveDefinition n := rfl
    rw [e] at h
    obtain ⟨st', res⟩ := St.step (tr_directiveDefinition n) st hq h hnd
    refine ⟨st', res.weaken ?_⟩
    rintro cs e ⟨desc, nm, args, rep, lead, first, rest, ed, h1, h2, h3, h4⟩
    exact ⟨.directive desc nm args rep lead first rest, ed, rfl, h1, h2, h3, h4⟩
  · have e : selectDefinition n "enum".toList = enumTypeDefinition n := rfl
    rw [e] at h
    obtain ⟨st', res⟩ := St.step (tr_enumTypeDefinition n) st hq h hnd
    refine ⟨st', res.weaken ?_⟩
    rintro cs e ⟨desc, nm, ds, vs, ed, h1, h2, h3, h4, h5, h6⟩
    exact ⟨.enum desc nm ds vs, ed, rfl, h1, by simp [LooseDef.wf, h2, h3, all_notKeyword h4], h5, defTree_of_named h6⟩
  · have e : selectDefinition n "input".toList = inputObjectTypeDefinition n := rfl
    rw [e] at h
    obtain ⟨st', res⟩ := St.step (tr_inputObjectTypeDefinition n) st hq h hnd
    refine ⟨st', res.weaken ?_⟩
    rintro cs e ⟨desc, nm, ds, fs, ed, h1, h2, h3, h5, h6⟩
    exact ⟨.input desc nm ds fs, ed, rfl, h1, by simp [LooseDef.wf, h2, h3], h5, defTree_of_named h6⟩
  · have e : selectDefinition n "interface".toList = interfaceTypeDefinition n := rfl
    rw [e] at h
    obtain ⟨st', res⟩ := St.step (tr_interfaceTypeDefinition n) st hq h hnd
    refine ⟨st', res.weaken ?_⟩
    rintro cs e ⟨desc, nm, impl, ds, fs, ed, h1, h2, h3, h5, h6⟩
    exact ⟨.interface desc nm impl ds fs, ed, rfl, h1, by simp [LooseDef.wf, h2, h3], h5, defTree_of_named h6⟩
  · have e : selectDefinition n "type".toList = objectTypeDefinition n := rfl
    rw [e] at h
    obtain ⟨st', res⟩ := St.step (tr_objectTypeDefinition n) st hq h hnd
    refine ⟨st', res.weaken ?_⟩
    rintro cs e ⟨desc, nm, impl, ds, fs, ed, h1, h2, h3, h5, h6⟩
    exact ⟨.object desc nm impl ds fs, ed, rfl, h1, by simp [LooseDef.wf, h2, h3], h5, defTree_of_named h6⟩
  · have e : selectDefinition n "scalar".toList = scalarTypeDefinition n := rfl
    rw [e] at h
    obtain ⟨st', res⟩ := St.step (tr_scalarTypeDefinition n) st hq h hnd
    refine ⟨st', res.weaken ?_⟩
    rintro cs e ⟨desc, nm, ds, ed, h1, h2, h5, h6⟩
    exact ⟨.scalar desc nm ds, ed, rfl, h1, h2, h5, defTree_of_named h6⟩
  · have e : selectDefinition n "schema".toList = schemaDefinition n := rfl
    rw [e] at h
    obtain ⟨st', res⟩ := St.step (tr_schemaDefinition n) st hq h hnd
    refine ⟨st', res.weaken ?_⟩
    rintro cs e ⟨desc, ds, roots, ed, h1, h2, hne, h5, h6⟩
    have hemp : roots.isEmpty = false := by cases roots with | nil => exact absurd rfl hne | cons _ _ => rfl
    exact ⟨.schema desc ds roots, ed, rfl, h1, by simp [LooseDef.wf, h2, hemp], h5, h6⟩
  · have e : selectDefinition n "union".toList = unionTypeDefinition n := rfl
    rw [e] at h
    obtain ⟨st', res⟩ := St.step (tr_unionTypeDefinition n) st hq h hnd
    refine ⟨st', res.weaken ?_⟩
    rintro cs e ⟨desc, nm, ds, ms, ed, h1, h2, h5, h6⟩
    exact ⟨.union desc nm ds ms, ed, rfl, h1, h2, h5, defTree_of_named h6⟩

/-- the `peek_data` branch of the dispatcher, at the state level, keeping the tree builder -/
theorem peekData_match_st (f : Str → PI Unit) (g : PI Unit) (s s' : PState) (t : Tok) (rest : List Tok) (st : St s)
    (ht : Toks s = t :: rest)
    (h : (peekData >>= fun o => match o with | some d => f d | none => g).run s = .ok () s') :
    ∃ sP, St sP ∧ Toks sP = Toks s ∧ sP.current = some t ∧ sP.builder = s.builder ∧ (f t.data).run sP = .ok () s' := by
  obtain ⟨d, s1, h1, h2⟩ := bind_dec peekData _ s s' () h
  unfold peekData at h1
  obtain ⟨o, sP, h3, h4⟩ := bind_dec peekToken _ s s1 d h1
  have p := peekToken_obs s sP o st.w h3
  rw [run_pure] at h4
  injection h4 with h4 h5
  subst h5
  have ho : o = some t := by rw [p.head, ht]; rfl
  subst ho
  rw [← h4] at h2
  exact ⟨sP, ⟨p.w, (run_inv_added peekToken s st.inv _ sP h3).1, eofEnd_eat st.eof p.eat (by intro x hx; cases hx),
    st.lq.of_eq p.toks⟩, p.toks, p.current, keeps_peekToken s _ sP h3, h2⟩

theorem TrRes.from_peeked {s sP s' : PState} {L : List Tok → List Elem → Prop} (ht : Toks sP = Toks s) (hb : sP.builder = s.builder)
    (h : TrRes NoE sP s' L) : TrRes NoE s s' L := by
  obtain ⟨cs, ad, a1, a2, a3, a4, a5⟩ := h
  exact ⟨cs, ad, by rw [← ht]; exact a1, a2, a3, by rw [a4, hb], a5⟩

/-- **The type-system definitions through the dispatcher.** `document()` calls the dispatcher with the kind of the
    current token `t`; if the selecting text (the token after a description, else `t` itself) is one of the eight
    definition keywords and no error is added, the run consumed the tokens of ONE loose definition of that kind and
    appended its tree. -/
theorem dispatch_definition_tree (n : Nat) (word : String) (hword : word ∈ defWords) (s s' : PState) (t : Tok) (rest : List Tok)
    (st : St s) (hc : s.current = some t) (ht : Toks s = t :: rest)
    (hsel : (t.kind = .stringValue ∧ ∃ t2, (sig rest).head? = some t2 ∧ t2.data = word.toList) ∨ t.data = word.toList)
    (h : (documentDispatch n t.kind).run s = .ok () s') (hnd : ¬ Doomed s') : St s' ∧ TrRes NoE s s' (TsR [word]) := by
  have hkw : KwWord word := kwWord_of_defWords word hword
  have hl : LexQ (Toks s) := st.lq.1
  unfold documentDispatch at h
  rcases hsel with ⟨hk, t2, hh2, hd2⟩ | hd
  · rw [hk] at h
    simp only [beq_self_eq_true, if_true] at h
    have h2 := peekDataN2_dec _ s s' () t rest st.w hc ht (by rw [hk]; rfl) h
    rw [hh2] at h2
    simp only [Option.map_some, hd2] at h2
    exact selected_definition_tree n word hword s s' st (Or.inr ⟨t, rest, t2, ht, hk, hh2, hd2⟩) h2 hnd
  · obtain ⟨c, r, hc1, hc2⟩ := hkw
    have hkn : t.kind = .name := hl.headKw (by rw [ht]; rfl) word c r hc1 hc2 hd
    rw [hkn] at h
    have e1 : (Kind.name == Kind.stringValue) = false := by decide
    simp only [e1, Bool.false_eq_true, if_false, beq_self_eq_true, Bool.true_or, if_true] at h
    obtain ⟨sP, stP, htP, _, hbP, h2⟩ := peekData_match_st _ _ s s' t rest st ht h
    rw [hd] at h2
    obtain ⟨st', res⟩ := selected_definition_tree n word hword sP s' stP (Or.inl ⟨t, by rw [htP, ht]; rfl, hd⟩) h2 hnd
    exact ⟨st', res.from_peeked htP hbP⟩

/-- `extensions()` entered on the `extend` token, the next significant token being an extension keyword -/
theorem extensions_tree (n : Nat) (w2 : String) (hw2 : w2 ∈ extWords) (s s' : PState) (t : Tok) (rest : List Tok) (t2 : Tok)
    (st : St s) (hc : s.current = some t) (ht : Toks s = t :: rest)
    (hd : t.data = "extend".toList) (hh2 : (sig rest).head? = some t2) (hd2 : t2.data = w2.toList)
    (h : (extensions n).run s = .ok () s') (hnd : ¬ Doomed s') : St s' ∧ TrRes NoE s s' (TsR ["extend", w2]) := by
  have hl : LexQ (Toks s) := st.lq.1
  obtain ⟨c, r, hc1, hc2⟩ := kwWord_extend
  have hkn : t.kind = .name := hl.headKw (by rw [ht]; rfl) "extend" c r hc1 hc2 hd
  rw [extensions_eq] at h
  have h2 := peekDataN2_dec _ s s' () t rest st.w hc ht (by rw [hkn]; rfl) h
  rw [hh2] at h2
  simp only [Option.map_some, hd2] at h2
  have hq : ∀ w2', t2.data = w2'.toList → Ext2 "extend" w2' (Toks s) := fun w2' hd' => ⟨t, rest, t2, ht, hd, hh2, hd'⟩
  simp only [extWords, List.mem_cons, List.mem_singleton, List.not_mem_nil, or_false] at hw2
  rcases hw2 with rfl | rfl | rfl | rfl | rfl | rfl | rfl
  · have e : extSel n (some "schema".toList) = schemaExtension n := rfl
    rw [e] at h2
    obtain ⟨st', res⟩ := St.step (tr_schemaExtension n) st (hq _ hd2) h2 hnd
    refine ⟨st', res.weaken ?_⟩
    rintro cs e ⟨ds, roots, ed, h1, h2, h5, h6⟩
    exact ⟨.schemaExt ds roots, ed, rfl, h1, h2, h5, h6⟩
  · have e : extSel n (some "scalar".toList) = scalarTypeExtension n := rfl
    rw [e] at h2
    obtain ⟨st', res⟩ := St.step (tr_scalarTypeExtension n) st (hq _ hd2) h2 hnd
    refine ⟨st', res.weaken ?_⟩
    rintro cs e ⟨nm, ds, ed, h1, h2, h5, h6⟩
    exact ⟨.scalarExt nm ds, ed, rfl, h1, h2, h5, defTree_of_named h6⟩
  · have e : extSel n (some "type".toList) = objectTypeExtension n := rfl
    rw [e] at h2
    obtain ⟨st', res⟩ := St.step (tr_objectTypeExtension n) st (hq _ hd2) h2 hnd
    refine ⟨st', res.weaken ?_⟩
    rintro cs e ⟨nm, impl, ds, fs, ed, h1, h2, h3, h5, h6⟩
    exact ⟨.objectExt nm impl ds fs, ed, rfl, h1, by simp [LooseDef.wf, h2, h3], h5, defTree_of_named h6⟩
  · have e : extSel n (some "interface".toList) = interfaceTypeExtension n := rfl
    rw [e] at h2
    obtain ⟨st', res⟩ := St.step (tr_interfaceTypeExtension n) st (hq _ hd2) h2 hnd
    refine ⟨st', res.weaken ?_⟩
    rintro cs e ⟨nm, impl, ds, fs, ed, h1, h2, h3, h5, h6⟩
    exact ⟨.interfaceExt nm impl ds fs, ed, rfl, h1, by simp [LooseDef.wf, h2, h3], h5, defTree_of_named h6⟩
  · have e : extSel n (some "union".toList) = unionTypeExtension n := rfl
    rw [e] at h2
    obtain ⟨st', res⟩ := St.step (tr_unionTypeExtension n) st (hq _ hd2) h2 hnd
    refine ⟨st', res.weaken ?_⟩
    rintro cs e ⟨nm, ds, ms, ed, h1, h2, h5, h6⟩
    exact ⟨.unionExt nm ds ms, ed, rfl, h1, h2, h5, defTree_of_named h6⟩
  · have e : extSel n (some "enum".toList) = enumTypeExtension n := rfl
    rw [e] at h2
    obtain ⟨st', res⟩ := St.step (tr_enumTypeExtension n) st (hq _ hd2) h2 hnd
    refine ⟨st', res.weaken ?_⟩
    rintro cs e ⟨nm, ds, vs, ed, h1, h2, h3, h4, h5, h6⟩
    exact ⟨.enumExt nm ds vs, ed, rfl, h1, by simp [LooseDef.wf, h2, h3, all_notKeyword h4], h5, defTree_of_named h6⟩
  · have e : extSel n (some "input".toList) = inputObjectTypeExtension n := rfl
    rw [e] at h2
    obtain ⟨st', res⟩ := St.step (tr_inputObjectTypeExtension n) st (hq _ hd2) h2 hnd
    refine ⟨st', res.weaken ?_⟩
    rintro cs e ⟨nm, ds, fs, ed, h1, h2, h3, h5, h6⟩
    exact ⟨.inputExt nm ds fs, ed, rfl, h1, by simp [LooseDef.wf, h2, h3], h5, defTree_of_named h6⟩

/-- **The type-system extensions through the dispatcher**: the current token reads `extend`, the next significant
    token one of the seven extension keywords. -/
theorem dispatch_extension_tree (n : Nat) (w2 : String) (hw2 : w2 ∈ extWords) (s s' : PState) (t : Tok) (rest : List Tok) (t2 : Tok)
    (st : St s) (ht : Toks s = t :: rest)
    (hd : t.data = "extend".toList) (hh2 : (sig rest).head? = some t2) (hd2 : t2.data = w2.toList)
    (h : (documentDispatch n t.kind).run s = .ok () s') (hnd : ¬ Doomed s') : St s' ∧ TrRes NoE s s' (TsR ["extend", w2]) := by
  have hl : LexQ (Toks s) := st.lq.1
  obtain ⟨c, r, hc1, hc2⟩ := kwWord_extend
  have hkn : t.kind = .name := hl.headKw (by rw [ht]; rfl) "extend" c r hc1 hc2 hd
  unfold documentDispatch at h
  rw [hkn] at h
  have e1 : (Kind.name == Kind.stringValue) = false := by decide
  simp only [e1, Bool.false_eq_true, if_false, beq_self_eq_true, Bool.true_or, if_true] at h
  obtain ⟨sP, stP, htP, hcP, hbP, h2⟩ := peekData_match_st _ _ s s' t rest st ht h
  rw [hd] at h2
  have e : selectDefinition n "extend".toList = extensions n := rfl
  rw [e] at h2
  obtain ⟨st', res⟩ := extensions_tree n w2 hw2 sP s' t rest t2 stP hcP (by rw [htP]; exact ht) hd hh2 hd2 h2 hnd
  exact ⟨st', res.from_peeked htP hbP⟩

/-- how the dispatcher selects a type-system definition or extension: by the text of the current token `t`, or of
    the next significant token when `t` is a description (definitions) or reads `extend` (extensions) -/
inductive TsSel (t : Tok) (rest : List Tok) : List String → Prop
  | kw (word : String) (hw : word ∈ defWords) (hd : t.data = word.toList) : TsSel t rest [word]
  | desc (word : String) (hw : word ∈ defWords) (hk : t.kind = .stringValue) (t2 : Tok) (hh : (sig rest).head? = some t2)
      (hd : t2.data = word.toList) : TsSel t rest [word]
  | ext (w2 : String) (hw : w2 ∈ extWords) (hd : t.data = "extend".toList) (t2 : Tok) (hh : (sig rest).head? = some t2)
      (hd2 : t2.data = w2.toList) : TsSel t rest ["extend", w2]

/-- **every type-system definition and extension through the dispatcher**: an error-free run of `documentDispatch` on
    a selecting token consumed the tokens of ONE loose definition `l` (with the selected keywords) and appended ONE
    element, the tree of `l`; `l` is well-formed -/
theorem tr_typeSystemDefinition (n : Nat) (s s' : PState) (t : Tok) (rest : List Tok) (ks : List String) (st : St s)
    (hc : s.current = some t) (ht : Toks s = t :: rest) (hsel : TsSel t rest ks)
    (h : (documentDispatch n t.kind).run s = .ok () s') (hnd : ¬ Doomed s') : St s' ∧ TrRes NoE s s' (TsR ks) := by
  cases hsel with
  | kw word hw hd => exact dispatch_definition_tree n word hw s s' t rest st hc ht (Or.inr hd) h hnd
  | desc word hw hk t2 hh hd => exact dispatch_definition_tree n word hw s s' t rest st hc ht (Or.inl ⟨hk, t2, hh, hd⟩) h hnd
  | ext w2 hw hd t2 hh hd2 => exact dispatch_extension_tree n w2 hw s s' t rest t2 st ht hd hh hd2 h hnd

end Apollo.Parse
