import ApolloModel.Proofs.ExecRules3
/-
C17, document level, the rules of the validation walk itself (`Standalone.walkSels` / `enterFrag`, schema present):
WHERE `validate_field` (§5.3.3 MissingSubselection, §5.4 arguments), `validate_fragment_spread` (§5.5.2.1),
`validate_inline_fragment` and `validate_fragment_definition` (§5.5.1.3, §5.5.2.2) are applied.  A `Site` is one
such call; `Site.diags` is what that call reports by itself.
-/
set_option linter.unusedSimpArgs false
set_option linter.unusedVariables false
namespace Apollo.Standalone.Walk
open Apollo Apollo.Standalone

inductive Site where
  /-- a field `name` in a selection set of type `ty`, `subNil`: written without sub-selection -/
  | field (ty : Option Name) (name : Name) (dirs : List Dir) (args : List Arg) (subNil : Bool)
  | spread (f : Name) (dirs : List Dir)
  | inline (tc : Option Name) (dirs : List Dir)
  | fragDef (f : Frag)

def inlineTcd (sc : Schema) : Option Name → List Diag
  | some t => if sc.kind t == some .composite then [] else [.invalidFragmentTarget]
  | none => []
def fragTcd (sc : Schema) (f : Frag) : List Diag := if sc.kind f.tc == some .composite then [] else [.invalidFragmentTarget]
def fragCyc (doc : BuiltDoc) (f : Frag) : List Diag := if f.name ∈ reach doc f.sels then [.recursiveFragmentDefinition] else []

def Site.diags (p : Params) (sc : Schema) (doc : BuiltDoc) : Site → List Diag
  | .field ty name dirs args subNil =>
    dirDiags p (some sc) .field dirs ++ uniqueArgs [] args ++
      (match ty with
       | some t =>
         (match sc.field t name with
          | some fd =>
            undefinedArgs fd.args args ++ requiredArgs fd.args args ++
              (if subNil && sc.kind fd.ty == some .composite then [.missingSubselection] else [])
          | none => [])
       | none => [])
  | .spread f dirs =>
    dirDiags p (some sc) .fragmentSpread dirs ++ (match doc.findFrag f with | some _ => [] | none => [.undefinedFragment])
  | .inline tc dirs => dirDiags p (some sc) .inlineFragment dirs ++ inlineTcd sc tc
  | .fragDef f => dirDiags p (some sc) .fragmentDefinition f.dirs ++ fragTcd sc f ++ fragCyc doc f

/-- the type under which the body of an inline fragment is walked -/
def inlineTy (ty : Option Name) : Option Name → Option Name
  | some t => some t
  | none => ty

def localSites (sc : Schema) : Option Name → Sels → List Site
  | _, .nil => []
  | ty, .field name dirs args sub rest =>
    [.field ty name dirs args sub.isNil] ++
    (match ty with
     | some t =>
       (match sc.field t name with
        | some fd => if sub.isNil && sc.kind fd.ty == some .composite then [] else localSites sc (some fd.ty) sub
        | none => [])
     | none => localSites sc none sub) ++ localSites sc ty rest
  | ty, .spread f dirs rest => [.spread f dirs] ++ localSites sc ty rest
  | ty, .inline tc dirs sub rest =>
    [.inline tc dirs] ++ (if (inlineTcd sc tc).isEmpty then localSites sc (inlineTy ty tc) sub else []) ++ localSites sc ty rest

def localSpreads (sc : Schema) : Option Name → Sels → List Name
  | _, .nil => []
  | ty, .field name _ _ sub rest =>
    (match ty with
     | some t =>
       (match sc.field t name with
        | some fd => if sub.isNil && sc.kind fd.ty == some .composite then [] else localSpreads sc (some fd.ty) sub
        | none => [])
     | none => localSpreads sc none sub) ++ localSpreads sc ty rest
  | ty, .spread f _ rest => [f] ++ localSpreads sc ty rest
  | ty, .inline tc _ sub rest =>
    (if (inlineTcd sc tc).isEmpty then localSpreads sc (inlineTy ty tc) sub else []) ++ localSpreads sc ty rest

/-- what is walked below a field, and under which type: nothing below a field its parent type does not define and
    below a composite field written without sub-selection -/
def fieldSub (sc : Schema) (ty : Option Name) (name : Name) (sub : Sels) : Option Name × Sels :=
  match ty with
  | some t =>
    (match sc.field t name with
     | some fd => if sub.isNil && sc.kind fd.ty == some .composite then (none, .nil) else (some fd.ty, sub)
     | none => (none, .nil))
  | none => (none, sub)

/-- what is walked below an inline fragment: its body under `inlineTy`, unless the type condition was reported -/
def inlineSub (sc : Schema) (ty tc : Option Name) (sub : Sels) : Option Name × Sels :=
  if (inlineTcd sc tc).isEmpty then (inlineTy ty tc, sub) else (none, .nil)

theorem fieldSub_ind {M : Option Name → Sels → Prop} (sc : Schema) (ty : Option Name) (name : Name) {sub : Sels}
    (hn : M none .nil) (hs : ∀ ta, M ta sub) : M (fieldSub sc ty name sub).1 (fieldSub sc ty name sub).2 := by
  unfold fieldSub
  repeat' split
  all_goals first | exact hn | exact hs _

theorem inlineSub_ind {M : Option Name → Sels → Prop} (sc : Schema) (ty tc : Option Name) {sub : Sels}
    (hn : M none .nil) (hs : ∀ ta, M ta sub) : M (inlineSub sc ty tc sub).1 (inlineSub sc ty tc sub).2 := by
  unfold inlineSub
  split
  · exact hs _
  · exact hn

section
variable (p : Params) (sc : Schema) (doc : BuiltDoc) (e : Frag → List Name → List Diag × List Name)
  (ty : Option Name) (name : Name) (tc : Option Name) (dirs : List Dir) (args : List Arg) (sub rest : Sels) (V : List Name)

theorem walk_field_eq :
    walkSels p (some sc) doc e ty (.field name dirs args sub rest) V =
      let r := walkSels p (some sc) doc e (fieldSub sc ty name sub).1 (fieldSub sc ty name sub).2 V
      let r4 := walkSels p (some sc) doc e ty rest r.2
      ((Site.field ty name dirs args sub.isNil).diags p sc doc ++ r.1 ++ r4.1, r4.2) := by
  cases ty with
  | none => simp [walkSels, Site.diags, fieldSub]
  | some t =>
    cases hfd : sc.field t name with
    | none => simp [walkSels, Site.diags, fieldSub, hfd]
    | some fd =>
      by_cases hc : (sub.isNil && sc.kind fd.ty == some Kind.composite) = true <;>
        simp [walkSels, Site.diags, fieldSub, hfd, hc]

theorem localSites_field :
    localSites sc ty (.field name dirs args sub rest) =
      .field ty name dirs args sub.isNil ::
        (localSites sc (fieldSub sc ty name sub).1 (fieldSub sc ty name sub).2 ++ localSites sc ty rest) := by
  cases ty with
  | none => rfl
  | some t =>
    simp only [localSites, fieldSub]
    cases sc.field t name with
    | none => rfl
    | some fd => dsimp only; split <;> rfl

theorem localSpreads_field :
    localSpreads sc ty (.field name dirs args sub rest) =
      localSpreads sc (fieldSub sc ty name sub).1 (fieldSub sc ty name sub).2 ++ localSpreads sc ty rest := by
  cases ty with
  | none => rfl
  | some t =>
    simp only [localSpreads, fieldSub]
    cases sc.field t name with
    | none => rfl
    | some fd => dsimp only; split <;> rfl

theorem walk_inline_eq :
    walkSels p (some sc) doc e ty (.inline tc dirs sub rest) V =
      let r := walkSels p (some sc) doc e (inlineSub sc ty tc sub).1 (inlineSub sc ty tc sub).2 V
      let r4 := walkSels p (some sc) doc e ty rest r.2
      ((Site.inline tc dirs).diags p sc doc ++ r.1 ++ r4.1, r4.2) := by
  have below : walkSels p (some sc) doc e (inlineSub sc ty tc sub).1 (inlineSub sc ty tc sub).2 V =
      if (inlineTcd sc tc).isEmpty then walkSels p (some sc) doc e (inlineTy ty tc) sub V else ([], V) := by
    unfold inlineSub; split <;> simp [walkSels]
  simp only [below]
  cases tc <;> simp only [walkSels, Site.diags, inlineTcd, inlineTy] <;> rfl

theorem localSites_inline :
    localSites sc ty (.inline tc dirs sub rest) =
      .inline tc dirs :: (localSites sc (inlineSub sc ty tc sub).1 (inlineSub sc ty tc sub).2 ++ localSites sc ty rest) := by
  simp only [localSites, inlineSub]; split <;> rfl

theorem localSpreads_inline :
    localSpreads sc ty (.inline tc dirs sub rest) =
      localSpreads sc (inlineSub sc ty tc sub).1 (inlineSub sc ty tc sub).2 ++ localSpreads sc ty rest := by
  simp only [localSpreads, inlineSub]; split <;> rfl

end

/-- where a diagnostic of the walk of one selection set comes from: one of its own sites, or the handler of a
    fragment it spreads -/
def Origin (p : Params) (sc : Schema) (doc : BuiltDoc) (e : Frag → List Name → List Diag × List Name)
    (ty : Option Name) (t : Sels) (d : Diag) : Prop :=
  (∃ site ∈ localSites sc ty t, d ∈ site.diags p sc doc) ∨
    (∃ f ∈ localSpreads sc ty t, ∃ fr W, doc.findFrag f = some fr ∧ d ∈ (e fr W).1)

theorem Origin.mono {p : Params} {sc : Schema} {doc : BuiltDoc} {e : Frag → List Name → List Diag × List Name}
    {ta ty : Option Name} {a t : Sels} {d : Diag} (h : Origin p sc doc e ta a d)
    (hl : ∀ x ∈ localSites sc ta a, x ∈ localSites sc ty t) (hs : ∀ f ∈ localSpreads sc ta a, f ∈ localSpreads sc ty t) :
    Origin p sc doc e ty t d := by
  rcases h with ⟨site, h1, h2⟩ | ⟨f, h1, h2⟩
  · exact .inl ⟨site, hl _ h1, h2⟩
  · exact .inr ⟨f, hs _ h1, h2⟩

theorem walk_diag_origin (p : Params) (sc : Schema) (doc : BuiltDoc) (e : Frag → List Name → List Diag × List Name) :
    ∀ (t : Sels) (ty : Option Name) (V : List Name) (d : Diag),
      d ∈ (walkSels p (some sc) doc e ty t V).1 → Origin p sc doc e ty t d := by
  intro t
  induction t with
  | nil => intro ty V d h; simp [walkSels] at h
  | field name dirs args sub rest ihs ihr =>
    intro ty V d h
    rw [walk_field_eq] at h
    simp only [List.mem_append] at h
    rcases h with (h | h) | h
    · exact .inl ⟨_, by simp [localSites_field], h⟩
    · have below := fieldSub_ind sc ty name
        (M := fun ta a => ∀ V, d ∈ (walkSels p (some sc) doc e ta a V).1 → Origin p sc doc e ta a d)
        (fun V h => by simp [walkSels] at h) (fun ta V => ihs ta V d)
      exact (below V h).mono (fun x hx => by simp [localSites_field, hx]) (fun x hx => by simp [localSpreads_field, hx])
    · exact (ihr ty _ d h).mono (fun x hx => by simp [localSites_field, hx]) (fun x hx => by simp [localSpreads_field, hx])
  | spread f dirs rest ihr =>
    intro ty V d h
    simp only [walkSels, List.mem_append] at h
    rcases h with (h | h) | h
    · exact .inl ⟨.spread f dirs, by simp [localSites], by simp [Site.diags, h]⟩
    · cases hfr : doc.findFrag f with
      | none =>
        simp only [hfr] at h
        exact .inl ⟨.spread f dirs, by simp [localSites], by simp [Site.diags, hfr, h]⟩
      | some fr =>
        simp only [hfr] at h
        by_cases hv : f ∈ V
        · simp [hv] at h
        · simp only [hv, if_false] at h
          exact .inr ⟨f, by simp [localSpreads], fr, f :: V, hfr, h⟩
    · exact (ihr ty _ d h).mono (fun x hx => by simp [localSites, hx]) (fun x hx => by simp [localSpreads, hx])
  | inline tc dirs sub rest ihs ihr =>
    intro ty V d h
    rw [walk_inline_eq] at h
    simp only [List.mem_append] at h
    rcases h with (h | h) | h
    · exact .inl ⟨_, by simp [localSites_inline], h⟩
    · have below := inlineSub_ind sc ty tc
        (M := fun ta a => ∀ V, d ∈ (walkSels p (some sc) doc e ta a V).1 → Origin p sc doc e ta a d)
        (fun V h => by simp [walkSels] at h) (fun ta V => ihs ta V d)
      exact (below V h).mono (fun x hx => by simp [localSites_inline, hx]) (fun x hx => by simp [localSpreads_inline, hx])
    · exact (ihr ty _ d h).mono (fun x hx => by simp [localSites_inline, hx]) (fun x hx => by simp [localSpreads_inline, hx])

end Apollo.Standalone.Walk
