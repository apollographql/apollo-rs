import ApolloModel.Proofs.ParserExactC9
import ApolloModel.Proofs.ParserComplete13
/-
C05 / C07 (completeness), exact budget: default values and variable definitions, operation and fragment
definitions.
-/
set_option linter.unusedSimpArgs false
namespace Apollo.Parse.Exact
open Apollo.Rowan hiding Str
open Apollo.Lex hiding Str

/-! ### default value, one variable definition -/

def LDefault (b : Nat) (x : List Ast.Tok) : Prop := ∃ v, x = .p .eq :: Ast.tValue v ∧ valueOk true v = true ∧ vdepth v ≤ b

theorem cmp_defaultValue (n : Nat) : Cmp (fun _ => True) (defaultValue n) LDefault (fun _ => True) (fun _ => True) := by
  unfold defaultValue
  refine cmp_withNode _ ?_
  have := cmp_bind (Hk := fun _ => True) (F := fun _ => True) (cmp_bump "EQ") (fun _ _ => value_complete n true false)
    (fun _ _ _ _ => trivial) (fun _ _ => trivial) (fun _ _ => trivial)
  refine this.mono (fun _ h => h) ?_ (fun _ h => h) (fun _ h => h)
  rintro b x ⟨v, rfl, h1, h2⟩
  exact ⟨[.p .eq], Ast.tValue v, rfl, ⟨_, rfl⟩, v, rfl, h1, h2⟩

theorem cmp_optDirsEnd {Hk : Kind → Prop} (n : Nat) :
    Cmp Hk (optDirsEnd n) (LDirs true) (fun k => k ≠ .at ∧ k ≠ .lParen) (fun _ => True) := by
  have := cmp_optU (Hk := Hk) .at (directives n true)
    (Lm := fun b x => ∃ ds, ds ≠ [] ∧ x = Ast.tDirectives ds ∧ dirsFit true b ds)
    ((directives_complete n true).mono (fun _ h => h) (by rintro b x ⟨ds, _, rfl, h⟩; exact ⟨ds, rfl, h⟩) (fun _ h => h) (fun _ h => h))
    (by rintro b x ⟨ds, hne, rfl, _⟩; obtain ⟨x', e⟩ := tDirectives_head ds hne; exact ⟨_, x', e, rfl⟩)
  refine this.mono (fun _ h => h) ?_ (fun k h => ⟨h.1, h⟩) (fun _ h => h)
  rintro b x ⟨ds, rfl, h⟩
  by_cases hne : ds = []
  · subst hne; exact Or.inr rfl
  · exact Or.inl ⟨ds, hne, rfl, h⟩

def LAfterTy (b : Nat) (x : List Ast.Tok) : Prop := ∃ x1 x2, x = x1 ++ x2 ∧ (LDefault b x1 ∨ x1 = []) ∧ LDirs true b x2

theorem ldirs_head {c : Bool} {b : Nat} {a : Ast.Tok} {x : List Ast.Tok} (h : LDirs c b (a :: x)) : a = .p .at := by
  obtain ⟨ds, e, _⟩ := h
  cases ds with
  | nil => cases e
  | cons d r => simp [Ast.tDirectives] at e; exact e.1

theorem cmp_ivdAfterTy (n : Nat) : Cmp (fun _ => True) (ivdAfterTy n) LAfterTy (fun k => k ≠ .eq ∧ k ≠ .at ∧ k ≠ .lParen) (fun _ => True) :=
  cmp_optKind (Hk := fun _ => True) .eq (defaultValue n) (optDirsEnd n) (cmp_defaultValue n) (cmp_optDirsEnd n)
    (by rintro b x ⟨v, rfl, _⟩; exact ⟨_, _, rfl, rfl⟩)
    (by intro b a x h; rw [ldirs_head h]; simp [kindOfA])
    (by intro k h; exact ⟨h.1, trivial, h.2.1, h.2.2⟩)

theorem lafterTy_head {b : Nat} {a : Ast.Tok} {x : List Ast.Tok} (h : LAfterTy b (a :: x)) : a = .p .eq ∨ a = .p .at := by
  obtain ⟨x1, x2, e, h1, h2⟩ := h
  rcases h1 with ⟨v, rfl, _⟩ | rfl
  · simp only [List.cons_append] at e
    injection e with e _
    left; exact e
  · simp only [List.nil_append] at e
    subst e
    right; exact ldirs_head h2

def LVarTail (b : Nat) (x : List Ast.Tok) : Prop := ∃ x1 x2, x = x1 ++ x2 ∧ LTy b x1 ∧ LAfterTy b x2

theorem cmp_ivdType (n : Nat) : Cmp (fun _ => True) (ivdType n) LVarTail Fvd (fun _ => True) := by
  unfold ivdType
  have hb : Cmp (fun _ => True) (ty n >>= fun _ => ivdAfterTy n) LVarTail Fvd (fun _ => True) :=
    cmp_bind (Hk := fun _ => True) (cmp_ty n) (fun _ _ => cmp_ivdAfterTy n)
      (by intro b a x2 h; rcases lafterTy_head h with e | e <;> subst e <;> simp [kindOfA])
      (fun k h => h.1) (fun k h => ⟨h.2.1, h.2.2.1, h.2.2.2⟩)
  refine cmp_peekGuard _ hb ?_
  rintro b x ⟨x1, x2, rfl, ⟨t, rfl, _⟩, _⟩
  obtain ⟨a, x', e, hka⟩ := tTy_head t
  exact ⟨a, x' ++ x2, by rw [e]; rfl, by rcases hka with h | h <;> simp [h]⟩

theorem cmp_ivdColon (n : Nat) :
    Cmp (fun _ => True) (ivdColon n) (fun b x => ∃ x2, x = .p .colon :: x2 ∧ LVarTail b x2) Fvd (fun _ => True) := by
  unfold ivdColon
  exact cmp_tokThen (.p .colon) "COLON" (cmp_ivdType n)

theorem cmp_variableDefinition (n : Nat) : Cmp (fun _ => True) (variableDefinition n) LVarDef Fvd (fun _ => True) := by
  rw [variableDefinition_eq]
  refine cmp_withNode _ ?_
  have := cmp_bind (Hk := fun _ => True) (F := Fvd) (F1 := fun _ => True) cmp_variableNode (fun _ _ => cmp_ivdColon n)
    (fun _ _ _ _ => trivial) (fun _ _ => trivial) (fun _ h => h)
  refine this.mono (fun _ h => h) ?_ (fun _ h => h) (fun _ h => h)
  rintro b x ⟨v, rfl, hty, hdef, hdirs⟩
  refine ⟨[.p .dollar, .name v.name], .p .colon :: (Ast.tTy v.ty ++ (Ast.tDefault v.default ++ Ast.tDirectives v.dirs)),
    by simp [Ast.tVarDef, List.append_assoc], ⟨_, rfl⟩, _, rfl, Ast.tTy v.ty, _, rfl, ⟨v.ty, rfl, hty⟩,
    Ast.tDefault v.default, Ast.tDirectives v.dirs, rfl, ?_, ⟨v.dirs, rfl, hdirs⟩⟩
  cases hd : v.default with
  | none => right; rfl
  | some d => left; exact ⟨d, rfl, hdef d hd⟩

/-! ### variable definitions -/

theorem varItems_ok (b : Nat) : ∀ vs, (∀ v ∈ vs, varFit b v) → ∀ i ∈ varItems vs, LVarDef b i
  | [], _ => by intro i hi; cases hi
  | v :: r, h => by
    intro i hi
    simp only [varItems, List.mem_cons] at hi
    rcases hi with rfl | hi
    · exact ⟨v, rfl, h v (by simp)⟩
    · exact varItems_ok b r (fun x hx => h x (by simp [hx])) i hi

/-- **`variable_definitions` is complete**: `( $name : Type DefaultValue? Directives? … )`, at least one -/
theorem cmp_variableDefinitions (n : Nat) :
    Cmp (fun _ => True) (variableDefinitions n) LVarDefs (fun _ => True) (fun _ => True) := by
  rw [variableDefinitions_eq, varDefsBody_eq]
  refine cmp_withNode _ ?_
  have := cmp_parenList .dollar (variableDefinition n) LVarDef Fvd (cmp_variableDefinition n)
    (by rintro b x ⟨v, rfl, _⟩; exact ⟨.p .dollar, _, rfl, rfl⟩)
    (by simp [Fvd]) (by simp [Fvd]) (by decide)
  refine this.mono (fun _ h => h) ?_ (fun _ h => h) (fun _ h => h)
  rintro b x ⟨vs, hne, rfl, hfit⟩
  cases vs with
  | nil => exact absurd rfl hne
  | cons v r =>
    refine ⟨Ast.tVarDef v, varItems r, ?_, ?_⟩
    · exact varItems_ok b (v :: r) hfit
    · simp [Ast.tVarDefs, Ast.tVarDefItems, varItems_flatten]

/-! ### operation definition -/

theorem cmp_opSel (n : Nat) : Cmp (fun _ => True) (opSel n) LSet (fun _ => True) (fun _ => True) := by
  unfold opSel
  refine cmp_peekGuard (· == some .lCurly) (selectionSet_complete n) fun b x h => ?_
  obtain ⟨x', rfl⟩ := lset_head h
  exact ⟨_, x', rfl, rfl⟩

theorem cmp_opDirs (n : Nat) :
    Cmp (fun _ => True) (optKind .at (directives n false) (opSel n)) LI2 (fun _ => True) (fun _ => True) :=
  cmp_optKind_ne (Hk := fun _ => True) (F := fun _ => True) .at (directives n false) (opSel n) (cmp_directivesNe n) (cmp_opSel n)
    (fun b x h => ldirsNe_head h)
    (by intro b a x h; obtain ⟨x', e⟩ := lset_head h; injection e with e _; subst e; simp [kindOfA])
    lset_ne (fun _ h => h)

def LOpV (b : Nat) (x : List Ast.Tok) : Prop := ∃ x1 x2, x = x1 ++ x2 ∧ (LVarDefs b x1 ∨ x1 = []) ∧ LI2 b x2
def LOpN (b : Nat) (x : List Ast.Tok) : Prop := ∃ x1 x2, x = x1 ++ x2 ∧ ((∃ n, x1 = [.name n]) ∨ x1 = []) ∧ LOpV b x2

theorem lvarDefs_head {b : Nat} {x : List Ast.Tok} (h : LVarDefs b x) : ∃ x', x = .p .lParen :: x' := by
  obtain ⟨vs, hne, rfl, _⟩ := h
  cases vs with
  | nil => exact absurd rfl hne
  | cons v r => exact ⟨Ast.tVarDefItems (v :: r) ++ [.p .rParen], by simp [Ast.tVarDefs]⟩

theorem lopV_head {b : Nat} {a : Ast.Tok} {x : List Ast.Tok} (h : LOpV b (a :: x)) : a = .p .lParen ∨ a = .p .lCurly ∨ a = .p .at := by
  obtain ⟨x1, x2, e, h1, h2⟩ := h
  rcases h1 with h1 | rfl
  · obtain ⟨x', rfl⟩ := lvarDefs_head h1
    simp only [List.cons_append] at e
    injection e with e _
    left; exact e
  · simp only [List.nil_append] at e
    subst e
    right; exact li2_head h2

theorem lopV_ne (b : Nat) : ¬ LOpV b [] := by
  rintro ⟨x1, x2, e, _, h2⟩
  cases x2 with
  | nil => exact li2_ne b h2
  | cons a r => cases x1 <;> simp at e

theorem lopN_ne (b : Nat) : ¬ LOpN b [] := by
  rintro ⟨x1, x2, e, _, h2⟩
  cases x2 with
  | nil => exact lopV_ne b h2
  | cons a r => cases x1 <;> simp at e

theorem cmp_opVars (n : Nat) :
    Cmp (fun _ => True) (optKind .lParen (variableDefinitions n) (optKind .at (directives n false) (opSel n))) LOpV
      (fun _ => True) (fun _ => True) :=
  cmp_optKind_ne (Hk := fun _ => True) (F := fun _ => True) .lParen (variableDefinitions n) _ (cmp_variableDefinitions n) (cmp_opDirs n)
    (by intro b x h; obtain ⟨x', e⟩ := lvarDefs_head h; exact ⟨_, x', e, rfl⟩)
    (by intro b a x h; rcases li2_head h with e | e <;> subst e <;> simp [kindOfA])
    li2_ne (fun _ h => h)

theorem cmp_opName (n : Nat) :
    Cmp (fun _ => True) (optKind .name name (optKind .lParen (variableDefinitions n) (optKind .at (directives n false) (opSel n))))
      LOpN (fun _ => True) (fun _ => True) :=
  cmp_optKind_ne (Hk := fun _ => True) (F := fun _ => True) .name name _ cmp_name (cmp_opVars n)
    (by rintro b x ⟨nn, rfl⟩; exact ⟨_, _, rfl, rfl⟩)
    (by intro b a x h; rcases lopV_head h with e | e | e <;> subst e <;> simp [kindOfA])
    lopV_ne (fun _ h => h)

theorem cmp_opBody (n : Nat) : Cmp (fun _ => True) (opBody n) LOpFull (fun _ => True) (fun _ => True) := by
  unfold opBody
  have h := cmp_bind_ne (Hk := fun _ => True) (F := fun _ => True) cmp_operationType (fun _ _ => cmp_opName n)
    (fun _ _ _ _ => trivial) lopN_ne (fun _ h => h)
  refine h.mono (fun _ h => h) ?_ (fun _ h => h) (fun _ h => h)
  rintro b x ⟨ty, nm, vs, ds, ss, rfl, hv, hd, hne, hb1, hfs⟩
  have hset : LSet b (Ast.tSelSet ss) := ⟨ss, hne, rfl, hb1, hfs⟩
  have h2 : LI2 b (Ast.tDirectives ds ++ Ast.tSelSet ss) := ⟨_, _, rfl, ldirs_split b ds hd, hset⟩
  have hV : LOpV b (Ast.tVarDefs vs ++ (Ast.tDirectives ds ++ Ast.tSelSet ss)) := by
    refine ⟨_, _, rfl, ?_, h2⟩
    by_cases hvs : vs = []
    · subst hvs; right; rfl
    · left; exact ⟨vs, hvs, rfl, hv⟩
  refine ⟨[.name ty.name.toList], _, ?_, ⟨ty, rfl⟩, (match nm with | some n => [.name n] | none => []), _, rfl, ?_, hV⟩
  · cases nm <;> simp [tOperation, List.append_assoc]
  · cases nm with
    | none => right; rfl
    | some n => left; exact ⟨n, rfl⟩

/-- `operation_definition`, full form -/
theorem cmp_operationDefinition_full (n : Nat) :
    Cmp (fun _ => True) (operationDefinition n) LOpFull (fun _ => True) (fun _ => True) := by
  rw [operationDefinition_eq]
  apply cmp_peek
  intro k _
  by_cases hk : k = .name
  · subst hk
    exact (cmp_withNode "OPERATION_DEFINITION" (cmp_opBody n)).mono (fun _ _ => trivial) (fun _ _ h => h) (fun _ h => h) (fun _ h => h)
  · apply cmp_absurd
    rintro b x cc q0 ⟨ty, nm, vs, ds, ss, rfl, _⟩ hs _ hkk
    obtain ⟨x', e⟩ := tOperation_head ty nm vs ds ss
    rw [e] at hs
    obtain ⟨t, tl, rfl, hta⟩ := spells_head hs
    simp only [headK] at hkk
    rw [kind_of_astOfV hta] at hkk
    exact hk hkk.symm

/-- `operation_definition`, shorthand `{ Selection+ }` -/
theorem cmp_operationDefinition_short (n : Nat) :
    Cmp (fun _ => True) (operationDefinition n) LSet (fun _ => True) (fun _ => True) := by
  rw [operationDefinition_eq]
  apply cmp_peek
  intro k _
  by_cases hk : k = .lCurly
  · subst hk
    exact (cmp_withNode "OPERATION_DEFINITION" (selectionSet_complete n)).mono (fun _ _ => trivial) (fun _ _ h => h) (fun _ h => h) (fun _ h => h)
  · apply cmp_absurd
    intro b x cc q0 hl hs _ hkk
    obtain ⟨x', rfl⟩ := lset_head hl
    obtain ⟨t, tl, rfl, hta⟩ := spells_head hs
    simp only [headK] at hkk
    rw [kind_of_astOfV hta] at hkk
    exact hk hkk.symm

theorem operationDefinition_complete (n : Nat) :
    Cmp (fun _ => True) (operationDefinition n) LOperation (fun _ => True) (fun _ => True) := by
  intro s s' a c x q0 rest w hr hl hs ht hq hf hk
  rcases hl with hl | hl
  · exact cmp_operationDefinition_full n s s' a c x q0 rest w hr hl hs ht hq hf hk
  · exact cmp_operationDefinition_short n s s' a c x q0 rest w hr hl hs ht hq hf hk

/-! ### fragment definition -/

/-- the body of `fragment_definition` from the keyword on: `fragment FragmentName TypeCondition Directives? SelectionSet`.
    (Stated for `fragBody`: in `fragment_definition` the description check `fragGuard` sits in front of the keyword `bump`.) -/
theorem cmp_fragBody (n : Nat) : Cmp (fun _ => True) (fragBody n) LFragment (fun _ => True) (fun _ => True) := by
  unfold fragBody
  rw [fragTail_eq]
  have h3 := cmp_bind_ne (Hk := fun _ => True) (F := fun _ => True) cmp_typeCondition (fun _ _ => cmp_inlT2 n (selectionSet_complete n))
    (fun _ _ _ _ => trivial) li2_ne (fun _ h => h)
  have h2 := cmp_bind_ne (Hk := fun _ => True) (F := fun _ => True) cmp_fragmentName (fun _ _ => h3)
    (fun _ _ _ _ => trivial)
    (by rintro b ⟨x1, x2, e, _, h2⟩
        cases x2 with
        | nil => exact li2_ne b h2
        | cons a r => cases x1 <;> simp at e)
    (fun _ h => h)
  have h1 := cmp_bind_ne (Hk := fun _ => True) (F := fun _ => True) (cmp_bump "fragment_KW") (fun _ _ => h2)
    (fun _ _ _ _ => trivial)
    (by rintro b ⟨x1, x2, e, ⟨nn, rfl, _⟩, _⟩; simp at e)
    (fun _ h => h)
  refine h1.mono (fun _ h => h) ?_ (fun _ h => h) (fun _ h => h)
  rintro b x ⟨nm, tc, ds, ss, rfl, hne, hd, hss, hb1, hfs⟩
  have hset : LSet b (Ast.tSelSet ss) := ⟨ss, hss, rfl, hb1, hfs⟩
  exact ⟨[.name "fragment".toList], _, by simp [Ast.tDefinition], ⟨_, rfl⟩, [.name nm], _, rfl, ⟨nm, rfl, hne⟩,
    [.name Ast.sOn, .name tc], _, rfl, ⟨tc, rfl⟩, _, _, rfl, ldirs_split b ds hd, hset⟩

/-- the description check in front: the text of a fragment definition starts with the Name `fragment`, so the
    `err_and_pop` branch (taken on a String token) is not entered -/
theorem cmp_fragGuard (n : Nat) : Cmp (fun _ => True) (fragGuard n) LFragment (fun _ => True) (fun _ => True) := by
  unfold fragGuard optKind
  apply cmp_peek
  intro k _
  by_cases hk : k = .name
  · subst hk
    have e : (some Kind.name == some Kind.stringValue) = false := by decide
    simp only [e, Bool.false_eq_true, if_false]
    exact (cmp_fragBody n).mono (fun _ _ => trivial) (fun _ _ h => h) (fun _ h => h) (fun _ h => h)
  · apply cmp_absurd
    rintro b x cc q0 ⟨nm, tc, ds, ss, rfl, _⟩ hs _ hkk
    have hx : ∃ x', Ast.tDefinition false (.fragment nm tc ds ss) = .name "fragment".toList :: x' :=
      ⟨(Ast.tDefinition false (.fragment nm tc ds ss)).tail, by simp [Ast.tDefinition]⟩
    obtain ⟨x', e⟩ := hx
    rw [e] at hs
    obtain ⟨t, tl, rfl, hta⟩ := spells_head hs
    simp only [headK] at hkk
    rw [kind_of_astOfV hta] at hkk
    exact hk hkk.symm

/-- **`fragment_definition` is complete** (entered on the keyword) -/
theorem fragmentDefinition_complete (n : Nat) :
    Cmp (fun _ => True) (fragmentDefinition n) LFragment (fun _ => True) (fun _ => True) := by
  rw [fragmentDefinition_eq]
  exact cmp_withNode _ (cmp_fragGuard n)

end Apollo.Parse.Exact
