import ApolloModel.Proofs.SchemaBuildSpec2
/-
C14: the loop invariant `Inv` of `add_ast_document`, and the step lemmas for a type extension and a type definition.
-/
namespace Apollo.SchemaBuild

structure TInv (pre : List Def) (s : Builder) : Prop where
  kinds : ∀ n, (findType s.types n).map (·.kind) = kindOfName pre n
  members : ∀ n t, findType s.types n = some t → Views t.body.members (memberNames pre n)
  ifaces : ∀ n t, findType s.types n = some t → Views t.body.interfaces (ifaceNames pre n)
  queue : s.orphanQ = pre.filter (fun e => e.extKind.isSome && (kindOfName pre e.name).isNone)

structure SInv (pre : List Def) (s : Builder) : Prop where
  found : s.schemaFound = true ↔ schemaDefCount pre ≠ 0
  whenFound : s.schemaFound = true → s.orphanSchemaExts = [] ∧ Views s.schemaDef.body.members (schemaOpNames pre) ∧
    Views s.schemaDef.body.interfaces []
  whenNot : s.schemaFound = false → s.orphanSchemaExts = schemaExts pre ∧ s.schemaDef = ⟨none, Body.empty⟩

structure DInv (pre : List Def) (s : Builder) : Prop where
  unknown : ∀ n, findDir s.directiveDefs n = none → n ∉ dirDefNames pre
  builtin : ∀ n e, findDir s.directiveDefs n = some e → (e.builtin = true ↔ n ∉ dirDefNames pre)

structure Inv (pre : List Def) (s : Builder) : Prop where
  adopt : s.adopt = false
  ignore : s.ignoreBuiltin = false
  t : TInv pre s
  sch : SInv pre s
  d : DInv pre s

/-! a definition that is not about types leaves the type part alone, and so on -/

theorem TInv_other {pre : List Def} {s s' : Builder} {d : Def} (h : TInv pre s) (hd : d.isTypePart = false)
    (h1 : s'.types = s.types) (h2 : s'.orphanQ = s.orphanQ) : TInv (pre ++ [d]) s' := by
  have hdk : d.defKind = none := by
    cases hk : d.defKind with
    | none => rfl
    | some k => simp [Def.isTypePart, hk] at hd
  have hek : d.extKind = none := by
    cases hk : d.extKind with
    | none => rfl
    | some k => simp [Def.isTypePart, hk] at hd
  have hk : ∀ n, kindOfName (pre ++ [d]) n = kindOfName pre n := fun n => kindOfName_snoc_noDef pre d n hdk
  refine ⟨?_, ?_, ?_, ?_⟩
  · intro n; rw [h1, hk]; exact h.kinds n
  · intro n t ht; rw [h1] at ht; rw [memberNames_snoc, hd]; simpa using h.members n t ht
  · intro n t ht; rw [h1] at ht; rw [ifaceNames_snoc, hd]; simpa using h.ifaces n t ht
  · rw [h2, h.queue, List.filter_append]
    simp only [hk]
    simp [hek]

theorem SInv_other {pre : List Def} {s s' : Builder} {d : Def} (h : SInv pre s) (hd : d.isSchemaPart = false)
    (h1 : s'.schemaFound = s.schemaFound) (h2 : s'.schemaDef = s.schemaDef) (h3 : s'.orphanSchemaExts = s.orphanSchemaExts) :
    SInv (pre ++ [d]) s' := by
  have hsd : d.isSchemaDef = false := by
    cases hk : d.isSchemaDef with
    | false => rfl
    | true => simp [Def.isSchemaPart, hk] at hd
  have hse : d.isSchemaExt = false := by
    cases hk : d.isSchemaExt with
    | false => rfl
    | true => simp [Def.isSchemaPart, hk] at hd
  have hc : schemaDefCount (pre ++ [d]) = schemaDefCount pre := by rw [schemaDefCount_snoc, hsd]; rfl
  have ho : schemaOpNames (pre ++ [d]) = schemaOpNames pre := by rw [schemaOpNames_snoc, hd]; simp
  have he : schemaExts (pre ++ [d]) = schemaExts pre := by rw [schemaExts_snoc, hse]; simp
  exact ⟨by rw [hc, h1]; exact h.found, by rw [ho, h1, h2, h3]; exact h.whenFound, by rw [he, h1, h2, h3]; exact h.whenNot⟩

theorem DInv_other {pre : List Def} {s s' : Builder} {d : Def} (h : DInv pre s) (hd : d.isDirectiveDef = false)
    (h1 : s'.directiveDefs = s.directiveDefs) : DInv (pre ++ [d]) s' := by
  have : dirDefNames (pre ++ [d]) = dirDefNames pre := by rw [dirDefNames_snoc, hd]; simp
  exact ⟨by rw [this, h1]; exact h.unknown, by rw [this, h1]; exact h.builtin⟩


/-! ### `TOK` by tag -/

theorem TOK_ext_iff (pre : List Def) (e : Def) (k : Kind) (htag : e.tag = .typeExt k) :
    TOK pre e ↔ ∀ k', kindOfName pre e.name = some k' →
      k' = k ∧ (memberNames pre e.name ++ names e.members).Nodup ∧ (ifaceNames pre e.name ++ names e.interfaces).Nodup := by
  unfold TOK
  constructor
  · intro h; exact h.2 k htag
  · intro h
    refine ⟨fun k1 hk1 => (by rw [htag] at hk1; cases hk1), fun k1 hk1 => ?_⟩
    have : k1 = k := by rw [htag] at hk1; cases hk1; rfl
    subst this; exact h

theorem TOK_def_iff (pre : List Def) (d : Def) (k : Kind) (htag : d.tag = .typeDef k) :
    TOK pre d ↔ (kindOfName pre d.name = none ∧
      (∀ e ∈ pre, e.name = d.name → ∀ k', e.tag = .typeExt k' → k' = k) ∧
      (memberNames pre d.name ++ names d.members).Nodup ∧ (ifaceNames pre d.name ++ names d.interfaces).Nodup) := by
  unfold TOK
  constructor
  · intro h; exact h.1 k htag
  · intro h
    refine ⟨fun k1 hk1 => ?_, fun k1 hk1 => (by rw [htag] at hk1; cases hk1)⟩
    have : k1 = k := by rw [htag] at hk1; cases hk1; rfl
    subst this; exact h

theorem TOK_other (pre : List Def) (d : Def) (h : d.isTypePart = false) : TOK pre d := by
  unfold TOK
  constructor
  · intro k hk; simp [Def.isTypePart, (defKind_some d k).mpr hk] at h
  · intro k hk; simp [Def.isTypePart, (extKind_some d k).mpr hk] at h

theorem kind_of_find {pre : List Def} {s : Builder} (h : TInv pre s) {n : Name} {t : TypeEntry}
    (hf : findType s.types n = some t) : kindOfName pre n = some t.kind := by
  rw [← h.kinds n, hf]; rfl

theorem kind_of_find_none {pre : List Def} {s : Builder} (h : TInv pre s) {n : Name}
    (hf : findType s.types n = none) : kindOfName pre n = none := by
  rw [← h.kinds n, hf]; rfl

/-- the member (interface) names seen by every type after one more part `d`: types other than `d.name` keep
    their entry and their names, the entry of `d.name` views the old names followed by those of `d`.
    `F` is `memberNames` or `ifaceNames`, `g` the names `d` brings, `proj` the list of the body that holds them. -/
theorem views_snoc {F : List Def → Name → List Name} {g : Def → List Name}
    (hF : ∀ pre d n, F (pre ++ [d]) n = F pre n ++ (if d.isTypePart && d.name == n then g d else []))
    (proj : Body → List Comp) {pre : List Def} {ts ts' : List TypeEntry} {d : Def}
    (hold : ∀ n t, findType ts n = some t → Views (proj t.body) (F pre n))
    (hother : ∀ n, n ≠ d.name → findType ts' n = findType ts n)
    (hnew : ∀ t, findType ts' d.name = some t → Views (proj t.body) (F pre d.name ++ g d)) (hpart : d.isTypePart = true) :
    ∀ n t, findType ts' n = some t → Views (proj t.body) (F (pre ++ [d]) n) := by
  intro n t ht
  rw [hF]
  by_cases hn : n = d.name
  · subst hn; simpa [hpart] using hnew t ht
  · rw [hother n hn] at ht
    have hne : ¬ d.name = n := fun h => hn h.symm
    simpa [hne] using hold n t ht

/-! ### a type extension -/

theorem stepTypeExt_frame (s : Builder) (k : Kind) (e : Def) :
    (stepTypeExt s k e).adopt = s.adopt ∧ (stepTypeExt s k e).ignoreBuiltin = s.ignoreBuiltin ∧
    (stepTypeExt s k e).directiveDefs = s.directiveDefs ∧ (stepTypeExt s k e).schemaDef = s.schemaDef ∧
    (stepTypeExt s k e).schemaFound = s.schemaFound ∧ (stepTypeExt s k e).orphanSchemaExts = s.orphanSchemaExts := by
  unfold stepTypeExt
  cases findType s.types e.name with
  | none => simp
  | some t =>
    by_cases h : t.kind = k
    · simp [h]
    · simp [h, push]

theorem stepTypeExt_spec (pre : List Def) (s : Builder) (e : Def) (k : Kind) (hi : TInv pre s) (hp : PT pre)
    (htag : e.tag = .typeExt k) :
    Grow s.errors (stepTypeExt s k e).errors (TOK pre e) ∧
    ((stepTypeExt s k e).errors = s.errors → TInv (pre ++ [e]) (stepTypeExt s k e)) := by
  have hek : e.extKind = some k := (extKind_some e k).mpr htag
  have hdk : e.defKind = none := by simp [Def.defKind, htag]
  have hpart : e.isTypePart = true := by simp [Def.isTypePart, hek]
  have hk : ∀ n, kindOfName (pre ++ [e]) n = kindOfName pre n := fun n => kindOfName_snoc_noDef pre e n hdk
  rw [TOK_ext_iff pre e k htag]
  cases hf : findType s.types e.name with
  | none =>
    have hnone := kind_of_find_none hi hf
    rw [stepTypeExt_orphan s k e hf]
    refine ⟨(Grow.refl _).congr ?_, fun _ => ⟨?_, ?_, ?_, ?_⟩⟩
    · rw [hnone]; simp
    · intro n; rw [hk]; exact hi.kinds n
    · exact views_snoc memberNames_snoc (·.members) hi.members (fun _ _ => rfl) (fun t ht => by rw [hf] at ht; cases ht) hpart
    · exact views_snoc ifaceNames_snoc (·.interfaces) hi.ifaces (fun _ _ => rfl) (fun t ht => by rw [hf] at ht; cases ht) hpart
    · show s.orphanQ ++ [e] = _
      rw [hi.queue, List.filter_append]
      simp only [hk]
      simp [hek, hnone]
  | some t =>
    have hkind := kind_of_find hi hf
    have hname := findType_name hf
    have hM := hi.members e.name t hf
    have hI := hi.ifaces e.name t hf
    have hndM := hp.uniqueMembers e.name (by rw [hkind]; simp)
    have hndI := hp.uniqueInterfaces e.name (by rw [hkind]; simp)
    by_cases hkk : t.kind = k
    · have heq := stepTypeExt_found s k e t hf hkk
      obtain ⟨n1, k1, v1, v2, g⟩ := extendType_spec t e s.errors _ _ hM hI
      have hfind : ∀ n, findType (setType s.types e.name (extendType t e s.errors).1) n
          = if n = e.name then some (extendType t e s.errors).1 else findType s.types n := by
        intro n; rw [findType_setType _ _ _ (n1.trans hname), hf]; rfl
      rw [heq]
      refine ⟨g.congr ?_, fun _ => ⟨?_, ?_, ?_, ?_⟩⟩
      · rw [hkind]
        constructor
        · intro ⟨a, b⟩ k' hk'
          have : t.kind = k' := Option.some.inj hk'
          exact ⟨this ▸ hkk, (nodup_append_fresh _ _).mpr ⟨hndM, a⟩, (nodup_append_fresh _ _).mpr ⟨hndI, b⟩⟩
        · intro h
          obtain ⟨_, a, b⟩ := h t.kind rfl
          exact ⟨((nodup_append_fresh _ _).mp a).2, ((nodup_append_fresh _ _).mp b).2⟩
      · intro n
        show (findType (setType s.types e.name (extendType t e s.errors).1) n).map (·.kind) = _
        rw [hfind, hk]
        by_cases hn : n = e.name
        · rw [if_pos hn, hn, hkind]; simp [k1]
        · rw [if_neg hn]; exact hi.kinds n
      · exact views_snoc memberNames_snoc (·.members) hi.members (fun n hn => by rw [hfind, if_neg hn])
          (fun t2 ht2 => by rw [hfind, if_pos rfl] at ht2; cases ht2; exact v1) hpart
      · exact views_snoc ifaceNames_snoc (·.interfaces) hi.ifaces (fun n hn => by rw [hfind, if_neg hn])
          (fun t2 ht2 => by rw [hfind, if_pos rfl] at ht2; cases ht2; exact v2) hpart
      · show s.orphanQ = _
        rw [hi.queue, List.filter_append]
        simp only [hk]
        simp [hkind]
    · rw [stepTypeExt_mismatch s k e t hf hkk]
      refine ⟨(Grow.push _ _).congr ?_, fun h => ?_⟩
      · constructor
        · intro h; exact absurd h id
        · intro h; exact hkk (h t.kind hkind).1
      · simp [push] at h


/-! ### a type definition -/

theorem no_def_of_unknown {pre : List Def} {n : Name} (hnone : kindOfName pre n = none) {e : Def} (he : e ∈ pre)
    (hn : e.name = n) : e.defKind = none := by
  cases hk : e.defKind with
  | none => rfl
  | some k0 =>
    exfalso
    rw [kindOfName_none_iff] at hnone
    apply hnone
    apply List.mem_append_right
    unfold typeDefNames
    exact List.mem_map.mpr ⟨e, List.mem_filter.mpr ⟨he, by simp [hk]⟩, hn⟩

theorem parts_are_exts {pre : List Def} {n : Name} (hnone : kindOfName pre n = none) {e : Def} (he : e ∈ partsOf pre n) :
    ∃ k', e.tag = .typeExt k' := by
  unfold partsOf at he
  obtain ⟨hmem, hc⟩ := List.mem_filter.mp he
  simp only [Bool.and_eq_true, beq_iff_eq] at hc
  have hdk := no_def_of_unknown hnone hmem hc.2
  have : e.extKind.isSome = true := by simpa [Def.isTypePart, hdk] using hc.1
  obtain ⟨k', hk'⟩ := Option.isSome_iff_exists.mp this
  exact ⟨k', (extKind_some e k').mp hk'⟩

theorem queue_parts {pre : List Def} {s : Builder} (hi : TInv pre s) {n : Name} (hnone : kindOfName pre n = none) :
    s.orphanQ.filter (fun e => e.name == n) = partsOf pre n := by
  rw [hi.queue, List.filter_filter]
  unfold partsOf
  apply List.filter_congr
  intro e he
  by_cases hn : e.name = n
  · have hdk := no_def_of_unknown hnone he hn
    rw [hn, hnone]
    simp [Def.isTypePart, hdk]
  · have hb : (e.name == n) = false := beq_eq_false_iff_ne.mpr hn
    rw [hb]; simp

theorem stepTypeDef_frame (s : Builder) (k : Kind) (d : Def) :
    (stepTypeDef s k d).adopt = s.adopt ∧ (stepTypeDef s k d).ignoreBuiltin = s.ignoreBuiltin ∧
    (stepTypeDef s k d).directiveDefs = s.directiveDefs ∧ (stepTypeDef s k d).schemaDef = s.schemaDef ∧
    (stepTypeDef s k d).schemaFound = s.schemaFound ∧ (stepTypeDef s k d).orphanSchemaExts = s.orphanSchemaExts := by
  unfold stepTypeDef
  cases findType s.types d.name with
  | none => exact ⟨rfl, rfl, rfl, rfl, rfl, rfl⟩
  | some t =>
    by_cases h1 : (s.ignoreBuiltin && t.builtin) = true
    · simp [h1]
    · by_cases h2 : (k == Kind.scalar && t.builtin) = true
      · simp only [h1, h2]; simp [push]
      · simp only [h1, h2]; simp [push]

theorem stepTypeDef_spec (pre : List Def) (s : Builder) (d : Def) (k : Kind) (hi : TInv pre s)
    (hig : s.ignoreBuiltin = false) (htag : d.tag = .typeDef k) :
    Grow s.errors (stepTypeDef s k d).errors (TOK pre d) ∧
    ((stepTypeDef s k d).errors = s.errors → TInv (pre ++ [d]) (stepTypeDef s k d)) := by
  have hdk : d.defKind = some k := (defKind_some d k).mpr htag
  have hek : d.extKind = none := by simp [Def.extKind, htag]
  have hpart : d.isTypePart = true := by simp [Def.isTypePart, hdk]
  rw [TOK_def_iff pre d k htag]
  cases hf : findType s.types d.name with
  | some prev =>
    have hkind := kind_of_find hi hf
    have : ∃ p x, stepTypeDef s k d = push s p x := by
      unfold stepTypeDef
      rw [hf]
      by_cases h2 : (k == Kind.scalar && prev.builtin) = true
      · exact ⟨_, _, by simp only [hig, Bool.false_and, h2]; rfl⟩
      · exact ⟨_, _, by simp only [hig, Bool.false_and, h2]; rfl⟩
    obtain ⟨p, x, heq⟩ := this
    rw [heq]
    refine ⟨(Grow.push _ _).congr ?_, fun h => ?_⟩
    · constructor
      · intro h; exact absurd h id
      · intro h; rw [hkind] at h; cases h.1
    · simp [push] at h
  | none =>
    have hnone := kind_of_find_none hi hf
    have hq := queue_parts hi hnone
    rw [stepTypeDef_fresh s k d hf, hq]
    obtain ⟨n1, k1, v, g⟩ := typeFromAst_spec k d (partsOf pre d.name) s.errors
    have htags : (∀ e ∈ partsOf pre d.name, e.tag = .typeExt k) ↔
        (∀ e ∈ pre, e.name = d.name → ∀ k', e.tag = .typeExt k' → k' = k) := by
      constructor
      · intro h e he hn k' hk'
        have hmem : e ∈ partsOf pre d.name := by
          unfold partsOf
          exact List.mem_filter.mpr ⟨he, by simp [Def.isTypePart, (extKind_some e k').mpr hk', hn]⟩
        have := h e hmem
        rw [hk'] at this; cases this; rfl
      · intro h e he
        obtain ⟨k', hk'⟩ := parts_are_exts hnone he
        have hm := List.mem_filter.mp he
        have hn : e.name = d.name := by
          have := hm.2
          simp only [Bool.and_eq_true, beq_iff_eq] at this
          exact this.2
        rw [hk', h e hm.1 hn k' hk']
    have hmn : (partsOf pre d.name).flatMap mems = memberNames pre d.name := rfl
    have hin : (partsOf pre d.name).flatMap ifs = ifaceNames pre d.name := rfl
    rw [hmn, hin] at g v
    refine ⟨g.congr ?_, fun hsame => ?_⟩
    · rw [htags]
      constructor
      · intro ⟨a, b, c⟩; exact ⟨hnone, a, b, c⟩
      · intro ⟨_, a, b, c⟩; exact ⟨a, b, c⟩
    · have hP := (g.same_iff).mp hsame
      obtain ⟨v1, v2⟩ := v hP.1
      have hfind : ∀ n, findType (s.types ++ [(typeFromAst k d (partsOf pre d.name) s.errors).1]) n
          = if n = d.name then some (typeFromAst k d (partsOf pre d.name) s.errors).1 else findType s.types n := by
        intro n
        rw [findType_append, n1]
        by_cases hn : n = d.name
        · rw [if_pos hn, hn, hf]; simp
        · have hne : ¬ d.name = n := fun h => hn h.symm
          simp [hn, hne]
      refine ⟨?_, ?_, ?_, ?_⟩
      · intro n
        show (findType (s.types ++ [_]) n).map (·.kind) = _
        rw [hfind]
        by_cases hn : n = d.name
        · rw [if_pos hn, hn, kindOfName_snoc_new _ _ hnone, hdk]; simp [k1]
        · rw [if_neg hn, kindOfName_snoc_other _ _ _ (fun h => hn h.symm)]; exact hi.kinds n
      · exact views_snoc memberNames_snoc (·.members) hi.members (fun n hn => by rw [hfind, if_neg hn])
          (fun t ht => by rw [hfind, if_pos rfl] at ht; cases ht; exact v1) hpart
      · exact views_snoc ifaceNames_snoc (·.interfaces) hi.ifaces (fun n hn => by rw [hfind, if_neg hn])
          (fun t ht => by rw [hfind, if_pos rfl] at ht; cases ht; exact v2) hpart
      · show s.orphanQ.filter (fun e => !(e.name == d.name)) = _
        rw [hi.queue, List.filter_filter, List.filter_append]
        have : [d].filter (fun e => e.extKind.isSome && (kindOfName (pre ++ [d]) e.name).isNone) = [] := by simp [hek]
        rw [this, List.append_nil]
        apply List.filter_congr
        intro e he
        rw [kindOfName_snoc]
        cases hke : kindOfName pre e.name with
        | some x => simp
        | none =>
          by_cases hn : d.name = e.name
          · simp [hn, hdk]
          · have : ¬ e.name = d.name := fun h => hn h.symm
            simp [hn, this]

end Apollo.SchemaBuild
