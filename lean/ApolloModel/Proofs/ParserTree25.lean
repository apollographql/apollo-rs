import ApolloModel.Proofs.ParserTree22
import ApolloModel.Proofs.ParserDoc5
/-
C08 (pipeline): operation definitions — the shape of OPERATION_DEFINITION nodes, what
`impl Convert for cst::OperationDefinition` reads from them, the parser side, and the per-definition relations
`DefItemR` / `ExecItemR` (tokens of one definition, one node that converts to it).
-/
set_option linter.unusedSimpArgs false
set_option linter.unusedVariables false

namespace Apollo.FromCst
open Apollo.Rowan Apollo.Ast
open Apollo.Parse (isJunk isJunkKind sigE nameNode VarDefsNode)

variable {R : List Loc}

def OptName (name : Option Ast.Str) (t : List Elem) : Prop :=
  (name = none ∧ t = []) ∨ (∃ x, name = some x ∧ isValidName x = true ∧ t = [nameNode x])

def OptVarDefs (vs : List VarDef) (t : List Elem) : Prop :=
  (vs = [] ∧ t = []) ∨ (∃ ev, t = [ev] ∧ VarDefsNode vs ev)

def opKw : OpType → SK
  | .query => "query_KW"
  | .mutation => "mutation_KW"
  | .subscription => "subscription_KW"

/-- `OPERATION_DEFINITION[OPERATION_TYPE[kw] NAME? VARIABLE_DEFINITIONS? DIRECTIVES? SELECTION_SET]`, or the shorthand
    `OPERATION_DEFINITION[SELECTION_SET]` -/
def OpDefTree (ty : OpType) (name : Option Ast.Str) (vars : List VarDef) (dirs : List Directive) (sels : Sels) (e : Elem) : Prop :=
  ∃ cs ess, e = .node "OPERATION_DEFINITION" cs ∧ SelSetNode sels ess ∧
    ((∃ d tn tv td, OptName name tn ∧ OptVarDefs vars tv ∧ OptDirs dirs td ∧
        sigE cs = .node "OPERATION_TYPE" [.tok (opKw ty) d] :: (tn ++ (tv ++ (td ++ [ess])))) ∨
     (ty = .query ∧ name = none ∧ vars = [] ∧ dirs = [] ∧ sigE cs = [ess]))

theorem optName_kinds {a : Option Ast.Str} {t : List Elem} (h : OptName a t) : t = [] ∨ ∃ c, t = [.node "NAME" c] := by
  rcases h with ⟨_, rfl⟩ | ⟨x, _, _, rfl⟩
  · exact Or.inl rfl
  · exact Or.inr ⟨_, rfl⟩

theorem optVarDefs_kinds {a : List VarDef} {t : List Elem} (h : OptVarDefs a t) :
    t = [] ∨ ∃ c, t = [.node "VARIABLE_DEFINITIONS" c] := by
  rcases h with ⟨_, rfl⟩ | ⟨_, rfl, cs, _, _, _, rfl, _⟩
  · exact Or.inl rfl
  · exact Or.inr ⟨cs, rfl⟩

theorem cDefinition_operation_eq (n : Nat) (p : PE R) (hk : p.kind = "OPERATION_DEFINITION") :
    cDefinition n p = ((match child "OPERATION_TYPE" p with
        | some ot => cOperationType ot
        | none => M.pure' OpType.query) >>= fun ty => optNameOf p >>= fun name =>
      (match child "VARIABLE_DEFINITIONS" p with
        | some c => collectM (cVariableDefinition n) (children "VARIABLE_DEFINITION" c)
        | none => M.pure' []) >>= fun vars =>
      directivesOf n p >>= fun dirs => selectionSetOf n p >>= fun sels => pure (Definition.operation ty name vars dirs sels)) := by
  cases h1 : child "OPERATION_TYPE" p <;> cases h2 : child "VARIABLE_DEFINITIONS" p <;> simp [cDefinition, hk, h1, h2]

theorem cOperationType_leaf (ty : OpType) (d : Rowan.Str) : ConvE (fun R => @cOperationType R) ty (.node "OPERATION_TYPE" [.tok (opKw ty) d]) := by
  intro R s hp
  refine ⟨[], ?_⟩
  show cOperationType _ = _
  unfold cOperationType
  cases ty <;> simp [firstTok, firstTokList, opKw, M.pure']

/-- `impl Convert for cst::OperationDefinition` -/
theorem cDefinition_operation (n : Nat) (ty : OpType) (name : Option Ast.Str) (vars : List VarDef) (dirs : List Directive) (sels : Sels)
    (e : Elem) (h : OpDefTree ty name vars dirs sels e) (hs : size e ≤ n + 1) :
    ConvE (fun R => @cDefinition R n) (.operation ty name vars dirs sels) e := by
  obtain ⟨cs, ess, rfl, hnode, hshape⟩ := h
  intro R s hp
  have hk : ∃ c, ess = .node "SELECTION_SET" c := by cases hnode with | mk _ c _ _ _ _ _ => exact ⟨c, rfl⟩
  obtain ⟨c4, rfl⟩ := hk
  rcases hshape with ⟨d, tn, tv, td, hname, hvars, hdirs, hsig⟩ | ⟨rfl, rfl, rfl, rfl, hsig⟩
  · -- the long form
    have hfo : cs.find? (nodeP (· == "OPERATION_TYPE")) = some (.node "OPERATION_TYPE" [.tok (opKw ty) d]) := by
      rw [find_nodeP_sigE, hsig]; find_groups
    obtain ⟨s1, h1, hc1⟩ := childP_some (R := R) _ "OPERATION_DEFINITION" cs s hp _ hfo
    obtain ⟨l1, hl1⟩ := cOperationType_leaf ty d R s1 h1
    have hnm : ∃ l, optNameOf (⟨(Elem.node "OPERATION_DEFINITION" cs, s), hp⟩ : PE R) = some (name, l) := by
      unfold optNameOf
      rcases hname with ⟨rfl, rfl⟩ | ⟨x, rfl, hvx, rfl⟩
      · have : cs.find? (nodeP (· == "NAME")) = none := by
          rw [find_nodeP_sigE, hsig]
          rcases optVarDefs_kinds hvars with rfl | ⟨c2, rfl⟩ <;> rcases optDirs_kinds hdirs with rfl | ⟨c3, rfl⟩ <;> find_groups
        rw [child_eq_childP, childP_none (R := R) _ "OPERATION_DEFINITION" cs s hp this]
        exact ⟨[], rfl⟩
      · have : cs.find? (nodeP (· == "NAME")) = some (nameNode x) := by
          rw [find_nodeP_sigE, hsig]; find_groups
        obtain ⟨s', h', hc⟩ := childP_some (R := R) _ "OPERATION_DEFINITION" cs s hp _ this
        obtain ⟨l, hl⟩ := cName_nameNode x hvx R s' h'
        rw [child_eq_childP, hc]
        exact ⟨l ++ [], optM_some _ _ _ _ hl⟩
    obtain ⟨l2, hl2⟩ := hnm
    have hvd : ∃ l, (match child "VARIABLE_DEFINITIONS" (⟨(Elem.node "OPERATION_DEFINITION" cs, s), hp⟩ : PE R) with
        | some c => collectM (cVariableDefinition n) (children "VARIABLE_DEFINITION" c)
        | none => M.pure' []) = some (vars, l) := by
      rcases hvars with ⟨rfl, rfl⟩ | ⟨ev, rfl, hvn⟩
      · have : cs.find? (nodeP (· == "VARIABLE_DEFINITIONS")) = none := by
          rw [find_nodeP_sigE, hsig]
          rcases optName_kinds hname with rfl | ⟨c1, rfl⟩ <;> rcases optDirs_kinds hdirs with rfl | ⟨c3, rfl⟩ <;> find_groups
        rw [child_eq_childP, childP_none (R := R) _ "OPERATION_DEFINITION" cs s hp this]
        exact ⟨[], rfl⟩
      · obtain ⟨c2, rfl⟩ : ∃ c, ev = .node "VARIABLE_DEFINITIONS" c := by
          obtain ⟨c, _, _, _, rfl, _⟩ := hvn; exact ⟨c, rfl⟩
        have : cs.find? (nodeP (· == "VARIABLE_DEFINITIONS")) = some (.node "VARIABLE_DEFINITIONS" c2) := by
          rw [find_nodeP_sigE, hsig]
          rcases optName_kinds hname with rfl | ⟨c1, rfl⟩ <;> find_groups
        obtain ⟨s', h', hc⟩ := childP_some (R := R) _ "OPERATION_DEFINITION" cs s hp _ this
        have hsz : size (Elem.node "VARIABLE_DEFINITIONS" c2) ≤ n + 1 := by
          have := size_le_sizeList (mem_sigE (cs := cs) (e := Elem.node "VARIABLE_DEFINITIONS" c2) (by rw [hsig]; simp))
          rw [size_node] at hs; omega
        obtain ⟨l, hl⟩ := varDefs_collect n vars _ hvn hsz R s' h'
        rw [child_eq_childP, hc]
        exact ⟨l, hl⟩
    obtain ⟨l3, hl3⟩ := hvd
    have hfd : (sigE cs).find? (nodeP (· == "DIRECTIVES")) = td.head? := by
      rw [hsig]
      rcases optName_kinds hname with rfl | ⟨c1, rfl⟩ <;> rcases optVarDefs_kinds hvars with rfl | ⟨c2, rfl⟩ <;>
        rcases optDirs_kinds hdirs with rfl | ⟨c3, rfl⟩ <;> find_groups
    obtain ⟨l4, hl4⟩ := directivesOf_conv n "OPERATION_DEFINITION" cs dirs td hdirs hfd
      (by intro e he; rw [hsig]; simp [he]) hs R s hp
    have hfs : (sigE cs).find? (nodeP (· == "SELECTION_SET")) = some (.node "SELECTION_SET" c4) := by
      rw [hsig]
      rcases optName_kinds hname with rfl | ⟨c1, rfl⟩ <;> rcases optVarDefs_kinds hvars with rfl | ⟨c2, rfl⟩ <;>
        rcases optDirs_kinds hdirs with rfl | ⟨c3, rfl⟩ <;> find_groups
    obtain ⟨l5, hl5⟩ := selectionSetOf_conv n "OPERATION_DEFINITION" cs sels _ hnode hfs hs R s hp
    refine ⟨l1 ++ (l2 ++ (l3 ++ (l4 ++ (l5 ++ [])))), ?_⟩
    show cDefinition n _ = _
    rw [cDefinition_operation_eq n _ rfl]
    refine bind_ok ?_ (bind_ok hl2 (bind_ok hl3 (bind_ok hl4 (bind_ok hl5 (pure_ok _)))))
    rw [child_eq_childP, hc1]
    exact hl1
  · -- the shorthand
    have hno : cs.find? (nodeP (· == "OPERATION_TYPE")) = none := by rw [find_nodeP_sigE, hsig]; find_groups
    have hnn : cs.find? (nodeP (· == "NAME")) = none := by rw [find_nodeP_sigE, hsig]; find_groups
    have hnv : cs.find? (nodeP (· == "VARIABLE_DEFINITIONS")) = none := by rw [find_nodeP_sigE, hsig]; find_groups
    have hfd : (sigE cs).find? (nodeP (· == "DIRECTIVES")) = ([] : List Elem).head? := by rw [hsig]; find_groups
    obtain ⟨l4, hl4⟩ := directivesOf_conv n "OPERATION_DEFINITION" cs [] [] (Or.inl ⟨rfl, rfl⟩) hfd
      (by intro e he; cases he) hs R s hp
    have hfs : (sigE cs).find? (nodeP (· == "SELECTION_SET")) = some (.node "SELECTION_SET" c4) := by rw [hsig]; find_groups
    obtain ⟨l5, hl5⟩ := selectionSetOf_conv n "OPERATION_DEFINITION" cs sels _ hnode hfs hs R s hp
    refine ⟨[] ++ ([] ++ ([] ++ (l4 ++ (l5 ++ [])))), ?_⟩
    show cDefinition n _ = _
    rw [cDefinition_operation_eq n _ rfl]
    refine bind_ok ?_ (bind_ok ?_ (bind_ok ?_ (bind_ok hl4 (bind_ok hl5 (pure_ok _)))))
    · rw [child_eq_childP, childP_none (R := R) _ "OPERATION_DEFINITION" cs s hp hno]; rfl
    · unfold optNameOf
      rw [child_eq_childP, childP_none (R := R) _ "OPERATION_DEFINITION" cs s hp hnn]; rfl
    · rw [child_eq_childP, childP_none (R := R) _ "OPERATION_DEFINITION" cs s hp hnv]; rfl

end Apollo.FromCst

namespace Apollo.Parse
open Apollo.Rowan hiding Str
open Apollo.Lex hiding Str
open Apollo.FromCst (OptDirs DirsNode SelSetNode FragDefTree OpDefTree OptName OptVarDefs opKw)

/-- what `Document::from_cst` reads from the node of a definition `d` -/
def DefConv (d : Ast.Definition) (ed : Elem) : Prop :=
  FromCst.nodeP FromCst.isDefinitionKind ed = true ∧
    ∀ n, FromCst.size ed ≤ n + 1 → FromCst.ConvE (fun R => @FromCst.cDefinition R n) d ed

/-- ONE definition of the grammar, in the long or (flag `true`, operations only) the shorthand form: its tokens are the
    printer's `tDefinition`, it is well-formed, and its node converts to it -/
def DefItemR (cs : List Tok) (e : List Elem) : Prop :=
  ∃ (it : Ast.Item) (ed : Elem), TokIs cs (Ast.tDefinition it.1 it.2) ∧ Ast.wfDefinition it.2 = true ∧ e = [ed] ∧ DefConv it.2 ed

def isExecutable : Ast.Definition → Bool
  | .operation .. => true
  | .fragment .. => true
  | _ => false

def ExecItemR (cs : List Tok) (e : List Elem) : Prop :=
  ∃ (it : Ast.Item) (ed : Elem), TokIs cs (Ast.tDefinition it.1 it.2) ∧ Ast.wfDefinition it.2 = true ∧ e = [ed] ∧ DefConv it.2 ed ∧
    isExecutable it.2 = true ∧
    FromCst.nodeP (fun k => k == "OPERATION_DEFINITION" || k == "FRAGMENT_DEFINITION") ed = true

theorem tr_operationType : Tr NoE (HeadK .name) operationType
    (fun _ cs e => ∃ (ty : Ast.OpType) (t : Tok), t.kind = .name ∧ t.data = ty.name.toList ∧ cs = [t] ∧
      e = [Elem.node "OPERATION_TYPE" [Elem.tok (opKw ty) t.data]]) := by
  unfold operationType
  apply tr_peekData
  intro o
  cases o with
  | none => exact tr_absurd (good_pure _) (by rintro q ⟨h1, h2⟩; unfold HeadK at h1; rw [h2] at h1; cases h1)
  | some t =>
    simp only [Option.map_some]
    have hH : ∀ q, (HeadK .name q ∧ q.head? = some t) → HeadP (fun t' : Tok => t' = t ∧ t'.kind = .name) q := by
      rintro q ⟨h1, h2⟩
      unfold HeadK at h1
      rw [h2] at h1
      exact ⟨t, h2, rfl, by simpa using h1⟩
    have hP : ∀ t' : Tok, (t' = t ∧ t'.kind = .name) → isIgnoredKind t'.kind = false ∧ t'.kind ≠ .eof := by
      rintro t' ⟨_, hk⟩; rw [hk]; exact ⟨rfl, by decide⟩
    by_cases hq : kw "query" t.data = true
    · simp only [hq, if_true]
      refine (tr_leaf "OPERATION_TYPE" "query_KW" (by decide) _ hP).mono hH ?_
      rintro _ cs e ⟨t', ⟨rfl, hk⟩, _, rfl, rfl⟩
      exact ⟨.query, t', hk, kw_eq hq, rfl, rfl⟩
    simp only [hq, Bool.false_eq_true, if_false]
    by_cases hs : kw "subscription" t.data = true
    · simp only [hs, if_true]
      refine (tr_leaf "OPERATION_TYPE" "subscription_KW" (by decide) _ hP).mono hH ?_
      rintro _ cs e ⟨t', ⟨rfl, hk⟩, _, rfl, rfl⟩
      exact ⟨.subscription, t', hk, kw_eq hs, rfl, rfl⟩
    simp only [hs, Bool.false_eq_true, if_false]
    by_cases hm : kw "mutation" t.data = true
    · simp only [hm, if_true]
      refine (tr_leaf "OPERATION_TYPE" "mutation_KW" (by decide) _ hP).mono hH ?_
      rintro _ cs e ⟨t', ⟨rfl, hk⟩, _, rfl, rfl⟩
      exact ⟨.mutation, t', hk, kw_eq hm, rfl, rfl⟩
    simp only [hm, Bool.false_eq_true, if_false]
    refine (tr_withNodeAny early_false "OPERATION_TYPE" (tr_errAndPop (R := fun _ _ _ => False))).mono (fun _ _ => trivial) ?_
    rintro _ _ _ ⟨_, _, hf⟩
    exact hf.elim

theorem nodeP_opDef (cs : List Elem) :
    FromCst.nodeP FromCst.isDefinitionKind (Elem.node "OPERATION_DEFINITION" cs) = true ∧
    FromCst.nodeP (fun k => k == "OPERATION_DEFINITION" || k == "FRAGMENT_DEFINITION") (Elem.node "OPERATION_DEFINITION" cs) = true := by
  constructor <;> simp [FromCst.nodeP_node, FromCst.isDefinitionKind, FromCst.definitionKinds]

/-- **operation.rs `operation_definition`**, long and shorthand form -/
theorem tr_operationDefinition (n : Nat) : Tr NoE (fun _ => True) (operationDefinition n) (fun _ => ExecItemR) := by
  rw [operationDefinition_eq]
  apply tr_peek
  intro k
  have hlong : Tr NoE (fun q => True ∧ q.head?.map (·.kind) = some Kind.name) (withNode "OPERATION_DEFINITION" (opBody n))
      (fun _ => ExecItemR) := by
    unfold opBody opSel
    have hsel : Tr NoE (fun _ => True) (peek >>= fun k => if k == some Kind.lCurly then selectionSet n else errAndPop) (fun _ => SelSetR) :=
      tr_ifKind .lCurly _ _ _ ((tr_selSet n).atKind) tr_errAndPop
    have hd := tr_optDirectives n false _ hsel (H := fun _ => True)
    have hv := tr_optKind early_false (H := fun _ => True) .lParen (variableDefinitions n) _ VarDefsR _
      ((tr_variableDefinitions n).atKind) hd
    have hn := tr_optKind early_false (H := fun _ => True) .name name _
      (fun cs e => ∃ t : Tok, t.kind = .name ∧ isValidName t.data = true ∧ cs = [t] ∧ e = [nameNode t.data]) _
      (tr_name (E := NoE) (H := KindP (· == Kind.name))) hv
    have hb := tr_bind early_false tr_operationType (fun _ => hn)
    refine (tr_withNode early_false "OPERATION_DEFINITION" (hsig_headK .name rfl) hb).mono (fun _ h => h.2) ?_
    rintro _ cs e ⟨inner, rfl, _, c1, c2, e1, e2, rfl, hin, ⟨ty, tk, hkk, hkd, rfl, rfl⟩, c3, c4, e3, e4, rfl, rfl, hnm,
      c5, c6, e5, e6, rfl, rfl, hvd, ds, c7, c8, td, e8, rfl, rfl, hd1, hd2, hd3, sels, ess, hne, hwf, hs1, rfl, hs3⟩
    have hty : TokIs [tk] [Ast.Tok.name ty.name.toList] := TokIs.single tk _ (by simp [astOfV, hkk, hkd])
    have hnn : sels ≠ .nil → Ast.nonNil sels = true := by
      intro h; cases sels with
      | nil => exact absurd rfl h
      | cons a b => rfl
    obtain ⟨name, tn, hname, htokn⟩ : ∃ (name : Option Ast.Str) (tn : List Elem), OptName name tn ∧ e3 = tn ∧
        TokIs c3 (match name with | some x => [Ast.Tok.name x] | none => []) := by
      rcases hnm with ⟨t, hk, hv, rfl, rfl⟩ | ⟨rfl, rfl⟩
      · exact ⟨some t.data, _, Or.inr ⟨t.data, rfl, hv, rfl⟩, rfl, TokIs.single t _ (by simp [astOfV, hk])⟩
      · exact ⟨none, [], Or.inl ⟨rfl, rfl⟩, rfl, TokIs.nil⟩
    obtain ⟨he3, htokn⟩ := htokn
    obtain ⟨vars, tv, hvars, he5, htokv, hwfv⟩ : ∃ (vars : List Ast.VarDef) (tv : List Elem), OptVarDefs vars tv ∧ e5 = tv ∧
        TokIs c5 (Ast.tVarDefs vars) ∧ Ast.wfVarDefs vars = true := by
      rcases hvd with ⟨vs, ev, hne', h1, h2, rfl, h4⟩ | ⟨rfl, rfl⟩
      · exact ⟨vs, _, Or.inr ⟨ev, rfl, h4⟩, rfl, h1, h2⟩
      · exact ⟨[], [], Or.inl ⟨rfl, rfl⟩, rfl, TokIs.nil, rfl⟩
    subst he3 he5
    have htree : OpDefTree ty name vars ds sels (Elem.node "OPERATION_DEFINITION" inner) :=
      ⟨inner, ess, rfl, hs3, Or.inl ⟨tk.data, e3, e5, td, hname, hvars, hd3, by rw [hin]; simp⟩⟩
    refine ⟨(false, .operation ty name vars ds sels), _, ?_, ?_, rfl, ⟨(nodeP_opDef inner).1, fun m hm =>
      FromCst.cDefinition_operation m ty name vars ds sels _ htree hm⟩, rfl, (nodeP_opDef inner).2⟩
    · rw [tOperation_eq]
      have := hty.append (htokn.append (htokv.append (hd1.append hs1)))
      cases name <;> simpa [tOperation, Ast.tSelSet, List.append_assoc] using this
    · simp only [Ast.wfDefinition, Bool.and_eq_true]
      exact ⟨⟨⟨hwfv, dirsOk_wf false ds hd2⟩, hwf⟩, hnn hne⟩
  have hshort : Tr NoE (fun q => True ∧ q.head?.map (·.kind) = some Kind.lCurly) (withNode "OPERATION_DEFINITION" (selectionSet n))
      (fun _ => ExecItemR) := by
    refine (tr_withNode early_false "OPERATION_DEFINITION" (hsig_headK .lCurly rfl) (tr_selSet n)).mono (fun _ h => h.2) ?_
    rintro _ cs e ⟨inner, rfl, sels, ess, hne, hwf, hs1, hin, hs3⟩
    have htree : OpDefTree .query none [] [] sels (Elem.node "OPERATION_DEFINITION" inner) :=
      ⟨inner, ess, rfl, hs3, Or.inr ⟨rfl, rfl, rfl, rfl, hin⟩⟩
    refine ⟨(true, .operation .query none [] [] sels), _, ?_, ?_, rfl, ⟨(nodeP_opDef inner).1, fun m hm =>
      FromCst.cDefinition_operation m .query none [] [] sels _ htree hm⟩, rfl, (nodeP_opDef inner).2⟩
    · simpa [Ast.tDefinition, Ast.isShorthand, Ast.tSelSet] using hs1
    · simp only [Ast.wfDefinition, Bool.and_eq_true]
      refine ⟨⟨⟨rfl, rfl⟩, hwf⟩, ?_⟩
      cases sels with
      | nil => exact absurd rfl hne
      | cons a b => rfl
  cases k with
  | none => exact tr_errAndPop
  | some k =>
    cases k
    case name => exact hlong
    case lCurly => exact hshort
    all_goals exact tr_errAndPop

end Apollo.Parse
