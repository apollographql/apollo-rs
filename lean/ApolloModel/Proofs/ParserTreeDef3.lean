import ApolloModel.Proofs.ParserTreeDef1
/-
C08 (pipeline), type-system definitions: field definitions, fields definition, enum value definitions — tree shapes,
conversion, parser side; the generic "optional container of items" conversion.
-/
set_option linter.unusedSimpArgs false
set_option linter.unusedVariables false

namespace Apollo.FromCst
open Apollo.Rowan Apollo.Ast
open Apollo.Parse (isJunk isJunkKind sigE nameNode)

variable {R : List Loc}

/-- a container `K[open item+ close]` of items of shape `P` -/
def ItemsNode {α : Type} (K osk csk : SK) (P : α → Elem → Prop) (vs : List α) (e : Elem) : Prop :=
  ∃ cs o c es, e = .node K cs ∧ sigE cs = .tok osk o :: (es ++ [.tok csk c]) ∧ All2 (fun e v => P v e) es vs

def OptItems {α : Type} (K osk csk : SK) (P : α → Elem → Prop) (vs : List α) (tail : List Elem) : Prop :=
  (vs = [] ∧ tail = []) ∨ (∃ e, tail = [e] ∧ ItemsNode K osk csk P vs e)

theorem optItems_kinds {α : Type} {K osk csk : SK} {P : α → Elem → Prop} {vs : List α} {t : List Elem}
    (h : OptItems K osk csk P vs t) : t = [] ∨ ∃ c, t = [.node K c] := by
  rcases h with ⟨_, rfl⟩ | ⟨_, rfl, c, _, _, _, rfl, _⟩
  · exact Or.inl rfl
  · exact Or.inr ⟨c, rfl⟩

theorem optIvds_items {K osk csk : SK} {vs : List InputValueDef} {t : List Elem} (h : OptIvds K osk csk vs t) :
    OptItems K osk csk IvdTree vs t := h

/-- `collect_opt(x.container(), |c| c.items())` -/
theorem itemsOf_conv {α : Type} (f : (R : List Loc) → PE R → M R α) (P : α → Elem → Prop) (IK K osk csk : SK) (m : Nat)
    (hP : ∀ a e, P a e → nodeP (· == IK) e = true) (hconv : ∀ a e, P a e → size e ≤ m → ConvE f a e)
    (k : SK) (cs : List Elem) (vs : List α) (tail : List Elem) (hopt : OptItems K osk csk P vs tail)
    (hfind : (sigE cs).find? (nodeP (· == K)) = tail.head?) (hmem : ∀ e ∈ tail, e ∈ sigE cs)
    (hs : size (.node k cs) ≤ m + 1) (R : List Loc) (s : Nat) (hp : ∀ x ∈ nameRanges (.node k cs) s, x ∈ R) :
    ∃ l, (match child K (⟨(.node k cs, s), hp⟩ : PE R) with
      | some c => collectM (f R) (children IK c)
      | none => M.pure' []) = some (vs, l) := by
  rcases hopt with ⟨rfl, rfl⟩ | ⟨ea, rfl, cs', o, c, es, rfl, hsig, hall⟩
  · have := childP_none (R := R) (· == K) k cs s hp (by rw [find_nodeP_sigE]; exact hfind)
    refine ⟨[], ?_⟩
    rw [child_eq_childP, this]; rfl
  · obtain ⟨s', h', hc⟩ := childP_some (R := R) (· == K) k cs s hp _ (by rw [find_nodeP_sigE]; exact hfind)
    have hfilter : cs'.filter (nodeP (· == IK)) = es := by
      rw [filter_nodeP_sigE, hsig]
      simp [List.filter_cons, nodeP_tok, List.filter_append, all2_filter _ _ hP es vs hall]
    have hmap := childrenP_map (R := R) (· == IK) K cs' s' h'
    rw [hfilter] at hmap
    have hszs : sizeList es ≤ m := by
      have h1 := size_le_sizeList (mem_sigE (hmem (Elem.node K cs') (by simp)))
      have h2 : sizeList (sigE cs') ≤ sizeList cs' := sizeList_sigE_le cs'
      rw [hsig] at h2
      simp only [sizeList, sizeList_append, size] at h1 h2 hs
      omega
    have hconv' := all2_conv f P m hconv es vs hall hszs
    obtain ⟨l, hl⟩ := collectM_conv (R := R) f _ es vs hmap hconv'
    refine ⟨l, ?_⟩
    rw [child_eq_childP, hc]
    exact hl

/-! ### field definitions -/

/-- `FIELD_DEFINITION[Description? NAME ArgumentsDefinition? : Type Directives?]` -/
def FieldTree (f : FieldDef) (e : Elem) : Prop :=
  ∃ cs pre ta col ety td, e = .node "FIELD_DEFINITION" cs ∧ isValidName f.name = true ∧ DescPre f.desc pre ∧
    OptItems "ARGUMENTS_DEFINITION" "L_PAREN" "R_PAREN" IvdTree f.args ta ∧ TyTree f.ty ety ∧ OptDirs f.dirs td ∧
    sigE cs = pre ++ nameNode f.name :: (ta ++ .tok "COLON" col :: ety :: td)

theorem fieldTree_nodeP {f : FieldDef} {e : Elem} (h : FieldTree f e) : nodeP (· == "FIELD_DEFINITION") e = true := by
  obtain ⟨cs, _, _, _, _, _, rfl, _⟩ := h; simp [nodeP_node]

theorem cFieldDefinition_conv (n : Nat) (f : FieldDef) (e : Elem) (h : FieldTree f e) (hs : size e ≤ n + 1) :
    ConvE (fun R => @cFieldDefinition R n) f e := by
  obtain ⟨cs, pre, ta, col, ety, td, rfl, hvn, hpre, hta, hty, htd, hsig⟩ := h
  obtain ⟨desc, name, args, ty, dirs⟩ := f
  simp only at hvn hpre hta hty htd hsig
  intro R s hp
  have t1 := nodeP_ty_ne hty "DESCRIPTION" rfl
  have t2 := nodeP_ty_ne hty "NAME" rfl
  have t3 := nodeP_ty_ne hty "ARGUMENTS_DEFINITION" rfl
  have t4 := nodeP_ty_ne hty "DIRECTIVES" rfl
  have t5 := hty.nodeP
  have hfde : (sigE cs).find? (nodeP (· == "DESCRIPTION")) = pre.head? := by
    rw [hsig]
    rcases descPre_kinds hpre with rfl | ⟨c1, rfl⟩ <;> rcases optItems_kinds hta with rfl | ⟨c2, rfl⟩ <;>
      rcases optDirs_kinds htd with rfl | ⟨c3, rfl⟩ <;> find_defs
  obtain ⟨l1, hl1⟩ := descOf_conv _ cs desc pre hpre hfde R s hp
  have hfn : (sigE cs).find? (nodeP (· == "NAME")) = some (nameNode name) := by
    rw [hsig]; rcases descPre_kinds hpre with rfl | ⟨c1, rfl⟩ <;> find_defs
  obtain ⟨l2, hl2⟩ := nameOf_node _ cs name hvn hfn R s hp
  have hfa : (sigE cs).find? (nodeP (· == "ARGUMENTS_DEFINITION")) = ta.head? := by
    rw [hsig]
    rcases descPre_kinds hpre with rfl | ⟨c1, rfl⟩ <;> rcases optItems_kinds hta with rfl | ⟨c2, rfl⟩ <;>
      rcases optDirs_kinds htd with rfl | ⟨c3, rfl⟩ <;> find_defs
  obtain ⟨l3, hl3⟩ := itemsOf_conv (fun R => @cInputValueDefinition R n) IvdTree "INPUT_VALUE_DEFINITION"
    "ARGUMENTS_DEFINITION" "L_PAREN" "R_PAREN" (n + 1) (fun a e h => ivdTree_nodeP h)
    (fun a e h hsz => cInputValueDefinition_conv n a e h hsz) _ cs args ta hta hfa
    (by intro e he; rw [hsig]; simp [he]) (by omega) R s hp
  have hft : (sigE cs).find? (nodeP isTypeKind) = some ety := by
    rw [hsig]
    rcases descPre_kinds hpre with rfl | ⟨c1, rfl⟩ <;> rcases optItems_kinds hta with rfl | ⟨c2, rfl⟩ <;> find_defs <;>
      simp [isTypeKind]
  obtain ⟨l4, hl4⟩ := typeOf_conv n _ cs ty ety hty hft hs R s hp
  have hfdir : (sigE cs).find? (nodeP (· == "DIRECTIVES")) = td.head? := by
    rw [hsig]
    rcases descPre_kinds hpre with rfl | ⟨c1, rfl⟩ <;> rcases optItems_kinds hta with rfl | ⟨c2, rfl⟩ <;>
      rcases optDirs_kinds htd with rfl | ⟨c3, rfl⟩ <;> find_defs
  obtain ⟨l5, hl5⟩ := directivesOf_conv n _ cs dirs td htd hfdir (by intro e he; rw [hsig]; simp [he]) hs R s hp
  refine ⟨l1 ++ (l2 ++ (l3 ++ (l4 ++ (l5 ++ [])))), ?_⟩
  show cFieldDefinition n _ = _
  unfold cFieldDefinition inputValuesOf
  exact bind_ok hl1 (bind_ok hl2 (bind_ok hl3 (bind_ok hl4 (bind_ok hl5 (pure_ok _)))))

/-! ### enum value definitions -/

/-- `ENUM_VALUE_DEFINITION[Description? ENUM_VALUE[NAME] Directives?]` -/
def EvTree (v : EnumValueDef) (e : Elem) : Prop :=
  ∃ cs pre ecs td, e = .node "ENUM_VALUE_DEFINITION" cs ∧ isValidName v.value = true ∧ DescPre v.desc pre ∧
    OptDirs v.dirs td ∧ sigE ecs = [nameNode v.value] ∧ sigE cs = pre ++ .node "ENUM_VALUE" ecs :: td

theorem evTree_nodeP {v : EnumValueDef} {e : Elem} (h : EvTree v e) : nodeP (· == "ENUM_VALUE_DEFINITION") e = true := by
  obtain ⟨cs, _, _, _, rfl, _⟩ := h; simp [nodeP_node]

theorem cEnumValueDefinition_conv (n : Nat) (v : EnumValueDef) (e : Elem) (h : EvTree v e) (hs : size e ≤ n + 1) :
    ConvE (fun R => @cEnumValueDefinition R n) v e := by
  obtain ⟨cs, pre, ecs, td, rfl, hvn, hpre, htd, hecs, hsig⟩ := h
  obtain ⟨desc, value, dirs⟩ := v
  simp only at hvn hpre htd hecs hsig
  intro R s hp
  have hfde : (sigE cs).find? (nodeP (· == "DESCRIPTION")) = pre.head? := by
    rw [hsig]
    rcases descPre_kinds hpre with rfl | ⟨c1, rfl⟩ <;> rcases optDirs_kinds htd with rfl | ⟨c3, rfl⟩ <;> find_defs
  obtain ⟨l1, hl1⟩ := descOf_conv _ cs desc pre hpre hfde R s hp
  have hfe : cs.find? (nodeP (· == "ENUM_VALUE")) = some (.node "ENUM_VALUE" ecs) := by
    rw [find_nodeP_sigE, hsig]; rcases descPre_kinds hpre with rfl | ⟨c1, rfl⟩ <;> find_defs
  obtain ⟨s', h', hc⟩ := childP_some (R := R) (· == "ENUM_VALUE") _ cs s hp _ hfe
  obtain ⟨l2, hl2⟩ := nameOf_node "ENUM_VALUE" ecs value hvn (by rw [hecs]; rfl) R s' h'
  have hfdir : (sigE cs).find? (nodeP (· == "DIRECTIVES")) = td.head? := by
    rw [hsig]
    rcases descPre_kinds hpre with rfl | ⟨c1, rfl⟩ <;> rcases optDirs_kinds htd with rfl | ⟨c3, rfl⟩ <;> find_defs
  obtain ⟨l3, hl3⟩ := directivesOf_conv n _ cs dirs td htd hfdir (by intro e he; rw [hsig]; simp [he]) hs R s hp
  refine ⟨l1 ++ ([] ++ (l2 ++ (l3 ++ []))), ?_⟩
  show cEnumValueDefinition n _ = _
  unfold cEnumValueDefinition
  refine bind_ok hl1 ?_
  rw [child_eq_childP, hc]
  exact bind_ok rfl (bind_ok hl2 (bind_ok hl3 (pure_ok _)))

end Apollo.FromCst

namespace Apollo.Parse
open Apollo.Rowan hiding Str
open Apollo.Lex hiding Str
open Apollo.FromCst (TyTree ValTree DescPre DefaultPre OptDirs DirsNode All2 IvdTree IvdsNode OptIvds ItemsNode OptItems FieldTree EvTree)

theorem tr_peekNop {E : PState → Prop} {H : List Tok → Prop} : Tr E H peekNop (fun _ cs e => cs = [] ∧ e = []) := by
  unfold peekNop
  apply tr_peek
  intro k
  exact (tr_pure E _ ()).mono (fun _ _ => trivial) (fun _ _ _ h => h.2)

theorem tArgsDef_ne (vs : List Ast.InputValueDef) (h : vs ≠ []) :
    Ast.tArgsDef vs = .p .lParen :: Ast.tIVDItems vs ++ [.p .rParen] := by
  cases vs with
  | nil => exact absurd rfl h
  | cons a r => simp [Ast.tArgsDef]

/-! ### field definition -/

def FieldDefR (cs : List Tok) (e : List Elem) : Prop :=
  ∃ (f : Ast.FieldDef) (ef : Elem), TokIs cs (Ast.tFieldDef f) ∧ Ast.wfIVDs f.args = true ∧ dirsOk true f.dirs ∧
    e = [ef] ∧ FieldTree f ef

theorem tr_fieldDefinition {E : PState → Prop} (hE : Early E) (n : Nat) :
    Tr E (KindP isNameOrStringK) (fieldDefinition n) (fun _ => FieldDefR) := by
  rw [fieldDefinition_eq]
  have hType : Tr E (fun _ => True) (fdType n) (fun _ cs e => ∃ (t : Ast.Ty) (ety : Elem) (ds : List Ast.Directive) (td : List Elem),
      TokIs cs (Ast.tTy t ++ Ast.tDirectives ds) ∧ dirsOk true ds ∧ e = ety :: td ∧ TyTree t ety ∧ OptDirs ds td) := by
    unfold fdType
    refine tr_peekIf _ _ _ _ ?_ tr_err
    refine (tr_bind hE (tr_ty n) (fun _ => (tr_optDirectives n true peekNop (tr_peekNop (E := NoE)) (H := fun _ => True)).anyE)).mono
      (fun _ h => h) ?_
    rintro _ cs e ⟨_, c1, c2, e1, e2, rfl, rfl, ⟨t, e0, ht1, rfl, ht3⟩, ds, c3, c4, td, e4, rfl, rfl, hd1, hd2, hd3, rfl, rfl⟩
    exact ⟨t, e0, ds, td, by simpa using ht1.append hd1, hd2, by simp, ht3, hd3⟩
  have hColon : Tr E (fun _ => True) (fdColon n) (fun _ cs e => ∃ (tc : Tok) (t : Ast.Ty) (ety : Elem) (ds : List Ast.Directive)
      (td : List Elem), TokIs cs (.p .colon :: Ast.tTy t ++ Ast.tDirectives ds) ∧ dirsOk true ds ∧
        e = Elem.tok "COLON" tc.data :: ety :: td ∧ TyTree t ety ∧ OptDirs ds td) := by
    unfold fdColon
    have hb := tr_bind hE (tr_bumpK (E := E) "COLON" (by decide) .colon rfl (by decide)) (fun _ => hType)
    refine (tr_ifKind .colon _ _ _ hb.atKind tr_err).mono
      (fun _ h => h) ?_
    rintro _ cs e ⟨_, c1, c2, e1, e2, rfl, rfl, ⟨tc, hk, _, rfl, rfl⟩, t, ety, ds, td, h1, h2, rfl, h4, h5⟩
    exact ⟨tc, t, ety, ds, td, TokIs.cons (by simp [astOfV, hk]) (by simpa using h1), h2, rfl, h4, h5⟩
  have hArgs := tr_optKind hE (H := fun _ => True) .lParen (argumentsDefinition n) (fdColon n) _ _ (tr_argumentsDefinition n).anyE hColon
  have hName := tr_bind hE (tr_name (E := E) (H := fun _ => True)) (fun _ => hArgs)
  have hBody := tr_optDesc hE (H := KindP isNameOrStringK) _ _ hName
  refine (tr_withNode hE "FIELD_DEFINITION" (kindP_sig _ nameOrString_sig) hBody).mono (fun _ h => h) ?_
  rintro _ cs e ⟨inner, rfl, desc, c1, c2, pre, e2, rfl, hin, hd1, hd2, _, c3, c4, e3, e4, rfl, rfl,
    ⟨tn, hkn, hvn, rfl, rfl⟩, c5, c6, e5, e6, rfl, rfl, hargs, tc, t, ety, ds, td, h1, h2, rfl, h4, h5⟩
  have hnm : TokIs [tn] [Ast.Tok.name tn.data] := TokIs.single tn _ (by simp [astOfV, hkn])
  rcases hargs with ⟨vs, ea, hne, ha1, ha2, rfl, ha4⟩ | ⟨rfl, rfl⟩
  · refine ⟨⟨desc, tn.data, vs, t, ds⟩, _, ?_, ha2, h2, rfl, inner, pre, [ea], tc.data, ety, td, rfl, hvn, hd2,
      Or.inr ⟨ea, rfl, ha4⟩, h4, h5, by rw [hin]; simp⟩
    have := hd1.append (hnm.append (ha1.append h1))
    simpa [Ast.tFieldDef, tArgsDef_ne vs hne, List.append_assoc] using this
  · refine ⟨⟨desc, tn.data, [], t, ds⟩, _, ?_, rfl, h2, rfl, inner, pre, [], tc.data, ety, td, rfl, hvn, hd2,
      Or.inl ⟨rfl, rfl⟩, h4, h5, by rw [hin]; simp⟩
    have := hd1.append (hnm.append h1)
    simpa [Ast.tFieldDef, Ast.tArgsDef, List.append_assoc] using this

theorem itemsT_fields' : ∀ (cs : List Tok) (e : List Elem), ItemsT FieldDefR cs e →
    ∃ fs : List Ast.FieldDef, TokIs cs (Ast.tFieldDefItems fs) ∧ Ast.wfFieldDefs fs = true ∧ All2 (fun e f => FieldTree f e) e fs := by
  rintro cs e ⟨items, rfl, rfl, hall⟩
  induction items with
  | nil => exact ⟨[], TokIs.nil, rfl, All2.nil⟩
  | cons i items ih =>
    obtain ⟨vs, h1, h2, h3⟩ := ih (fun j hj => hall j (List.mem_cons_of_mem _ hj))
    obtain ⟨v, ev, hv1, hv2, hv3, hv4, hv5⟩ := hall i List.mem_cons_self
    refine ⟨v :: vs, ?_, ?_, ?_⟩
    · simp only [List.map_cons, List.flatten_cons, Ast.tFieldDefItems]
      exact hv1.append h1
    · simp only [Ast.wfFieldDefs, Bool.and_eq_true]
      exact ⟨⟨hv2, dirsOk_wf true _ hv3⟩, h2⟩
    · simp only [List.map_cons, List.flatten_cons, hv4]
      exact All2.cons hv5 h3

/-- `{ FieldDefinition+ }` under one FIELDS_DEFINITION node -/
def FieldsR (cs : List Tok) (e : List Elem) : Prop :=
  ∃ (fs : List Ast.FieldDef) (ea : Elem), fs ≠ [] ∧ TokIs cs (.p .lCurly :: Ast.tFieldDefItems fs ++ [.p .rCurly]) ∧
    Ast.wfFieldDefs fs = true ∧ e = [ea] ∧ ItemsNode "FIELDS_DEFINITION" "L_CURLY" "R_CURLY" FieldTree fs ea

theorem tr_fieldsDefinition (n : Nat) : Tr NoE (KindP (· == .lCurly)) (fieldsDefinition n) (fun _ => FieldsR) := by
  rw [fieldsDefinition_eq]
  have hb := tr_braced .lCurly "L_CURLY" .rCurly "R_CURLY" (by decide) (by decide) isNameOrString isNameOrStringK
    (fieldDefinition n) FieldDefR rfl (by decide) rfl (by decide) isNameOrString_first (tr_fieldDefinition early_atEof n)
  refine (tr_withNode early_false "FIELDS_DEFINITION" (kindP_sig _ lCurly_sig) hb).mono (fun _ h => h) ?_
  rintro _ cs e ⟨inner, rfl, to, tc, c1, ci, e1, ei, hko, hkc, rfl, hin, hq1, hit⟩
  obtain ⟨fs, h1, h2, h3⟩ := itemsT_fields' _ _ (itemsT_cons hq1 hit)
  refine ⟨fs, _, ?_, ?_, h2, rfl, inner, to.data, tc.data, e1 ++ ei, rfl, hin, h3⟩
  · rintro rfl
    obtain ⟨v, ev, _, _, _, rfl, _⟩ := hq1
    cases h3
  · have := (TokIs.cons (t := to) (x := .p .lCurly) (by simp [astOfV, hko]) h1).append
      (TokIs.single tc (.p .rCurly) (by simp [astOfV, hkc]))
    simpa using this

/-! ### enum values -/

theorem tr_enumValueG {E : PState → Prop} (hE : Early E) {H : List Tok → Prop} :
    Tr E H enumValue (fun _ cs e => ∃ (t : Tok) (inner : List Elem), t.kind = .name ∧ isValidName t.data = true ∧
      isValueKeyword t.data = false ∧ cs = [t] ∧ e = [Elem.node "ENUM_VALUE" inner] ∧ sigE inner = [nameNode t.data]) := by
  unfold enumValue
  have hbody : Tr E (fun _ => True) (peekToken >>= fun o => match o with
      | some t => if t.kind == .name then
          (if kw "true" t.data || kw "false" t.data || kw "null" t.data then err >>= fun _ => name else name)
        else err
      | none => err)
      (fun _ cs e => ∃ t : Tok, t.kind = .name ∧ isValidName t.data = true ∧ isValueKeyword t.data = false ∧ cs = [t] ∧
        e = [nameNode t.data]) := by
    apply tr_peekToken
    intro o
    cases o with
    | none => exact tr_err
    | some t' =>
      simp only []
      refine tr_ite _ (fun _ => ?_) (fun _ => tr_err)
      refine tr_ite _ (fun _ => tr_never (acc_err' name good_name)) (fun hx => ?_)
      refine (tr_nameAt (E := E) t').mono (fun _ h => h.2) ?_
      rintro _ cs e ⟨h1, h2, h3, h4⟩
      exact ⟨t', h1, h2, by simpa [isValueKeyword] using hx, h3, h4⟩
  refine (tr_withNodeAny hE "ENUM_VALUE" hbody).mono (fun _ h => h) ?_
  rintro _ cs e ⟨inner, rfl, t, h1, h2, h3, rfl, h5⟩
  exact ⟨t, inner, h1, h2, h3, rfl, rfl, h5⟩

def EvR (cs : List Tok) (e : List Elem) : Prop :=
  ∃ (v : Ast.EnumValueDef) (ev : Elem), TokIs cs (Ast.tEnumValueDef v) ∧ dirsOk true v.dirs ∧ isValueKeyword v.value = false ∧
    e = [ev] ∧ EvTree v ev

theorem tr_enumValueDefinition {E : PState → Prop} (hE : Early E) (n : Nat) :
    Tr E (KindP isNameOrStringK) (enumValueDefinition n) (fun _ => EvR) := by
  rw [enumValueDefinition_eq]
  apply tr_peek
  intro k
  refine tr_ite _ (fun _ => ?_) (fun hk => ?_)
  · have hv := tr_bind hE (tr_enumValueG hE (H := fun _ => True)) (fun _ => tr_optDirsEnd (E := E) (H := fun _ => True) n)
    have hBody := tr_optDesc hE (H := fun q => KindP isNameOrStringK q ∧ q.head?.map (·.kind) = k) _ _ hv
    unfold evBody
    refine (tr_withNode hE "ENUM_VALUE_DEFINITION" (fun q hq => kindP_sig _ nameOrString_sig q hq.1) hBody).mono (fun _ h => h) ?_
    rintro _ cs e ⟨inner, rfl, desc, c1, c2, pre, e2, rfl, hin, hd1, hd2, _, c3, c4, e3, e4, rfl, rfl,
      ⟨tn, ecs, hkn, hvn, hnk, rfl, rfl, hecs⟩, ds, h1, h2, h3⟩
    refine ⟨⟨desc, tn.data, ds⟩, _, ?_, h2, hnk, rfl, inner, pre, ecs, e4, rfl, hvn, hd2, h3, hecs, by rw [hin]; simp⟩
    have := hd1.append (TokIs.cons (t := tn) (x := .name tn.data) (by simp [astOfV, hkn]) h1)
    simpa [Ast.tEnumValueDef, List.append_assoc] using this
  · refine tr_absurd (good_pure ()) ?_
    rintro q ⟨⟨t, hh, hp⟩, h2⟩
    rw [hh] at h2
    subst h2
    simp [isNameOrString, isNameOrStringK] at hk hp
    rcases hp with hp | hp <;> simp [hp] at hk

theorem itemsT_evs : ∀ (cs : List Tok) (e : List Elem), ItemsT EvR cs e →
    ∃ vs : List Ast.EnumValueDef, TokIs cs (Ast.tEnumValueDefItems vs) ∧ Ast.wfEnumValueDefs vs = true ∧
      (∀ v ∈ vs, isValueKeyword v.value = false) ∧ All2 (fun e v => EvTree v e) e vs := by
  rintro cs e ⟨items, rfl, rfl, hall⟩
  induction items with
  | nil => exact ⟨[], TokIs.nil, rfl, (by intro v hv; cases hv), All2.nil⟩
  | cons i items ih =>
    obtain ⟨vs, h1, h2, h2', h3⟩ := ih (fun j hj => hall j (List.mem_cons_of_mem _ hj))
    obtain ⟨v, ev, hv1, hv2, hv3, hv4, hv5⟩ := hall i List.mem_cons_self
    refine ⟨v :: vs, ?_, ?_, ?_, ?_⟩
    · simp only [List.map_cons, List.flatten_cons, Ast.tEnumValueDefItems]
      exact hv1.append h1
    · simp only [Ast.wfEnumValueDefs, Bool.and_eq_true]
      exact ⟨dirsOk_wf true _ hv2, h2⟩
    · intro b hb
      rcases List.mem_cons.mp hb with rfl | hb
      · exact hv3
      · exact h2' b hb
    · simp only [List.map_cons, List.flatten_cons, hv4]
      exact All2.cons hv5 h3

/-- `{ EnumValueDefinition+ }` under one ENUM_VALUES_DEFINITION node -/
def EvsR (cs : List Tok) (e : List Elem) : Prop :=
  ∃ (vs : List Ast.EnumValueDef) (ea : Elem), vs ≠ [] ∧ TokIs cs (.p .lCurly :: Ast.tEnumValueDefItems vs ++ [.p .rCurly]) ∧
    Ast.wfEnumValueDefs vs = true ∧ (∀ v ∈ vs, isValueKeyword v.value = false) ∧ e = [ea] ∧
    ItemsNode "ENUM_VALUES_DEFINITION" "L_CURLY" "R_CURLY" EvTree vs ea

theorem tr_enumValuesDefinition (n : Nat) : Tr NoE (KindP (· == .lCurly)) (enumValuesDefinition n) (fun _ => EvsR) := by
  rw [enumValuesDefinition_eq]
  have hb := tr_braced .lCurly "L_CURLY" .rCurly "R_CURLY" (by decide) (by decide) isNameOrString isNameOrStringK
    (enumValueDefinition n) EvR rfl (by decide) rfl (by decide) isNameOrString_first (tr_enumValueDefinition early_atEof n)
  refine (tr_withNode early_false "ENUM_VALUES_DEFINITION" (kindP_sig _ lCurly_sig) hb).mono (fun _ h => h) ?_
  rintro _ cs e ⟨inner, rfl, to, tc, c1, ci, e1, ei, hko, hkc, rfl, hin, hq1, hit⟩
  obtain ⟨vs, h1, h2, h2', h3⟩ := itemsT_evs _ _ (itemsT_cons hq1 hit)
  refine ⟨vs, _, ?_, ?_, h2, h2', rfl, inner, to.data, tc.data, e1 ++ ei, rfl, hin, h3⟩
  · rintro rfl
    obtain ⟨v, ev, _, _, _, rfl, _⟩ := hq1
    cases h3
  · have := (TokIs.cons (t := to) (x := .p .lCurly) (by simp [astOfV, hko]) h1).append
      (TokIs.single tc (.p .rCurly) (by simp [astOfV, hkc]))
    simpa using this

end Apollo.Parse
