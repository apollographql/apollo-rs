import ApolloModel.Proofs.ParserType4
/-
C07 / C05, type entry point: `Parser::parse_type` — an error-free parse means that the token
queue is exactly one type followed by the end of input.
-/
set_option linter.unusedSimpArgs false
namespace Apollo.Parse
open Apollo.Rowan hiding Str
open Apollo.Lex hiding Str

theorem stream_eof_end : ∀ (n : Nat) (l : LexSt), l.src.length ≤ n → l.limit = none → l.finished = false →
    ∃ pre e, toksOf (stream l) = pre ++ [e] ∧ e.kind = .eof ∧ NoEof pre := by
  intro n
  induction n with
  | zero =>
    intro l hn hl hf
    have hu := stream_unfold l hl
    rcases lexNext_cases l hl with ⟨h1, _⟩ | ⟨_, _, l', h, hfin, hl', _⟩ | ⟨_, o, l', h, hlen, _, _, _⟩
    · rw [hf] at h1; cases h1
    · rw [h] at hu
      simp only [] at hu
      have : stream l' = [] := by unfold stream; exact pull_finished _ _ hfin
      rw [this] at hu
      exact ⟨[], _, by rw [hu]; rfl, rfl, by intro x hx; cases hx⟩
    · omega
  | succ n ih =>
    intro l hn hl hf
    have hu := stream_unfold l hl
    rcases lexNext_cases l hl with ⟨h1, _⟩ | ⟨_, _, l', h, hfin, hl', _⟩ | ⟨_, o, l', h, hlen, hf', hl', hne⟩
    · rw [hf] at h1; cases h1
    · rw [h] at hu
      simp only [] at hu
      have : stream l' = [] := by unfold stream; exact pull_finished _ _ hfin
      rw [this] at hu
      exact ⟨[], _, by rw [hu]; rfl, rfl, by intro x hx; cases hx⟩
    · rw [h] at hu
      simp only [] at hu
      obtain ⟨pre, e, hp, he, hno⟩ := ih l' (by omega) hl' hf'
      cases o with
      | tok t =>
        refine ⟨t :: pre, e, by rw [hu]; simp [toksOf, outTok] at hp ⊢; exact hp, he, ?_⟩
        intro x hx
        rcases List.mem_cons.mp hx with rfl | hx
        · exact hne x rfl
        · exact hno x hx
      | err d i => exact ⟨pre, e, by rw [hu]; simp [toksOf, outTok] at hp ⊢; exact hp, he, hno⟩
      | limit i => exact ⟨pre, e, by rw [hu]; simp [toksOf, outTok] at hp ⊢; exact hp, he, hno⟩

theorem hasErr_src_nil (l : LexSt) (hl : l.limit = none) (hs : l.src = []) : hasErr (stream l) = false := by
  have hu := stream_unfold l hl
  rcases lexNext_cases l hl with ⟨_, h⟩ | ⟨_, _, l', h, hfin, _, _⟩ | ⟨_, o, l', h, hlen, _, _, _⟩
  · rw [h] at hu; rw [hu]; rfl
  · rw [h] at hu
    simp only [] at hu
    have : stream l' = [] := by unfold stream; exact pull_finished _ _ hfin
    rw [hu, this]; rfl
  · rw [hs] at hlen; simp at hlen

theorem good_ty (n : Nat) : Good (ty n) := by
  unfold ty
  refine good_bind _ _ (good_tyParse n) ?_
  intro r
  cases r <;> first | exact good_pure _ | exact good_pushErr _ | exact good_err

theorem good_expectEndOfInput : Good expectEndOfInput := by
  unfold expectEndOfInput
  refine good_bind _ _ good_skipIgnored (fun _ => good_bind _ _ good_peek ?_)
  intro k
  unfold errUnlessEnd
  split
  · exact good_pure _
  · exact good_err

/-- the token queue of a source text (what the lexer hands to the parser, error items left out) -/
def srcToks (src : Str) : List Tok := toksOf (stream (initState src none 0).lx)

def LexClean (src : Str) : Prop := hasErr (stream (initState src none 0).lx) = false

/-- an error-free run of `ty` is a run of `ty.rs::parse` that returned `Ok` without an error -/
theorem Exact.ty_ok (n : Nat) (s s' : PState) (w : TW s) (he : EofEnd s) (h : (ty n).run s = .ok () s')
    (hnd : ¬ Doomed s') : Exact.TyOk s s' := by
  unfold ty at h
  obtain ⟨r, sT, hT, h3⟩ := bind_dec (tyParse n) _ s s' () h
  have aT := good_tyParse n s r sT w hT
  cases r with
  | ok =>
    obtain ⟨-, rfl⟩ := pure_dec h3
    rcases Exact.tyParse_sound n s sT _ w he hT hnd with ⟨tk, hx⟩ | ⟨_, ok⟩
    · cases hx
    · exact ok
  | early =>
    obtain ⟨-, rfl⟩ := pure_dec h3
    rcases Exact.tyParse_sound n s sT _ w he hT hnd with ⟨tk, hx⟩ | ⟨hx, _⟩ <;> cases hx
  | errTok tk => exact absurd (errAtToken_adv tk sT s' aT.w h3).2 hnd
  | errNone =>
    have hndT : ¬ Doomed sT := fun d => hnd ((good_err sT () s' aT.w h3).doom d)
    rcases Exact.tyParse_sound n s sT _ w he hT hndT with ⟨tk, hx⟩ | ⟨hx, _⟩ <;> cases hx

theorem ty_sound (n : Nat) (s s' : PState) (w : TW s) (he : EofEnd s) (h : (ty n).run s = .ok () s')
    (hnd : ¬ Doomed s') : TyOk s s' :=
  (Exact.ty_ok n s s' w he h hnd).forget

theorem type_sound_run (fuel : Nat) (s0 s : PState) (hi : Inv s0) (w : TW s0) (he : EofEnd s0)
    (h : (ty fuel >>= fun _ => expectEndOfInput).run s0 = .ok () s) (herr : s.errors = []) :
    ¬ Doomed s0 ∧ ∃ t ts e, sig (Toks s0) = ts ++ [e] ∧ e.kind = .eof ∧ IsTy ts t := by
  obtain ⟨_, s1, h1, h2⟩ := bind_dec (ty fuel) _ s0 s () h
  obtain ⟨hi1, hl1⟩ := PI.run_ok _ s0 hi _ s1 h1
  have a1 := good_ty fuel s0 () s1 w h1
  have a2 := good_expectEndOfInput s1 () s a1.w h2
  have hex := expectEndOfInput_exhausted s1 s hi1 a1.w.limit h2 herr
  have hnd : ¬ Doomed s := by
    rintro (hd | hd)
    · exact hd herr
    · rw [hasErr_src_nil s.lx a2.w.limit hex.2] at hd; cases hd
  have hnd1 : ¬ Doomed s1 := fun d => hnd (a2.doom d)
  refine ⟨fun d => hnd1 (a1.doom d), ?_⟩
  have ok := ty_sound fuel s0 s1 w he h1 hnd1
  obtain ⟨c, t, hc, hty, hno⟩ := ok.ex
  unfold expectEndOfInput at h2
  obtain ⟨_, sK, hK, h4⟩ := bind_dec skipIgnored _ s1 s () h2
  obtain ⟨ign, eK, hall, hset⟩ := skipIgnored_spec s1 sK a1.w hK
  obtain ⟨k, sP, hP, h5⟩ := bind_dec peek _ sK s () h4
  obtain ⟨o, p, hk⟩ := peek_obs sK sP k eK.w hP
  have heK : EofEnd sK := eofEnd_eat ok.eof eK (noEof_ignored ign hall)
  have hndK : ¬ Doomed sK := by
    intro d
    have : Good (errUnlessEnd k) := by unfold errUnlessEnd; split; exact good_pure _; exact good_err
    exact hnd ((this sP () s p.w h5).doom (p.doom.mpr d))
  have hhead : ∃ e, Toks sK = [e] ∧ e.kind = .eof := by
    rcases heK with d | ⟨pre, e, hq, hek, hnoe⟩
    · exact absurd d hndK
    · cases o with
      | none =>
        exfalso
        have hh := p.head
        rw [hq] at hh
        cases pre <;> cases hh
      | some t' =>
        have hkind : t'.kind = .eof := by
          subst hk
          unfold errUnlessEnd at h5
          by_cases hke : t'.kind = .eof
          · exact hke
          · exfalso
            have : (some t'.kind == none || some t'.kind == some Kind.eof) = false := by simp [hke]
            simp only [Option.map_some, this, Bool.false_eq_true, if_false] at h5
            have hne : Toks sP ≠ [] := by rw [p.toks, hq]; simp
            exact hnd ((err_adv sP s p.w h5).2 hne)
        have hh := p.head
        rw [hq] at hh
        cases pre with
        | nil => exact ⟨e, hq, hek⟩
        | cons x pre =>
          exfalso
          simp only [List.cons_append, List.head?_cons, Option.some.injEq] at hh
          subst hh
          exact hnoe t' (by simp) hkind
  obtain ⟨e, hq, hek⟩ := hhead
  refine ⟨t, sig c, e, ?_, hek, hty⟩
  rw [hc, eK.toks, hq, sig_append, sig_append, sig_ignored ign hall]
  have : sig [e] = [e] := sig_single e (by rw [hek]; rfl)
  rw [this]; simp

theorem srcToks_eof_end (src : Str) : ∃ pre e, srcToks src = pre ++ [e] ∧ e.kind = .eof ∧ NoEof pre :=
  stream_eof_end src.length (initState src none 0).lx (Nat.le_refl _) rfl rfl

/-- the state in which a standalone entry point (temporary root `k`, no token limit) starts its grammar function -/
theorem standalone_start (src : Str) (rl : Nat) (k : SK) (s0 : PState)
    (hs0 : ({ initState src none rl with builder := (initState src none rl).builder.startNode k } : PState) = s0) :
    Inv s0 ∧ TW s0 ∧ Toks s0 = srcToks src ∧ (Doomed s0 ↔ ¬ LexClean src) ∧ EofEnd s0 := by
  subst hs0
  have htoks : Toks { initState src none rl with builder := (initState src none rl).builder.startNode k } = srcToks src := rfl
  refine ⟨standalone_inv src none rl k, ⟨rfl, by intro h; simp [initState] at h⟩, htoks, ?_, Or.inr ?_⟩
  · unfold Doomed LexClean
    show ([] ≠ [] ∨ hasErr (stream (initState src none 0).lx) = true) ↔ _
    constructor
    · rintro (h | h)
      · exact absurd rfl h
      · simp [h]
    · intro h; right; simpa using h
  · rw [htoks]; exact srcToks_eof_end src

/-- **`Parser::parse_type`, acceptance is sound** (no token limit, any recursion limit): if the parse ends
    with a tree and without any error, the source lexes cleanly and its significant tokens — whitespace,
    comments and commas removed — are exactly the tokens of one type reference of the grammar
    `Type : Name | [Type] | Type!`, followed by the end of input. -/
theorem parseType_sound (rl : Nat) (src : Str) (root : Elem)
    (h : (parse .type none rl src).outcome = .tree root) (herr : (parse .type none rl src).errors = []) :
    LexClean src ∧ ∃ t ts e, sig (srcToks src) = ts ++ [e] ∧ e.kind = .eof ∧ IsTy ts t := by
  unfold parse runEntry at h herr
  simp only [Entry.standalone, Entry.grammar] at h herr
  generalize hs0 : ({ initState src none rl with builder := (initState src none rl).builder.startNode "NAMED_TYPE" } : PState) = s0 at h herr
  obtain ⟨hinv, w0, htoks, hdoom, he0⟩ := standalone_start src rl _ s0 hs0
  cases hr : (ty (fuelFor src) >>= fun _ => expectEndOfInput).run s0 with
  | abort w => simp [hr] at h
  | panic m => simp [hr] at h
  | ok a s =>
    simp only [hr] at h herr
    obtain ⟨hnd, t, ts, e, h1, h2, h3⟩ := type_sound_run (fuelFor src) s0 s hinv w0 he0 hr herr
    refine ⟨?_, t, ts, e, by rw [← htoks]; exact h1, h2, h3⟩
    by_cases hc : LexClean src
    · exact hc
    · exact absurd (hdoom.mpr hc) hnd

end Apollo.Parse
