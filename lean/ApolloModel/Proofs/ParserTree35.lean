import ApolloModel.Proofs.ParserTree34
import ApolloModel.Proofs.AstText12
/-
C08 (pipeline): what the lexer guarantees of the tokens of an accepted source carries over to the printer's tokens of the
AST `from_cst` returns: names are GraphQL names, numbers are IntValue / FloatValue texts.
-/
set_option linter.unusedSimpArgs false
set_option linter.unusedVariables false

namespace Apollo.Parse
open Apollo.Rowan hiding Str
open Apollo.Lex hiding Str

theorem wfName_eq_isValidName (n : Str) : Ast.wfName n = isValidName n := by
  cases n with
  | nil => rfl
  | cons c r =>
    have hr : r.all Lex.isNameContinue = r.all Apollo.isNameContinue := by
      induction r with
      | nil => rfl
      | cons x xs ih => simp only [List.all_cons, ih, nameContinue_agree]
    simp only [Ast.wfName, isValidName, nameStart_agree, hr]

/-- what the lexical grammar says of a grammar token -/
def TokOkA : Ast.Tok → Prop
  | .name n => Ast.wfName n = true
  | .int s => Spec.Lexical.IsIntValue s
  | .float s => Spec.Lexical.IsFloatValue s
  | _ => True

theorem specTokens_num {src : Str} {items : List Lex.Item} (h : SpecTokens src items) :
    ∀ k t, Lex.Item.tok k t ∈ items → (k = .int → Spec.Lexical.IsIntValue t) ∧ (k = .float → Spec.Lexical.IsFloatValue t) := by
  induction h with
  | eof =>
    intro k t hm
    simp only [List.mem_singleton, Lex.Item.tok.injEq] at hm
    obtain ⟨rfl, _⟩ := hm
    exact ⟨(by intro h; cases h), (by intro h; cases h)⟩
  | cons hne hok _ ih =>
    intro k t hm
    rcases List.mem_cons.mp hm with hm | hm
    · simp only [Lex.Item.tok.injEq] at hm
      obtain ⟨rfl, rfl⟩ := hm
      refine ⟨fun hk => ?_, fun hk => ?_⟩
      · subst hk; exact hok.1
      · subst hk; exact hok.1
    · exact ih k t hm

theorem numQ_srcToks (src : Str) (hclean : LexClean src) :
    ∀ t ∈ srcToks src, (t.kind = .int → Spec.Lexical.IsIntValue t.data) ∧ (t.kind = .float → Spec.Lexical.IsFloatValue t.data) := by
  intro t ht
  have hspec := lex_ok_tokens_sound src ((lexClean_lex src).mp hclean)
  have hm : Lex.Item.tok t.kind t.data ∈ lex none src := by
    rw [lex_eq_srcToks src hclean]
    exact List.mem_map.mpr ⟨t, ht, rfl⟩
  exact specTokens_num hspec t.kind t.data hm

theorem tokOkA_of_src (src : Str) (hclean : LexClean src) (ts : List Tok) (e : Tok) (hsig : sig (srcToks src) = ts ++ [e])
    (X : List Ast.Tok) (hx : TokIs ts X) : ∀ a ∈ X, TokOkA a := by
  intro a ha
  have h1 : some a ∈ ts.map astOfV := by rw [hx]; exact List.mem_map.mpr ⟨a, ha, rfl⟩
  obtain ⟨t, ht, hta⟩ := List.mem_map.mp h1
  have hmem : t ∈ srcToks src := by
    have : t ∈ sig (srcToks src) := by rw [hsig]; exact List.mem_append_left _ ht
    exact (List.mem_filter.mp this).1
  have hn := nameQ_srcToks src t hmem
  have hnum := numQ_srcToks src hclean t hmem
  cases hk : t.kind <;> simp [astOfV, hk] at hta <;> subst hta <;> try trivial
  · show Ast.wfName t.data = true
    rw [wfName_eq_isValidName]; exact hn hk
  · exact hnum.1 hk
  · exact hnum.2 hk

theorem tDefinition_mem_flag (f f' : Bool) (x : Ast.Definition) (a : Ast.Tok) (h : a ∈ Ast.tDefinition f x) :
    a ∈ Ast.tDefinition f' x ∨ a = .name "query".toList := by
  cases x with
  | operation ty name vars dirs sels =>
    simp only [Ast.tDefinition] at h ⊢
    by_cases h1 : Ast.isShorthand f ty name vars dirs = true <;> by_cases h2 : Ast.isShorthand f' ty name vars dirs = true
    · simp only [h1, h2, if_true] at h ⊢; exact Or.inl h
    · simp only [h1, h2, if_true, Bool.false_eq_true, if_false, List.nil_append] at h ⊢
      exact Or.inl (List.mem_append_right _ h)
    · simp only [h1, h2, if_true, Bool.false_eq_true, if_false, List.nil_append] at h ⊢
      simp only [Ast.isShorthand, Bool.and_eq_true, beq_iff_eq, Option.isNone_iff_eq_none, List.isEmpty_iff] at h2
      obtain ⟨⟨⟨⟨_, rfl⟩, rfl⟩, rfl⟩, rfl⟩ := h2
      simp only [Ast.tVarDefs, Ast.tDirectives, List.isEmpty_nil, if_true, List.append_nil, List.cons_append, List.nil_append,
        List.mem_cons] at h
      rcases h with h | h
      · exact Or.inr h
      · exact Or.inl h
    · simp only [h1, h2, Bool.false_eq_true, if_false] at h ⊢; exact Or.inl h
  | _ => exact Or.inl h

theorem wfName_query : Ast.wfName "query".toList = true := by decide

theorem tokOkA_printed (oe : Bool) (items : List Ast.Item) (h : ∀ a ∈ Ast.itemsToks items, TokOkA a) :
    ∀ a ∈ Ast.tDocument oe (items.map (·.2)), TokOkA a := by
  have key : ∀ (i : Ast.Item), i ∈ items → ∀ f a, a ∈ Ast.tDefinition f i.2 → TokOkA a := by
    intro i hi f a ha
    rcases tDefinition_mem_flag f i.1 i.2 a ha with h1 | rfl
    · apply h
      unfold Ast.itemsToks
      exact List.mem_flatten.mpr ⟨_, List.mem_map.mpr ⟨i, hi, rfl⟩, h1⟩
    · exact wfName_query
  intro a ha
  cases items with
  | nil => simp [Ast.tDocument] at ha
  | cons i r =>
    simp only [List.map_cons, Ast.tDocument, List.mem_append, List.mem_flatten, List.mem_map] at ha
    rcases ha with ha | ⟨l, ⟨x, hx, rfl⟩, ha⟩
    · exact key i List.mem_cons_self oe a ha
    · obtain ⟨j, hj, rfl⟩ := hx
      exact key j (List.mem_cons_of_mem _ hj) false a ha

/-- the hypotheses of C08's text theorems, from the validity of the printer's tokens -/
theorem segs_hyps_of_toks (pre : Option Ast.Str) (level : Nat) (doc : Ast.Document)
    (h : ∀ a ∈ Ast.tDocument (Ast.outputEmptyAtStart pre level) doc, TokOkA a) :
    Ast.NamesWf (Ast.docSegs pre level doc) ∧ Ast.IntsSpec (Ast.docSegs pre level doc) ∧ Ast.FloatsSpec (Ast.docSegs pre level doc) := by
  have htoks : Ast.segsToks (Ast.docSegs pre level doc) = Ast.tDocument (Ast.outputEmptyAtStart pre level) doc := by
    unfold Ast.docSegs
    rw [Ast.render_toks, Ast.toksOf_cDocument]
  have hm : ∀ t x, Ast.Seg.tok t x ∈ Ast.docSegs pre level doc → TokOkA t := by
    intro t x hx
    apply h
    rw [← htoks]
    unfold Ast.segsToks
    exact List.mem_filterMap.mpr ⟨_, hx, rfl⟩
  exact ⟨fun n x hx => hm _ x hx, fun s x hx => hm _ x hx, fun s x hx => hm _ x hx⟩

end Apollo.Parse
