import ApolloModel.Proofs.ParserType9
import ApolloModel.Proofs.LexerTokens
import ApolloModel.Proofs.LexerStrings
import ApolloModel.Model.Strings
/-
C08, pipeline: every String token the lexer model produces is decoded by `String::from(&cst::StringValue)`
(`decodeStringToken` ≠ none, i.e. none of the `unwrap`s / slices of node_ext.rs can fail on it):
 * a quoted string is in the lexer's exact language `LexStringChars` (hex escapes with four hex digits, no surrogates);
 * a block string token ends with its closing `"""`, so it has at least six characters.
-/
set_option linter.unusedSimpArgs false
set_option linter.unusedVariables false
namespace Apollo.Parse
open Apollo.Lex hiding Str
open Apollo.Strs (unescapeStringAux unescapeString hexFold hexDigit? charFromU32? escapedChar? decodeStringToken)

/-! ### quoted strings -/

theorem hexDigit_of_hex (c : Char) (h : Lex.isAsciiHexDigit c = true) : hexDigit? c = some (Lex.hexVal c) := by
  unfold hexDigit? Lex.hexVal
  simp only [Lex.isAsciiHexDigit, Lex.isAsciiDigit, Bool.or_eq_true, Bool.and_eq_true, decide_eq_true_eq] at h ⊢
  by_cases h1 : 48 ≤ c.toNat ∧ c.toNat ≤ 57
  · simp [h1]
  · by_cases h2 : 97 ≤ c.toNat ∧ c.toNat ≤ 102
    · simp [h1, h2]
    · have h3 : 65 ≤ c.toNat ∧ c.toNat ≤ 70 := by
        rcases h with (h | h) | h
        · exact absurd h h1
        · exact absurd h h2
        · exact h
      simp [h1, h2, h3]

theorem hexVal_lt (c : Char) (h : Lex.isAsciiHexDigit c = true) : Lex.hexVal c < 16 := by
  unfold Lex.hexVal
  simp only [Lex.isAsciiHexDigit, Lex.isAsciiDigit, Bool.or_eq_true, Bool.and_eq_true, decide_eq_true_eq] at h ⊢
  by_cases h1 : 48 ≤ c.toNat ∧ c.toNat ≤ 57
  · simp [h1]; omega
  · by_cases h2 : 97 ≤ c.toNat ∧ c.toNat ≤ 102
    · simp [h1, h2]; omega
    · have h3 : 65 ≤ c.toNat ∧ c.toNat ≤ 70 := by
        rcases h with (h | h) | h
        · exact absurd h h1
        · exact absurd h h2
        · exact h
      simp [h1, h2]; omega

theorem un_plain (f : Nat) (c : Char) (rest : Str) (h : c ≠ '\\') :
    unescapeStringAux (f + 1) (c :: rest) = (unescapeStringAux f rest).map (c :: ·) := by
  conv => lhs; unfold unescapeStringAux
  split <;> simp_all

theorem un_esc (f : Nat) (c : Char) (rest : Str) (h : c ≠ 'u') (hr : (unescapeStringAux f rest).isSome = true) :
    (unescapeStringAux (f + 1) ('\\' :: c :: rest)).isSome = true := by
  conv => lhs; unfold unescapeStringAux
  split
  all_goals (try simp_all)
  · next heq =>
      obtain ⟨rfl, rfl⟩ := heq
      cases he : escapedChar? c <;> simp [he, hr]
  · next x1 x2 heq1 heq2 =>
      obtain ⟨rfl, rfl⟩ := heq2
      exact absurd rfl (x2 c rest rfl)

theorem un_uni (f : Nat) (rest : Str) (v : Nat) (ch : Char) (h1 : hexFold (rest.take 4) = some v) (h2 : charFromU32? v = some ch)
    (hr : (unescapeStringAux f (rest.drop 4)).isSome = true) :
    (unescapeStringAux (f + 1) ('\\' :: 'u' :: rest)).isSome = true := by
  conv => lhs; unfold unescapeStringAux
  split
  all_goals (try simp_all)
  · next x1 heq1 heq2 => exact absurd heq2.1.symm x1
  · next x1 x2 heq1 heq2 =>
      obtain ⟨rfl, rfl⟩ := heq2
      exact absurd rfl (x2 'u' rest rfl)

theorem hexFold4 (a b c d : Char) (ha : Lex.isAsciiHexDigit a = true) (hb : Lex.isAsciiHexDigit b = true)
    (hc : Lex.isAsciiHexDigit c = true) (hd : Lex.isAsciiHexDigit d = true) :
    hexFold [a, b, c, d] = some (((Lex.hexVal a * 16 + Lex.hexVal b) * 16 + Lex.hexVal c) * 16 + Lex.hexVal d) := by
  simp [hexFold, hexDigit_of_hex, ha, hb, hc, hd]

theorem lsc_unescape : ∀ (body : Str), LexStringChars body → ∀ fuel, body.length < fuel →
    (unescapeStringAux fuel body).isSome = true := by
  intro body h
  induction h with
  | nil => intro fuel hf; cases fuel <;> simp [unescapeStringAux]
  | @plain c rest h1 h2 h3 _ ih =>
    intro fuel hf
    cases fuel with
    | zero => simp at hf
    | succ f =>
      rw [un_plain f c rest h2]
      have := ih f (by simp at hf; omega)
      simp [this]
  | @escaped c rest h1 _ ih =>
    intro fuel hf
    cases fuel with
    | zero => simp at hf
    | succ f =>
      have hcu : c ≠ 'u' := by
        rintro rfl
        revert h1; decide
      cases f with
      | zero => simp at hf
      | succ f' =>
        refine un_esc (f' + 1) c rest hcu ?_
        exact ih (f' + 1) (by simp at hf; omega)
  | @unicode a b c d rest ha hb hc hd hs _ ih =>
    intro fuel hf
    cases fuel with
    | zero => simp at hf
    | succ f =>
      rw [specHex_eq] at ha hb hc hd
      have hv := hexFold4 a b c d ha hb hc hd
      have hlt : ((Lex.hexVal a * 16 + Lex.hexVal b) * 16 + Lex.hexVal c) * 16 + Lex.hexVal d < 65536 := by
        have := hexVal_lt a ha; have := hexVal_lt b hb; have := hexVal_lt c hc; have := hexVal_lt d hd
        omega
      have hch : ∃ ch, charFromU32? (((Lex.hexVal a * 16 + Lex.hexVal b) * 16 + Lex.hexVal c) * 16 + Lex.hexVal d) = some ch := by
        unfold charFromU32?
        simp only [Lex.isSurrogate, Bool.and_eq_false_iff, decide_eq_false_iff_not] at hs
        have hns : ¬ ((55296 ≤ ((Lex.hexVal a * 16 + Lex.hexVal b) * 16 + Lex.hexVal c) * 16 + Lex.hexVal d) ∧
            (((Lex.hexVal a * 16 + Lex.hexVal b) * 16 + Lex.hexVal c) * 16 + Lex.hexVal d ≤ 57343)) := by
          rintro ⟨h1, h2⟩
          rcases hs with h | h
          · exact h h1
          · exact h h2
        simp only [Bool.and_eq_true, decide_eq_true_eq, hns, if_false]
        exact ⟨_, by rw [if_pos (by omega)]⟩
      obtain ⟨ch, hch⟩ := hch
      refine un_uni f (a :: b :: c :: d :: rest) _ ch (by simpa using hv) hch ?_
      simp only [List.drop_succ_cons, List.drop_zero]
      exact ih f (by simp at hf; omega)

theorem quoted_decodes (t : Str) (h : IsLexQuoted t) : (decodeStringToken t).isSome = true := by
  obtain ⟨body, rfl, hb⟩ := h
  unfold decodeStringToken
  -- the body does not start with two quotes (`"` is not a plain character), so this is not the block branch
  have hlen : ('"' :: (body ++ ['"'])).length = body.length + 2 := by simp
  have key : (unescapeString ((('"' :: (body ++ ['"'])).drop 1).take (('"' :: (body ++ ['"'])).length - 2))).isSome = true := by
    have : (('"' :: (body ++ ['"'])).drop 1).take (('"' :: (body ++ ['"'])).length - 2) = body := by
      simp [hlen]
    rw [this]
    exact lsc_unescape body hb _ (by omega)
  cases hb with
  | nil => simpa using key
  | @plain c rest h1 h2 h3 _ =>
    split
    · next heq =>
        simp only [List.cons_append, List.cons.injEq, true_and] at heq
        exact absurd heq.1 h1
    · rw [if_neg (by simp)]; exact key
  | @escaped c rest _ _ =>
    split
    · next heq => simp at heq
    · rw [if_neg (by simp)]; exact key
  | unicode _ _ _ _ _ _ =>
    split
    · next heq => simp at heq
    · rw [if_neg (by simp)]; exact key

/-! ### block strings end with their closing quotes -/

def minTail : State → Nat
  | .blockQuote1 => 1
  | .blockQuote2 => 2
  | _ => 0

theorem runD_block_len : ∀ (src : Str) (st : State) (k : Kind) (e : Bool) (tail : Str), isBlockState st = true →
    minTail st ≤ tail.length → ∀ k' d r, runD st k e (q3 ++ tail) src = (.tok k' d, r) → 6 ≤ d.length
  | [], st, k, e, tail, h, _, k', d, r, hr => by
    cases st <;> simp [isBlockState] at h <;> simp [runD, eofItem] at hr
  | c :: src, st, k, e, tail, h, hm, k', d, r, hr => by
    have hp := step_block st k e (q3 ++ tail) c h
    unfold runD at hr
    cases hs : step st k e (q3 ++ tail) c with
    | goto st' k'' e' =>
      simp only [hs, blockOk] at hp hr
      have hm' : minTail st' ≤ (tail ++ [c]).length := by
        simp only [List.length_append, List.length_cons, List.length_nil]
        cases st <;> simp [isBlockState] at h <;>
          (simp only [step, blockStep] at hs
           repeat' split at hs
           all_goals (cases hs)
           all_goals (simp only [minTail] at hm ⊢; omega))
      have := runD_block_len src st' k'' e' (tail ++ [c]) hp hm' k' d r (by simpa [List.append_assoc] using hr)
      exact this
    | incl o =>
      simp only [hs] at hr
      cases st <;> simp [isBlockState] at h <;>
        (simp only [step, blockStep] at hs
         repeat' split at hs
         all_goals (cases hs)
         all_goals
           (simp only [Prod.mk.injEq] at hr
            have hd := hr.1
            simp only [minTail] at hm
            cases e <;> simp [done, Out.mk] at hd
            obtain ⟨_, rfl⟩ := hd
            simp [q3]
            omega))
    | excl o => simp [hs, blockOk] at hp

theorem block_decodes (t : Str) (hq : ∃ tail, t = q3 ++ tail) (hlen : 6 ≤ t.length) : (decodeStringToken t).isSome = true := by
  obtain ⟨tail, rfl⟩ := hq
  unfold decodeStringToken
  simp only [q3, List.cons_append, List.nil_append]
  have h3 : 3 ≤ tail.length := by simp [q3] at hlen; omega
  have : ¬ ('"' :: '"' :: '"' :: tail).length < 6 := by simp; omega
  simp [this, h3]

/-! ### every String token of the lexer's output decodes -/

theorem advance_string_decodes (c0 : Char) (rest0 : Str) (d r : Str)
    (hadv : advance (c0 :: rest0) = (.tok .stringValue d, r)) : (decodeStringToken d).isSome = true := by
  have hok := advance_token_sound c0 rest0 .stringValue d r hadv
  rcases hok with hq | ⟨tail, rfl⟩
  · exact quoted_decodes d hq
  · -- a block string: the source starts with three quotes
    have hcat := advance_concat (c0 :: rest0)
    rw [hadv] at hcat
    simp only [Item.data] at hcat
    have hsrc : c0 :: rest0 = '"' :: '"' :: '"' :: (tail ++ r) := by rw [← hcat]; simp [q3]
    rw [hsrc] at hadv
    have hrun : runD .blockStringLiteral .stringValue false (q3 ++ []) (tail ++ r) = (.tok .stringValue (q3 ++ tail), r) := by
      simpa [advance, runD, step, punctuationKind, isNameStart, isAsciiDigit, q3] using hadv
    have hlen := runD_block_len (tail ++ r) .blockStringLiteral .stringValue false [] rfl (by simp [minTail]) _ _ _ hrun
    exact block_decodes _ ⟨tail, rfl⟩ hlen

theorem lexAux_stringDecodes : ∀ (fuel count : Nat) (src : Str), ∀ it ∈ lexAux fuel none count src,
    ∀ (d : Str), it = .tok .stringValue d → (decodeStringToken d).isSome = true
  | 0, _, _ => by intro it hit; simp [lexAux] at hit
  | fuel + 1, count, [] => by
    intro it hit d e
    simp [lexAux] at hit
    rw [hit] at e
    cases e
  | fuel + 1, count, c0 :: rest0 => by
    intro it hit d e
    simp only [lexAux, Bool.false_eq_true, if_false, List.mem_cons] at hit
    rcases hit with hit | hit
    · cases hadv : advance (c0 :: rest0) with
      | mk item r =>
        rw [hadv] at hit
        simp only [] at hit
        rw [e] at hit
        rw [← hit] at hadv
        exact advance_string_decodes c0 rest0 d r hadv
    · exact lexAux_stringDecodes fuel (count + 1) _ it hit d e

def StrQ (q : List Tok) : Prop := ∀ t ∈ q, t.kind = .stringValue → (decodeStringToken t.data).isSome = true

theorem strQ_srcToks (src : Str) : StrQ (srcToks src) := by
  intro t ht hk
  have hm : (t.kind, t.data) ∈ lexToks src := by
    rw [← srcToks_lex src]
    exact List.mem_map.mpr ⟨t, ht, rfl⟩
  unfold lexToks at hm
  obtain ⟨it, hit, hkd⟩ := List.mem_filterMap.mp hm
  cases it with
  | tok k d =>
    simp only [itemKD, Option.some.injEq, Prod.mk.injEq] at hkd
    have := lexAux_stringDecodes _ _ _ (.tok k d) hit d (by rw [hkd.1, hk])
    rw [← hkd.2]; exact this
  | err _ => simp [itemKD] at hkd
  | limit => simp [itemKD] at hkd

end Apollo.Parse
