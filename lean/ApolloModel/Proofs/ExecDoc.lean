import ApolloModel.Model.ExecDoc
/-
Helper lemmas for property C19: `to_ast` is a right inverse of `document_from_ast` on every document that
`document_from_ast` can produce.
-/
namespace Apollo.Exec
open Apollo.Ast

def xIsNil : XSels → Bool
  | .nil => true
  | _ => false

/-- the annotations are the ones `from_ast` computes, and nothing in the tree would be dropped by it -/
def ann (s : XSchema) : Str → XSels → Bool
  | _, .nil => true
  | p, .field _ name _ _ d ty sub rest =>
    (typeFieldX s p name == .ok d) && (ty == d.ty) && !(!xIsNil sub && leafTypeX s d.ty) && ann s ty sub && ann s p rest
  | p, .spread _ _ rest => ann s p rest
  | p, .inline tc _ ty sub rest =>
    (match tc with
     | some t => ty == t && (s.findType t).isSome
     | none => ty == p) && ann s ty sub && ann s p rest

theorem fromSels_nil_of (s : XSchema) (p : Str) (t : Sels) (h : selsIsNil t = true) : fromSels s p t = .nil := by
  cases t with
  | nil => simp [fromSels]
  | cons _ _ => simp [selsIsNil] at h

theorem fromSels_ann (s : XSchema) (p : Str) (t : Sels) : ann s p (fromSels s p t) = true := by
  fun_induction fromSels s p t with
  | case1 p => simp [ann]
  | case2 p alias name args dirs sub tl d hd hc ih => exact ih
  | case3 p alias name args dirs sub tl d hd hc ih1 ih2 =>
    simp only [ann, hd, ih1, ih2, Bool.and_true, beq_self_eq_true, Bool.true_and, Bool.not_eq_true']
    simp only [Bool.and_eq_true, Bool.not_eq_true', not_and, Bool.not_eq_true] at hc
    cases hl : leafTypeX s d.ty
    · simp
    · have hn : selsIsNil sub = true := by
        cases hs : selsIsNil sub
        · exact absurd hl (by rw [hc hs]; simp)
        · rfl
      simp [fromSels_nil_of s d.ty sub hn, xIsNil]
  | case4 p alias name args dirs sub tl hd ih => exact ih
  | case5 p alias name args dirs sub tl hd ih => exact ih
  | case6 p name dirs tl ih => simpa [ann] using ih
  | case7 p dirs sub tl t hk ih => exact ih
  | case8 p dirs sub tl t hk ih1 ih2 =>
    have hk' : (s.findType t).isSome = true := by
      cases hq : s.findType t <;> simp [hq] at hk ⊢
    simp [ann, ih1, ih2, hk']
  | case9 p dirs sub tl ih1 ih2 => simp [ann, ih1, ih2]

theorem selsIsNil_toSels (x : XSels) : selsIsNil (toSels x) = xIsNil x := by
  cases x <;> simp [toSels, selsIsNil, xIsNil]

theorem from_to (s : XSchema) (x : XSels) : ∀ p, ann s p x = true → fromSels s p (toSels x) = x := by
  induction x with
  | nil => intro p _; simp [toSels, fromSels]
  | field alias name args dirs d ty sub rest ihs ihr =>
    intro p h
    simp only [ann, Bool.and_eq_true, beq_iff_eq, Bool.not_eq_true'] at h
    obtain ⟨⟨⟨⟨h1, h2⟩, h3⟩, h4⟩, h5⟩ := h
    subst h2
    simp only [toSels, fromSels, h1, selsIsNil_toSels, h3, Bool.false_eq_true, ↓reduceIte]
    rw [ihs d.ty h4, ihr p h5]
  | spread name dirs rest ihr =>
    intro p h
    simp only [ann] at h
    simp only [toSels, fromSels]
    rw [ihr p h]
  | inline tc dirs ty sub rest ihs ihr =>
    intro p h
    simp only [ann, Bool.and_eq_true] at h
    obtain ⟨⟨h1, h2⟩, h3⟩ := h
    cases tc with
    | none =>
      simp only [beq_iff_eq] at h1
      subst h1
      simp only [toSels, fromSels]
      rw [ihs ty h2, ihr ty h3]
    | some t =>
      simp only [Bool.and_eq_true, beq_iff_eq] at h1
      obtain ⟨h1a, h1b⟩ := h1
      subst h1a
      have hn : (s.findType ty).isNone = false := by
        cases hq : s.findType ty <;> simp [hq] at h1b ⊢
      simp only [toSels, fromSels, hn, Bool.false_eq_true, ↓reduceIte]
      rw [ihs ty h2, ihr p h3]

/-! ### documents -/

/-- what `document_from_ast` guarantees about the document it returns -/
structure DocInv (s : XSchema) (d : XDoc) : Prop where
  anon : ∀ o, d.anon = some o → o.name = none ∧ s.root o.opType = some o.ty ∧ ann s o.ty o.sels = true
  named : ∀ o, o ∈ d.named → o.name.isSome = true ∧ s.root o.opType = some o.ty ∧ ann s o.ty o.sels = true
  namedDistinct : d.named.Pairwise (fun a b => a.name ≠ b.name)
  frags : ∀ f, f ∈ d.frags → (s.findType f.ty).isSome = true ∧ ann s f.ty f.sels = true
  fragsDistinct : d.frags.Pairwise (fun a b => a.name ≠ b.name)
  trivial : True

theorem pairwise_append_singleton {α : Type} (R : α → α → Prop) (l : List α) (a : α)
    (h : l.Pairwise R) (ha : ∀ x ∈ l, R x a) : (l ++ [a]).Pairwise R := by
  rw [List.pairwise_append]
  exact ⟨h, List.pairwise_singleton R a, fun x hx y hy => by simp at hy; subst hy; exact ha x hx⟩

theorem fromDef_inv (s : XSchema) (d : XDoc) (x : Definition) (h : DocInv s d) : DocInv s (fromDef s d x) := by
  cases x with
  | operation ty name vars dirs sels =>
    cases name with
    | some n =>
      simp only [fromDef]
      split
      · exact h
      · next hany =>
        cases hr : s.root ty with
        | none => exact h
        | some t =>
          simp only
          refine ⟨h.anon, ?_, ?_, h.frags, h.fragsDistinct, trivial⟩
          · intro o ho
            simp only [List.mem_append, List.mem_singleton] at ho
            rcases ho with ho | ho
            · exact h.named o ho
            · subst ho; exact ⟨rfl, hr, fromSels_ann s t sels⟩
          · apply pairwise_append_singleton _ _ _ h.namedDistinct
            intro y hy hne
            apply hany
            simp only [List.any_eq_true]
            exact ⟨y, hy, by simp [hne]⟩
    | none =>
      simp only [fromDef]
      split
      · exact h
      · split
        · exact h
        · cases hr : s.root ty with
          | none => exact h
          | some t =>
            simp only
            refine ⟨?_, h.named, h.namedDistinct, h.frags, h.fragsDistinct, trivial⟩
            intro o ho
            simp only [Option.some.injEq] at ho
            subst ho
            exact ⟨rfl, hr, fromSels_ann s t sels⟩
  | fragment name tc dirs sels =>
    simp only [fromDef]
    split
    · exact h
    · next hany =>
      split
      · exact h
      · next hk =>
        refine ⟨h.anon, h.named, h.namedDistinct, ?_, ?_, trivial⟩
        · intro f hf
          simp only [List.mem_append, List.mem_singleton] at hf
          rcases hf with hf | hf
          · exact h.frags f hf
          · subst hf
            refine ⟨?_, fromSels_ann s tc sels⟩
            cases hq : s.findType tc <;> simp [hq] at hk ⊢
        · apply pairwise_append_singleton _ _ _ h.fragsDistinct
          intro y hy hne
          apply hany
          simp only [List.any_eq_true]
          exact ⟨y, hy, by simp [hne]⟩
  | _ => all_goals exact h

theorem fromDoc_inv (s : XSchema) (ast : Document) : DocInv s (fromDoc s ast) := by
  unfold fromDoc
  suffices ∀ (l : List Definition) (d : XDoc), DocInv s d → DocInv s (l.foldl (fromDef s) d) from
    this ast {} ⟨by intro o ho; simp at ho, by intro o ho; simp at ho, List.Pairwise.nil,
      by intro f hf; simp at hf, List.Pairwise.nil, trivial⟩
  intro l
  induction l with
  | nil => intro d h; simpa using h
  | cons x l ih => intro d h; exact ih _ (fromDef_inv s d x h)

theorem foldl_named (s : XSchema) (l : List XOp) : ∀ (d : XDoc),
    (∀ o, o ∈ l → o.name.isSome = true ∧ s.root o.opType = some o.ty ∧ ann s o.ty o.sels = true) →
    l.Pairwise (fun a b => a.name ≠ b.name) → (∀ a ∈ d.named, ∀ b ∈ l, a.name ≠ b.name) →
    (l.map XOp.toAst).foldl (fromDef s) d = { d with named := d.named ++ l } := by
  induction l with
  | nil => intro d _ _ _; simp
  | cons o l ih =>
    intro d h hp hd
    obtain ⟨hn, hr, ha⟩ := h o (List.mem_cons_self ..)
    obtain ⟨n, hn'⟩ := Option.isSome_iff_exists.mp hn
    have hany : (d.named.any fun p => p.name == some n) = false := by
      rw [Bool.eq_false_iff]
      intro hc
      simp only [List.any_eq_true, beq_iff_eq] at hc
      obtain ⟨y, hy, hyn⟩ := hc
      exact hd y hy o (List.mem_cons_self ..) (by rw [hyn, hn'])
    have hstep : fromDef s d o.toAst = { d with named := d.named ++ [o] } := by
      simp only [XOp.toAst, fromDef, hn', hany, Bool.false_eq_true, ↓reduceIte, hr, from_to s o.sels o.ty ha]
      cases o; simp_all
    simp only [List.map_cons, List.foldl_cons, hstep]
    rw [ih _ (fun q hq => h q (List.mem_cons_of_mem _ hq)) (List.pairwise_cons.mp hp).2]
    · simp
    · intro a ha' b hb
      simp only [List.mem_append, List.mem_singleton] at ha'
      rcases ha' with ha' | ha'
      · exact hd a ha' b (List.mem_cons_of_mem _ hb)
      · subst ha'; exact (List.pairwise_cons.mp hp).1 b hb

theorem foldl_frags (s : XSchema) (l : List XFrag) : ∀ (d : XDoc),
    (∀ f, f ∈ l → (s.findType f.ty).isSome = true ∧ ann s f.ty f.sels = true) →
    l.Pairwise (fun a b => a.name ≠ b.name) → (∀ a ∈ d.frags, ∀ b ∈ l, a.name ≠ b.name) →
    (l.map XFrag.toAst).foldl (fromDef s) d = { d with frags := d.frags ++ l } := by
  induction l with
  | nil => intro d _ _ _; simp
  | cons f l ih =>
    intro d h hp hd
    obtain ⟨hk, ha⟩ := h f (List.mem_cons_self ..)
    have hany : (d.frags.any fun g => g.name == f.name) = false := by
      rw [Bool.eq_false_iff]
      intro hc
      simp only [List.any_eq_true, beq_iff_eq] at hc
      obtain ⟨y, hy, hyn⟩ := hc
      exact hd y hy f (List.mem_cons_self ..) hyn
    have hn : (s.findType f.ty).isNone = false := by
      cases hq : s.findType f.ty <;> simp [hq] at hk ⊢
    have hstep : fromDef s d f.toAst = { d with frags := d.frags ++ [f] } := by
      simp only [XFrag.toAst, fromDef, hany, hn, Bool.false_eq_true, ↓reduceIte, from_to s f.sels f.ty ha]
    simp only [List.map_cons, List.foldl_cons, hstep]
    rw [ih _ (fun q hq => h q (List.mem_cons_of_mem _ hq)) (List.pairwise_cons.mp hp).2]
    · simp
    · intro a ha' b hb
      simp only [List.mem_append, List.mem_singleton] at ha'
      rcases ha' with ha' | ha'
      · exact hd a ha' b (List.mem_cons_of_mem _ hb)
      · subst ha'; exact (List.pairwise_cons.mp hp).1 b hb

theorem fromDoc_toAst_of_inv (s : XSchema) (d : XDoc) (h : DocInv s d) : fromDoc s (toAst d) = d := by
  unfold fromDoc toAst
  rw [List.foldl_append, List.foldl_append]
  have h0 : (d.anon.toList.map XOp.toAst).foldl (fromDef s) {} = { anon := d.anon } := by
    cases ha : d.anon with
    | none => simp
    | some o =>
      obtain ⟨hn, hr, hann⟩ := h.anon o ha
      simp only [Option.toList_some, List.map_cons, List.map_nil, List.foldl_cons, List.foldl_nil,
        XOp.toAst, fromDef, hn, Option.isSome_none, Bool.false_eq_true, ↓reduceIte, List.isEmpty_nil,
        Bool.not_true, hr, from_to s o.sels o.ty hann]
      cases o; simp_all
  rw [h0, foldl_named s d.named _ h.named h.namedDistinct (by intro a ha; simp at ha),
    foldl_frags s d.frags _ h.frags h.fragsDistinct (by intro a ha; simp at ha)]
  simp

end Apollo.Exec
