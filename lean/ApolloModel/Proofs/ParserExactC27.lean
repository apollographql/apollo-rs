import ApolloModel.Proofs.ParserExactC24
import ApolloModel.Proofs.ParserComplete25
import ApolloModel.Proofs.ParserComplete27
/-
C05 (completeness of the whole Document grammar), exact budget: the guards of the type-system definitions
(`looseFit`, `looseFollow`) over `LooseDef`, the document dispatch on every `LooseDef` within the guards,
and `document()` / `Parser::parse` over ALL definitions as an instance of `ItemGuard`.
-/
set_option linter.unusedSimpArgs false
namespace Apollo.Parse.Exact
open Apollo.Rowan hiding Str
open Apollo.Lex hiding Str

/-! ### the exact guards of a type-system definition or extension -/

/-- **within the recursion budget and well formed**: directives and default values are `Const` and within the budget,
    type references within the budget, enum values are not `true` / `false` / `null`, directive locations are among
    the nineteen names, a schema has at least one root operation type (all with their named type), an extension has
    at least one component -/
def looseFit (b : Nat) : LooseDef → Prop
  | .scalar _ _ ds => dirsFit true b ds
  | .object _ _ _ ds fs => objFit b ds fs
  | .interface _ _ _ ds fs => objFit b ds fs
  | .union _ _ ds _ => dirsFit true b ds
  | .enum _ _ ds vs => dirsFit true b ds ∧ ∀ v ∈ vs, enumValFit b v
  | .input _ _ ds fs => dirsFit true b ds ∧ ∀ v ∈ fs, ivdFit b v
  | .directive _ _ args _ _ first rest => (∀ a ∈ args, ivdFit b a) ∧ IsDirLoc first ∧ ∀ r ∈ rest, IsDirLoc r
  | .schema _ ds roots => dirsFit true b ds ∧ roots ≠ [] ∧ ∀ r ∈ roots, r.2 ≠ none
  | .scalarExt _ ds => ds ≠ [] ∧ dirsFit true b ds
  | .objectExt _ impl ds fs => (impl ≠ none ∨ ds ≠ [] ∨ fs ≠ []) ∧ objFit b ds fs
  | .interfaceExt _ impl ds fs => (impl ≠ none ∨ ds ≠ [] ∨ fs ≠ []) ∧ objFit b ds fs
  | .unionExt _ ds ms => (ds ≠ [] ∨ ms ≠ none) ∧ dirsFit true b ds
  | .enumExt _ ds vs => (ds ≠ [] ∨ vs ≠ []) ∧ dirsFit true b ds ∧ ∀ v ∈ vs, enumValFit b v
  | .inputExt _ ds fs => (ds ≠ [] ∨ fs ≠ []) ∧ dirsFit true b ds ∧ ∀ v ∈ fs, ivdFit b v
  | .schemaExt ds roots => (ds ≠ [] ∨ roots ≠ []) ∧ dirsFit true b ds ∧ ∀ r ∈ roots, r.2 ≠ none

/-- **what may follow**: the token after the definition must not continue it -/
def looseFollow : LooseDef → Tok → Prop
  | .scalar .., t => t.kind ≠ .at ∧ t.kind ≠ .lParen
  | .scalarExt .., t => t.kind ≠ .at ∧ t.kind ≠ .lParen
  | .object .., t => FObj t
  | .interface .., t => FObj t
  | .objectExt .., t => FObj t
  | .interfaceExt .., t => FObj t
  | .union .., t => t.kind ≠ .at ∧ t.kind ≠ .lParen ∧ t.kind ≠ .eq ∧ t.kind ≠ .pipe
  | .unionExt .., t => t.kind ≠ .at ∧ t.kind ≠ .lParen ∧ t.kind ≠ .eq ∧ t.kind ≠ .pipe
  | .enum .., t => Fbody t.kind
  | .input .., t => Fbody t.kind
  | .enumExt .., t => Fbody t.kind
  | .inputExt .., t => Fbody t.kind
  | .schemaExt .., t => Fbody t.kind
  | .directive .., t => t.kind ≠ .pipe
  | .schema .., _ => True

/-! ### the dispatch reaches `select_definition` with the keyword -/

/-- the parser that `select_definition` / `extensions` picks for a type-system definition or extension -/
def looseParser (n : Nat) : LooseDef → PI Unit
  | .scalar .. => scalarTypeDefinition n
  | .object .. => objectTypeDefinition n
  | .interface .. => interfaceTypeDefinition n
  | .union .. => unionTypeDefinition n
  | .enum .. => enumTypeDefinition n
  | .input .. => inputObjectTypeDefinition n
  | .directive .. => directiveDefinition n
  | .schema .. => schemaDefinition n
  | .scalarExt .. => scalarTypeExtension n
  | .objectExt .. => objectTypeExtension n
  | .interfaceExt .. => interfaceTypeExtension n
  | .unionExt .. => unionTypeExtension n
  | .enumExt .. => enumTypeExtension n
  | .inputExt .. => inputObjectTypeExtension n
  | .schemaExt .. => schemaExtension n

/-- the document dispatch hands `l` to `looseParser n l`: any judgement for that parser whose language holds `l.toks`
    and whose follow set holds the next token applies -/
theorem loose_dispatch_via (n : Nat) (sP s2 : PState) (t : Tok) (tl1 : List Tok) (l : LooseDef) (q1 : Tok) (r1 : List Tok)
    (w : TW sP) (lq : LexQ (Toks sP)) (hcur : sP.current = some t) (hs : Spells (t :: tl1) l.toks)
    (ht : Toks sP = (t :: tl1) ++ q1 :: r1) (hq : Sigf q1) (h : (documentDispatch n t.kind).run sP = .ok () s2)
    {L : Nat → List Ast.Tok → Prop} {F : Tok → Prop} (hc : CmpT (fun _ => True) (looseParser n l) L F (fun _ => True))
    (hL : L (sP.recLimit - sP.recCur) l.toks) (hF : F q1) : Eat sP s2 (t :: tl1) ∧ Toks s2 = q1 :: r1 := by
  have viaDef := fun desc word x' m hx hsel hc =>
    dispatch_viaDef n sP s2 t tl1 l.toks q1 r1 w lq hcur hs ht hq h desc word x' m L F hx hsel hc hL hF
  have viaExt := fun word x' m hx hsel hc =>
    dispatch_viaExt n sP s2 t tl1 l.toks q1 r1 w lq hcur hs ht hq h word x' m L F hx hsel hc hL hF
  have toks_def : ∀ {desc : Option Ast.Str} {word : String} {x x' : List Ast.Tok},
      Ast.tDescription desc ++ kwPart word true ++ x' = x → x = Ast.tDescription desc ++ .name word.toList :: x' := by
    intro desc word x x' e
    rw [← e, kwPart_true, List.append_assoc]; rfl
  cases l with
  | scalar desc nm ds => exact viaDef desc "scalar" (.name nm :: Ast.tDirectives ds) _ (toks_def (by simp [LooseDef.toks, scalarToks])) (selectDefinition_scalar n) hc
  | object desc nm impl ds fs => exact viaDef desc "type" (objectLikeToks nm impl ds fs) _ (toks_def rfl) (selectDefinition_type n) hc
  | interface desc nm impl ds fs => exact viaDef desc "interface" (objectLikeToks nm impl ds fs) _ (toks_def rfl) (selectDefinition_interface n) hc
  | union desc nm ds ms =>
    exact viaDef desc "union" (.name nm :: Ast.tDirectives ds ++ tSepOpt [.p .eq] .pipe ms) _ (toks_def (by simp [LooseDef.toks, unionToks]))
      (selectDefinition_union n) hc
  | enum desc nm ds vs => exact viaDef desc "enum" (Ast.tEnumBody nm ds vs) _ (toks_def (by simp [LooseDef.toks, enumToks])) (selectDefinition_enum n) hc
  | input desc nm ds fs => exact viaDef desc "input" (Ast.tInputBody nm ds fs) _ (toks_def (by simp [LooseDef.toks, inputToks])) (selectDefinition_input n) hc
  | directive desc nm args rep lead first rest =>
    exact viaDef desc "directive" (.p .at :: .name nm :: Ast.tArgsDef args ++ kwPart "repeatable" rep ++ .name Ast.sOn :: tSepLead .pipe lead first rest) _
      (toks_def (by simp [LooseDef.toks, directiveToks])) (selectDefinition_directive n) hc
  | schema desc ds roots =>
    exact viaDef desc "schema" (Ast.tDirectives ds ++ .p .lCurly :: tRootOpItemsF roots ++ [.p .rCurly]) _
      (toks_def (by simp [LooseDef.toks, schemaToks])) (selectDefinition_schema n) hc
  | scalarExt nm ds => exact viaExt "scalar" (.name nm :: Ast.tDirectives ds) _ rfl (extSel_scalar n) hc
  | objectExt nm impl ds fs => exact viaExt "type" (objectLikeToks nm impl ds fs) _ rfl (extSel_type n) hc
  | interfaceExt nm impl ds fs => exact viaExt "interface" (objectLikeToks nm impl ds fs) _ rfl (extSel_interface n) hc
  | unionExt nm ds ms => exact viaExt "union" (.name nm :: Ast.tDirectives ds ++ tSepOpt [.p .eq] .pipe ms) _ rfl (extSel_union n) hc
  | enumExt nm ds vs => exact viaExt "enum" (Ast.tEnumBody nm ds vs) _ rfl (extSel_enum n) hc
  | inputExt nm ds fs => exact viaExt "input" (Ast.tInputBody nm ds fs) _ rfl (extSel_input n) hc
  | schemaExt ds roots =>
    exact viaExt "schema" (Ast.tDirectives ds ++ Ast.tBraced (tRootOpItemsF roots) roots.isEmpty) _
      (by simp only [LooseDef.toks, List.append_assoc]) (extSel_schema n) hc

theorem strict_roots_map {roots : List (Ast.OpType × Option Ast.Str)} (h : ∀ r ∈ roots, r.2 ≠ none) :
    ∃ roots' : List (Ast.OpType × Ast.Str), roots = roots'.map (fun r => (r.1, some r.2)) ∧ (roots ≠ [] → roots' ≠ []) := by
  obtain ⟨roots', rfl⟩ := strict_roots roots h
  exact ⟨roots', rfl, fun hne h0 => hne (by rw [h0]; rfl)⟩

theorem loose_dispatch_comp (n : Nat) (sP s2 : PState) (t : Tok) (tl1 : List Tok) (l : LooseDef) (q1 : Tok) (r1 : List Tok)
    (w : TW sP) (lq : LexQ (Toks sP)) (hcur : sP.current = some t) (hfit : looseFit (sP.recLimit - sP.recCur) l)
    (hfol : looseFollow l q1) (hs : Spells (t :: tl1) l.toks) (ht : Toks sP = (t :: tl1) ++ q1 :: r1) (hq : Sigf q1)
    (h : (documentDispatch n t.kind).run sP = .ok () s2) : Eat sP s2 (t :: tl1) ∧ Toks s2 = q1 :: r1 := by
  have via := @loose_dispatch_via n sP s2 t tl1 l q1 r1 w lq hcur hs ht hq h
  cases l with
  | scalar desc nm ds => exact via (cmpT_scalarTypeDefinition n) ⟨desc, nm, ds, rfl, hfit⟩ hfol
  | object desc nm impl ds fs => exact via (cmpT_objectTypeDefinition n) ⟨desc, nm, impl, ds, fs, rfl, hfit⟩ hfol
  | interface desc nm impl ds fs => exact via (cmpT_interfaceTypeDefinition n) ⟨desc, nm, impl, ds, fs, rfl, hfit⟩ hfol
  | union desc nm ds ms => exact via (cmpT_unionTypeDefinition n) ⟨desc, nm, ds, ms, rfl, hfit⟩ hfol
  | enum desc nm ds vs => exact via (cmpT_enumTypeDefinition n) ⟨desc, nm, ds, vs, rfl, hfit.1, hfit.2⟩ hfol
  | input desc nm ds fs => exact via (cmpT_inputObjectTypeDefinition n) ⟨desc, nm, ds, fs, rfl, hfit.1, hfit.2⟩ hfol
  | directive desc nm args rep lead first rest =>
    exact via (cmp_directiveDefinition n).toT ⟨desc, nm, args, rep, lead, first, rest, rfl, hfit.1, hfit.2.1, hfit.2.2⟩ hfol
  | schema desc ds roots =>
    obtain ⟨hd, hne, hstrict⟩ := hfit
    obtain ⟨roots', rfl, hne'⟩ := strict_roots_map hstrict
    exact via (cmp_schemaDefinition n).toT ⟨desc, ds, roots', hne' hne, rfl, hd⟩ trivial
  | scalarExt nm ds => exact via (cmpT_scalarTypeExtension n) ⟨nm, ds, hfit.1, rfl, hfit.2⟩ hfol
  | objectExt nm impl ds fs => exact via (cmpT_objectTypeExtension n) ⟨nm, impl, ds, fs, hfit.1, rfl, hfit.2⟩ hfol
  | interfaceExt nm impl ds fs => exact via (cmpT_interfaceTypeExtension n) ⟨nm, impl, ds, fs, hfit.1, rfl, hfit.2⟩ hfol
  | unionExt nm ds ms => exact via (cmpT_unionTypeExtension n) ⟨nm, ds, ms, hfit.1, rfl, hfit.2⟩ hfol
  | enumExt nm ds vs => exact via (cmpT_enumTypeExtension n) ⟨nm, ds, vs, hfit.1, rfl, hfit.2.1, hfit.2.2⟩ hfol
  | inputExt nm ds fs => exact via (cmpT_inputObjectTypeExtension n) ⟨nm, ds, fs, hfit.1, rfl, hfit.2.1, hfit.2.2⟩ hfol
  | schemaExt ds roots =>
    obtain ⟨hne, hd, hstrict⟩ := hfit
    obtain ⟨roots', rfl, hne'⟩ := strict_roots_map hstrict
    exact via (cmpT_schemaExtension n) ⟨ds, roots', hne.imp_right hne', by cases roots' <;> rfl, hd⟩ hfol

/-- guards `fit`, `fol` of the type-system definitions under which the dispatch is complete make a guard of all
    definitions -/
theorem looseItemGuard {fit : Nat → LooseDef → Prop} {fol : LooseDef → Tok → Prop}
    (hd : ∀ (n : Nat) (sP s2 : PState) (t : Tok) (tl1 : List Tok) (l : LooseDef) (q1 : Tok) (r1 : List Tok), TW sP → LexQ (Toks sP) →
      sP.current = some t → fit (sP.recLimit - sP.recCur) l → fol l q1 → Spells (t :: tl1) l.toks → Toks sP = (t :: tl1) ++ q1 :: r1 →
      Sigf q1 → (documentDispatch n t.kind).run sP = .ok () s2 → Eat sP s2 (t :: tl1) ∧ Toks s2 = q1 :: r1) :
    ItemGuard LexQ (fun b x q => LExecDef b x ∨ ∃ l : LooseDef, x = l.toks ∧ fit b l ∧ fol l q) where
  init := lexQ_srcToks
  suffix := LexQ.suffix
  head := by
    rintro b x q (h | ⟨l, rfl, _⟩)
    · obtain ⟨a, x', e, hk⟩ := lexecDef_head h
      exact ⟨a, x', e, hk.elim Or.inl (fun h => Or.inr (Or.inl h))⟩
    · obtain ⟨a, x', e, hk⟩ := looseDef_head l
      exact ⟨a, x', e, hk.elim Or.inl (fun h => Or.inr (Or.inr h))⟩
  dispatch := by
    rintro n sP s2 t tl1 x q1 r1 w lq hcur hcq (hl | ⟨l, rfl, hfit, hfol⟩) hs ht hq h
    · exact dispatch_comp n sP s2 t tl1 x q1 r1 w hcur hcq hl hs ht hq h
    · exact hd n sP s2 t tl1 l q1 r1 w lq hcur hfit hfol hs ht hq h

/-- one definition within the budget `b`, when followed by the token `q` -/
def ItemOk (b : Nat) (x : List Ast.Tok) (q : Tok) : Prop :=
  LExecDef b x ∨ ∃ l : LooseDef, x = l.toks ∧ looseFit b l ∧ looseFollow l q

theorem itemGuard : ItemGuard LexQ ItemOk := looseItemGuard loose_dispatch_comp

theorem itemOk_head {b : Nat} {x : List Ast.Tok} {q : Tok} (h : ItemOk b x q) :
    ∃ a x', x = a :: x' ∧ (kindOfA a = .name ∨ kindOfA a = .lCurly ∨ kindOfA a = .stringValue) :=
  itemGuard.head h

theorem item_dispatch_comp (n : Nat) (sP s2 : PState) (t : Tok) (tl1 : List Tok) (x : List Ast.Tok) (q1 : Tok) (r1 : List Tok)
    (w : TW sP) (lq : LexQ (Toks sP)) (hcur : sP.current = some t) (hcq : t.kind = .lCurly → t.data = ['{'])
    (hl : ItemOk (sP.recLimit - sP.recCur) x q1) (hs : Spells (t :: tl1) x) (ht : Toks sP = (t :: tl1) ++ q1 :: r1) (hq : Sigf q1)
    (h : (documentDispatch n t.kind).run sP = .ok () s2) : Eat sP s2 (t :: tl1) ∧ Toks s2 = q1 :: r1 :=
  itemGuard.dispatch n sP s2 t tl1 x q1 r1 w lq hcur hcq hl hs ht hq h

def FollowTokOf (f : Option Ast.Tok) (q : Tok) : Prop :=
  match f with
  | none => q.kind = .eof
  | some a => astOfV q = some a

/-- a list of definitions, each allowed before the first token of what follows it -/
def DocOk (b : Nat) : List (List Ast.Tok) → Prop
  | [] => True
  | x :: r => (∀ q, FollowTokOf r.flatten.head? q → ItemOk b x q) ∧ DocOk b r

theorem docOk_iff {b : Nat} : ∀ {items : List (List Ast.Tok)}, DocOk b items ↔ DocOkFor ItemOk b items
  | [] => Iff.rfl
  | _ :: _ => and_congr Iff.rfl docOk_iff

theorem docOk_first {b : Nat} {item : List Ast.Tok} {r : List (List Ast.Tok)} (h : DocOk b (item :: r)) (c : List Tok) (e : Tok)
    (hs : Spells c (item :: r).flatten) (he : e.kind = .eof) :
    ∃ t tl1, c = t :: tl1 ∧ Sigf t ∧ (t.kind = .name ∨ t.kind = .lCurly ∨ t.kind = .stringValue) :=
  itemGuard.first (docOk_iff.mp h) c e hs he

theorem document_compG (n : Nat) (items : List (List Ast.Tok)) (s s' : PState) (i0 c : List Tok) (e : Tok) (rest : List Tok)
    (w : TW s) (lq : LexQ (Toks s)) (hcq : CurlyQ (Toks s)) (hne : items ≠ []) (hall : DocOk (s.recLimit - s.recCur) items)
    (hi0 : Ign i0) (hs : Spells c items.flatten) (ht : Toks s = i0 ++ (c ++ e :: rest)) (he : e.kind = .eof)
    (h : (document n).run s = .ok () s') : Eat s s' (i0 ++ c) ∧ Toks s' = e :: rest :=
  itemGuard.document_comp n items s s' i0 c e rest w lq hcq hne (docOk_iff.mp hall) hi0 hs ht he h

/-- a document within the recursion limit: one or more definitions of the grammar (with the liberties of the code:
    leading separators), each allowed before what follows it -/
def IsDocFit (rl : Nat) (x : List Ast.Tok) : Prop :=
  ∃ items : List (List Ast.Tok), items ≠ [] ∧ x = items.flatten ∧ DocOk rl items

theorem isDocFit_ne {rl : Nat} {x : List Ast.Tok} (h : IsDocFit rl x) : x ≠ [] := by
  obtain ⟨items, hne, rfl, hall⟩ := h
  exact itemGuard.flatten_ne hne (docOk_iff.mp hall)

/-- **acceptance is complete** for `Parser::parse` on documents within the guard, in terms of the significant tokens of the
    source -/
theorem parseDocument_completeG_sig (rl : Nat) (src : Str) (x : List Ast.Tok) (ts : List Tok) (e : Tok)
    (hclean : LexClean src) (hsig : sig (srcToks src) = ts ++ [e]) (he : e.kind = .eof)
    (hx : TokIs ts x) (hfit : IsDocFit rl x) : (parse .document none rl src).errors = [] := by
  obtain ⟨items, hne, rfl, hall⟩ := hfit
  exact itemGuard.parse_complete_sig rl src items ts e hclean hsig he hx hne (docOk_iff.mp hall)

end Apollo.Parse.Exact
