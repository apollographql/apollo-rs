import ApolloModel.Proofs.ParserRecursion34
/-
C04, both limits: the two-run judgement `Sim cx` is a compositional predicate with a rule for the
recursion guard (the limit branch is simulated like any other program), so it holds of every grammar function and
of the three entry points.  Hence a token limit that the source does not exceed does not change the parse — the
whole result (tree, errors, high-water marks, leftover), every entry point, every recursion limit.
-/
set_option linter.unusedSimpArgs false
set_option linter.unusedVariables false
namespace Apollo.Parse
open Apollo.Rowan hiding Str
open Apollo.Lex hiding Str

section
variable {cx : LimCtx}

theorem smCalc : GuardCalc (@Sim cx) where
  pure := sm_pure
  bind := sm_bind
  outOfFuel := sm_outOfFuel
  stuck := sm_stuck
  peekToken := sm_peekToken
  peekTokenN := sm_peekTokenN
  srcLen := sm_srcLen
  getCurrent := sm_getCurrent
  moveCurToPending := sm_moveCurToPending
  pushIgnored := sm_pushIgnored
  moveCurToTree := sm_moveCurToTree
  assertRecZero := sm_assertRecZero
  errAtToken := fun t => sm_pushErr _
  withNodeAny := sm_withNode
  guard := fun a body hb => sm_withRec _ body (sm_bind _ _ sm_limitErr fun _ => sm_pure a) hb
  guardUnit := fun body hb => sm_withRec _ body sm_limitErr hb
  wrapIf := sm_wrapIf
  popDrop := sm_popDrop

structure SSel (cx : LimCtx) (n : Nat) : Prop where
  selSet : Sim cx (selectionSet n)
  sel : Sim cx (selection n)
  field : Sim cx (field n)
  inline : Sim cx (inlineFragment n)

theorem sSel (n : Nat) : SSel cx n :=
  ⟨(smCalc.selections n).1, (smCalc.selections n).2.1, (smCalc.selections n).2.2.1, (smCalc.selections n).2.2.2⟩

theorem sm_entry (e : Entry) (n : Nat) : Sim cx (e.grammar n) := smCalc.entry e n

end

theorem entryStartT_unl (e : Entry) (src : Str) (n r : Nat) :
    (entryStartT e src (some n) r).unl = entryStartT e src none r := by cases e <;> rfl

/-- **a token limit that the source does not exceed is irrelevant**: with at most `n` items in the source (tokens of
    every kind, lexer errors, EOF), the parse with token limit `n` IS the parse without token limit -/
theorem parse_limit_irrelevant (e : Entry) (n r : Nat) (src : Str) (h : (lex none src).length ≤ n) :
    parse e (some n) r src = parse e none r src := by
  obtain ⟨s, hr, _⟩ := parse_run e (some n) r src
  obtain ⟨_, hu⟩ := (sm_entry (cx := ⟨n, lex none src, h⟩) e (fuelFor src)).k _ () s (ti_start e src n r).li hr
  rw [entryStartT_unl] at hu
  cases e with
  | document =>
    unfold parse runEntry
    simp only [Entry.standalone]
    have e1 : initState src (some n) r = entryStartT .document src (some n) r := rfl
    have e2 : initState src none r = entryStartT .document src none r := rfl
    rw [e1, e2, hr, hu]
    rfl
  | selectionSet =>
    unfold parse runEntry
    simp only [Entry.standalone]
    have e1 : ({ initState src (some n) r with builder := (initState src (some n) r).builder.startNode "SELECTION_SET" } : PState) =
        entryStartT .selectionSet src (some n) r := rfl
    have e2 : ({ initState src none r with builder := (initState src none r).builder.startNode "SELECTION_SET" } : PState) =
        entryStartT .selectionSet src none r := rfl
    rw [e1, e2, hr, hu]
    rfl
  | type =>
    unfold parse runEntry
    simp only [Entry.standalone]
    have e1 : ({ initState src (some n) r with builder := (initState src (some n) r).builder.startNode "NAMED_TYPE" } : PState) =
        entryStartT .type src (some n) r := rfl
    have e2 : ({ initState src none r with builder := (initState src none r).builder.startNode "NAMED_TYPE" } : PState) =
        entryStartT .type src none r := rfl
    rw [e1, e2, hr, hu]
    rfl

end Apollo.Parse
