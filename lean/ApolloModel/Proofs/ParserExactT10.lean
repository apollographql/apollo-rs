import ApolloModel.Proofs.ParserExactT9
/-
C05, exact soundness for the type-system family: the `scalar`, `enum`, `input` extensions in the `DefSound` shape of
ParserExactS14 (the fields `DefExact.scalarExt`, `.enumExt`, `.inputExt`).
-/
set_option linter.unusedSimpArgs false
namespace Apollo.Parse.Exact
open Apollo.Rowan hiding Str
open Apollo.Lex hiding Str

theorem good_nameOrErr : Good nameOrErr := (acc_nameOrErr (E := fun _ => False) (H := fun _ => True)).1

theorem good_scalarExtTail (n : Nat) : Good (scalarExtTail n) :=
  good_bind _ _ good_nameOrErr (fun _ => good_bind _ _ good_peek (fun _ => good_ite _ _ _ (good_directives n true) good_err))

theorem scalarExtTail_sound (n : Nat) (s s' : PState) (w : TW s) (he : EofEnd s)
    (h : (scalarExtTail n).run s = .ok () s') (hnd : ¬ Doomed s') :
    Cons s s' (fun x => ∃ nm ds, x = .name nm :: Ast.tDirectives ds ∧ ds ≠ [] ∧ dirsFit true (bud s) ds) := by
  unfold scalarExtTail at h
  obtain ⟨_, s1, h1, h2⟩ := bind_dec nameOrErr _ s s' () h
  have a1 := good_nameOrErr s () s1 w h1
  have g2 : Good (peek >>= fun k => if k == some Kind.at then directives n true else err) :=
    good_bind _ _ good_peek (fun _ => good_ite _ _ _ (good_directives n true) good_err)
  have hnd1 : ¬ Doomed s1 := fun d => hnd ((g2 s1 () s' a1.w h2).doom d)
  have c1 := cons_of_acc (acc_nameOrErr (E := fun _ => False) (H := fun _ => True)) s s1 () w he trivial h1 hnd1
  obtain ⟨sP, o, p, hor⟩ := ifPeek_dec .at _ _ s1 s' () a1.w h2
  have heP := p.eofEnd c1.eofEnd
  rcases hor with ⟨hkc, h5⟩ | ⟨_, h5⟩
  · obtain ⟨tc, rfl, hkc2⟩ := peeked_kind hkc
    have c2 := directives_at_sound n sP s' tc _ p.w heP p.head_cons hkc2 h5 hnd
    refine (c1.seq (c2.transport p.toks.symm rfl c2.eofEnd)).weaken ?_
    rintro z ⟨x, y, rfl, ⟨nm, rfl⟩, ds, rfl, hne, hds⟩
    rw [bud_peek p, bud_adv a1] at hds
    exact ⟨nm, ds, rfl, hne, hds⟩
  · exfalso
    exact hnd (err_dooms sP s' p.w heP h5)

theorem scalarExt_sound (n : Nat) : DefSound (EStart "scalar".toList) (scalarTypeExtension n) := by
  intro s s' w he hq hr hnd
  rw [scalarTypeExtension_eq] at hr
  have c := ext2_sound "SCALAR_TYPE_EXTENSION" "scalar" kwWord_scalar "extend_KW" "scalar_KW" (scalarExtTail n)
    (fun b _ x => ∃ nm ds, x = .name nm :: Ast.tDirectives ds ∧ ds ≠ [] ∧ dirsFit true b ds) (good_scalarExtTail n)
    (fun q q' wq heq hrq hndq => scalarExtTail_sound n q q' wq heq hrq hndq) s s' w he hq.1 hq.2 hr hnd
  obtain ⟨cs, x, a, b, e, d, x2, rfl, nm, ds, rfl, hne, hds⟩ := c
  exact ⟨cs, .loose (.scalarExt nm ds), a, b, e, by simpa [DocItem.toks, LooseDef.toks, kwE] using d, ⟨hne, hds⟩,
    fun q _ ho => ho.elim⟩

theorem good_nameDirsBodyExt (n : Nat) (body : PI Unit) (gb : Good body) : Good (nameDirsBodyExt n .lCurly body) :=
  good_bind _ _ good_nameOrErr (fun _ => good_extDirs n _ (good_extBodyK body gb) false)

theorem sp_nameDirsBodyExt (n : Nat) (body : PI Unit) (gb : Good body) (hb : SP body) : SP (nameDirsBodyExt n .lCurly body) :=
  sp_bind good_nameOrErr (fun _ => good_extDirs n _ (good_extBodyK body gb) false) se_nameOrErr.sp
    (fun _ => sp_extDirs n _ (good_extBodyK body gb) (sp_extBodyK body gb hb) false)

/-- `Name Directives[Const]? Body?` of an extension: not both absent -/
theorem nameDirsBodyExt_sound (n : Nat) (body : PI Unit) (LB : Nat → List Ast.Tok → Prop) (gb : Good body)
    (hb : ∀ s s' t rest, TW s → EofEnd s → Toks s = t :: rest → t.kind = .lCurly → body.run s = .ok () s' → ¬ Doomed s' → Cons s s' (LB (bud s)))
    (s s' : PState) (w : TW s) (he : EofEnd s) (h : (nameDirsBodyExt n .lCurly body).run s = .ok () s') (hnd : ¬ Doomed s') :
    Cons s s' (fun x => ∃ nm ds x2, x = .name nm :: (Ast.tDirectives ds ++ x2) ∧ dirsFit true (bud s) ds ∧
      (LB (bud s) x2 ∨ (x2 = [] ∧ ds ≠ [] ∧ ∀ t, s'.current = some t → t.kind ≠ .lCurly))) := by
  unfold nameDirsBodyExt at h
  obtain ⟨_, s1, h1, h2⟩ := bind_dec nameOrErr _ s s' () h
  have a1 := good_nameOrErr s () s1 w h1
  have hnd1 : ¬ Doomed s1 := fun d => hnd ((good_extDirs n _ (good_extBodyK body gb) false s1 () s' a1.w h2).doom d)
  have c1 := cons_of_acc (acc_nameOrErr (E := fun _ => False) (H := fun _ => True)) s s1 () w he trivial h1 hnd1
  have c2 := extDirsBody_sound n body LB gb hb false s1 s' a1.w c1.eofEnd h2 hnd
  refine (c1.seq c2).weaken ?_
  rintro z ⟨x, y, rfl, ⟨nm, rfl⟩, ds, x2, rfl, hds, hor⟩
  rw [bud_adv a1] at hds hor
  refine ⟨nm, ds, x2, rfl, hds, ?_⟩
  rcases hor with hl | ⟨rfl, hm, hc⟩
  · exact Or.inl hl
  · refine Or.inr ⟨rfl, ?_, hc⟩
    rcases hm with hm | hm
    · exact hm
    · cases hm

theorem enumExt_sound (n : Nat) : DefSound (EStart "enum".toList) (enumTypeExtension n) := by
  refine defSound_of_loose _ _ ?_
  intro s s' w he hq hs hr hnd
  rw [enumTypeExtension_eq] at hr
  have gb : Good (enumValuesDefinition n) := (acc_enumValuesDefinition n).1
  have hset := ext2_settled "ENUM_TYPE_EXTENSION" "extend_KW" "enum_KW" _ (good_nameDirsBodyExt n _ gb)
    (sp_nameDirsBodyExt n _ gb (se_enumValuesDefinition n).sp) s s' w hr hnd
  have c := ext2_sound "ENUM_TYPE_EXTENSION" "enum" kwWord_enum "extend_KW" "enum_KW" (nameDirsBodyExt n .lCurly (enumValuesDefinition n))
    (fun b cur x => ∃ nm ds x2, x = .name nm :: (Ast.tDirectives ds ++ x2) ∧ dirsFit true b ds ∧
      (LEnumVals b x2 ∨ (x2 = [] ∧ ds ≠ [] ∧ ∀ t, cur = some t → t.kind ≠ .lCurly))) (good_nameDirsBodyExt n _ gb)
    (fun q q' wq heq hrq hndq => nameDirsBodyExt_sound n _ LEnumVals gb
      (fun q1 q2 t rest w1 he1 ht hk h1 hnd1 => enumValuesDefinition_sound n q1 q2 t rest w1 he1 ht hk h1 hnd1) q q' wq heq hrq hndq)
    s s' w he hq hs hr hnd
  obtain ⟨cs, x, a, b, e, d, x1, rfl, nm, ds, x2, rfl, hds, hor⟩ := c
  rcases hor with ⟨vs, hne, rfl, hvs⟩ | ⟨rfl, hdne, hcur⟩
  · refine ⟨cs, .enumExt nm ds vs, a, b, e, ?_, ⟨Or.inr hne, hds, hvs⟩, hset, ?_⟩
    · simpa [LooseDef.toks, kwE, Ast.tEnumBody, List.append_assoc] using d
    · intro ho; exact absurd ho hne
  · refine ⟨cs, .enumExt nm ds [], a, b, e, ?_, ⟨Or.inl hdne, hds, by intro v hv; cases hv⟩, hset, fun _ => hcur⟩
    simpa [LooseDef.toks, kwE, Ast.tEnumBody, Ast.tBraced, List.append_assoc] using d

theorem inputExt_sound (n : Nat) : DefSound (EStart "input".toList) (inputObjectTypeExtension n) := by
  refine defSound_of_loose _ _ ?_
  intro s s' w he hq hs hr hnd
  rw [inputObjectTypeExtension_eq] at hr
  have gb : Good (inputFieldsDefinition n) := (acc_inputFieldsDefinition n).1
  have hset := ext2_settled "INPUT_OBJECT_TYPE_EXTENSION" "extend_KW" "input_KW" _ (good_nameDirsBodyExt n _ gb)
    (sp_nameDirsBodyExt n _ gb (se_inputFieldsDefinition n).sp) s s' w hr hnd
  have c := ext2_sound "INPUT_OBJECT_TYPE_EXTENSION" "input" kwWord_input "extend_KW" "input_KW" (nameDirsBodyExt n .lCurly (inputFieldsDefinition n))
    (fun b cur x => ∃ nm ds x2, x = .name nm :: (Ast.tDirectives ds ++ x2) ∧ dirsFit true b ds ∧
      (LInputFields b x2 ∨ (x2 = [] ∧ ds ≠ [] ∧ ∀ t, cur = some t → t.kind ≠ .lCurly))) (good_nameDirsBodyExt n _ gb)
    (fun q q' wq heq hrq hndq => nameDirsBodyExt_sound n _ LInputFields gb
      (fun q1 q2 t rest w1 he1 ht hk h1 hnd1 => inputFieldsDefinition_sound n q1 q2 t rest w1 he1 ht hk h1 hnd1) q q' wq heq hrq hndq)
    s s' w he hq hs hr hnd
  obtain ⟨cs, x, a, b, e, d, x1, rfl, nm, ds, x2, rfl, hds, hor⟩ := c
  rcases hor with ⟨vs, hne, rfl, hvs⟩ | ⟨rfl, hdne, hcur⟩
  · refine ⟨cs, .inputExt nm ds vs, a, b, e, ?_, ⟨Or.inr hne, hds, hvs⟩, hset, ?_⟩
    · simpa [LooseDef.toks, kwE, Ast.tInputBody, List.append_assoc] using d
    · intro ho; exact absurd ho hne
  · refine ⟨cs, .inputExt nm ds [], a, b, e, ?_, ⟨Or.inl hdne, hds, by intro v hv; cases hv⟩, hset, fun _ => hcur⟩
    simpa [LooseDef.toks, kwE, Ast.tInputBody, Ast.tBraced, List.append_assoc] using d

end Apollo.Parse.Exact
