import ApolloModel.Proofs.ParserDef16
import ApolloModel.Proofs.ParserSel2
/-
C05, type-system definitions: what the grammar accepts beyond the printer (`LooseDef`, with its tokens `toks`), and
`LooseDef.strict`, which picks out the definitions the printer produces (`LooseDef.toks_strict`).
-/
set_option linter.unusedSimpArgs false
namespace Apollo.Parse
open Apollo.Rowan hiding Str
open Apollo.Lex hiding Str

abbrev SepC := Option (Bool × Str × List Str)

def sepLead : SepC → Bool
  | none => false
  | some (lead, _, _) => lead

theorem tSepOpt_noLead (intro : List Ast.Tok) (sep : Ast.P) (i : SepC) (h : sepLead i = false) :
    tSepOpt intro sep i = Ast.tSepList intro sep (sepNames i) := by
  apply tSepOpt_plain
  cases i with
  | none => trivial
  | some v => obtain ⟨lead, first, rest⟩ := v; exact h

/-- A type-system definition or extension as the grammar ACCEPTS it. It differs from `Ast.Definition` (what the
    C08 printer writes) in exactly two ways: the separated lists (`implements`, union members, directive locations)
    may start with their separator (`lead`), and — accepted by the code only — a root operation type may lack its named type
    (`Option Str`). -/
inductive LooseDef where
  | scalar (desc : Option Str) (nm : Str) (ds : List Ast.Directive)
  | object (desc : Option Str) (nm : Str) (impl : SepC) (ds : List Ast.Directive) (fs : List Ast.FieldDef)
  | interface (desc : Option Str) (nm : Str) (impl : SepC) (ds : List Ast.Directive) (fs : List Ast.FieldDef)
  | union (desc : Option Str) (nm : Str) (ds : List Ast.Directive) (ms : SepC)
  | enum (desc : Option Str) (nm : Str) (ds : List Ast.Directive) (vs : List Ast.EnumValueDef)
  | input (desc : Option Str) (nm : Str) (ds : List Ast.Directive) (fs : List Ast.InputValueDef)
  | directive (desc : Option Str) (nm : Str) (args : List Ast.InputValueDef) (rep lead : Bool) (first : Str) (rest : List Str)
  | schema (desc : Option Str) (ds : List Ast.Directive) (roots : List (Ast.OpType × Option Str))
  | scalarExt (nm : Str) (ds : List Ast.Directive)
  | objectExt (nm : Str) (impl : SepC) (ds : List Ast.Directive) (fs : List Ast.FieldDef)
  | interfaceExt (nm : Str) (impl : SepC) (ds : List Ast.Directive) (fs : List Ast.FieldDef)
  | unionExt (nm : Str) (ds : List Ast.Directive) (ms : SepC)
  | enumExt (nm : Str) (ds : List Ast.Directive) (vs : List Ast.EnumValueDef)
  | inputExt (nm : Str) (ds : List Ast.Directive) (fs : List Ast.InputValueDef)
  | schemaExt (ds : List Ast.Directive) (roots : List (Ast.OpType × Option Str))

def kwE (w : String) : List Ast.Tok := [.name "extend".toList, .name w.toList]

def LooseDef.toks : LooseDef → List Ast.Tok
  | .scalar desc nm ds => scalarToks desc true nm ds
  | .object desc nm impl ds fs => Ast.tDescription desc ++ kwPart "type" true ++ objectLikeToks nm impl ds fs
  | .interface desc nm impl ds fs => Ast.tDescription desc ++ kwPart "interface" true ++ objectLikeToks nm impl ds fs
  | .union desc nm ds ms => unionToks desc true nm ds ms
  | .enum desc nm ds vs => enumToks desc true nm ds vs
  | .input desc nm ds fs => inputToks desc true nm ds fs
  | .directive desc nm args rep lead first rest => directiveToks desc true nm args rep lead first rest
  | .schema desc ds roots => schemaToks desc true ds roots
  | .scalarExt nm ds => kwE "scalar" ++ .name nm :: Ast.tDirectives ds
  | .objectExt nm impl ds fs => kwE "type" ++ objectLikeToks nm impl ds fs
  | .interfaceExt nm impl ds fs => kwE "interface" ++ objectLikeToks nm impl ds fs
  | .unionExt nm ds ms => kwE "union" ++ .name nm :: Ast.tDirectives ds ++ tSepOpt [.p .eq] .pipe ms
  | .enumExt nm ds vs => kwE "enum" ++ Ast.tEnumBody nm ds vs
  | .inputExt nm ds fs => kwE "input" ++ Ast.tInputBody nm ds fs
  | .schemaExt ds roots => kwE "schema" ++ Ast.tDirectives ds ++ Ast.tBraced (tRootOpItemsF roots) roots.isEmpty

/-- all root operation types have their named type -/
def fullRoots : List (Ast.OpType × Option Str) → Option (List (Ast.OpType × Str))
  | [] => some []
  | (op, some nm) :: r => (fullRoots r).map ((op, nm) :: ·)
  | (_, none) :: _ => none

theorem fullRoots_toks : ∀ (rs : List (Ast.OpType × Option Str)) (rs' : List (Ast.OpType × Str)), fullRoots rs = some rs' →
    tRootOpItemsF rs = Ast.tRootOpItems rs' ∧ rs.isEmpty = rs'.isEmpty
  | [], rs', h => by simp [fullRoots] at h; subst h; exact ⟨rfl, rfl⟩
  | (op, some nm) :: r, rs', h => by
    simp only [fullRoots, Option.map_eq_some_iff] at h
    obtain ⟨r', hr', e⟩ := h
    subst e
    have ih := (fullRoots_toks r r' hr').1
    simp only [tRootOpItemsF] at ih
    refine ⟨?_, rfl⟩
    simp only [tRootOpItemsF, List.map_cons, List.flatten_cons, ih]
    rfl
  | (_, none) :: _, _, h => by simp [fullRoots] at h

/-- the definition the printer would write, when the accepted text has neither of the two deviations -/
def LooseDef.strict : LooseDef → Option Ast.Definition
  | .scalar desc nm ds => some (.scalarDef desc nm ds)
  | .object desc nm impl ds fs => if sepLead impl then none else some (.objectDef desc nm (sepNames impl) ds fs)
  | .interface desc nm impl ds fs => if sepLead impl then none else some (.interfaceDef desc nm (sepNames impl) ds fs)
  | .union desc nm ds ms => if sepLead ms then none else some (.unionDef desc nm ds (sepNames ms))
  | .enum desc nm ds vs => some (.enumDef desc nm ds vs)
  | .input desc nm ds fs => some (.inputDef desc nm ds fs)
  | .directive desc nm args rep lead first rest => if lead then none else some (.directiveDef desc nm args rep (first :: rest))
  | .schema desc ds roots => (fullRoots roots).map (.schemaDef desc ds ·)
  | .scalarExt nm ds => some (.scalarExt nm ds)
  | .objectExt nm impl ds fs => if sepLead impl then none else some (.objectExt nm (sepNames impl) ds fs)
  | .interfaceExt nm impl ds fs => if sepLead impl then none else some (.interfaceExt nm (sepNames impl) ds fs)
  | .unionExt nm ds ms => if sepLead ms then none else some (.unionExt nm ds (sepNames ms))
  | .enumExt nm ds vs => some (.enumExt nm ds vs)
  | .inputExt nm ds fs => some (.inputExt nm ds fs)
  | .schemaExt ds roots => (fullRoots roots).map (.schemaExt ds ·)

theorem kwPart_true (w : String) : kwPart w true = [.name w.toList] := rfl

theorem ite_none_some {α : Type} {c : Bool} {a b : α} (h : (if c then none else some a) = some b) : c = false ∧ a = b := by
  cases c
  · exact ⟨rfl, Option.some.inj h⟩
  · cases h

/-- without the two deviations the accepted tokens ARE the printer's tokens -/
theorem LooseDef.toks_strict (l : LooseDef) (d : Ast.Definition) (h : l.strict = some d) : l.toks = Ast.tDefinition false d := by
  cases l with
  | scalar desc nm ds | enum desc nm ds vs | input desc nm ds fs =>
    cases h
    simp only [LooseDef.toks, scalarToks, enumToks, inputToks, kwPart_true, Ast.tDefinition, List.append_assoc,
      List.cons_append, List.nil_append]
  | object desc nm impl ds fs | interface desc nm impl ds fs =>
    obtain ⟨hl, rfl⟩ := ite_none_some h
    simp only [LooseDef.toks, kwPart_true, Ast.tDefinition, objectLikeToks, Ast.tObjectTypeLike, tSepOpt_noLead _ _ _ hl,
      List.append_assoc, List.cons_append, List.nil_append]
  | union desc nm ds ms =>
    obtain ⟨hl, rfl⟩ := ite_none_some h
    simp only [LooseDef.toks, unionToks, kwPart_true, Ast.tDefinition, Ast.tUnion, tSepOpt_noLead _ _ _ hl,
      List.append_assoc, List.cons_append, List.nil_append]
  | directive desc nm args rep lead first rest =>
    obtain ⟨rfl, rfl⟩ := ite_none_some h
    cases rep <;>
    simp only [LooseDef.toks, directiveToks, kwPart_true, kwPart, Ast.tDefinition, Ast.tSepList, tSepLead, if_true, if_false,
      Bool.false_eq_true, List.append_assoc, List.cons_append, List.nil_append, List.append_nil] <;> rfl
  | schema desc ds roots =>
    simp only [LooseDef.strict, Option.map_eq_some_iff] at h
    obtain ⟨rs', hr, rfl⟩ := h
    simp only [LooseDef.toks, schemaToks, kwPart_true, Ast.tDefinition, (fullRoots_toks roots rs' hr).1,
      List.append_assoc, List.cons_append, List.nil_append]
  | scalarExt nm ds | enumExt nm ds vs | inputExt nm ds fs =>
    cases h
    rfl
  | objectExt nm impl ds fs | interfaceExt nm impl ds fs =>
    obtain ⟨hl, rfl⟩ := ite_none_some h
    simp only [LooseDef.toks, kwE, Ast.tDefinition, objectLikeToks, Ast.tObjectTypeLike, tSepOpt_noLead _ _ _ hl,
      List.append_assoc, List.cons_append, List.nil_append]
  | unionExt nm ds ms =>
    obtain ⟨hl, rfl⟩ := ite_none_some h
    simp only [LooseDef.toks, kwE, Ast.tDefinition, Ast.tUnion, tSepOpt_noLead _ _ _ hl,
      List.append_assoc, List.cons_append, List.nil_append]
  | schemaExt ds roots =>
    simp only [LooseDef.strict, Option.map_eq_some_iff] at h
    obtain ⟨rs', hr, rfl⟩ := h
    simp only [LooseDef.toks, kwE, Ast.tDefinition, (fullRoots_toks roots rs' hr).1, (fullRoots_toks roots rs' hr).2,
      List.append_assoc, List.cons_append, List.nil_append]

end Apollo.Parse
