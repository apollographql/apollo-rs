import ApolloModel.Model.Coercion
import ApolloModel.Spec.Coercion
/- Helper lemmas for C28: association lists, the two loops of the coercion model. -/
namespace Apollo
open Apollo.Coercion Apollo.Spec

namespace AList
variable {α : Type}

theorem get?_insert (m : AList α) (k k' : String) (v : α) :
    get? (insert m k v) k' = if k = k' then some v else get? m k' := by
  induction m with
  | nil => simp [insert, get?]
  | cons hd tl ih =>
    obtain ⟨a, b⟩ := hd
    simp only [insert]
    by_cases h : a = k
    · subst h
      by_cases h2 : a = k' <;> simp [get?, h2]
    · by_cases h2 : k = k'
      · subst h2
        simp [get?, h, ih]
      · simp [get?, h, ih, h2]

theorem get?_isSome_iff (m : AList α) (k : String) : (get? m k).isSome = true ↔ k ∈ m.map (·.1) := by
  induction m with
  | nil => simp [get?]
  | cons hd tl ih =>
    obtain ⟨a, b⟩ := hd
    by_cases h : a = k
    · simp [get?, h]
    · have h' : ¬ k = a := fun e => h e.symm
      simp [get?, h, h', ih]

end AList

namespace Coercion
open AList

/-- the item loop: all items coerced in order, or the error of the first item that fails -/
theorem coerceItems_spec (f : Json → Res Json) : ∀ xs,
    match coerceItems f xs with
    | .ok ys => xs.length = ys.length ∧ ∀ p, p ∈ xs.zip ys → f p.1 = .ok p.2
    | .error e => ∃ x, x ∈ xs ∧ f x = .error e
  | [] => by simp [coerceItems]
  | x :: xs => by
    have ih := coerceItems_spec f xs
    simp only [coerceItems]
    cases hx : f x with
    | error e => exact ⟨x, by simp, hx⟩
    | ok y =>
      cases hxs : coerceItems f xs with
      | error e =>
        rw [hxs] at ih
        obtain ⟨x', hm, he⟩ := ih
        exact ⟨x', by simp [hm], he⟩
      | ok ys =>
        rw [hxs] at ih
        refine ⟨by simp [ih.1], fun p hp => ?_⟩
        rcases List.mem_cons.mp (List.zip_cons_cons ▸ hp) with rfl | hp
        · exact hx
        · exact ih.2 p hp

theorem items_ok (f : Json → Res Json) : ∀ xs ys, coerceItems f xs = .ok ys →
    xs.length = ys.length ∧ ∀ p, p ∈ xs.zip ys → f p.1 = .ok p.2 := by
  intro xs ys h
  have := coerceItems_spec f xs
  rwa [h] at this

theorem items_err (f : Json → Res Json) : ∀ xs e, coerceItems f xs = .error e → ∃ x, x ∈ xs ∧ f x = .error e := by
  intro xs e h
  have := coerceItems_spec f xs
  rwa [h] at this

theorem zip_exists {α β : Type} : ∀ (xs : List α) (ys : List β) (x : α), x ∈ xs → xs.length = ys.length →
    ∃ y, (x, y) ∈ xs.zip ys := by
  intro xs
  induction xs with
  | nil => intro ys x h; simp at h
  | cons a xs ih =>
    intro ys x h hl
    cases ys with
    | nil => simp at hl
    | cons b ys =>
      simp only [List.mem_cons] at h
      rcases h with rfl | h
      · exact ⟨b, by simp⟩
      · obtain ⟨y, hy⟩ := ih ys x h (by simpa using hl)
        exact ⟨y, by simp [hy]⟩

/-- what the loop did for one definition -/
def Outcome (f : Ty → Json → Res Json) (p acc : AList Json) (d : InputDef) (o : Option Json) : Prop :=
  (∀ v, get? p d.name = some v → ∃ rv, f d.ty v = .ok rv ∧ o = some rv) ∧
  (get? p d.name = none → ∀ dv, d.default = some dv → o = some dv.toJson) ∧
  (get? p d.name = none → d.default = none → d.ty.isNonNull = false ∧ o = get? acc d.name)

theorem mem_fieldNames {d : InputDef} {defs : List InputDef} (h : d ∈ defs) : d.name ∈ fieldNames defs := by
  simp only [fieldNames, List.mem_map]
  exact ⟨d, h, rfl⟩

theorem outcome_acc {f : Ty → Json → Res Json} {p acc acc' : AList Json} {d : InputDef} {o : Option Json}
    (h : Outcome f p acc' d o) (he : get? acc' d.name = get? acc d.name) : Outcome f p acc d o := by
  refine ⟨h.1, h.2.1, ?_⟩
  intro h1 h2
  rw [← he]
  exact h.2.2 h1 h2

theorem coerceDefs_ok (f : Ty → Json → Res Json) (p : AList Json) : ∀ defs acc r,
    (fieldNames defs).Nodup → coerceDefs f p defs acc = .ok r →
    (∀ k, k ∉ fieldNames defs → get? r k = get? acc k) ∧
    (∀ d, d ∈ defs → Outcome f p acc d (get? r d.name)) := by
  intro defs
  induction defs with
  | nil =>
    intro acc r _ h
    simp [coerceDefs] at h
    subst h
    simp
  | cons d rest ih =>
    intro acc r hnd h
    have hnd' : d.name ∉ fieldNames rest ∧ (fieldNames rest).Nodup := by
      simpa [fieldNames] using hnd
    have hne : ∀ d', d' ∈ rest → ¬ d.name = d'.name := by
      intro d' hd' e
      exact hnd'.1 (e ▸ mem_fieldNames hd')
    -- the generic continuation: the rest of the loop ran on `acc'`, which is `acc` with `d.name ↦ x`
    have step : ∀ x, coerceDefs f p rest (insert acc d.name x) = .ok r →
        (∀ k, k ∉ fieldNames (d :: rest) → get? r k = get? acc k) ∧
        get? r d.name = some x ∧
        (∀ d', d' ∈ rest → Outcome f p acc d' (get? r d'.name)) := by
      intro x hx
      obtain ⟨h1, h2⟩ := ih _ r hnd'.2 hx
      refine ⟨?_, ?_, ?_⟩
      · intro k hk
        have hk' : ¬ d.name = k ∧ k ∉ fieldNames rest := by
          simp only [fieldNames, List.map_cons, List.mem_cons, not_or] at hk
          exact ⟨fun e => hk.1 e.symm, hk.2⟩
        rw [h1 k hk'.2, get?_insert]
        simp [hk'.1]
      · rw [h1 d.name hnd'.1, get?_insert]
        simp
      · intro d' hd'
        refine outcome_acc (h2 d' hd') ?_
        rw [get?_insert]
        simp [hne d' hd']
    simp only [coerceDefs] at h
    cases hp : get? p d.name with
    | some v =>
      simp only [hp] at h
      cases hf : f d.ty v with
      | error e => simp [hf] at h
      | ok rv =>
        simp only [hf] at h
        obtain ⟨s1, s2, s3⟩ := step rv h
        refine ⟨s1, ?_⟩
        intro d' hd'
        simp only [List.mem_cons] at hd'
        rcases hd' with rfl | hd'
        · refine ⟨?_, ?_, ?_⟩
          · intro v' hv'
            rw [hp] at hv'
            cases hv'
            exact ⟨rv, hf, s2⟩
          · intro hn; rw [hp] at hn; cases hn
          · intro hn; rw [hp] at hn; cases hn
        · exact s3 d' hd'
    | none =>
      simp only [hp] at h
      cases hd : d.default with
      | some dv =>
        simp only [hd] at h
        obtain ⟨s1, s2, s3⟩ := step dv.toJson h
        refine ⟨s1, ?_⟩
        intro d' hd'
        simp only [List.mem_cons] at hd'
        rcases hd' with rfl | hd'
        · refine ⟨?_, ?_, ?_⟩
          · intro v' hv'; rw [hp] at hv'; cases hv'
          · intro _ dv' hdv'
            rw [hd] at hdv'
            cases hdv'
            exact s2
          · intro _ hn; rw [hd] at hn; cases hn
        · exact s3 d' hd'
      | none =>
        simp only [hd] at h
        cases hnn : d.ty.isNonNull with
        | true => simp [hnn] at h
        | false =>
          simp only [hnn] at h
          obtain ⟨h1, h2⟩ := ih acc r hnd'.2 h
          refine ⟨?_, ?_⟩
          · intro k hk
            simp only [fieldNames, List.map_cons, List.mem_cons, not_or] at hk
            exact h1 k hk.2
          · intro d' hd'
            simp only [List.mem_cons] at hd'
            rcases hd' with rfl | hd'
            · refine ⟨?_, ?_, ?_⟩
              · intro v' hv'; rw [hp] at hv'; cases hv'
              · intro _ dv' hdv'; rw [hd] at hdv'; cases hdv'
              · intro _ _
                exact ⟨hnn, h1 _ hnd'.1⟩
            · exact h2 d' hd'

theorem coerceDefs_err (f : Ty → Json → Res Json) (p : AList Json) : ∀ defs acc e,
    coerceDefs f p defs acc = .error e →
    ∃ d, d ∈ defs ∧
      ((∃ v, get? p d.name = some v ∧ f d.ty v = .error e) ∨
       (get? p d.name = none ∧ d.default = none ∧ d.ty.isNonNull = true ∧ e = .value)) := by
  intro defs
  induction defs with
  | nil => intro acc e h; simp [coerceDefs] at h
  | cons d rest ih =>
    intro acc e h
    have lift : ∀ acc', coerceDefs f p rest acc' = .error e →
        ∃ d', d' ∈ d :: rest ∧
          ((∃ v, get? p d'.name = some v ∧ f d'.ty v = .error e) ∨
           (get? p d'.name = none ∧ d'.default = none ∧ d'.ty.isNonNull = true ∧ e = .value)) := by
      intro acc' h'
      obtain ⟨d', hm, hd'⟩ := ih acc' e h'
      exact ⟨d', by simp [hm], hd'⟩
    simp only [coerceDefs] at h
    cases hp : get? p d.name with
    | some v =>
      simp only [hp] at h
      cases hf : f d.ty v with
      | error e' =>
        simp [hf] at h
        subst h
        exact ⟨d, by simp, Or.inl ⟨v, hp, hf⟩⟩
      | ok rv =>
        simp only [hf] at h
        exact lift _ h
    | none =>
      simp only [hp] at h
      cases hd : d.default with
      | some dv =>
        simp only [hd] at h
        exact lift _ h
      | none =>
        simp only [hd] at h
        cases hnn : d.ty.isNonNull with
        | true =>
          simp [hnn] at h
          exact ⟨d, by simp, Or.inr ⟨hp, hd, hnn, h.symm⟩⟩
        | false =>
          simp only [hnn] at h
          exact lift _ h

end Coercion
end Apollo
