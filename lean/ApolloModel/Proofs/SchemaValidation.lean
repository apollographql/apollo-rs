import ApolloModel.Spec.SchemaValidation
/-
Lemmas for C14 (and, through SchemaInvariants, C15): the executable rules of apollo-compiler's schema validation
— the stack-based input-object cycle search, transitive interfaces, root operation types, the directive
self-reference search (soundness) — against the declarative predicates of Spec/SchemaValidation.lean.
-/
namespace Apollo.SchemaValidation
open Apollo.SchemaValidation.Spec

/-! ### `firstErr` -/

theorem firstErr_eq_ok {α} {f : α → R} {l : List α} :
    firstErr f l = .ok ↔ ∀ x ∈ l, f x = .ok := by
  induction l with
  | nil => simp [firstErr]
  | cons x xs ih =>
    simp only [firstErr, List.mem_cons, forall_eq_or_imp]
    cases h : f x <;> simp [ih]

theorem firstErr_ne_ok_of_mem {α} {f : α → R} {l : List α} {x : α} (hx : x ∈ l) (h : f x ≠ .ok) :
    firstErr f l ≠ .ok := by
  intro h'
  exact h (firstErr_eq_ok.mp h' x hx)

theorem firstErr_err {α} {f : α → R} {l : List α} {e : R} (he : e ≠ .ok) (h : firstErr f l = e) :
    ∃ x ∈ l, f x = e := by
  induction l with
  | nil => simp [firstErr] at h; exact absurd h.symm he
  | cons x xs ih =>
    simp only [firstErr] at h
    cases hx : f x with
    | ok => rw [hx] at h; obtain ⟨y, hy, hfy⟩ := ih h; exact ⟨y, List.mem_cons_of_mem _ hy, hfy⟩
    | recursed => rw [hx] at h; exact ⟨x, List.mem_cons_self, by rw [hx]; exact h⟩
    | limit => rw [hx] at h; exact ⟨x, List.mem_cons_self, by rw [hx]; exact h⟩
    | outOfFuel => rw [hx] at h; exact ⟨x, List.mem_cons_self, by rw [hx]; exact h⟩

/-! ### input-object cycle search -/

theorem head?_append_of_head? {l : List Nat} {r x : Nat} (h : l.head? = some r) :
    (l ++ [x]).head? = some r := by
  cases l with
  | nil => simp at h
  | cons a t => simpa using h

theorem nodup_append_singleton {l : List Nat} {x : Nat} (h : l.Nodup) (hx : x ∉ l) : (l ++ [x]).Nodup := by
  rw [List.nodup_append]
  refine ⟨h, by simp, ?_⟩
  intro a ha b hb hab
  have : b = x := by simpa using hb
  exact hx (this ▸ hab ▸ ha)

theorem bounded_append_singleton {l : List Nat} {x n : Nat} (h : ∀ y ∈ l, y < n) (hx : x < n) :
    ∀ y ∈ l ++ [x], y < n := by
  intro y hy
  rcases List.mem_append.mp hy with hy | hy
  · exact h y hy
  · have : y = x := by simpa using hy
    exact this ▸ hx

/-- what a search that did not answer `ok` stopped at: a non-null field that names the root again, or
    names a new input object and then either overflows the stack or fails in the same way below it -/
theorem searchFields_err {g : IGraph} {limit fuel : Nat} {seen : List Nat} {fs : List IField} {e : R}
    (he : e ≠ .ok) (h : searchFields g limit (fuel + 1) seen fs = e) :
    ∃ f ∈ fs, f.nonNullNamed = true ∧
      ((seen.head? = some f.target ∧ e = .recursed) ∨
       (f.target ∉ seen ∧ f.target < g.length ∧
         ((limit < seen.length + 1 ∧ e = .limit) ∨
          (seen.length + 1 ≤ limit ∧
            searchFields g limit fuel (seen ++ [f.target]) (g.fields f.target) = e)))) := by
  unfold searchFields at h
  obtain ⟨f, hf, hbody⟩ := firstErr_err he h
  refine ⟨f, hf, ?_⟩
  by_cases hnn : f.nonNullNamed = true
  · refine ⟨hnn, ?_⟩
    simp only [hnn, if_true] at hbody
    by_cases hc : seen.contains f.target = true
    · simp only [hc, Bool.not_true, Bool.false_eq_true, if_false] at hbody
      by_cases hh : (seen.head? == some f.target) = true
      · simp only [hh, if_true] at hbody
        exact Or.inl ⟨by simpa using hh, hbody.symm⟩
      · simp only [hh, Bool.false_eq_true, if_false] at hbody
        exact absurd hbody.symm he
    · have hnot : f.target ∉ seen := by simpa using hc
      simp only [hc, Bool.not_false, if_true] at hbody
      by_cases hlt : f.target < g.length
      · simp only [hlt, if_true] at hbody
        by_cases hlim : seen.length + 1 > limit
        · simp only [hlim, if_true] at hbody
          exact Or.inr ⟨hnot, hlt, Or.inl ⟨hlim, hbody.symm⟩⟩
        · simp only [hlim, if_false] at hbody
          exact Or.inr ⟨hnot, hlt, Or.inr ⟨by omega, hbody⟩⟩
      · simp only [hlt, if_false] at hbody
        exact absurd hbody.symm he
  · simp only [hnn, Bool.false_eq_true, if_false] at hbody
    exact absurd hbody.symm he

/-- soundness: a reported cycle is a real chain of non-null singular references back to the root -/
theorem search_sound (g : IGraph) (limit : Nat) :
    ∀ (fuel : Nat) (seen : List Nat) (fs : List IField) (u r : Nat),
      seen.head? = some r → r < g.length → (∀ f ∈ fs, f ∈ g.fields u) →
      searchFields g limit fuel seen fs = .recursed → IReach g u r := by
  intro fuel
  induction fuel with
  | zero => intro seen fs u r _ _ _ h; simp [searchFields] at h
  | succ fuel ih =>
    intro seen fs u r hhead hr hfs h
    obtain ⟨f, hf, hnn, hcase⟩ := searchFields_err (by decide) h
    have hfu := hfs f hf
    rcases hcase with ⟨hh, _⟩ | ⟨_, hlt, ⟨_, he⟩ | ⟨_, hrec⟩⟩
    · have : f.target = r := by rw [hhead] at hh; exact (Option.some.inj hh).symm
      exact .single ⟨f, hfu, hnn, this, hr⟩
    · cases he
    · exact .cons ⟨f, hfu, hnn, rfl, hlt⟩
        (ih _ _ f.target r (head?_append_of_head? hhead) hr (fun _ h => h) hrec)

/-- completeness along an explicit simple path: the search cannot return `ok` -/
theorem search_complete_path (g : IGraph) (limit : Nat) :
    ∀ (ws : List Nat) (fuel : Nat) (seen : List Nat) (u r : Nat),
      seen.head? = some r → IPath g u ws r → (∀ w ∈ ws, w ∉ seen) → ws.Nodup →
      searchFields g limit fuel seen (g.fields u) ≠ .ok := by
  intro ws
  induction ws with
  | nil =>
    intro fuel seen u r hhead hp _ _
    cases fuel with
    | zero => simp [searchFields]
    | succ fuel =>
      obtain ⟨f, hf, hnn, ht, _⟩ := hp
      unfold searchFields
      apply firstErr_ne_ok_of_mem hf
      have hmem : r ∈ seen := by
        cases seen with
        | nil => simp at hhead
        | cons a t => simp at hhead; simp [hhead]
      have hc : seen.contains f.target = true := by simpa [ht] using hmem
      simp [hnn, hhead, ht, hmem]
  | cons w ws ih =>
    intro fuel seen u r hhead hp havoid hnd
    cases fuel with
    | zero => simp [searchFields]
    | succ fuel =>
      obtain ⟨⟨f, hf, hnn, ht, hlt⟩, hrest⟩ := hp
      unfold searchFields
      apply firstErr_ne_ok_of_mem hf
      have hw : w ∉ seen := havoid w List.mem_cons_self
      subst ht
      have hc : seen.contains f.target = false := by simpa using hw
      simp only [hnn, if_true, hc, Bool.not_false, hlt]
      by_cases hlim : seen.length + 1 > limit
      · simp [hlim]
      · simp only [hlim, if_false]
        have hnd' := List.nodup_cons.mp hnd
        apply ih fuel (seen ++ [f.target]) f.target r (head?_append_of_head? hhead) hrest _ hnd'.2
        intro w' hw' hmem
        rcases List.mem_append.mp hmem with h | h
        · exact havoid w' (List.mem_cons_of_mem _ hw') h
        · have : w' = f.target := by simpa using h
          exact hnd'.1 (this ▸ hw')

theorem ipath_suffix (g : IGraph) : ∀ (l1 : List Nat) (u a : Nat) (l2 : List Nat) (b : Nat),
    IPath g u (l1 ++ a :: l2) b → IPath g a l2 b := by
  intro l1
  induction l1 with
  | nil => intro u a l2 b h; exact h.2
  | cons x l1 ih => intro u a l2 b h; exact ih x a l2 b h.2

/-- loop removal: any chain contains a simple one -/
theorem ireach_simple_path (g : IGraph) {a b : Nat} (h : IReach g a b) :
    ∃ ws, IPath g a ws b ∧ ws.Nodup ∧ a ∉ ws ∧ b ∉ ws := by
  induction h with
  | single e => exact ⟨[], e, List.nodup_nil, by simp, by simp⟩
  | @cons a c b e _ ih =>
    obtain ⟨ws, hp, hnd, hc, hb⟩ := ih
    by_cases hcb : c = b
    · subst hcb; exact ⟨[], e, List.nodup_nil, by simp, by simp⟩
    · by_cases hac : a = c
      · subst hac; exact ⟨ws, hp, hnd, hc, hb⟩
      · by_cases haw : a ∈ ws
        · obtain ⟨l1, l2, hsplit⟩ := List.append_of_mem haw
          subst hsplit
          have hp' := ipath_suffix g l1 c a l2 b hp
          have hnd2 : (a :: l2).Nodup := (List.nodup_append.mp hnd).2.1
          have := List.nodup_cons.mp hnd2
          exact ⟨l2, hp', this.2, this.1, fun h => hb (by simp [h])⟩
        · refine ⟨c :: ws, ⟨e, hp⟩, List.nodup_cons.mpr ⟨hc, hnd⟩, ?_, ?_⟩
          · simp [hac, haw]
          · intro h
            rcases List.mem_cons.mp h with h | h
            · exact hcb h.symm
            · exact hb h

/-- fuel `limit + 1` is enough: the search never runs out of fuel -/
theorem search_fuel (g : IGraph) (limit : Nat) :
    ∀ (fuel : Nat) (seen : List Nat) (fs : List IField),
      fuel + seen.length ≥ limit + 2 → seen.length ≤ limit + 1 →
      searchFields g limit fuel seen fs ≠ .outOfFuel := by
  intro fuel
  induction fuel with
  | zero => intro seen fs h1 h2; omega
  | succ fuel ih =>
    intro seen fs h1 h2 h
    obtain ⟨f, _, _, hcase⟩ := searchFields_err (by decide) h
    rcases hcase with ⟨_, he⟩ | ⟨_, _, ⟨_, he⟩ | ⟨_, hrec⟩⟩
    · cases he
    · cases he
    · exact ih (seen ++ [f.target]) _ (by simp; omega) (by simp; omega) hrec

/-- pigeonhole: distinct naturals below `n` are at most `n` many -/
theorem nodup_bounded_length : ∀ (n : Nat) (l : List Nat), l.Nodup → (∀ x ∈ l, x < n) → l.length ≤ n := by
  intro n
  induction n with
  | zero =>
    intro l _ hb
    cases l with
    | nil => simp
    | cons a t => exact absurd (hb a List.mem_cons_self) (Nat.not_lt_zero _)
  | succ n ih =>
    intro l hnd hb
    have h1 : (l.erase n).Nodup := hnd.erase n
    have h2 : ∀ x ∈ l.erase n, x < n := by
      intro x hx
      have hx' := (List.Nodup.mem_erase_iff hnd).mp hx
      have := hb x hx'.2
      have hne : x ≠ n := hx'.1
      omega
    have h3 := ih (l.erase n) h1 h2
    have h4 : l.length ≤ (l.erase n).length + 1 := by
      rw [List.length_erase]; split <;> omega
    omega

/-- with at most `limit` input objects the depth limit is never hit -/
theorem search_no_limit (g : IGraph) (limit : Nat) (hg : g.length ≤ limit) :
    ∀ (fuel : Nat) (seen : List Nat) (fs : List IField),
      seen.Nodup → (∀ x ∈ seen, x < g.length) →
      searchFields g limit fuel seen fs ≠ .limit := by
  intro fuel
  induction fuel with
  | zero => intro seen fs _ _; simp [searchFields]
  | succ fuel ih =>
    intro seen fs hnd hb h
    obtain ⟨f, _, _, hcase⟩ := searchFields_err (by decide) h
    rcases hcase with ⟨_, he⟩ | ⟨hnotin, hlt, hcase⟩
    · cases he
    · have hnd' := nodup_append_singleton hnd hnotin
      have hb' := bounded_append_singleton hb hlt
      rcases hcase with ⟨hlim, _⟩ | ⟨_, hrec⟩
      · have := nodup_bounded_length g.length _ hnd' hb'
        simp at this; omega
      · exact ih _ _ hnd' hb' hrec

/-! ### transitive interfaces -/

theorem getInterface_some {s : ISchema} {n : Nat} {t : TypeInfo} (h : getInterface s n = some t) :
    s[n]? = some t := by
  unfold getInterface at h
  cases hs : s[n]? with
  | none => simp [hs] at h
  | some t' =>
    simp only [hs] at h
    by_cases hi : t'.isInterface = true
    · simp [hi] at h; rw [h]
    · simp [hi] at h

theorem missingTransitive_nil_iff (s : ISchema) (t : TypeInfo) :
    missingTransitive s t = [] ↔
      ∀ via ∈ t.implements, ∀ i, getInterface s via = some i → ∀ tr ∈ i.implements, tr ∈ t.implements := by
  unfold missingTransitive
  rw [List.flatMap_eq_nil_iff]
  constructor
  · intro h via hvia i hi tr htr
    have := h via hvia
    simp only [hi, List.map_eq_nil_iff, List.filter_eq_nil_iff] at this
    have := this tr htr
    simpa using this
  · intro h via hvia
    cases hi : getInterface s via with
    | none => rfl
    | some i =>
      simp only [List.map_eq_nil_iff, List.filter_eq_nil_iff]
      intro tr htr
      simpa using h via hvia i hi tr htr

theorem transitive_closed_iff (s : ISchema) :
    (∀ (a : Nat) (t : TypeInfo), s[a]? = some t → missingTransitive s t = []) ↔ TransitiveClosed s := by
  constructor
  · intro h a c hr
    induction hr with
    | base d => exact d
    | @step a b c d hb _ ih =>
      obtain ⟨ta, hta, hbin⟩ := d
      obtain ⟨tb', htb', hc⟩ := ih
      cases hi : getInterface s b with
      | none => simp [hi] at hb
      | some ib =>
        have hib := getInterface_some hi
        rw [hib] at htb'
        have : ib = tb' := by simpa using htb'
        subst this
        exact ⟨ta, hta, (missingTransitive_nil_iff s ta).mp (h a ta hta) b hbin ib hi c hc⟩
  · intro h a t hta
    rw [missingTransitive_nil_iff]
    intro via hvia i hi tr htr
    have hr : ImplReach s a tr :=
      .step (b := via) ⟨t, hta, hvia⟩ (by simp [hi]) (.base (a := via) (c := tr) ⟨i, getInterface_some hi, htr⟩)
    obtain ⟨t', ht', hmem⟩ := h a tr hr
    rw [hta] at ht'
    have : t = t' := by simpa using ht'
    subst this
    exact hmem

/-! ### root operation types -/

theorem rootLoop_nil_iff : ∀ (ts : List RootTarget) (seen : List Nat),
    rootLoop seen ts = [] ↔
      (∀ t ∈ ts, ∃ n, t = RootTarget.object n) ∧ (ts.map RootTarget.name).Nodup ∧
        ∀ t ∈ ts, t.name ∉ seen := by
  intro ts
  induction ts with
  | nil => intro seen; simp [rootLoop]
  | cons t rest ih =>
    intro seen
    unfold rootLoop
    by_cases hc : seen.contains t.name = true
    · simp only [hc, if_true]
      constructor
      · intro h; simp at h
      · intro ⟨_, _, h3⟩
        exact absurd (by simpa using hc) (h3 t List.mem_cons_self)
    · simp only [hc]
      cases t with
      | object n =>
        have hn : n ∉ seen := by simpa [RootTarget.name] using hc
        simp only [Bool.false_eq_true, if_false, List.nil_append]
        show rootLoop (seen ++ [n]) rest = [] ↔ _
        rw [ih]
        constructor
        · intro ⟨h1, h2, h3⟩
          refine ⟨?_, ?_, ?_⟩
          · intro t ht
            rcases List.mem_cons.mp ht with rfl | ht
            · exact ⟨n, rfl⟩
            · exact h1 t ht
          · rw [List.map_cons, List.nodup_cons]
            refine ⟨?_, h2⟩
            intro hmem
            obtain ⟨t', ht', hname⟩ := List.mem_map.mp hmem
            exact h3 t' ht' (by rw [hname]; simp [RootTarget.name])
          · intro t ht
            rcases List.mem_cons.mp ht with rfl | ht
            · exact hn
            · intro hm; exact h3 t ht (List.mem_append_left _ hm)
        · intro ⟨h1, h2, h3⟩
          rw [List.map_cons, List.nodup_cons] at h2
          refine ⟨fun t ht => h1 t (List.mem_cons_of_mem _ ht), h2.2, ?_⟩
          intro t ht hm
          rcases List.mem_append.mp hm with hm | hm
          · exact h3 t (List.mem_cons_of_mem _ ht) hm
          · have : t.name = n := by simpa using hm
            exact h2.1 (List.mem_map.mpr ⟨t, ht, this⟩)
      | otherKind n =>
        simp only [Bool.false_eq_true, if_false]
        constructor
        · intro h; simp at h
        · intro ⟨h1, _⟩
          obtain ⟨m, hm⟩ := h1 _ List.mem_cons_self
          cases hm
      | undefined n =>
        simp only [Bool.false_eq_true, if_false]
        constructor
        · intro h; simp at h
        · intro ⟨h1, _⟩
          obtain ⟨m, hm⟩ := h1 _ List.mem_cons_self
          cases hm

/-! ### directive self-reference search: soundness -/

theorem dreach_trans {s : DSchema} {x y z : Item} (h1 : DReach s x y) (h2 : DReach s y z) : DReach s x z := by
  induction h1 with
  | refl => exact h2
  | step st _ ih => exact .step st (ih h2)

/-- an item the two stacks do not make the search skip -/
def Free (dg tg : List Nat) : Item → Prop
  | .dir e => e ∉ dg
  | .ty k => k ∉ tg
  | .arg _ => True

/-- the stacks below item `x` -/
def pushD (dg : List Nat) : Item → List Nat
  | .dir e => dg ++ [e]
  | _ => dg

def pushT (tg : List Nat) : Item → List Nat
  | .ty k => tg ++ [k]
  | _ => tg

theorem pushD_head {dg : List Nat} {r : Nat} (h : dg.head? = some r) (x : Item) : (pushD dg x).head? = some r := by
  cases x <;> simp only [pushD] <;> first | exact h | exact head?_append_of_head? h

/-- what a walk that did not answer `ok` stopped at: the root directive again; a new directive or type
    that overflows its stack; or a step into a sub-item below which the walk fails in the same way -/
theorem walk_err {s : DSchema} {limit fuel : Nat} {dg tg : List Nat} {x : Item} {e : R}
    (he : e ≠ .ok) (h : walk s limit (fuel + 1) dg tg x = e) :
    (∃ r, x = .dir r ∧ dg.head? = some r ∧ e = .recursed) ∨
    (Free dg tg x ∧
      ((e = .limit ∧ ((∃ d, x = .dir d ∧ d < s.dirs.length ∧ limit < dg.length + 1) ∨
                      (∃ k, x = .ty k ∧ k < s.types.length ∧ limit < tg.length + 1))) ∨
       ((pushD dg x).length ≤ max limit dg.length ∧ (pushT tg x).length ≤ max limit tg.length ∧
         ∃ y, DStep s x y ∧ walk s limit fuel (pushD dg x) (pushT tg x) y = e))) := by
  cases x with
  | dir d =>
    simp only [walk] at h
    by_cases hc : dg.contains d = true
    · simp only [hc, Bool.not_true, Bool.false_eq_true, if_false] at h
      by_cases hh : (dg.head? == some d) = true
      · simp only [hh, if_true] at h
        exact Or.inl ⟨d, rfl, by simpa using hh, h.symm⟩
      · simp only [hh, Bool.false_eq_true, if_false] at h
        exact absurd h.symm he
    · have hfree : d ∉ dg := by simpa using hc
      simp only [hc, Bool.not_false, if_true] at h
      cases hd : s.dirs[d]? with
      | none => simp only [hd] at h; exact absurd h.symm he
      | some args =>
        simp only [hd] at h
        refine Or.inr ⟨hfree, ?_⟩
        by_cases hlim : dg.length + 1 > limit
        · simp only [hlim, if_true] at h
          exact Or.inl ⟨h.symm, Or.inl ⟨d, rfl, (List.getElem?_eq_some_iff.mp hd).1, hlim⟩⟩
        · simp only [hlim, if_false] at h
          obtain ⟨y, hy, hwy⟩ := firstErr_err he h
          obtain ⟨a, ha, rfl⟩ := List.mem_map.mp hy
          exact Or.inr ⟨by simp only [pushD, List.length_append, List.length_singleton]; omega,
            Nat.le_max_right _ _, .arg a, .dirArg hd ha, hwy⟩
  | arg a =>
    simp only [walk] at h
    refine Or.inr ⟨trivial, Or.inr ⟨Nat.le_max_right _ _, Nat.le_max_right _ _, ?_⟩⟩
    cases hf : firstErr (walk s limit fuel dg tg) (a.dirs.map Item.dir) with
    | ok =>
      simp only [hf] at h
      cases hty : a.ty with
      | none => simp only [hty] at h; exact absurd h.symm he
      | some k =>
        simp only [hty] at h
        by_cases hk : k < s.types.length
        · simp only [hk, if_true] at h
          exact ⟨.ty k, .argTy hty hk, h⟩
        · simp only [hk, if_false] at h
          exact absurd h.symm he
    | _ =>
      simp only [hf] at h
      obtain ⟨y, hy, hwy⟩ := firstErr_err (by decide) hf
      obtain ⟨d, hd, rfl⟩ := List.mem_map.mp hy
      exact ⟨.dir d, .argDir hd, hwy.trans h⟩
  | ty k =>
    simp only [walk] at h
    by_cases hc : tg.contains k = true
    · rw [if_pos hc] at h
      exact absurd h.symm he
    · have hfree : k ∉ tg := by simpa using hc
      rw [if_neg hc] at h
      cases ht : s.types[k]? with
      | none => simp only [ht] at h; exact absurd h.symm he
      | some t =>
        simp only [ht] at h
        refine Or.inr ⟨hfree, ?_⟩
        by_cases hlim : tg.length + 1 > limit
        · simp only [hlim, if_true] at h
          exact Or.inl ⟨h.symm, Or.inr ⟨k, rfl, (List.getElem?_eq_some_iff.mp ht).1, hlim⟩⟩
        · simp only [hlim, if_false] at h
          obtain ⟨y, hy, hwy⟩ := firstErr_err he h
          exact Or.inr ⟨Nat.le_max_right _ _,
            by simp only [pushT, List.length_append, List.length_singleton]; omega, y, .tyItem ht hy, hwy⟩

theorem walk_sound (s : DSchema) (limit : Nat) :
    ∀ (fuel : Nat) (dg tg : List Nat) (item : Item) (r : Nat),
      dg.head? = some r → walk s limit fuel dg tg item = .recursed → DReach s item (.dir r) := by
  intro fuel
  induction fuel with
  | zero => intro dg tg item r _ h; simp [walk] at h
  | succ fuel ih =>
    intro dg tg item r hhead h
    rcases walk_err (by decide) h with ⟨r', rfl, hh, _⟩ | ⟨_, ⟨he, _⟩ | ⟨_, _, y, st, hrec⟩⟩
    · rw [hhead] at hh
      rw [Option.some.inj hh]
      exact .refl
    · cases he
    · exact .step st (ih _ _ y r (pushD_head hhead item) hrec)

end Apollo.SchemaValidation
