import ApolloModel.Model.NameHeap
/-
C30: generic lemmas about the reference-counted heap of Model/NameHeap.lean: the invariant `Heap.Ok`
(strong count = number of owning handles, freed ⇔ count 0, ghost error counters 0) is preserved by
allocate / increment / decrement / read / write as long as the handle bookkeeping `refs` changes
accordingly, and `refsOf` follows `List.set`.
-/
namespace Apollo.Rc
variable {α : Type}

structure Heap.Ok (h : Heap α) (refs : Nat → Nat) : Prop where
  count : ∀ c, h.strongOf c = refs c
  freed : ∀ (c : Nat) (cell : Cell α), h.cells[c]? = some cell → (cell.freed = true ↔ cell.strong = 0)
  uaf : h.uaf = 0
  dfree : h.dfree = 0

namespace Heap

theorem Ok.live {h : Heap α} {refs : Nat → Nat} (ok : h.Ok refs) {c : Nat} (hc : 1 ≤ refs c) :
    ∃ cell, h.cells[c]? = some cell ∧ cell.freed = false ∧ cell.strong = refs c := by
  have h1 := ok.count c
  unfold strongOf at h1
  cases hg : h.cells[c]? with
  | none => rw [hg] at h1; simp at h1; omega
  | some cell =>
    rw [hg] at h1
    simp at h1
    refine ⟨cell, rfl, ?_, h1⟩
    cases hf : cell.freed with
    | false => rfl
    | true => have := (ok.freed c cell hg).mp hf; omega

theorem Ok.congr {h : Heap α} {refs refs' : Nat → Nat} (ok : h.Ok refs) (e : ∀ c, refs' c = refs c) : h.Ok refs' :=
  ⟨fun c => by rw [ok.count, e], ok.freed, ok.uaf, ok.dfree⟩

theorem Ok.fresh {h : Heap α} {refs : Nat → Nat} (ok : h.Ok refs) : refs h.cells.length = 0 := by
  have := ok.count h.cells.length
  simp [strongOf] at this
  omega

/-! ### allocate -/

theorem alloc_snd (h : Heap α) (v : α) : (h.alloc v).2 = h.cells.length := rfl

theorem alloc_cells (h : Heap α) (v : α) :
    (h.alloc v).1.cells = h.cells ++ [{ val := v, strong := 1, freed := false }] := rfl

theorem alloc_get_old (h : Heap α) (v : α) {c : Nat} {cell : Cell α} (hc : h.cells[c]? = some cell) :
    (h.alloc v).1.cells[c]? = some cell := by
  rw [alloc_cells, List.getElem?_append_left (List.getElem?_eq_some_iff.mp hc).1]; exact hc

theorem alloc_get_new (h : Heap α) (v : α) :
    (h.alloc v).1.cells[h.cells.length]? = some { val := v, strong := 1, freed := false } := by
  rw [alloc_cells, List.getElem?_append_right (Nat.le_refl _)]; simp

theorem alloc_get (h : Heap α) (v : α) (c : Nat) :
    (h.alloc v).1.cells[c]? =
      if c = h.cells.length then some { val := v, strong := 1, freed := false } else h.cells[c]? := by
  by_cases e : c = h.cells.length
  · subst e; simp [alloc_get_new]
  · simp only [e, if_false]
    rcases Nat.lt_or_ge c h.cells.length with h1 | h1
    · rw [alloc_cells, List.getElem?_append_left h1]
    · rw [List.getElem?_eq_none h1, List.getElem?_eq_none]
      rw [alloc_cells]; simp; omega

theorem alloc_ok {h : Heap α} {refs refs' : Nat → Nat} (v : α) (ok : h.Ok refs)
    (hr : ∀ c, refs' c = refs c + if c = h.cells.length then 1 else 0) : (h.alloc v).1.Ok refs' := by
  refine ⟨?_, ?_, ok.uaf, ok.dfree⟩
  · intro c
    rw [hr, ← ok.count]
    unfold strongOf
    rw [alloc_get]
    by_cases e : c = h.cells.length
    · subst e; simp
    · simp [e]
  · intro c cell hc
    rw [alloc_get] at hc
    by_cases e : c = h.cells.length
    · simp [e] at hc; subst hc; simp
    · simp [e] at hc; exact ok.freed c cell hc

theorem alloc_valOf_old (h : Heap α) (v : α) {c : Nat} {x : α} (hc : h.valOf c = some x) :
    (h.alloc v).1.valOf c = some x := by
  unfold valOf at *
  cases hg : h.cells[c]? with
  | none => rw [hg] at hc; cases hc
  | some cell => rw [alloc_get_old h v hg]; rw [hg] at hc; exact hc

theorem alloc_valOf_new (h : Heap α) (v : α) : (h.alloc v).1.valOf (h.alloc v).2 = some v := by
  simp [valOf, alloc_snd, alloc_get_new]

theorem alloc_uaf (h : Heap α) (v : α) : (h.alloc v).1.uaf = h.uaf := rfl

/-! ### one live cell replaced -/

theorem set_ok {h : Heap α} {refs refs' : Nat → Nat} {c : Nat} {cell new : Cell α} (ok : h.Ok refs)
    (hg : h.cells[c]? = some cell) (hn : new.freed = true ↔ new.strong = 0) (hc : refs' c = new.strong)
    (hr : ∀ c', c' ≠ c → refs' c' = refs c') : ({ h with cells := h.cells.set c new } : Heap α).Ok refs' := by
  have hlt := (List.getElem?_eq_some_iff.mp hg).1
  refine ⟨?_, ?_, ok.uaf, ok.dfree⟩
  · intro c'
    unfold strongOf
    by_cases e : c = c'
    · subst e; simp [hlt, hc]
    · rw [hr c' (fun x => e x.symm), ← ok.count]
      simp [strongOf, e]
  · intro c' cell' hc'
    by_cases e : c = c'
    · subst e
      simp [hlt] at hc'
      subst hc'
      exact hn
    · simp [e] at hc'; exact ok.freed _ _ hc'

theorem set_valOf {h : Heap α} {c : Nat} {cell new : Cell α} (hg : h.cells[c]? = some cell)
    (hv : new.val = cell.val) (c' : Nat) : ({ h with cells := h.cells.set c new } : Heap α).valOf c' = h.valOf c' := by
  unfold valOf
  obtain ⟨hlt, hge⟩ := List.getElem?_eq_some_iff.mp hg
  by_cases e : c = c'
  · subst e; simp [hlt, hge, hv]
  · simp [e]

/-! ### increment -/

theorem incr_of_live {h : Heap α} {c : Nat} {cell : Cell α} (hc : h.cells[c]? = some cell) (hf : cell.freed = false) :
    h.incr c = { h with cells := h.cells.set c { cell with strong := cell.strong + 1 } } := by
  simp [incr, hc, hf]

theorem incr_ok {h : Heap α} {refs refs' : Nat → Nat} {c : Nat} (ok : h.Ok refs) (hc : 1 ≤ refs c)
    (hr : ∀ c', refs' c' = refs c' + if c' = c then 1 else 0) : (h.incr c).Ok refs' := by
  obtain ⟨cell, hg, hf, hs⟩ := ok.live hc
  rw [incr_of_live hg hf]
  exact set_ok ok hg (by simp [hf]) (by simp [hr, hs]) (fun c' e => by simp [hr, e])

theorem incr_valOf {h : Heap α} (c c' : Nat) : (h.incr c).valOf c' = h.valOf c' := by
  unfold incr
  cases hg : h.cells[c]? with
  | none => rfl
  | some cell =>
    simp only
    split
    · rfl
    · exact set_valOf hg (by rfl) c'

/-! ### decrement -/

theorem decr_of_live {h : Heap α} {c : Nat} {cell : Cell α} (hc : h.cells[c]? = some cell) (hf : cell.freed = false)
    (hs : 1 ≤ cell.strong) :
    h.decr c = { h with cells := h.cells.set c { cell with strong := cell.strong - 1, freed := cell.strong == 1 } } := by
  have : (cell.strong == 0) = false := by simp; omega
  simp [decr, hc, hf, this]

theorem decr_ok {h : Heap α} {refs refs' : Nat → Nat} {c : Nat} (ok : h.Ok refs) (hc : 1 ≤ refs c)
    (hr : ∀ c', refs' c' + (if c' = c then 1 else 0) = refs c') : (h.decr c).Ok refs' := by
  obtain ⟨cell, hg, hf, hs⟩ := ok.live hc
  rw [decr_of_live hg hf (by omega)]
  refine set_ok ok hg (by simp; omega) ?_ (fun c' e => by simpa [e] using hr c')
  have := hr c
  simp at this ⊢
  omega

theorem decr_valOf {h : Heap α} (c c' : Nat) : (h.decr c).valOf c' = h.valOf c' := by
  unfold decr
  cases hg : h.cells[c]? with
  | none => rfl
  | some cell =>
    simp only
    split
    · rfl
    · exact set_valOf hg (by rfl) c'

/-! ### read / touch -/

theorem read_of_live {h : Heap α} {refs : Nat → Nat} {c : Nat} (ok : h.Ok refs) (hc : 1 ≤ refs c) :
    ∃ v, h.read c = some v ∧ h.valOf c = some v := by
  obtain ⟨cell, hg, hf, _⟩ := ok.live hc
  exact ⟨cell.val, by simp [read, hg, hf], by simp [valOf, hg]⟩

theorem touch_of_live {h : Heap α} {refs : Nat → Nat} {c : Nat} (ok : h.Ok refs) (hc : 1 ≤ refs c) :
    h.touch c = h := by
  obtain ⟨v, hv, _⟩ := read_of_live ok hc
  simp [touch, hv]

/-! ### write -/

theorem write_of_live {h : Heap α} {c : Nat} {cell : Cell α} (f : α → α) (hc : h.cells[c]? = some cell)
    (hf : cell.freed = false) :
    h.write c f = { h with cells := h.cells.set c { cell with val := f cell.val } } := by
  simp [write, hc, hf]

theorem write_ok {h : Heap α} {refs : Nat → Nat} {c : Nat} (f : α → α) (ok : h.Ok refs) (hc : 1 ≤ refs c) :
    (h.write c f).Ok refs := by
  obtain ⟨cell, hg, hf, hs⟩ := ok.live hc
  rw [write_of_live f hg hf]
  exact set_ok ok hg (ok.freed c cell hg) hs.symm (fun _ _ => rfl)

theorem write_read_other {h : Heap α} (f : α → α) {c c' : Nat} (e : c ≠ c') : (h.write c f).read c' = h.read c' := by
  unfold write
  cases hg : h.cells[c]? with
  | none => rfl
  | some cell =>
    simp only
    split
    · rfl
    · unfold read
      simp [e]

theorem write_read_same {h : Heap α} (f : α → α) {c : Nat} {v : α} (hv : h.read c = some v) :
    (h.write c f).read c = some (f v) := by
  unfold read at hv
  cases hg : h.cells[c]? with
  | none => rw [hg] at hv; cases hv
  | some cell =>
    rw [hg] at hv
    simp only at hv
    split at hv
    · cases hv
    · rename_i hf
      simp at hf hv
      have hlt := (List.getElem?_eq_some_iff.mp hg).1
      rw [write_of_live f hg hf]
      simp [read, hlt, hf, hv]

end Heap

/-! ### handle counting -/

theorem refsOf_set {σ : Type} (owns : σ → Option Nat) (c : Nat) (s : σ) :
    ∀ (slots : List σ) (i : Nat) (old : σ), slots[i]? = some old →
      refsOf owns (slots.set i s) c + (if owns old = some c then 1 else 0)
        = refsOf owns slots c + (if owns s = some c then 1 else 0)
  | [], i, old, h => by simp at h
  | x :: rest, 0, old, h => by
    simp at h; subst h
    simp only [List.set_cons_zero, refsOf]; omega
  | x :: rest, i + 1, old, h => by
    simp at h
    have := refsOf_set owns c s rest i old h
    simp only [List.set_cons_succ, refsOf]; omega

/-- what the handle `s` adds to the count of cell `c` -/
def weight {σ : Type} (owns : σ → Option Nat) (s : σ) (c : Nat) : Nat := if owns s = some c then 1 else 0

theorem refs_replace {σ : Type} (owns : σ → Option Nat) {slots : List σ} {i : Nat} {old : σ} (s : σ)
    (h : slots[i]? = some old) (c : Nat) :
    refsOf owns (slots.set i s) c + weight owns old c = refsOf owns slots c + weight owns s c :=
  refsOf_set owns c s slots i old h

theorem weight_none {σ : Type} {owns : σ → Option Nat} {s : σ} (h : owns s = none) (c : Nat) :
    weight owns s c = 0 := by
  unfold weight; rw [h]; simp

theorem weight_some {σ : Type} {owns : σ → Option Nat} {s : σ} {c : Nat} (h : owns s = some c) (c' : Nat) :
    weight owns s c' = if c' = c then 1 else 0 := by
  unfold weight; rw [h]
  by_cases e : c' = c
  · subst e; simp
  · have : ¬ c = c' := fun x => e x.symm
    simp [e, this]

theorem refsOf_replicate {σ : Type} (owns : σ → Option Nat) (e : σ) (he : owns e = none) (c : Nat) :
    ∀ n, refsOf owns (List.replicate n e) c = 0
  | 0 => rfl
  | n + 1 => by simp [List.replicate_succ, refsOf, he, refsOf_replicate owns e he c n]

theorem refsOf_pos_of_mem {σ : Type} (owns : σ → Option Nat) (c : Nat) :
    ∀ (slots : List σ) (i : Nat) (s : σ), slots[i]? = some s → owns s = some c → 1 ≤ refsOf owns slots c
  | [], i, s, h, _ => by simp at h
  | x :: rest, 0, s, h, ho => by
    simp at h; subst h; simp [refsOf, ho]
  | x :: rest, i + 1, s, h, ho => by
    simp at h
    have := refsOf_pos_of_mem owns c rest i s h ho
    simp only [refsOf]; omega

theorem refsOf_two {σ : Type} (owns : σ → Option Nat) (c : Nat) :
    ∀ (slots : List σ) (i j : Nat) (s t : σ), i ≠ j → slots[i]? = some s → slots[j]? = some t →
      owns s = some c → owns t = some c → 2 ≤ refsOf owns slots c
  | [], i, _, s, _, _, h, _, _, _ => by simp at h
  | x :: rest, 0, 0, _, _, hne, _, _, _, _ => absurd rfl hne
  | x :: rest, 0, j + 1, s, t, _, hi, hj, hs, ht => by
    simp at hi hj; subst hi
    have := refsOf_pos_of_mem owns c rest j t hj ht
    simp only [refsOf, hs, if_true]; omega
  | x :: rest, i + 1, 0, s, t, _, hi, hj, hs, ht => by
    simp at hi hj; subst hj
    have := refsOf_pos_of_mem owns c rest i s hi hs
    simp only [refsOf, ht, if_true]; omega
  | x :: rest, i + 1, j + 1, s, t, hne, hi, hj, hs, ht => by
    simp at hi hj
    have := refsOf_two owns c rest i j s t (by omega) hi hj hs ht
    simp only [refsOf]; omega

theorem refsOf_zero_of_all_none {σ : Type} (owns : σ → Option Nat) (c : Nat) :
    ∀ (slots : List σ), (∀ s ∈ slots, owns s = none) → refsOf owns slots c = 0
  | [], _ => rfl
  | x :: rest, h => by
    have h1 := h x (by simp)
    have h2 := refsOf_zero_of_all_none owns c rest (fun s hs => h s (by simp [hs]))
    simp [refsOf, h1, h2]

end Apollo.Rc
