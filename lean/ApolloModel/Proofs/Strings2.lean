import ApolloModel.Proofs.Strings
import ApolloModel.Proofs.IfChain
namespace Apollo.Strs

theorem unescape_flat : ∀ (s : Str) (fuel : Nat), s.length < fuel →
    unescapeStringAux fuel (s.flatMap escapeChar) = some s
  | [], fuel, h => by
    cases fuel with
    | zero => omega
    | succ f => simp [unescapeStringAux]
  | c :: s, fuel, h => by
    cases fuel with
    | zero => omega
    | succ f =>
      simp only [List.flatMap_cons]
      rw [unescape_escapeChar, unescape_flat s f (by simp only [List.length_cons] at h; omega)]
      rfl

theorem escapeChar_cases (c : Char) : (escapeChar c = [c] ∧ c ≠ '"') ∨ ∃ x t, escapeChar c = '\\' :: x :: t := by
  generalize h : escapeChar c = e
  revert e
  unfold escapeChar
  repeat' refine ite_forall_eq (fun _ => ?_) (fun _ => ?_)
  all_goals rintro _ rfl
  iterate 7 exact Or.inr ⟨_, _, rfl⟩
  rename_i _ _ _ _ hq _ _
  exact Or.inl ⟨rfl, by simpa using hq⟩

theorem escapeChar_length_pos (c : Char) : 0 < (escapeChar c).length := by
  rcases escapeChar_cases c with ⟨h, _⟩ | ⟨x, t, h⟩ <;> rw [h] <;> exact Nat.succ_pos _

theorem flat_length_ge (s : Str) : s.length ≤ (s.flatMap escapeChar).length := by
  induction s with
  | nil => simp
  | cons c s ih =>
    have := escapeChar_length_pos c
    simp only [List.flatMap_cons, List.length_append, List.length_cons]
    omega

theorem quoted_body_roundtrip (s : Str) : unescapeString (s.flatMap escapeChar) = some s :=
  unescape_flat s _ (by have := flat_length_ge s; omega)

theorem escapeChar_head_ne_quote (c : Char) : (escapeChar c).head? ≠ some '"' := by
  rcases escapeChar_cases c with ⟨h, hq⟩ | ⟨x, t, h⟩ <;> rw [h]
  · simpa using hq
  · exact fun e => absurd (Option.some.inj e) (by decide)

theorem flat_head_ne_quote (s : Str) : (s.flatMap escapeChar).head? ≠ some '"' := by
  cases s with
  | nil => simp
  | cons c s =>
    have h := escapeChar_head_ne_quote c
    have hp := escapeChar_length_pos c
    simp only [List.flatMap_cons]
    cases he : escapeChar c with
    | nil => simp [he] at hp
    | cons x xs => simpa [he] using h

/-- **C09, quoted form** — the printed literal `"…"` decodes back to exactly the string, for every
    Unicode string (quotes, backslashes, control characters, line terminators included). -/
theorem quoted_roundtrip (s : Str) : decodeStringToken (quotedForm s) = some s := by
  have hh := flat_head_ne_quote s
  have hr := quoted_body_roundtrip s
  unfold quotedForm decodeStringToken
  cases hf : s.flatMap escapeChar with
  | nil =>
    rw [hf] at hr
    simpa using hr
  | cons x xs =>
    rw [hf] at hh hr
    have hx : x ≠ '"' := by simpa using hh
    simp only [List.cons_append]
    split
    · rename_i heq; simp only [List.cons.injEq, true_and] at heq; exact absurd heq.1 hx
    · simp only [List.length_cons, List.length_append, List.length_nil]
      have : ¬ (xs.length + 0 + 1 + 1 + 1 < 2) := by omega
      simp only [this, if_false, List.drop_succ_cons, List.drop_zero]
      have ht : List.take (xs.length + 0 + 1 + 1 + 1 - 2) (x :: (xs ++ ['"'])) = x :: xs := by
        have : xs.length + 0 + 1 + 1 + 1 - 2 = (x :: xs).length := by simp
        rw [this, ← List.cons_append, List.take_left']
        rfl
      rw [ht]; exact hr

end Apollo.Strs
