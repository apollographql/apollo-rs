import ApolloModel.Proofs.ParserDef2
/-
C05, type-system definitions: loops — items selected by a predicate on the token kind
(`peek_while`, `acc_itemsWhile`), items of one kind (`peek_while_kind`, `acc_kindWhile`).
-/
set_option linter.unusedSimpArgs false
namespace Apollo.Parse
open Apollo.Rowan hiding Str
open Apollo.Lex hiding Str

/-- the closure of the `peek_while` loops over definitions: continue with an item while the kind fits -/
def itemsBody (p : Kind → Bool) (item : PI Unit) (kind : Kind) : PI Bool :=
  if p kind then (item >>= fun _ => pure true) else pure false

def KindP (p : Kind → Bool) (q : List Tok) : Prop := ∃ t, q.head? = some t ∧ p t.kind = true

def ItemsR (Q : List Ast.Tok → Prop) (x : List Ast.Tok) : Prop := ∃ items : List (List Ast.Tok), x = items.flatten ∧ ∀ i ∈ items, Q i

theorem good_itemsBody (p : Kind → Bool) (item : PI Unit) (hg : Good item) (k : Kind) : Good (itemsBody p item k) :=
  good_ite _ _ _ (good_bind _ _ hg (fun _ => good_pure _)) (good_pure _)

theorem accQ_itemsLoop {E : PState → Prop} (hE : Early E) (p : Kind → Bool) (item : PI Unit) (Q : Nat → List Ast.Tok → Prop)
    (hitem : AccQ E (KindP p) item (fun B _ _ => Q B)) : ∀ fuel,
    AccQ E (fun _ => True) (peekWhileLoop (itemsBody p item) fuel) (fun B _ _ => ItemsR (Q B)) := by
  intro fuel
  refine ⟨good_peekWhileLoop _ (good_itemsBody p item hitem.1) fuel, ?_⟩
  induction fuel with
  | zero => intro s a s' _ _ _ h; simp [peekWhileLoop, PI.outOfFuel] at h
  | succ fuel ih =>
    intro s a s' w he _ h hnd
    unfold peekWhileLoop at h
    obtain ⟨ko, sP, hp, h2⟩ := bind_dec peek _ s s' () h
    obtain ⟨o, p', hko⟩ := peek_obs s sP ko w hp
    subst hko
    have heP : EofEnd sP := eofEnd_eat he p'.eat (by intro x hx; cases hx)
    have stop : s' = sP → AccRes E s s' (ItemsR (Q (Exact.bud s))) := by
      intro e
      rw [e]
      exact ⟨[], (by rw [p'.toks]; rfl), (by intro x hx; cases hx), heP, Or.inl ⟨[], TokIs.nil, [], rfl, (by intro i hi; cases hi)⟩⟩
    cases o with
    | none =>
      simp only [Option.map_none] at h2
      rw [run_pure] at h2
      injection h2 with _ h2
      exact stop h2.symm
    | some t =>
      simp only [Option.map_some] at h2
      have h3 := getCurrent_dec _ sP s' () h2
      obtain ⟨b, sB, hb, h4⟩ := bind_dec (itemsBody p item t.kind) _ sP s' () h3
      unfold itemsBody at hb
      by_cases hpk : p t.kind = true
      · simp only [hpk, if_true] at hb
        obtain ⟨_, sI, hi, hb2⟩ := bind_dec item _ sP sB b hb
        obtain ⟨rfl, rfl⟩ := pure_dec hb2
        simp only [if_true] at h4
        have h5 := getCurrent_dec _ sI s' () h4
        have aI := hitem.1 sP () sI p'.w hi
        by_cases hsame : (sP.current == sI.current) = true
        · simp only [hsame, if_true] at h5
          exact absurd h5 (stuck_not_ok _ _ _)
        · simp only [hsame, Bool.false_eq_true, if_false] at h5
          have hndI : ¬ Doomed sI := fun d => hnd ((good_peekWhileLoop _ (good_itemsBody p item hitem.1) fuel sI () s' aI.w h5).doom d)
          have hq : KindP p (Toks sP) := ⟨t, by rw [p'.toks]; exact p'.head.symm, hpk⟩
          have r1 := hitem.2 sP () sI p'.w heP hq hi hndI
          have ⟨_, _, _, e1, _⟩ := r1
          have r2 := ih sI () s' aI.w e1 trivial h5 hnd
          rw [Exact.bud_adv aI] at r2
          rw [Exact.bud_peek p'] at r1 r2
          have r := (AccRes.seq hE hndI r1 r2).mono (L' := ItemsR (Q (Exact.bud s))) (by
            rintro x ⟨x1, x2, rfl, hq1, items, rfl, hall⟩
            exact ⟨x1 :: items, rfl, List.forall_mem_cons.mpr ⟨hq1, hall⟩⟩)
          obtain ⟨cs, a1, a2⟩ := r
          exact ⟨cs, by rw [← p'.toks]; exact a1, a2⟩
      · simp only [hpk, Bool.false_eq_true, if_false] at hb
        obtain ⟨rfl, rfl⟩ := pure_dec hb
        simp only [Bool.false_eq_true, if_false] at h4
        rw [run_pure] at h4
        injection h4 with _ h4
        exact stop h4.symm

theorem accQ_itemsWhile {E : PState → Prop} (hE : Early E) {H : List Tok → Prop} (p : Kind → Bool) (item : PI Unit)
    (Q : Nat → List Ast.Tok → Prop) (hitem : AccQ E (KindP p) item (fun B _ _ => Q B)) :
    AccQ E H (peekWhile (itemsBody p item)) (fun B _ _ => ItemsR (Q B)) := by
  have hl := accQ_itemsLoop hE p item Q hitem
  refine ⟨good_peekWhile _ (good_itemsBody p item hitem.1), ?_⟩
  intro s a s' w he _ h hnd
  unfold peekWhile at h
  obtain ⟨fuel, h5⟩ := srcLen_dec _ s s' () h
  exact (hl _).2 s () s' w he trivial h5 hnd

theorem acc_itemsWhile {E : PState → Prop} (hE : Early E) {H : List Tok → Prop} (p : Kind → Bool) (item : PI Unit) (Q : List Ast.Tok → Prop)
    (hitem : Acc E (KindP p) item (fun _ => Q)) :
    Acc E H (peekWhile (itemsBody p item)) (fun _ => ItemsR Q) :=
  accQ_itemsWhile hE p item (fun _ => Q) hitem

theorem accQ_kindWhile {E : PState → Prop} (hE : Early E) {H : List Tok → Prop} (k : Kind) (item : PI Unit)
    (Q : Nat → List Ast.Tok → Prop) (hitem : AccQ E (KindP (· == k)) item (fun B _ _ => Q B)) :
    AccQ E H (peekWhileKind k item) (fun B _ _ => ItemsR (Q B)) := by
  refine ⟨good_peekWhileKind k item hitem.1, ?_⟩
  intro s a s' w he _ h hnd
  have hspec : Exact.ItemSpecB (Exact.bud s) E k item (Q (Exact.bud s)) := by
    intro s1 s2 t rest w1 he1 hB ht hk hr hnd2
    rw [← hB]
    exact hitem.2 s1 () s2 w1 he1 ⟨t, by rw [ht]; rfl, by simp [hk]⟩ hr hnd2
  obtain ⟨cs, a1, a2, a3, a4⟩ := Exact.peekWhileKind_sound _ E hE.carries k item _ hitem.1 hspec s s' w he rfl h hnd
  exact ⟨cs, a1, a2, a3, a4.imp (fun ⟨items, hi, hall⟩ => ⟨_, hi, items, rfl, hall⟩) id⟩

theorem acc_kindWhile {E : PState → Prop} (hE : Early E) {H : List Tok → Prop} (k : Kind) (item : PI Unit) (Q : List Ast.Tok → Prop)
    (hitem : Acc E (KindP (· == k)) item (fun _ => Q)) :
    Acc E H (peekWhileKind k item) (fun _ => ItemsR Q) :=
  accQ_kindWhile hE k item (fun _ => Q) hitem

end Apollo.Parse
