import ApolloModel.Proofs.ParserDef19
import ApolloModel.Proofs.ParserSel9
import ApolloModel.Model.Name
import ApolloModel.Proofs.ParserStrQ
/-
C08 (pipeline): the acceptance calculus extended to the syntax tree.

`Tr E H m R`: `m` is `Good`, and every error-free run of `m` from an `Inv` state whose queue satisfies `H` and the
lexer facts `LQ` consumes tokens `cs` from the front of the queue and APPENDS elements `added` to the children vector of the rowan builder such
that `R a (sig cs) (sigE added)` — `sig cs` the consumed tokens without the ignored ones, `sigE added` the appended
elements without the "junk" tokens (`WHITESPACE`, `COMMENT`, `COMMA`, and the `ERROR` / `UNREACHABLE` tokens a
flush of the pending list may produce) — or the run stopped early in a state satisfying `E`.

The relation `R` is over PARSER tokens (kind, text, position); the grammar statements have the form
`∃ ast, TokIs cs (tX ast) ∧ Spec ast elems`.

Leaf nodes are described exactly: a node opened on a significant token whose body is one `bump` has that token as its
only child (no junk in front of it): `NAME[IDENT]`, `INT_VALUE[INT]`, ….  This matters because `from_cst.rs` reads such
nodes through `first_token` and, in cst/node_ext.rs, `text_of_first_token`.
-/
set_option linter.unusedSimpArgs false
set_option linter.unusedVariables false

namespace Apollo.Parse
open Apollo.Rowan hiding Str
open Apollo.Lex hiding Str

/-! ### junk elements -/

def isJunkKind (k : SK) : Bool :=
  k == "WHITESPACE" || k == "COMMENT" || k == "COMMA" || k == "ERROR" || k == "UNREACHABLE"

def isJunk : Elem → Bool
  | .tok k _ => isJunkKind k
  | .node _ _ => false

/-- the appended elements that matter: everything but junk tokens (top level only) -/
def sigE (es : List Elem) : List Elem := es.filter (fun e => !isJunk e)

theorem sigE_append (a b : List Elem) : sigE (a ++ b) = sigE a ++ sigE b := by simp [sigE]

theorem sigE_nil : sigE [] = [] := rfl

theorem isJunk_pendingElem (p : Pending) : isJunk (pendingElem p) = true := by
  cases p with
  | ignored t => cases hk : t.kind <;> simp [pendingElem, isJunk, isJunkKind, hk]
  | error d => simp [pendingElem, isJunk, isJunkKind]

theorem sigE_pending (ps : List Pending) : sigE (ps.map pendingElem) = [] := by
  induction ps with
  | nil => rfl
  | cons p ps ih =>
    simp only [List.map_cons, sigE, List.filter_cons, isJunk_pendingElem, Bool.not_true, Bool.false_eq_true, if_false]
    exact ih

theorem sigE_node (k : SK) (cs : List Elem) : sigE [Elem.node k cs] = [Elem.node k cs] := by simp [sigE, isJunk]

theorem sigE_tok (k : SK) (d : Str) (h : isJunkKind k = false) : sigE [Elem.tok k d] = [Elem.tok k d] := by
  simp [sigE, isJunk, h]

/-! ### lexer facts about the queue -/

def NameQ (q : List Tok) : Prop := ∀ t ∈ q, t.kind = .name → isValidName t.data = true

/-- the lexer facts the calculus carries along: `LexQ` (text starting like a name ⇒ Name token), `NameQ`, and
    `StrQ` (every String token is decoded by `String::from(&cst::StringValue)`) -/
def LQ (q : List Tok) : Prop := LexQ q ∧ NameQ q ∧ StrQ q

theorem LQ.suffix {cs q : List Tok} (h : LQ (cs ++ q)) : LQ q :=
  ⟨h.1.suffix, fun t ht => h.2.1 t (List.mem_append_right _ ht), fun t ht => h.2.2 t (List.mem_append_right _ ht)⟩

def TokFact (t : Tok) : Prop :=
  (t.kind = .name → isValidName t.data = true) ∧
  (t.kind = .stringValue → (Strs.decodeStringToken t.data).isSome = true)

theorem LQ.fact {q : List Tok} (h : LQ q) (t : Tok) (ht : t ∈ q) : TokFact t := ⟨h.2.1 t ht, h.2.2 t ht⟩

theorem LQ.of_eq {q q' : List Tok} (h : LQ q) (e : q' = q) : LQ q' := e ▸ h

/-! ### the judgement -/

@[reducible] def TrRes (E : PState → Prop) (s s' : PState) (L : List Tok → List Elem → Prop) : Prop :=
  ∃ cs added, Toks s = cs ++ Toks s' ∧ NoEof cs ∧ EofEnd s' ∧ s'.builder.children = s.builder.children ++ added ∧
    (L (sig cs) (sigE added) ∨ E s')

def Tr {α : Type} (E : PState → Prop) (H : List Tok → Prop) (m : PI α) (R : α → List Tok → List Elem → Prop) : Prop :=
  Good m ∧ ∀ s a s', TW s → Inv s → EofEnd s → LQ (Toks s) → H (Toks s) → m.run s = .ok a s' → ¬ Doomed s' → TrRes E s s' (R a)

theorem Tr.good {α : Type} {E H} {m : PI α} {R} (h : Tr E H m R) : Good m := h.1

theorem Tr.mono {α : Type} {E : PState → Prop} {H H' : List Tok → Prop} {m : PI α} {R R' : α → List Tok → List Elem → Prop}
    (h : Tr E H m R) (hH : ∀ q, H' q → H q) (hR : ∀ a x e, R a x e → R' a x e) : Tr E H' m R' := by
  refine ⟨h.1, ?_⟩
  intro s a s' w hi he hlq hq hr hnd
  obtain ⟨cs, ad, a1, a2, a3, a4, a5⟩ := h.2 s a s' w hi he hlq (hH _ hq) hr hnd
  refine ⟨cs, ad, a1, a2, a3, a4, ?_⟩
  rcases a5 with r | e
  · exact Or.inl (hR a _ _ r)
  · exact Or.inr e

theorem run_inv_added {α : Type} (m : PI α) (s : PState) (hi : Inv s) (a : α) (s' : PState) (h : m.run s = .ok a s') :
    Inv s' ∧ ∃ added, s'.builder.children = s.builder.children ++ added := by
  have := m.ok s hi
  simp only [h, Post] at this
  exact ⟨this.1, this.2.children⟩

def Keeps {α : Type} (m : PI α) : Prop := ∀ s a s', m.run s = .ok a s' → s'.builder = s.builder

theorem keeps_pure {α : Type} (a : α) : Keeps (pure a : PI α) := by
  intro s a' s' h
  rw [run_pure] at h
  injection h with _ h
  rw [← h]

theorem keeps_bind {α β : Type} (m : PI α) (f : α → PI β) (hm : Keeps m) (hf : ∀ a, Keeps (f a)) : Keeps (m >>= f) := by
  intro s b s'' h
  rw [run_bind] at h
  cases hr : m.run s with
  | ok a s1 =>
    rw [hr] at h
    simp only [] at h
    rw [hf a s1 b s'' h, hm s a s1 hr]
  | abort w => rw [hr] at h; cases h
  | panic msg => rw [hr] at h; cases h

theorem keeps_ite {α : Type} (c : Bool) (a b : PI α) (ha : Keeps a) (hb : Keeps b) : Keeps (if c then a else b) := by
  cases c <;> simp [ha, hb]

theorem keeps_peekToken : Keeps peekToken := by
  intro s o s' h
  unfold peekToken at h
  simp only [] at h
  cases hc : s.current with
  | some t =>
    simp only [hc, Res.ok.injEq] at h
    rw [← h.2]
  | none =>
    simp only [hc, Res.ok.injEq] at h
    rw [← h.2]
    exact (nextToken_spec s).builder

theorem keeps_peek : Keeps peek := keeps_bind _ _ keeps_peekToken (fun _ => keeps_pure _)
theorem keeps_peekData : Keeps peekData := keeps_bind _ _ keeps_peekToken (fun _ => keeps_pure _)

theorem keeps_moveCurToPending : Keeps moveCurToPending := by
  intro s b s' h
  unfold moveCurToPending at h
  simp only [] at h
  cases hc : s.current with
  | none => simp only [hc, Res.ok.injEq] at h; rw [← h.2]
  | some t =>
    simp only [hc] at h
    split at h
    · simp only [Res.ok.injEq] at h; rw [← h.2]
    · simp only [Res.ok.injEq] at h; rw [← h.2]

theorem keeps_skipIgnoredLoop : ∀ fuel, Keeps (skipIgnoredLoop fuel)
  | 0 => by intro s a s' h; simp [skipIgnoredLoop, PI.outOfFuel] at h
  | fuel + 1 => by
    unfold skipIgnoredLoop
    refine keeps_bind _ _ keeps_peekToken (fun _ => keeps_bind _ _ keeps_moveCurToPending (fun b => ?_))
    cases b
    · exact keeps_pure _
    · exact keeps_skipIgnoredLoop fuel

theorem keeps_srcLen : Keeps srcLen := by
  intro s a s' h
  unfold srcLen at h
  simp only [Res.ok.injEq] at h
  rw [← h.2]

theorem keeps_skipIgnored : Keeps skipIgnored := keeps_bind _ _ keeps_srcLen (fun _ => keeps_skipIgnoredLoop _)

theorem keeps_pushErr (e : PErr) : Keeps (pushErr e) := by
  intro s a s' h
  unfold pushErr errUpdate at h
  simp only [Res.ok.injEq] at h
  rw [← h.2]

theorem keeps_errAtToken (t : Tok) : Keeps (errAtToken t) := keeps_pushErr _

theorem keeps_err : Keeps err := by
  unfold err
  refine keeps_bind _ _ keeps_peekToken (fun o => ?_)
  cases o with
  | none => first | exact keeps_pure _ | exact keeps_pushErr _
  | some t => first | exact keeps_pushErr _ | exact keeps_errAtToken _

theorem keeps_getCurrent : Keeps getCurrent := by
  intro s a s' h
  unfold getCurrent at h
  simp only [Res.ok.injEq] at h
  rw [← h.2]

/-! ### lifting `Acc` facts -/

theorem tr_keep {α : Type} {E : PState → Prop} {H : List Tok → Prop} {m : PI α} {R : α → List Ast.Tok → Prop}
    (h : Acc E H m R) (hk : Keeps m) : Tr E H m (fun a cs e => (∃ x, TokIs cs x ∧ R a x) ∧ e = []) := by
  refine ⟨h.1, ?_⟩
  intro s a s' w hi he hlq hq hr hnd
  obtain ⟨cs, a1, a2, a3, a4⟩ := h.2 s a s' w he hq hr hnd
  refine ⟨cs, [], a1, a2, a3, by rw [hk s a s' hr]; simp, ?_⟩
  rcases a4 with ⟨x, hx, hR⟩ | e
  · exact Or.inl ⟨⟨x, hx, hR⟩, rfl⟩
  · exact Or.inr e

/-- an `Acc` fact saying that no error-free run exists (`err`, `err_and_pop`, …) -/
theorem tr_never {α : Type} {E : PState → Prop} {H : List Tok → Prop} {m : PI α} {R : α → List Tok → List Elem → Prop}
    (h : Acc E H m (fun _ _ => False)) : Tr E H m R := by
  refine ⟨h.1, ?_⟩
  intro s a s' w hi he hlq hq hr hnd
  obtain ⟨cs, a1, a2, a3, a4⟩ := h.2 s a s' w he hq hr hnd
  obtain ⟨_, added, hadd⟩ := run_inv_added m s hi a s' hr
  refine ⟨cs, added, a1, a2, a3, hadd, ?_⟩
  rcases a4 with ⟨x, _, hf⟩ | e
  · exact absurd hf id
  · exact Or.inr e

theorem tr_absurd {α : Type} {E : PState → Prop} {H : List Tok → Prop} {m : PI α} {R : α → List Tok → List Elem → Prop}
    (hg : Good m) (hH : ∀ q, H q → False) : Tr E H m R :=
  ⟨hg, fun s _ _ _ _ _ _ hq _ _ => absurd hq (hH (Toks s))⟩

theorem tr_err {E : PState → Prop} {H : List Tok → Prop} {R : Unit → List Tok → List Elem → Prop} : Tr E H err R :=
  tr_never acc_err

theorem tr_errAndPop {E : PState → Prop} {H : List Tok → Prop} {R : Unit → List Tok → List Elem → Prop} : Tr E H errAndPop R :=
  tr_never acc_errAndPop

/-! ### structure -/

theorem tr_pure {α : Type} (E : PState → Prop) (H : List Tok → Prop) (a : α) :
    Tr E H (pure a : PI α) (fun a' cs e => a' = a ∧ cs = [] ∧ e = []) := by
  refine ⟨good_pure a, ?_⟩
  intro s a' s' w hi he _ _ hr _
  rw [run_pure] at hr
  injection hr with h1 h2
  subst h1 h2
  exact ⟨[], [], rfl, (by intro x hx; cases hx), he, by simp, Or.inl ⟨rfl, rfl, rfl⟩⟩

theorem tr_bind {α β : Type} {E : PState → Prop} (hE : Early E) {H : List Tok → Prop} {m : PI α} {f : α → PI β}
    {R1 : α → List Tok → List Elem → Prop} {R2 : α → β → List Tok → List Elem → Prop}
    (h1 : Tr E H m R1) (h2 : ∀ a, Tr E (fun _ => True) (f a) (R2 a)) :
    Tr E H (m >>= f) (fun b cs e => ∃ a c1 c2 e1 e2, cs = c1 ++ c2 ∧ e = e1 ++ e2 ∧ R1 a c1 e1 ∧ R2 a b c2 e2) := by
  refine ⟨good_bind _ _ h1.1 (fun a => (h2 a).1), ?_⟩
  intro s b s'' w hi he hlq hq hr hnd
  obtain ⟨a, s', hr1, hr2⟩ := bind_dec m f s s'' b hr
  have ad := h1.1 s a s' w hr1
  have hi' := (run_inv_added m s hi a s' hr1).1
  have hnd' : ¬ Doomed s' := fun d => hnd (((h2 a).1 s' b s'' ad.w hr2).doom d)
  obtain ⟨c1, d1, t1, n1, e1, b1, r1⟩ := h1.2 s a s' w hi he hlq hq hr1 hnd'
  obtain ⟨c2, d2, t2, n2, e2, b2, r2⟩ := (h2 a).2 s' b s'' ad.w hi' e1 (LQ.suffix (cs := c1) (by rw [← t1]; exact hlq)) trivial hr2 hnd
  refine ⟨c1 ++ c2, d1 ++ d2, by rw [t1, t2, List.append_assoc], noEof_append n1 n2, e2,
    by rw [b2, b1, List.append_assoc], ?_⟩
  rcases r1 with r1 | ev
  · rcases r2 with r2 | ev2
    · exact Or.inl ⟨a, sig c1, sig c2, sigE d1, sigE d2, sig_append _ _, sigE_append _ _, r1, r2⟩
    · exact Or.inr ev2
  · exact Or.inr (hE.carries s' s'' c2 e1 hnd' ev t2 n2)

theorem tr_peek {α : Type} {E : PState → Prop} {H : List Tok → Prop} {f : Option Kind → PI α} {R : α → List Tok → List Elem → Prop}
    (h : ∀ k, Tr E (fun q => H q ∧ q.head?.map (·.kind) = k) (f k) R) : Tr E H (peek >>= f) R := by
  refine ⟨good_bind _ _ good_peek (fun k => (h k).1), ?_⟩
  intro s a s' w hi he hlq hq hr hnd
  obtain ⟨k, sP, hp, h2⟩ := bind_dec peek f s s' a hr
  obtain ⟨o, p, hk⟩ := peek_obs s sP k w hp
  have heP : EofEnd sP := eofEnd_eat he p.eat (by intro x hx; cases hx)
  have hiP := (run_inv_added peek s hi k sP hp).1
  have hqP : H (Toks sP) ∧ (Toks sP).head?.map (·.kind) = k := by
    rw [p.toks]; exact ⟨hq, by rw [← p.head]; exact hk.symm⟩
  obtain ⟨cs, ad, a1, a2, a3, a4, a5⟩ := (h k).2 sP a s' p.w hiP heP (hlq.of_eq p.toks) hqP h2 hnd
  exact ⟨cs, ad, by rw [← p.toks]; exact a1, a2, a3, by rw [a4, keeps_peek s k sP hp], a5⟩

theorem tr_peekToken {α : Type} {E : PState → Prop} {H : List Tok → Prop} {f : Option Tok → PI α} {R : α → List Tok → List Elem → Prop}
    (h : ∀ o, Tr E (fun q => H q ∧ q.head? = o) (f o) R) : Tr E H (peekToken >>= f) R := by
  refine ⟨good_bind _ _ good_peekToken (fun k => (h k).1), ?_⟩
  intro s a s' w hi he hlq hq hr hnd
  obtain ⟨o, sP, hp, h2⟩ := bind_dec peekToken f s s' a hr
  have p := peekToken_obs s sP o w hp
  have heP : EofEnd sP := eofEnd_eat he p.eat (by intro x hx; cases hx)
  have hiP := (run_inv_added peekToken s hi o sP hp).1
  have hqP : H (Toks sP) ∧ (Toks sP).head? = o := by
    rw [p.toks]; exact ⟨hq, p.head.symm⟩
  obtain ⟨cs, ad, a1, a2, a3, a4, a5⟩ := (h o).2 sP a s' p.w hiP heP (hlq.of_eq p.toks) hqP h2 hnd
  exact ⟨cs, ad, by rw [← p.toks]; exact a1, a2, a3, by rw [a4, keeps_peekToken s o sP hp], a5⟩

theorem tr_peekData {α : Type} {E : PState → Prop} {H : List Tok → Prop} {f : Option Str → PI α} {R : α → List Tok → List Elem → Prop}
    (h : ∀ o : Option Tok, Tr E (fun q => H q ∧ q.head? = o) (f (o.map (·.data))) R) : Tr E H (peekData >>= f) R := by
  refine ⟨good_bind _ _ good_peekData (fun d => ?_), ?_⟩
  · intro s a s' w hr
    cases d with
    | none => exact (h none).1 s a s' w hr
    | some d => exact (h (some ⟨.name, d, 0⟩)).1 s a s' w hr
  intro s a s' w hi he hlq hq hr hnd
  obtain ⟨d, sP, hp, h2⟩ := bind_dec peekData f s s' a hr
  obtain ⟨o, sQ, hp1, hp2⟩ := bind_dec peekToken _ s sP d hp
  rw [run_pure] at hp2
  injection hp2 with hd hs
  subst hs hd
  have p := peekToken_obs s sQ o w hp1
  have heP : EofEnd sQ := eofEnd_eat he p.eat (by intro x hx; cases hx)
  have hiP := (run_inv_added peekToken s hi o sQ hp1).1
  have hqP : H (Toks sQ) ∧ (Toks sQ).head? = o := by
    rw [p.toks]; exact ⟨hq, p.head.symm⟩
  obtain ⟨cs, ad, a1, a2, a3, a4, a5⟩ := (h o).2 sQ a s' p.w hiP heP (hlq.of_eq p.toks) hqP h2 hnd
  exact ⟨cs, ad, by rw [← p.toks]; exact a1, a2, a3, by rw [a4, keeps_peekToken s o sQ hp1], a5⟩

theorem tr_ite {α : Type} {E H} (c : Bool) {a b : PI α} {R : α → List Tok → List Elem → Prop}
    (ha : c = true → Tr E H a R) (hb : c = false → Tr E H b R) : Tr E H (if c then a else b) R := by
  cases c
  · simpa using hb rfl
  · simpa using ha rfl

/-! ### nodes -/

theorem withNode_tree {α : Type} (kind : SK) (body : PI α) (s : PState) (hi : Inv s) (a : α) (s' : PState)
    (hr : (withNode kind body).run s = .ok a s') :
    ∃ s1 s2 inner, ObsEq s s1 ∧ Inv s1 ∧ s1.pending = [] ∧ (skipIgnored >>= fun _ => body).run s1 = .ok a s2 ∧ ObsEq s2 s' ∧
      s2.builder.children = s1.builder.children ++ inner ∧
      s'.builder.children = s.builder.children ++ s.pending.map pendingElem ++ [Elem.node kind inner] := by
  have h1 := pushIgnored.ok s hi
  have e1 : pushIgnored.run s = .ok () { s with builder := { s.builder with children := s.builder.children ++ s.pending.map pendingElem }, pending := [] } := rfl
  simp only [e1, Post] at h1
  obtain ⟨hi1, _⟩ := h1
  simp only [withNode, e1] at hr
  have hi1' : Inv (rawStartNode kind { s with builder := { s.builder with children := s.builder.children ++ s.pending.map pendingElem }, pending := [] }) := by
    refine ⟨hi1.text, ?_, hi1.lexDone, hi1.eofTok, hi1.errNonempty⟩
    intro p hp
    simp only [rawStartNode, Builder.startNode, List.mem_cons] at hp ⊢
    rcases hp with rfl | hp
    · exact Nat.le_refl _
    · exact hi1.parents p hp
  have h2 := (skipIgnored >>= fun _ => body).ok _ hi1'
  cases hr2 : (skipIgnored >>= fun _ => body).run (rawStartNode kind { s with builder := { s.builder with children := s.builder.children ++ s.pending.map pendingElem }, pending := [] }) with
  | abort w => simp [hr2] at hr
  | panic m => simp [hr2] at hr
  | ok a2 s2 =>
    simp only [hr2, Post] at h2 hr
    obtain ⟨_, hf2⟩ := h2
    have hp : s2.builder.parents = (kind, (s.builder.children ++ s.pending.map pendingElem).length) :: s.builder.parents := by
      rw [hf2.parents]; rfl
    obtain ⟨added, hadd⟩ := hf2.children
    simp only [rawStartNode, Builder.startNode] at hadd
    simp only [Builder.finishNode, hp, Res.ok.injEq] at hr
    obtain ⟨rfl, rfl⟩ := hr
    refine ⟨rawStartNode kind { s with builder := { s.builder with children := s.builder.children ++ s.pending.map pendingElem }, pending := [] },
      s2, added, ⟨rfl, rfl, rfl, rfl, rfl, rfl⟩, hi1', rfl, hr2, ⟨rfl, rfl, rfl, rfl, rfl, rfl⟩, hadd, ?_⟩
    simp only [hadd]
    have ht : List.take (s.builder.children ++ s.pending.map pendingElem).length
        (s.builder.children ++ s.pending.map pendingElem ++ added) = s.builder.children ++ s.pending.map pendingElem :=
      List.take_left' rfl
    have hd : List.drop (s.builder.children ++ s.pending.map pendingElem).length
        (s.builder.children ++ s.pending.map pendingElem ++ added) = added :=
      List.drop_left' rfl
    rw [ht, hd]

theorem eofEnd_obs {s s' : PState} (he : EofEnd s) (o : ObsEq s s') : EofEnd s' :=
  eofEnd_same _ _ he o.current o.lx o.errors

/-- a node: everything the body appends becomes the children of ONE new element.  `start_node` skips the ignored tokens
    `ign` in front; `hH` says what is then known of the queue the body starts on -/
theorem tr_withNodeG {α : Type} {E : PState → Prop} (hE : Early E) {H H' : List Tok → Prop} (K : SK) {body : PI α}
    {R : α → List Tok → List Elem → Prop}
    (hH : ∀ ign q, (∀ t ∈ ign, isIgnoredKind t.kind = true) → H (ign ++ q) → H' q) (h : Tr E H' body R) :
    Tr E H (withNode K body) (fun a cs e => ∃ inner, e = [Elem.node K inner] ∧ R a cs (sigE inner)) := by
  refine ⟨good_withNode K body h.1, ?_⟩
  intro s a s' w hi he hlq hq hr hnd
  obtain ⟨s0, s2, inner, o0, hi0, _, hr2, o2, hin, hout⟩ := withNode_tree K body s hi a s' hr
  obtain ⟨_, s1, hs, hb⟩ := bind_dec skipIgnored _ s0 s2 a hr2
  obtain ⟨ign, e, hall, _⟩ := skipIgnored_spec s0 s1 (o0.w w) hs
  have e01 : Eat s s1 ign := by simpa using (Eat.ofObsEq o0 w).trans e
  have he1 : EofEnd s1 := eofEnd_eat he e01 (noEof_ignored ign hall)
  have hi1 := (run_inv_added skipIgnored s0 hi0 () s1 hs).1
  have hnd2 : ¬ Doomed s2 := fun d => hnd (o2.doomed.mpr d)
  obtain ⟨cs, ad, a1, a2, a3, a4, a5⟩ := h.2 s1 a s2 e01.w hi1 he1 (LQ.suffix (cs := ign) (by rw [← e01.toks]; exact hlq))
    (hH ign _ hall (by rw [← e01.toks]; exact hq)) hb hnd2
  have hk1 : s1.builder = s0.builder := keeps_skipIgnored s0 () s1 hs
  have hinner : inner = ad := by
    rw [hk1] at a4
    rw [a4] at hin
    exact (List.append_cancel_left hin).symm
  subst hinner
  refine ⟨ign ++ cs, s.pending.map pendingElem ++ [Elem.node K inner], ?_, noEof_append (noEof_ignored ign hall) a2,
    eofEnd_obs a3 o2, by rw [hout, List.append_assoc], ?_⟩
  · rw [e01.toks, a1, o2.toks, List.append_assoc]
  · rcases a5 with r | ev
    · left
      rw [sig_append, sig_ignored ign hall, List.nil_append, sigE_append, sigE_pending, List.nil_append, sigE_node]
      exact ⟨inner, rfl, r⟩
    · exact Or.inr (hE.toks s2 s' o2.toks ev)

theorem tr_withNodeAny {α : Type} {E : PState → Prop} (hE : Early E) {H : List Tok → Prop} (K : SK) {body : PI α}
    {R : α → List Tok → List Elem → Prop} (h : Tr E (fun _ => True) body R) :
    Tr E H (withNode K body) (fun a cs e => ∃ inner, e = [Elem.node K inner] ∧ R a cs (sigE inner)) :=
  tr_withNodeG hE K (fun _ _ _ _ => trivial) h

/-- the same, the head of the queue being known (it is significant, so `start_node` skips nothing) -/
theorem tr_withNode {α : Type} {E : PState → Prop} (hE : Early E) {H : List Tok → Prop} (K : SK) {body : PI α}
    {R : α → List Tok → List Elem → Prop}
    (hsig : ∀ q, H q → ∃ t rest, q = t :: rest ∧ isIgnoredKind t.kind = false)
    (h : Tr E H body R) :
    Tr E H (withNode K body) (fun a cs e => ∃ inner, e = [Elem.node K inner] ∧ R a cs (sigE inner)) := by
  refine tr_withNodeG hE K (fun ign q hall hq => ?_) h
  obtain ⟨t, rest, ht, hni⟩ := hsig _ hq
  cases ign with
  | nil => exact hq
  | cons x ign =>
    injection ht with hx _
    have hx' := hall x List.mem_cons_self
    rw [hx, hni] at hx'
    cases hx'

/-! ### tokens -/

theorem pushIgnored_children (s s' : PState) (h : pushIgnored.run s = .ok () s') :
    s'.builder.children = s.builder.children ++ s.pending.map pendingElem ∧ s'.pending = [] := by
  have e1 : pushIgnored.run s = .ok () { s with builder := { s.builder with children := s.builder.children ++ s.pending.map pendingElem }, pending := [] } := rfl
  rw [e1] at h
  injection h with _ h
  subst h
  exact ⟨rfl, rfl⟩

theorem moveCurToTree_children (kind : SK) (s s' : PState) (t : Tok) (hc : s.current = some t)
    (h : (moveCurToTree kind).run s = .ok () s') :
    s'.builder.children = s.builder.children ++ s.pending.map pendingElem ++ [Elem.tok kind t.data] := by
  unfold moveCurToTree at h
  simp only [hc] at h
  injection h with _ h
  subst h
  rfl

theorem eat_children (kind : SK) (s s' : PState) (w : TW s) (t : Tok) (rest : List Tok) (ht : Toks s = t :: rest)
    (h : (eat kind).run s = .ok () s') :
    ∃ junk, sigE junk = [] ∧ s'.builder.children = s.builder.children ++ junk ++ [Elem.tok kind t.data] := by
  unfold eat at h
  obtain ⟨_, s1, h1, h2⟩ := bind_dec pushIgnored _ s s' () h
  have o1 := pushIgnored_obs s s1 h1
  obtain ⟨c1, p1⟩ := pushIgnored_children s s1 h1
  obtain ⟨o, s2, h3, h4⟩ := bind_dec peekToken _ s1 s' () h2
  have p := peekToken_obs s1 s2 o (o1.w w) h3
  have ho : o = some t := by rw [p.head, o1.toks, ht]; rfl
  subst ho
  have hb2 : s2.builder = s1.builder := keeps_peekToken s1 _ s2 h3
  have := moveCurToTree_children kind s2 s' t p.current h4
  refine ⟨s.pending.map pendingElem ++ s2.pending.map pendingElem, by rw [sigE_append, sigE_pending, sigE_pending]; rfl, ?_⟩
  rw [this, hb2, c1]
  simp [List.append_assoc]

theorem keeps_bump_skip (kind : SK) (s s1 s' : PState) (h2 : skipIgnored.run s1 = .ok () s') : s'.builder = s1.builder :=
  keeps_skipIgnored s1 () s' h2

theorem tr_bump {E : PState → Prop} (k : SK) (hk : isJunkKind k = false) (P : Tok → Prop)
    (hP : ∀ t, P t → isIgnoredKind t.kind = false ∧ t.kind ≠ .eof) :
    Tr E (HeadP P) (bump k) (fun _ cs e => ∃ t, P t ∧ TokFact t ∧ cs = [t] ∧ e = [Elem.tok k t.data]) := by
  refine ⟨good_bump k, ?_⟩
  intro s a s' w hi he hlq ⟨t, hh, hp⟩ hr _
  obtain ⟨hni, hne⟩ := hP t hp
  have ht := toks_head_cons s t hh
  obtain ⟨ign, e, hall, _⟩ := bump_spec k s s' w t _ ht hr
  unfold bump at hr
  obtain ⟨_, s1, h1, h2⟩ := bind_dec (eat k) _ s s' () hr
  obtain ⟨junk, hj, hc⟩ := eat_children k s s1 w t _ ht h1
  refine ⟨t :: ign, junk ++ [Elem.tok k t.data], e.toks, noEof_cons hne hall, eofEnd_eat he e (noEof_cons hne hall),
    by rw [keeps_skipIgnored s1 () s' h2, hc, List.append_assoc], Or.inl ⟨t, hp, hlq.fact t (by rw [ht]; exact List.mem_cons_self ..), ?_, ?_⟩⟩
  · have : t :: ign = [t] ++ ign := rfl
    rw [this, sig_append, sig_ignored ign hall, sig_single t hni]; rfl
  · rw [sigE_append, hj, sigE_tok k t.data hk]; rfl

/-- `eat` (no `skip_ignored` afterwards) -/
theorem tr_eat {E : PState → Prop} (k : SK) (hk : isJunkKind k = false) (P : Tok → Prop)
    (hP : ∀ t, P t → isIgnoredKind t.kind = false ∧ t.kind ≠ .eof) :
    Tr E (HeadP P) (eat k) (fun _ cs e => ∃ t, P t ∧ TokFact t ∧ cs = [t] ∧ e = [Elem.tok k t.data]) := by
  refine ⟨good_eat k, ?_⟩
  intro s a s' w hi he hlq ⟨t, hh, hp⟩ hr _
  obtain ⟨hni, hne⟩ := hP t hp
  have ht := toks_head_cons s t hh
  have e1 : Eat s s' [t] := by
    rcases eat_spec k s s' w hr with ⟨t', rest', hq, e, _⟩ | ⟨hq, _⟩
    · rw [ht] at hq; injection hq with hq _; subst hq; exact e
    · rw [ht] at hq; cases hq
  obtain ⟨junk, hj, hc⟩ := eat_children k s s' w t _ ht hr
  have hno : NoEof [t] := by intro x hx; simp at hx; subst hx; exact hne
  refine ⟨[t], junk ++ [Elem.tok k t.data], e1.toks, hno, eofEnd_eat he e1 hno, by rw [hc, List.append_assoc],
    Or.inl ⟨t, hp, hlq.fact t (by rw [ht]; exact List.mem_cons_self ..), sig_single t hni, ?_⟩⟩
  rw [sigE_append, hj, sigE_tok k t.data hk]; rfl

/-- `next_token` only adds to the pending list when it records a (lexer) error -/
theorem nextTokenRaw_pending : ∀ (fuel : Nat) (s : PState),
    ∃ l, (nextTokenRaw fuel s).2.errors = s.errors ++ l ∧ (l = [] → (nextTokenRaw fuel s).2.pending = s.pending)
  | 0, s => ⟨[], by simp [nextTokenRaw], fun _ => rfl⟩
  | fuel + 1, s => by
    unfold nextTokenRaw
    cases hn : lexNext s.lx with
    | mk o l' =>
      cases o with
      | none => exact ⟨[], by simp, fun _ => rfl⟩
      | some out =>
        cases out with
        | tok t => exact ⟨[], by simp, fun _ => rfl⟩
        | err d i =>
          simp only []
          obtain ⟨l, h1, _⟩ := nextTokenRaw_pending fuel { s with
            lx := l', pending := if d.isEmpty then s.pending else s.pending ++ [.error d],
            errors := s.errors ++ [⟨i, utf8Len d, .lexer⟩] }
          refine ⟨[⟨i, utf8Len d, .lexer⟩] ++ l, by rw [h1]; simp [List.append_assoc], ?_⟩
          intro h; simp at h
        | limit i =>
          simp only []
          obtain ⟨l, h1, _⟩ := nextTokenRaw_pending fuel { s with lx := l', acceptErrors := false, errors := s.errors ++ [⟨i, 0, .limit⟩] }
          refine ⟨[⟨i, 0, .limit⟩] ++ l, by rw [h1]; simp [List.append_assoc], ?_⟩
          intro h; simp at h

theorem peekToken_pending (s s' : PState) (o : Option Tok) (h : peekToken.run s = .ok o s') (hnd : ¬ Doomed s') :
    s'.pending = s.pending := by
  unfold peekToken at h
  simp only [] at h
  cases hc : s.current with
  | some t =>
    simp only [hc, Res.ok.injEq] at h
    rw [← h.2]
  | none =>
    simp only [hc, Res.ok.injEq] at h
    obtain ⟨l, h1, h2⟩ := nextTokenRaw_pending (s.lx.src.length + 3) s
    have he : s'.errors = s.errors ++ l := by rw [← h.2]; exact h1
    have hl : l = [] := by
      cases l with
      | nil => rfl
      | cons a b => exact absurd (Or.inl (by rw [he]; simp)) hnd
    rw [← h.2]
    exact h2 hl

/-- `skip_ignored` when the head of the queue is significant: it only loads that token -/
theorem skipIgnored_sig (s s' : PState) (w : TW s) (t : Tok) (rest : List Tok) (ht : Toks s = t :: rest)
    (hni : isIgnoredKind t.kind = false) (h : skipIgnored.run s = .ok () s') :
    peekToken.run s = .ok (some t) s' := by
  unfold skipIgnored at h
  obtain ⟨n, s1, h1, h2⟩ := bind_dec srcLen _ s s' () h
  have : s1 = s := by
    unfold srcLen at h1
    simp only [] at h1
    injection h1 with _ h1
    exact h1.symm
  subst this
  unfold skipIgnoredLoop at h2
  obtain ⟨o, s2, h3, h4⟩ := bind_dec peekToken _ s1 s' () h2
  have p := peekToken_obs s1 s2 o w h3
  have ho : o = some t := by rw [p.head, ht]; rfl
  subst ho
  obtain ⟨b, s3, h5, h6⟩ := bind_dec moveCurToPending _ s2 s' () h4
  have hm : b = false ∧ s3 = s2 := by
    unfold moveCurToPending at h5
    simp only [p.current, hni, Bool.false_eq_true, if_false, Res.ok.injEq] at h5
    exact ⟨h5.1.symm, h5.2.symm⟩
  obtain ⟨rfl, rfl⟩ := hm
  simp only [Bool.false_eq_true, if_false] at h6
  rw [run_pure] at h6
  injection h6 with _ h6
  subst h6
  exact h3

theorem eat_exact (kind : SK) (s s' : PState) (t : Tok) (hc : s.current = some t) (hp : s.pending = [])
    (h : (eat kind).run s = .ok () s') :
    s'.builder.children = s.builder.children ++ [Elem.tok kind t.data] := by
  unfold eat at h
  obtain ⟨_, s1, h1, h2⟩ := bind_dec pushIgnored _ s s' () h
  have o1 := pushIgnored_obs s s1 h1
  obtain ⟨c1, p1⟩ := pushIgnored_children s s1 h1
  have hc1 : s1.current = some t := by rw [o1.current]; exact hc
  obtain ⟨o, s2, h3, h4⟩ := bind_dec peekToken _ s1 s' () h2
  have h32 : s2 = s1 := by
    unfold peekToken at h3
    simp only [hc1, Res.ok.injEq] at h3
    exact h3.2.symm
  subst h32
  have := moveCurToTree_children kind s2 s' t hc1 h4
  rw [this, p1, c1, hp]
  simp

/-- a body that, started on a current token with nothing pending, moves exactly that token into the tree -/
def LeafBody {α : Type} (body : PI α) (k : SK) (r : α) : Prop :=
  Good body ∧ ∀ s a s' t, TW s → s.current = some t → s.pending = [] → body.run s = .ok a s' →
    a = r ∧ (∃ ign, Eat s s' (t :: ign) ∧ ∀ x ∈ ign, isIgnoredKind x.kind = true) ∧
      s'.builder.children = s.builder.children ++ [Elem.tok k t.data]

theorem toks_of_current (s : PState) (t : Tok) (hc : s.current = some t) : Toks s = t :: toksOf (stream s.lx) := by
  simp [Toks, hc]

theorem leafBody_bump (k : SK) : LeafBody (bump k) k () := by
  refine ⟨good_bump k, ?_⟩
  intro s a s' t w hc hp hr
  obtain ⟨ign, e, hall, _⟩ := bump_spec k s s' w t _ (toks_of_current s t hc) hr
  unfold bump at hr
  obtain ⟨_, s3, h3, h4⟩ := bind_dec (eat k) _ s s' () hr
  have hc3 := eat_exact k s s3 t hc hp h3
  exact ⟨rfl, ⟨ign, e, hall⟩, by rw [keeps_skipIgnored s3 () s' h4, hc3]⟩

theorem leafBody_eat {α : Type} (k : SK) (r : α) : LeafBody (eat k >>= fun _ => (pure r : PI α)) k r := by
  refine ⟨good_bind _ _ (good_eat k) (fun _ => good_pure _), ?_⟩
  intro s a s' t w hc hp hr
  obtain ⟨_, s3, h3, h4⟩ := bind_dec (eat k) _ s s' a hr
  rw [run_pure] at h4
  injection h4 with h4 h5
  subst h5
  have ht := toks_of_current s t hc
  have e1 : Eat s s3 [t] := by
    rcases eat_spec k s s3 w h3 with ⟨t', rest', hq, e, _⟩ | ⟨hq, _⟩
    · rw [ht] at hq; injection hq with hq _; subst hq; exact e
    · rw [ht] at hq; cases hq
  exact ⟨h4.symm, ⟨[], e1, by intro x hx; cases hx⟩, eat_exact k s s3 t hc hp h3⟩

/-- **leaf nodes**: `start_node(K); body` with a `LeafBody` on a significant token `t` appends (after the junk that
    was pending) exactly `K[k(t.data)]` -/
theorem tr_leafG {α : Type} {E : PState → Prop} (K k : SK) (hk : isJunkKind k = false) (body : PI α) (r : α)
    (hbody : LeafBody body k r) (P : Tok → Prop)
    (hP : ∀ t, P t → isIgnoredKind t.kind = false ∧ t.kind ≠ .eof) :
    Tr E (HeadP P) (withNode K body)
      (fun a cs e => a = r ∧ ∃ t, P t ∧ TokFact t ∧ cs = [t] ∧
        e = [Elem.node K [Elem.tok k t.data]]) := by
  refine ⟨good_withNode K _ hbody.1, ?_⟩
  intro s a s' w hi he hlq ⟨t, hh, hp⟩ hr hnd
  obtain ⟨hni, hne⟩ := hP t hp
  have ht := toks_head_cons s t hh
  obtain ⟨s0, s2, inner, o0, hi0, hp0, hr2, o2, hin, hout⟩ := withNode_tree K body s hi a s' hr
  obtain ⟨_, s1, hs, hb⟩ := bind_dec skipIgnored _ s0 s2 a hr2
  have w0 := o0.w w
  have ht0 : Toks s0 = t :: (Toks s).tail := by rw [o0.toks]; exact ht
  have hpk := skipIgnored_sig s0 s1 w0 t _ ht0 hni hs
  have p1 := peekToken_obs s0 s1 _ w0 hpk
  have hnd2 : ¬ Doomed s2 := fun d => hnd (o2.doomed.mpr d)
  have hnd1 : ¬ Doomed s1 := fun d => hnd2 ((hbody.1 s1 a s2 p1.w hb).doom d)
  have hp1 : s1.pending = [] := by rw [peekToken_pending s0 s1 _ hpk hnd1]; exact hp0
  have hb1 : s1.builder = s0.builder := keeps_peekToken s0 _ s1 hpk
  obtain ⟨hres, ⟨ign, e12, hall⟩, hc3⟩ := hbody.2 s1 a s2 t p1.w p1.current hp1 hb
  have hinner : inner = [Elem.tok k t.data] := by
    rw [hc3, hb1] at hin
    exact (List.append_cancel_left hin).symm
  subst hinner
  have e02 : Eat s s2 (t :: ign) := by simpa using ((Eat.ofObsEq o0 w).trans p1.eat).trans e12
  refine ⟨t :: ign, s.pending.map pendingElem ++ [Elem.node K [Elem.tok k t.data]], ?_, noEof_cons hne hall,
    eofEnd_obs (eofEnd_eat he e02 (noEof_cons hne hall)) o2, by rw [hout, List.append_assoc],
    Or.inl ⟨hres, t, hp, hlq.fact t (by rw [ht]; exact List.mem_cons_self ..), ?_, ?_⟩⟩
  · rw [e02.toks, o2.toks]
  · have : t :: ign = [t] ++ ign := rfl
    rw [this, sig_append, sig_ignored ign hall, sig_single t hni]; rfl
  · rw [sigE_append, sigE_pending, sigE_node]; rfl

theorem tr_leaf {E : PState → Prop} (K k : SK) (hk : isJunkKind k = false) (P : Tok → Prop)
    (hP : ∀ t, P t → isIgnoredKind t.kind = false ∧ t.kind ≠ .eof) :
    Tr E (HeadP P) (withNode K (bump k))
      (fun _ cs e => ∃ t, P t ∧ TokFact t ∧ cs = [t] ∧
        e = [Elem.node K [Elem.tok k t.data]]) :=
  (tr_leafG K k hk (bump k) () (leafBody_bump k) P hP).mono (fun _ h => h) (fun _ _ _ h => h.2)

def nameNode (d : Str) : Elem := .node "NAME" [.tok "IDENT" d]

/-- **`name::name`**: a Name token `t` (valid GraphQL name), appended as `NAME[IDENT(t.data)]` -/
theorem tr_name {E : PState → Prop} {H : List Tok → Prop} :
    Tr E H name (fun _ cs e => ∃ t, t.kind = .name ∧ isValidName t.data = true ∧ cs = [t] ∧ e = [nameNode t.data]) := by
  unfold name
  apply tr_peekToken
  intro o
  cases o with
  | none => exact tr_err
  | some t =>
    simp only []
    refine tr_ite _ (fun hk => ?_) (fun _ => tr_err)
    have hk' : t.kind = .name := by simpa using hk
    refine (tr_leaf "NAME" "IDENT" (by decide) (fun t' => t' = t)
      (by rintro t' rfl; rw [hk']; exact ⟨rfl, by decide⟩)).mono ?_ ?_
    · rintro q ⟨_, hh⟩; exact ⟨t, hh, rfl⟩
    · rintro _ cs e ⟨t', rfl, hv, hcs, he⟩
      exact ⟨t', hk', hv.1 hk', hcs, he⟩

end Apollo.Parse
