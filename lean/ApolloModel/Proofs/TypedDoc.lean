import ApolloModel.Model.TypedDoc
/-
Property C18 on the typed document of Model/TypedDoc.lean.  Typing: what `buildDocT` annotates is what the schema
says (`annotated`), and no kept field has a sub-selection on a leaf type.  Iterators: the explicit-stack loop of
`root_fields` / `all_fields` (`run`) yields exactly the fields of the recursive walk that enters each named fragment
once (`dfs`), for every document, cyclic or not.
-/
namespace Apollo.Typed
open Apollo.Standalone

/-! ### typing -/

/-- the property's annotation rule, checked on a typed selection set whose own type is `parent` -/
def annotated (s : TSchema) : Name → TSels → Bool
  | _, .nil => true
  | parent, .field name d ty sub rest =>
    (typeField s parent name == .ok d) && (ty == d.ty) && annotated s ty sub && annotated s parent rest
  | parent, .spread _ rest => annotated s parent rest
  | parent, .inline tc ty sub rest => (ty == tc.getD parent) && annotated s ty sub && annotated s parent rest

/-- no field of the built document has a sub-selection on a scalar or enum type -/
def noLeafSub (s : TSchema) : TSels → Bool
  | .nil => true
  | .field _ _ ty sub rest => !(!sub.isNil && leafType s ty) && noLeafSub s sub && noLeafSub s rest
  | .spread _ rest => noLeafSub s rest
  | .inline _ _ sub rest => noLeafSub s sub && noLeafSub s rest

theorem buildT_isNil (s : TSchema) (parent : Name) (t : Sels) (h : t.isNil = true) : (buildT s parent t).isNil = true := by
  cases t <;> simp_all [Sels.isNil, buildT, TSels.isNil]

theorem buildT_typed (s : TSchema) (t : Sels) :
    ∀ parent, annotated s parent (buildT s parent t) = true ∧ noLeafSub s (buildT s parent t) = true := by
  induction t with
  | nil => intro p; exact ⟨rfl, rfl⟩
  | field name dirs args sub rest ihs ihr =>
    intro p
    simp only [buildT]
    cases h : typeField s p name with
    | ok d =>
      simp only
      split
      · exact ihr p
      · next hc =>
        -- a kept field of leaf type had an empty sub-selection, and that is built to an empty one
        have hl : (!(buildT s d.ty sub).isNil && leafType s d.ty) = false := by
          cases hl : leafType s d.ty
          · simp
          · have hn : sub.isNil = true := by simpa [hl] using hc
            simp [buildT_isNil s d.ty sub hn]
        simp [annotated, noLeafSub, h, ihs, ihr, hl]
    | noSuchField => exact ihr p
    | noSuchType => exact ihr p
  | spread f dirs rest ihr => intro p; simpa [buildT, annotated, noLeafSub] using ihr p
  | inline tc dirs sub rest ihs ihr =>
    intro p
    cases tc with
    | none => simp [buildT, annotated, noLeafSub, ihs, ihr]
    | some t =>
      simp only [buildT]
      split
      · exact ihr p
      · simp [annotated, noLeafSub, ihs, ihr]

theorem buildT_annotated (s : TSchema) (t : Sels) : ∀ parent, annotated s parent (buildT s parent t) = true :=
  fun parent => (buildT_typed s t parent).1

theorem buildT_noLeafSub (s : TSchema) (t : Sels) : ∀ parent, noLeafSub s (buildT s parent t) = true :=
  fun parent => (buildT_typed s t parent).2

structure DocTyped (s : TSchema) (ast : Ast) (doc : TDoc) : Prop where
  ops : ∀ o, o ∈ doc.ops → s.root o.opType = some o.ty ∧ annotated s o.ty o.sels = true ∧ noLeafSub s o.sels = true
  frags : ∀ f, f ∈ doc.frags → annotated s f.ty f.sels = true ∧ noLeafSub s f.sels = true ∧
    (s.findType f.ty).isSome = true ∧ ∃ g, Def.frag g ∈ ast ∧ g.name = f.name ∧ g.tc = f.ty

theorem buildOpT_typed (s : TSchema) (o : Op) (o' : TOp) (h : buildOpT s o = some o') :
    s.root o'.opType = some o'.ty ∧ annotated s o'.ty o'.sels = true ∧ noLeafSub s o'.sels = true := by
  unfold buildOpT at h
  cases hr : s.root o.ty with
  | none => simp [hr] at h
  | some t =>
    simp only [hr, Option.some.injEq] at h
    subst h
    exact ⟨hr, buildT_annotated s o.sels t, buildT_noLeafSub s o.sels t⟩

theorem buildDefT_typed (s : TSchema) (ast : Ast) (doc : TDoc) (d : Def) (hd : d ∈ ast) (h : DocTyped s ast doc) :
    DocTyped s ast (buildDefT s doc d) := by
  cases d with
  | typeSystem => simpa [buildDefT] using h
  | op o =>
    -- the only change an operation makes: `ops` gains the operation built from it
    have hnew : ∀ o' doc', buildOpT s o = some o' → doc'.frags = doc.frags → (∀ q ∈ doc'.ops, q ∈ doc.ops ∨ q = o') →
        DocTyped s ast doc' :=
      fun o' doc' hb hf hq => ⟨fun q hq' => (hq q hq').elim (h.ops q) (· ▸ buildOpT_typed s o o' hb), hf ▸ h.frags⟩
    simp only [buildDefT]
    cases o.name with
    | some n =>
      simp only
      split
      · exact h
      · cases hb : buildOpT s o with
        | none => exact h
        | some o' => exact hnew o' _ hb rfl fun q hq => by simpa [TDoc.ops, or_assoc] using hq
    | none =>
      simp only
      split
      · exact h
      · split
        · exact h
        · cases hb : buildOpT s o with
          | none => exact h
          | some o' =>
            refine hnew o' _ hb rfl fun q hq => ?_
            simp only [TDoc.ops, List.mem_append, Option.toList_some, List.mem_singleton] at hq ⊢
            exact hq.elim .inr fun hq => .inl (.inr hq)
  | frag f =>
    simp only [buildDefT]
    split
    · exact h
    · split
      · exact h
      · next _ hk =>
        refine ⟨fun q hq => h.ops q (by simpa [TDoc.ops] using hq), ?_⟩
        intro q hq
        simp only [List.mem_append, List.mem_singleton] at hq
        rcases hq with hq | hq
        · exact h.frags q hq
        · subst hq
          refine ⟨buildT_annotated s f.sels f.tc, buildT_noLeafSub s f.sels f.tc, ?_, f, hd, rfl, rfl⟩
          cases hq : s.findType f.tc <;> simp [hq] at hk ⊢

theorem buildDocT_typed (s : TSchema) (ast : Ast) : DocTyped s ast (buildDocT s ast) :=
  List.foldlRecOn ast (buildDefT s) ⟨by intro o ho; simp [TDoc.ops] at ho, by intro f hf; simp at hf⟩
    fun doc h d hd => buildDefT_typed s ast doc d hd h

/-! ### the iterators -/

/-- `fragments_seen` holds pairwise distinct names of defined fragments -/
def SeenInv (doc : TDoc) (seen : List Name) : Prop := seen.Nodup ∧ ∀ x ∈ seen, x ∈ doc.frags.map (·.name)

theorem seenInv_length_le (doc : TDoc) (seen : List Name) (h : SeenInv doc seen) : seen.length ≤ doc.frags.length := by
  have := List.Nodup.length_le_of_subset h.1 (fun x hx => h.2 x hx)
  simpa using this

theorem seenInv_cons (doc : TDoc) (seen : List Name) (f : Name) (d : TFrag) (h : SeenInv doc seen)
    (hf : doc.findFrag f = some d) (hv : ¬ f ∈ seen) : SeenInv doc (f :: seen) := by
  refine ⟨List.nodup_cons.mpr ⟨hv, h.1⟩, fun x hx => ?_⟩
  rcases List.mem_cons.mp hx with rfl | hx
  · have hn := List.find?_some hf
    exact List.mem_map.mpr ⟨d, List.mem_of_find?_eq_some hf, eq_of_beq hn⟩
  · exact h.2 x hx

/-- The declarative specification (no fuel): the recursive depth-first walk of a selection set that enters
    each named fragment once, at its first occurrence; `all = false` does not descend into fields. -/
inductive Walk (doc : TDoc) (all : Bool) : TSels → List Name → List Item → List Name → Prop where
  | nil (seen : List Name) : Walk doc all .nil seen [] seen
  | fieldAll (name : Name) (d : FDef) (ty : Name) (sub rest : TSels) (seen s1 s2 : List Name) (o1 o2 : List Item) :
      all = true → Walk doc all sub seen o1 s1 → Walk doc all rest s1 o2 s2 →
      Walk doc all (.field name d ty sub rest) seen ((name, ty) :: o1 ++ o2) s2
  | fieldRoot (name : Name) (d : FDef) (ty : Name) (sub rest : TSels) (seen s2 : List Name) (o2 : List Item) :
      all = false → Walk doc all rest seen o2 s2 →
      Walk doc all (.field name d ty sub rest) seen ((name, ty) :: o2) s2
  | inline (tc : Option Name) (ty : Name) (sub rest : TSels) (seen s1 s2 : List Name) (o1 o2 : List Item) :
      Walk doc all sub seen o1 s1 → Walk doc all rest s1 o2 s2 →
      Walk doc all (.inline tc ty sub rest) seen (o1 ++ o2) s2
  | spreadUndefined (f : Name) (rest : TSels) (seen s2 : List Name) (o2 : List Item) :
      doc.findFrag f = none → Walk doc all rest seen o2 s2 → Walk doc all (.spread f rest) seen o2 s2
  | spreadSeen (f : Name) (rest : TSels) (seen s2 : List Name) (o2 : List Item) :
      f ∈ seen → Walk doc all rest seen o2 s2 → Walk doc all (.spread f rest) seen o2 s2
  | spreadNew (f : Name) (g : TFrag) (rest : TSels) (seen s1 s2 : List Name) (o1 o2 : List Item) :
      doc.findFrag f = some g → ¬ f ∈ seen → Walk doc all g.sels (f :: seen) o1 s1 → Walk doc all rest s1 o2 s2 →
      Walk doc all (.spread f rest) seen (o1 ++ o2) s2

/-- `e` (a walk of a fragment body) is simulated by the loop whenever at least `K` fragments are marked -/
def Sim (doc : TDoc) (all : Bool) (K : Nat) (e : TSels → List Name → List Item × List Name × Nat) : Prop :=
  ∀ body seen, SeenInv doc seen → K ≤ seen.length →
    (∀ st m, run doc all ((e body seen).2.2 + m) (body :: st) seen = (e body seen).1 ++ run doc all m st (e body seen).2.1) ∧
      SeenInv doc (e body seen).2.1 ∧ seen.length ≤ (e body seen).2.1.length ∧
      Walk doc all body seen (e body seen).1 (e body seen).2.1

theorem run_succ (doc : TDoc) (all : Bool) (k m : Nat) (stack : List TSels) (seen : List Name) :
    run doc all (1 + k + m) stack seen = run doc all ((k + m) + 1) stack seen := by
  congr 1; omega

theorem dfsSels_sim (doc : TDoc) (all : Bool) (K : Nat) (e : TSels → List Name → List Item × List Name × Nat)
    (he : Sim doc all (K + 1) e) : Sim doc all K (dfsSels all doc.find e) := by
  intro t
  induction t with
  | nil =>
    intro seen hi hk
    refine ⟨?_, hi, Nat.le_refl _, by simpa [dfsSels] using Walk.nil seen⟩
    intro st m
    simp only [dfsSels, List.nil_append]
    rw [show 1 + m = m + 1 by omega]
    simp [run]
  | field name d ty sub rest ihs ihr =>
    intro seen hi hk
    by_cases hc : (all && !sub.isNil) = true
    · obtain ⟨a1, a2, a3, a4⟩ := ihs seen hi hk
      obtain ⟨b1, b2, b3, b4⟩ := ihr _ a2 (Nat.le_trans hk a3)
      have hall : all = true := by cases all <;> simp_all
      simp only [dfsSels, hc, ↓reduceIte]
      refine ⟨?_, b2, Nat.le_trans a3 b3, Walk.fieldAll _ _ _ _ _ _ _ _ _ _ hall a4 b4⟩
      intro st m
      rw [Nat.add_assoc, run_succ]
      simp only [run, hc, ↓reduceIte]
      rw [a1, b1]
      simp
    · obtain ⟨b1, b2, b3, b4⟩ := ihr seen hi hk
      simp only [dfsSels, hc, Bool.false_eq_true, ↓reduceIte]
      have hw : Walk doc all (.field name d ty sub rest) seen ((name, ty) :: (dfsSels all doc.find e rest seen).1)
          (dfsSels all doc.find e rest seen).2.1 := by
        rcases Bool.eq_false_or_eq_true all with hall | hall
        · have hn : sub = .nil := by
            cases sub <;> simp_all [TSels.isNil]
          subst hn
          have := Walk.fieldAll name d ty .nil rest seen seen _ [] _ hall (Walk.nil seen) b4
          simpa using this
        · exact Walk.fieldRoot _ _ _ _ _ _ _ _ hall b4
      refine ⟨?_, b2, b3, hw⟩
      intro st m
      rw [run_succ]
      simp only [run, hc, Bool.false_eq_true, ↓reduceIte]
      rw [b1]
      simp
  | inline tc ty sub rest ihs ihr =>
    intro seen hi hk
    obtain ⟨a1, a2, a3, a4⟩ := ihs seen hi hk
    obtain ⟨b1, b2, b3, b4⟩ := ihr _ a2 (Nat.le_trans hk a3)
    simp only [dfsSels]
    refine ⟨?_, b2, Nat.le_trans a3 b3, Walk.inline _ _ _ _ _ _ _ _ _ a4 b4⟩
    intro st m
    rw [Nat.add_assoc, run_succ]
    simp only [run]
    rw [a1, b1]
    simp
  | spread f rest ihr =>
    intro seen hi hk
    cases hf : doc.findFrag f with
    | none =>
      obtain ⟨b1, b2, b3, b4⟩ := ihr seen hi hk
      have hfind : doc.find f = none := by simp [TDoc.find, hf]
      simp only [dfsSels, hfind]
      refine ⟨?_, b2, b3, Walk.spreadUndefined _ _ _ _ _ hf b4⟩
      intro st m
      rw [run_succ]
      simp only [run, hf]
      rw [b1]
    | some d =>
      have hfind : doc.find f = some d.sels := by simp [TDoc.find, hf]
      by_cases hv : f ∈ seen
      · obtain ⟨b1, b2, b3, b4⟩ := ihr seen hi hk
        simp only [dfsSels, hfind, hv, ↓reduceIte]
        refine ⟨?_, b2, b3, Walk.spreadSeen _ _ _ _ _ hv b4⟩
        intro st m
        rw [run_succ]
        simp only [run, hf, hv, ↓reduceIte]
        rw [b1]
      · have hi' := seenInv_cons doc seen f d hi hf hv
        obtain ⟨a1, a2, a3, a4⟩ := he d.sels (f :: seen) hi' (by simp; omega)
        have a3' : seen.length ≤ (e d.sels (f :: seen)).2.1.length := by simp at a3; omega
        obtain ⟨b1, b2, b3, b4⟩ := ihr _ a2 (Nat.le_trans hk a3')
        simp only [dfsSels, hfind, hv, ↓reduceIte]
        refine ⟨?_, b2, Nat.le_trans a3' b3, Walk.spreadNew _ _ _ _ _ _ _ _ hf hv a4 b4⟩
        intro st m
        rw [Nat.add_assoc, run_succ]
        simp only [run, hf, hv, ↓reduceIte]
        rw [a1, b1]
        simp

theorem dfsFrag_sim (doc : TDoc) (all : Bool) (k : Nat) :
    Sim doc all (doc.frags.length + 1 - k) (dfsFrag all doc.find k) := by
  induction k with
  | zero =>
    intro body seen hi hk
    have := seenInv_length_le doc seen hi
    omega
  | succ k ih =>
    have ih' : Sim doc all ((doc.frags.length - k) + 1) (dfsFrag all doc.find k) := by
      intro body seen hi hk
      exact ih body seen hi (by omega)
    have := dfsSels_sim doc all (doc.frags.length - k) _ ih'
    intro body seen hi hk
    simp only [dfsFrag]
    exact this body seen hi (by omega)

/-- the walk of a whole selection set: fuel = the number of fragment definitions, nothing seen at the start -/
theorem dfs_sim (doc : TDoc) (all : Bool) (t : TSels) :
    (∀ st m, run doc all ((dfs doc all t).2.2 + m) (t :: st) [] = (dfs doc all t).1 ++ run doc all m st (dfs doc all t).2.1) ∧
      SeenInv doc (dfs doc all t).2.1 ∧ Walk doc all t [] (dfs doc all t).1 (dfs doc all t).2.1 := by
  have hg : Sim doc all (0 + 1) (dfsFrag all doc.find doc.frags.length) := by
    simpa using dfsFrag_sim doc all doc.frags.length
  have h := dfsSels_sim doc all 0 _ hg t [] ⟨List.nodup_nil, fun _ h => (nomatch h)⟩ (Nat.le_refl _)
  exact ⟨h.1, h.2.1, h.2.2.2⟩

/-- the loop, given the specification's number of turns (or more), yields the specification's fields -/
theorem run_eq_dfs (doc : TDoc) (all : Bool) (t : TSels) (m : Nat) :
    run doc all ((dfs doc all t).2.2 + m) [t] [] = (dfs doc all t).1 := by
  rw [(dfs_sim doc all t).1 [] m]
  cases m <;> simp [run]

/-! ### the specification only visits each named fragment once, and only defined ones -/

theorem dfs_walk (doc : TDoc) (all : Bool) (t : TSels) : Walk doc all t [] (dfs doc all t).1 (dfs doc all t).2.1 :=
  (dfs_sim doc all t).2.2

theorem dfs_seen_inv (doc : TDoc) (all : Bool) (t : TSels) : SeenInv doc (dfs doc all t).2.1 :=
  (dfs_sim doc all t).2.1

end Apollo.Typed
