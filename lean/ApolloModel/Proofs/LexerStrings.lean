import ApolloModel.Proofs.LexerNumbers
/-
C03, quoted strings, comments, whitespace, spread: the DFA against Spec/Lexical.lean.
-/
set_option linter.unusedSimpArgs false
namespace Apollo.Lex
open Apollo.Spec.Lexical (StringChars IsQuotedString)

/-- the lexer's documented relaxation: every character counts as a SourceCharacter -/
def anyChar : Char → Bool := fun _ => true

def q3 : Str := ['"', '"', '"']

/-! ### character classes -/
theorem lexLT_iff (c : Char) : isLineTerminator c = true ↔ (c.toNat = 10 ∨ c.toNat = 13) := by
  simp [isLineTerminator]
theorem specLT_eq (c : Char) : Spec.Lexical.isLineTerminator c = isLineTerminator c := by
  simp only [Spec.Lexical.isLineTerminator, isLineTerminator, char_beq, Char.reduceToNat]
theorem specEsc_eq (c : Char) : Spec.Lexical.isEscapedCharacter c = isEscapedChar c := by
  simp only [Spec.Lexical.isEscapedCharacter, isEscapedChar, char_beq, Char.reduceToNat]
theorem specHex_eq (c : Char) : Spec.Lexical.isHexDigit c = isAsciiHexDigit c := by
  rw [Bool.eq_iff_iff]
  simp only [Spec.Lexical.isHexDigit, Spec.Lexical.isDigit, isAsciiHexDigit, isAsciiDigit, Bool.or_eq_true,
    Bool.and_eq_true, decide_eq_true_eq, char_le_iff, Char.reduceToNat]
  omega

/-! ### StringCharacter* is closed under appending one more StringCharacter -/
theorem sc_append {src : Char → Bool} {a b : Str} (ha : StringChars src a) (hb : StringChars src b) :
    StringChars src (a ++ b) := by
  induction ha with
  | nil => simpa using hb
  | plain h1 h2 h3 h4 _ ih => exact StringChars.plain h1 h2 h3 h4 ih
  | escaped h1 _ ih => exact StringChars.escaped h1 ih
  | unicode h1 h2 h3 h4 _ ih => exact StringChars.unicode h1 h2 h3 h4 ih

/-! ### (A) a pending error never becomes a token -/
def isQuotedBody : State → Bool
  | .stringLiteral | .stringLiteralBackslash | .stringLiteralEscapedUnicode _ => true
  | _ => false

def pendingOk (a : Action) : Prop :=
  match a with
  | .goto st' _ e' => isQuotedBody st' = true ∧ e' = true
  | .incl (.tok _) => False
  | .excl (.tok _) => False
  | _ => True

theorem step_pending (st : State) (k : Kind) (acc : Str) (c : Char) (h : isQuotedBody st = true) :
    pendingOk (step st k true acc c) := by
  cases st <;> simp [isQuotedBody] at h
  all_goals
    simp only [step, done]
    repeat' split
    all_goals simp [pendingOk, isQuotedBody]

theorem runD_pending : ∀ (src : Str) (st : State) (k : Kind) (acc : Str), isQuotedBody st = true →
    (runD st k true acc src).1.isErr = true
  | [], st, k, acc, h => by cases st <;> simp [isQuotedBody] at h <;> rfl
  | c :: src, st, k, acc, h => by
    have hp := step_pending st k acc c h
    unfold runD
    cases hs : step st k true acc c with
    | goto st' k' e' =>
      simp only [hs, pendingOk] at hp ⊢
      obtain ⟨h1, rfl⟩ := hp
      exact runD_pending src st' k' (acc ++ [c]) h1
    | incl o => cases o <;> simp [hs, pendingOk, Out.mk, Item.isErr] at hp ⊢
    | excl o => cases o <;> simp [hs, pendingOk, Out.mk, Item.isErr] at hp ⊢

/-! ### (B) block-string states: whatever comes out starts with three quotes -/
def isBlockState : State → Bool
  | .blockStringLiteral | .blockQuote1 | .blockQuote2 | .blockStringLiteralBackslash
  | .blockBackslashQuote1 | .blockBackslashQuote2 => true
  | _ => false

def blockOk (a : Action) : Prop :=
  match a with
  | .goto st' _ _ => isBlockState st' = true
  | .excl _ => False
  | _ => True

theorem blockStep_ok (k : Kind) (e : Bool) (c : Char) : blockOk (blockStep k e c) := by
  unfold blockStep; repeat' split
  all_goals simp [blockOk, isBlockState]

theorem step_block (st : State) (k : Kind) (e : Bool) (acc : Str) (c : Char) (h : isBlockState st = true) :
    blockOk (step st k e acc c) := by
  cases st <;> simp [isBlockState] at h
  all_goals
    simp only [step]
    repeat' split
    all_goals first
      | exact blockStep_ok _ _ _
      | simp [blockOk, isBlockState]

theorem runD_block : ∀ (src : Str) (st : State) (k : Kind) (e : Bool) (tail : Str), isBlockState st = true →
    ∃ tail', (runD st k e (q3 ++ tail) src).1.data = q3 ++ tail'
  | [], st, k, e, tail, h => ⟨tail, by simp [runD, eofItem_data]⟩
  | c :: src, st, k, e, tail, h => by
    have hp := step_block st k e (q3 ++ tail) c h
    unfold runD
    cases hs : step st k e (q3 ++ tail) c with
    | goto st' k' e' =>
      simp only [hs, blockOk] at hp ⊢
      have := runD_block src st' k' e' (tail ++ [c]) hp
      simpa [List.append_assoc] using this
    | incl o => exact ⟨tail ++ [c], by cases o <;> simp [Out.mk, Item.data]⟩
    | excl o => simp [hs, blockOk] at hp

/-- StringCharacter* with the lexer's two documented deviations: any character is a SourceCharacter,
    and a `\uXXXX` escape must not denote a surrogate code point -/
inductive LexStringChars : Str → Prop where
  | nil : LexStringChars []
  | plain {c : Char} {rest : Str} : c ≠ '"' → c ≠ '\\' → Spec.Lexical.isLineTerminator c = false →
      LexStringChars rest → LexStringChars (c :: rest)
  | escaped {c : Char} {rest : Str} : Spec.Lexical.isEscapedCharacter c = true → LexStringChars rest →
      LexStringChars ('\\' :: c :: rest)
  | unicode {a b c d : Char} {rest : Str} : Spec.Lexical.isHexDigit a = true → Spec.Lexical.isHexDigit b = true →
      Spec.Lexical.isHexDigit c = true → Spec.Lexical.isHexDigit d = true →
      isSurrogate (((hexVal a * 16 + hexVal b) * 16 + hexVal c) * 16 + hexVal d) = false →
      LexStringChars rest → LexStringChars ('\\' :: 'u' :: a :: b :: c :: d :: rest)

theorem lastFourHex_snoc4 (x : Str) (a b c d : Char) :
    lastFourHex (x ++ [a, b, c] ++ [d]) = ((hexVal a * 16 + hexVal b) * 16 + hexVal c) * 16 + hexVal d := by
  simp [lastFourHex, List.reverse_append]


theorem lsc_append {a b : Str} (ha : LexStringChars a) (hb : LexStringChars b) : LexStringChars (a ++ b) := by
  induction ha with
  | nil => simpa using hb
  | plain h1 h2 h3 _ ih => exact LexStringChars.plain h1 h2 h3 ih
  | escaped h1 _ ih => exact LexStringChars.escaped h1 ih
  | unicode h1 h2 h3 h4 h5 _ ih => exact LexStringChars.unicode h1 h2 h3 h4 h5 ih

theorem lsc_to_sc {body : Str} (h : LexStringChars body) : StringChars anyChar body := by
  induction h with
  | nil => exact StringChars.nil
  | plain h1 h2 h3 _ ih => exact StringChars.plain rfl h1 h2 h3 ih
  | escaped h1 _ ih => exact StringChars.escaped h1 ih
  | unicode h1 h2 h3 h4 _ _ ih => exact StringChars.unicode h1 h2 h3 h4 ih

/-! ### (C) the quoted-string states with no pending error -/

/-- what has been consumed so far, as a spec-shaped decomposition -/
inductive StrInv : State → Str → Prop where
  | start1 : StrInv .stringLiteralStart ['"']
  | start2 : StrInv .stringLiteralStart2 ['"', '"']
  | lit {body : Str} : LexStringChars body → StrInv .stringLiteral ('"' :: body)
  | bs {body : Str} : LexStringChars body → StrInv .stringLiteralBackslash ('"' :: (body ++ ['\\']))
  | uni {body hs : Str} {n : Nat} : LexStringChars body → (∀ h ∈ hs, isAsciiHexDigit h = true) →
      hs.length + n = 4 → 1 ≤ n → StrInv (.stringLiteralEscapedUnicode n) ('"' :: (body ++ '\\' :: 'u' :: hs))

theorem sc_snoc_plain {body : Str} {c : Char} (hb : LexStringChars body) (h1 : c ≠ '"') (h2 : c ≠ '\\')
    (h3 : isLineTerminator c = false) : LexStringChars (body ++ [c]) :=
  lsc_append hb (LexStringChars.plain h1 h2 (by rw [specLT_eq]; exact h3) LexStringChars.nil)

theorem sc_snoc_escaped {body : Str} {c : Char} (hb : LexStringChars body) (h : isEscapedChar c = true) :
    LexStringChars (body ++ ['\\', c]) :=
  lsc_append hb (LexStringChars.escaped (by rw [specEsc_eq]; exact h) LexStringChars.nil)

theorem sc_snoc_unicode {pre body hs : Str} {c : Char} (hb : LexStringChars body)
    (hhs : ∀ h ∈ hs, isAsciiHexDigit h = true) (hlen : hs.length = 3) (hc : isAsciiHexDigit c = true)
    (hsur : isSurrogate (lastFourHex ((pre ++ hs) ++ [c])) = false) :
    LexStringChars (body ++ '\\' :: 'u' :: (hs ++ [c])) := by
  match hs, hlen with
  | [x, y, z], _ =>
    rw [lastFourHex_snoc4] at hsur
    exact lsc_append hb (LexStringChars.unicode (by rw [specHex_eq]; exact hhs x (by simp))
      (by rw [specHex_eq]; exact hhs y (by simp)) (by rw [specHex_eq]; exact hhs z (by simp))
      (by rw [specHex_eq]; exact hc) hsur LexStringChars.nil)

def IsLexQuoted (t : Str) : Prop := ∃ body, t = '"' :: (body ++ ['"']) ∧ LexStringChars body

theorem lexQuoted_spec {t : Str} (h : IsLexQuoted t) : IsQuotedString anyChar t := by
  obtain ⟨body, rfl, hb⟩ := h
  exact ⟨body, rfl, lsc_to_sc hb⟩

/-- a token the quoted-string machinery may produce: a spec quoted string (with the SourceCharacter
    relaxation), or something that starts with three quotes (a block string) -/
def StrFinal (k : Kind) (t : Str) : Prop :=
  k = .stringValue ∧ (IsLexQuoted t ∨ ∃ tail, t = q3 ++ tail)

theorem quoted_of_body {body : Str} (h : LexStringChars body) : IsLexQuoted ('"' :: body ++ ['"']) :=
  ⟨body, by simp, h⟩

theorem str_sound : ∀ (src : Str) (st : State) (acc : Str), StrInv st acc →
    ∀ k t rest, runD st .stringValue false acc src = (.tok k t, rest) → StrFinal k t
  | [], st, acc, h, k, t, rest, hr => by
    cases h with
    | start2 =>
      simp only [runD, eofItem, Prod.mk.injEq, Item.tok.injEq] at hr
      obtain ⟨⟨rfl, rfl⟩, _⟩ := hr
      exact ⟨rfl, Or.inl ⟨[], rfl, LexStringChars.nil⟩⟩
    | _ => simp [runD, eofItem] at hr
  | c :: src, st, acc, h, k, t, rest, hr => by
    unfold runD at hr
    cases h with
    | start1 =>
      by_cases h1 : c = '"'
      · subst h1
        simp only [step, beq_self_eq_true, if_true] at hr
        exact str_sound src _ _ StrInv.start2 k t rest hr
      · by_cases h2 : c = '\\'
        · subst h2
          simp only [step] at hr
          exact str_sound src _ _ (StrInv.bs (body := []) LexStringChars.nil) k t rest (by simpa using hr)
        · by_cases h3 : isLineTerminator c = true
          · simp only [step, h1, h2, h3, beq_iff_eq, if_false, if_true] at hr
            have := runD_pending src .stringLiteral .stringValue (['"'] ++ [c]) rfl
            rw [hr] at this; simp [Item.isErr] at this
          · simp only [step, h1, h2, h3, beq_iff_eq, if_false, Bool.false_eq_true] at hr
            have hb := sc_snoc_plain (body := []) LexStringChars.nil h1 h2 (by simpa using h3)
            exact str_sound src _ _ (StrInv.lit hb) k t rest (by simpa using hr)
    | start2 =>
      by_cases h1 : c = '"'
      · subst h1
        simp only [step, beq_self_eq_true, if_true] at hr
        have := runD_block src .blockStringLiteral .stringValue false [] rfl
        have hr' : runD .blockStringLiteral .stringValue false (q3 ++ []) src = (.tok k t, rest) := by
          simpa [q3] using hr
        rw [hr'] at this
        obtain ⟨tail', ht⟩ := this
        have hk := runD_keepsKind src .blockStringLiteral .stringValue false (q3 ++ []) rfl (by simp) k t rest hr'
        exact ⟨hk, Or.inr ⟨tail', by simpa [Item.data] using ht⟩⟩
      · simp only [step, h1, beq_iff_eq, if_false, done, Bool.false_eq_true, Out.mk, Prod.mk.injEq,
          Item.tok.injEq] at hr
        obtain ⟨⟨rfl, rfl⟩, _⟩ := hr
        exact ⟨rfl, Or.inl ⟨[], rfl, LexStringChars.nil⟩⟩
    | lit hb =>
      rename_i body
      by_cases h1 : c = '"'
      · subst h1
        simp only [step, beq_self_eq_true, if_true, done, Bool.false_eq_true, if_false, Out.mk,
          Prod.mk.injEq, Item.tok.injEq] at hr
        obtain ⟨⟨rfl, rfl⟩, _⟩ := hr
        exact ⟨rfl, Or.inl (by simpa using quoted_of_body hb)⟩
      · by_cases h3 : isLineTerminator c = true
        · simp only [step, h1, h3, beq_iff_eq, if_false, if_true] at hr
          have := runD_pending src .stringLiteral .stringValue (('"' :: body) ++ [c]) rfl
          rw [hr] at this; simp [Item.isErr] at this
        · by_cases h2 : c = '\\'
          · subst h2
            simp only [step, h1, h3, beq_iff_eq, if_false, Bool.false_eq_true, beq_self_eq_true, if_true] at hr
            exact str_sound src _ _ (StrInv.bs hb) k t rest (by simpa using hr)
          · simp only [step, h1, h2, h3, beq_iff_eq, if_false, Bool.false_eq_true] at hr
            have hb' := sc_snoc_plain hb h1 h2 (by simpa using h3)
            exact str_sound src _ _ (StrInv.lit hb') k t rest (by simpa using hr)
    | bs hb =>
      rename_i body
      by_cases h1 : isEscapedChar c = true
      · simp only [step, h1, if_true] at hr
        have hb' := sc_snoc_escaped hb h1
        exact str_sound src _ _ (StrInv.lit hb') k t rest (by simpa using hr)
      · by_cases h2 : c = 'u'
        · subst h2
          simp only [step, h1, Bool.false_eq_true, if_false, beq_self_eq_true, if_true] at hr
          have := StrInv.uni (hs := []) (n := 4) hb (by simp) rfl (by omega)
          exact str_sound src _ _ this k t rest (by simpa using hr)
        · simp only [step, h1, h2, beq_iff_eq, Bool.false_eq_true, if_false] at hr
          have := runD_pending src .stringLiteral .stringValue (('"' :: (body ++ ['\\'])) ++ [c]) rfl
          rw [hr] at this; simp [Item.isErr] at this
    | uni hb hhs hlen hn =>
      rename_i body hs n
      by_cases h1 : c = '"'
      · subst h1
        simp [step, Out.mk] at hr
      · by_cases h2 : isAsciiHexDigit c = true
        · by_cases h3 : n ≤ 1
          · have hn1 : n = 1 := by omega
            subst hn1
            simp only [step, h1, h2, beq_iff_eq, if_false, Bool.not_true, Bool.false_eq_true,
              Nat.le_refl, if_true, Bool.false_or] at hr
            cases hsur : isSurrogate (lastFourHex (('"' :: (body ++ '\\' :: 'u' :: hs)) ++ [c])) with
            | true =>
              rw [hsur] at hr
              have := runD_pending src .stringLiteral .stringValue (('"' :: (body ++ '\\' :: 'u' :: hs)) ++ [c]) rfl
              rw [hr] at this; simp [Item.isErr] at this
            | false =>
              rw [hsur] at hr
              have hb' := sc_snoc_unicode (pre := '"' :: (body ++ ['\\', 'u'])) hb hhs (by omega) h2 (by simpa using hsur)
              exact str_sound src _ _ (StrInv.lit hb') k t rest (by simpa using hr)
          · simp only [step, h1, h2, h3, beq_iff_eq, if_false, Bool.not_true, Bool.false_eq_true] at hr
            have := StrInv.uni (hs := hs ++ [c]) (n := n - 1) hb
              (by intro x hx; rcases List.mem_append.mp hx with hx | hx
                  · exact hhs x hx
                  · simp at hx; subst hx; exact h2)
              (by simp; omega) (by omega)
            exact str_sound src _ _ this k t rest (by simpa using hr)
        · simp only [step, h1, h2, beq_iff_eq, if_false, Bool.not_false, if_true] at hr
          have := runD_pending src .stringLiteral .stringValue (('"' :: (body ++ '\\' :: 'u' :: hs)) ++ [c]) rfl
          rw [hr] at this; simp [Item.isErr] at this

theorem sc_strict {body : Str} (h : StringChars anyChar body)
    (hs : ∀ c ∈ body, Spec.Lexical.isSourceCharacter c = true) :
    StringChars Spec.Lexical.isSourceCharacter body := by
  induction h with
  | nil => exact StringChars.nil
  | plain _ h2 h3 h4 _ ih =>
    exact StringChars.plain (hs _ (by simp)) h2 h3 h4 (ih fun c hc => hs c (by simp [hc]))
  | escaped h1 _ ih => exact StringChars.escaped h1 (ih fun c hc => hs c (by simp [hc]))
  | unicode h1 h2 h3 h4 _ ih => exact StringChars.unicode h1 h2 h3 h4 (ih fun c hc => hs c (by simp [hc]))

/-! ### completeness for quoted strings -/

theorem hex_not_quote {c : Char} (h : isAsciiHexDigit c = true) : c ≠ '"' := by
  intro e; subst e; simp [isAsciiHexDigit, isAsciiDigit] at h

theorem backslash_escaped (acc : Str) (c : Char) (tail : Str) (h : isEscapedChar c = true) :
    runD .stringLiteralBackslash .stringValue false acc (c :: tail) =
      runD .stringLiteral .stringValue false (acc ++ [c]) tail := by
  simp [runD, step, h]

theorem backslash_unicode (acc : Str) (a b c d : Char) (tail : Str)
    (ha : isAsciiHexDigit a = true) (hb : isAsciiHexDigit b = true) (hc : isAsciiHexDigit c = true)
    (hd : isAsciiHexDigit d = true)
    (hs : isSurrogate (((hexVal a * 16 + hexVal b) * 16 + hexVal c) * 16 + hexVal d) = false) :
    runD .stringLiteralBackslash .stringValue false acc ('u' :: a :: b :: c :: d :: tail) =
      runD .stringLiteral .stringValue false (acc ++ ['u', a, b, c, d]) tail := by
  have hu : isEscapedChar 'u' = false := by decide
  have e : acc ++ ['u'] ++ [a] ++ [b] ++ [c] ++ [d] = (acc ++ ['u']) ++ [a, b, c] ++ [d] := by simp
  simp only [runD, step, hu, Bool.false_eq_true, if_false, beq_self_eq_true, if_true,
    hex_not_quote ha, hex_not_quote hb, hex_not_quote hc, hex_not_quote hd, beq_iff_eq,
    ha, hb, hc, hd, Bool.not_true, Nat.reduceLeDiff, Nat.add_one_sub_one, Nat.le_refl, Bool.false_or]
  rw [e, lastFourHex_snoc4, hs]
  simp

theorem lit_run (rest : Str) : ∀ (body : Str), LexStringChars body → ∀ acc,
    runD .stringLiteral .stringValue false acc (body ++ '"' :: rest) =
      (.tok .stringValue (acc ++ body ++ ['"']), rest) := by
  intro body h
  induction h with
  | nil => intro acc; simp [runD, step, done, Out.mk]
  | plain h1 h2 h3 _ ih =>
    intro acc
    rw [specLT_eq] at h3
    simp only [List.cons_append, runD, step, h1, h2, h3, beq_iff_eq, if_false, Bool.false_eq_true]
    rw [ih]; simp
  | escaped h1 _ ih =>
    intro acc
    rw [specEsc_eq] at h1
    have : step .stringLiteral .stringValue false acc '\\' = .goto .stringLiteralBackslash .stringValue false := by
      simp [step, isLineTerminator]
    simp only [List.cons_append]
    rw [runD, this]
    simp only []
    rw [backslash_escaped _ _ _ h1, ih]; simp
  | unicode ha hb hc hd hs _ ih =>
    intro acc
    rw [specHex_eq] at ha hb hc hd
    have : step .stringLiteral .stringValue false acc '\\' = .goto .stringLiteralBackslash .stringValue false := by
      simp [step, isLineTerminator]
    simp only [List.cons_append]
    rw [runD, this]
    simp only []
    rw [backslash_unicode _ _ _ _ _ _ ha hb hc hd hs, ih]; simp

theorem lex_string_complete (body rest : Str) (hb : LexStringChars body)
    (hl : body = [] → rest.head? ≠ some '"') :
    advance ('"' :: (body ++ '"' :: rest)) = (.tok .stringValue ('"' :: (body ++ ['"'])), rest) := by
  have h0 : step .start .eof false [] '"' = .goto .stringLiteralStart .stringValue false := by
    simp [step, punctuationKind, isNameStart, isAsciiDigit]
  unfold advance
  rw [runD, h0]
  simp only [List.nil_append]
  cases hb with
  | nil =>
    have hl' := hl rfl
    cases rest with
    | nil => simp [runD, step, eofItem]
    | cons c r =>
      have : c ≠ '"' := by intro e; subst e; simp at hl'
      simp [runD, step, this, done, Out.mk]
  | plain h1 h2 h3 ht =>
    rw [specLT_eq] at h3
    simp only [List.cons_append, runD, step, h1, h2, h3, beq_iff_eq, if_false, Bool.false_eq_true]
    rw [lit_run rest _ ht]; simp
  | escaped h1 ht =>
    rw [specEsc_eq] at h1
    have : step .stringLiteralStart .stringValue false ['"'] '\\' = .goto .stringLiteralBackslash .stringValue false := by
      simp [step]
    simp only [List.cons_append]
    rw [runD, this]
    simp only []
    rw [backslash_escaped _ _ _ h1, lit_run rest _ ht]; simp
  | unicode ha hb hc hd hs ht =>
    rw [specHex_eq] at ha hb hc hd
    have : step .stringLiteralStart .stringValue false ['"'] '\\' = .goto .stringLiteralBackslash .stringValue false := by
      simp [step]
    simp only [List.cons_append]
    rw [runD, this]
    simp only []
    rw [backslash_unicode _ _ _ _ _ _ ha hb hc hd hs, lit_run rest _ ht]; simp


theorem advance_block_prefix (r : Str) : ∃ tail', (advance ('"' :: '"' :: '"' :: r)).1.data = q3 ++ tail' := by
  have := runD_block r .blockStringLiteral .stringValue false [] rfl
  simpa [advance, runD, step, punctuationKind, isNameStart, isAsciiDigit, q3] using this

/-! ### comments, whitespace, spread, unexpected characters -/

theorem takeWhile_all (p : Char → Bool) (l : Str) : ∀ c ∈ l.takeWhile p, p c = true := by
  induction l with
  | nil => simp
  | cons a l ih =>
    intro c hc
    by_cases ha : p a = true
    · simp only [List.takeWhile_cons, ha, if_true, List.mem_cons] at hc
      rcases hc with rfl | hc
      · exact ha
      · exact ih c hc
    · simp [List.takeWhile_cons, ha] at hc

theorem dropWhile_head (p : Char → Bool) (l : Str) : ∀ c r, l.dropWhile p = c :: r → p c = false := by
  induction l with
  | nil => simp
  | cons a l ih =>
    intro c r h
    by_cases ha : p a = true
    · simp only [List.dropWhile_cons, ha, if_true] at h; exact ih c r h
    · simp only [List.dropWhile_cons, ha, Bool.false_eq_true, if_false, List.cons.injEq] at h
      rw [← h.1]; simpa using ha

/-- Comment: `#` up to (not including) the next line terminator or the end of input -/
theorem lex_comment (rest : Str) :
    advance ('#' :: rest) = (.tok .comment ('#' :: rest.takeWhile (fun c => !isLineTerminator c)),
      rest.dropWhile (fun c => !isLineTerminator c)) := by
  have hp : punctuationKind '#' = none := by decide
  have h0 : step .start .eof false [] '#' = .goto .comment .comment false := by
    simp [step, punctuationKind, isNameStart, isAsciiDigit]
  unfold advance runD
  rw [h0]
  simp only [List.nil_append]
  rw [runD_loop .comment (fun c => !isLineTerminator c) .comment
    (by intro acc c; cases h : isLineTerminator c <;> simp [step, done, h]) (by intro acc; rfl)]
  simp

/-- whitespace-assimilated characters (TAB, LF, CR, SPACE, BOM) are merged into one maximal run -/
theorem lex_whitespace (c : Char) (rest : Str) (h : isWhitespaceAssimilated c = true) :
    advance (c :: rest) = (.tok .whitespace (c :: rest.takeWhile isWhitespaceAssimilated),
      rest.dropWhile isWhitespaceAssimilated) := by
  have hw : c.toNat = 9 ∨ c.toNat = 32 ∨ c.toNat = 10 ∨ c.toNat = 13 ∨ c.toNat = 65279 := by
    simpa [isWhitespaceAssimilated, or_assoc] using h
  have h0 : step .start .eof false [] c = .goto .whitespace .whitespace false := by
    rcases hw with e | e | e | e | e
    · obtain rfl := (char_eq_iff c '\t').2 e; rfl
    · obtain rfl := (char_eq_iff c ' ').2 e; rfl
    · obtain rfl := (char_eq_iff c '\n').2 e; rfl
    · obtain rfl := (char_eq_iff c '\r').2 e; rfl
    · obtain rfl := (char_eq_iff c '\uFEFF').2 e; rfl
  unfold advance runD
  rw [h0]
  simp only [List.nil_append]
  rw [runD_loop .whitespace isWhitespaceAssimilated .whitespace
    (by intro acc c; simp [step, done]) (by intro acc; rfl)]
  simp

/-- `...` is the only token that starts with a dot: `.x`, `..x`, `.`, `..` are errors (`lex_dot_error`) -/
theorem lex_spread (rest : Str) : advance ('.' :: '.' :: '.' :: rest) = (.tok .spread ['.', '.', '.'], rest) := by
  simp [advance, runD, step, punctuationKind, isNameStart, isAsciiDigit, Out.mk]

theorem lex_dot_error (rest : Str) (h : rest.take 2 ≠ ['.', '.']) : (advance ('.' :: rest)).1.isErr = true := by
  have h0 : step .start .eof false [] '.' = .goto .spread1 .spread false := by
    simp [step, punctuationKind, isNameStart, isAsciiDigit]
  unfold advance runD
  rw [h0]
  match rest, h with
  | [], _ => rfl
  | [c], _ =>
    by_cases hc : c = '.'
    · subst hc; rfl
    · simp [runD, step, hc, Out.mk, Item.isErr]
  | c :: d :: r, h =>
    by_cases hc : c = '.'
    · subst hc
      by_cases hd : d = '.'
      · subst hd; simp at h
      · simp [runD, step, hd, Out.mk, Item.isErr]
    · simp [runD, step, hc, Out.mk, Item.isErr]

end Apollo.Lex
