import ApolloModel.Proofs.SmithResponse
/-
C33: the response object of a selection set has exactly the response keys of `collect_fields` for the chosen
concrete type, in that order, and each key's value is what `groupValue_spec` says.
-/
namespace Apollo.Smith

def Grouped.keys (g : Grouped) : List String := g.map (·.1)

def JFields.toList : JFields → List (String × Json)
  | .nil => []
  | .cons k v tl => (k, v) :: tl.toList

def JFields.keys (j : JFields) : List String := j.toList.map (·.1)

theorem insert_fresh : ∀ (acc : JFields) (k : String) (v : Json), k ∉ acc.keys →
    (acc.insert k v).toList = acc.toList ++ [(k, v)]
  | .nil, _, _, _ => rfl
  | .cons k0 v0 tl, k, v, h => by
    simp only [JFields.keys, JFields.toList, List.map_cons, List.mem_cons, not_or] at h
    have hne : (k0 == k) = false := by
      simp only [beq_eq_false_iff_ne, ne_eq]; exact fun e => h.1 e.symm
    simp only [JFields.insert, hne, Bool.false_eq_true, if_false, JFields.toList, List.cons_append]
    rw [insert_fresh tl k v (by simpa [JFields.keys] using h.2)]

theorem keys_add (g : Grouped) (k : String) (fs : List FieldInfo) :
    (g.add k fs).keys = if k ∈ g.keys then g.keys else g.keys ++ [k] := by
  induction g with
  | nil => simp [Grouped.add, Grouped.keys]
  | cons e rest ih =>
    obtain ⟨k0, fs0⟩ := e
    simp only [Grouped.add]
    by_cases hk : (k0 == k) = true
    · simp only [hk, if_true, Grouped.keys, List.map_cons, List.mem_cons]
      have : k = k0 := by simpa using (beq_iff_eq.mp hk).symm
      simp [this]
    · have hne : ¬ k = k0 := by intro e; exact hk (by simp [e])
      simp only [hk, Grouped.keys, List.map_cons, List.mem_cons, hne, false_or] at ih ⊢
      simp only [Bool.false_eq_true, if_false, List.map_cons]
      rw [ih]
      split <;> simp_all

theorem nodup_add (g : Grouped) (k : String) (fs : List FieldInfo) (h : g.keys.Nodup) : (g.add k fs).keys.Nodup := by
  rw [keys_add]
  split
  · exact h
  · rename_i hk
    exact List.nodup_append.mpr ⟨h, by simp, by intro a ha b hb; simp at hb; subst hb; intro e; exact hk (e ▸ ha)⟩

theorem nodup_addAll (g more : Grouped) (h : g.keys.Nodup) : (g.addAll more).keys.Nodup := by
  unfold Grouped.addAll
  induction more generalizing g with
  | nil => exact h
  | cons e rest ih => exact ih _ (nodup_add g e.1 e.2 h)

theorem collectFields_nodup (s : Schema) (frags : Fragments) (concrete : Name) (f : Nat) (sels : Sels) (g : Grouped)
    (h : collectFields s frags concrete f sels = some g) : g.keys.Nodup := by
  cases f with
  | zero => simp [collectFields] at h
  | succ f =>
    cases sels with
    | nil => simp only [collectFields] at h; cases h; exact List.nodup_nil
    | cons sel tl =>
      simp only [collectFields] at h
      split at h
      · cases h
        exact nodup_addAll _ _ (nodup_addAll _ _ List.nodup_nil)
      · cases h

/-- the entries written for a list of groups: same keys in the same order, each value meeting `P` -/
def entriesOk (P : FieldInfo → Json → Prop) : Grouped → List (String × Json) → Prop
  | [], [] => True
  | (k, fs) :: g, (k', v) :: l => k = k' ∧ (∃ mf rest, fs = mf :: rest ∧ P mf v) ∧ entriesOk P g l
  | _, _ => False

theorem entriesOk_keys (P : FieldInfo → Json → Prop) : ∀ (g : Grouped) (l : List (String × Json)), entriesOk P g l →
    l.map (·.1) = g.keys
  | [], [], _ => rfl
  | (k, fs) :: g, (k', v) :: l, h => by
    obtain ⟨rfl, _, h3⟩ := h
    simp [Grouped.keys, entriesOk_keys P g l h3]
  | [], _ :: _, h => by simp [entriesOk] at h
  | _ :: _, [], h => by simp [entriesOk] at h

theorem groupValues_entries (s : Schema) (frags : Fragments) (cfg : Cfg) (concrete : Name) :
    ∀ (f : Nat) (grouped : Grouped) (acc : JFields) (script : List Nat) (fields : JFields) (r : List Nat),
    groupValues s frags cfg f concrete grouped acc script = .ok fields r →
    grouped.keys.Nodup → (∀ k ∈ grouped.keys, k ∉ acc.keys) →
    ∃ l, fields.toList = acc.toList ++ l ∧
      entriesOk (fun mf v => (mf.name = "__typename" ∧ v = .str concrete) ∨ (v = .null ∧ mf.ty.isNonNull = false)
        ∨ shape s (!mf.sub.isEmpty) mf.ty v) grouped l
  | 0, _, _, _, _, _, h, _, _ => by simp [groupValues] at h
  | f + 1, [], acc, script, fields, r, h, _, _ => by
    simp only [groupValues] at h
    cases h
    exact ⟨[], by simp, trivial⟩
  | f + 1, (key, fs) :: rest, acc, script, fields, r, h, hnd, hdis => by
    unfold groupValues at h
    cases fs with
    | nil => simp at h
    | cons mf more =>
      simp only at h
      cases hv : groupValue s frags cfg f concrete mf (mf :: more) script <;> simp only [hv, reduceCtorEq] at h
      rename_i v r1
      have hkey : key ∉ acc.keys := hdis key (by simp [Grouped.keys])
      have hnd' : (Grouped.keys rest).Nodup := by
        simp only [Grouped.keys, List.map_cons, List.nodup_cons] at hnd; exact hnd.2
      have hnot : key ∉ Grouped.keys rest := by
        simp only [Grouped.keys, List.map_cons, List.nodup_cons] at hnd; exact hnd.1
      have hdis' : ∀ k ∈ Grouped.keys rest, k ∉ (acc.insert key v).keys := by
        intro k hk
        simp only [JFields.keys, insert_fresh acc key v hkey, List.map_append, List.map_cons, List.map_nil,
          List.mem_append, List.mem_singleton, not_or]
        refine ⟨?_, fun e => hnot (e ▸ hk)⟩
        have := hdis k (by simp [Grouped.keys] at hk ⊢; exact Or.inr hk)
        simpa [JFields.keys] using this
      obtain ⟨l, hl, hok⟩ := groupValues_entries s frags cfg concrete f rest (acc.insert key v) r1 fields r h hnd' hdis'
      refine ⟨(key, v) :: l, ?_, ?_⟩
      · rw [hl, insert_fresh acc key v hkey]; simp
      · exact ⟨rfl, ⟨mf, more, rfl, groupValue_spec s frags cfg f concrete mf (mf :: more) script v r1 hv⟩, hok⟩

theorem selectionSet_spec (s : Schema) (frags : Fragments) (cfg : Cfg) (f : Nat) (ty : Name) (sels : Sels)
    (script : List Nat) (j : Json) (r : List Nat) (h : selectionSet s frags cfg f ty sels script = .ok j r) :
    ∃ concrete script' grouped fields,
      concreteType s ty script = .ok concrete script'
      ∧ collectFields s frags concrete f sels = some grouped
      ∧ j = .obj fields
      ∧ fields.keys = grouped.keys
      ∧ entriesOk (fun mf v => (mf.name = "__typename" ∧ v = .str concrete) ∨ (v = .null ∧ mf.ty.isNonNull = false)
          ∨ shape s (!mf.sub.isEmpty) mf.ty v) grouped fields.toList := by
  cases f with
  | zero => simp [selectionSet] at h
  | succ f =>
    unfold selectionSet at h
    cases hc : concreteType s ty script <;> simp only [hc, reduceCtorEq] at h
    rename_i concrete r1
    cases hg : collectFields s frags concrete (f + 1) sels with
    | none => simp [hg] at h
    | some grouped =>
      simp only [hg] at h
      cases hv : groupValues s frags cfg f concrete grouped .nil r1 <;> simp only [hv, reduceCtorEq] at h
      rename_i fields r2
      cases h
      obtain ⟨l, hl, hok⟩ := groupValues_entries s frags cfg concrete f grouped .nil r1 fields _ hv
        (collectFields_nodup s frags concrete (f + 1) sels grouped hg) (by simp [JFields.keys, JFields.toList])
      simp only [JFields.toList, List.nil_append] at hl
      refine ⟨concrete, r1, grouped, fields, rfl, hg, rfl, ?_, ?_⟩
      · simp only [JFields.keys, hl]; exact entriesOk_keys _ grouped l hok
      · rw [hl]; exact hok

end Apollo.Smith
