import ApolloModel.Proofs.Lexer3
import ApolloModel.Spec.Lexical
import ApolloModel.Proofs.IfChain
/-
C03, numbers: the DFA of `Cursor::advance` (states LeadingZero … ExponentDigit, MinusSign) against the
October-2021 grammar of IntValue / FloatValue with their lookahead restrictions (Spec/Lexical.lean).
-/
set_option linter.unusedSimpArgs false
namespace Apollo.Lex
open Apollo.Spec.Lexical (IsIntegerPart IsFractionalPart IsExponentPart IsIntValue IsFloatValue
  NumberLookaheadOk IsNegativeSignOpt)

theorem char_eq_iff (c d : Char) : c = d ↔ c.toNat = d.toNat :=
  ⟨fun h => h ▸ rfl, fun h => by rw [← Char.ofNat_toNat c, ← Char.ofNat_toNat d, h]⟩

theorem char_beq (c d : Char) : (c == d) = (c.toNat == d.toNat) := by
  rw [Bool.eq_iff_iff]
  simp only [beq_iff_eq]
  exact char_eq_iff c d

theorem char_le_iff (a b : Char) : a ≤ b ↔ a.toNat ≤ b.toNat := Iff.rfl

theorem punct_none_of (c : Char) (h : c.toNat ≠ 123 ∧ c.toNat ≠ 125 ∧ c.toNat ≠ 33 ∧ c.toNat ≠ 36 ∧ c.toNat ≠ 38 ∧
    c.toNat ≠ 40 ∧ c.toNat ≠ 41 ∧ c.toNat ≠ 58 ∧ c.toNat ≠ 44 ∧ c.toNat ≠ 91 ∧ c.toNat ≠ 93 ∧ c.toNat ≠ 61 ∧
    c.toNat ≠ 64 ∧ c.toNat ≠ 124) : punctuationKind c = none := by
  unfold punctuationKind
  split <;> first | rfl | omega

/-! ### character classes as ranges of code points -/
def D (c : Char) : Prop := 48 ≤ c.toNat ∧ c.toNat ≤ 57
def NS (c : Char) : Prop := (65 ≤ c.toNat ∧ c.toNat ≤ 90) ∨ c.toNat = 95 ∨ (97 ≤ c.toNat ∧ c.toNat ≤ 122)
def Ex (c : Char) : Prop := c.toNat = 101 ∨ c.toNat = 69

theorem specDigit_iff (c : Char) : Spec.Lexical.isDigit c = true ↔ D c := by
  simp only [Spec.Lexical.isDigit, Bool.and_eq_true, decide_eq_true_eq, char_le_iff, D]
  exact Iff.rfl
theorem specDigit_false_iff (c : Char) : Spec.Lexical.isDigit c = false ↔ ¬ D c := by
  rw [← specDigit_iff]; simp
theorem specNonZero_iff (c : Char) : Spec.Lexical.isNonZeroDigit c = true ↔ (49 ≤ c.toNat ∧ c.toNat ≤ 57) := by
  simp only [Spec.Lexical.isNonZeroDigit, Bool.and_eq_true, decide_eq_true_eq, char_le_iff]
  exact Iff.rfl
theorem specNameStart_iff (c : Char) : Spec.Lexical.isNameStart c = true ↔ NS c := by
  simp only [Spec.Lexical.isNameStart, Spec.Lexical.isLetter, Bool.or_eq_true, Bool.and_eq_true,
    decide_eq_true_eq, char_le_iff, beq_iff_eq, char_eq_iff c '_', NS]
  show ((65 ≤ c.toNat ∧ c.toNat ≤ 90) ∨ (97 ≤ c.toNat ∧ c.toNat ≤ 122)) ∨ c.toNat = 95 ↔ _
  omega
theorem specNameStart_false_iff (c : Char) : Spec.Lexical.isNameStart c = false ↔ ¬ NS c := by
  rw [← specNameStart_iff]; simp
theorem lexDigit_iff (c : Char) : isAsciiDigit c = true ↔ D c := by
  simp [isAsciiDigit, D]
theorem lexNameStart_iff (c : Char) : isNameStart c = true ↔ NS c := by
  simp only [isNameStart, Bool.or_eq_true, Bool.and_eq_true, decide_eq_true_eq, beq_iff_eq, NS]
  omega

theorem classes_agree (c : Char) :
    isAsciiDigit c = Spec.Lexical.isDigit c ∧ isNameStart c = Spec.Lexical.isNameStart c := by
  constructor
  · rw [Bool.eq_iff_iff, lexDigit_iff, specDigit_iff]
  · rw [Bool.eq_iff_iff, lexNameStart_iff, specNameStart_iff]

/-! ### one step in each number state, by character class (no pending error) -/

theorem step_leadingZero (k : Kind) (acc : Str) (c : Char) :
    (c.toNat = 46 ∧ step .leadingZero k false acc c = .goto .decimalPoint .float false) ∨
    (Ex c ∧ step .leadingZero k false acc c = .goto .exponentIndicator .float false) ∨
    ((D c ∨ NS c) ∧ ¬ Ex c ∧ step .leadingZero k false acc c = .incl .err) ∨
    (¬ D c ∧ c.toNat ≠ 46 ∧ ¬ NS c ∧ step .leadingZero k false acc c = .excl (.tok k)) := by
  simp only [step, done, isAsciiDigit, isNameStart, char_beq, Char.reduceToNat, D, NS, Ex, beq_iff_eq,
    Bool.or_eq_true, Bool.and_eq_true, decide_eq_true_eq, Bool.false_eq_true, if_false]
  repeat' split
  all_goals (simp; omega)

theorem step_integerPart (k : Kind) (acc : Str) (c : Char) :
    (D c ∧ step .integerPart k false acc c = .goto .integerPart k false) ∨
    (c.toNat = 46 ∧ step .integerPart k false acc c = .goto .decimalPoint .float false) ∨
    (Ex c ∧ step .integerPart k false acc c = .goto .exponentIndicator .float false) ∨
    (NS c ∧ ¬ Ex c ∧ step .integerPart k false acc c = .incl .err) ∨
    (¬ D c ∧ c.toNat ≠ 46 ∧ ¬ NS c ∧ step .integerPart k false acc c = .excl (.tok k)) := by
  simp only [step, done, isAsciiDigit, isNameStart, char_beq, Char.reduceToNat, D, NS, Ex, beq_iff_eq,
    Bool.or_eq_true, Bool.and_eq_true, decide_eq_true_eq, Bool.false_eq_true, if_false]
  repeat' split
  all_goals (simp; omega)

theorem step_decimalPoint (k : Kind) (acc : Str) (c : Char) :
    (D c ∧ step .decimalPoint k false acc c = .goto .fractionalPart k false) ∨
    (¬ D c ∧ step .decimalPoint k false acc c = .incl .err) := by
  simp only [step, done, isAsciiDigit, isNameStart, char_beq, Char.reduceToNat, D, NS, Ex, beq_iff_eq,
    Bool.or_eq_true, Bool.and_eq_true, decide_eq_true_eq, Bool.false_eq_true, if_false]
  repeat' split
  all_goals (simp; omega)

theorem step_fractionalPart (k : Kind) (acc : Str) (c : Char) :
    (D c ∧ step .fractionalPart k false acc c = .goto .fractionalPart k false) ∨
    (Ex c ∧ step .fractionalPart k false acc c = .goto .exponentIndicator k false) ∨
    ((c.toNat = 46 ∨ NS c) ∧ ¬ Ex c ∧ step .fractionalPart k false acc c = .incl .err) ∨
    (¬ D c ∧ c.toNat ≠ 46 ∧ ¬ NS c ∧ step .fractionalPart k false acc c = .excl (.tok k)) := by
  simp only [step, done, isAsciiDigit, isNameStart, char_beq, Char.reduceToNat, D, NS, Ex, beq_iff_eq,
    Bool.or_eq_true, Bool.and_eq_true, decide_eq_true_eq, Bool.false_eq_true, if_false]
  repeat' split
  all_goals (simp; omega)

theorem step_exponentIndicator (k : Kind) (acc : Str) (c : Char) :
    (D c ∧ step .exponentIndicator k false acc c = .goto .exponentDigit k false) ∨
    ((c.toNat = 43 ∨ c.toNat = 45) ∧ step .exponentIndicator k false acc c = .goto .exponentSign k false) ∨
    (¬ D c ∧ c.toNat ≠ 43 ∧ c.toNat ≠ 45 ∧ step .exponentIndicator k false acc c = .incl .err) := by
  simp only [step, done, isAsciiDigit, isNameStart, char_beq, Char.reduceToNat, D, NS, Ex, beq_iff_eq,
    Bool.or_eq_true, Bool.and_eq_true, decide_eq_true_eq, Bool.false_eq_true, if_false]
  repeat' split
  all_goals (simp; omega)

theorem step_exponentSign (k : Kind) (acc : Str) (c : Char) :
    (D c ∧ step .exponentSign k false acc c = .goto .exponentDigit k false) ∨
    (¬ D c ∧ step .exponentSign k false acc c = .incl .err) := by
  simp only [step, done, isAsciiDigit, isNameStart, char_beq, Char.reduceToNat, D, NS, Ex, beq_iff_eq,
    Bool.or_eq_true, Bool.and_eq_true, decide_eq_true_eq, Bool.false_eq_true, if_false]
  repeat' split
  all_goals (simp; omega)

theorem step_exponentDigit (k : Kind) (acc : Str) (c : Char) :
    (D c ∧ step .exponentDigit k false acc c = .goto .exponentDigit k false) ∨
    ((c.toNat = 46 ∨ NS c) ∧ step .exponentDigit k false acc c = .incl .err) ∨
    (¬ D c ∧ c.toNat ≠ 46 ∧ ¬ NS c ∧ step .exponentDigit k false acc c = .excl (.tok k)) := by
  simp only [step, done, isAsciiDigit, isNameStart, char_beq, Char.reduceToNat, D, NS, Ex, beq_iff_eq,
    Bool.or_eq_true, Bool.and_eq_true, decide_eq_true_eq, Bool.false_eq_true, if_false]
  repeat' split
  all_goals (simp; omega)

theorem step_minusSign (k : Kind) (acc : Str) (c : Char) :
    (c.toNat = 48 ∧ step .minusSign k false acc c = .goto .leadingZero k false) ∨
    (49 ≤ c.toNat ∧ c.toNat ≤ 57 ∧ step .minusSign k false acc c = .goto .integerPart k false) ∨
    (¬ D c ∧ step .minusSign k false acc c = .incl .err) := by
  simp only [step, done, isAsciiDigit, isNameStart, char_beq, Char.reduceToNat, D, NS, Ex, beq_iff_eq,
    Bool.or_eq_true, Bool.and_eq_true, decide_eq_true_eq, Bool.false_eq_true, if_false]
  repeat' split
  all_goals (simp; omega)

theorem step_start_number (c : Char) :
    (c.toNat = 48 → step .start .eof false [] c = .goto .leadingZero .int false) ∧
    (49 ≤ c.toNat ∧ c.toNat ≤ 57 → step .start .eof false [] c = .goto .integerPart .int false) ∧
    (c.toNat = 45 → step .start .eof false [] c = .goto .minusSign .int false) := by
  refine ⟨fun h => ?_, fun h => ?_, fun h => ?_⟩
  · obtain rfl := (char_eq_iff c '0').2 h; rfl
  · have hp : punctuationKind c = none := punct_none_of c (by omega)
    have hns : isNameStart c = false := by
      rw [← Bool.not_eq_true, lexNameStart_iff]; unfold NS; omega
    have hd : (c != '0' && isAsciiDigit c) = true := by
      rw [Bool.and_eq_true, lexDigit_iff, bne_iff_ne, ne_eq, char_eq_iff]
      exact ⟨by change ¬ c.toNat = 48; omega, by unfold D; omega⟩
    simp only [step, hp, hns, hd, if_true, Bool.false_eq_true, if_false]
  · obtain rfl := (char_eq_iff c '-').2 h; rfl

/-! ### soundness: whatever the number states emit is a spec IntValue / FloatValue -/

def IsMantissa (m : Str) : Prop := ∃ i f, m = i ++ f ∧ IsIntegerPart i ∧ (f = [] ∨ IsFractionalPart f)

def AllD (ds : Str) : Prop := ds.all Spec.Lexical.isDigit = true

/-- what has been consumed so far in each number state -/
inductive NumInv : State → Kind → Str → Prop where
  | minus : NumInv .minusSign .int ['-']
  | zero {neg : Str} : IsNegativeSignOpt neg → NumInv .leadingZero .int (neg ++ ['0'])
  | intPart {neg : Str} {d : Char} {ds : Str} : IsNegativeSignOpt neg → Spec.Lexical.isNonZeroDigit d = true →
      AllD ds → NumInv .integerPart .int (neg ++ d :: ds)
  | point {i : Str} : IsIntegerPart i → NumInv .decimalPoint .float (i ++ ['.'])
  | frac {i ds : Str} : IsIntegerPart i → ds ≠ [] → AllD ds → NumInv .fractionalPart .float (i ++ '.' :: ds)
  | expInd {m : Str} {c : Char} : IsMantissa m → Ex c → NumInv .exponentIndicator .float (m ++ [c])
  | expSign {m : Str} {c s : Char} : IsMantissa m → Ex c → (s.toNat = 43 ∨ s.toNat = 45) →
      NumInv .exponentSign .float (m ++ [c, s])
  | expDigit {m : Str} {c : Char} {sign ds : Str} : IsMantissa m → Ex c →
      (sign = [] ∨ sign = ['+'] ∨ sign = ['-']) → ds ≠ [] → AllD ds →
      NumInv .exponentDigit .float (m ++ c :: (sign ++ ds))

def Final (k : Kind) (t : Str) : Prop := (k = .int ∧ IsIntValue t) ∨ (k = .float ∧ IsFloatValue t)

theorem ex_char {c : Char} (h : Ex c) : c = 'e' ∨ c = 'E' := by
  rcases h with h | h
  · left; exact (char_eq_iff c 'e').mpr h
  · right; exact (char_eq_iff c 'E').mpr h

theorem allD_snoc {ds : Str} {c : Char} (h : AllD ds) (hc : D c) : AllD (ds ++ [c]) := by
  simp only [AllD, List.all_append, Bool.and_eq_true] at *
  exact ⟨h, by simp [(specDigit_iff c).mpr hc]⟩

theorem intPart_zero {neg : Str} (h : IsNegativeSignOpt neg) : IsIntegerPart (neg ++ ['0']) :=
  ⟨neg, ['0'], rfl, h, Or.inl rfl⟩
theorem intPart_digits {neg : Str} {d : Char} {ds : Str} (h : IsNegativeSignOpt neg)
    (hd : Spec.Lexical.isNonZeroDigit d = true) (hds : AllD ds) : IsIntegerPart (neg ++ d :: ds) :=
  ⟨neg, d :: ds, rfl, h, Or.inr ⟨d, ds, rfl, hd, hds⟩⟩

theorem float_of_mantissa_exp {m : Str} {c : Char} {sign ds : Str} (hm : IsMantissa m) (hc : Ex c)
    (hs : sign = [] ∨ sign = ['+'] ∨ sign = ['-']) (hne : ds ≠ []) (hds : AllD ds) :
    IsFloatValue (m ++ c :: (sign ++ ds)) := by
  obtain ⟨i, f, rfl, hi, hf⟩ := hm
  have he : IsExponentPart (c :: (sign ++ ds)) := ⟨c, sign, ds, rfl, ex_char hc, hs, hne, hds⟩
  rcases hf with rfl | hf
  · exact ⟨i, [], c :: (sign ++ ds), by simp, hi, Or.inr (Or.inr ⟨rfl, he⟩)⟩
  · exact ⟨i, f, c :: (sign ++ ds), by simp, hi, Or.inl ⟨hf, he⟩⟩

theorem inv_final {st : State} {k : Kind} {acc : Str} (h : NumInv st k acc)
    (hst : st = .leadingZero ∨ st = .integerPart ∨ st = .fractionalPart ∨ st = .exponentDigit) : Final k acc := by
  cases h with
  | minus => simp at hst
  | zero hn => exact Or.inl ⟨rfl, intPart_zero hn⟩
  | intPart hn hd hds => exact Or.inl ⟨rfl, intPart_digits hn hd hds⟩
  | point _ => simp at hst
  | frac hi hne hds =>
    exact Or.inr ⟨rfl, _, _, [], by simp, hi, Or.inr (Or.inl ⟨⟨_, rfl, hne, hds⟩, rfl⟩)⟩
  | expInd _ _ => simp at hst
  | expSign _ _ _ => simp at hst
  | expDigit hm hc hs hne hds => exact Or.inr ⟨rfl, float_of_mantissa_exp hm hc hs hne hds⟩

theorem inv_eof {st : State} {k : Kind} {acc : Str} (h : NumInv st k acc) :
    (eofItem st k acc = .tok k acc ∧ Final k acc) ∨ eofItem st k acc = .err acc := by
  cases h with
  | minus => right; rfl
  | zero hn => left; exact ⟨rfl, inv_final (.zero hn) (by simp)⟩
  | intPart hn hd hds => left; exact ⟨rfl, inv_final (.intPart hn hd hds) (by simp)⟩
  | point _ => right; rfl
  | frac hi hne hds => left; exact ⟨rfl, inv_final (.frac hi hne hds) (by simp)⟩
  | expInd _ _ => right; rfl
  | expSign _ _ _ => right; rfl
  | expDigit hm hc hs hne hds => left; exact ⟨rfl, inv_final (.expDigit hm hc hs hne hds) (by simp)⟩

theorem mantissa_int {i : Str} (h : IsIntegerPart i) : IsMantissa i := ⟨i, [], by simp, h, Or.inl rfl⟩

theorem inv_step {st : State} {k : Kind} {acc : Str} (h : NumInv st k acc) (c : Char) :
    (∃ st' k', step st k false acc c = .goto st' k' false ∧ NumInv st' k' (acc ++ [c])) ∨
    step st k false acc c = .incl .err ∨
    (step st k false acc c = .excl (.tok k) ∧ Final k acc ∧ ¬ D c ∧ c.toNat ≠ 46 ∧ ¬ NS c) := by
  cases h with
  | minus =>
    rcases step_minusSign .int ['-'] c with ⟨h0, hs⟩ | ⟨h1, h2, hs⟩ | ⟨_, hs⟩
    · left; refine ⟨_, _, hs, ?_⟩
      have : c = '0' := (char_eq_iff c '0').mpr h0
      subst this; exact NumInv.zero (neg := ['-']) (Or.inr rfl)
    · left; refine ⟨_, _, hs, ?_⟩
      exact NumInv.intPart (neg := ['-']) (ds := []) (Or.inr rfl) ((specNonZero_iff c).mpr ⟨h1, h2⟩) (by simp [AllD])
    · right; left; exact hs
  | zero hn =>
    rename_i neg
    rcases step_leadingZero .int (neg ++ ['0']) c with ⟨h0, hs⟩ | ⟨he, hs⟩ | ⟨_, _, hs⟩ | ⟨h1, h2, h3, hs⟩
    · left; refine ⟨_, _, hs, ?_⟩
      have : c = '.' := (char_eq_iff c '.').mpr h0
      subst this; exact NumInv.point (intPart_zero hn)
    · left; exact ⟨_, _, hs, NumInv.expInd (mantissa_int (intPart_zero hn)) he⟩
    · right; left; exact hs
    · right; right; exact ⟨hs, inv_final (.zero hn) (by simp), h1, h2, h3⟩
  | intPart hn hd hds =>
    rename_i neg d ds
    rcases step_integerPart .int (neg ++ d :: ds) c with ⟨hD, hs⟩ | ⟨h0, hs⟩ | ⟨he, hs⟩ | ⟨_, _, hs⟩ | ⟨h1, h2, h3, hs⟩
    · left; refine ⟨_, _, hs, ?_⟩
      have := NumInv.intPart hn hd (allD_snoc hds hD)
      simpa using this
    · left; refine ⟨_, _, hs, ?_⟩
      have : c = '.' := (char_eq_iff c '.').mpr h0
      subst this; exact NumInv.point (intPart_digits hn hd hds)
    · left; exact ⟨_, _, hs, NumInv.expInd (mantissa_int (intPart_digits hn hd hds)) he⟩
    · right; left; exact hs
    · right; right; exact ⟨hs, inv_final (.intPart hn hd hds) (by simp), h1, h2, h3⟩
  | point hi =>
    rename_i i
    rcases step_decimalPoint .float (i ++ ['.']) c with ⟨hD, hs⟩ | ⟨_, hs⟩
    · left; refine ⟨_, _, hs, ?_⟩
      have := NumInv.frac (ds := [c]) hi (by simp) (by simp [AllD, (specDigit_iff c).mpr hD])
      simpa using this
    · right; left; exact hs
  | frac hi hne hds =>
    rename_i i ds
    rcases step_fractionalPart .float (i ++ '.' :: ds) c with ⟨hD, hs⟩ | ⟨he, hs⟩ | ⟨_, _, hs⟩ | ⟨h1, h2, h3, hs⟩
    · left; refine ⟨_, _, hs, ?_⟩
      have := NumInv.frac hi (by simp : ds ++ [c] ≠ []) (allD_snoc hds hD)
      simpa using this
    · left; refine ⟨_, _, hs, ?_⟩
      exact NumInv.expInd ⟨i, '.' :: ds, rfl, hi, Or.inr ⟨ds, rfl, hne, hds⟩⟩ he
    · right; left; exact hs
    · right; right; exact ⟨hs, inv_final (.frac hi hne hds) (by simp), h1, h2, h3⟩
  | expInd hm he =>
    rename_i m c0
    rcases step_exponentIndicator .float (m ++ [c0]) c with ⟨hD, hs⟩ | ⟨hsg, hs⟩ | ⟨_, _, _, hs⟩
    · left; refine ⟨_, _, hs, ?_⟩
      have := NumInv.expDigit (sign := []) (ds := [c]) hm he (Or.inl rfl) (by simp)
        (by simp [AllD, (specDigit_iff c).mpr hD])
      simpa using this
    · left; refine ⟨_, _, hs, ?_⟩
      have := NumInv.expSign hm he hsg
      simpa using this
    · right; left; exact hs
  | expSign hm he hsg =>
    rename_i m c0 s0
    rcases step_exponentSign .float (m ++ [c0, s0]) c with ⟨hD, hs⟩ | ⟨_, hs⟩
    · left; refine ⟨_, _, hs, ?_⟩
      have hs0 : [s0] = ['+'] ∨ [s0] = ['-'] := by
        rcases hsg with h | h
        · left; rw [(char_eq_iff s0 '+').mpr h]
        · right; rw [(char_eq_iff s0 '-').mpr h]
      have := NumInv.expDigit (sign := [s0]) (ds := [c]) hm he (Or.inr hs0) (by simp)
        (by simp [AllD, (specDigit_iff c).mpr hD])
      simpa using this
    · right; left; exact hs
  | expDigit hm he hsg hne hds =>
    rename_i m c0 sign ds
    rcases step_exponentDigit .float (m ++ c0 :: (sign ++ ds)) c with ⟨hD, hs⟩ | ⟨_, hs⟩ | ⟨h1, h2, h3, hs⟩
    · left; refine ⟨_, _, hs, ?_⟩
      have := NumInv.expDigit hm he hsg (by simp : ds ++ [c] ≠ []) (allD_snoc hds hD)
      simpa using this
    · right; left; exact hs
    · right; right; exact ⟨hs, inv_final (.expDigit hm he hsg hne hds) (by simp), h1, h2, h3⟩

theorem lookahead_of {c : Char} {rest : Str} (h1 : ¬ D c) (h2 : c.toNat ≠ 46) (h3 : ¬ NS c) :
    NumberLookaheadOk (c :: rest) :=
  ⟨(specDigit_false_iff c).mpr h1, fun h => h2 (by rw [h]; rfl), (specNameStart_false_iff c).mpr h3⟩

theorem num_sound : ∀ (src : Str) (st : State) (k : Kind) (acc : Str), NumInv st k acc →
    ∀ k' t rest, runD st k false acc src = (.tok k' t, rest) → Final k' t ∧ NumberLookaheadOk rest
  | [], st, k, acc, h, k', t, rest, hr => by
    simp only [runD, Prod.mk.injEq] at hr
    rcases inv_eof h with ⟨he, hf⟩ | he
    · rw [he] at hr
      obtain ⟨h1, rfl⟩ := hr
      cases h1
      exact ⟨hf, trivial⟩
    · rw [he] at hr; simp at hr
  | c :: src, st, k, acc, h, k', t, rest, hr => by
    unfold runD at hr
    rcases inv_step h c with ⟨st', k2, hs, hinv⟩ | hs | ⟨hs, hf, h1, h2, h3⟩
    · rw [hs] at hr
      exact num_sound src st' k2 (acc ++ [c]) hinv k' t rest hr
    · rw [hs] at hr; simp [Out.mk] at hr
    · rw [hs] at hr
      simp only [Out.mk, Prod.mk.injEq, Item.tok.injEq] at hr
      obtain ⟨⟨rfl, rfl⟩, rfl⟩ := hr
      exact ⟨hf, lookahead_of h1 h2 h3⟩

/-! ### tokens of kind Int / Float only come out of the number states -/

def isNumState : State → Bool
  | .minusSign | .leadingZero | .integerPart | .decimalPoint | .fractionalPart
  | .exponentIndicator | .exponentSign | .exponentDigit => true
  | _ => false

def keepsKind (k : Kind) (a : Action) : Prop :=
  match a with
  | .goto st' k' _ => isNumState st' = false ∧ st' ≠ .start ∧ k' = k
  | .incl (.tok k') => k' = k
  | .excl (.tok k') => k' = k
  | _ => True

theorem keepsKind_done_incl (k : Kind) (e : Bool) : keepsKind k (.incl (done k e)) := by
  unfold done; split <;> simp [keepsKind]
theorem keepsKind_done_excl (k : Kind) (e : Bool) : keepsKind k (.excl (done k e)) := by
  unfold done; split <;> simp [keepsKind]
theorem keepsKind_block (k : Kind) (e : Bool) (c : Char) : keepsKind k (blockStep k e c) := by
  unfold blockStep; repeat' split
  all_goals simp [keepsKind, isNumState]

theorem step_keepsKind (st : State) (k : Kind) (e : Bool) (acc : Str) (c : Char)
    (hn : isNumState st = false) (hs : st ≠ .start) : keepsKind k (step st k e acc c) := by
  cases st <;> simp [isNumState] at hn hs
  all_goals
    simp only [step]
    repeat' split
    all_goals first
      | exact keepsKind_done_incl _ _
      | exact keepsKind_done_excl _ _
      | exact keepsKind_block _ _ _
      | simp [keepsKind, isNumState]

theorem runD_keepsKind : ∀ (src : Str) (st : State) (k : Kind) (e : Bool) (acc : Str),
    isNumState st = false → st ≠ .start →
    ∀ k' t rest, runD st k e acc src = (.tok k' t, rest) → k' = k
  | [], st, k, e, acc, hn, hs, k', t, rest, hr => by
    simp only [runD, Prod.mk.injEq] at hr
    cases st <;> simp [eofItem, isNumState] at hr hn hs <;> exact hr.1.1.symm
  | c :: src, st, k, e, acc, hn, hs, k', t, rest, hr => by
    have hk := step_keepsKind st k e acc c hn hs
    unfold runD at hr
    cases hst : step st k e acc c with
    | goto st' k2 e2 =>
      simp only [hst, keepsKind] at hr hk
      obtain ⟨h1, h2, rfl⟩ := hk
      exact runD_keepsKind src st' k2 e2 (acc ++ [c]) h1 h2 k' t rest hr
    | incl o =>
      simp only [hst] at hr hk
      cases o with
      | tok k2 => simp only [keepsKind] at hk; simp only [Out.mk, Prod.mk.injEq, Item.tok.injEq] at hr; rw [← hr.1.1, hk]
      | err => simp [Out.mk] at hr
    | excl o =>
      simp only [hst] at hr hk
      cases o with
      | tok k2 => simp only [keepsKind] at hk; simp only [Out.mk, Prod.mk.injEq, Item.tok.injEq] at hr; rw [← hr.1.1, hk]
      | err => simp [Out.mk] at hr

theorem nonnum_contra {st : State} {k0 k : Kind} {e : Bool} {acc src t rest : Str}
    (hn : isNumState st = false) (hs : st ≠ .start) (hk0 : k0 ≠ .int ∧ k0 ≠ .float)
    (h : runD st k0 e acc src = (.tok k t, rest)) (hk : k = .int ∨ k = .float) : False := by
  have := runD_keepsKind src st k0 e acc hn hs k t rest h
  subst this
  rcases hk with hk | hk
  · exact hk0.1 hk
  · exact hk0.2 hk

theorem punct_not_number (c : Char) (k : Kind) (h : punctuationKind c = some k) : k ≠ .int ∧ k ≠ .float := by
  revert h
  unfold punctuationKind
  split <;> simp <;> (intro h; subst h; simp)

theorem step_start_cases (c : Char) :
    (∃ o, step .start .eof false [] c = .incl o ∧ ∀ k, o = .tok k → k ≠ .int ∧ k ≠ .float) ∨
    (∃ st k, step .start .eof false [] c = .goto st k false ∧ isNumState st = false ∧ st ≠ .start ∧ k ≠ .int ∧ k ≠ .float) ∨
    (49 ≤ c.toNat ∧ c.toNat ≤ 57 ∧ step .start .eof false [] c = .goto .integerPart .int false) ∨
    (c = '-' ∧ step .start .eof false [] c = .goto .minusSign .int false) ∨
    (c = '0' ∧ step .start .eof false [] c = .goto .leadingZero .int false) := by
  -- the answer is named first, so that one copy of the chain is analysed instead of five
  generalize hs : step .start .eof false [] c = a
  revert a
  unfold step
  cases hp : punctuationKind c with
  | some k =>
    rintro _ rfl
    exact Or.inl ⟨_, rfl, fun k' hk => by cases hk; exact punct_not_number c k hp⟩
  | none =>
    dsimp only
    repeat' refine ite_forall_eq (fun _ => ?_) (fun _ => ?_)
    all_goals rintro _ rfl
    · exact Or.inr (Or.inl ⟨_, _, rfl, rfl, by simp, by simp, by simp⟩)
    · next hd =>
      rw [Bool.and_eq_true, lexDigit_iff, bne_iff_ne, ne_eq, char_eq_iff] at hd
      have h0 : ¬ c.toNat = 48 := hd.1
      have hD : 48 ≤ c.toNat ∧ c.toNat ≤ 57 := hd.2
      exact Or.inr (Or.inr (Or.inl ⟨by omega, hD.2, rfl⟩))
    · exact Or.inr (Or.inl ⟨_, _, rfl, rfl, by simp, by simp, by simp⟩)
    · exact Or.inr (Or.inl ⟨_, _, rfl, rfl, by simp, by simp, by simp⟩)
    · exact Or.inr (Or.inl ⟨_, _, rfl, rfl, by simp, by simp, by simp⟩)
    · next hm => exact Or.inr (Or.inr (Or.inr (Or.inl ⟨beq_iff_eq.1 hm, rfl⟩)))
    · next hz => exact Or.inr (Or.inr (Or.inr (Or.inr ⟨beq_iff_eq.1 hz, rfl⟩)))
    · exact Or.inr (Or.inl ⟨_, _, rfl, rfl, by simp, by simp, by simp⟩)
    · exact Or.inl ⟨_, rfl, nofun⟩


/-- SOUNDNESS for numbers: whenever `advance` emits a token of kind Int (Float), its text is a spec
    IntValue (FloatValue) and what follows satisfies the lookahead restriction. -/
theorem lex_number_sound (src : Str) (k : Kind) (t rest : Str) (h : advance src = (.tok k t, rest))
    (hk : k = .int ∨ k = .float) : Final k t ∧ NumberLookaheadOk rest := by
  cases src with
  | nil => simp [advance, runD, eofItem] at h; rcases hk with hk | hk <;> (rw [hk] at h; simp at h)
  | cons c src =>
    unfold advance runD at h
    rcases step_start_cases c with ⟨o, hs, ho⟩ | ⟨st, k0, hs, hn, hst, hk0⟩ | ⟨h1, h2, hs⟩ | ⟨rfl, hs⟩ | ⟨rfl, hs⟩ <;>
      rw [hs] at h
    · -- a token of one character is a punctuator
      cases o with
      | err => simp [Out.mk] at h
      | tok k2 =>
        simp only [Out.mk, Prod.mk.injEq, Item.tok.injEq] at h
        obtain ⟨⟨rfl, _⟩, _⟩ := h
        have := ho _ rfl
        rcases hk with hk | hk <;> simp [hk] at this
    · exact (nonnum_contra hn hst hk0 h hk).elim
    · exact num_sound src _ _ _ (NumInv.intPart (neg := []) (d := c) (ds := []) (Or.inl rfl)
        ((specNonZero_iff c).mpr ⟨h1, h2⟩) (by simp [AllD])) k t rest h
    · exact num_sound src _ _ _ NumInv.minus k t rest h
    · exact num_sound src _ _ _ (NumInv.zero (neg := []) (Or.inl rfl)) k t rest h

/-! ### completeness: every spec number followed by an allowed character is emitted as that token -/

/-- close a goal from contradictory character-class facts -/
macro "cls" : tactic => `(tactic| ((try simp only [D, NS, Ex] at *); omega))


def AllDn (ds : Str) : Prop := ∀ d ∈ ds, D d

theorem allD_iff (ds : Str) : AllD ds ↔ AllDn ds := by
  simp only [AllD, AllDn, List.all_eq_true]
  exact ⟨fun h d hd => (specDigit_iff d).mp (h d hd), fun h d hd => (specDigit_iff d).mpr (h d hd)⟩

theorem digits_loop (st : State) (hst : st = .integerPart ∨ st = .fractionalPart ∨ st = .exponentDigit) (k : Kind) :
    ∀ (ds acc rest : Str), AllDn ds → runD st k false acc (ds ++ rest) = runD st k false (acc ++ ds) rest
  | [], acc, rest, _ => by simp
  | d :: ds, acc, rest, h => by
    have hd : D d := h d (by simp)
    have hstep : step st k false acc d = .goto st k false := by
      rcases hst with rfl | rfl | rfl
      · rcases step_integerPart k acc d with ⟨_, hs⟩ | ⟨h1, _⟩ | ⟨h1, _⟩ | ⟨h1, _, _⟩ | ⟨h1, _⟩
        · exact hs
        all_goals cls
      · rcases step_fractionalPart k acc d with ⟨_, hs⟩ | ⟨h1, _⟩ | ⟨h1, _, _⟩ | ⟨h1, _⟩
        · exact hs
        all_goals cls
      · rcases step_exponentDigit k acc d with ⟨_, hs⟩ | ⟨h1, _⟩ | ⟨h1, _⟩
        · exact hs
        all_goals cls
    simp only [List.cons_append, runD, hstep]
    rw [digits_loop st hst k ds (acc ++ [d]) rest (fun x hx => h x (by simp [hx]))]
    simp

theorem lookahead_classes {c : Char} {rest : Str} (h : NumberLookaheadOk (c :: rest)) :
    ¬ D c ∧ c.toNat ≠ 46 ∧ ¬ NS c := by
  obtain ⟨h1, h2, h3⟩ := h
  exact ⟨(specDigit_false_iff c).mp h1, fun e => h2 ((char_eq_iff c '.').mpr e), (specNameStart_false_iff c).mp h3⟩

theorem number_end (st : State)
    (hst : st = .leadingZero ∨ st = .integerPart ∨ st = .fractionalPart ∨ st = .exponentDigit)
    (k : Kind) (acc rest : Str) (hl : NumberLookaheadOk rest) :
    runD st k false acc rest = (.tok k acc, rest) := by
  cases rest with
  | nil => rcases hst with rfl | rfl | rfl | rfl <;> rfl
  | cons c rest =>
    obtain ⟨h1, h2, h3⟩ := lookahead_classes hl
    have hstep : step st k false acc c = .excl (.tok k) := by
      rcases hst with rfl | rfl | rfl | rfl
      · rcases step_leadingZero k acc c with ⟨h, _⟩ | ⟨h, _⟩ | ⟨h, _, _⟩ | ⟨_, _, _, hs⟩
        · exact absurd h h2
        · cls
        · cls
        · exact hs
      · rcases step_integerPart k acc c with ⟨h, _⟩ | ⟨h, _⟩ | ⟨h, _⟩ | ⟨h, _, _⟩ | ⟨_, _, _, hs⟩
        · exact absurd h h1
        · exact absurd h h2
        · cls
        · exact absurd h h3
        · exact hs
      · rcases step_fractionalPart k acc c with ⟨h, _⟩ | ⟨h, _⟩ | ⟨h, _, _⟩ | ⟨_, _, _, hs⟩
        · exact absurd h h1
        · cls
        · cls
        · exact hs
      · rcases step_exponentDigit k acc c with ⟨h, _⟩ | ⟨h, _⟩ | ⟨_, _, _, hs⟩
        · exact absurd h h1
        · cls
        · exact hs
    simp [runD, hstep, Out.mk]

theorem int_prefix {i : Str} (hi : IsIntegerPart i) :
    ∃ st, (st = .leadingZero ∨ st = .integerPart) ∧
      ∀ tail, advance (i ++ tail) = runD st .int false i tail := by
  obtain ⟨neg, ds, rfl, hneg, hds⟩ := hi
  have h48 : ('0' : Char).toNat = 48 := rfl
  have h45 : ('-' : Char).toNat = 45 := rfl
  rcases hds with rfl | ⟨d, more, rfl, hd, hmore⟩
  · refine ⟨.leadingZero, Or.inl rfl, fun tail => ?_⟩
    rcases hneg with rfl | rfl
    · simp [advance, runD, (step_start_number '0').1 h48]
    · have hm : step .minusSign .int false ['-'] '0' = .goto .leadingZero .int false := by
        rcases step_minusSign .int ['-'] '0' with ⟨_, hs⟩ | ⟨h, _⟩ | ⟨h, _⟩
        · exact hs
        · simp at h
        · exact absurd (by unfold D; simp) h
      simp [advance, runD, (step_start_number '-').2.2 h45, hm]
  · refine ⟨.integerPart, Or.inr rfl, fun tail => ?_⟩
    have hd' := (specNonZero_iff d).mp hd
    have hmore' := (allD_iff more).mp hmore
    rcases hneg with rfl | rfl
    · simp only [advance, List.nil_append, List.cons_append, runD, (step_start_number d).2.1 hd']
      rw [digits_loop .integerPart (Or.inl rfl) .int more [d] tail hmore']
      simp
    · have hm : step .minusSign .int false ['-'] d = .goto .integerPart .int false := by
        rcases step_minusSign .int ['-'] d with ⟨h, _⟩ | ⟨_, _, hs⟩ | ⟨h, _⟩
        · omega
        · exact hs
        · exact absurd (by unfold D; omega) h
      simp only [advance, List.cons_append, List.nil_append, runD, (step_start_number '-').2.2 h45, hm]
      rw [digits_loop .integerPart (Or.inl rfl) .int more ['-', d] tail hmore']
      simp

theorem frac_run (st : State) (hst : st = .leadingZero ∨ st = .integerPart) (acc f tail : Str)
    (hf : IsFractionalPart f) :
    runD st .int false acc (f ++ tail) = runD .fractionalPart .float false (acc ++ f) tail := by
  obtain ⟨ds, rfl, hne, hds⟩ := hf
  cases ds with
  | nil => exact absurd rfl hne
  | cons d ds =>
    have hds' := (allD_iff _).mp hds
    have hd : D d := hds' d (by simp)
    have h46 : ('.' : Char).toNat = 46 := rfl
    have h1 : step st .int false acc '.' = .goto .decimalPoint .float false := by
      rcases hst with rfl | rfl
      · rcases step_leadingZero .int acc '.' with ⟨_, hs⟩ | ⟨h, _⟩ | ⟨h, _⟩ | ⟨_, h, _⟩
        · exact hs
        · simp [Ex] at h
        · simp [D, NS] at h
        · exact absurd h46 h
      · rcases step_integerPart .int acc '.' with ⟨h, _⟩ | ⟨_, hs⟩ | ⟨h, _⟩ | ⟨h, _⟩ | ⟨_, h, _⟩
        · simp [D] at h
        · exact hs
        · simp [Ex] at h
        · simp [NS] at h
        · exact absurd h46 h
    have h2 : step .decimalPoint .float false (acc ++ ['.']) d = .goto .fractionalPart .float false := by
      rcases step_decimalPoint .float (acc ++ ['.']) d with ⟨_, hs⟩ | ⟨h, _⟩
      · exact hs
      · exact absurd hd h
    simp only [List.cons_append, runD, h1, h2]
    rw [digits_loop .fractionalPart (Or.inr (Or.inl rfl)) .float ds _ tail (fun x hx => hds' x (by simp [hx]))]
    simp

theorem exp_run (st : State) (k : Kind)
    (hst : ((st = .leadingZero ∨ st = .integerPart)) ∨ (st = .fractionalPart ∧ k = .float))
    (acc e tail : Str) (he : IsExponentPart e) :
    runD st k false acc (e ++ tail) = runD .exponentDigit .float false (acc ++ e) tail := by
  obtain ⟨c, sign, ds, rfl, hc, hsign, hne, hds⟩ := he
  have hds' := (allD_iff _).mp hds
  have hEx : Ex c := by rcases hc with rfl | rfl <;> simp [Ex]
  have h1 : step st k false acc c = .goto .exponentIndicator .float false := by
    rcases hst with (rfl | rfl) | ⟨rfl, rfl⟩
    · rcases step_leadingZero k acc c with ⟨h, _⟩ | ⟨_, hs⟩ | ⟨_, h, _⟩ | ⟨_, _, h, _⟩
      · cls
      · exact hs
      · exact absurd hEx h
      · cls
    · rcases step_integerPart k acc c with ⟨h, _⟩ | ⟨h, _⟩ | ⟨_, hs⟩ | ⟨_, h, _⟩ | ⟨_, _, h, _⟩
      · cls
      · cls
      · exact hs
      · exact absurd hEx h
      · cls
    · rcases step_fractionalPart .float acc c with ⟨h, _⟩ | ⟨_, hs⟩ | ⟨_, h, _⟩ | ⟨_, _, h, _⟩
      · cls
      · exact hs
      · exact absurd hEx h
      · cls
  cases ds with
  | nil => exact absurd rfl hne
  | cons d ds =>
    have hd : D d := hds' d (by simp)
    have hrest : AllDn ds := fun x hx => hds' x (by simp [hx])
    have hdig : ∀ acc', step .exponentIndicator .float false acc' d = .goto .exponentDigit .float false := by
      intro acc'
      rcases step_exponentIndicator .float acc' d with ⟨_, hs⟩ | ⟨h, _⟩ | ⟨h, _⟩
      · exact hs
      · cls
      · exact absurd hd h
    have hdig2 : ∀ acc', step .exponentSign .float false acc' d = .goto .exponentDigit .float false := by
      intro acc'
      rcases step_exponentSign .float acc' d with ⟨_, hs⟩ | ⟨h, _⟩
      · exact hs
      · exact absurd hd h
    rcases hsign with rfl | rfl | rfl
    · simp only [List.nil_append, List.cons_append, runD, h1, hdig]
      rw [digits_loop .exponentDigit (Or.inr (Or.inr rfl)) .float ds _ tail hrest]
      simp
    · have hs : step .exponentIndicator .float false (acc ++ [c]) '+' = .goto .exponentSign .float false := by
        rcases step_exponentIndicator .float (acc ++ [c]) '+' with ⟨h, _⟩ | ⟨_, hs⟩ | ⟨_, h, _⟩
        · simp [D] at h
        · exact hs
        · simp at h
      simp only [List.cons_append, List.nil_append, runD, h1, hs, hdig2]
      rw [digits_loop .exponentDigit (Or.inr (Or.inr rfl)) .float ds _ tail hrest]
      simp
    · have hs : step .exponentIndicator .float false (acc ++ [c]) '-' = .goto .exponentSign .float false := by
        rcases step_exponentIndicator .float (acc ++ [c]) '-' with ⟨h, _⟩ | ⟨_, hs⟩ | ⟨_, _, h, _⟩
        · simp [D] at h
        · exact hs
        · simp at h
      simp only [List.cons_append, List.nil_append, runD, h1, hs, hdig2]
      rw [digits_loop .exponentDigit (Or.inr (Or.inr rfl)) .float ds _ tail hrest]
      simp

/-- COMPLETENESS, IntValue: a spec IntValue followed by an allowed character (or the end of the
    input) is lexed as exactly that Int token. -/
theorem lex_int_complete (t rest : Str) (ht : IsIntValue t) (hl : NumberLookaheadOk rest) :
    advance (t ++ rest) = (.tok .int t, rest) := by
  obtain ⟨st, hst, hrun⟩ := int_prefix ht
  rw [hrun rest]
  exact number_end st (by rcases hst with h | h <;> simp [h]) .int t rest hl

/-- COMPLETENESS, FloatValue (all three alternatives). -/
theorem lex_float_complete (t rest : Str) (ht : IsFloatValue t) (hl : NumberLookaheadOk rest) :
    advance (t ++ rest) = (.tok .float t, rest) := by
  obtain ⟨i, f, e, rfl, hi, halt⟩ := ht
  obtain ⟨st, hst, hrun⟩ := int_prefix hi
  rcases halt with ⟨hf, he⟩ | ⟨hf, rfl⟩ | ⟨rfl, he⟩
  · have : i ++ f ++ e ++ rest = i ++ (f ++ (e ++ rest)) := by simp
    rw [this, hrun, frac_run st hst i f _ hf,
      exp_run .fractionalPart .float (Or.inr ⟨rfl, rfl⟩) (i ++ f) e rest he]
    exact number_end .exponentDigit (by simp) .float _ rest hl
  · have : i ++ f ++ [] ++ rest = i ++ (f ++ rest) := by simp
    rw [this, hrun, frac_run st hst i f _ hf]
    simpa using number_end .fractionalPart (by simp) .float (i ++ f) rest hl
  · have : i ++ [] ++ e ++ rest = i ++ (e ++ rest) := by simp
    rw [this, hrun, exp_run st .int (Or.inl hst) i e rest he]
    simpa using number_end .exponentDigit (by simp) .float (i ++ e) rest hl

end Apollo.Lex
