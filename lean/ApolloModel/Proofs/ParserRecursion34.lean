import ApolloModel.Proofs.ParserRecursion33
/-
C04, both limits: a two-run (relational) pass — a token limit that the source does not exceed does
not change the run.  `s.unl` is the state `s` without its token limit; `Sim cx m`: from a state whose lexer sits in the
unlimited item stream `cx.Ls` (`LI`), `cx.Ls.length ≤ cx.n`, a completed run of `m` is, state by state, the run of `m`
from `s.unl`.  This file: the lexer (main lexer and the cloned look-ahead lexer of `peek_n`), the leaves, the
combinators.
-/
set_option linter.unusedSimpArgs false
set_option linter.unusedVariables false
namespace Apollo.Parse
open Apollo.Rowan hiding Str
open Apollo.Lex hiding Str

def LexSt.unl (l : LexSt) : LexSt := { l with limit := none }
def PState.unl (s : PState) : PState := { s with lx := s.lx.unl }

structure LimCtx where
  n : Nat
  Ls : List Item
  le : Ls.length ≤ n

/-- `m`, run from a state within the unlimited stream, is the run without token limit -/
structure Sim (cx : LimCtx) {α : Type} (m : PI α) : Prop where
  k : ∀ s a s', LI cx.n cx.Ls s.lx → m.run s = .ok a s' → LI cx.n cx.Ls s'.lx ∧ m.run s.unl = .ok a s'.unl

variable {cx : LimCtx}

/-! ### the lexer -/

theorem li_room {l : LexSt} (h : LI cx.n cx.Ls l) (hf : l.finished = false) : l.cur + 1 ≤ cx.n := by
  obtain ⟨_, _, hd⟩ := h.run hf
  have hne : cx.Ls.drop l.cur ≠ [] := by rw [← hd]; exact lex_none_ne_nil _
  have := lt_length_of_drop_ne_nil _ _ hne
  have := cx.le
  omega

theorem lexNext_unl {l : LexSt} (h : LI cx.n cx.Ls l) :
    lexNext l.unl = ((lexNext l).1, (lexNext l).2.unl) ∧ LI cx.n cx.Ls (lexNext l).2 ∧ ¬ IsLimitOut (lexNext l).1 := by
  refine ⟨?_, (li_lexNext h).1, ?_⟩
  · unfold lexNext
    by_cases hf : l.finished = true
    · simp [hf, LexSt.unl]
    · have hf' : l.finished = false := by simpa using hf
      have hb := li_room h hf'
      have hnr : ¬ (l.cur + 1 > cx.n) := by omega
      simp only [LexSt.unl, hf', Bool.false_eq_true, if_false, lexCheck, h.lim, hnr, decide_false]
      cases hs : l.src with
      | nil => simp
      | cons ch rest =>
        simp only []
        cases hr : (advance (ch :: rest)).1 <;> simp [hr]
  · unfold lexNext
    by_cases hf : l.finished = true
    · simp [hf, IsLimitOut]
    · have hf' : l.finished = false := by simpa using hf
      have hb := li_room h hf'
      have hnr : ¬ (l.cur + 1 > cx.n) := by omega
      simp only [hf', Bool.false_eq_true, if_false, lexCheck, h.lim, hnr, decide_false]
      cases hs : l.src with
      | nil => simp [IsLimitOut]
      | cons ch rest =>
        simp only []
        cases hr : (advance (ch :: rest)).1 <;> simp [hr, IsLimitOut]

/-- the state after a lexer error item -/
def errStep (s : PState) (l' : LexSt) (d : Str) (i : Nat) : PState :=
  { s with lx := l', pending := (if d.isEmpty then s.pending else s.pending ++ [.error d]),
           errors := s.errors ++ [(⟨i, utf8Len d, .lexer⟩ : PErr)] }

theorem nextTokenRaw_unl : ∀ (fuel : Nat) (s : PState), LI cx.n cx.Ls s.lx →
    nextTokenRaw fuel s.unl = ((nextTokenRaw fuel s).1, (nextTokenRaw fuel s).2.unl) ∧ LI cx.n cx.Ls (nextTokenRaw fuel s).2.lx
  | 0, s, h => ⟨rfl, h⟩
  | fuel + 1, s, h => by
    obtain ⟨e1, l1, nl⟩ := lexNext_unl h
    unfold nextTokenRaw
    have e1' : lexNext s.unl.lx = ((lexNext s.lx).1, (lexNext s.lx).2.unl) := e1
    rw [e1']
    cases hl : lexNext s.lx with
    | mk o l' =>
      rw [hl] at l1 nl
      simp only [] at l1 nl ⊢
      cases o with
      | none => exact ⟨rfl, l1⟩
      | some out =>
        cases out with
        | tok t => exact ⟨rfl, l1⟩
        | err d i =>
          simp only []
          exact nextTokenRaw_unl fuel (errStep s l' d i) l1
        | limit i => exact absurd trivial nl

theorem aheadLoop_unl : ∀ (fuel : Nat) (l : LexSt) (k : Nat), LI cx.n cx.Ls l → aheadLoop fuel l.unl k = aheadLoop fuel l k
  | 0, _, _, _ => rfl
  | fuel + 1, l, k, h => by
    obtain ⟨e1, l1, nl⟩ := lexNext_unl h
    unfold aheadLoop
    rw [e1]
    cases hl : lexNext l with
    | mk o l' =>
      rw [hl] at l1
      simp only [] at l1 ⊢
      cases o with
      | none => rfl
      | some out =>
        cases out with
        | tok t =>
          simp only []
          split
          · exact aheadLoop_unl fuel l' k l1
          · split
            · rfl
            · exact aheadLoop_unl fuel l' (k - 1) l1
        | err d i => exact aheadLoop_unl fuel l' k l1
        | limit i => exact aheadLoop_unl fuel l' k l1

/-! ### combinators -/

theorem sm_pure {α : Type} (a : α) : Sim cx (pure a : PI α) := by
  constructor
  intro s a' s' hl h
  rw [run_pure] at h ⊢
  injection h with h1 h2
  subst h1 h2
  exact ⟨hl, rfl⟩

theorem sm_bind {α β : Type} (m : PI α) (f : α → PI β) (hm : Sim cx m) (hf : ∀ a, Sim cx (f a)) : Sim cx (m >>= f) := by
  constructor
  intro s b s'' hl h
  obtain ⟨a, s', h1, h2⟩ := bind_dec m f s s'' b h
  obtain ⟨l1, r1⟩ := hm.k s a s' hl h1
  obtain ⟨l2, r2⟩ := (hf a).k s' b s'' l1 h2
  refine ⟨l2, ?_⟩
  rw [run_bind, r1]
  exact r2

/-- a leaf that does not touch the lexer: it commutes with dropping the limit -/
theorem sm_of_comm {α : Type} {m : PI α} (hlx : ∀ s a s', m.run s = .ok a s' → s'.lx = s.lx)
    (hc : ∀ s a s', m.run s = .ok a s' → m.run s.unl = .ok a s'.unl) : Sim cx m :=
  ⟨fun s a s' hl h => ⟨by rw [hlx s a s' h]; exact hl, hc s a s' h⟩⟩

theorem sm_outOfFuel {α : Type} : Sim cx (PI.outOfFuel : PI α) := ⟨fun s a s' _ h => by simp [PI.outOfFuel] at h⟩
theorem sm_stuck {α : Type} : Sim cx (PI.stuck : PI α) := ⟨fun s a s' _ h => by simp [PI.stuck] at h⟩

theorem sm_peekToken : Sim cx peekToken := by
  constructor
  intro s o s' hl h
  unfold peekToken at h ⊢
  simp only [] at h ⊢
  have hcur : s.unl.current = s.current := rfl
  rw [hcur]
  cases hc : s.current with
  | some t =>
    simp only [hc, Res.ok.injEq] at h ⊢
    obtain ⟨rfl, rfl⟩ := h
    exact ⟨hl, rfl, rfl⟩
  | none =>
    simp only [hc, Res.ok.injEq] at h ⊢
    obtain ⟨rfl, rfl⟩ := h
    obtain ⟨e1, l1⟩ := nextTokenRaw_unl (cx := cx) (s.lx.src.length + 3) s hl
    have e2 : nextToken s.unl = ((nextToken s).1, (nextToken s).2.unl) := e1
    rw [e2]
    exact ⟨l1, rfl, rfl⟩

theorem sm_peekTokenN (k : Nat) : Sim cx (peekTokenN k) := by
  constructor
  intro s o s' hl h
  unfold peekTokenN at h ⊢
  simp only [Res.ok.injEq] at h ⊢
  obtain ⟨rfl, rfl⟩ := h
  refine ⟨hl, ?_, rfl⟩
  unfold lookahead
  have hcur : s.unl.current = s.current := rfl
  have hlen : s.unl.lx.src.length = s.lx.src.length := rfl
  have hlx : s.unl.lx = s.lx.unl := rfl
  rw [hcur, hlen, hlx]
  cases s.current with
  | none => exact aheadLoop_unl _ _ _ hl
  | some t =>
    simp only []
    split
    · exact aheadLoop_unl _ _ _ hl
    · split
      · rfl
      · exact aheadLoop_unl _ _ _ hl

theorem sm_moveCurToPending : Sim cx moveCurToPending := by
  refine sm_of_comm ?_ ?_
  · intro s b s' h
    unfold moveCurToPending at h
    simp only [] at h
    cases hc : s.current with
    | none => simp only [hc] at h; injection h with _ h; subst h; rfl
    | some t => simp only [hc] at h; split at h <;> (injection h with _ h; subst h; rfl)
  · intro s b s' h
    unfold moveCurToPending at h ⊢
    simp only [] at h ⊢
    have hcur : s.unl.current = s.current := rfl
    rw [hcur]
    cases hc : s.current with
    | none => simp only [hc] at h ⊢; injection h with h1 h2; subst h1 h2; rfl
    | some t =>
      simp only [hc] at h ⊢
      split at h <;> rename_i hk <;> simp only [hk] <;> (injection h with h1 h2; subst h1 h2; rfl)

theorem sm_srcLen : Sim cx srcLen :=
  sm_of_comm (fun s a s' h => by unfold srcLen at h; simp only [] at h; injection h with _ h; subst h; rfl)
    (fun s a s' h => by unfold srcLen at h ⊢; simp only [] at h ⊢; injection h with h1 h2; subst h1 h2; rfl)

theorem sm_getCurrent : Sim cx getCurrent :=
  sm_of_comm (fun s a s' h => by unfold getCurrent at h; simp only [] at h; injection h with _ h; subst h; rfl)
    (fun s a s' h => by unfold getCurrent at h ⊢; simp only [] at h ⊢; injection h with h1 h2; subst h1 h2; rfl)

theorem sm_pushIgnored : Sim cx pushIgnored :=
  sm_of_comm (fun s a s' h => by unfold pushIgnored at h; simp only [] at h; injection h with _ h; subst h; rfl)
    (fun s a s' h => by unfold pushIgnored at h ⊢; simp only [] at h ⊢; injection h with h1 h2; subst h1 h2; rfl)

theorem sm_assertRecZero : Sim cx assertRecZero :=
  sm_of_comm (fun s a s' h => by unfold assertRecZero at h; simp only [] at h; injection h with _ h; subst h; rfl)
    (fun s a s' h => by unfold assertRecZero at h ⊢; simp only [] at h ⊢; injection h with h1 h2; subst h1 h2; rfl)

theorem sm_moveCurToTree (kind : SK) : Sim cx (moveCurToTree kind) := by
  refine sm_of_comm ?_ ?_
  · intro s b s' h
    unfold moveCurToTree at h
    simp only [] at h
    cases hc : s.current with
    | none => simp only [hc] at h; injection h with _ h; subst h; rfl
    | some t => simp only [hc] at h; injection h with _ h; subst h; rfl
  · intro s b s' h
    unfold moveCurToTree at h ⊢
    simp only [] at h ⊢
    have hcur : s.unl.current = s.current := rfl
    rw [hcur]
    cases hc : s.current with
    | none => simp only [hc] at h ⊢; injection h with h1 h2; subst h1 h2; rfl
    | some t => simp only [hc] at h ⊢; injection h with h1 h2; subst h1 h2; rfl

theorem sm_popDrop : Sim cx (popDrop) := by
  refine sm_of_comm ?_ ?_
  · intro s b s' h
    unfold popDrop at h
    simp only [] at h
    cases hc : s.current with
    | none => simp only [hc] at h; injection h with _ h; subst h; rfl
    | some t => simp only [hc] at h; injection h with _ h; subst h; rfl
  · intro s b s' h
    unfold popDrop at h ⊢
    simp only [] at h ⊢
    have hcur : s.unl.current = s.current := rfl
    rw [hcur]
    cases hc : s.current with
    | none => simp only [hc] at h ⊢; injection h with h1 h2; subst h1 h2; rfl
    | some t => simp only [hc] at h ⊢; injection h with h1 h2; subst h1 h2; rfl

theorem sm_pushErr (e : PErr) : Sim cx (pushErr e) :=
  sm_of_comm (fun s a s' h => by unfold pushErr errUpdate at h; simp only [] at h; injection h with _ h; subst h; rfl)
    (fun s a s' h => by unfold pushErr errUpdate at h ⊢; simp only [] at h ⊢; injection h with h1 h2; subst h1 h2; rfl)

theorem sm_limitErr : Sim cx limitErr := by
  unfold limitErr
  refine sm_bind _ _ sm_peekToken (fun o => ?_)
  cases o with
  | none => exact sm_pure _
  | some t =>
    exact sm_of_comm (fun s a s' h => by unfold errUpdate at h; simp only [] at h; injection h with _ h; subst h; rfl)
      (fun s a s' h => by unfold errUpdate at h ⊢; simp only [] at h ⊢; injection h with h1 h2; subst h1 h2; rfl)

/-! ### nodes and the recursion guard -/

theorem sm_withNode {α : Type} (kind : SK) (body : PI α) (hs : Sim cx skipIgnored) (hb : Sim cx body) :
    Sim cx (withNode kind body) := by
  have hin := sm_bind (cx := cx) skipIgnored (fun _ => body) hs (fun _ => hb)
  constructor
  intro s a s' hl h
  unfold withNode at h ⊢
  simp only [] at h ⊢
  have e1 : ∀ s : PState, pushIgnored.run s = .ok () { s with builder := { s.builder with children := s.builder.children ++ s.pending.map pendingElem }, pending := [] } := fun _ => rfl
  rw [e1] at h ⊢
  simp only [] at h ⊢
  cases hr : (skipIgnored >>= fun _ => body).run (rawStartNode kind { s with builder := { s.builder with children := s.builder.children ++ s.pending.map pendingElem }, pending := [] }) with
  | abort w => rw [hr] at h; cases h
  | panic m => rw [hr] at h; cases h
  | ok a2 s2 =>
    rw [hr] at h
    simp only [] at h
    have key := fun (st : PState) h2 h1 => hin.k st a2 s2 h1 h2
    obtain ⟨l2, r2⟩ := key _ hr hl
    have r2' : (skipIgnored >>= fun _ => body).run (rawStartNode kind { s.unl with builder := { s.unl.builder with children := s.unl.builder.children ++ s.unl.pending.map pendingElem }, pending := [] }) = .ok a2 s2.unl := r2
    rw [r2']
    simp only []
    have hb2 : s2.unl.builder = s2.builder := rfl
    rw [hb2]
    cases hf : s2.builder.finishNode with
    | none => rw [hf] at h; cases h
    | some b =>
      rw [hf] at h
      simp only [] at h ⊢
      injection h with h1 h2
      subst h1 h2
      exact ⟨l2, rfl⟩

theorem sm_withRec {α : Type} (onLimit body : PI α) (hl : Sim cx onLimit) (hb : Sim cx body) : Sim cx (withRec onLimit body) := by
  constructor
  intro s a s' hli h
  unfold withRec at h ⊢
  simp only [] at h ⊢
  have e1 : s.unl.recCur = s.recCur := rfl
  have e2 : s.unl.recHigh = s.recHigh := rfl
  have e3 : s.unl.recLimit = s.recLimit := rfl
  rw [e1, e2, e3]
  by_cases hover : s.recCur + 1 > s.recLimit
  · simp only [hover, if_true] at h ⊢
    have key := fun (st : PState) h2 h1 => hl.k st a s' h1 h2
    exact key _ h hli
  · simp only [hover, if_false] at h ⊢
    cases hr : body.run { s with recCur := s.recCur + 1, recHigh := if s.recCur + 1 > s.recHigh then s.recCur + 1 else s.recHigh } with
    | abort w => rw [hr] at h; cases h
    | panic m => rw [hr] at h; cases h
    | ok a2 s2 =>
      rw [hr] at h
      simp only [] at h
      have key := fun (st : PState) h2 h1 => hb.k st a2 s2 h1 h2
      obtain ⟨l2, r2⟩ := key _ hr hli
      rw [show body.run { s.unl with recCur := s.recCur + 1, recHigh := (if s.recCur + 1 > s.recHigh then s.recCur + 1 else s.recHigh), recLimit := s.recLimit } = Res.ok a2 s2.unl from r2]
      simp only []
      have e4 : s2.unl.recCur = s2.recCur := rfl
      rw [e4]
      by_cases hz : s2.recCur = 0
      · simp only [hz, if_true] at h
        cases h
      · simp only [hz, if_false] at h ⊢
        injection h with h1 h2
        subst h1 h2
        exact ⟨l2, rfl⟩

theorem sm_wrapIf {α : Type} (kind : SK) (body : PI α) (cond : α → PI Bool) (inner : PI Unit)
    (hb : Sim cx body) (hc : ∀ a, Sim cx (cond a)) (hi : Sim cx inner) : Sim cx (wrapIf kind body cond inner) := by
  have hin := sm_bind (cx := cx) body (fun a => cond a >>= fun cc => pure (a, cc)) hb
    (fun a => sm_bind _ _ (hc a) (fun cc => sm_pure _))
  constructor
  intro s a s' hl h
  unfold wrapIf at h ⊢
  simp only [] at h ⊢
  have e1 : ∀ s : PState, pushIgnored.run s = .ok () { s with builder := { s.builder with children := s.builder.children ++ s.pending.map pendingElem }, pending := [] } := fun _ => rfl
  rw [e1] at h ⊢
  simp only [] at h ⊢
  cases hr : (body >>= fun a => cond a >>= fun cx => pure (a, cx)).run { s with builder := { s.builder with children := s.builder.children ++ s.pending.map pendingElem }, pending := [] } with
  | abort w => rw [hr] at h; cases h
  | panic m => rw [hr] at h; cases h
  | ok ac s2 =>
    obtain ⟨a2, c2⟩ := ac
    rw [hr] at h
    simp only [] at h
    have key := fun (st : PState) h2 h1 => hin.k st (a2, c2) s2 h1 h2
    obtain ⟨l2, r2⟩ := key _ hr hl
    have r2' : (body >>= fun a => cond a >>= fun cx => pure (a, cx)).run { s.unl with builder := { s.unl.builder with children := s.unl.builder.children ++ s.unl.pending.map pendingElem }, pending := [] } = .ok (a2, c2) s2.unl := r2
    rw [r2']
    simp only []
    have hb2 : s2.unl.builder = s2.builder := rfl
    have hbs : s.unl.builder = s.builder := rfl
    have hps : s.unl.pending = s.pending := rfl
    rw [hb2, hbs, hps]
    cases c2 with
    | false =>
      simp only [Bool.false_eq_true, if_false] at h ⊢
      injection h with h1 h2
      subst h1 h2
      exact ⟨l2, rfl⟩
    | true =>
      simp only [if_true] at h ⊢
      cases hsn : s2.builder.startNodeAt ({ s.builder with children := s.builder.children ++ s.pending.map pendingElem } : Builder).checkpoint kind with
      | none => rw [hsn] at h; cases h
      | some b =>
        rw [hsn] at h
        simp only [] at h ⊢
        cases hr3 : inner.run { s2 with builder := b } with
        | abort w => rw [hr3] at h; cases h
        | panic m => rw [hr3] at h; cases h
        | ok u s3 =>
          rw [hr3] at h
          simp only [] at h
          have key3 := fun (st : PState) h2 h1 => hi.k st u s3 h1 h2
          obtain ⟨l3, r3⟩ := key3 _ hr3 l2
          have r3' : inner.run { s2.unl with builder := b } = .ok u s3.unl := r3
          rw [r3']
          simp only []
          have hb3 : s3.unl.builder = s3.builder := rfl
          rw [hb3]
          cases hf : s3.builder.finishNode with
          | none => rw [hf] at h; cases h
          | some b' =>
            rw [hf] at h
            simp only [] at h ⊢
            injection h with h1 h2
            subst h1 h2
            exact ⟨l3, rfl⟩

end Apollo.Parse
