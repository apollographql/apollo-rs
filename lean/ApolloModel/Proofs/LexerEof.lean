import ApolloModel.Model.Lexer
namespace Apollo.Lex

theorem punct_ne_eof (c : Char) (k : Kind) (h : punctuationKind c = some k) : k ≠ .eof := by
  intro hk; subst hk
  revert h
  unfold punctuationKind
  split <;> simp

theorem blockStep_goto (kind : Kind) (e : Bool) (c : Char) :
    ∃ st', blockStep kind e c = .goto st' kind e ∧ st' ≠ .start := by
  unfold blockStep
  split
  · exact ⟨_, rfl, by simp⟩
  · split
    · exact ⟨_, rfl, by simp⟩
    · exact ⟨_, rfl, by simp⟩

def okAct : Action → Prop
  | .goto st' k' _ => st' ≠ .start ∧ k' ≠ .eof
  | .incl o | .excl o => o ≠ .tok .eof

theorem okAct_ite {p : Prop} [Decidable p] {a b : Action} (ha : okAct a) (hb : okAct b) :
    okAct (if p then a else b) := by
  split <;> assumption

theorem done_ne_eof (kind : Kind) (e : Bool) (hk : kind ≠ .eof) : done kind e ≠ .tok .eof := by
  unfold done; split <;> simp [hk]

/-- `step` is a tree of `if`s in every state (`blockStep` included), so `okAct` is checked at the leaves -/
theorem step_kind (st : State) (kind : Kind) (e : Bool) (acc : Str) (c : Char)
    (hk : st ≠ .start → kind ≠ .eof) : okAct (step st kind e acc c) := by
  cases st with
  | start =>
    unfold step
    cases hp : punctuationKind c with
    | some k => simpa [okAct] using punct_ne_eof c k hp
    | none =>
      dsimp only
      repeat' apply okAct_ite
      all_goals simp [okAct]
  | _ =>
    have hk' := hk (by simp)
    unfold step
    dsimp only
    repeat' apply okAct_ite
    all_goals simp [okAct, done_ne_eof, hk']

theorem Out.mk_eq_tok {o : Out} {a d : Str} {k : Kind} (h : o.mk a = .tok k d) : o = .tok k := by
  cases o <;> simp_all [Out.mk]

theorem runD_kind_ne_eof : ∀ (src : Str) (st : State) (kind : Kind) (e : Bool) (acc : Str) (k : Kind) (d : Str),
    (st ≠ .start → kind ≠ .eof) → (st = .start → src ≠ []) →
    (runD st kind e acc src).1 = .tok k d → k ≠ .eof
  | [], st, kind, e, acc, k, d, hk, hs, h => by
    have hst : st ≠ .start := fun e' => hs e' rfl
    have hk' := hk hst
    simp only [runD] at h
    cases st <;> simp [eofItem] at h <;> (try exact absurd rfl hst) <;> (obtain ⟨rfl, _⟩ := h; exact hk')
  | c :: rest, st, kind, e, acc, k, d, hk, hs, h => by
    have hstep := step_kind st kind e acc c hk
    unfold runD at h
    cases hst : step st kind e acc c with
    | goto st' k' e' =>
      simp only [hst, okAct] at h hstep
      exact runD_kind_ne_eof rest st' k' e' (acc ++ [c]) k d (fun _ => hstep.2) (fun e' => absurd e' hstep.1) h
    | incl o =>
      simp only [hst] at h hstep
      cases Out.mk_eq_tok h
      simpa [okAct] using hstep
    | excl o =>
      simp only [hst] at h hstep
      cases Out.mk_eq_tok h
      simpa [okAct] using hstep

theorem advance_kind_ne_eof (c : Char) (rest : Str) (k : Kind) (d : Str)
    (h : (advance (c :: rest)).1 = .tok k d) : k ≠ .eof :=
  runD_kind_ne_eof (c :: rest) .start .eof false [] k d (fun h => absurd rfl h) (fun _ => by simp) h

end Apollo.Lex
