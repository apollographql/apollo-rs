import ApolloModel.Proofs.ParserRecursion31
/-
C04: (1) the token-limit error is the last element of the error list — once the lexer refused an
item it hands out nothing more, `accept_errors` is false, and `limit_err` finds no token to report at;
(2) a parse without token limit reports a limit error if and only if its recursion limit was hit; hence the cross-run
statement `parse_cross` (ParserRecursion17) holds without "the larger limit is not hit", and the closed form of the
depth `parse_depth` (ParserRecursion31) needs only "no error".
-/
set_option linter.unusedSimpArgs false
set_option linter.unusedVariables false
namespace Apollo.Parse
open Apollo.Rowan hiding Str
open Apollo.Lex hiding Str

/-! ### the token-limit error is last -/

def EndsWithLimit (es : List PErr) : Prop := ∃ pre i, es = pre ++ [(⟨i, 0, .limit⟩ : PErr)]

structure TL (n : Nat) (Ls : List Item) (s : PState) : Prop where
  ti : TI n Ls s
  last : Hit n s.lx → s.acceptErrors = false ∧ EndsWithLimit s.errors

theorem tl_next {n : Nat} {Ls : List Item} : ∀ (fuel : Nat) (s : PState), TL n Ls s → TL n Ls (nextTokenRaw fuel s).2
  | 0, s, h => by simpa [nextTokenRaw] using h
  | fuel + 1, s, h => by
    obtain ⟨l1, l2, l3⟩ := li_lexNext h.ti.li
    have t1 := ti_next (n := n) (Ls := Ls) 1 s h.ti
    unfold nextTokenRaw at t1 ⊢
    cases hl : lexNext s.lx with
    | mk o l' =>
      rw [hl] at l1 l2 l3 t1
      simp only [] at l1 l2 l3 t1
      have fin_none : Hit n s.lx → o = none := fun y => by
        have : lexNext s.lx = (none, s.lx) := lexNext_finished _ y.1
        rw [hl] at this
        injection this with this _
      cases o with
      | none =>
        simp only [] at t1 ⊢
        exact ⟨by simpa [nextTokenRaw] using t1, fun x => h.last (l3 (fun y => y) x)⟩
      | some out =>
        cases out with
        | tok t =>
          simp only [] at t1 ⊢
          exact ⟨by simpa [nextTokenRaw] using t1, fun x => h.last (l3 (fun y => y) x)⟩
        | err d i =>
          simp only [] at t1 ⊢
          refine tl_next fuel _ ⟨by simpa [nextTokenRaw] using t1, fun x => ?_⟩
          have := fin_none (l3 (fun y => y) x)
          cases this
        | limit i =>
          simp only [] at t1 ⊢
          exact tl_next fuel _ ⟨by simpa [nextTokenRaw] using t1, fun _ => ⟨rfl, s.errors, i, rfl⟩⟩

instance instStInvTL (n : Nat) (Ls : List Item) : StInv (TL n Ls) where
  cong := by
    intro s s' e1 e2 e3 e4 e5 h
    exact ⟨StInv.cong s s' e1 e2 e3 e4 e5 h.ti, by rw [e1, e2, e3]; exact h.last⟩
  next := tl_next
  err := by
    intro s e he ha h
    refine ⟨StInv.err s e he ha h.ti, fun x => ?_⟩
    have := (h.last x).1
    rw [ha] at this
    cases this
  high := by
    intro s hgh hle h
    exact ⟨StInv.high s hgh hle h.ti, h.last⟩
  limit := by
    intro s i hh h
    refine ⟨StInv.limit s i hh h.ti, fun x => ?_⟩
    obtain ⟨ha, hl⟩ := h.last x
    refine ⟨rfl, ?_⟩
    show EndsWithLimit (if s.acceptErrors then s.errors ++ [⟨i, 0, .limit⟩] else s.errors)
    simp only [ha, Bool.false_eq_true, if_false]
    exact hl

/-- **once the token limit refused an item, its error is the last one** — every entry point, every recursion
    limit, no side condition -/
theorem parse_token_limit_error_last (e : Entry) (n r : Nat) (src : Str) (h : (parse e (some n) r src).tokHigh > n) :
    EndsWithLimit (parse e (some n) r src).errors := by
  obtain ⟨s, hr, h1, _, h3, _⟩ := parse_run e (some n) r src
  have h0 : TL n (lex none src) (entryStartT e src (some n) r) := by
    refine ⟨ti_start e src n r, fun x => ?_⟩
    have hl : (entryStartT e src (some n) r).lx = (initState src (some n) r).lx := by cases e <;> rfl
    have := x.1
    rw [hl] at this
    simp [initState] at this
  have tl := (kp_entry e (fuelFor src)).k _ () s h0 hr
  rw [h1]
  rw [h3] at h
  refine (tl.last ?_).2
  by_cases hf : s.lx.finished = true
  · rcases tl.ti.li.fin hf with ⟨a1, _, _, _⟩ | ⟨a1, _, _, _⟩
    · omega
    · exact ⟨hf, a1⟩
  · have hf' : s.lx.finished = false := by simpa using hf
    obtain ⟨a1, a2, _⟩ := tl.ti.li.run hf'
    omega

/-! ### a hit records the limit error -/

/-- the two-run comparison of a parse with itself: not hit, or the limit error is on record -/
theorem parse_hit_records (e : Entry) (R : Nat) (src : Str) (h : (parse e none R src).recHigh > R) :
    HasLim (parse e none R src).errors := by
  obtain ⟨sR, hR, eR1, eR2⟩ := parse_entry_run e R src
  rw [eR1]
  rw [eR2] at h
  have g : GI (entryStart e src) := by
    cases e <;> exact ⟨rfl, fun h => by simp [entryStart, Entry.standalone, initState] at h,
      fun h => by simp [entryStart, Entry.standalone, initState] at h⟩
  have hf : Fresh (entryStart e src) := by cases e <;> exact fun _ => rfl
  have hc0 : (entryStart e src).recCur ≤ R := by cases e <;> exact Nat.zero_le _
  have hh0 : (entryStart e src).recHigh ≤ R := by cases e <;> exact Nat.zero_le _
  rcases xs_entry e (fuelFor src) (entryStart e src) R R () () sR sR (Nat.le_refl _) hc0 hh0 g hf hR hR
    with ⟨t, e1, _, _, th, _, _⟩ | ⟨d1, _, _⟩
  · subst e1
    have : (setL R t).recHigh = t.recHigh := rfl
    omega
  · exact d1

theorem parse_limit_iff_hit (e : Entry) (R : Nat) (src : Str) :
    HasLim (parse e none R src).errors ↔ (parse e none R src).recHigh > R := by
  constructor
  · intro hl
    by_cases h : (parse e none R src).recHigh ≤ R
    · exact absurd hl (parse_no_limit_error e R src h)
    · omega
  · exact parse_hit_records e R src

/-- the cross-run statement without any side condition on the larger limit -/
theorem parse_cross_all (e : Entry) (r R : Nat) (src : Str) (hrR : r ≤ R) :
    (parse e none r src).recHigh = min (parse e none R src).recHigh (r + 1) ∧
    (HasLim (parse e none r src).errors ↔ (parse e none R src).recHigh > r) := by
  obtain ⟨sr, hr, er1, er2⟩ := parse_entry_run e r src
  obtain ⟨sR, hR, eR1, eR2⟩ := parse_entry_run e R src
  have hiff := parse_limit_iff_hit e R src
  rw [eR1, eR2] at hiff
  rw [er1, er2, eR2]
  have g : GI (entryStart e src) := by
    cases e <;> exact ⟨rfl, fun h => by simp [entryStart, Entry.standalone, initState] at h,
      fun h => by simp [entryStart, Entry.standalone, initState] at h⟩
  have hf : Fresh (entryStart e src) := by cases e <;> exact fun _ => rfl
  have hc0 : (entryStart e src).recCur ≤ r := by cases e <;> exact Nat.zero_le _
  have hh0 : (entryStart e src).recHigh ≤ r := by cases e <;> exact Nat.zero_le _
  rcases xs_entry e (fuelFor src) (entryStart e src) r R () () sr sR hrR hc0 hh0 g hf hr hR
    with ⟨t, e1, e2, _, th, _, _⟩ | ⟨d1, d2, d3⟩
  · subst e1 e2
    refine ⟨?_, ?_⟩
    · show t.recHigh = min t.recHigh (r + 1)
      omega
    · show HasLim t.errors ↔ t.recHigh > r
      constructor
      · intro hl
        have : t.recHigh > R := hiff.mp hl
        omega
      · intro hgt
        have : t.recHigh ≤ r := th
        omega
  · exact ⟨by omega, ⟨fun _ => by omega, fun _ => d1⟩⟩

/-- **the closed form needs only "no error"** -/
theorem parse_depth_of_no_error (e : Entry) (R : Nat) (src : Str) (herr : (parse e none R src).errors = []) :
    ∃ root, (parse e none R src).outcome = .tree root ∧ (parse e none R src).recHigh = gd root := by
  refine parse_depth e R src herr ?_
  by_cases h : (parse e none R src).recHigh ≤ R
  · exact h
  · have := parse_hit_records e R src (by omega)
    rw [herr] at this
    obtain ⟨x, hx, _⟩ := this
    cases hx

end Apollo.Parse
