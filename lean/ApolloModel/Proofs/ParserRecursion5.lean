import ApolloModel.Proofs.ParserRecursion2
/-
C04, recursion limit across runs: `Parser::parse_type` against the nesting depth of the input, which does not depend on the limit.

For the type grammar the guarded construct is the list type, and a list type holds exactly one inner type: the
number of simultaneously open guarded constructs is the number of leading `[` tokens of the token queue (ignored
tokens allowed after each of them).  The recursion tracker reaches exactly `min (leading brackets) (limit + 1)`, and
a limit error is recorded exactly when the leading brackets exceed the limit.
-/
set_option linter.unusedSimpArgs false
namespace Apollo.Parse
open Apollo.Rowan hiding Str
open Apollo.Lex hiding Str

def isLB (t : Tok) : Bool := t.kind == .lBracket

def lbCount (ts : List Tok) : Nat := (ts.takeWhile isLB).length

/-- nesting depth of the type at the head of the token queue: the leading `[`, with ignored tokens allowed
    after a `[` but not in front of the first one (`ty.rs` peeks before it skips) -/
def lead (ts : List Tok) : Nat :=
  match ts with
  | [] => 0
  | t :: _ => if isIgnoredKind t.kind then 0 else lbCount (sig ts)

theorem lead_not_bracket (t : Tok) (rest : List Tok) (h : t.kind ≠ .lBracket) : lead (t :: rest) = 0 := by
  unfold lead
  simp only []
  split
  · rfl
  · next hi =>
    have hi' : isIgnoredKind t.kind = false := by simpa using hi
    have : isLB t = false := by simp [isLB, h]
    simp [sig, hi', lbCount, List.takeWhile, this]

theorem lead_settled (ts : List Tok) (h : ∀ t, ts.head? = some t → isIgnoredKind t.kind = false) :
    lead ts = lbCount (sig ts) := by
  cases ts with
  | nil => simp [lead, sig, lbCount]
  | cons t rest =>
    have := h t rfl
    simp [lead, this]

theorem lead_bracket (t : Tok) (ign rest : List Tok) (hk : t.kind = .lBracket)
    (hall : ∀ x ∈ ign, isIgnoredKind x.kind = true)
    (hs : ∀ x, rest.head? = some x → isIgnoredKind x.kind = false) :
    lead (t :: (ign ++ rest)) = lead rest + 1 := by
  have hni : isIgnoredKind t.kind = false := by rw [hk]; rfl
  have hlb : isLB t = true := by simp [isLB, hk]
  rw [lead_settled rest hs]
  unfold lead
  simp only [hni, Bool.false_eq_true, if_false]
  have : sig (t :: (ign ++ rest)) = t :: sig rest := by
    have h1 : sig (t :: (ign ++ rest)) = sig [t] ++ (sig ign ++ sig rest) := by
      rw [← sig_append, ← sig_append]; rfl
    rw [h1, sig_single t hni, sig_ignored ign hall]
    rfl
  rw [this]
  simp [lbCount, List.takeWhile, hlb]

/-- the queue ends with the EOF token, which is the only one (whether or not errors were recorded) -/
def EofE (s : PState) : Prop := ∃ pre e, Toks s = pre ++ [e] ∧ e.kind = .eof ∧ NoEof pre

theorem eofE_eat {s s' : PState} {c : List Tok} (h : EofE s) (e : Eat s s' c) (hc : NoEof c) : EofE s' := by
  obtain ⟨pre, x, h, hx, hp⟩ := h
  rw [e.toks] at h
  obtain ⟨pre', h', hp'⟩ := split_eof c pre (Toks s') x h.symm hx hc hp
  exact ⟨pre', x, h', hx, hp'⟩

theorem eofE_same (s s' : PState) (h : EofE s) (hc : s'.current = s.current) (hl : s'.lx = s.lx) : EofE s' := by
  have ht : Toks s' = Toks s := by unfold Toks; rw [hc, hl]
  unfold EofE
  rw [ht]
  exact h

theorem eofE_nonempty (s : PState) (h : EofE s) : Toks s ≠ [] := by
  obtain ⟨pre, e, h, _, _⟩ := h
  rw [h]; simp

/-- what a run of `ty.rs::parse` does to the recursion bookkeeping, `L` being the nesting depth at its start -/
structure RecOut (s s' : PState) (L : Nat) : Prop where
  under : s.recCur + L ≤ s.recLimit →
    s'.recHigh = max s.recHigh (s.recCur + L) ∧ (HasLim s'.errors ↔ HasLim s.errors) ∧ s'.acceptErrors = s.acceptErrors
  over : s.recCur + L > s.recLimit →
    s'.recHigh = max s.recHigh (s.recLimit + 1) ∧ (s.acceptErrors = true → HasLim s'.errors) ∧
      (HasLim s.errors → HasLim s'.errors)

/-- a prefix that did not touch the bookkeeping -/
structure Pre (s s1 : PState) : Prop where
  q : Q s s1
  recCur : s1.recCur = s.recCur
  recLimit : s1.recLimit = s.recLimit

theorem Pre.refl (s : PState) : Pre s s := ⟨Q.refl s, rfl, rfl⟩

theorem Pre.trans {a b c : PState} (h1 : Pre a b) (h2 : Pre b c) : Pre a c :=
  ⟨h1.q.trans h2.q, h2.recCur.trans h1.recCur, h2.recLimit.trans h1.recLimit⟩

theorem Pre.ofSame {s s' : PState} (h : Same s s') : Pre s s' := ⟨h.q, h.recCur, h.recLimit⟩

theorem Pre.ofAdv {s s' : PState} (a : Adv s s') (q : Q s s') : Pre s s' := ⟨q, a.recCur, a.recLimit⟩

theorem recOut_pre {s s1 s2 : PState} {L : Nat} (p : Pre s s1) (h : RecOut s1 s2 L) : RecOut s s2 L := by
  refine ⟨?_, ?_⟩
  · intro hu
    obtain ⟨h1, h2, h3⟩ := h.under (by rw [p.recCur, p.recLimit]; exact hu)
    exact ⟨by rw [h1, p.q.recHigh, p.recCur], h2.trans p.q.lim, h3.trans p.q.accept⟩
  · intro ho
    obtain ⟨h1, h2, h3⟩ := h.over (by rw [p.recCur, p.recLimit]; exact ho)
    exact ⟨by rw [h1, p.q.recHigh, p.recLimit], fun ha => h2 (by rw [p.q.accept]; exact ha), fun hl => h3 (p.q.lim.mpr hl)⟩

theorem recOut_post {s s1 s2 : PState} {L : Nat} (h : RecOut s s1 L) (q : Q s1 s2) : RecOut s s2 L := by
  refine ⟨?_, ?_⟩
  · intro hu
    obtain ⟨h1, h2, h3⟩ := h.under hu
    exact ⟨by rw [q.recHigh, h1], q.lim.trans h2, q.accept.trans h3⟩
  · intro ho
    obtain ⟨h1, h2, h3⟩ := h.over ho
    exact ⟨by rw [q.recHigh, h1], fun ha => q.lim.mpr (h2 ha), fun hl => q.lim.mpr (h3 hl)⟩

theorem recOut_zero {s s' : PState} (q : Q s s') (hrc : s.recCur ≤ s.recLimit) (hH : s.recCur ≤ s.recHigh) :
    RecOut s s' 0 := by
  refine ⟨fun _ => ⟨?_, q.lim, q.accept⟩, fun ho => ?_⟩
  · rw [q.recHigh]; omega
  · omega

/-- the statement proved by induction on the fuel -/
def TyRec (n : Nat) : Prop :=
  ∀ s s' r, TW s → EofE s → s.recCur ≤ s.recLimit → s.recCur ≤ s.recHigh →
    (tyParse n).run s = .ok r s' → RecOut s s' (lead (Toks s))

theorem qp_tyJoin : QP (expect .rBracket "R_BRACK" >>= fun _ => (pure TyRes.ok : PI TyRes)) :=
  qpTok.bind _ _ (qpTok.expect _ _) fun _ => qpTok.pure _

theorem listBody_rec (n : Nat) (ih : TyRec n) (s s' : PState) (r : TyRes) (t : Tok) (rest : List Tok) (w : TW s)
    (he : EofE s) (ht : Toks s = t :: rest) (hk : t.kind = .lBracket)
    (hrc : s.recCur ≤ s.recLimit) (hH : s.recCur ≤ s.recHigh)
    (h : (tyListBody n).run s = .ok r s') : RecOut s s' (lead (Toks s)) := by
  have hne : t.kind ≠ .eof := by rw [hk]; decide
  unfold tyListBody at h
  obtain ⟨_, s3, h3, h4⟩ := bind_dec (bump "L_BRACK") _ s s' r h
  have q3 : Q s s3 := (qpTok.bump _).q w h3
  unfold bump at h3
  obtain ⟨_, s3a, h3a, h3b⟩ := bind_dec (eat "L_BRACK") _ s s3 () h3
  have eb : Eat s s3a [t] := by
    rcases eat_spec "L_BRACK" s s3a w h3a with ⟨t', rest', hq, e5, _⟩ | ⟨hq, _⟩
    · rw [ht] at hq; injection hq with hq _; subst hq; exact e5
    · rw [ht] at hq; cases hq
  obtain ⟨ign1, es, hall1, hset⟩ := skipIgnored_spec s3a s3 eb.w h3b
  have e13 : Eat s s3 (t :: ign1) := by simpa using eb.trans es
  have he3 : EofE s3 := eofE_eat he e13
    (by intro x hx; rcases List.mem_cons.mp hx with rfl | hx; exact hne; exact noEof_ignored ign1 hall1 x hx)
  have p3 : Pre s s3 := ⟨q3, e13.recCur, e13.recLimit⟩
  have hlead : lead (Toks s) = lead (Toks s3) + 1 := by
    have := e13.toks
    rw [this]
    simp only [List.cons_append]
    refine lead_bracket t ign1 (Toks s3) hk hall1 ?_
    intro x hx
    exact hset.2 x (by rw [hset.1]; exact hx)
  rw [hlead]
  refine recOut_pre p3 ?_
  have hrc3 : s3.recCur ≤ s3.recLimit := by rw [p3.recCur, p3.recLimit]; exact hrc
  have hH3 : s3.recCur ≤ s3.recHigh := by rw [p3.recCur, q3.recHigh]; exact hH
  obtain ⟨inner, s4, h5, h6⟩ := bind_dec _ _ s3 s' r h4
  rcases withRec_decH _ _ s3 s4 inner h5 with ⟨hover, hl⟩ | ⟨hunder, sr2, hr, hs4⟩
  · -- the limit is reached here
    obtain ⟨_, sl2, hl1, hl2⟩ := bind_dec limitErr _ _ s4 inner hl
    rw [run_pure] at hl2
    injection hl2 with hin hs4
    subst hs4 hin
    simp only [] at h6
    rw [run_pure] at h6
    injection h6 with _ h6
    subst h6
    have wl : TW { s3 with recHigh := max s3.recHigh (s3.recCur + 1) } := w_same _ _ e13.w rfl rfl rfl
    obtain ⟨e1, e2, e3⟩ := limitErr_effect _ sl2 wl hl1
    have htk : Toks { s3 with recHigh := max s3.recHigh (s3.recCur + 1) } = Toks s3 := rfl
    refine ⟨fun hu => by omega, fun _ => ⟨?_, fun ha => e3 (by rw [htk]; exact eofE_nonempty s3 he3) ha, e2⟩⟩
    rw [e1]
    simp only []
    have : s3.recCur + 1 = s3.recLimit + 1 := by omega
    rw [this]
  · -- one level deeper
    obtain ⟨res, sr2', hr1, hr2⟩ := bind_dec (tyParse n) _ _ sr2 inner hr
    rw [run_pure] at hr2
    injection hr2 with hin hs
    subst hs hin
    have w1 : TW { s3 with recCur := s3.recCur + 1, recHigh := max s3.recHigh (s3.recCur + 1) } := w_same _ _ e13.w rfl rfl rfl
    have he1 : EofE { s3 with recCur := s3.recCur + 1, recHigh := max s3.recHigh (s3.recCur + 1) } := eofE_same _ _ he3 rfl rfl
    have ro := ih _ sr2' res w1 he1 (by simpa using hunder) (by simp only []; omega) hr1
    have htk : Toks { s3 with recCur := s3.recCur + 1, recHigh := max s3.recHigh (s3.recCur + 1) } = Toks s3 := rfl
    rw [htk] at ro
    have adv_r := good_tyParse n _ res sr2' w1 hr1
    subst hs4
    -- the tail of the list body is quiet
    simp only [] at h6
    have w4 : TW { sr2' with recCur := sr2'.recCur - 1 } := w_same _ _ adv_r.w rfl rfl rfl
    have qt : Q { sr2' with recCur := sr2'.recCur - 1 } s' := by
      cases res with
      | errTok t => exact (qpTok.bind _ _ (qpTok.errAtToken t) fun _ => qp_tyJoin).q w4 h6
      | ok => exact qp_tyJoin.q w4 h6
      | early => exact qp_tyJoin.q w4 h6
      | errNone => exact qp_tyJoin.q w4 h6
    refine recOut_post ?_ qt
    refine ⟨?_, ?_⟩
    · intro hu
      obtain ⟨h1, h2, h3⟩ := ro.under (by simp only []; omega)
      refine ⟨?_, h2, h3⟩
      simp only [] at h1 ⊢
      rw [h1]; omega
    · intro ho
      obtain ⟨h1, h2, h3⟩ := ro.over (by simp only []; omega)
      refine ⟨?_, h2, h3⟩
      simp only [] at h1 ⊢
      rw [h1]; omega

/-- every branch of `ty.rs::parse` other than the list branch is quiet -/
theorem qp_tyOther (k : Kind) (hk : k ≠ .lBracket) (n : Nat) :
    QP (match some k with
        | some .lBracket => withNode "LIST_TYPE" (tyListBody n)
        | some .name => withNode "NAMED_TYPE" (withNode "NAME" (do eat "IDENT"; pure TyRes.ok))
        | some _ => do
          match ← popDrop with
          | some t => pure (TyRes.errTok t)
          | none => pure TyRes.errNone
        | none => pure TyRes.errNone) := by
  cases k <;> first
    | exact absurd rfl hk
    | exact qp_withNode _ _ (qp_withNode _ _ (qpTok.bind _ _ (qpTok.eat _) fun _ => qpTok.pure _))
    | exact qpTok.bind _ _ qp_popDrop fun o => by cases o <;> exact qpTok.pure _

theorem tyBody_rec (n : Nat) (ih : TyRec n) (s s' : PState) (r : TyRes) (w : TW s) (he : EofE s)
    (hrc : s.recCur ≤ s.recLimit) (hH : s.recCur ≤ s.recHigh)
    (h : (tyBody n).run s = .ok r s') : RecOut s s' (lead (Toks s)) := by
  unfold tyBody at h
  obtain ⟨k, sp, hp, hb⟩ := bind_dec peek _ s s' r h
  obtain ⟨o, po, hko⟩ := peek_obs s sp k w hp
  have qp : Q s sp := qpTok.peek.q w hp
  have pp : Pre s sp := ⟨qp, po.recCur, po.recLimit⟩
  have hrcp : sp.recCur ≤ sp.recLimit := by rw [pp.recCur, pp.recLimit]; exact hrc
  have hHp : sp.recCur ≤ sp.recHigh := by rw [pp.recCur, qp.recHigh]; exact hH
  rw [← po.toks]
  refine recOut_pre pp ?_
  cases o with
  | none =>
    subst hko
    simp only [Option.map_none] at hb
    rw [run_pure] at hb
    injection hb with _ hb
    subst hb
    have : Toks sp = [] := by
      have := po.head
      rw [po.toks]
      cases ht : Toks s with
      | nil => rfl
      | cons a b => rw [ht] at this; cases this
    rw [this]
    exact recOut_zero (Q.refl sp) hrcp hHp
  | some t =>
    subst hko
    simp only [Option.map_some] at hb
    have htoks : ∃ rest, Toks sp = t :: rest := by
      have := po.head
      rw [po.toks]
      cases ht : Toks s with
      | nil => rw [ht] at this; cases this
      | cons a b => rw [ht] at this; injection this with this; subst this; exact ⟨b, rfl⟩
    obtain ⟨rest, ht⟩ := htoks
    by_cases hk : t.kind = .lBracket
    · -- the list branch
      rw [hk] at hb
      simp only [] at hb
      have hni : isIgnoredKind t.kind = false := by rw [hk]; rfl
      obtain ⟨sa, sb, o1, hr, o2⟩ := withNode_decS _ _ sp s' r hb
      obtain ⟨_, sa', hs, hbody⟩ := bind_dec skipIgnored _ sa sb r hr
      have wa : TW sa := o1.obs.w po.w
      obtain ⟨ign, e, hall, _⟩ := skipIgnored_spec sa sa' wa hs
      have htsa : Toks sa = t :: rest := by rw [o1.obs.toks]; exact ht
      have : ign = [] := skip_nothing sa sa' t rest ign htsa hni e hall
      subst this
      have qs : Q sa sa' := qpTok.skipIgnored.q wa hs
      have p1 : Pre sp sa' := (Pre.ofSame o1).trans ⟨qs, e.recCur, e.recLimit⟩
      have htsa' : Toks sa' = t :: rest := by
        have := e.toks
        simp only [List.nil_append] at this
        rw [← this]; exact htsa
      have hesp : EofE sp := by unfold EofE; rw [po.toks]; exact he
      have hesa : EofE sa := eofE_same _ _ hesp o1.current o1.lx
      have hea : EofE sa' := eofE_eat hesa e (by intro x hx; cases hx)
      have hrca : sa'.recCur ≤ sa'.recLimit := by rw [p1.recCur, p1.recLimit]; exact hrcp
      have hHa : sa'.recCur ≤ sa'.recHigh := by rw [p1.recCur, p1.q.recHigh]; exact hHp
      have ro := listBody_rec n ih sa' sb r t rest e.w hea htsa' hk hrca hHa hbody
      rw [htsa'] at ro
      rw [ht]
      exact recOut_post (recOut_pre p1 ro) o2.q
    · -- no nesting
      rw [ht, lead_not_bracket t rest hk]
      exact recOut_zero ((qp_tyOther t.kind hk n).q po.w hb) hrcp hHp

theorem tyParse_rec : ∀ (n : Nat), TyRec n
  | 0 => by intro s s' r _ _ _ _ h; simp [tyParse, PI.outOfFuel] at h
  | n + 1 => by
    intro s s' r w he hrc hH h
    rw [tyParse_succ] at h
    obtain ⟨r0, sA, hA, htail⟩ := bind_dec _ _ s s' r h
    have gA := good_wrapIf _ _ _ _ (good_tyBody n (good_tyParse n)) good_tyCond (good_eat "BANG") s r0 sA w hA
    have qtail : Q sA s' := by
      cases r0 with
      | ok => exact (qpTok.bind _ _ qpTok.skipIgnored fun _ => qpTok.pure _).q gA.w htail
      | early => exact (qpTok.bind (pure ()) _ (qpTok.pure ()) fun _ => qpTok.pure _).q gA.w htail
      | errTok t => exact (qpTok.bind (pure ()) _ (qpTok.pure ()) fun _ => qpTok.pure _).q gA.w htail
      | errNone => exact (qpTok.bind (pure ()) _ (qpTok.pure ()) fun _ => qpTok.pure _).q gA.w htail
    refine recOut_post ?_ qtail
    obtain ⟨s1, s2, s3, c, o1, hb, hc, hrest⟩ := wrapIf_decS _ _ _ _ s sA r0 hA
    have w1 : TW s1 := o1.obs.w w
    have he1 : EofE s1 := eofE_same _ _ he o1.current o1.lx
    have ro := tyBody_rec n (tyParse_rec n) s1 s2 r0 w1 he1
      (by rw [o1.recCur, o1.recLimit]; exact hrc) (by rw [o1.recCur, o1.recHigh]; exact hH) hb
    rw [o1.obs.toks] at ro
    have g2 := good_tyBody n (good_tyParse n) s1 r0 s2 w1 hb
    have qc : Q s2 s3 := by
      cases r0 with
      | ok => exact (qpTok.bind _ _ qpTok.skipIgnored fun _ => qpTok.bind _ _ qpTok.peek fun _ => qpTok.pure _).q g2.w hc
      | early => exact (qpTok.pure _).q g2.w hc
      | errTok t => exact (qpTok.pure _).q g2.w hc
      | errNone => exact (qpTok.pure _).q g2.w hc
    have g3 := good_tyCond r0 s2 c s3 g2.w hc
    rcases hrest with ⟨_, rfl⟩ | ⟨_, s4, s5, o4, hi, o5⟩
    · exact recOut_post (recOut_pre (Pre.ofSame o1) ro) qc
    · have q45 : Q s4 s5 := (qpTok.eat "BANG").q (o4.obs.w g3.w) hi
      exact recOut_post (recOut_pre (Pre.ofSame o1) ro) (((qc.trans o4.q).trans q45).trans o5.q)

/-- nesting depth of a type source text: the number of nested list types it opens, read off the token
    sequence of the lexer (no parser run, no limit involved) -/
def typeDepth (src : Str) : Nat := lead (srcToks src)

theorem type_rec_run (fuel : Nat) (s0 s : PState) (w : TW s0) (he : EofE s0)
    (h0 : s0.recCur = 0 ∧ s0.recHigh = 0 ∧ s0.errors = [] ∧ s0.acceptErrors = true)
    (h : (ty fuel >>= fun _ => expectEndOfInput).run s0 = .ok () s) :
    (HasLim s.errors ↔ lead (Toks s0) > s0.recLimit) ∧ s.recHigh = min (lead (Toks s0)) (s0.recLimit + 1) := by
  obtain ⟨hc, hh, herr, hacc⟩ := h0
  obtain ⟨_, s1, h1, h2⟩ := bind_dec (ty fuel) _ s0 s () h
  have a1 := good_ty fuel s0 () s1 w h1
  have q2 : Q s1 s := qpTok.expectEndOfInput.q a1.w h2
  unfold ty at h1
  obtain ⟨r, sT, hT, h3⟩ := bind_dec (tyParse fuel) _ s0 s1 () h1
  have aT := good_tyParse fuel s0 r sT w hT
  have q3 : Q sT s1 := by
    cases r <;> first | exact (qpTok.pure _).q aT.w h3 | exact qpTok.err.q aT.w h3 | exact (qpTok.errAtToken _).q aT.w h3
  have ro := tyParse_rec fuel s0 sT r w he (by omega) (by omega) hT
  have ro' := recOut_post (recOut_post ro q3) q2
  have hnl : ¬ HasLim s0.errors := by rw [herr]; rintro ⟨e, he', _⟩; cases he'
  by_cases hu : lead (Toks s0) ≤ s0.recLimit
  · obtain ⟨e1, e2, _⟩ := ro'.under (by omega)
    refine ⟨⟨fun hl => absurd (e2.mp hl) hnl, fun hgt => by omega⟩, ?_⟩
    rw [e1, hh, hc]; omega
  · obtain ⟨e1, e2, _⟩ := ro'.over (by omega)
    refine ⟨⟨fun _ => by omega, fun _ => e2 hacc⟩, ?_⟩
    rw [e1, hh]; omega

/-- `Parser::parse_type` with recursion limit `r` and no token limit: a recursion-limit error is reported
    exactly when the nesting depth of the input exceeds `r`, and the tracker's high-water mark is exactly
    `min depth (r + 1)` — the limit stops the descent at level `r + 1`, never earlier, never later. -/
theorem parseType_rec_limit (r : Nat) (src : Str) (hterm : ∀ w, (parse .type none r src).outcome ≠ .abort w) :
    (HasLim (parse .type none r src).errors ↔ typeDepth src > r) ∧
    (parse .type none r src).recHigh = min (typeDepth src) (r + 1) := by
  unfold parse runEntry at hterm ⊢
  simp only [Entry.standalone, Entry.grammar] at hterm ⊢
  generalize hs0 : ({ initState src none r with builder := (initState src none r).builder.startNode "NAMED_TYPE" } : PState) = s0 at hterm ⊢
  have hinv : Inv s0 := by
    subst hs0
    exact ⟨fun _ => by simp [initState, Builder.new, Builder.startNode, textList, pendingText, curText],
      fun p hp => by simp [initState, Builder.new, Builder.startNode] at hp; simp [hp, initState, Builder.new],
      fun h => by simp [initState] at h, fun t h => by simp [initState] at h, fun h => by simp [initState] at h⟩
  have w0 : TW s0 := by subst hs0; exact ⟨rfl, by intro h; simp [initState] at h⟩
  have htoks : Toks s0 = srcToks src := by subst hs0; rfl
  have hlim : s0.recLimit = r := by subst hs0; rfl
  have h0 : s0.recCur = 0 ∧ s0.recHigh = 0 ∧ s0.errors = [] ∧ s0.acceptErrors = true := by
    subst hs0; exact ⟨rfl, rfl, rfl, rfl⟩
  have he0 : EofE s0 := by
    obtain ⟨pre, e, hp, he, hno⟩ := stream_eof_end src.length (initState src none 0).lx (Nat.le_refl _) rfl rfl
    exact ⟨pre, e, by rw [htoks]; exact hp, he, hno⟩
  have hpost := (ty (fuelFor src) >>= fun _ => expectEndOfInput).ok s0 hinv
  cases hr : (ty (fuelFor src) >>= fun _ => expectEndOfInput).run s0 with
  | abort w => simp [hr] at hterm
  | panic m => simp [hr, Post] at hpost
  | ok a s =>
    simp only [hr]
    have := type_rec_run (fuelFor src) s0 s w0 he0 h0 hr
    rw [htoks, hlim] at this
    exact this

end Apollo.Parse
