import ApolloModel.Model.Guards
import ApolloModel.Proofs.Guards
/-
A stable sort makes the order in which a hash map was iterated unobservable, provided the entries that
came out of the hash map have pairwise distinct sort keys (C22).
-/
namespace Apollo.Guards

theorem pair_sublist_antisymm {α : Type} : ∀ (l : List α) (a b : α), l.Nodup → [a, b].Sublist l → [b, a].Sublist l → False
  | [], _, _, _, h, _ => by cases h
  | x :: l, a, b, hn, h1, h2 => by
    have hx : x ∉ l := (List.nodup_cons.mp hn).1
    have hl : l.Nodup := (List.nodup_cons.mp hn).2
    cases h1 with
    | cons _ h1' =>
      cases h2 with
      | cons _ h2' => exact pair_sublist_antisymm l a b hl h1' h2'
      | cons_cons _ h2' =>
        -- x = b, [a] <+ l ; but [a, b] <+ l gives b ∈ l
        exact hx (h1'.subset (by simp))
    | cons_cons _ h1' =>
      -- x = a
      cases h2 with
      | cons _ h2' => exact hx (h2'.subset (by simp))
      | cons_cons _ h2' => exact hx (h1'.subset (by simp))

theorem pair_sublist_or {α : Type} : ∀ (l : List α) (a b : α), a ∈ l → b ∈ l → a ≠ b → [a, b].Sublist l ∨ [b, a].Sublist l
  | [], _, _, h, _, _ => by cases h
  | x :: l, a, b, ha, hb, hne => by
    rcases List.mem_cons.mp ha with rfl | ha'
    · rcases List.mem_cons.mp hb with rfl | hb'
      · exact absurd rfl hne
      · exact Or.inl (List.Sublist.cons_cons _ (List.singleton_sublist.mpr hb'))
    · rcases List.mem_cons.mp hb with rfl | hb'
      · exact Or.inr (List.Sublist.cons_cons _ (List.singleton_sublist.mpr ha'))
      · rcases pair_sublist_or l a b ha' hb' hne with h | h
        · exact Or.inl (List.Sublist.cons _ h)
        · exact Or.inr (List.Sublist.cons _ h)

/-- two sorted arrangements of the same distinct elements that order every tied pair the same way are
    equal -/
theorem stable_sorted_unique {α : Type} (le : α → α → Bool) :
    ∀ (r1 r2 : List α), r1.Perm r2 → r1.Nodup →
      r1.Pairwise (fun a b => le a b = true) → r2.Pairwise (fun a b => le a b = true) →
      (∀ a b, le a b = true → le b a = true → [a, b].Sublist r1 → [a, b].Sublist r2) → r1 = r2
  | [], r2, hp, _, _, _, _ => by simpa using hp.symm.eq_nil
  | a :: t, r2, hp, hn, s1, s2, ties => by
    have ha2 : a ∈ r2 := hp.subset (by simp)
    have hn2 : r2.Nodup := hp.nodup_iff.mp hn
    have hat : a ∉ t := (List.nodup_cons.mp hn).1
    obtain ⟨p, q, rfl⟩ := List.append_of_mem ha2
    have hpnil : p = [] := by
      cases p with
      | nil => rfl
      | cons b p' =>
        exfalso
        have hb2 : b ∈ (b :: p') ++ a :: q := by simp
        have hbne : b ≠ a := by
          intro h; subst h
          have : (b :: (p' ++ b :: q)).Nodup := by simpa using hn2
          exact (List.nodup_cons.mp this).1 (by simp)
        have hbt : b ∈ t := by
          have := hp.symm.subset hb2
          rcases List.mem_cons.mp this with h | h
          · exact absurd h hbne
          · exact h
        have hab : le a b = true := List.rel_of_pairwise_cons s1 hbt
        have hba : le b a = true := by
          have : ((b :: p') ++ a :: q).Pairwise (fun a b => le a b = true) := s2
          rw [List.cons_append] at this
          exact List.rel_of_pairwise_cons this (by simp)
        have h1 : [a, b].Sublist (a :: t) := List.Sublist.cons_cons _ (List.singleton_sublist.mpr hbt)
        have h2 := ties a b hab hba h1
        have h3 : [b, a].Sublist ((b :: p') ++ a :: q) := by
          rw [List.cons_append]
          exact List.Sublist.cons_cons _ (List.singleton_sublist.mpr (by simp))
        exact pair_sublist_antisymm _ a b hn2 h2 h3
    subst hpnil
    simp only [List.nil_append] at hp s2 ties hn2 ⊢
    have hp' : t.Perm q := hp.cons_inv
    have ih := stable_sorted_unique le t q hp' (List.nodup_cons.mp hn).2 (List.Pairwise.of_cons s1) (List.Pairwise.of_cons s2)
      (by
        intro x y hxy hyx hsub
        have h := ties x y hxy hyx (List.Sublist.cons _ hsub)
        cases h with
        | cons _ h' => exact h'
        | cons_cons _ h' => exact absurd (hsub.subset (by simp)) hat)
    rw [ih]

theorem keyLe_antisymm (a b : Key) (h1 : keyLe a b = true) (h2 : keyLe b a = true) : a = b := by
  cases a with
  | none => cases b with
    | none => rfl
    | some y => simp [keyLe] at h2
  | some x => cases b with
    | none => simp [keyLe] at h1
    | some y =>
      obtain ⟨f1, o1⟩ := x; obtain ⟨f2, o2⟩ := y
      simp only [keyLe, Bool.or_eq_true, Bool.and_eq_true, decide_eq_true_eq, beq_iff_eq] at h1 h2
      have : f1 = f2 ∧ o1 = o2 := by omega
      rw [this.1, this.2]

/-- The diagnostics pushed before (`pre`) followed by diagnostics pushed while iterating a hash map, in
    iteration order `l1` or `l2`: if no diagnostic occurs twice and the hash-map diagnostics have pairwise distinct
    locations, the sorted list does not depend on the iteration order. -/
theorem sort_hash_order_independent {α : Type} (pre l1 l2 : List (Key × α)) (hp : l1.Perm l2)
    (hn : (pre ++ l1).Nodup) (hk : (l1.map (·.1)).Nodup) :
    sortDiagnostics (pre ++ l1) = sortDiagnostics (pre ++ l2) := by
  have tr : ∀ (a b c : Key × α), keyLe a.1 b.1 = true → keyLe b.1 c.1 = true → keyLe a.1 c.1 = true :=
    fun a b c h1 h2 => keyLe_trans a.1 b.1 c.1 h1 h2
  have tot : ∀ (a b : Key × α), (keyLe a.1 b.1 || keyLe b.1 a.1) = true := fun a b => keyLe_total a.1 b.1
  have pin : (pre ++ l1).Perm (pre ++ l2) := List.Perm.append_left pre hp
  have p1 : (sortDiagnostics (pre ++ l1)).Perm (pre ++ l1) := List.mergeSort_perm _ _
  have p2 : (sortDiagnostics (pre ++ l2)).Perm (pre ++ l2) := List.mergeSort_perm _ _
  have n1 : (sortDiagnostics (pre ++ l1)).Nodup := p1.nodup_iff.mpr hn
  apply stable_sorted_unique (fun a b => keyLe a.1 b.1) _ _ (p1.trans (pin.trans p2.symm)) n1
    (List.pairwise_mergeSort tr tot _) (List.pairwise_mergeSort tr tot _)
  intro a b hab hba hsub
  have hne : a ≠ b := by
    intro h; subst h
    have : [a, a].Nodup := hsub.nodup n1
    simp at this
  have ha : a ∈ pre ++ l1 := p1.subset (hsub.subset (by simp))
  have hb : b ∈ pre ++ l1 := p1.subset (hsub.subset (by simp))
  -- orientation in the input
  have hin : [a, b].Sublist (pre ++ l1) := by
    rcases pair_sublist_or _ a b ha hb hne with h | h
    · exact h
    · exact absurd (List.pair_sublist_mergeSort tr tot hba h) (fun h' => pair_sublist_antisymm _ a b n1 hsub h')
  -- same orientation in the other input
  have hin2 : [a, b].Sublist (pre ++ l2) := by
    obtain ⟨x, y, hxy, hx, hy⟩ := List.sublist_append_iff.mp hin
    match x, y, hxy with
    | [], y, hxy =>
      simp only [List.nil_append] at hxy; subst hxy
      -- both in l1 with equal keys: impossible
      exfalso
      have hkeys : [a.1, b.1].Sublist (l1.map (·.1)) := by simpa using hy.map (·.1)
      have : [a.1, b.1].Nodup := hkeys.nodup hk
      have hkab := keyLe_antisymm a.1 b.1 hab hba
      simp [hkab] at this
    | [x1], y, hxy =>
      simp only [List.singleton_append, List.cons.injEq] at hxy
      obtain ⟨rfl, rfl⟩ := hxy
      have hb2 : b ∈ l2 := hp.subset (hy.subset (by simp))
      have : ([a] ++ [b]).Sublist (pre ++ l2) := List.Sublist.append hx (List.singleton_sublist.mpr hb2)
      simpa using this
    | [x1, x2], y, hxy =>
      simp only [List.cons_append, List.nil_append, List.cons.injEq] at hxy
      obtain ⟨rfl, rfl, rfl⟩ := hxy
      exact hx.trans (List.sublist_append_left _ _)
    | x1 :: x2 :: x3 :: xs, y, hxy => simp at hxy
  exact List.pair_sublist_mergeSort tr tot hab hin2

end Apollo.Guards
