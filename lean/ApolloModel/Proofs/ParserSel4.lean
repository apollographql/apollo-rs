import ApolloModel.Proofs.ParserSel3
/-
C07 / C05, selection sets: the four statements of the induction (selection set, selections, field, inline
fragment) and the field, given the selection set one level down.  The induction is carried out in
`Apollo.Parse.Exact`, with the recursion budget of the start state in each statement (`fitSel … (bud s)`).
-/
set_option linter.unusedSimpArgs false
namespace Apollo.Parse
open Apollo.Rowan hiding Str
open Apollo.Lex hiding Str

theorem optThen_dec (k : Kind) (A R : PI Unit) (s s' : PState)
    (h : (peek >>= fun x => if x == some k then (A >>= fun _ => R) else R).run s = .ok () s') :
    ∃ s1, (peek >>= fun x => if x == some k then A else pure ()).run s = .ok () s1 ∧ R.run s1 = .ok () s' := by
  obtain ⟨ko, sP, hp, h2⟩ := bind_dec peek _ s s' () h
  by_cases hc : (ko == some k) = true
  · simp only [hc, if_true] at h2
    obtain ⟨_, s1, h3, h4⟩ := bind_dec A _ sP s' () h2
    refine ⟨s1, ?_, h4⟩
    rw [run_bind, hp]
    simp only [hc, if_true]
    exact h3
  · simp only [hc, Bool.false_eq_true, if_false] at h2
    refine ⟨sP, ?_, h2⟩
    rw [run_bind, hp]
    simp only [hc, Bool.false_eq_true, if_false]
    rfl

theorem good_opt (k : Kind) (A : PI Unit) (ha : Good A) : Good (peek >>= fun x => if x == some k then A else pure ()) :=
  good_ifPeek k A ha

def fieldT3 (n : Nat) : PI Unit := peek >>= fun x => if x == some Kind.lCurly then selectionSet n else pure ()
def fieldT2 (n : Nat) : PI Unit := peek >>= fun x => if x == some Kind.at then (directives n false >>= fun _ => fieldT3 n) else fieldT3 n
def fieldT1 (n : Nat) : PI Unit := peek >>= fun x => if x == some Kind.lParen then (arguments n false >>= fun _ => fieldT2 n) else fieldT2 n

theorem good_fieldT3 (n : Nat) : Good (fieldT3 n) := good_opt .lCurly _ (goodSel n).selSet
theorem good_fieldT2 (n : Nat) : Good (fieldT2 n) :=
  good_bind _ _ good_peek (fun _ => good_ite _ _ _ (good_bind _ _ (good_directives n false) (fun _ => good_fieldT3 n)) (good_fieldT3 n))
theorem good_fieldT1 (n : Nat) : Good (fieldT1 n) :=
  good_bind _ _ good_peek (fun _ => good_ite _ _ _ (good_bind _ _ (good_arguments n false) (fun _ => good_fieldT2 n)) (good_fieldT2 n))

namespace Exact

def SelSetSound (n : Nat) : Prop :=
  ∀ s s' t rest, TW s → EofEnd s → Toks s = t :: rest → t.kind = .lCurly → (selectionSet n).run s = .ok () s' → ¬ Doomed s' →
    Cons s s' (LSet (bud s))

def SelsSound (n : Nat) : Prop :=
  ∀ s s', TW s → EofEnd s → (selection n).run s = .ok () s' → ¬ Doomed s' →
    Cons s s' (LSels (bud s))

def SelFieldSound (n : Nat) : Prop :=
  ∀ s s' t rest, TW s → EofEnd s → Toks s = t :: rest → t.kind = .name → (field n).run s = .ok () s' → ¬ Doomed s' →
    Cons s s' (fun x => ∃ f, x = Ast.tSel f ∧ fitSel f (bud s))

def InlineSound (n : Nat) : Prop :=
  ∀ s s' t rest, TW s → EofEnd s → Toks s = t :: rest → t.kind = .spread → (inlineFragment n).run s = .ok () s' → ¬ Doomed s' →
    Cons s s' (fun x => ∃ f, x = Ast.tSel f ∧ fitSel f (bud s))

/-- `if p.peek() == Some(T!['{']) { selection_set }` -/
theorem optSelSet_sound (n : Nat) (ih : SelSetSound n) (s s' : PState) (w : TW s) (he : EofEnd s)
    (h : (peek >>= fun k => if k == some Kind.lCurly then selectionSet n else pure ()).run s = .ok () s') (hnd : ¬ Doomed s') :
    Cons s s' (fun x => ∃ sub, x = Ast.tSubSels sub ∧ fitSub sub (bud s)) := by
  obtain ⟨sP, o, p, hor⟩ := ifPeek_dec .lCurly _ _ s s' () w h
  have heP := p.eofEnd he
  rcases hor with ⟨hk, h2⟩ | ⟨_, h2⟩
  · obtain ⟨t, rfl, hkt⟩ := peeked_kind hk
    have c := ih sP s' t _ p.w heP p.head_cons hkt h2 hnd
    refine (c.transport p.toks.symm rfl c.eofEnd).weaken ?_
    rintro x ⟨ss, hne, rfl, hb1, hfs⟩
    rw [bud_peek p] at hb1 hfs
    cases ss with
    | nil => exact absurd rfl hne
    | cons a tl =>
      rw [fitSels] at hfs
      exact ⟨.cons a tl, by rw [Ast.tSubSels_cons], by rw [fitSub]; exact ⟨hb1, hfs.1, hfs.2⟩⟩
  · obtain ⟨-, rfl⟩ := pure_dec h2
    exact (Cons.nil p.toks heP).weaken (by rintro x rfl; exact ⟨.nil, by simp [Ast.tSubSels], by simp [fitSub]⟩)

/-- the tail of a field: `Arguments? Directives? SelectionSet?` -/
theorem fieldTail_sound (n : Nat) (ih : SelSetSound n) (s s' : PState) (w : TW s) (he : EofEnd s)
    (h : (fieldT1 n).run s = .ok () s')
    (hnd : ¬ Doomed s') :
    Cons s s' (fun x => ∃ args ds sub, x = Ast.tArguments args ++ Ast.tDirectives ds ++ Ast.tSubSels sub ∧
      argsFit false (bud s) args ∧ dirsFit false (bud s) ds ∧ fitSub sub (bud s)) := by
  obtain ⟨s1, h1, h2⟩ := optThen_dec .lParen (arguments n false) (fieldT2 n) s s' h
  obtain ⟨s2, h3, h4⟩ := optThen_dec .at (directives n false) (fieldT3 n) s1 s' h2
  have g3 := good_opt .lCurly _ (goodSel n).selSet
  have g2 := good_opt .at _ (good_directives n false)
  have a1 := good_opt .lParen _ (good_arguments n false) s () s1 w h1
  have a2 := g2 s1 () s2 a1.w h3
  have hnd2 : ¬ Doomed s2 := fun d => hnd ((g3 s2 () s' a2.w h4).doom d)
  have hnd1 : ¬ Doomed s1 := fun d => hnd2 (a2.doom d)
  have c1 := optArguments_sound n s s1 w he h1 hnd1
  have c2 := optDirectives_sound n s1 s2 a1.w c1.eofEnd h3 hnd2
  have c3 := optSelSet_sound n ih s2 s' a2.w c2.eofEnd h4 hnd
  have hb1 : bud s1 = bud s := bud_adv a1
  have hb2 : bud s2 = bud s := by rw [bud_adv a2, hb1]
  exact ((c1.seq c2).seq c3).weaken (by
    rintro z ⟨xy, y, rfl, ⟨x1, x2, rfl, ⟨args, rfl, ha⟩, ⟨ds, rfl, hd⟩⟩, ⟨sub, rfl, hs⟩⟩
    exact ⟨args, ds, sub, rfl, ha, by rw [← hb1]; exact hd, by rw [← hb2]; exact hs⟩)

theorem field_sound_step (n : Nat) (ih : SelSetSound n) : SelFieldSound (n + 1) := by
  intro s s' t rest w he ht hk h hnd
  have hni : isIgnoredKind t.kind = false := by rw [hk]; rfl
  rw [field_succ] at h
  obtain ⟨s1, s2, e1, h1, o2, ht1, he1, hnd2⟩ := withNode_entered "FIELD" _ s s' () t rest w he ht hni h hnd
  have h0 : Toks s = Toks s1 := by simpa using e1.toks
  unfold fieldBody at h1
  obtain ⟨sP, o, p, hor⟩ := ifPeek_dec .name _ _ s1 s2 () e1.w h1
  have ho : o = some t := by rw [p.head, ht1]; rfl
  subst ho
  have htP : Toks sP = t :: rest := by rw [p.toks]; exact ht1
  have heP := p.eofEnd he1
  have gtail := good_fieldBody n (goodSel n)
  rcases hor with ⟨_, h2⟩ | ⟨hne, _⟩
  · obtain ⟨k2, sQ, hq, h3⟩ := bind_dec (peekN 2) _ sP s2 () h2
    obtain ⟨rfl, hk2⟩ := peekN2_spec sP sQ k2 t rest p.w p.current htP hni hq
    by_cases hc : (k2 == some Kind.colon) = true
    · -- alias
      simp only [hc, if_true] at h3
      obtain ⟨_, s3, h4, h5⟩ := bind_dec alias _ sQ s2 () h3
      obtain ⟨_, s4, h6, h7⟩ := bind_dec name _ s3 s2 () h5
      have a3 := good_alias sQ () s3 p.w h4
      have a4 := good_name s3 () s4 a3.w h6
      have h7' : (fieldT1 n).run s4 = .ok () s2 := h7
      have hnd4 : ¬ Doomed s4 := fun d => hnd2 ((good_fieldT1 n s4 () s2 a4.w h7').doom d)
      have hnd3 : ¬ Doomed s3 := fun d => hnd4 (a4.doom d)
      have ca := alias_sound sQ s3 t rest p.w heP htP hk (by rw [← hk2]; simpa using hc) h4
      obtain ⟨t2, r2, ign2, hq2, hk2', e2, hall2⟩ := name_spec s3 s4 a3.w (eofEnd_nonempty s3 ca.eofEnd hnd3) h6 hnd4
      have cn := cons_of_name e2 ca.eofEnd hk2' hall2
      have ct := fieldTail_sound n ih s4 s2 a4.w cn.eofEnd h7' hnd2
      have c := (((ca.seq cn).seq ct).transport (h0.trans p.toks.symm) o2.toks (eofEnd_same _ _ ct.eofEnd o2.current o2.lx o2.errors))
      have hb4 : bud s4 = bud s := by rw [bud_adv a4, bud_adv a3, bud_peek p, bud_eat e1]
      exact c.weaken (by
        rintro z ⟨xy, y, rfl, ⟨x1, x2, rfl, rfl, rfl⟩, ⟨args, ds, sub, rfl, ha, hd, hs⟩⟩
        rw [hb4] at ha hd hs
        exact ⟨.field (some t.data) t2.data args ds sub, by simp [Ast.tSel, List.append_assoc], by rw [fitSel]; exact ⟨ha, hd, hs⟩⟩)
    · simp only [hc, Bool.false_eq_true, if_false] at h3
      obtain ⟨_, s4, h6, h7⟩ := bind_dec name _ sQ s2 () h3
      obtain ⟨ign, e4, hall, _⟩ := name_settled sQ s4 t rest p.w htP hk h6
      have cn := cons_of_name e4 heP hk hall
      have ct := fieldTail_sound n ih s4 s2 e4.w cn.eofEnd (show (fieldT1 n).run s4 = .ok () s2 from h7) hnd2
      have c := ((cn.seq ct).transport (h0.trans p.toks.symm) o2.toks (eofEnd_same _ _ ct.eofEnd o2.current o2.lx o2.errors))
      have hb4 : bud s4 = bud s := by rw [bud_eat e4, bud_peek p, bud_eat e1]
      exact c.weaken (by
        rintro z ⟨x, y, rfl, rfl, ⟨args, ds, sub, rfl, ha, hd, hs⟩⟩
        rw [hb4] at ha hd hs
        exact ⟨.field none t.data args ds sub, by simp [Ast.tSel, List.append_assoc], by rw [fitSel]; exact ⟨ha, hd, hs⟩⟩)
  · exact absurd (by simp [hk]) hne

end Exact

end Apollo.Parse
