import ApolloModel.Proofs.ParserTree9
/-
C08 (pipeline): value.rs in the tree calculus — `value`, `list_value`, `object_value`, `object_field`: an accepted value
`v` is built as `ValTree v`.  The "early" alternative is `AtEof` (a list value not closed at the end of input, reported
by the caller's closing token).  Then values end to end: what `value.rs` builds, what `from_cst.rs` reads from it, and
what the reference parser `pValue` reads from the same tokens.
-/
set_option linter.unusedSimpArgs false
set_option linter.unusedVariables false

namespace Apollo.Parse
open Apollo.Rowan hiding Str
open Apollo.Lex hiding Str
open Apollo.FromCst (ValTree ValsTree FieldsTree)

/-- stopping (without consuming anything) when the head of the queue is the EOF token: the "early" alternative -/
theorem tr_stopAtEof {α : Type} (a : α) {R : α → List Tok → List Elem → Prop} :
    Tr AtEof (HeadK .eof) (pure a : PI α) R := by
  refine ⟨good_pure a, ?_⟩
  intro s a' s' w hi he hlq hq hr _
  rw [run_pure] at hr
  injection hr with h1 h2
  subst h1 h2
  refine ⟨[], [], rfl, (by intro x hx; cases hx), he, by simp, Or.inr ?_⟩
  unfold HeadK at hq
  cases hh : (Toks s).head? with
  | none => rw [hh] at hq; cases hq
  | some t => rw [hh] at hq; exact ⟨t, hh, by simpa using hq⟩

theorem headK_of_peek {H : List Tok → Prop} {k : Option Kind} {k0 : Kind} {q : List Tok}
    (h : H q ∧ q.head?.map (·.kind) = k) (hk : k = some k0) : HeadK k0 q := by
  unfold HeadK; rw [h.2, hk]

/-- ONE value `v` (well-formed for the context), built as the tree `ValTree v` -/
def ValueR (c : Bool) (cs : List Tok) (e : List Elem) : Prop :=
  ∃ v ev, TokIs cs (Ast.tValue v) ∧ valueOk c v = true ∧ e = [ev] ∧ ValTree v ev

/-! ### leaves -/

theorem tr_valueLeaf (K k : SK) (hk : isJunkKind k = false) (kd : Kind) (hni : isIgnoredKind kd = false) (hne : kd ≠ .eof)
    (c : Bool) (mk : Tok → Option (Ast.Value × Elem))
    (hmk : ∀ t, t.kind = kd → TokFact t → ∃ v, (∃ x, astOfV t = some x ∧ Ast.tValue v = [x]) ∧ valueOk c v = true ∧
      ValTree v (.node K [.tok k t.data])) :
    Tr AtEof (HeadK kd) (withNode K (bump k)) (fun _ => ValueR c) := by
  refine (tr_leaf (E := AtEof) K k hk (fun t => t.kind = kd) (by intro t h; rw [h]; exact ⟨hni, hne⟩)).mono
    (fun _ h => headP_of_headK h) ?_
  rintro _ cs e ⟨t, hkt, hf, rfl, rfl⟩
  obtain ⟨v, ⟨x, hx, hv⟩, hok, htree⟩ := hmk t hkt hf
  exact ⟨v, _, by rw [hv]; exact TokIs.single t x hx, hok, rfl, htree⟩

theorem tr_intValue (c : Bool) : Tr AtEof (HeadK .int) (withNode "INT_VALUE" (bump "INT")) (fun _ => ValueR c) :=
  tr_valueLeaf "INT_VALUE" "INT" (by decide) .int rfl (by decide) c (fun _ => none) (by
    intro t hk _
    exact ⟨.int t.data, ⟨_, by simp [astOfV, hk], rfl⟩, rfl, ValTree.int t.data⟩)

theorem tr_floatValue (c : Bool) : Tr AtEof (HeadK .float) (withNode "FLOAT_VALUE" (bump "FLOAT")) (fun _ => ValueR c) :=
  tr_valueLeaf "FLOAT_VALUE" "FLOAT" (by decide) .float rfl (by decide) c (fun _ => none) (by
    intro t hk _
    exact ⟨.float t.data, ⟨_, by simp [astOfV, hk], rfl⟩, rfl, ValTree.float t.data⟩)

theorem tr_stringValue (c : Bool) : Tr AtEof (HeadK .stringValue) (withNode "STRING_VALUE" (bump "STRING")) (fun _ => ValueR c) :=
  tr_valueLeaf "STRING_VALUE" "STRING" (by decide) .stringValue rfl (by decide) c (fun _ => none) (by
    intro t hk hf
    have hsome := hf.2 hk
    obtain ⟨sv, hsv⟩ := Option.isSome_iff_exists.mp hsome
    exact ⟨.str sv, ⟨_, by simp [astOfV, hk, hsv], rfl⟩, rfl, ValTree.str t.data sv hsv⟩)

theorem tr_variableNodeX : Tr AtEof (HeadK .dollar) variableNode
    (fun _ cs e => ∃ (x : Ast.Str) (vcs : List Elem) (dl : Rowan.Str), TokIs cs [.p .dollar, .name x] ∧ isValidName x = true ∧
      e = [Elem.node "VARIABLE" vcs] ∧ sigE vcs = [Elem.tok "DOLLAR" dl, nameNode x]) := by
  unfold variableNode
  have hb := tr_bind (E := AtEof) early_atEof
    (tr_bumpK (E := AtEof) "DOLLAR" (by decide) .dollar rfl (by decide))
    (fun _ => tr_name (E := AtEof) (H := fun _ => True))
  refine (tr_withNode early_atEof "VARIABLE" (hsig_headK .dollar rfl) hb).mono (fun _ h => h) ?_
  rintro _ cs e ⟨inner, rfl, _, c1, c2, e1, e2, rfl, hin, ⟨t, hk, _, rfl, rfl⟩, t2, hk2, hv2, rfl, rfl⟩
  refine ⟨t2.data, inner, t.data, ?_, hv2, rfl, by rw [hin]; rfl⟩
  exact TokIs.cons (by simp [astOfV, hk]) (TokIs.single t2 _ (by simp [astOfV, hk2]))

/-- `$name` as a value (not in a constant context) -/
theorem tr_variableNode : Tr AtEof (HeadK .dollar) variableNode (fun _ => ValueR false) :=
  tr_variableNodeX.mono (fun _ h => h)
    (fun _ _ _ ⟨x, vcs, dl, h1, h2, h3, h4⟩ => ⟨.var x, _, h1, rfl, h3, ValTree.var x vcs dl h2 h4⟩)

theorem tr_nameAt {E : PState → Prop} (t0 : Tok) :
    Tr E (fun q => q.head? = some t0) name
      (fun _ cs e => t0.kind = .name ∧ isValidName t0.data = true ∧ cs = [t0] ∧ e = [nameNode t0.data]) := by
  unfold name
  apply tr_peekToken
  intro o
  cases o with
  | none => exact tr_absurd good_err (by rintro q ⟨h1, h2⟩; rw [h1] at h2; cases h2)
  | some t =>
    simp only []
    refine tr_ite _ (fun hk => ?_) (fun _ => tr_err)
    have hk' : t.kind = .name := by simpa using hk
    refine (tr_leaf "NAME" "IDENT" (by decide) (fun t' => t' = t ∧ t = t0)
      (by rintro t' ⟨rfl, _⟩; rw [hk']; exact ⟨rfl, by decide⟩)).mono ?_ ?_
    · rintro q ⟨h1, h2⟩
      exact ⟨t, h2, rfl, by rw [h1] at h2; injection h2 with h2; exact h2.symm⟩
    · rintro _ cs e ⟨t', ⟨rfl, rfl⟩, hv, hcs, he⟩
      exact ⟨hk', hv.1 hk', hcs, he⟩

theorem tr_enumValue (c : Bool) (t : Tok) (hk : t.kind = .name) (hnk : isValueKeyword t.data = false) :
    Tr AtEof (fun q => q.head? = some t) enumValue (fun _ => ValueR c) := by
  unfold enumValue
  have hsig : ∀ q : List Tok, q.head? = some t → ∃ t' rest, q = t' :: rest ∧ isIgnoredKind t'.kind = false := by
    intro q hq
    cases q with
    | nil => cases hq
    | cons a b => simp only [List.head?_cons, Option.some.injEq] at hq; subst hq; exact ⟨a, b, rfl, by rw [hk]; rfl⟩
  refine (tr_withNode (R := fun _ cs e => t.kind = .name ∧ isValidName t.data = true ∧ cs = [t] ∧ e = [nameNode t.data])
    early_atEof "ENUM_VALUE" hsig ?_).mono (fun _ h => h) ?_
  · apply tr_peekToken
    intro o
    cases o with
    | none => exact tr_absurd (good_err) (by rintro q ⟨h1, h2⟩; rw [h1] at h2; cases h2)
    | some t' =>
      simp only []
      refine tr_ite _ (fun _ => ?_) (fun _ => tr_err)
      have hkw : (kw "true" t'.data || kw "false" t'.data || kw "null" t'.data) = true → t' ≠ t := by
        intro hx he
        subst he
        simp only [isValueKeyword] at hnk
        rw [hnk] at hx
        cases hx
      refine tr_ite _ (fun hx => tr_absurd (good_bind _ _ good_err (fun _ => good_name)) ?_) (fun _ => ?_)
      · rintro q ⟨h1, h2⟩
        rw [h1] at h2
        exact hkw hx (by injection h2 with h2; exact h2.symm)
      · exact (tr_nameAt (E := AtEof) t).mono (fun _ h => h.1) (fun _ _ _ h => h)
  · rintro _ cs e ⟨inner, rfl, hk2, hv, rfl, hin⟩
    exact ⟨.enum t.data, _, TokIs.single t _ (by simp [astOfV, hk2]),
      by simp [valueOk, hnk], rfl, ValTree.enum t.data inner hv hin⟩


/-! ### lists -/

def ListFin (cs : List Tok) (e : List Elem) : Prop := ∃ t, t.kind = .rBracket ∧ cs = [t] ∧ e = [Elem.tok "R_BRACK" t.data]

def listStep (n : Nat) (c : Bool) (node : Kind) : PI Bool :=
  if node == .rBracket then (bump "R_BRACK" >>= fun _ => pure false)
  else if node == .eof then pure false
  else withRec (limitErr >>= fun _ => pure false) (value n c true >>= fun _ => pure true)

theorem listValue_eq (n : Nat) (c : Bool) :
    listValue (n + 1) c = withNode "LIST_VALUE" (bump "L_BRACK" >>= fun _ => peekWhile (listStep n c)) := rfl

theorem tr_listStep (n : Nat) (c : Bool) (hv : Tr AtEof (fun _ => True) (value n c true) (fun _ => ValueR c)) (k : Kind) :
    Tr AtEof (HeadK k) (listStep n c k) (fun b cs e => (b = true ∧ ValueR c cs e) ∨ (b = false ∧ ListFin cs e)) := by
  unfold listStep
  refine tr_ite _ (fun hk => ?_) (fun hk => tr_ite _ (fun hk2 => ?_) (fun _ => ?_))
  · have hk' : k = .rBracket := by simpa using hk
    subst hk'
    refine (tr_bind early_atEof (tr_bumpK (E := AtEof) "R_BRACK" (by decide) .rBracket rfl (by decide)) (fun _ => tr_pure AtEof _ false)).mono (fun _ h => h) ?_
    rintro b cs e ⟨_, c1, c2, e1, e2, rfl, rfl, ⟨t, hk, _, rfl, rfl⟩, rfl, rfl, rfl⟩
    exact Or.inr ⟨rfl, t, hk, by simp, by simp⟩
  · have hk' : k = .eof := by simpa using hk2
    subst hk'
    exact tr_stopAtEof false
  · refine (tr_withRec early_atEof (tr_limitErr_then _ (good_pure _))
      (tr_bind early_atEof hv (fun _ => tr_pure AtEof _ true))).mono (fun _ _ => trivial) ?_
    rintro b cs e ⟨_, c1, c2, e1, e2, rfl, rfl, hval, rfl, rfl, rfl⟩
    exact Or.inl ⟨rfl, by simpa using hval⟩

theorem itemsT_values (c : Bool) : ∀ (cs : List Tok) (e : List Elem), ItemsT (ValueR c) cs e →
    ∃ vs, TokIs cs (Ast.tValues vs) ∧ valuesOk c vs = true ∧ ValsTree vs e := by
  rintro cs e ⟨items, rfl, rfl, hall⟩
  induction items with
  | nil => exact ⟨.nil, TokIs.nil, rfl, ValsTree.nil⟩
  | cons i items ih =>
    obtain ⟨vs, h1, h2, h3⟩ := ih (fun j hj => hall j (List.mem_cons_of_mem _ hj))
    obtain ⟨v, ev, hv1, hv2, hv3, hv4⟩ := hall i List.mem_cons_self
    refine ⟨.cons v vs, ?_, by simp [valuesOk, hv2, h2], ?_⟩
    · simp only [List.map_cons, List.flatten_cons, Ast.tValues]
      exact hv1.append h1
    · simp only [List.map_cons, List.flatten_cons, hv3]
      exact ValsTree.cons v ev vs _ hv4 h3

/-- `[ Value* ]` -/
theorem tr_listValue (n : Nat) (c : Bool) (hv : Tr AtEof (fun _ => True) (value n c true) (fun _ => ValueR c)) :
    Tr AtEof (HeadK .lBracket) (listValue (n + 1) c) (fun _ => ValueR c) := by
  rw [listValue_eq]
  have hloop := tr_while (E := AtEof) early_atEof (H := fun _ => True) (listStep n c) (ValueR c) ListFin (tr_listStep n c hv)
  have hb := tr_bind early_atEof (tr_bumpK (E := AtEof) "L_BRACK" (by decide) .lBracket rfl (by decide)) (fun _ => hloop)
  refine (tr_withNode early_atEof "LIST_VALUE" (hsig_headK .lBracket rfl) hb).mono (fun _ h => h) ?_
  rintro _ cs e ⟨inner, rfl, _, c1, c2, e1, e2, rfl, hin, ⟨t, hk, _, rfl, rfl⟩, x1, x2, y1, y2, rfl, rfl, hitems, t2, hk2, rfl, rfl⟩
  obtain ⟨vs, h1, h2, h3⟩ := itemsT_values c x1 y1 hitems
  refine ⟨.list vs, _, ?_, by simpa [valueOk] using h2, rfl, ValTree.list vs inner y1 t.data t2.data h3 (by rw [hin]; simp)⟩
  have ha : TokIs [t] [Ast.Tok.p .lBracket] := TokIs.single t _ (by simp [astOfV, hk])
  have hb' : TokIs [t2] [Ast.Tok.p .rBracket] := TokIs.single t2 _ (by simp [astOfV, hk2])
  have := ha.append (h1.append hb')
  simpa [Ast.tValue] using this

/-! ### objects -/

/-- one object field `name : Value`, built as `OBJECT_FIELD[NAME, COLON, value]` -/
def FieldR (c : Bool) (cs : List Tok) (e : List Elem) : Prop :=
  ∃ nm v ev inner col, TokIs cs (.name nm :: .p .colon :: Ast.tValue v) ∧ valueOk c v = true ∧ isValidName nm = true ∧
    e = [Elem.node "OBJECT_FIELD" inner] ∧ sigE inner = [nameNode nm, .tok "COLON" col, ev] ∧ ValTree v ev

/-- `: Value` after the name of an object field or argument -/
theorem tr_colonValue (c : Bool) {m : PI Unit} (hm : Tr AtEof (fun _ => True) m (fun _ => ValueR c)) :
    Tr AtEof (fun _ => True) (peek >>= fun k => if k == some Kind.colon then (bump "COLON" >>= fun _ => m) else err)
      (fun _ cs e => ∃ (t : Tok) (v : Ast.Value) (ev : Elem), t.kind = Kind.colon ∧ TokIs cs (.p .colon :: Ast.tValue v) ∧
        valueOk c v = true ∧ e = [Elem.tok "COLON" t.data, ev] ∧ ValTree v ev) := by
  have hcolon := tr_bind early_atEof (tr_bumpK (E := AtEof) "COLON" (by decide) .colon rfl (by decide)) (fun _ => hm)
  refine (tr_ifKind .colon _ _ _ hcolon.atKind tr_err).mono (fun _ h => h) ?_
  rintro _ cs e ⟨_, c1, c2, e1, e2, rfl, rfl, ⟨t, hk, _, rfl, rfl⟩, v, ev, h1, h2, rfl, h4⟩
  exact ⟨t, v, ev, hk, TokIs.cons (by simp [astOfV, hk]) h1, h2, rfl, h4⟩

theorem tr_objectField (n : Nat) (c : Bool) (hv : Tr AtEof (fun _ => True) (value n c true) (fun _ => ValueR c)) :
    Tr AtEof (HeadK .name) (objectField (n + 1) c) (fun _ => FieldR c) := by
  unfold objectField
  have hval : Tr AtEof (fun _ => True) (withRec limitErr (value n c true)) (fun _ => ValueR c) :=
    tr_withRec early_atEof (tr_never acc_limitErr) hv
  have hb := tr_bind early_atEof (tr_name (E := AtEof) (H := HeadK .name)) (fun _ => tr_colonValue c hval)
  refine (tr_withNode early_atEof "OBJECT_FIELD" (hsig_headK .name rfl) hb).mono (fun _ h => h) ?_
  rintro _ cs e ⟨inner, rfl, _, c1, c2, e1, e2, rfl, hin, ⟨t, hk, hvn, rfl, rfl⟩, t2, v, ev, hk2, h1, h2, rfl, h4⟩
  exact ⟨t.data, v, ev, inner, t2.data, TokIs.cons (by simp [astOfV, hk]) h1, h2, hvn, rfl, by rw [hin]; rfl, h4⟩

theorem itemsT_fields (c : Bool) : ∀ (cs : List Tok) (e : List Elem), ItemsT (FieldR c) cs e →
    ∃ fs, TokIs cs (Ast.tObjFields fs) ∧ fieldsOk c fs = true ∧ FieldsTree fs e := by
  rintro cs e ⟨items, rfl, rfl, hall⟩
  induction items with
  | nil => exact ⟨.nil, TokIs.nil, rfl, FieldsTree.nil⟩
  | cons i items ih =>
    obtain ⟨fs, h1, h2, h3⟩ := ih (fun j hj => hall j (List.mem_cons_of_mem _ hj))
    obtain ⟨nm, v, ev, inner, col, hv1, hv2, hvn, hv3, hv4, hv5⟩ := hall i List.mem_cons_self
    refine ⟨.cons nm v fs, ?_, by simp [fieldsOk, hv2, h2], ?_⟩
    · simp only [List.map_cons, List.flatten_cons, Ast.tObjFields]
      have := hv1.append h1
      simpa [List.append_assoc] using this
    · simp only [List.map_cons, List.flatten_cons, hv3]
      exact FieldsTree.cons nm v ev inner col fs _ hvn hv5 hv4 h3

/-- `{ ObjectField* }` -/
theorem tr_objectValue (n : Nat) (c : Bool) (hf : Tr AtEof (HeadK .name) (objectField n c) (fun _ => FieldR c)) :
    Tr AtEof (HeadK .lCurly) (objectValue (n + 1) c) (fun _ => ValueR c) := by
  unfold objectValue
  have hloop := tr_kindWhile (E := AtEof) early_atEof (H := fun _ => True) .name (objectField n c) (FieldR c)
    (hf.atKind)
  have hclose := tr_expect (E := AtEof) (H := fun _ => True) .rCurly "R_CURLY" (by decide) rfl (by decide)
  have hb := tr_bind early_atEof (tr_bumpK (E := AtEof) "L_CURLY" (by decide) .lCurly rfl (by decide)) (fun _ => tr_bind early_atEof hloop (fun _ => hclose))
  refine (tr_withNode early_atEof "OBJECT_VALUE" (hsig_headK .lCurly rfl) hb).mono
    (fun _ h => h) ?_
  rintro _ cs e ⟨inner, rfl, _, c1, c2, e1, e2, rfl, hin, ⟨t, hk, _, rfl, rfl⟩, _, x1, x2, y1, y2, rfl, rfl, hitems, t2, hk2, rfl, rfl⟩
  obtain ⟨fs, h1, h2, h3⟩ := itemsT_fields c x1 y1 hitems
  refine ⟨.obj fs, _, ?_, by simpa [valueOk] using h2, rfl, ValTree.obj fs inner y1 t.data t2.data h3 (by rw [hin]; simp)⟩
  have ha : TokIs [t] [Ast.Tok.p .lCurly] := TokIs.single t _ (by simp [astOfV, hk])
  have hb' : TokIs [t2] [Ast.Tok.p .rCurly] := TokIs.single t2 _ (by simp [astOfV, hk2])
  have := ha.append (h1.append hb')
  simpa [Ast.tValue] using this


/-! ### `value` -/

theorem acc_errThen {α : Type} {E : PState → Prop} {H : List Tok → Prop} (p : Bool) (rest : PI α) (hg : Good rest) :
    Acc E H ((if p = true then errAndPop else err) >>= fun _ => rest) (fun _ _ => False) := by
  cases p
  · simpa using acc_err' (E := E) (H := H) rest hg (R := fun _ _ => False)
  · simpa using acc_errAndPop' (E := E) (H := H) rest hg (R := fun _ _ => False)

theorem good_variableNode' : Good variableNode :=
  good_withNode _ _ (good_bind _ _ (good_bump _) (fun _ => good_name))

theorem tr_errOrPop {E : PState → Prop} {H : List Tok → Prop} (p : Bool) {R : Unit → List Tok → List Elem → Prop} :
    Tr E H (if p = true then errAndPop else err) R := by
  cases p
  · simpa using (tr_err (E := E) (H := H) (R := R))
  · simpa using (tr_errAndPop (E := E) (H := H) (R := R))

/-- a keyword leaf (`true`, `false`, `null`) -/
theorem tr_kwLeaf (K k : SK) (hk : isJunkKind k = false) (c : Bool) (t : Tok) (hkn : t.kind = .name) (v : Ast.Value)
    (hv : Ast.tValue v = [.name t.data]) (hok : valueOk c v = true) (htree : ValTree v (.node K [.tok k t.data])) :
    Tr AtEof (fun q => q.head? = some t) (withNode K (bump k)) (fun _ => ValueR c) := by
  refine (tr_leaf (E := AtEof) K k hk (fun t' => t' = t) (by rintro t' rfl; rw [hkn]; exact ⟨rfl, by decide⟩)).mono
    (fun q hq => ⟨t, hq, rfl⟩) ?_
  rintro _ cs e ⟨t', rfl, _, rfl, rfl⟩
  exact ⟨v, _, by rw [hv]; exact TokIs.single t' _ (by simp [astOfV, hkn]), hok, rfl, htree⟩

theorem tr_assume {α : Type} {E : PState → Prop} {H : List Tok → Prop} {m : PI α} {R : α → List Tok → List Elem → Prop}
    {P : Prop} (hg : Good m) (h : P → Tr E H m R) : Tr E (fun q => H q ∧ P) m R :=
  ⟨hg, fun s a s' w hi he hlq hq hr hnd => (h hq.2).2 s a s' w hi he hlq hq.1 hr hnd⟩

theorem tr_valueStep (n : Nat) (hl : ∀ c, Tr AtEof (HeadK .lBracket) (listValue n c) (fun _ => ValueR c))
    (ho : ∀ c, Tr AtEof (HeadK .lCurly) (objectValue n c) (fun _ => ValueR c)) (c p : Bool) :
    Tr AtEof (fun _ => True) (value (n + 1) c p) (fun _ => ValueR c) := by
  unfold value
  apply tr_peek
  intro k
  cases k with
  | none => exact tr_errOrPop p
  | some kk =>
    cases kk <;> simp only [] <;> first
      | exact tr_errOrPop p
      | exact (tr_intValue c).mono (fun _ h => h.2) (fun _ _ _ h => h)
      | exact (tr_floatValue c).mono (fun _ h => h.2) (fun _ _ _ h => h)
      | exact (tr_stringValue c).mono (fun _ h => h.2) (fun _ _ _ h => h)
      | exact (hl c).mono (fun _ h => h.2) (fun _ _ _ h => h)
      | exact (ho c).mono (fun _ h => h.2) (fun _ _ _ h => h)
      | (-- `$`
         refine tr_ite _ (fun _ => tr_never (acc_errThen p _ good_variableNode')) (fun hc => ?_)
         have hc' : c = false := by simpa using hc
         subst hc'
         exact tr_variableNode.mono (fun _ h => h.2) (fun _ _ _ h => h))
      | (-- a Name
         apply tr_peekToken
         intro o
         cases o with
         | none => exact tr_absurd (good_pure _) (by rintro q ⟨⟨_, h1⟩, h2⟩; rw [h2] at h1; cases h1)
         | some t =>
           simp only []
           refine Tr.mono (H := fun q => q.head? = some t ∧ t.kind = Kind.name) ?_
             (by rintro q ⟨⟨_, h1⟩, h2⟩; refine ⟨h2, ?_⟩; rw [h2] at h1; simpa using h1) (fun _ _ _ h => h)
           refine tr_ite _ (fun h1 => ?_) (fun h1 => tr_ite _ (fun h2 => ?_) (fun h2 => tr_ite _ (fun h3 => ?_) (fun h3 => ?_)))
           · refine tr_assume (good_withNode _ _ (good_bump _)) (fun hkn => ?_)
             exact tr_kwLeaf "BOOLEAN_VALUE" "true_KW" (by decide) c t hkn (.bool true) (by rw [kw_eq h1]; rfl) rfl
               (by rw [kw_eq h1]; exact ValTree.tru)
           · refine tr_assume (good_withNode _ _ (good_bump _)) (fun hkn => ?_)
             exact tr_kwLeaf "BOOLEAN_VALUE" "false_KW" (by decide) c t hkn (.bool false) (by rw [kw_eq h2]; rfl) rfl
               (by rw [kw_eq h2]; exact ValTree.fls)
           · refine tr_assume (good_withNode _ _ (good_bump _)) (fun hkn => ?_)
             exact tr_kwLeaf "NULL_VALUE" "null_KW" (by decide) c t hkn .null (by rw [kw_eq h3]; rfl) rfl (ValTree.null _)
           · refine tr_assume good_enumValue (fun hkn => ?_)
             refine tr_enumValue c t hkn ?_
             simp only [isValueKeyword]
             simp [h1, h2, h3])


/-! ### the induction -/

structure ValAll (n : Nat) : Prop where
  value : ∀ c p, Tr AtEof (fun _ => True) (value n c p) (fun _ => ValueR c)
  list : ∀ c, Tr AtEof (HeadK .lBracket) (listValue n c) (fun _ => ValueR c)
  obj : ∀ c, Tr AtEof (HeadK .lCurly) (objectValue n c) (fun _ => ValueR c)
  field : ∀ c, Tr AtEof (HeadK .name) (objectField n c) (fun _ => FieldR c)

theorem valAll : ∀ n, ValAll n
  | 0 => ⟨fun _ _ => by unfold value; exact tr_outOfFuel, fun _ => by unfold listValue; exact tr_outOfFuel,
      fun _ => by unfold objectValue; exact tr_outOfFuel, fun _ => by unfold objectField; exact tr_outOfFuel⟩
  | n + 1 =>
    have ih := valAll n
    ⟨fun c p => tr_valueStep n ih.list ih.obj c p, fun c => tr_listValue n c (ih.value c true),
      fun c => tr_objectValue n c (ih.field c), fun c => tr_objectField n c (ih.value c true)⟩

/-- **value.rs**: an error-free run of `value` consumed the tokens `tValue v` of ONE value `v` (well-formed for the
    context) and appended exactly one element (after junk), the tree `ValTree v` — or it stopped at the end of input
    inside an unclosed list -/
theorem tr_value (n : Nat) (c p : Bool) : Tr AtEof (fun _ => True) (value n c p) (fun _ => ValueR c) := (valAll n).value c p

/-- `expect` on a closing token rules out the "stopped at the end of input" alternative of what precedes -/
theorem tr_close {α : Type} {H : List Tok → Prop} {m : PI α} {R : α → List Tok → List Elem → Prop}
    (token : Kind) (sk : SK) (hk : isJunkKind sk = false) (hni : isIgnoredKind token = false) (hne : token ≠ .eof)
    (h : Tr AtEof H m R) :
    Tr NoE H (m >>= fun _ => expect token sk)
      (fun _ cs e => ∃ a c1 e1 t, cs = c1 ++ [t] ∧ e = e1 ++ [Elem.tok sk t.data] ∧ t.kind = token ∧ R a c1 e1) := by
  refine ⟨good_bind _ _ h.1 (fun _ => good_expect token sk), ?_⟩
  intro s b s'' w hi he hlq hq hr hnd
  obtain ⟨a, s', hr1, hr2⟩ := bind_dec m _ s s'' b hr
  have ad := h.1 s a s' w hr1
  have hi' := (run_inv_added m s hi a s' hr1).1
  have hnd' : ¬ Doomed s' := fun d => hnd ((good_expect token sk s' b s'' ad.w hr2).doom d)
  obtain ⟨c1, d1, t1, n1, e1, b1, r1⟩ := h.2 s a s' w hi he hlq hq hr1 hnd'
  obtain ⟨c2, d2, t2, n2, e2, b2, r2⟩ := (tr_expect (E := NoE) (H := fun _ => True) token sk hk hni hne).2 s' b s'' ad.w hi' e1
    (LQ.suffix (cs := c1) (by rw [← t1]; exact hlq)) trivial hr2 hnd
  refine ⟨c1 ++ c2, d1 ++ d2, by rw [t1, t2, List.append_assoc], noEof_append n1 n2, e2, by rw [b2, b1, List.append_assoc], Or.inl ?_⟩
  rcases r2 with ⟨t, hkt, hc2, hd2⟩ | f
  · rcases r1 with r1 | ⟨e0, hh, hke⟩
    · exact ⟨a, sig c1, sigE d1, t, by rw [sig_append, hc2], by rw [sigE_append, hd2], hkt, r1⟩
    · -- at the end of input the closing token cannot have been there
      exfalso
      have hsig : sig c2 = [t] := hc2
      have hmem : t ∈ c2 := by
        have : t ∈ sig c2 := by rw [hsig]; simp
        exact (List.mem_filter.mp this).1
      have hne0 : c2 ≠ [] := by intro h0; rw [h0] at hmem; cases hmem
      cases c2 with
      | nil => exact hne0 rfl
      | cons x xs =>
        rw [t2] at hh
        simp only [List.cons_append, List.head?_cons, Option.some.injEq] at hh
        subst hh
        exact n2 x (by simp) hke
  · exact absurd f id

end Apollo.Parse

namespace Apollo.Parse
open Apollo.Rowan hiding Str
open Apollo.Lex hiding Str
open Apollo.FromCst (ValTree ConvE cValue size cValue_valTree)

theorem isValueKeyword_false {n : Str} (h : isValueKeyword n = false) :
    (n != Ast.sTrue && n != Ast.sFalse && n != Ast.sNull) = true := by
  simp only [isValueKeyword, kw, Bool.or_eq_false_iff, beq_eq_false_iff_ne, ne_eq] at h
  simp only [Ast.sTrue, Ast.sFalse, Ast.sNull, Bool.and_eq_true, bne_iff_ne, ne_eq]
  exact h

mutual
  theorem valueOk_wf : ∀ (c : Bool) (v : Ast.Value), valueOk c v = true → Ast.wfValue v = true
    | c, .enum n, h => by
      simp only [valueOk, Bool.not_eq_true'] at h
      simpa [Ast.wfValue] using isValueKeyword_false h
    | c, .list vs, h => by simp only [valueOk] at h; simp only [Ast.wfValue]; exact valuesOk_wf c vs h
    | c, .obj fs, h => by simp only [valueOk] at h; simp only [Ast.wfValue]; exact fieldsOk_wf c fs h
    | _, .null, _ | _, .bool _, _ | _, .str _, _ | _, .var _, _ | _, .float _, _ | _, .int _, _ => rfl
  theorem valuesOk_wf : ∀ (c : Bool) (vs : Ast.Values), valuesOk c vs = true → Ast.wfValues vs = true
    | _, .nil, _ => rfl
    | c, .cons v tl, h => by
      simp only [valuesOk, Bool.and_eq_true] at h
      simp [Ast.wfValues, valueOk_wf c v h.1, valuesOk_wf c tl h.2]
  theorem fieldsOk_wf : ∀ (c : Bool) (fs : Ast.ObjFields), fieldsOk c fs = true → Ast.wfObjFields fs = true
    | _, .nil, _ => rfl
    | c, .cons _ v tl, h => by
      simp only [fieldsOk, Bool.and_eq_true] at h
      simp [Ast.wfObjFields, valueOk_wf c v h.1, fieldsOk_wf c tl h.2]
end

theorem tValue_injective {v v' : Ast.Value} (hv : Ast.wfValue v = true) (hv' : Ast.wfValue v' = true)
    (h : Ast.tValue v = Ast.tValue v') : v = v' := by
  have h1 := Ast.value_roundtrip v (Ast.szValue v + Ast.szValue v') [] hv (by omega)
  have h2 := Ast.value_roundtrip v' (Ast.szValue v + Ast.szValue v') [] hv' (by omega)
  rw [h] at h1
  rw [h1] at h2
  simpa using h2

/-- **stage (ii): values.**  An error-free run of `value.rs::value` from a state of the calculus consumed the tokens of
    ONE value `v` (well-formed; without variables in a constant context), appended exactly one element `ev` besides junk,
    `impl Convert for cst::Value` on `ev` returns `v`, and so does the reference parser `pValue` on the tokens — or the
    run stopped at the end of input inside an unclosed list. -/
theorem value_pipeline (n : Nat) (c p : Bool) (s s' : PState) (st : St s)
    (h : (value n c p).run s = .ok () s') (hnd : ¬ Doomed s') :
    ∃ cs added, Toks s = cs ++ Toks s' ∧ s'.builder.children = s.builder.children ++ added ∧
      ((∃ v ev, TokIs (sig cs) (Ast.tValue v) ∧ valueOk c v = true ∧ sigE added = [ev] ∧ ValTree v ev ∧
          ConvE (fun R => @cValue R (size ev)) v ev ∧ Ast.pValue (Ast.szValue v) (Ast.tValue v) = some (v, []))
        ∨ AtEof s') := by
  obtain ⟨cs, added, t1, _, _, b1, r1⟩ := (tr_value n c p).2 s () s' st.w st.inv st.eof st.lq trivial h hnd
  refine ⟨cs, added, t1, b1, ?_⟩
  rcases r1 with ⟨v, ev, h1, h2, h3, h4⟩ | e
  · left
    refine ⟨v, ev, h1, h2, h3, h4, cValue_valTree _ v ev h4 (Nat.le_refl _), ?_⟩
    have := Ast.value_roundtrip v (Ast.szValue v) [] (valueOk_wf c v h2) (Nat.le_refl _)
    simpa using this
  · exact Or.inr e

/-- C08, values: if the tokens consumed by an error-free run of `value` that did not stop at the
    end of input spell the printed tokens `tValue v0` of a well-formed value `v0`, the element built converts to `v0`
    itself -/
theorem pipeline_print_parse_value (n : Nat) (c p : Bool) (s s' : PState) (st : St s)
    (h : (value n c p).run s = .ok () s') (hnd : ¬ Doomed s') (hne : ¬ AtEof s')
    (v0 : Ast.Value) (hwf : Ast.wfValue v0 = true) (cs : List Tok) (ht : Toks s = cs ++ Toks s')
    (hspell : TokIs (sig cs) (Ast.tValue v0)) :
    ∃ added ev, s'.builder.children = s.builder.children ++ added ∧ sigE added = [ev] ∧
      ConvE (fun R => @cValue R (size ev)) v0 ev := by
  obtain ⟨cs', added, t1, b1, r⟩ := value_pipeline n c p s s' st h hnd
  rcases r with ⟨v, ev, h1, h2, h3, h4, h5, _⟩ | e
  · have hcs : cs' = cs := by
      have := t1.symm.trans ht
      exact List.append_cancel_right this
    subst hcs
    have hv : v = v0 := by
      apply tValue_injective (valueOk_wf c v h2) hwf
      unfold TokIs at h1 hspell
      rw [h1] at hspell
      exact map_some_inj hspell
    subst hv
    exact ⟨added, ev, b1, h3, h5⟩
  · exact absurd e hne

end Apollo.Parse
