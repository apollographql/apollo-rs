import ApolloModel.Proofs.ParserTree27
/-
C08 (pipeline): `Document::from_cst` on the DOCUMENT root; how the tokens of a type-system definition start (never like an
executable definition); trees that hold executable definitions only (`ExecRoot`).
-/
set_option linter.unusedSimpArgs false
set_option linter.unusedVariables false

namespace Apollo.Parse
open Apollo.Rowan hiding Str
open Apollo.Lex hiding Str
open Apollo.FromCst (All2)

/-! ### `Document::from_cst` -/

theorem all2_map_right {α β γ : Type} (r : α → γ → Prop) (f : β → γ) : ∀ (as : List α) (bs : List β),
    All2 (fun a b => r a (f b)) as bs → All2 r as (bs.map f)
  | _, _, .nil => All2.nil
  | _, _, .cons h1 h2 => All2.cons h1 (all2_map_right r f _ _ h2)

theorem items_defItemsX (X : Ast.Item → Prop) : ∀ (items : List (List Tok × List Elem)),
    (∀ i ∈ items, ∃ (it : Ast.Item) (ed : Elem), TokIs i.1 (Ast.tDefinition it.1 it.2) ∧ Ast.wfDefinition it.2 = true ∧
      i.2 = [ed] ∧ DefConv it.2 ed ∧ X it) →
    ∃ (its : List Ast.Item) (eds : List Elem), TokIs (items.map (·.1)).flatten (Ast.itemsToks its) ∧
      (items.map (·.2)).flatten = eds ∧ its.length = items.length ∧ (∀ i ∈ its, Ast.wfDefinition i.2 = true ∧ X i) ∧
      All2 (fun e (it : Ast.Item) => DefConv it.2 e) eds its
  | [], _ => ⟨[], [], TokIs.nil, rfl, rfl, (by intro i hi; cases hi), All2.nil⟩
  | i :: items, h => by
    obtain ⟨its, eds, h1, h2, h3, h4, h5⟩ := items_defItemsX X items (fun j hj => h j (List.mem_cons_of_mem _ hj))
    obtain ⟨it, ed, ht, hw, he, hc, hx⟩ := h i List.mem_cons_self
    refine ⟨it :: its, ed :: eds, ?_, ?_, by simp [h3], ?_, All2.cons hc h5⟩
    · simp only [List.map_cons, List.flatten_cons, Ast.itemsToks_cons]
      exact ht.append h1
    · simp only [List.map_cons, List.flatten_cons, he, h2]; rfl
    · intro j hj
      rcases List.mem_cons.mp hj with rfl | hj
      · exact ⟨hw, hx⟩
      · exact h4 j hj

/-- **`Document::from_cst`** on a DOCUMENT root whose significant children are the nodes of the definitions `its` -/
theorem fromCst_document (inner eds : List Elem) (its : List Ast.Item) (hsig : sigE inner = eds)
    (hall : All2 (fun e (it : Ast.Item) => DefConv it.2 e) eds its) :
    (FromCst.fromCst (Elem.node "DOCUMENT" inner)).1 = its.map (·.2) := by
  unfold FromCst.fromCst
  have hfilter : inner.filter (FromCst.nodeP FromCst.isDefinitionKind) = eds := by
    rw [FromCst.filter_nodeP_sigE, hsig]
    exact FromCst.all2_filter (fun (it : Ast.Item) e => DefConv it.2 e) _ (fun a e h => h.1) eds its hall
  have hmap := FromCst.childrenP_map (R := nameRanges (Elem.node "DOCUMENT" inner) 0) FromCst.isDefinitionKind "DOCUMENT" inner 0
    (fun _ hx => hx)
  rw [hfilter] at hmap
  have hconv : All2 (fun e a => FromCst.ConvE (fun R => @FromCst.cDefinition R (FromCst.size (Elem.node "DOCUMENT" inner))) a e) eds
      (its.map (·.2)) := by
    apply all2_map_right
    have hmem : ∀ e ∈ eds, FromCst.size e ≤ FromCst.size (Elem.node "DOCUMENT" inner) + 1 := by
      intro e he
      have h1 : e ∈ inner := FromCst.mem_sigE (by rw [hsig]; exact he)
      have := FromCst.size_le_sizeList h1
      rw [FromCst.size_node]; omega
    clear hfilter hmap hsig
    induction hall with
    | nil => exact All2.nil
    | cons h1 h2 ih =>
      exact All2.cons (h1.2 _ (hmem _ List.mem_cons_self)) (ih (fun e he => hmem e (List.mem_cons_of_mem _ he)))
  obtain ⟨l, hl⟩ := FromCst.collectM_conv (R := nameRanges (Elem.node "DOCUMENT" inner) 0)
    (fun R => @FromCst.cDefinition R (FromCst.size (Elem.node "DOCUMENT" inner))) _ eds (its.map (·.2)) hmap hconv
  unfold FromCst.collectM at hl
  injection hl with hl
  rw [hl]

theorem document_fromCst_of_itemsX (X : Ast.Item → Prop) (root : Elem) (inner : List Elem) (ts : List Tok)
    (items : List (List Tok × List Elem))
    (hroot : root = Elem.node "DOCUMENT" inner) (hne : items ≠ []) (hts : ts = (items.map (·.1)).flatten)
    (hsig : sigE inner = (items.map (·.2)).flatten)
    (hall : ∀ i ∈ items, ∃ (it : Ast.Item) (ed : Elem), TokIs i.1 (Ast.tDefinition it.1 it.2) ∧ Ast.wfDefinition it.2 = true ∧
      i.2 = [ed] ∧ DefConv it.2 ed ∧ X it) :
    ∃ its : List Ast.Item, its ≠ [] ∧ TokIs ts (Ast.itemsToks its) ∧ (∀ i ∈ its, Ast.wfDefinition i.2 = true ∧ X i) ∧
      (FromCst.fromCst root).1 = its.map (·.2) := by
  obtain ⟨its, eds, h1, h2, h3, h4, h5⟩ := items_defItemsX X items hall
  refine ⟨its, ?_, by rw [hts]; exact h1, h4, ?_⟩
  · intro h0
    rw [h0] at h3
    cases items with
    | nil => exact hne rfl
    | cons a b => simp at h3
  · rw [hroot]
    exact fromCst_document inner eds its (by rw [hsig, h2]) h5

theorem document_fromCst_of_items (root : Elem) (inner : List Elem) (ts : List Tok) (items : List (List Tok × List Elem))
    (hroot : root = Elem.node "DOCUMENT" inner) (hne : items ≠ []) (hts : ts = (items.map (·.1)).flatten)
    (hsig : sigE inner = (items.map (·.2)).flatten) (hall : ∀ i ∈ items, DefItemR i.1 i.2) :
    ∃ its : List Ast.Item, its ≠ [] ∧ TokIs ts (Ast.itemsToks its) ∧ (∀ i ∈ its, Ast.wfDefinition i.2 = true) ∧
      (FromCst.fromCst root).1 = its.map (·.2) := by
  obtain ⟨its, h1, h2, h3, h4⟩ := document_fromCst_of_itemsX (fun _ => True) root inner ts items hroot hne hts hsig
    (fun i hi => by obtain ⟨it, ed, a, b, c, d⟩ := hall i hi; exact ⟨it, ed, a, b, c, d, trivial⟩)
  exact ⟨its, h1, h2, fun i hi => (h3 i hi).1, h4⟩

/-! ### how a type-system definition starts -/

/-- the first token of a type-system definition or extension: a description, or a Name other than the four keywords
    of executable definitions -/
def tsStart : Ast.Tok → Bool
  | .str _ => true
  | .name w => !(w == "query".toList || w == "mutation".toList || w == "subscription".toList || w == "fragment".toList)
  | _ => false

theorem looseDef_tsStart (l : LooseDef) : l.toks.head?.map tsStart = some true := by
  cases l with
  | scalar desc nm ds | object desc nm impl ds fs | interface desc nm impl ds fs | union desc nm ds ms | enum desc nm ds vs
  | input desc nm ds fs | directive desc nm args rep lead first rest | schema desc ds roots => cases desc <;> rfl
  | _ => rfl

theorem Tr.or {α : Type} {E : PState → Prop} {H1 H2 : List Tok → Prop} {m : PI α} {R : α → List Tok → List Elem → Prop}
    (h1 : Tr E H1 m R) (h2 : Tr E H2 m R) : Tr E (fun q => H1 q ∨ H2 q) m R :=
  ⟨h1.1, fun s a s' w hi he hlq hq hr hnd => hq.elim (fun h => h1.2 s a s' w hi he hlq h hr hnd) (fun h => h2.2 s a s' w hi he hlq h hr hnd)⟩

theorem execItemR_fragment {cs : List Tok} {e : List Elem} (h : FragDefR cs e) : ExecItemR cs e := by
  obtain ⟨name, tc, dirs, sels, ed, h1, h2, h3, h4⟩ := h
  have hk : ∃ c, ed = Elem.node "FRAGMENT_DEFINITION" c := by obtain ⟨c, _, _, _, _, _, _, _, rfl, _⟩ := h4; exact ⟨c, rfl⟩
  obtain ⟨c, rfl⟩ := hk
  refine ⟨(false, .fragment name tc dirs sels), _, h1, h2, h3, ⟨?_, fun m hm => FromCst.cDefinition_fragment m name tc dirs sels _ h4 hm⟩, rfl, ?_⟩
  · simp [FromCst.nodeP_node, FromCst.isDefinitionKind, FromCst.definitionKinds]
  · simp [FromCst.nodeP_node]

/-! ### executable documents -/

/-- the tree holds executable definitions only: every child of the root that `Document::from_cst` looks at is an
    OPERATION_DEFINITION or a FRAGMENT_DEFINITION -/
def ExecRoot (root : Elem) : Prop :=
  ∀ k cs, root = Elem.node k cs → ∀ e ∈ cs, FromCst.nodeP FromCst.isDefinitionKind e = true →
    FromCst.nodeP (fun k => k == "OPERATION_DEFINITION" || k == "FRAGMENT_DEFINITION") e = true

theorem exec_closed {d : Ast.Definition} (h : isExecutable d = true) : Ast.closed d = true := by
  cases d <;> simp [isExecutable] at h <;> rfl

end Apollo.Parse
