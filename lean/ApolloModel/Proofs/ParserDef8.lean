import ApolloModel.Proofs.ParserDef7
/-
C05, type-system definitions: enum values and their braced list; the shape
`Description? keyword? Name …` of the scalar / enum / input-object definitions.  The statements with a hypothesis
`NameData word` are vacuous (`nameData_false`); those about lexer queues are in ParserDef13.
-/
set_option linter.unusedSimpArgs false
namespace Apollo.Parse
open Apollo.Rowan hiding Str
open Apollo.Lex hiding Str

theorem acc_errAndPop {E : PState → Prop} {H : List Tok → Prop} {R : Unit → List Ast.Tok → Prop} : Acc E H errAndPop R := by
  refine ⟨good_errAndPop, ?_⟩
  intro s a s' w he _ hr hnd
  exfalso
  have hnds : ¬ Doomed s := fun dd => hnd ((good_errAndPop s a s' w hr).doom dd)
  exact hnd (valueErr_dooms true s s' w (eofEnd_nonempty s he hnds) (by simpa [valueErr] using hr))

theorem acc_absurd {α : Type} {E : PState → Prop} {H : List Tok → Prop} {m : PI α} {R : α → List Ast.Tok → Prop}
    (hg : Good m) (hH : ∀ q, H q → False) : Acc E H m R :=
  ⟨hg, fun s _ _ _ _ hq _ _ => absurd hq (hH (Toks s))⟩

/-- `name` on a queue whose head is the Name token `t`: exactly that name -/
theorem acc_nameHead {E : PState → Prop} (hE : Early E) (t : Tok) :
    Acc E (fun q => q.head? = some t ∧ t.kind = .name) name (fun _ x => x = [.name t.data]) := by
  unfold name
  apply acc_peekToken
  intro o
  cases o with
  | none =>
    refine acc_absurd good_err ?_
    rintro q ⟨⟨h1, _⟩, h2⟩
    rw [h1] at h2; cases h2
  | some t' =>
    simp only []
    apply acc_ite
    · intro _
      have hsig : ∀ q, ((q.head? = some t ∧ t.kind = .name) ∧ q.head? = some t') → ∃ a rest, q = a :: rest ∧ isIgnoredKind a.kind = false := by
        rintro q ⟨⟨h1, hk⟩, _⟩
        cases q with
        | nil => cases h1
        | cons a b =>
          simp only [List.head?_cons, Option.some.injEq] at h1
          subst h1
          exact ⟨a, b, rfl, by rw [hk]; rfl⟩
      refine acc_withNode hE _ hsig ?_
      refine (acc_bump "IDENT" (fun a => a = t ∧ t.kind = .name) (fun x => x = [.name t.data]) ?_).mono ?_ (fun _ _ h => h)
      · rintro a ⟨rfl, hk⟩
        exact ⟨by rw [hk]; rfl, by rw [hk]; decide, _, by simp [astOfV, hk], rfl⟩
      · rintro q ⟨⟨h1, hk⟩, _⟩
        exact ⟨t, h1, rfl, hk⟩
    · intro _; exact acc_err

/-- `value.rs::enum_value`: a Name that is not `true`, `false` or `null` -/
theorem acc_enumValueK {E : PState → Prop} (hE : Early E) {H : List Tok → Prop} :
    Acc E H enumValue (fun _ x => ∃ nm, x = [.name nm] ∧ isValueKeyword nm = false) := by
  unfold enumValue
  refine acc_withNodeAny hE _ ?_
  apply acc_peekToken
  intro o
  cases o with
  | none => exact acc_err
  | some t =>
    simp only []
    apply acc_ite
    · intro hk
      apply acc_ite
      · intro _; exact acc_err' name good_name
      · intro hkw
        have hk' : t.kind = .name := by simpa using hk
        exact (acc_nameHead hE t).mono (fun q hq => ⟨hq.2, hk'⟩) (fun _ x h => ⟨t.data, h, hkw⟩)
    · intro _; exact acc_err

theorem acc_enumValue {E : PState → Prop} (hE : Early E) {H : List Tok → Prop} :
    Acc E H enumValue (fun _ x => ∃ nm, x = [.name nm]) :=
  (acc_enumValueK hE).mono (fun _ h => h) fun _ _ ⟨nm, h, _⟩ => ⟨nm, h⟩

def evBody (n : Nat) : PI Unit := optKind .stringValue description (enumValue >>= fun _ => optDirsEnd n)

theorem enumValueDefinition_eq (n : Nat) : enumValueDefinition n =
    peek >>= fun k => if isNameOrString k then withNode "ENUM_VALUE_DEFINITION" (evBody n) else pure () := rfl

/-- **one enum value definition** `Description? EnumValue Directives[Const]?`, the directives within the budget -/
theorem accQ_enumValueDefinition {E : PState → Prop} (hE : Early E) (n : Nat) :
    AccQ E (KindP isNameOrStringK) (enumValueDefinition n) (fun B _ _ => Exact.LEnumVal B) := by
  rw [enumValueDefinition_eq]
  apply accQ_peek
  intro k
  apply accQ_ite
  · intro _
    refine accQ_withNode hE _ (fun q hq => kindP_sig _ nameOrString_sig q hq.1) ?_
    refine (accQ_optDesc hE _ _ (accQ_bind hE (acc_enumValueK hE).toQ (fun _ => accQ_optDirsEnd n))).mono (fun _ _ => trivial) ?_
    rintro B _ _ x ⟨desc, x2, e, _, x3, x4, e2, ⟨nm, h1, hkw⟩, ds, h2, hf⟩
    exact ⟨⟨desc, nm, ds⟩, by rw [e, e2, h1, h2]; rfl, hkw, hf⟩
  · intro hk
    refine (acc_absurd (R := fun _ _ => False) (good_pure ()) ?_).never
    rintro q ⟨⟨t, hh, hp⟩, h2⟩
    rw [hh] at h2
    subst h2
    simp [isNameOrString, isNameOrStringK] at hk hp
    rcases hp with hp | hp <;> simp [hp] at hk

theorem acc_enumValueDefinition {E : PState → Prop} (hE : Early E) (n : Nat) :
    Acc E (KindP isNameOrStringK) (enumValueDefinition n) (fun _ x => ∃ v : Ast.EnumValueDef, x = Ast.tEnumValueDef v) :=
  (accQ_enumValueDefinition hE n).forget fun _ _ _ _ ⟨v, h, _⟩ => ⟨v, h⟩

theorem enumValuesDefinition_eq (n : Nat) : enumValuesDefinition n = withNode "ENUM_VALUES_DEFINITION"
    (bracedBody "L_CURLY" isNameOrString isNameOrStringK (enumValueDefinition n) .rCurly "R_CURLY") := rfl

/-- **`{ EnumValueDefinition+ }`** -/
theorem accQ_enumValuesDefinition (n : Nat) :
    AccQ (fun _ => False) (KindP (· == .lCurly)) (enumValuesDefinition n) (fun B _ _ => Exact.LEnumVals B) := by
  rw [enumValuesDefinition_eq]
  exact accQ_curlyItems _ _ Exact.enumValFit Ast.tEnumValueDef Ast.tEnumValueDefItems rfl (fun _ _ => rfl)
    (accQ_enumValueDefinition early_atEof n)

theorem acc_enumValuesDefinition (n : Nat) :
    Acc (fun _ => False) (KindP (· == .lCurly)) (enumValuesDefinition n)
      (fun _ x => ∃ vs : List Ast.EnumValueDef, vs ≠ [] ∧ x = Ast.tBraced (Ast.tEnumValueDefItems vs) vs.isEmpty) :=
  (accQ_enumValuesDefinition n).forget fun _ _ _ _ ⟨vs, h1, h2, _⟩ => ⟨vs, h1, h2⟩

theorem acc_nameOrErr {E : PState → Prop} {H : List Tok → Prop} : Acc E H nameOrErr (fun _ x => ∃ nm, x = [.name nm]) := by
  unfold nameOrErr
  exact acc_peekIf _ _ _ _ acc_name acc_err

/-- the common shape `Description? keyword? Name Directives? Body?` of the scalar / enum / input definitions -/
def defShape (word : String) (sk : SK) (_n : Nat) (tail : PI Unit) : PI Unit :=
  optKind .stringValue description (optKw word sk (nameOrErr >>= fun _ => tail))

/-- `NameData` asks of every token record what holds of the lexer's tokens only (a record of kind `eof` may
    carry any text), so nothing meets it: the statements about lexer queues are `accL_defShape` and
    `accL_scalarTypeDefinition`, `accL_enumTypeDefinition`, `accL_inputObjectTypeDefinition`. -/
theorem nameData_false {word : String} (hw : NameData word) : False :=
  nomatch hw ⟨.eof, word.toList, 0⟩ rfl

theorem acc_defShape {E : PState → Prop} (hE : Early E) {H : List Tok → Prop} (word : String) (sk : SK) (hw : NameData word) (n : Nat)
    (tail : PI Unit) (L : List Ast.Tok → Prop) (ht : Acc E (fun _ => True) tail (fun _ => L)) :
    Acc E H (defShape word sk n tail)
      (fun _ x => ∃ desc seen nm x2, x = Ast.tDescription desc ++ kwPart word seen ++ .name nm :: x2 ∧ L x2) :=
  (nameData_false hw).elim

theorem scalarTypeDefinition_eq (n : Nat) : scalarTypeDefinition n =
    withNode "SCALAR_TYPE_DEFINITION" (defShape "scalar" "scalar_KW" n (optDirsEnd n)) := rfl

theorem acc_scalarTypeDefinition {H : List Tok → Prop} (hw : NameData "scalar") (n : Nat) :
    Acc (fun _ => False) H (scalarTypeDefinition n)
      (fun _ x => ∃ desc seen nm ds, x = Ast.tDescription desc ++ kwPart "scalar" seen ++ .name nm :: Ast.tDirectives ds) :=
  (nameData_false hw).elim

theorem acc_enumTypeDefinition {H : List Tok → Prop} (hw : NameData "enum") (n : Nat) :
    Acc (fun _ => False) H (enumTypeDefinition n)
      (fun _ x => ∃ desc seen nm ds vs, x = Ast.tDescription desc ++ kwPart "enum" seen ++ Ast.tEnumBody nm ds vs) :=
  (nameData_false hw).elim

theorem acc_inputObjectTypeDefinition {H : List Tok → Prop} (hw : NameData "input") (n : Nat) :
    Acc (fun _ => False) H (inputObjectTypeDefinition n)
      (fun _ x => ∃ desc seen nm ds fs, x = Ast.tDescription desc ++ kwPart "input" seen ++ Ast.tInputBody nm ds fs) :=
  (nameData_false hw).elim

end Apollo.Parse
