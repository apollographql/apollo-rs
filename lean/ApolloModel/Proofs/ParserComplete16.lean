import ApolloModel.Proofs.ParserComplete10
import ApolloModel.Proofs.ParserExactC16
/-
C05 / C07 (completeness): the executable grammar under the over-charging depth `vdepth`
(a list or object costs one level itself).  `Exact.vdepth` charges the items instead and is never larger, so every
language stated with `vdepth` lies inside its `Exact` counterpart, and a completeness judgement is antitone in its
language (`Cmp.mono`): each statement here is the `Exact` one restricted to the smaller language.
-/
namespace Apollo.Parse
open Apollo.Rowan hiding Str
open Apollo.Lex hiding Str

mutual
theorem exact_vdepth_le : ∀ v : Ast.Value, Exact.vdepth v ≤ vdepth v
  | .list vs => by have := exact_vsdepth_le vs; simp only [vdepth, Exact.vdepth]; omega
  | .obj fs => by have := exact_fdepth_le fs; simp only [vdepth, Exact.vdepth]; omega
  | .var _ | .int _ | .float _ | .str _ | .bool _ | .null | .enum _ => by simp [Exact.vdepth]
theorem exact_vsdepth_le : ∀ vs : Ast.Values, Exact.vsdepth vs ≤ vsdepth vs + 1
  | .nil => by simp [Exact.vsdepth]
  | .cons v tl => by
    have h1 := exact_vdepth_le v
    have h2 := exact_vsdepth_le tl
    simp only [vsdepth, Exact.vsdepth]; omega
theorem exact_fdepth_le : ∀ fs : Ast.ObjFields, Exact.fdepth fs ≤ fdepth fs + 1
  | .nil => by simp [Exact.fdepth]
  | .cons _ v tl => by
    have h1 := exact_vdepth_le v
    have h2 := exact_fdepth_le tl
    simp only [fdepth, Exact.fdepth]; omega
end

/-! ### the languages lie inside the exact ones -/

theorem LVal.exact {c : Bool} {b : Nat} {x : List Ast.Tok} : LVal c b x → Exact.LVal c b x
  | ⟨v, e, ok, d⟩ => ⟨v, e, ok, Nat.le_trans (exact_vdepth_le v) d⟩

theorem argsFit.exact {c : Bool} {b : Nat} {args : List (Ast.Str × Ast.Value)} (h : argsFit c b args) : Exact.argsFit c b args :=
  fun a ha => ⟨(h a ha).1, Nat.le_trans (exact_vdepth_le a.2) (h a ha).2⟩

theorem dirsFit.exact {c : Bool} {b : Nat} {ds : List Ast.Directive} (h : dirsFit c b ds) : Exact.dirsFit c b ds :=
  fun d hd => (h d hd).exact

theorem LArgs.exact {c : Bool} {b : Nat} {x : List Ast.Tok} : LArgs c b x → Exact.LArgs c b x
  | ⟨args, ne, e, h⟩ => ⟨args, ne, e, h.exact⟩

theorem LDirs.exact {c : Bool} {b : Nat} {x : List Ast.Tok} : LDirs c b x → Exact.LDirs c b x
  | ⟨ds, e, h⟩ => ⟨ds, e, h.exact⟩

mutual
theorem fitSel.exact : ∀ (s : Ast.Sel) (b : Nat), fitSel s b → Exact.fitSel s b
  | .field _ _ _ _ sels, b, h => by
    rw [fitSel] at h; rw [Exact.fitSel]
    exact ⟨h.1.exact, h.2.1.exact, fitSub.exact sels b h.2.2⟩
  | .spread _ _, b, h => by
    rw [fitSel] at h; rw [Exact.fitSel]
    exact ⟨h.1, h.2.exact⟩
  | .inline _ _ sels, b, h => by
    rw [fitSel] at h; rw [Exact.fitSel]
    exact ⟨h.1.exact, h.2.1, h.2.2.1, fitSels.exact sels (b - 1) h.2.2.2⟩
theorem fitSels.exact : ∀ (ss : Ast.Sels) (b : Nat), fitSels ss b → Exact.fitSels ss b
  | .nil, _, _ => by rw [Exact.fitSels]; trivial
  | .cons s tl, b, h => by
    rw [fitSels] at h; rw [Exact.fitSels]
    exact ⟨fitSel.exact s b h.1, fitSels.exact tl b h.2⟩
theorem fitSub.exact : ∀ (ss : Ast.Sels) (b : Nat), fitSub ss b → Exact.fitSub ss b
  | .nil, _, _ => by rw [Exact.fitSub]; trivial
  | .cons s tl, b, h => by
    rw [fitSub] at h; rw [Exact.fitSub]
    exact ⟨h.1, fitSel.exact s (b - 1) h.2.1, fitSels.exact tl (b - 1) h.2.2⟩
end

theorem LSet.exact {b : Nat} {x : List Ast.Tok} : LSet b x → Exact.LSet b x
  | ⟨ss, ne, e, hb, h⟩ => ⟨ss, ne, e, hb, fitSels.exact ss _ h⟩

theorem varFit.exact {b : Nat} {v : Ast.VarDef} (h : varFit b v) : Exact.varFit b v :=
  ⟨h.1, fun d hd => ⟨(h.2.1 d hd).1, Nat.le_trans (exact_vdepth_le d) (h.2.1 d hd).2⟩, h.2.2.exact⟩

theorem LVarDefs.exact {b : Nat} {x : List Ast.Tok} : LVarDefs b x → Exact.LVarDefs b x
  | ⟨vs, ne, e, h⟩ => ⟨vs, ne, e, fun v hv => (h v hv).exact⟩

theorem LOperation.exact {b : Nat} {x : List Ast.Tok} : LOperation b x → Exact.LOperation b x
  | .inl ⟨ty, nm, vs, ds, ss, e, hv, hd, ne, hb, h⟩ =>
    .inl ⟨ty, nm, vs, ds, ss, e, fun v hm => (hv v hm).exact, hd.exact, ne, hb, fitSels.exact ss _ h⟩
  | .inr h => .inr h.exact

theorem LFragment.exact {b : Nat} {x : List Ast.Tok} : LFragment b x → Exact.LFragment b x
  | ⟨nm, tc, ds, ss, e, hn, hd, ne, hb, h⟩ => ⟨nm, tc, ds, ss, e, hn, hd.exact, ne, hb, fitSels.exact ss _ h⟩

theorem LExecDef.exact {b : Nat} {x : List Ast.Tok} : LExecDef b x → Exact.LExecDef b x
  | .inl h => .inl h.exact
  | .inr h => .inr h.exact

theorem IsExecDocFit.exact {rl : Nat} {x : List Ast.Tok} : IsExecDocFit rl x → Exact.IsExecDocFit rl x
  | ⟨items, ne, e, h⟩ => ⟨items, ne, e, fun i hi => (h i hi).exact⟩

theorem Cmp.ofExact {α : Type} {Hk : Kind → Prop} {m : PI α} {L L' : Nat → List Ast.Tok → Prop} {F : Kind → Prop} {Q : α → Prop}
    (h : Cmp Hk m L' F Q) (hL : ∀ {b x}, L b x → L' b x) : Cmp Hk m L F Q :=
  h.mono (fun _ h => h) (fun _ _ => hL) (fun _ h => h) (fun _ h => h)

/-- **`value.rs::value` is complete**: every well-formed value (no variables when `c` says constant context) whose list /
    object nesting is within the remaining recursion budget, spelled with ignored tokens after any token and
    followed by any significant token, is consumed exactly and without error -/
theorem value_complete (n : Nat) (c p : Bool) : Cmp (fun _ => True) (value n c p) (LVal c) (fun _ => True) (fun _ => True) :=
  (Exact.value_complete n c p).ofExact LVal.exact

/-- **`arguments` is complete**: `( Name : Value … )` with at least one argument -/
theorem arguments_complete (n : Nat) (c : Bool) : Cmp (fun _ => True) (arguments n c) (LArgs c) (fun _ => True) (fun _ => True) :=
  (Exact.arguments_complete n c).ofExact LArgs.exact

/-- **`directives` is complete** (possibly empty list); the follow token is neither `@` nor `(` -/
theorem directives_complete (n : Nat) (c : Bool) :
    Cmp (fun _ => True) (directives n c) (LDirs c) (fun k => k ≠ .at ∧ k ≠ .lParen) (fun _ => True) :=
  (Exact.directives_complete n c).ofExact LDirs.exact

/-- **`selection_set` is complete**: `{ Selection+ }` within the budget, followed by anything -/
theorem selectionSet_complete (n : Nat) : Cmp (fun _ => True) (selectionSet n) LSet (fun _ => True) (fun _ => True) :=
  (Exact.selectionSet_complete n).ofExact LSet.exact

/-- **`variable_definitions` is complete**: `( $name : Type DefaultValue? Directives? … )`, at least one -/
theorem cmp_variableDefinitions (n : Nat) :
    Cmp (fun _ => True) (variableDefinitions n) LVarDefs (fun _ => True) (fun _ => True) :=
  (Exact.cmp_variableDefinitions n).ofExact LVarDefs.exact

theorem operationDefinition_complete (n : Nat) :
    Cmp (fun _ => True) (operationDefinition n) LOperation (fun _ => True) (fun _ => True) :=
  (Exact.operationDefinition_complete n).ofExact LOperation.exact

/-- **`fragment_definition` is complete** (entered on the keyword) -/
theorem fragmentDefinition_complete (n : Nat) :
    Cmp (fun _ => True) (fragmentDefinition n) LFragment (fun _ => True) (fun _ => True) :=
  (Exact.fragmentDefinition_complete n).ofExact LFragment.exact

/-- **`executable definition` is complete**: whichever definition parser the document dispatch selects -/
theorem dispatch_comp (n : Nat) (sP s2 : PState) (t : Tok) (tl1 : List Tok) (x : List Ast.Tok) (q1 : Tok) (r1 : List Tok)
    (w : TW sP) (hcur : sP.current = some t) (hcq : t.kind = .lCurly → t.data = ['{'])
    (hl : LExecDef (sP.recLimit - sP.recCur) x) (hs : Spells (t :: tl1) x) (ht : Toks sP = (t :: tl1) ++ q1 :: r1) (hq : Sigf q1)
    (h : (documentDispatch n t.kind).run sP = .ok () s2) : Eat sP s2 (t :: tl1) ∧ Toks s2 = q1 :: r1 :=
  Exact.dispatch_comp n sP s2 t tl1 x q1 r1 w hcur hcq hl.exact hs ht hq h

theorem docLoop_comp (n : Nat) : ∀ (items : List (List Ast.Tok)) (fuel : Nat) (s s' : PState) (c : List Tok) (e : Tok) (rest : List Tok),
    TW s → CurlyQ (Toks s) → (peekWhileLoop (documentStep n) fuel).run s = .ok () s' →
    (∀ i ∈ items, LExecDef (s.recLimit - s.recCur) i) → Spells c items.flatten → Toks s = c ++ e :: rest → e.kind = .eof →
    Eat s s' c ∧ Toks s' = e :: rest :=
  fun items fuel s s' c e rest w hcq hr hall => Exact.docLoop_comp n items fuel s s' c e rest w hcq hr fun i hi => (hall i hi).exact

/-- **acceptance is complete** for `Parser::parse` on executable documents, in terms of the significant tokens of the
    source: no condition on ignored tokens at all -/
theorem parseDocument_complete_sig (rl : Nat) (src : Str) (x : List Ast.Tok) (ts : List Tok) (e : Tok)
    (hclean : LexClean src) (hsig : sig (srcToks src) = ts ++ [e]) (he : e.kind = .eof)
    (hx : TokIs ts x) (hfit : IsExecDocFit rl x) : (parse .document none rl src).errors = [] :=
  Exact.parseDocument_complete_sig rl src x ts e hclean hsig he hx hfit.exact

/-- **acceptance is complete** for `Parser::parse_selection_set`: a braced selection set must start the
    input; a brace-less field set may be preceded by ignored tokens -/
theorem parseFieldSet_complete_full (rl : Nat) (src : Str) (ss : Ast.Sels) (ts : List Tok) (e : Tok)
    (hclean : LexClean src) (hsig : sig (srcToks src) = ts ++ [e]) (he : e.kind = .eof)
    (hne : ss ≠ Ast.Sels.nil) (hb : 1 ≤ rl) (hfit : fitSels ss (rl - 1))
    (hx : (TokIs ts (.p .lCurly :: Ast.tSels ss ++ [.p .rCurly]) ∧ HeadSig (srcToks src)) ∨ TokIs ts (Ast.tSels ss)) :
    (parse .selectionSet none rl src).errors = [] :=
  Exact.parseFieldSet_complete_full rl src ss ts e hclean hsig he hne hb (fitSels.exact ss _ hfit) hx

/-! ### with enough fuel the run finishes -/

theorem value_complete_total (n : Nat) (isConst pop : Bool) (s : PState) (hinv : Inv s) (hw : W s) (w : TW s)
    (hfuel : 2 * Mm s + 2 ≤ n) (c : List Tok) (x : List Ast.Tok) (q0 : Tok) (rest : List Tok)
    (hl : LVal isConst (s.recLimit - s.recCur) x) (hs : Spells c x) (htk : Toks s = c ++ q0 :: rest) (hq : Sigf q0) :
    ∃ s', (value n isConst pop).run s = .ok () s' ∧ Eat s s' c ∧ Toks s' = q0 :: rest :=
  (value_complete n isConst pop).total s hinv ((value_family n).value isConst pop s hw hfuel) w c x q0 rest hl hs htk hq trivial

theorem arguments_complete_total (n : Nat) (isConst : Bool) (s : PState) (hinv : Inv s) (hw : W s) (w : TW s)
    (hfuel : 4 * Mm s + 4 ≤ n) (c : List Tok) (x : List Ast.Tok) (q0 : Tok) (rest : List Tok)
    (hl : LArgs isConst (s.recLimit - s.recCur) x) (hs : Spells c x) (htk : Toks s = c ++ q0 :: rest) (hq : Sigf q0) :
    ∃ s', (arguments n isConst).run s = .ok () s' ∧ Eat s s' c ∧ Toks s' = q0 :: rest :=
  (arguments_complete n isConst).total s hinv (ta_arguments n isConst s hw hfuel) w c x q0 rest hl hs htk hq trivial

theorem directives_complete_total (n : Nat) (isConst : Bool) (s : PState) (hinv : Inv s) (hw : W s) (w : TW s)
    (hfuel : 4 * Mm s + 4 ≤ n) (c : List Tok) (x : List Ast.Tok) (q0 : Tok) (rest : List Tok)
    (hl : LDirs isConst (s.recLimit - s.recCur) x) (hs : Spells c x) (htk : Toks s = c ++ q0 :: rest) (hq : Sigf q0)
    (hf : q0.kind ≠ .at ∧ q0.kind ≠ .lParen) :
    ∃ s', (directives n isConst).run s = .ok () s' ∧ Eat s s' c ∧ Toks s' = q0 :: rest :=
  (directives_complete n isConst).total s hinv (ta_directives n isConst s hw hfuel) w c x q0 rest hl hs htk hq hf

theorem selectionSet_complete_total (n : Nat) (s : PState) (hinv : Inv s) (hw : W s) (w : TW s)
    (hfuel : 4 * Mm s + 2 ≤ n) (c : List Tok) (x : List Ast.Tok) (q0 : Tok) (rest : List Tok)
    (hl : LSet (s.recLimit - s.recCur) x) (hs : Spells c x) (htk : Toks s = c ++ q0 :: rest) (hq : Sigf q0) :
    ∃ s', (selectionSet n).run s = .ok () s' ∧ Eat s s' c ∧ Toks s' = q0 :: rest :=
  (selectionSet_complete n).total s hinv ((sel_family n).ss s hw hfuel) w c x q0 rest hl hs htk hq trivial

end Apollo.Parse
