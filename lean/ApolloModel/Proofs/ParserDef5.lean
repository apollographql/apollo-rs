import ApolloModel.Proofs.ParserDef4
import ApolloModel.Proofs.ParserLang
/-
C05, type-system definitions: default values, input value definitions.
-/
set_option linter.unusedSimpArgs false
namespace Apollo.Parse
open Apollo.Rowan hiding Str
open Apollo.Lex hiding Str

theorem kindP_sig (p : Kind → Bool) (hp : ∀ k, p k = true → isIgnoredKind k = false) :
    ∀ q, KindP p q → ∃ t rest, q = t :: rest ∧ isIgnoredKind t.kind = false := by
  intro q ⟨t, hh, hk⟩
  cases q with
  | nil => cases hh
  | cons a b =>
    simp only [List.head?_cons, Option.some.injEq] at hh
    subst hh
    exact ⟨a, b, rfl, hp _ hk⟩

theorem kindP_ofCons {p : Kind → Bool} {q : List Tok} {t : Tok} {rest : List Tok} (ht : q = t :: rest) (hk : p t.kind = true) :
    KindP p q := ⟨t, by rw [ht]; rfl, hk⟩

theorem kindEq_sig {k0 : Kind} (h : isIgnoredKind k0 = false) : ∀ k : Kind, (k == k0) = true → isIgnoredKind k = false := by
  intro k hk
  rw [eq_of_beq hk]; exact h

theorem acc_bumpKind {E : PState → Prop} (k0 : Kind) (sk : SK) (x0 : Ast.Tok)
    (hx : ∀ t : Tok, t.kind = k0 → astOfV t = some x0) (hni : isIgnoredKind k0 = false) (hne : k0 ≠ .eof) :
    Acc E (KindP (· == k0)) (bump sk) (fun _ x => x = [x0]) := by
  refine (acc_bump sk (fun t => t.kind = k0) (fun x => x = [x0]) ?_).mono ?_ (fun _ _ h => h)
  · intro t ht
    exact ⟨by rw [ht]; exact hni, by rw [ht]; exact hne, x0, hx t ht, rfl⟩
  · intro q ⟨t, h1, h2⟩; exact ⟨t, h1, by simpa using h2⟩

theorem accQ_peekIf {α : Type} {E : PState → Prop} {H : List Tok → Prop} (c : Option Kind → Bool) (a b : PI α)
    (R : Nat → List Tok → α → List Ast.Tok → Prop) (ha : AccQ E (fun _ => True) a R) (hb : AccQ E (fun _ => True) b R) :
    AccQ E H (peek >>= fun k => if c k then a else b) R := by
  apply accQ_peek
  intro k
  apply accQ_ite
  · intro _; exact ha.mono (fun _ _ => trivial) (fun _ _ _ _ h => h)
  · intro _; exact hb.mono (fun _ _ => trivial) (fun _ _ _ _ h => h)

theorem acc_peekIf {α : Type} {E : PState → Prop} {H : List Tok → Prop} (c : Option Kind → Bool) (a b : PI α)
    (R : α → List Ast.Tok → Prop) (ha : Acc E (fun _ => True) a R) (hb : Acc E (fun _ => True) b R) :
    Acc E H (peek >>= fun k => if c k then a else b) R :=
  accQ_peekIf c a b (fun _ _ => R) ha hb

theorem acc_err' {α : Type} {E : PState → Prop} {H : List Tok → Prop} (rest : PI α) (hg : Good rest) {R : α → List Ast.Tok → Prop} :
    Acc E H (err >>= fun _ => rest) R := by
  refine ⟨good_bind _ _ good_err (fun _ => hg), ?_⟩
  intro s a s' w he _ hr hnd
  exfalso
  obtain ⟨_, s1, h1, h2⟩ := bind_dec err _ s s' a hr
  obtain ⟨ad, d⟩ := err_adv s s1 w h1
  have hnds : ¬ Doomed s := fun dd => hnd ((hg s1 a s' ad.w h2).doom (ad.doom dd))
  exact hnd ((hg s1 a s' ad.w h2).doom (d (eofEnd_nonempty s he hnds)))

/-! ### default value, directives at the end of a definition -/

def optDirsEnd (n : Nat) : PI Unit := peek >>= fun k => if k == some .at then directives n true else pure ()

theorem accQ_optDirsEnd {E : PState → Prop} {H : List Tok → Prop} (n : Nat) :
    AccQ E H (optDirsEnd n) (fun B _ _ x => ∃ ds, x = Ast.tDirectives ds ∧ Exact.dirsFit true B ds) := by
  unfold optDirsEnd
  apply accQ_peekIf
  · exact accQ_directives n true
  · exact (acc_pure E _ ()).toQ.mono (fun _ h => h) (fun _ _ _ x ⟨_, h⟩ => ⟨[], by rw [h]; rfl, by intro d hd; cases hd⟩)

theorem acc_optDirsEnd {E : PState → Prop} {H : List Tok → Prop} (n : Nat) :
    Acc E H (optDirsEnd n) (fun _ x => ∃ ds, x = Ast.tDirectives ds) :=
  (accQ_optDirsEnd n).forget fun _ _ _ _ ⟨ds, h, _⟩ => ⟨ds, h⟩

theorem accQ_defaultValue (n : Nat) :
    AccQ AtEof (KindP (· == .eq)) (defaultValue n)
      (fun B _ _ x => ∃ v, x = Ast.tDefault (some v) ∧ valueOk true v = true ∧ Exact.vdepth v ≤ B) := by
  unfold defaultValue
  refine accQ_withNode early_atEof _ (kindP_sig _ (kindEq_sig rfl)) ?_
  have hb := acc_bumpKind (E := AtEof) .eq "EQ" (.p .eq) (by intro t ht; simp [astOfV, ht]) rfl (by decide)
  refine (accQ_bind early_atEof hb.toQ (fun _ => accQ_value n true false)).mono (fun _ h => h) ?_
  rintro B _ _ x ⟨_, x1, x2, e, h1, v, hv, hok, hd⟩
  exact ⟨v, by rw [e, h1, hv]; rfl, hok, hd⟩

theorem acc_defaultValue (n : Nat) :
    Acc AtEof (KindP (· == .eq)) (defaultValue n) (fun _ x => ∃ v, x = Ast.tDefault (some v)) :=
  (accQ_defaultValue n).forget fun _ _ _ _ ⟨v, h, _⟩ => ⟨v, h⟩

/-! ### input value definition -/

def ivdAfterTy (n : Nat) : PI Unit := optKind .eq (defaultValue n) (optDirsEnd n)
def ivdType (n : Nat) : PI Unit :=
  peek >>= fun k => if (k == some .name || k == some .lBracket) then (ty n >>= fun _ => ivdAfterTy n) else err
def ivdColon (n : Nat) : PI Unit :=
  peek >>= fun k => if k == some .colon then (bump "COLON" >>= fun _ => ivdType n) else err
def ivdBody (n : Nat) : PI Unit := optKind .stringValue description (name >>= fun _ => ivdColon n)

theorem inputValueDefinition_eq (n : Nat) : inputValueDefinition n = withNode "INPUT_VALUE_DEFINITION" (ivdBody n) := rfl

def isNameOrStringK (k : Kind) : Bool := k == .name || k == .stringValue

theorem nameOrString_sig : ∀ k, isNameOrStringK k = true → isIgnoredKind k = false := by
  intro k hk; cases k <;> simp [isNameOrStringK] at hk <;> rfl

theorem acc_colon {E : PState → Prop} : Acc E (KindP (· == .colon)) (bump "COLON") (fun _ x => x = [.p .colon]) :=
  acc_bumpKind .colon "COLON" (.p .colon) (by intro t ht; simp [astOfV, ht]) rfl (by decide)

/-- `Type DefaultValue? Directives?`, every part within the budget -/
theorem accQ_ivdType (n : Nat) : AccQ AtEof (fun _ => True) (ivdType n)
    (fun B _ _ x => ∃ t d ds, x = Ast.tTy t ++ Ast.tDefault d ++ Ast.tDirectives ds ∧ tyDepth t ≤ B ∧
      (∀ v, d = some v → valueOk true v = true ∧ Exact.vdepth v ≤ B) ∧ Exact.dirsFit true B ds) := by
  have hAfter : AccQ AtEof (fun _ => True) (ivdAfterTy n) (fun B _ _ x => ∃ d ds, x = Ast.tDefault d ++ Ast.tDirectives ds ∧
      (∀ v, d = some v → valueOk true v = true ∧ Exact.vdepth v ≤ B) ∧ Exact.dirsFit true B ds) := by
    refine (accQ_optKind early_atEof .eq (defaultValue n) (optDirsEnd n) _ _ (accQ_defaultValue n) (accQ_optDirsEnd n)).mono (fun _ h => h) ?_
    rintro B _ _ x ⟨x1, x2, e, h1, ds, hds, hf⟩
    rcases h1 with ⟨v, hv, hok⟩ | h1
    · exact ⟨some v, ds, by rw [e, hv, hds], by rintro _ ⟨⟩; exact hok, hf⟩
    · exact ⟨none, ds, by rw [e, h1, hds]; rfl, by rintro _ ⟨⟩, hf⟩
  unfold ivdType
  apply accQ_peekIf
  · refine (accQ_bind early_atEof (accQ_ty n) (fun _ => hAfter)).mono (fun _ h => h) ?_
    rintro B _ _ x ⟨_, x1, x2, e, ⟨t, ht, htd⟩, d, ds, hd, hv, hf⟩
    exact ⟨t, d, ds, by rw [e, ht, hd, List.append_assoc], htd, hv, hf⟩
  · exact acc_err.never

/-- `: Type DefaultValue? Directives?`, the part that input value definitions and variable definitions share -/
theorem accQ_ivdColon (n : Nat) : AccQ AtEof (fun _ => True) (ivdColon n)
    (fun B _ _ x => ∃ t d ds, x = .p .colon :: (Ast.tTy t ++ Ast.tDefault d ++ Ast.tDirectives ds) ∧ tyDepth t ≤ B ∧
      (∀ v, d = some v → valueOk true v = true ∧ Exact.vdepth v ≤ B) ∧ Exact.dirsFit true B ds) := by
  unfold ivdColon
  apply accQ_ifKind
  · refine (accQ_bind early_atEof acc_colon.toQ (fun _ => accQ_ivdType n)).mono (fun _ h => h) ?_
    rintro B _ _ x ⟨_, x1, x2, e, h1, t, d, ds, h2, hf⟩
    exact ⟨t, d, ds, by rw [e, h1, h2]; rfl, hf⟩
  · exact acc_err.never

theorem acc_ivdColon (n : Nat) : Acc AtEof (fun _ => True) (ivdColon n)
    (fun _ x => ∃ t d ds, x = .p .colon :: Ast.tTy t ++ Ast.tDefault d ++ Ast.tDirectives ds) :=
  (accQ_ivdColon n).forget fun _ _ _ _ ⟨t, d, ds, h, _⟩ => ⟨t, d, ds, by rw [h]; simp⟩

/-- **one input value definition** `Description? Name : Type DefaultValue? Directives?`, every part within the budget -/
theorem accQ_ivd (n : Nat) : AccQ AtEof (KindP isNameOrStringK) (inputValueDefinition n) (fun B _ _ => Exact.LIVD B) := by
  rw [inputValueDefinition_eq]
  refine accQ_withNode early_atEof _ (kindP_sig _ nameOrString_sig) ?_
  refine (accQ_optDesc early_atEof _ _ (accQ_bind early_atEof acc_name.toQ (fun _ => accQ_ivdColon n))).mono (fun _ _ => trivial) ?_
  rintro B _ _ x ⟨desc, x2, e, _, x3, x4, e2, ⟨nm, h1⟩, t, d, ds, h2, hf⟩
  exact ⟨⟨desc, nm, t, d, ds⟩, by rw [e, e2, h1, h2]; simp [Ast.tIVD, List.append_assoc], hf⟩

theorem acc_ivd (n : Nat) :
    Acc AtEof (KindP isNameOrStringK) (inputValueDefinition n) (fun _ x => ∃ v : Ast.InputValueDef, x = Ast.tIVD v) :=
  (accQ_ivd n).forget fun _ _ _ _ ⟨v, h, _⟩ => ⟨v, h⟩

end Apollo.Parse
