import ApolloModel.Proofs.ParserType6
/-
C07 / C05, type entry point: completeness of `ty.rs` — a token queue that spells a type
(ignored tokens after any of its tokens) is consumed exactly, without recording an error, provided the
list nesting fits under the recursion limit.
-/
set_option linter.unusedSimpArgs false
namespace Apollo.Parse
open Apollo.Rowan hiding Str
open Apollo.Lex hiding Str

def Ign (i : List Tok) : Prop := ∀ x ∈ i, isIgnoredKind x.kind = true
def Sigf (t : Tok) : Prop := isIgnoredKind t.kind = false

mutual
/-- the tokens of a type without a trailing `!`, each followed by any ignored tokens -/
inductive SpellB : Ast.Ty → List Tok → Prop
  | named (t : Tok) (i : List Tok) : t.kind = .name → Ign i → SpellB (.named t.data) (t :: i)
  | list (lb rb : Tok) (i1 i2 cu : List Tok) (u : Ast.Ty) : lb.kind = .lBracket → Ign i1 → Spell u cu →
      rb.kind = .rBracket → Ign i2 → SpellB (.list u) (lb :: i1 ++ cu ++ rb :: i2)
/-- the tokens of a type, each followed by any ignored tokens -/
inductive Spell : Ast.Ty → List Tok → Prop
  | base (u : Ast.Ty) (c : List Tok) : SpellB u c → Spell u c
  | bangNamed (n : Str) (c : List Tok) (b : Tok) (i : List Tok) : SpellB (.named n) c → b.kind = .bang → Ign i →
      Spell (.nonNullNamed n) (c ++ b :: i)
  | bangList (u : Ast.Ty) (c : List Tok) (b : Tok) (i : List Tok) : SpellB (.list u) c → b.kind = .bang → Ign i →
      Spell (.nonNullList u) (c ++ b :: i)
end

/-- after a type without `!` the next significant token must not be a `!` (it would belong to the type) -/
def NoBangAfter (t : Ast.Ty) (q : Tok) : Prop :=
  match t with
  | .named _ | .list _ => q.kind ≠ .bang
  | _ => True

theorem ign_unique : ∀ (i ign : List Tok) (q0 : Tok) (rest T' : List Tok), i ++ q0 :: rest = ign ++ T' →
    Ign i → Ign ign → Sigf q0 → (T' = [] ∨ ∃ h tl, T' = h :: tl ∧ Sigf h) → ign = i ∧ T' = q0 :: rest := by
  intro i
  induction i with
  | nil =>
    intro ign q0 rest T' h _ hign hq hT
    cases ign with
    | nil => exact ⟨rfl, by simpa using h.symm⟩
    | cons x ign =>
      simp only [List.nil_append, List.cons_append] at h
      injection h with h1 _
      have := hign x (by simp)
      rw [← h1] at this
      unfold Sigf at hq
      rw [hq] at this; cases this
  | cons a i ih =>
    intro ign q0 rest T' h hi hign hq hT
    cases ign with
    | nil =>
      simp only [List.nil_append, List.cons_append] at h
      rcases hT with hT | ⟨hd, tl, hT, hs⟩
      · rw [hT] at h; cases h
      · rw [hT] at h
        injection h with h1 _
        have := hi a (by simp)
        unfold Sigf at hs
        rw [h1, hs] at this; cases this
    | cons x ign =>
      simp only [List.cons_append] at h
      injection h with h1 h2
      obtain ⟨e1, e2⟩ := ih ign q0 rest T' h2 (fun y hy => hi y (by simp [hy])) (fun y hy => hign y (by simp [hy])) hq hT
      exact ⟨by rw [h1, e1], e2⟩

theorem skip_exact (s s' : PState) (i : List Tok) (q0 : Tok) (rest : List Tok) (w : TW s)
    (h : skipIgnored.run s = .ok () s') (ht : Toks s = i ++ q0 :: rest) (hi : Ign i) (hq : Sigf q0) :
    Eat s s' i ∧ Toks s' = q0 :: rest ∧ s'.current = some q0 := by
  obtain ⟨ign, e, hall, hset⟩ := skipIgnored_spec s s' w h
  have hT : Toks s' = [] ∨ ∃ hd tl, Toks s' = hd :: tl ∧ Sigf hd := by
    cases hq' : Toks s' with
    | nil => exact Or.inl rfl
    | cons hd tl =>
      refine Or.inr ⟨hd, tl, rfl, ?_⟩
      have hc := hset.1
      rw [hq'] at hc
      exact hset.2 hd hc
  have := e.toks
  rw [ht] at this
  obtain ⟨e1, e2⟩ := ign_unique i ign q0 rest (Toks s') this hi hall hq hT
  subst e1
  refine ⟨e, e2, ?_⟩
  rw [hset.1, e2]; rfl

theorem expect_match (token : Kind) (kind : SK) (s s' : PState) (t q0 : Tok) (i rest : List Tok) (w : TW s)
    (ht : Toks s = t :: i ++ q0 :: rest) (hk : t.kind = token) (hi : Ign i) (hq : Sigf q0)
    (h : (expect token kind).run s = .ok () s') :
    Eat s s' (t :: i) ∧ Toks s' = q0 :: rest ∧ s'.current = some q0 := by
  unfold expect at h
  obtain ⟨o, s1, h1, h2⟩ := bind_dec peekToken _ s s' () h
  have p := peekToken_obs s s1 o w h1
  have ho : o = some t := by rw [p.head, ht]; rfl
  subst ho
  simp only [hk, beq_self_eq_true, if_true] at h2
  unfold bump at h2
  obtain ⟨_, s2, h3, h4⟩ := bind_dec (eat kind) _ s1 s' () h2
  obtain ⟨e2, ht2⟩ := eat_head kind s1 s2 t (i ++ q0 :: rest) p.w (by rw [p.toks, ht]; simp) h3
  obtain ⟨e3, ht3, hc3⟩ := skip_exact s2 s' i q0 rest e2.w h4 ht2 hi hq
  exact ⟨by simpa using (p.eat.trans e2).trans e3, ht3, hc3⟩

theorem peek_head (s s' : PState) (k : Option Kind) (t : Tok) (rest : List Tok) (w : TW s) (ht : Toks s = t :: rest)
    (h : peek.run s = .ok k s') : k = some t.kind ∧ Eat s s' [] ∧ Toks s' = t :: rest ∧ s'.current = some t := by
  obtain ⟨o, p, hk⟩ := peek_obs s s' k w h
  have ho : o = some t := by rw [p.head, ht]; rfl
  subst ho
  exact ⟨hk, p.eat, by rw [p.toks, ht], p.current⟩

end Apollo.Parse
