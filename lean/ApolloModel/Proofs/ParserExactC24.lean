import ApolloModel.Proofs.ParserExactC22
import ApolloModel.Proofs.ParserComplete25
/-
C05 (completeness of the whole Document grammar), exact budget: the seven type-system extensions
(`extend schema|scalar|type|interface|union|enum|input`), each needing at least one component (`meets`).
-/
set_option linter.unusedSimpArgs false
namespace Apollo.Parse.Exact
open Apollo.Rowan hiding Str
open Apollo.Lex hiding Str

/-- `Directives?` in an extension, followed by `next` which is told whether a component was met; neither the sentences
    of `next` nor, where it may be empty, the follow tokens are `@` or `(` -/
theorem cmp_extDirsG {Hk : Kind → Prop} (n : Nat) (next : Bool → PI Unit) (meets : Bool) {Ln : Bool → Nat → List Ast.Tok → Prop} {F : Kind → Prop}
    (hn : ∀ m, Cmp (fun _ => True) (next m) (Ln m) F (fun _ => True))
    (hnhead : ∀ m b a x, Ln m b (a :: x) → kindOfA a ≠ .at ∧ kindOfA a ≠ .lParen)
    (hnil : ∀ m b k, Ln m b [] → F k → k ≠ .at ∧ k ≠ .lParen) :
    Cmp Hk (extDirs n next meets)
      (fun b x => ∃ ds x2, x = Ast.tDirectives ds ++ x2 ∧ dirsFit true b ds ∧ Ln (meets || !ds.isEmpty) b x2) F (fun _ => True) := by
  refine (cmp_ifKindThen (Hk := Hk) .at (directives n true) (next true) (next meets) (cmp_directivesNeB n true) (hn true) (hn meets)
    (fun b x h => ldirsNeB_head h) (hnhead true) (hnil true) (fun b a x h => (hnhead meets b a x h).1) (fun b k h hf => (hnil meets b k h hf).1)).mono
    (fun _ h => h) ?_ (fun _ h => h) (fun _ h => h)
  rintro b x ⟨ds, x2, rfl, hd, h2⟩
  cases ds with
  | nil => right; simpa [Ast.tDirectives] using h2
  | cons d r => left; exact ⟨_, x2, rfl, ⟨d :: r, by simp, rfl, hd⟩, by simpa using h2⟩

theorem cmp_extDirs {Hk : Kind → Prop} (n : Nat) (next : Bool → PI Unit) (meets : Bool) {Ln : Bool → Nat → List Ast.Tok → Prop} {F : Kind → Prop}
    (hn : ∀ m, Cmp (fun _ => True) (next m) (Ln m) F (fun _ => True))
    (hnhead : ∀ m b a x, Ln m b (a :: x) → kindOfA a ≠ .at ∧ kindOfA a ≠ .lParen) (hF : ∀ k, F k → k ≠ .at ∧ k ≠ .lParen) :
    Cmp Hk (extDirs n next meets)
      (fun b x => ∃ ds x2, x = Ast.tDirectives ds ++ x2 ∧ dirsFit true b ds ∧ Ln (meets || !ds.isEmpty) b x2) F (fun _ => True) :=
  cmp_extDirsG n next meets hn hnhead (fun _ _ k _ => hF k)

/-! ### scalar -/

def LScalarExt (b : Nat) (x : List Ast.Tok) : Prop :=
  ∃ nm ds, ds ≠ [] ∧ x = kwE "scalar" ++ .name nm :: Ast.tDirectives ds ∧ dirsFit true b ds

theorem cmpT_scalarTypeExtension (n : Nat) :
    CmpT (fun _ => True) (scalarTypeExtension n) LScalarExt (fun t => t.kind ≠ .at ∧ t.kind ≠ .lParen) (fun _ => True) := by
  rw [scalarTypeExtension_eq]
  refine cmpT_withNode _ ?_
  have hd : Cmp (fun _ => True) (peek >>= fun k => if k == some Kind.at then directives n true else err) (LDirsNeB true)
      (fun k => k ≠ .at ∧ k ≠ .lParen) (fun _ => True) :=
    cmp_peekGuard (· == some .at) (cmp_directivesNeB n true) fun b x h => by
      obtain ⟨a, x', rfl, hk⟩ := ldirsNeB_head h
      exact ⟨a, x', rfl, by simp [hk]⟩
  have htail : Cmp (fun _ => True) (scalarExtTail n) (fun b x => ∃ x1 x2, x = x1 ++ x2 ∧ (∃ n, x1 = [.name n]) ∧ LDirsNeB true b x2)
      (fun k => k ≠ .at ∧ k ≠ .lParen) (fun _ => True) := by
    unfold scalarExtTail
    exact cmp_bind (Hk := fun _ => True) (F1 := fun _ => True) cmp_nameOrErr (fun _ _ => hd) (fun _ _ _ _ => trivial) (fun _ _ => trivial) (fun _ h => h)
  refine (cmpT_ext (Hk := fun _ => True) "scalar" _ _ _ htail.toT).mono (fun _ h => h) ?_ (fun _ h => h) (fun _ h => h)
  rintro b x ⟨nm, ds, hne, rfl, hd⟩
  exact ⟨_, rfl, [.name nm], _, rfl, ⟨nm, rfl⟩, ds, hne, rfl, hd⟩

/-! ### union, enum, input object -/

/-- `Name Directives? Body?` of an extension, in terms of the language `Lo m` of `Body?` (`m`: a directive was written) -/
theorem cmp_nameDirsBodyExtG (n : Nat) (k0 : Kind) (body : PI Unit) {Lo : Bool → Nat → List Ast.Tok → Prop} {F : Kind → Prop}
    (ho : ∀ m, Cmp (fun _ => True) (extBodyK k0 body m) (Lo m) F (fun _ => True))
    (hohead : ∀ m b a x, Lo m b (a :: x) → kindOfA a ≠ .at ∧ kindOfA a ≠ .lParen)
    (hnil : ∀ m b k, Lo m b [] → F k → k ≠ .at ∧ k ≠ .lParen) :
    Cmp (fun _ => True) (nameDirsBodyExt n k0 body)
      (fun b x => ∃ nm ds x2, x = .name nm :: (Ast.tDirectives ds ++ x2) ∧ dirsFit true b ds ∧ Lo (!ds.isEmpty) b x2) F (fun _ => True) := by
  unfold nameDirsBodyExt
  have hd := cmp_extDirsG (Hk := fun _ => True) n (extBodyK k0 body) false ho hohead hnil
  refine (cmp_bind (Hk := fun _ => True) (F := F) (F1 := fun _ => True) cmp_nameOrErr (fun _ _ => hd) (fun _ _ _ _ => trivial)
    (fun _ _ => trivial) (fun _ h => h)).mono (fun _ h => h) ?_ (fun _ h => h) (fun _ h => h)
  rintro b x ⟨nm, ds, x2, rfl, hdf, h2⟩
  exact ⟨[.name nm], _, rfl, ⟨nm, rfl⟩, ds, x2, rfl, hdf, by simpa using h2⟩

theorem cmp_nameDirsBodyExt (n : Nat) (k0 : Kind) (body : PI Unit) {Lb : Nat → List Ast.Tok → Prop} {Fb : Kind → Prop}
    (hb : Cmp (fun _ => True) body Lb Fb (fun _ => True)) (hbhead : ∀ b x, Lb b x → ∃ a x', x = a :: x' ∧ kindOfA a = k0)
    (hk1 : k0 ≠ .at) (hk2 : k0 ≠ .lParen) :
    Cmp (fun _ => True) (nameDirsBodyExt n k0 body)
      (fun b x => ∃ nm ds x2, x = .name nm :: (Ast.tDirectives ds ++ x2) ∧ dirsFit true b ds ∧ (Lb b x2 ∨ (x2 = [] ∧ ds ≠ [])))
      (fun k => k ≠ .at ∧ k ≠ .lParen ∧ k ≠ k0 ∧ Fb k) (fun _ => True) := by
  refine (cmp_nameDirsBodyExtG n k0 body (Lo := fun m b x => Lb b x ∨ (x = [] ∧ m = true))
    (fun m => (cmp_extBodyK (Hk := fun _ => True) k0 body m hb hbhead).mono (fun _ h => h) (fun _ _ h => h) (fun k h => h.2.2) (fun _ h => h))
    ?_ (fun _ _ _ _ hf => ⟨hf.1, hf.2.1⟩)).mono (fun _ h => h) ?_ (fun _ h => h) (fun _ h => h)
  · rintro m b a x (h | ⟨h, _⟩)
    · rw [kind_of_head hbhead h]; exact ⟨hk1, hk2⟩
    · cases h
  · rintro b x ⟨nm, ds, x2, rfl, hdf, h2⟩
    refine ⟨nm, ds, x2, rfl, hdf, h2.imp_right fun h => ⟨h.1, ?_⟩⟩
    cases ds with
    | nil => exact absurd rfl h.2
    | cons _ _ => rfl

def LUnionExt (b : Nat) (x : List Ast.Tok) : Prop :=
  ∃ nm ds ms, (ds ≠ [] ∨ ms ≠ none) ∧ x = kwE "union" ++ .name nm :: Ast.tDirectives ds ++ tSepOpt [.p .eq] .pipe ms ∧ dirsFit true b ds

theorem cmpT_unionTypeExtension (n : Nat) :
    CmpT (fun _ => True) (unionTypeExtension n) LUnionExt
      (fun t => t.kind ≠ .at ∧ t.kind ≠ .lParen ∧ t.kind ≠ .eq ∧ t.kind ≠ .pipe) (fun _ => True) := by
  rw [unionTypeExtension_eq]
  refine cmpT_withNode _ ?_
  have hb := cmp_nameDirsBodyExt n .eq unionMemberTypes cmp_unionMemberTypes
    (by rintro b x ⟨lead, first, rest, rfl⟩; exact ⟨_, _, rfl, rfl⟩) (by decide) (by decide)
  refine (cmpT_ext (Hk := fun _ => True) "union" _ _ _ hb.toT).mono (fun _ h => h) ?_ (fun _ h => h) (fun _ h => h)
  rintro b x ⟨nm, ds, ms, hne, rfl, hd⟩
  refine ⟨.name nm :: (Ast.tDirectives ds ++ tSepOpt [.p .eq] .pipe ms), by simp [List.append_assoc], nm, ds, _, rfl, hd, ?_⟩
  cases ms with
  | some v => obtain ⟨lead, first, rest⟩ := v; exact Or.inl ⟨lead, first, rest, rfl⟩
  | none =>
    refine Or.inr ⟨rfl, ?_⟩
    rcases hne with h | h
    · exact h
    · exact absurd rfl h

def LEnumExt (b : Nat) (x : List Ast.Tok) : Prop :=
  ∃ nm ds vs, (ds ≠ [] ∨ vs ≠ []) ∧ x = kwE "enum" ++ Ast.tEnumBody nm ds vs ∧ dirsFit true b ds ∧ ∀ v ∈ vs, enumValFit b v

theorem cmpT_enumTypeExtension (n : Nat) :
    CmpT (fun _ => True) (enumTypeExtension n) LEnumExt (fun t => Fbody t.kind) (fun _ => True) := by
  rw [enumTypeExtension_eq]
  refine cmpT_withNode _ ?_
  have hb := cmp_nameDirsBodyExt n .lCurly (enumValuesDefinition n) (cmp_enumValuesDefinition n)
    (fun b x h => lenumVals_head h) (by decide) (by decide)
  refine (cmpT_ext (Hk := fun _ => True) "enum" _ _ _ hb.toT).mono (fun _ h => h) ?_ (fun t h => ⟨h.1, h.2.1, h.2.2, trivial⟩) (fun _ h => h)
  rintro b x ⟨nm, ds, vs, hne, rfl, hd, hv⟩
  refine ⟨.name nm :: (Ast.tDirectives ds ++ Ast.tBraced (Ast.tEnumValueDefItems vs) vs.isEmpty), by simp [Ast.tEnumBody], nm, ds, _, rfl, hd, ?_⟩
  by_cases hvs : vs = []
  · subst hvs
    refine Or.inr ⟨rfl, ?_⟩
    rcases hne with h | h
    · exact h
    · exact absurd rfl h
  · exact Or.inl ⟨vs, hvs, rfl, hv⟩

def LInputExt (b : Nat) (x : List Ast.Tok) : Prop :=
  ∃ nm ds fs, (ds ≠ [] ∨ fs ≠ []) ∧ x = kwE "input" ++ Ast.tInputBody nm ds fs ∧ dirsFit true b ds ∧ ∀ v ∈ fs, ivdFit b v

theorem cmpT_inputObjectTypeExtension (n : Nat) :
    CmpT (fun _ => True) (inputObjectTypeExtension n) LInputExt (fun t => Fbody t.kind) (fun _ => True) := by
  rw [inputObjectTypeExtension_eq]
  refine cmpT_withNode _ ?_
  have hb := cmp_nameDirsBodyExt n .lCurly (inputFieldsDefinition n) (cmp_inputFieldsDefinition n)
    (fun b x h => linputFields_head h) (by decide) (by decide)
  refine (cmpT_ext (Hk := fun _ => True) "input" _ _ _ hb.toT).mono (fun _ h => h) ?_ (fun t h => ⟨h.1, h.2.1, h.2.2, trivial⟩) (fun _ h => h)
  rintro b x ⟨nm, ds, vs, hne, rfl, hd, hv⟩
  refine ⟨.name nm :: (Ast.tDirectives ds ++ Ast.tBraced (Ast.tIVDItems vs) vs.isEmpty), by simp [Ast.tInputBody], nm, ds, _, rfl, hd, ?_⟩
  by_cases hvs : vs = []
  · subst hvs
    refine Or.inr ⟨rfl, ?_⟩
    rcases hne with h | h
    · exact h
    · exact absurd rfl h
  · exact Or.inl ⟨vs, hvs, rfl, hv⟩

/-! ### object, interface -/

/-- `Directives? FieldsDefinition?` of an extension; `m`: a component was already met -/
def LExtFields (m : Bool) (b : Nat) (x : List Ast.Tok) : Prop :=
  ∃ ds x2, x = Ast.tDirectives ds ++ x2 ∧ dirsFit true b ds ∧ (LFields b x2 ∨ (x2 = [] ∧ (m || !ds.isEmpty) = true))

theorem cmp_extFields (n : Nat) (m : Bool) :
    Cmp (fun _ => True) (extDirs n (extBodyK .lCurly (fieldsDefinition n)) m) (LExtFields m)
      (fun k => k ≠ .at ∧ k ≠ .lParen ∧ k ≠ .lCurly ∧ True) (fun _ => True) :=
  cmp_extDirs (Hk := fun _ => True) n _ m (Ln := fun m b x => LFields b x ∨ (x = [] ∧ m = true))
    (fun m' => (cmp_extBodyK (Hk := fun _ => True) .lCurly (fieldsDefinition n) m' (cmp_fieldsDefinition n) (fun b x h => lfields_head h)).mono
      (fun _ h => h) (fun _ _ h => h) (fun k h => h.2.2) (fun _ h => h))
    (by rintro m' b a x (h | ⟨h, _⟩)
        · rw [kind_of_head (L := LFields) (fun _ _ h => lfields_head h) h]; exact ⟨by decide, by decide⟩
        · cases h)
    (fun k h => ⟨h.1, h.2.1⟩)

theorem lextFields_head {m : Bool} {b : Nat} {a : Ast.Tok} {x : List Ast.Tok} (h : LExtFields m b (a :: x)) :
    kindOfA a ≠ .name ∧ kindOfA a ≠ .amp := by
  refine dirsThen_head (P := fun k => k ≠ .name ∧ k ≠ .amp)
    (Lo := fun ds x2 => LFields b x2 ∨ (x2 = [] ∧ (m || !ds.isEmpty) = true)) ⟨by decide, by decide⟩ ?_ h
  rintro a x (h | ⟨h, _⟩)
  · rw [kind_of_head (L := LFields) (fun _ _ h => lfields_head h) h]; exact ⟨by decide, by decide⟩
  · cases h

def LObjectExt (word : String) (b : Nat) (x : List Ast.Tok) : Prop :=
  ∃ nm impl ds fs, (impl ≠ none ∨ ds ≠ [] ∨ fs ≠ []) ∧ x = kwE word ++ objectLikeToks nm impl ds fs ∧ objFit b ds fs

theorem cmpT_objExtTail (n : Nat) :
    CmpT (fun _ => True) (objExtTail n)
      (fun b x => ∃ nm impl ds fs, (impl ≠ none ∨ ds ≠ [] ∨ fs ≠ []) ∧ x = objectLikeToks nm impl ds fs ∧ objFit b ds fs)
      FObj (fun _ => True) := by
  unfold objExtTail
  have hi := cmpT_optDataImpl2 (Hk := fun _ => True) _ _ (cmp_extFields n true) (cmp_extFields n false)
    (fun b a x h => (lextFields_head h).2) (fun b a x h => (lextFields_head h).1)
  have := cmpT_bindK (Hk := fun _ => True) cmp_nameOrErr (fun _ _ => hi)
  refine this.mono (fun _ h => h) ?_ (fun t h => h) (fun _ h => h)
  rintro b x ⟨nm, impl, ds, fs, hne, rfl, hd, hf⟩
  have hbody : ∀ m : Bool, (m = true ∨ ds ≠ [] ∨ fs ≠ []) →
      LExtFields m b (Ast.tDirectives ds ++ Ast.tBraced (Ast.tFieldDefItems fs) fs.isEmpty) := by
    intro m hm
    refine ⟨ds, _, rfl, hd, ?_⟩
    by_cases hfs : fs = []
    · subst hfs
      refine Or.inr ⟨rfl, ?_⟩
      rcases hm with h | h | h
      · simp [h]
      · cases ds with
        | nil => exact absurd rfl h
        | cons _ _ => simp
      · exact absurd rfl h
    · exact Or.inl ⟨fs, hfs, rfl, hf⟩
  refine ⟨[.name nm], tSepOpt [.name Ast.sImplements] .amp impl ++ (Ast.tDirectives ds ++ Ast.tBraced (Ast.tFieldDefItems fs) fs.isEmpty),
    by simp [objectLikeToks, List.append_assoc], ⟨nm, rfl⟩, ?_⟩
  cases impl with
  | some v =>
    obtain ⟨lead, first, rest⟩ := v
    exact Or.inl ⟨.name Ast.sImplements :: tSepLead .amp lead first rest, _, by simp [tSepOpt], ⟨lead, first, rest, rfl⟩, hbody true (Or.inl rfl)⟩
  | none =>
    refine Or.inr ?_
    simp only [tSepOpt, List.nil_append]
    refine hbody false ?_
    rcases hne with h | h | h
    · exact absurd rfl h
    · exact Or.inr (Or.inl h)
    · exact Or.inr (Or.inr h)

theorem cmpT_objectTypeExtension (n : Nat) :
    CmpT (fun _ => True) (objectTypeExtension n) (LObjectExt "type") FObj (fun _ => True) := by
  rw [objectTypeExtension_eq]
  refine cmpT_withNode _ ?_
  refine (cmpT_ext (Hk := fun _ => True) "type" _ _ _ (cmpT_objExtTail n)).mono (fun _ h => h) ?_ (fun _ h => h) (fun _ h => h)
  rintro b x ⟨nm, impl, ds, fs, hne, rfl, hfit⟩
  exact ⟨_, rfl, nm, impl, ds, fs, hne, rfl, hfit⟩

theorem cmpT_interfaceTypeExtension (n : Nat) :
    CmpT (fun _ => True) (interfaceTypeExtension n) (LObjectExt "interface") FObj (fun _ => True) := by
  rw [interfaceTypeExtension_eq]
  refine cmpT_withNode _ ?_
  refine (cmpT_ext (Hk := fun _ => True) "interface" _ _ _ (cmpT_objExtTail n)).mono (fun _ h => h) ?_ (fun _ h => h) (fun _ h => h)
  rintro b x ⟨nm, impl, ds, fs, hne, rfl, hfit⟩
  exact ⟨_, rfl, nm, impl, ds, fs, hne, rfl, hfit⟩

/-! ### schema -/

def LSchemaExt (b : Nat) (x : List Ast.Tok) : Prop :=
  ∃ (ds : List Ast.Directive) (roots : List (Ast.OpType × Ast.Str)), (ds ≠ [] ∨ roots ≠ []) ∧
    x = kwE "schema" ++ Ast.tDirectives ds ++ Ast.tBraced (tRootOpItemsF (roots.map fun r => (r.1, some r.2))) roots.isEmpty ∧
    dirsFit true b ds

theorem cmpT_schemaExtension (n : Nat) :
    CmpT (fun _ => True) (schemaExtension n) LSchemaExt (fun t => Fbody t.kind) (fun _ => True) := by
  rw [schemaExtension_eq]
  refine cmpT_withNode _ ?_
  have hd := cmp_extDirs (Hk := fun _ => True) (F := Fbody) n schemaExtBraces false
    (Ln := fun m b x => LSBraces b x ∨ (x = [] ∧ m = true))
    (fun m => (cmp_schemaExtBraces m).mono (fun _ h => h) (fun _ _ h => h) (fun k h => h.2.2) (fun _ h => h))
    (by rintro m b a x (⟨roots, _, e⟩ | ⟨h, _⟩)
        · injection e with e _
          subst e; exact ⟨by decide, by decide⟩
        · cases h)
    (fun k h => ⟨h.1, h.2.1⟩)
  refine (cmpT_ext (Hk := fun _ => True) "schema" _ _ _ hd.toT).mono (fun _ h => h) ?_ (fun _ h => h) (fun _ h => h)
  rintro b x ⟨ds, roots, hne, rfl, hdf⟩
  refine ⟨Ast.tDirectives ds ++ Ast.tBraced (tRootOpItemsF (roots.map fun r => (r.1, some r.2))) roots.isEmpty,
    by simp [List.append_assoc], ds, _, rfl, hdf, ?_⟩
  by_cases hr : roots = []
  · subst hr
    refine Or.inr ⟨rfl, ?_⟩
    rcases hne with h | h
    · cases ds with
      | nil => exact absurd rfl h
      | cons _ _ => rfl
    · exact absurd rfl h
  · refine Or.inl ⟨roots, hr, ?_⟩
    have : roots.isEmpty = false := by cases roots with | nil => exact absurd rfl hr | cons _ _ => rfl
    rw [tRootOpItemsF_full, this]
    simp [Ast.tBraced]

end Apollo.Parse.Exact
