import ApolloModel.Proofs.ParserExactC16
/-
EXACT SOUNDNESS (namespace Apollo.Parse.Exact): `Parser::parse_selection_set` with the recursion budget, soundness
and completeness put together: `parseFieldSet_iff`, which C07 states as `fieldset_accept_iff`.
-/
set_option linter.unusedSimpArgs false
namespace Apollo.Parse.Exact
open Apollo.Rowan hiding Str
open Apollo.Lex hiding Str

theorem parseFieldSet_sound (rl : Nat) (src : Str) (herr : (parse .selectionSet none rl src).errors = []) :
    LexClean src ∧ ∃ x ts e, sig (srcToks src) = ts ++ [e] ∧ e.kind = .eof ∧ TokIs ts x ∧
      FieldSetExact rl (∃ t rest, srcToks src = t :: rest ∧ t.kind = .lCurly) x := by
  obtain ⟨root, h⟩ := parseFieldSet_tree none rl src
  exact parseFieldSet_sound_tree rl src root h herr

/-- **`fieldset_accept_iff`** (proof level): zero errors ⇔ lexer-clean and the significant tokens are one selection set
    / brace-less selection list within the EXACT recursion budget, a braced one starting the input -/
theorem parseFieldSet_iff (rl : Nat) (src : Str) :
    (parse .selectionSet none rl src).errors = [] ↔
      (LexClean src ∧ ∃ (ss : Ast.Sels) (ts : List Tok) (e : Tok), sig (srcToks src) = ts ++ [e] ∧ e.kind = .eof ∧
        ss ≠ Ast.Sels.nil ∧ 1 ≤ rl ∧ fitSels ss (rl - 1) ∧
        ((TokIs ts (.p .lCurly :: Ast.tSels ss ++ [.p .rCurly]) ∧ HeadSig (srcToks src)) ∨ TokIs ts (Ast.tSels ss))) := by
  constructor
  · intro herr
    obtain ⟨hclean, x, ts, e, h1, h2, h3, h4⟩ := parseFieldSet_sound rl src herr
    rcases h4 with ⟨⟨ss, hne, rfl, hb, hf⟩, t, rest, hsrc, hk⟩ | ⟨hb, ss, hne, rfl, hf⟩
    · refine ⟨hclean, ss, ts, e, h1, h2, hne, hb, hf, Or.inl ⟨h3, ?_⟩⟩
      intro hd tl e'
      rw [hsrc] at e'
      injection e' with e' _
      subst e'
      unfold Sigf; rw [hk]; rfl
    · exact ⟨hclean, ss, ts, e, h1, h2, hne, hb, hf, Or.inr h3⟩
  · rintro ⟨hclean, ss, ts, e, h1, h2, hne, hb, hf, hx⟩
    exact parseFieldSet_complete_full rl src ss ts e hclean h1 h2 hne hb hf hx

end Apollo.Parse.Exact
