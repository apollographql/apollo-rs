import ApolloModel.Proofs.ParserExactC15
/-
C05 / C07 (completeness), exact budget: the brace-less field set may be preceded by ignored tokens (the braced
one may not: `field_set` looks for `{` on the raw current token); the entry-point theorem `parseFieldSet_complete_full`.
-/
set_option linter.unusedSimpArgs false
namespace Apollo.Parse.Exact
open Apollo.Rowan hiding Str
open Apollo.Lex hiding Str

theorem fieldSet_bare_lead (n : Nat) (s s' : PState) (i0 c : List Tok) (x : List Ast.Tok) (q0 : Tok) (rest : List Tok)
    (w : TW s) (hi0 : Ign i0) (hb : 1 ≤ s.recLimit - s.recCur) (hl : LSels (s.recLimit - s.recCur - 1) x) (hs : Spells c x)
    (ht : Toks s = i0 ++ (c ++ q0 :: rest)) (hq : Sigf q0) (hf : q0.kind = .rCurly ∨ q0.kind = .eof)
    (h : (fieldSet n).run s = .ok () s') : Eat s s' (i0 ++ c) ∧ Toks s' = q0 :: rest := by
  obtain ⟨ss, hne, rfl, hfit⟩ := hl
  obtain ⟨a, x', e, hka⟩ := tSels_head ss hne
  obtain ⟨t, tl1, hc, hta⟩ := spells_head (by rw [e] at hs; exact hs)
  have hst : Sigf t := sigf_of_astOfV hta
  obtain ⟨hd, tl, hht, hnl⟩ : ∃ hd tl, i0 ++ (c ++ q0 :: rest) = hd :: tl ∧ (some hd.kind == some Kind.lCurly) = false := by
    cases i0 with
    | nil =>
      refine ⟨t, tl1 ++ q0 :: rest, by rw [hc]; rfl, ?_⟩
      rw [kind_of_astOfV hta]
      rcases hka with h0 | h0 <;> rw [h0] <;> rfl
    | cons ih it => exact ⟨ih, it ++ (c ++ q0 :: rest), rfl, ign_kind_ne_lCurly (hi0 ih (by simp))⟩
  unfold fieldSet at h
  obtain ⟨ko, sP, hp, h2⟩ := bind_dec peek _ s s' () h
  obtain ⟨rfl, eP, htP, _⟩ := peek_head s sP ko hd tl w (by rw [ht, hht]) hp
  simp only [hnl, Bool.false_eq_true, if_false] at h2
  obtain ⟨s0, s2, o0, hr0, o2⟩ := withNode_dec "SELECTION_SET" _ sP s' () h2
  obtain ⟨_, s1, hsk, hbody⟩ := bind_dec skipIgnored _ s0 s2 () hr0
  obtain ⟨e1, t1, _⟩ := skip_exact s0 s1 i0 t (tl1 ++ q0 :: rest) (o0.w eP.w) hsk (by rw [o0.toks, htP, ← hht, hc]; simp) hi0 hst
  have e01 : Eat s s1 i0 := by simpa using (eP.trans (Eat.ofObsEq o0 eP.w)).trans e1
  have hb1 : s1.recLimit - s1.recCur = s.recLimit - s.recCur := by rw [e01.recLimit, e01.recCur]
  have hrec := cmp_withRec (Hk := fun _ => True) limitErr (selection n)
    ((sel_all_comp n).2.1) (L := fun b x => 1 ≤ b ∧ LSels (b - 1) x) (fun b x h => h)
  obtain ⟨eB, tB, _⟩ := hrec s1 s2 () c _ q0 rest e01.w hbody (by rw [hb1]; exact ⟨hb, ss, hne, rfl, hfit⟩) hs
    (by rw [t1, hc]; simp) hq hf trivial
  exact ⟨by simpa using (e01.trans eB).trans (Eat.ofObsEq o2 eB.w), by rw [o2.toks]; exact tB⟩

/-- **acceptance is complete** for `Parser::parse_selection_set`: a braced selection set must start the
    input; a brace-less field set may be preceded by ignored tokens -/
theorem parseFieldSet_complete_full (rl : Nat) (src : Str) (ss : Ast.Sels) (ts : List Tok) (e : Tok)
    (hclean : LexClean src) (hsig : sig (srcToks src) = ts ++ [e]) (he : e.kind = .eof)
    (hne : ss ≠ Ast.Sels.nil) (hb : 1 ≤ rl) (hfit : fitSels ss (rl - 1))
    (hx : (TokIs ts (.p .lCurly :: Ast.tSels ss ++ [.p .rCurly]) ∧ HeadSig (srcToks src)) ∨ TokIs ts (Ast.tSels ss)) :
    (parse .selectionSet none rl src).errors = [] := by
  rcases hx with ⟨hx, hhead⟩ | hx
  · exact parseFieldSet_complete_sig rl src _ ts e hclean hsig he hx ⟨ss, hne, hb, hfit, Or.inl rfl⟩ hhead
  · -- brace-less: split off the ignored tokens in front
    obtain ⟨i0, l', hl, hi0, hhead⟩ := ign_split (srcToks src)
    have hsig' : sig l' = ts ++ [e] := by rw [← hsig, hl, sig_ign_append _ _ hi0]
    obtain ⟨c, c2, hc, h1, h2, hh2, hh1⟩ := sig_split l' ts [e] hsig' (by simp)
    obtain ⟨i, rfl, hi⟩ := sig_single_inv c2 e hh2 h2
    have htsne : ts ≠ [] := by
      intro h0; subst h0
      obtain ⟨a, x', e', _⟩ := tSels_head ss hne
      unfold TokIs at hx
      rw [e'] at hx; simp at hx
    have hnoc : NoEof c := noEof_of_tokIs c _ (by rw [h1]; exact hx)
    obtain ⟨pre, e0, hp, he0, hnop⟩ := stream_eof_end src.length (initState src none 0).lx (Nat.le_refl _) rfl rfl
    have hq : srcToks src = pre ++ [e0] := hp
    rw [hl, hc] at hq
    have hq' : pre ++ [e0] = (i0 ++ c) ++ (e :: i) := by rw [← hq]; simp
    obtain ⟨pre', hr, hnop'⟩ := split_eof (i0 ++ c) pre (e :: i) e0 hq' he0 (noEof_append (noEof_ignored i0 hi0) hnoc) hnop
    have hi00 : i = [] := by
      cases pre' with
      | nil => simp at hr; exact hr.2
      | cons y pre' =>
        exfalso
        simp only [List.cons_append] at hr
        injection hr with hr1 _
        exact hnop' y (by simp) (hr1 ▸ he)
    subst hi00
    have hsp : Spells c (Ast.tSels ss) := ⟨by rw [h1]; exact hx, hh1 htsne hhead⟩
    have htoks : srcToks src = i0 ++ (c ++ [e]) := by rw [hl, hc]
    obtain ⟨root, htree⟩ := parseFieldSet_tree none rl src
    unfold parse runEntry at htree ⊢
    simp only [Entry.standalone, Entry.grammar] at htree ⊢
    generalize hs0 : ({ initState src none rl with builder := (initState src none rl).builder.startNode "SELECTION_SET" } : PState) = s0 at htree ⊢
    have w0 : TW s0 := by subst hs0; exact ⟨rfl, by intro h; simp [initState] at h⟩
    have ht0 : Toks s0 = i0 ++ (c ++ e :: []) := by subst hs0; exact htoks
    have hnd0 : ¬ Doomed s0 := by
      subst hs0
      rintro (h | h)
      · exact h rfl
      · unfold LexClean at hclean
        rw [show ({ initState src none rl with builder := (initState src none rl).builder.startNode "SELECTION_SET" } : PState).lx
          = (initState src none 0).lx from rfl, hclean] at h
        cases h
    have hb0 : s0.recLimit - s0.recCur = rl := by subst hs0; simp [initState]
    cases hr : (fieldSet (fuelFor src) >>= fun _ => expectEndOfInput).run s0 with
    | abort w => simp [hr] at htree
    | panic m => simp [hr] at htree
    | ok a s =>
      simp only []
      obtain ⟨_, sT, hT, h2⟩ := bind_dec (fieldSet (fuelFor src)) _ s0 s a hr
      have hse : Sigf e := by unfold Sigf; rw [he]; rfl
      obtain ⟨eT, htT⟩ := fieldSet_bare_lead (fuelFor src) s0 sT i0 c _ e [] w0 hi0 (by rw [hb0]; exact hb)
        (by rw [hb0]; exact ⟨ss, hne, rfl, hfit⟩) hsp ht0 hse (Or.inr he) hT
      unfold expectEndOfInput at h2
      obtain ⟨_, sK, hK, h4⟩ := bind_dec skipIgnored _ sT s a h2
      obtain ⟨eK, htK, _⟩ := skip_exact sT sK [] e [] eT.w hK (by simpa using htT) (by intro x hx; cases hx) hse
      obtain ⟨k, sP, hP, h5⟩ := bind_dec peek _ sK s a h4
      obtain ⟨hk, eP, _, _⟩ := peek_head sK sP k e [] eK.w htK hP
      subst hk
      have h5' : (pure () : PI Unit).run sP = .ok a s := by
        simpa [errUnlessEnd, he] using h5
      rw [run_pure] at h5'
      injection h5' with _ h5'
      subst h5'
      have hnd : ¬ Doomed sP := by
        intro d
        exact hnd0 (eT.doom.mp (eK.doom.mp (eP.doom.mp d)))
      by_cases herr : sP.errors = []
      · exact herr
      · exact absurd (Or.inl herr) hnd

end Apollo.Parse.Exact
