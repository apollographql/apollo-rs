import ApolloModel.Proofs.ExecRules
import ApolloModel.Proofs.Standalone
/-
C17 rule families on the structural model (Model/Standalone.lean): field selections as
`document_from_ast` checks them; operation name uniqueness, the lone anonymous operation and fragment
name uniqueness (fold invariants of `build`).
-/
set_option linter.unusedSimpArgs false
set_option linter.unusedVariables false
namespace Apollo.ExecRules
open Apollo Apollo.Spec
open Apollo.Standalone (Diag Sels)

/-! ### fields — §5.3.1 Field Selections, §5.3.3 Leaf Field Selections (no sub-selection on a leaf),
and the existence of inline type conditions (§5.5.1.2), as `document_from_ast` checks them -/

/-- every field selected exists on the type it is selected on (meta-fields included: `sc.field` is
    `Schema::type_field`), a field of scalar or enum type has no sub-selection, every inline type
    condition names a defined type — through the whole selection set -/
def SelectionsWellTyped (sc : Standalone.Schema) : Nat → Sels → Prop
  | _, .nil => True
  | parent, .field name _ _ sub rest =>
    (∃ fd, sc.field parent name = some fd ∧ ¬ (sub.isNil = false ∧ sc.kind fd.ty = some .leaf) ∧ SelectionsWellTyped sc fd.ty sub) ∧
      SelectionsWellTyped sc parent rest
  | parent, .spread _ _ rest => SelectionsWellTyped sc parent rest
  | parent, .inline tc _ sub rest =>
    (match tc with
     | some t => (sc.kind t).isSome = true ∧ SelectionsWellTyped sc t sub
     | none => SelectionsWellTyped sc parent sub) ∧
      SelectionsWellTyped sc parent rest

theorem field_selections_iff (sc : Standalone.Schema) : ∀ (sels : Sels) (parent : Nat),
    (Standalone.buildSels (some sc) parent sels).2 = [] ↔ SelectionsWellTyped sc parent sels := by
  intro sels
  induction sels with
  | nil => intro parent; simp [Standalone.buildSels, SelectionsWellTyped]
  | field name dirs args sub rest ihs ihr =>
    intro parent
    simp only [Standalone.buildSels, SelectionsWellTyped]
    cases hf : sc.field parent name with
    | none => simp
    | some fd =>
      simp only [Option.some.injEq, exists_eq_left']
      by_cases hleaf : (!sub.isNil && sc.kind fd.ty == some .leaf) = true
      · simp only [hleaf, if_true]
        have : sub.isNil = false ∧ sc.kind fd.ty = some .leaf := by simpa using hleaf
        simp [this]
      · simp only [hleaf, Bool.false_eq_true, if_false, List.append_eq_nil_iff, ihs, ihr]
        have : ¬ (sub.isNil = false ∧ sc.kind fd.ty = some .leaf) := by simpa using hleaf
        simp [this]
  | spread f dirs rest ihr =>
    intro parent
    simp only [Standalone.buildSels, SelectionsWellTyped, ihr]
  | inline tc dirs sub rest ihs ihr =>
    intro parent
    simp only [Standalone.buildSels, SelectionsWellTyped]
    cases tc with
    | none => simp only [Option.getD_none, List.append_eq_nil_iff, ihs, ihr]
    | some t =>
      simp only []
      by_cases hk : (sc.kind t).isNone = true
      · simp only [hk, if_true]
        have : (sc.kind t).isSome = false := by cases h : sc.kind t <;> simp_all
        simp [this]
      · simp only [hk, Bool.false_eq_true, if_false, List.append_eq_nil_iff, ihs, ihr]
        have : (sc.kind t).isSome = true := by cases h : sc.kind t <;> simp_all
        simp [this]

end Apollo.ExecRules

namespace Apollo.Standalone.Rules
open Apollo Apollo.Standalone

/-! ### operations — §5.2.1.1 Operation Name Uniqueness, §5.2.2.1 Lone Anonymous Operation -/

def opsOf (ast : Ast) : List Op := ast.filterMap fun d => match d with | .op o => some o | _ => none
def namedNames (ast : Ast) : List Nat := (opsOf ast).filterMap (·.name)
def anonCount (ast : Ast) : Nat := ((opsOf ast).filter (·.name.isNone)).length
def firstIsAnon (ast : Ast) : Bool := match opsOf ast with | o :: _ => o.name.isNone | [] => false

/-- §5.2.1.1: no two named operations have the same name -/
def OperationNamesUnique (ast : Ast) : Prop := (namedNames ast).Nodup
/-- §5.2.2.1: an anonymous operation is the only operation of the document -/
def LoneAnonymousOperation (ast : Ast) : Prop := ¬ (anonCount ast > 0 ∧ (opsOf ast).length > 1)

/-- every operation of the document has a root type in the schema (`Operation::from_ast` succeeds);
    trivially true without a schema -/
def AllOpsBuild (s : Option Schema) (ast : Ast) : Prop :=
  ∀ o ∈ opsOf ast, (buildOp s o).isSome = true

/-- an invariant between the state of a left fold and the elements already folded in -/
theorem foldl_snoc_inv {α β : Type} (f : β → α → β) (Inv : β → List α → Prop) :
    ∀ (l : List α) (b : β) (pre : List α), Inv b pre →
      (∀ b pre d, d ∈ l → Inv b pre → Inv (f b d) (pre ++ [d])) → Inv (l.foldl f b) (pre ++ l)
  | [], b, pre, inv, _ => by simpa using inv
  | d :: l, b, pre, inv, step => by
    have := foldl_snoc_inv f Inv l (f b d) (pre ++ [d]) (step b pre d (by simp) inv)
      (fun b pre x hx => step b pre x (by simp [hx]))
    simpa [List.append_assoc] using this

structure OpsInv (st : BuildState) (pre : Ast) : Prop where
  anon : st.doc.anon.isSome = firstIsAnon pre
  named : ∀ n, st.doc.named.any (fun p => p.name == some n) = decide (n ∈ namedNames pre)
  empty : st.doc.named.isEmpty = (namedNames pre).isEmpty
  amb : Diag.ambiguousAnonymousOperation ∈ st.diags ↔ (anonCount pre > 0 ∧ (opsOf pre).length > 1)
  col : Diag.operationNameCollision ∈ st.diags ↔ ¬ (namedNames pre).Nodup

theorem OpsInv.congr {st st' : BuildState} {pre pre' : Ast} (inv : OpsInv st pre) (e : opsOf pre' = opsOf pre)
    (ha : st'.doc.anon = st.doc.anon) (hn : st'.doc.named = st.doc.named)
    (hamb : Diag.ambiguousAnonymousOperation ∈ st'.diags ↔ Diag.ambiguousAnonymousOperation ∈ st.diags)
    (hcol : Diag.operationNameCollision ∈ st'.diags ↔ Diag.operationNameCollision ∈ st.diags) : OpsInv st' pre' :=
  ⟨by rw [ha, firstIsAnon, e]; exact inv.anon, by rw [hn, namedNames, e]; exact inv.named,
    by rw [hn, namedNames, e]; exact inv.empty, by rw [hamb, anonCount, e]; exact inv.amb,
    by rw [hcol, namedNames, e]; exact inv.col⟩

theorem opsOf_snoc (pre : Ast) (d : Def) : opsOf (pre ++ [d]) = opsOf pre ++ (match d with | .op o => [o] | _ => []) := by
  cases d <;> simp [opsOf]
theorem opsOf_snoc_op (pre : Ast) (o : Op) : opsOf (pre ++ [.op o]) = opsOf pre ++ [o] := opsOf_snoc pre _
theorem opsOf_snoc_other (pre : Ast) (d : Def) (h : ∀ o, d ≠ .op o) : opsOf (pre ++ [d]) = opsOf pre := by
  rw [opsOf_snoc]
  cases d with
  | op o => exact absurd rfl (h o)
  | _ => simp

theorem firstIsAnon_snoc (pre : Ast) (o : Op) :
    firstIsAnon (pre ++ [.op o]) = (if (opsOf pre).isEmpty then o.name.isNone else firstIsAnon pre) := by
  simp only [firstIsAnon, opsOf_snoc_op]
  cases opsOf pre <;> simp

theorem nodup_snoc (l : List Nat) (n : Nat) : (l ++ [n]).Nodup ↔ l.Nodup ∧ n ∉ l := by
  simp only [List.nodup_append, List.nodup_cons, List.not_mem_nil, not_false_eq_true, List.nodup_nil, and_self, true_and,
    List.mem_singleton, forall_eq]
  constructor
  · rintro ⟨h1, h2⟩; exact ⟨h1, fun hm => h2 n hm rfl⟩
  · rintro ⟨h1, h2⟩; exact ⟨h1, fun a ha hn => h2 (hn ▸ ha)⟩

theorem firstIsAnon_pos (pre : Ast) (h : firstIsAnon pre = true) : anonCount pre > 0 ∧ (opsOf pre).length > 0 := by
  unfold firstIsAnon at h
  unfold anonCount
  cases ho : opsOf pre with
  | nil => rw [ho] at h; cases h
  | cons o rest => rw [ho] at h; simp only [] at h; simp [List.filter_cons, h]

theorem ops_nil (pre : Ast) (h : opsOf pre = []) : firstIsAnon pre = false ∧ namedNames pre = [] ∧ anonCount pre = 0 := by
  simp [firstIsAnon, namedNames, anonCount, h]

theorem ops_nil_of (pre : Ast) (h1 : firstIsAnon pre = false) (h2 : (namedNames pre).isEmpty = true) : opsOf pre = [] := by
  unfold firstIsAnon at h1
  unfold namedNames at h2
  cases ho : opsOf pre with
  | nil => rfl
  | cons o rest =>
    rw [ho] at h1 h2
    simp only [] at h1
    cases hn : o.name with
    | none => simp [hn] at h1
    | some n => simp [List.filterMap_cons, hn] at h2

theorem firstIsAnon_of_single (pre : Ast) (h1 : (opsOf pre).length = 1) (h2 : anonCount pre > 0) : firstIsAnon pre = true := by
  unfold firstIsAnon
  unfold anonCount at h2
  cases ho : opsOf pre with
  | nil => rw [ho] at h1; cases h1
  | cons o rest =>
    rw [ho] at h1 h2
    have : rest = [] := by cases rest <;> simp_all
    subst this
    simp only []
    cases hn : o.name.isNone with
    | true => rfl
    | false => simp [List.filter_cons, hn] at h2

theorem namedNames_snoc (pre : Ast) (o : Op) :
    namedNames (pre ++ [.op o]) = namedNames pre ++ (match o.name with | some n => [n] | none => []) := by
  simp only [namedNames, opsOf_snoc_op, List.filterMap_append]
  cases h : o.name <;> simp [List.filterMap_cons, h]

theorem anonCount_snoc (pre : Ast) (o : Op) :
    anonCount (pre ++ [.op o]) = anonCount pre + (if o.name.isNone then 1 else 0) := by
  simp only [anonCount, opsOf_snoc_op, List.filter_append, List.length_append]
  cases h : o.name.isNone <;> simp [List.filter_cons, h]

theorem ops_step (s : Option Schema) (st : BuildState) (pre : Ast) (d : Def) (inv : OpsInv st pre)
    (hb : ∀ o, d = .op o → (buildOp s o).isSome = true) : OpsInv (buildDef s st d) (pre ++ [d]) := by
  have hamb := mem_buildDef_diags s st d (x := .ambiguousAnonymousOperation) rfl
  have hcol := mem_buildDef_diags s st d (x := .operationNameCollision) rfl
  cases d with
  | typeSystem =>
    exact inv.congr (opsOf_snoc_other pre _ (by intro o h; cases h)) rfl rfl
      (by simpa [ownDiags] using hamb) (by simpa [ownDiags] using hcol)
  | frag f =>
    have hown : ∀ x ∈ ownDiags s st (.frag f), x = .fragmentNameCollision ∨ x = .undefinedTypeInNamedFragmentTypeCondition := by
      simp only [ownDiags]
      repeat' split
      all_goals simp
    refine inv.congr (opsOf_snoc_other pre _ (by intro o h; cases h)) ?_ ?_ ?_ ?_
    · rw [buildDef_frag_doc]; split <;> rfl
    · rw [buildDef_frag_doc]; split <;> rfl
    · rw [hamb]; exact or_iff_left fun h => by rcases hown _ h with h | h <;> cases h
    · rw [hcol]; exact or_iff_left fun h => by rcases hown _ h with h | h <;> cases h
  | op o =>
    obtain ⟨⟨o', ds⟩, hbo⟩ := Option.isSome_iff_exists.mp (hb o rfl)
    have hname := (buildOp_spec s o o' ds hbo).1
    have hdoc := buildDef_op_doc s st o o' ds hbo
    have hlen : (opsOf (pre ++ [.op o])).length = (opsOf pre).length + 1 := by simp [opsOf_snoc_op]
    simp only [ownDiags, hbo] at hamb hcol
    cases hn : o.name with
    | some n =>
      simp only [hn] at hdoc
      simp [hn, -List.any_eq_true] at hamb hcol
      have hnn : namedNames (pre ++ [.op o]) = namedNames pre ++ [n] := by rw [namedNames_snoc, hn]
      have hac : anonCount (pre ++ [.op o]) = anonCount pre := by rw [anonCount_snoc, hn]; simp
      have hfa : firstIsAnon (pre ++ [.op o]) = firstIsAnon pre := by
        rw [firstIsAnon_snoc, hn]
        cases ho : opsOf pre with
        | nil => simp [(ops_nil pre ho).1]
        | cons x xs => simp
      have hdup : (st.doc.named.any fun p => p.name == some n) = true ↔ n ∈ namedNames pre := by simp [inv.named n]
      refine ⟨?_, fun m => ?_, ?_, ?_, ?_⟩
      · rw [hdoc, hfa, ← inv.anon]; split <;> rfl
      · rw [hdoc, hnn]
        split
        · rw [inv.named m]; by_cases hm : m = n <;> simp_all
        · simp only [List.any_append, List.any_cons, List.any_nil, Bool.or_false, inv.named m, hname, hn]
          by_cases hm : m = n
          · simp [hm]
          · simp [hm, Ne.symm hm]
      · rw [hdoc, hnn]
        split
        · cases hl : st.doc.named <;> simp_all
        · cases st.doc.named <;> cases namedNames pre <;> rfl
      · rw [hamb, hac, hlen, inv.amb, inv.anon]
        constructor
        · rintro (⟨h1, h2⟩ | h)
          · exact ⟨h1, by omega⟩
          · exact ⟨(firstIsAnon_pos pre h).1, by have := (firstIsAnon_pos pre h).2; omega⟩
        · rintro ⟨h1, h2⟩
          by_cases hl : (opsOf pre).length > 1
          · exact Or.inl ⟨h1, hl⟩
          · exact Or.inr (firstIsAnon_of_single pre (by omega) h1)
      · rw [hcol, hnn, nodup_snoc, inv.col, hdup, Classical.not_and_iff_not_or_not, Classical.not_not]
    | none =>
      simp only [hn] at hdoc
      have hamb' : Diag.ambiguousAnonymousOperation ∈ (buildDef s st (.op o)).diags ↔
          Diag.ambiguousAnonymousOperation ∈ st.diags ∨ (st.doc.anon.isSome || !st.doc.named.isEmpty) = true := by
        rw [hamb]; simp only [hn]; repeat' split
        all_goals simp_all
      have hcol' : Diag.operationNameCollision ∈ (buildDef s st (.op o)).diags ↔ Diag.operationNameCollision ∈ st.diags := by
        rw [hcol]; simp only [hn]; repeat' split
        all_goals simp
      have hnn : namedNames (pre ++ [.op o]) = namedNames pre := by rw [namedNames_snoc, hn]; simp
      have hac : anonCount (pre ++ [.op o]) = anonCount pre + 1 := by rw [anonCount_snoc, hn]; simp
      -- the document holds an operation as soon as one has been seen
      have hseen : (st.doc.anon.isSome || !st.doc.named.isEmpty) = !(opsOf pre).isEmpty := by
        rw [inv.anon, inv.empty]
        cases ho : opsOf pre with
        | nil => simp [(ops_nil pre ho).1, (ops_nil pre ho).2.1]
        | cons x xs =>
          cases h : (firstIsAnon pre || !(namedNames pre).isEmpty)
          · simp at h; rw [ops_nil_of pre h.1 (by simp [h.2])] at ho; cases ho
          · rfl
      rw [hseen] at hdoc hamb'
      refine ⟨?_, fun m => ?_, ?_, ?_, ?_⟩
      · rw [hdoc, firstIsAnon_snoc, hn]
        cases opsOf pre <;> simp [inv.anon]
      · rw [hdoc, hnn, ← inv.named m]; split <;> rfl
      · rw [hdoc, hnn, ← inv.empty]; split <;> rfl
      · rw [hamb', hac, hlen, inv.amb]
        cases opsOf pre <;> simp
      · rw [hcol', hnn]; exact inv.col
theorem ops_fold (s : Option Schema) (l : Ast) (st : BuildState) (pre : Ast) (inv : OpsInv st pre)
    (hb : ∀ d ∈ l, ∀ o, d = .op o → (buildOp s o).isSome = true) : OpsInv (l.foldl (buildDef s) st) (pre ++ l) :=
  foldl_snoc_inv (buildDef s) OpsInv l st pre inv fun st pre d hd inv => ops_step s st pre d inv (hb d hd)

theorem ops_inv_init : OpsInv {} [] :=
  ⟨rfl, by intro n; simp [namedNames, opsOf], rfl, by simp [anonCount, opsOf], by simp [namedNames, opsOf]⟩

theorem allOpsBuild_mem (s : Option Schema) (ast : Ast) (h : AllOpsBuild s ast) :
    ∀ d ∈ ast, ∀ o, d = .op o → (buildOp s o).isSome = true := by
  intro d hd o ho
  apply h
  subst ho
  simp only [opsOf, List.mem_filterMap]
  exact ⟨.op o, hd, rfl⟩

/-- §5.2.1.1 Operation Name Uniqueness: `OperationNameCollision` is reported iff two named operations
    have the same name (for documents all of whose operations have a root type in the schema — always,
    without a schema; an operation without root type is `UndefinedRootOperation`, apollo's own rule) -/
theorem operation_name_uniqueness_iff (s : Option Schema) (ast : Ast) (h : AllOpsBuild s ast) :
    Diag.operationNameCollision ∈ (build s ast).diags ↔ ¬ OperationNamesUnique ast := by
  have := ops_fold s ast {} [] ops_inv_init (allOpsBuild_mem s ast h)
  simpa [build, OperationNamesUnique] using this.col

/-- §5.2.2.1 Lone Anonymous Operation: `AmbiguousAnonymousOperation` is reported iff the document has
    an anonymous operation and more than one operation -/
theorem lone_anonymous_operation_iff (s : Option Schema) (ast : Ast) (h : AllOpsBuild s ast) :
    Diag.ambiguousAnonymousOperation ∈ (build s ast).diags ↔ ¬ LoneAnonymousOperation ast := by
  have := ops_fold s ast {} [] ops_inv_init (allOpsBuild_mem s ast h)
  simpa [build, LoneAnonymousOperation] using this.amb

theorem allOpsBuild_none (ast : Ast) : AllOpsBuild none ast := by
  intro o _; simp [buildOp]

end Apollo.Standalone.Rules

namespace Apollo.Standalone.Rules
open Apollo Apollo.Standalone

/-! ### fragments — §5.5.1.1 Fragment Name Uniqueness -/

def fragsOf (ast : Ast) : List Frag := ast.filterMap fun d => match d with | .frag f => some f | _ => none
def fragNames (ast : Ast) : List Nat := (fragsOf ast).map (·.name)

/-- §5.5.1.1: no two fragment definitions have the same name -/
def FragmentNamesUnique (ast : Ast) : Prop := (fragNames ast).Nodup

/-- every fragment's type condition names a defined type (`Fragment::from_ast` succeeds); trivially
    true without a schema -/
def AllFragsBuild (s : Option Schema) (ast : Ast) : Prop :=
  ∀ f ∈ fragsOf ast, ∀ sc, s = some sc → (sc.kind f.tc).isSome = true

structure FragInv (st : BuildState) (pre : Ast) : Prop where
  names : ∀ n, st.doc.frags.any (fun g => g.name == n) = decide (n ∈ fragNames pre)
  col : Diag.fragmentNameCollision ∈ st.diags ↔ ¬ (fragNames pre).Nodup

theorem frag_step (s : Option Schema) (st : BuildState) (pre : Ast) (d : Def) (inv : FragInv st pre)
    (hb : ∀ f, d = .frag f → ∀ sc, s = some sc → (sc.kind f.tc).isSome = true) : FragInv (buildDef s st d) (pre ++ [d]) := by
  have hcol := mem_buildDef_diags s st d (x := .fragmentNameCollision) rfl
  cases d with
  | typeSystem =>
    have e : fragNames (pre ++ [.typeSystem]) = fragNames pre := by simp [fragNames, fragsOf]
    exact ⟨by rw [e]; exact inv.names, by rw [e, hcol]; simpa [ownDiags] using inv.col⟩
  | op o =>
    have e : fragNames (pre ++ [.op o]) = fragNames pre := by simp [fragNames, fragsOf]
    have hown : Diag.fragmentNameCollision ∉ ownDiags s st (.op o) := by
      simp only [ownDiags]
      repeat' split
      all_goals simp
    exact ⟨by rw [e, buildDef_op_frags]; exact inv.names, by rw [e, hcol]; simpa [hown] using inv.col⟩
  | frag f =>
    have e : fragNames (pre ++ [.frag f]) = fragNames pre ++ [f.name] := by simp [fragNames, fragsOf]
    have hown : ownDiags s st (.frag f) =
        if st.doc.frags.any (fun g => g.name == f.name) then [.fragmentNameCollision] else [] := by
      simp only [ownDiags]
      cases s with
      | none => rfl
      | some sc => have := hb f rfl sc rfl; cases h : sc.kind f.tc <;> simp_all
    have hdup : (st.doc.frags.any fun g => g.name == f.name) = true ↔ f.name ∈ fragNames pre := by simp [inv.names f.name]
    rw [hown] at hcol
    refine ⟨fun n => ?_, ?_⟩
    · rw [buildDef_frag_doc, hown, e]
      by_cases hc : (st.doc.frags.any fun g => g.name == f.name) = true
      · rw [if_pos hc, if_neg (by simp), inv.names n]
        by_cases hm : n = f.name <;> simp [hm, hdup.mp hc]
      · rw [if_neg hc, if_pos rfl]
        simp only [List.any_append, List.any_cons, List.any_nil, Bool.or_false, inv.names n]
        by_cases hm : n = f.name
        · simp [hm]
        · simp [hm, Ne.symm hm]
    · rw [hcol, e, nodup_snoc, inv.col, ← hdup, Classical.not_and_iff_not_or_not, Classical.not_not]
      split <;> simp [*]
theorem frag_fold (s : Option Schema) (l : Ast) (st : BuildState) (pre : Ast) (inv : FragInv st pre)
    (hb : ∀ d ∈ l, ∀ f, d = .frag f → ∀ sc, s = some sc → (sc.kind f.tc).isSome = true) :
    FragInv (l.foldl (buildDef s) st) (pre ++ l) :=
  foldl_snoc_inv (buildDef s) FragInv l st pre inv fun st pre d hd inv => frag_step s st pre d inv (hb d hd)

/-- §5.5.1.1 Fragment Name Uniqueness: `FragmentNameCollision` is reported iff two fragment definitions
    have the same name (for documents whose fragment type conditions all name defined types — always,
    without a schema; an undefined one is `UndefinedTypeInNamedFragmentTypeCondition`, §5.5.1.2) -/
theorem fragment_name_uniqueness_iff (s : Option Schema) (ast : Ast) (h : AllFragsBuild s ast) :
    Diag.fragmentNameCollision ∈ (build s ast).diags ↔ ¬ FragmentNamesUnique ast := by
  have := frag_fold s ast {} [] ⟨by intro n; simp [fragNames, fragsOf], by simp [fragNames, fragsOf]⟩ (by
    intro d hd f hf sc hs
    apply h f _ sc hs
    subst hf
    simp only [fragsOf, List.mem_filterMap]
    exact ⟨.frag f, hd, rfl⟩)
  simpa [build, FragmentNamesUnique] using this.col

end Apollo.Standalone.Rules
