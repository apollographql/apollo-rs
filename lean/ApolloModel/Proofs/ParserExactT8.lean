import ApolloModel.Proofs.ParserExactT7
import ApolloModel.Proofs.ParserExactS14
/-
C05, exact soundness for the type-system family: `scalar`, `enum`, `input` definitions in the `DefSound` shape of
ParserExactS14 (the fields `DefExact.scalar`, `.enumDef`, `.input`).
-/
set_option linter.unusedSimpArgs false
namespace Apollo.Parse.Exact
open Apollo.Rowan hiding Str
open Apollo.Lex hiding Str

/-- **scalar type definition**, exact: entered by the dispatcher, an error-free run consumed `(.scalar desc nm ds).toks`
    with the directives within the budget of the start state -/
theorem scalarDef_sound (n : Nat) : DefSound (DStart "scalar".toList) (scalarTypeDefinition n) := by
  intro s s' w he hq hr hnd
  rw [scalarTypeDefinition_eq] at hr
  have c := defNode_sound "SCALAR_TYPE_DEFINITION" "scalar" "scalar_KW" kwWord_scalar n (optDirsEnd n)
    (fun b _ x => ∃ ds, x = Ast.tDirectives ds ∧ dirsFit true b ds) (good_optDirsEnd n)
    (fun q q' wq heq hrq hndq => optDirsEnd_sound n q q' wq heq hrq hndq) s s' w he hq.1 hq.2 hr hnd
  obtain ⟨cs, x, a, b, e, d, desc, nm, x2, rfl, ds, rfl, hds⟩ := c
  exact ⟨cs, .loose (.scalar desc nm ds), a, b, e, by simpa [DocItem.toks, LooseDef.toks, scalarToks, kwPart] using d, hds,
    fun q _ ho => ho.elim⟩

theorem good_dirsBody (n : Nat) (body : PI Unit) (gb : Good body) : Good (dirsBody n .lCurly body) :=
  good_dirsBodyK n .lCurly body gb

theorem enumDef_sound (n : Nat) : DefSound (DStart "enum".toList) (enumTypeDefinition n) := by
  refine defSound_of_loose _ _ ?_
  intro s s' w he hq hs hr hnd
  rw [enumTypeDefinition_eq'] at hr
  have gb : Good (enumValuesDefinition n) := (acc_enumValuesDefinition n).1
  have hset := defNode_settled "ENUM_TYPE_DEFINITION" "enum" "enum_KW" n _ (good_dirsBody n _ gb)
    (sp_dirsBody n .lCurly _ gb (se_enumValuesDefinition n).sp) s s' w hr hnd
  have c := defNode_sound "ENUM_TYPE_DEFINITION" "enum" "enum_KW" kwWord_enum n (dirsBody n .lCurly (enumValuesDefinition n))
    (fun b cur x => ∃ ds x2, x = Ast.tDirectives ds ++ x2 ∧ dirsFit true b ds ∧
      (LEnumVals b x2 ∨ (x2 = [] ∧ ∀ t, cur = some t → t.kind ≠ .lCurly))) (good_dirsBody n _ gb)
    (fun q q' wq heq hrq hndq => dirsBody_sound n _ LEnumVals gb
      (fun q1 q2 t rest w1 he1 ht hk h1 hnd1 => enumValuesDefinition_sound n q1 q2 t rest w1 he1 ht hk h1 hnd1) q q' wq heq hrq hndq)
    s s' w he hq hs hr hnd
  obtain ⟨cs, x, a, b, e, d, desc, nm, x2, rfl, ds, x3, rfl, hds, hor⟩ := c
  rcases hor with ⟨vs, hne, rfl, hvs⟩ | ⟨rfl, hcur⟩
  · refine ⟨cs, .enum desc nm ds vs, a, b, e, ?_, ⟨hds, hvs⟩, hset, ?_⟩
    · simpa [LooseDef.toks, enumToks, kwPart, Ast.tEnumBody, List.append_assoc] using d
    · intro ho; exact absurd ho hne
  · refine ⟨cs, .enum desc nm ds [], a, b, e, ?_, ⟨hds, by intro v hv; cases hv⟩, hset, fun _ => hcur⟩
    simpa [LooseDef.toks, enumToks, kwPart, Ast.tEnumBody, Ast.tBraced, List.append_assoc] using d

theorem inputDef_sound (n : Nat) : DefSound (DStart "input".toList) (inputObjectTypeDefinition n) := by
  refine defSound_of_loose _ _ ?_
  intro s s' w he hq hs hr hnd
  rw [inputObjectTypeDefinition_eq'] at hr
  have gb : Good (inputFieldsDefinition n) := (acc_inputFieldsDefinition n).1
  have hset := defNode_settled "INPUT_OBJECT_TYPE_DEFINITION" "input" "input_KW" n _ (good_dirsBody n _ gb)
    (sp_dirsBody n .lCurly _ gb (se_inputFieldsDefinition n).sp) s s' w hr hnd
  have c := defNode_sound "INPUT_OBJECT_TYPE_DEFINITION" "input" "input_KW" kwWord_input n (dirsBody n .lCurly (inputFieldsDefinition n))
    (fun b cur x => ∃ ds x2, x = Ast.tDirectives ds ++ x2 ∧ dirsFit true b ds ∧
      (LInputFields b x2 ∨ (x2 = [] ∧ ∀ t, cur = some t → t.kind ≠ .lCurly))) (good_dirsBody n _ gb)
    (fun q q' wq heq hrq hndq => dirsBody_sound n _ LInputFields gb
      (fun q1 q2 t rest w1 he1 ht hk h1 hnd1 => inputFieldsDefinition_sound n q1 q2 t rest w1 he1 ht hk h1 hnd1) q q' wq heq hrq hndq)
    s s' w he hq hs hr hnd
  obtain ⟨cs, x, a, b, e, d, desc, nm, x2, rfl, ds, x3, rfl, hds, hor⟩ := c
  rcases hor with ⟨vs, hne, rfl, hvs⟩ | ⟨rfl, hcur⟩
  · refine ⟨cs, .input desc nm ds vs, a, b, e, ?_, ⟨hds, hvs⟩, hset, ?_⟩
    · simpa [LooseDef.toks, inputToks, kwPart, Ast.tInputBody, List.append_assoc] using d
    · intro ho; exact absurd ho hne
  · refine ⟨cs, .input desc nm ds [], a, b, e, ?_, ⟨hds, by intro v hv; cases hv⟩, hset, fun _ => hcur⟩
    simpa [LooseDef.toks, inputToks, kwPart, Ast.tInputBody, Ast.tBraced, List.append_assoc] using d

end Apollo.Parse.Exact
