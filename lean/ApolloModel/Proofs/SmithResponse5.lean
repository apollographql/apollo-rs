import ApolloModel.Proofs.SmithResponse4
/-
C33: fuel sufficiency of `collect_fields` for acyclic fragment tables, and the assembled comparison with the
specification's CollectFields (`collect_vs_spec`).
-/
namespace Apollo.Smith

mutual
/-- number of list cells `collect_fields` walks at this level (field sub-selections belong to the next level) -/
def Sel.sz : Sel → Nat
  | .field _ _ _ _ _ => 0
  | .spread _ => 0
  | .inline _ sub => sub.sz
def Sels.sz : Sels → Nat
  | .nil => 1
  | .cons s tl => 1 + s.sz + tl.sz
end

theorem le_foldl_max (l : List Nat) : ∀ (a : Nat), a ≤ l.foldl max a ∧ ∀ x ∈ l, x ≤ l.foldl max a := by
  induction l with
  | nil => intro a; simp
  | cons y l ih =>
    intro a
    obtain ⟨h1, h2⟩ := ih (max a y)
    refine ⟨by simp only [List.foldl_cons]; omega, ?_⟩
    intro x hx
    simp only [List.foldl_cons]
    rcases List.mem_cons.mp hx with e | e
    · subst e; omega
    · exact h2 x e

def maxFragSz (frags : Fragments) : Nat := (frags.map (·.2.2.sz)).foldl max 0

theorem frag_sz_le (frags : Fragments) (n cond : Name) (fsels : Sels) (h : frags.get? n = some (cond, fsels)) :
    fsels.sz ≤ maxFragSz frags := by
  unfold Fragments.get? at h
  cases hf : frags.find? (·.1 == n) with
  | none => rw [hf] at h; cases h
  | some e =>
    rw [hf] at h
    simp only [Option.map_some, Option.some.injEq] at h
    have hm := List.mem_of_find?_eq_some hf
    have : e.2.2.sz ∈ frags.map (·.2.2.sz) := List.mem_map.mpr ⟨e, hm, rfl⟩
    have := (le_foldl_max (frags.map (·.2.2.sz)) 0).2 _ this
    rw [h] at this
    exact this

def rankBound (rank : Name → Nat) (sels : Sels) : Nat := (sels.spreads.map rank).foldl max 0 + 1

theorem rank_lt_bound (rank : Name → Nat) (sels : Sels) : ∀ m ∈ sels.spreads, rank m < rankBound rank sels := by
  intro m hm
  have := (le_foldl_max (sels.spreads.map rank) 0).2 (rank m) (List.mem_map.mpr ⟨m, hm, rfl⟩)
  unfold rankBound; omega

/-- the fuel that always suffices for an acyclic fragment table -/
def collectFuel (frags : Fragments) (rank : Name → Nat) (sels : Sels) : Nat :=
  sels.sz + rankBound rank sels * maxFragSz frags

theorem modelFlat_total (s : Schema) (frags : Fragments) (c : Name) (rank : Name → Nat) (hac : Acyclic frags rank) :
    ∀ (B n : Nat) (sels : Sels) (f : Nat), sels.sz ≤ n → (∀ m ∈ sels.spreads, rank m < B) →
      sels.sz + B * maxFragSz frags ≤ f → ∃ l, modelFlat s frags c f sels = some l := by
  intro B
  induction B using Nat.strongRecOn with
  | _ B ihB =>
    intro n
    induction n with
    | zero =>
      intro sels f hn _ _
      cases sels <;> simp [Sels.sz] at hn
    | succ n ihn =>
      intro sels f hn hB hf
      cases sels with
      | nil =>
        cases f with
        | zero => simp [Sels.sz] at hf
        | succ f => exact ⟨[], by simp [modelFlat]⟩
      | cons sel tl =>
        simp only [Sels.sz] at hn hf
        cases f with
        | zero => omega
        | succ f =>
          rw [modelFlat_cons]
          have hBtl : ∀ m ∈ tl.spreads, rank m < B := fun m hm' => hB m (by simp [Sels.spreads, hm'])
          obtain ⟨ltl, htl⟩ := ihn tl f (by omega) hBtl (by omega)
          rw [htl]
          cases sel with
          | field alias name ty subTy sub => exact ⟨_, rfl⟩
          | spread name =>
            simp only
            cases hfr : frags.get? name with
            | none => exact ⟨_, rfl⟩
            | some p =>
              obtain ⟨cond, fsels⟩ := p
              simp only
              split
              · have hrk : rank name < B := hB name (by simp [Sels.spreads, Sel.spreads])
                have hsz := frag_sz_le frags name cond fsels hfr
                have hmul : (rank name + 1) * maxFragSz frags ≤ B * maxFragSz frags := Nat.mul_le_mul_right _ hrk
                rw [Nat.succ_mul] at hmul
                obtain ⟨lf, hlf⟩ := ihB (rank name) hrk fsels.sz fsels f (Nat.le_refl _) (hac name cond fsels hfr) (by omega)
                rw [hlf]; exact ⟨_, rfl⟩
              · exact ⟨_, rfl⟩
          | inline tc sub =>
            have hBsub : ∀ m ∈ sub.spreads, rank m < B := fun m hm' => hB m (by simp [Sels.spreads, Sel.spreads, hm'])
            simp only [Sel.sz] at hn hf
            obtain ⟨lsub, hsub⟩ := ihn sub f (by omega) hBsub (by omega)
            cases tc with
            | none => simp only [if_true]; rw [hsub]; exact ⟨_, rfl⟩
            | some c1 =>
              simp only
              split
              · rw [hsub]; exact ⟨_, rfl⟩
              · exact ⟨_, rfl⟩

theorem collectFields_total (s : Schema) (frags : Fragments) (c : Name) (rank : Name → Nat) (hac : Acyclic frags rank)
    (sels : Sels) (f : Nat) (hf : collectFuel frags rank sels ≤ f) : ∃ g, collectFields s frags c f sels = some g := by
  obtain ⟨l, hl⟩ := modelFlat_total s frags c rank hac (rankBound rank sels) sels.sz sels f (Nat.le_refl _)
    (rank_lt_bound rank sels) hf
  have := collectFields_agree s frags c f sels
  rw [hl] at this
  cases hc : collectFields s frags c f sels with
  | none => rw [hc] at this; exact absurd this (by simp [Agree])
  | some g => exact ⟨g, rfl⟩

/-- **the comparison**: same response keys in the same order; per key, the specification's list is the
    builder's list without repeats of fields that were already collected -/
theorem collect_vs_spec (s : Schema) (hnd : (s.map (·.1)).Nodup) (frags : Fragments) (rank : Name → Nat)
    (hac : Acyclic frags rank) (concrete : Name) (impls : List Name) (hc : s.get? concrete = some (.object impls))
    (sels : Sels) (fm fs : Nat) (g gs : Grouped) (v : List Name)
    (hm : collectFields s frags concrete fm sels = some g)
    (hs : specCollectFields s frags concrete fs [] [] sels = some (gs, v)) :
    g.keys = gs.keys ∧ ∀ k, Redundant [] (g.get k) (gs.get k) := by
  have a1 := collectFields_agree s frags concrete fm sels
  have a2 := specCollect_agree s frags concrete fs [] [] sels List.nodup_nil
  rw [hm] at a1
  rw [hs] at a2
  cases hlm : modelFlat s frags concrete fm sels with
  | none => rw [hlm] at a1; exact absurd a1 (by simp [Agree])
  | some lm =>
    cases hls : specFlat s frags concrete fs [] sels with
    | none => rw [hls] at a2; exact absurd a2 (by simp [SAgree])
    | some r =>
      obtain ⟨ls, v'⟩ := r
      rw [hlm] at a1
      rw [hls] at a2
      obtain ⟨_, k1, g1⟩ := a1
      obtain ⟨_, _, k2, g2⟩ := a2
      have hmatch : ∀ cond, typeConditionMatches s cond concrete = doesFragmentTypeApply s concrete cond :=
        fun cond => typeConditionMatches_eq_apply s hnd cond concrete impls hc
      obtain ⟨hr, _⟩ := flat_related s frags concrete rank hac hmatch fs (rankBound rank sels) [] [] sels fm ls v' lm
        (rank_lt_bound rank sels) (fun n hn => by cases hn) hls hlm
      constructor
      · rw [k1, k2]
        exact redundant_keys hr [] (fun x hx => by cases hx)
      · intro k
        rw [g1 k, g2 k, get_nil, List.nil_append]
        have := (hr.filter (fun e => e.1 == k)).map (·.2)
        simpa [flatGet] using this

end Apollo.Smith
