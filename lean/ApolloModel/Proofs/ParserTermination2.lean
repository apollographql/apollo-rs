import ApolloModel.Proofs.ParserTermination
/-
C01, termination of grammar code: the judgement `Term`, its closure under sequencing and under the node,
recursion-limit and checkpoint combinators, the `peek_while` loops, and `TB`, the state-free form of
"terminates" in which straight-line grammar code is derived. Then the first two grammar families:
ty.rs with the entry point `Parser::parse_type`, and value.rs (value / list_value / object_value /
object_field, mutually recursive) with the consumption post-conditions their loop bodies need.
-/
set_option linter.unusedSimpArgs false
set_option linter.unusedVariables false
namespace Apollo.Parse
open Apollo.Rowan hiding Str
open Apollo.Lex hiding Str

/-! ### termination predicate for grammar code (panics are excluded separately, by `PI.ok`) -/

/-- `Term` as a property of the outcome `r` of a run started in `s` -/
def After {α : Type} (s : PState) (Q : α → Option Tok → LexSt → Prop) (r : Res α) : Prop :=
  (∀ w, r ≠ .abort w) ∧ ∀ a s', r = .ok a s' → W s' ∧ Mono s s' ∧ Keep s s' ∧ Q a s'.current s'.lx

theorem After.panic {α : Type} {s : PState} {Q : α → Option Tok → LexSt → Prop} {msg : String} :
    After s Q (.panic msg) :=
  ⟨fun _ h => (nomatch h), fun _ _ h => (nomatch h)⟩

theorem After.ok {α : Type} {s s' : PState} {Q : α → Option Tok → LexSt → Prop} {a : α}
    (hc : s'.current = s.current) (hl : s'.lx = s.lx) (hw : W s) (hq : Q a s'.current s'.lx) :
    After s Q (.ok a s') := by
  refine ⟨fun _ h => (nomatch h), fun b s2 h => ?_⟩
  cases h
  exact ⟨W_congr hc hl hw, Mono_congr hc hl, Keep_congr hc hl, hq⟩

theorem After.start {α : Type} {s s1 : PState} (hc : s1.current = s.current) (hl : s1.lx = s.lx)
    {Q : α → Option Tok → LexSt → Prop} {r : Res α} (h : After s1 Q r) : After s Q r :=
  ⟨h.1, fun a s' hr =>
    let t := h.2 a s' hr
    ⟨t.1, (Mono_congr hc hl).trans t.2.1, (Keep_congr hc hl).trans (Mono_congr hc hl) t.2.2.1 t.2.1, t.2.2.2⟩⟩

/-- a normal end is handed to `g`, an abort or a panic is passed on: the shape of `>>=` and of the
    node, recursion-limit and checkpoint combinators -/
def Res.andThen {α β : Type} (r : Res α) (g : α → PState → Res β) : Res β :=
  match r with
  | .ok a s => g a s
  | .abort w => .abort w
  | .panic msg => .panic msg

/-- the one place where an outcome is taken apart -/
theorem After.bind {α β : Type} {s : PState} {Q : α → Option Tok → LexSt → Prop}
    {Q' : β → Option Tok → LexSt → Prop} {r : Res α} (h : After s Q r) {g : α → PState → Res β}
    (hg : ∀ a s1, W s1 → Mono s s1 → Keep s s1 → Q a s1.current s1.lx → After s1 Q' (g a s1)) :
    After s Q' (r.andThen g) := by
  cases r with
  | ok a s1 =>
    obtain ⟨hw1, hm1, hk1, hq1⟩ := h.2 a s1 rfl
    obtain ⟨hna, hok⟩ := hg a s1 hw1 hm1 hk1 hq1
    refine ⟨hna, fun b s2 hr2 => ?_⟩
    obtain ⟨hw2, hm2, hk2, hq2⟩ := hok b s2 hr2
    exact ⟨hw2, hm1.trans hm2, hk1.trans hm1 hk2 hm2, hq2⟩
  | abort w => exact absurd rfl (h.1 w)
  | panic msg => exact After.panic

def Term {α : Type} (m : PI α) (s : PState) (Q : α → Option Tok → LexSt → Prop) : Prop :=
  (∀ w, m.run s ≠ .abort w) ∧
  ∀ a s', m.run s = .ok a s' → W s' ∧ Mono s s' ∧ Keep s s' ∧ Q a s'.current s'.lx

theorem Run.term {α : Type} {m : PI α} {s : PState} {Q : α → Option Tok → LexSt → Prop} (h : Run m s Q) :
    Term m s Q := by
  obtain ⟨a, s', hr, hw, hm, hk, hq⟩ := h
  refine ⟨fun w => by rw [hr]; simp, ?_⟩
  intro a2 s2 hr2
  rw [hr] at hr2
  cases hr2
  exact ⟨hw, hm, hk, hq⟩

/-- the rule of consequence; the new post-condition may use everything a normal end guarantees -/
theorem Term.post {α : Type} {m : PI α} {s : PState} {Q Q' : α → Option Tok → LexSt → Prop} (h : Term m s Q)
    (hq : ∀ a s', W s' → Mono s s' → Keep s s' → Q a s'.current s'.lx → Q' a s'.current s'.lx) : Term m s Q' :=
  ⟨h.1, fun a s' hr => let r := h.2 a s' hr; ⟨r.1, r.2.1, r.2.2.1, hq a s' r.1 r.2.1 r.2.2.1 r.2.2.2⟩⟩

theorem Term.weaken {α : Type} {m : PI α} {s : PState} {Q Q' : α → Option Tok → LexSt → Prop}
    (h : Term m s Q) (hq : ∀ a c l, Q a c l → Q' a c l) : Term m s Q' :=
  h.post fun a _ _ _ _ => hq a _ _

theorem Term.of_run_eq {α : Type} {m m' : PI α} {s : PState} {Q : α → Option Tok → LexSt → Prop}
    (h : m'.run s = m.run s) (ht : Term m s Q) : Term m' s Q := by
  unfold Term
  rw [h]
  exact ht

theorem term_pure {α : Type} (a : α) (s : PState) (hw : W s) {Q : α → Option Tok → LexSt → Prop}
    (hq : Q a s.current s.lx) : Term (pure a : PI α) s Q := (run_pure' a s hw hq).term

theorem term_bind {α β : Type} {m : PI α} {f : α → PI β} {s : PState}
    {Q1 : α → Option Tok → LexSt → Prop} {Q : β → Option Tok → LexSt → Prop}
    (h1 : Term m s Q1)
    (h2 : ∀ a s1, W s1 → Mono s s1 → Keep s s1 → Q1 a s1.current s1.lx → Term (f a) s1 Q) :
    Term (m >>= f) s Q :=
  After.bind (g := fun a s1 => (f a).run s1) h1 h2

theorem withNode_term {α : Type} (kind : SK) (body : PI α) (s : PState) (hw : W s)
    {Q : α → Option Tok → LexSt → Prop}
    (h : ∀ s1, W s1 → s1.current = s.current → s1.lx = s.lx → Term (skipIgnored >>= fun _ => body) s1 Q) :
    Term (withNode kind body) s Q := by
  have e1 : pushIgnored.run s = .ok () { s with builder := { s.builder with children := s.builder.children ++ s.pending.map pendingElem }, pending := [] } := rfl
  generalize hs1 : rawStartNode kind { s with builder := { s.builder with children := s.builder.children ++ s.pending.map pendingElem }, pending := [] } = s1 at *
  have hc1 : s1.current = s.current := by rw [← hs1]; rfl
  have hl1 : s1.lx = s.lx := by rw [← hs1]; rfl
  have hrun : (withNode kind body).run s = ((skipIgnored >>= fun _ => body).run s1).andThen fun a s2 =>
      match s2.builder.finishNode with
      | some b => .ok a { s2 with builder := b }
      | none => .panic "finish_node: no open node" := by
    simp only [withNode, e1, hs1]
    rfl
  show After s Q _
  rw [hrun]
  refine After.bind (After.start hc1 hl1 (h s1 (W_congr hc1 hl1 hw) hc1 hl1)) fun a s2 hw2 _ _ hq2 => ?_
  cases s2.builder.finishNode with
  | none => exact After.panic
  | some b => exact After.ok rfl rfl hw2 hq2

theorem withRec_term {α : Type} (onLimit body : PI α) (s : PState) (hw : W s)
    {Q : α → Option Tok → LexSt → Prop}
    (h1 : ∀ s1, W s1 → s1.current = s.current → s1.lx = s.lx → Term onLimit s1 Q)
    (h2 : ∀ s1, W s1 → s1.current = s.current → s1.lx = s.lx → Term body s1 Q) :
    Term (withRec onLimit body) s Q := by
  by_cases hlim : s.recCur + 1 > s.recLimit
  · generalize hs1 : ({ s with recHigh := if s.recCur + 1 > s.recHigh then s.recCur + 1 else s.recHigh } : PState) = s1
    have hc1 : s1.current = s.current := by rw [← hs1]
    have hl1 : s1.lx = s.lx := by rw [← hs1]
    have hrun : (withRec onLimit body).run s = onLimit.run s1 := by
      simp only [withRec, hlim, if_true, hs1]
    show After s Q _
    rw [hrun]
    exact After.start hc1 hl1 (h1 s1 (W_congr hc1 hl1 hw) hc1 hl1)
  · generalize hs1 : ({ s with recCur := s.recCur + 1, recHigh := if s.recCur + 1 > s.recHigh then s.recCur + 1 else s.recHigh } : PState) = s1
    have hc1 : s1.current = s.current := by rw [← hs1]
    have hl1 : s1.lx = s.lx := by rw [← hs1]
    have hrun : (withRec onLimit body).run s = (body.run s1).andThen fun a s' =>
        if s'.recCur = 0 then .panic "recursion_limit.decrement: underflow" else .ok a { s' with recCur := s'.recCur - 1 } := by
      simp only [withRec, hlim, if_false, hs1]
      rfl
    show After s Q _
    rw [hrun]
    refine After.bind (After.start hc1 hl1 (h2 s1 (W_congr hc1 hl1 hw) hc1 hl1)) fun a s2 hw2 _ _ hq2 => ?_
    split
    · exact After.panic
    · exact After.ok rfl rfl hw2 hq2

theorem wrapIf_term {α : Type} (kind : SK) (body : PI α) (cond : α → PI Bool) (inner : PI Unit) (s : PState) (hw : W s)
    {Q1 : α × Bool → Option Tok → LexSt → Prop} {Q : α → Option Tok → LexSt → Prop}
    (hb : ∀ s1, W s1 → s1.current = s.current → s1.lx = s.lx →
      Term (body >>= fun a => cond a >>= fun c => pure (a, c)) s1 Q1)
    (hin : ∀ a s2, W s2 → Mono s s2 → Keep s s2 → Q1 (a, true) s2.current s2.lx → Term inner s2 (fun _ c l => Q a c l))
    (hfalse : ∀ a c l, Q1 (a, false) c l → Q a c l) :
    Term (wrapIf kind body cond inner) s Q := by
  have e1 : pushIgnored.run s = .ok () { s with builder := { s.builder with children := s.builder.children ++ s.pending.map pendingElem }, pending := [] } := rfl
  generalize hs1 : ({ s with builder := { s.builder with children := s.builder.children ++ s.pending.map pendingElem }, pending := [] } : PState) = s1 at *
  have hc1 : s1.current = s.current := by rw [← hs1]
  have hl1 : s1.lx = s.lx := by rw [← hs1]
  have hrun : (wrapIf kind body cond inner).run s =
      ((body >>= fun a => cond a >>= fun c => pure (a, c)).run s1).andThen fun ac s2 =>
        if ac.2 then
          match s2.builder.startNodeAt s1.builder.checkpoint kind with
          | none => .panic "start_node_at: checkpoint no longer valid"
          | some b =>
            (inner.run { s2 with builder := b }).andThen fun _ s3 =>
              match s3.builder.finishNode with
              | some b' => .ok ac.1 { s3 with builder := b' }
              | none => .panic "finish_node: no open node"
        else .ok ac.1 s2 := by
    simp only [wrapIf, e1]
    cases (body >>= fun a => cond a >>= fun c => pure (a, c)).run s1 with
    | ok ac s2 =>
      obtain ⟨a, c⟩ := ac
      cases c with
      | false => rfl
      | true =>
        simp only [Res.andThen, if_true]
        cases s2.builder.startNodeAt s1.builder.checkpoint kind with
        | none => rfl
        | some b => simp only []; cases inner.run { s2 with builder := b } <;> rfl
    | abort w => rfl
    | panic m => rfl
  show After s Q _
  rw [hrun]
  refine After.bind (After.start hc1 hl1 (hb s1 (W_congr hc1 hl1 hw) hc1 hl1)) fun ac s2 hw2 hm2 hk2 hq2 => ?_
  obtain ⟨a, c⟩ := ac
  cases c with
  | false => exact After.ok rfl rfl hw2 (hfalse a _ _ hq2)
  | true =>
    simp only [if_true]
    cases s2.builder.startNodeAt s1.builder.checkpoint kind with
    | none => exact After.panic
    | some b =>
      -- `inner` runs from `s2` with the wrapping node opened; the guard's `finish_node` follows
      have hin2 : Term inner { s2 with builder := b } (fun _ c l => Q a c l) :=
        hin a _ (W_congr (s := s2) rfl rfl hw2) (hm2.trans (Mono_congr rfl rfl))
          (hk2.trans hm2 (Keep_congr rfl rfl) (Mono_congr rfl rfl)) hq2
      refine After.bind (After.start (s := s2) rfl rfl hin2) fun _ s3 hw3 _ _ hq3 => ?_
      cases s3.builder.finishNode with
      | none => exact After.panic
      | some b' => exact After.ok rfl rfl hw3 hq3

/-! ### termination alone -/

abbrev Any {α : Type} : α → Option Tok → LexSt → Prop := fun _ _ _ => True

abbrev TA {α : Type} (m : PI α) (s : PState) : Prop := Term m s Any

theorem ta_of {α : Type} {m : PI α} {s : PState} {Q : α → Option Tok → LexSt → Prop} (h : Term m s Q) : TA m s :=
  h.weaken (fun _ _ _ _ => trivial)

theorem ta_bind {α β : Type} {m : PI α} {f : α → PI β} {s : PState}
    (h1 : TA m s) (h2 : ∀ a s1, W s1 → Mm s1 ≤ Mm s → TA (f a) s1) : TA (m >>= f) s :=
  term_bind h1 (fun a s1 hw1 hm1 _ _ => h2 a s1 hw1 hm1.1)

theorem ta_pure {α : Type} (a : α) (s : PState) (hw : W s) : TA (pure a : PI α) s := term_pure a s hw trivial

theorem term_ite {α : Type} {c : Prop} [Decidable c] {x y : PI α} {s : PState} {Q : α → Option Tok → LexSt → Prop}
    (hx : c → Term x s Q) (hy : ¬c → Term y s Q) : Term (if c then x else y) s Q := by
  split
  · exact hx ‹_›
  · exact hy ‹_›

theorem cur_of_kind {k : Option Kind} {kind : Kind} {s : PState} (hk : k = s.current.map (·.kind)) (h : k = some kind) :
    ∃ t, s.current = some t ∧ t.kind = kind := by
  rw [h] at hk
  cases hc : s.current with
  | none => rw [hc] at hk; simp at hk
  | some t => rw [hc] at hk; simp at hk; exact ⟨t, rfl, hk.symm⟩

/-! ### loops: no `stuck`, fuel `Mm s + 1` suffices -/

theorem beq_current_false {a b : Option Tok} (h : b ≠ a) : (a == b) = false := by
  cases hab : (a == b) with
  | false => rfl
  | true => exact absurd (beq_iff_eq.mp hab).symm h

theorem ta_peek_cases {β : Type} {f : Option Kind → PI β} {s : PState} (hw : W s)
    (hnone : ∀ s1, W s1 → TA (f none) s1)
    (hsome : ∀ kind s1, W s1 → Mm s1 ≤ Mm s → (∃ t, s1.current = some t ∧ t.kind = kind) → TA (f (some kind)) s1) :
    TA (peek >>= f) s :=
  term_bind (peek_run' s hw).term fun k s1 hw1 hm1 _ hq1 => by
    cases k with
    | none => exact hnone s1 hw1
    | some kind => exact hsome kind s1 hw1 hm1.1 (cur_of_kind hq1.1 rfl)

/-- One iteration of a `peek_while` loop, entered on a current token: the body runs between two reads
    of `current`. Where it asks to go on it has made progress, and `Phi` is a function of the current
    token, so the progress assertion holds and what follows runs with fewer tokens left. -/
theorem iteration_term {α β : Type} {body : PI α} {cont : α → Bool} {next stop : α → PI β} {s : PState}
    (hw : W s) (hs : ∃ t, s.current = some t)
    (hbody : Term body s (fun a c l => cont a = true → StrictT s c l))
    (hnext : ∀ a s', W s' → Mm s' < Mm s → TA (next a) s')
    (hstop : ∀ a s', W s' → TA (stop a) s') :
    TA (getCurrent >>= fun before => body >>= fun a =>
      if cont a = true then getCurrent >>= fun after => if (before == after) = true then PI.stuck else next a
      else stop a) s := by
  refine Term.of_run_eq (m := body >>= fun a =>
    if cont a = true then getCurrent >>= fun after => if (s.current == after) = true then PI.stuck else next a
    else stop a) rfl ?_
  refine term_bind hbody fun a s1 hw1 _ _ hq1 => term_ite (fun hc => ?_) (fun _ => hstop a s1 hw1)
  have hst : Strict s s1 := hq1 hc
  have hne : s1.current ≠ s.current := strict_current_ne hst (by obtain ⟨t, ht⟩ := hs; rw [ht]; rfl)
  refine Term.of_run_eq (m := if (s.current == s1.current) = true then PI.stuck else next a) rfl ?_
  rw [beq_current_false hne]
  exact hnext a s1 hw1 hst.1

theorem peekWhileLoop_term (body : Kind → PI Bool) : ∀ (fuel : Nat) (s : PState), W s → Mm s + 1 ≤ fuel →
    (∀ kind s1, W s1 → Mm s1 ≤ Mm s → (∃ t, s1.current = some t ∧ t.kind = kind) →
      Term (body kind) s1 (fun b c l => b = true → StrictT s1 c l)) →
    Term (peekWhileLoop body fuel) s (fun _ _ _ => True)
  | 0, s, _, h, _ => by omega
  | fuel + 1, s, hw, hf, hbody => by
    unfold peekWhileLoop
    refine ta_peek_cases hw (fun s1 hw1 => ta_pure _ s1 hw1) fun kind s1 hw1 hM1 hcur => ?_
    exact iteration_term (cont := id) hw1 (by obtain ⟨t, ht, _⟩ := hcur; exact ⟨t, ht⟩) (hbody kind s1 hw1 hM1 hcur)
      (fun _ s2 hw2 hM2 => peekWhileLoop_term body fuel s2 hw2 (by omega)
        fun kind' s3 hw3 hM3 hc3 => hbody kind' s3 hw3 (by omega) hc3)
      (fun _ s2 hw2 => ta_pure _ s2 hw2)

theorem peekWhile_term (body : Kind → PI Bool) (s : PState) (hw : W s)
    (hbody : ∀ kind s1, W s1 → Mm s1 ≤ Mm s → (∃ t, s1.current = some t ∧ t.kind = kind) →
      Term (body kind) s1 (fun b c l => b = true → StrictT s1 c l)) :
    Term (peekWhile body) s (fun _ _ _ => True) := by
  unfold peekWhile
  apply term_bind (srcLen_run s hw).term
  intro n s1 hw1 hm1 hk1 hq1
  obtain ⟨rfl, hc, hl⟩ := hq1
  have hM : Mm s1 = Mm s := Mm_congr hc hl
  exact peekWhileLoop_term body _ s1 hw1 (by have := Mm_le s; omega)
    (fun kind s2 hw2 hM2 hc2 => hbody kind s2 hw2 (by omega) hc2)

theorem peekWhileKindLoop_term (expectK : Kind) (body : PI Unit) : ∀ (fuel : Nat) (s : PState), W s → Mm s + 1 ≤ fuel →
    (∀ s1, W s1 → Mm s1 ≤ Mm s → (∃ t, s1.current = some t ∧ t.kind = expectK) →
      Term body s1 (fun _ c l => StrictT s1 c l)) →
    Term (peekWhileKindLoop expectK body fuel) s (fun _ _ _ => True)
  | 0, s, _, h, _ => by omega
  | fuel + 1, s, hw, hf, hbody => by
    unfold peekWhileKindLoop
    refine ta_peek_cases hw (fun s1 hw1 => ta_pure _ s1 hw1) fun kind s1 hw1 hM1 hcur => ?_
    refine term_ite (fun _ => ta_pure _ s1 hw1) fun hkk => ?_
    have hke : kind = expectK := by simpa using hkk
    exact iteration_term (cont := fun _ => true) (stop := fun _ => pure ()) hw1
      (by obtain ⟨t, ht, _⟩ := hcur; exact ⟨t, ht⟩)
      ((hbody s1 hw1 hM1 (hke ▸ hcur)).weaken fun _ _ _ h _ => h)
      (fun _ s2 hw2 hM2 => peekWhileKindLoop_term expectK body fuel s2 hw2 (by omega)
        fun s3 hw3 hM3 hc3 => hbody s3 hw3 (by omega) hc3)
      (fun _ s2 hw2 => ta_pure _ s2 hw2)

theorem peekWhileKind_term (expectK : Kind) (body : PI Unit) (s : PState) (hw : W s)
    (hbody : ∀ s1, W s1 → Mm s1 ≤ Mm s → (∃ t, s1.current = some t ∧ t.kind = expectK) →
      Term body s1 (fun _ c l => StrictT s1 c l)) :
    Term (peekWhileKind expectK body) s (fun _ _ _ => True) := by
  unfold peekWhileKind
  apply term_bind (srcLen_run s hw).term
  intro n s1 hw1 hm1 hk1 hq1
  obtain ⟨rfl, hc, hl⟩ := hq1
  have hM : Mm s1 = Mm s := Mm_congr hc hl
  exact peekWhileKindLoop_term expectK body _ s1 hw1 (by have := Mm_le s; omega)
    (fun s2 hw2 hM2 hc2 => hbody s2 hw2 (by omega) hc2)

/-! ### the state-free form: one derivation per continuation -/

/-- `m` terminates from every well-positioned state with at most `B` tokens left. The measure never
    grows along a run, so the judgement is closed under `>>=` without mentioning a state, and the
    fuel inequality of a recursive grammar function is discharged once, against `B`. -/
def TB {α : Type} (B : Nat) (m : PI α) : Prop := ∀ s, W s → Mm s ≤ B → TA m s

section
variable {α β γ : Type} {B : Nat}

theorem TB.mono {m : PI α} {B' : Nat} (h : TB B m) (hle : B' ≤ B) : TB B' m :=
  fun s hw hB => h s hw (Nat.le_trans hB hle)

theorem tb_run {m : PI α} {Q : PState → α → Option Tok → LexSt → Prop} (h : ∀ s, W s → Run m s (Q s)) : TB B m :=
  fun s hw _ => ta_of (h s hw).term

theorem tb_term {m : PI α} {Q : PState → α → Option Tok → LexSt → Prop} (h : ∀ s, W s → Term m s (Q s)) : TB B m :=
  fun s hw _ => ta_of (h s hw)

theorem tb_pure (a : α) : TB B (pure a : PI α) := fun s hw _ => ta_pure a s hw

theorem tb_bind {m : PI α} {f : α → PI β} (h1 : TB B m) (h2 : ∀ a, TB B (f a)) : TB B (m >>= f) :=
  fun s hw hB => ta_bind (h1 s hw hB) (fun a s1 hw1 hM1 => h2 a s1 hw1 (Nat.le_trans hM1 hB))

theorem tb_withNode {kind : SK} {body : PI α} (h : TB B body) : TB B (withNode kind body) :=
  fun s hw hB => withNode_term kind body s hw fun s1 hw1 hc1 hl1 =>
    ta_bind (ta_of (skipIgnored_run s1 hw1).term) fun _ s2 hw2 hM2 =>
      h s2 hw2 (Nat.le_trans hM2 (Nat.le_trans (Nat.le_of_eq (Mm_congr hc1 hl1)) hB))

theorem tb_withRec {onLimit body : PI α} (h1 : TB B onLimit) (h2 : TB B body) : TB B (withRec onLimit body) :=
  fun s hw hB => withRec_term onLimit body s hw
    (fun s1 hw1 hc hl => h1 s1 hw1 (Nat.le_trans (Nat.le_of_eq (Mm_congr hc hl)) hB))
    (fun s1 hw1 hc hl => h2 s1 hw1 (Nat.le_trans (Nat.le_of_eq (Mm_congr hc hl)) hB))

theorem tb_ite {c : Prop} [Decidable c] {x y : PI α} (hx : TB B x) (hy : TB B y) : TB B (if c then x else y) := by
  split
  · exact hx
  · exact hy

/-- `if c then x` in the middle of a do-block: a join point `k` continues both branches. Applied to a
    goal `TB B (have jp := k; if c then x >>= jp else jp ())`, unification unfolds the `have`. -/
theorem tb_opt {c : Prop} [Decidable c] {x : PI Unit} {k : Unit → PI β} (hx : TB B x) (hk : ∀ r, TB B (k r)) :
    TB B (if c then x >>= k else k ()) :=
  tb_ite (tb_bind hx hk) (hk ())

theorem tb_alt {c : Prop} [Decidable c] {x y : PI α} {k : α → PI β} (hx : TB B x) (hy : TB B y)
    (hk : ∀ r, TB B (k r)) : TB B (if c then x >>= k else y >>= k) :=
  tb_ite (tb_bind hx hk) (tb_bind hy hk)

theorem tb_when {look : PI γ} {c : γ → Prop} [∀ l, Decidable (c l)] {x : PI Unit} {k : Unit → PI β}
    (hl : TB B look) (hx : TB B x) (hk : ∀ r, TB B (k r)) : TB B (look >>= fun l => if c l then x >>= k else k ()) :=
  tb_bind hl fun _ => tb_opt hx hk

theorem tb_peek : TB B peek := tb_run peek_run'
theorem tb_peekData : TB B peekData := tb_run peekData_run'
theorem tb_peekToken : TB B peekToken := tb_run peekToken_run'
theorem tb_peekTokenN {n : Nat} : TB B (peekTokenN n) := tb_run (peekTokenN_run n)
theorem tb_bump {k : SK} : TB B (bump k) := tb_run (bump_run k)
theorem tb_err : TB B err := tb_run err_run
theorem tb_limitErr : TB B limitErr := tb_run limitErr_run
theorem tb_errAndPop : TB B errAndPop := tb_run errAndPop_run
theorem tb_expect {t : Kind} {k : SK} : TB B (expect t k) := tb_run (expect_run t k)
theorem tb_pushIgnored : TB B pushIgnored := tb_run pushIgnored_run
theorem tb_eat {k : SK} : TB B (eat k) := tb_run (eat_run k)
theorem tb_skipIgnored : TB B skipIgnored := tb_run skipIgnored_run
theorem tb_popDrop : TB B popDrop := tb_run popDrop_run
theorem tb_errAtToken {t : Tok} : TB B (errAtToken t) := tb_run (errAtToken_run t)

end

/-! ### ty.rs -/

theorem cur_of_peek {s s1 : PState} {kind : Kind}
    (hq : some kind = s1.current.map (·.kind) ∧ Looked s s1.current s1.lx) :
    ∃ t, s1.current = some t ∧ t.kind = kind := cur_of_kind hq.1 rfl

/-- `withNode kind (bump …; rest)` entered with a current token: after the bump the measure dropped -/
theorem strict_after_skip_bump {s1 s2 s3 : PState} (hs : s1.current.isSome = true)
    (hk12 : Keep s1 s2) (hm12 : Mono s1 s2) (hm23 : Mono s2 s3) (hcons : Consumed s2 s3.current s3.lx) :
    Mm s3 < Mm s1 :=
  (keep_then_strict hk12 hm12 hs hcons.1 hm23).1

theorem tyParse_term : ∀ (n : Nat) (s : PState), W s → Mm s + 1 ≤ n → Term (tyParse n) s Any
  | 0, s, _, h => by omega
  | n + 1, s, hw, hn => by
    unfold tyParse
    refine ta_bind ?_ fun r s1 hw1 _ => ?_
    · refine wrapIf_term (Q1 := Any) _ _ _ _ s hw ?_ (fun _ s2 hw2 _ _ _ => ta_of (eat_run "BANG" s2 hw2).term)
        (fun _ _ _ _ => trivial)
      intro s1 hw1 hc1 hl1
      have hM1 : Mm s1 = Mm s := Mm_congr hc1 hl1
      refine ta_bind ?_ fun r s2 hw2 _ => ?_
      · refine ta_peek_cases hw1 (fun s2 hw2 => ta_pure _ s2 hw2) fun kind s2 hw2 hM2 hcur => ?_
        by_cases hlb : kind = .lBracket
        · subst hlb
          -- `[`: the recursive call runs after the bracket is consumed, with fewer tokens left
          obtain ⟨t, ht, _⟩ := hcur
          refine withNode_term _ _ s2 hw2 fun s3 hw3 hc3 hl3 => ?_
          apply term_bind (skipIgnored_run s3 hw3).term
          intro _ s4 hw4 hm4 hk4 _
          apply term_bind (bump_run "L_BRACK" s4 hw4).term
          intro _ s5 hw5 hm5 hk5 hq5
          have hM5 : Mm s5 < Mm s3 := strict_after_skip_bump (by rw [hc3, ht]; rfl) hk4 hm4 hm5 hq5.1
          have hM3 : Mm s3 = Mm s2 := Mm_congr hc3 hl3
          have hexp : TB (Mm s5) (do expect Kind.rBracket "R_BRACK"; pure TyRes.ok) :=
            tb_bind tb_expect fun _ => tb_pure _
          refine (tb_bind (tb_withRec (tb_bind tb_limitErr fun _ => tb_pure _)
            (tb_bind (fun s6 hw6 hM6 => tyParse_term n s6 hw6 (by omega)) fun _ => tb_pure _)) fun inner => ?_)
            s5 hw5 (Nat.le_refl _)
          cases inner with
          | none => exact tb_pure _
          | some res => cases res <;> first | exact hexp | exact tb_bind tb_errAtToken fun _ => hexp
        · by_cases hnm : kind = .name
          · subst hnm
            exact (tb_withNode (tb_withNode (tb_bind tb_eat fun _ => tb_pure _))) s2 hw2 (Nat.le_refl _)
          · -- any other token: popped and dropped
            have hgen : TA (do
                match ← popDrop with
                | some t => pure (TyRes.errTok t)
                | none => pure TyRes.errNone) s2 :=
              (tb_bind tb_popDrop fun r => by cases r <;> exact tb_pure _) s2 hw2 (Nat.le_refl _)
            cases kind <;> first | exact absurd rfl hlb | exact absurd rfl hnm | exact hgen
      · refine (tb_bind ?_ fun _ => tb_pure _) s2 hw2 (Nat.le_refl _)
        cases r <;> first | exact tb_pure _ | exact tb_bind tb_skipIgnored fun _ => tb_bind tb_peek fun _ => tb_pure _
    · cases r <;> first
        | exact ta_pure _ s1 hw1
        | exact (tb_bind tb_skipIgnored fun _ => tb_pure _) s1 hw1 (Nat.le_refl _)

theorem ty_term (n : Nat) (s : PState) (hw : W s) (hn : Mm s + 1 ≤ n) : Term (ty n) s Any := by
  unfold ty
  apply term_bind (tyParse_term n s hw hn)
  intro r s1 hw1 _ _ _
  cases r with
  | errTok t => exact (errAtToken_run t s1 hw1).term.weaken (fun _ _ _ _ => trivial)
  | errNone => exact (err_run s1 hw1).term.weaken (fun _ _ _ _ => trivial)
  | ok => exact term_pure _ s1 hw1 trivial
  | early => exact term_pure _ s1 hw1 trivial

theorem expectEndOfInput_term (s : PState) (hw : W s) : Term expectEndOfInput s Any := by
  unfold expectEndOfInput
  apply term_bind (skipIgnored_run s hw).term
  intro _ s1 hw1 _ _ _
  apply term_bind (peek_run' s1 hw1).term
  intro k s2 hw2 _ _ _
  unfold errUnlessEnd
  split
  · exact term_pure _ s2 hw2 trivial
  · exact (err_run s2 hw2).term.weaken (fun _ _ _ _ => trivial)

theorem init_W (src : Str) (tl : Option Nat) (rl : Nat) : W (initState src tl rl) :=
  ⟨by simp [initState], fun t h => by simp [initState] at h, fun t h => by simp [initState] at h,
   fun t h => by simp [initState] at h⟩

theorem init_Mm (src : Str) (tl : Option Nat) (rl : Nat) : Mm (initState src tl rl) = src.length + 1 := by
  simp [Mm, MmT, lexM, initState]

/-- an entry point aborts only when its grammar does, run from the initial state with (possibly) a
    temporary root node opened -/
theorem runEntry_abort (e : Entry) (fuel : Nat) (s0 : PState) (w : Abort)
    (h : (runEntry e fuel s0).outcome = .abort w) :
    ∃ s0', s0'.current = s0.current ∧ s0'.lx = s0.lx ∧ (e.grammar fuel).run s0' = .abort w := by
  cases e <;>
  · simp only [runEntry, Entry.standalone] at h
    split at h
    · simp only [] at h; split at h <;> simp at h
    · rename_i w' hr
      simp only [Outcome.abort.injEq] at h
      subst h
      exact ⟨_, by first | rfl | exact rfl, by first | rfl | exact rfl, hr⟩
    · simp at h

/-- `Parser::parse_type` terminates: neither out of fuel nor stuck, for every input and limits -/
theorem parse_type_terminates (tl : Option Nat) (rl : Nat) (src : Str) (w : Abort) :
    (parse .type tl rl src).outcome ≠ .abort w := by
  intro h
  obtain ⟨s0, hc, hl, habort⟩ := runEntry_abort .type (fuelFor src) (initState src tl rl) w h
  simp only [Entry.grammar] at habort
  have hw0 : W s0 := W_congr hc hl (init_W src tl rl)
  have hM : Mm s0 = src.length + 1 := by rw [Mm_congr hc hl, init_Mm]
  have ht : Term (ty (fuelFor src) >>= fun _ => expectEndOfInput) s0 Any := by
    apply term_bind (ty_term (fuelFor src) s0 hw0 (by unfold fuelFor; omega))
    intro _ s1 hw1 _ _ _
    exact expectEndOfInput_term s1 hw1
  exact ht.1 w habort

/-! ### building blocks for value.rs, selection.rs and the definitions -/

def ConsP (s : PState) : Unit → Option Tok → LexSt → Prop := fun _ c l => s.current.isSome = true → StrictT s c l

theorem strict_to_T {s s' : PState} (h : Strict s s') : StrictT s s'.current s'.lx := h

theorem withNode_bump_term (kind k : SK) (s : PState) (hw : W s) : Term (withNode kind (bump k)) s (ConsP s) := by
  refine withNode_term _ _ s hw ?_
  intro s1 hw1 hc1 hl1
  apply term_bind (skipIgnored_run s1 hw1).term
  intro _ s2 hw2 hm2 hk2 _
  obtain ⟨a, s3, hr, hw3, hm3, hk3, hq3⟩ := bump_run k s2 hw2
  refine (Run.term ⟨a, s3, hr, hw3, hm3, hk3, ?_⟩)
  intro hs
  have hs1 : s1.current.isSome = true := by rw [hc1]; exact hs
  have := keep_then_strict hk2 hm2 hs1 hq3.1.1 hm3
  exact strictT_of_congr hc1 hl1 this

theorem name_term (s : PState) (hw : W s) :
    Term name s (fun _ c l => ∀ t, s.current = some t → t.kind = .name → StrictT s c l) := by
  unfold name
  apply term_bind (peekToken_run' s hw).term
  intro a s1 hw1 hm1 hk1 hq1
  cases a with
  | none =>
    refine (err_run s1 hw1).term.weaken ?_
    intro _ c l _ t ht _
    have := hq1.2.2 (by simp [ht])
    rw [← hq1.1, ht] at this; simp at this
  | some t =>
    simp only []
    by_cases hk : (t.kind == Kind.name) = true
    · simp only [hk, if_true]
      refine (withNode_bump_term "NAME" "IDENT" s1 hw1).weaken ?_
      intro _ c l h t' ht' _
      have hsame := hq1.2.2 (by simp [ht'])
      exact strictT_of_congr hsame.1 hsame.2 (h (by rw [← hq1.1]; rfl))
    · simp only [hk, Bool.false_eq_true, if_false]
      refine (err_run s1 hw1).term.weaken ?_
      intro _ c l _ t' ht' hk'
      have hsame := hq1.2.2 (by simp [ht'])
      rw [← hq1.1, ht'] at hsame
      simp only [Option.some.injEq] at hsame
      rw [← hsame.1] at hk'
      simp [hk'] at hk

/-! ### value.rs -/

theorem term_bind_cons {α : Type} {m : PI α} {f : α → PI Unit} {s : PState} {Q1 : α → Option Tok → LexSt → Prop}
    (h1 : Term m s Q1)
    (h2 : ∀ a s1, W s1 → Mono s s1 → Keep s s1 → Q1 a s1.current s1.lx → Term (f a) s1 (ConsP s1)) :
    Term (m >>= f) s (ConsP s) :=
  term_bind h1 fun a s1 hw1 hm1 hk1 hq1 => (h2 a s1 hw1 hm1 hk1 hq1).post fun _ _ _ hm2 _ hq2 hs =>
    keep_then_strict hk1 hm1 hs hq2 hm2

theorem term_cons_bind {β : Type} {m : PI Unit} {f : Unit → PI β} {s : PState}
    (h1 : Term m s (ConsP s))
    (h2 : ∀ a s1, W s1 → Mono s s1 → Keep s s1 → Term (f a) s1 Any) :
    Term (m >>= f) s (fun _ c l => s.current.isSome = true → StrictT s c l) :=
  term_bind h1 fun a s1 hw1 hm1 hk1 hq1 => (h2 a s1 hw1 hm1 hk1).post fun _ _ _ hm2 _ _ hs =>
    Strict.trans_mono (hq1 hs) hm2

/-- `withNode kind body` consumes when `skipIgnored; body` does (the node bookkeeping is invisible) -/
theorem withNode_cons {α : Type} (kind : SK) (body : PI α) (s : PState) (hw : W s)
    (h : ∀ s1, W s1 → s1.current = s.current → s1.lx = s.lx →
      Term (skipIgnored >>= fun _ => body) s1 (fun _ c l => s1.current.isSome = true → StrictT s1 c l)) :
    Term (withNode kind body) s (fun _ c l => s.current.isSome = true → StrictT s c l) := by
  refine withNode_term kind body s hw ?_
  intro s1 hw1 hc1 hl1
  refine (h s1 hw1 hc1 hl1).weaken ?_
  intro _ c l hq hs
  exact strictT_of_congr hc1 hl1 (hq (by rw [hc1]; exact hs))

theorem skip_bump_then {β : Type} (k : SK) (rest : PI β) (s : PState) (hw : W s)
    (hrest : ∀ s3, W s3 → Mm s3 ≤ Mm s → (s.current.isSome = true → Mm s3 < Mm s) →
      (Mm s3 < Mm s ∨ (s3.current = none ∧ s3.lx.finished = true)) → Term rest s3 Any) :
    Term (skipIgnored >>= fun _ => (bump k >>= fun _ => rest)) s (fun _ c l => s.current.isSome = true → StrictT s c l) :=
  term_bind (skipIgnored_run s hw).term fun _ s2 hw2 hm2 hk2 _ =>
    term_bind (bump_run k s2 hw2).term fun _ s3 hw3 hm3 hk3 hq3 =>
      (hrest s3 hw3 (by have := hm2.1; have := hm3.1; omega)
        (fun hs => (keep_then_strict hk2 hm2 hs hq3.1.1 hm3).1)
        (by rcases hq3.1.2 with h | h
            · left; have := h.1; have := hm2.1; unfold Mm at *; omega
            · right; exact h)).post fun _ _ _ hmF _ _ hs =>
        Strict.trans_mono (keep_then_strict hk2 hm2 hs hq3.1.1 hm3) hmF

theorem variableNode_term (s : PState) (hw : W s) : Term variableNode s (ConsP s) := by
  unfold variableNode
  refine withNode_cons _ _ s hw ?_
  intro s1 hw1 _ _
  refine skip_bump_then "DOLLAR" name s1 hw1 ?_
  intro s3 hw3 _ _ _
  exact (name_term s3 hw3).weaken (fun _ _ _ _ => trivial)

theorem enumValue_term (s : PState) (hw : W s) :
    Term enumValue s (fun _ c l => ∀ t, s.current = some t → t.kind = .name → StrictT s c l) := by
  unfold enumValue
  refine withNode_term _ _ s hw ?_
  intro s1 hw1 hc1 hl1
  apply term_bind (skipIgnored_run s1 hw1).term
  intro _ s2 hw2 hm2 hk2 hq2
  apply term_bind (peekToken_run' s2 hw2).term
  intro a s3 hw3 hm3 hk3 hq3
  -- relative to `s`: either the token is still the current one of `s3`, or progress was made already
  have hrel : ∀ t, s.current = some t → t.kind = .name →
      (s3.current = some t ∧ Mm s3 = Mm s ∧ Phi s3 = Phi s) ∨ Strict s1 s3 := by
    intro t ht hk
    have hs1 : s1.current.isSome = true := by rw [hc1, ht]; rfl
    have hk13 : Keep s1 s3 := hk2.trans hm2 hk3 hm3
    rcases hk13 hs1 with ⟨hc, hl⟩ | hst
    · left
      exact ⟨by rw [hc, hc1, ht], by rw [Mm_congr hc hl, Mm_congr hc1 hl1], by rw [Phi_congr hc hl, Phi_congr hc1 hl1]⟩
    · exact Or.inr hst
  have finish : ∀ (m : PI Unit), (∀ t, s3.current = some t → t.kind = .name → Term m s3 (fun _ c l => StrictT s3 c l)) →
      Term m s3 Any → Term m s3 (fun _ c l => ∀ t, s.current = some t → t.kind = .name → StrictT s c l) := by
    intro m hcons hany
    refine ⟨hany.1, ?_⟩
    intro b s4 hr
    obtain ⟨hw4, hm4, hk4, _⟩ := hany.2 b s4 hr
    refine ⟨hw4, hm4, hk4, ?_⟩
    intro t ht hk
    rcases hrel t ht hk with ⟨hc3, hM, hP⟩ | hst
    · have := ((hcons t hc3 hk).2 b s4 hr).2.2.2
      exact ⟨by rw [← hM]; exact this.1, by rw [← hP]; exact this.2⟩
    · have h14 : Strict s1 s4 := hst.trans_mono hm4
      exact strictT_of_congr hc1 hl1 h14
  cases a with
  | none =>
    refine finish err ?_ ((err_run s3 hw3).term.weaken (fun _ _ _ _ => trivial))
    intro t ht _
    rw [← hq3.1] at ht; simp at ht
  | some t =>
    simp only []
    by_cases hk : (t.kind == Kind.name) = true
    · simp only [hk, if_true]
      have hname : Term (do
            if (kw "true" t.data || kw "false" t.data || kw "null" t.data) = true then err
            name) s3 (fun _ c l => ∀ t', s3.current = some t' → t'.kind = .name → StrictT s3 c l) := by
        show Term (if (kw "true" t.data || kw "false" t.data || kw "null" t.data) = true then (err >>= fun _ => name) else name) s3 _
        split
        · apply term_bind (err_run s3 hw3).term
          intro _ s4 hw4 hm4 hk4 hq4
          refine (name_term s4 hw4).weaken ?_
          intro _ c l h t' ht' hk'
          have hsame := hq4.2 (by simp [ht'])
          exact strictT_of_congr hsame.1 hsame.2 (h t' (by rw [hsame.1]; exact ht') hk')
        · exact name_term s3 hw3
      refine finish _ (fun t' ht' hk' => hname.weaken (fun _ c l h => h t' ht' hk')) (hname.weaken (fun _ _ _ _ => trivial))
    · simp only [hk, Bool.false_eq_true, if_false]
      refine finish err ?_ ((err_run s3 hw3).term.weaken (fun _ _ _ _ => trivial))
      intro t' ht' hk'
      rw [← hq3.1] at ht'
      simp only [Option.some.injEq] at ht'
      subst ht'
      simp [hk'] at hk

/-- post-condition of `value`: with `pop_on_error` it always consumes the token it looks at -/
def VPost (pop : Bool) (s : PState) : Unit → Option Tok → LexSt → Prop :=
  fun _ c l => pop = true → s.current.isSome = true → StrictT s c l

structure ValueGoal (n : Nat) : Prop where
  value : ∀ isConst pop s, W s → 2 * Mm s + 2 ≤ n → Term (value n isConst pop) s (VPost pop s)
  list : ∀ isConst s, W s → 2 * Mm s + 1 ≤ n → Term (listValue n isConst) s (ConsP s)
  object : ∀ isConst s, W s → 2 * Mm s + 1 ≤ n → Term (objectValue n isConst) s (ConsP s)
  field : ∀ isConst s, W s → 2 * Mm s + 1 ≤ n → (∃ t, s.current = some t ∧ t.kind = .name) →
    Term (objectField n isConst) s (fun _ c l => StrictT s c l)

theorem mm_pos_of_current {s : PState} (h : ∃ t, s.current = some t) : 1 ≤ Mm s := by
  obtain ⟨t, ht⟩ := h
  simp [Mm, MmT, ht]

theorem mm_zero_of_done {s : PState} (hc : s.current = none) (hf : s.lx.finished = true) : Mm s = 0 := by
  simp [Mm, MmT, lexM, hc, hf]

theorem vpost_of_peek {s s1 : PState} {pop : Bool} {c : Option Tok} {l : LexSt}
    (hl : Looked s s1.current s1.lx) (h : s1.current.isSome = true → StrictT s1 c l) : VPost pop s () c l := by
  intro _ hs
  have := hl.2 hs
  exact strictT_of_congr this.1 this.2 (h (by rw [this.1]; exact hs))

theorem value_family : ∀ n, ValueGoal n
  | 0 => ⟨fun _ _ s _ h => by omega, fun _ s _ h => by omega, fun _ s _ h => by omega, fun _ s _ h _ => by omega⟩
  | n + 1 => by
    have ih := value_family n
    refine ⟨?_, ?_, ?_, ?_⟩
    · intro isConst pop s hw hn
      unfold value
      apply term_bind (peek_run' s hw).term
      intro k s1 hw1 hm1 hk1 hq1
      have hM1 : Mm s1 ≤ Mm s := hm1.1
      -- the fall-through branch
      have hdefault : Term (if pop = true then errAndPop else err) s1 (VPost pop s) := by
        cases pop with
        | true =>
          simp only [if_true]
          exact (errAndPop_run s1 hw1).term.weaken (fun _ c l h => vpost_of_peek hq1.2 h.1)
        | false =>
          simp only [Bool.false_eq_true, if_false]
          exact (err_run s1 hw1).term.weaken (fun _ c l _ h => by simp at h)
      have hnodebump : ∀ kind k', Term (withNode kind (bump k')) s1 (VPost pop s) := fun kind k' =>
        (withNode_bump_term kind k' s1 hw1).weaken (fun _ c l h => vpost_of_peek hq1.2 h)
      cases k with
      | none => exact hdefault
      | some kind =>
        obtain ⟨t, ht, htk⟩ := cur_of_peek hq1
        cases kind
        case dollar =>
          simp only []
          have hvar : ∀ s2, W s2 → Term variableNode s2 (ConsP s2) := variableNode_term
          have : Term (do
              if isConst = true then (if pop = true then errAndPop else err)
              variableNode) s1 (ConsP s1) := by
            show Term (if isConst = true then ((if pop = true then errAndPop else err) >>= fun _ => variableNode) else variableNode) s1 _
            split
            · refine term_bind_cons (Q1 := Any) ?_ (fun _ s2 hw2 _ _ _ => hvar s2 hw2)
              split
              · exact (errAndPop_run s1 hw1).term.weaken (fun _ _ _ _ => trivial)
              · exact (err_run s1 hw1).term.weaken (fun _ _ _ _ => trivial)
            · exact hvar s1 hw1
          exact this.weaken (fun _ c l h => vpost_of_peek hq1.2 h)
        case int => exact hnodebump _ _
        case float => exact hnodebump _ _
        case stringValue => exact hnodebump _ _
        case name =>
          simp only []
          apply term_bind (peekToken_run' s1 hw1).term
          intro a s2 hw2 hm2 hk2 hq2
          have hsame := hq2.2.2 (by rw [ht]; rfl)
          cases a with
          | none => rw [← hq2.1, ht] at hsame; simp at hsame
          | some t2 =>
            have ht2 : s2.current = some t := by rw [hsame.1, ht]
            have conv : ∀ {c : Option Tok} {l : LexSt}, (s2.current.isSome = true → StrictT s2 c l) → VPost pop s () c l := by
              intro c l h
              exact vpost_of_peek hq1.2 (fun hs => strictT_of_congr hsame.1 hsame.2 (h (by rw [ht2]; rfl)))
            simp only []
            split
            · exact (withNode_bump_term _ _ s2 hw2).weaken (fun _ c l h => conv h)
            · split
              · exact (withNode_bump_term _ _ s2 hw2).weaken (fun _ c l h => conv h)
              · split
                · exact (withNode_bump_term _ _ s2 hw2).weaken (fun _ c l h => conv h)
                · exact (enumValue_term s2 hw2).weaken (fun _ c l h => conv (fun _ => h t ht2 htk))
        case lBracket =>
          exact (ih.list isConst s1 hw1 (by omega)).weaken (fun _ c l h => vpost_of_peek hq1.2 h)
        case lCurly =>
          exact (ih.object isConst s1 hw1 (by omega)).weaken (fun _ c l h => vpost_of_peek hq1.2 h)
        all_goals exact hdefault
    · intro isConst s hw hn
      unfold listValue
      refine withNode_cons _ _ s hw ?_
      intro s1 hw1 hc1 hl1
      have hM1 : Mm s1 = Mm s := Mm_congr hc1 hl1
      refine skip_bump_then "L_BRACK" _ s1 hw1 ?_
      intro s3 hw3 hM3 _ hcons
      refine peekWhile_term _ s3 hw3 ?_
      intro kind s4 hw4 hM4 hcur
      have hpos := mm_pos_of_current (s := s4) (by obtain ⟨t, ht, _⟩ := hcur; exact ⟨t, ht⟩)
      have hbudget : 2 * Mm s4 + 2 ≤ n := by
        rcases hcons with h | ⟨hc, hf⟩
        · omega
        · have := mm_zero_of_done hc hf; omega
      split
      · apply term_bind (bump_run "R_BRACK" s4 hw4).term
        intro _ s5 hw5 _ _ _
        exact term_pure false s5 hw5 (fun h => by simp at h)
      · split
        · exact term_pure false s4 hw4 (fun h => by simp at h)
        · refine withRec_term _ _ s4 hw4 ?_ ?_
          · intro s5 hw5 _ _
            apply term_bind (limitErr_run s5 hw5).term
            intro _ s6 hw6 _ _ _
            exact term_pure false s6 hw6 (fun h => by simp at h)
          · intro s5 hw5 hc5 hl5
            have hM5 : Mm s5 = Mm s4 := Mm_congr hc5 hl5
            have hv := ih.value isConst true s5 hw5 (by omega)
            refine term_bind hv fun _ s6 hw6 _ _ hq6 => term_pure true s6 hw6 fun _ => ?_
            obtain ⟨t, ht, _⟩ := hcur
            exact strictT_of_congr hc5 hl5 (hq6 rfl (by rw [hc5, ht]; rfl))
    · intro isConst s hw hn
      unfold objectValue
      refine withNode_cons _ _ s hw ?_
      intro s1 hw1 hc1 hl1
      have hM1 : Mm s1 = Mm s := Mm_congr hc1 hl1
      refine skip_bump_then "L_CURLY" _ s1 hw1 ?_
      intro s3 hw3 hM3 _ hcons
      refine term_bind (Q1 := Any) ?_ ?_
      · refine peekWhileKind_term _ _ s3 hw3 ?_
        intro s4 hw4 hM4 hcur
        have hpos := mm_pos_of_current (s := s4) (by obtain ⟨t, ht, _⟩ := hcur; exact ⟨t, ht⟩)
        have hbudget : 2 * Mm s4 + 1 ≤ n := by
          rcases hcons with h | ⟨hc, hf⟩
          · omega
          · have := mm_zero_of_done hc hf; omega
        exact ih.field isConst s4 hw4 hbudget hcur
      · intro _ s5 hw5 _ _ _
        exact (expect_run .rCurly "R_CURLY" s5 hw5).term.weaken (fun _ _ _ _ => trivial)
    · intro isConst s hw hn hcur
      obtain ⟨t, ht, htk⟩ := hcur
      unfold objectField
      have hmain : Term (withNode "OBJECT_FIELD" (do
            name
            if (← peek) == some Kind.colon then
              bump "COLON"
              withRec limitErr (value n isConst true)
            else err)) s (fun _ c l => s.current.isSome = true → StrictT s c l) := by
        refine withNode_cons _ _ s hw ?_
        intro s1 hw1 hc1 hl1
        have hM1 : Mm s1 = Mm s := Mm_congr hc1 hl1
        have ht1 : s1.current = some t := by rw [hc1, ht]
        have hgoal : Term (skipIgnored >>= fun _ => (do
              name
              if (← peek) == some Kind.colon then
                bump "COLON"
                withRec limitErr (value n isConst true)
              else err)) s1 (fun _ c l => StrictT s1 c l) := by
          apply term_bind (skipIgnored_run s1 hw1).term
          intro _ s2 hw2 hm2 hk2 _
          apply term_bind (name_term s2 hw2)
          intro _ s3 hw3 hm3 hk3 hq3
          have hst13 : Strict s1 s3 := by
            rcases hk2 (by rw [ht1]; rfl) with ⟨hc, hl⟩ | hst
            · have := hq3 t (by rw [hc, ht1]) htk
              exact ⟨by rw [← Mm_congr hc hl]; exact this.1, by rw [← Phi_congr hc hl]; exact this.2⟩
            · exact hst.trans_mono hm3
          apply term_bind (peek_run' s3 hw3).term
          intro k s4 hw4 hm4 hk4 hq4
          split
          · apply term_bind (bump_run "COLON" s4 hw4).term
            intro _ s5 hw5 hm5 hk5 _
            have hst15 : Strict s1 s5 := (hst13.trans_mono hm4).trans_mono hm5
            refine withRec_term _ _ s5 hw5 ?_ ?_
            · intro s6 hw6 hc6 hl6
              exact (limitErr_run s6 hw6).term.post fun _ _ _ hm _ _ =>
                hst15.trans_mono ((Mono_congr hc6 hl6).trans hm)
            · intro s6 hw6 hc6 hl6
              have e1 := Mm_congr hc6 hl6
              have := hst15.1
              exact (ih.value isConst true s6 hw6 (by omega)).post fun _ _ _ hm _ _ =>
                hst15.trans_mono ((Mono_congr hc6 hl6).trans hm)
          · exact (err_run s4 hw4).term.post fun _ _ _ hm _ _ => (hst13.trans_mono hm4).trans_mono hm
        exact hgoal.weaken (fun _ c l h _ => h)
      exact hmain.weaken (fun _ c l h => h (by rw [ht]; rfl))

end Apollo.Parse
