import ApolloModel.Proofs.ParserTree13
/-
C08 (pipeline): selections — shapes of FIELD / FRAGMENT_SPREAD / INLINE_FRAGMENT / SELECTION_SET nodes and what
`impl Convert for cst::Selection` (and `convert_selection_set`) reads from them; arguments and directives end to end.
-/
set_option linter.unusedSimpArgs false
set_option linter.unusedVariables false

namespace Apollo.FromCst
open Apollo.Rowan Apollo.Ast
open Apollo.Parse (isJunk isJunkKind sigE nameNode)

variable {R : List Loc}

/-- the optional `ALIAS[NAME :]` in front of a field's name -/
def AliasPre (alias : Option Ast.Str) (pre : List Elem) : Prop :=
  (alias = none ∧ pre = []) ∨
  (∃ a acs col, alias = some a ∧ isValidName a = true ∧ pre = [.node "ALIAS" acs] ∧ sigE acs = [nameNode a, .tok "COLON" col])

/-- the optional `TYPE_CONDITION[on NAMED_TYPE[NAME]]` of an inline fragment -/
def TcPre (tc : Option Ast.Str) (pre : List Elem) : Prop :=
  (tc = none ∧ pre = []) ∨
  (∃ t tcs ncs on, tc = some t ∧ isValidName t = true ∧ pre = [.node "TYPE_CONDITION" tcs] ∧
    sigE tcs = [.tok "on_KW" on, .node "NAMED_TYPE" ncs] ∧ sigE ncs = [nameNode t])

mutual
  inductive SelTree : Sel → Elem → Prop
    | field (alias : Option Ast.Str) (name : Ast.Str) (args : List (Ast.Str × Value)) (dirs : List Directive) (sels : Sels)
        (cs pre ta td ts : List Elem) : isValidName name = true → AliasPre alias pre → OptArgs args ta → OptDirs dirs td →
        OptSS sels ts → sigE cs = pre ++ nameNode name :: (ta ++ (td ++ ts)) →
        SelTree (.field alias name args dirs sels) (.node "FIELD" cs)
    | spread (name : Ast.Str) (dirs : List Directive) (cs fcs td : List Elem) (sp : Rowan.Str) : isValidName name = true →
        OptDirs dirs td → sigE fcs = [nameNode name] → sigE cs = .tok "SPREAD" sp :: .node "FRAGMENT_NAME" fcs :: td →
        SelTree (.spread name dirs) (.node "FRAGMENT_SPREAD" cs)
    | inline (tc : Option Ast.Str) (dirs : List Directive) (sels : Sels) (cs pre td : List Elem) (ess : Elem) (sp : Rowan.Str) :
        TcPre tc pre → OptDirs dirs td → SelSetNode sels ess → sigE cs = .tok "SPREAD" sp :: (pre ++ (td ++ [ess])) →
        SelTree (.inline tc dirs sels) (.node "INLINE_FRAGMENT" cs)
  inductive SelSetNode : Sels → Elem → Prop
    | mk (sels : Sels) (cs es : List Elem) (lc rc : Rowan.Str) : SelsTree sels es →
        sigE cs = .tok "L_CURLY" lc :: (es ++ [.tok "R_CURLY" rc]) → SelSetNode sels (.node "SELECTION_SET" cs)
  inductive SelsTree : Sels → List Elem → Prop
    | nil : SelsTree .nil []
    | cons (s : Sel) (e : Elem) (ss : Sels) (es : List Elem) : SelTree s e → SelsTree ss es → SelsTree (.cons s ss) (e :: es)
  inductive OptSS : Sels → List Elem → Prop
    | none : OptSS .nil []
    | some (sels : Sels) (es : Elem) : SelSetNode sels es → OptSS sels [es]
end

def selsToList : Sels → List Sel
  | .nil => []
  | .cons s tl => s :: selsToList tl

theorem listToSels_toList : ∀ ss : Sels, listToSels (selsToList ss) = ss
  | .nil => rfl
  | .cons s tl => by simp [selsToList, listToSels, listToSels_toList tl]

theorem SelTree.nodeP {s : Sel} {e : Elem} (h : SelTree s e) : nodeP isSelectionKind e = true := by
  cases h <;> simp [nodeP_node, isSelectionKind]

theorem SelsTree.filter {ss : Sels} {es : List Elem} (h : SelsTree ss es) : es.filter (nodeP isSelectionKind) = es := by
  induction es generalizing ss with
  | nil => rfl
  | cons e es ih =>
    cases h with
    | cons s _ ss' _ hs hss => simp [List.filter_cons, hs.nodeP, ih hss]

/-! ### equations of `cSelection` by node kind -/

theorem cSelection_field (n : Nat) (p : PE R) (hk : p.kind = "FIELD") :
    cSelection (n + 1) p = (optM (child "ALIAS" p) nameOf >>= fun alias => nameOf p >>= fun name =>
      argumentsOf n p >>= fun args => directivesOf n p >>= fun dirs =>
      (match child "SELECTION_SET" p with
        | some ss => collectM (cSelection n) (childrenP isSelectionKind ss)
        | none => M.pure' []) >>= fun sels => pure (Sel.field alias name args dirs (listToSels sels))) := by
  cases h : child "SELECTION_SET" p <;> simp [cSelection, hk, h]

theorem cSelection_spread (n : Nat) (p : PE R) (hk : p.kind = "FRAGMENT_SPREAD") :
    cSelection (n + 1) p = (M.ofOpt (child "FRAGMENT_NAME" p) >>= fun fname => nameOf fname >>= fun name =>
      directivesOf n p >>= fun dirs => pure (Sel.spread name dirs)) := by
  simp [cSelection, hk]

theorem cSelection_inline (n : Nat) (p : PE R) (hk : p.kind = "INLINE_FRAGMENT") :
    cSelection (n + 1) p = (optM (child "TYPE_CONDITION" p) cTypeCondition >>= fun tc => directivesOf n p >>= fun dirs =>
      M.ofOpt (child "SELECTION_SET" p) >>= fun ss => collectM (cSelection n) (childrenP isSelectionKind ss) >>= fun sels =>
      pure (Sel.inline tc dirs (listToSels sels))) := by
  simp [cSelection, hk]


/-! ### which kinds the optional groups have -/

theorem aliasPre_kinds {a : Option Ast.Str} {pre : List Elem} (h : AliasPre a pre) : pre = [] ∨ ∃ c, pre = [.node "ALIAS" c] := by
  rcases h with ⟨_, rfl⟩ | ⟨_, acs, _, _, _, rfl, _⟩
  · exact Or.inl rfl
  · exact Or.inr ⟨acs, rfl⟩

theorem tcPre_kinds {a : Option Ast.Str} {pre : List Elem} (h : TcPre a pre) : pre = [] ∨ ∃ c, pre = [.node "TYPE_CONDITION" c] := by
  rcases h with ⟨_, rfl⟩ | ⟨_, tcs, _, _, _, _, rfl, _⟩
  · exact Or.inl rfl
  · exact Or.inr ⟨tcs, rfl⟩

theorem optArgs_kinds {a : List (Ast.Str × Value)} {t : List Elem} (h : OptArgs a t) : t = [] ∨ ∃ c, t = [.node "ARGUMENTS" c] := by
  rcases h with ⟨_, rfl⟩ | ⟨_, rfl, cs, _, _, _, rfl, _⟩
  · exact Or.inl rfl
  · exact Or.inr ⟨cs, rfl⟩

theorem optDirs_kinds {a : List Directive} {t : List Elem} (h : OptDirs a t) : t = [] ∨ ∃ c, t = [.node "DIRECTIVES" c] := by
  rcases h with ⟨_, rfl⟩ | ⟨_, rfl, cs, rfl, _⟩
  · exact Or.inl rfl
  · exact Or.inr ⟨cs, rfl⟩

theorem optSS_kinds {a : Sels} {t : List Elem} (h : OptSS a t) : t = [] ∨ ∃ c, t = [.node "SELECTION_SET" c] := by
  cases h with
  | none => exact Or.inl rfl
  | some sels es hss => cases hss with | mk _ cs _ _ _ _ _ => exact Or.inr ⟨cs, rfl⟩

theorem optM_none {α β : Type} (f : α → M R β) : optM (none : Option α) f = some (none, []) := rfl

theorem optM_some {α β : Type} (f : α → M R β) (a : α) (b : β) (l : Locs R) (h : f a = some (b, l)) :
    optM (some a) f = some (some b, l ++ []) := by
  unfold optM
  simp only []
  unfold M.bind'
  rw [h]; rfl

/-- `convert_selection_set` on a SELECTION_SET node -/
theorem selSet_collect (n : Nat) (sels : Sels) (ess : Elem) (hss : SelSetNode sels ess)
    (hrec : ∀ es, SelsTree sels es → sizeList es ≤ n → All2 (fun e a => ConvE (fun R => @cSelection R n) a e) es (selsToList sels))
    (hs : size ess ≤ n + 1) (R : List Loc) (s : Nat) (hp : ∀ x ∈ nameRanges ess s, x ∈ R) :
    ∃ l, collectM (cSelection n) (childrenP isSelectionKind (⟨(ess, s), hp⟩ : PE R)) = some (selsToList sels, l) := by
  cases hss with
  | mk _ cs es lc rc hes hsig =>
    have hfilter : cs.filter (nodeP isSelectionKind) = es := by
      rw [filter_nodeP_sigE, hsig]
      simp [List.filter_cons, nodeP_tok, List.filter_append, hes.filter]
    have hmap := childrenP_map (R := R) isSelectionKind "SELECTION_SET" cs s hp
    rw [hfilter] at hmap
    have hszs : sizeList es ≤ n := by
      have h2 : sizeList (sigE cs) ≤ sizeList cs := sizeList_sigE_le cs
      rw [hsig] at h2
      simp only [sizeList, sizeList_append, size] at h2 hs
      omega
    exact collectM_conv (R := R) (fun R => @cSelection R n) _ es (selsToList sels) hmap (hrec es hes hszs)


/-- `self.named_type()?.name()?` on a TYPE_CONDITION node -/
theorem cTypeCondition_conv (t : Ast.Str) (tcs ncs : List Elem) (on : Rowan.Str) (hv : isValidName t = true)
    (h1 : sigE tcs = [.tok "on_KW" on, .node "NAMED_TYPE" ncs]) (h2 : sigE ncs = [nameNode t]) :
    ConvE (fun R => @cTypeCondition R) t (.node "TYPE_CONDITION" tcs) := by
  intro R s hp
  have hf : tcs.find? (nodeP (· == "NAMED_TYPE")) = some (.node "NAMED_TYPE" ncs) := by
    rw [find_nodeP_sigE, h1]; simp [List.find?_cons, nodeP_node, nodeP_tok]
  obtain ⟨s', h', hc⟩ := childP_some (R := R) (· == "NAMED_TYPE") "TYPE_CONDITION" tcs s hp _ hf
  obtain ⟨l, hl⟩ := nameOf_node "NAMED_TYPE" ncs t hv (by rw [h2]; rfl) R s' h'
  refine ⟨l, ?_⟩
  show cTypeCondition _ = _
  unfold cTypeCondition
  rw [child_eq_childP, hc]
  exact hl

macro "find_groups" : tactic => `(tactic|
  (simp [List.find?_cons, nodeP_node, nodeP_tok, nameNode]))

mutual
  theorem cSelection_selTree : ∀ (n : Nat) (sl : Sel) (e : Elem), SelTree sl e → size e ≤ n →
      ConvE (fun R => @cSelection R n) sl e
    | 0, _, e, h, hs => by
      cases h <;> simp [size] at hs
    | n + 1, _, _, .field alias name args dirs sels cs pre ta td ts hv hpre hta htd hts hsig, hs => by
      intro R s hp
      have hfn : (sigE cs).find? (nodeP (· == "NAME")) = some (nameNode name) := by
        rw [hsig]; rcases aliasPre_kinds hpre with rfl | ⟨c1, rfl⟩ <;> find_groups
      obtain ⟨l2, hl2⟩ := nameOf_node "FIELD" cs name hv hfn R s hp
      have hal : ∃ l1, optM (child "ALIAS" (⟨(Elem.node "FIELD" cs, s), hp⟩ : PE R)) nameOf = some (alias, l1) := by
        rcases hpre with ⟨rfl, rfl⟩ | ⟨a, acs, col, rfl, hva, rfl, hacs⟩
        · have : cs.find? (nodeP (· == "ALIAS")) = none := by
            rw [find_nodeP_sigE, hsig]
            rcases optArgs_kinds hta with rfl | ⟨c2, rfl⟩ <;> rcases optDirs_kinds htd with rfl | ⟨c3, rfl⟩ <;>
              rcases optSS_kinds hts with rfl | ⟨c4, rfl⟩ <;> find_groups
          rw [child_eq_childP, childP_none (R := R) _ "FIELD" cs s hp this]
          exact ⟨[], rfl⟩
        · have : cs.find? (nodeP (· == "ALIAS")) = some (.node "ALIAS" acs) := by
            rw [find_nodeP_sigE, hsig]; find_groups
          obtain ⟨s', h', hc⟩ := childP_some (R := R) _ "FIELD" cs s hp _ this
          obtain ⟨l, hl⟩ := nameOf_node "ALIAS" acs a hva (by rw [hacs]; rfl) R s' h'
          rw [child_eq_childP, hc]
          exact ⟨l ++ [], optM_some _ _ _ _ hl⟩
      obtain ⟨l1, hl1⟩ := hal
      have hfa : (sigE cs).find? (nodeP (· == "ARGUMENTS")) = ta.head? := by
        rw [hsig]
        rcases aliasPre_kinds hpre with rfl | ⟨c1, rfl⟩ <;> rcases optArgs_kinds hta with rfl | ⟨c2, rfl⟩ <;>
          rcases optDirs_kinds htd with rfl | ⟨c3, rfl⟩ <;> rcases optSS_kinds hts with rfl | ⟨c4, rfl⟩ <;> find_groups
      obtain ⟨l3, hl3⟩ := argumentsOf_conv n "FIELD" cs args ta hta hfa
        (by intro e he; rw [hsig]; simp [he]) hs R s hp
      have hfd : (sigE cs).find? (nodeP (· == "DIRECTIVES")) = td.head? := by
        rw [hsig]
        rcases aliasPre_kinds hpre with rfl | ⟨c1, rfl⟩ <;> rcases optArgs_kinds hta with rfl | ⟨c2, rfl⟩ <;>
          rcases optDirs_kinds htd with rfl | ⟨c3, rfl⟩ <;> rcases optSS_kinds hts with rfl | ⟨c4, rfl⟩ <;> find_groups
      obtain ⟨l4, hl4⟩ := directivesOf_conv n "FIELD" cs dirs td htd hfd
        (by intro e he; rw [hsig]; simp [he]) hs R s hp
      have hss : ∃ l5, (match child "SELECTION_SET" (⟨(Elem.node "FIELD" cs, s), hp⟩ : PE R) with
          | some ss => collectM (cSelection n) (childrenP isSelectionKind ss)
          | none => M.pure' []) = some (selsToList sels, l5) := by
        cases hts with
        | none =>
          have : cs.find? (nodeP (· == "SELECTION_SET")) = none := by
            rw [find_nodeP_sigE, hsig]
            rcases aliasPre_kinds hpre with rfl | ⟨c1, rfl⟩ <;> rcases optArgs_kinds hta with rfl | ⟨c2, rfl⟩ <;>
              rcases optDirs_kinds htd with rfl | ⟨c3, rfl⟩ <;> find_groups
          rw [child_eq_childP, childP_none (R := R) _ "FIELD" cs s hp this]
          exact ⟨[], rfl⟩
        | some _ ess hnode =>
          have hk : ∃ c, ess = .node "SELECTION_SET" c := by cases hnode with | mk _ c _ _ _ _ _ => exact ⟨c, rfl⟩
          obtain ⟨c4, rfl⟩ := hk
          have : cs.find? (nodeP (· == "SELECTION_SET")) = some (.node "SELECTION_SET" c4) := by
            rw [find_nodeP_sigE, hsig]
            rcases aliasPre_kinds hpre with rfl | ⟨c1, rfl⟩ <;> rcases optArgs_kinds hta with rfl | ⟨c2, rfl⟩ <;>
              rcases optDirs_kinds htd with rfl | ⟨c3, rfl⟩ <;> find_groups
          obtain ⟨s', h', hc⟩ := childP_some (R := R) _ "FIELD" cs s hp _ this
          rw [child_eq_childP, hc]
          have hsz : size (Elem.node "SELECTION_SET" c4) ≤ n + 1 := by
            have := size_le_sizeList (mem_sigE (cs := cs) (e := Elem.node "SELECTION_SET" c4) (by rw [hsig]; simp))
            rw [size_node] at hs; omega
          exact selSet_collect n sels _ hnode (fun es hes hsz' => cSels_selsTree n sels es hes hsz') hsz R s' h'
      obtain ⟨l5, hl5⟩ := hss
      refine ⟨l1 ++ (l2 ++ (l3 ++ (l4 ++ (l5 ++ [])))), ?_⟩
      show cSelection (n + 1) _ = _
      rw [cSelection_field n _ rfl]
      refine bind_ok hl1 (bind_ok hl2 (bind_ok hl3 (bind_ok hl4 (bind_ok hl5 ?_))))
      rw [listToSels_toList]; rfl
    | n + 1, _, _, .spread name dirs cs fcs td sp hv htd hfcs hsig, hs => by
      intro R s hp
      have hff : cs.find? (nodeP (· == "FRAGMENT_NAME")) = some (.node "FRAGMENT_NAME" fcs) := by
        rw [find_nodeP_sigE, hsig]; find_groups
      obtain ⟨s', h', hc⟩ := childP_some (R := R) _ "FRAGMENT_SPREAD" cs s hp _ hff
      obtain ⟨l1, hl1⟩ := nameOf_node "FRAGMENT_NAME" fcs name hv (by rw [hfcs]; rfl) R s' h'
      have hfd : (sigE cs).find? (nodeP (· == "DIRECTIVES")) = td.head? := by
        rw [hsig]; rcases optDirs_kinds htd with rfl | ⟨c3, rfl⟩ <;> find_groups
      obtain ⟨l2, hl2⟩ := directivesOf_conv n "FRAGMENT_SPREAD" cs dirs td htd hfd
        (by intro e he; rw [hsig]; simp [he]) hs R s hp
      refine ⟨[] ++ (l1 ++ (l2 ++ [])), ?_⟩
      show cSelection (n + 1) _ = _
      rw [cSelection_spread n _ rfl, child_eq_childP, hc]
      exact bind_ok rfl (bind_ok hl1 (bind_ok hl2 (pure_ok _)))
    | n + 1, _, _, .inline tc dirs sels cs pre td ess sp hpre htd hnode hsig, hs => by
      intro R s hp
      have hk : ∃ c, ess = .node "SELECTION_SET" c := by cases hnode with | mk _ c _ _ _ _ _ => exact ⟨c, rfl⟩
      obtain ⟨c4, rfl⟩ := hk
      have htc : ∃ l1, optM (child "TYPE_CONDITION" (⟨(Elem.node "INLINE_FRAGMENT" cs, s), hp⟩ : PE R)) cTypeCondition = some (tc, l1) := by
        rcases hpre with ⟨rfl, rfl⟩ | ⟨t, tcs, ncs, on, rfl, hvt, rfl, h1, h2⟩
        · have : cs.find? (nodeP (· == "TYPE_CONDITION")) = none := by
            rw [find_nodeP_sigE, hsig]; rcases optDirs_kinds htd with rfl | ⟨c3, rfl⟩ <;> find_groups
          rw [child_eq_childP, childP_none (R := R) _ "INLINE_FRAGMENT" cs s hp this]
          exact ⟨[], rfl⟩
        · have : cs.find? (nodeP (· == "TYPE_CONDITION")) = some (.node "TYPE_CONDITION" tcs) := by
            rw [find_nodeP_sigE, hsig]; find_groups
          obtain ⟨s', h', hc⟩ := childP_some (R := R) _ "INLINE_FRAGMENT" cs s hp _ this
          obtain ⟨l, hl⟩ := cTypeCondition_conv t tcs ncs on hvt h1 h2 R s' h'
          rw [child_eq_childP, hc]
          exact ⟨l ++ [], optM_some _ _ _ _ hl⟩
      obtain ⟨l1, hl1⟩ := htc
      have hfd : (sigE cs).find? (nodeP (· == "DIRECTIVES")) = td.head? := by
        rw [hsig]; rcases tcPre_kinds hpre with rfl | ⟨c1, rfl⟩ <;> rcases optDirs_kinds htd with rfl | ⟨c3, rfl⟩ <;> find_groups
      obtain ⟨l2, hl2⟩ := directivesOf_conv n "INLINE_FRAGMENT" cs dirs td htd hfd
        (by intro e he; rw [hsig]; simp [he]) hs R s hp
      have hfs : cs.find? (nodeP (· == "SELECTION_SET")) = some (.node "SELECTION_SET" c4) := by
        rw [find_nodeP_sigE, hsig]
        rcases tcPre_kinds hpre with rfl | ⟨c1, rfl⟩ <;> rcases optDirs_kinds htd with rfl | ⟨c3, rfl⟩ <;> find_groups
      obtain ⟨s', h', hc⟩ := childP_some (R := R) _ "INLINE_FRAGMENT" cs s hp _ hfs
      have hsz : size (Elem.node "SELECTION_SET" c4) ≤ n + 1 := by
        have := size_le_sizeList (mem_sigE (cs := cs) (e := Elem.node "SELECTION_SET" c4) (by rw [hsig]; simp))
        rw [size_node] at hs; omega
      obtain ⟨l3, hl3⟩ := selSet_collect n sels _ hnode (fun es hes hsz' => cSels_selsTree n sels es hes hsz') hsz R s' h'
      refine ⟨l1 ++ (l2 ++ ([] ++ (l3 ++ []))), ?_⟩
      show cSelection (n + 1) _ = _
      rw [cSelection_inline n _ rfl]
      refine bind_ok hl1 (bind_ok hl2 ?_)
      rw [child_eq_childP, hc]
      refine bind_ok rfl (bind_ok hl3 ?_)
      rw [listToSels_toList]; rfl
  theorem cSels_selsTree : ∀ (n : Nat) (ss : Sels) (es : List Elem), SelsTree ss es → sizeList es ≤ n →
      All2 (fun e a => ConvE (fun R => @cSelection R n) a e) es (selsToList ss)
    | n, _, _, .nil, _ => All2.nil
    | n, _, _, .cons sl e ss es hs hss, hsz => by
      simp only [sizeList] at hsz
      exact All2.cons (cSelection_selTree n sl e hs (by omega)) (cSels_selsTree n ss es hss (by omega))
end

end Apollo.FromCst

namespace Apollo.Parse
open Apollo.Rowan hiding Str
open Apollo.Lex hiding Str
open Apollo.FromCst (ConvE size ArgsNode DirsNode OptArgs OptDirs argumentsOf directivesOf argumentsOf_conv directivesOf_conv nodeP)

/-- **arguments**: an error-free run of `argument.rs::arguments` entered on `(` consumed the tokens `tArguments args`
    (`args` non-empty, values well-formed for the context) and appended one ARGUMENTS node; on any parent node whose
    only ARGUMENTS child is that node, `collect_opt(x.arguments(), …)` of from_cst.rs returns `args` -/
theorem arguments_pipeline (n : Nat) (c : Bool) (s s' : PState) (st : St s) (hq : HeadK .lParen (Toks s))
    (h : (arguments n c).run s = .ok () s') (hnd : ¬ Doomed s') :
    ∃ cs added args ea, Toks s = cs ++ Toks s' ∧ s'.builder.children = s.builder.children ++ added ∧ args ≠ [] ∧
      TokIs (sig cs) (Ast.tArguments args) ∧ argsOk c args ∧ sigE added = [ea] ∧ ArgsNode args ea ∧
      ∀ (k : SK) (pcs : List Elem) (m : Nat), (sigE pcs).find? (nodeP (· == "ARGUMENTS")) = some ea → ea ∈ sigE pcs →
        size (.node k pcs) ≤ m + 1 → ConvE (fun R => @argumentsOf R m) args (.node k pcs) := by
  obtain ⟨_, cs, added, t1, _, _, b1, r1⟩ := St.step (tr_arguments n c) st hq h hnd
  rcases r1 with ⟨args, ea, hne, h1, h2, h3, h4⟩ | f
  · refine ⟨cs, added, args, ea, t1, b1, hne, h1, h2, h3, h4, ?_⟩
    intro k pcs m hf hmem hsz
    exact argumentsOf_conv m k pcs args [ea] (Or.inr ⟨ea, rfl, h4⟩) (by simpa using hf)
      (by intro e he; simp at he; rw [he]; exact hmem) hsz
  · exact absurd f id

/-- **directives**: the same for `directive.rs::directives` entered on `@` -/
theorem directives_pipeline (n : Nat) (c : Bool) (s s' : PState) (st : St s) (hq : HeadK .at (Toks s))
    (h : (directives n c).run s = .ok () s') (hnd : ¬ Doomed s') :
    ∃ cs added ds ed, Toks s = cs ++ Toks s' ∧ s'.builder.children = s.builder.children ++ added ∧
      TokIs (sig cs) (Ast.tDirectives ds) ∧ dirsOk c ds ∧ sigE added = [ed] ∧ DirsNode ds ed ∧
      ∀ (k : SK) (pcs : List Elem) (m : Nat), (sigE pcs).find? (nodeP (· == "DIRECTIVES")) = some ed → ed ∈ sigE pcs →
        size (.node k pcs) ≤ m + 1 → ConvE (fun R => @directivesOf R m) ds (.node k pcs) := by
  obtain ⟨_, cs, added, t1, _, _, b1, r1⟩ := St.step (tr_directives n c) st hq h hnd
  rcases r1 with ⟨ds, ed, h1, h2, h3, h4⟩ | f
  · refine ⟨cs, added, ds, ed, t1, b1, h1, h2, h3, h4, ?_⟩
    intro k pcs m hf hmem hsz
    exact directivesOf_conv m k pcs ds [ed] (Or.inr ⟨ed, rfl, h4⟩) (by simpa using hf)
      (by intro e he; simp at he; rw [he]; exact hmem) hsz
  · exact absurd f id

end Apollo.Parse
