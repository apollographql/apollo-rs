/-
The model dispatches on a name (`resolve_field` on the field name, the definition parser on the keyword) with a
chain `if x = "a" then … else if x = "b" then … else none` into `Option`.  A fact about such a chain is proved
branch by branch with the lemmas here; the hypothesis that holds the whole chain is never split.
-/
namespace Apollo

theorem map_ite_congr {α β : Type} (g : α → β) {c : Prop} [Decidable c] {a b : Option α} {a' b' : Option β}
    (ha : c → a.map g = a') (hb : ¬c → b.map g = b') : (if c then a else b).map g = if c then a' else b' := by
  split
  · exact ha ‹_›
  · exact hb ‹_›

/-- what every branch answers has the property, so what the chain answers has it -/
theorem ite_forall_some {α : Type} {P : α → Prop} {c : Prop} [Decidable c] {a b : Option α}
    (ha : ∀ x, a = some x → P x) (hb : ∀ x, b = some x → P x) : ∀ x, (if c then a else b) = some x → P x := by
  split <;> assumption

/-- the same for a chain into any type, with the answer named: `generalize h : chain = a` first -/
theorem ite_forall_eq {α : Type} {P : α → Prop} {c : Prop} [Decidable c] {a b : α}
    (ha : c → ∀ x, a = x → P x) (hb : ¬c → ∀ x, b = x → P x) : ∀ x, (if c then a else b) = x → P x := by
  split
  · exact ha ‹_›
  · exact hb ‹_›

end Apollo
