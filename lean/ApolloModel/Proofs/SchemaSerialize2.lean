import ApolloModel.Proofs.SchemaSerialize
/-
C12, on the builder: every type body the SchemaBuilder model produces has each component list grouped by
origin in the order in which the extensions were applied (an invariant of `step` over any definition list
with pairwise distinct positions), what `Consistent` means for such bodies, and the round trip lifted from one
type to the list of (non built-in) types of a schema, in map order, to the explicit schema definition
with its extensions, and to directive definitions with new names.
-/
namespace Apollo.SchemaSerialize
open Apollo.SchemaBuild

/-- `l` is "definition components, then one block per extension in the order `P`", and mentions no other
    extension -/
def GroupedList (P : List Pos) (l : List Comp) : Prop :=
  l = regroup P l ∧ ∀ c ∈ l, ∀ e, c.origin = some e → e ∈ P

def GroupedBody (P : List Pos) (b : Body) : Prop :=
  GroupedList P b.directives ∧ GroupedList P b.interfaces ∧ GroupedList P b.members

theorem flatMap_congr_mem {α β : Type} (f g : α → List β) (Q : List α) (h : ∀ e ∈ Q, f e = g e) :
    Q.flatMap f = Q.flatMap g := by
  simp only [List.flatMap_def]
  rw [List.map_congr_left h]

theorem groupedList_snoc (P : List Pos) (l tail : List Comp) (p : Pos) (h : GroupedList P l) (hp : p ∉ P)
    (ht : ∀ c ∈ tail, c.origin = some p) : GroupedList (P ++ [p]) (l ++ tail) := by
  obtain ⟨h1, h2⟩ := h
  constructor
  · rw [regroup_snoc]
    have hnone : (l ++ tail).filter (fun c => c.origin == none) = l.filter (fun c => c.origin == none) := by
      rw [List.filter_append]
      have : tail.filter (fun c => c.origin == none) = [] := by
        apply List.filter_eq_nil_iff.mpr; intro c hc; simp [ht c hc]
      rw [this, List.append_nil]
    have hblocks : P.flatMap (fun e => (l ++ tail).filter (fun c => c.origin == some e))
        = P.flatMap (fun e => l.filter (fun c => c.origin == some e)) := by
      apply flatMap_congr_mem
      intro e he
      rw [List.filter_append]
      have : tail.filter (fun c => c.origin == some e) = [] := by
        apply List.filter_eq_nil_iff.mpr
        intro c hc
        rw [ht c hc]
        have : p ≠ e := fun c => hp (c ▸ he)
        simpa using this
      rw [this, List.append_nil]
    have hp_block : (l ++ tail).filter (fun c => c.origin == some p) = tail := by
      rw [List.filter_append]
      have a : l.filter (fun c => c.origin == some p) = [] := by
        apply List.filter_eq_nil_iff.mpr
        intro c hc hco
        exact hp (h2 c hc p (by simpa using hco))
      have b : tail.filter (fun c => c.origin == some p) = tail := by
        apply List.filter_eq_self.mpr; intro c hc; simp [ht c hc]
      rw [a, b, List.nil_append]
    have : regroup P (l ++ tail) = regroup P l := by
      unfold regroup; rw [hnone, hblocks]
    rw [this, hp_block, ← h1]
  · intro c hc e he
    rcases List.mem_append.mp hc with hc | hc
    · exact List.mem_append.mpr (Or.inl (h2 c hc e he))
    · rw [ht c hc] at he
      injection he with he
      simp [he]

theorem groupedList_def (tail : List Comp) (ht : ∀ c ∈ tail, c.origin = none) : GroupedList [] tail := by
  constructor
  · unfold regroup
    simp only [List.flatMap_nil, List.append_nil]
    exact (List.filter_eq_self.mpr (by intro c hc; simp [ht c hc])).symm
  · intro c hc e he
    rw [ht c hc] at he
    cases he

/-- `extend_sticky` appends components of the given origin only (duplicates are dropped) -/
theorem extendSticky_tail (dup : Name → Diag) (o : Option Pos) (its : List Item) (cs : List Comp) (errs : List Err) :
    ∃ tail, (extendSticky dup o cs errs its).1 = cs ++ tail ∧ ∀ c ∈ tail, c.origin = o := by
  obtain ⟨kept, _, heq, _⟩ := extendSticky_shape dup o its cs errs
  refine ⟨kept.map (Item.toComp o), by rw [heq], fun c hc => ?_⟩
  obtain ⟨_, _, rfl⟩ := List.mem_map.mp hc
  rfl

theorem groupedBody_extendBody (dupI dupM : Name → Diag) (P : List Pos) (b : Body) (e : Def) (errs : List Err) (p : Pos)
    (h : GroupedBody P b) (hp : p ∉ P) :
    GroupedBody (P ++ [p]) (extendBody dupI dupM (some p) b e errs).1 := by
  obtain ⟨hd, hi, hm⟩ := h
  unfold extendBody
  obtain ⟨ti, hti, hti2⟩ := extendSticky_tail dupI (some p) e.interfaces b.interfaces errs
  obtain ⟨tm, htm, htm2⟩ := extendSticky_tail dupM (some p) e.members b.members
    (extendSticky dupI (some p) b.interfaces errs e.interfaces).2
  refine ⟨?_, ?_, ?_⟩
  · exact groupedList_snoc P _ _ p hd hp (by intro c hc; obtain ⟨i, _, rfl⟩ := List.mem_map.mp hc; rfl)
  · show GroupedList _ (extendSticky dupI (some p) b.interfaces errs e.interfaces).1
    rw [hti]; exact groupedList_snoc P _ _ p hi hp hti2
  · show GroupedList _ (extendSticky dupM (some p) b.members _ e.members).1
    rw [htm]; exact groupedList_snoc P _ _ p hm hp htm2

theorem groupedBody_mono (P : List Pos) (b : Body) (p : Pos) (h : GroupedBody P b) (hp : p ∉ P) :
    GroupedBody (P ++ [p]) b := by
  obtain ⟨hd, hi, hm⟩ := h
  have f : ∀ l, GroupedList P l → GroupedList (P ++ [p]) l := by
    intro l hl
    have := groupedList_snoc P l [] p hl hp (by simp)
    simpa using this
  exact ⟨f _ hd, f _ hi, f _ hm⟩

theorem groupedBody_typeOfDef (k : Kind) (d : Def) (errs : List Err) : GroupedBody [] (typeOfDef k d errs).1.body := by
  unfold typeOfDef extendBody Body.empty
  obtain ⟨ti, hti, hti2⟩ := extendSticky_tail (dupIface k d.name) none d.interfaces [] errs
  obtain ⟨tm, htm, htm2⟩ := extendSticky_tail (dupMember k d.name) none d.members []
    (extendSticky (dupIface k d.name) none [] errs d.interfaces).2
  refine ⟨?_, ?_, ?_⟩
  · exact groupedList_def _ (by intro c hc; simp at hc; obtain ⟨i, _, rfl⟩ := hc; rfl)
  · show GroupedList _ (extendSticky (dupIface k d.name) none [] errs d.interfaces).1
    rw [hti]; exact groupedList_def _ (by simpa using hti2)
  · show GroupedList _ (extendSticky (dupMember k d.name) none [] _ d.members).1
    rw [htm]; exact groupedList_def _ (by simpa using htm2)

theorem groupedBody_adoptStep (k : Kind) (P : List Pos) (t : TypeEntry) (errs : List Err) (e : Def)
    (h : GroupedBody P t.body) (hp : e.pos ∉ P) :
    GroupedBody (P ++ [e.pos]) (adoptStep k (t, errs) e).1.body := by
  unfold adoptStep
  split
  · exact groupedBody_extendBody _ _ P t.body e errs e.pos h hp
  · exact groupedBody_mono P t.body e.pos h hp

/-- an invariant relative to the positions seen so far, kept by every step at a new position -/
theorem foldl_inv_pos {σ α : Type} (I : List Pos → σ → Prop) (f : σ → α → σ) (pos : α → Pos)
    (hstep : ∀ P s a, I P s → P.Nodup → pos a ∉ P → I (P ++ [pos a]) (f s a)) :
    ∀ (as : List α) (P : List Pos) (s : σ), I P s → (P ++ as.map pos).Nodup →
      I (P ++ as.map pos) (as.foldl f s) := by
  intro as
  induction as with
  | nil => intro P s h _; simpa using h
  | cons a as ih =>
    intro P s h hnd
    have hn := List.nodup_append.mp hnd
    have := ih (P ++ [pos a]) (f s a) (hstep P s a h hn.1 (fun hc => hn.2.2 _ hc _ (by simp) rfl)) (by simpa using hnd)
    simpa using this

/-- `XType::from_ast(definition, queued extensions)`: grouped in queue order -/
theorem groupedBody_typeFromAst (k : Kind) (d : Def) (exts : List Def) (errs : List Err)
    (hnd : (exts.map (·.pos)).Nodup) : GroupedBody (exts.map (·.pos)) (typeFromAst k d exts errs).1.body := by
  have := foldl_inv_pos (fun P acc => GroupedBody P acc.1.body) (adoptStep k) (·.pos)
    (fun P acc e h _ he => groupedBody_adoptStep k P acc.1 acc.2 e h he)
    exts [] (typeOfDef k d errs) (groupedBody_typeOfDef k d errs) (by simpa using hnd)
  simpa [typeFromAst] using this

/-! ### the invariant of the builder loop -/

/-- `pre`: the positions of the definitions processed so far -/
def Inv (pre : List Pos) (s : Builder) : Prop :=
  (s.orphanQ.map (·.pos)).Sublist pre
  ∧ ∀ t ∈ s.types, ∃ P, P.Nodup ∧ (∀ p ∈ P, p ∈ pre) ∧ GroupedBody P t.body

theorem inv_mono (pre : List Pos) (s : Builder) (x : Pos) (h : Inv pre s) : Inv (pre ++ [x]) s := by
  refine ⟨h.1.trans (List.sublist_append_left pre [x]), ?_⟩
  intro t ht
  obtain ⟨P, h1, h2, h3⟩ := h.2 t ht
  exact ⟨P, h1, fun p hp => List.mem_append.mpr (Or.inl (h2 p hp)), h3⟩

theorem mem_setType (ts : List TypeEntry) (n : Name) (t' x : TypeEntry) (hx : x ∈ setType ts n t') : x = t' ∨ x ∈ ts := by
  unfold setType at hx
  obtain ⟨y, hy, rfl⟩ := List.mem_map.mp hx
  split
  · exact Or.inl rfl
  · exact Or.inr hy

theorem step_inv (pre : List Pos) (s : Builder) (d : Def) (h : Inv pre s) (hnd : pre.Nodup) (hd : d.pos ∉ pre) :
    Inv (pre ++ [d.pos]) (step s d) := by
  have hold := (inv_mono pre s d.pos h).2
  unfold Inv
  rcases step_types_cases s d with ⟨ht, hq⟩ | ⟨k, _, _, ht, hq⟩ | ⟨k, t0, _, hf, _, ht, hq⟩ | ⟨k, _, _, ht, hq⟩ <;>
    rw [ht, hq]
  · exact inv_mono _ _ _ h
  · -- a new type: grouped in the order of the extensions it takes off the queue
    have hsub : ((s.orphanQ.filter (fun e => e.name == d.name)).map (·.pos)).Sublist pre :=
      ((List.filter_sublist).map _).trans h.1
    refine ⟨(((List.filter_sublist).map _).trans h.1).trans (List.sublist_append_left pre _), ?_⟩
    intro t ht
    rcases List.mem_append.mp ht with ht | ht
    · exact hold t ht
    · have : t = (typeFromAst k d (s.orphanQ.filter (fun e => e.name == d.name)) s.errors).1 := by simpa using ht
      subst this
      exact ⟨_, hsub.nodup hnd, fun p hp => List.mem_append.mpr (Or.inl (hsub.subset hp)),
        groupedBody_typeFromAst k d _ s.errors (hsub.nodup hnd)⟩
  · -- an extension applied in place: one more block, at the end
    refine ⟨h.1.trans (List.sublist_append_left pre _), ?_⟩
    intro t ht
    rcases mem_setType _ _ _ _ ht with rfl | ht
    · obtain ⟨P, h1, h2, h3⟩ := h.2 t0 (List.mem_of_find?_eq_some hf)
      have hp : d.pos ∉ P := fun c => hd (h2 _ c)
      refine ⟨P ++ [d.pos], ?_, ?_, groupedBody_extendBody _ _ P t0.body d s.errors d.pos h3 hp⟩
      · exact List.nodup_append.mpr ⟨h1, by simp, by intro a ha b hb; simp at hb; subst hb; exact fun c => hp (c ▸ ha)⟩
      · intro p hp'
        rcases List.mem_append.mp hp' with hp' | hp'
        · exact List.mem_append.mpr (Or.inl (h2 p hp'))
        · exact List.mem_append.mpr (Or.inr hp')
    · exact hold t ht
  · refine ⟨?_, hold⟩
    simp only [List.map_append, List.map_cons, List.map_nil]
    exact List.Sublist.append h.1 (List.Sublist.refl _)

theorem addDocument_inv (ds : List Def) (pre : List Pos) (s : Builder) :
    Inv pre s → (pre ++ ds.map (·.pos)).Nodup → Inv (pre ++ ds.map (·.pos)) (addDocument s ds) :=
  foldl_inv_pos Inv step (·.pos) step_inv ds pre s

theorem inv_new (adopt ignoreBuiltin : Bool) : Inv [] (Builder.new adopt ignoreBuiltin) := by
  refine ⟨by simp [Builder.new], ?_⟩
  intro t ht
  refine ⟨[], List.nodup_nil, by simp, ?_⟩
  have hb : t.body = Body.empty := by
    simp only [Builder.new, builtinTypes, List.mem_map] at ht
    obtain ⟨p, _, rfl⟩ := ht
    rfl
  rw [hb]
  exact ⟨groupedList_def [] (by simp), groupedList_def [] (by simp), groupedList_def [] (by simp)⟩

/-! ### what `Consistent` means -/

theorem consistent_iff_regroup (b : Body) : Consistent b ↔ regroupBody b = b := by
  constructor
  · exact regroupBody_of_consistent b
  · intro h
    refine ⟨extensionsOf b, by simpa [extensionsOf] using firstOcc_nodup (extOrigins b), List.Sublist.refl _, ?_, ?_, ?_⟩
    · exact (congrArg Body.directives h).symm
    · exact (congrArg Body.interfaces h).symm
    · exact (congrArg Body.members h).symm

theorem consistent_of_grouped (P : List Pos) (b : Body) (hnd : P.Nodup) (hg : GroupedBody P b)
    (hsub : (extensionsOf b).Sublist P) : Consistent b :=
  ⟨P, hnd, hsub, hg.1.1, hg.2.1.1, hg.2.2.1⟩

/-- what `to_ast` needs to know about a non built-in type entry -/
structure TypeWF (t : TypeEntry) : Prop where
  body : BodyWF t.body
  notBuiltin : t.builtin = false
  located : ∃ p, t.pos = some p

theorem groupedBody_exts_eq_regroup (b : Body) : groupedBody b (extensionsOf b) = regroupBody b := rfl

/-- the definitions of one type, added to a builder that does not know the name and has nothing queued:
    the regrouped type is appended, nothing else changes, no diagnostic -/
theorem addDocument_toAstType (u : Builder) (t : TypeEntry) (wf : TypeWF t)
    (hfresh : findType u.types t.name = none) (hq : u.orphanQ = []) :
    addDocument u (toAstType t) = { u with types := u.types ++ [regroupType t] } := by
  obtain ⟨p, hp⟩ := wf.located
  have hlist : toAstType t = defOfBody (.typeDef t.kind) t.name p none t.body
      :: (extensionsOf t.body).map (fun e => defOfBody (.typeExt t.kind) t.name e (some e) t.body) := by
    simp [toAstType, wf.notBuiltin, hp]
  rw [hlist]
  have hstep : step u (defOfBody (.typeDef t.kind) t.name p none t.body)
      = { u with types := u.types ++ [{ name := t.name, kind := t.kind, builtin := false, pos := some p,
                                        body := groupedBody t.body [] }] } := by
    unfold step
    simp only [defOfBody]
    unfold stepTypeDef
    simp only [hfresh, hq, List.filter_nil, typeFromAst, List.foldl_nil, typeOfDef]
    have := extendBody_def (dupIface t.kind t.name) (dupMember t.kind t.name) t.body wf.body (.typeDef t.kind) t.name p u.errors
    unfold defOfBody at this
    simp only [this]
  show addDocument (step u _) _ = _
  rw [hstep]
  have hexts := addDocument_exts_defined t.name t.kind u.types hfresh
    ((extensionsOf t.body).map (fun e => defOfBody (.typeExt t.kind) t.name e (some e) t.body))
    { u with types := u.types ++ [{ name := t.name, kind := t.kind, builtin := false, pos := some p,
                                    body := groupedBody t.body [] }] }
    { name := t.name, kind := t.kind, builtin := false, pos := some p, body := groupedBody t.body [] }
    rfl rfl rfl
    (by intro e he; obtain ⟨x, _, rfl⟩ := List.mem_map.mp he; exact ⟨⟨t.kind, rfl⟩, rfl⟩)
  rw [hexts]
  have hfold := foldl_adoptStep_exts t.kind t.name t.body wf.body
    { name := t.name, kind := t.kind, builtin := false, pos := some p, body := t.body }
    (extensionsOf t.body) [] u.errors (by simpa [extensionsOf] using firstOcc_nodup (extOrigins t.body))
  simp only [List.nil_append] at hfold
  simp only [hfold]
  obtain ⟨n, k, bi, pos, body⟩ := t
  have hb := wf.notBuiltin
  simp only at hp hb
  subst hp hb
  cases u
  simp [regroupType, groupedBody_exts_eq_regroup]

/-- `Schema::to_ast` restricted to the types: definition and extensions of every type, type after type in map
    order, re-built: the same types in the same order, each regrouped, no diagnostics, nothing else touched -/
theorem addDocument_toAstTypes : ∀ (U : List TypeEntry) (u : Builder),
    (∀ t ∈ U, TypeWF t) → (U.map (·.name)).Nodup → (∀ t ∈ U, findType u.types t.name = none) → u.orphanQ = [] →
    addDocument u (U.flatMap toAstType) = { u with types := u.types ++ U.map regroupType } := by
  intro U
  induction U with
  | nil => intro u _ _ _ _; simp [addDocument]
  | cons t U ih =>
    intro u hwf hnd hfresh hq
    have hn : t.name ∉ U.map (·.name) ∧ (U.map (·.name)).Nodup := List.nodup_cons.mp hnd
    rw [List.flatMap_cons, addDocument_append, addDocument_toAstType u t (hwf t (by simp)) (hfresh t (by simp)) hq]
    have hfresh' : ∀ x ∈ U, findType ({ u with types := u.types ++ [regroupType t] } : Builder).types x.name = none := by
      intro x hx
      apply findType_append_none _ _ _ (hfresh x (by simp [hx]))
      show (regroupType t).name ≠ x.name
      intro c
      exact hn.1 (by rw [show t.name = x.name from c]; exact List.mem_map_of_mem hx)
    have := ih { u with types := u.types ++ [regroupType t] } (fun x hx => hwf x (by simp [hx])) hn.2 hfresh' hq
    rw [this]
    simp

/-! ### the explicit schema definition and its extensions -/

theorem foldl_schemaStep_exts (b : Body) (wf : BodyWF b) (pos : Option Pos) :
    ∀ (es P : List Pos) (errs : List Err), (P ++ es).Nodup →
      (es.map (fun e => defOfBody .schemaExt "" e (some e) b)).foldl schemaStep (⟨pos, groupedBody b P⟩, errs)
        = (⟨pos, groupedBody b (P ++ es)⟩, errs) := by
  intro es P errs
  refine foldl_blocks (fun P => ((⟨pos, groupedBody b P⟩ : SchemaDefn), errs)) _ _ ?_ es P
  intro P e he
  have := extendBody_ext noIface dupRoot b wf P e he .schemaExt "" errs
  unfold defOfBody at this
  simp only [schemaStep, extendSchema, defOfBody, this]

/-- an explicit `schema` definition followed by its extensions, added to a builder that has seen neither:
    the schema definition with directives and root operations regrouped; no diagnostic -/
theorem addDocument_toAstSchema (u : Builder) (sd : SchemaDefn) (types : List TypeEntry) (p : Pos)
    (wf : BodyWF (schemaBody sd)) (hp : sd.pos = some p) (hexpl : implicitSchema sd types = false)
    (hfound : u.schemaFound = false) (hq : u.orphanSchemaExts = []) :
    addDocument u (toAstSchema sd types)
      = { u with schemaDef := ⟨some p, regroupBody (schemaBody sd)⟩, schemaFound := true } := by
  have hlist : toAstSchema sd types = defOfBody .schemaDef "" p none (schemaBody sd)
      :: (extensionsOf (schemaBody sd)).map (fun e => defOfBody .schemaExt "" e (some e) (schemaBody sd)) := by
    simp [toAstSchema, hexpl, hp]
  rw [hlist]
  have hstep : step u (defOfBody .schemaDef "" p none (schemaBody sd))
      = { u with schemaDef := ⟨some p, groupedBody (schemaBody sd) []⟩, schemaFound := true, orphanSchemaExts := [] } := by
    unfold step
    simp only [defOfBody, hfound, hq, schemaFromAst, List.foldl_nil, schemaOfDef]
    have := extendBody_def noIface dupRoot (schemaBody sd) wf .schemaDef "" p u.errors
    unfold defOfBody at this
    simp only [this]
    simp
  show addDocument (step u _) _ = _
  rw [hstep]
  rw [addDocument_schemaExts_found _ _ rfl
    (by intro e he; obtain ⟨x, _, rfl⟩ := List.mem_map.mp he; rfl)]
  have hfold := foldl_schemaStep_exts (schemaBody sd) wf (some p) (extensionsOf (schemaBody sd)) [] u.errors
    (by simpa [extensionsOf] using firstOcc_nodup (extOrigins (schemaBody sd)))
  simp only [List.nil_append] at hfold
  simp only [hfold]
  cases u
  simp_all [groupedBody_exts_eq_regroup]

/-! ### directive definitions with new names -/

theorem addDocument_dirDefs : ∀ (D : List DirEntry) (u : Builder),
    (D.map (·.name)).Nodup → (∀ d ∈ D, findDir u.directiveDefs d.name = none) →
    addDocument u (D.map (fun d => (⟨.directiveDef, d.name, d.pos.getD 0, d.pos.getD 0, [], [], []⟩ : Def)))
      = { u with directiveDefs := u.directiveDefs ++ D.map (fun d => ⟨d.name, some (d.pos.getD 0), false⟩) } := by
  intro D
  induction D with
  | nil => intro u _ _; simp [addDocument]
  | cons d D ih =>
    intro u hnd hfresh
    have hn : d.name ∉ D.map (·.name) ∧ (D.map (·.name)).Nodup := List.nodup_cons.mp hnd
    simp only [List.map_cons, addDocument, List.foldl_cons]
    have hstep : step u ⟨.directiveDef, d.name, d.pos.getD 0, d.pos.getD 0, [], [], []⟩
        = { u with directiveDefs := u.directiveDefs ++ [⟨d.name, some (d.pos.getD 0), false⟩] } := by
      unfold step
      simp only []
      unfold stepDirectiveDef
      simp only [hfresh d (by simp)]
    rw [hstep]
    have := ih { u with directiveDefs := u.directiveDefs ++ [⟨d.name, some (d.pos.getD 0), false⟩] } hn.2 (by
      intro x hx
      have h0 := hfresh x (by simp [hx])
      unfold findDir at h0 ⊢
      rw [List.find?_append, h0]
      have : d.name ≠ x.name := fun c => hn.1 (by rw [c]; exact List.mem_map_of_mem hx)
      simp [this])
    simp only [addDocument] at this
    rw [this]
    simp

end Apollo.SchemaSerialize
