import ApolloModel.Proofs.Standalone2
/-
Property C20: the fuel of `enterFrag` (= number of fragment definitions) is never exhausted, with or without a
schema: `validated_fragments` holds pairwise distinct names of defined fragments, so it cannot grow beyond their
number.  The walk is followed once, for an arbitrary property `P` of what its nodes report (`walk_all`): `P := Allowed p`
gives the kinds of a standalone run, and with them that it never reports `outOfFuel`; `P := (· ≠ outOfFuel)` is the
fuel statement for a run with a schema (Proofs/StandaloneWalk3.lean).
-/
namespace Apollo.Standalone

def Inv (doc : BuiltDoc) (V : List Name) : Prop := V.Nodup ∧ ∀ x ∈ V, x ∈ doc.frags.map (·.name)

theorem inv_length_le (doc : BuiltDoc) (V : List Name) (h : Inv doc V) : V.length ≤ doc.frags.length := by
  have := List.Nodup.length_le_of_subset h.1 (fun x hx => h.2 x hx)
  simpa using this

theorem inv_cons (doc : BuiltDoc) (V : List Name) (f : Name) (d : Frag) (h : Inv doc V) (hf : doc.findFrag f = some d)
    (hv : ¬ f ∈ V) : Inv doc (f :: V) := by
  refine ⟨List.nodup_cons.mpr ⟨hv, h.1⟩, ?_⟩
  intro x hx
  simp only [List.mem_cons] at hx
  rcases hx with hx | hx
  · subst hx; exact mem_names_of_findFrag hf
  · exact h.2 x hx

/-- what `walkSels` and `enterFrag` report themselves, next to the directive checks; the last four only with a schema -/
def walkKinds (s : Option Schema) : List Diag :=
  [.uniqueArgument, .undefinedFragment, .recursiveFragmentDefinition] ++
    (if s.isSome then [.undefinedArgument, .requiredArgument, .missingSubselection, .invalidFragmentTarget] else [])

/-- `P` holds of whatever one node of the walk reports by itself -/
structure Local (P : Diag → Prop) (p : Params) (s : Option Schema) : Prop where
  dirs : ∀ loc ds, ∀ d ∈ dirDiags p s loc ds, P d
  own : ∀ d ∈ walkKinds s, P d

/-- a stretch of the walk from the marked set `V`, with result `r`: it reports only what has `P` and leaves a marked
    set of distinct defined names, not a shorter one -/
def Step (P : Diag → Prop) (doc : BuiltDoc) (V : List Name) (r : List Diag × List Name) : Prop :=
  (∀ d ∈ r.1, P d) ∧ Inv doc r.2 ∧ V.length ≤ r.2.length

theorem Step.here {P : Diag → Prop} {doc : BuiltDoc} {V : List Name} {ds : List Diag} (hi : Inv doc V)
    (hd : ∀ d ∈ ds, P d) : Step P doc V (ds, V) := ⟨hd, hi, Nat.le_refl _⟩

theorem Step.ite {P : Diag → Prop} {doc : BuiltDoc} {V : List Name} {a b : List Diag × List Name} (c : Prop) [Decidable c]
    (ha : Step P doc V a) (hb : Step P doc V b) : Step P doc V (if c then a else b) := by
  split <;> assumption

theorem Step.seq {P : Diag → Prop} {doc : BuiltDoc} {V : List Name} {pre : List Diag} {r1 r2 : List Diag × List Name}
    (hpre : ∀ d ∈ pre, P d) (h1 : Step P doc V r1) (h2 : Step P doc r1.2 r2) : Step P doc V (pre ++ r1.1 ++ r2.1, r2.2) :=
  ⟨by simp only [List.forall_mem_append]; exact ⟨⟨hpre, h1.1⟩, h2.1⟩, h2.2.1, Nat.le_trans h1.2.2 h2.2.2⟩

/-- the handler, on at least `K` marked fragments -/
def Good (P : Diag → Prop) (doc : BuiltDoc) (K : Nat) (e : Frag → List Name → List Diag × List Name) : Prop :=
  ∀ f V, Inv doc V → K ≤ V.length → Step P doc V (e f V)

theorem walkSels_step {P : Diag → Prop} {p : Params} {s : Option Schema} (hP : Local P p s) (doc : BuiltDoc) (K : Nat)
    (e : Frag → List Name → List Diag × List Name) (he : Good P doc (K + 1) e) (t : Sels) :
    ∀ (ty : Option Name) (V : List Name), Inv doc V → K ≤ V.length → Step P doc V (walkSels p s doc e ty t V) := by
  induction t with
  | nil => intro ty V hi hk; exact .here hi (by simp)
  | field name dirs args sub rest ihs ihr =>
    intro ty V hi hk
    have hd1 : ∀ d ∈ dirDiags p s .field dirs ++ uniqueArgs [] args, P d := by
      intro d hd
      rcases List.mem_append.mp hd with hd | hd
      · exact hP.dirs _ _ d hd
      · rw [uniqueArgs_mem _ _ d hd]; exact hP.own _ (by simp [walkKinds])
    have next : ∀ r, Step P doc V r → Step P doc V
        (dirDiags p s .field dirs ++ uniqueArgs [] args ++ r.1 ++ (walkSels p s doc e ty rest r.2).1,
          (walkSels p s doc e ty rest r.2).2) :=
      fun r hr => .seq hd1 hr (ihr ty _ hr.2.1 (Nat.le_trans hk hr.2.2))
    simp only [walkSels]
    split
    · next sc t0 =>
      have hd2 : ∀ fd : FieldDef, ∀ d ∈ undefinedArgs fd.args args ++ requiredArgs fd.args args, P d := by
        intro fd d hd
        rcases List.mem_append.mp hd with hd | hd
        · rw [Rules.undefinedArgs_kind _ _ d hd]; exact hP.own _ (by simp [walkKinds])
        · rw [Rules.requiredArgs_kind _ _ d hd]; exact hP.own _ (by simp [walkKinds])
      split
      · next fd _ =>
        split
        · refine next _ (.here hi fun d hd => ?_)
          rcases List.mem_append.mp hd with hd | hd
          · exact hd2 fd d hd
          · rw [List.mem_singleton.mp hd]; exact hP.own _ (by simp [walkKinds])
        · have h3 := ihs (some fd.ty) V hi hk
          exact next _ ⟨fun d hd => (List.mem_append.mp hd).elim (hd2 fd d) (h3.1 d), h3.2⟩
      · exact next _ (.here hi (by simp))
    · exact next _ (ihs none V hi hk)
  | spread f dirs rest ihr =>
    intro ty V hi hk
    have next : ∀ r, Step P doc V r → Step P doc V
        (dirDiags p s .fragmentSpread dirs ++ r.1 ++ (walkSels p s doc e ty rest r.2).1,
          (walkSels p s doc e ty rest r.2).2) :=
      fun r hr => .seq (hP.dirs _ _) hr (ihr ty _ hr.2.1 (Nat.le_trans hk hr.2.2))
    simp only [walkSels]
    cases hf : doc.findFrag f with
    | none => exact next _ (.here hi (by simpa using hP.own .undefinedFragment (by simp [walkKinds])))
    | some g =>
      by_cases hv : f ∈ V
      · simp only [hv, if_true]
        exact next _ (.here hi (by simp))
      · simp only [hv, if_false]
        have h2 := he g (f :: V) (inv_cons doc V f g hi hf hv) (by simp; omega)
        exact next _ ⟨h2.1, h2.2.1, Nat.le_trans (Nat.le_succ _) h2.2.2⟩
  | inline tc dirs sub rest ihs ihr =>
    intro ty V hi hk
    simp only [walkSels]
    refine .seq ?_ (.ite _ (ihs _ V hi hk) (.here hi (by simp))) (ihr ty _ ?_ ?_)
    · intro d hd
      rcases List.mem_append.mp hd with hd | hd
      · exact hP.dirs _ _ d hd
      · split at hd
        · split at hd
          · cases hd
          · rw [List.mem_singleton.mp hd]; exact hP.own _ (by simp [walkKinds])
        · cases hd
    · exact (Step.ite _ (ihs _ V hi hk) (.here hi (by simp))).2.1
    · exact Nat.le_trans hk (Step.ite _ (ihs _ V hi hk) (.here hi (by simp))).2.2

/-- pigeonhole: fuel `n` is enough on marked sets of at least `frags.length + 1 - n` names, and at `n = 0` there is
    no such set (`inv_length_le`) -/
theorem enterFrag_good {P : Diag → Prop} {p : Params} {s : Option Schema} (hP : Local P p s) (doc : BuiltDoc) (n : Nat) :
    Good P doc (doc.frags.length + 1 - n) (enterFrag p s doc n) := by
  induction n with
  | zero =>
    intro f V hi hk
    have := inv_length_le doc V hi
    omega
  | succ n ih =>
    intro f V hi hk
    have hle := inv_length_le doc V hi
    have ih' : Good P doc ((doc.frags.length - n) + 1) (enterFrag p s doc n) :=
      fun g W hiW hkW => ih g W hiW (by omega)
    have hw := walkSels_step hP doc (doc.frags.length - n) _ ih' f.sels (fragTy s f) V hi (by omega)
    simp only [enterFrag]
    refine .ite _ ⟨fun d hd => (List.mem_append.mp hd).elim (hP.dirs _ _ d) (hw.1 d), hw.2⟩ (.here hi fun d hd => ?_)
    rcases List.mem_append.mp hd with hd | hd
    · rcases List.mem_append.mp hd with hd | hd
      · exact hP.dirs _ _ d hd
      · split at hd
        · split at hd
          · cases hd
          · rw [List.mem_singleton.mp hd]; exact hP.own _ (by simp [walkKinds])
        · cases hd
    · split at hd
      · rw [List.mem_singleton.mp hd]; exact hP.own _ (by simp [walkKinds])
      · cases hd

/-- the walk of one operation: fuel = the number of fragment definitions, `validated_fragments` empty at the start -/
theorem walk_all {P : Diag → Prop} {p : Params} {s : Option Schema} (hP : Local P p s) (doc : BuiltDoc)
    (ty : Option Name) (t : Sels) : ∀ d ∈ (walkSels p s doc (enterFrag p s doc doc.frags.length) ty t []).1, P d := by
  have hg : Good P doc (0 + 1) (enterFrag p s doc doc.frags.length) := by
    simpa using enterFrag_good hP doc doc.frags.length
  exact (walkSels_step hP doc 0 _ hg t ty [] ⟨List.nodup_nil, by simp⟩ (Nat.le_refl _)).1

theorem local_allowed (p : Params) : Local (Allowed p) p none where
  dirs := dirDiags_none_mem p
  own := by
    intro d hd
    simp only [walkKinds, Option.isSome_none, Bool.false_eq_true, if_false, List.append_nil, List.mem_cons,
      List.not_mem_nil, or_false] at hd
    rcases hd with rfl | rfl | rfl <;> exact .inl rfl

theorem validateBuilt_none_mem (p : Params) (doc : BuiltDoc) : ∀ d ∈ validateBuilt p none doc, Allowed p d := by
  intro d hd
  simp only [validateBuilt, validateOp, List.mem_append, List.mem_flatMap, List.mem_map] at hd
  rcases hd with (⟨o, _, ((hd | hd) | hd) | hd⟩ | hd) | ⟨n, _, hd⟩
  · exact dirDiags_none_mem p _ _ d hd
  · exact varDefDiags_none_mem p _ _ d hd
  · simp only [unusedVarDiags, List.mem_map] at hd
    obtain ⟨_, _, hd⟩ := hd
    exact .inl (by rw [← hd]; rfl)
  · exact walk_all (local_allowed p) doc _ _ d hd
  · simp only [fragmentsUsed, List.mem_map] at hd
    obtain ⟨_, _, hd⟩ := hd
    exact .inl (by rw [← hd]; rfl)
  · exact .inl (by rw [← hd]; rfl)

theorem validate_none_kinds (p : Params) (ast : Ast) : ∀ d ∈ validate p none ast,
    d.universal = true ∨ (d = .undefinedDirective ∧ p.undefinedDirectiveWithoutSchema = true) := by
  intro d hd
  simp only [validate, List.append_nil, List.mem_append] at hd
  rcases hd with hd | hd
  · exact .inl (build_none_mem ast d hd)
  · exact validateBuilt_none_mem p _ d hd

theorem validate_none_fuel (p : Params) (ast : Ast) : ∀ d ∈ validate p none ast, d ≠ .outOfFuel := by
  intro d hd h
  subst h
  rcases validate_none_kinds p ast _ hd with h | h
  · cases h
  · cases h.1

end Apollo.Standalone
