import ApolloModel.Proofs.AstDefTokens
/-
Round trip of the list-like parts of definitions: default values, variable definitions, input value
definitions (arguments definitions and input fields); `calm`, the tokens that may follow an item.
-/
namespace Apollo.Ast

/-- tokens after which every optional trailing part of an item is unambiguously absent:
    end of input, a name, a string (description), `)`, `}` or `$` -/
def calm : List Tok → Bool
  | [] => true
  | .name _ :: _ => true
  | .str _ :: _ => true
  | .p .rParen :: _ => true
  | .p .rCurly :: _ => true
  | .p .dollar :: _ => true
  | _ => false

theorem calm_p {ts : List Tok} (h : calm ts = true) (k : P) (hk : ts.head? = some (.p k)) :
    k = .rParen ∨ k = .rCurly ∨ k = .dollar := by
  cases ts with
  | nil => simp at hk
  | cons a r =>
    simp only [List.head?_cons, Option.some.injEq] at hk
    subst hk
    cases k <;> simp_all [calm]

theorem calm_dirFollow {ts : List Tok} (h : calm ts = true) : dirFollow ts := by
  constructor <;> intro e <;> have := calm_p h _ e <;> simp at this

theorem calm_ne {ts : List Tok} (h : calm ts = true) (k : P) (h1 : k ≠ .rParen) (h2 : k ≠ .rCurly) (h3 : k ≠ .dollar) :
    ts.head? ≠ some (.p k) := by
  intro e; rcases calm_p h _ e with h | h | h <;> contradiction

theorem head_tDirectives (ds : List Directive) (X : List Tok) (t : Tok) (h : (tDirectives ds ++ X).head? = some t) :
    t = .p .at ∨ X.head? = some t := by
  cases ds with
  | nil => right; simpa [tDirectives] using h
  | cons d r => left; simp [tDirectives] at h; exact h.symm

theorem head_tDefault (dv : Option Value) (X : List Tok) (t : Tok) (h : (tDefault dv ++ X).head? = some t) :
    t = .p .eq ∨ X.head? = some t := by
  cases dv with
  | none => right; simpa [tDefault] using h
  | some v => left; simp [tDefault] at h; exact h.symm

/-! ### default values -/

def wfDefault : Option Value → Bool
  | none => true
  | some v => wfValue v

def szDefault : Option Value → Nat
  | none => 0
  | some v => szValue v

theorem default_roundtrip (dv : Option Value) (f : Nat) (rest : List Tok) (h : wfDefault dv = true)
    (hs : szDefault dv ≤ f) (hr : rest.head? ≠ some (.p .eq)) : pDefault f (tDefault dv ++ rest) = some (dv, rest) := by
  cases dv with
  | some v =>
    have := value_roundtrip v f rest h hs
    simp [tDefault, pDefault, this]
  | none => exact pDefault.eq_2 f rest (head_ne hr)

theorem tyDefaultDirs_roundtrip (ty : Ty) (dv : Option Value) (ds : List Directive) (f : Nat) (rest : List Tok)
    (hdv : wfDefault dv = true) (hds : wfDirs ds = true) (hs : szTy ty + szDefault dv + szDirs ds ≤ f)
    (hr : calm rest = true) :
    pTy f (tTy ty ++ tDefault dv ++ tDirectives ds ++ rest) = some (ty, tDefault dv ++ tDirectives ds ++ rest)
    ∧ pDefault f (tDefault dv ++ tDirectives ds ++ rest) = some (dv, tDirectives ds ++ rest)
    ∧ pDirectives f (tDirectives ds ++ rest) = some (ds, rest) := by
  have hne : ∀ k : P, k ≠ .eq → k ≠ .at → k ≠ .rParen → k ≠ .rCurly → k ≠ .dollar →
      (tDefault dv ++ tDirectives ds ++ rest).head? ≠ some (.p k) := by
    intro k h1 h2 h3 h4 h5 e
    rw [List.append_assoc] at e
    rcases head_tDefault dv _ _ e with h | e
    · injection h with h; exact h1 h
    · rcases head_tDirectives ds _ _ e with h | e
      · injection h with h; exact h2 h
      · exact calm_ne hr k h3 h4 h5 e
  refine ⟨?_, ?_, ?_⟩
  · have := ty_roundtrip ty f (tDefault dv ++ tDirectives ds ++ rest) (by omega)
      (hne .bang (by decide) (by decide) (by decide) (by decide) (by decide))
    simpa [List.append_assoc] using this
  · have := default_roundtrip dv f (tDirectives ds ++ rest) hdv (by omega) (by
      intro e
      rcases head_tDirectives ds _ _ e with h | e
      · injection h with h; cases h
      · exact calm_ne hr .eq (by decide) (by decide) (by decide) e)
    simpa [List.append_assoc] using this
  · exact directives_roundtrip ds f rest hds (by omega) (calm_dirFollow hr)

/-! ### variable definitions -/

def wfVarDefs : List VarDef → Bool
  | [] => true
  | v :: r => wfDefault v.default && wfDirs v.dirs && wfVarDefs r

def szVarDefs : List VarDef → Nat
  | [] => 1
  | v :: r => szTy v.ty + szDefault v.default + szDirs v.dirs + szVarDefs r + 1

theorem calm_tVarDefItems (vs : List VarDef) (rest : List Tok) : calm (tVarDefItems vs ++ .p .rParen :: rest) = true := by
  cases vs with
  | nil => rfl
  | cons v r => simp [tVarDefItems, tVarDef, calm]

theorem varDefsTail_roundtrip : ∀ (vs : List VarDef) (f : Nat) (rest : List Tok), wfVarDefs vs = true →
    szVarDefs vs ≤ f → pVarDefsTail f (tVarDefItems vs ++ .p .rParen :: rest) = some (vs, rest)
  | [], f + 1, rest, _, _ => by simp [tVarDefItems, pVarDefsTail]
  | v :: r, f + 1, rest, h, hs => by
      simp [wfVarDefs] at h
      simp [szVarDefs] at hs
      obtain ⟨h1, h2, h3⟩ := tyDefaultDirs_roundtrip v.ty v.default v.dirs f (tVarDefItems r ++ .p .rParen :: rest)
        h.1.1 h.1.2 (by omega) (calm_tVarDefItems r rest)
      have htl := varDefsTail_roundtrip r f rest h.2 (by omega)
      simp only [tVarDefItems, tVarDef, List.cons_append, List.append_assoc] at h1 h2 h3 ⊢
      simp [pVarDefsTail, h1, h2, h3, htl]
  | [], 0, _, _, hs | _ :: _, 0, _, _, hs => by simp [szVarDefs] at hs

theorem varDefs_roundtrip (vs : List VarDef) (f : Nat) (rest : List Tok) (h : wfVarDefs vs = true)
    (hs : szVarDefs vs ≤ f) (hr : notLParen rest) : pVarDefs f (tVarDefs vs ++ rest) = some (vs, rest) := by
  cases vs with
  | nil => exact pVarDefs.eq_2 f rest (head_ne hr)
  | cons a r =>
    have := varDefsTail_roundtrip (a :: r) f rest h hs
    simp [tVarDefs, pVarDefs, this]

/-! ### input value definitions -/

def wfIVDs : List InputValueDef → Bool
  | [] => true
  | v :: r => wfDefault v.default && wfDirs v.dirs && wfIVDs r

def szIVDs : List InputValueDef → Nat
  | [] => 1
  | v :: r => szTy v.ty + szDefault v.default + szDirs v.dirs + szIVDs r + 1

theorem inputValueDef_roundtrip (v : InputValueDef) (f : Nat) (rest : List Tok) (h1 : wfDefault v.default = true)
    (h2 : wfDirs v.dirs = true) (hs : szTy v.ty + szDefault v.default + szDirs v.dirs ≤ f) (hr : calm rest = true) :
    pInputValueDef f (tIVD v ++ rest) = some (v, rest) := by
  obtain ⟨a, b, c⟩ := tyDefaultDirs_roundtrip v.ty v.default v.dirs f rest h1 h2 hs hr
  obtain ⟨desc, name, ty, dv, ds⟩ := v
  cases desc with
  | none =>
    simp only [tIVD, tDescription, List.nil_append, List.cons_append, List.append_assoc] at a b c ⊢
    simp [pInputValueDef, pDescription, a, b, c]
  | some d =>
    simp only [tIVD, tDescription, List.cons_append, List.nil_append, List.append_assoc] at a b c ⊢
    simp [pInputValueDef, pDescription, a, b, c]

/-- items of braced / parenthesised definition lists start with a name or a description string -/
def nameOrStr : Tok → Bool
  | .name _ | .str _ => true
  | _ => false

theorem tIVD_head (v : InputValueDef) (X : List Tok) : ∃ t r, tIVD v ++ X = t :: r ∧ nameOrStr t = true := by
  obtain ⟨desc, name, ty, dv, ds⟩ := v
  cases desc with
  | none => exact ⟨.name name, _, by simp only [tIVD, tDescription, List.nil_append, List.cons_append]; rfl, rfl⟩
  | some d => exact ⟨.str d, _, by simp only [tIVD, tDescription, List.cons_append, List.nil_append]; rfl, rfl⟩

theorem calm_tIVDItems (vs : List InputValueDef) (close : P) (hc : close = .rParen ∨ close = .rCurly) (rest : List Tok) :
    calm (tIVDItems vs ++ .p close :: rest) = true := by
  cases vs with
  | nil => rcases hc with h | h <;> subst h <;> rfl
  | cons v r =>
    obtain ⟨t, r', e, hne⟩ := tIVD_head v (tIVDItems r ++ .p close :: rest)
    simp only [tIVDItems, List.append_assoc]
    rw [e]
    cases t <;> simp_all [nameOrStr, calm]

theorem pInputValueDefsTail_cons (close : P) (f : Nat) (ts : List Tok) (t : Tok) (r : List Tok) (e : ts = t :: r)
    (hne : nameOrStr t = true) (v : InputValueDef) (r1 : List Tok) (vs : List InputValueDef) (r2 : List Tok)
    (h1 : pInputValueDef f ts = some (v, r1)) (h2 : pInputValueDefsTail close f r1 = some (vs, r2)) :
    pInputValueDefsTail close (f + 1) ts = some (v :: vs, r2) := by
  subst e
  cases t <;> simp_all [nameOrStr, pInputValueDefsTail]

theorem inputValueDefsTail_roundtrip (close : P) (hc : close = .rParen ∨ close = .rCurly) :
    ∀ (vs : List InputValueDef) (f : Nat) (rest : List Tok), wfIVDs vs = true → szIVDs vs ≤ f →
    pInputValueDefsTail close f (tIVDItems vs ++ .p close :: rest) = some (vs, rest)
  | [], f + 1, rest, _, _ => by simp [tIVDItems, pInputValueDefsTail]
  | v :: r, f + 1, rest, h, hs => by
      simp [wfIVDs] at h
      simp [szIVDs] at hs
      have h1 := inputValueDef_roundtrip v f (tIVDItems r ++ .p close :: rest) h.1.1 h.1.2 (by omega)
        (calm_tIVDItems r close hc rest)
      have htl := inputValueDefsTail_roundtrip close hc r f rest h.2 (by omega)
      obtain ⟨t, r', e, hne⟩ := tIVD_head v (tIVDItems r ++ .p close :: rest)
      simp only [tIVDItems, List.append_assoc]
      exact pInputValueDefsTail_cons close f _ t r' e hne v _ r rest h1 htl
  | [], 0, _, _, hs | _ :: _, 0, _, _, hs => by simp [szIVDs] at hs

theorem argumentsDefinition_roundtrip (args : List InputValueDef) (f : Nat) (rest : List Tok) (h : wfIVDs args = true)
    (hs : szIVDs args ≤ f) (hr : notLParen rest) : pArgumentsDefinition f (tArgsDef args ++ rest) = some (args, rest) := by
  cases args with
  | nil => exact pArgumentsDefinition.eq_2 f rest (head_ne hr)
  | cons a r =>
    have := inputValueDefsTail_roundtrip .rParen (Or.inl rfl) (a :: r) f rest h hs
    simp [tArgsDef, pArgumentsDefinition, this]

theorem inputFieldsDefinition_roundtrip (fields : List InputValueDef) (f : Nat) (rest : List Tok)
    (h : wfIVDs fields = true) (hs : szIVDs fields ≤ f) (hr : rest.head? ≠ some (.p .lCurly)) :
    pInputFieldsDefinition f (tBraced (tIVDItems fields) fields.isEmpty ++ rest) = some (fields, rest) := by
  cases fields with
  | nil => exact pInputFieldsDefinition.eq_2 f rest (head_ne hr)
  | cons a r =>
    have := inputValueDefsTail_roundtrip .rCurly (Or.inr rfl) (a :: r) f rest h hs
    simp [tBraced, pInputFieldsDefinition, this]

end Apollo.Ast
