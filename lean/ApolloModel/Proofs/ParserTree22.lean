import ApolloModel.Proofs.ParserTree21
/-
C08 (pipeline): variable definitions and fragment definitions — the shapes of VARIABLE_DEFINITION(S) and
FRAGMENT_DEFINITION nodes, what `impl Convert for cst::VariableDefinition` / `cst::FragmentDefinition` and
`collect_opt(x.variable_definitions(), …)` read from them, and that variable.rs / fragment.rs build them.
-/
set_option linter.unusedSimpArgs false
set_option linter.unusedVariables false

namespace Apollo.FromCst
open Apollo.Rowan Apollo.Ast
open Apollo.Parse (isJunk isJunkKind sigE nameNode)

variable {R : List Loc}

/-- the optional `DEFAULT_VALUE[= value]` child, as a list of significant children -/
def OptDefault (d : Option Value) (tail : List Elem) : Prop :=
  (d = none ∧ tail = []) ∨
  (∃ v cs eq ev, d = some v ∧ tail = [.node "DEFAULT_VALUE" cs] ∧ sigE cs = [.tok "EQ" eq, ev] ∧ ValTree v ev)

/-- `VARIABLE_DEFINITION[VARIABLE[$ NAME] : Type DefaultValue? Directives?]` -/
def VarDefTree (v : VarDef) (e : Elem) : Prop :=
  ∃ cs vcs dl col ety td tdir, e = .node "VARIABLE_DEFINITION" cs ∧ isValidName v.name = true ∧
    sigE vcs = [.tok "DOLLAR" dl, nameNode v.name] ∧ TyTree v.ty ety ∧ OptDefault v.default td ∧ OptDirs v.dirs tdir ∧
    sigE cs = .node "VARIABLE" vcs :: .tok "COLON" col :: ety :: (td ++ tdir)

theorem varDefTree_nodeP {v : VarDef} {e : Elem} (h : VarDefTree v e) : nodeP (· == "VARIABLE_DEFINITION") e = true := by
  obtain ⟨cs, _, _, _, _, _, _, rfl, _⟩ := h; simp [nodeP_node]

theorem optDefault_kinds {d : Option Value} {t : List Elem} (h : OptDefault d t) :
    t = [] ∨ ∃ c, t = [.node "DEFAULT_VALUE" c] := by
  rcases h with ⟨_, rfl⟩ | ⟨_, cs, _, _, _, rfl, _, _⟩
  · exact Or.inl rfl
  · exact Or.inr ⟨cs, rfl⟩

theorem isTypeKind_cases {k : SK} (h : isTypeKind k = true) : k = "NAMED_TYPE" ∨ k = "LIST_TYPE" ∨ k = "NON_NULL_TYPE" := by
  simp only [isTypeKind, Bool.or_eq_true, beq_iff_eq] at h
  rcases h with (h | h) | h
  · exact Or.inl h
  · exact Or.inr (Or.inl h)
  · exact Or.inr (Or.inr h)

/-- `impl Convert for cst::VariableDefinition` -/
theorem cVariableDefinition_conv (n : Nat) (v : VarDef) (e : Elem) (h : VarDefTree v e) (hs : size e ≤ n) :
    ConvE (fun R => @cVariableDefinition R n) v e := by
  obtain ⟨cs, vcs, dl, col, ety, td, tdir, rfl, hvn, hvsig, hty, hdef, hdirs, hsig⟩ := h
  obtain ⟨kt, tcs, rfl, hkt⟩ := hty.kind
  intro R s hp
  have hszcs : sizeList (sigE cs) ≤ sizeList cs := sizeList_sigE_le cs
  have hmemAll : ∀ x ∈ sigE cs, size x ≤ n := by
    intro x hx
    have := size_le_sizeList (mem_sigE hx)
    rw [size_node] at hs; omega
  have hdflt : ∃ l, defaultOf n (⟨(.node "VARIABLE_DEFINITION" cs, s), hp⟩ : PE R) = some (v.default, l) := by
    unfold defaultOf
    rcases hdef with ⟨hd, rfl⟩ | ⟨dv, dcs, eq, ev, hd, rfl, hdsig, hdv⟩
    · have hnone : cs.find? (nodeP (· == "DEFAULT_VALUE")) = none := by
        rw [find_nodeP_sigE, hsig]
        rcases optDirs_kinds hdirs with rfl | ⟨c, rfl⟩ <;> rcases isTypeKind_cases hkt with rfl | rfl | rfl <;>
          simp [List.find?_cons, nodeP_node, nodeP_tok]
      rw [child_eq_childP, childP_none (R := R) (· == "DEFAULT_VALUE") _ cs s hp hnone, hd]
      exact ⟨[], optM_none _⟩
    · have hsome : cs.find? (nodeP (· == "DEFAULT_VALUE")) = some (.node "DEFAULT_VALUE" dcs) := by
        rw [find_nodeP_sigE, hsig]
        rcases isTypeKind_cases hkt with rfl | rfl | rfl <;> simp [List.find?_cons, nodeP_node, nodeP_tok]
      obtain ⟨s', h', hc⟩ := childP_some (R := R) (· == "DEFAULT_VALUE") _ cs s hp _ hsome
      have hfv : dcs.find? (nodeP isValueKind) = some ev := by
        rw [find_nodeP_sigE, hdsig]
        simp [List.find?_cons, nodeP_tok, hdv.nodeP]
      obtain ⟨s'', h'', hc2⟩ := childP_some (R := R) isValueKind "DEFAULT_VALUE" dcs s' h' ev hfv
      have hszv : size ev ≤ n := by
        have h1 : size (Elem.node "DEFAULT_VALUE" dcs) ≤ n := hmemAll _ (by rw [hsig]; simp)
        have h2 := size_le_sizeList (mem_sigE (cs := dcs) (e := ev) (by rw [hdsig]; simp))
        rw [size_node] at h1; omega
      obtain ⟨l2, hl2⟩ := cValue_valTree n dv ev hdv hszv R s'' h''
      rw [child_eq_childP, hc, hd]
      refine ⟨_, optM_some _ _ dv ([] ++ l2) ?_⟩
      unfold valueOf
      rw [hc2]
      exact bind_ok rfl hl2
  obtain ⟨l1, hl1⟩ := hdflt
  have hft : cs.find? (nodeP isTypeKind) = some (.node kt tcs) := by
    rw [find_nodeP_sigE, hsig]
    have : nodeP isTypeKind (Elem.node kt tcs) = true := hty.nodeP
    simp [List.find?_cons, nodeP_node, nodeP_tok, this, isTypeKind]
  obtain ⟨st, ht', hct⟩ := childP_some (R := R) isTypeKind _ cs s hp _ hft
  obtain ⟨l2, hl2⟩ := cType_tyTree n v.ty _ hty (hmemAll _ (by rw [hsig]; simp)) R st ht'
  have hfv : cs.find? (nodeP (· == "VARIABLE")) = some (.node "VARIABLE" vcs) := by
    rw [find_nodeP_sigE, hsig]; simp [List.find?_cons, nodeP_node]
  obtain ⟨sv, hv', hcv⟩ := childP_some (R := R) (· == "VARIABLE") _ cs s hp _ hfv
  obtain ⟨l3, hl3⟩ := nameOf_node "VARIABLE" vcs v.name hvn (by rw [hvsig]; rfl) R sv hv'
  have hfd : (sigE cs).find? (nodeP (· == "DIRECTIVES")) = tdir.head? := by
    rw [hsig]
    rcases optDefault_kinds hdef with rfl | ⟨c, rfl⟩ <;> rcases optDirs_kinds hdirs with rfl | ⟨c', rfl⟩ <;>
      rcases isTypeKind_cases hkt with rfl | rfl | rfl <;> simp [List.find?_cons, nodeP_node, nodeP_tok]
  obtain ⟨l4, hl4⟩ := directivesOf_conv n "VARIABLE_DEFINITION" cs v.dirs tdir hdirs hfd
    (by intro x hx; rw [hsig]; simp [hx]) (by omega) R s hp
  refine ⟨l1 ++ (([] ++ l2) ++ ([] ++ (l3 ++ (l4 ++ [])))), ?_⟩
  show cVariableDefinition n _ = _
  unfold cVariableDefinition
  refine bind_ok hl1 (bind_ok ?_ (bind_ok ?_ (bind_ok hl3 (bind_ok hl4 (pure_ok _)))))
  · unfold typeOf
    rw [hct]
    exact bind_ok rfl hl2
  · rw [child_eq_childP, hcv]
    rfl

end Apollo.FromCst

namespace Apollo.Parse
open Apollo.Rowan hiding Str
open Apollo.Lex hiding Str
open Apollo.FromCst (ValTree TyTree OptDirs DirsNode OptDefault VarDefTree All2)

theorem Tr.anyE {α : Type} {E : PState → Prop} {H : List Tok → Prop} {m : PI α} {R : α → List Tok → List Elem → Prop}
    (h : Tr NoE H m R) : Tr E H m R := by
  refine ⟨h.1, ?_⟩
  intro s a s' w hi he hlq hq hr hnd
  obtain ⟨cs, ad, a1, a2, a3, a4, a5⟩ := h.2 s a s' w hi he hlq hq hr hnd
  refine ⟨cs, ad, a1, a2, a3, a4, ?_⟩
  rcases a5 with r | f
  · exact Or.inl r
  · exact absurd f id

/-- **ty.rs** in the calculus: `ty` without a new error consumed ONE type reference and appended its tree -/
theorem tr_ty (n : Nat) {E : PState → Prop} {H : List Tok → Prop} :
    Tr E H (ty n) (fun _ cs e => ∃ (t : Ast.Ty) (e0 : Elem), TokIs cs (Ast.tTy t) ∧ e = [e0] ∧ TyTree t e0) := by
  apply Tr.anyE
  refine ⟨good_ty n, ?_⟩
  intro s a s' w hi he hlq hq hr hnd
  have st : St s := ⟨w, hi, he, hlq⟩
  unfold ty at hr
  obtain ⟨r, sT, hT, h3⟩ := bind_dec (tyParse n) _ s s' () hr
  have aT := good_tyParse n s r sT w hT
  cases r with
  | ok =>
    simp only [] at h3; rw [run_pure] at h3; injection h3 with _ h3; subst h3
    rcases tyParse_tr n s sT _ st hT hnd with ⟨tk, hx⟩ | ⟨_, _, g⟩
    · cases hx
    · exact g
  | early =>
    simp only [] at h3; rw [run_pure] at h3; injection h3 with _ h3; subst h3
    rcases tyParse_tr n s sT _ st hT hnd with ⟨tk, hx⟩ | ⟨hx, _⟩ <;> cases hx
  | errTok tk =>
    exfalso
    simp only [] at h3
    exact hnd (errAtToken_adv tk sT s' aT.w h3).2
  | errNone =>
    exfalso
    simp only [] at h3
    have hndT : ¬ Doomed sT := fun d => hnd ((good_err sT () s' aT.w h3).doom d)
    rcases tyParse_tr n s sT _ st hT hndT with ⟨tk, hx⟩ | ⟨hx, _⟩ <;> cases hx

/-- `= Value` (constant) -/
def DefaultR (cs : List Tok) (e : List Elem) : Prop :=
  ∃ (v : Ast.Value) (dcs : List Elem) (t : Tok) (ev : Elem), TokIs cs (.p .eq :: Ast.tValue v) ∧ valueOk true v = true ∧
    e = [Elem.node "DEFAULT_VALUE" dcs] ∧ sigE dcs = [Elem.tok "EQ" t.data, ev] ∧ ValTree v ev

theorem tr_defaultValue (n : Nat) : Tr AtEof (HeadK .eq) (defaultValue n) (fun _ => DefaultR) := by
  unfold defaultValue
  have hb := tr_bind early_atEof (tr_bumpK (E := AtEof) "EQ" (by decide) .eq rfl (by decide)) (fun _ => tr_value n true false)
  refine (tr_withNode early_atEof "DEFAULT_VALUE" (hsig_headK .eq rfl) hb).mono
    (fun _ h => h) ?_
  rintro _ cs e ⟨inner, rfl, _, c1, c2, e1, e2, rfl, hin, ⟨t, hk, _, rfl, rfl⟩, v, ev, h1, h2, rfl, h4⟩
  exact ⟨v, inner, t, ev, TokIs.cons (by simp [astOfV, hk]) h1, h2, rfl, by rw [hin]; rfl, h4⟩

/-- what follows the name of a variable / input value definition: `: Type DefaultValue? Directives?` -/
def IvdTailR (cs : List Tok) (e : List Elem) : Prop :=
  ∃ (ty : Ast.Ty) (dflt : Option Ast.Value) (ds : List Ast.Directive) (tcol : Tok) (ety : Elem) (td tdir : List Elem),
    TokIs cs (.p .colon :: Ast.tTy ty ++ Ast.tDefault dflt ++ Ast.tDirectives ds) ∧
    (Ast.wfDefault dflt && Ast.wfDirs ds) = true ∧ TyTree ty ety ∧ OptDefault dflt td ∧ OptDirs ds tdir ∧
    e = Elem.tok "COLON" tcol.data :: ety :: (td ++ tdir)

theorem tr_ivdColon (n : Nat) : Tr AtEof (fun _ => True) (ivdColon n) (fun _ => IvdTailR) := by
  unfold ivdColon ivdType ivdAfterTy
  have hdirs : Tr AtEof (fun _ => True) (optDirsEnd n)
      (fun _ cs e => ∃ (ds : List Ast.Directive), TokIs cs (Ast.tDirectives ds) ∧ dirsOk true ds ∧ OptDirs ds e) :=
    (tr_optDirs n true).anyE
  have hdef := tr_optKind early_atEof (H := fun _ => True) .eq (defaultValue n) _ DefaultR _
    ((tr_defaultValue n).atKind) hdirs
  have htail := tr_bind early_atEof (tr_ty n (E := AtEof) (H := fun _ => True)) (fun _ => hdef)
  have hsel := tr_peek (E := AtEof) (H := fun _ => True)
    (f := fun k => if (k == some Kind.name || k == some Kind.lBracket) = true then
        (ty n >>= fun _ => optKind .eq (defaultValue n) (optDirsEnd n)) else err)
    (fun k => tr_ite _ (fun _ => htail.mono (fun _ _ => trivial) (fun _ _ _ hh => hh)) (fun _ => tr_err))
  have hcolon := tr_bind early_atEof (tr_bumpK (E := AtEof) "COLON" (by decide) .colon rfl (by decide)) (fun _ => hsel)
  refine (tr_ifKind (E := AtEof) (H := fun _ => True) .colon _ err _
    hcolon.atKind tr_err).mono
    (fun _ h => h) ?_
  rintro _ cs e ⟨_, c3, c4, e3, e4, rfl, rfl, ⟨tc, hkc, _, rfl, rfl⟩, _, c5, c6, e5, e6, rfl, rfl, ⟨ty, ety, ht1, rfl, ht3⟩,
    c7, c8, e7, e8, rfl, rfl, hd, ds, hds1, hds2, hds3⟩
  have hcol : TokIs [tc] [Ast.Tok.p .colon] := TokIs.single tc _ (by simp [astOfV, hkc])
  rcases hd with ⟨v, dcs, teq, ev, hv1, hv2, rfl, hv4, hv5⟩ | ⟨rfl, rfl⟩
  · refine ⟨ty, some v, ds, tc, ety, _, e8, ?_, ?_, ht3, Or.inr ⟨v, dcs, teq.data, ev, rfl, rfl, hv4, hv5⟩, hds3, rfl⟩
    · have := hcol.append (ht1.append (hv1.append hds1))
      simpa [Ast.tDefault, List.append_assoc] using this
    · simp [Ast.wfDefault, valueOk_wf true v hv2, dirsOk_wf true ds hds2]
  · refine ⟨ty, none, ds, tc, ety, [], e8, ?_, ?_, ht3, Or.inl ⟨rfl, rfl⟩, hds3, rfl⟩
    · have := hcol.append (ht1.append hds1)
      simpa [Ast.tDefault, List.append_assoc] using this
    · simp [Ast.wfDefault, dirsOk_wf true ds hds2]

def VarDefR (cs : List Tok) (e : List Elem) : Prop :=
  ∃ (v : Ast.VarDef) (ev : Elem), TokIs cs (Ast.tVarDef v) ∧ (Ast.wfDefault v.default && Ast.wfDirs v.dirs) = true ∧
    e = [ev] ∧ VarDefTree v ev

theorem tr_variableDefinition (n : Nat) : Tr AtEof (HeadK .dollar) (variableDefinition n) (fun _ => VarDefR) := by
  rw [variableDefinition_eq]
  have hb := tr_bind early_atEof tr_variableNodeX (fun _ => tr_ivdColon n)
  refine (tr_withNode early_atEof "VARIABLE_DEFINITION" (hsig_headK .dollar rfl) hb).mono (fun _ h => h) ?_
  rintro _ cs e ⟨inner, rfl, _, c1, c2, e1, e2, rfl, hin, ⟨x, vcs, dl, hv1, hv2, rfl, hv4⟩,
    ty, dflt, ds, tcol, ety, td, tdir, ht1, hwf, hty, hdf, hdr, rfl⟩
  refine ⟨⟨x, ty, dflt, ds⟩, _, ?_, hwf, rfl, inner, vcs, dl, tcol.data, ety, td, tdir, rfl, hv2, hv4, hty, hdf, hdr, by rw [hin]; simp⟩
  have := hv1.append ht1
  simpa [Ast.tVarDef, List.append_assoc] using this

/-! ### `( VariableDefinition+ )` -/

theorem itemsT_varDefs : ∀ (cs : List Tok) (e : List Elem), ItemsT VarDefR cs e →
    ∃ vs : List Ast.VarDef, TokIs cs (Ast.tVarDefItems vs) ∧ Ast.wfVarDefs vs = true ∧ All2 (fun e v => VarDefTree v e) e vs := by
  rintro cs e ⟨items, rfl, rfl, hall⟩
  induction items with
  | nil => exact ⟨[], TokIs.nil, rfl, All2.nil⟩
  | cons i items ih =>
    obtain ⟨vs, h1, h2, h3⟩ := ih (fun j hj => hall j (List.mem_cons_of_mem _ hj))
    obtain ⟨v, ev, hv1, hv2, hv3, hv4⟩ := hall i List.mem_cons_self
    refine ⟨v :: vs, ?_, ?_, ?_⟩
    · simp only [List.map_cons, List.flatten_cons, Ast.tVarDefItems]
      exact hv1.append h1
    · simp only [Ast.wfVarDefs, Bool.and_eq_true] at hv2 ⊢
      exact ⟨hv2, h2⟩
    · simp only [List.map_cons, List.flatten_cons, hv3]
      exact All2.cons hv4 h3

/-- `VARIABLE_DEFINITIONS[ ( VariableDefinition+ ) ]` -/
def VarDefsNode (vs : List Ast.VarDef) (e : Elem) : Prop :=
  ∃ cs lp rp es, e = Elem.node "VARIABLE_DEFINITIONS" cs ∧ sigE cs = Elem.tok "L_PAREN" lp :: (es ++ [Elem.tok "R_PAREN" rp]) ∧
    All2 (fun e v => VarDefTree v e) es vs

def VarDefsR (cs : List Tok) (e : List Elem) : Prop :=
  ∃ (vs : List Ast.VarDef) (ev : Elem), vs ≠ [] ∧ TokIs cs (Ast.tVarDefs vs) ∧ Ast.wfVarDefs vs = true ∧ e = [ev] ∧ VarDefsNode vs ev

theorem tr_varDefsTail (n : Nat) :
    Tr NoE (HeadK .dollar) (variableDefinition n >>= fun _ => peekWhileKind .dollar (variableDefinition n) >>= fun _ =>
        expect .rParen "R_PAREN")
      (fun _ cs e => ∃ (vs : List Ast.VarDef) (t : Tok), vs ≠ [] ∧ t.kind = .rParen ∧
        TokIs cs (Ast.tVarDefItems vs ++ [.p .rParen]) ∧ Ast.wfVarDefs vs = true ∧
        ∃ es, e = es ++ [Elem.tok "R_PAREN" t.data] ∧ All2 (fun e v => VarDefTree v e) es vs) := by
  have hloop := tr_kindWhile (E := AtEof) early_atEof (H := fun _ => True) .dollar (variableDefinition n) VarDefR
    ((tr_variableDefinition n).atKind)
  have h12 := tr_bind early_atEof (tr_variableDefinition n) (fun _ => hloop)
  have hc := tr_close .rParen "R_PAREN" (by decide) rfl (by decide) h12
  refine (hc.of_run (fun s => run_assoc _ _ _ s)).mono (fun _ h => h) ?_
  rintro _ cs e ⟨_, c1, e1, t, rfl, rfl, hk, _, x1, x2, y1, y2, rfl, rfl, hfirst, hitems⟩
  obtain ⟨vs, h1, h2, h3⟩ := itemsT_varDefs x2 y2 hitems
  obtain ⟨v, ev, hv1, hv2, hv3, hv4⟩ := hfirst
  refine ⟨v :: vs, t, by simp, hk, ?_, ?_, ev :: y2, by rw [hv3]; simp, All2.cons hv4 h3⟩
  · have hp : TokIs [t] [Ast.Tok.p .rParen] := TokIs.single t _ (by simp [astOfV, hk])
    have := (hv1.append h1).append hp
    simpa [Ast.tVarDefItems, List.append_assoc] using this
  · simp only [Ast.wfVarDefs, Bool.and_eq_true] at hv2 ⊢
    exact ⟨hv2, h2⟩

/-- **variable.rs `variable_definitions`** entered on `(` -/
theorem tr_variableDefinitions (n : Nat) : Tr NoE (HeadK .lParen) (variableDefinitions n) (fun _ => VarDefsR) := by
  unfold variableDefinitions
  have hgood : Good (peekWhileKind .dollar (variableDefinition n) >>= fun _ => expect .rParen "R_PAREN") :=
    good_bind _ _ (good_peekWhileKind _ _ (tr_variableDefinition n).1) (fun _ => good_expect _ _)
  have hsel : Tr NoE (fun _ => True) (peek >>= fun k => if k == some Kind.dollar then
      (variableDefinition n >>= fun _ => peekWhileKind .dollar (variableDefinition n) >>= fun _ => expect .rParen "R_PAREN")
      else (err >>= fun _ => peekWhileKind .dollar (variableDefinition n) >>= fun _ => expect .rParen "R_PAREN")) _ :=
    tr_ifKind .dollar _ _ _ ((tr_varDefsTail n).atKind)
      (tr_never (acc_err' _ hgood))
  have hb := tr_bind early_false (tr_bumpK (E := NoE) "L_PAREN" (by decide) .lParen rfl (by decide)) (fun _ => hsel)
  refine (tr_withNode early_false "VARIABLE_DEFINITIONS" (hsig_headK .lParen rfl) hb).mono
    (fun _ h => h) ?_
  rintro _ cs e ⟨inner, rfl, _, c1, c2, e1, e2, rfl, hin, ⟨t, hk, _, rfl, rfl⟩, vs, t2, hne, hk2, h1, h2, es, rfl, hall⟩
  refine ⟨vs, _, hne, ?_, h2, rfl, inner, t.data, t2.data, es, rfl, by rw [hin]; simp, hall⟩
  have hp : TokIs [t] [Ast.Tok.p .lParen] := TokIs.single t _ (by simp [astOfV, hk])
  have := hp.append h1
  cases vs with
  | nil => exact absurd rfl hne
  | cons a r => simpa [Ast.tVarDefs] using this

end Apollo.Parse

namespace Apollo.FromCst
open Apollo.Rowan Apollo.Ast
open Apollo.Parse (isJunk isJunkKind sigE nameNode)

variable {R : List Loc}

/-- `selection_set()?` then `convert_selection_set`, on a node whose SELECTION_SET child is known -/
theorem selectionSetOf_conv (n : Nat) (k : SK) (cs : List Elem) (sels : Sels) (ess : Elem) (hnode : SelSetNode sels ess)
    (hfind : (sigE cs).find? (nodeP (· == "SELECTION_SET")) = some ess) (hs : size (.node k cs) ≤ n + 1) :
    ConvE (fun R => @selectionSetOf R n) sels (.node k cs) := by
  intro R s hp
  obtain ⟨s', h', hc⟩ := childP_some (R := R) (· == "SELECTION_SET") k cs s hp _ (by rw [find_nodeP_sigE]; exact hfind)
  have hmem : ess ∈ sigE cs := List.mem_of_find?_eq_some hfind
  have hsz : size ess ≤ n + 1 := by
    have := size_le_sizeList (mem_sigE hmem)
    rw [size_node] at hs; omega
  obtain ⟨l3, hl3⟩ := selSet_collect n sels _ hnode (fun es hes hsz' => cSels_selsTree n sels es hes hsz') hsz R s' h'
  refine ⟨[] ++ (l3 ++ []), ?_⟩
  show selectionSetOf n _ = _
  unfold selectionSetOf
  rw [child_eq_childP, hc]
  refine bind_ok rfl (bind_ok hl3 ?_)
  rw [listToSels_toList]; rfl

/-- `FRAGMENT_DEFINITION[fragment FRAGMENT_NAME[NAME] TYPE_CONDITION[on NAMED_TYPE[NAME]] Directives? SelectionSet]` -/
def FragDefTree (name tc : Ast.Str) (dirs : List Directive) (sels : Sels) (e : Elem) : Prop :=
  ∃ cs kw fcs tcs ncs on td ess, e = .node "FRAGMENT_DEFINITION" cs ∧ isValidName name = true ∧ isValidName tc = true ∧
    sigE fcs = [nameNode name] ∧ sigE tcs = [.tok "on_KW" on, .node "NAMED_TYPE" ncs] ∧ sigE ncs = [nameNode tc] ∧
    OptDirs dirs td ∧ SelSetNode sels ess ∧
    sigE cs = .tok "fragment_KW" kw :: .node "FRAGMENT_NAME" fcs :: .node "TYPE_CONDITION" tcs :: (td ++ [ess])

theorem cDefinition_fragment_eq (n : Nat) (p : PE R) (hk : p.kind = "FRAGMENT_DEFINITION") :
    cDefinition n p = (M.ofOpt (child "FRAGMENT_NAME" p) >>= fun fname => nameOf fname >>= fun name =>
      M.ofOpt (child "TYPE_CONDITION" p) >>= fun tcn => cTypeCondition tcn >>= fun tc =>
      directivesOf n p >>= fun dirs => selectionSetOf n p >>= fun sels => pure (Definition.fragment name tc dirs sels)) := by
  simp [cDefinition, hk]

/-- `impl Convert for cst::FragmentDefinition` -/
theorem cDefinition_fragment (n : Nat) (name tc : Ast.Str) (dirs : List Directive) (sels : Sels) (e : Elem)
    (h : FragDefTree name tc dirs sels e) (hs : size e ≤ n + 1) :
    ConvE (fun R => @cDefinition R n) (.fragment name tc dirs sels) e := by
  obtain ⟨cs, kw, fcs, tcs, ncs, on, td, ess, rfl, hvn, hvt, hfcs, htcs, hncs, htd, hnode, hsig⟩ := h
  intro R s hp
  have hk : ∃ c, ess = .node "SELECTION_SET" c := by cases hnode with | mk _ c _ _ _ _ _ => exact ⟨c, rfl⟩
  obtain ⟨c4, rfl⟩ := hk
  have hff : cs.find? (nodeP (· == "FRAGMENT_NAME")) = some (.node "FRAGMENT_NAME" fcs) := by
    rw [find_nodeP_sigE, hsig]; find_groups
  obtain ⟨s1, h1, hc1⟩ := childP_some (R := R) _ "FRAGMENT_DEFINITION" cs s hp _ hff
  obtain ⟨l1, hl1⟩ := nameOf_node "FRAGMENT_NAME" fcs name hvn (by rw [hfcs]; rfl) R s1 h1
  have hft : cs.find? (nodeP (· == "TYPE_CONDITION")) = some (.node "TYPE_CONDITION" tcs) := by
    rw [find_nodeP_sigE, hsig]; find_groups
  obtain ⟨s2, h2, hc2⟩ := childP_some (R := R) _ "FRAGMENT_DEFINITION" cs s hp _ hft
  obtain ⟨l2, hl2⟩ := cTypeCondition_conv tc tcs ncs on hvt htcs hncs R s2 h2
  have hfd : (sigE cs).find? (nodeP (· == "DIRECTIVES")) = td.head? := by
    rw [hsig]; rcases optDirs_kinds htd with rfl | ⟨c3, rfl⟩ <;> find_groups
  obtain ⟨l3, hl3⟩ := directivesOf_conv n "FRAGMENT_DEFINITION" cs dirs td htd hfd
    (by intro e he; rw [hsig]; simp [he]) hs R s hp
  have hfs : (sigE cs).find? (nodeP (· == "SELECTION_SET")) = some (.node "SELECTION_SET" c4) := by
    rw [hsig]; rcases optDirs_kinds htd with rfl | ⟨c3, rfl⟩ <;> find_groups
  obtain ⟨l4, hl4⟩ := selectionSetOf_conv n "FRAGMENT_DEFINITION" cs sels _ hnode hfs hs R s hp
  refine ⟨[] ++ (l1 ++ ([] ++ (l2 ++ (l3 ++ (l4 ++ []))))), ?_⟩
  show cDefinition n _ = _
  rw [cDefinition_fragment_eq n _ rfl, child_eq_childP, hc1, child_eq_childP, hc2]
  exact bind_ok rfl (bind_ok hl1 (bind_ok rfl (bind_ok hl2 (bind_ok hl3 (bind_ok hl4 (pure_ok _))))))

end Apollo.FromCst

namespace Apollo.Parse
open Apollo.Rowan hiding Str
open Apollo.Lex hiding Str
open Apollo.FromCst (OptDirs DirsNode SelSetNode FragDefTree)

def FragDefR (cs : List Tok) (e : List Elem) : Prop :=
  ∃ (name tc : Ast.Str) (dirs : List Ast.Directive) (sels : Ast.Sels) (ed : Elem),
    TokIs cs (Ast.tDefinition false (.fragment name tc dirs sels)) ∧ Ast.wfDefinition (.fragment name tc dirs sels) = true ∧
    e = [ed] ∧ FragDefTree name tc dirs sels ed

/-- **fragment.rs `fragment_definition`** entered on the `fragment` keyword -/
theorem tr_fragmentDefinition (n : Nat) :
    Tr NoE (HeadP (fun t : Tok => t.kind = .name ∧ t.data = "fragment".toList)) (fragmentDefinition n) (fun _ => FragDefR) := by
  rw [fragmentDefinition_eq]
  unfold fragGuard fragBody fragSel
  have hss : Tr NoE (fun _ => True) (peek >>= fun k => if k == some Kind.lCurly then selectionSet n else err) (fun _ => SelSetR) :=
    tr_ifKind .lCurly _ _ _ ((tr_selSet n).atKind) tr_err
  have hd := tr_optDirectives n false _ hss (H := fun _ => True)
  have htc := tr_bind early_false (tr_typeCondition (H := fun _ => True)) (fun _ => hd)
  have hfn := tr_bind early_false (tr_fragmentName (H := fun _ => True)) (fun _ => htc)
  have hb := tr_bind early_false (tr_bump (E := NoE) "fragment_KW" (by decide) (fun t => t.kind = .name ∧ t.data = "fragment".toList)
    (by rintro t ⟨h, _⟩; rw [h]; exact ⟨rfl, by decide⟩)) (fun _ => hfn)
  have hg := tr_peek (E := NoE) (H := HeadP (fun t : Tok => t.kind = .name ∧ t.data = "fragment".toList))
    (f := fun k => if k == some Kind.stringValue then
        (errAndPop >>= fun _ => (bump "fragment_KW" >>= fun _ => fragmentName >>= fun _ => typeCondition >>= fun _ =>
          optKind .at (directives n false) (peek >>= fun k => if k == some Kind.lCurly then selectionSet n else err)))
      else (bump "fragment_KW" >>= fun _ => fragmentName >>= fun _ => typeCondition >>= fun _ =>
          optKind .at (directives n false) (peek >>= fun k => if k == some Kind.lCurly then selectionSet n else err)))
    (fun k => tr_ite _
      (fun hk => tr_absurd (good_bind _ _ good_errAndPop (fun _ => hb.1)) (by
        rintro q ⟨⟨t, hh, hkt, _⟩, h2⟩
        rw [hh] at h2
        simp only [Option.map_some] at h2
        rw [← h2, hkt] at hk
        simp at hk))
      (fun _ => hb.mono (fun _ h => h.1) (fun _ _ _ hh => hh)))
  refine (tr_withNode early_false "FRAGMENT_DEFINITION" ?_ hg).mono (fun _ h => h) ?_
  · rintro q ⟨t, hh, hk, _⟩
    cases q with
    | nil => cases hh
    | cons a b => simp only [List.head?_cons, Option.some.injEq] at hh; subst hh; exact ⟨a, b, rfl, by rw [hk]; rfl⟩
  rintro _ cs e ⟨inner, rfl, _, c1, c2, e1, e2, rfl, hin, ⟨tk, ⟨hkk, hkd⟩, _, rfl, rfl⟩, _, c3, c4, e3, e4, rfl, rfl,
    ⟨tn, fcs, hn1, hn2, hn3, rfl, rfl, hn6⟩, _, c5, c6, e5, e6, rfl, rfl,
    ⟨t1, t2, tcs, ncs, hk1, hd1', hk2, hv2, rfl, rfl, htcs, hncs⟩,
    ds, c7, c8, td, e8, rfl, rfl, hd1, hd2, hd3, sels, ess, hne, hwf, hs1, rfl, hs3⟩
  refine ⟨tn.data, t2.data, ds, sels, _, ?_, ?_, rfl, inner, tk.data, fcs, tcs, ncs, t1.data, td, ess, rfl, hn2, hv2, hn6, htcs, hncs,
    hd3, hs3, by rw [hin]; simp⟩
  · have ha : TokIs [tk] [Ast.Tok.name "fragment".toList] := TokIs.single tk _ (by simp [astOfV, hkk, hkd])
    have hb' : TokIs [tn] [Ast.Tok.name tn.data] := TokIs.single tn _ (by simp [astOfV, hn1])
    have hc : TokIs [t1, t2] [Ast.Tok.name Ast.sOn, Ast.Tok.name t2.data] :=
      TokIs.cons (by simp [astOfV, hk1, hd1', Ast.sOn]) (TokIs.single t2 _ (by simp [astOfV, hk2]))
    have := ha.append (hb'.append (hc.append (hd1.append hs1)))
    simpa [Ast.tDefinition, Ast.tSelSet, List.append_assoc] using this
  · simp only [Ast.wfDefinition, Bool.and_eq_true, bne_iff_ne, ne_eq]
    refine ⟨⟨⟨?_, dirsOk_wf false ds hd2⟩, hwf⟩, ?_⟩
    · simpa [Ast.sOn] using hn3
    · cases sels with
      | nil => exact absurd rfl hne
      | cons a b => rfl

end Apollo.Parse

namespace Apollo.FromCst
open Apollo.Rowan Apollo.Ast
open Apollo.Parse (isJunk isJunkKind sigE nameNode VarDefsNode)

variable {R : List Loc}

theorem varDefs_collect (n : Nat) (vs : List VarDef) (ev : Elem) (h : VarDefsNode vs ev) (hs : size ev ≤ n + 1)
    (R : List Loc) (s : Nat) (hp : ∀ x ∈ nameRanges ev s, x ∈ R) :
    ∃ l, collectM (cVariableDefinition n) (children "VARIABLE_DEFINITION" (⟨(ev, s), hp⟩ : PE R)) = some (vs, l) := by
  obtain ⟨cs, lp, rp, es, rfl, hsig, hall⟩ := h
  have hfilter : cs.filter (nodeP (· == "VARIABLE_DEFINITION")) = es := by
    rw [filter_nodeP_sigE, hsig]
    simp [List.filter_cons, nodeP_tok, List.filter_append, all2_filter _ _ (fun a e h => varDefTree_nodeP h) es vs hall]
  have hmap := childrenP_map (R := R) (· == "VARIABLE_DEFINITION") "VARIABLE_DEFINITIONS" cs s hp
  rw [hfilter] at hmap
  have hszs : sizeList es ≤ n := by
    have h2 : sizeList (sigE cs) ≤ sizeList cs := sizeList_sigE_le cs
    rw [hsig] at h2
    simp only [sizeList, sizeList_append, size] at h2 hs
    omega
  have hconv := all2_conv (fun R => @cVariableDefinition R n) VarDefTree n
    (fun v e h hsz => cVariableDefinition_conv n v e h hsz) es vs hall hszs
  rw [children_eq_childrenP]
  exact collectM_conv (R := R) (fun R => @cVariableDefinition R n) _ es vs hmap hconv

end Apollo.FromCst
