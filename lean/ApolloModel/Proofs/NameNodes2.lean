import ApolloModel.Proofs.NameNodes1
import ApolloModel.Proofs.ParserType3
/-
C11: `name` and ty.rs, the two producers of NAME nodes.
-/
set_option linter.unusedSimpArgs false
set_option linter.unusedVariables false
namespace Apollo.Parse
open Apollo.Rowan hiding Str
open Apollo.Lex hiding Str

theorem peekToken_result (s : PState) :
    ∃ o s1, peekToken.run s = .ok o s1 ∧ s1.current = o ∧ s1.builder = s.builder := by
  cases hc : s.current with
  | some t => exact ⟨some t, s, by simp [peekToken, hc], hc, rfl⟩
  | none =>
    exact ⟨(nextToken s).1, { (nextToken s).2 with current := (nextToken s).1 }, by simp [peekToken, hc], rfl,
      (nextToken_spec s).builder⟩

theorem ng_name : NG name := by
  constructor
  intro s hi a s' h
  obtain ⟨o, s1, hr1, hc1, hb1⟩ := peekToken_result s
  have hi1 := (post_of_run peekToken s hi o s1 hr1).1
  unfold name at h
  rw [run_bind, hr1] at h
  simp only [] at h
  have hs : NBadd s s1 := NBadd.of_eq (by rw [hb1])
  refine hs.trans ?_
  cases o with
  | none => exact ngTok.err.out s1 hi1 a s' h
  | some t =>
    simp only [] at h
    by_cases hk : (t.kind == .name) = true
    · simp only [hk, if_true] at h
      have hk' : t.kind = .name := by simpa using hk
      -- from `s1` (whose current token is `t`) this branch is what `name` itself runs
      have hn : name.run s1 = .ok a s' := by
        unfold name
        rw [run_bind]
        rw [peekToken_current s1 t hc1]
        simp only [hk, if_true]
        exact h
      have := (name_builds s1 t hc1 hk' a s' hn).1
      refine ⟨s1.pending.map pendingElem ++ [Elem.node "NAME" [Elem.tok "IDENT" t.data]], by rw [this, List.append_assoc], ?_⟩
      rw [namesAreIdentsList_append, namesAreIdentsList_pending]
      simp [namesAreIdentsList, namesAreIdents]
    · simp only [hk, Bool.false_eq_true, if_false] at h
      exact ngTok.err.out s1 hi1 a s' h

/-! ### ty.rs: the second producer -/

/-- a NAME node opened on a (non-ignored) current token whose body appends exactly the IDENT token -/
theorem nameNode_exact {α : Type} (body : PI α) (s : PState) (t : Tok) (hi : Inv s) (hc : s.current = some t)
    (hig : isIgnoredKind t.kind = false)
    (hbody : ∀ s1, s1.current = some t → s1.pending = [] → ∀ a s2, body.run s1 = .ok a s2 →
      s2.builder.children = s1.builder.children ++ [Elem.tok "IDENT" t.data])
    (a : α) (s' : PState) (h : (withNode "NAME" body).run s = .ok a s') : NBadd s s' := by
  obtain ⟨s2, added, hr2, hadd, hres⟩ := withNode_children "NAME" body s hi a s' h
  have hcs : (rawStartNode "NAME" (flushed s)).current = some t := hc
  rw [run_bind, skipIgnored_noop _ t hcs hig] at hr2
  simp only [] at hr2
  have h2 := hbody _ hcs rfl a s2 hr2
  have : added = [Elem.tok "IDENT" t.data] := by
    have h1 : (flushed s).builder.children ++ added = (flushed s).builder.children ++ [Elem.tok "IDENT" t.data] := by
      rw [← hadd]; exact h2
    exact List.append_cancel_left h1
  subst this
  refine ⟨s.pending.map pendingElem ++ [Elem.node "NAME" [Elem.tok "IDENT" t.data]], by rw [hres, List.append_assoc], ?_⟩
  rw [namesAreIdentsList_append, namesAreIdentsList_pending]
  simp [namesAreIdentsList, namesAreIdents]

/-- `NAMED_TYPE[NAME[eat IDENT]]` of ty.rs, entered on a Name token -/
theorem ngs_namedTypeName (s : PState) (t : Tok) (hi : Inv s) (hc : s.current = some t) (hk : t.kind = .name)
    (a : TyRes) (s' : PState)
    (h : (withNode "NAMED_TYPE" (withNode "NAME" (do eat "IDENT"; pure TyRes.ok))).run s = .ok a s') : NBadd s s' := by
  have hig : isIgnoredKind t.kind = false := by rw [hk]; rfl
  refine ngs_withNode "NAMED_TYPE" _ (by decide) s hi ?_ a s' h
  intro a2 s2 hr2
  have hcs : (rawStartNode "NAMED_TYPE" (flushed s)).current = some t := hc
  rw [run_bind, skipIgnored_noop _ t hcs hig] at hr2
  simp only [] at hr2
  refine nameNode_exact _ _ t (startNode_inv _ _ (flushed_inv s hi)) hcs hig ?_ a2 s2 hr2
  intro s1 hc1 hp1 b s3 hr3
  rw [run_bind] at hr3
  obtain ⟨s4, he, _, hch⟩ := eat_builder "IDENT" s1 t hc1 hp1
  rw [he] at hr3
  simp only [run_pure] at hr3
  injection hr3 with _ h2
  subst h2
  exact hch

theorem peek_result (s : PState) :
    ∃ o s1, peek.run s = .ok (o.map (·.kind)) s1 ∧ s1.current = o ∧ s1.builder = s.builder := by
  obtain ⟨o, s1, hr1, hc1, hb1⟩ := peekToken_result s
  refine ⟨o, s1, ?_, hc1, hb1⟩
  unfold peek
  rw [run_bind, hr1]
  rfl

theorem ng_tyListBody (n : Nat) (ih : NG (tyParse n)) : NG (tyListBody n) := by
  unfold tyListBody
  have close : NG (expect .rBracket "R_BRACK" >>= fun _ => (pure TyRes.ok : PI TyRes)) :=
    ng_bind _ _ (ngTok.expect _ _) fun _ => ng_pure _
  refine ng_bind _ _ (ngTok.bump _) fun _ => ng_bind _ _
    (ng_withRec _ _ (ng_bind _ _ ng_limitErr fun _ => ng_pure _) (ng_bind _ _ ih fun _ => ng_pure _)) fun inner => ?_
  cases inner with
  | none => exact ng_pure _
  | some res => cases res <;> first | exact close | exact ng_bind _ _ (ngTok.errAtToken _) fun _ => close

theorem ng_tyCond (r : TyRes) : NG (tyCond r) := by
  cases r <;> first
    | exact ng_pure _
    | exact ng_bind _ _ ngTok.skipIgnored fun _ => ng_bind _ _ ngTok.peek fun _ => ng_pure _

theorem ng_tyBody (n : Nat) (ih : NG (tyParse n)) : NG (tyBody n) := by
  have hl : NG (withNode "LIST_TYPE" (tyListBody n)) := ng_withNode _ _ (by decide) (ng_tyListBody n ih)
  have hp : NG (do match ← popDrop with
      | some t => pure (TyRes.errTok t)
      | none => pure TyRes.errNone) := ng_bind _ _ ng_popDrop fun o => by cases o <;> exact ng_pure _
  constructor
  intro s hi a s' h
  obtain ⟨o, s1, hr1, hc1, hb1⟩ := peek_result s
  have hi1 := (post_of_run peek s hi _ s1 hr1).1
  unfold tyBody at h
  rw [run_bind, hr1] at h
  simp only [] at h
  refine (NBadd.of_eq (by rw [hb1])).trans ?_
  cases o with
  | none =>
    simp only [Option.map] at h
    exact (ng_pure _).out s1 hi1 a s' h
  | some t =>
    simp only [Option.map] at h
    by_cases hk : t.kind = .name
    · rw [hk] at h
      simp only [] at h
      exact ngs_namedTypeName s1 t hi1 hc1 hk a s' h
    · split at h
      · exact hl.out s1 hi1 a s' h
      · rename_i heq
        injection heq with heq
        exact absurd heq hk
      · exact hp.out s1 hi1 a s' h
      · exact (ng_pure _).out s1 hi1 a s' h

theorem ng_tyParse : ∀ n, NG (tyParse n)
  | 0 => by unfold tyParse; exact ng_outOfFuel
  | n + 1 => by
    rw [tyParse_succ]
    refine ng_bind _ _ (ng_wrapIf _ _ _ _ (by decide) (ng_tyBody n (ng_tyParse n)) ng_tyCond (ngTok.eat _)) fun r => ?_
    cases r <;> first
      | exact ng_bind _ _ ngTok.skipIgnored fun _ => ng_pure _
      | exact ng_bind (pure ()) _ (ng_pure ()) fun _ => ng_pure _

theorem ng_ty (n : Nat) : NG (ty n) :=
  ng_bind _ _ (ng_tyParse n) fun r => by
    cases r <;> first | exact ng_pure _ | exact ngTok.err | exact ngTok.errAtToken _

end Apollo.Parse
