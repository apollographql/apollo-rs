import ApolloModel.Proofs.ParserDef9
/-
C05, type-system definitions: the lexer fact about token queues (`LexQ`) threaded through
the acceptance calculus, parts guarded by a keyword look-ahead, and `parse_separated_list` with its optional
leading separator.
-/
set_option linter.unusedSimpArgs false
namespace Apollo.Parse
open Apollo.Rowan hiding Str
open Apollo.Lex hiding Str

/-- the lexer fact the keyword look-aheads rely on: a token of the queue whose text starts like a Name
    (letter or `_`) IS a Name token. (`peek_data() == "scalar"` inspects the text only.) -/
def LexQ (q : List Tok) : Prop := ∀ t ∈ q, ∀ c r, t.data = c :: r → isNameStart c = true → t.kind = .name

theorem LexQ.suffix {cs q : List Tok} (h : LexQ (cs ++ q)) : LexQ q := fun t ht => h t (List.mem_append_right _ ht)

theorem LexQ.headKw {q : List Tok} {t : Tok} (h : LexQ q) (hh : q.head? = some t) (word : String) (c : Char) (r : Str)
    (hw : word.toList = c :: r) (hc : isNameStart c = true) (hd : t.data = word.toList) : t.kind = .name := by
  cases q with
  | nil => cases hh
  | cons a b =>
    simp only [List.head?_cons, Option.some.injEq] at hh
    subst hh
    exact h a (by simp) c r (by rw [hd, hw]) hc

/-- `bind` whose continuation keeps the lexer fact -/
theorem accL_bind {α β : Type} {E : PState → Prop} (hE : Early E) {H : List Tok → Prop} {m : PI α} {f : α → PI β}
    {R1 : α → List Ast.Tok → Prop} {R2 : α → β → List Ast.Tok → Prop}
    (hH : ∀ q, H q → LexQ q) (h1 : Acc E H m R1) (h2 : ∀ a, Acc E LexQ (f a) (R2 a)) :
    Acc E H (m >>= f) (fun b x => ∃ a x1 x2, x = x1 ++ x2 ∧ R1 a x1 ∧ R2 a b x2) :=
  acc_bindI hE (fun _ _ h => (hH _ h).suffix) h1 h2

/-- in a run without error the queue is never empty (the end-of-input token stays) -/
theorem acc_nonempty {α : Type} {E : PState → Prop} {H : List Tok → Prop} {m : PI α} {R : α → List Ast.Tok → Prop}
    (h : Acc E (fun q => H q ∧ q ≠ []) m R) : Acc E H m R := by
  refine ⟨h.1, ?_⟩
  intro s a s' w he hq hr hnd
  have hnds : ¬ Doomed s := fun dd => hnd ((h.1 s a s' w hr).doom dd)
  exact h.2 s a s' w he ⟨hq, eofEnd_nonempty s he hnds⟩ hr hnd

theorem accL_withNodeAny {α : Type} {E : PState → Prop} (hE : Early E) (K : SK) {body : PI α}
    {R : α → List Ast.Tok → Prop} (h : Acc E LexQ body R) : Acc E LexQ (withNode K body) R :=
  acc_withNodeI hE (fun _ _ => LexQ.suffix) K h

theorem accL_optKind {α : Type} {E : PState → Prop} (hE : Early E) (k0 : Kind) (m : PI Unit)
    (rest : PI α) (Lm : List Ast.Tok → Prop) (R : α → List Ast.Tok → Prop)
    (hm : Acc E (KindP (· == k0)) m (fun _ => Lm)) (hr : Acc E LexQ rest R) :
    Acc E LexQ (optKind k0 m rest) (fun a x => ∃ x1 x2, x = x1 ++ x2 ∧ (Lm x1 ∨ x1 = []) ∧ R a x2) :=
  acc_optKind2I hE (fun _ _ => LexQ.suffix) k0 m rest rest Lm R hm hr hr

theorem accL_peekIf {α : Type} {E : PState → Prop} (c : Option Kind → Bool) (a b : PI α)
    (R : α → List Ast.Tok → Prop) (ha : Acc E LexQ a R) (hb : Acc E LexQ b R) :
    Acc E LexQ (peek >>= fun k => if c k then a else b) R := by
  apply acc_peek
  intro k
  apply acc_ite
  · intro _; exact ha.mono (fun _ h => h.1) (fun _ _ h => h)
  · intro _; exact hb.mono (fun _ h => h.1) (fun _ _ h => h)

theorem accL_optDesc {α : Type} {E : PState → Prop} (hE : Early E) (rest : PI α) (R : α → List Ast.Tok → Prop)
    (hr : Acc E LexQ rest R) :
    Acc E LexQ (optKind .stringValue description rest) (fun a x => ∃ d x2, x = Ast.tDescription d ++ x2 ∧ R a x2) :=
  acc_optDescI hE (fun _ _ => LexQ.suffix) rest R hr

theorem accL_optDirs {α : Type} {E : PState → Prop} (hE : Early E) (n : Nat) (rest : PI α) (R : α → List Ast.Tok → Prop)
    (hr : Acc E LexQ rest R) :
    Acc E LexQ (optKind .at (directives n true) rest) (fun a x => ∃ ds x2, x = Ast.tDirectives ds ++ x2 ∧ R a x2) :=
  (acc_optDirsI hE (fun _ _ => LexQ.suffix) n rest R hr).mono (fun _ h => h) (fun _ _ ⟨ds, x2, e, _, h⟩ => ⟨ds, x2, e, h⟩)

def KwWord (word : String) : Prop := ∃ c r, word.toList = c :: r ∧ isNameStart c = true

/-- bumping a token whose text is the keyword `word` (as the look-ahead established), in a lexer queue -/
theorem accL_bumpKw {E : PState → Prop} (word : String) (hw : KwWord word) (sk : SK) :
    Acc E (fun q => LexQ q ∧ ∃ t, q.head? = some t ∧ t.data = word.toList) (bump sk) (fun _ x => x = [.name word.toList]) := by
  obtain ⟨c, r, hw1, hw2⟩ := hw
  refine (acc_bump sk (fun t => t.kind = .name ∧ t.data = word.toList) (fun x => x = [.name word.toList]) ?_).mono ?_ (fun _ _ h => h)
  · rintro t ⟨hk, hd⟩
    exact ⟨by rw [hk]; rfl, by rw [hk]; decide, _, by simp [astOfV, hk, hd], rfl⟩
  · rintro q ⟨hl, t, hh, hd⟩
    exact ⟨t, hh, hl.headKw hh word c r hw1 hw2 hd, hd⟩

def HeadData (word : String) (q : List Tok) : Prop := ∃ t, q.head? = some t ∧ t.data = word.toList

/-- `if peek_data == word { m; restT } else { restF }`: `m` starts on the keyword token -/
def optData2 {α : Type} (word : String) (m : PI Unit) (restT restF : PI α) : PI α :=
  peekData >>= fun d => if kwOpt word d then (m >>= fun _ => restT) else restF

theorem accL_optData2 {α : Type} {E : PState → Prop} (hE : Early E) (word : String) (m : PI Unit)
    (restT restF : PI α) (Lm : List Ast.Tok → Prop) (R : α → List Ast.Tok → Prop)
    (hm : Acc E (fun q => LexQ q ∧ HeadData word q) m (fun _ => Lm)) (hT : Acc E LexQ restT R) (hF : Acc E LexQ restF R) :
    Acc E LexQ (optData2 word m restT restF) (fun a x => ∃ x1 x2, x = x1 ++ x2 ∧ (Lm x1 ∨ x1 = []) ∧ R a x2) := by
  unfold optData2
  apply acc_peekData
  intro o
  apply acc_ite
  · intro hk
    have hb : Acc E (fun q => LexQ q ∧ q.head? = o) m (fun _ => Lm) := by
      refine hm.mono ?_ (fun _ _ h => h)
      intro q ⟨hl, hq⟩
      cases o with
      | none => simp [kwOpt] at hk
      | some t => exact ⟨hl, t, hq, by simpa [kwOpt] using hk⟩
    have := accL_bind hE (fun _ h => h.1) hb (fun _ => hT)
    exact this.mono (fun _ h => h) (fun a x ⟨_, x1, x2, e, h1, h2⟩ => ⟨x1, x2, e, Or.inl h1, h2⟩)
  · intro _
    exact hF.mono (fun _ h => h.1) (fun a x h => ⟨[], x, rfl, Or.inr rfl, h⟩)

theorem accL_optKw {α : Type} {E : PState → Prop} (hE : Early E) (word : String) (hw : KwWord word) (sk : SK)
    (rest : PI α) (R : α → List Ast.Tok → Prop) (hr : Acc E LexQ rest R) :
    Acc E LexQ (optKw word sk rest) (fun a x => ∃ seen x2, x = kwPart word seen ++ x2 ∧ R a x2) := by
  refine (accL_optData2 hE word (bump sk) rest rest _ R (accL_bumpKw word hw sk) hr hr).mono (fun _ h => h) ?_
  rintro a x ⟨x1, x2, e, h1 | h1, h2⟩
  · exact ⟨true, x2, by rw [e, h1]; rfl, h2⟩
  · exact ⟨false, x2, by rw [e, h1]; rfl, h2⟩

/-! ### `parse_separated_list` -/

def sepRest (sep : Kind) (sk : SK) (run : PI Unit) : PI Unit :=
  run >>= fun _ => peekWhileKind sep (bump sk >>= fun _ => run)

theorem parseSeparatedList_eq (sep : Kind) (sk : SK) (run : PI Unit) :
    parseSeparatedList sep sk run = optKind sep (bump sk) (sepRest sep sk run) := rfl

def tSepLead (sep : Ast.P) (lead : Bool) (first : Str) (rest : List Str) : List Ast.Tok :=
  (if lead then [.p sep] else []) ++ .name first :: Ast.tSepNames sep rest

theorem flatten_sepItems (psep : Ast.P) (Q : Str → Prop) : ∀ items : List (List Ast.Tok),
    (∀ i ∈ items, ∃ nm, i = [.p psep, .name nm] ∧ Q nm) → ∃ rest, items.flatten = Ast.tSepNames psep rest ∧ ∀ r ∈ rest, Q r
  | [], _ => ⟨[], rfl, by intro r hr; cases hr⟩
  | i :: items, h => by
    obtain ⟨nm, hi, hq⟩ := h i (by simp)
    obtain ⟨rest, hr, hall⟩ := flatten_sepItems psep Q items (fun j hj => h j (by simp [hj]))
    refine ⟨nm :: rest, by simp [hi, hr, Ast.tSepNames], ?_⟩
    intro r hr'
    rcases List.mem_cons.mp hr' with rfl | hr'
    · exact hq
    · exact hall r hr'

/-- **`Parser::parse_separated_list`**: `sep? Name (sep Name)*` — the leading separator is optional. -/
theorem acc_sepList {E : PState → Prop} (hE : Early E) {H : List Tok → Prop} (sep : Kind) (sk : SK) (psep : Ast.P)
    (hx : ∀ t : Tok, t.kind = sep → astOfV t = some (.p psep)) (hni : isIgnoredKind sep = false) (hne : sep ≠ .eof)
    (run : PI Unit) (Q : Str → Prop) (hrun : Acc E (fun _ => True) run (fun _ x => ∃ nm, x = [.name nm] ∧ Q nm)) :
    Acc E H (parseSeparatedList sep sk run)
      (fun _ x => ∃ lead first rest, x = tSepLead psep lead first rest ∧ Q first ∧ ∀ r ∈ rest, Q r) := by
  rw [parseSeparatedList_eq]
  have hitem : Acc E (KindP (· == sep)) (bump sk >>= fun _ => run) (fun _ x => ∃ nm, x = [.p psep, .name nm] ∧ Q nm) := by
    refine (acc_bind hE (acc_bumpKind sep sk (.p psep) hx hni hne) (fun _ => hrun)).mono (fun _ h => h) ?_
    rintro _ x ⟨_, x1, x2, e, h1, nm, h2, hq⟩
    exact ⟨nm, by rw [e, h1, h2]; rfl, hq⟩
  have hrest : Acc E (fun _ => True) (sepRest sep sk run)
      (fun _ x => ∃ first rest, x = .name first :: Ast.tSepNames psep rest ∧ Q first ∧ ∀ r ∈ rest, Q r) := by
    unfold sepRest
    refine (acc_bind hE hrun (fun _ => acc_kindWhile hE sep _ _ hitem)).mono (fun _ h => h) ?_
    rintro _ x ⟨_, x1, x2, e, ⟨nm, h1, hq⟩, items, h2, hall⟩
    obtain ⟨rest, hr, hqr⟩ := flatten_sepItems psep Q items hall
    exact ⟨nm, rest, by rw [e, h1, h2, hr]; rfl, hq, hqr⟩
  refine (acc_optKind hE sep (bump sk) _ (fun x => x = [.p psep]) _ (acc_bumpKind sep sk (.p psep) hx hni hne) hrest).mono
    (fun _ _ => trivial) ?_
  rintro _ x ⟨x1, x2, e, h1, first, rest, h2, hq, hqr⟩
  rcases h1 with h1 | h1
  · exact ⟨true, first, rest, by rw [e, h1, h2]; rfl, hq, hqr⟩
  · exact ⟨false, first, rest, by rw [e, h1, h2]; rfl, hq, hqr⟩

/-- C08's printer never writes the leading separator: `tSepList` is the `lead = false` case -/
theorem tSepList_eq_lead (intro : List Ast.Tok) (sep : Ast.P) (first : Str) (rest : List Str) :
    Ast.tSepList intro sep (first :: rest) = intro ++ tSepLead sep false first rest := by
  simp [Ast.tSepList, tSepLead]

end Apollo.Parse
