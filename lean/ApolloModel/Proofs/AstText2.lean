import ApolloModel.Proofs.AstText
/-
Property C08, text level: every `serialize_impl` piece, started after a separator or a punctuator,
never glues two tokens — by induction over the AST.
-/
namespace Apollo.Ast

def AllClean (items : List (List Cmd)) : Prop := ∀ item ∈ items, ∀ st, Clean st → Ok st item

mutual
theorem ok_cValue : ∀ (v : Value) (st : Option Cls), Clean st → Ok st (cValue v)
  | .null, st, h => ok_kw h.nm (ok_nil _)
  | .bool true, st, h => ok_kw h.nm (ok_nil _)
  | .bool false, st, h => ok_kw h.nm (ok_nil _)
  | .enum n, st, h => ok_nm h.nm (ok_nil _)
  | .str s, st, h => ok_str h.ne_str (ok_nil _)
  | .var n, st, h => ok_pn (by simp) (ok_nm (.inr (.inl rfl)) (ok_nil _))
  | .float t, st, h | .int t, st, h => by
      refine ok_tok ?_ (ok_nil _)
      rcases h with h | h <;> subst h <;> rfl
  | .list vs, st, _ => any_commaSeparated _ _ (by simp) (by simp) _ (allClean_cValues vs) st
  | .obj fs, st, _ => any_commaSeparated _ _ (by simp) (by simp) _ (allClean_cObjFields fs) st
theorem allClean_cValues : ∀ (vs : Values), AllClean (cValues vs)
  | .nil => by intro i hi; simp [cValues] at hi
  | .cons v tl => by
      intro i hi st hst
      simp only [cValues, List.mem_cons] at hi
      rcases hi with hi | hi
      · subst hi; exact ok_cValue v st hst
      · exact allClean_cValues tl i hi st hst
theorem allClean_cObjFields : ∀ (fs : ObjFields), AllClean (cObjFields fs)
  | .nil => by intro i hi; simp [cObjFields] at hi
  | .cons n v tl => by
      intro i hi st hst
      simp only [cObjFields, List.mem_cons] at hi
      rcases hi with hi | hi
      · subst hi
        simp only [List.cons_append, List.nil_append]
        exact ok_nm hst.nm (ok_pn (by simp) (ok_sp (ok_cValue v none clean_none)))
      · exact allClean_cObjFields tl i hi st hst
end

/-- a type reference ends with a name, `!` or `]`; whatever follows it in the serializer is a separator,
    a punctuator or nothing -/
theorem ok_cTy_then : ∀ (t : Ty) (st : Option Cls) (rest : List Cmd), Clean st →
    Ok (some .word) rest → Ok (some .other) rest → Ok st (cTy t ++ rest)
  | .named n, st, rest, h, hw, _ => by simpa [cTy] using ok_nm h.nm hw
  | .nonNullNamed n, st, rest, h, _, ho => by simpa [cTy] using ok_nm h.nm (ok_pn (by simp) ho)
  | .list t, st, rest, _, _, ho => by
      simp only [cTy, List.cons_append, List.append_assoc]
      refine ok_pn (by simp) (ok_cTy_then t _ _ clean_other ?_ ?_) <;>
        simpa using ok_pn (by simp) ho
  | .nonNullList t, st, rest, _, _, ho => by
      simp only [cTy, List.cons_append, List.append_assoc]
      refine ok_pn (by simp) (ok_cTy_then t _ _ clean_other ?_ ?_) <;>
        simpa using ok_pn (by simp) (ok_pn (by simp) ho)

theorem ok_cTy_any (t : Ty) (st : Option Cls) (rest : List Cmd) (h : Clean st) (hr : Any rest) : Ok st (cTy t ++ rest) :=
  ok_cTy_then t st rest h (hr _) (hr _)

theorem ok_cArgument (a : Str × Value) (st : Option Cls) (h : Clean st) : Ok st (cArgument a) := by
  simp only [cArgument, List.cons_append, List.nil_append]
  exact ok_nm h.nm (ok_pn (by simp) (ok_sp (ok_cValue a.2 none clean_none)))

theorem allClean_map {α : Type} (f : α → List Cmd) (l : List α) (h : ∀ a st, Clean st → Ok st (f a)) :
    AllClean (l.map f) := by
  intro i hi
  simp only [List.mem_map] at hi
  obtain ⟨a, _, rfl⟩ := hi
  exact h a

theorem any_singleLineParens (items : List (List Cmd)) (h : AllClean items) :
    Any ([.beginSingle] ++ commaSeparated .lParen .rParen items ++ [.endSingle]) := fun st =>
  ok_beginSingle (ok_append_any (any_commaSeparated _ _ (by simp) (by simp) _ h st) (fun _ => ok_endSingle (ok_nil _)))

theorem any_cArguments (args : List (Str × Value)) : Any (cArguments args) := by
  intro st
  unfold cArguments
  split
  · exact ok_nil _
  · exact any_singleLineParens _ (allClean_map _ _ ok_cArgument) st

theorem any_cDirective (d : Directive) : Any (cDirective d) := by
  intro st
  simp only [cDirective, List.cons_append, List.nil_append]
  exact ok_pn (by simp) (ok_nm (.inr (.inl rfl)) (any_cArguments d.args _))

theorem any_cDirectives (ds : List Directive) : Any (cDirectives ds) := by
  unfold cDirectives
  induction ds with
  | nil => simpa using any_nil
  | cons d r ih =>
    intro st
    simp only [List.map_cons, List.flatten_cons, List.cons_append]
    exact ok_sp (ok_append_any (any_cDirective d none) ih)

theorem any_cDefault (v : Option Value) : Any (cDefault v) := by
  intro st
  cases v with
  | none => exact ok_nil _
  | some v =>
    simp only [cDefault, List.cons_append, List.nil_append]
    exact ok_sp (ok_pn (by simp) (ok_sp (ok_cValue v none clean_none)))

theorem ok_cVarDef (v : VarDef) (st : Option Cls) (h : Clean st) : Ok st (cVarDef v) := by
  simp only [cVarDef, List.cons_append, List.nil_append, List.append_assoc]
  refine ok_pn (by simp) (ok_nm (.inr (.inl rfl)) (ok_pn (by simp) (ok_sp ?_)))
  exact ok_cTy_any v.ty none _ clean_none (any_append (any_cDefault _) (any_cDirectives _))

theorem ok_cDescription_then (d : Option Str) (st : Option Cls) (rest : List Cmd) (h : Clean st)
    (hr : ∀ st', Clean st' → Ok st' rest) : Ok st (cDescription d ++ rest) := by
  cases d with
  | none => simpa [cDescription] using hr st h
  | some d =>
    simp only [cDescription, List.cons_append, List.nil_append]
    exact ok_str h.ne_str (ok_nl (hr none clean_none))

theorem ok_cInputValueDef (v : InputValueDef) (st : Option Cls) (h : Clean st) : Ok st (cInputValueDef v) := by
  simp only [cInputValueDef, List.append_assoc]
  refine ok_cDescription_then _ st _ h ?_
  intro st' h'
  simp only [List.cons_append, List.nil_append]
  refine ok_nm h'.nm (ok_pn (by simp) (ok_sp ?_))
  exact ok_cTy_any v.ty none _ clean_none (any_append (any_cDefault _) (any_cDirectives _))

theorem any_cArgumentsDefinition (args : List InputValueDef) : Any (cArgumentsDefinition args) := by
  have hitems := allClean_map _ args ok_cInputValueDef
  intro st
  unfold cArgumentsDefinition
  split
  · exact ok_nil _
  · split
    · exact any_commaSeparated _ _ (by simp) (by simp) _ hitems st
    · exact any_singleLineParens _ hitems st

theorem ok_cFieldDef (f : FieldDef) (st : Option Cls) (h : Clean st) : Ok st (cFieldDef f) := by
  simp only [cFieldDef, List.append_assoc]
  refine ok_cDescription_then _ st _ h ?_
  intro st' h'
  simp only [List.cons_append, List.nil_append]
  refine ok_nm h'.nm (ok_append_any (any_cArgumentsDefinition f.args _) ?_)
  intro st''
  exact ok_pn (by simp) (ok_sp (ok_cTy_any f.ty none _ clean_none (any_cDirectives _)))

theorem ok_cEnumValueDef (v : EnumValueDef) (st : Option Cls) (h : Clean st) : Ok st (cEnumValueDef v) := by
  simp only [cEnumValueDef, List.append_assoc]
  refine ok_cDescription_then _ st _ h ?_
  intro st' h'
  simp only [List.cons_append, List.nil_append]
  exact ok_nm h'.nm (any_cDirectives _ _)

mutual
theorem ok_cSel : ∀ (s : Sel) (st : Option Cls), Clean st → Ok st (cSel s)
  | .field alias name args dirs sels, st, h => by
      have htail : Any (cArguments args ++ (cDirectives dirs ++
          (match sels with | .nil => [] | _ => sp :: curly (cSels sels)))) := by
        refine any_append (any_cArguments _) (any_append (any_cDirectives _) ?_)
        cases sels with
        | nil => exact any_nil
        | cons s tl =>
          intro st'
          exact ok_sp (any_curly _ (fun i hi => okNone_cSels (.cons s tl) i hi) none)
      cases alias with
      | none =>
        simp only [cSel, List.nil_append, List.cons_append, List.append_assoc]
        exact ok_nm h.nm (htail _)
      | some a =>
        simp only [cSel, List.nil_append, List.cons_append, List.append_assoc]
        exact ok_nm h.nm (ok_pn (by simp) (ok_sp (ok_nm (.inl rfl) (htail _))))
  | .spread name dirs, st, h => by
      simp only [cSel, List.cons_append, List.nil_append]
      exact ok_spread h.ne_num (ok_nm (.inr (.inr rfl)) (any_cDirectives _ _))
  | .inline tc dirs sels, st, h => by
      have htail : Any (cDirectives dirs ++ ([sp] ++ curly (cSels sels))) := by
        refine any_append (any_cDirectives _) ?_
        intro st'
        exact ok_sp (any_curly _ (fun i hi => okNone_cSels sels i hi) none)
      cases tc with
      | none =>
        simp only [cSel, List.cons_append, List.nil_append, List.append_assoc]
        exact ok_spread h.ne_num (htail _)
      | some t =>
        simp only [cSel, List.cons_append, List.nil_append, List.append_assoc]
        exact ok_spread h.ne_num (ok_sp (ok_kw (.inl rfl) (ok_sp (ok_nm (.inl rfl) (htail _)))))
theorem okNone_cSels : ∀ (ss : Sels), ∀ item ∈ cSels ss, Ok none item
  | .nil => by intro i hi; simp [cSels] at hi
  | .cons s tl => by
      intro i hi
      simp only [cSels, List.mem_cons] at hi
      rcases hi with hi | hi
      · subst hi; exact ok_cSel s none clean_none
      · exact okNone_cSels tl i hi
end

theorem any_cSepList (intro : List Cmd) (hintro : ∀ st cs, Ok none cs → Ok st (intro ++ cs)) (p : P) (hp : p ≠ .spread)
    (names : List Str) : Any (cSepList intro p names) := by
  intro st
  cases names with
  | nil => exact ok_nil _
  | cons first rest =>
    simp only [cSepList, List.append_assoc]
    refine hintro st _ ?_
    simp only [List.cons_append, List.nil_append]
    refine ok_nm (.inl rfl) ?_
    have : Any ((rest.map fun n => [sp, pn p, sp, nm n]).flatten) := by
      induction rest with
      | nil => simpa using any_nil
      | cons n r ih =>
        intro st'
        simp only [List.map_cons, List.flatten_cons, List.cons_append, List.nil_append]
        exact ok_sp (ok_pn hp (ok_sp (ok_nm (.inl rfl) (ih _))))
    exact this _

theorem ok_cRootOp (r : OpType × Str) : Ok none (cRootOp r) := by
  simp only [cRootOp]
  exact ok_kw (.inl rfl) (ok_pn (by simp) (ok_sp (ok_nm (.inl rfl) (ok_nil _))))

theorem any_optCurly (b : Bool) (items : List (List Cmd)) (hi : ∀ item ∈ items, Ok none item) :
    Any (if b then [] else sp :: curly items) := by
  intro st
  split
  · exact ok_nil _
  · exact ok_sp (any_curly items hi none)

theorem okNone_map {α : Type} (f : α → List Cmd) (l : List α) (h : ∀ a, Ok none (f a)) : ∀ item ∈ l.map f, Ok none item := by
  intro i hi
  simp only [List.mem_map] at hi
  obtain ⟨a, _, rfl⟩ := hi
  exact h a

theorem ok_cObjectTypeLike (name : Str) (impls : List Str) (dirs : List Directive) (fields : List FieldDef) :
    Ok none (cObjectTypeLike name impls dirs fields) := by
  simp only [cObjectTypeLike, List.cons_append, List.nil_append, List.append_assoc]
  refine ok_nm (.inl rfl) ?_
  refine any_append (any_cSepList _ (fun st cs h => ok_sp (ok_kw (.inl rfl) (ok_sp h))) _ (by simp) _)
    (any_append (any_cDirectives _) (any_optCurly _ _ (okNone_map _ _ (fun f => ok_cFieldDef f none clean_none)))) _

theorem ok_cUnion (name : Str) (dirs : List Directive) (members : List Str) : Ok none (cUnion name dirs members) := by
  simp only [cUnion, List.cons_append, List.nil_append, List.append_assoc]
  exact ok_nm (.inl rfl) (any_append (any_cDirectives _)
    (any_cSepList _ (fun st cs h => ok_sp (ok_pn (by simp) (ok_sp h))) _ (by simp) _) _)

theorem ok_cEnumBody (name : Str) (dirs : List Directive) (values : List EnumValueDef) : Ok none (cEnumBody name dirs values) := by
  simp only [cEnumBody, List.cons_append, List.nil_append, List.append_assoc]
  exact ok_nm (.inl rfl) (any_append (any_cDirectives _)
    (any_optCurly _ _ (okNone_map _ _ (fun v => ok_cEnumValueDef v none clean_none))) _)

theorem ok_cInputBody (name : Str) (dirs : List Directive) (fields : List InputValueDef) : Ok none (cInputBody name dirs fields) := by
  simp only [cInputBody, List.cons_append, List.nil_append, List.append_assoc]
  exact ok_nm (.inl rfl) (any_append (any_cDirectives _)
    (any_optCurly _ _ (okNone_map _ _ (fun v => ok_cInputValueDef v none clean_none))) _)

end Apollo.Ast
