import ApolloModel.Model.Numbers
import ApolloModel.Proofs.Coordinate
namespace Apollo.Num
open Apollo
open Apollo.Coord (splitOnce splitOnce_spec splitOnce_append splitOnce_none)

def isE (c : Char) : Bool := c == 'e' || c == 'E'

theorem splitOnceE_spec : ∀ (s a b : Str), splitOnceE s = some (a, b) →
    ∃ c, s = a ++ c :: b ∧ isE c = true ∧ ∀ x ∈ a, isE x = false
  | [], a, b, h => by simp [splitOnceE] at h
  | x :: xs, a, b, h => by
    unfold splitOnceE at h
    by_cases hx : (x == 'e' || x == 'E') = true
    · simp only [hx, if_true, Option.some.injEq, Prod.mk.injEq] at h
      obtain ⟨rfl, rfl⟩ := h
      exact ⟨x, by simp, hx, by simp⟩
    · simp only [hx, Bool.false_eq_true, if_false] at h
      cases hr : splitOnceE xs with
      | none => simp [hr] at h
      | some p =>
        obtain ⟨a', b'⟩ := p
        simp only [hr, Option.some.injEq, Prod.mk.injEq] at h
        obtain ⟨rfl, rfl⟩ := h
        obtain ⟨c, e, hc, ha⟩ := splitOnceE_spec xs a' b' hr
        refine ⟨c, by simp [e], hc, ?_⟩
        intro y hy
        rcases List.mem_cons.mp hy with rfl | hy
        · simpa [isE] using hx
        · exact ha y hy

theorem splitOnceE_append : ∀ (a : Str) (c : Char) (b : Str), isE c = true → (∀ x ∈ a, isE x = false) →
    splitOnceE (a ++ c :: b) = some (a, b)
  | [], c, b, hc, _ => by
    have : (c == 'e' || c == 'E') = true := hc
    simp [splitOnceE, this]
  | x :: xs, c, b, hc, h => by
    have hx : (x == 'e' || x == 'E') = false := h x (by simp)
    have ih := splitOnceE_append xs c b hc (fun y hy => h y (by simp [hy]))
    simp [splitOnceE, hx, ih]

theorem splitOnceE_none : ∀ (s : Str), (∀ x ∈ s, isE x = false) → splitOnceE s = none
  | [], _ => rfl
  | x :: xs, h => by
    have hx : (x == 'e' || x == 'E') = false := h x (by simp)
    simp [splitOnceE, hx, splitOnceE_none xs (fun y hy => h y (by simp [hy]))]

/-! ### the October 2021 grammar, as explicit decompositions -/

/-- IntegerPart :: NegativeSign? 0 | NegativeSign? NonZeroDigit Digit* -/
def SpecIntegerPart (s : Str) : Prop :=
  ∃ ds, (s = ds ∨ s = '-' :: ds) ∧
    (ds = ['0'] ∨ ∃ d rest, ds = d :: rest ∧ isNonZeroDigit d = true ∧ allDigits rest = true)

/-- FractionalPart :: . Digit+ -/
def SpecFractionalPart (f : Str) : Prop := ∃ ds, f = '.' :: ds ∧ ds ≠ [] ∧ allDigits ds = true

/-- ExponentPart :: ExponentIndicator Sign? Digit+ -/
def SpecExponentPart (e : Str) : Prop :=
  ∃ c sign ds, e = c :: (sign ++ ds) ∧ isE c = true ∧ (sign = [] ∨ sign = ['+'] ∨ sign = ['-']) ∧
    ds ≠ [] ∧ allDigits ds = true

/-- FloatValue :: IntegerPart FractionalPart ExponentPart | IntegerPart FractionalPart | IntegerPart ExponentPart -/
def SpecFloat (s : Str) : Prop :=
  ∃ i f e, s = i ++ f ++ e ∧ SpecIntegerPart i ∧
    ((SpecFractionalPart f ∧ SpecExponentPart e) ∨ (SpecFractionalPart f ∧ e = []) ∨ (f = [] ∧ SpecExponentPart e))

theorem nonzero_is_digit {c : Char} (h : isNonZeroDigit c = true) : isAsciiDigit c = true := by
  simp only [isNonZeroDigit, isAsciiDigit, Bool.and_eq_true, decide_eq_true_eq] at *
  refine ⟨?_, h.2⟩
  exact Char.le_trans (by decide) h.1

theorem digit_ne {c : Char} (h : isAsciiDigit c = true) : c ≠ '-' ∧ c ≠ '+' ∧ c ≠ '.' ∧ isE c = false := by
  simp only [isAsciiDigit, Bool.and_eq_true, decide_eq_true_eq] at h
  have h1 : 48 ≤ c.toNat := h.1
  have h2 : c.toNat ≤ 57 := h.2
  refine ⟨?_, ?_, ?_, ?_⟩
  · rintro rfl; simp at h1
  · rintro rfl; simp at h1
  · rintro rfl; simp at h1
  · simp only [isE, Bool.or_eq_false_iff, beq_eq_false_iff_ne]
    constructor <;> (rintro rfl; simp at h2)

theorem validUnsigned_iff (ds : Str) :
    validUnsigned ds = true ↔ (ds = ['0'] ∨ ∃ d rest, ds = d :: rest ∧ isNonZeroDigit d = true ∧ allDigits rest = true) := by
  match ds with
  | [] => simp [validUnsigned]
  | [c] =>
    simp only [validUnsigned]
    constructor
    · intro h
      by_cases hz : c = '0'
      · left; simp [hz]
      · right
        refine ⟨c, [], rfl, ?_, by simp [allDigits]⟩
        simp only [isAsciiDigit, isNonZeroDigit, Bool.and_eq_true, decide_eq_true_eq] at *
        refine ⟨?_, h.2⟩
        have h1 : 48 ≤ c.toNat := h.1
        have : c.toNat ≠ 48 := fun e => hz (by have h0 := Char.ofNat_toNat c; rw [e] at h0; exact h0.symm)
        show 49 ≤ c.toNat
        omega
    · rintro (h | ⟨d, rest, h, hd, _⟩)
      · simp only [List.cons.injEq, and_true] at h; subst h; decide
      · simp only [List.cons.injEq] at h; obtain ⟨rfl, _⟩ := h; exact nonzero_is_digit hd
  | c :: c' :: rest =>
    simp only [validUnsigned, Bool.and_eq_true]
    constructor
    · intro h; right; exact ⟨c, c' :: rest, rfl, h.1, h.2⟩
    · rintro (h | ⟨d, r, h, hd, hr⟩)
      · simp at h
      · simp only [List.cons.injEq] at h; obtain ⟨rfl, rfl⟩ := h; exact ⟨hd, hr⟩

theorem unsigned_head_ne_minus {ds : Str} (h : validUnsigned ds = true) : ∀ r, ds ≠ '-' :: r := by
  intro r e
  subst e
  rcases (validUnsigned_iff _).mp h with h | ⟨d, rest, h, hd, _⟩
  · simp at h
  · simp only [List.cons.injEq] at h
    obtain ⟨rfl, _⟩ := h
    exact absurd rfl (digit_ne (nonzero_is_digit hd)).1

/-- `IntValue::valid_syntax` accepts exactly the spec's IntegerPart (= IntValue token text). -/
theorem int_valid_iff_spec (s : Str) : validInt s = true ↔ SpecIntegerPart s := by
  unfold validInt SpecIntegerPart
  constructor
  · intro h
    by_cases hm : ∃ rest, s = '-' :: rest
    · obtain ⟨rest, rfl⟩ := hm
      exact ⟨rest, Or.inr rfl, (validUnsigned_iff rest).mp h⟩
    · rw [stripMinus.eq_2 s (fun r e => hm ⟨r, e⟩)] at h
      exact ⟨s, Or.inl rfl, (validUnsigned_iff s).mp h⟩
  · rintro ⟨ds, hs, hds⟩
    have hv := (validUnsigned_iff ds).mpr hds
    rcases hs with rfl | rfl
    · rw [stripMinus.eq_2 s (unsigned_head_ne_minus hv)]
      exact hv
    · exact hv

end Apollo.Num
