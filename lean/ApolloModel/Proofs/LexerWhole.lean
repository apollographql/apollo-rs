import ApolloModel.Proofs.LexerBlock
/-
C03: the whole-input theorem "no lexer error ⟺ the input is a sequence of tokens of the lexical grammar", both
directions, and the uniqueness of the tokenisation (it is the maximal-munch one the lexer computes).
-/
set_option linter.unusedSimpArgs false
namespace Apollo.Lex
open Apollo.Spec.Lexical (IsIntValue IsFloatValue NumberLookaheadOk IsQuotedString IsComment
  CommentLookaheadOk IsName NameLookaheadOk IsBlockString StringLookaheadOk BlockBody)

/-- the exact language of StringValue tokens: a quoted string (lexer's `LexStringChars`: any character is a
    SourceCharacter, no surrogate `\uXXXX`), the empty one not followed by a third quote, or a block string -/
def IsStringToken (t rest : Str) : Prop :=
  (IsLexQuoted t ∧ StringLookaheadOk t rest) ∨ IsBlockString anyChar t

/-- a tokenisation of the input by the lexical grammar: every item is a token `TokenOk` accepts (with its lookahead
    restriction), every StringValue token is in the exact language, the texts concatenate to the input, EOF at the end -/
inductive ExactTokens : Str → List Item → Prop where
  | eof : ExactTokens [] [.tok .eof []]
  | cons {k : Kind} {t rest : Str} {items : List Item} : t ≠ [] → TokenOk k t rest →
      (k = .stringValue → IsStringToken t rest) → ExactTokens rest items →
      ExactTokens (t ++ rest) (.tok k t :: items)

theorem lexQuoted_not_block {t : Str} (h : IsLexQuoted t) : ¬ ∃ tail, t = q3 ++ tail := by
  obtain ⟨body, rfl, hb⟩ := h
  rintro ⟨tail, e⟩
  cases hb with
  | nil => simp [q3] at e
  | plain h1 _ _ _ => simp [q3] at e; exact h1 e.1
  | escaped _ _ => simp [q3] at e
  | unicode _ _ _ _ _ _ => simp [q3] at e

/-! ### every token of the grammar is what `advance` emits -/

theorem advance_complete (k : Kind) (t rest : Str) (hne : t ≠ []) (hok : TokenOk k t rest)
    (hstr : k = .stringValue → IsStringToken t rest) : advance (t ++ rest) = (.tok k t, rest) := by
  cases k with
  | name =>
    obtain ⟨⟨c, cs, rfl, hc, hcs⟩, hl⟩ := hok
    rw [(classes_agree c).2.symm] at hc
    have hrun := takeWhile_run isNameContinue cs rest
      (by intro x hx; rw [← specNameContinue_eq]; exact List.all_eq_true.mp hcs x hx)
      (by intro x r e; subst e; rw [← specNameContinue_eq]; exact hl)
    rw [List.cons_append, lex_name c _ hc, hrun.1, hrun.2]
  | int => exact lex_int_complete t rest hok.1 hok.2
  | float => exact lex_float_complete t rest hok.1 hok.2
  | stringValue =>
    rcases hstr rfl with ⟨⟨body, rfl, hb⟩, hl⟩ | hb
    · have := lex_string_complete body rest hb (by intro e; subst e; exact hl rfl)
      simpa using this
    · exact ((lex_block_string_iff _ t rest).mpr ⟨rfl, hb⟩).1
  | comment =>
    obtain ⟨⟨body, rfl, hb⟩, hl⟩ := hok
    have hrun := takeWhile_run (fun c => !isLineTerminator c) body rest
      (by intro x hx; have := (hb x hx).1; rw [specLT_eq] at this; simp [this])
      (by intro x r e; subst e; have : Spec.Lexical.isLineTerminator x = true := hl; rw [specLT_eq] at this; simp [this])
    rw [List.cons_append, lex_comment, hrun.1, hrun.2]
  | whitespace =>
    obtain ⟨_, hall, hl⟩ := hok
    cases t with
    | nil => exact absurd rfl hne
    | cons c cs =>
      have hrun := takeWhile_run isWhitespaceAssimilated cs rest (fun x hx => hall x (by simp [hx])) hl
      rw [List.cons_append, lex_whitespace c _ (hall c (by simp)), hrun.1, hrun.2]
  | spread =>
    have : t = ['.', '.', '.'] := hok
    subst this
    exact lex_spread rest
  | eof => exact absurd hok id
  | _ => obtain ⟨c, rfl, hp⟩ := hok; exact lex_punctuator c _ rest hp

theorem advance_string_exact (c : Char) (src t rest : Str) (h : advance (c :: src) = (.tok .stringValue t, rest)) :
    IsStringToken t rest := by
  by_cases hb : ∃ tail, t = q3 ++ tail
  · exact Or.inr ((lex_block_string_iff _ t rest).mp ⟨h, hb⟩).2
  · rcases advance_token_sound c src .stringValue t rest h with hq | hq
    · refine Or.inl ⟨hq, ?_⟩
      intro ht
      subst ht
      have hc := advance_concat (c :: src)
      rw [h] at hc
      simp only [Item.data] at hc
      cases rest with
      | nil => simp
      | cons x r =>
        intro hx
        have : x = '"' := by simpa using hx
        subst this
        obtain ⟨tail', hp⟩ := advance_block_prefix r
        have hsrc : c :: src = '"' :: '"' :: '"' :: r := by simpa using hc.symm
        rw [← hsrc, h] at hp
        simp [Item.data, q3] at hp
    · exact absurd hq hb

/-! ### the whole input -/

theorem lexAux_exact_sound (fuel count : Nat) (src : Str) (hf : src.length < fuel)
    (h : ∀ it ∈ lexAux fuel none count src, it.isErr = false) : ExactTokens src (lexAux fuel none count src) :=
  lexAux_ok_rec ExactTokens.eof
    (fun c src k t rest _ hadv hne ih => ExactTokens.cons hne (advance_token_sound c src k t rest hadv)
      (fun hk => by subst hk; exact advance_string_exact c src t rest hadv) ih)
    fuel count src hf h

theorem lexAux_exact_complete {src : Str} {items : List Item} (h : ExactTokens src items) :
    ∀ (fuel count : Nat), src.length < fuel → lexAux fuel none count src = items := by
  induction h with
  | eof =>
    intro fuel count hf
    cases fuel with
    | zero => omega
    | succ fuel => simp [lexAux]
  | @cons k t rest items hne hok hstr _ ih =>
    intro fuel count hf
    cases fuel with
    | zero => omega
    | succ fuel =>
      have hadv := advance_complete k t rest hne hok hstr
      cases hsrc : t ++ rest with
      | nil =>
        have : t = [] := by cases t with | nil => rfl | cons a r => simp at hsrc
        exact absurd this hne
      | cons c r =>
        rw [hsrc] at hadv
        have hlen : rest.length < fuel := by
          have h1 : (t ++ rest).length < fuel + 1 := hf
          have h2 : 0 < t.length := List.length_pos_iff.mpr hne
          simp only [List.length_append] at h1
          omega
        simp only [lexAux, Bool.false_eq_true, if_false, hadv]
        rw [ih fuel (count + 1) hlen]

theorem exactTokens_noErr {src : Str} {items : List Item} (h : ExactTokens src items) : ∀ it ∈ items, it.isErr = false := by
  induction h with
  | eof => intro it hit; simp at hit; subst hit; rfl
  | cons _ _ _ _ ih =>
    intro it hit
    rcases List.mem_cons.mp hit with rfl | hit
    · rfl
    · exact ih it hit

/-- C03 `lex_ok_iff_spec_tokens`: lexing reports no error exactly when the input has a tokenisation by the lexical
    grammar, and then the item stream IS that tokenisation -/
theorem lex_ok_iff_exact (src : Str) :
    ((∀ it ∈ lex none src, it.isErr = false) ↔ ∃ items, ExactTokens src items) ∧
    (∀ items, ExactTokens src items → lex none src = items) := by
  have hcomp : ∀ items, ExactTokens src items → lex none src = items :=
    fun items h => lexAux_exact_complete h (src.length + 1) 0 (by omega)
  refine ⟨⟨fun h => ⟨_, lexAux_exact_sound (src.length + 1) 0 src (by omega) h⟩, ?_⟩, hcomp⟩
  rintro ⟨items, h⟩
  rw [hcomp items h]
  exact exactTokens_noErr h

/-- C03 `lex_tokenisation_unique`: an input has at most one tokenisation by the lexical grammar with its lookahead
    restrictions — the maximal-munch one -/
theorem exactTokens_unique (src : Str) (i1 i2 : List Item) (h1 : ExactTokens src i1) (h2 : ExactTokens src i2) : i1 = i2 := by
  rw [← (lex_ok_iff_exact src).2 i1 h1, ← (lex_ok_iff_exact src).2 i2 h2]

/-! ### the strict corollary: sources made of SourceCharacters only -/

theorem bb_strict {body : Str} (h : BlockBody anyChar body) (hs : ∀ c ∈ body, Spec.Lexical.isSourceCharacter c = true) :
    BlockBody Spec.Lexical.isSourceCharacter body := by
  induction h with
  | close => exact BlockBody.close
  | escapedQuotes _ ih => exact BlockBody.escapedQuotes (ih (fun c hc => hs c (by simp [hc])))
  | plain _ h3 h4 _ ih => exact BlockBody.plain (hs _ (by simp)) h3 h4 (ih (fun c hc => hs c (by simp [hc])))

/-- what a token is in the UNRELAXED grammar (October 2021 SourceCharacter), for the kinds where the lexer's language
    is relaxed: quoted and block strings, comments -/
def StrictOk (k : Kind) (t : Str) : Prop :=
  match k with
  | .stringValue => IsQuotedString Spec.Lexical.isSourceCharacter t ∨ IsBlockString Spec.Lexical.isSourceCharacter t
  | .comment => IsComment Spec.Lexical.isSourceCharacter t
  | _ => True

theorem exactTokens_strict {src : Str} {items : List Item} (h : ExactTokens src items)
    (hs : ∀ c ∈ src, Spec.Lexical.isSourceCharacter c = true) : ∀ k t, Item.tok k t ∈ items → StrictOk k t := by
  induction h with
  | eof => intro k t hm; simp at hm; obtain ⟨rfl, _⟩ := hm; trivial
  | @cons k0 t0 rest items hne hok hstr _ ih =>
    intro k t hm
    rcases List.mem_cons.mp hm with e | hm
    · injection e with e1 e2
      subst e1 e2
      have hst : ∀ c ∈ t, Spec.Lexical.isSourceCharacter c = true := fun c hc => hs c (by simp [hc])
      cases k with
      | stringValue =>
        rcases hstr rfl with ⟨⟨body, rfl, hb⟩, _⟩ | ⟨r, rfl, hb⟩
        · exact Or.inl ⟨body, rfl, sc_strict (lsc_to_sc hb) (fun x hx => hst x (by simp [hx]))⟩
        · exact Or.inr ⟨r, rfl, bb_strict hb (fun x hx => hst x (by simp [hx]))⟩
      | comment =>
        obtain ⟨⟨body, rfl, hb⟩, _⟩ := hok
        exact ⟨body, rfl, fun x hx => ⟨(hb x hx).1, hst x (by simp [hx])⟩⟩
      | _ => trivial
    · exact ih (fun c hc => hs c (by simp [hc])) k t hm

end Apollo.Lex
