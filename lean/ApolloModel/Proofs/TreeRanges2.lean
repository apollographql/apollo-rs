import ApolloModel.Proofs.TreeRanges
import ApolloModel.Proofs.ParserLossless
/-
C11: ranges of the parsed tree are ranges of the SOURCE (via C02's lossless theorem), and the NAME nodes
the grammar builds consist of exactly one IDENT token.
-/
set_option linter.unusedSimpArgs false
set_option linter.unusedVariables false
namespace Apollo.Parse
open Apollo.Rowan hiding Str
open Apollo.Lex hiding Str

/-- every element of the document tree: its rowan range slices the source to exactly its text and
    lies inside the file (no token limit, nothing dropped by ty.rs) -/
theorem document_ranges (rl : Nat) (src : Str) (root : Elem)
    (h : (parse .document none rl src).outcome = .tree root)
    (hd : (parse .document none rl src).dropped = false) (p : List Nat) (e : Elem) (he : subAt root p = some e) :
    sliceBytes src (offsetAt root p) e.len = some e.text ∧ offsetAt root p + e.len ≤ utf8Len src := by
  have hsrc := lossless_document rl src root h hd
  refine ⟨range_exact root src hsrc p e he, ?_⟩
  have := range_in_file root p e he
  unfold Elem.len at this
  rw [hsrc] at this
  exact this

/-! ### `skip_ignored` never touches the tree builder -/

theorem skipIgnoredLoop_builder : ∀ (fuel : Nat) (s : PState) (u : Unit) (s' : PState),
    (skipIgnoredLoop fuel).run s = .ok u s' → s'.builder = s.builder
  | 0, s, u, s', h => by simp [skipIgnoredLoop, PI.outOfFuel] at h
  | fuel + 1, s, u, s', h => by
    unfold skipIgnoredLoop at h
    rw [run_bind] at h
    -- peekToken
    have hp : ∃ a s1, peekToken.run s = .ok a s1 ∧ s1.builder = s.builder := by
      cases hc : s.current with
      | some t => exact ⟨some t, s, by simp [peekToken, hc], rfl⟩
      | none =>
        exact ⟨(nextToken s).1, { (nextToken s).2 with current := (nextToken s).1 }, by simp [peekToken, hc],
          (nextToken_spec s).builder⟩
    obtain ⟨a, s1, hr1, hb1⟩ := hp
    rw [hr1] at h
    simp only [] at h
    rw [run_bind] at h
    have hm : ∃ b s2, moveCurToPending.run s1 = .ok b s2 ∧ s2.builder = s1.builder := by
      cases hc : s1.current with
      | none => exact ⟨false, s1, by simp [moveCurToPending, hc], rfl⟩
      | some t =>
        by_cases hig : isIgnoredKind t.kind = true
        · exact ⟨true, { s1 with current := none, pending := s1.pending ++ [.ignored t] }, by simp [moveCurToPending, hc, hig], rfl⟩
        · exact ⟨false, s1, by simp [moveCurToPending, hc, hig], rfl⟩
    obtain ⟨b, s2, hr2, hb2⟩ := hm
    rw [hr2] at h
    simp only [] at h
    cases b with
    | true =>
      simp only [if_true] at h
      rw [skipIgnoredLoop_builder fuel s2 u s' h, hb2, hb1]
    | false =>
      simp only [Bool.false_eq_true, if_false, run_pure, Res.ok.injEq] at h
      rw [← h.2, hb2, hb1]

theorem skipIgnored_builder (s : PState) (u : Unit) (s' : PState) (h : skipIgnored.run s = .ok u s') :
    s'.builder = s.builder := by
  unfold skipIgnored at h
  rw [run_bind] at h
  have : srcLen.run s = .ok s.lx.src.length s := rfl
  rw [this] at h
  exact skipIgnoredLoop_builder _ s u s' h

theorem skipIgnored_noop (s : PState) (t : Tok) (hc : s.current = some t) (hig : isIgnoredKind t.kind = false) :
    skipIgnored.run s = .ok () s := by
  unfold skipIgnored
  rw [run_bind]
  have : srcLen.run s = .ok s.lx.src.length s := rfl
  rw [this]
  simp only []
  unfold skipIgnoredLoop
  rw [run_bind]
  rw [peekToken_current s t hc]
  simp only []
  rw [run_bind]
  have h2 : moveCurToPending.run s = .ok false s := by simp [moveCurToPending, hc, hig]
  rw [h2]
  simp [run_pure]

theorem eat_builder (kind : SK) (s : PState) (t : Tok) (hc : s.current = some t) (hp : s.pending = []) :
    ∃ s3, (eat kind).run s = .ok () s3 ∧ s3.builder.parents = s.builder.parents ∧
      s3.builder.children = s.builder.children ++ [Elem.tok kind t.data] := by
  unfold eat
  rw [run_bind]
  have h0 : pushIgnored.run s = .ok () { s with builder := { s.builder with children := s.builder.children ++ s.pending.map pendingElem }, pending := [] } := rfl
  rw [h0]
  simp only []
  rw [run_bind]
  have h1 : peekToken.run { s with builder := { s.builder with children := s.builder.children ++ s.pending.map pendingElem }, pending := [] } = .ok (some t) { s with builder := { s.builder with children := s.builder.children ++ s.pending.map pendingElem }, pending := [] } := by
    simp [peekToken, hc]
  rw [h1]
  simp only []
  refine ⟨_, by simp [moveCurToTree, hc]; rfl, ?_, ?_⟩
  · rfl
  · simp [hp]

/-- WHAT `name()` BUILDS: entered on a Name token, it appends (after flushing the pending trivia,
    which therefore stay OUTSIDE the node) exactly one node `NAME[IDENT(text)]` — one IDENT token
    and no trivia; the trivia that follow the name are queued as pending again, after the node closed -/
theorem name_builds (s : PState) (t : Tok) (hc : s.current = some t) (hk : t.kind = .name) (u : Unit) (s' : PState)
    (hr : name.run s = .ok u s') :
    s'.builder.children = s.builder.children ++ s.pending.map pendingElem ++ [Elem.node "NAME" [Elem.tok "IDENT" t.data]] ∧
      s'.builder.parents = s.builder.parents := by
  unfold name at hr
  rw [run_bind] at hr
  rw [peekToken_current s t hc] at hr
  simp only [hk, beq_self_eq_true, if_true] at hr
  -- the three states of `withNode`
  have e1 : pushIgnored.run s = .ok () { s with builder := { s.builder with children := s.builder.children ++ s.pending.map pendingElem }, pending := [] } := rfl
  generalize hs1 : rawStartNode "NAME" { s with builder := { s.builder with children := s.builder.children ++ s.pending.map pendingElem }, pending := [] } = s1 at *
  have hc1 : s1.current = some t := by rw [← hs1]; exact hc
  have hp1 : s1.pending = [] := by rw [← hs1]; rfl
  have hb1c : s1.builder.children = s.builder.children ++ s.pending.map pendingElem := by rw [← hs1]; rfl
  have hb1p : s1.builder.parents = ("NAME", (s.builder.children ++ s.pending.map pendingElem).length) :: s.builder.parents := by
    rw [← hs1]; rfl
  have hig : isIgnoredKind t.kind = false := by rw [hk]; rfl
  obtain ⟨s3, he, hp3, hc3⟩ := eat_builder "IDENT" s1 t hc1 hp1
  have hinner : (skipIgnored >>= fun _ => bump "IDENT").run s1 = skipIgnored.run s3 := by
    rw [run_bind, skipIgnored_noop s1 t hc1 hig]
    simp only [bump]
    rw [run_bind, he]
  simp only [withNode, e1, hs1, hinner] at hr
  cases hr4 : skipIgnored.run s3 with
  | ok u4 s4 =>
    rw [hr4] at hr
    simp only [] at hr
    have hb4 := skipIgnored_builder s3 u4 s4 hr4
    have hpar : s4.builder.parents = ("NAME", (s.builder.children ++ s.pending.map pendingElem).length) :: s.builder.parents := by
      rw [hb4, hp3, hb1p]
    have hch : s4.builder.children = (s.builder.children ++ s.pending.map pendingElem) ++ [Elem.tok "IDENT" t.data] := by
      rw [hb4, hc3, hb1c]
    simp only [Builder.finishNode, hpar, Res.ok.injEq] at hr
    obtain ⟨_, rfl⟩ := hr
    simp only [hch]
    constructor
    · rw [List.take_left' rfl, List.drop_left' rfl]
    · trivial
  | abort w => rw [hr4] at hr; simp at hr
  | panic m => rw [hr4] at hr; simp at hr

/-! ### helpers for kernel-evaluated witnesses (`Elem` has no decidable equality) -/

/-- the tree of a result (a dummy token when the run did not produce one) -/
def rootOf (r : PResult) : Elem := match r.outcome with | .tree root => root | _ => .tok "" []

/-- Bool-valued shape test (`Elem` has no decidable equality): `e` is `NAME[IDENT(d)]` -/
def isNameOf : Option Elem → Rowan.Str → Bool
  | some (.node k [.tok k' d']), d => k == "NAME" && k' == "IDENT" && d' == d
  | _, _ => false

theorem isNameOf_sound (e : Option Elem) (d : Rowan.Str) (h : isNameOf e d = true) :
    e = some (.node "NAME" [.tok "IDENT" d]) := by
  unfold isNameOf at h
  split at h
  · simp at h
    obtain ⟨⟨h1, h2⟩, h3⟩ := h
    subst h1; subst h2; subst h3; rfl
  · exact absurd h (by simp)

theorem rootOf_tree (r : PResult) (h : (match r.outcome with | .tree _ => true | _ => false) = true) :
    r.outcome = .tree (rootOf r) := by
  unfold rootOf
  split <;> simp_all

end Apollo.Parse
