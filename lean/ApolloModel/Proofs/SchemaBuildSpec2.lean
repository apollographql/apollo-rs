import ApolloModel.Proofs.SchemaBuildSpec
/-
C14: what the pieces of a builder step (`extend_sticky`, `extend_ast`, `XType::from_ast` with the adopted
extensions) do to component lists that match the reading functions (`Views`), and how their new errors relate to
the specification (`Grow`).
-/
namespace Apollo.SchemaBuild

def Views (cs : List Comp) (M : List Name) : Prop := ∀ m, hasName cs m = true ↔ m ∈ M

def Grow (errs errs' : List Err) (P : Prop) : Prop := ∃ new, errs' = errs ++ new ∧ (new = [] ↔ P)

def Fresh (M X : List Name) : Prop := (∀ x ∈ X, x ∉ M) ∧ X.Nodup

theorem Grow.refl (e : List Err) : Grow e e True := ⟨[], by simp, by simp⟩

theorem Grow.push (e : List Err) (x : Err) : Grow e (e ++ [x]) False := ⟨[x], rfl, by simp⟩

theorem Grow.trans {a b c : List Err} {P Q : Prop} (h1 : Grow a b P) (h2 : Grow b c Q) : Grow a c (P ∧ Q) := by
  obtain ⟨n1, e1, i1⟩ := h1
  obtain ⟨n2, e2, i2⟩ := h2
  refine ⟨n1 ++ n2, by rw [e2, e1, List.append_assoc], ?_⟩
  rw [List.append_eq_nil_iff, i1, i2]

theorem Grow.congr {a b : List Err} {P Q : Prop} (h : Grow a b P) (hpq : P ↔ Q) : Grow a b Q := by
  obtain ⟨n, e, i⟩ := h
  exact ⟨n, e, i.trans hpq⟩

theorem Grow.nil_iff {a b : List Err} {P : Prop} (h : Grow a b P) : b = [] ↔ a = [] ∧ P := by
  obtain ⟨n, e, i⟩ := h
  rw [e, List.append_eq_nil_iff, i]

theorem Grow.same_iff {a b : List Err} {P : Prop} (h : Grow a b P) : b = a ↔ P := by
  obtain ⟨n, e, i⟩ := h
  rw [e, ← i]
  exact List.append_right_eq_self

theorem nodup_append_fresh (M X : List Name) : (M ++ X).Nodup ↔ M.Nodup ∧ Fresh M X := by
  rw [List.nodup_append]
  unfold Fresh
  constructor
  · intro ⟨h1, h2, h3⟩
    exact ⟨h1, fun x hx hm => h3 x hm x hx rfl, h2⟩
  · intro ⟨h1, h2, h3⟩
    exact ⟨h1, h3, fun a ha b hb hab => h2 b hb (hab ▸ ha)⟩

theorem views_nil : Views [] [] := by intro m; simp [hasName]

theorem extendSticky_views (dup : Name → Diag) (origin : Option Pos) (items : List Item) (cs : List Comp) (errs : List Err)
    (M : List Name) (h : Views cs M) : Views (extendSticky dup origin cs errs items).1 (M ++ names items) := by
  intro m
  rw [extendSticky_hasName, h m, List.mem_append]
  rfl

theorem extendSticky_grow (dup : Name → Diag) (origin : Option Pos) (items : List Item) (cs : List Comp) (errs : List Err)
    (M : List Name) (h : Views cs M) : Grow errs (extendSticky dup origin cs errs items).2 (Fresh M (names items)) := by
  obtain ⟨new, hnew, hiff⟩ := extendSticky_errs dup origin items cs errs
  refine ⟨new, hnew, hiff.trans ?_⟩
  unfold Fresh names
  constructor
  · intro ⟨h1, h2⟩
    refine ⟨?_, h2⟩
    intro x hx hm
    obtain ⟨it, hit, rfl⟩ := List.mem_map.mp hx
    have := h1 it hit
    rw [(h it.name).mpr hm] at this
    cases this
  · intro ⟨h1, h2⟩
    refine ⟨?_, h2⟩
    intro it hit
    cases hc : hasName cs it.name with
    | false => rfl
    | true => exact absurd ((h it.name).mp hc) (h1 it.name (List.mem_map.mpr ⟨it, hit, rfl⟩))

theorem extendBody_eq (dupI dupM : Name → Diag) (origin : Option Pos) (b : Body) (d : Def) (errs : List Err) :
    extendBody dupI dupM origin b d errs =
      (⟨b.directives ++ d.directives.map (Item.toComp origin),
        (extendSticky dupI origin b.interfaces errs d.interfaces).1,
        (extendSticky dupM origin b.members (extendSticky dupI origin b.interfaces errs d.interfaces).2 d.members).1⟩,
       (extendSticky dupM origin b.members (extendSticky dupI origin b.interfaces errs d.interfaces).2 d.members).2) := rfl

theorem extendBody_spec (dupI dupM : Name → Diag) (origin : Option Pos) (b : Body) (d : Def) (errs : List Err)
    (M I : List Name) (hM : Views b.members M) (hI : Views b.interfaces I) :
    Views (extendBody dupI dupM origin b d errs).1.members (M ++ names d.members) ∧
    Views (extendBody dupI dupM origin b d errs).1.interfaces (I ++ names d.interfaces) ∧
    Grow errs (extendBody dupI dupM origin b d errs).2 (Fresh M (names d.members) ∧ Fresh I (names d.interfaces)) := by
  rw [extendBody_eq]
  refine ⟨extendSticky_views _ _ _ _ _ _ hM, extendSticky_views _ _ _ _ _ _ hI, ?_⟩
  have g1 := extendSticky_grow dupI origin d.interfaces b.interfaces errs I hI
  have g2 := extendSticky_grow dupM origin d.members b.members (extendSticky dupI origin b.interfaces errs d.interfaces).2 M hM
  exact (g1.trans g2).congr (by constructor <;> (intro ⟨x, y⟩; exact ⟨y, x⟩))


/-! ### type definitions and extensions -/

theorem extendType_spec (t : TypeEntry) (e : Def) (errs : List Err) (M I : List Name)
    (hM : Views t.body.members M) (hI : Views t.body.interfaces I) :
    (extendType t e errs).1.name = t.name ∧ (extendType t e errs).1.kind = t.kind ∧
    Views (extendType t e errs).1.body.members (M ++ names e.members) ∧
    Views (extendType t e errs).1.body.interfaces (I ++ names e.interfaces) ∧
    Grow errs (extendType t e errs).2 (Fresh M (names e.members) ∧ Fresh I (names e.interfaces)) := by
  obtain ⟨h1, h2, h3⟩ := extendBody_spec (dupIface t.kind e.name) (dupMember t.kind e.name) (some e.pos) t.body e errs M I hM hI
  exact ⟨rfl, rfl, h1, h2, h3⟩

theorem typeOfDef_spec (k : Kind) (d : Def) (errs : List Err) :
    (typeOfDef k d errs).1.name = d.name ∧ (typeOfDef k d errs).1.kind = k ∧
    Views (typeOfDef k d errs).1.body.members (names d.members) ∧
    Views (typeOfDef k d errs).1.body.interfaces (names d.interfaces) ∧
    Grow errs (typeOfDef k d errs).2 (Fresh [] (names d.members) ∧ Fresh [] (names d.interfaces)) := by
  obtain ⟨h1, h2, h3⟩ := extendBody_spec (dupIface k d.name) (dupMember k d.name) none Body.empty d errs [] [] views_nil views_nil
  exact ⟨rfl, rfl, h1, h2, h3⟩

/-- each element's names are new with respect to everything before it -/
def ChainFresh (f : Def → List Name) : List Name → List Def → Prop
  | _, [] => True
  | M, e :: r => Fresh M (f e) ∧ ChainFresh f (M ++ f e) r

theorem chain_nodup (f : Def → List Name) : ∀ (exts : List Def) (M : List Name),
    (M.Nodup ∧ ChainFresh f M exts) ↔ (M ++ exts.flatMap f).Nodup := by
  intro exts
  induction exts with
  | nil => intro M; simp [ChainFresh]
  | cons e r ih =>
    intro M
    simp only [ChainFresh, List.flatMap_cons]
    rw [← List.append_assoc, ← ih (M ++ f e), nodup_append_fresh, and_assoc]

def mems (d : Def) : List Name := names d.members
def ifs (d : Def) : List Name := names d.interfaces

theorem adoptFold_spec (k : Kind) : ∀ (exts : List Def) (acc : TypeEntry × List Err) (M I : List Name),
    Views acc.1.body.members M → Views acc.1.body.interfaces I →
    (exts.foldl (adoptStep k) acc).1.name = acc.1.name ∧ (exts.foldl (adoptStep k) acc).1.kind = acc.1.kind ∧
    ((∀ e ∈ exts, e.tag = .typeExt k) →
      Views (exts.foldl (adoptStep k) acc).1.body.members (M ++ exts.flatMap mems) ∧
      Views (exts.foldl (adoptStep k) acc).1.body.interfaces (I ++ exts.flatMap ifs)) ∧
    Grow acc.2 (exts.foldl (adoptStep k) acc).2
      ((∀ e ∈ exts, e.tag = .typeExt k) ∧ ChainFresh mems M exts ∧ ChainFresh ifs I exts) := by
  intro exts
  induction exts with
  | nil =>
    intro acc M I hM hI
    refine ⟨rfl, rfl, fun _ => ⟨by simpa using hM, by simpa using hI⟩, (Grow.refl _).congr ?_⟩
    simp [ChainFresh]
  | cons e r ih =>
    intro acc M I hM hI
    rw [List.foldl_cons]
    by_cases he : e.tag = .typeExt k
    · have hstep : adoptStep k acc e = extendType acc.1 e acc.2 := by unfold adoptStep; rw [if_pos he]
      obtain ⟨n1, k1, v1, v2, g1⟩ := extendType_spec acc.1 e acc.2 M I hM hI
      rw [hstep]
      obtain ⟨n2, k2, v3, g2⟩ := ih (extendType acc.1 e acc.2) (M ++ mems e) (I ++ ifs e) v1 v2
      refine ⟨n2.trans n1, k2.trans k1, ?_, (g1.trans g2).congr ?_⟩
      · intro hall
        have := v3 (fun x hx => hall x (List.mem_cons_of_mem _ hx))
        simpa [List.flatMap_cons, List.append_assoc] using this
      · simp only [ChainFresh, List.mem_cons, forall_eq_or_imp, mems, ifs]
        constructor
        · intro ⟨⟨a, b⟩, c, d1, d2⟩; exact ⟨⟨he, c⟩, ⟨a, d1⟩, ⟨b, d2⟩⟩
        · intro ⟨⟨_, c⟩, ⟨a, d1⟩, ⟨b, d2⟩⟩; exact ⟨⟨a, b⟩, c, d1, d2⟩
    · have hstep : adoptStep k acc e = (acc.1, acc.2 ++ [⟨e.namePos, .typeExtensionKindMismatch e.name (kindOfExt e) k⟩]) := by
        unfold adoptStep; rw [if_neg he]
      rw [hstep]
      obtain ⟨n2, k2, _, g2⟩ := ih (acc.1, acc.2 ++ [⟨e.namePos, .typeExtensionKindMismatch e.name (kindOfExt e) k⟩]) M I hM hI
      refine ⟨n2, k2, ?_, ((Grow.push acc.2 _).trans g2).congr ?_⟩
      · intro hall; exact absurd (hall e List.mem_cons_self) he
      · constructor
        · intro ⟨hf, _⟩; exact absurd hf id
        · intro ⟨hall, _⟩; exact absurd (hall e List.mem_cons_self) he

theorem views_comm {cs : List Comp} {A B : List Name} (h : Views cs (A ++ B)) : Views cs (B ++ A) := by
  intro m; rw [h m]; simp [or_comm]

theorem fresh_nil (X : List Name) : Fresh [] X ↔ X.Nodup := by simp [Fresh]

/-- `XType::from_ast(errors, definition, queued extensions)` -/
theorem typeFromAst_spec (k : Kind) (d : Def) (exts : List Def) (errs : List Err) :
    (typeFromAst k d exts errs).1.name = d.name ∧ (typeFromAst k d exts errs).1.kind = k ∧
    ((∀ e ∈ exts, e.tag = .typeExt k) →
      Views (typeFromAst k d exts errs).1.body.members (exts.flatMap mems ++ names d.members) ∧
      Views (typeFromAst k d exts errs).1.body.interfaces (exts.flatMap ifs ++ names d.interfaces)) ∧
    Grow errs (typeFromAst k d exts errs).2
      ((∀ e ∈ exts, e.tag = .typeExt k) ∧ (exts.flatMap mems ++ names d.members).Nodup ∧
        (exts.flatMap ifs ++ names d.interfaces).Nodup) := by
  unfold typeFromAst
  obtain ⟨n1, k1, v1, v2, g1⟩ := typeOfDef_spec k d errs
  obtain ⟨n2, k2, v3, g2⟩ := adoptFold_spec k exts (typeOfDef k d errs) (names d.members) (names d.interfaces) v1 v2
  refine ⟨n2.trans n1, k2.trans k1, fun hall => ⟨views_comm (v3 hall).1, views_comm (v3 hall).2⟩, (g1.trans g2).congr ?_⟩
  rw [fresh_nil, fresh_nil, List.perm_append_comm.nodup_iff, ← chain_nodup mems,
    (List.perm_append_comm (l₁ := exts.flatMap ifs)).nodup_iff, ← chain_nodup ifs]
  constructor
  · intro ⟨⟨a, b⟩, c, d1, d2⟩; exact ⟨c, ⟨a, d1⟩, ⟨b, d2⟩⟩
  · intro ⟨c, ⟨a, d1⟩, ⟨b, d2⟩⟩; exact ⟨⟨a, b⟩, c, d1, d2⟩

end Apollo.SchemaBuild
