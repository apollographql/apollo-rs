import ApolloModel.Proofs.ParserDef19
import ApolloModel.Proofs.ParserSel9
import ApolloModel.Proofs.AstDocument3
/-
C05, top level: the dispatcher of `grammar/document.rs`.

`DefLemmas n` bundles, for every definition parser the dispatcher can reach, the statement "an error-free run
started where the dispatcher starts it consumes exactly the tokens of one well-formed definition of the grammar"
(in the `Acc` calculus, no early exit).  ParserDoc1–3 are proved from `DefLemmas`; ParserDoc4 instantiates it
(`defLemmas`), which makes the document theorem unconditional.
-/
set_option linter.unusedSimpArgs false
namespace Apollo.Parse
open Apollo.Rowan hiding Str
open Apollo.Lex hiding Str

/-- the tokens of ONE definition as `document()` accepts it: an operation definition in the long or the shorthand form
    (`IsOperation`), a fragment definition (`IsFragment`), or a type-system definition or extension up to the
    two documented liberties (`LooseDef`) -/
def IsDef (x : List Ast.Tok) : Prop :=
  IsOperation x ∨ IsFragment x ∨ (∃ l : LooseDef, x = l.toks)

/-- where `select_definition` starts a definition parser for keyword `w`: on the keyword itself (a Name, or the
    `{` of a shorthand query), or on a description (String) whose next significant token is the keyword -/
def DStart (w : Str) (q : List Tok) : Prop :=
  ∃ t rest, q = t :: rest ∧
    (((t.kind = .name ∨ t.kind = .lCurly) ∧ t.data = w) ∨
     (t.kind = .stringValue ∧ ∃ t2, (sig rest).head? = some t2 ∧ t2.data = w))

/-- where `extensions` starts an extension parser: on `extend`, the next significant token being the keyword -/
def EStart (w : Str) (q : List Tok) : Prop :=
  ∃ t rest t2, q = t :: rest ∧ t.kind = .name ∧ t.data = "extend".toList ∧ (sig rest).head? = some t2 ∧ t2.data = w

abbrev DefAcc (H : List Tok → Prop) (m : PI Unit) : Prop := Acc (fun _ => False) H m (fun _ => IsDef)

/-- the per-definition soundness statements the document theorem is parametrised by -/
structure DefLemmas (n : Nat) : Prop where
  directive : DefAcc (fun q => LexQ q ∧ DStart "directive".toList q) (directiveDefinition n)
  enumDef : DefAcc (fun q => LexQ q ∧ DStart "enum".toList q) (enumTypeDefinition n)
  fragment : DefAcc (fun q => LexQ q ∧ DStart "fragment".toList q) (fragmentDefinition n)
  input : DefAcc (fun q => LexQ q ∧ DStart "input".toList q) (inputObjectTypeDefinition n)
  interface : DefAcc (fun q => LexQ q ∧ DStart "interface".toList q) (interfaceTypeDefinition n)
  object : DefAcc (fun q => LexQ q ∧ DStart "type".toList q) (objectTypeDefinition n)
  opQuery : DefAcc (fun q => LexQ q ∧ DStart "query".toList q) (operationDefinition n)
  opMutation : DefAcc (fun q => LexQ q ∧ DStart "mutation".toList q) (operationDefinition n)
  opSubscription : DefAcc (fun q => LexQ q ∧ DStart "subscription".toList q) (operationDefinition n)
  opShorthand : DefAcc (fun q => LexQ q ∧ DStart "{".toList q) (operationDefinition n)
  scalar : DefAcc (fun q => LexQ q ∧ DStart "scalar".toList q) (scalarTypeDefinition n)
  schema : DefAcc (fun q => LexQ q ∧ DStart "schema".toList q) (schemaDefinition n)
  union : DefAcc (fun q => LexQ q ∧ DStart "union".toList q) (unionTypeDefinition n)
  schemaExt : DefAcc (fun q => LexQ q ∧ EStart "schema".toList q) (schemaExtension n)
  scalarExt : DefAcc (fun q => LexQ q ∧ EStart "scalar".toList q) (scalarTypeExtension n)
  objectExt : DefAcc (fun q => LexQ q ∧ EStart "type".toList q) (objectTypeExtension n)
  interfaceExt : DefAcc (fun q => LexQ q ∧ EStart "interface".toList q) (interfaceTypeExtension n)
  unionExt : DefAcc (fun q => LexQ q ∧ EStart "union".toList q) (unionTypeExtension n)
  enumExt : DefAcc (fun q => LexQ q ∧ EStart "enum".toList q) (enumTypeExtension n)
  inputExt : DefAcc (fun q => LexQ q ∧ EStart "input".toList q) (inputObjectTypeExtension n)

/-- `m`, entered on a lexer queue that satisfies `H`, establishes `Res` between the start and the end state of an error-free run -/
def Reaches (Res : PState → PState → Prop) (H : List Tok → Prop) (m : PI Unit) : Prop :=
  ∀ s s', TW s → EofEnd s → (LexQ (Toks s) ∧ H (Toks s)) → m.run s = .ok () s' → ¬ Doomed s' → Res s s'

/-- the parsers that `select_definition` and `extensions` call, each with the start condition under which it is called, all
    establishing `Res`: what the dispatcher needs in order to establish `Res` itself, whatever `Res` says -/
structure DispatchSound (Res : PState → PState → Prop) (n : Nat) : Prop where
  directive : Reaches Res (DStart "directive".toList) (directiveDefinition n)
  enumDef : Reaches Res (DStart "enum".toList) (enumTypeDefinition n)
  fragment : Reaches Res (DStart "fragment".toList) (fragmentDefinition n)
  input : Reaches Res (DStart "input".toList) (inputObjectTypeDefinition n)
  interface : Reaches Res (DStart "interface".toList) (interfaceTypeDefinition n)
  object : Reaches Res (DStart "type".toList) (objectTypeDefinition n)
  opQuery : Reaches Res (DStart "query".toList) (operationDefinition n)
  opMutation : Reaches Res (DStart "mutation".toList) (operationDefinition n)
  opSubscription : Reaches Res (DStart "subscription".toList) (operationDefinition n)
  opShorthand : Reaches Res (DStart "{".toList) (operationDefinition n)
  scalar : Reaches Res (DStart "scalar".toList) (scalarTypeDefinition n)
  schema : Reaches Res (DStart "schema".toList) (schemaDefinition n)
  union : Reaches Res (DStart "union".toList) (unionTypeDefinition n)
  schemaExt : Reaches Res (EStart "schema".toList) (schemaExtension n)
  scalarExt : Reaches Res (EStart "scalar".toList) (scalarTypeExtension n)
  objectExt : Reaches Res (EStart "type".toList) (objectTypeExtension n)
  interfaceExt : Reaches Res (EStart "interface".toList) (interfaceTypeExtension n)
  unionExt : Reaches Res (EStart "union".toList) (unionTypeExtension n)
  enumExt : Reaches Res (EStart "enum".toList) (enumTypeExtension n)
  inputExt : Reaches Res (EStart "input".toList) (inputObjectTypeExtension n)

theorem DefLemmas.dispatch {n : Nat} (L : DefLemmas n) : DispatchSound (fun s s' => AccRes (fun _ => False) s s' IsDef) n where
  directive := fun s s' => L.directive.2 s () s'
  enumDef := fun s s' => L.enumDef.2 s () s'
  fragment := fun s s' => L.fragment.2 s () s'
  input := fun s s' => L.input.2 s () s'
  interface := fun s s' => L.interface.2 s () s'
  object := fun s s' => L.object.2 s () s'
  opQuery := fun s s' => L.opQuery.2 s () s'
  opMutation := fun s s' => L.opMutation.2 s () s'
  opSubscription := fun s s' => L.opSubscription.2 s () s'
  opShorthand := fun s s' => L.opShorthand.2 s () s'
  scalar := fun s s' => L.scalar.2 s () s'
  schema := fun s s' => L.schema.2 s () s'
  union := fun s s' => L.union.2 s () s'
  schemaExt := fun s s' => L.schemaExt.2 s () s'
  scalarExt := fun s s' => L.scalarExt.2 s () s'
  objectExt := fun s s' => L.objectExt.2 s () s'
  interfaceExt := fun s s' => L.interfaceExt.2 s () s'
  unionExt := fun s s' => L.unionExt.2 s () s'
  enumExt := fun s s' => L.enumExt.2 s () s'
  inputExt := fun s s' => L.inputExt.2 s () s'

/-! ### look-ahead -/

/-- with a significant current token, `peek_data_n(2)` is the data of the first significant token of the rest -/
theorem peekDataN2_spec (s s' : PState) (d : Option Str) (t : Tok) (rest : List Tok) (w : TW s)
    (hc : s.current = some t) (ht : Toks s = t :: rest) (hni : isIgnoredKind t.kind = false)
    (h : (peekDataN 2).run s = .ok d s') : s' = s ∧ d = ((sig rest).head?).map (·.data) := by
  obtain ⟨o, s1, h1, h2⟩ := bind_dec (peekTokenN 2) _ s s' d h
  unfold peekTokenN at h1
  simp only [] at h1
  injection h1 with h1 h1'
  subst h1'
  rw [run_pure] at h2
  injection h2 with h2 h3
  subst h3
  refine ⟨rfl, ?_⟩
  rw [← h2, ← h1]
  have hrest : rest = toksOf (stream s.lx) := by
    unfold Toks at ht
    rw [hc] at ht
    simp only [Option.toList, List.cons_append, List.nil_append, List.cons.injEq, true_and] at ht
    exact ht.symm
  unfold lookahead
  rw [hc]
  have hnk : (t.kind == .whitespace || t.kind == .comment || t.kind == .comma) = false := by
    simp only [isIgnoredKind] at hni
    cases hk : t.kind <;> simp [hk] at hni ⊢
  simp only [hnk, Bool.false_eq_true, if_false]
  have : ¬ (2 ≤ 1) := by omega
  simp only [this, if_false]
  show Option.map _ (aheadLoop _ s.lx 1) = _
  rw [aheadLoop_one _ s.lx w.limit (by omega), hrest]

theorem peekData_cur (s s' : PState) (d : Option Str) (t : Tok) (hc : s.current = some t)
    (h : peekData.run s = .ok d s') : s' = s ∧ d = some t.data := by
  obtain ⟨o, s1, h1, h2⟩ := bind_dec peekToken _ s s' d h
  rw [peekToken_current s t hc] at h1
  injection h1 with h1 h1'
  subst h1 h1'
  rw [run_pure] at h2
  injection h2 with h2 h3
  exact ⟨h3.symm, h2.symm⟩

/-! ### extensions.rs, select_definition -/

theorem Exact.errAndPop_never (s s' : PState) (w : TW s) (he : EofEnd s) (h : errAndPop.run s = .ok () s') : Doomed s' := by
  refine Classical.byContradiction (fun hnd => ?_)
  obtain ⟨_, _, _, _, a4⟩ := (acc_errAndPop (E := fun _ => False) (H := fun _ => True) (R := fun _ _ => False)).2 s () s' w he trivial h hnd
  rcases a4 with ⟨_, _, f⟩ | f <;> exact f

theorem extensions_reach {Res : PState → PState → Prop} {n : Nat} (L : DispatchSound Res n) (s s' : PState) (t : Tok) (rest : List Tok) (w : TW s) (he : EofEnd s)
    (hs : LexQ (Toks s)) (hc : s.current = some t) (ht : Toks s = t :: rest) (hk : t.kind = .name) (hd : t.data = "extend".toList)
    (h : (extensions n).run s = .ok () s') (hnd : ¬ Doomed s') : Res s s' := by
  unfold extensions at h
  obtain ⟨d, s1, h1, h2⟩ := bind_dec (peekDataN 2) _ s s' () h
  obtain ⟨rfl, hdat⟩ := peekDataN2_spec s s1 d t rest w hc ht (by rw [hk]; rfl) h1
  have start : ∀ wd : String, kwOpt wd d = true → LexQ (Toks s1) ∧ EStart wd.toList (Toks s1) := by
    intro wd hw
    have := kwOpt_eq hw
    rw [hdat] at this
    cases hq : (sig rest).head? with
    | none => rw [hq] at this; cases this
    | some t2 =>
      rw [hq] at this
      exact ⟨hs, t, rest, t2, ht, hk, hd, hq, by simpa using this⟩
  split at h2
  next hw => exact L.schemaExt s1 s' w he (start _ hw) h2 hnd
  split at h2
  next hw => exact L.scalarExt s1 s' w he (start _ hw) h2 hnd
  split at h2
  next hw => exact L.objectExt s1 s' w he (start _ hw) h2 hnd
  split at h2
  next hw => exact L.interfaceExt s1 s' w he (start _ hw) h2 hnd
  split at h2
  next hw => exact L.unionExt s1 s' w he (start _ hw) h2 hnd
  split at h2
  next hw => exact L.enumExt s1 s' w he (start _ hw) h2 hnd
  split at h2
  next hw => exact L.inputExt s1 s' w he (start _ hw) h2 hnd
  exact absurd (Exact.errAndPop_never s1 s' w he h2) hnd

theorem selectDefinition_reach {Res : PState → PState → Prop} {n : Nat} (L : DispatchSound Res n) (d : Str) (s s' : PState) (t : Tok) (rest : List Tok)
    (w : TW s) (he : EofEnd s) (hs : LexQ (Toks s)) (hc : s.current = some t) (ht : Toks s = t :: rest)
    (hstart : ((t.kind = .name ∨ t.kind = .lCurly) ∧ t.data = d) ∨
      (t.kind = .stringValue ∧ ∃ t2, (sig rest).head? = some t2 ∧ t2.data = d))
    (h : (selectDefinition n d).run s = .ok () s') (hnd : ¬ Doomed s') : Res s s' := by
  have start : ∀ wd : String, kw wd d = true → LexQ (Toks s) ∧ DStart wd.toList (Toks s) := by
    intro wd hw
    have := kw_eq hw
    subst this
    exact ⟨hs, t, rest, ht, hstart⟩
  have errc : errAndPop.run s = .ok () s' → Res s s' := fun h' => absurd (Exact.errAndPop_never s s' w he h') hnd
  unfold selectDefinition at h
  by_cases h1 : kw "directive" d = true
  · simp only [h1, if_true] at h; exact L.directive s s' w he (start _ h1) h hnd
  simp only [h1, Bool.false_eq_true, if_false] at h
  by_cases h2 : kw "enum" d = true
  · simp only [h2, if_true] at h; exact L.enumDef s s' w he (start _ h2) h hnd
  simp only [h2, Bool.false_eq_true, if_false] at h
  by_cases h3 : kw "extend" d = true
  · simp only [h3, if_true] at h
    have hd := kw_eq h3
    rcases hstart with ⟨hk, hdat⟩ | ⟨hk, t2, hq, hdat⟩
    · rcases hk with hk | hk
      · exact extensions_reach L s s' t rest w he hs hc ht hk (by rw [hdat, hd]) h hnd
      · exfalso
        have := hs t (by rw [ht]; exact List.mem_cons_self ..) 'e' "xtend".toList (by rw [hdat, hd]; rfl) (by decide)
        rw [hk] at this
        cases this
    · -- a description followed by `extend`: `extensions` looks at `extend` itself and reports an error
      unfold extensions at h
      obtain ⟨d2, s1, e1, e2⟩ := bind_dec (peekDataN 2) _ s s' () h
      obtain ⟨rfl, hdat2⟩ := peekDataN2_spec s s1 d2 t rest w hc ht (by rw [hk]; rfl) e1
      rw [hq] at hdat2
      simp only [Option.map_some] at hdat2
      rw [hdat, hd] at hdat2
      subst hdat2
      simp only [kwOpt_toList, String.reduceEq, decide_false, Bool.false_eq_true, if_false] at e2
      exact errc e2
  simp only [h3, Bool.false_eq_true, if_false] at h
  by_cases h4 : kw "fragment" d = true
  · simp only [h4, if_true] at h; exact L.fragment s s' w he (start _ h4) h hnd
  simp only [h4, Bool.false_eq_true, if_false] at h
  by_cases h5 : kw "input" d = true
  · simp only [h5, if_true] at h; exact L.input s s' w he (start _ h5) h hnd
  simp only [h5, Bool.false_eq_true, if_false] at h
  by_cases h6 : kw "interface" d = true
  · simp only [h6, if_true] at h; exact L.interface s s' w he (start _ h6) h hnd
  simp only [h6, Bool.false_eq_true, if_false] at h
  by_cases h7 : kw "type" d = true
  · simp only [h7, if_true] at h; exact L.object s s' w he (start _ h7) h hnd
  simp only [h7, Bool.false_eq_true, if_false] at h
  by_cases h8 : (kw "query" d || kw "mutation" d || kw "subscription" d || kw "{" d) = true
  · simp only [h8, if_true] at h
    simp only [Bool.or_eq_true] at h8
    rcases h8 with ((h8 | h8) | h8) | h8
    · exact L.opQuery s s' w he (start _ h8) h hnd
    · exact L.opMutation s s' w he (start _ h8) h hnd
    · exact L.opSubscription s s' w he (start _ h8) h hnd
    · exact L.opShorthand s s' w he (start _ h8) h hnd
  simp only [h8, Bool.false_eq_true, if_false] at h
  by_cases h9 : kw "scalar" d = true
  · simp only [h9, if_true] at h; exact L.scalar s s' w he (start _ h9) h hnd
  simp only [h9, Bool.false_eq_true, if_false] at h
  by_cases h10 : kw "schema" d = true
  · simp only [h10, if_true] at h; exact L.schema s s' w he (start _ h10) h hnd
  simp only [h10, Bool.false_eq_true, if_false] at h
  by_cases h11 : kw "union" d = true
  · simp only [h11, if_true] at h; exact L.union s s' w he (start _ h11) h hnd
  simp only [h11, Bool.false_eq_true, if_false] at h
  exact errc h

/-- **the dispatcher of `document()`**: on a token of a kind other than EOF, an error-free run is an error-free run of one of
    the parsers of `DispatchSound`, entered under its start condition -/
theorem documentDispatch_reach {Res : PState → PState → Prop} {n : Nat} (L : DispatchSound Res n) (s s' : PState) (t : Tok) (rest : List Tok)
    (w : TW s) (he : EofEnd s) (hs : LexQ (Toks s)) (hc : s.current = some t) (ht : Toks s = t :: rest)
    (h : (documentDispatch n t.kind).run s = .ok () s') (hnd : ¬ Doomed s') : Res s s' := by
  have errc : ∀ s1, s1 = s → errAndPop.run s1 = .ok () s' → Res s s' := fun s1 e h' => by
    subst e
    exact absurd (Exact.errAndPop_never s1 s' w he h') hnd
  unfold documentDispatch at h
  by_cases hk : (t.kind == .stringValue) = true
  · simp only [hk, if_true] at h
    have hk' : t.kind = .stringValue := by simpa using hk
    obtain ⟨d, s1, e1, e2⟩ := bind_dec (peekDataN 2) _ s s' () h
    obtain ⟨rfl, hdat⟩ := peekDataN2_spec s s1 d t rest w hc ht (by rw [hk']; rfl) e1
    cases hq : (sig rest).head? with
    | none =>
      rw [hq] at hdat; subst hdat
      exact errc s1 rfl e2
    | some t2 =>
      rw [hq] at hdat; subst hdat
      exact selectDefinition_reach L t2.data s1 s' t rest w he hs hc ht (.inr ⟨hk', t2, hq, rfl⟩) e2 hnd
  · simp only [hk, Bool.false_eq_true, if_false] at h
    by_cases hk2 : (t.kind == .name || t.kind == .lCurly) = true
    · simp only [hk2, if_true] at h
      obtain ⟨d, s1, e1, e2⟩ := bind_dec peekData _ s s' () h
      obtain ⟨rfl, hdat⟩ := peekData_cur s s1 d t hc e1
      subst hdat
      have hk2' : t.kind = .name ∨ t.kind = .lCurly := by simpa using hk2
      exact selectDefinition_reach L t.data s1 s' t rest w he hs hc ht (.inl ⟨hk2', rfl⟩) e2 hnd
    · simp only [hk2, Bool.false_eq_true, if_false] at h
      exact errc s rfl h

/-- on a token of a kind other than EOF, an error-free run of the dispatcher consumes exactly the tokens of one definition of the grammar -/
theorem documentDispatch_sound {n : Nat} (L : DefLemmas n) (s s' : PState) (t : Tok) (rest : List Tok)
    (w : TW s) (he : EofEnd s) (hs : LexQ (Toks s)) (hc : s.current = some t) (ht : Toks s = t :: rest)
    (h : (documentDispatch n t.kind).run s = .ok () s') (hnd : ¬ Doomed s') : AccRes (fun _ => False) s s' IsDef :=
  documentDispatch_reach L.dispatch s s' t rest w he hs hc ht h hnd

end Apollo.Parse
