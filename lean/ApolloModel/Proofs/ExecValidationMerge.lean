import ApolloModel.Spec.ExecValidation
/-
Field merging and the used-fragments walk.  The XING algorithm (validation/selection.rs `MergedFieldSet`: grouping by
response name, then by common parents, comparing the first of every group with the rest, recursing on the merged
sub-selections) accepts exactly what the specification's pairwise FieldsInSetCanMerge / SameResponseShape — applied to
every selection set of the document — accepts: `xing_sound`, `xing_complete`, `xing_eq_pairwise`.
`collectUsed_sound` / `collectUsed_complete`: the walk that collects the used fragments finds exactly the fragments
reachable from the operations.
-/
namespace Apollo.ExecVal
open Apollo Apollo.Spec Apollo.Spec.ExecVal

theorem mem_dedup (ks : List String) (k : String) : k ∈ dedup ks ↔ k ∈ ks := by
  induction ks with
  | nil => simp [dedup]
  | cons a rest ih =>
    simp only [dedup, List.mem_cons, List.mem_filter, ih]
    constructor
    · rintro (h | ⟨h, _⟩)
      · exact Or.inl h
      · exact Or.inr h
    · rintro (h | h)
      · exact Or.inl h
      · by_cases hk : k = a
        · exact Or.inl hk
        · exact Or.inr ⟨h, by simpa using hk⟩

theorem commonParents_iff (g : List AField) (a b : AField) (ha : a ∈ g) (hb : b ∈ g) :
    (∃ pg ∈ groupByCommonParents g, a ∈ pg ∧ b ∈ pg) ↔
      ((a.parentIsObject = true ∧ b.parentIsObject = true → a.parent = b.parent)) := by
  have hmemc : ∀ x ∈ g, x.parentIsObject = true →
      x.parent ∈ dedup ((g.filter (·.parentIsObject)).map AField.parent) := by
    intro x hx ho
    rw [mem_dedup]
    exact List.mem_map.mpr ⟨x, List.mem_filter.mpr ⟨hx, ho⟩, rfl⟩
  have hin : ∀ x ∈ g, ∀ p, (x.parentIsObject = true → x.parent = p) →
      x ∈ g.filter (fun f => f.parentIsObject && f.parent == p) ++ g.filter (!·.parentIsObject) := by
    intro x hx p hp
    rw [List.mem_append]
    cases ho : x.parentIsObject with
    | true => left; exact List.mem_filter.mpr ⟨hx, by simp [ho, hp ho]⟩
    | false => right; exact List.mem_filter.mpr ⟨hx, by simp [ho]⟩
  have hout : ∀ x p, x ∈ g.filter (fun f => f.parentIsObject && f.parent == p) ++ g.filter (!·.parentIsObject) →
      (x.parentIsObject = true → x.parent = p) := by
    intro x p hx ho
    rw [List.mem_append] at hx
    rcases hx with hx | hx
    · have := (List.mem_filter.mp hx).2; simp at this; exact this.2
    · have := (List.mem_filter.mp hx).2; simp [ho] at this
  unfold groupByCommonParents
  by_cases hc : (dedup ((g.filter (·.parentIsObject)).map AField.parent)).isEmpty = true
  · simp only [hc, if_true]
    have hnone : ∀ x ∈ g, x.parentIsObject = false := by
      intro x hx
      cases ho : x.parentIsObject with
      | false => rfl
      | true =>
        have := hmemc x hx ho
        have he : dedup ((g.filter (·.parentIsObject)).map AField.parent) = [] := by simpa using hc
        rw [he] at this; simp at this
    constructor
    · intro _ ⟨h1, _⟩; rw [hnone a ha] at h1; simp at h1
    · intro _
      refine ⟨_, List.mem_singleton.mpr rfl, ?_, ?_⟩
      · exact List.mem_filter.mpr ⟨ha, by simp [hnone a ha]⟩
      · exact List.mem_filter.mpr ⟨hb, by simp [hnone b hb]⟩
  · simp only [hc, Bool.false_eq_true, if_false]
    constructor
    · rintro ⟨pg, hpg, hapg, hbpg⟩ ⟨hoa, hob⟩
      obtain ⟨p, _, rfl⟩ := List.mem_map.mp hpg
      rw [hout a p hapg hoa, hout b p hbpg hob]
    · intro h
      -- choose the group: the parent of whichever of the two has an object parent, else any
      have hne : ∃ p, p ∈ dedup ((g.filter (·.parentIsObject)).map AField.parent) := by
        cases hd : dedup ((g.filter (·.parentIsObject)).map AField.parent) with
        | nil => simp [hd] at hc
        | cons p _ => exact ⟨p, by simp⟩
      cases hoa : a.parentIsObject with
      | true =>
        refine ⟨_, List.mem_map.mpr ⟨a.parent, hmemc a ha hoa, rfl⟩, hin a ha _ (fun _ => rfl), hin b hb _ ?_⟩
        intro hob; exact (h ⟨hoa, hob⟩).symm
      | false =>
        cases hob : b.parentIsObject with
        | true =>
          refine ⟨_, List.mem_map.mpr ⟨b.parent, hmemc b hb hob, rfl⟩, hin a ha _ ?_, hin b hb _ (fun _ => rfl)⟩
          intro h'; rw [hoa] at h'; simp at h'
        | false =>
          obtain ⟨p, hp⟩ := hne
          refine ⟨_, List.mem_map.mpr ⟨p, hp, rfl⟩, hin a ha _ ?_, hin b hb _ ?_⟩
          · intro h'; rw [hoa] at h'; simp at h'
          · intro h'; rw [hob] at h'; simp at h'

/-! ### used fragments -/

/-- `names.insert(x)` of the callback -/
theorem mem_addName (names : List Nat) (x i : Nat) :
    i ∈ (if names.contains x then names else x :: names) ↔ i = x ∨ i ∈ names := by
  split
  · next hc => exact ⟨Or.inr, fun h => h.elim (fun e => e ▸ by simpa using hc) id⟩
  · simp

theorem goUsed_sound (frags ops : List (List Nat))
    (rec : List Nat → List Nat × List Nat → List Nat × List Nat)
    (hrec : ∀ body st, (∀ j ∈ body, Used frags ops j) → (∀ j ∈ st.2, Used frags ops j) →
      ∀ j ∈ (rec body st).2, Used frags ops j) :
    ∀ sp st, (∀ j ∈ sp, Used frags ops j) → (∀ j ∈ st.2, Used frags ops j) →
      ∀ j ∈ (goUsed frags rec sp st).2, Used frags ops j := by
  intro sp
  induction sp with
  | nil => intro st _ h; simpa [goUsed] using h
  | cons x rest ih =>
    intro st hsp hst
    obtain ⟨seen, names⟩ := st
    have hx : Used frags ops x := hsp x (by simp)
    have hrest : ∀ j ∈ rest, Used frags ops j := fun j hj => hsp j (by simp [hj])
    have hnames : ∀ j ∈ (if names.contains x then names else x :: names), Used frags ops j :=
      fun j hj => ((mem_addName names x j).mp hj).elim (fun e => e ▸ hx) (hst j)
    simp only [goUsed]
    by_cases hs : seen.contains x = true
    · rw [if_pos hs]; exact ih _ hrest hnames
    · rw [if_neg hs]
      cases hf : frags[x]? with
      | none => exact ih _ hrest hnames
      | some body =>
        refine ih _ hrest (hrec body _ ?_ hnames)
        intro j hj; exact Used.step hx hf hj

theorem walkUsed_sound (frags ops : List (List Nat)) :
    ∀ k sp st, (∀ j ∈ sp, Used frags ops j) → (∀ j ∈ st.2, Used frags ops j) →
      ∀ j ∈ (walkUsed frags k sp st).2, Used frags ops j := by
  intro k
  induction k with
  | zero => exact goUsed_sound frags ops _ (fun _ _ _ h => h)
  | succ k ih => exact goUsed_sound frags ops _ ih

theorem collectUsed_sound (frags ops : List (List Nat)) (j : Nat) (h : j ∈ collectUsed frags ops) :
    Used frags ops j :=
  List.foldlRecOn ops _ (motive := fun names => ∀ j ∈ names, Used frags ops j) (by simp)
    (fun names hn op hop => walkUsed_sound frags ops frags.length op ([], names) (fun _ hj => Used.root hop hj) hn) j h

/-! ### soundness of the XING algorithm -/

theorem allPairs_of_forall {α : Type} (rel : α → α → Bool) :
    ∀ l : List α, (∀ x ∈ l, ∀ y ∈ l, rel x y = true) → allPairs rel l = true := by
  intro l
  induction l with
  | nil => intro _; rfl
  | cons a rest ih =>
    intro h
    simp only [allPairs, Bool.and_eq_true, List.all_eq_true]
    exact ⟨fun x hx => h a (by simp) x (by simp [hx]),
      ih (fun x hx y hy => h x (by simp [hx]) y (by simp [hy]))⟩

theorem mem_group (fs : List AField) (a : AField) (ha : a ∈ fs) :
    fs.filter (·.key == a.key) ∈ groupByOutputName fs := by
  unfold groupByOutputName
  exact List.mem_map.mpr ⟨a.key, (mem_dedup _ _).mpr (List.mem_map.mpr ⟨a, ha, rfl⟩), rfl⟩

theorem firstVsRest_all_eq (f : AField → String) (g : List AField)
    (h : firstVsRest (fun a b => f a == f b) g = true) : ∀ x ∈ g, ∀ y ∈ g, f x = f y := by
  cases g with
  | nil => intro x hx; simp at hx
  | cons a rest =>
    simp only [firstVsRest, List.all_eq_true] at h
    have hall : ∀ x ∈ a :: rest, f x = f a := by
      intro x hx
      rcases List.mem_cons.mp hx with rfl | hx
      · rfl
      · have := h x hx; have h4 : f a = f x := by simpa using this
        exact h4.symm
    intro x hx y hy
    rw [hall x hx, hall y hy]

theorem firstVsRest_eq_allPairs (f : AField → String) (g : List AField) :
    firstVsRest (fun a b => f a == f b) g = allPairs (fun a b => f a == f b) g := by
  rw [Bool.eq_iff_iff]
  constructor
  · exact fun h => allPairs_of_forall _ g fun x hx y hy => by simp [firstVsRest_all_eq f g h x hx y hy]
  · intro h
    cases g with
    | nil => rfl
    | cons a rest =>
      simp only [allPairs, Bool.and_eq_true] at h
      exact h.1

theorem shapeByName_sound : ∀ (n : Nat) (fs : List AField), sameResponseShapeByName n fs = true →
    ∀ a ∈ fs, ∀ b ∈ fs, a.key = b.key → sameResponseShape n a b = true := by
  intro n
  induction n with
  | zero => intro fs _ a _ b _ _; rfl
  | succ n ih =>
    intro fs h a ha b hb hk
    simp only [sameResponseShapeByName, List.all_eq_true, Bool.and_eq_true, Bool.or_eq_true] at h
    have hg := h _ (mem_group fs a ha)
    have hag : a ∈ fs.filter (·.key == a.key) := List.mem_filter.mpr ⟨ha, by simp⟩
    have hbg : b ∈ fs.filter (·.key == a.key) := List.mem_filter.mpr ⟨hb, by simp [hk]⟩
    have hshape := firstVsRest_all_eq AField.shape _ hg.1 a hag b hbg
    simp only [sameResponseShape, Bool.and_eq_true]
    refine ⟨by simp [hshape], ?_⟩
    apply allPairs_of_forall
    intro x hx y hy
    have hsub : ∀ z ∈ a.subs ++ b.subs, z ∈ nestedSets (fs.filter (·.key == a.key)) := by
      intro z hz
      unfold nestedSets
      rw [List.mem_flatMap]
      rcases List.mem_append.mp hz with hz | hz
      · exact ⟨a, hag, hz⟩
      · exact ⟨b, hbg, hz⟩
    rcases hg.2 with he | hn
    · have : nestedSets (fs.filter (·.key == a.key)) = [] := by simpa using he
      have := hsub x hx; simp_all
    · by_cases hxy : x.key = y.key
      · simp [ih _ hn x (hsub x hx) y (hsub y hy) hxy]
      · simp [hxy]

theorem group_subset (g : List AField) (pg : List AField) (h : pg ∈ groupByCommonParents g) :
    ∀ x ∈ pg, x ∈ g := by
  unfold groupByCommonParents at h
  by_cases hc : (dedup ((g.filter (·.parentIsObject)).map AField.parent)).isEmpty = true
  · simp only [hc, if_true, List.mem_singleton] at h
    subst h
    intro x hx; exact (List.mem_filter.mp hx).1
  · simp only [hc, Bool.false_eq_true, if_false] at h
    obtain ⟨p, _, rfl⟩ := List.mem_map.mp h
    intro x hx
    rcases List.mem_append.mp hx with hx | hx
    · exact (List.mem_filter.mp hx).1
    · exact (List.mem_filter.mp hx).1

theorem nested_mono (s t : List AField) (h : ∀ x ∈ s, x ∈ t) : ∀ z ∈ nestedSets s, z ∈ nestedSets t := by
  intro z hz
  unfold nestedSets at *
  obtain ⟨a, ha, hz⟩ := List.mem_flatMap.mp hz
  exact List.mem_flatMap.mpr ⟨a, h a ha, hz⟩

/-- soundness of the XING algorithm w.r.t. the pairwise definition, in the generality the induction
    needs: `S ⊆ fs ⊆ fsShape` -/
theorem xing_sound_gen : ∀ (n : Nat) (fsShape fs S : List AField),
    (∀ x ∈ S, x ∈ fs) → (∀ x ∈ fs, x ∈ fsShape) →
    sameResponseShapeByName n fsShape = true → sameForCommonParentsByName n fs = true →
    documentFieldsCanMerge n S = true := by
  intro n
  induction n with
  | zero => intros; rfl
  | succ n ih =>
    intro fsShape fs S hS hfs hshape hpar
    have hshape' := hshape
    simp only [sameResponseShapeByName, List.all_eq_true, Bool.and_eq_true, Bool.or_eq_true] at hshape'
    simp only [sameForCommonParentsByName, List.all_eq_true, Bool.and_eq_true, Bool.or_eq_true] at hpar
    -- for a field `a ∈ fs` and a common-parents group `pg` of its name group: what the algorithm established below it
    have below : ∀ a ∈ fs, ∀ pg ∈ groupByCommonParents (fs.filter (·.key == a.key)), ∀ S' : List AField,
        (∀ z ∈ S', z ∈ nestedSets pg) → documentFieldsCanMerge n S' = true := by
      intro a ha pg hpg S' hS'
      have hgp := hpar _ (mem_group fs a ha) pg hpg
      have hgs := hshape' _ (mem_group fsShape a (hfs a ha))
      have hsub1 : ∀ x ∈ pg, x ∈ fsShape.filter (·.key == a.key) := by
        intro x hx
        have := group_subset _ pg hpg x hx
        have := List.mem_filter.mp this
        exact List.mem_filter.mpr ⟨hfs x this.1, this.2⟩
      rcases hgp.2 with he | hp
      · have hnil : nestedSets pg = [] := by simpa using he
        cases S' with
        | nil => cases n <;> simp [documentFieldsCanMerge, fieldsInSetCanMerge, allPairs]
        | cons z _ => have := hS' z (by simp); rw [hnil] at this; simp at this
      · rcases hgs.2 with he | hs
        · have hnil : nestedSets (fsShape.filter (·.key == a.key)) = [] := by simpa using he
          cases S' with
          | nil => cases n <;> simp [documentFieldsCanMerge, fieldsInSetCanMerge, allPairs]
          | cons z _ =>
            have := nested_mono _ _ hsub1 z (hS' z (by simp)); rw [hnil] at this; simp at this
        · exact ih _ _ S' hS' (nested_mono _ _ hsub1) hs hp
    simp only [documentFieldsCanMerge, Bool.and_eq_true, List.all_eq_true]
    constructor
    · simp only [fieldsInSetCanMerge]
      apply allPairs_of_forall
      intro a ha b hb
      by_cases hk : a.key = b.key
      · have hsrs := shapeByName_sound (n + 1) fsShape hshape a (hfs a (hS a ha)) b (hfs b (hS b hb)) hk
        simp only [hk, bne_self_eq_false, Bool.false_or, hsrs, Bool.true_and, Bool.or_eq_true,
          Bool.not_eq_true', Bool.and_eq_true, beq_iff_eq]
        by_cases hcond : (a.parent == b.parent || !a.parentIsObject || !b.parentIsObject) = true
        · right
          have hag : a ∈ fs.filter (·.key == a.key) := List.mem_filter.mpr ⟨hS a ha, by simp⟩
          have hbg : b ∈ fs.filter (·.key == a.key) := List.mem_filter.mpr ⟨hS b hb, by simp [hk]⟩
          have hcp : a.parentIsObject = true ∧ b.parentIsObject = true → a.parent = b.parent := by
            intro ⟨h1, h2⟩; simpa [h1, h2] using hcond
          obtain ⟨pg, hpg, hapg, hbpg⟩ := (commonParents_iff _ a b hag hbg).mpr hcp
          have hgp := hpar _ (mem_group fs a (hS a ha)) pg hpg
          refine ⟨firstVsRest_all_eq AField.nameArgs pg hgp.1 a hapg b hbpg, ?_⟩
          have hdoc := below a (hS a ha) pg hpg (a.subs ++ b.subs) (by
            intro z hz
            unfold nestedSets
            rcases List.mem_append.mp hz with hz | hz
            · exact List.mem_flatMap.mpr ⟨a, hapg, hz⟩
            · exact List.mem_flatMap.mpr ⟨b, hbpg, hz⟩)
          cases n with
          | zero => rfl
          | succ n => simp only [documentFieldsCanMerge, Bool.and_eq_true] at hdoc; exact hdoc.1
        · left; simpa using hcond
      · simp [hk]
    · intro f hf
      have hfg : f ∈ fs.filter (·.key == f.key) := List.mem_filter.mpr ⟨hS f hf, by simp⟩
      obtain ⟨pg, hpg, hfpg, _⟩ := (commonParents_iff _ f f hfg hfg).mpr (fun _ => rfl)
      exact below f (hS f hf) pg hpg f.subs (by
        intro z hz
        unfold nestedSets
        exact List.mem_flatMap.mpr ⟨f, hfpg, hz⟩)

theorem xing_sound (n : Nat) (fs : List AField) (h : xingCanMerge n fs = true) :
    documentFieldsCanMerge n fs = true := by
  simp only [xingCanMerge, Bool.and_eq_true] at h
  exact xing_sound_gen n fs fs fs (fun _ h => h) (fun _ h => h) h.1 h.2

/-! ### completeness of the used-fragments walk -/

theorem sum_filter_le {α : Type} (w : α → Nat) {p q : α → Bool} (h : ∀ a, p a = true → q a = true) :
    ∀ l : List α, ((l.filter p).map w).sum ≤ ((l.filter q).map w).sum
  | [] => Nat.le_refl _
  | a :: l => by
    have ih := sum_filter_le w h l
    simp only [List.filter_cons]
    cases hp : p a with
    | false => cases hq : q a <;> simp <;> omega
    | true => simp [h a hp]; omega

theorem sum_filter_add_le {α : Type} (w : α → Nat) {p q : α → Bool} (h : ∀ a, p a = true → q a = true) {a : α}
    (hq : q a = true) (hp : p a = false) :
    ∀ l : List α, a ∈ l → ((l.filter p).map w).sum + w a ≤ ((l.filter q).map w).sum
  | b :: l, hm => by
    simp only [List.filter_cons]
    rcases List.mem_cons.mp hm with rfl | hm
    · have := sum_filter_le w h l
      simp [hp, hq]; omega
    · have ih := sum_filter_add_le w h hq hp l hm
      cases hpb : p b with
      | false => cases hqb : q b <;> simp <;> omega
      | true => simp [h b hpb]; omega

def unseen (len : Nat) (seen : List Nat) : Nat := ((List.range len).filter fun i => !seen.contains i).length

theorem unseen_mono (len : Nat) (s s' : List Nat) (h : ∀ i ∈ s, i ∈ s') : unseen len s' ≤ unseen len s := by
  simp only [unseen, ← List.countP_eq_length_filter]
  apply List.countP_mono_left
  intro i _ hi
  simp only [Bool.not_eq_true', List.contains_eq_mem, decide_eq_false_iff_not] at hi ⊢
  exact fun hc => hi (h i hc)

theorem unseen_cons (len : Nat) (s : List Nat) (j : Nat) (hj : j < len) (hs : s.contains j = false) :
    unseen len (j :: s) < unseen len s := by
  have h : ∀ i, (!(j :: s).contains i) = true → (!s.contains i) = true := by
    intro i hi
    simp only [Bool.not_eq_true', List.contains_eq_mem, decide_eq_false_iff_not, List.mem_cons, not_or] at hi ⊢
    exact hi.2
  have := sum_filter_add_le (fun _ => 1) h (a := j) (by simpa using hs) (by simp) (List.range len) (by simpa using hj)
  simpa [unseen, List.map_const', Nat.lt_iff_add_one_le] using this

/-- `names` is closed under "spreads of a defined fragment", except for the fragments in `O`
    (those whose body is being walked right now) -/
def ClosedExcept (frags : List (List Nat)) (O names : List Nat) : Prop :=
  ∀ i ∈ names, i ∉ O → ∀ body, frags[i]? = some body → ∀ j ∈ body, j ∈ names

structure Post (frags : List (List Nat)) (O sp : List Nat) (st st' : List Nat × List Nat) : Prop where
  seenMono : ∀ i ∈ st.1, i ∈ st'.1
  namesMono : ∀ i ∈ st.2, i ∈ st'.2
  seenNames : ∀ i ∈ st'.1, i ∈ st'.2
  visited : ∀ j ∈ sp, j ∈ st'.2
  closed : ClosedExcept frags O st'.2

theorem Post.cons {frags : List (List Nat)} {O rest : List Nat} {x : Nat} {st st1 st' : List Nat × List Nat}
    (p : Post frags O rest st1 st') (hseen : ∀ i ∈ st.1, i ∈ st1.1) (hnames : ∀ i ∈ st.2, i ∈ st1.2) (hx : x ∈ st1.2) :
    Post frags O (x :: rest) st st' :=
  ⟨fun i hi => p.seenMono i (hseen i hi), fun i hi => p.namesMono i (hnames i hi), p.seenNames,
    List.forall_mem_cons.mpr ⟨p.namesMono x hx, p.visited⟩, p.closed⟩

/-- One level of the walk, given the contract of the level below for states with fewer unseen fragments: entering a
    defined fragment marks it seen, so the budget `k` of unseen fragments is what the fuel has to cover. -/
theorem goUsed_complete (frags : List (List Nat)) (k : Nat)
    (rec : List Nat → List Nat × List Nat → List Nat × List Nat)
    (hrec : ∀ O body st, unseen frags.length st.1 < k → (∀ i ∈ st.1, i ∈ st.2) → (∀ i ∈ O, i ∈ st.1) →
      ClosedExcept frags O st.2 → Post frags O body st (rec body st)) :
    ∀ sp O st, unseen frags.length st.1 ≤ k → (∀ i ∈ st.1, i ∈ st.2) → (∀ i ∈ O, i ∈ st.1) →
      ClosedExcept frags O st.2 → Post frags O sp st (goUsed frags rec sp st) := by
  intro sp
  induction sp with
  | nil =>
    intro O st _ hsn _ hcl
    exact ⟨fun _ h => h, fun _ h => h, hsn, by simp, hcl⟩
  | cons x rest ih =>
    intro O st hu hsn hO hcl
    obtain ⟨seen, names⟩ := st
    simp only at hu hsn hO hcl
    simp only [goUsed]
    by_cases hs : seen.contains x = true
    · -- already seen in this operation: `names` already has it
      have hxn : x ∈ names := hsn x (by simpa using hs)
      have hnm : (if names.contains x then names else x :: names) = names := by
        rw [if_pos (by simpa using hxn)]
      rw [if_pos hs, hnm]
      exact (ih O (seen, names) hu hsn hO hcl).cons (fun _ h => h) (fun _ h => h) hxn
    · rw [if_neg hs]
      have hsf : seen.contains x = false := by simpa using hs
      have hxO : x ∉ O := fun h => by have := hO x h; simp [this] at hsf
      have hmem1 := mem_addName names x
      generalize hn1 : (if names.contains x then names else x :: names) = names1 at *
      have hsn1 : ∀ i ∈ x :: seen, i ∈ names1 := by
        intro i hi
        rcases List.mem_cons.mp hi with rfl | hi
        · exact (hmem1 _).mpr (Or.inl rfl)
        · exact (hmem1 i).mpr (Or.inr (hsn i hi))
      have hcl1 : ClosedExcept frags (x :: O) names1 := by
        intro i hi hiO body hb j hj
        have hix : i ≠ x := fun h => hiO (by simp [h])
        have hin : i ∈ names := by
          rcases (hmem1 i).mp hi with h | h
          · exact absurd h hix
          · exact h
        exact (hmem1 j).mpr (Or.inr (hcl i hin (fun h => hiO (by simp [h])) body hb j hj))
      cases hf : frags[x]? with
      | none =>
        simp only []
        have hcl1' : ClosedExcept frags O names1 := by
          intro i hi hiO body hb j hj
          by_cases hix : i = x
          · subst hix; rw [hf] at hb; cases hb
          · exact hcl1 i hi (by simp [hix, hiO]) body hb j hj
        have hu' : unseen frags.length (x :: seen) ≤ k :=
          Nat.le_trans (unseen_mono _ _ _ (fun i hi => by simp [hi])) hu
        have p := ih O (x :: seen, names1) hu' hsn1 (fun i hi => by simp [hO i hi]) hcl1'
        exact p.cons (fun i hi => by simp [hi]) (fun i hi => (hmem1 i).mpr (Or.inr hi)) ((hmem1 _).mpr (Or.inl rfl))
      | some body =>
        simp only []
        have hxlen : x < frags.length := by
          have := List.getElem?_eq_some_iff.mp hf
          exact this.1
        have hu1 : unseen frags.length (x :: seen) < k :=
          Nat.lt_of_lt_of_le (unseen_cons frags.length seen x hxlen hsf) hu
        have q := hrec (x :: O) body (x :: seen, names1) hu1 hsn1
          (fun i hi => by rcases List.mem_cons.mp hi with rfl | hi
                          · simp
                          · simp [hO i hi]) hcl1
        -- after the body: x is closed
        have hcl2 : ClosedExcept frags O (rec body (x :: seen, names1)).2 := by
          intro i hi hiO b hb j hj
          by_cases hix : i = x
          · subst hix; rw [hf] at hb; cases hb; exact q.visited j hj
          · exact q.closed i hi (by simp [hix, hiO]) b hb j hj
        have hu2 : unseen frags.length (rec body (x :: seen, names1)).1 ≤ k :=
          Nat.le_trans (unseen_mono _ _ _ q.seenMono) (Nat.le_of_lt hu1)
        have p := ih O (rec body (x :: seen, names1)) hu2 q.seenNames
          (fun i hi => q.seenMono i (by simp [hO i hi])) hcl2
        exact p.cons (fun i hi => q.seenMono i (by simp [hi])) (fun i hi => q.namesMono i ((hmem1 i).mpr (Or.inr hi)))
          (q.namesMono _ ((hmem1 _).mpr (Or.inl rfl)))

theorem walkUsed_complete (frags : List (List Nat)) :
    ∀ k O sp st, unseen frags.length st.1 ≤ k → (∀ i ∈ st.1, i ∈ st.2) → (∀ i ∈ O, i ∈ st.1) →
      ClosedExcept frags O st.2 → Post frags O sp st (walkUsed frags k sp st) := by
  intro k
  induction k with
  | zero => exact fun O sp st => goUsed_complete frags 0 _ (fun _ _ _ h => absurd h (Nat.not_lt_zero _)) sp O st
  | succ k ih =>
    exact fun O sp st =>
      goUsed_complete frags (k + 1) (walkUsed frags k) (fun O body st h => ih O body st (Nat.le_of_lt_succ h)) sp O st

theorem unseen_le (len : Nat) (s : List Nat) : unseen len s ≤ len := by
  unfold unseen
  have := List.length_filter_le (fun i => !s.contains i) (List.range len)
  simpa using this

theorem collectUsed_complete (frags ops : List (List Nat)) (j : Nat) (h : Used frags ops j) :
    j ∈ collectUsed frags ops := by
  unfold collectUsed
  -- invariant of the fold over the operations
  have key : ∀ (todo : List (List Nat)) (names : List Nat), ClosedExcept frags [] names →
      let res := todo.foldl (fun names op => (walkUsed frags frags.length op ([], names)).2) names
      ClosedExcept frags [] res ∧ (∀ i ∈ names, i ∈ res) ∧ (∀ op ∈ todo, ∀ i ∈ op, i ∈ res) := by
    intro todo
    induction todo with
    | nil => intro names hcl; exact ⟨hcl, fun _ h => h, by simp⟩
    | cons op rest ih =>
      intro names hcl
      have p := walkUsed_complete frags frags.length [] op ([], names) (unseen_le _ _) (by simp) (by simp) hcl
      have r := ih _ p.closed
      simp only [List.foldl_cons]
      refine ⟨r.1, fun i hi => r.2.1 i (p.namesMono i hi), ?_⟩
      intro o ho i hi
      rcases List.mem_cons.mp ho with rfl | ho
      · exact r.2.1 i (p.visited i hi)
      · exact r.2.2 o ho i hi
  have k0 := key ops [] (by intro i hi; simp at hi)
  induction h with
  | root hop hj => exact k0.2.2 _ hop _ hj
  | step _ hb hj ih => exact k0.1 _ ih (by simp) _ hb _ hj

/-! ### completeness of the XING algorithm -/

/-! ### `allPairs` over an append, and from position-based to membership-based pairs -/

theorem allPairs_append_iff {α : Type} (rel : α → α → Bool) (l1 l2 : List α) :
    allPairs rel (l1 ++ l2) = true ↔
      allPairs rel l1 = true ∧ allPairs rel l2 = true ∧ ∀ x ∈ l1, ∀ y ∈ l2, rel x y = true := by
  induction l1 with
  | nil => simp [allPairs]
  | cons a rest ih =>
    simp only [List.cons_append, allPairs, Bool.and_eq_true, List.all_append, List.all_eq_true, ih,
      List.mem_cons, forall_eq_or_imp]
    constructor
    · rintro ⟨⟨h1, h2⟩, h3, h4, h5⟩
      exact ⟨⟨h1, h3⟩, h4, h2, h5⟩
    · rintro ⟨⟨h1, h3⟩, h4, h2, h5⟩
      exact ⟨⟨h1, h2⟩, h3, h4, h5⟩

theorem allPairs_append_comm {α : Type} (rel : α → α → Bool) (hs : ∀ x y, rel x y = rel y x) (l1 l2 : List α) :
    allPairs rel (l1 ++ l2) = allPairs rel (l2 ++ l1) := by
  rw [Bool.eq_iff_iff, allPairs_append_iff, allPairs_append_iff]
  constructor
  · rintro ⟨h1, h2, h3⟩; exact ⟨h2, h1, fun x hx y hy => by rw [hs]; exact h3 y hy x hx⟩
  · rintro ⟨h1, h2, h3⟩; exact ⟨h2, h1, fun x hx y hy => by rw [hs]; exact h3 y hy x hx⟩

theorem allPairs_forall {α : Type} (rel : α → α → Bool) (hs : ∀ x y, rel x y = rel y x) :
    ∀ l : List α, allPairs rel l = true → (∀ x ∈ l, rel x x = true) → ∀ x ∈ l, ∀ y ∈ l, rel x y = true := by
  intro l
  induction l with
  | nil => intro _ _ x hx; simp at hx
  | cons a rest ih =>
    intro h hr x hx y hy
    simp only [allPairs, Bool.and_eq_true, List.all_eq_true] at h
    rcases List.mem_cons.mp hx with rfl | hx' <;> rcases List.mem_cons.mp hy with rfl | hy'
    · exact hr _ (by simp)
    · exact h.1 y hy'
    · rw [hs]; exact h.1 x hx'
    · exact ih h.2 (fun z hz => hr z (by simp [hz])) x hx' y hy'

theorem firstVsRest_of_forall (rel : AField → AField → Bool) (g : List AField)
    (h : ∀ x ∈ g, ∀ y ∈ g, rel x y = true) : firstVsRest rel g = true := by
  cases g with
  | nil => rfl
  | cons a rest =>
    simp only [firstVsRest, List.all_eq_true]
    intro y hy
    exact h a (by simp) y (by simp [hy])

/-! ### the pair relation of FieldsInSetCanMerge -/

/-- "the parent types are equal or either is not an object type": the pair must have identical
    names and arguments -/
def mustMatch (a b : AField) : Bool := a.parent == b.parent || !a.parentIsObject || !b.parentIsObject

/-- what FieldsInSetCanMerge at depth `n + 1` requires of a pair -/
def pairRel (n : Nat) (a b : AField) : Bool :=
  a.key != b.key ||
    (sameResponseShape (n + 1) a b &&
      (!(mustMatch a b) || (a.nameArgs == b.nameArgs && fieldsInSetCanMerge n (a.subs ++ b.subs))))

theorem fieldsInSet_succ (n : Nat) (fs : List AField) :
    fieldsInSetCanMerge (n + 1) fs = allPairs (pairRel n) fs := by
  simp only [fieldsInSetCanMerge]
  rfl

theorem mustMatch_symm (a b : AField) : mustMatch a b = mustMatch b a := by
  unfold mustMatch
  have : (a.parent == b.parent) = (b.parent == a.parent) := by
    rw [Bool.eq_iff_iff]; simp only [beq_iff_eq]; exact eq_comm
  rw [this]
  cases (b.parent == a.parent) <;> cases a.parentIsObject <;> cases b.parentIsObject <;> rfl

theorem beq_str_comm (x y : String) : (x == y) = (y == x) := by
  rw [Bool.eq_iff_iff]; simp only [beq_iff_eq]; exact eq_comm

theorem bne_str_comm (x y : String) : (x != y) = (y != x) := by
  simp only [bne, beq_str_comm]

theorem sameResponseShape_symm : ∀ (n : Nat) (a b : AField), sameResponseShape n a b = sameResponseShape n b a := by
  intro n
  induction n with
  | zero => intro a b; rfl
  | succ n ih =>
    intro a b
    simp only [sameResponseShape]
    rw [beq_str_comm a.shape b.shape,
      allPairs_append_comm _ (fun x y => by rw [bne_str_comm x.key y.key, ih x y]) a.subs b.subs]

theorem pairRel_symm : ∀ (n : Nat) (a b : AField), pairRel n a b = pairRel n b a := by
  intro n
  induction n with
  | zero =>
    intro a b
    simp only [pairRel, fieldsInSetCanMerge]
    rw [bne_str_comm a.key b.key, sameResponseShape_symm 1 a b, mustMatch_symm a b, beq_str_comm a.nameArgs b.nameArgs]
  | succ n ih =>
    intro a b
    simp only [pairRel, fieldsInSet_succ]
    rw [bne_str_comm a.key b.key, sameResponseShape_symm (n + 1 + 1) a b, mustMatch_symm a b,
      beq_str_comm a.nameArgs b.nameArgs, allPairs_append_comm _ (ih) a.subs b.subs]

/-! ### "any selection set of the document" gives every pair, in both orders and on the diagonal -/

theorem doc_pairs : ∀ (n : Nat) (S : List AField), documentFieldsCanMerge (n + 1) S = true →
    ∀ u ∈ S, ∀ v ∈ S, pairRel n u v = true := by
  intro n
  induction n with
  | zero =>
    intro S h
    simp only [documentFieldsCanMerge, Bool.and_eq_true, fieldsInSet_succ] at h
    apply allPairs_forall _ (pairRel_symm 0) S h.1
    intro u _
    simp only [pairRel, bne_self_eq_false, Bool.false_or, fieldsInSetCanMerge, Bool.and_true,
      sameResponseShape, beq_self_eq_true, Bool.true_and, Bool.or_true]
    apply allPairs_of_forall
    intro x _ y _
    simp
  | succ n ih =>
    intro S h
    simp only [documentFieldsCanMerge, Bool.and_eq_true, List.all_eq_true] at h
    have h1 : allPairs (pairRel (n + 1)) S = true := by rw [← fieldsInSet_succ]; exact h.1
    apply allPairs_forall _ (pairRel_symm (n + 1)) S h1
    intro u hu
    have hsub : documentFieldsCanMerge (n + 1) u.subs = true := by
      have := h.2 u hu
      simpa only [documentFieldsCanMerge, Bool.and_eq_true, List.all_eq_true] using this
    have hp := ih u.subs hsub
    have hmem : ∀ x ∈ u.subs ++ u.subs, x ∈ u.subs := by
      intro x hx; rcases List.mem_append.mp hx with h | h <;> exact h
    simp only [pairRel, bne_self_eq_false, Bool.false_or, Bool.and_eq_true, beq_self_eq_true, Bool.true_and]
    refine ⟨?_, ?_⟩
    · simp only [sameResponseShape, beq_self_eq_true, Bool.true_and]
      apply allPairs_of_forall
      intro x hx y hy
      have := hp x (hmem x hx) y (hmem y hy)
      simp only [pairRel, Bool.or_eq_true, Bool.and_eq_true] at this
      rcases this with hk | hr
      · simp [hk]
      · simp only [Bool.or_eq_true]; right
        simpa only [sameResponseShape, Bool.and_eq_true] using hr.1
    · simp only [Bool.or_eq_true]; right
      rw [fieldsInSet_succ]
      apply allPairs_of_forall
      intro x hx y hy
      exact hp x (hmem x hx) y (hmem y hy)

/-! ### completeness of the two halves -/

theorem group_is_filter (fs g : List AField) (h : g ∈ groupByOutputName fs) :
    ∃ k, g = fs.filter (·.key == k) := by
  unfold groupByOutputName at h
  obtain ⟨k, _, rfl⟩ := List.mem_map.mp h
  exact ⟨k, rfl⟩

theorem mem_nested (g : List AField) (x : AField) (h : x ∈ nestedSets g) : ∃ a ∈ g, x ∈ a.subs := by
  unfold nestedSets at h
  exact List.mem_flatMap.mp h

theorem shapeByName_complete : ∀ (n : Nat) (S : List AField),
    (∀ u ∈ S, ∀ v ∈ S, u.key = v.key → sameResponseShape n u v = true) → sameResponseShapeByName n S = true := by
  intro n
  induction n with
  | zero => intro S _; rfl
  | succ n ih =>
    intro S h
    simp only [sameResponseShapeByName, List.all_eq_true, Bool.and_eq_true, Bool.or_eq_true]
    intro g hg
    obtain ⟨k, rfl⟩ := group_is_filter S g hg
    have hin : ∀ a ∈ S.filter (·.key == k), a ∈ S ∧ a.key = k := by
      intro a ha
      have := List.mem_filter.mp ha
      exact ⟨this.1, by simpa using this.2⟩
    have hrel : ∀ a ∈ S.filter (·.key == k), ∀ b ∈ S.filter (·.key == k), sameResponseShape (n + 1) a b = true := by
      intro a ha b hb
      exact h a (hin a ha).1 b (hin b hb).1 ((hin a ha).2.trans (hin b hb).2.symm)
    refine ⟨?_, Or.inr ?_⟩
    · apply firstVsRest_of_forall
      intro a ha b hb
      have := hrel a ha b hb
      simp only [sameResponseShape, Bool.and_eq_true] at this
      exact this.1
    · apply ih
      intro x hx y hy hk
      obtain ⟨a, ha, hxa⟩ := mem_nested _ x hx
      obtain ⟨b, hb, hyb⟩ := mem_nested _ y hy
      have := hrel a ha b hb
      simp only [sameResponseShape, Bool.and_eq_true] at this
      have hc := ((allPairs_append_iff _ _ _).mp this.2).2.2 x hxa y hyb
      simpa [hk] using hc

theorem mustMatch_of_common (g pg : List AField) (hpg : pg ∈ groupByCommonParents g) (a b : AField)
    (ha : a ∈ pg) (hb : b ∈ pg) : mustMatch a b = true := by
  have hag := group_subset g pg hpg a ha
  have hbg := group_subset g pg hpg b hb
  have := (commonParents_iff g a b hag hbg).mp ⟨pg, hpg, ha, hb⟩
  unfold mustMatch
  cases hao : a.parentIsObject <;> cases hbo : b.parentIsObject <;> simp
  exact this ⟨hao, hbo⟩

theorem commonParents_complete : ∀ (n : Nat) (S : List AField),
    (∀ u ∈ S, ∀ v ∈ S, pairRel n u v = true) → sameForCommonParentsByName (n + 1) S = true := by
  intro n
  induction n with
  | zero =>
    intro S h
    simp only [sameForCommonParentsByName, List.all_eq_true, Bool.and_eq_true, Bool.or_true, and_true]
    intro g hg pg hpg
    obtain ⟨k, rfl⟩ := group_is_filter S g hg
    apply firstVsRest_of_forall
    intro a ha b hb
    have ha' := List.mem_filter.mp (group_subset _ pg hpg a ha)
    have hb' := List.mem_filter.mp (group_subset _ pg hpg b hb)
    have hk : a.key = b.key := by
      have h1 : a.key = k := by simpa using ha'.2
      have h2 : b.key = k := by simpa using hb'.2
      rw [h1, h2]
    have hp := h a ha'.1 b hb'.1
    simp only [pairRel, hk, bne_self_eq_false, Bool.false_or, Bool.and_eq_true,
      mustMatch_of_common _ pg hpg a b ha hb, Bool.not_true] at hp
    exact hp.2.1
  | succ n ih =>
    intro S h
    rw [sameForCommonParentsByName]
    simp only [List.all_eq_true, Bool.and_eq_true, Bool.or_eq_true]
    intro g hg pg hpg
    obtain ⟨k, rfl⟩ := group_is_filter S g hg
    have hpair : ∀ a ∈ pg, ∀ b ∈ pg, a.nameArgs = b.nameArgs ∧ allPairs (pairRel n) (a.subs ++ b.subs) = true := by
      intro a ha b hb
      have ha' := List.mem_filter.mp (group_subset _ pg hpg a ha)
      have hb' := List.mem_filter.mp (group_subset _ pg hpg b hb)
      have hk : a.key = b.key := by
        have h1 : a.key = k := by simpa using ha'.2
        have h2 : b.key = k := by simpa using hb'.2
        rw [h1, h2]
      have hp := h a ha'.1 b hb'.1
      simp only [pairRel, hk, bne_self_eq_false, Bool.false_or, Bool.and_eq_true,
        mustMatch_of_common _ pg hpg a b ha hb, Bool.not_true, fieldsInSet_succ] at hp
      exact ⟨by simpa using hp.2.1, hp.2.2⟩
    refine ⟨?_, Or.inr ?_⟩
    · apply firstVsRest_of_forall
      intro a ha b hb
      simp [(hpair a ha b hb).1]
    · have := ih (nestedSets pg) (by
        intro x hx y hy
        obtain ⟨a, ha, hxa⟩ := mem_nested _ x hx
        obtain ⟨b, hb, hyb⟩ := mem_nested _ y hy
        exact ((allPairs_append_iff _ _ _).mp (hpair a ha b hb).2).2.2 x hxa y hyb)
      exact this

theorem xing_complete (n : Nat) (fs : List AField) (h : documentFieldsCanMerge n fs = true) :
    xingCanMerge n fs = true := by
  cases n with
  | zero => rfl
  | succ n =>
    have hp := doc_pairs n fs h
    simp only [xingCanMerge, Bool.and_eq_true]
    refine ⟨?_, commonParents_complete n fs hp⟩
    apply shapeByName_complete
    intro u hu v hv hk
    have := hp u hu v hv
    simp only [pairRel, hk, bne_self_eq_false, Bool.false_or, Bool.and_eq_true] at this
    exact this.1

theorem xing_eq_pairwise (n : Nat) (fs : List AField) : xingCanMerge n fs = documentFieldsCanMerge n fs := by
  rw [Bool.eq_iff_iff]
  exact ⟨xing_sound n fs, xing_complete n fs⟩

/-! ### the pairwise rule only depends on WHICH fields a set contains -/

/-- membership form of "every selection set of the document": every pair (both orders, the diagonal
    included) satisfies the pair rule, and every sub-selection is again such a set -/
theorem doc_iff (n : Nat) (S : List AField) :
    documentFieldsCanMerge (n + 1) S = true ↔
      (∀ u ∈ S, ∀ v ∈ S, pairRel n u v = true) ∧ ∀ f ∈ S, documentFieldsCanMerge n f.subs = true := by
  constructor
  · intro h
    refine ⟨doc_pairs n S h, ?_⟩
    simp only [documentFieldsCanMerge, Bool.and_eq_true, List.all_eq_true] at h
    exact h.2
  · rintro ⟨h1, h2⟩
    simp only [documentFieldsCanMerge, Bool.and_eq_true, List.all_eq_true, fieldsInSet_succ]
    exact ⟨allPairs_of_forall _ S h1, h2⟩

/-- order and multiplicity of the expanded fields do not matter (so neither does the order in which
    `expand_selections` visits inline fragments and fragment spreads, nor that it visits a fragment
    only once) -/
theorem doc_congr (n : Nat) (S S' : List AField) (h : ∀ x, x ∈ S ↔ x ∈ S') :
    documentFieldsCanMerge n S = documentFieldsCanMerge n S' := by
  cases n with
  | zero => rfl
  | succ n =>
    rw [Bool.eq_iff_iff, doc_iff, doc_iff]
    constructor
    · rintro ⟨h1, h2⟩
      exact ⟨fun u hu v hv => h1 u ((h u).mpr hu) v ((h v).mpr hv), fun f hf => h2 f ((h f).mpr hf)⟩
    · rintro ⟨h1, h2⟩
      exact ⟨fun u hu v hv => h1 u ((h u).mp hu) v ((h v).mp hv), fun f hf => h2 f ((h f).mp hf)⟩

end Apollo.ExecVal
