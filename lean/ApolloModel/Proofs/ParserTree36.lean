import ApolloModel.Proofs.ParserTree35
import ApolloModel.Proofs.ParserComplete30
/-
C08 (pipeline): the recursion-limit guard of a definition of the AST (`definitionFit`) from the guard of the strict item
it came from (`itemFit`): `itemOfDef` inverts `DocItem.strict`.
-/
set_option linter.unusedSimpArgs false
set_option linter.unusedVariables false

namespace Apollo.Parse
open Apollo.Rowan hiding Str
open Apollo.Lex hiding Str

theorem sepOf_sepNames (i : SepC) (h : sepLead i = false) : sepOf (sepNames i) = i := by
  cases i with
  | none => rfl
  | some v =>
    obtain ⟨lead, f, r⟩ := v
    simp only [sepLead] at h
    subst h
    rfl

theorem looseRoots_of_full : ∀ (roots : List (Ast.OpType × Option Ast.Str)) (rs : List (Ast.OpType × Ast.Str)),
    fullRoots roots = some rs → looseRoots rs = roots
  | [], rs, h => by simp [fullRoots] at h; subst h; rfl
  | (op, some nm) :: r, rs, h => by
    simp only [fullRoots, Option.map_eq_some_iff] at h
    obtain ⟨r', hr', e⟩ := h
    subst e
    simp only [looseRoots, List.map_cons]
    rw [show List.map (fun r => (r.1, some r.2)) r' = looseRoots r' from rfl, looseRoots_of_full r r' hr']
  | (_, none) :: _, _, h => by simp [fullRoots] at h

theorem itemOfDef_of_strict (l : LooseDef) (d : Ast.Definition) (h : l.strict = some d) : itemOfDef false d = .loose l := by
  cases l <;> simp only [LooseDef.strict] at h
  case scalar | enum | input | scalarExt | enumExt | inputExt => injection h with h; subst h; rfl
  case object desc nm sep ds fs | interface desc nm sep ds fs | objectExt nm sep ds fs | interfaceExt nm sep ds fs
      | union desc nm ds sep | unionExt nm ds sep =>
    split at h
    · cases h
    · next hl => injection h with h; subst h; simp only [itemOfDef, sepOf_sepNames sep (by simpa using hl)]
  case directive desc nm args rep lead first rest =>
    split at h
    · cases h
    · next hl =>
      injection h with h; subst h
      have : lead = false := by simpa using hl
      subst this; rfl
  case schema desc ds roots | schemaExt ds roots =>
    simp only [Option.map_eq_some_iff] at h
    obtain ⟨rs, hr, e⟩ := h
    subst e
    simp only [itemOfDef, looseRoots_of_full roots rs hr]

/-- a property of the strict items that, on operations and fragments, does not depend on the shorthand flag holds of the
    items of the definitions they stand for -/
theorem itemOfDef_of_strictItems (P : DocItem → Prop) (hP : ∀ oe d, P (.exec oe d) → P (itemOfDef false d)) :
    ∀ (its : List DocItem) (items : List Ast.Item), strictItems its = some items →
    (∀ i ∈ its, P i) → ∀ x ∈ items.map (·.2), P (itemOfDef false x)
  | [], items, h, _ => by
    simp only [strictItems, Option.some.injEq] at h
    subst h
    intro x hx; cases hx
  | i :: r, items, h, hf => by
    simp only [strictItems] at h
    cases hi : i.strict with
    | none => rw [hi] at h; simp at h
    | some a =>
      cases hr : strictItems r with
      | none => rw [hi, hr] at h; simp at h
      | some b =>
        rw [hi, hr] at h
        simp only [Option.some.injEq] at h
        subst h
        intro x hx
        simp only [List.map_cons, List.mem_cons] at hx
        rcases hx with rfl | hx
        · have hfi := hf i List.mem_cons_self
          cases i with
          | exec oe d =>
            simp only [DocItem.strict, Option.some.injEq] at hi
            subst hi
            exact hP oe d hfi
          | loose l =>
            simp only [DocItem.strict, Option.map_eq_some_iff] at hi
            obtain ⟨d, hd, rfl⟩ := hi
            rw [itemOfDef_of_strict l d hd]
            exact hfi
        · exact itemOfDef_of_strictItems P hP r b hr (fun j hj => hf j (List.mem_cons_of_mem _ hj)) x hx

theorem definitionFit_of_strict_items (rl : Nat) : ∀ (its : List DocItem) (items : List Ast.Item), strictItems its = some items →
    (∀ i ∈ its, itemFit rl i) → ∀ x ∈ items.map (·.2), definitionFit rl x :=
  itemOfDef_of_strictItems (itemFit rl) fun oe d h => by
    cases d <;> first | exact h | exact absurd h (by simp [itemFit, execFit])

end Apollo.Parse
