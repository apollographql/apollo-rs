import ApolloModel.Proofs.ParserDef3
/-
C05, type-system definitions: optional parts (`if p.peek() == Some(k) { … }` followed by the rest of the
function), with descriptions and directive lists as the two that every definition has.
-/
set_option linter.unusedSimpArgs false
namespace Apollo.Parse
open Apollo.Rowan hiding Str
open Apollo.Lex hiding Str

/-- `if p.peek() == Some(k0) { m }` followed by `rest` -/
def optKind {α : Type} (k0 : Kind) (m : PI Unit) (rest : PI α) : PI α :=
  peek >>= fun k => if k == some k0 then (m >>= fun _ => rest) else rest

theorem kindP_of_head {k : Option Kind} {k0 : Kind} {q : List Tok}
    (h2 : q.head?.map (·.kind) = k) (hk : (k == some k0) = true) : KindP (· == k0) q := by
  have hk' : k = some k0 := by simpa using hk
  rw [hk'] at h2
  cases hq : q.head? with
  | none => rw [hq] at h2; cases h2
  | some t => rw [hq] at h2; exact ⟨t, hq, by simpa using h2⟩

/-- `if peek == k0 { m; restT } else { restF }` -/
def optKind2 {α : Type} (k0 : Kind) (m : PI Unit) (restT restF : PI α) : PI α :=
  peek >>= fun k => if k == some k0 then (m >>= fun _ => restT) else restF

/-- an optional part; what follows is entered with a property `I` of the queue that every rest of it inherits -/
theorem accQ_optKind2I {α : Type} {E : PState → Prop} (hE : Early E) {H I : List Tok → Prop} (hI : ∀ cs q, H (cs ++ q) → I q)
    (k0 : Kind) (m : PI Unit) (restT restF : PI α) (Lm : Nat → List Ast.Tok → Prop) (R : Nat → List Tok → α → List Ast.Tok → Prop)
    (hm : AccQ E (KindP (· == k0)) m (fun B _ _ => Lm B)) (hT : AccQ E I restT R) (hF : AccQ E I restF R) :
    AccQ E H (optKind2 k0 m restT restF) (fun B q a x => ∃ x1 x2, x = x1 ++ x2 ∧ (Lm B x1 ∨ x1 = []) ∧ R B q a x2) := by
  unfold optKind2
  apply accQ_peek
  intro k
  apply accQ_ite
  · intro hk
    have := accQ_bindI hE (H := fun q => H q ∧ q.head?.map (·.kind) = k) (fun cs q h => hI cs q h.1)
      (hm.mono (fun q hq => kindP_of_head hq.2 hk) (fun _ _ _ _ h => h)) (fun _ => hT)
    exact this.mono (fun _ h => h) (fun B q a x ⟨_, x1, x2, e, h1, h2⟩ => ⟨x1, x2, e, Or.inl h1, h2⟩)
  · intro _
    exact hF.mono (fun q h => hI [] q h.1) (fun B q a x h => ⟨[], x, rfl, Or.inr rfl, h⟩)

theorem acc_optKind2I {α : Type} {E : PState → Prop} (hE : Early E) {H I : List Tok → Prop} (hI : ∀ cs q, H (cs ++ q) → I q)
    (k0 : Kind) (m : PI Unit) (restT restF : PI α) (Lm : List Ast.Tok → Prop) (R : α → List Ast.Tok → Prop)
    (hm : Acc E (KindP (· == k0)) m (fun _ => Lm)) (hT : Acc E I restT R) (hF : Acc E I restF R) :
    Acc E H (optKind2 k0 m restT restF) (fun a x => ∃ x1 x2, x = x1 ++ x2 ∧ (Lm x1 ∨ x1 = []) ∧ R a x2) :=
  accQ_optKind2I hE hI k0 m restT restF (fun _ => Lm) (fun _ _ => R) hm hT hF

theorem accQ_optKind {α : Type} {E : PState → Prop} (hE : Early E) {H : List Tok → Prop} (k0 : Kind) (m : PI Unit)
    (rest : PI α) (Lm : Nat → List Ast.Tok → Prop) (R : Nat → List Tok → α → List Ast.Tok → Prop)
    (hm : AccQ E (KindP (· == k0)) m (fun B _ _ => Lm B)) (hr : AccQ E (fun _ => True) rest R) :
    AccQ E H (optKind k0 m rest) (fun B q a x => ∃ x1 x2, x = x1 ++ x2 ∧ (Lm B x1 ∨ x1 = []) ∧ R B q a x2) :=
  accQ_optKind2I hE (fun _ _ _ => trivial) k0 m rest rest Lm R hm hr hr

theorem acc_optKind {α : Type} {E : PState → Prop} (hE : Early E) {H : List Tok → Prop} (k0 : Kind) (m : PI Unit)
    (rest : PI α) (Lm : List Ast.Tok → Prop) (R : α → List Ast.Tok → Prop)
    (hm : Acc E (KindP (· == k0)) m (fun _ => Lm)) (hr : Acc E (fun _ => True) rest R) :
    Acc E H (optKind k0 m rest) (fun a x => ∃ x1 x2, x = x1 ++ x2 ∧ (Lm x1 ∨ x1 = []) ∧ R a x2) :=
  accQ_optKind hE k0 m rest (fun _ => Lm) (fun _ _ => R) hm hr

/-- `if p.peek() == Some(k0) { a } else { b }` -/
theorem accQ_ifKind {α : Type} {E : PState → Prop} {H : List Tok → Prop} (k0 : Kind) (a b : PI α)
    (R : Nat → List Tok → α → List Ast.Tok → Prop) (ha : AccQ E (KindP (· == k0)) a R) (hb : AccQ E (fun _ => True) b R) :
    AccQ E H (peek >>= fun k => if k == some k0 then a else b) R := by
  apply accQ_peek
  intro k
  apply accQ_ite
  · intro hk; exact ha.mono (fun q hq => kindP_of_head hq.2 hk) (fun _ _ _ _ h => h)
  · intro _; exact hb.mono (fun _ _ => trivial) (fun _ _ _ _ h => h)

theorem acc_ifKind {α : Type} {E : PState → Prop} {H : List Tok → Prop} (k0 : Kind) (a b : PI α)
    (R : α → List Ast.Tok → Prop) (ha : Acc E (KindP (· == k0)) a R) (hb : Acc E (fun _ => True) b R) :
    Acc E H (peek >>= fun k => if k == some k0 then a else b) R :=
  accQ_ifKind k0 a b (fun _ _ => R) ha hb

/-- `if p.peek_data() == Some(kw) { p.bump(..) }` followed by `rest`; in `kwPart`, `seen` records whether the keyword was there -/
def optKw {α : Type} (word : String) (sk : SK) (rest : PI α) : PI α :=
  peekData >>= fun d => if kwOpt word d then (bump sk >>= fun _ => rest) else rest

def kwPart (word : String) (seen : Bool) : List Ast.Tok := if seen then [.name word.toList] else []

/-- a token whose text is a keyword made of letters is a Name token.  Asked of every token record, this holds of no
    `word` (`nameData_false`, ParserDef8); over lexer queues the fact is `LexQ.headKw` (ParserDef10). -/
def NameData (word : String) : Prop := ∀ t : Tok, t.data = word.toList → t.kind = .name

/-! ### description -/

theorem acc_description {E : PState → Prop} (hE : Early E) :
    Acc E (KindP (· == .stringValue)) description (fun _ x => ∃ d, x = Ast.tDescription (some d)) := by
  have hP : TokOk (fun t => t.kind = .stringValue) (fun x => ∃ d, x = Ast.tDescription (some d)) := by
    intro t ht
    exact ⟨by rw [ht]; rfl, by rw [ht]; decide, .str ((Strs.decodeStringToken t.data).getD []), by simp [astOfV, ht], _, rfl⟩
  have hb := acc_bump (E := E) "STRING" _ _ hP
  have hH : ∀ q, KindP (· == Kind.stringValue) q → HeadP (fun t => t.kind = .stringValue) q := by
    intro q ⟨t, h1, h2⟩; exact ⟨t, h1, by simpa using h2⟩
  unfold description
  exact (acc_withNode hE _ (headP_sig hP) (acc_withNode hE _ (headP_sig hP) hb)).mono hH (fun _ _ h => h)

theorem accQ_optDescI {α : Type} {E : PState → Prop} (hE : Early E) {H I : List Tok → Prop} (hI : ∀ cs q, H (cs ++ q) → I q)
    (rest : PI α) (R : Nat → List Tok → α → List Ast.Tok → Prop) (hr : AccQ E I rest R) :
    AccQ E H (optKind .stringValue description rest) (fun B q a x => ∃ d x2, x = Ast.tDescription d ++ x2 ∧ R B q a x2) := by
  refine (accQ_optKind2I hE hI .stringValue description rest rest _ R (acc_description hE).toQ hr hr).mono (fun _ h => h) ?_
  rintro B q a x ⟨x1, x2, e, h1, h2⟩
  rcases h1 with ⟨d, hd⟩ | h1
  · exact ⟨some d, x2, by rw [e, hd], h2⟩
  · exact ⟨none, x2, by rw [e, h1]; rfl, h2⟩

theorem acc_optDescI {α : Type} {E : PState → Prop} (hE : Early E) {H I : List Tok → Prop} (hI : ∀ cs q, H (cs ++ q) → I q)
    (rest : PI α) (R : α → List Ast.Tok → Prop) (hr : Acc E I rest R) :
    Acc E H (optKind .stringValue description rest) (fun a x => ∃ d x2, x = Ast.tDescription d ++ x2 ∧ R a x2) :=
  accQ_optDescI hE hI rest (fun _ _ => R) hr

theorem accQ_optDesc {α : Type} {E : PState → Prop} (hE : Early E) {H : List Tok → Prop} (rest : PI α)
    (R : Nat → List Tok → α → List Ast.Tok → Prop) (hr : AccQ E (fun _ => True) rest R) :
    AccQ E H (optKind .stringValue description rest) (fun B q a x => ∃ d x2, x = Ast.tDescription d ++ x2 ∧ R B q a x2) :=
  accQ_optDescI hE (fun _ _ _ => trivial) rest R hr

theorem acc_optDesc {α : Type} {E : PState → Prop} (hE : Early E) {H : List Tok → Prop} (rest : PI α) (R : α → List Ast.Tok → Prop)
    (hr : Acc E (fun _ => True) rest R) :
    Acc E H (optKind .stringValue description rest) (fun a x => ∃ d x2, x = Ast.tDescription d ++ x2 ∧ R a x2) :=
  acc_optDescI hE (fun _ _ _ => trivial) rest R hr

theorem accQ_optDirsI {α : Type} {E : PState → Prop} (hE : Early E) {H I : List Tok → Prop} (hI : ∀ cs q, H (cs ++ q) → I q)
    (n : Nat) (rest : PI α) (R : Nat → List Tok → α → List Ast.Tok → Prop) (hr : AccQ E I rest R) :
    AccQ E H (optKind .at (directives n true) rest)
      (fun B q a x => ∃ ds x2, x = Ast.tDirectives ds ++ x2 ∧ Exact.dirsFit true B ds ∧ R B q a x2) := by
  refine (accQ_optKind2I hE hI .at (directives n true) rest rest _ R (accQ_directives n true) hr hr).mono (fun _ h => h) ?_
  rintro B q a x ⟨x1, x2, e, h1, h2⟩
  rcases h1 with ⟨ds, hd, hok⟩ | h1
  · exact ⟨ds, x2, by rw [e, hd], hok, h2⟩
  · exact ⟨[], x2, by rw [e, h1]; rfl, (by intro d hd; cases hd), h2⟩

theorem acc_optDirsI {α : Type} {E : PState → Prop} (hE : Early E) {H I : List Tok → Prop} (hI : ∀ cs q, H (cs ++ q) → I q)
    (n : Nat) (rest : PI α) (R : α → List Ast.Tok → Prop) (hr : Acc E I rest R) :
    Acc E H (optKind .at (directives n true) rest) (fun a x => ∃ ds x2, x = Ast.tDirectives ds ++ x2 ∧ dirsOk true ds ∧ R a x2) :=
  (accQ_optDirsI hE hI n rest (fun _ _ => R) hr).forget
    fun _ _ _ _ ⟨ds, x2, e, hf, h⟩ => ⟨ds, x2, e, fun d hd a ha => (hf d hd a ha).1, h⟩

theorem accQ_optDirs {α : Type} {E : PState → Prop} (hE : Early E) {H : List Tok → Prop} (n : Nat) (rest : PI α)
    (R : Nat → List Tok → α → List Ast.Tok → Prop) (hr : AccQ E (fun _ => True) rest R) :
    AccQ E H (optKind .at (directives n true) rest)
      (fun B q a x => ∃ ds x2, x = Ast.tDirectives ds ++ x2 ∧ Exact.dirsFit true B ds ∧ R B q a x2) :=
  accQ_optDirsI hE (fun _ _ _ => trivial) n rest R hr

theorem acc_optDirs {α : Type} {E : PState → Prop} (hE : Early E) {H : List Tok → Prop} (n : Nat) (rest : PI α) (R : α → List Ast.Tok → Prop)
    (hr : Acc E (fun _ => True) rest R) :
    Acc E H (optKind .at (directives n true) rest) (fun a x => ∃ ds x2, x = Ast.tDirectives ds ++ x2 ∧ dirsOk true ds ∧ R a x2) :=
  acc_optDirsI hE (fun _ _ _ => trivial) n rest R hr

end Apollo.Parse
