import ApolloModel.Proofs.ParserDef13
/-
C05, type-system definitions: directive definitions and schema definitions.
-/
set_option linter.unusedSimpArgs false
namespace Apollo.Parse
open Apollo.Rowan hiding Str
open Apollo.Lex hiding Str

/-! ### directive definition -/

def dLocs : PI Unit :=
  peek >>= fun k => if (k == some .name || k == some .pipe) then withNode "DIRECTIVE_LOCATIONS" directiveLocations else err
def dOn : PI Unit :=
  peekData >>= fun o => match o with
    | some d => if kw "on" d then (bump "on_KW" >>= fun _ => dLocs) else (err >>= fun _ => dLocs)
    | none => dLocs
def dName (n : Nat) : PI Unit :=
  name >>= fun _ => optKind .lParen (argumentsDefinition n) (optKw "repeatable" "repeatable_KW" dOn)
def dAt (n : Nat) : PI Unit :=
  peek >>= fun k => if k == some .at then (bump "AT" >>= fun _ => dName n) else (err >>= fun _ => dName n)

theorem directiveDefinition_eq (n : Nat) : directiveDefinition n = withNode "DIRECTIVE_DEFINITION"
    (optKind .stringValue description (optKw "directive" "directive_KW" (dAt n))) := rfl

def LocsR (x : List Ast.Tok) : Prop :=
  ∃ lead first rest, x = tSepLead .pipe lead first rest ∧ IsDirLoc first ∧ ∀ r ∈ rest, IsDirLoc r

theorem acc_dLocs {H : List Tok → Prop} : Acc E0 H dLocs (fun _ => LocsR) := by
  unfold dLocs
  exact acc_peekIf _ _ _ _ (acc_withNodeAny early_false _ (acc_directiveLocations early_false)) acc_err

theorem good_dLocs : Good dLocs := (acc_dLocs (H := fun _ => True)).1

theorem accL_dOn : Acc E0 LexQ dOn (fun _ x => ∃ x2, x = .name Ast.sOn :: x2 ∧ LocsR x2) := by
  apply acc_nonempty
  unfold dOn
  apply acc_peekData
  intro o
  cases o with
  | none =>
    refine acc_absurd good_dLocs ?_
    rintro q ⟨⟨_, hne⟩, h2⟩
    cases q with
    | nil => exact hne rfl
    | cons a b => cases h2
  | some t =>
    simp only [Option.map]
    apply acc_ite
    · intro hk
      have hd : t.data = "on".toList := by simpa [kw] using hk
      have hb : Acc E0 (fun q => (LexQ q ∧ q ≠ []) ∧ q.head? = some t) (bump "on_KW") (fun _ x => x = [.name "on".toList]) :=
        (accL_bumpKw "on" kwWord_on "on_KW").mono (fun q ⟨⟨hl, _⟩, hq⟩ => ⟨hl, t, hq, hd⟩) (fun _ _ h => h)
      refine (acc_bind early_false hb (fun _ => acc_dLocs)).mono (fun _ h => h) ?_
      rintro _ x ⟨_, x1, x2, e, h1, h2⟩
      exact ⟨x2, by rw [e, h1]; rfl, h2⟩
    · intro _; exact acc_err' dLocs good_dLocs

def directiveToks (desc : Option Str) (seen : Bool) (nm : Str) (args : List Ast.InputValueDef) (rep lead : Bool)
    (first : Str) (rest : List Str) : List Ast.Tok :=
  Ast.tDescription desc ++ kwPart "directive" seen ++ .p .at :: .name nm :: Ast.tArgsDef args
    ++ kwPart "repeatable" rep ++ .name Ast.sOn :: tSepLead .pipe lead first rest

theorem at_sig : ∀ k : Kind, (k == Kind.at) = true → isIgnoredKind k = false := kindEq_sig rfl

def DirTailR (x : List Ast.Tok) : Prop :=
  ∃ nm args rep x2, x = .p .at :: .name nm :: Ast.tArgsDef args ++ kwPart "repeatable" rep ++ .name Ast.sOn :: x2 ∧ LocsR x2

theorem accL_dAt (n : Nat) : Acc E0 LexQ (dAt n) (fun _ => DirTailR) := by
  have hRep : Acc E0 LexQ (optKw "repeatable" "repeatable_KW" dOn)
      (fun _ x => ∃ rep x2, x = kwPart "repeatable" rep ++ .name Ast.sOn :: x2 ∧ LocsR x2) := by
    refine (accL_optKw early_false "repeatable" kwWord_repeatable _ _ _ accL_dOn).mono (fun _ h => h) ?_
    rintro _ x ⟨rep, x2, e, x3, e3, h3⟩
    exact ⟨rep, x3, by rw [e, e3], h3⟩
  have hName : Acc E0 LexQ (dName n)
      (fun _ x => ∃ nm args rep x2, x = .name nm :: Ast.tArgsDef args ++ kwPart "repeatable" rep ++ .name Ast.sOn :: x2 ∧ LocsR x2) := by
    unfold dName
    refine (accL_bind early_false (fun _ h => h) acc_name
      (fun _ => accL_optKind early_false .lParen (argumentsDefinition n) _ _ _ (acc_argumentsDefinition n) hRep)).mono (fun _ h => h) ?_
    rintro _ x ⟨_, x1, x2, e, ⟨nm, h1⟩, x3, x4, e3, h3, rep, x5, e5, h5⟩
    rcases h3 with ⟨args, _, h3⟩ | h3
    · exact ⟨nm, args, rep, x5, by rw [e, h1, e3, h3, e5]; simp, h5⟩
    · exact ⟨nm, [], rep, x5, by rw [e, h1, e3, h3, e5]; simp [Ast.tArgsDef], h5⟩
  have hAt : Acc E0 LexQ (dAt n)
      (fun _ x => ∃ nm args rep x2, x = .p .at :: .name nm :: Ast.tArgsDef args ++ kwPart "repeatable" rep ++ .name Ast.sOn :: x2 ∧ LocsR x2) := by
    unfold dAt
    apply acc_peek
    intro k
    apply acc_ite
    · intro hk
      have hb : Acc E0 (fun q => LexQ q ∧ q.head?.map (·.kind) = k) (bump "AT") (fun _ x => x = [.p .at]) :=
        (acc_bumpKind .at "AT" (.p .at) (by intro t ht; simp [astOfV, ht]) rfl (by decide)).mono
          (fun q hq => kindP_of_head hq.2 hk) (fun _ _ h => h)
      refine (accL_bind early_false (fun _ h => h.1) hb (fun _ => hName)).mono (fun _ h => h) ?_
      rintro _ x ⟨_, x1, x2, e, h1, nm, args, rep, x3, e3, h3⟩
      exact ⟨nm, args, rep, x3, by rw [e, h1, e3]; rfl, h3⟩
    · intro _; exact acc_err' (dName n) hName.1
  exact hAt

theorem accL_directiveDefinition (n : Nat) :
    Acc E0 LexQ (directiveDefinition n)
      (fun _ x => ∃ desc seen nm args rep lead first rest, x = directiveToks desc seen nm args rep lead first rest
        ∧ IsDirLoc first ∧ ∀ r ∈ rest, IsDirLoc r) := by
  rw [directiveDefinition_eq]
  refine accL_withNodeAny early_false _ ?_
  refine (accL_optDesc early_false _ _ (accL_optKw early_false "directive" kwWord_directive _ _ _ (accL_dAt n))).mono (fun _ h => h) ?_
  rintro _ x ⟨desc, x2, e, seen, x3, e3, nm, args, rep, x4, e4, lead, first, rest, h4, hf, hr⟩
  exact ⟨desc, seen, nm, args, rep, lead, first, rest, by rw [e, e3, e4, h4]; simp [directiveToks], hf, hr⟩

/-! ### schema definition -/

/-- a root operation type as `root_operation_type_definition` accepts it: the named type may be missing -/
def tRootOpF (r : Ast.OpType × Option Str) : List Ast.Tok :=
  .name r.1.name.toList :: .p .colon :: (match r.2 with | some nm => [.name nm] | none => [])

def tRootOpItemsF (rs : List (Ast.OpType × Option Str)) : List Ast.Tok := (rs.map tRootOpF).flatten

theorem tRootOpItemsF_full (rs : List (Ast.OpType × Str)) :
    tRootOpItemsF (rs.map fun r => (r.1, some r.2)) = Ast.tRootOpItems rs := by
  induction rs with
  | nil => rfl
  | cons r rs ih =>
    simp only [tRootOpItemsF, List.map_cons, List.flatten_cons] at ih ⊢
    rw [ih]; simp [tRootOpF, Ast.tRootOp, Ast.tRootOpItems]

/-- `{ RootOperationTypeDefinition+ }` followed by `K`: the loop with its `has` flag -/
def rootsBlock {α : Type} (K : PI α) : PI α :=
  bump "L_CURLY" >>= fun _ => srcLen >>= fun len =>
    peekWhileKindFlagLoop .name rootOperationTypeDefinition (len + 3) false >>= fun has =>
      if !has then (err >>= fun _ => K) else K

theorem acc_rootsBlock {α : Type} (K : PI α) (R : α → List Ast.Tok → Prop) (hK : Acc E0 (fun _ => True) K R) :
    Acc E0 (KindP (· == .lCurly)) (rootsBlock K)
      (fun a x => ∃ roots x2, roots ≠ [] ∧ x = .p .lCurly :: tRootOpItemsF roots ++ x2 ∧ R a x2) := by
  unfold rootsBlock
  have hloop : ∀ len, Acc E0 (fun _ => True)
      (peekWhileKindFlagLoop .name rootOperationTypeDefinition (len + 3) false >>= fun has => if !has then (err >>= fun _ => K) else K)
      (fun a x => ∃ roots x2, roots ≠ [] ∧ x = tRootOpItemsF roots ++ x2 ∧ R a x2) := by
    intro len
    have hl := acc_flagLoop (H := fun _ => True) early_false .name rootOperationTypeDefinition
      (fun i => ∃ r, i = tRootOpF r)
      ((acc_rootOperationTypeDefinition early_false).mono (fun _ h => h) (by
        rintro _ x ⟨op, h⟩
        rcases h with ⟨nm, h⟩ | h
        · exact ⟨(op, some nm), by rw [h]; rfl⟩
        · exact ⟨(op, none), by rw [h]; rfl⟩)) (len + 3) false
    refine ⟨good_bind _ _ hl.1 (fun has => good_ite _ _ _ (good_bind _ _ good_err (fun _ => hK.1)) hK.1), ?_⟩
    intro s a s' w he hq hr hnd
    have hK' : ∀ has : Bool, Acc E0 (fun _ => True) (if !has then (err >>= fun _ => K) else K) (fun a x => has = true ∧ R a x) := by
      intro has
      cases has with
      | true =>
        have : Acc E0 (fun _ => True) K (fun a x => true = true ∧ R a x) := hK.mono (fun _ h => h) (fun _ _ h => ⟨rfl, h⟩)
        simpa using this
      | false => simpa using (acc_err' (E := E0) (H := fun _ => True) K hK.1)
    obtain ⟨cs, a1, a2, a3, a4⟩ := (acc_bind early_false hl hK').2 s a s' w he hq hr hnd
    refine ⟨cs, a1, a2, a3, ?_⟩
    rcases a4 with ⟨x, hx, has, x1, x2, e, ⟨items, hi, hall, hhas⟩, hh, hR⟩ | h4
    · refine Or.inl ⟨x, hx, ?_⟩
      obtain ⟨roots, hro, hlen⟩ := flatten_items _ tRootOpF tRootOpItemsF rfl (fun v r => by simp [tRootOpItemsF])
        (fun _ h => h) items hall
      refine ⟨roots, x2, ?_, by rw [e, hi, hro], hR⟩
      intro h0
      rw [h0] at hlen
      have : items = [] := List.eq_nil_of_length_eq_zero hlen.symm
      rw [this, hh] at hhas
      simp at hhas
    · exact absurd h4 id
  refine (acc_bind early_false (acc_bumpKind .lCurly "L_CURLY" (.p .lCurly) (by intro t ht; simp [astOfV, ht]) rfl (by decide))
    (fun _ => acc_srcLen hloop)).mono (fun _ h => h) ?_
  rintro a x ⟨_, x1, x2, e, h1, roots, x3, hne, e3, h3⟩
  exact ⟨roots, x3, hne, by rw [e, h1, e3]; rfl, h3⟩

def sBraces : PI Unit :=
  peek >>= fun k => if k == some .lCurly then rootsBlock (expect .rCurly "R_CURLY") else err

theorem schemaDefinition_eq (n : Nat) : schemaDefinition n = withNode "SCHEMA_DEFINITION"
    (optKind .stringValue description (optKw "schema" "schema_KW" (optKind .at (directives n true) sBraces))) := rfl

def schemaToks (desc : Option Str) (seen : Bool) (ds : List Ast.Directive) (roots : List (Ast.OpType × Option Str)) : List Ast.Tok :=
  Ast.tDescription desc ++ kwPart "schema" seen ++ Ast.tDirectives ds ++ .p .lCurly :: tRootOpItemsF roots ++ [.p .rCurly]

def SchemaTailR (x : List Ast.Tok) : Prop :=
  ∃ ds roots, roots ≠ [] ∧ x = Ast.tDirectives ds ++ .p .lCurly :: tRootOpItemsF roots ++ [.p .rCurly]

theorem accL_schemaTail (n : Nat) : Acc E0 LexQ (optKind .at (directives n true) sBraces) (fun _ => SchemaTailR) := by
  have hB : Acc E0 LexQ sBraces (fun _ x => ∃ roots, roots ≠ [] ∧ x = .p .lCurly :: tRootOpItemsF roots ++ [.p .rCurly]) := by
    unfold sBraces
    refine acc_ifKind .lCurly _ _ _ ?_ acc_err
    refine (acc_rootsBlock _ _ (acc_expect .rCurly "R_CURLY" (.p .rCurly) (by intro t ht; simp [astOfV, ht]) rfl (by decide))).mono
      (fun _ h => h) ?_
    rintro _ x ⟨roots, x2, hne, e, h2⟩
    exact ⟨roots, hne, by rw [e, h2]⟩
  refine (accL_optDirs early_false n _ _ hB).mono (fun _ h => h) ?_
  rintro _ x ⟨ds, x4, e4, roots, hne, h4⟩
  exact ⟨ds, roots, hne, by rw [e4, h4]; simp⟩

theorem accL_schemaDefinition (n : Nat) :
    Acc E0 LexQ (schemaDefinition n) (fun _ x => ∃ desc seen ds roots, roots ≠ [] ∧ x = schemaToks desc seen ds roots) := by
  rw [schemaDefinition_eq]
  refine accL_withNodeAny early_false _ ?_
  refine (accL_optDesc early_false _ _ (accL_optKw early_false "schema" kwWord_schema _ _ _ (accL_schemaTail n))).mono (fun _ h => h) ?_
  rintro _ x ⟨desc, x2, e, seen, x3, e3, ds, roots, hne, h4⟩
  exact ⟨desc, seen, ds, roots, hne, by rw [e, e3, h4]; simp [schemaToks]⟩

end Apollo.Parse
