import ApolloModel.Proofs.AstText5
/-
Property C08, text level: tokens lex back.  Lexing the text of a segment list whose ignored segments are
ignored text and whose tokens are separated (`segScan`) returns exactly the tokens of the segments
(`lex_segments`) — provided each token text, on its own, lexes to its token when followed by something that
may follow it (`TokOk`).  `TokOk` is proved here for names and for all punctuators (`tokOk_name`,
`tokOk_punct`); for numbers and string literals it is a hypothesis (`NumbersLex`, `StringsLex`).
-/
namespace Apollo.Ast
open Apollo.Lex (advance lex Item Kind punctuationKind isNameStart isNameContinue lex_punctuator lex_name)

def followChar (cls : Cls) (c : Char) : Bool :=
  match cls with
  | .word => !isNameContinue c
  | .num => !isNameContinue c && c != '.'
  | .str => c != '"'
  | _ => true

def FollowOk (cls : Cls) : Str → Prop
  | [] => True
  | c :: _ => followChar cls c = true

def headChar (cls : Cls) (c : Char) : Bool :=
  !isIgnoredChar c &&
  (match cls with
   | .word => isNameStart c
   | .num => Lex.isAsciiDigit c || c == '-'
   | .str => c == '"'
   | .spread => c == '.'
   | .other => !isNameContinue c && c != '.' && c != '"' && c != '-')

def HeadOk (cls : Cls) : Str → Prop
  | [] => False
  | c :: _ => headChar cls c = true

/-- the token text, on its own, lexes to the token, leaving whatever may follow it -/
def TokLexes (t : Tok) (text : Str) : Prop :=
  ∀ rest, FollowOk (clsTok t) rest → ∃ k d, advance (text ++ rest) = (.tok k d, rest) ∧ sigItem k d = some (some t)

def TokOk (t : Tok) (text : Str) : Prop := HeadOk (clsTok t) text ∧ TokLexes t text

/-- a GraphQL name: `[_A-Za-z][_0-9A-Za-z]*` -/
def wfName : Str → Bool
  | [] => false
  | c :: r => isNameStart c && r.all isNameContinue

theorem nameStart_facts (c : Char) (h : isNameStart c = true) : isIgnoredChar c = false := by
  cases hi : isIgnoredChar c with
  | false => rfl
  | true =>
    exfalso
    simp only [isIgnoredChar, Bool.or_eq_true, beq_iff_eq] at hi
    rcases hi with ((((hi | hi) | hi) | hi) | hi) | hi <;> subst hi <;> revert h <;> decide

/-- **names lex back** (maximal munch: what follows must not continue the name) -/
theorem tokOk_name (n : Str) (h : wfName n = true) : TokOk (.name n) n := by
  cases n with
  | nil => simp [wfName] at h
  | cons c r =>
    simp only [wfName, Bool.and_eq_true] at h
    obtain ⟨hc, hr⟩ := h
    refine ⟨by simp [HeadOk, headChar, clsTok, hc, nameStart_facts c hc], ?_⟩
    intro rest hf
    refine ⟨.name, c :: r, ?_, rfl⟩
    simp only [List.cons_append]
    rw [lex_name c (r ++ rest) hc]
    have hall : ∀ x ∈ r, isNameContinue x = true := by simpa using hr
    have h1 : (r ++ rest).takeWhile isNameContinue = r := by
      rw [List.takeWhile_append_of_pos hall]
      cases rest with
      | nil => simp
      | cons x xs =>
        have : isNameContinue x = false := by simpa [FollowOk, followChar, clsTok] using hf
        simp [this]
    have h2 : (r ++ rest).dropWhile isNameContinue = rest := by
      rw [List.dropWhile_append_of_pos hall]
      cases rest with
      | nil => simp
      | cons x xs =>
        have : isNameContinue x = false := by simpa [FollowOk, followChar, clsTok] using hf
        simp [this]
    rw [h1, h2]

theorem lex_spread (rest : Str) : advance ('.' :: '.' :: '.' :: rest) = (.tok .spread ['.', '.', '.'], rest) :=
  Lex.lex_spread rest

def punctKind : P → Kind
  | .bang => .bang | .dollar => .dollar | .amp => .amp | .spread => .spread | .colon => .colon | .eq => .eq
  | .at => .at | .lParen => .lParen | .rParen => .rParen | .lBracket => .lBracket | .rBracket => .rBracket
  | .lCurly => .lCurly | .rCurly => .rCurly | .pipe => .pipe

theorem tokOk_punct_aux (k : P) (c : Char) (ht : tokText (.p k) = [c])
    (hk : punctuationKind c = some (punctKind k)) (hs : sigItem (punctKind k) [c] = some (some (.p k)))
    (hh : headChar (clsTok (.p k)) c = true) : TokOk (.p k) (tokText (.p k)) := by
  rw [ht]
  refine ⟨hh, ?_⟩
  intro rest _
  exact ⟨punctKind k, [c], by simpa using lex_punctuator c _ rest hk, hs⟩

/-- **punctuators lex back**, whatever follows -/
theorem tokOk_punct : ∀ k : P, TokOk (.p k) (tokText (.p k)) := by
  intro k
  cases k
  case spread =>
    refine ⟨by simp [HeadOk, headChar, clsTok, tokText]; decide, ?_⟩
    intro rest _
    exact ⟨.spread, _, by simpa [tokText] using lex_spread rest, rfl⟩
  all_goals exact tokOk_punct_aux _ _ rfl (by decide) rfl (by decide)

/-- numbers and string literals each lex back to their token: hypotheses of `segsWf_doc`, discharged for a
    whole document in `segsWf_doc_full` (numbers from the grammar's syntax, strings from the escaping) -/
def NumbersLex (segs : List Seg) : Prop :=
  ∀ t x, Seg.tok t x ∈ segs → clsTok t = .num → TokOk t x
def StringsLex (segs : List Seg) : Prop :=
  ∀ t x, Seg.tok t x ∈ segs → clsTok t = .str → TokOk t x

def SegsWf (segs : List Seg) : Prop :=
  ∀ g ∈ segs, match g with
    | .tok t x => TokOk t x
    | .ign s => strIgnored s = true

theorem follow_of_head (prev cls : Cls) (x : Str) (hc : conflict prev cls = false) (hx : HeadOk cls x) (r : Str) :
    FollowOk prev (x ++ r) := by
  cases x with
  | nil => exact hx.elim
  | cons c xs =>
    simp only [HeadOk, headChar, Bool.and_eq_true, Bool.not_eq_true'] at hx
    obtain ⟨_, hx⟩ := hx
    simp only [List.cons_append, FollowOk, followChar]
    cases prev <;> cases cls <;> simp_all [conflict]
    all_goals (try (subst hx; decide))
    all_goals (try (obtain ⟨⟨⟨h1, h2⟩, h3⟩, h4⟩ := hx; simp_all))
    all_goals (try (intro hq; subst hq; revert hx; decide))

theorem follow_of_ignored (prev : Cls) (c : Char) (r : Str) (h : isIgnoredChar c = true) : FollowOk prev (c :: r) := by
  simp only [FollowOk, followChar]
  simp only [isIgnoredChar, Bool.or_eq_true, beq_iff_eq] at h
  rcases h with ((((h | h) | h) | h) | h) | h <;> subst h <;> cases prev <;> decide

theorem follow_of_scan : ∀ (r : List Seg) (cls : Cls) (e : Option Cls), SegsWf r → segScan (some cls) r = some e →
    FollowOk cls (segsText r)
  | [], _, _, _, _ => by simp [segsText, FollowOk]
  | .ign s :: r', cls, e, hwf, h => by
    have hs : strIgnored s = true := hwf (.ign s) (List.mem_cons_self ..)
    cases s with
    | nil =>
      simp only [segScan, segSepStep, List.isEmpty_nil, if_true, Option.bind_some] at h
      simpa [segsText, Seg.text] using follow_of_scan r' cls e (fun g hg => hwf g (List.mem_cons_of_mem _ hg)) h
    | cons c cs =>
      have : isIgnoredChar c = true := by
        have := hs; simp only [strIgnored, List.all_cons, Bool.and_eq_true] at this; exact this.1
      simpa [segsText, Seg.text] using follow_of_ignored cls c (cs ++ segsText r') this
  | .tok t x :: r', cls, e, hwf, h => by
    have ht : TokOk t x := hwf (.tok t x) (List.mem_cons_self ..)
    simp only [segScan, segSepStep] at h
    split at h
    · simp at h
    · next hc =>
      have := follow_of_head cls (clsTok t) x (by simpa [conflictO] using hc) ht.1 (segsText r')
      simpa [segsText, Seg.text] using this

theorem headNotIgnored_of_head (cls : Cls) (x r : Str) (h : HeadOk cls x) : HeadNotIgnored (x ++ r) := by
  cases x with
  | nil => exact h.elim
  | cons c xs =>
    simp only [HeadOk, headChar, Bool.and_eq_true, Bool.not_eq_true'] at h
    exact h.1

/-- **Lexing a segmentation.**  If every ignored segment is ignored text, every token text lexes back on its
    own (`TokOk`), and no two tokens that would merge are adjacent (`segScan` succeeds), then the lexer model
    reads the concatenated text — after any ignored prefix `ws` — as exactly the tokens of the segments. -/
theorem lex_segments : ∀ (segs : List Seg) (ws : Str) (s e : Option Cls), SegsWf segs → strIgnored ws = true →
    segScan s segs = some e → sigToks (lex none (ws ++ segsText segs)) = some (segsToks segs)
  | [], ws, _, _, _, hws, _ => by
    have := skip_ignored ws.length ws [] (Nat.le_refl _) hws trivial
    simp only [segsText, List.flatMap_nil] at this ⊢
    rw [this, lex_nil]
    simp [sigToks, sigItem, segsToks]
  | .ign x :: r, ws, s, e, hwf, hws, h => by
    have hx : strIgnored x = true := hwf (.ign x) (List.mem_cons_self ..)
    have hws' : strIgnored (ws ++ x) = true := by simp_all [strIgnored]
    obtain ⟨s1, _, h1⟩ : ∃ s1, segSepStep s (.ign x) = some s1 ∧ segScan s1 r = some e := by
      simp only [segScan] at h
      cases hq : segSepStep s (.ign x) with
      | none => simp [hq] at h
      | some s1 => exact ⟨s1, rfl, by simpa [hq] using h⟩
    have := lex_segments r (ws ++ x) s1 e (fun g hg => hwf g (List.mem_cons_of_mem _ hg)) hws' h1
    simpa [segsText, Seg.text, segsToks, Seg.tok?, List.append_assoc, List.filterMap_cons] using this
  | .tok t x :: r, ws, s, e, hwf, hws, h => by
    have ht : TokOk t x := hwf (.tok t x) (List.mem_cons_self ..)
    have hr : SegsWf r := fun g hg => hwf g (List.mem_cons_of_mem _ hg)
    have h1 : segScan (some (clsTok t)) r = some e := by
      simp only [segScan, segSepStep] at h
      split at h
      · simp at h
      · simpa using h
    have hfollow := follow_of_scan r (clsTok t) e hr h1
    obtain ⟨k, d, hadv, hsig⟩ := ht.2 (segsText r) hfollow
    have htext : segsText (.tok t x :: r) = x ++ segsText r := by simp [segsText, Seg.text]
    rw [htext, skip_ignored ws.length ws (x ++ segsText r) (Nat.le_refl _) hws (headNotIgnored_of_head _ x _ ht.1)]
    have hne : x ++ segsText r ≠ [] := by
      cases x with
      | nil => exact ht.1.elim
      | cons c xs => simp
    obtain ⟨c, tl, hct⟩ : ∃ c tl, x ++ segsText r = c :: tl := by
      cases hq : x ++ segsText r with
      | nil => exact absurd hq hne
      | cons c tl => exact ⟨c, tl, rfl⟩
    rw [hct, lex_cons, ← hct, hadv]
    simp only [sigToks, hsig]
    have ih := lex_segments r [] (some (clsTok t)) e hr rfl h1
    simp only [List.nil_append] at ih
    rw [ih]
    simp [segsToks, Seg.tok?]

end Apollo.Ast
