import ApolloModel.Proofs.Strings2
namespace Apollo.Strs

/-! ### BlockStringValue(rawValue), transcribed from the spec (October 2021 §2.9.4) -/

/-- steps 2–3: the loop that keeps the smallest indentation of the non-blank lines after the first -/
def specCommonIndent (lines : List Str) : Option Nat :=
  (lines.drop 1).foldl (fun common line =>
    let length := line.length
    let indent := countIndent line
    if indent < length then
      match common with
      | none => some indent
      | some c => if indent < c then some indent else some c
    else common) none

def dropTrailingBlank (lines : List Str) : List Str := (lines.reverse.dropWhile isBlankLine).reverse

def joinNl : List Str → Str
  | [] => []
  | [l] => l
  | l :: ls => l ++ '\n' :: joinNl ls

/-- BlockStringValue, with the lexical semantics of `\"""` applied line by line (it contains no
    line terminator and no white space, so this is the same as applying it to the raw value first) -/
def specBlockStringValue (raw : Str) : Str :=
  let lines := splitLines raw                                       -- 1
  let lines := match specCommonIndent lines with                    -- 2, 3
    | some c => stripIndent c lines                                 -- 4
    | none => lines
  let lines := lines.dropWhile isBlankLine                          -- 5
  let lines := dropTrailingBlank lines                              -- 6
  joinNl (lines.map replaceEscapedTriple)                           -- 7, 8, 9

theorem specFold_some (xs : List Nat) (c : Nat) :
    xs.foldl (fun common x => match common with | none => some x | some c => if x < c then some x else some c) (some c) =
      some (xs.foldl min c) := by
  induction xs generalizing c with
  | nil => rfl
  | cons x xs ih =>
    simp only [List.foldl_cons]
    by_cases h : x < c
    · simp only [h, if_true]; rw [ih]; congr 2; omega
    · simp only [h, if_false]; rw [ih]; congr 2; omega

theorem specCommonIndent_eq (lines : List Str) :
    specCommonIndent lines = listMin? ((lines.drop 1).filterMap fun l =>
      if countIndent l < l.length then some (countIndent l) else none) := by
  unfold specCommonIndent
  generalize lines.drop 1 = ls
  have key : ∀ (ls : List Str) (c : Option Nat),
      ls.foldl (fun common line =>
        if countIndent line < line.length then
          match common with
          | none => some (countIndent line)
          | some c => if countIndent line < c then some (countIndent line) else some c
        else common) c =
      (ls.filterMap fun l => if countIndent l < l.length then some (countIndent l) else none).foldl
        (fun common x => match common with | none => some x | some c => if x < c then some x else some c) c := by
    intro ls
    induction ls with
    | nil => intro c; rfl
    | cons l ls ih =>
      intro c
      simp only [List.foldl_cons, List.filterMap_cons]
      by_cases h : countIndent l < l.length
      · simp only [h, if_true, List.foldl_cons]; exact ih _
      · simp only [h, if_false]; exact ih _
  rw [key ls none]
  cases (ls.filterMap fun l => if countIndent l < l.length then some (countIndent l) else none) with
  | nil => rfl
  | cons x xs => simp only [List.foldl_cons, listMin?]; exact specFold_some xs x

theorem stripIndent_zero (lines : List Str) : stripIndent 0 lines = lines := by
  cases lines with
  | nil => rfl
  | cons f rest => simp [stripIndent]

theorem joinNl_snoc (xs : List Str) (l : Str) (h : xs ≠ []) : joinNl (xs ++ [l]) = joinNl xs ++ '\n' :: l := by
  induction xs with
  | nil => exact absurd rfl h
  | cons x xs ih =>
    cases xs with
    | nil => simp [joinNl]
    | cons y ys =>
      have := ih (by simp)
      simp only [List.cons_append, joinNl] at this ⊢
      rw [this]
      simp

theorem dropTrailingBlank_snoc (xs : List Str) (l : Str) :
    dropTrailingBlank (xs ++ [l]) = if isBlankLine l then dropTrailingBlank xs else xs ++ [l] := by
  unfold dropTrailingBlank
  simp only [List.reverse_append, List.reverse_cons, List.reverse_nil, List.nil_append, List.cons_append,
    List.dropWhile_cons]
  split <;> simp

theorem formatTruncate_eq (f : Str) (rest : List Str) (hf : isBlankLine f = false) :
    formatTruncate (f :: rest) = joinNl ((dropTrailingBlank (f :: rest)).map replaceEscapedTriple) := by
  unfold formatTruncate
  have key : ∀ (rest pre : List Str) (acc : Str × Nat),
      acc.1 = joinNl ((f :: pre).map replaceEscapedTriple) →
      acc.1.take acc.2 = joinNl ((dropTrailingBlank (f :: pre)).map replaceEscapedTriple) →
      acc.2 ≤ acc.1.length →
      let r := rest.foldl (fun (acc : Str × Nat) l =>
        let out := acc.1 ++ '\n' :: replaceEscapedTriple l
        (out, if !isBlankLine l then out.length else acc.2)) acc
      r.1.take r.2 = joinNl ((dropTrailingBlank (f :: (pre ++ rest))).map replaceEscapedTriple) := by
    intro rest
    induction rest with
    | nil => intro pre acc _ h2 _; simpa using h2
    | cons l rest ih =>
      intro pre acc h1 h2 h3
      simp only [List.foldl_cons]
      have hsn : f :: (pre ++ l :: rest) = f :: ((pre ++ [l]) ++ rest) := by simp
      rw [hsn]
      apply ih (pre ++ [l])
      · simp only []
        rw [h1, ← List.cons_append, List.map_append]
        simp only [List.map_cons, List.map_nil]
        rw [joinNl_snoc _ _ (by simp)]
      · simp only []
        rw [← List.cons_append, dropTrailingBlank_snoc]
        by_cases hb : isBlankLine l = true
        · simp only [hb, Bool.not_true, Bool.false_eq_true, if_false, if_true]
          rw [List.take_append_of_le_length h3]
          exact h2
        · have hb' : isBlankLine l = false := by simpa using hb
          simp only [hb', Bool.not_false, if_true, Bool.false_eq_true, if_false, List.take_length]
          rw [h1, List.map_append]
          simp only [List.map_cons, List.map_nil]
          rw [joinNl_snoc _ _ (by simp)]
      · simp only []
        split
        · exact Nat.le_refl _
        · simp only [List.length_append, List.length_cons]; omega
  have := key rest [] (replaceEscapedTriple f, (replaceEscapedTriple f).length) (by simp [joinNl])
    (by
      have : dropTrailingBlank [f] = [f] := by simp [dropTrailingBlank, hf]
      simp [this, joinNl]) (Nat.le_refl _)
  simpa using this

theorem dropWhile_head_nonblank (ls : List Str) :
    ls.dropWhile isBlankLine = [] ∨ ∃ f rest, ls.dropWhile isBlankLine = f :: rest ∧ isBlankLine f = false := by
  induction ls with
  | nil => left; rfl
  | cons l ls ih =>
    simp only [List.dropWhile_cons]
    by_cases h : isBlankLine l = true
    · simp only [h, if_true]; exact ih
    · right; simp only [h, Bool.false_eq_true, if_false]; exact ⟨l, ls, rfl, by simpa using h⟩

/-- **C06, block strings** — `unescape_block_string` computes the spec's BlockStringValue:
    common indentation of the lines after the first removed, blank leading and trailing lines
    removed, lines joined with LF, and only `\"""` unescaped — for every raw value. -/
theorem block_string_spec (raw : Str) : unescapeBlockString raw = specBlockStringValue raw := by
  unfold unescapeBlockString specBlockStringValue
  simp only [specCommonIndent_eq, commonIndent]
  generalize hls : splitLines raw = lines
  have hstrip : (match listMin? ((lines.drop 1).filterMap fun l => if countIndent l < l.length then some (countIndent l) else none) with
      | some c => stripIndent c lines
      | none => lines) =
      stripIndent ((listMin? ((lines.drop 1).filterMap fun l => if countIndent l < l.length then some (countIndent l) else none)).getD 0) lines := by
    cases listMin? ((lines.drop 1).filterMap fun l => if countIndent l < l.length then some (countIndent l) else none) with
    | none => simp [stripIndent_zero]
    | some c => rfl
  rw [hstrip]
  generalize stripIndent _ lines = stripped
  rcases dropWhile_head_nonblank stripped with h | ⟨f, rest, h, hf⟩
  · rw [h]; simp [formatTruncate, dropTrailingBlank, joinNl]
  · rw [h]; exact formatTruncate_eq f rest hf

end Apollo.Strs
