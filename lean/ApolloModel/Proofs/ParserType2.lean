import ApolloModel.Proofs.ParserType1
/-
C07 / C05, type entry point: what every primitive of parser/mod.rs does to the token queue
and to the error status, and how runs of the combinators (`bind`, `start_node` guard, recursion guard,
checkpoint / `wrap_node`) decompose.
-/
set_option linter.unusedSimpArgs false
namespace Apollo.Parse
open Apollo.Rowan hiding Str
open Apollo.Lex hiding Str

structure Adv (s s' : PState) : Prop where
  w : TW s'
  doom : Doomed s → Doomed s'
  recCur : s'.recCur = s.recCur
  recLimit : s'.recLimit = s.recLimit

theorem Adv.refl (s : PState) (w : TW s) : Adv s s := ⟨w, fun h => h, rfl, rfl⟩

theorem Adv.trans {a b c : PState} (h1 : Adv a b) (h2 : Adv b c) : Adv a c :=
  ⟨h2.w, fun h => h2.doom (h1.doom h), h2.recCur.trans h1.recCur, h2.recLimit.trans h1.recLimit⟩

/-- a run that consumed exactly the tokens `c` from the queue and recorded no error -/
structure Eat (s s' : PState) (c : List Tok) : Prop where
  toks : Toks s = c ++ Toks s'
  doom : Doomed s' ↔ Doomed s
  w : TW s'
  accept : s'.acceptErrors = s.acceptErrors
  recCur : s'.recCur = s.recCur
  recLimit : s'.recLimit = s.recLimit

theorem Eat.adv {s s' : PState} {c : List Tok} (h : Eat s s' c) : Adv s s' :=
  ⟨h.w, h.doom.mpr, h.recCur, h.recLimit⟩

theorem Eat.refl (s : PState) (w : TW s) : Eat s s [] := ⟨rfl, Iff.rfl, w, rfl, rfl, rfl⟩

theorem Eat.trans {a b c : PState} {x y : List Tok} (h1 : Eat a b x) (h2 : Eat b c y) : Eat a c (x ++ y) :=
  ⟨by rw [h1.toks, h2.toks, List.append_assoc], h2.doom.trans h1.doom, h2.w, h2.accept.trans h1.accept,
   h2.recCur.trans h1.recCur, h2.recLimit.trans h1.recLimit⟩

theorem Eat.ofObsEq {s s' : PState} (h : ObsEq s s') (w : TW s) : Eat s s' [] :=
  ⟨by rw [h.toks]; rfl, h.doomed, h.w w, h.accept, h.recCur, h.recLimit⟩

def Good {α : Type} (m : PI α) : Prop := ∀ s a s', TW s → m.run s = .ok a s' → Adv s s'

theorem good_pure {α : Type} (a : α) : Good (pure a : PI α) := by
  intro s a' s' w h
  rw [run_pure] at h
  injection h with _ h; subst h
  exact Adv.refl s w

theorem good_bind {α β : Type} (m : PI α) (f : α → PI β) (hm : Good m) (hf : ∀ a, Good (f a)) : Good (m >>= f) := by
  intro s b s'' w h
  obtain ⟨a, s', h1, h2⟩ := bind_dec m f s s'' b h
  have a1 := hm s a s' w h1
  exact a1.trans (hf a s' b s'' a1.w h2)

/-! ### token plumbing -/

theorem peekToken_eat (s s' : PState) (o : Option Tok) (w : TW s) (h : peekToken.run s = .ok o s') : Eat s s' [] := by
  have p := peekToken_obs s s' o w h
  exact ⟨by rw [p.toks]; rfl, p.doom, p.w, p.accept, p.recCur, p.recLimit⟩

theorem good_peekToken : Good peekToken := fun s o s' w h => (peekToken_eat s s' o w h).adv

theorem peek_obs (s s' : PState) (k : Option Kind) (w : TW s) (h : peek.run s = .ok k s') :
    ∃ o, PeekObs s s' o ∧ k = o.map (·.kind) := by
  obtain ⟨o, s1, h1, h2⟩ := bind_dec peekToken _ s s' k h
  replace h2 := pure_dec h2
  obtain ⟨h2, rfl⟩ := h2
  exact ⟨o, peekToken_obs s s1 o w h1, h2.symm⟩

theorem PeekObs.eat {s s' : PState} {o : Option Tok} (p : PeekObs s s' o) : Eat s s' [] :=
  ⟨by rw [p.toks]; rfl, p.doom, p.w, p.accept, p.recCur, p.recLimit⟩

theorem good_peek : Good peek := by
  intro s k s' w h
  obtain ⟨o, p, _⟩ := peek_obs s s' k w h
  exact p.eat.adv

theorem toks_pop (s s' : PState) (t : Tok) (hc : s.current = some t) (hc' : s'.current = none) (hl : s'.lx = s.lx) :
    Toks s = t :: Toks s' := by
  simp [Toks, hc, hc', hl]

theorem doomed_same (s s' : PState) (he : s'.errors = s.errors) (hl : s'.lx = s.lx) : Doomed s' ↔ Doomed s := by
  unfold Doomed; rw [he, hl]

theorem w_same (s s' : PState) (w : TW s) (he : s'.errors = s.errors) (hl : s'.lx = s.lx)
    (ha : s'.acceptErrors = s.acceptErrors) : TW s' :=
  ⟨by rw [hl]; exact w.limit, by rw [ha, he]; exact w.acc⟩

/-- `skip_ignored`, one iteration: an ignored current token moves to the pending list -/
theorem moveCurToPending_spec (s s' : PState) (b : Bool) (w : TW s) (h : moveCurToPending.run s = .ok b s') :
    (b = true ∧ ∃ t, s.current = some t ∧ isIgnoredKind t.kind = true ∧ Eat s s' [t] ∧ s'.current = none)
    ∨ (b = false ∧ s' = s ∧ ∀ t, s.current = some t → isIgnoredKind t.kind = false) := by
  unfold moveCurToPending at h
  simp only [] at h
  cases hc : s.current with
  | none =>
    simp only [hc] at h
    injection h with h1 h2
    exact Or.inr ⟨h1.symm, h2.symm, by intro t ht; cases ht⟩
  | some t =>
    simp only [hc] at h
    by_cases hi : isIgnoredKind t.kind = true
    · simp only [hi, if_true] at h
      injection h with h1 h2
      subst h2
      refine Or.inl ⟨h1.symm, t, rfl, hi, ⟨toks_pop _ _ t hc rfl rfl, doomed_same _ _ rfl rfl, w_same _ _ w rfl rfl rfl, rfl, rfl, rfl⟩, rfl⟩
    · simp only [hi, Bool.false_eq_true, if_false] at h
      injection h with h1 h2
      refine Or.inr ⟨h1.symm, h2.symm, ?_⟩
      intro t' ht'
      injection ht' with ht'
      subst ht'
      simpa using hi

def Settled (s : PState) : Prop :=
  s.current = (Toks s).head? ∧ ∀ t, s.current = some t → isIgnoredKind t.kind = false

theorem settled_obs {s s' : PState} (o : ObsEq s s') (h : Settled s) : Settled s' := by
  unfold Settled at *
  rw [o.current, o.toks]; exact h

theorem skipIgnoredLoop_spec : ∀ (fuel : Nat) (s s' : PState), TW s → (skipIgnoredLoop fuel).run s = .ok () s' →
    ∃ ign, Eat s s' ign ∧ (∀ t ∈ ign, isIgnoredKind t.kind = true) ∧ Settled s'
  | 0, s, s', _, h => by simp [skipIgnoredLoop, PI.outOfFuel] at h
  | fuel + 1, s, s', w, h => by
    unfold skipIgnoredLoop at h
    obtain ⟨o, s1, h1, h2⟩ := bind_dec peekToken _ s s' () h
    have p := peekToken_obs s s1 o w h1
    obtain ⟨b, s2, h3, h4⟩ := bind_dec moveCurToPending _ s1 s' () h2
    rcases moveCurToPending_spec s1 s2 b p.w h3 with ⟨rfl, t, hc, hi, e, _⟩ | ⟨rfl, rfl, hni⟩
    · simp only [if_true] at h4
      obtain ⟨ign, e2, hall, hset⟩ := skipIgnoredLoop_spec fuel s2 s' e.w h4
      refine ⟨t :: ign, ?_, ?_, hset⟩
      · have := (p.eat.trans e).trans e2
        simpa using this
      · intro x hx
        rcases List.mem_cons.mp hx with rfl | hx
        · exact hi
        · exact hall x hx
    · simp only [Bool.false_eq_true, if_false] at h4
      obtain ⟨-, rfl⟩ := pure_dec h4
      refine ⟨[], p.eat, by simp, ?_, hni⟩
      rw [p.current, p.head, p.toks]

theorem skipIgnored_spec (s s' : PState) (w : TW s) (h : skipIgnored.run s = .ok () s') :
    ∃ ign, Eat s s' ign ∧ (∀ t ∈ ign, isIgnoredKind t.kind = true) ∧ Settled s' := by
  unfold skipIgnored at h
  obtain ⟨n, s1, h1, h2⟩ := bind_dec srcLen _ s s' () h
  have : s1 = s := by
    unfold srcLen at h1
    simp only [] at h1
    injection h1 with _ h1
    exact h1.symm
  subst this
  exact skipIgnoredLoop_spec _ s1 s' w h2

theorem good_skipIgnored : Good skipIgnored := by
  intro s a s' w h
  obtain ⟨_, e, _, _⟩ := skipIgnored_spec s s' w h
  exact e.adv

theorem pushIgnored_obs (s s' : PState) (h : pushIgnored.run s = .ok () s') : ObsEq s s' := by
  unfold pushIgnored at h
  simp only [] at h
  injection h with _ h
  subst h
  exact ⟨rfl, rfl, rfl, rfl, rfl, rfl⟩

theorem moveCurToTree_spec (kind : SK) (s s' : PState) (w : TW s) (h : (moveCurToTree kind).run s = .ok () s') :
    (∃ t, s.current = some t ∧ Eat s s' [t] ∧ s'.current = none) ∨ (s.current = none ∧ s' = s) := by
  unfold moveCurToTree at h
  simp only [] at h
  cases hc : s.current with
  | none =>
    simp only [hc] at h
    injection h with _ h
    exact Or.inr ⟨rfl, h.symm⟩
  | some t =>
    simp only [hc] at h
    injection h with _ h
    subst h
    exact Or.inl ⟨t, rfl, ⟨toks_pop _ _ t hc rfl rfl, doomed_same _ _ rfl rfl, w_same _ _ w rfl rfl rfl, rfl, rfl, rfl⟩, rfl⟩

/-- `eat`: the head of the queue goes to the tree (nothing happens on an empty queue) -/
theorem eat_spec (kind : SK) (s s' : PState) (w : TW s) (h : (eat kind).run s = .ok () s') :
    (∃ t rest, Toks s = t :: rest ∧ Eat s s' [t] ∧ s'.current = none) ∨ (Toks s = [] ∧ Eat s s' []) := by
  unfold eat at h
  obtain ⟨_, s1, h1, h2⟩ := bind_dec pushIgnored _ s s' () h
  have o1 := pushIgnored_obs s s1 h1
  obtain ⟨o, s2, h3, h4⟩ := bind_dec peekToken _ s1 s' () h2
  have p := peekToken_obs s1 s2 o (o1.w w) h3
  have e12 : Eat s s2 [] := by simpa using (Eat.ofObsEq o1 w).trans p.eat
  rcases moveCurToTree_spec kind s2 s' p.w h4 with ⟨t, hc, e, hn⟩ | ⟨hc, rfl⟩
  · refine Or.inl ⟨t, Toks s', ?_, by simpa using e12.trans e, hn⟩
    have := (e12.trans e).toks
    simpa using this
  · rw [p.current] at hc
    subst hc
    exact Or.inr ⟨by rw [← o1.toks]; exact p.nil, e12⟩

theorem eat_head (kind : SK) (s s' : PState) (t : Tok) (rest : List Tok) (w : TW s) (ht : Toks s = t :: rest)
    (h : (eat kind).run s = .ok () s') : Eat s s' [t] ∧ Toks s' = rest := by
  rcases eat_spec kind s s' w h with ⟨t', rest', hq, e, _⟩ | ⟨hq, _⟩
  · rw [ht] at hq
    injection hq with h1 _
    subst h1
    refine ⟨e, ?_⟩
    have := e.toks
    rw [ht] at this
    simpa using this.symm
  · rw [ht] at hq; cases hq

theorem good_eat (kind : SK) : Good (eat kind) := by
  intro s a s' w h
  rcases eat_spec kind s s' w h with ⟨_, _, _, e, _⟩ | ⟨_, e⟩ <;> exact e.adv

theorem good_bump (kind : SK) : Good (bump kind) :=
  good_bind _ _ (good_eat kind) (fun _ => good_skipIgnored)

/-! ### errors -/

theorem pushErr_spec (e : PErr) (s s' : PState) (w : TW s) (h : (pushErr e).run s = .ok () s') :
    s'.errors ≠ [] ∧ ObsEq { s with errors := s'.errors } s' ∧ TW s' := by
  unfold pushErr errUpdate at h
  simp only [] at h
  injection h with _ h
  subst h
  simp only []
  have hne : (if s.acceptErrors = true then s.errors ++ [e] else s.errors) ≠ [] := by
    by_cases ha : s.acceptErrors = true
    · simp [ha]
    · have ha' : s.acceptErrors = false := by simpa using ha
      simp only [ha', Bool.false_eq_true, if_false]; exact w.acc ha'
  exact ⟨hne, ⟨rfl, rfl, rfl, rfl, rfl, rfl⟩, ⟨w.limit, fun _ => hne⟩⟩

theorem pushErr_adv (e : PErr) (s s' : PState) (w : TW s) (h : (pushErr e).run s = .ok () s') :
    Adv s s' ∧ Doomed s' := by
  obtain ⟨hne, o, w'⟩ := pushErr_spec e s s' w h
  exact ⟨⟨w', fun _ => Or.inl hne, o.recCur, o.recLimit⟩, Or.inl hne⟩

theorem good_pushErr (e : PErr) : Good (pushErr e) := fun s _ s' w h => (pushErr_adv e s s' w h).1

theorem errAtToken_adv (t : Tok) (s s' : PState) (w : TW s) (h : (errAtToken t).run s = .ok () s') :
    Adv s s' ∧ Doomed s' := pushErr_adv _ s s' w h

theorem err_adv (s s' : PState) (w : TW s) (h : err.run s = .ok () s') :
    Adv s s' ∧ (Toks s ≠ [] → Doomed s') := by
  unfold err at h
  obtain ⟨o, s1, h1, h2⟩ := bind_dec peekToken _ s s' () h
  have p := peekToken_obs s s1 o w h1
  cases o with
  | none =>
    obtain ⟨-, rfl⟩ := pure_dec h2
    exact ⟨p.eat.adv, fun hne => absurd p.nil hne⟩
  | some t =>
    simp only [] at h2
    obtain ⟨a, d⟩ := pushErr_adv _ s1 s' p.w h2
    exact ⟨p.eat.adv.trans a, fun _ => d⟩

theorem good_err : Good err := fun s _ s' w h => (err_adv s s' w h).1

/-- `limit_err` on a non-empty queue records an error (or errors were already frozen non-empty) -/
theorem limitErr_adv (s s' : PState) (w : TW s) (h : limitErr.run s = .ok () s') :
    Adv s s' ∧ (Toks s ≠ [] → Doomed s') := by
  unfold limitErr at h
  obtain ⟨o, s1, h1, h2⟩ := bind_dec peekToken _ s s' () h
  have p := peekToken_obs s s1 o w h1
  cases o with
  | none =>
    obtain ⟨-, rfl⟩ := pure_dec h2
    exact ⟨p.eat.adv, fun hne => absurd p.nil hne⟩
  | some t =>
    simp only [] at h2
    unfold errUpdate at h2
    simp only [] at h2
    injection h2 with _ h2
    subst h2
    have hne : (if s1.acceptErrors = true then s1.errors ++ [⟨t.index, 0, .limit⟩] else s1.errors) ≠ [] := by
      by_cases ha : s1.acceptErrors = true
      · simp [ha]
      · have ha' : s1.acceptErrors = false := by simpa using ha
        simp only [ha', Bool.false_eq_true, if_false]; exact p.w.acc ha'
    have a2 : Adv s1 { s1 with errors := if s1.acceptErrors = true then s1.errors ++ [⟨t.index, 0, .limit⟩] else s1.errors, acceptErrors := false } :=
      ⟨⟨p.w.limit, fun _ => hne⟩, fun _ => Or.inl hne, rfl, rfl⟩
    exact ⟨p.eat.adv.trans a2, fun _ => Or.inl hne⟩

theorem good_limitErr : Good limitErr := fun s _ s' w h => (limitErr_adv s s' w h).1

/-- `expect`: either the head of the queue has the expected kind and is bumped, or an error is recorded
    (or the queue is empty and nothing happens) -/
theorem expect_spec (token : Kind) (kind : SK) (s s' : PState) (w : TW s) (h : (expect token kind).run s = .ok () s') :
    Adv s s' ∧
    ((Toks s = [] ∧ Eat s s' []) ∨ Doomed s'
      ∨ (∃ t rest ign, Toks s = t :: rest ∧ t.kind = token ∧ Eat s s' (t :: ign)
          ∧ (∀ x ∈ ign, isIgnoredKind x.kind = true) ∧ Settled s')) := by
  unfold expect at h
  obtain ⟨o, s1, h1, h2⟩ := bind_dec peekToken _ s s' () h
  have p := peekToken_obs s s1 o w h1
  cases o with
  | none =>
    obtain ⟨-, rfl⟩ := pure_dec h2
    exact ⟨p.eat.adv, Or.inl ⟨p.nil, p.eat⟩⟩
  | some t =>
    simp only [] at h2
    by_cases hk : (t.kind == token) = true
    · simp only [hk, if_true] at h2
      have hkk : t.kind = token := by simpa using hk
      unfold bump at h2
      obtain ⟨_, s2, h3, h4⟩ := bind_dec (eat kind) _ s1 s' () h2
      have e := (eat_head kind s1 s2 t _ p.w (by rw [p.toks]; exact p.cons) h3).1
      obtain ⟨ign, e2, hall, hset⟩ := skipIgnored_spec s2 s' e.w h4
      have etot : Eat s s' (t :: ign) := by simpa using (p.eat.trans e).trans e2
      exact ⟨etot.adv, Or.inr (Or.inr ⟨t, (Toks s).tail, ign, p.cons, hkk, etot, hall, hset⟩)⟩
    · simp only [hk, Bool.false_eq_true, if_false] at h2
      obtain ⟨a, d⟩ := pushErr_adv _ s1 s' p.w h2
      exact ⟨p.eat.adv.trans a, Or.inr (Or.inl d)⟩

theorem good_expect (token : Kind) (kind : SK) : Good (expect token kind) :=
  fun s _ s' w h => (expect_spec token kind s s' w h).1

/-- ty.rs `Err(Some(p.pop()))` -/
theorem popDrop_spec (s s' : PState) (o : Option Tok) (w : TW s) (h : popDrop.run s = .ok o s') :
    Adv s s' ∧ o = s.current := by
  unfold popDrop at h
  simp only [] at h
  cases hc : s.current with
  | none =>
    simp only [hc] at h
    injection h with h1 h2
    subst h2
    exact ⟨⟨w_same _ _ w rfl rfl rfl, (doomed_same _ _ rfl rfl).mpr, rfl, rfl⟩, h1.symm⟩
  | some t =>
    simp only [hc] at h
    injection h with h1 h2
    subst h2
    refine ⟨⟨w_same _ _ w rfl rfl rfl, ?_, rfl, rfl⟩, h1.symm⟩
    intro hd
    exact (doomed_same _ _ rfl rfl).mpr hd

theorem good_popDrop : Good popDrop := fun s o s' w h => (popDrop_spec s s' o w h).1

/-! ### combinators -/

/-- the `start_node` guard: the body runs (after `skip_ignored`) from a state with the same token-level
    fields, and the guard's `finish_node` changes only the tree -/
theorem withNode_dec {α : Type} (kind : SK) (body : PI α) (s s' : PState) (a : α)
    (h : (withNode kind body).run s = .ok a s') :
    ∃ s1 s2, ObsEq s s1 ∧ (skipIgnored >>= fun _ => body).run s1 = .ok a s2 ∧ ObsEq s2 s' := by
  unfold withNode at h
  simp only [] at h
  have e1 : pushIgnored.run s = .ok () { s with builder := { s.builder with children := s.builder.children ++ s.pending.map pendingElem }, pending := [] } := rfl
  rw [e1] at h
  simp only [] at h
  cases hr : (skipIgnored >>= fun _ => body).run (rawStartNode kind { s with builder := { s.builder with children := s.builder.children ++ s.pending.map pendingElem }, pending := [] }) with
  | abort w => rw [hr] at h; cases h
  | panic m => rw [hr] at h; cases h
  | ok a2 s2 =>
    rw [hr] at h
    simp only [] at h
    cases hb : s2.builder.finishNode with
    | none => rw [hb] at h; cases h
    | some b =>
      rw [hb] at h
      injection h with h1 h2
      subst h1 h2
      exact ⟨rawStartNode kind { s with builder := { s.builder with children := s.builder.children ++ s.pending.map pendingElem }, pending := [] }, s2, ⟨rfl, rfl, rfl, rfl, rfl, rfl⟩, hr, ⟨rfl, rfl, rfl, rfl, rfl, rfl⟩⟩

theorem good_withNode {α : Type} (kind : SK) (body : PI α) (hb : Good body) : Good (withNode kind body) := by
  intro s a s' w h
  obtain ⟨s1, s2, o1, hr, o2⟩ := withNode_dec kind body s s' a h
  have a1 := (Eat.ofObsEq o1 w).adv
  have a2 := good_bind _ _ good_skipIgnored (fun _ => hb) s1 a s2 a1.w hr
  exact (a1.trans a2).trans (Eat.ofObsEq o2 a2.w).adv

/-- the recursion guard -/
theorem withRec_dec {α : Type} (onLimit body : PI α) (s s' : PState) (a : α)
    (h : (withRec onLimit body).run s = .ok a s') :
    (s.recCur + 1 > s.recLimit ∧ ∃ s1, ObsEq s s1 ∧ onLimit.run s1 = .ok a s')
    ∨ (s.recCur + 1 ≤ s.recLimit ∧ ∃ s1 s2, s1.current = s.current ∧ s1.lx = s.lx ∧ s1.errors = s.errors
        ∧ s1.acceptErrors = s.acceptErrors ∧ s1.recCur = s.recCur + 1 ∧ s1.recLimit = s.recLimit
        ∧ body.run s1 = .ok a s2
        ∧ s'.current = s2.current ∧ s'.lx = s2.lx ∧ s'.errors = s2.errors ∧ s'.acceptErrors = s2.acceptErrors
        ∧ s'.recCur = s2.recCur - 1 ∧ s'.recLimit = s2.recLimit) := by
  unfold withRec at h
  simp only [] at h
  by_cases hc : s.recCur + 1 > s.recLimit
  · simp only [hc, if_true] at h
    exact Or.inl ⟨hc, { s with recHigh := if s.recCur + 1 > s.recHigh then s.recCur + 1 else s.recHigh }, ⟨rfl, rfl, rfl, rfl, rfl, rfl⟩, h⟩
  · simp only [hc, if_false] at h
    refine Or.inr ⟨by omega, ?_⟩
    cases hr : body.run { s with recCur := s.recCur + 1, recHigh := if s.recCur + 1 > s.recHigh then s.recCur + 1 else s.recHigh } with
    | abort w => rw [hr] at h; cases h
    | panic m => rw [hr] at h; cases h
    | ok a2 s2 =>
      rw [hr] at h
      simp only [] at h
      by_cases hz : s2.recCur = 0
      · simp only [hz, if_true] at h; cases h
      · simp only [hz, if_false] at h
        injection h with h1 h2
        subst h1 h2
        exact ⟨{ s with recCur := s.recCur + 1, recHigh := if s.recCur + 1 > s.recHigh then s.recCur + 1 else s.recHigh }, s2, rfl, rfl, rfl, rfl, rfl, rfl, hr, rfl, rfl, rfl, rfl, rfl, rfl⟩

theorem good_withRec {α : Type} (onLimit body : PI α) (h1 : Good onLimit) (h2 : Good body) :
    Good (withRec onLimit body) := by
  intro s a s' w h
  rcases withRec_dec onLimit body s s' a h with ⟨_, s1, o, hr⟩ | ⟨_, s1, s2, c1, l1, e1, a1, r1, rl1, hr, c2, l2, e2, a2, r2, rl2⟩
  · have ad := (Eat.ofObsEq o w).adv
    exact ad.trans (h1 s1 a s' ad.w hr)
  · have w1 : TW s1 := w_same _ _ w e1 l1 a1
    have ad := h2 s1 a s2 w1 hr
    refine ⟨w_same _ _ ad.w e2 l2 a2, ?_, ?_, ?_⟩
    · intro hd
      exact (doomed_same _ _ e2 l2).mpr (ad.doom ((doomed_same _ _ e1 l1).mpr hd))
    · rw [r2, ad.recCur, r1]; omega
    · rw [rl2, ad.recLimit, rl1]

/-- checkpoint … `wrap_node` -/
theorem wrapIf_dec {α : Type} (kind : SK) (body : PI α) (cond : α → PI Bool) (inner : PI Unit)
    (s s' : PState) (a : α) (h : (wrapIf kind body cond inner).run s = .ok a s') :
    ∃ s1 s2 s3 c, ObsEq s s1 ∧ body.run s1 = .ok a s2 ∧ (cond a).run s2 = .ok c s3
      ∧ ((c = false ∧ s' = s3) ∨ (c = true ∧ ∃ s4 s5, ObsEq s3 s4 ∧ inner.run s4 = .ok () s5 ∧ ObsEq s5 s')) := by
  unfold wrapIf at h
  simp only [] at h
  have e1 : pushIgnored.run s = .ok () { s with builder := { s.builder with children := s.builder.children ++ s.pending.map pendingElem }, pending := [] } := rfl
  rw [e1] at h
  simp only [] at h
  generalize hs1 : ({ s with builder := { s.builder with children := s.builder.children ++ s.pending.map pendingElem }, pending := [] } : PState) = s1 at h
  have o1 : ObsEq s s1 := by subst hs1; exact ⟨rfl, rfl, rfl, rfl, rfl, rfl⟩
  cases hr : (body >>= fun a => cond a >>= fun c => pure (a, c)).run s1 with
  | abort w => rw [hr] at h; cases h
  | panic m => rw [hr] at h; cases h
  | ok ac s3 =>
    rw [hr] at h
    obtain ⟨a0, c⟩ := ac
    simp only [] at h
    obtain ⟨a1, s2, hb, h2⟩ := bind_dec body _ s1 s3 (a0, c) hr
    obtain ⟨c1, s3', hc, h3⟩ := bind_dec (cond a1) _ s2 s3 (a0, c) h2
    rw [run_pure] at h3
    injection h3 with h3 h4
    injection h3 with h5 h6
    subst h4 h5 h6
    cases c1 with
    | false =>
      simp only [Bool.false_eq_true, if_false] at h
      injection h with h7 h8
      subst h7 h8
      exact ⟨s1, s2, s3', false, o1, hb, hc, Or.inl ⟨rfl, rfl⟩⟩
    | true =>
      simp only [if_true] at h
      split at h
      · cases h
      · rename_i b hsn
        split at h
        · rename_i u s5 hi
          split at h
          · rename_i b' hf
            injection h with h7 h8
            subst h7 h8
            exact ⟨s1, s2, s3', true, o1, hb, hc, Or.inr ⟨rfl, { s3' with builder := b }, s5, ⟨rfl, rfl, rfl, rfl, rfl, rfl⟩, hi, ⟨rfl, rfl, rfl, rfl, rfl, rfl⟩⟩⟩
          · cases h
        · cases h
        · cases h

theorem good_wrapIf {α : Type} (kind : SK) (body : PI α) (cond : α → PI Bool) (inner : PI Unit)
    (h1 : Good body) (h2 : ∀ a, Good (cond a)) (h3 : Good inner) : Good (wrapIf kind body cond inner) := by
  intro s a s' w h
  obtain ⟨s1, s2, s3, c, o1, hb, hc, hrest⟩ := wrapIf_dec kind body cond inner s s' a h
  have a1 := (Eat.ofObsEq o1 w).adv
  have a2 := h1 s1 a s2 a1.w hb
  have a3 := h2 a s2 c s3 a2.w hc
  rcases hrest with ⟨_, rfl⟩ | ⟨_, s4, s5, o4, hi, o5⟩
  · exact (a1.trans a2).trans a3
  · have a4 := (Eat.ofObsEq o4 a3.w).adv
    have a5 := h3 s4 () s5 a4.w hi
    exact ((((a1.trans a2).trans a3).trans a4).trans a5).trans (Eat.ofObsEq o5 a5.w).adv

end Apollo.Parse
