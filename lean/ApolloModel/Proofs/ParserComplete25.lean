import ApolloModel.Proofs.ParserComplete22
/-
C05 (completeness of the whole Document grammar): the depth-free parts of the type-system extensions
(`extend schema|scalar|type|interface|union|enum|input`, each needing at least one component, `meets`);
`select_definition` and `extensions` on the keywords of the type system; the guards of the type-system definitions
(`looseFit` under the over-charging depth, `looseFollow`) over `LooseDef`.
-/
set_option linter.unusedSimpArgs false
namespace Apollo.Parse
open Apollo.Rowan hiding Str
open Apollo.Lex hiding Str

theorem cmp_optKind2 {α : Type} {Hk : Kind → Prop} (k0 : Kind) (m : PI Unit) (restT restF : PI α)
    {Lm LT LF : Nat → List Ast.Tok → Prop} {Fm F : Kind → Prop} {Q : α → Prop}
    (hm : Cmp (fun _ => True) m Lm Fm (fun _ => True)) (hT : Cmp (fun _ => True) restT LT F Q)
    (hF : Cmp (fun _ => True) restF LF F Q)
    (hmhead : ∀ b x, Lm b x → ∃ a x', x = a :: x' ∧ kindOfA a = k0)
    (hThead : ∀ b a x, LT b (a :: x) → Fm (kindOfA a)) (hFm : ∀ k, F k → Fm k)
    (hFhead : ∀ b a x, LF b (a :: x) → kindOfA a ≠ k0) (hF0 : ∀ k, F k → k ≠ k0) :
    Cmp Hk (optKind2 k0 m restT restF)
      (fun b x => (∃ x1 x2, x = x1 ++ x2 ∧ Lm b x1 ∧ LT b x2) ∨ LF b x) F Q :=
  cmp_ifKindThen k0 m restT restF hm hT hF hmhead hThead (fun _ k _ => hFm k) hFhead (fun _ k _ => hF0 k)

theorem cmp_extEnd {Hk F : Kind → Prop} (meets : Bool) :
    Cmp Hk (extEnd meets) (fun _ x => x = [] ∧ meets = true) F (fun _ => True) := by
  intro s s' a c x q0 rst w hrun hl hs ht hq hf hk
  obtain ⟨rfl, rfl⟩ := hl
  unfold extEnd at hrun
  simp only [Bool.not_true, Bool.false_eq_true, if_false] at hrun
  obtain ⟨e, t, _⟩ := (cmp_pure Hk F ()) s s' a c [] q0 rst w hrun rfl hs ht hq hf hk
  exact ⟨e, t, trivial⟩

theorem cmp_extBodyK {Hk : Kind → Prop} (k0 : Kind) (body : PI Unit) (meets : Bool) {Lb : Nat → List Ast.Tok → Prop} {Fb : Kind → Prop}
    (hb : Cmp (fun _ => True) body Lb Fb (fun _ => True)) (hbhead : ∀ b x, Lb b x → ∃ a x', x = a :: x' ∧ kindOfA a = k0) :
    Cmp Hk (extBodyK k0 body meets) (fun b x => Lb b x ∨ (x = [] ∧ meets = true)) (fun k => k ≠ k0 ∧ Fb k) (fun _ => True) := by
  unfold extBodyK
  have := cmp_optKind2 (Hk := Hk) (F := fun k => k ≠ k0 ∧ Fb k) k0 body (extEnd true) (extEnd meets) hb
    (cmp_extEnd (Hk := fun _ => True) true) (cmp_extEnd (Hk := fun _ => True) meets) hbhead
    (by rintro b a x ⟨h, _⟩; cases h) (fun k h => h.2) (by rintro b a x ⟨h, _⟩; cases h) (fun k h => h.1)
  refine this.mono (fun _ h => h) ?_ (fun _ h => h) (fun _ h => h)
  rintro b x (h | h)
  · exact Or.inl ⟨x, [], by simp, h, rfl, rfl⟩
  · exact Or.inr h

/-- `extend keyword tail` -/
theorem cmpT_ext {Hk : Kind → Prop} (w : String) (sk1 sk2 : SK) (tail : PI Unit) {Lt : Nat → List Ast.Tok → Prop} {F : Tok → Prop}
    (ht : CmpT (fun _ => True) tail Lt F (fun _ => True)) :
    CmpT Hk (bump sk1 >>= fun _ => bump sk2 >>= fun _ => tail) (fun b x => ∃ x2, x = kwE w ++ x2 ∧ Lt b x2) F (fun _ => True) := by
  have h2 := cmpT_bindK (Hk := fun _ => True) (F := F) (cmp_bump sk2) (fun _ _ => ht)
  have h1 := cmpT_bindK (Hk := Hk) (F := F)
    ((cmp_bump sk1).mono (fun _ _ => trivial) (fun _ _ h => h) (fun _ h => h) (fun _ h => h)) (fun _ _ => h2)
  refine h1.mono (fun _ h => h) ?_ (fun _ h => h) (fun _ h => h)
  rintro b x ⟨x2, rfl, h⟩
  exact ⟨[.name "extend".toList], .name w.toList :: x2, by simp [kwE], ⟨_, rfl⟩, [.name w.toList], x2, rfl, ⟨_, rfl⟩, h⟩

/-! ### object, interface: the `implements` look-ahead in an extension -/

/-- `implements` recognised by the token text, with different continuations -/
theorem cmpT_optDataImpl2 {Hk : Kind → Prop} (restT restF : PI Unit) {LT LF : Nat → List Ast.Tok → Prop} {Fr : Kind → Prop}
    (hT : Cmp (fun _ => True) restT LT Fr (fun _ => True)) (hF : Cmp (fun _ => True) restF LF Fr (fun _ => True))
    (hThead : ∀ b a x, LT b (a :: x) → kindOfA a ≠ .amp) (hFhead : ∀ b a x, LF b (a :: x) → kindOfA a ≠ .name) :
    CmpT Hk (optData2 "implements" implementsInterfaces restT restF)
      (fun b x => (∃ x1 x2, x = x1 ++ x2 ∧ LImpl b x1 ∧ LT b x2) ∨ LF b x)
      (fun t => Fr t.kind ∧ t.kind ≠ .amp ∧ NotImplTok t) (fun _ => True) := by
  intro s s' a c x q0 rst w lq hrun hl hs ht hq hf _
  unfold optData2 at hrun
  obtain ⟨od, sP, hp, h2⟩ := bind_dec peekData _ s s' a hrun
  obtain ⟨t, tl, htt, hkt⟩ := headK_toks c q0 rst
  obtain ⟨rfl, eP, htP⟩ := peekData_head s sP od t tl w (by rw [ht]; exact htt) hp
  have hb : sP.recLimit - sP.recCur = s.recLimit - s.recCur := by rw [eP.recLimit, eP.recCur]
  have hTP : Toks sP = c ++ q0 :: rst := by rw [htP, ← htt]
  rcases hl with ⟨x1, x2, rfl, ⟨lead, first, rest', rfl⟩, hl2⟩ | hl
  · obtain ⟨t1, tl1, hc, hta⟩ := spells_head (a := .name Ast.sImplements) (x := tSepLead .amp lead first rest' ++ x2) (by simpa using hs)
    have ht1 : t = t1 := by rw [hc] at htt; simp at htt; exact htt.1.symm
    subst ht1
    have hcond : kwOpt "implements" (some t.data) = true := by
      have hd : t.data = "implements".toList := data_of_astOfV_name hta
      exact kwOpt_some_eq.mpr hd
    simp only [hcond, if_true] at h2
    have hcomb := cmp_bind (Hk := fun _ => True) (F := fun k => Fr k ∧ k ≠ Kind.amp) cmp_implementsInterfaces (fun _ _ => hT)
      hThead (fun _ h => h.2) (fun _ h => h.1)
    obtain ⟨e, t2, _⟩ := hcomb sP s' a c _ q0 rst eP.w h2
      ⟨_, x2, rfl, ⟨lead, first, rest', rfl⟩, by rw [hb]; exact hl2⟩ hs hTP hq ⟨hf.1, hf.2.1⟩ trivial
    exact ⟨by simpa using eP.trans e, t2, trivial⟩
  · have hcond : kwOpt "implements" (some t.data) = false := by
      have hne : t.data ≠ "implements".toList := by
        intro hd
        have hkn : t.kind = .name := lq t (by rw [ht, htt]; simp) 'i' "mplements".toList (by rw [hd]; rfl) (by decide)
        cases x with
        | nil =>
          have := spells_nil_inv hs
          subst this
          simp only [List.nil_append, List.cons.injEq] at htt
          rw [← htt.1] at hkn hd
          exact hf.2.2 ⟨hkn, hd⟩
        | cons a2 x2' =>
          obtain ⟨t1, tl1, hc, hta⟩ := spells_head hs
          have : t.kind ≠ .name := by
            rw [hkt, hc]; simp only [headK]; rw [kind_of_astOfV hta]; exact hFhead _ _ _ hl
          exact this hkn
      cases hc : kwOpt "implements" (some t.data) with
      | false => rfl
      | true => exact absurd (kwOpt_some_eq.mp hc) hne
    simp only [hcond, Bool.false_eq_true, if_false] at h2
    obtain ⟨e, t2, _⟩ := hF sP s' a c x q0 rst eP.w h2 (by rw [hb]; exact hl) hs hTP hq hf.1 trivial
    exact ⟨by simpa using eP.trans e, t2, trivial⟩

/-! ### schema -/

/-- the closing `}` of the braces of a schema extension, which count as a component -/
theorem cmp_closeExt {F : Kind → Prop} :
    Cmp (fun _ => True) (expect .rCurly "R_CURLY" >>= fun _ => extEnd true) (fun _ x => x = [.p .rCurly]) F (fun _ => True) := by
  refine (cmp_bind (Hk := fun _ => True) (F := F) (F1 := fun _ => True) (cmp_expect .rCurly "R_CURLY")
    (fun _ _ => cmp_extEnd (Hk := fun _ => True) (F := F) true) (fun _ _ _ _ => trivial) (fun _ _ => trivial) (fun _ h => h)).mono
    (fun _ h => h) ?_ (fun _ h => h) (fun _ h => h)
  rintro b x rfl
  exact ⟨[.p .rCurly], [], rfl, ⟨_, rfl, rfl⟩, rfl, rfl⟩

theorem cmp_schemaExtBraces (meets : Bool) :
    Cmp (fun _ => True) (schemaExtBraces meets) (fun b x => LSBraces b x ∨ (x = [] ∧ meets = true)) (fun k => k ≠ .lCurly) (fun _ => True) := by
  unfold schemaExtBraces
  refine cmp_peekIf (· == some .lCurly) ((cmp_rootsBlock _ cmp_closeExt (by rintro b x rfl; exact ⟨[], rfl⟩)).mono (fun _ h => h) ?_ (fun _ h => h) (fun _ h => h))
    (cmp_extEnd meets) ?_ ?_ ?_
  · rintro b x ⟨roots, hne, rfl⟩
    exact ⟨roots, [.p .rCurly], hne, by simp, rfl⟩
  · rintro b x ⟨roots, _, rfl⟩
    exact ⟨_, _, rfl, rfl⟩
  · rintro b a x ⟨h, _⟩; cases h
  · intro b k _ hf
    simpa using hf

theorem selectDefinition_directive (n : Nat) : selectDefinition n "directive".toList = directiveDefinition n := by
  select_kw

theorem selectDefinition_enum (n : Nat) : selectDefinition n "enum".toList = enumTypeDefinition n := by
  select_kw

theorem selectDefinition_extend (n : Nat) : selectDefinition n "extend".toList = extensions n := by
  select_kw

theorem selectDefinition_input (n : Nat) : selectDefinition n "input".toList = inputObjectTypeDefinition n := by
  select_kw

theorem selectDefinition_interface (n : Nat) : selectDefinition n "interface".toList = interfaceTypeDefinition n := by
  select_kw

theorem selectDefinition_type (n : Nat) : selectDefinition n "type".toList = objectTypeDefinition n := by
  select_kw

theorem selectDefinition_scalar (n : Nat) : selectDefinition n "scalar".toList = scalarTypeDefinition n := by
  select_kw

theorem selectDefinition_schema (n : Nat) : selectDefinition n "schema".toList = schemaDefinition n := by
  select_kw

theorem selectDefinition_union (n : Nat) : selectDefinition n "union".toList = unionTypeDefinition n := by
  select_kw

theorem extSel_schema (n : Nat) : extSel n (some "schema".toList) = schemaExtension n := by
  select_kw

theorem extSel_scalar (n : Nat) : extSel n (some "scalar".toList) = scalarTypeExtension n := by
  select_kw

theorem extSel_type (n : Nat) : extSel n (some "type".toList) = objectTypeExtension n := by
  select_kw

theorem extSel_interface (n : Nat) : extSel n (some "interface".toList) = interfaceTypeExtension n := by
  select_kw

theorem extSel_union (n : Nat) : extSel n (some "union".toList) = unionTypeExtension n := by
  select_kw

theorem extSel_enum (n : Nat) : extSel n (some "enum".toList) = enumTypeExtension n := by
  select_kw

theorem extSel_input (n : Nat) : extSel n (some "input".toList) = inputObjectTypeExtension n := by
  select_kw

/-! ### the guards of a type-system definition or extension (over-charging depth) -/

/-- **within the recursion budget and well formed**: directives and default values are `Const` and within the budget,
    type references within the budget, enum values are not `true` / `false` / `null`, directive locations are among
    the nineteen names, a schema has at least one root operation type (all with their named type), an extension has
    at least one component -/
def looseFit (b : Nat) : LooseDef → Prop
  | .scalar _ _ ds => dirsFit true b ds
  | .object _ _ _ ds fs => objFit b ds fs
  | .interface _ _ _ ds fs => objFit b ds fs
  | .union _ _ ds _ => dirsFit true b ds
  | .enum _ _ ds vs => dirsFit true b ds ∧ ∀ v ∈ vs, enumValFit b v
  | .input _ _ ds fs => dirsFit true b ds ∧ ∀ v ∈ fs, ivdFit b v
  | .directive _ _ args _ _ first rest => (∀ a ∈ args, ivdFit b a) ∧ IsDirLoc first ∧ ∀ r ∈ rest, IsDirLoc r
  | .schema _ ds roots => dirsFit true b ds ∧ roots ≠ [] ∧ ∀ r ∈ roots, r.2 ≠ none
  | .scalarExt _ ds => ds ≠ [] ∧ dirsFit true b ds
  | .objectExt _ impl ds fs => (impl ≠ none ∨ ds ≠ [] ∨ fs ≠ []) ∧ objFit b ds fs
  | .interfaceExt _ impl ds fs => (impl ≠ none ∨ ds ≠ [] ∨ fs ≠ []) ∧ objFit b ds fs
  | .unionExt _ ds ms => (ds ≠ [] ∨ ms ≠ none) ∧ dirsFit true b ds
  | .enumExt _ ds vs => (ds ≠ [] ∨ vs ≠ []) ∧ dirsFit true b ds ∧ ∀ v ∈ vs, enumValFit b v
  | .inputExt _ ds fs => (ds ≠ [] ∨ fs ≠ []) ∧ dirsFit true b ds ∧ ∀ v ∈ fs, ivdFit b v
  | .schemaExt ds roots => (ds ≠ [] ∨ roots ≠ []) ∧ dirsFit true b ds ∧ ∀ r ∈ roots, r.2 ≠ none

/-- **what may follow**: the token after the definition must not continue it -/
def looseFollow : LooseDef → Tok → Prop
  | .scalar .., t => t.kind ≠ .at ∧ t.kind ≠ .lParen
  | .scalarExt .., t => t.kind ≠ .at ∧ t.kind ≠ .lParen
  | .object .., t => FObj t
  | .interface .., t => FObj t
  | .objectExt .., t => FObj t
  | .interfaceExt .., t => FObj t
  | .union .., t => t.kind ≠ .at ∧ t.kind ≠ .lParen ∧ t.kind ≠ .eq ∧ t.kind ≠ .pipe
  | .unionExt .., t => t.kind ≠ .at ∧ t.kind ≠ .lParen ∧ t.kind ≠ .eq ∧ t.kind ≠ .pipe
  | .enum .., t => Fbody t.kind
  | .input .., t => Fbody t.kind
  | .enumExt .., t => Fbody t.kind
  | .inputExt .., t => Fbody t.kind
  | .schemaExt .., t => Fbody t.kind
  | .directive .., t => t.kind ≠ .pipe
  | .schema .., _ => True

theorem strict_roots : ∀ roots : List (Ast.OpType × Option Ast.Str), (∀ r ∈ roots, r.2 ≠ none) →
    ∃ roots' : List (Ast.OpType × Ast.Str), roots = roots'.map fun r => (r.1, some r.2)
  | [], _ => ⟨[], rfl⟩
  | (op, none) :: _, h => absurd rfl (h (op, none) (by simp))
  | (op, some nm) :: r, h => by
    obtain ⟨r', hr'⟩ := strict_roots r (fun x hx => h x (by simp [hx]))
    exact ⟨(op, nm) :: r', by simp [hr']⟩

/-! ### the dispatch reaches `select_definition` with the keyword -/

theorem dispatch_kw (n : Nat) (sP s2 : PState) (t : Tok) (tl1 : List Tok) (desc : Option Ast.Str) (word : Ast.Str) (x' : List Ast.Tok)
    (q1 : Tok) (r1 : List Tok) (w : TW sP) (hcur : sP.current = some t)
    (hs : Spells (t :: tl1) (Ast.tDescription desc ++ .name word :: x')) (ht : Toks sP = (t :: tl1) ++ q1 :: r1) (hq : Sigf q1)
    (h : (documentDispatch n t.kind).run sP = .ok () s2) : (selectDefinition n word).run sP = .ok () s2 := by
  unfold documentDispatch at h
  cases desc with
  | none =>
    simp only [Ast.tDescription, List.nil_append] at hs
    obtain ⟨t', tl', e', hta⟩ := spells_head hs
    injection e' with e1 _
    subst e1
    have hk : t.kind = .name := kind_of_astOfV hta
    have hd : t.data = word := data_of_astOfV_name hta
    simp only [hk, show (Kind.name == Kind.stringValue) = false from rfl, show (Kind.name == Kind.name || Kind.name == Kind.lCurly) = true from rfl,
      Bool.false_eq_true, if_false, if_true] at h
    obtain ⟨d, sQ, hq2, h3⟩ := bind_dec peekData _ sP s2 () h
    obtain ⟨hsQ, hdd⟩ := peekData_cur sP sQ d t hcur hq2
    subst hsQ hdd
    simp only [] at h3
    rw [hd] at h3
    exact h3
  | some dstr =>
    simp only [Ast.tDescription, List.cons_append, List.nil_append] at hs
    obtain ⟨t', i, c', e', hta, hi, hs'⟩ := spells_cons hs
    injection e' with e1 e2
    subst e1
    have hk : t.kind = .stringValue := kind_of_astOfV hta
    simp only [hk, beq_self_eq_true, if_true] at h
    obtain ⟨d, sQ, hq2, h3⟩ := bind_dec (peekDataN 2) _ sP s2 () h
    obtain ⟨hsQ, hdd⟩ := peekDataN2_spec sP sQ d t (tl1 ++ q1 :: r1) w hcur (by simpa using ht) (sigf_of_astOfV hta) hq2
    subst hsQ
    obtain ⟨t2, hh, hor⟩ := sig_head_after i c' q1 r1 _ hi hs' hq
    rcases hor with ⟨h0, _⟩ | ⟨a2, x2, e, hta2⟩
    · cases h0
    · injection e with e _
      subst e
      have hd2 : t2.data = word := data_of_astOfV_name hta2
      have : d = some word := by
        rw [hdd, e2]
        have : sig (i.append c' ++ q1 :: r1) = sig (i ++ (c' ++ q1 :: r1)) := by
          show sig ((i ++ c') ++ q1 :: r1) = _
          rw [List.append_assoc]
        rw [this, hh]; simp [hd2]
      subst this
      simp only [] at h3
      exact h3

theorem dispatch_ext (n : Nat) (sP s2 : PState) (t : Tok) (tl1 : List Tok) (word : Ast.Str) (x' : List Ast.Tok)
    (q1 : Tok) (r1 : List Tok) (w : TW sP) (hcur : sP.current = some t)
    (hs : Spells (t :: tl1) (.name "extend".toList :: .name word :: x')) (ht : Toks sP = (t :: tl1) ++ q1 :: r1) (hq : Sigf q1)
    (h : (documentDispatch n t.kind).run sP = .ok () s2) : (extSel n (some word)).run sP = .ok () s2 := by
  have h1 := dispatch_kw n sP s2 t tl1 none "extend".toList (.name word :: x') q1 r1 w hcur (by simpa [Ast.tDescription] using hs) ht hq h
  rw [selectDefinition_extend, extensions_eq] at h1
  obtain ⟨t', i, c', e', hta, hi, hs'⟩ := spells_cons hs
  injection e' with e1 e2
  subst e1
  obtain ⟨d, sQ, hq2, h3⟩ := bind_dec (peekDataN 2) _ sP s2 () h1
  obtain ⟨hsQ, hdd⟩ := peekDataN2_spec sP sQ d t (tl1 ++ q1 :: r1) w hcur (by simpa using ht) (sigf_of_astOfV hta) hq2
  subst hsQ
  obtain ⟨t2, hh, hor⟩ := sig_head_after i c' q1 r1 _ hi hs' hq
  rcases hor with ⟨h0, _⟩ | ⟨a2, x2, e, hta2⟩
  · cases h0
  · injection e with e _
    subst e
    have hd2 : t2.data = word := data_of_astOfV_name hta2
    have : d = some word := by
      rw [hdd, e2]
      have : sig (i.append c' ++ q1 :: r1) = sig (i ++ (c' ++ q1 :: r1)) := by
        show sig ((i ++ c') ++ q1 :: r1) = _
        rw [List.append_assoc]
      rw [this, hh]; simp [hd2]
    subst this
    exact h3

/-- a definition `Description? keyword rest` through the document dispatch: once `select_definition` has picked the
    parser `m` for the keyword, the judgement for `m` applies -/
theorem dispatch_viaDef (n : Nat) (sP s2 : PState) (t : Tok) (tl1 : List Tok) (x : List Ast.Tok) (q1 : Tok) (r1 : List Tok)
    (w : TW sP) (lq : LexQ (Toks sP)) (hcur : sP.current = some t) (hs : Spells (t :: tl1) x)
    (ht : Toks sP = (t :: tl1) ++ q1 :: r1) (hq : Sigf q1) (h : (documentDispatch n t.kind).run sP = .ok () s2)
    (desc : Option Ast.Str) (word : String) (x' : List Ast.Tok) (m : PI Unit) (L : Nat → List Ast.Tok → Prop) (F : Tok → Prop)
    (hx : x = Ast.tDescription desc ++ .name word.toList :: x') (hsel : selectDefinition n word.toList = m)
    (hc : CmpT (fun _ => True) m L F (fun _ => True)) (hL : L (sP.recLimit - sP.recCur) x) (hF : F q1) :
    Eat sP s2 (t :: tl1) ∧ Toks s2 = q1 :: r1 := by
  have h1 := dispatch_kw n sP s2 t tl1 desc word.toList x' q1 r1 w hcur (by rw [← hx]; exact hs) ht hq h
  rw [hsel] at h1
  obtain ⟨e, t2, _⟩ := hc sP s2 () (t :: tl1) x q1 r1 w lq h1 hL hs ht hq hF trivial
  exact ⟨e, t2⟩

/-- the same for an extension `extend keyword rest`, selected by `extensions` -/
theorem dispatch_viaExt (n : Nat) (sP s2 : PState) (t : Tok) (tl1 : List Tok) (x : List Ast.Tok) (q1 : Tok) (r1 : List Tok)
    (w : TW sP) (lq : LexQ (Toks sP)) (hcur : sP.current = some t) (hs : Spells (t :: tl1) x)
    (ht : Toks sP = (t :: tl1) ++ q1 :: r1) (hq : Sigf q1) (h : (documentDispatch n t.kind).run sP = .ok () s2)
    (word : String) (x' : List Ast.Tok) (m : PI Unit) (L : Nat → List Ast.Tok → Prop) (F : Tok → Prop)
    (hx : x = kwE word ++ x') (hsel : extSel n (some word.toList) = m)
    (hc : CmpT (fun _ => True) m L F (fun _ => True)) (hL : L (sP.recLimit - sP.recCur) x) (hF : F q1) :
    Eat sP s2 (t :: tl1) ∧ Toks s2 = q1 :: r1 := by
  have hx' : x = .name "extend".toList :: .name word.toList :: x' := by rw [hx]; rfl
  have h1 := dispatch_ext n sP s2 t tl1 word.toList x' q1 r1 w hcur (by rw [← hx']; exact hs) ht hq h
  rw [hsel] at h1
  obtain ⟨e, t2, _⟩ := hc sP s2 () (t :: tl1) x q1 r1 w lq h1 hL hs ht hq hF trivial
  exact ⟨e, t2⟩

end Apollo.Parse
