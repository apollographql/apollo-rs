import ApolloModel.Proofs.ParserExactC42
import ApolloModel.Proofs.ParserExactC31
/-
Completeness for the exact guards (namespace Apollo.Parse.Exact.Z): `looseFitXX` (only the LAST root operation type of a
schema definition / extension may lack its named type) and the instance-dependent follow
`looseFollowY`; the schema extension with its roots written and a nameless last root may be followed by `{`; the dispatch, and
`document()` / `Parser::parse` for the per-item predicate with `looseFitXX`, as an instance of `ItemGuard`.
-/
set_option linter.unusedSimpArgs false
namespace Apollo.Parse.Exact.Z
open Apollo.Rowan hiding Str
open Apollo.Lex hiding Str
open Apollo.Parse.Exact.Y (looseFollowY loose_dispatch_compY)

theorem cmp_schemaExtBracesXP (meets : Bool) :
    Cmp (fun _ => True) (schemaExtBraces meets) LSBracesX (fun _ => True) (fun _ => True) := by
  intro s s' a c x q0 rst w hrun hl hs ht hq hf hkh
  rcases lsBracesX_cases hl with h | ⟨pre, op, rfl⟩
  · exact cmp_schemaExtBracesP meets s s' a c x q0 rst w hrun h hs ht hq hf hkh
  · have hN : Cmp (fun _ => True) (schemaExtBraces meets) (fun _ x => ∃ (pre : List (Ast.OpType × Ast.Str)) (op : Ast.OpType),
        x = .p .lCurly :: (Ast.tRootOpItems pre ++ ([.name op.name.toList, .p .colon] ++ [.p .rCurly]))) (fun _ => True) (fun _ => True) := by
      unfold schemaExtBraces
      refine cmp_peekGuard (· == some .lCurly)
        ((cmp_rootsBlockN _ cmp_closeExt (by rintro b x rfl; exact ⟨[], rfl⟩)).mono (fun _ h => h) ?_ (fun _ h => h) (fun _ h => h)) ?_
      · rintro b x ⟨pre, op, rfl⟩
        exact ⟨pre, op, [.p .rCurly], rfl, rfl⟩
      · rintro b x ⟨pre, op, rfl⟩
        exact ⟨_, _, rfl, rfl⟩
    exact hN s s' a c _ q0 rst w hrun ⟨pre, op, rfl⟩ hs ht hq hf hkh

def LSchemaExtXP (b : Nat) (x : List Ast.Tok) : Prop :=
  ∃ (ds : List Ast.Directive) (roots : List (Ast.OpType × Option Ast.Str)), roots ≠ [] ∧
    x = (LooseDef.schemaExt ds roots).toks ∧ looseFitXX b (.schemaExt ds roots)

/-- **schema extension with its roots written (the last possibly nameless): anything may follow** -/
theorem cmpT_schemaExtensionXP (n : Nat) :
    CmpT (fun _ => True) (schemaExtension n) LSchemaExtXP (fun _ => True) (fun _ => True) := by
  rw [schemaExtension_eq]
  refine cmpT_withNode _ ?_
  have hd := cmp_extDirsP (Hk := fun _ => True) (F := fun _ => True) n schemaExtBraces false (Ln := LSBracesX)
    (fun m => cmp_schemaExtBracesXP m)
    (by rintro b a x ⟨roots, _, _, e⟩
        injection e with e _
        subst e; exact ⟨by decide, by decide⟩)
    (by rintro b ⟨roots, _, _, e⟩; cases e)
  refine (cmpT_ext (Hk := fun _ => True) "schema" _ _ _ hd.toT).mono (fun _ h => h) ?_ (fun _ _ => trivial) (fun _ h => h)
  rintro b x ⟨ds, roots, hr, rfl, _, hdf, hl⟩
  refine ⟨Ast.tDirectives ds ++ Ast.tBraced (tRootOpItemsF roots) roots.isEmpty,
    by simp [LooseDef.toks, List.append_assoc], ds, _, rfl, hdf, roots, hr, hl, ?_⟩
  have : roots.isEmpty = false := by cases roots with | nil => exact absurd rfl hr | cons _ _ => rfl
  rw [this]
  simp [Ast.tBraced]

theorem loose_dispatch_compZ (n : Nat) (sP s2 : PState) (t : Tok) (tl1 : List Tok) (l : LooseDef) (q1 : Tok) (r1 : List Tok)
    (w : TW sP) (lq : LexQ (Toks sP)) (hcur : sP.current = some t) (hfit : looseFitXX (sP.recLimit - sP.recCur) l)
    (hfol : looseFollowY l q1) (hs : Spells (t :: tl1) l.toks) (ht : Toks sP = (t :: tl1) ++ q1 :: r1) (hq : Sigf q1)
    (h : (documentDispatch n t.kind).run sP = .ok () s2) : Eat sP s2 (t :: tl1) ∧ Toks s2 = q1 :: r1 := by
  have old : looseFit (sP.recLimit - sP.recCur) l → Eat sP s2 (t :: tl1) ∧ Toks s2 = q1 :: r1 := fun hf =>
    loose_dispatch_compY n sP s2 t tl1 l q1 r1 w lq hcur hf hfol hs ht hq h
  have via := @loose_dispatch_via n sP s2 t tl1 l q1 r1 w lq hcur hs ht hq h
  cases l with
  | schema desc ds roots => exact via (cmpT_schemaDefinitionX n) ⟨desc, ds, roots, rfl, hfit⟩ trivial
  | schemaExt ds roots =>
    exact hfol.elim (fun hw => via (cmpT_schemaExtensionXP n) ⟨ds, roots, hw, rfl, hfit⟩ trivial)
      (fun hf => via (cmpT_schemaExtensionX n) ⟨ds, roots, rfl, hfit⟩ hf)
  | _ => exact old hfit

def ItemOk (b : Nat) (x : List Ast.Tok) (q : Tok) : Prop :=
  LExecDef b x ∨ ∃ l : LooseDef, x = l.toks ∧ looseFitXX b l ∧ looseFollowY l q

def DocOk (b : Nat) : List (List Ast.Tok) → Prop
  | [] => True
  | x :: r => (∀ q, FollowTokOf r.flatten.head? q → ItemOk b x q) ∧ DocOk b r

theorem itemGuard : ItemGuard LexQ ItemOk := looseItemGuard loose_dispatch_compZ

theorem docOk_iff {b : Nat} : ∀ {items : List (List Ast.Tok)}, DocOk b items ↔ DocOkFor ItemOk b items
  | [] => Iff.rfl
  | _ :: _ => and_congr Iff.rfl docOk_iff

def IsDocFit (rl : Nat) (x : List Ast.Tok) : Prop :=
  ∃ items : List (List Ast.Tok), items ≠ [] ∧ x = items.flatten ∧ DocOk rl items

theorem parseDocument_completeG_sig (rl : Nat) (src : Str) (x : List Ast.Tok) (ts : List Tok) (e : Tok)
    (hclean : LexClean src) (hsig : sig (srcToks src) = ts ++ [e]) (he : e.kind = .eof)
    (hx : TokIs ts x) (hfit : IsDocFit rl x) : (parse .document none rl src).errors = [] := by
  obtain ⟨items, hne, rfl, hall⟩ := hfit
  exact itemGuard.parse_complete_sig rl src items ts e hclean hsig he hx hne (docOk_iff.mp hall)

end Apollo.Parse.Exact.Z
