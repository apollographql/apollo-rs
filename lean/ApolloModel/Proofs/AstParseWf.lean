import ApolloModel.Proofs.AstDocument3
import ApolloModel.Proofs.IfChain
/-
Soundness of the reference parser with respect to the well-formedness predicate of the round-trip
theorems: whatever `pDocument` returns satisfies `wfDefinitions`.
-/
namespace Apollo.Ast

theorem pValue_wf_all : ∀ f : Nat,
    (∀ ts v r, pValue f ts = some (v, r) → wfValue v = true) ∧
    (∀ ts vs r, pValues f ts = some (vs, r) → wfValues vs = true) ∧
    (∀ ts fs r, pObjFields f ts = some (fs, r) → wfObjFields fs = true) := by
  intro f
  induction f with
  | zero => refine ⟨?_, ?_, ?_⟩ <;> intro ts x r h <;> simp [pValue, pValues, pObjFields] at h
  | succ f ih =>
    obtain ⟨ih1, ih2, ih3⟩ := ih
    refine ⟨?_, ?_, ?_⟩
    · intro ts v r h
      unfold pValue at h
      split at h
      · simp at h; obtain ⟨rfl, _⟩ := h; simp [wfValue]
      · simp at h; obtain ⟨rfl, _⟩ := h; simp [wfValue]
      · simp at h; obtain ⟨rfl, _⟩ := h; simp [wfValue]
      · simp at h; obtain ⟨rfl, _⟩ := h; simp [wfValue]
      · next n r0 =>
        by_cases h1 : n = sTrue
        · simp [h1] at h; obtain ⟨rfl, _⟩ := h; simp [wfValue]
        · by_cases h2 : n = sFalse
          · simp [h1, h2] at h; obtain ⟨rfl, _⟩ := h; simp [wfValue]
          · by_cases h3 : n = sNull
            · simp [h1, h2, h3] at h; obtain ⟨rfl, _⟩ := h; simp [wfValue]
            · simp [h1, h2, h3] at h; obtain ⟨rfl, _⟩ := h; simp [wfValue, h1, h2, h3]
      · next r0 =>
        cases hq : pValues f r0 with
        | none => simp [hq] at h
        | some q =>
          obtain ⟨vs, r'⟩ := q
          simp [hq] at h; obtain ⟨rfl, _⟩ := h
          simpa [wfValue] using ih2 _ _ _ hq
      · next r0 =>
        cases hq : pObjFields f r0 with
        | none => simp [hq] at h
        | some q =>
          obtain ⟨fs, r'⟩ := q
          simp [hq] at h; obtain ⟨rfl, _⟩ := h
          simpa [wfValue] using ih3 _ _ _ hq
      · simp at h
    · intro ts vs r h
      unfold pValues at h
      split at h
      · simp at h; obtain ⟨rfl, _⟩ := h; simp [wfValues]
      · cases hq : pValue f ts with
        | none => simp [hq] at h
        | some q =>
          obtain ⟨v, r1⟩ := q
          simp only [hq] at h
          cases hq2 : pValues f r1 with
          | none => simp [hq2] at h
          | some q2 =>
            obtain ⟨vs', r2⟩ := q2
            simp [hq2] at h; obtain ⟨rfl, _⟩ := h
            simp [wfValues, ih1 _ _ _ hq, ih2 _ _ _ hq2]
    · intro ts fs r h
      unfold pObjFields at h
      split at h
      · simp at h; obtain ⟨rfl, _⟩ := h; simp [wfObjFields]
      · next n r0 =>
        cases hq : pValue f r0 with
        | none => simp [hq] at h
        | some q =>
          obtain ⟨v, r1⟩ := q
          simp only [hq] at h
          cases hq2 : pObjFields f r1 with
          | none => simp [hq2] at h
          | some q2 =>
            obtain ⟨fs', r2⟩ := q2
            simp [hq2] at h; obtain ⟨rfl, _⟩ := h
            simp [wfObjFields, ih1 _ _ _ hq, ih3 _ _ _ hq2]
      · simp at h

theorem pValue_wf {f : Nat} {ts : List Tok} {v : Value} {r : List Tok} (h : pValue f ts = some (v, r)) :
    wfValue v = true := (pValue_wf_all f).1 ts v r h

theorem pArgsTail_wf : ∀ (f : Nat) (ts : List Tok) (as : List (Str × Value)) (r : List Tok),
    pArgsTail f ts = some (as, r) → wfArgs as = true
  | 0, _, _, _, h => by simp [pArgsTail] at h
  | f + 1, ts, as, r, h => by
    unfold pArgsTail at h
    split at h
    · simp at h; obtain ⟨rfl, _⟩ := h; rfl
    · next n r0 =>
      cases hq : pValue f r0 with
      | none => simp [hq] at h
      | some q =>
        obtain ⟨v, r1⟩ := q
        simp only [hq] at h
        cases hq2 : pArgsTail f r1 with
        | none => simp [hq2] at h
        | some q2 =>
          obtain ⟨as', r2⟩ := q2
          simp [hq2] at h; obtain ⟨rfl, _⟩ := h
          simp [wfArgs, pValue_wf hq, pArgsTail_wf f r1 as' r2 hq2]
    · simp at h

theorem pArguments_wf {f : Nat} {ts : List Tok} {as : List (Str × Value)} {r : List Tok}
    (h : pArguments f ts = some (as, r)) : wfArgs as = true := by
  unfold pArguments at h
  split at h
  · next r0 =>
    split at h
    · simp at h
    · exact pArgsTail_wf f r0 as r h
  · simp at h; obtain ⟨rfl, _⟩ := h; rfl

theorem pDirectives_wf : ∀ (f : Nat) (ts : List Tok) (ds : List Directive) (r : List Tok),
    pDirectives f ts = some (ds, r) → wfDirs ds = true
  | 0, _, _, _, h => by simp [pDirectives] at h
  | f + 1, ts, ds, r, h => by
    unfold pDirectives at h
    split at h
    · next n r0 =>
      cases hq : pArguments f r0 with
      | none => simp [hq] at h
      | some q =>
        obtain ⟨as, r1⟩ := q
        simp only [hq] at h
        cases hq2 : pDirectives f r1 with
        | none => simp [hq2] at h
        | some q2 =>
          obtain ⟨ds', r2⟩ := q2
          simp [hq2] at h; obtain ⟨rfl, _⟩ := h
          simp [wfDirs, pArguments_wf hq, pDirectives_wf f r1 ds' r2 hq2]
    · simp at h; obtain ⟨rfl, _⟩ := h; rfl

/-! ### selections -/

theorem pSel_wf_all : ∀ f : Nat,
    (∀ ts s r, pSel f ts = some (s, r) → wfSel s = true) ∧
    (∀ a n ts s r, pFieldRest f a n ts = some (s, r) → wfSel s = true) ∧
    (∀ ts ss r, pSelsNE f ts = some (ss, r) → wfSels ss = true ∧ nonNil ss = true) ∧
    (∀ ts ss r, pSelsTail f ts = some (ss, r) → wfSels ss = true) := by
  intro f
  induction f with
  | zero =>
    refine ⟨?_, ?_, ?_, ?_⟩
    · intro ts s r h; simp [pSel] at h
    · intro a n ts s r h; simp [pFieldRest] at h
    · intro ts s r h; simp [pSelsNE] at h
    · intro ts s r h; simp [pSelsTail] at h
  | succ f ih =>
    obtain ⟨ih1, ih2, ih3, ih4⟩ := ih
    refine ⟨?_, ?_, ?_, ?_⟩
    · intro ts s r h
      unfold pSel at h
      split at h
      · next n r0 =>
        by_cases hon : n = sOn
        · simp only [hon, if_true] at h
          split at h
          · next tc r1 =>
            cases hq : pDirectives f r1 with
            | none => simp [hq] at h
            | some q =>
              obtain ⟨ds, r2⟩ := q
              simp only [hq] at h
              split at h
              · next heq =>
                simp only [Option.some.injEq, Prod.mk.injEq] at heq
                obtain ⟨rfl, rfl⟩ := heq
                rename_i r3
                cases hq2 : pSelsNE f r3 with
                | none => simp [hq2] at h
                | some q2 =>
                  obtain ⟨ss, r4⟩ := q2
                  simp [hq2] at h; obtain ⟨rfl, _⟩ := h
                  obtain ⟨w1, w2⟩ := ih3 _ _ _ hq2
                  cases ss with
                  | nil => simp [nonNil] at w2
                  | cons x xs => simp [wfSel, pDirectives_wf _ _ _ _ hq, w1]
              · simp at h
          · simp at h
        · simp only [hon, if_false] at h
          cases hq : pDirectives f r0 with
          | none => simp [hq] at h
          | some q =>
            obtain ⟨ds, r1⟩ := q
            simp [hq] at h; obtain ⟨rfl, _⟩ := h
            simp [wfSel, pDirectives_wf _ _ _ _ hq, hon]
      · next r0 _ =>
        cases hq : pDirectives f r0 with
        | none => simp [hq] at h
        | some q =>
          obtain ⟨ds, r2⟩ := q
          simp only [hq] at h
          split at h
          · next heq =>
            simp only [Option.some.injEq, Prod.mk.injEq] at heq
            obtain ⟨rfl, rfl⟩ := heq
            rename_i r3
            cases hq2 : pSelsNE f r3 with
            | none => simp [hq2] at h
            | some q2 =>
              obtain ⟨ss, r4⟩ := q2
              simp [hq2] at h; obtain ⟨rfl, _⟩ := h
              obtain ⟨w1, w2⟩ := ih3 _ _ _ hq2
              cases ss with
              | nil => simp [nonNil] at w2
              | cons x xs => simp [wfSel, pDirectives_wf _ _ _ _ hq, w1]
          · simp at h
      · exact ih2 _ _ _ _ _ h
      · exact ih2 _ _ _ _ _ h
      · simp at h
    · intro a n ts s r h
      unfold pFieldRest at h
      cases hq : pArguments f ts with
      | none => simp [hq] at h
      | some q =>
        obtain ⟨as, r1⟩ := q
        simp only [hq] at h
        cases hq1 : pDirectives f r1 with
        | none => simp [hq1] at h
        | some q1 =>
          obtain ⟨ds, r2⟩ := q1
          simp only [hq1] at h
          split at h
          · next heq =>
            simp only [Option.some.injEq, Prod.mk.injEq] at heq
            obtain ⟨rfl, rfl⟩ := heq
            rename_i r3
            cases hq2 : pSelsNE f r3 with
            | none => simp [hq2] at h
            | some q2 =>
              obtain ⟨ss, r4⟩ := q2
              simp [hq2] at h; obtain ⟨rfl, _⟩ := h
              simp [wfSel, pArguments_wf hq, pDirectives_wf _ _ _ _ hq1, (ih3 _ _ _ hq2).1]
          · next heq =>
            simp only [Option.some.injEq, Prod.mk.injEq] at heq
            obtain ⟨rfl, rfl⟩ := heq
            simp at h; obtain ⟨rfl, _⟩ := h
            simp [wfSel, wfSels, pArguments_wf hq, pDirectives_wf _ _ _ _ hq1]
          · simp at h
    · intro ts ss r h
      unfold pSelsNE at h
      cases hq : pSel f ts with
      | none => simp [hq] at h
      | some q =>
        obtain ⟨s, r1⟩ := q
        simp only [hq] at h
        cases hq2 : pSelsTail f r1 with
        | none => simp [hq2] at h
        | some q2 =>
          obtain ⟨ss', r2⟩ := q2
          simp [hq2] at h; obtain ⟨rfl, _⟩ := h
          simp [wfSels, nonNil, ih1 _ _ _ hq, ih4 _ _ _ hq2]
    · intro ts ss r h
      unfold pSelsTail at h
      split at h
      · simp at h; obtain ⟨rfl, _⟩ := h; simp [wfSels]
      · cases hq : pSel f ts with
        | none => simp [hq] at h
        | some q =>
          obtain ⟨s, r1⟩ := q
          simp only [hq] at h
          cases hq2 : pSelsTail f r1 with
          | none => simp [hq2] at h
          | some q2 =>
            obtain ⟨ss', r2⟩ := q2
            simp [hq2] at h; obtain ⟨rfl, _⟩ := h
            simp [wfSels, ih1 _ _ _ hq, ih4 _ _ _ hq2]

theorem pSelectionSet_wf {f : Nat} {ts : List Tok} {ss : Sels} {r : List Tok} (h : pSelectionSet f ts = some (ss, r)) :
    wfSels ss = true ∧ nonNil ss = true := by
  unfold pSelectionSet at h
  split at h
  · exact (pSel_wf_all f).2.2.1 _ _ _ h
  · simp at h

/-! ### variable / input value / field / enum value definitions -/

theorem pDefault_wf {f : Nat} {ts : List Tok} {d : Option Value} {r : List Tok} (h : pDefault f ts = some (d, r)) :
    wfDefault d = true := by
  unfold pDefault at h
  split at h
  · next r0 =>
    cases hq : pValue f r0 with
    | none => simp [hq] at h
    | some q => obtain ⟨v, r1⟩ := q; simp [hq] at h; obtain ⟨rfl, _⟩ := h; simpa [wfDefault] using pValue_wf hq
  · simp at h; obtain ⟨rfl, _⟩ := h; rfl

theorem pVarDefsTail_wf : ∀ (f : Nat) (ts : List Tok) (vs : List VarDef) (r : List Tok),
    pVarDefsTail f ts = some (vs, r) → wfVarDefs vs = true
  | 0, _, _, _, h => by simp [pVarDefsTail] at h
  | f + 1, ts, vs, r, h => by
    unfold pVarDefsTail at h
    split at h
    · simp at h; obtain ⟨rfl, _⟩ := h; rfl
    · next n r0 =>
      cases h1 : pTy f r0 with
      | none => simp [h1] at h
      | some q1 =>
        obtain ⟨ty, r1⟩ := q1
        simp only [h1] at h
        cases h2 : pDefault f r1 with
        | none => simp [h2] at h
        | some q2 =>
          obtain ⟨dv, r2⟩ := q2
          simp only [h2] at h
          cases h3 : pDirectives f r2 with
          | none => simp [h3] at h
          | some q3 =>
            obtain ⟨ds, r3⟩ := q3
            simp only [h3] at h
            cases h4 : pVarDefsTail f r3 with
            | none => simp [h4] at h
            | some q4 =>
              obtain ⟨vs', r4⟩ := q4
              simp [h4] at h; obtain ⟨rfl, _⟩ := h
              simp [wfVarDefs, pDefault_wf h2, pDirectives_wf _ _ _ _ h3, pVarDefsTail_wf f r3 vs' r4 h4]
    · simp at h

theorem pVarDefs_wf {f : Nat} {ts : List Tok} {vs : List VarDef} {r : List Tok} (h : pVarDefs f ts = some (vs, r)) :
    wfVarDefs vs = true := by
  unfold pVarDefs at h
  split at h
  · next r0 =>
    split at h
    · simp at h
    · exact pVarDefsTail_wf f r0 vs r h
  · simp at h; obtain ⟨rfl, _⟩ := h; rfl

theorem pInputValueDef_wf {f : Nat} {ts : List Tok} {v : InputValueDef} {r : List Tok}
    (h : pInputValueDef f ts = some (v, r)) : wfDefault v.default = true ∧ wfDirs v.dirs = true := by
  unfold pInputValueDef at h
  split at h
  · next desc n r0 _ =>
    cases h1 : pTy f r0 with
    | none => simp [h1] at h
    | some q1 =>
      obtain ⟨ty, r1⟩ := q1
      simp only [h1] at h
      cases h2 : pDefault f r1 with
      | none => simp [h2] at h
      | some q2 =>
        obtain ⟨dv, r2⟩ := q2
        simp only [h2] at h
        cases h3 : pDirectives f r2 with
        | none => simp [h3] at h
        | some q3 =>
          obtain ⟨ds, r3⟩ := q3
          simp [h3] at h; obtain ⟨rfl, _⟩ := h
          exact ⟨pDefault_wf h2, pDirectives_wf _ _ _ _ h3⟩
  · simp at h

theorem pInputValueDefsTail_wf (close : P) : ∀ (f : Nat) (ts : List Tok) (vs : List InputValueDef) (r : List Tok),
    pInputValueDefsTail close f ts = some (vs, r) → wfIVDs vs = true
  | 0, _, _, _, h => by simp [pInputValueDefsTail] at h
  | f + 1, ts, vs, r, h => by
    unfold pInputValueDefsTail at h
    split at h
    · split at h
      · simp at h; obtain ⟨rfl, _⟩ := h; rfl
      · simp at h
    · cases h1 : pInputValueDef f ts with
      | none => simp [h1] at h
      | some q1 =>
        obtain ⟨v, r1⟩ := q1
        simp only [h1] at h
        cases h2 : pInputValueDefsTail close f r1 with
        | none => simp [h2] at h
        | some q2 =>
          obtain ⟨vs', r2⟩ := q2
          simp [h2] at h; obtain ⟨rfl, _⟩ := h
          obtain ⟨w1, w2⟩ := pInputValueDef_wf h1
          simp [wfIVDs, w1, w2, pInputValueDefsTail_wf close f r1 vs' r2 h2]

theorem pArgumentsDefinition_wf {f : Nat} {ts : List Tok} {vs : List InputValueDef} {r : List Tok}
    (h : pArgumentsDefinition f ts = some (vs, r)) : wfIVDs vs = true := by
  unfold pArgumentsDefinition at h
  split at h
  · next r0 =>
    split at h
    · simp at h
    · exact pInputValueDefsTail_wf _ f r0 vs r h
  · simp at h; obtain ⟨rfl, _⟩ := h; rfl

theorem pInputFieldsDefinition_wf {f : Nat} {ts : List Tok} {vs : List InputValueDef} {r : List Tok}
    (h : pInputFieldsDefinition f ts = some (vs, r)) : wfIVDs vs = true := by
  unfold pInputFieldsDefinition at h
  split at h
  · next r0 =>
    split at h
    · simp at h
    · exact pInputValueDefsTail_wf _ f r0 vs r h
  · simp at h; obtain ⟨rfl, _⟩ := h; rfl

theorem pFieldDef_wf {f : Nat} {ts : List Tok} {v : FieldDef} {r : List Tok}
    (h : pFieldDef f ts = some (v, r)) : wfIVDs v.args = true ∧ wfDirs v.dirs = true := by
  unfold pFieldDef at h
  split at h
  · next desc n r0 _ =>
    cases h1 : pArgumentsDefinition f r0 with
    | none => simp [h1] at h
    | some q1 =>
      obtain ⟨as, r1⟩ := q1
      simp only [h1] at h
      split at h
      · next heq =>
        simp only [Option.some.injEq, Prod.mk.injEq] at heq
        obtain ⟨rfl, rfl⟩ := heq
        rename_i r2
        cases h2 : pTy f r2 with
        | none => simp [h2] at h
        | some q2 =>
          obtain ⟨ty, r3⟩ := q2
          simp only [h2] at h
          cases h3 : pDirectives f r3 with
          | none => simp [h3] at h
          | some q3 =>
            obtain ⟨ds, r4⟩ := q3
            simp [h3] at h; obtain ⟨rfl, _⟩ := h
            exact ⟨pArgumentsDefinition_wf h1, pDirectives_wf _ _ _ _ h3⟩
      · simp at h
  · simp at h

theorem pFieldDefsTail_wf : ∀ (f : Nat) (ts : List Tok) (vs : List FieldDef) (r : List Tok),
    pFieldDefsTail f ts = some (vs, r) → wfFieldDefs vs = true
  | 0, _, _, _, h => by simp [pFieldDefsTail] at h
  | f + 1, ts, vs, r, h => by
    unfold pFieldDefsTail at h
    split at h
    · simp at h; obtain ⟨rfl, _⟩ := h; rfl
    · cases h1 : pFieldDef f ts with
      | none => simp [h1] at h
      | some q1 =>
        obtain ⟨v, r1⟩ := q1
        simp only [h1] at h
        cases h2 : pFieldDefsTail f r1 with
        | none => simp [h2] at h
        | some q2 =>
          obtain ⟨vs', r2⟩ := q2
          simp [h2] at h; obtain ⟨rfl, _⟩ := h
          obtain ⟨w1, w2⟩ := pFieldDef_wf h1
          simp [wfFieldDefs, w1, w2, pFieldDefsTail_wf f r1 vs' r2 h2]

theorem pFieldsDefinition_wf {f : Nat} {ts : List Tok} {vs : List FieldDef} {r : List Tok}
    (h : pFieldsDefinition f ts = some (vs, r)) : wfFieldDefs vs = true := by
  unfold pFieldsDefinition at h
  split at h
  · next r0 =>
    split at h
    · simp at h
    · exact pFieldDefsTail_wf f r0 vs r h
  · simp at h; obtain ⟨rfl, _⟩ := h; rfl

theorem pEnumValueDef_wf {f : Nat} {ts : List Tok} {v : EnumValueDef} {r : List Tok}
    (h : pEnumValueDef f ts = some (v, r)) : wfDirs v.dirs = true := by
  unfold pEnumValueDef at h
  split at h
  · next desc n r0 _ =>
    cases h1 : pDirectives f r0 with
    | none => simp [h1] at h
    | some q1 =>
      obtain ⟨ds, r1⟩ := q1
      simp [h1] at h; obtain ⟨rfl, _⟩ := h
      exact pDirectives_wf _ _ _ _ h1
  · simp at h

theorem pEnumValueDefsTail_wf : ∀ (f : Nat) (ts : List Tok) (vs : List EnumValueDef) (r : List Tok),
    pEnumValueDefsTail f ts = some (vs, r) → wfEnumValueDefs vs = true
  | 0, _, _, _, h => by simp [pEnumValueDefsTail] at h
  | f + 1, ts, vs, r, h => by
    unfold pEnumValueDefsTail at h
    split at h
    · simp at h; obtain ⟨rfl, _⟩ := h; rfl
    · cases h1 : pEnumValueDef f ts with
      | none => simp [h1] at h
      | some q1 =>
        obtain ⟨v, r1⟩ := q1
        simp only [h1] at h
        cases h2 : pEnumValueDefsTail f r1 with
        | none => simp [h2] at h
        | some q2 =>
          obtain ⟨vs', r2⟩ := q2
          simp [h2] at h; obtain ⟨rfl, _⟩ := h
          simp [wfEnumValueDefs, pEnumValueDef_wf h1, pEnumValueDefsTail_wf f r1 vs' r2 h2]

theorem pEnumValuesDefinition_wf {f : Nat} {ts : List Tok} {vs : List EnumValueDef} {r : List Tok}
    (h : pEnumValuesDefinition f ts = some (vs, r)) : wfEnumValueDefs vs = true := by
  unfold pEnumValuesDefinition at h
  split at h
  · next r0 =>
    split at h
    · simp at h
    · exact pEnumValueDefsTail_wf f r0 vs r h
  · simp at h; obtain ⟨rfl, _⟩ := h; rfl

/-! ### definitions -/

theorem pSepList_ne {sep : P} {f : Nat} {ts : List Tok} {ls : List Str} {r : List Tok}
    (h : pSepList sep f ts = some (ls, r)) : ls.isEmpty = false := by
  unfold pSepList at h
  split at h
  · split at h
    · simp at h; obtain ⟨rfl, _⟩ := h; rfl
    · simp at h
  · simp at h; obtain ⟨rfl, _⟩ := h; rfl
  · simp at h

theorem pRootOps_ne {f : Nat} {ts : List Tok} {rs : List (OpType × Str)} {r : List Tok}
    (h : pRootOps f ts = some (rs, r)) : rs.isEmpty = false := by
  unfold pRootOps at h
  split at h
  · split at h
    · simp at h
    · next hne =>
      cases rs with
      | nil => exact absurd h (by intro h'; exact hne _ h')
      | cons x xs => rfl
  · simp at h

theorem pObjectTypeLike_wf {f : Nat} {ts : List Tok} {n : Str} {is : List Str} {ds : List Directive}
    {fs : List FieldDef} {r : List Tok} (h : pObjectTypeLike f ts = some ((n, is, ds, fs), r)) :
    wfDirs ds = true ∧ wfFieldDefs fs = true := by
  unfold pObjectTypeLike at h
  split at h
  · next n0 r0 =>
    cases h1 : pImplements f r0 with
    | none => simp [h1] at h
    | some q1 =>
      obtain ⟨is', r1⟩ := q1
      simp only [h1] at h
      cases h2 : pDirectives f r1 with
      | none => simp [h2] at h
      | some q2 =>
        obtain ⟨ds', r2⟩ := q2
        simp only [h2] at h
        cases h3 : pFieldsDefinition f r2 with
        | none => simp [h3] at h
        | some q3 =>
          obtain ⟨fs', r3⟩ := q3
          simp [h3] at h
          obtain ⟨⟨_, _, rfl, rfl⟩, _⟩ := h
          exact ⟨pDirectives_wf _ _ _ _ h2, pFieldsDefinition_wf h3⟩
  · simp at h

theorem pUnionBody_wf {f : Nat} {ts : List Tok} {n : Str} {ds : List Directive} {ms : List Str} {r : List Tok}
    (h : pUnionBody f ts = some ((n, ds, ms), r)) : wfDirs ds = true := by
  unfold pUnionBody at h
  split at h
  · next n0 r0 =>
    cases h1 : pDirectives f r0 with
    | none => simp [h1] at h
    | some q1 =>
      obtain ⟨ds', r1⟩ := q1
      simp only [h1] at h
      cases h2 : pUnionMembers f r1 with
      | none => simp [h2] at h
      | some q2 =>
        obtain ⟨ms', r2⟩ := q2
        simp [h2] at h
        obtain ⟨⟨_, rfl, _⟩, _⟩ := h
        exact pDirectives_wf _ _ _ _ h1
  · simp at h

theorem pEnumBody_wf {f : Nat} {ts : List Tok} {n : Str} {ds : List Directive} {vs : List EnumValueDef} {r : List Tok}
    (h : pEnumBody f ts = some ((n, ds, vs), r)) : wfDirs ds = true ∧ wfEnumValueDefs vs = true := by
  unfold pEnumBody at h
  split at h
  · next n0 r0 =>
    cases h1 : pDirectives f r0 with
    | none => simp [h1] at h
    | some q1 =>
      obtain ⟨ds', r1⟩ := q1
      simp only [h1] at h
      cases h2 : pEnumValuesDefinition f r1 with
      | none => simp [h2] at h
      | some q2 =>
        obtain ⟨vs', r2⟩ := q2
        simp [h2] at h
        obtain ⟨⟨_, rfl, rfl⟩, _⟩ := h
        exact ⟨pDirectives_wf _ _ _ _ h1, pEnumValuesDefinition_wf h2⟩
  · simp at h

theorem pInputBody_wf {f : Nat} {ts : List Tok} {n : Str} {ds : List Directive} {vs : List InputValueDef} {r : List Tok}
    (h : pInputBody f ts = some ((n, ds, vs), r)) : wfDirs ds = true ∧ wfIVDs vs = true := by
  unfold pInputBody at h
  split at h
  · next n0 r0 =>
    cases h1 : pDirectives f r0 with
    | none => simp [h1] at h
    | some q1 =>
      obtain ⟨ds', r1⟩ := q1
      simp only [h1] at h
      cases h2 : pInputFieldsDefinition f r1 with
      | none => simp [h2] at h
      | some q2 =>
        obtain ⟨vs', r2⟩ := q2
        simp [h2] at h
        obtain ⟨⟨_, rfl, rfl⟩, _⟩ := h
        exact ⟨pDirectives_wf _ _ _ _ h1, pInputFieldsDefinition_wf h2⟩
  · simp at h

theorem pOperationRest_aux {f : Nat} {ot : OpType} {name : Option Str} {r0 : List Tok} {d : Definition} {r : List Tok}
    (h : (match pVarDefs f r0 with
      | some (vs, r1) =>
        match pDirectives f r1 with
        | some (ds, r2) =>
          match pSelectionSet f r2 with
          | some (ss, r3) => some (Definition.operation ot name vs ds ss, r3)
          | none => none
        | none => none
      | none => none) = some (d, r)) : wfDefinition d = true := by
  cases h1 : pVarDefs f r0 with
  | none => simp [h1] at h
  | some q1 =>
    obtain ⟨vs, r1⟩ := q1
    simp only [h1] at h
    cases h2 : pDirectives f r1 with
    | none => simp [h2] at h
    | some q2 =>
      obtain ⟨ds, r2⟩ := q2
      simp only [h2] at h
      cases h3 : pSelectionSet f r2 with
      | none => simp [h3] at h
      | some q3 =>
        obtain ⟨ss, r3⟩ := q3
        simp [h3] at h; obtain ⟨rfl, _⟩ := h
        obtain ⟨w1, w2⟩ := pSelectionSet_wf h3
        simp [wfDefinition, pVarDefs_wf h1, pDirectives_wf _ _ _ _ h2, w1, w2]

theorem pOperationRest_wf {f : Nat} {ot : OpType} {ts : List Tok} {d : Definition} {r : List Tok}
    (h : pOperationRest f ot ts = some (d, r)) : wfDefinition d = true := by
  unfold pOperationRest at h
  split at h
  next name r0 _ => exact pOperationRest_aux h

theorem pTypeSystemRest_wf {f : Nat} {desc : Option Str} {kwd : Str} {ts : List Tok} {d : Definition} {r : List Tok}
    (h : pTypeSystemRest f desc kwd ts = some (d, r)) : wfDefinition d = true := by
  suffices H : ∀ x, pTypeSystemRest f desc kwd ts = some x → wfDefinition x.1 = true from H _ h
  unfold pTypeSystemRest
  repeat' refine ite_forall_some ?_ ?_
  · -- schema
    split
    · next h1 =>
      split
      · next h2 => rintro _ ⟨⟩; simp [wfDefinition, pDirectives_wf _ _ _ _ h1, pRootOps_ne h2]
      · rintro _ ⟨⟩
    · rintro _ ⟨⟩
  · -- scalar
    split
    · split
      · next h1 => rintro _ ⟨⟩; simpa [wfDefinition] using pDirectives_wf _ _ _ _ h1
      · rintro _ ⟨⟩
    · rintro _ ⟨⟩
  · -- type
    split
    · next h1 => rintro _ ⟨⟩; simpa [wfDefinition] using pObjectTypeLike_wf h1
    · rintro _ ⟨⟩
  · -- interface
    split
    · next h1 => rintro _ ⟨⟩; simpa [wfDefinition] using pObjectTypeLike_wf h1
    · rintro _ ⟨⟩
  · -- union
    split
    · next h1 => rintro _ ⟨⟩; simpa [wfDefinition] using pUnionBody_wf h1
    · rintro _ ⟨⟩
  · -- enum
    split
    · next h1 => rintro _ ⟨⟩; simpa [wfDefinition] using pEnumBody_wf h1
    · rintro _ ⟨⟩
  · -- input
    split
    · next h1 => rintro _ ⟨⟩; simpa [wfDefinition] using pInputBody_wf h1
    · rintro _ ⟨⟩
  · -- directive
    split
    · split
      · next h1 =>
        intro x h
        repeat' split at h
        all_goals cases h
        rename_i hs
        simp [wfDefinition, pArgumentsDefinition_wf h1, pSepList_ne hs]
      · rintro _ ⟨⟩
    · rintro _ ⟨⟩
  · rintro _ ⟨⟩

theorem pExtensionRest_wf {f : Nat} {kwd : Str} {ts : List Tok} {d : Definition} {r : List Tok}
    (h : pExtensionRest f kwd ts = some (d, r)) : wfDefinition d = true := by
  suffices H : ∀ x, pExtensionRest f kwd ts = some x → wfDefinition x.1 = true from H _ h
  unfold pExtensionRest
  repeat' refine ite_forall_some ?_ ?_
  · -- schema
    split
    · next h1 =>
      split
      · rintro _ ⟨⟩; simpa [wfDefinition] using pDirectives_wf _ _ _ _ h1
      · rintro _ ⟨⟩
    · next h1 => rintro _ ⟨⟩; simpa [wfDefinition] using pDirectives_wf _ _ _ _ h1
    · rintro _ ⟨⟩
  · -- scalar
    split
    · split
      · next h1 => rintro _ ⟨⟩; simpa [wfDefinition] using pDirectives_wf _ _ _ _ h1
      · rintro _ ⟨⟩
    · rintro _ ⟨⟩
  · -- type
    split
    · next h1 => rintro _ ⟨⟩; simpa [wfDefinition] using pObjectTypeLike_wf h1
    · rintro _ ⟨⟩
  · -- interface
    split
    · next h1 => rintro _ ⟨⟩; simpa [wfDefinition] using pObjectTypeLike_wf h1
    · rintro _ ⟨⟩
  · -- union
    split
    · next h1 => rintro _ ⟨⟩; simpa [wfDefinition] using pUnionBody_wf h1
    · rintro _ ⟨⟩
  · -- enum
    split
    · next h1 => rintro _ ⟨⟩; simpa [wfDefinition] using pEnumBody_wf h1
    · rintro _ ⟨⟩
  · -- input
    split
    · next h1 => rintro _ ⟨⟩; simpa [wfDefinition] using pInputBody_wf h1
    · rintro _ ⟨⟩
  · rintro _ ⟨⟩

theorem pDefinition_wf {f : Nat} {ts : List Tok} {d : Definition} {r : List Tok}
    (h : pDefinition f ts = some (d, r)) : wfDefinition d = true := by
  unfold pDefinition at h
  split at h
  · -- shorthand query
    next tl =>
    cases h1 : pSelectionSet f (Tok.p P.lCurly :: tl) with
    | none => simp [h1] at h
    | some q1 =>
      obtain ⟨ss, r1⟩ := q1
      simp [h1] at h
      obtain ⟨rfl, _⟩ := h
      obtain ⟨w1, w2⟩ := pSelectionSet_wf h1
      simp [wfDefinition, wfVarDefs, wfDirs, w1, w2]
  · exact pTypeSystemRest_wf h
  · next k r0 =>
    cases hot : opTypeOf k with
    | some ot => simp only [hot] at h; exact pOperationRest_wf h
    | none =>
      simp only [hot] at h
      split at h
      · -- fragment
        split at h
        · next n o tc r1 =>
          split at h
          · next hcond =>
            cases h1 : pDirectives f r1 with
            | none => simp [h1] at h
            | some q1 =>
              obtain ⟨ds, r2⟩ := q1
              simp only [h1] at h
              cases h2 : pSelectionSet f r2 with
              | none => simp [h2] at h
              | some q2 =>
                obtain ⟨ss, r3⟩ := q2
                simp [h2] at h; obtain ⟨rfl, _⟩ := h
                obtain ⟨w1, w2⟩ := pSelectionSet_wf h2
                simp [wfDefinition, hcond.1, pDirectives_wf _ _ _ _ h1, w1, w2]
          · simp at h
        · simp at h
      · split at h
        · split at h
          · exact pExtensionRest_wf h
          · simp at h
        · exact pTypeSystemRest_wf h
  · simp at h

theorem pDefinitions_wf : ∀ (f : Nat) (ts : List Tok) (ds : List Definition),
    pDefinitions f ts = some ds → wfDefinitions ds = true
  | 0, _, _, h => by simp [pDefinitions] at h
  | f + 1, ts, ds, h => by
    unfold pDefinitions at h
    split at h
    · simp at h; subst h; rfl
    · cases h1 : pDefinition f ts with
      | none => simp [h1] at h
      | some q1 =>
        obtain ⟨d, r⟩ := q1
        simp only [h1] at h
        cases h2 : pDefinitions f r with
        | none => simp [h2] at h
        | some ds' =>
          simp [h2] at h; subst h
          simp [wfDefinitions, pDefinition_wf h1, pDefinitions_wf f r ds' h2]

/-- **parse_wf.** Every document the reference parser returns is non-empty and satisfies `wfDefinitions`
    (the hypothesis of the round-trip theorems). -/
theorem parse_wf (f : Nat) (ts : List Tok) (d : Document) (h : pDocument f ts = some d) :
    d ≠ [] ∧ wfDefinitions d = true := by
  unfold pDocument at h
  split at h
  · simp at h
  · next hne =>
    refine ⟨?_, pDefinitions_wf f ts d h⟩
    intro he; subst he; exact hne h

end Apollo.Ast
