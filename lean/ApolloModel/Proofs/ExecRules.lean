import ApolloModel.Proofs.ExecWalk
import ApolloModel.Properties.C29
import ApolloModel.Proofs.Standalone2
set_option linter.unusedSimpArgs false
set_option linter.unusedVariables false
namespace Apollo.ExecRules
open Apollo Apollo.Spec
open Apollo.Standalone (Arg ArgDef Diag VarDef Params uniqueArgs undefinedArgs requiredArgs varDefDiags dirDiags dirDiagsAux)

/-! ### arguments — §5.4.1 Argument Names, §5.4.2 Argument Uniqueness, §5.4.2.1 Required Arguments -/

theorem uniqueArgs_nil_iff (seen : List Nat) (as : List Arg) :
    uniqueArgs seen as = [] ↔ (∀ a ∈ as, a.name ∉ seen) ∧ (as.map (·.name)).Nodup := by
  induction as generalizing seen with
  | nil => simp [uniqueArgs]
  | cons a rest ih =>
    simp only [uniqueArgs]
    by_cases h : a.name ∈ seen
    · simp [h]
    · simp only [h, if_false, ih, List.mem_cons, forall_eq_or_imp, List.map_cons, List.nodup_cons, not_false_eq_true, true_and]
      constructor
      · rintro ⟨h1, h2⟩
        refine ⟨fun x hx => (not_or.mp (h1 x hx)).2, ?_, h2⟩
        intro hm
        obtain ⟨x, hx, hxe⟩ := List.mem_map.mp hm
        exact (not_or.mp (h1 x hx)).1 hxe
      · rintro ⟨h1, h2, h3⟩
        refine ⟨fun x hx => not_or.mpr ⟨?_, h1 x hx⟩, h3⟩
        intro hxe
        exact h2 (List.mem_map.mpr ⟨x, hx, hxe⟩)

/-- §5.4.2 Argument Uniqueness: `validate_arguments` reports nothing iff no two arguments of the field
    or directive have the same name. -/
theorem argument_uniqueness_iff (as : List Arg) : uniqueArgs [] as = [] ↔ (as.map (·.name)).Nodup := by
  rw [uniqueArgs_nil_iff]; simp

/-- §5.4.1 Argument Names: no `UndefinedArgument` iff every argument is defined by the field or directive. -/
theorem argument_names_iff (defs : List ArgDef) (as : List Arg) :
    undefinedArgs defs as = [] ↔ ∀ a ∈ as, ∃ d ∈ defs, d.name = a.name := by
  simp [undefinedArgs, List.filter_eq_nil_iff]

/-- §5.4.2.1 Required Arguments: no `RequiredArgument` iff every required argument definition (non-null
    type, no default) is given a value that is not the literal `null`. -/
theorem required_arguments_iff (defs : List ArgDef) (as : List Arg) :
    requiredArgs defs as = [] ↔
      ∀ d ∈ defs, d.required = true → ∃ a, as.find? (fun a => a.name == d.name) = some a ∧ a.value.isNull = false := by
  simp only [requiredArgs, List.map_eq_nil_iff, List.filter_eq_nil_iff]
  constructor
  · intro h d hd hr
    have := h d hd
    simp only [hr, Bool.true_and] at this
    cases hf : as.find? (fun a => a.name == d.name) with
    | none => simp [hf] at this
    | some a => simp [hf] at this; exact ⟨a, rfl, this⟩
  · intro h d hd
    cases hr : d.required with
    | false => simp
    | true =>
      obtain ⟨a, ha, hn⟩ := h d hd hr
      simp [ha, hn]

/-! ### variables — §5.8.1 Variable Uniqueness, §5.8.2 Variables Are Input Types -/

/-- what `validate_directives` can report -/
def Diag.isDirectiveKind : Diag → Bool
  | .uniqueArgument | .uniqueDirective | .unsupportedLocation | .undefinedArgument | .requiredArgument | .undefinedDirective => true
  | _ => false

theorem dirDiagsAux_kind (p : Params) (s : Option Standalone.Schema) (loc : Standalone.Loc) (ds : List Standalone.Dir) :
    ∀ (seen : List Nat), ∀ d ∈ dirDiagsAux p s loc seen ds, Diag.isDirectiveKind d = true := by
  induction ds with
  | nil => intro seen d hd; simp [dirDiagsAux] at hd
  | cons x rest ih =>
    intro seen d hd
    simp only [dirDiagsAux, List.mem_append] at hd
    rcases hd with ((h | h) | h) | h
    · rw [Standalone.uniqueArgs_mem _ _ d h]; rfl
    · split at h
      · split at h <;> simp at h; subst h; rfl
      · simp at h
    · split at h
      · simp only [List.mem_append, undefinedArgs, requiredArgs, List.mem_map] at h
        rcases h with (h | h) | h
        · split at h <;> simp at h; subst h; rfl
        · obtain ⟨_, _, rfl⟩ := h; rfl
        · obtain ⟨_, _, rfl⟩ := h; rfl
      · split at h <;> simp at h; subst h; rfl
    · exact ih _ d h

theorem dirDiags_kind (p : Params) (s : Option Standalone.Schema) (loc : Standalone.Loc) (ds : List Standalone.Dir) :
    ∀ d ∈ dirDiags p s loc ds, Diag.isDirectiveKind d = true := dirDiagsAux_kind p s loc ds []

/-- the type check of one variable definition (the `match type_definition` of `validate_variable_definitions`) -/
def varTypeDiags (s : Option Standalone.Schema) (v : VarDef) : List Diag :=
  match s with
  | some sc =>
    (match sc.kind v.ty with
     | some .composite => [.variableInputType]
     | some _ => []
     | none => [.undefinedDefinition])
  | none => []

theorem varDefDiags_cons (p : Params) (s : Option Standalone.Schema) (seen : List Nat) (v : VarDef) (vs : List VarDef) :
    varDefDiags p s seen (v :: vs) =
      dirDiags p s .variableDefinition v.dirs ++ varTypeDiags s v ++ (if v.name ∈ seen then [.uniqueVariable] else []) ++
        varDefDiags p s (if v.name ∈ seen then seen else v.name :: seen) vs := by
  cases s <;> rfl

theorem varTypeDiags_mem (s : Option Standalone.Schema) (v : VarDef) (d : Diag) (h : d ∈ varTypeDiags s v) :
    d = .variableInputType ∨ d = .undefinedDefinition := by
  unfold varTypeDiags at h
  split at h
  · split at h <;> simp at h <;> simp [h]
  · simp at h

theorem uniqueVariable_mem_iff (p : Params) (s : Option Standalone.Schema) (vs : List VarDef) :
    ∀ (seen : List Nat), .uniqueVariable ∈ varDefDiags p s seen vs ↔
      (∃ v ∈ vs, v.name ∈ seen) ∨ ¬ (vs.map (·.name)).Nodup := by
  induction vs with
  | nil => intro seen; simp [varDefDiags]
  | cons v rest ih =>
    intro seen
    have hdir : Diag.uniqueVariable ∉ dirDiags p s .variableDefinition v.dirs := by
      intro h; have := dirDiags_kind p s _ _ _ h; simp [Diag.isDirectiveKind] at this
    have hb : Diag.uniqueVariable ∉ varTypeDiags s v := by
      intro h; rcases varTypeDiags_mem s v _ h with h | h <;> cases h
    rw [varDefDiags_cons]
    simp only [List.mem_append, hdir, hb, false_or]
    by_cases hv : v.name ∈ seen
    · simp only [hv, if_true, List.mem_singleton, true_or, true_iff]
      exact Or.inl ⟨v, by simp, hv⟩
    · simp only [hv, if_false, List.not_mem_nil, false_or, ih, List.mem_cons, List.map_cons, List.nodup_cons]
      constructor
      · rintro (⟨x, hx, hxs⟩ | h)
        · rcases hxs with hxs | hxs
          · right; intro hn; exact hn.1 (List.mem_map.mpr ⟨x, hx, hxs⟩)
          · left; exact ⟨x, Or.inr hx, hxs⟩
        · right; intro hn; exact h hn.2
      · rintro (⟨x, hx, hxs⟩ | h)
        · rcases hx with rfl | hx
          · exact absurd hxs hv
          · left; exact ⟨x, hx, Or.inr hxs⟩
        · by_cases hm : v.name ∈ rest.map (·.name)
          · obtain ⟨x, hx, hxe⟩ := List.mem_map.mp hm
            left; exact ⟨x, hx, Or.inl hxe⟩
          · right; intro hn; exact h ⟨hm, hn⟩

/-- §5.8.1 Variable Uniqueness: `UniqueVariable` is reported iff two variable definitions of the
    operation have the same name. -/
theorem variable_uniqueness_iff (p : Params) (s : Option Standalone.Schema) (vs : List VarDef) :
    .uniqueVariable ∈ varDefDiags p s [] vs ↔ ¬ (vs.map (·.name)).Nodup := by
  rw [uniqueVariable_mem_iff]; simp

/-- §5.8.2 Variables Are Input Types: `VariableInputType` (the type is an object, interface or union)
    or `UndefinedDefinition` (no such type) is reported iff some variable's named type is not a
    defined scalar, enum or input object type. -/
theorem variables_are_input_types_iff (p : Params) (sc : Standalone.Schema) (vs : List VarDef) :
    ∀ (seen : List Nat), (.variableInputType ∈ varDefDiags p (some sc) seen vs ∨ .undefinedDefinition ∈ varDefDiags p (some sc) seen vs) ↔
      ∃ v ∈ vs, sc.kind v.ty = some .composite ∨ sc.kind v.ty = none := by
  induction vs with
  | nil => intro seen; simp [varDefDiags]
  | cons v rest ih =>
    intro seen
    have hdir : ∀ d, (d = Diag.variableInputType ∨ d = .undefinedDefinition) → d ∉ dirDiags p (some sc) .variableDefinition v.dirs := by
      intro d hd h; have := dirDiags_kind p _ _ _ _ h; rcases hd with rfl | rfl <;> simp [Diag.isDirectiveKind] at this
    have hu : ∀ d, (d = Diag.variableInputType ∨ d = .undefinedDefinition) →
        d ∉ (if v.name ∈ seen then [Diag.uniqueVariable] else []) := by
      intro d hd h; split at h <;> simp at h; rcases hd with rfl | rfl <;> cases h
    rw [varDefDiags_cons]
    simp only [List.mem_append, hdir _ (Or.inl rfl), hdir _ (Or.inr rfl), hu _ (Or.inl rfl), hu _ (Or.inr rfl), false_or, or_false]
    have hty : (Diag.variableInputType ∈ varTypeDiags (some sc) v ∨ Diag.undefinedDefinition ∈ varTypeDiags (some sc) v) ↔
        (sc.kind v.ty = some .composite ∨ sc.kind v.ty = none) := by
      unfold varTypeDiags
      cases hk : sc.kind v.ty with
      | none => simp [hk]
      | some k => cases k <;> simp [hk]
    have := ih (if v.name ∈ seen then seen else v.name :: seen)
    constructor
    · rintro ((h | h) | (h | h))
      · exact ⟨v, by simp, hty.mp (Or.inl h)⟩
      · obtain ⟨x, hx, hxk⟩ := this.mp (Or.inl h); exact ⟨x, by simp [hx], hxk⟩
      · exact ⟨v, by simp, hty.mp (Or.inr h)⟩
      · obtain ⟨x, hx, hxk⟩ := this.mp (Or.inr h); exact ⟨x, by simp [hx], hxk⟩
    · rintro ⟨x, hx, hxk⟩
      rcases List.mem_cons.mp hx with rfl | hx
      · rcases hty.mpr hxk with h | h
        · exact Or.inl (Or.inl h)
        · exact Or.inr (Or.inl h)
      · rcases this.mpr ⟨x, hx, hxk⟩ with h | h
        · exact Or.inl (Or.inr h)
        · exact Or.inr (Or.inr h)


open Apollo Apollo.Spec
open Apollo.Standalone (Diag)

/-! ### §5.8.4 All Variables Used -/

/-- no `UnusedVariable` iff every variable the operation defines occurs in the operation (its
    directives and selections) or in a fragment the de-duplicated walk `reach` gets to — the walk that
    `used_fragments_iff` (C17) shows to be exactly reachability through spreads. -/
theorem all_variables_used_iff (doc : Standalone.BuiltDoc) (o : Standalone.Op) :
    Standalone.unusedVarDiags doc o = [] ↔ ∀ v ∈ o.vars, v.name ∈ Standalone.usedVars doc o := by
  simp only [Standalone.unusedVarDiags, List.map_eq_nil_iff, List.filter_eq_nil_iff]
  constructor
  · intro h v hv
    have := h v.name (by simp [List.mem_eraseDups]; exact ⟨v, hv, rfl⟩)
    simpa using this
  · intro h n hn
    obtain ⟨v, hv, rfl⟩ : ∃ v ∈ o.vars, v.name = n := by simpa [List.mem_eraseDups] using hn
    simpa using h v hv

/-! ### §5.8.5 All Variable Usages Are Allowed: the top-level position -/

theorem varValueDiags_mem (vars : List RVarDef) (ty : Ty) (kind : TKind) (n : String) (d : TDiag)
    (h : d ∈ varValueDiags vars ty kind n) :
    (d = .nestedVariableType n ∧ (vars.find? (·.name == n)).isSome) ∨ (d = .undefinedVariable n ∧ vars.find? (·.name == n) = none) := by
  unfold varValueDiags at h
  split at h
  · rename_i vd hvd
    split at h
    · simp at h
    · simp at h; exact Or.inl ⟨h, by simp [hvd]⟩
  · rename_i hvd
    simp at h; exact Or.inr ⟨h, hvd⟩

/-- an argument whose value is a variable the operation defines: `DisallowedVariableUsage` iff the
    specification's IsVariableUsageAllowed(variableDefinition, variableUsage) is false (C29
    `usage_allowed_iff` is the rule itself; here the call site) -/
theorem variable_usage_top_level_iff (s : RSchema) (vars : List RVarDef) (d : InDef) (an n : String) (vd : RVarDef)
    (hv : vars.find? (·.name == n) = some vd) :
    .disallowedVariableUsage n ∈ argDiags s vars d { name := an, value := .var n } ↔
      variableUsageAllowed (embed vd.ty) vd.default (embed d.ty) d.hasDefault = false := by
  rw [← C29.usage_allowed_iff]
  simp only [argDiags, usageFails, hv]
  cases h : Model.isVariableUsageAllowed vd.ty vd.default d.ty d.hasDefault with
  | true =>
    simp only [Bool.not_true, Bool.false_eq_true, if_false, Bool.true_eq_false, iff_false]
    intro hm
    unfold valueDiags at hm
    split at hm
    · simp at hm
    · rcases varValueDiags_mem _ _ _ _ _ hm with ⟨h1, _⟩ | ⟨h1, _⟩ <;> cases h1
  | false => simp

/-- a variable the operation does not define, given directly as an argument value whose type is known
    to the schema: exactly one `UndefinedVariable` -/
theorem undefined_variable_top_level (s : RSchema) (vars : List RVarDef) (d : InDef) (an n : String)
    (hv : vars.find? (·.name == n) = none) (k : TKind) (hk : s.kindForValue d.ty.innerNamedType = some k) :
    argDiags s vars d { name := an, value := .var n } = [.undefinedVariable n] := by
  simp only [argDiags, usageFails, hv, Bool.false_eq_true, if_false]
  unfold valueDiags
  simp [hk, varValueDiags, hv]

/-! ### §5.8.3 All Variable Uses Defined: what is reported is per operation -/

def RespectsScope (vars : List RVarDef) : TDiag → Prop
  | .undefinedVariable n => vars.find? (·.name == n) = none
  | .disallowedVariableUsage n => (vars.find? (·.name == n)).isSome
  | .nestedVariableType n => (vars.find? (·.name == n)).isSome
  | _ => True

theorem any_false_iff_find (vars : List RVarDef) (n : String) :
    vars.any (·.name == n) = false ↔ vars.find? (·.name == n) = none := by
  simp only [List.find?_eq_none, Bool.not_eq_true, List.any_eq_false]

/-- what the value walk can report, with what each diagnostic says about the variable's definition: never
    `DisallowedVariableUsage` (that is `validate_variable_usage`, at the top of an argument) -/
inductive ValueDiag (vars : List RVarDef) : TDiag → Prop
  | shape : ValueDiag vars .valueShape
  | undefinedVariable {n : String} : vars.find? (·.name == n) = none → ValueDiag vars (.undefinedVariable n)
  | nestedVariableType {n : String} : (vars.find? (·.name == n)).isSome → ValueDiag vars (.nestedVariableType n)

theorem ValueDiag.scope {vars : List RVarDef} {d : TDiag} : ValueDiag vars d → RespectsScope vars d
  | .shape => trivial
  | .undefinedVariable h => h
  | .nestedVariableType h => h

theorem opaqueVars_range (vars : List RVarDef) : ∀ (k : Nat) (v : RVal), ∀ d ∈ opaqueVars vars k v, ValueDiag vars d := by
  intro k
  induction k with
  | zero => intro v d hd; simp [opaqueVars] at hd
  | succ k ih =>
    intro v d hd
    cases v with
    | var n =>
      simp only [opaqueVars] at hd
      by_cases hany : vars.any (·.name == n) = true
      · simp [hany] at hd
      · have hf : vars.any (·.name == n) = false := by simpa using hany
        simp only [hf, Bool.false_eq_true, if_false, List.mem_singleton] at hd
        subst hd
        exact .undefinedVariable ((any_false_iff_find vars n).mp hf)
    | list xs =>
      simp only [opaqueVars, List.mem_flatMap] at hd
      obtain ⟨x, _, hx⟩ := hd
      exact ih x d hx
    | obj kvs =>
      simp only [opaqueVars, List.mem_flatMap] at hd
      obtain ⟨x, _, hx⟩ := hd
      exact ih x.2 d hx
    | null => simp [opaqueVars] at hd
    | lit => simp [opaqueVars] at hd

theorem valueDiags_range (s : RSchema) (vars : List RVarDef) :
    ∀ (k : Nat) (ty : Ty) (v : RVal), ∀ d ∈ valueDiags s vars k ty v, ValueDiag vars d := by
  intro k
  induction k with
  | zero => intro ty v d hd; simp [valueDiags] at hd
  | succ k ih =>
    intro ty v d hd
    unfold valueDiags at hd
    cases hkind : s.kindForValue ty.innerNamedType with
    | none => simp [hkind] at hd
    | some kind =>
      simp only [hkind] at hd
      cases v with
      | var n =>
        simp only [] at hd
        rcases varValueDiags_mem _ _ _ _ _ hd with ⟨rfl, h2⟩ | ⟨rfl, h2⟩
        · exact .nestedVariableType h2
        · exact .undefinedVariable h2
      | null => simp at hd
      | lit => simp at hd
      | list xs =>
        simp only [] at hd
        by_cases h1 : acceptsList ty kind = true
        · by_cases h0 : ty.isList = true
          · by_cases h2 : kind.isInput = true
            · simp only [h1, h0, h2, Bool.not_true, Bool.false_eq_true, if_false, if_true, List.mem_flatMap] at hd
              obtain ⟨x, _, hx⟩ := hd
              exact ih _ x d hx
            · simp [h1, h0, h2] at hd; subst hd; exact .shape
          · have h0' : ty.isList = false := by simpa using h0
            simp only [h1, h0', Bool.not_true, Bool.not_false, Bool.false_eq_true, if_false, if_true, List.mem_flatMap] at hd
            obtain ⟨x, _, hx⟩ := hd
            exact opaqueVars_range vars k x d hx
        · simp [h1] at hd; subst hd; exact .shape
      | obj kvs =>
        simp only [] at hd
        cases kind with
        | scalar b =>
          cases b with
          | false =>
            simp only [List.mem_flatMap] at hd
            obtain ⟨x, _, hx⟩ := hd
            exact opaqueVars_range vars k x.2 d hx
          | true => simp at hd; subst hd; exact .shape
        | inputObject fields =>
          simp only [List.mem_append, List.mem_flatMap] at hd
          rcases hd with hd | hd
          · unfold keyDiags at hd
            split at hd
            · simp at hd
            · simp only [List.mem_singleton] at hd; subst hd; exact .shape
          · obtain ⟨fd, _, hx⟩ := hd
            split at hx
            · exact ih _ _ d hx
            · simp at hx
        | enum => simp at hd; subst hd; exact .shape
        | object _ => simp at hd; subst hd; exact .shape
        | interface _ => simp at hd; subst hd; exact .shape
        | union _ => simp at hd; subst hd; exact .shape

theorem valueDiags_scope (s : RSchema) (vars : List RVarDef) (k : Nat) (ty : Ty) (v : RVal) :
    ∀ d ∈ valueDiags s vars k ty v, RespectsScope vars d :=
  fun d hd => (valueDiags_range s vars k ty v d hd).scope

theorem dis_not_valueDiags (s : RSchema) (vars : List RVarDef) (n : String) (k : Nat) (ty : Ty) (v : RVal) :
    TDiag.disallowedVariableUsage n ∉ valueDiags s vars k ty v :=
  fun h => nomatch valueDiags_range s vars k ty v _ h

/-- `keyDiags` is silent exactly when the object literal names only fields the input object defines, each once
    (§5.6.2 Input Object Field Names, §5.6.3 Input Object Field Uniqueness) -/
theorem keyDiags_iff (fields : List InDef) (kvs : List (String × RVal)) :
    keyDiags fields kvs = [] ↔ (kvs.map (·.1)).Nodup ∧ ∀ kv ∈ kvs, ∃ fd, fields.find? (·.name == kv.1) = some fd := by
  unfold keyDiags
  have hfind : ∀ kv : String × RVal, (fields.any (·.name == kv.1) = true) ↔ ∃ fd, fields.find? (·.name == kv.1) = some fd := by
    intro kv
    rw [← Option.isSome_iff_exists, List.any_eq_true, List.find?_isSome]
  constructor
  · intro h
    split at h
    · rename_i hc
      simp only [Bool.and_eq_true, decide_eq_true_eq, List.all_eq_true] at hc
      exact ⟨hc.1, fun kv hkv => (hfind kv).mp (hc.2 kv hkv)⟩
    · cases h
  · rintro ⟨h1, h2⟩
    have : (decide ((kvs.map (·.1)).Nodup) && kvs.all (fun kv => fields.any (·.name == kv.1))) = true := by
      simp only [Bool.and_eq_true, decide_eq_true_eq, List.all_eq_true]
      exact ⟨h1, fun kv hkv => (hfind kv).mpr (h2 kv hkv)⟩
    simp [this]

theorem valueDiags_keys (s : RSchema) (vars : List RVarDef) (k : Nat) (ty : Ty) (fields : List InDef) (kvs : List (String × RVal))
    (hk : s.kindForValue ty.innerNamedType = some (.inputObject fields)) (h : valueDiags s vars (k + 1) ty (.obj kvs) = []) :
    (kvs.map (·.1)).Nodup ∧ ∀ kv ∈ kvs, ∃ fd, fields.find? (·.name == kv.1) = some fd := by
  unfold valueDiags at h
  simp only [hk, List.append_eq_nil_iff] at h
  exact (keyDiags_iff fields kvs).mp h.1

theorem argDiags_scope (s : RSchema) (vars : List RVarDef) (df : InDef) (a : RArg) :
    ∀ d ∈ argDiags s vars df a, RespectsScope vars d := by
  intro d hd
  unfold argDiags at hd
  split at hd
  · rename_i n hv
    split at hd
    · rename_i hfail
      simp only [List.mem_singleton] at hd
      subst hd
      simp only [RespectsScope]
      simp only [usageFails] at hfail
      cases hf : vars.find? (·.name == n) with
      | none => simp [hf] at hfail
      | some vd => rfl
    · exact valueDiags_scope s vars _ _ _ d hd
  · exact valueDiags_scope s vars _ _ _ d hd

theorem argsDiags_scope (s : RSchema) (vars : List RVarDef) (defs : List InDef) (args : List RArg) :
    ∀ d ∈ argsDiags s vars defs args, RespectsScope vars d := by
  intro d hd
  simp only [argsDiags, List.mem_flatMap] at hd
  obtain ⟨a, _, ha⟩ := hd
  split at ha
  · exact argDiags_scope s vars _ a d ha
  · simp at ha

theorem dirsDiags_scope (s : RSchema) (vars : List RVarDef) (dirs : List RDir) :
    ∀ d ∈ dirsDiags s vars dirs, RespectsScope vars d := by
  intro d hd
  simp only [dirsDiags, List.mem_flatMap] at hd
  obtain ⟨x, _, hx⟩ := hd
  split at hx
  · exact argsDiags_scope s vars _ _ d hx
  · simp at hx

theorem spreadDiags_scope (s : RSchema) (vars : List RVarDef) (a b : String) : ∀ d ∈ spreadDiags s a b, RespectsScope vars d := by
  intro d hd
  unfold spreadDiags at hd
  split at hd
  · simp at hd
  · split at hd
    · simp at hd
    · split at hd <;> simp at hd
      subst hd; trivial

theorem site_scope (s : RSchema) (vars : List RVarDef) (site : Site) : ∀ d ∈ site.diags s vars, RespectsScope vars d := by
  cases site with
  | dirs dirs => exact dirsDiags_scope s vars dirs
  | args defs args => exact argsDiags_scope s vars defs args
  | spread against tc => exact spreadDiags_scope s vars against tc

/-- §5.8.3, PER OPERATION: every `UndefinedVariable` reported while validating an operation — in its own
    directives and selections and in EVERY fragment definition it reaches — names a variable that THIS
    operation does not define; every `DisallowedVariableUsage` / nested type complaint names one it
    does.  (What a fragment is checked against is the variable definitions of the operation being
    validated, never another operation's: the mechanism the seeded changes C17 / C18b break.) -/
theorem operation_variables_in_scope (s : RSchema) (doc : RBuilt) (o : ROp) :
    ∀ d ∈ dirsDiags s o.vars o.dirs ++
        (walkSels s doc o.vars (enterFrag s doc o.vars doc.frags.length) (s.root o.ty) o.sels []).1,
      RespectsScope o.vars d := by
  intro d hd
  rcases List.mem_append.mp hd with h | h
  · exact dirsDiags_scope s o.vars _ d h
  · obtain ⟨site, _, hs⟩ := walk_diag_reaches s doc o.vars _ _ _ _ d h
    exact site_scope s o.vars site d hs

/-! ### the known finding `nested-position`: inside a list or an input object only the NAMED type of a
variable is compared -/

/-- a defined variable inside a list literal / input-object literal is accepted iff its named type is
    the position's named type (and that type is an input type) — nullability and list wrappers are not
    compared -/
theorem nested_variable_named_type_only (vars : List RVarDef) (ty : Ty) (kind : TKind) (n : String) (vd : RVarDef)
    (hv : vars.find? (·.name == n) = some vd) :
    varValueDiags vars ty kind n = [] ↔ (kind.isInput = true ∧ vd.ty.innerNamedType = ty.innerNamedType) := by
  simp only [varValueDiags, hv]
  split <;> simp_all

/-! ### §5.5.2.3 Fragment spread is possible -/

/-- GetPossibleTypes: an object type is its own only possible type; an interface's possible types are
    the object types that declare it; a union's, its members -/
theorem possible_types_spec (s : RSchema) (t : TypeInfo) (h : s.typeInfo? t.name = some t) :
    s.possibleTypes t.name =
      (match t.kind with
       | .object _ => [t.name]
       | .interface _ => (s.types.filter fun o => match o.kind with | .object is => is.contains t.name | _ => false).map (·.name)
       | .union ms => ms
       | _ => []) := by
  obtain ⟨name, kind, fields⟩ := t
  simp only [RSchema.possibleTypes] at *
  rw [h]
  cases kind <;> simp only []
  -- interface: filterMap = filter + map
  induction s.types with
  | nil => rfl
  | cons x xs ih =>
    simp only [List.filterMap_cons, List.filter_cons]
    cases hk : x.kind with
    | object is =>
      simp only [hk]
      by_cases hc : is.contains name = true
      · simp only [hc, if_true, List.map_cons]; rw [ih]
      · simp only [hc, Bool.false_eq_true, if_false]; exact ih
    | scalar _ => simp only [hk, Bool.false_eq_true, if_false]; exact ih
    | enum => simp only [hk, Bool.false_eq_true, if_false]; exact ih
    | inputObject _ => simp only [hk, Bool.false_eq_true, if_false]; exact ih
    | interface _ => simp only [hk, Bool.false_eq_true, if_false]; exact ih
    | union _ => simp only [hk, Bool.false_eq_true, if_false]; exact ih

/-- §5.5.2.3: for a spread (named or inline) whose type condition and parent type are both defined and
    different, no `InvalidFragmentSpread` iff the two types have a possible type in common.  (A type
    condition equal to the parent type is always accepted — deliberate, as in the other
    implementations; an undefined type is reported by the type-existence rules.) -/
theorem fragment_spread_possible_iff (s : RSchema) (against tc : String) (hne : tc ≠ against)
    (h1 : (s.typeInfo? tc).isSome) (h2 : (s.typeInfo? against).isSome) :
    spreadDiags s against tc = [] ↔ ∃ t, t ∈ s.possibleTypes against ∧ t ∈ s.possibleTypes tc := by
  have e1 : (tc == against) = false := by simpa using hne
  have e2 : (s.typeInfo? tc).isNone = false := by cases h : s.typeInfo? tc <;> simp_all
  have e3 : (s.typeInfo? against).isNone = false := by cases h : s.typeInfo? against <;> simp_all
  simp only [spreadDiags, e1, e2, e3, Bool.false_eq_true, if_false, Bool.or_self]
  split
  · rename_i hany
    simp only [true_iff]
    obtain ⟨t, ht, hc⟩ := List.any_eq_true.mp hany
    exact ⟨t, ht, by simpa using hc⟩
  · rename_i hany
    simp only [List.cons_ne_nil, false_iff]
    rintro ⟨t, h1, h2⟩
    exact hany (List.any_eq_true.mpr ⟨t, h1, by simpa using h2⟩)


end Apollo.ExecRules
