import ApolloModel.Proofs.ParserRecursion8
/-
C04, recursion limit across runs: the two-run relation as a calculus: `XG` (cross-run property and single-run bounds together) is compositional, and
`XB c` is the same for a program that is entered with a current token satisfying `c`: the recursion guard needs a
token to report the limit error at, and gets it from the `peek` or `bump` in front of it.  With these, `value.rs`.
-/
set_option linter.unusedSimpArgs false
set_option linter.unusedVariables false
namespace Apollo.Parse
open Apollo.Rowan hiding Str
open Apollo.Lex hiding Str
open TokenCalc (branch)

/-! ### what the token primitives leave as the current token -/

theorem post_trivial {α : Type} (c : Option Tok → Prop) (m : PI α) : PostC c m (fun _ _ => True) :=
  fun _ _ _ _ _ _ => trivial

theorem post_peek (c : Option Tok → Prop) : PostC c peek (fun k cur => cur.map (·.kind) = k) := by
  intro s k s' _ _ h
  obtain ⟨o, s1, h1, h2⟩ := bind_dec peekToken _ s s' k h
  rw [run_pure] at h2
  injection h2 with h2 h3
  subst h3 h2
  unfold peekToken at h1
  simp only [] at h1
  cases hc : s.current with
  | some t => simp only [hc, Res.ok.injEq] at h1; obtain ⟨rfl, rfl⟩ := h1; rw [hc]
  | none => simp only [hc, Res.ok.injEq] at h1; obtain ⟨rfl, rfl⟩ := h1; rfl

theorem post_getCurrent (c : Option Tok → Prop) : PostC c getCurrent (fun _ cur => c cur) := by
  intro s a s' _ hc h
  unfold getCurrent at h
  simp only [] at h
  injection h with _ h
  subst h
  exact hc

theorem skipIgnoredLoop_some : ∀ (fuel : Nat) (s s' : PState), GI s → (s.current = none → s.lx.finished = false) →
    (skipIgnoredLoop fuel).run s = .ok () s' → s'.current.isSome = true
  | 0, s, s', _, _, h => by simp [skipIgnoredLoop, PI.outOfFuel] at h
  | fuel + 1, s, s', g, hnf, h => by
    unfold skipIgnoredLoop at h
    obtain ⟨o, s1, h1, h2⟩ := bind_dec peekToken _ s s' () h
    have g1 := (plain_peekToken.out s o s1 h1).gi g
    have hc1 : s1.current.isSome = true := by
      unfold peekToken at h1
      simp only [] at h1
      cases hc : s.current with
      | some t => simp only [hc, Res.ok.injEq] at h1; obtain ⟨_, rfl⟩ := h1; rw [hc]; rfl
      | none =>
        simp only [hc, Res.ok.injEq] at h1
        obtain ⟨_, rfl⟩ := h1
        obtain ⟨t, ht⟩ := nextTokenRaw_some (s.lx.src.length + 3) s g.lim (hnf hc) (by omega)
        simp only []
        unfold nextToken
        rw [ht]; rfl
    obtain ⟨b, s2, h3, h4⟩ := bind_dec moveCurToPending _ s1 s' () h2
    unfold moveCurToPending at h3
    simp only [] at h3
    cases hc : s1.current with
    | none => rw [hc] at hc1; cases hc1
    | some t =>
      simp only [hc] at h3
      by_cases hi : isIgnoredKind t.kind = true
      · simp only [hi, if_true] at h3
        injection h3 with hb hs2
        subst hb hs2
        replace h4 : (skipIgnoredLoop fuel).run { s1 with current := none, pending := s1.pending ++ [.ignored t] } = .ok () s' := h4
        have hfin : s1.lx.finished = false := by
          cases hf : s1.lx.finished with
          | false => rfl
          | true =>
            have := g1.nf hf t hc
            rw [this] at hi
            simp [isIgnoredKind] at hi
        exact skipIgnoredLoop_some fuel { s1 with current := none, pending := s1.pending ++ [.ignored t] } s' ⟨g1.lim, g1.acc, fun _ t' ht' => by cases ht'⟩ (fun _ => hfin) h4
      · simp only [hi, if_false] at h3
        injection h3 with hb hs2
        subst hb hs2
        replace h4 : (pure () : PI Unit).run s1 = .ok () s' := h4
        rw [run_pure] at h4
        injection h4 with _ h4
        subst h4
        exact hc1

theorem post_bump (kind : SK) (k : Kind) (hk : k ≠ .eof) :
    PostC (fun cur => cur.map (·.kind) = some k) (bump kind) (fun _ cur => cur.isSome = true) := by
  intro s a s' g hk' h
  obtain ⟨t, hc, hne⟩ : ∃ t, s.current = some t ∧ t.kind ≠ .eof := by
    cases hcur : s.current with
    | none => rw [hcur] at hk'; cases hk'
    | some t =>
      rw [hcur] at hk'
      simp only [Option.map_some, Option.some.injEq] at hk'
      exact ⟨t, rfl, by rw [hk']; exact hk⟩
  unfold bump at h
  obtain ⟨_, s1, h1, h2⟩ := bind_dec (eat kind) _ s s' () h
  have g1 := ((plainTok.eat kind).out s () s1 h1).gi g
  -- after `eat` there is no current token and the lexer is where it was
  have hs1 : s1.current = none ∧ s1.lx = s.lx := by
    unfold eat at h1
    obtain ⟨_, sa, ha, hb⟩ := bind_dec pushIgnored _ s s1 () h1
    have oa := pushIgnored_same s sa ha
    obtain ⟨o, sb, hb1, hb2⟩ := bind_dec peekToken _ sa s1 () hb
    unfold peekToken at hb1
    simp only [oa.current, hc, Res.ok.injEq] at hb1
    obtain ⟨_, rfl⟩ := hb1
    unfold moveCurToTree at hb2
    simp only [oa.current, hc] at hb2
    injection hb2 with _ hb2
    subst hb2
    exact ⟨rfl, oa.lx⟩
  have hfin : s.lx.finished = false := by
    cases hf : s.lx.finished with
    | false => rfl
    | true => exact absurd (g.nf hf t hc) hne
  unfold skipIgnored at h2
  obtain ⟨n, s2, h3, h4⟩ := bind_dec srcLen _ s1 s' () h2
  have : s2 = s1 := by
    unfold srcLen at h3
    simp only [] at h3
    injection h3 with _ h3
    exact h3.symm
  subst this
  exact skipIgnoredLoop_some _ s2 s' g1 (fun _ => by rw [hs1.2]; exact hfin) h4

theorem limitErrPure_records {α : Type} (x : α) (s : PState) (a : α) (s' : PState) (g : GI s) (hc : s.current.isSome = true)
    (h : (limitErr >>= fun _ => (pure x : PI α)).run s = .ok a s') : HasLim s'.errors := by
  obtain ⟨_, s1, h1, h2⟩ := bind_dec limitErr _ s s' a h
  rw [run_pure] at h2
  injection h2 with _ h2
  subst h2
  exact limitErr_records s s1 g hc h1

/-! ### the calculus -/

structure XG {α : Type} (m : PI α) : Prop where
  x : XC anyTok m
  b : BG m

structure XB {α : Type} (c : Option Tok → Prop) (m : PI α) : Prop where
  x : XC c m
  b : BG m

theorem XG.xb {α : Type} {c : Option Tok → Prop} {m : PI α} (h : XG m) : XB c m := ⟨xc_weaken h.x, h.b⟩

theorem XB.xg {α : Type} {m : PI α} (h : XB anyTok m) : XG m := ⟨h.x, h.b⟩

theorem XB.of_plain {α : Type} {c : Option Tok → Prop} {m : PI α} (h : Plain m) : XB c m :=
  ⟨xc_of_plain h, bg_of_plain h⟩

theorem xg_of_plain {α : Type} {m : PI α} (h : Plain m) : XG m := (XB.of_plain h).xg

theorem XB.mono {α : Type} {c c' : Option Tok → Prop} {m : PI α} (h : XB c m) (hc : ∀ o, c' o → c o) : XB c' m :=
  ⟨fun s r R ar aR sr sR h1 h2 h3 g hcs => h.x s r R ar aR sr sR h1 h2 h3 g (hc _ hcs), h.b⟩

theorem XB.bind {α β : Type} {c : Option Tok → Prop} {c' : α → Option Tok → Prop} (m : PI α) (f : α → PI β)
    (hm : XB c m) (pm : PostC c m c') (hf : ∀ a, XB (c' a) (f a)) : XB c (m >>= f) :=
  ⟨xc_bind m f hm.x hm.b pm (fun a => (hf a).x) (fun a => (hf a).b), bg_bind _ _ hm.b fun a => (hf a).b⟩

theorem XB.branch {α : Type} {c : Option Tok → Prop} (p : Prop) [Decidable p] (x y : PI α)
    (hx : p → XB c x) (hy : ¬p → XB c y) : XB c (if p then x else y) := by
  split
  · exact hx ‹_›
  · exact hy ‹_›

theorem XB.withNode {α : Type} {c c' : Option Tok → Prop} (kind : SK) (body : PI α)
    (ps : PostC c skipIgnored (fun _ => c')) (hb : XB c' body) : XB c (withNode kind body) :=
  have h := XB.bind _ _ (XB.of_plain plainTok.skipIgnored) ps fun _ => hb
  ⟨xc_withNode _ _ h.x, bg_withNode _ _ hb.b⟩

theorem XB.withRec {α : Type} (onLimit body : PI α) (hl : Plain onLimit)
    (hrec : ∀ s a s', GI s → s.current.isSome = true → onLimit.run s = .ok a s' → HasLim s'.errors)
    (hb : XG body) : XB someTok (withRec onLimit body) :=
  ⟨xc_withRec _ _ hl hrec (xc_weaken hb.x) hb.b, bg_withRec _ _ hl hb.b⟩

/-- the two forms of the guard the grammar uses -/
theorem XB.guard {α : Type} (a : α) (body : PI α) (hb : XG body) :
    XB someTok (Parse.withRec (limitErr >>= fun _ => pure a) body) :=
  XB.withRec _ _ (plain_bind _ _ plain_limitErr fun _ => plain_pure a)
    (fun s a' s' g hc h => limitErrPure_records a s a' s' g hc h) hb

theorem XB.guardUnit (body : PI Unit) (hb : XG body) : XB someTok (Parse.withRec limitErr body) :=
  XB.withRec _ _ plain_limitErr (fun s _ s' g hc h => limitErr_records s s' g hc h) hb

theorem xg_bind {α β : Type} (m : PI α) (f : α → PI β) (hm : XG m) (hf : ∀ a, XG (f a)) : XG (m >>= f) :=
  (XB.bind _ _ hm.xb (post_trivial _ _) fun a => (hf a).xb).xg

theorem xg_withNode {α : Type} (kind : SK) (body : PI α) (hb : XG body) : XG (withNode kind body) :=
  (XB.withNode kind body (post_trivial _ _) hb.xb).xg

theorem xgCalc : GrammarCalc @XG where
  toTokenCalc := plainTok.mono xg_of_plain xg_bind
  withNode := fun kind body _ _ hb => xg_withNode kind body hb
  name := xg_of_plain plainCalc.name

/-- `peek_while` whose body contains a guard: the body runs only after `peek` has found a token -/
theorem xg_peekWhileLoop (body : Kind → PI Bool) (hb : ∀ k, XB someTok (body k)) : ∀ fuel, XG (peekWhileLoop body fuel)
  | 0 => xgCalc.outOfFuel
  | fuel + 1 => by
    rw [peekWhileLoop]
    refine (XB.bind _ _ (XB.of_plain plainTok.peek) (post_peek _) fun k => ?_).xg
    cases k with
    | none => exact XB.of_plain (plain_pure _)
    | some kind =>
      refine XB.bind _ _ (XB.of_plain plain_getCurrent) (post_getCurrent _) fun _ => ?_
      refine XB.bind _ _ ((hb kind).mono fun o ho => ?_) (post_trivial _ _) fun c => XG.xb ?_
      · cases o with
        | none => cases ho
        | some t => rfl
      · exact branch _ _ _ (xgCalc.bind _ _ xgCalc.getCurrent fun _ =>
          branch _ _ _ xgCalc.stuck (xg_peekWhileLoop body hb fuel)) (xgCalc.pure _)

/-! ### value.rs -/

theorem xg_listValue_succ (n : Nat) (c : Bool) (hv : XG (value n c true)) : XG (listValue (n + 1) c) := by
  rw [listValue]
  refine xg_withNode _ _ <| xgCalc.bind _ _ (xgCalc.bump _) fun _ =>
    xgCalc.bind _ _ xgCalc.srcLen fun _ => xg_peekWhileLoop _ (fun k => ?_) _
  exact XB.branch _ _ _ (fun _ => XB.of_plain (plainTok.bind _ _ (plainTok.bump _) fun _ => plain_pure _)) fun _ =>
    XB.branch _ _ _ (fun _ => XB.of_plain (plain_pure _)) fun _ =>
      XB.guard _ _ (xgCalc.bind _ _ hv fun _ => xgCalc.pure _)

/-- after `peek` saw the colon, `bump` leaves a current token for the guard of the field value -/
theorem xg_objectField_succ (n : Nat) (c : Bool) (hv : XG (value n c true)) : XG (objectField (n + 1) c) := by
  rw [objectField]
  refine xg_withNode _ _ <| xgCalc.bind _ _ xgCalc.name fun _ =>
    (XB.bind _ _ (XB.of_plain plainTok.peek) (post_peek _) fun k => ?_).xg
  refine XB.branch _ _ _ (fun hk => ?_) fun _ => XB.of_plain plainTok.err
  have hk : k = some .colon := by simpa using hk
  subst hk
  exact XB.bind _ _ (XB.of_plain (plainTok.bump _)) (post_bump _ _ (by decide)) fun _ => XB.guardUnit _ hv

theorem xg_values (n : Nat) : (∀ c p, XG (value n c p)) ∧ (∀ c, XG (listValue n c)) ∧ (∀ c, XG (objectValue n c)) ∧
    (∀ c, XG (objectField n c)) :=
  xgCalc.values xg_listValue_succ xg_objectField_succ n

theorem xg_value (n : Nat) (c p : Bool) : XG (value n c p) := (xg_values n).1 c p

/-- value.rs, a run with recursion limit `r` against the same run with a limit `R` that is never hit:
    the limited run's high-water mark is `min (unlimited high-water mark) (r + 1)`, and it has a limit
    error on record exactly when the unlimited run went deeper than `r` or has one on record itself. -/
theorem value_cross (n : Nat) (c p : Bool) (s : PState) (r R : Nat) (sr sR : PState)
    (hrR : r ≤ R) (hc : s.recCur ≤ r) (hh : s.recHigh ≤ r) (g : GI s)
    (hr : (value n c p).run (setL r s) = .ok () sr) (hR : (value n c p).run (setL R s) = .ok () sR)
    (hfree : sR.recHigh ≤ R) :
    sr.recHigh = min sR.recHigh (r + 1) ∧ (HasLim sr.errors ↔ (sR.recHigh > r ∨ HasLim sR.errors)) := by
  exact cross_outcome ((xg_value n c p).x s r R () () sr sR hrR hc hh g trivial hr hR)

end Apollo.Parse
