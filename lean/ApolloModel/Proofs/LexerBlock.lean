import ApolloModel.Proofs.LexerTokens
/-
C03: block strings.  The six block-string states of the DFA against `Spec.Lexical.BlockBody`
(BlockStringCharacter* then the closing `"""`, the closing delimiter being the FIRST unescaped `"""`), in the
lexer's exact language (any character counts as SourceCharacter), both directions.
-/
set_option linter.unusedSimpArgs false
namespace Apollo.Lex
open Apollo.Spec.Lexical (BlockBody IsBlockString)

abbrev BB : Str → Prop := BlockBody anyChar

/-! ### inversion of `BlockBody` by the first character -/

theorem bb_nil : ¬ BB [] := by intro h; cases h

theorem bb_other {c : Char} {l : Str} (h1 : c ≠ '"') (h2 : c ≠ '\\') : BB (c :: l) ↔ BB l := by
  constructor
  · intro h
    cases h with
    | close => exact absurd rfl h1
    | escapedQuotes _ => exact absurd rfl h2
    | plain _ _ _ hr => exact hr
  · intro h
    refine BlockBody.plain rfl ?_ ?_ h
    · intro e; cases l with
      | nil => simp at e
      | cons a r => cases r <;> simp at e <;> exact h1 e.1
    · intro e; cases l with
      | nil => simp at e
      | cons a r => cases r with
        | nil => simp at e
        | cons b r2 => cases r2 <;> simp at e <;> exact h2 e.1

theorem bb_quote {l : Str} : BB ('"' :: l) ↔ (l = ['"', '"'] ∨ (l.take 2 ≠ ['"', '"'] ∧ BB l)) := by
  constructor
  · intro h
    cases h with
    | close => exact Or.inl rfl
    | plain _ h3 _ hr =>
      refine Or.inr ⟨?_, hr⟩
      intro e
      apply h3
      cases l with
      | nil => simp at e
      | cons a r => cases r with
        | nil => simp at e
        | cons b r2 => simp at e ⊢; exact e
  · rintro (rfl | ⟨h3, hr⟩)
    · exact BlockBody.close
    · refine BlockBody.plain rfl ?_ ?_ hr
      · intro e
        apply h3
        cases l with
        | nil => simp at e
        | cons a r => cases r with
          | nil => simp at e
          | cons b r2 => simp at e ⊢; exact e
      · intro e
        cases l with
        | nil => simp at e
        | cons a r => cases r with
          | nil => simp at e
          | cons b r2 => cases r2 <;> simp at e

theorem bb_backslash {l : Str} : BB ('\\' :: l) ↔ ((∃ r, l = q3 ++ r ∧ BB r) ∨ (l.take 3 ≠ q3 ∧ BB l)) := by
  constructor
  · intro h
    cases h with
    | escapedQuotes hr => exact Or.inl ⟨_, rfl, hr⟩
    | plain _ _ h4 hr =>
      refine Or.inr ⟨?_, hr⟩
      intro e
      apply h4
      cases l with
      | nil => simp [q3] at e
      | cons a r => cases r with
        | nil => simp [q3] at e
        | cons b r2 => cases r2 with
          | nil => simp [q3] at e
          | cons d r3 => simp [q3] at e ⊢; exact e
  · rintro (⟨r, rfl, hr⟩ | ⟨h4, hr⟩)
    · exact BlockBody.escapedQuotes hr
    · refine BlockBody.plain rfl ?_ ?_ hr
      · intro e
        cases l with
        | nil => simp at e
        | cons a r => cases r <;> simp at e
      · intro e
        apply h4
        cases l with
        | nil => simp at e
        | cons a r => cases r with
          | nil => simp at e
          | cons b r2 => cases r2 with
            | nil => simp at e
            | cons d r3 => simp [q3] at e ⊢; exact e

/-! ### the pending part of a partial match, per state -/

/-- the characters consumed since the last complete BlockStringCharacter -/
def pend : State → Str
  | .blockQuote1 => ['"']
  | .blockQuote2 => ['"', '"']
  | .blockStringLiteralBackslash => ['\\']
  | .blockBackslashQuote1 => ['\\', '"']
  | .blockBackslashQuote2 => ['\\', '"', '"']
  | _ => []

theorem bb_pend (st : State) (h : isBlockState st = true) : ¬ BB (pend st) := by
  cases st <;> simp [isBlockState] at h <;> simp only [pend]
  · exact bb_nil
  · intro hb; rcases bb_quote.mp hb with e | ⟨_, e⟩
    · cases e
    · exact bb_nil e
  · intro hb; rcases bb_quote.mp hb with e | ⟨_, e⟩
    · cases e
    · rcases bb_quote.mp e with e | ⟨_, e⟩
      · cases e
      · exact bb_nil e
  · intro hb; rcases bb_backslash.mp hb with ⟨r, e, _⟩ | ⟨_, e⟩
    · simp [q3] at e
    · exact bb_nil e
  · intro hb; rcases bb_backslash.mp hb with ⟨r, e, _⟩ | ⟨_, e⟩
    · simp [q3] at e
    · rcases bb_quote.mp e with e | ⟨_, e⟩
      · cases e
      · exact bb_nil e
  · intro hb; rcases bb_backslash.mp hb with ⟨r, e, _⟩ | ⟨_, e⟩
    · simp [q3] at e
    · rcases bb_quote.mp e with e | ⟨_, e⟩
      · cases e
      · rcases bb_quote.mp e with e | ⟨_, e⟩
        · cases e
        · exact bb_nil e

/-- one transition of the block-string states: either the token ends here (`none`), or the next state -/
def blockNext (st : State) (c : Char) : Option State :=
  if c = '"' then
    match st with
    | .blockStringLiteral => some .blockQuote1
    | .blockQuote1 => some .blockQuote2
    | .blockQuote2 => none
    | .blockStringLiteralBackslash => some .blockBackslashQuote1
    | .blockBackslashQuote1 => some .blockBackslashQuote2
    | _ => some .blockStringLiteral
  else if c = '\\' then some .blockStringLiteralBackslash
  else some .blockStringLiteral

theorem step_blockNext (st : State) (acc : Str) (c : Char) (h : isBlockState st = true) :
    step st .stringValue false acc c =
      match blockNext st c with
      | some st' => .goto st' .stringValue false
      | none => .incl (.tok .stringValue) := by
  by_cases h1 : c = '"'
  · subst h1
    cases st <;> simp [isBlockState] at h <;> simp [step, blockStep, blockNext, done]
  · by_cases h2 : c = '\\'
    · subst h2
      cases st <;> simp [isBlockState] at h <;> simp [step, blockStep, blockNext]
    · cases st <;> simp [isBlockState] at h <;> simp [step, blockStep, blockNext, h1, h2]

theorem blockNext_block (st st' : State) (c : Char) (h : blockNext st c = some st') : isBlockState st' = true := by
  unfold blockNext at h
  split at h
  · cases st <;> simp at h <;> subst h <;> rfl
  · split at h <;> simp at h <;> subst h <;> rfl

theorem bb_step (st : State) (c : Char) (b : Str) (h : isBlockState st = true) :
    BB (pend st ++ c :: b) ↔
      match blockNext st c with
      | some st' => BB (pend st' ++ b)
      | none => b = [] := by
  have hq1 : ∀ l : Str, BB ('"' :: '\\' :: l) ↔ BB ('\\' :: l) := fun l => by
    rw [bb_quote]; constructor
    · rintro (e | ⟨_, e⟩); cases e; exact e
    · intro e; exact Or.inr ⟨by simp, e⟩
  have hq1o : ∀ (x : Char) (l : Str), x ≠ '"' → x ≠ '\\' → (BB ('"' :: x :: l) ↔ BB l) := fun x l hx1 hx2 => by
    rw [bb_quote, bb_other hx1 hx2]; constructor
    · rintro (e | ⟨_, e⟩)
      · injection e with e _; exact absurd e hx1
      · exact e
    · intro e; exact Or.inr ⟨by simp [hx1], e⟩
  have hq2 : ∀ l : Str, BB ('"' :: '"' :: '\\' :: l) ↔ BB ('\\' :: l) := fun l => by
    rw [bb_quote, hq1]; constructor
    · rintro (e | ⟨_, e⟩); cases e; exact e
    · intro e; exact Or.inr ⟨by simp, e⟩
  have hq2o : ∀ (x : Char) (l : Str), x ≠ '"' → x ≠ '\\' → (BB ('"' :: '"' :: x :: l) ↔ BB l) := fun x l hx1 hx2 => by
    rw [bb_quote, hq1o x l hx1 hx2]; constructor
    · rintro (e | ⟨_, e⟩)
      · simp at e; exact absurd e.1 hx1
      · exact e
    · intro e; exact Or.inr ⟨by simp [hx1], e⟩
  by_cases h1 : c = '"'
  · subst h1
    cases st <;> simp [isBlockState] at h <;> simp only [pend, blockNext, if_true, List.cons_append, List.nil_append]
    · -- blockQuote2: the closing delimiter
      rw [bb_quote]; constructor
      · rintro (e | ⟨e, _⟩)
        · simpa using e
        · simp at e
      · intro e; subst e; exact Or.inl rfl
    · -- blockBackslashQuote2: `\"""`
      rw [bb_backslash]; constructor
      · rintro (⟨r, e, hr⟩ | ⟨e, _⟩)
        · simp [q3] at e; subst e; exact hr
        · simp [q3] at e
      · intro e; exact Or.inl ⟨b, rfl, e⟩
  · by_cases h2 : c = '\\'
    · subst h2
      cases st <;> simp [isBlockState] at h <;>
        simp only [pend, blockNext, h1, if_false, if_true, List.cons_append, List.nil_append]
      · exact hq1 b
      · exact hq2 b
      · rw [bb_backslash]; constructor
        · rintro (⟨r, e, _⟩ | ⟨_, e⟩)
          · simp [q3] at e
          · exact e
        · intro e; exact Or.inr ⟨by simp [q3], e⟩
      · rw [bb_backslash, hq1]; constructor
        · rintro (⟨r, e, _⟩ | ⟨_, e⟩)
          · simp [q3] at e
          · exact e
        · intro e; exact Or.inr ⟨by simp [q3], e⟩
      · rw [bb_backslash, hq2]; constructor
        · rintro (⟨r, e, _⟩ | ⟨_, e⟩)
          · simp [q3] at e
          · exact e
        · intro e; exact Or.inr ⟨by simp [q3], e⟩
    · cases st <;> simp [isBlockState] at h <;>
        simp only [pend, blockNext, h1, h2, if_false, List.cons_append, List.nil_append]
      · exact bb_other h1 h2
      · exact hq1o c b h1 h2
      · exact hq2o c b h1 h2
      · rw [bb_backslash, bb_other h1 h2]; constructor
        · rintro (⟨r, e, _⟩ | ⟨_, e⟩)
          · simp [q3] at e; exact absurd e.1 h1
          · exact e
        · intro e; exact Or.inr ⟨by simp [q3, h1], e⟩
      · rw [bb_backslash, hq1o c b h1 h2]; constructor
        · rintro (⟨r, e, _⟩ | ⟨_, e⟩)
          · simp [q3] at e; exact absurd e.1 h1
          · exact e
        · intro e; exact Or.inr ⟨by simp [q3, h1], e⟩
      · rw [bb_backslash, hq2o c b h1 h2]; constructor
        · rintro (⟨r, e, _⟩ | ⟨_, e⟩)
          · simp [q3] at e; exact absurd e.1 h1
          · exact e
        · intro e; exact Or.inr ⟨by simp [q3, h1], e⟩

/-- **the block-string states, both directions**: from a block state with `acc` consumed, the DFA emits the token
    `t` leaving `rest` exactly when the input is `body ++ rest`, `t = acc ++ body`, and the pending part followed by
    `body` is BlockStringCharacter* `"""` -/
theorem block_run : ∀ (src : Str) (st : State) (acc : Str), isBlockState st = true → ∀ (k : Kind) (t rest : Str),
    (runD st .stringValue false acc src = (.tok k t, rest) ↔
      k = .stringValue ∧ ∃ body, src = body ++ rest ∧ t = acc ++ body ∧ BB (pend st ++ body))
  | [], st, acc, h, k, t, rest => by
    constructor
    · intro hr
      cases st <;> simp [isBlockState] at h <;> simp [runD, eofItem] at hr
    · rintro ⟨_, body, e, _, hb⟩
      have : body = [] := by
        cases body with
        | nil => rfl
        | cons a r => simp at e
      subst this
      exact absurd (by simpa using hb) (bb_pend st h)
  | c :: src, st, acc, h, k, t, rest => by
    unfold runD
    rw [step_blockNext st acc c h]
    have hstep := bb_step st c
    cases hn : blockNext st c with
    | some st' =>
      simp only [hn] at hstep ⊢
      have hb' := blockNext_block st st' c hn
      rw [block_run src st' (acc ++ [c]) hb' k t rest]
      constructor
      · rintro ⟨hk, body, rfl, rfl, hb⟩
        exact ⟨hk, c :: body, rfl, by simp, (hstep body h).mpr hb⟩
      · rintro ⟨hk, body, e, rfl, hb⟩
        cases body with
        | nil => exact absurd (by simpa using hb) (bb_pend st h)
        | cons a body' =>
          simp only [List.cons_append, List.cons.injEq] at e
          obtain ⟨rfl, rfl⟩ := e
          exact ⟨hk, body', rfl, by simp, (hstep body' h).mp hb⟩
    | none =>
      simp only [hn] at hstep ⊢
      simp only [Out.mk, Prod.mk.injEq, Item.tok.injEq]
      constructor
      · rintro ⟨⟨rfl, rfl⟩, rfl⟩
        exact ⟨rfl, [c], rfl, rfl, (hstep [] h).mpr rfl⟩
      · rintro ⟨rfl, body, e, rfl, hb⟩
        cases body with
        | nil => exact absurd (by simpa using hb) (bb_pend st h)
        | cons a body' =>
          simp only [List.cons_append, List.cons.injEq] at e
          obtain ⟨rfl, rfl⟩ := e
          have := (hstep body' h).mp hb
          subst this
          exact ⟨⟨rfl, rfl⟩, rfl⟩

theorem advance_q3 (r : Str) : advance (q3 ++ r) = runD .blockStringLiteral .stringValue false q3 r := by
  simp [advance, runD, step, punctuationKind, isNameStart, isAsciiDigit, q3]

/-- a StringValue token that starts with `"""` is emitted, leaving `rest`, exactly when the
    source is `t ++ rest` with `t` a block string of the grammar (`"""` BlockStringCharacter* `"""`, the closing delimiter
    being the first unescaped `"""`; any character counts as SourceCharacter) -/
theorem lex_block_string_iff (src t rest : Str) :
    (advance src = (.tok .stringValue t, rest) ∧ ∃ tail, t = q3 ++ tail) ↔ (src = t ++ rest ∧ IsBlockString anyChar t) := by
  constructor
  · rintro ⟨h, tail, rfl⟩
    have hc := advance_concat src
    rw [h] at hc
    simp only [Item.data] at hc
    have hsrc : src = q3 ++ (tail ++ rest) := by rw [← hc]; simp
    rw [hsrc, advance_q3] at h
    obtain ⟨_, body, hb1, hb2, hb⟩ := (block_run _ _ q3 rfl _ _ _).mp h
    have : tail = body := by simpa using hb2
    subst this
    exact ⟨by rw [hsrc]; simp, tail, rfl, by simpa [pend] using hb⟩
  · rintro ⟨rfl, r, rfl, hb⟩
    refine ⟨?_, r, rfl⟩
    have : ('"' :: '"' :: '"' :: r) ++ rest = q3 ++ (r ++ rest) := by simp [q3]
    rw [this, advance_q3]
    exact (block_run _ _ q3 rfl _ _ _).mpr ⟨rfl, r, rfl, rfl, by simpa [pend] using hb⟩

theorem lex_block_string_error (r : Str) (hno : ¬ ∃ body rest, r = body ++ rest ∧ BB body) :
    (advance (q3 ++ r)).1.isErr = true := by
  cases hadv : advance (q3 ++ r) with
  | mk item rest =>
    cases item with
    | err d => rfl
    | limit => rfl
    | tok k t =>
      exfalso
      rw [advance_q3] at hadv
      obtain ⟨_, body, hb1, _, hb⟩ := (block_run _ _ q3 rfl _ _ _).mp hadv
      exact hno ⟨body, rest, hb1, by simpa [pend] using hb⟩

end Apollo.Lex
