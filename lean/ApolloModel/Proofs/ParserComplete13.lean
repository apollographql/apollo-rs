import ApolloModel.Proofs.ParserComplete10
import ApolloModel.Proofs.LexerNumbers
/-
C05 / C07 (completeness): type references in the `Cmp` calculus (the completeness induction of ParserType8
with the budget in the form `tyDepth t ≤ recLimit − recCur`, so that a type without list brackets needs no budget),
`( item+ )` lists, the languages of variable, operation and fragment definitions under the over-charging depth,
and a lexer fact needed by the document dispatch — a token of kind `{` has the text `{` (`select_definition`
looks at the TEXT of the token, `p.peek_data() == "{"`), proved for the lexer model and transported to the
parser's token queue of every source text.
-/
set_option linter.unusedSimpArgs false
namespace Apollo.Parse
open Apollo.Rowan hiding Str
open Apollo.Lex hiding Str

def TyCompB (n : Nat) : Prop :=
  ∀ s s' r t c q0 rest, TW s → (tyParse n).run s = .ok r s' → Spell t c → Toks s = c ++ q0 :: rest → Sigf q0 →
    NoBangAfter t q0 → tyDepth t ≤ s.recLimit - s.recCur →
    r = TyRes.ok ∧ Eat s s' c ∧ Toks s' = q0 :: rest ∧ s'.current = some q0

theorem tyBody_compB (n : Nat) (ih : TyCompB n) (s s' : PState) (r : TyRes) (u : Ast.Ty) (cb : List Tok) (q : Tok)
    (rest : List Tok) (w : TW s) (h : (tyBody n).run s = .ok r s') (hsb : SpellB u cb)
    (ht : Toks s = cb ++ q :: rest) (hq : Sigf q) (hrec : tyDepth u ≤ s.recLimit - s.recCur) :
    r = TyRes.ok ∧ ∃ cb' it, cb = cb' ++ it ∧ Ign it ∧ Eat s s' cb' ∧ Toks s' = it ++ q :: rest := by
  unfold tyBody at h
  obtain ⟨k, sP, hp, h2⟩ := bind_dec peek _ s s' r h
  cases hsb with
  | named t i hk hi =>
    have ht' : Toks s = t :: (i ++ q :: rest) := by rw [ht]; simp
    obtain ⟨hkk, eP, htP, _⟩ := peek_head s sP k t _ w ht' hp
    subst hkk
    simp only [hk] at h2
    obtain ⟨hr, e⟩ := nameBranch_sound sP s' r t _ eP.w htP hk h2
    refine ⟨hr, [t], i, rfl, hi, by simpa using eP.trans e, ?_⟩
    have := e.toks
    rw [htP] at this
    simpa using this.symm
  | list lb rb i1 i2 cu u' hkl hi1 hsu hkr hi2 =>
    have ht' : Toks s = lb :: (i1 ++ cu ++ rb :: i2 ++ q :: rest) := by rw [ht]; simp
    obtain ⟨hkk, eP, htP, _⟩ := peek_head s sP k lb _ w ht' hp
    subst hkk
    simp only [hkl] at h2
    have hnil : isIgnoredKind lb.kind = false := by rw [hkl]; rfl
    obtain ⟨s1, s2, e1, h1, o2⟩ := withNode_peeked _ _ sP s' r lb _ eP.w htP hnil h2
    have ht1 : Toks s1 = lb :: (i1 ++ cu ++ rb :: i2 ++ q :: rest) := by
      have := e1.toks; rw [htP] at this; simpa using this.symm
    unfold tyListBody at h1
    obtain ⟨_, s3, h3, h4⟩ := bind_dec (bump "L_BRACK") _ s1 s2 r h1
    unfold bump at h3
    obtain ⟨_, s3a, h3a, h3b⟩ := bind_dec (eat "L_BRACK") _ s1 s3 () h3
    obtain ⟨ea, hta⟩ := eat_head "L_BRACK" s1 s3a lb _ e1.w ht1 h3a
    obtain ⟨hd, tl, hcu, hsd⟩ := spell_head hsu
    have hta' : Toks s3a = i1 ++ hd :: (tl ++ rb :: i2 ++ q :: rest) := by rw [hta, hcu]; simp
    obtain ⟨es, ht3, _⟩ := skip_exact s3a s3 i1 hd _ ea.w h3b hta' hi1 hsd
    have e03 : Eat s s3 (lb :: i1) := by simpa using ((eP.trans e1).trans ea).trans es
    have ht3' : Toks s3 = cu ++ rb :: (i2 ++ q :: rest) := by rw [ht3, hcu]; simp
    obtain ⟨inner, s4, h5, h6⟩ := bind_dec _ _ s3 s2 r h4
    rcases withRec_dec _ _ s3 s4 inner h5 with ⟨hlim, _⟩ | ⟨_, sr1, sr2, c1, l1, er1, a1, r1, rl1, hr, c2, l2, er2, a2, r2, rl2⟩
    · exfalso
      rw [e03.recCur, e03.recLimit] at hlim
      simp only [tyDepth] at hrec
      omega
    · have wr1 : TW sr1 := w_same _ _ e03.w er1 l1 a1
      obtain ⟨res, sr2', hr1, hr2⟩ := bind_dec (tyParse n) _ sr1 sr2 inner hr
      rw [run_pure] at hr2
      injection hr2 with hin hs
      subst hs hin
      have htr1 : Toks sr1 = cu ++ rb :: (i2 ++ q :: rest) := by unfold Toks; rw [c1, l1]; exact ht3'
      have hsr : Sigf rb := by unfold Sigf; rw [hkr]; rfl
      have hnb : NoBangAfter u' rb := by
        unfold NoBangAfter
        cases u' <;> simp [hkr]
      have hrec' : tyDepth u' ≤ sr1.recLimit - sr1.recCur := by
        rw [r1, rl1, e03.recCur, e03.recLimit]
        simp only [tyDepth] at hrec
        omega
      obtain ⟨hres, ei, hti, hci⟩ := ih sr1 sr2' res u' cu rb _ wr1 hr1 hsu htr1 hsr hnb hrec'
      subst hres
      simp only [] at h6
      have w4 : TW s4 := w_same _ _ ei.w er2 l2 a2
      have ht4 : Toks s4 = rb :: i2 ++ q :: rest := by unfold Toks; rw [c2, l2]; exact hti
      obtain ⟨_, s5, h7, h8⟩ := bind_dec (expect .rBracket "R_BRACK") _ s4 s2 r h6
      rw [run_pure] at h8
      injection h8 with h8 h9
      subst h9
      obtain ⟨ee, ht5, _⟩ := expect_match .rBracket "R_BRACK" s4 s5 rb q i2 rest w4 ht4 hkr hi2 hq h7
      refine ⟨h8.symm, lb :: i1 ++ cu ++ rb :: i2, [], ?_, ?_, ?_, ?_⟩
      · simp
      · intro x hx; cases hx
      · -- glue the pieces: s →(lb :: i1) s3 ≈ sr1 →cu sr2' ≈ s4 →(rb :: i2) s5 ≈ s'
        refine ⟨?_, ?_, o2.w ee.w, ?_, ?_, ?_⟩
        · rw [ht, o2.toks, ht5]
        · rw [o2.doomed, ee.doom, doomed_same _ _ er2 l2, ei.doom, doomed_same _ _ er1 l1, e03.doom]
        · rw [o2.accept, ee.accept, a2, ei.accept, a1, e03.accept]
        · rw [o2.recCur, ee.recCur, r2, ei.recCur, r1, e03.recCur]; omega
        · rw [o2.recLimit, ee.recLimit, rl2, ei.recLimit, rl1, e03.recLimit]
      · rw [o2.toks, ht5]; rfl

/-- `ty.rs::parse` on a queue that starts with a type without `!` (`cb`), followed by `pre` = nothing (and then
    no `!`) or `!` and ignored tokens, followed by the significant token `q0` -/
theorem tyParse_comp_stepB (n : Nat) (ih : TyCompB n) (s s' : PState) (r : TyRes) (u : Ast.Ty) (cb pre : List Tok)
    (q0 : Tok) (rest : List Tok) (w : TW s) (h : (tyParse (n + 1)).run s = .ok r s') (hsb : SpellB u cb)
    (ht : Toks s = cb ++ pre ++ q0 :: rest) (hq : Sigf q0) (hrec : tyDepth u ≤ s.recLimit - s.recCur)
    (hpre : (pre = [] ∧ q0.kind ≠ .bang) ∨ (∃ b i, pre = b :: i ∧ b.kind = .bang ∧ Ign i)) :
    r = TyRes.ok ∧ Eat s s' (cb ++ pre) ∧ Toks s' = q0 :: rest ∧ s'.current = some q0 := by
  rw [tyParse_succ] at h
  obtain ⟨r0, sW, hw, h2⟩ := bind_dec _ _ s s' r h
  obtain ⟨s1, s2, s3, c, o1, hb, hc, hrest⟩ := wrapIf_dec _ _ _ _ s sW r0 hw
  have w1 := o1.w w
  -- the first significant token behind `cb`
  obtain ⟨x0, xt, hx, hsx, hxb⟩ : ∃ x0 xt, pre ++ q0 :: rest = x0 :: xt ∧ Sigf x0 ∧ (x0.kind = .bang ↔ pre ≠ []) := by
    rcases hpre with ⟨rfl, hnb⟩ | ⟨b, i, rfl, hkb, _⟩
    · exact ⟨q0, rest, rfl, hq, by simp [hnb]⟩
    · exact ⟨b, i ++ q0 :: rest, by simp, by unfold Sigf; rw [hkb]; rfl, by simp [hkb]⟩
  have ht1 : Toks s1 = cb ++ x0 :: xt := by rw [o1.toks, ht, List.append_assoc, hx]
  obtain ⟨hr0, cb', it, hcb, hit, eb, ht2⟩ := tyBody_compB n ih s1 s2 r0 u cb x0 xt w1 hb hsb ht1 hsx
    (by rw [o1.recCur, o1.recLimit]; exact hrec)
  subst hr0
  -- condition: skip_ignored, peek == `!`
  have hc' : (skipIgnored >>= fun _ => peek >>= fun k => (pure (k == some .bang) : PI Bool)).run s2 = .ok c s3 := hc
  obtain ⟨_, sA, hsA, hc2⟩ := bind_dec skipIgnored _ s2 s3 c hc'
  obtain ⟨eA, htA, _⟩ := skip_exact s2 sA it x0 xt eb.w hsA ht2 hit hsx
  obtain ⟨kk, sP, hpk, hc3⟩ := bind_dec peek _ sA s3 c hc2
  rw [run_pure] at hc3
  injection hc3 with hc3 hc4
  subst hc4
  obtain ⟨hkk, eP, htP, _⟩ := peek_head sA sP kk x0 xt eA.w htA hpk
  subst hkk
  have e0P : Eat s sP cb := by
    have := (((Eat.ofObsEq o1 w).trans eb).trans eA).trans eP
    simpa [← hcb] using this
  -- the tail after the wrap
  simp only [] at h2
  obtain ⟨_, sF, hf, h3⟩ := bind_dec skipIgnored _ sW s' r h2
  rw [run_pure] at h3
  injection h3 with h3 h4
  subst h4
  refine ⟨h3.symm, ?_⟩
  rcases hpre with ⟨rfl, hnb⟩ | ⟨b, i, rfl, hkb, hi⟩
  · -- no `!`
    simp only [List.nil_append, List.cons.injEq] at hx
    obtain ⟨rfl, rfl⟩ := hx
    have hcf : c = false := by rw [← hc3]; simp [hnb]
    rcases hrest with ⟨_, rfl⟩ | ⟨hct, _⟩
    · obtain ⟨eF, htF, hcF⟩ := skip_exact _ sF [] q0 rest eP.w hf (by simpa using htP) (by intro x hx; cases hx) hq
      exact ⟨by simpa using e0P.trans eF, htF, hcF⟩
    · rw [hcf] at hct; cases hct
  · -- `!`
    simp only [List.cons_append, List.cons.injEq] at hx
    obtain ⟨rfl, rfl⟩ := hx
    have hct : c = true := by rw [← hc3]; simp [hkb]
    rcases hrest with ⟨hcf, _⟩ | ⟨_, s4, s5, o4, hi4, o5⟩
    · rw [hct] at hcf; cases hcf
    · have w4 : TW s4 := o4.w eP.w
      obtain ⟨e45, ht5⟩ := eat_head "BANG" s4 s5 b (i ++ q0 :: rest) w4 (by rw [o4.toks]; exact htP) hi4
      have wW : TW sW := o5.w e45.w
      obtain ⟨eF, htF, hcF⟩ := skip_exact sW sF i q0 rest wW hf (by rw [o5.toks]; exact ht5) hi hq
      refine ⟨?_, htF, hcF⟩
      have := ((((e0P.trans (Eat.ofObsEq o4 eP.w)).trans e45).trans (Eat.ofObsEq o5 e45.w)).trans eF)
      simpa using this

theorem tyParse_compB : ∀ (n : Nat), TyCompB n
  | 0 => by intro s s' r t c q0 rest _ h; simp [tyParse, PI.outOfFuel] at h
  | n + 1 => by
    intro s s' r t c q0 rest w h hsp ht hq hnb hrec
    cases hsp with
    | base u c hb =>
      have hnb' : q0.kind ≠ .bang := by
        cases hb <;> simpa [NoBangAfter] using hnb
      have := tyParse_comp_stepB n (tyParse_compB n) s s' r t c [] q0 rest w h hb (by simpa using ht) hq hrec (Or.inl ⟨rfl, hnb'⟩)
      simpa using this
    | bangNamed nm cb b i hb hkb hi =>
      have := tyParse_comp_stepB n (tyParse_compB n) s s' r (.named nm) cb (b :: i) q0 rest w h hb
        (by simp [ht]) hq (by simp [tyDepth]) (Or.inr ⟨b, i, rfl, hkb, hi⟩)
      exact this
    | bangList u cb b i hb hkb hi =>
      have := tyParse_comp_stepB n (tyParse_compB n) s s' r (.list u) cb (b :: i) q0 rest w h hb
        (by simp [ht]) hq (by simpa [tyDepth] using hrec) (Or.inr ⟨b, i, rfl, hkb, hi⟩)
      exact this

/-! ### `ty` as a `Cmp` judgement -/

def IsTyTok (a : Ast.Tok) : Prop := (∃ n, a = .name n) ∨ a = .p .bang ∨ a = .p .lBracket ∨ a = .p .rBracket

theorem tTy_toks (t : Ast.Ty) : ∀ a ∈ Ast.tTy t, IsTyTok a := by
  induction t with
  | named n => intro a ha; simp [Ast.tTy] at ha; exact Or.inl ⟨n, ha⟩
  | nonNullNamed n =>
    intro a ha; simp [Ast.tTy] at ha
    rcases ha with rfl | rfl
    · exact Or.inl ⟨n, rfl⟩
    · exact Or.inr (Or.inl rfl)
  | list t ih =>
    intro a ha; simp [Ast.tTy] at ha
    rcases ha with rfl | ha | rfl
    · exact Or.inr (Or.inr (Or.inl rfl))
    · exact ih a ha
    · exact Or.inr (Or.inr (Or.inr rfl))
  | nonNullList t ih =>
    intro a ha; simp [Ast.tTy] at ha
    rcases ha with rfl | ha | rfl | rfl
    · exact Or.inr (Or.inr (Or.inl rfl))
    · exact ih a ha
    · exact Or.inr (Or.inr (Or.inr rfl))
    · exact Or.inr (Or.inl rfl)

theorem astOf_of_astOfV {tk : Tok} {a : Ast.Tok} (h : astOfV tk = some a) (ha : IsTyTok a) : astOf tk = some a := by
  have hk := kind_of_astOfV h
  unfold astOfV at h
  unfold astOf
  rcases ha with ⟨n, rfl⟩ | rfl | rfl | rfl <;> simp only [kindOfA] at hk <;> rw [hk] at h ⊢ <;> exact h

theorem tokIs_astOf (ts : List Tok) (t : Ast.Ty) (h : TokIs ts (Ast.tTy t)) : ts.map astOf = (Ast.tTy t).map some := by
  unfold TokIs at h
  rw [← h]
  apply List.map_congr_left
  intro tk htk
  have hm : astOfV tk ∈ ts.map astOfV := List.mem_map_of_mem htk
  rw [h] at hm
  obtain ⟨a, ha, e⟩ := List.mem_map.mp hm
  rw [← e]
  exact astOf_of_astOfV e.symm (tTy_toks t a ha)

def LTy (b : Nat) (x : List Ast.Tok) : Prop := ∃ t, x = Ast.tTy t ∧ tyDepth t ≤ b

theorem tTy_head (t : Ast.Ty) : ∃ a x', Ast.tTy t = a :: x' ∧ (kindOfA a = .name ∨ kindOfA a = .lBracket) := by
  cases t with
  | named n => exact ⟨.name n, [], rfl, Or.inl rfl⟩
  | nonNullNamed n => exact ⟨.name n, [.p .bang], rfl, Or.inl rfl⟩
  | list t => exact ⟨.p .lBracket, Ast.tTy t ++ [.p .rBracket], rfl, Or.inr rfl⟩
  | nonNullList t => exact ⟨.p .lBracket, Ast.tTy t ++ [.p .rBracket, .p .bang], rfl, Or.inr rfl⟩

/-- **`ty` is complete**: every type reference within the budget, followed by anything but `!` -/
theorem cmp_ty (n : Nat) : Cmp (fun _ => True) (ty n) LTy (fun k => k ≠ .bang) (fun _ => True) := by
  intro s s' u c x q0 rest w hr hl hs ht hq hf _
  obtain ⟨t, rfl, hd⟩ := hl
  have hsp : Spell t c := spell_of_sig t c hs.2 (tokIs_astOf _ t hs.1)
  unfold ty at hr
  obtain ⟨r, sT, hT, h3⟩ := bind_dec (tyParse n) _ s s' u hr
  have hnb : NoBangAfter t q0 := by unfold NoBangAfter; cases t <;> simp [hf]
  obtain ⟨hr0, eT, htT, _⟩ := tyParse_compB n s sT r t c q0 rest w hT hsp ht hq hnb hd
  subst hr0
  simp only [] at h3
  rw [run_pure] at h3
  injection h3 with _ h3
  subst h3
  exact ⟨eT, htT, trivial⟩

/-! ### the follow set of a variable definition, its guard, and `( item+ )` lists -/

def Fvd (k : Kind) : Prop := k ≠ .bang ∧ k ≠ .eq ∧ k ≠ .at ∧ k ≠ .lParen

def varFit (b : Nat) (v : Ast.VarDef) : Prop :=
  tyDepth v.ty ≤ b ∧ (∀ d, v.default = some d → valueOk true d = true ∧ vdepth d ≤ b) ∧ dirsFit true b v.dirs

/-- `( item+ )` as written in `variable_definitions` (and `arguments`): the first item is checked by `peek`,
    the others by `peek_while_kind` -/
def parenList (k : Kind) (item : PI Unit) : PI Unit :=
  bump "L_PAREN" >>= fun _ => peek >>= fun kk =>
    if kk == some k then (item >>= fun _ => (peekWhileKind k item >>= fun _ => expect .rParen "R_PAREN"))
    else (err >>= fun _ => (peekWhileKind k item >>= fun _ => expect .rParen "R_PAREN"))

theorem cmp_parenList (k : Kind) (item : PI Unit) (Li : Nat → List Ast.Tok → Prop) (Fi : Kind → Prop)
    (hitem : Cmp (fun _ => True) item Li Fi (fun _ => True))
    (hhead : ∀ b x, Li b x → ∃ a x', x = a :: x' ∧ kindOfA a = k) (hFk : Fi k) (hFr : Fi .rParen) (hkr : k ≠ .rParen) :
    Cmp (fun _ => True) (parenList k item)
      (fun b x => ∃ i0 ir, (∀ i ∈ i0 :: ir, Li b i) ∧ x = .p .lParen :: (i0 ++ (ir.flatten ++ [.p .rParen])))
      (fun _ => True) (fun _ => True) := by
  intro s s' u cv x q0 rest w hr hl hs ht hq _ _
  obtain ⟨i0, ir, hall, rfl⟩ := hl
  obtain ⟨t, i, c', rfl, hta, hi, hs'⟩ := spells_cons hs
  obtain ⟨c1, c23, rfl, s1, s23⟩ := spells_split hs' (by simp)
  obtain ⟨c2, c3, rfl, s2, s3⟩ : ∃ c2 c3, c23 = c2 ++ c3 ∧ Spells c2 ir.flatten ∧ Spells c3 [.p .rParen] :=
    spells_split s23 (by simp)
  obtain ⟨tb, ib, rfl, htb, hib⟩ := spells_single s3
  obtain ⟨a0, x0, rfl, hka0⟩ := hhead _ i0 (hall i0 (by simp))
  obtain ⟨t1, tl1, hc1, hta1⟩ := spells_head s1
  have hkb : tb.kind = .rParen := kind_of_astOfV htb
  obtain ⟨f, ftl, hcf, hsf, hff⟩ : ∃ f ftl, c2 ++ tb :: ib = f :: ftl ∧ Sigf f ∧ Fi f.kind := by
    cases hir : ir with
    | nil =>
      subst hir
      have := spells_nil_inv (by simpa using s2)
      subst this
      exact ⟨tb, ib, rfl, sigf_of_astOfV htb, by rw [hkb]; exact hFr⟩
    | cons i1 ir' =>
      subst hir
      obtain ⟨a1, x1, e1, hka1⟩ := hhead _ i1 (hall i1 (by simp))
      subst e1
      obtain ⟨t2, tl2, rfl, hta2⟩ := spells_head (x := x1 ++ ir'.flatten) (by simpa using s2)
      exact ⟨t2, tl2 ++ tb :: ib, rfl, sigf_of_astOfV hta2, by rw [kind_of_astOfV hta2, hka1]; exact hFk⟩
  have hcf' : c2 ++ tb :: (ib ++ q0 :: rest) = f :: (ftl ++ q0 :: rest) := by
    have := congrArg (· ++ q0 :: rest) hcf; simpa using this
  unfold parenList at hr
  obtain ⟨_, sA, h1, h2⟩ := bind_dec (bump "L_PAREN") _ s s' u hr
  have hs1 : Spells (t :: i) [.p .lParen] := by
    refine ⟨?_, by intro hd tl e; injection e with e _; subst e; exact sigf_of_astOfV hta⟩
    rw [sig_cons_ignV t i (sigf_of_astOfV hta) hi]
    exact TokIs.single t _ hta
  obtain ⟨e1, tA, _⟩ := cmp_bump "L_PAREN" s sA () (t :: i) [.p .lParen] t1 (tl1 ++ (c2 ++ tb :: ib) ++ q0 :: rest) w h1 ⟨_, rfl⟩ hs1
    (by rw [ht, hc1]; simp) (sigf_of_astOfV hta1) trivial trivial
  obtain ⟨ko, sP, hp, h3⟩ := bind_dec peek _ sA s' u h2
  obtain ⟨rfl, eP, htP, _⟩ := peek_head sA sP ko t1 _ e1.w tA hp
  have hk1 : t1.kind = k := by rw [kind_of_astOfV hta1, hka0]
  simp only [hk1, beq_self_eq_true, if_true] at h3
  obtain ⟨_, sB, h4, h5⟩ := bind_dec item _ sP s' u h3
  have hbP : sP.recLimit - sP.recCur = s.recLimit - s.recCur := by rw [eP.recLimit, eP.recCur, e1.recLimit, e1.recCur]
  obtain ⟨eB, tB, _⟩ := hitem sP sB () c1 _ f (ftl ++ q0 :: rest) eP.w h4
    (by rw [hbP]; exact hall _ (by simp)) s1 (by rw [htP, hc1]; simp [hcf']) hsf hff trivial
  obtain ⟨_, sC, h6, h7⟩ := bind_dec (peekWhileKind k item) _ sB s' u h5
  unfold peekWhileKind at h6
  obtain ⟨fuel, h8⟩ := srcLen_dec _ sB sC () h6
  have hbB : sB.recLimit - sB.recCur = s.recLimit - s.recCur := by rw [eB.recLimit, eB.recCur, hbP]
  obtain ⟨eC, tC⟩ := cmp_kindWhileLoop k item Li Fi hitem hhead hFk ir _ sB sC c2 tb (ib ++ q0 :: rest) eB.w h8
    (by rw [hbB]; exact fun i hi => hall i (by simp [hi])) s2
    (by rw [tB]; exact hcf'.symm) (sigf_of_astOfV htb) (by rw [hkb]; exact fun h => hkr h.symm) (by rw [hkb]; exact hFr)
  obtain ⟨eD, tD, _⟩ := cmp_expect .rParen "R_PAREN" sC s' u (tb :: ib) [.p .rParen] q0 rest eC.w h7 ⟨_, rfl, rfl⟩ s3
    (by rw [tC]; simp) hq trivial trivial
  exact ⟨by simpa [List.append_assoc] using (((e1.trans eP).trans eB).trans eC).trans eD, tD, trivial⟩

/-! ### variable definitions -/

theorem varDefsBody_eq (n : Nat) : varDefsBody n = parenList .dollar (variableDefinition n) := rfl

def varItems : List Ast.VarDef → List (List Ast.Tok)
  | [] => []
  | v :: r => Ast.tVarDef v :: varItems r

theorem varItems_flatten : ∀ vs, (varItems vs).flatten = Ast.tVarDefItems vs
  | [] => rfl
  | v :: r => by simp [varItems, Ast.tVarDefItems, varItems_flatten r]

def LVarDefs (b : Nat) (x : List Ast.Tok) : Prop := ∃ vs, vs ≠ [] ∧ x = Ast.tVarDefs vs ∧ ∀ v ∈ vs, varFit b v

/-! ### operation definition -/

theorem cmp_operationType :
    Cmp (fun _ => True) operationType (fun _ x => ∃ ty : Ast.OpType, x = [.name ty.name.toList]) (fun _ => True) (fun _ => True) := by
  intro s s' u c x q0 rest w hr hl hs ht hq _ _
  obtain ⟨ty, rfl⟩ := hl
  obtain ⟨t, i, rfl, hta, hi⟩ := spells_single hs
  have hd : t.data = ty.name.toList := data_of_astOfV_name hta
  unfold operationType at hr
  obtain ⟨od, sP, hp, h2⟩ := bind_dec peekData _ s s' u hr
  unfold peekData at hp
  obtain ⟨o, sQ, hq2, h3⟩ := bind_dec peekToken _ s sP od hp
  obtain ⟨rfl, eP, htP⟩ := peekToken_head s sQ o t (i ++ q0 :: rest) w (by rw [ht]; simp) hq2
  rw [run_pure] at h3
  injection h3 with h3 h4
  subst h3 h4
  simp only [Option.map_some] at h2
  have fin : ∀ sk, (withNode "OPERATION_TYPE" (bump sk)).run sQ = .ok u s' → Eat s s' (t :: i) ∧ Toks s' = q0 :: rest ∧ True := by
    intro sk hm
    obtain ⟨e, t2, _⟩ := cmp_nodeBump "OPERATION_TYPE" sk sQ s' u (t :: i) _ q0 rest eP.w hm ⟨_, rfl⟩ hs (by rw [htP]; simp) hq trivial trivial
    exact ⟨by simpa using eP.trans e, t2, trivial⟩
  cases ty with
  | query =>
    have h1 : kw "query" t.data = true := by rw [hd]; decide
    simp only [h1, if_true] at h2
    exact fin _ h2
  | subscription =>
    have h1 : kw "query" t.data = false := by rw [hd]; decide
    have h1' : kw "subscription" t.data = true := by rw [hd]; decide
    simp only [h1, h1', Bool.false_eq_true, if_false, if_true] at h2
    exact fin _ h2
  | mutation =>
    have h1 : kw "query" t.data = false := by rw [hd]; decide
    have h1' : kw "subscription" t.data = false := by rw [hd]; decide
    have h1'' : kw "mutation" t.data = true := by rw [hd]; decide
    simp only [h1, h1', h1'', Bool.false_eq_true, if_false, if_true] at h2
    exact fin _ h2

def LOpFull (b : Nat) (x : List Ast.Tok) : Prop :=
  ∃ ty nm vs ds ss, x = tOperation ty nm vs ds ss ∧ (∀ v ∈ vs, varFit b v) ∧ dirsFit false b ds ∧
    ss ≠ Ast.Sels.nil ∧ 1 ≤ b ∧ fitSels ss (b - 1)

theorem tOperation_head (ty : Ast.OpType) (nm : Option Ast.Str) (vs : List Ast.VarDef) (ds : List Ast.Directive) (ss : Ast.Sels) :
    ∃ x', tOperation ty nm vs ds ss = .name ty.name.toList :: x' :=
  ⟨(tOperation ty nm vs ds ss).tail, by simp [tOperation, List.append_assoc]⟩

def LOperation (b : Nat) (x : List Ast.Tok) : Prop := LOpFull b x ∨ LSet b x

/-! ### fragment definition -/

def LFragment (b : Nat) (x : List Ast.Tok) : Prop :=
  ∃ nm tc ds ss, x = Ast.tDefinition false (.fragment nm tc ds ss) ∧ nm ≠ Ast.sOn ∧ dirsFit false b ds ∧
    ss ≠ Ast.Sels.nil ∧ 1 ≤ b ∧ fitSels ss (b - 1)

theorem fragTail_eq (n : Nat) : optKind .at (directives n false) (fragSel n) = inlT2 n := rfl

end Apollo.Parse

namespace Apollo.Lex

theorem punct_lCurly (c : Char) (h : punctuationKind c = some .lCurly) : c = '{' := by
  have : c.toNat = 123 := by
    revert h
    unfold punctuationKind
    split <;> first | (intro _; assumption) | simp
  exact (char_eq_iff c '{').mpr this

/-- what every transition other than a punctuator in `start` keeps: never the kind `{`, never back to `start` -/
def okActL : Action → Prop
  | .goto st' k' _ => st' ≠ .start ∧ k' ≠ .lCurly
  | .incl o | .excl o => o ≠ .tok .lCurly

theorem okActL_ite {p : Prop} [Decidable p] {a b : Action} (ha : okActL a) (hb : okActL b) : okActL (if p then a else b) := by
  split <;> assumption

theorem done_ne_lCurly (kind : Kind) (e : Bool) (hk : kind ≠ .lCurly) : done kind e ≠ .tok .lCurly := by
  unfold done; split <;> simp [hk]

/-- `step` is a tree of `if`s in every state, so `okActL` is checked at the leaves; a punctuator is only read in `start` -/
theorem step_kindL (st : State) (kind : Kind) (e : Bool) (acc : Str) (c : Char)
    (h : (st = .start ∧ punctuationKind c = none) ∨ (st ≠ .start ∧ kind ≠ .lCurly)) : okActL (step st kind e acc c) := by
  cases st with
  | start =>
    obtain ⟨_, hp⟩ | ⟨hst, _⟩ := h
    · simp only [step, hp]
      repeat' apply okActL_ite
      all_goals simp [okActL]
    · exact absurd rfl hst
  | _ =>
    obtain ⟨hst, _⟩ | ⟨_, hk⟩ := h
    · cases hst
    · unfold step blockStep
      dsimp only
      repeat' apply okActL_ite
      all_goals simp [okActL, done_ne_lCurly, hk]

theorem runD_kind_ne_lCurly : ∀ (src : Str) (st : State) (kind : Kind) (e : Bool) (acc : Str) (k : Kind) (d : Str),
    ((∃ c rest, src = c :: rest ∧ st = .start ∧ punctuationKind c = none) ∨ (st ≠ .start ∧ kind ≠ .lCurly)) →
    (runD st kind e acc src).1 = .tok k d → k ≠ .lCurly
  | [], st, kind, e, acc, k, d, hh, h => by
    obtain ⟨_, _, e', _⟩ | ⟨hst, hk'⟩ := hh
    · cases e'
    · simp only [runD] at h
      cases st <;> simp [eofItem] at h <;> (try exact absurd rfl hst) <;> (obtain ⟨rfl, _⟩ := h; exact hk')
  | c :: rest, st, kind, e, acc, k, d, hh, h => by
    have hstep := step_kindL st kind e acc c (hh.imp (fun ⟨_, _, e', h1, h2⟩ => by injection e' with e1 _; exact ⟨h1, e1 ▸ h2⟩) id)
    unfold runD at h
    cases hst : step st kind e acc c with
    | goto st' k' e' =>
      simp only [hst, okActL] at h hstep
      exact runD_kind_ne_lCurly rest st' k' e' (acc ++ [c]) k d (Or.inr hstep) h
    | incl o =>
      simp only [hst] at h hstep
      cases Out.mk_eq_tok h
      simpa [okActL] using hstep
    | excl o =>
      simp only [hst] at h hstep
      cases Out.mk_eq_tok h
      simpa [okActL] using hstep

theorem advance_lCurly (c : Char) (rest : Str) (d : Str) (h : (advance (c :: rest)).1 = .tok .lCurly d) : d = ['{'] := by
  cases hp : punctuationKind c with
  | some k =>
    unfold advance runD at h
    simp only [step, hp, Out.mk, List.nil_append, Item.tok.injEq] at h
    obtain ⟨rfl, rfl⟩ := h
    rw [punct_lCurly c hp]
  | none => exact absurd rfl (runD_kind_ne_lCurly (c :: rest) .start .eof false [] _ d (Or.inl ⟨c, rest, rfl, rfl, hp⟩) h)

theorem lexAux_lCurly : ∀ (fuel count : Nat) (src : Str), ∀ it ∈ lexAux fuel none count src,
    ∀ (d : Str), it = .tok .lCurly d → d = ['{']
  | 0, _, _ => by intro it hit; simp [lexAux] at hit
  | fuel + 1, count, [] => by
    intro it hit d e
    simp [lexAux] at hit
    rw [hit] at e
    injection e with e1 _
    cases e1
  | fuel + 1, count, c0 :: rest0 => by
    intro it hit d e
    simp only [lexAux, Bool.false_eq_true, if_false, List.mem_cons] at hit
    rcases hit with hit | hit
    · exact advance_lCurly c0 rest0 d (by rw [← hit, e])
    · exact lexAux_lCurly fuel (count + 1) _ it hit d e

end Apollo.Lex

namespace Apollo.Parse
open Apollo.Rowan hiding Str
open Apollo.Lex hiding Str

def CurlyQ (q : List Tok) : Prop := ∀ t ∈ q, t.kind = .lCurly → t.data = ['{']

theorem CurlyQ.suffix {cs q : List Tok} (h : CurlyQ (cs ++ q)) : CurlyQ q := fun t ht => h t (List.mem_append_right _ ht)

theorem curlyQ_srcToks (src : Str) : CurlyQ (srcToks src) := by
  intro t ht hk
  have hm : (t.kind, t.data) ∈ lexToks src := by
    rw [← srcToks_lex src]
    exact List.mem_map.mpr ⟨t, ht, rfl⟩
  unfold lexToks at hm
  obtain ⟨it, hit, hkd⟩ := List.mem_filterMap.mp hm
  cases it with
  | tok k d =>
    simp only [itemKD, Option.some.injEq, Prod.mk.injEq] at hkd
    have := Lex.lexAux_lCurly _ _ _ (.tok k d) hit d (by rw [hkd.1, hk])
    rw [← hkd.2]; exact this
  | err _ => simp [itemKD] at hkd
  | limit => simp [itemKD] at hkd

end Apollo.Parse
