import ApolloModel.Proofs.ParserTree29
import ApolloModel.Proofs.ParserTreeDef13
/-
C08 (pipeline): the whole grammar — the type-system definitions (ParserTreeDef*) plugged into the document theorem.
Executable documents: the CST parser and `Document::from_cst` read the printer's tokens of an executable document back to
that document (which definition parser ran is decided by the tokens, not assumed).  Then what `Document::from_cst`
returns for EVERY accepted document, and its agreement with the reference parser.
-/
set_option linter.unusedSimpArgs false
set_option linter.unusedVariables false

namespace Apollo.FromCst
open Apollo.Rowan Apollo.Ast
open Apollo.Parse (LooseDef)

theorem defTree_kind (l : LooseDef) (e : Elem) (h : DefTree l e) :
    ∃ K cs, e = .node K cs ∧ isDefinitionKind K = true ∧ (K == "OPERATION_DEFINITION" || K == "FRAGMENT_DEFINITION") = false := by
  cases l <;> simp only [DefTree, NamedDefTree] at h
  all_goals first
    | (obtain ⟨cs, _, _, rfl, _⟩ := h; exact ⟨_, cs, rfl, by decide, by decide⟩)
    | (obtain ⟨cs, _, _, _, rfl, _⟩ := h; exact ⟨_, cs, rfl, by decide, by decide⟩)
    | (obtain ⟨cs, _, _, _, _, rfl, _⟩ := h; exact ⟨_, cs, rfl, by decide, by decide⟩)
    | (obtain ⟨cs, _, _, _, _, _, rfl, _⟩ := h; exact ⟨_, cs, rfl, by decide, by decide⟩)

end Apollo.FromCst

namespace Apollo.Parse
open Apollo.Rowan hiding Str
open Apollo.Lex hiding Str
open Apollo.FromCst (All2 DefTree defTree_of_named looseConv)

def TsAny (cs : List Tok) (e : List Elem) : Prop :=
  ∃ (l : LooseDef) (ed : Elem), TokIs cs l.toks ∧ l.wf = true ∧ e = [ed] ∧ DefTree l ed

/-- **the type system plugged in**: the fifteen type-system entries of the document theorem, from the per-definition
    theorems -/
theorem tsTrs (n : Nat) : TsTrs n TsAny where
  directive := (tr_directiveDefinition n).mono (fun _ h => (dstart_defStart h).2) (by
    rintro _ cs e ⟨desc, nm, args, rep, lead, first, rest, ed, h1, h2, h3, h4⟩
    exact ⟨.directive desc nm args rep lead first rest, ed, h1, h2, h3, h4⟩)
  enumDef := (tr_enumTypeDefinition n).mono (fun _ h => (dstart_defStart h).2) (by
    rintro _ cs e ⟨desc, nm, ds, vs, ed, h1, h2, h3, h4, h5, h6⟩
    exact ⟨.enum desc nm ds vs, ed, h1, by simp [LooseDef.wf, h2, h3, all_notKeyword h4], h5, defTree_of_named h6⟩)
  input := (tr_inputObjectTypeDefinition n).mono (fun _ h => (dstart_defStart h).2) (by
    rintro _ cs e ⟨desc, nm, ds, fs, ed, h1, h2, h3, h5, h6⟩
    exact ⟨.input desc nm ds fs, ed, h1, by simp [LooseDef.wf, h2, h3], h5, defTree_of_named h6⟩)
  interface := (tr_interfaceTypeDefinition n).mono (fun _ h => (dstart_defStart h).2) (by
    rintro _ cs e ⟨desc, nm, impl, ds, fs, ed, h1, h2, h3, h5, h6⟩
    exact ⟨.interface desc nm impl ds fs, ed, h1, by simp [LooseDef.wf, h2, h3], h5, defTree_of_named h6⟩)
  object := (tr_objectTypeDefinition n).mono (fun _ h => (dstart_defStart h).2) (by
    rintro _ cs e ⟨desc, nm, impl, ds, fs, ed, h1, h2, h3, h5, h6⟩
    exact ⟨.object desc nm impl ds fs, ed, h1, by simp [LooseDef.wf, h2, h3], h5, defTree_of_named h6⟩)
  scalar := (tr_scalarTypeDefinition n).mono (fun _ h => (dstart_defStart h).2) (by
    rintro _ cs e ⟨desc, nm, ds, ed, h1, h2, h5, h6⟩
    exact ⟨.scalar desc nm ds, ed, h1, h2, h5, defTree_of_named h6⟩)
  schema := (tr_schemaDefinition n).mono (fun _ h => (dstart_defStart h).2) (by
    rintro _ cs e ⟨desc, ds, roots, ed, h1, h2, hne, h5, h6⟩
    have hemp : roots.isEmpty = false := by cases roots with | nil => exact absurd rfl hne | cons _ _ => rfl
    exact ⟨.schema desc ds roots, ed, h1, by simp [LooseDef.wf, h2, hemp], h5, h6⟩)
  union := (tr_unionTypeDefinition n).mono (fun _ h => (dstart_defStart h).2) (by
    rintro _ cs e ⟨desc, nm, ds, ms, ed, h1, h2, h5, h6⟩
    exact ⟨.union desc nm ds ms, ed, h1, h2, h5, defTree_of_named h6⟩)
  schemaExt := (tr_schemaExtension n).mono (fun _ h => (estart_ext2 h).2) (by
    rintro _ cs e ⟨ds, roots, ed, h1, h2, h5, h6⟩
    exact ⟨.schemaExt ds roots, ed, h1, h2, h5, h6⟩)
  scalarExt := (tr_scalarTypeExtension n).mono (fun _ h => (estart_ext2 h).2) (by
    rintro _ cs e ⟨nm, ds, ed, h1, h2, h5, h6⟩
    exact ⟨.scalarExt nm ds, ed, h1, h2, h5, defTree_of_named h6⟩)
  objectExt := (tr_objectTypeExtension n).mono (fun _ h => (estart_ext2 h).2) (by
    rintro _ cs e ⟨nm, impl, ds, fs, ed, h1, h2, h3, h5, h6⟩
    exact ⟨.objectExt nm impl ds fs, ed, h1, by simp [LooseDef.wf, h2, h3], h5, defTree_of_named h6⟩)
  interfaceExt := (tr_interfaceTypeExtension n).mono (fun _ h => (estart_ext2 h).2) (by
    rintro _ cs e ⟨nm, impl, ds, fs, ed, h1, h2, h3, h5, h6⟩
    exact ⟨.interfaceExt nm impl ds fs, ed, h1, by simp [LooseDef.wf, h2, h3], h5, defTree_of_named h6⟩)
  unionExt := (tr_unionTypeExtension n).mono (fun _ h => (estart_ext2 h).2) (by
    rintro _ cs e ⟨nm, ds, ms, ed, h1, h2, h5, h6⟩
    exact ⟨.unionExt nm ds ms, ed, h1, h2, h5, defTree_of_named h6⟩)
  enumExt := (tr_enumTypeExtension n).mono (fun _ h => (estart_ext2 h).2) (by
    rintro _ cs e ⟨nm, ds, vs, ed, h1, h2, h3, h4, h5, h6⟩
    exact ⟨.enumExt nm ds vs, ed, h1, by simp [LooseDef.wf, h2, h3, all_notKeyword h4], h5, defTree_of_named h6⟩)
  inputExt := (tr_inputObjectTypeExtension n).mono (fun _ h => (estart_ext2 h).2) (by
    rintro _ cs e ⟨nm, ds, fs, ed, h1, h2, h3, h5, h6⟩
    exact ⟨.inputExt nm ds fs, ed, h1, by simp [LooseDef.wf, h2, h3], h5, defTree_of_named h6⟩)

/-! ### executable documents -/

/-- **stage (iv)**: an accepted document whose tree holds executable definitions only — the significant tokens are the
    printer's tokens of a non-empty list of well-formed executable definitions `its` (each in the long form, operations
    also in the shorthand form), `Document::from_cst` on the tree returns exactly these definitions, and so does the
    reference parser on the tokens -/
theorem parseExecutableDocument_agrees (rl : Nat) (src : Str) (root : Elem)
    (h : (parse .document none rl src).outcome = .tree root) (herr : (parse .document none rl src).errors = [])
    (hexec : ExecRoot root) :
    LexClean src ∧ ∃ (ts : List Tok) (e : Tok) (its : List Ast.Item), sig (srcToks src) = ts ++ [e] ∧ e.kind = .eof ∧
      its ≠ [] ∧ TokIs ts (Ast.itemsToks its) ∧ (∀ i ∈ its, Ast.wfDefinition i.2 = true ∧ isExecutable i.2 = true) ∧
      (FromCst.fromCst root).1 = its.map (·.2) ∧
      ∀ f, Ast.szDefinitions (its.map (·.2)) ≤ f → Ast.pDocument f (Ast.itemsToks its) = some (its.map (·.2)) := by
  obtain ⟨hclean, ts, e, inner, h1, h2, hroot, items, hne, hts, hsig, hall⟩ := parseDocument_cst (fun n => defTrs_of_ts n TsAny (tsTrs n)) rl src root h herr
  have hall' : ∀ i ∈ items, ∃ (it : Ast.Item) (ed : Elem), TokIs i.1 (Ast.tDefinition it.1 it.2) ∧ Ast.wfDefinition it.2 = true ∧
      i.2 = [ed] ∧ DefConv it.2 ed ∧ isExecutable it.2 = true := by
    intro i hi
    rcases hall i hi with ⟨it, ed, a, b, c, d, e', _⟩ | ⟨l, ed, _, _, he', hd⟩
    · exact ⟨it, ed, a, b, c, d, e'⟩
    · exfalso
      obtain ⟨K, inner', rfl, hk1, hk2⟩ := FromCst.defTree_kind l ed hd
      have hmem : Elem.node K inner' ∈ inner := by
        apply FromCst.mem_sigE
        rw [hsig]
        exact List.mem_flatten.mpr ⟨i.2, List.mem_map.mpr ⟨i, hi, rfl⟩, by rw [he']; simp⟩
      have := hexec "DOCUMENT" inner hroot _ hmem (by rw [FromCst.nodeP_node]; exact hk1)
      rw [FromCst.nodeP_node, hk2] at this
      cases this
  obtain ⟨its, g1, g2, g3, g4⟩ := document_fromCst_of_itemsX (fun it => isExecutable it.2 = true) root inner ts items hroot hne hts hsig hall'
  refine ⟨hclean, ts, e, its, h1, h2, g1, g2, g3, g4, fun f hf => ?_⟩
  exact Ast.items_document_roundtrip its f g1 (fun i hi => (g3 i hi).1) hf
    (Ast.itemsFollowOk_of_closed its (fun i hi => exec_closed (g3 i hi).2))

/-- **which parser ran is decided by the tokens**: if the tokens consumed by the loop of `document()` (executable
    instance) are the printer's tokens of the executable definitions `its0`, every item is one of these definitions, in
    order, and its node converts to it -/
theorem exec_items_match : ∀ (items : List (List Tok × List Elem)) (its0 : List Ast.Item),
    (∀ i ∈ items, ExecItemR i.1 i.2 ∨ TsAny i.1 i.2) → (∀ it ∈ its0, Ast.wfDefinition it.2 = true ∧ isExecutable it.2 = true) →
    TokIs (items.map (·.1)).flatten (Ast.itemsToks its0) →
    ∃ eds, (items.map (·.2)).flatten = eds ∧ All2 (fun e (it : Ast.Item) => DefConv it.2 e) eds its0
  | [], its0, _, _, ht => by
    cases its0 with
    | nil => exact ⟨[], rfl, All2.nil⟩
    | cons it0 r0 =>
      exfalso
      simp only [List.map_nil, List.flatten_nil, TokIs, List.map_nil] at ht
      rw [Ast.itemsToks_cons] at ht
      exact Ast.tDefinition_ne_nil it0.1 it0.2 _ (List.map_eq_nil_iff.mp ht.symm)
  | i :: items, its0, hall, h0, ht => by
    simp only [List.map_cons, List.flatten_cons] at ht
    have hi := hall i List.mem_cons_self
    cases its0 with
    | nil =>
      exfalso
      simp only [Ast.itemsToks, List.map_nil, List.flatten_nil, TokIs, List.map_append, List.append_eq_nil_iff,
        List.map_eq_nil_iff] at ht
      rcases hi with ⟨it, ed, a, _⟩ | ⟨l, _, hx, _⟩
      · rw [ht.1] at a
        simp only [TokIs, List.map_nil] at a
        exact Ast.tDefinition_ne_nil it.1 it.2 [] (by rw [List.append_nil]; exact List.map_eq_nil_iff.mp a.symm)
      · have hh := looseDef_tsStart l
        rw [ht.1] at hx
        simp only [TokIs, List.map_nil] at hx
        have : l.toks = [] := List.map_eq_nil_iff.mp hx.symm
        rw [this] at hh
        cases hh
    | cons it0 r0 =>
      rw [Ast.itemsToks_cons] at ht
      obtain ⟨hw0, he0⟩ := h0 it0 List.mem_cons_self
      rcases hi with ⟨it, ed, a, hw, he, hc, hex, _⟩ | ⟨l, _, hx, _⟩
      · obtain ⟨Y, hY, hrest⟩ := tokIs_split ht a
        have f := max (Ast.szDefinition it.2) (Ast.szDefinition it0.2)
        have p1 := Ast.closed_roundtrip it.1 it.2 (max (Ast.szDefinition it.2) (Ast.szDefinition it0.2)) Y
          (exec_closed hex) hw (Nat.le_max_left _ _)
        have p2 := Ast.closed_roundtrip it0.1 it0.2 (max (Ast.szDefinition it.2) (Ast.szDefinition it0.2)) (Ast.itemsToks r0)
          (exec_closed he0) hw0 (Nat.le_max_right _ _)
        rw [← hY, p2] at p1
        simp only [Option.some.injEq, Prod.mk.injEq] at p1
        obtain ⟨hd, hYr⟩ := p1
        rw [← hYr] at hrest
        obtain ⟨eds, h1, h2⟩ := exec_items_match items r0 (fun j hj => hall j (List.mem_cons_of_mem _ hj))
          (fun j hj => h0 j (List.mem_cons_of_mem _ hj)) hrest
        refine ⟨ed :: eds, by simp only [List.map_cons, List.flatten_cons, he, h1]; rfl, All2.cons ?_ h2⟩
        rw [hd]; exact hc
      · exfalso
        have hh := looseDef_tsStart l
        obtain ⟨Y, hY, _⟩ := tokIs_split ht hx
        have h1 := exec_head it0.1 it0.2 (Ast.itemsToks r0) he0
        rw [hY] at h1
        cases hl : l.toks with
        | nil => rw [hl] at hh; cases hh
        | cons a x' =>
          rw [hl] at h1 hh
          simp only [List.cons_append, List.head?_cons, Option.map_some, Option.some.injEq] at h1 hh
          rw [hh] at h1
          cases h1

/-- **pipeline, executable documents, token level**: a source accepted by `Parser::parse` whose significant tokens are
    the printer's tokens of the well-formed executable definitions `its0` (each in either form) — `Document::from_cst` on
    the tree returns exactly these definitions -/
theorem pipeline_exec_of_tokens (rl : Nat) (src : Str) (root : Elem) (its0 : List Ast.Item)
    (h : (parse .document none rl src).outcome = .tree root) (herr : (parse .document none rl src).errors = [])
    (h0 : ∀ it ∈ its0, Ast.wfDefinition it.2 = true ∧ isExecutable it.2 = true)
    (ts : List Tok) (e : Tok) (hsig : sig (srcToks src) = ts ++ [e]) (hx : TokIs ts (Ast.itemsToks its0)) :
    (FromCst.fromCst root).1 = its0.map (·.2) := by
  obtain ⟨_, ts', e', inner, h1, h2, hroot, items, hne, hts, hsigE, hall⟩ := parseDocument_cst (fun n => defTrs_of_ts n TsAny (tsTrs n)) rl src root h herr
  have hts' : ts' = ts := by
    have hh := hsig.symm.trans h1
    have hl := congrArg List.length hh
    simp at hl
    exact ((List.append_inj hh hl).1).symm
  subst hts'
  rw [hts] at hx
  obtain ⟨eds, g1, g2⟩ := exec_items_match items its0 hall h0 hx
  rw [hroot]
  exact fromCst_document inner eds its0 (by rw [hsigE, g1]) g2

/-! ### every accepted document -/

def DocItem.conv : DocItem → Ast.Definition
  | .exec _ d => d
  | .loose l => looseConv l

def DocItem.wfB : DocItem → Prop
  | .exec _ d => Ast.wfDefinition d = true
  | .loose l => l.wf = true

def DocItemR (cs : List Tok) (e : List Elem) : Prop :=
  ∃ (i : DocItem) (ed : Elem), TokIs cs i.toks ∧ i.wfB ∧ e = [ed] ∧ DefConv i.conv ed

theorem docItemR_of_exec {cs : List Tok} {e : List Elem} (h : ExecItemR cs e) : DocItemR cs e := by
  obtain ⟨it, ed, a, b, c, d, _⟩ := h
  exact ⟨.exec it.1 it.2, ed, a, b, c, d⟩

theorem docItemR_of_ts {cs : List Tok} {e : List Elem} (h : TsAny cs e) : DocItemR cs e := by
  obtain ⟨l, ed, a, b, c, d⟩ := h
  obtain ⟨K, kcs, rfl, hk, _⟩ := FromCst.defTree_kind l ed d
  exact ⟨.loose l, _, a, b, c, by rw [FromCst.nodeP_node]; exact hk, fun m hm => FromCst.cDefinition_defTree m l _ d hm⟩

theorem docItems_collect : ∀ (items : List (List Tok × List Elem)), (∀ i ∈ items, DocItemR i.1 i.2) →
    ∃ (its : List DocItem) (eds : List Elem), TokIs (items.map (·.1)).flatten (docToks its) ∧
      (items.map (·.2)).flatten = eds ∧ its.length = items.length ∧ (∀ i ∈ its, i.wfB) ∧
      All2 (fun e (i : DocItem) => DefConv i.conv e) eds its
  | [], _ => ⟨[], [], TokIs.nil, rfl, rfl, (by intro i hi; cases hi), All2.nil⟩
  | i :: items, h => by
    obtain ⟨its, eds, h1, h2, h3, h4, h5⟩ := docItems_collect items (fun j hj => h j (List.mem_cons_of_mem _ hj))
    obtain ⟨it, ed, ht, hw, he, hc⟩ := h i List.mem_cons_self
    refine ⟨it :: its, ed :: eds, ?_, ?_, by simp [h3], ?_, All2.cons hc h5⟩
    · simp only [List.map_cons, List.flatten_cons, docToks]
      exact ht.append h1
    · simp only [List.map_cons, List.flatten_cons, he, h2]; rfl
    · intro j hj
      rcases List.mem_cons.mp hj with rfl | hj
      · exact hw
      · exact h4 j hj

theorem strictItems_conv : ∀ (its : List DocItem) (items : List Ast.Item), strictItems its = some items →
    (∀ i ∈ its, i.wfB) → its.map DocItem.conv = items.map (·.2) ∧ ∀ a ∈ items, Ast.wfDefinition a.2 = true
  | [], items, h, _ => by
    simp only [strictItems, Option.some.injEq] at h
    subst h
    exact ⟨rfl, by intro a ha; cases ha⟩
  | i :: r, items, h, hw => by
    simp only [strictItems] at h
    cases hi : i.strict with
    | none => rw [hi] at h; simp at h
    | some a =>
      cases hr : strictItems r with
      | none => rw [hi, hr] at h; simp at h
      | some b =>
        rw [hi, hr] at h
        simp only [Option.some.injEq] at h
        subst h
        obtain ⟨ih1, ih2⟩ := strictItems_conv r b hr (fun j hj => hw j (List.mem_cons_of_mem _ hj))
        have hwi := hw i List.mem_cons_self
        have key : i.conv = a.2 ∧ Ast.wfDefinition a.2 = true := by
          cases i with
          | exec oe d =>
            simp only [DocItem.strict, Option.some.injEq] at hi
            subst hi
            exact ⟨rfl, hwi⟩
          | loose l =>
            simp only [DocItem.strict, Option.map_eq_some_iff] at hi
            obtain ⟨d, hd, rfl⟩ := hi
            exact ⟨FromCst.looseConv_strict l d hd, LooseDef.wf_strict l d hd hwi⟩
        refine ⟨by simp only [List.map_cons, key.1, ih1], ?_⟩
        intro x hx
        rcases List.mem_cons.mp hx with rfl | hx
        · exact key.2
        · exact ih2 x hx

/-- **document_pipeline_agrees, for EVERY accepted document.**  `Parser::parse` without error: the significant tokens
    are `docToks its` for a non-empty list of items — executable definitions in either form, type-system definitions
    and extensions up to the two liberties (`LooseDef`), all with the well-formedness facts the parser establishes —
    and `Document::from_cst` on the tree returns, item by item, the definition (`DocItem.conv`: for a loose definition
    `looseConv`, i.e. a leading `&` / `|` is not represented and a root operation without its type is dropped).
    STRICT CASE: when no item uses a liberty (`strictItems its = some items`) the tokens are the printer's tokens
    `itemsToks items`, every definition is well-formed (`wfDefinition`, NO hypothesis), `from_cst` returns exactly the
    definitions of `items`, and the reference parser `pDocument` returns the same list whenever the decomposition
    satisfies `ItemsFollowOk` (automatic for executable documents and for the printer's shape). -/
theorem parseDocument_agrees (rl : Nat) (src : Str) (root : Elem)
    (h : (parse .document none rl src).outcome = .tree root) (herr : (parse .document none rl src).errors = []) :
    LexClean src ∧ ∃ (ts : List Tok) (e : Tok) (its : List DocItem), sig (srcToks src) = ts ++ [e] ∧ e.kind = .eof ∧
      its ≠ [] ∧ TokIs ts (docToks its) ∧ (∀ i ∈ its, i.wfB) ∧ (FromCst.fromCst root).1 = its.map DocItem.conv ∧
      ∀ items, strictItems its = some items →
        items ≠ [] ∧ docToks its = Ast.itemsToks items ∧ (∀ a ∈ items, Ast.wfDefinition a.2 = true) ∧
        (FromCst.fromCst root).1 = items.map (·.2) ∧
        (Ast.ItemsFollowOk items → ∀ f, Ast.szDefinitions (items.map (·.2)) ≤ f →
          Ast.pDocument f (Ast.itemsToks items) = some ((FromCst.fromCst root).1)) := by
  obtain ⟨hclean, ts, e, inner, h1, h2, hroot, items, hne, hts, hsig, hall⟩ :=
    parseDocument_cst (fun n => defTrs_of_ts n TsAny (tsTrs n)) rl src root h herr
  obtain ⟨its, eds, g1, g2, g3, g4, g5⟩ := docItems_collect items
    (fun i hi => (hall i hi).elim docItemR_of_exec docItemR_of_ts)
  have hne' : its ≠ [] := by
    intro h0
    rw [h0] at g3
    cases items with
    | nil => exact hne rfl
    | cons a b => simp at g3
  have hfrom : (FromCst.fromCst root).1 = its.map DocItem.conv := by
    rw [hroot]
    have := fromCst_document inner eds (its.map (fun i => ((false, i.conv) : Ast.Item))) (by rw [hsig, g2])
      (all2_map_right _ _ _ _ g5)
    rw [this, List.map_map]
    rfl
  refine ⟨hclean, ts, e, its, h1, h2, hne', by rw [hts]; exact g1, g4, hfrom, ?_⟩
  intro sitems hs
  obtain ⟨ht, hlen⟩ := strictItems_toks its sitems hs
  obtain ⟨hc, hw⟩ := strictItems_conv its sitems hs g4
  have hne'' : sitems ≠ [] := by
    rintro rfl
    cases its with
    | nil => exact hne' rfl
    | cons a b => simp at hlen
  refine ⟨hne'', ht, hw, by rw [hfrom, hc], fun hf f hsz => ?_⟩
  rw [hfrom, hc]
  exact Ast.items_document_roundtrip sitems f hne'' hw hsz hf

end Apollo.Parse
