import ApolloModel.Proofs.Strings3
namespace Apollo.Strs

/-- the pieces of a quoted string's body per the spec grammar (StringCharacter) -/
inductive SChar where
  | plain (c : Char)                       -- SourceCharacter but not `"` or `\` or LineTerminator
  | escaped (c2 : Char)                    -- `\` EscapedCharacter
  | unicode (h1 h2 h3 h4 : Char)           -- `\u` EscapedUnicode
  deriving Repr

def SChar.render : SChar → Str
  | .plain c => [c]
  | .escaped c2 => ['\\', c2]
  | .unicode h1 h2 h3 h4 => ['\\', 'u', h1, h2, h3, h4]

/-- the spec's semantic value of one StringCharacter -/
def SChar.value : SChar → Option Char
  | .plain c => some c
  | .escaped c2 =>   -- table of §2.9.4
    if c2 == '"' then some '"' else if c2 == '\\' then some '\\' else if c2 == '/' then some '/'
    else if c2 == 'b' then some (Char.ofNat 8) else if c2 == 'f' then some (Char.ofNat 12)
    else if c2 == 'n' then some (Char.ofNat 10) else if c2 == 'r' then some (Char.ofNat 13)
    else if c2 == 't' then some (Char.ofNat 9) else none
  | .unicode h1 h2 h3 h4 =>
    match hexDigit? h1, hexDigit? h2, hexDigit? h3, hexDigit? h4 with
    | some a, some b, some c, some d =>
      let v := ((a * 16 + b) * 16 + c) * 16 + d
      if 0xD800 ≤ v && v ≤ 0xDFFF then none else some (Char.ofNat v)   -- surrogates: documented exception
    | _, _, _, _ => none

def SChar.valid : SChar → Bool
  | .plain c => c != '\\' && c != '"' && c != '\n' && c != '\r'
  | s => s.value.isSome

theorem escapedChar_eq_value (c2 : Char) : escapedChar? c2 = (SChar.escaped c2).value := by
  unfold escapedChar? SChar.value
  by_cases h1 : c2 = '"'
  · subst h1; rfl
  · by_cases h2 : c2 = '\\'
    · subst h2; rfl
    · by_cases h3 : c2 = '/'
      · subst h3; rfl
      · simp [h1, h2, h3]

theorem hexDigit_lt {c : Char} {d : Nat} (h : hexDigit? c = some d) : d < 16 := by
  unfold hexDigit? at h
  by_cases h1 : (48 ≤ c.toNat && c.toNat ≤ 57) = true
  · simp only [h1, if_true, Option.some.injEq] at h
    simp only [Bool.and_eq_true, decide_eq_true_eq] at h1
    omega
  · simp only [h1, Bool.false_eq_true, if_false] at h
    by_cases h2 : (97 ≤ c.toNat && c.toNat ≤ 102) = true
    · simp only [h2, if_true, Option.some.injEq] at h
      simp only [Bool.and_eq_true, decide_eq_true_eq] at h2
      omega
    · simp only [h2, Bool.false_eq_true, if_false] at h
      by_cases h3 : (65 ≤ c.toNat && c.toNat ≤ 70) = true
      · simp only [h3, if_true, Option.some.injEq] at h
        simp only [Bool.and_eq_true, decide_eq_true_eq] at h3
        omega
      · simp [h3] at h

theorem unescape_schar (fuel : Nat) (x : SChar) (ch : Char) (rest : Str) (hv : x.valid = true)
    (hval : x.value = some ch) :
    unescapeStringAux (fuel + 1) (x.render ++ rest) = (unescapeStringAux fuel rest).map (ch :: ·) := by
  cases x with
  | plain c =>
    simp only [SChar.valid, Bool.and_eq_true, bne_iff_ne] at hv
    simp only [SChar.value, Option.some.injEq] at hval
    subst hval
    simpa [SChar.render] using unescape_plain fuel c rest hv.1.1.1
  | escaped c2 =>
    have hne : c2 ≠ 'u' := by
      intro e; subst e; simp [SChar.value] at hval
    simp only [SChar.render, List.cons_append, List.nil_append]
    rw [unescape_esc fuel c2 rest hne, escapedChar_eq_value, hval]
  | unicode h1 h2 h3 h4 =>
    simp only [SChar.render, List.cons_append, List.nil_append]
    rw [unescape_u]
    simp only [SChar.value] at hval
    cases ha : hexDigit? h1 with
    | none => simp [ha] at hval
    | some a =>
      cases hb : hexDigit? h2 with
      | none => simp [ha, hb] at hval
      | some b =>
        cases hc : hexDigit? h3 with
        | none => simp [ha, hb, hc] at hval
        | some c =>
          cases hd : hexDigit? h4 with
          | none => simp [ha, hb, hc, hd] at hval
          | some d =>
            simp only [ha, hb, hc, hd] at hval
            have hf : hexFold (List.take 4 (h1 :: h2 :: h3 :: h4 :: rest)) = some (((a * 16 + b) * 16 + c) * 16 + d) := by
              simp [List.take, hexFold, List.foldl, ha, hb, hc, hd]
            simp only [hf]
            have := hexDigit_lt ha; have := hexDigit_lt hb; have := hexDigit_lt hc; have := hexDigit_lt hd
            by_cases hs : (0xD800 ≤ ((a * 16 + b) * 16 + c) * 16 + d && ((a * 16 + b) * 16 + c) * 16 + d ≤ 0xDFFF) = true
            · simp [hs] at hval
            · simp only [hs, Bool.false_eq_true, if_false, Option.some.injEq] at hval
              subst hval
              have hlt : ((a * 16 + b) * 16 + c) * 16 + d < 0x110000 := by omega
              simp [charFromU32?, hs, hlt]

theorem value_isSome_of_valid {x : SChar} (hv : x.valid = true) : x.value.isSome = true := by
  cases x with
  | plain c => rfl
  | escaped c2 => exact hv
  | unicode h1 h2 h3 h4 => exact hv

def renderAll (items : List SChar) : Str := items.flatMap SChar.render

def valuesAll : List SChar → Option Str
  | [] => some []
  | x :: xs => match x.value, valuesAll xs with
    | some c, some cs => some (c :: cs)
    | _, _ => none

theorem render_length_pos (x : SChar) : 0 < x.render.length := by cases x <;> simp [SChar.render]

theorem unescape_items : ∀ (items : List SChar) (fuel : Nat), items.length < fuel →
    (∀ x ∈ items, x.valid = true) → unescapeStringAux fuel (renderAll items) = valuesAll items
  | [], fuel, h, _ => by
    cases fuel with
    | zero => omega
    | succ f => simp [renderAll, unescapeStringAux, valuesAll]
  | x :: xs, fuel, h, hv => by
    cases fuel with
    | zero => omega
    | succ f =>
      have hx := hv x (by simp)
      have ih := unescape_items xs f (by simp only [List.length_cons] at h; omega) (fun y hy => hv y (by simp [hy]))
      obtain ⟨ch, hval⟩ := Option.isSome_iff_exists.1 (value_isSome_of_valid hx)
      simp only [renderAll, List.flatMap_cons, valuesAll, hval]
      rw [unescape_schar f x ch _ hx hval]
      have : unescapeStringAux f (xs.flatMap SChar.render) = valuesAll xs := ih
      rw [this]
      cases valuesAll xs <;> rfl

/-- **C06, quoted strings** — for every sequence of valid StringCharacters, `unescape_string` of the
    rendered body is the sequence of their semantic values (escape table, `\uXXXX`); that this is
    `some`, i.e. no panic, is `valuesAll_isSome`. -/
theorem unescape_string_spec (items : List SChar) (hv : ∀ x ∈ items, x.valid = true) :
    unescapeString (renderAll items) = valuesAll items := by
  unfold unescapeString
  apply unescape_items items _ _ hv
  have : items.length ≤ (renderAll items).length := by
    unfold renderAll
    induction items with
    | nil => simp
    | cons x xs ih =>
      have := render_length_pos x
      have := ih (fun y hy => hv y (by simp [hy]))
      simp only [List.flatMap_cons, List.length_append, List.length_cons]
      omega
  omega

theorem valuesAll_isSome (items : List SChar) (hv : ∀ x ∈ items, x.valid = true) : (valuesAll items).isSome = true := by
  induction items with
  | nil => rfl
  | cons x xs ih =>
    obtain ⟨c, hc⟩ := Option.isSome_iff_exists.1 (value_isSome_of_valid (hv x List.mem_cons_self))
    obtain ⟨cs, hcs⟩ := Option.isSome_iff_exists.1 (ih fun y hy => hv y (List.mem_cons_of_mem x hy))
    simp only [valuesAll, hc, hcs, Option.isSome_some]

end Apollo.Strs
