import ApolloModel.Proofs.SmithResponse2
/-
C33: `collect_fields` of apollo-smith's response builder (no visited-fragments set) against the
specification's CollectFields (§6.3.2, October 2021; `@skip`/`@include` are outside the property).

* `specCollectFields` transcribes the algorithm: ordered groups, each named fragment at most once,
  DoesFragmentTypeApply through the possible types of the fragment's type condition.
* Both collectors are related through their *flat* field sequences (`modelFlat`, `specFlat`): a grouped
  field set is determined by its keys (order of first occurrence) and its per-key lists.
* `type_condition_matches` is DoesFragmentTypeApply for schemas with unique type names.
The relation between the two flat sequences is in SmithResponse4.
-/
namespace Apollo.Smith

/-! ### ordered groups: keys and per-key lists -/

def mergeKeys (ks new : List String) : List String := new.foldl (fun acc k => if k ∈ acc then acc else acc ++ [k]) ks

def Grouped.get (g : Grouped) (k : String) : List FieldInfo :=
  match g.find? (·.1 == k) with
  | some e => e.2
  | none => []

theorem mem_mergeKeys (new : List String) : ∀ (ks : List String) (x : String), x ∈ mergeKeys ks new ↔ x ∈ ks ∨ x ∈ new := by
  unfold mergeKeys
  induction new with
  | nil => intro ks x; simp
  | cons k new ih =>
    intro ks x
    simp only [List.foldl_cons, ih, List.mem_cons]
    by_cases hk : k ∈ ks
    · simp only [hk, if_true]
      constructor
      · rintro (h | h); exact Or.inl h; exact Or.inr (Or.inr h)
      · rintro (h | h | h); exact Or.inl h; exact Or.inl (h ▸ hk); exact Or.inr h
    · simp only [hk, if_false, List.mem_append, List.mem_singleton]
      constructor
      · rintro ((h | h) | h); exact Or.inl h; exact Or.inr (Or.inl h); exact Or.inr (Or.inr h)
      · rintro (h | h | h); exact Or.inl (Or.inl h); exact Or.inl (Or.inr h); exact Or.inr h

theorem mergeKeys_append (ks a b : List String) : mergeKeys ks (a ++ b) = mergeKeys (mergeKeys ks a) b := by
  simp [mergeKeys, List.foldl_append]

theorem mergeKeys_snoc (ks a : List String) (y : String) :
    mergeKeys ks (a ++ [y]) = if y ∈ mergeKeys ks a then mergeKeys ks a else mergeKeys ks a ++ [y] := by
  rw [mergeKeys_append]; rfl

theorem mergeKeys_merge (ys : List String) : ∀ (a ks : List String),
    mergeKeys ks (mergeKeys a ys) = mergeKeys (mergeKeys ks a) ys := by
  induction ys with
  | nil => intro a ks; rfl
  | cons y ys ih =>
    intro a ks
    have e1 : mergeKeys a (y :: ys) = mergeKeys (if y ∈ a then a else a ++ [y]) ys := rfl
    have e2 : mergeKeys (mergeKeys ks a) (y :: ys) =
        mergeKeys (if y ∈ mergeKeys ks a then mergeKeys ks a else mergeKeys ks a ++ [y]) ys := rfl
    rw [e1, e2, ih]
    congr 1
    by_cases hy : y ∈ a
    · have : y ∈ mergeKeys ks a := (mem_mergeKeys a ks y).mpr (Or.inr hy)
      simp only [hy, this, if_true]
    · simp only [hy, if_false]
      exact mergeKeys_snoc ks a y

theorem mergeKeys_merged (ys ks : List String) : mergeKeys ks (mergeKeys [] ys) = mergeKeys ks ys :=
  mergeKeys_merge ys [] ks

theorem keys_addAll (more : Grouped) : ∀ g : Grouped, (g.addAll more).keys = mergeKeys g.keys more.keys := by
  unfold Grouped.addAll
  induction more with
  | nil => intro g; rfl
  | cons e rest ih =>
    intro g
    simp only [List.foldl_cons]
    rw [ih (g.add e.1 e.2), keys_add]
    rfl

theorem get_add (g : Grouped) (k : String) (fs : List FieldInfo) (k' : String) :
    (g.add k fs).get k' = if k' = k then g.get k' ++ fs else g.get k' := by
  induction g with
  | nil =>
    simp only [Grouped.add, Grouped.get, List.find?_cons, List.find?_nil]
    by_cases e : k' = k
    · subst e; simp
    · have : (k == k') = false := by simp; exact fun h => e h.symm
      simp [this, e]
  | cons entry rest ih =>
    obtain ⟨k0, fs0⟩ := entry
    simp only [Grouped.add]
    by_cases h0 : (k0 == k) = true
    · have e0 : k0 = k := by simpa using h0
      subst e0
      simp only [h0, if_true, Grouped.get, List.find?_cons]
      by_cases e : k' = k0
      · subst e; simp
      · have : (k0 == k') = false := by simp; exact fun h => e h.symm
        simp [this, e]
    · simp only [h0, Bool.false_eq_true, if_false]
      simp only [Grouped.get, List.find?_cons] at ih ⊢
      by_cases e1 : (k0 == k') = true
      · have : k0 = k' := by simpa using e1
        subst this
        have : ¬ k0 = k := by simpa using h0
        simp [this]
      · simp only [e1]
        exact ih

theorem get_nil (k : String) : Grouped.get [] k = [] := rfl

theorem get_of_not_mem (g : Grouped) (k : String) (h : k ∉ g.keys) : g.get k = [] := by
  unfold Grouped.get
  cases hf : g.find? (·.1 == k) with
  | none => rfl
  | some e =>
    exfalso
    have hm := List.mem_of_find?_eq_some hf
    have hk := List.find?_some hf
    simp at hk
    exact h (by simp only [Grouped.keys, List.mem_map]; exact ⟨e, hm, hk⟩)

theorem get_cons (k0 : String) (fs0 : List FieldInfo) (rest : Grouped) (k : String) :
    Grouped.get ((k0, fs0) :: rest) k = if k0 = k then fs0 else Grouped.get rest k := by
  unfold Grouped.get
  by_cases e : k0 = k
  · subst e; simp
  · have : (k0 == k) = false := by simpa using e
    simp [this, e]

theorem get_addAll (more : Grouped) : ∀ (g : Grouped) (k : String), more.keys.Nodup →
    (g.addAll more).get k = g.get k ++ more.get k := by
  induction more with
  | nil => intro g k _; simp [Grouped.addAll, get_nil]
  | cons e rest ih =>
    intro g k hnd
    obtain ⟨k0, fs0⟩ := e
    simp only [Grouped.keys, List.map_cons, List.nodup_cons] at hnd
    have hstep : Grouped.addAll g ((k0, fs0) :: rest) = Grouped.addAll (g.add k0 fs0) rest := by
      simp [Grouped.addAll]
    rw [hstep, ih (g.add k0 fs0) k hnd.2, get_add, get_cons]
    by_cases e : k = k0
    · subst e
      have : Grouped.get rest k = [] := get_of_not_mem rest k hnd.1
      simp [this]
    · have e' : ¬ k0 = k := fun h => e h.symm
      simp [e, e']

/-! ### flat field sequences -/

abbrev Flat := List (String × FieldInfo)

/-- response keys in order of first occurrence -/
def flatKeys (l : Flat) : List String := mergeKeys [] (l.map (·.1))
def flatGet (l : Flat) (k : String) : List FieldInfo := (l.filter (·.1 == k)).map (·.2)

theorem flatGet_append (a b : Flat) (k : String) : flatGet (a ++ b) k = flatGet a k ++ flatGet b k := by
  simp [flatGet, List.filter_append]

/-- the traversal of `collect_fields` as a flat sequence (a fragment is expanded at EVERY spread) -/
def modelFlat (s : Schema) (frags : Fragments) (concrete : Name) : Nat → Sels → Option Flat
  | 0, _ => none
  | _ + 1, .nil => some []
  | f + 1, .cons sel tl =>
    let here : Option Flat :=
      match sel with
      | .field alias name ty subTy sub => some [(alias.getD name, { name, ty, subTy, sub })]
      | .spread name =>
        match frags.get? name with
        | some (cond, fsels) => if typeConditionMatches s cond concrete then modelFlat s frags concrete f fsels else some []
        | none => some []
      | .inline tc sub =>
        let matches_ := match tc with | none => true | some c => typeConditionMatches s c concrete
        if matches_ then modelFlat s frags concrete f sub else some []
    match here, modelFlat s frags concrete f tl with
    | some a, some b => some (a ++ b)
    | _, _ => none

/-- a grouped field set and a flat sequence describe the same collection -/
def Agree : Option Grouped → Option Flat → Prop
  | some g, some l => g.keys.Nodup ∧ g.keys = flatKeys l ∧ ∀ k, g.get k = flatGet l k
  | none, none => True
  | _, _ => False

theorem agree_nil : Agree (some []) (some []) := ⟨List.nodup_nil, rfl, fun _ => rfl⟩

theorem agree_single (k : String) (i : FieldInfo) : Agree (some [(k, [i])]) (some [(k, i)]) := by
  refine ⟨by simp [Grouped.keys], by simp [Grouped.keys, flatKeys, mergeKeys], ?_⟩
  intro k'
  rw [get_cons, get_nil]
  by_cases e : k = k' <;> simp [flatGet, e]

theorem agree_combine {ga gb : Grouped} {fa fb : Flat} (ha : Agree (some ga) (some fa)) (hb : Agree (some gb) (some fb)) :
    Agree (some (Grouped.addAll (Grouped.addAll [] ga) gb)) (some (fa ++ fb)) := by
  obtain ⟨na, ka, ga'⟩ := ha
  obtain ⟨nb, kb, gb'⟩ := hb
  refine ⟨nodup_addAll _ _ (nodup_addAll _ _ List.nodup_nil), ?_, ?_⟩
  · rw [keys_addAll, keys_addAll, ka, kb]
    simp only [flatKeys, Grouped.keys, List.map_nil, List.map_append]
    rw [mergeKeys_merged, mergeKeys_merged, mergeKeys_append]
  · intro k
    rw [get_addAll _ _ _ nb, get_addAll _ _ _ na, get_nil, List.nil_append, ga', gb', flatGet_append]

def combineG (a b : Option Grouped) : Option Grouped :=
  match a, b with
  | some a, some b => some (Grouped.addAll (Grouped.addAll [] a) b)
  | _, _ => none

def combineF (a b : Option Flat) : Option Flat :=
  match a, b with
  | some a, some b => some (a ++ b)
  | _, _ => none

theorem agree_combine' {a b : Option Grouped} {la lb : Option Flat} (ha : Agree a la) (hb : Agree b lb) :
    Agree (combineG a b) (combineF la lb) := by
  cases a <;> cases la <;> cases b <;> cases lb <;> simp_all [Agree, combineG, combineF]
  exact agree_combine ha hb

theorem collectFields_cons (s : Schema) (frags : Fragments) (concrete : Name) (f : Nat) (sel : Sel) (tl : Sels) :
    collectFields s frags concrete (f + 1) (.cons sel tl) =
      combineG
        (match sel with
          | .field alias name ty subTy sub => some [(alias.getD name, [{ name, ty, subTy, sub }])]
          | .spread name =>
            match frags.get? name with
            | some (cond, fsels) => if typeConditionMatches s cond concrete then collectFields s frags concrete f fsels else some []
            | none => some []
          | .inline tc sub =>
            if (match tc with | none => true | some c => typeConditionMatches s c concrete) then collectFields s frags concrete f sub else some [])
        (collectFields s frags concrete f tl) := by
  first | rfl | (simp only [collectFields]; rfl)

theorem modelFlat_cons (s : Schema) (frags : Fragments) (concrete : Name) (f : Nat) (sel : Sel) (tl : Sels) :
    modelFlat s frags concrete (f + 1) (.cons sel tl) =
      combineF
        (match sel with
          | .field alias name ty subTy sub => some [(alias.getD name, { name, ty, subTy, sub })]
          | .spread name =>
            match frags.get? name with
            | some (cond, fsels) => if typeConditionMatches s cond concrete then modelFlat s frags concrete f fsels else some []
            | none => some []
          | .inline tc sub =>
            if (match tc with | none => true | some c => typeConditionMatches s c concrete) then modelFlat s frags concrete f sub else some [])
        (modelFlat s frags concrete f tl) := by
  first | rfl | (simp only [modelFlat]; rfl)

/-- `collect_fields` computes the grouping of its flat traversal (and fails exactly when it does) -/
theorem collectFields_agree (s : Schema) (frags : Fragments) (concrete : Name) : ∀ (f : Nat) (sels : Sels),
    Agree (collectFields s frags concrete f sels) (modelFlat s frags concrete f sels) := by
  intro f
  induction f with
  | zero => intro sels; simp [collectFields, modelFlat, Agree]
  | succ f ih =>
    intro sels
    cases sels with
    | nil => simp only [collectFields, modelFlat]; exact agree_nil
    | cons sel tl =>
      rw [collectFields_cons, modelFlat_cons]
      apply agree_combine' _ (ih tl)
      cases sel with
      | field alias name ty subTy sub => exact agree_single _ _
      | spread name =>
        simp only
        cases frags.get? name with
        | none => exact agree_nil
        | some p =>
          obtain ⟨cond, fsels⟩ := p
          simp only
          split
          · exact ih fsels
          · exact agree_nil
      | inline tc sub =>
        cases tc with
        | none => simp only [if_true]; exact ih sub
        | some c =>
          simp only
          split
          · exact ih sub
          · exact agree_nil

/-! ### the specification's CollectFields (§6.3.2) -/

/-- DoesFragmentTypeApply(objectType, fragmentType): the object type is a possible type of the fragment type
    (the type itself, an implementing object of an interface, a member of a union) -/
def doesFragmentTypeApply (s : Schema) (objectType fragmentType : Name) : Bool :=
  (possibleTypes s fragmentType).contains objectType

def fieldEntry (alias : Option Name) (name : Name) (ty : Ty) (subTy : Name) (sub : Sels) : String × FieldInfo :=
  (alias.getD name, { name, ty, subTy, sub })

/-- CollectFields(objectType, selectionSet, variableValues, visitedFragments) with `groupedFields` as the
    accumulator `acc` and `visitedFragments` threaded through; `none` = out of fuel.
    Step 3.a/3.b (`@skip`/`@include`) are not part of the property. -/
def specCollectFields (s : Schema) (frags : Fragments) (objectType : Name) :
    Nat → List Name → Grouped → Sels → Option (Grouped × List Name)
  | 0, _, _, _ => none
  | _ + 1, visited, acc, .nil => some (acc, visited)
  | f + 1, visited, acc, .cons sel tl =>
    match sel with
    | .field alias name ty subTy sub =>
      -- 3.c: append the field to the group of its response key
      specCollectFields s frags objectType f visited (acc.add (fieldEntry alias name ty subTy sub).1 [(fieldEntry alias name ty subTy sub).2]) tl
    | .spread name =>
      -- 3.d.ii: a fragment already visited is skipped
      if visited.contains name then specCollectFields s frags objectType f visited acc tl
      else
        let visited' := name :: visited                                        -- 3.d.iii
        match frags.get? name with
        | none => specCollectFields s frags objectType f visited' acc tl      -- 3.d.v
        | some (cond, fsels) =>
          if !doesFragmentTypeApply s objectType cond then specCollectFields s frags objectType f visited' acc tl  -- 3.d.vii
          else
            match specCollectFields s frags objectType f visited' [] fsels with  -- 3.d.ix
            | none => none
            | some (fragmentGroups, visited'') =>
              specCollectFields s frags objectType f visited'' (acc.addAll fragmentGroups) tl   -- 3.d.x
    | .inline tc sub =>
      let applies := match tc with | none => true | some c => doesFragmentTypeApply s objectType c   -- 3.e.ii
      if !applies then specCollectFields s frags objectType f visited acc tl
      else
        match specCollectFields s frags objectType f visited [] sub with      -- 3.e.iv
        | none => none
        | some (fragmentGroups, visited') =>
          specCollectFields s frags objectType f visited' (acc.addAll fragmentGroups) tl      -- 3.e.v

/-- the same traversal as a flat sequence -/
def specFlat (s : Schema) (frags : Fragments) (objectType : Name) : Nat → List Name → Sels → Option (Flat × List Name)
  | 0, _, _ => none
  | _ + 1, visited, .nil => some ([], visited)
  | f + 1, visited, .cons sel tl =>
    match sel with
    | .field alias name ty subTy sub =>
      (specFlat s frags objectType f visited tl).map fun r => (fieldEntry alias name ty subTy sub :: r.1, r.2)
    | .spread name =>
      if visited.contains name then specFlat s frags objectType f visited tl
      else
        match frags.get? name with
        | none => specFlat s frags objectType f (name :: visited) tl
        | some (cond, fsels) =>
          if !doesFragmentTypeApply s objectType cond then specFlat s frags objectType f (name :: visited) tl
          else
            match specFlat s frags objectType f (name :: visited) fsels with
            | none => none
            | some (lf, visited'') => (specFlat s frags objectType f visited'' tl).map fun r => (lf ++ r.1, r.2)
    | .inline tc sub =>
      let applies := match tc with | none => true | some c => doesFragmentTypeApply s objectType c
      if !applies then specFlat s frags objectType f visited tl
      else
        match specFlat s frags objectType f visited sub with
        | none => none
        | some (li, visited') => (specFlat s frags objectType f visited' tl).map fun r => (li ++ r.1, r.2)

/-- the grouped result (on top of the accumulator `acc`) and the flat result describe the same collection -/
def SAgree (acc : Grouped) : Option (Grouped × List Name) → Option (Flat × List Name) → Prop
  | some (g, v), some (l, v') =>
    v = v' ∧ g.keys.Nodup ∧ g.keys = mergeKeys acc.keys (l.map (·.1)) ∧ ∀ k, g.get k = acc.get k ++ flatGet l k
  | none, none => True
  | _, _ => False

theorem SAgree.cases {acc : Grouped} {a : Option (Grouped × List Name)} {b : Option (Flat × List Name)}
    (h : SAgree acc a b) :
    (a = none ∧ b = none) ∨ ∃ g l v, a = some (g, v) ∧ b = some (l, v) ∧ g.keys.Nodup ∧
      g.keys = mergeKeys acc.keys (l.map (·.1)) ∧ ∀ k, g.get k = acc.get k ++ flatGet l k := by
  match a, b, h with
  | none, none, _ => exact .inl ⟨rfl, rfl⟩
  | some (g, v), some (l, _), ⟨rfl, h2, h3, h4⟩ => exact .inr ⟨g, l, v, rfl, rfl, h2, h3, h4⟩

theorem flatGet_cons (e : String × FieldInfo) (l : Flat) (k : String) :
    flatGet (e :: l) k = (if e.1 = k then [e.2] else []) ++ flatGet l k := by
  unfold flatGet
  by_cases h : e.1 = k
  · simp [h]
  · have : (e.1 == k) = false := by simpa using h
    simp [this, h]

theorem specCollect_agree (s : Schema) (frags : Fragments) (obj : Name) : ∀ (f : Nat) (visited : List Name) (acc : Grouped)
    (sels : Sels), acc.keys.Nodup →
    SAgree acc (specCollectFields s frags obj f visited acc sels) (specFlat s frags obj f visited sels) := by
  intro f
  induction f with
  | zero => intro v acc sels _; simp [specCollectFields, specFlat, SAgree]
  | succ f ih =>
    intro v acc sels hacc
    cases sels with
    | nil =>
      simp only [specCollectFields, specFlat]
      exact ⟨rfl, hacc, rfl, fun k => by simp [flatGet]⟩
    | cons sel tl =>
      -- a reusable step: after merging the groups `fg ~ lf` into `acc`, continue with the tail
      have merge_step : ∀ (fg : Grouped) (lf : Flat) (v2 : List Name),
          fg.keys.Nodup → fg.keys = mergeKeys [] (lf.map (·.1)) → (∀ k, fg.get k = flatGet lf k) →
          SAgree acc (specCollectFields s frags obj f v2 (acc.addAll fg) tl)
            ((specFlat s frags obj f v2 tl).map fun r => (lf ++ r.1, r.2)) := by
        intro fg lf v2 hn hk hg
        rcases (ih v2 (acc.addAll fg) tl (nodup_addAll _ _ hacc)).cases with ⟨h1, h2⟩ | ⟨g, l, vv, h1, h2, e2, e3, e4⟩ <;>
          rw [h1, h2]
        · trivial
        · refine ⟨rfl, e2, ?_, ?_⟩
          · rw [e3, keys_addAll, hk, mergeKeys_merged, List.map_append, mergeKeys_append]
          · intro k
            rw [e4, get_addAll _ _ _ hn, hg, flatGet_append, List.append_assoc]
      have nested_step : ∀ (v1 : List Name) (sub : Sels),
          SAgree acc
            (match specCollectFields s frags obj f v1 [] sub with
              | none => none
              | some (fg, v2) => specCollectFields s frags obj f v2 (acc.addAll fg) tl)
            (match specFlat s frags obj f v1 sub with
              | none => none
              | some (li, v2) => (specFlat s frags obj f v2 tl).map fun r => (li ++ r.1, r.2)) := by
        intro v1 sub
        rcases (ih v1 [] sub List.nodup_nil).cases with ⟨h1, h2⟩ | ⟨fg, lf, v2, h1, h2, e2, e3, e4⟩ <;> rw [h1, h2]
        · trivial
        · exact merge_step fg lf v2 e2 (by simpa [Grouped.keys] using e3) (fun k => by simpa [get_nil] using e4 k)
      cases sel with
      | field alias name ty subTy sub =>
        simp only [specCollectFields, specFlat]
        rcases (ih v (acc.add (fieldEntry alias name ty subTy sub).1 [(fieldEntry alias name ty subTy sub).2]) tl
          (nodup_add _ _ _ hacc)).cases with ⟨h1, h2⟩ | ⟨g, l, vv, h1, h2, e2, e3, e4⟩ <;> rw [h1, h2]
        · trivial
        · refine ⟨rfl, e2, ?_, ?_⟩
          · rw [e3, keys_add]; rfl
          · intro k
            rw [e4, get_add, flatGet_cons]
            by_cases e : k = (fieldEntry alias name ty subTy sub).1
            · subst e; simp
            · have e' : ¬ (fieldEntry alias name ty subTy sub).1 = k := fun h => e h.symm
              simp [e, e']
      | spread name =>
        simp only [specCollectFields, specFlat]
        split
        · exact ih v acc tl hacc
        · cases frags.get? name with
          | none => exact ih _ acc tl hacc
          | some p =>
            obtain ⟨cond, fsels⟩ := p
            simp only
            split
            · exact ih _ acc tl hacc
            · exact nested_step (name :: v) fsels
      | inline tc sub =>
        cases tc with
        | none =>
          simp only [specCollectFields, specFlat, Bool.not_true, Bool.false_eq_true, if_false]
          exact nested_step v sub
        | some c =>
          by_cases hap : doesFragmentTypeApply s obj c = true
          · simp only [specCollectFields, specFlat, hap, Bool.not_true, Bool.false_eq_true, if_false]
            exact nested_step v sub
          · have hap' : doesFragmentTypeApply s obj c = false := by simpa using hap
            simp only [specCollectFields, specFlat, hap', Bool.not_false, if_true]
            exact ih v acc tl hacc

/-! ### `type_condition_matches` is DoesFragmentTypeApply -/

theorem get?_of_mem (s : Schema) (hnd : (s.map (·.1)).Nodup) (n : Name) (td : TypeDef) (h : (n, td) ∈ s) :
    s.get? n = some td := by
  induction s with
  | nil => cases h
  | cons e rest ih =>
    simp only [List.map_cons, List.nodup_cons] at hnd
    simp only [Schema.get?, List.find?_cons]
    rcases List.mem_cons.mp h with h1 | h1
    · subst h1; simp
    · have hne : e.1 ≠ n := by
        intro e1
        exact hnd.1 (by rw [e1]; exact List.mem_map.mpr ⟨(n, td), h1, rfl⟩)
      have : (e.1 == n) = false := by simpa using hne
      simp only [this]
      exact ih hnd.2 h1

theorem mem_of_get? (s : Schema) (n : Name) (td : TypeDef) (h : s.get? n = some td) : (n, td) ∈ s := by
  unfold Schema.get? at h
  cases hf : s.find? (·.1 == n) with
  | none => rw [hf] at h; cases h
  | some e =>
    rw [hf] at h
    simp at h
    have hm := List.mem_of_find?_eq_some hf
    have hk := List.find?_some hf
    simp at hk
    obtain ⟨a, b⟩ := e
    simp at hk h
    subst hk; subst h
    exact hm

/-- For an object type `concrete` of a schema with unique type names, `type_condition_matches(cond, concrete)`
    is exactly "`concrete` is a possible type of `cond`", i.e. DoesFragmentTypeApply. -/
theorem typeConditionMatches_eq_apply (s : Schema) (hnd : (s.map (·.1)).Nodup) (cond concrete : Name)
    (impls : List Name) (hc : s.get? concrete = some (.object impls)) :
    typeConditionMatches s cond concrete = doesFragmentTypeApply s concrete cond := by
  unfold typeConditionMatches doesFragmentTypeApply possibleTypes
  by_cases e : cond = concrete
  · subst e
    simp [hc]
  · have e' : (cond == concrete) = false := by simpa using e
    simp only [e', Bool.false_eq_true, if_false]
    cases hcond : s.get? cond with
    | none => (simp; exact fun h => e h.symm)
    | some td =>
      cases td with
      | interface =>
        simp only [hc, implementsDirectly]
        -- impls.contains cond ↔ concrete ∈ implementers s cond
        apply Bool.eq_iff_iff.mpr
        simp only [List.contains_iff_mem, implementers, List.mem_map, List.mem_filter]
        constructor
        · intro h
          exact ⟨(concrete, .object impls), ⟨mem_of_get? s _ _ hc, by simpa [implementsDirectly] using h⟩, rfl⟩
        · rintro ⟨⟨n, td⟩, ⟨hm, hi⟩, hn⟩
          simp at hn; subst hn
          have := get?_of_mem s hnd n td hm
          rw [hc] at this
          cases this
          simpa [implementsDirectly] using hi
      | union members => rfl
      | scalar => (simp; exact fun h => e h.symm)
      | enum vs => (simp; exact fun h => e h.symm)
      | object is => (simp; exact fun h => e h.symm)
      | input => (simp; exact fun h => e h.symm)

end Apollo.Smith
