import ApolloModel.Proofs.ParserDoc2
/-
C05, top level: `document()`, the entry point `parse .document`.
-/
set_option linter.unusedSimpArgs false
namespace Apollo.Parse
open Apollo.Rowan hiding Str
open Apollo.Lex hiding Str

def IsDocumentToks (x : List Ast.Tok) : Prop := x ≠ [] ∧ IsDefs x

/-! ### `document()` -/

theorem good_documentBody {n : Nat} (L : DefLemmas n) : Good (documentBody n) :=
  good_bind _ _ good_peek (fun _ => good_bind _ _ (good_ite _ _ _ good_err (good_pure _))
    (fun _ => good_bind _ _ (good_peekWhile _ (good_documentStep L)) (fun _ => fun s _ s' w h => (Eat.ofObsEq (pushIgnored_obs s s' h) w).adv)))

/-! Above its loop, `document()` does the same whatever is claimed of the definitions: the three theorems below carry a
claim `R` about the token list that the loop consumed up to `Parser::parse`.  `Pre` is what the loop asks of its start state;
it only has to survive the consumption of tokens. -/

theorem documentBody_frame {n : Nat} (L : DefLemmas n) {Pre : PState → Prop} {R : List Ast.Tok → Prop}
    (hpre : ∀ a b c, Eat a b c → Pre a → Pre b)
    (hloop : ∀ fuel s s', TW s → EofEnd s → Pre s → (peekWhileLoop (documentStep n) fuel).run s = .ok () s' → ¬ Doomed s' →
      ∃ cs x, Toks s = cs ++ Toks s' ∧ NoEof cs ∧ EofEnd s' ∧ TokIs (sig cs) x ∧ R x ∧ AtEof s')
    (s s' : PState) (w : TW s) (he : EofEnd s) (hs : Pre s)
    (hset : Settled s) (h : (documentBody n).run s = .ok () s') (hnd : ¬ Doomed s') :
    ∃ cs x e, Toks s = cs ++ [e] ∧ e.kind = .eof ∧ NoEof cs ∧ TokIs (sig cs) x ∧ x ≠ [] ∧ R x := by
  unfold documentBody at h
  obtain ⟨ko, sP, hp, h2⟩ := bind_dec peek _ s s' () h
  obtain ⟨o, p, hko⟩ := peek_obs s sP ko w hp
  subst hko
  have heP : EofEnd sP := p.eofEnd he
  obtain ⟨_, sE, hE, h3⟩ := bind_dec (errIfEmpty _) _ sP s' () h2
  obtain ⟨_, sL, hL, h4⟩ := bind_dec (peekWhile (documentStep n)) _ sE s' () h3
  have o4 := pushIgnored_obs sL s' h4
  have hndL : ¬ Doomed sL := fun d => hnd (o4.doomed.mpr d)
  -- `errIfEmpty`: an error unless a token other than EOF is there
  unfold errIfEmpty at hE
  by_cases hemp : (o.map (·.kind) == none || o.map (·.kind) == some .eof) = true
  · exfalso
    simp only [hemp, if_true] at hE
    have gE := good_err sP () sE p.w hE
    have gL := good_peekWhile _ (good_documentStep L) sE () sL gE.w hL
    obtain ⟨_, d⟩ := err_adv sP sE p.w hE
    have hndP : ¬ Doomed sP := fun dd => hndL (gL.doom (gE.doom dd))
    exact hndL (gL.doom (d (eofEnd_nonempty sP heP hndP)))
  · simp only [hemp, Bool.false_eq_true, if_false] at hE
    rw [run_pure] at hE
    injection hE with _ hE
    subst hE
    obtain ⟨fuel, h5⟩ := srcLen_dec _ sP sL () hL
    obtain ⟨cs, x, t1, n1, e1, hx, hdefs, hat⟩ := hloop _ sP sL p.w heP (hpre _ _ _ p.eat hs) h5 hndL
    obtain ⟨e, hte, hke⟩ := atEof_single sL e1 hndL hat
    -- the first token is significant and not EOF, so something was consumed
    obtain ⟨t, ht⟩ : ∃ t, o = some t := by
      cases o with
      | none => simp at hemp
      | some t => exact ⟨t, rfl⟩
    subst ht
    have hkt : t.kind ≠ .eof := by
      intro hk; simp [hk] at hemp
    have hni : isIgnoredKind t.kind = false := by
      have hcur : s.current = some t := by
        have h1 := hset.1
        have h2 := p.head
        rw [h1, ← h2]
      exact hset.2 t hcur
    have htP : Toks sP = t :: (Toks sP).tail := p.head_cons
    have hcs : ∃ cs', cs = t :: cs' := by
      cases cs with
      | nil =>
        exfalso
        rw [hte] at t1
        simp only [List.nil_append] at t1
        rw [t1] at htP
        injection htP with h1 _
        exact hkt (by rw [← h1]; exact hke)
      | cons a cs' =>
        rw [htP] at t1
        injection t1 with h1 _
        exact ⟨cs', by rw [h1]⟩
    obtain ⟨cs', rfl⟩ := hcs
    refine ⟨t :: cs', x, e, by rw [← p.toks, t1, hte], hke, n1, hx, ?_, hdefs⟩
    intro hx0
    subst hx0
    have : sig (t :: cs') = t :: sig cs' := by simp [sig, hni]
    rw [this] at hx
    simp [TokIs] at hx

/-- `document()`: the node, the ignored tokens in front, the body -/
theorem document_frame {n : Nat} (L : DefLemmas n) {Pre : PState → Prop} {R : List Ast.Tok → Prop}
    (hpre : ∀ a b c, Eat a b c → Pre a → Pre b)
    (hloop : ∀ fuel s s', TW s → EofEnd s → Pre s → (peekWhileLoop (documentStep n) fuel).run s = .ok () s' → ¬ Doomed s' →
      ∃ cs x, Toks s = cs ++ Toks s' ∧ NoEof cs ∧ EofEnd s' ∧ TokIs (sig cs) x ∧ R x ∧ AtEof s')
    (s s' : PState) (w : TW s) (he : EofEnd s) (hs : Pre s)
    (h : (document n).run s = .ok () s') (hnd : ¬ Doomed s') :
    ∃ ts x e, sig (Toks s) = ts ++ [e] ∧ e.kind = .eof ∧ TokIs ts x ∧ x ≠ [] ∧ R x := by
  unfold document at h
  obtain ⟨s0, s2, o0, hr0, o2⟩ := withNode_dec "DOCUMENT" (documentBody n) s s' () h
  obtain ⟨_, s1, hsk, hb⟩ := bind_dec skipIgnored _ s0 s2 () hr0
  obtain ⟨ign, e01', hall, hset⟩ := skipIgnored_spec s0 s1 (o0.w w) hsk
  have e01 : Eat s s1 ign := by simpa using (Eat.ofObsEq o0 w).trans e01'
  have he1 : EofEnd s1 := eofEnd_eat he e01 (noEof_ignored ign hall)
  have hnd2 : ¬ Doomed s2 := fun d => hnd (o2.doomed.mpr d)
  obtain ⟨cs, x, e, t1, hke, _, hx, hdoc⟩ := documentBody_frame L hpre hloop s1 s2 e01.w he1 (hpre _ _ _ e01 hs) hset hb hnd2
  refine ⟨sig cs, x, e, ?_, hke, hx, hdoc⟩
  rw [e01.toks, t1, sig_append, sig_append, sig_ignored ign hall]
  have : sig [e] = [e] := by simp [sig, isIgnoredKind, hke]
  rw [this]; rfl

theorem parseDocument_frame (L : ∀ n, DefLemmas n) {Pre : PState → Prop} {R : List Ast.Tok → Prop}
    (hpre : ∀ a b c, Eat a b c → Pre a → Pre b)
    (hloop : ∀ n fuel s s', TW s → EofEnd s → Pre s → (peekWhileLoop (documentStep n) fuel).run s = .ok () s' → ¬ Doomed s' →
      ∃ cs x, Toks s = cs ++ Toks s' ∧ NoEof cs ∧ EofEnd s' ∧ TokIs (sig cs) x ∧ R x ∧ AtEof s')
    (rl : Nat) (src : Str) (root : Elem) (h0 : LexQ (srcToks src) → Pre (initState src none rl))
    (h : (parse .document none rl src).outcome = .tree root) (herr : (parse .document none rl src).errors = []) :
    LexClean src ∧ ∃ ts x e, sig (srcToks src) = ts ++ [e] ∧ e.kind = .eof ∧ TokIs ts x ∧ x ≠ [] ∧ R x := by
  unfold parse runEntry at h herr
  simp only [Entry.standalone, Entry.grammar] at h herr
  have hinv := init_inv src none rl
  have w0 : TW (initState src none rl) := ⟨rfl, by intro h; simp [initState] at h⟩
  have htoks : Toks (initState src none rl) = srcToks src := rfl
  have hdoom : Doomed (initState src none rl) ↔ ¬ LexClean src := by
    unfold Doomed LexClean
    show ([] ≠ [] ∨ hasErr (stream (initState src none rl).lx) = true) ↔ _
    have : (initState src none rl).lx = (initState src none 0).lx := rfl
    rw [this]
    constructor
    · rintro (h | h)
      · exact absurd rfl h
      · simp [h]
    · intro h; right; simpa using h
  have he0 : EofEnd (initState src none rl) := by
    right
    obtain ⟨pre, e, hp, he, hno⟩ := stream_eof_end src.length (initState src none 0).lx (Nat.le_refl _) rfl rfl
    exact ⟨pre, e, by rw [htoks]; exact hp, he, hno⟩
  cases hr : (document (fuelFor src)).run (initState src none rl) with
  | abort w => simp [hr] at h
  | panic m => simp [hr] at h
  | ok a s =>
    simp only [hr] at h herr
    have gd := good_withNode "DOCUMENT" _ (good_documentBody (L (fuelFor src))) _ a s w0 (by unfold document at hr; exact hr)
    -- `¬ Doomed s`, the final state: no error recorded (`herr`), and the lexer is exhausted (`documentBody_final`)
    obtain ⟨hfin, hlim⟩ := PI.run_ok (document (fuelFor src)) _ hinv a s hr
    obtain ⟨cs, s2, _, _, hrun, _, _, hlx, _, _, _⟩ :=
      withNode_result "DOCUMENT" (documentBody (fuelFor src)) _ hinv a s hr
    have hi0 : Inv (rawStartNode "DOCUMENT" { initState src none rl with builder := { (initState src none rl).builder with children := (initState src none rl).builder.children ++ (initState src none rl).pending.map pendingElem }, pending := [] }) :=
      ⟨fun _ => by simp [initState, Builder.new, rawStartNode, Builder.startNode, textList, pendingText, curText],
       fun p hp => by simp [initState, Builder.new, rawStartNode, Builder.startNode] at hp; simp [hp, initState, Builder.new, rawStartNode, Builder.startNode],
       fun hfin => by simp [initState, rawStartNode] at hfin, fun t ht => by simp [initState, rawStartNode] at ht,
       fun ha => by simp [initState, rawStartNode] at ha⟩
    obtain ⟨u, s1, hsk, hbody⟩ := bind_dec skipIgnored _ _ s2 a hrun
    obtain ⟨hi1, hl1⟩ := PI.run_ok skipIgnored _ hi0 u s1 hsk
    have hl1' : s1.lx.limit = none := by rw [hl1]; rfl
    obtain ⟨_, hex2, _⟩ := documentBody_final (fuelFor src) s1 s2 hi1 hl1' hbody
    have hsrc : s.lx.src = [] := by rw [hlx]; exact hex2.2
    have hnd : ¬ Doomed s := by
      rintro (d | d)
      · exact d herr
      · rw [hasErr_src_nil s.lx gd.w.limit hsrc] at d; cases d
    have hnd0 : ¬ Doomed (initState src none rl) := fun d => hnd (gd.doom d)
    refine ⟨Classical.byContradiction (fun hc => hnd0 (hdoom.mpr hc)), ?_⟩
    have := document_frame (L (fuelFor src)) hpre (hloop _) _ s w0 he0 (h0 (lexQ_srcToks src)) hr hnd
    rw [htoks] at this
    exact this

/-- **document_accept_sound.**  If `Parser::parse` (model) returns a tree without any error, the source lexes
    cleanly and its significant tokens are the tokens of a Document of the grammar — one or more definitions,
    each in the long or the shorthand form — followed by the end of input.  Parametrised by `DefLemmas`. -/
theorem document_accept_sound (L : ∀ n, DefLemmas n) (rl : Nat) (src : Str) (root : Elem)
    (h : (parse .document none rl src).outcome = .tree root) (herr : (parse .document none rl src).errors = []) :
    LexClean src ∧ ∃ ts x e, sig (srcToks src) = ts ++ [e] ∧ e.kind = .eof ∧ TokIs ts x ∧ IsDocumentToks x :=
  parseDocument_frame L (Pre := fun s => LexQ (Toks s)) (fun a b c e hq => by rw [e.toks] at hq; exact hq.suffix)
    (fun n => docLoop_sound (L n)) rl src root id h herr

end Apollo.Parse
