import ApolloModel.Proofs.ParserValue3
/-
Values (`value.rs`, C05): what an error-free run of `value` means, and the non-recursive branches.  The soundness
induction is carried out in `Apollo.Parse.Exact`, with the recursion budget in its statement (`ValOkK`: the value
consumed has nesting depth within the budget of the start state); `ValOk` is that statement with the depth forgotten.
-/
set_option linter.unusedSimpArgs false
namespace Apollo.Parse
open Apollo.Rowan hiding Str
open Apollo.Lex hiding Str

/-- an error-free run of a value production: the consumed tokens (ignored ones removed) are the tokens of a
    well-formed value — or the run stopped at the end of input (an unclosed list: `list_value` breaks out of
    its loop at EOF without reporting; every caller then fails on its own closing token) -/
structure ValOk (isConst : Bool) (s s' : PState) : Prop where
  ex : ∃ cs, Toks s = cs ++ Toks s' ∧ NoEof cs ∧
    ((∃ v, TokIs (sig cs) (Ast.tValue v) ∧ valueOk isConst v = true) ∨ AtEof s')
  eof : EofEnd s'

theorem ValOk.transfer {c : Bool} {s0 s s' : PState} (h : ValOk c s s') (ht : Toks s = Toks s0) : ValOk c s0 s' := by
  obtain ⟨⟨cs, a, b, d⟩, e⟩ := h
  exact ⟨⟨cs, by rw [← ht]; exact a, b, d⟩, e⟩

/-! ### the keyword tests `kw`, `kwOpt` -/

theorem kw_eq {s : String} {d : Str} (h : kw s d = true) : d = s.toList := by simpa [kw] using h

theorem kw_iff {w : String} {d : Str} : kw w d = true ↔ d = w.toList := by unfold kw; exact beq_iff_eq

/-- on the characters of a string the keyword test is equality of strings, which `simp` decides on literals without
    spelling them out -/
theorem kw_toList (w v : String) : kw w v.toList = decide (v = w) := by
  unfold kw
  rw [Bool.eq_iff_iff, beq_iff_eq, decide_eq_true_eq]
  exact ⟨fun e => String.ext_iff.mpr (by simpa using e), fun e => by rw [e]⟩

theorem kwOpt_toList (w v : String) : kwOpt w (some v.toList) = decide (v = w) := by
  rw [← kw_toList]
  unfold kwOpt kw
  rw [Bool.eq_iff_iff, beq_iff_eq, beq_iff_eq, Option.some.injEq]

theorem kwOpt_eq {w : String} {d : Option Str} (h : kwOpt w d = true) : d = some w.toList := by
  simpa [kwOpt] using h

theorem kwOpt_some_eq {w : String} {d : Str} : kwOpt w (some d) = true ↔ d = w.toList := by
  unfold kwOpt; rw [beq_iff_eq]; exact ⟨fun h => by injection h, fun h => by rw [h]⟩

namespace Exact

mutual
/-- nesting of lists / objects as the recursion guard in `value.rs` counts it: the items of a list / object are
    charged a level, not the list -/
def vdepth : Ast.Value → Nat
  | .list vs => vsdepth vs
  | .obj fs => fdepth fs
  | _ => 0
def vsdepth : Ast.Values → Nat
  | .nil => 0
  | .cons v tl => max (vdepth v + 1) (vsdepth tl)
def fdepth : Ast.ObjFields → Nat
  | .nil => 0
  | .cons _ v tl => max (vdepth v + 1) (fdepth tl)
end

def argsFit (c : Bool) (b : Nat) (args : List (Ast.Str × Ast.Value)) : Prop :=
  ∀ a ∈ args, valueOk c a.2 = true ∧ vdepth a.2 ≤ b

/-- an error-free run of a value production: the consumed tokens are the tokens of a well-formed value WITHIN THE
    RECURSION BUDGET of the start state (`vdepth v + k ≤ bud s`; `k = 1` for a value under `recursion_limit`) — or the
    run stopped at the end of input -/
structure ValOkK (k : Nat) (isConst : Bool) (s s' : PState) : Prop where
  ex : ∃ cs, Toks s = cs ++ Toks s' ∧ NoEof cs ∧
    ((∃ v, TokIs (sig cs) (Ast.tValue v) ∧ valueOk isConst v = true ∧ vdepth v + k ≤ bud s) ∨ AtEof s')
  eof : EofEnd s'

abbrev ValOk (isConst : Bool) (s s' : PState) : Prop := ValOkK 0 isConst s s'

theorem ValOkK.forget {k : Nat} {c : Bool} {s s' : PState} (h : ValOkK k c s s') : Parse.ValOk c s s' := by
  obtain ⟨⟨cs, a, b, d⟩, e⟩ := h
  exact ⟨⟨cs, a, b, d.imp (fun ⟨v, h1, h2, _⟩ => ⟨v, h1, h2⟩) id⟩, e⟩

def ValSound (n : Nat) : Prop :=
  ∀ c p s s', TW s → EofEnd s → (value n c p).run s = .ok () s' → ¬ Doomed s' → ValOk c s s'

def ListSound (n : Nat) : Prop :=
  ∀ c s s' t rest, TW s → EofEnd s → Toks s = t :: rest → t.kind = .lBracket →
    (listValue n c).run s = .ok () s' → ¬ Doomed s' → ValOk c s s'

def ObjSound (n : Nat) : Prop :=
  ∀ c s s' t rest, TW s → EofEnd s → Toks s = t :: rest → t.kind = .lCurly →
    (objectValue n c).run s = .ok () s' → ¬ Doomed s' → ValOk c s s'

theorem vdepth_single {v : Ast.Value} {x : Ast.Tok} (h : Ast.tValue v = [x]) : vdepth v = 0 := by
  cases v <;> simp [vdepth]
  · simp [Ast.tValue] at h
  · simp [Ast.tValue] at h

theorem ValOk.of_eat {c : Bool} {s s' : PState} {cs : List Tok} (e : Eat s s' cs) (he : EofEnd s) (hno : NoEof cs)
    (v : Ast.Value) (ht : TokIs (sig cs) (Ast.tValue v)) (hv : valueOk c v = true)
    (hz : vdepth v = 0 := by simp [vdepth]) : ValOk c s s' :=
  ⟨⟨cs, e.toks, hno, Or.inl ⟨v, ht, hv, by rw [hz]; omega⟩⟩, eofEnd_eat he e hno⟩

theorem ValOk.transfer {k : Nat} {c : Bool} {s0 s s' : PState} (h : ValOkK k c s s') (ht : Toks s = Toks s0)
    (hb : bud s = bud s0) : ValOkK k c s0 s' := by
  obtain ⟨⟨cs, a, b, d⟩, e⟩ := h
  refine ⟨⟨cs, by rw [← ht]; exact a, b, ?_⟩, e⟩
  rcases d with ⟨v, h1, h2, h3⟩ | d
  · exact Or.inl ⟨v, h1, h2, by rw [← hb]; exact h3⟩
  · exact Or.inr d

/-- a value that is one token inside one node -/
theorem scalar_branch (K k : SK) (c : Bool) (s s' : PState) (w : TW s) (he : EofEnd s) (t : Tok) (rest : List Tok)
    (ht : Toks s = t :: rest) (hni : isIgnoredKind t.kind = false) (hne : t.kind ≠ .eof)
    (v : Ast.Value) (x : Ast.Tok) (hx : astOfV t = some x) (hv : Ast.tValue v = [x]) (hok : valueOk c v = true)
    (h : (withNode K (bump k)).run s = .ok () s') : ValOk c s s' := by
  obtain ⟨ign, e, hall⟩ := nodeBump_spec K k s s' w t rest ht hni h
  refine ValOk.of_eat e he (noEof_cons hne hall) v ?_ hok (vdepth_single hv)
  rw [sig_cons_ignV t ign hni hall, hv]
  exact TokIs.single t x hx

theorem enumValue_sound (c : Bool) (s s' : PState) (w : TW s) (he : EofEnd s) (t : Tok) (rest : List Tok)
    (ht : Toks s = t :: rest) (hk : t.kind = .name) (hnk : isValueKeyword t.data = false)
    (h : enumValue.run s = .ok () s') (hnd : ¬ Doomed s') : ValOk c s s' := by
  have hni : isIgnoredKind t.kind = false := by rw [hk]; rfl
  have hne : t.kind ≠ .eof := by rw [hk]; decide
  unfold enumValue at h
  obtain ⟨s1, s2, e1, h1, o2, ht1, he1, hnd2⟩ := withNode_entered _ _ s s' () t rest w he ht hni h hnd
  obtain ⟨o, s3, h3, h4⟩ := bind_dec peekToken _ s1 s2 () h1
  have p := peekToken_obs s1 s3 o e1.w h3
  have ho : o = some t := by have := p.head; rw [ht1] at this; simpa using this
  subst ho
  have hkk : (t.kind == Kind.name) = true := by simp [hk]
  have hkw : (kw "true" t.data || kw "false" t.data || kw "null" t.data) = false := hnk
  simp only [hkk, if_true, hkw, Bool.false_eq_true, if_false] at h4
  have ht3 : Toks s3 = t :: rest := by rw [p.toks]; exact ht1
  obtain ⟨t', rest', ign, hq, _, e, hall⟩ := name_spec s3 s2 p.w (by rw [ht3]; simp) h4 hnd2
  rw [ht3] at hq
  injection hq with hq _
  subst hq
  have etot : Eat s s' (t :: ign) := by simpa using ((e1.trans p.eat).trans e).trans (Eat.ofObsEq o2 e.w)
  refine ValOk.of_eat etot he (noEof_cons hne hall) (.enum t.data) ?_ (by simp [valueOk, hnk])
  rw [sig_cons_ignV t ign hni hall]
  exact TokIs.single t _ (by simp [astOfV, hk])

theorem nameValue_sound (c : Bool) (s s' : PState) (w : TW s) (he : EofEnd s) (t : Tok) (rest : List Tok)
    (ht : Toks s = t :: rest) (hk : t.kind = .name)
    (h : (peekToken >>= nameValueBranch).run s = .ok () s') (hnd : ¬ Doomed s') : ValOk c s s' := by
  have hni : isIgnoredKind t.kind = false := by rw [hk]; rfl
  have hne : t.kind ≠ .eof := by rw [hk]; decide
  obtain ⟨o, s1, h1, h2⟩ := bind_dec peekToken _ s s' () h
  have p := peekToken_obs s s1 o w h1
  have ho : o = some t := by have := p.head; rw [ht] at this; simpa using this
  subst ho
  have ht1 : Toks s1 = t :: rest := by rw [p.toks]; exact ht
  have he1 : EofEnd s1 := eofEnd_eat he p.eat (by intro x hx; cases hx)
  have hx : astOfV t = some (.name t.data) := by simp [astOfV, hk]
  refine ValOk.transfer ?_ p.toks (bud_peek p)
  unfold nameValueBranch at h2
  simp only [] at h2
  by_cases h_t : kw "true" t.data = true
  · simp only [h_t, if_true] at h2
    exact scalar_branch _ _ c s1 s' p.w he1 t rest ht1 hni hne (.bool true) _ hx
      (by simp [Ast.tValue, Ast.sTrue, kw_eq h_t]) rfl h2
  · simp only [h_t, Bool.false_eq_true, if_false] at h2
    by_cases h_f : kw "false" t.data = true
    · simp only [h_f, if_true] at h2
      exact scalar_branch _ _ c s1 s' p.w he1 t rest ht1 hni hne (.bool false) _ hx
        (by simp [Ast.tValue, Ast.sFalse, kw_eq h_f]) rfl h2
    · simp only [h_f, Bool.false_eq_true, if_false] at h2
      by_cases h_n : kw "null" t.data = true
      · simp only [h_n, if_true] at h2
        exact scalar_branch _ _ c s1 s' p.w he1 t rest ht1 hni hne .null _ hx
          (by simp [Ast.tValue, Ast.sNull, kw_eq h_n]) rfl h2
      · simp only [h_n, Bool.false_eq_true, if_false] at h2
        exact enumValue_sound c s1 s' p.w he1 t rest ht1 hk (by simp [isValueKeyword, h_t, h_f, h_n]) h2 hnd

theorem variableBranch_sound (c pp : Bool) (s s' : PState) (w : TW s) (he : EofEnd s) (t : Tok) (rest : List Tok)
    (ht : Toks s = t :: rest) (hk : t.kind = .dollar)
    (h : (variableBranch c pp).run s = .ok () s') (hnd : ¬ Doomed s') : ValOk c s s' := by
  have hni : isIgnoredKind t.kind = false := by rw [hk]; rfl
  have hne : t.kind ≠ .eof := by rw [hk]; decide
  unfold variableBranch at h
  cases c with
  | true =>
    exfalso
    simp only [if_true] at h
    obtain ⟨_, s1, h1, h2⟩ := bind_dec (valueErr pp) _ s s' () h
    have d1 := valueErr_dooms pp s s1 w (by rw [ht]; simp) h1
    have a1 := good_valueErr pp s () s1 w h1
    exact hnd ((good_variableNode s1 () s' a1.w h2).doom d1)
  | false =>
    simp only [Bool.false_eq_true, if_false] at h
    unfold variableNode at h
    obtain ⟨s1, s2, e1, h1, o2, ht1, he1, hnd2⟩ := withNode_entered _ _ s s' () t rest w he ht hni h hnd
    obtain ⟨_, s3, h3, h4⟩ := bind_dec (bump "DOLLAR") _ s1 s2 () h1
    obtain ⟨ign1, eb, hall1, _⟩ := bump_spec "DOLLAR" s1 s3 e1.w t rest ht1 h3
    have he3 : EofEnd s3 := eofEnd_eat he1 eb (noEof_cons hne hall1)
    have hnd3 : ¬ Doomed s3 := fun d => hnd2 ((good_name s3 () s2 eb.w h4).doom d)
    obtain ⟨t2, rest2, ign2, hq2, hk2, e2, hall2⟩ := name_spec s3 s2 eb.w (eofEnd_nonempty s3 he3 hnd3) h4 hnd2
    have hni2 : isIgnoredKind t2.kind = false := by rw [hk2]; rfl
    have hne2 : t2.kind ≠ .eof := by rw [hk2]; decide
    have etot : Eat s s' ((t :: ign1) ++ (t2 :: ign2)) := by
      simpa using ((e1.trans eb).trans e2).trans (Eat.ofObsEq o2 e2.w)
    refine ValOk.of_eat etot he (noEof_append (noEof_cons hne hall1) (noEof_cons hne2 hall2)) (.var t2.data) ?_ (by simp [valueOk])
    rw [sig_append, sig_cons_ignV t ign1 hni hall1, sig_cons_ignV t2 ign2 hni2 hall2]
    exact TokIs.cons (by simp [astOfV, hk]) (TokIs.single t2 _ (by simp [astOfV, hk2]))

end Exact
end Apollo.Parse
