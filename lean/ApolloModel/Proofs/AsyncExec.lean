import ApolloModel.Model.AsyncExec
/-
C27: sequential composition makes readiness schedules unobservable: the value and the call log of the
executor do not depend on how often any resolver future or list stream is pending.
-/
namespace Apollo.Async

namespace Fut

theorem run_bind (f : Fut α) (g : α → Fut β) : run (bind f g) = run (g (run f)) := by
  induction f with
  | ready a => rfl
  | pending f ih => simpa [bind, run] using ih

theorem polls_bind (f : Fut α) (g : α → Fut β) : polls (bind f g) = polls f + polls (g (run f)) := by
  induction f with
  | ready a => simp [bind, polls, run]
  | pending f ih => simp [bind, polls, run, ih]; omega

theorem run_delay (k : Nat) (f : Fut α) : run (delay k f) = run f := by
  induction k with
  | zero => rfl
  | succ k ih => simpa [delay, run] using ih

theorem polls_delay (k : Nat) (f : Fut α) : polls (delay k f) = k + polls f := by
  induction k with
  | zero => simp [delay]
  | succ k ih => simp [delay, polls, ih]; omega

end Fut

mutual
/-- the response of a plan, written without any reference to futures or delays -/
def Plan.resp : Plan → Resp
  | .leaf v => .leaf v
  | .error => .null
  | .obj fields => .obj fields.resp
  | .list items => .list items.resp
def Fields.resp : Fields → RFields
  | .nil => .nil
  | .cons key _ p tl => .cons key p.resp tl.resp
def Items.resp : Items → RItems
  | .nil => .nil
  | .cons _ p tl => .cons p.resp tl.resp
end

theorem run_Mbind (m : M α) (g : α → M β) (log : Log) :
    Fut.run (M.bind m g log) = Fut.run (g (Fut.run (m log)).1 (Fut.run (m log)).2) := by
  simp [M.bind, Fut.run_bind]

theorem polls_Mbind (m : M α) (g : α → M β) (log : Log) :
    Fut.polls (M.bind m g log) = Fut.polls (m log) + Fut.polls (g (Fut.run (m log)).1 (Fut.run (m log)).2) := by
  simp [M.bind, Fut.polls_bind]

@[simp] theorem run_pure (a : α) (log : Log) : Fut.run (M.pure a log) = (a, log) := rfl
@[simp] theorem polls_pure (a : α) (log : Log) : Fut.polls (M.pure a log) = 0 := rfl
@[simp] theorem run_call (l : String) (log : Log) : Fut.run (M.call l log) = ((), log ++ [l]) := rfl
@[simp] theorem polls_call (l : String) (log : Log) : Fut.polls (M.call l log) = 0 := rfl
@[simp] theorem run_wait (k : Nat) (log : Log) : Fut.run (M.wait k log) = ((), log) := by
  simp [M.wait, Fut.run_delay, Fut.run]
@[simp] theorem polls_wait (k : Nat) (log : Log) : Fut.polls (M.wait k log) = k := by
  simp [M.wait, Fut.polls_delay, Fut.polls]

mutual
theorem complete_run : ∀ (path : String) (p : Plan) (log : Log),
    Fut.run (complete path p log) = (p.resp, log ++ p.calls path)
  | _, .leaf v, log => by simp [complete, Plan.resp, Plan.calls]
  | _, .error, log => by simp [complete, Plan.resp, Plan.calls]
  | path, .obj fields, log => by
    simp [complete, run_Mbind, execFields_run path fields log, Plan.resp, Plan.calls]
  | path, .list items, log => by
    simp [complete, run_Mbind, execItems_run path 0 items log, Plan.resp, Plan.calls]
theorem execFields_run : ∀ (path : String) (fields : Fields) (log : Log),
    Fut.run (execFields path fields log) = (fields.resp, log ++ fields.calls path)
  | _, .nil, log => by simp [execFields, Fields.resp, Fields.calls]
  | path, .cons key d p tl, log => by
    simp [execFields, run_Mbind, complete_run (path ++ "/" ++ key) p, execFields_run path tl, Fields.resp, Fields.calls,
      List.append_assoc]
theorem execItems_run : ∀ (path : String) (i : Nat) (items : Items) (log : Log),
    Fut.run (execItems path i items log) = (items.resp, log ++ items.calls path i)
  | _, _, .nil, log => by simp [execItems, Items.resp, Items.calls]
  | path, i, .cons d p tl, log => by
    simp [execItems, run_Mbind, complete_run (path ++ "/" ++ seg i) p, execItems_run path (i + 1) tl, Items.resp,
      Items.calls, List.append_assoc]
end

mutual
theorem complete_polls : ∀ (path : String) (p : Plan) (log : Log), Fut.polls (complete path p log) = p.delays
  | _, .leaf v, log => by simp [complete, Plan.delays]
  | _, .error, log => by simp [complete, Plan.delays]
  | path, .obj fields, log => by simp [complete, polls_Mbind, execFields_polls path fields log, Plan.delays]
  | path, .list items, log => by simp [complete, polls_Mbind, execItems_polls path 0 items log, Plan.delays]
theorem execFields_polls : ∀ (path : String) (fields : Fields) (log : Log),
    Fut.polls (execFields path fields log) = fields.delays
  | _, .nil, log => by simp [execFields, Fields.delays]
  | path, .cons key d p tl, log => by
    simp [execFields, polls_Mbind, complete_polls (path ++ "/" ++ key) p, complete_run (path ++ "/" ++ key) p,
      execFields_polls path tl, Fields.delays]
    omega
theorem execItems_polls : ∀ (path : String) (i : Nat) (items : Items) (log : Log),
    Fut.polls (execItems path i items log) = items.delays
  | _, _, .nil, log => by simp [execItems, Items.delays]
  | path, i, .cons d p tl, log => by
    simp [execItems, polls_Mbind, complete_polls (path ++ "/" ++ seg i) p,
      complete_run (path ++ "/" ++ seg i) p, execItems_polls path (i + 1) tl, Items.delays]
    omega
end

mutual
theorem Plan.sync_resp : ∀ p : Plan, p.sync.resp = p.resp
  | .leaf _ => rfl
  | .error => rfl
  | .obj fields => by simp [Plan.sync, Plan.resp, Fields.sync_resp fields]
  | .list items => by simp [Plan.sync, Plan.resp, Items.sync_resp items]
theorem Fields.sync_resp : ∀ f : Fields, f.sync.resp = f.resp
  | .nil => rfl
  | .cons key d p tl => by simp [Fields.sync, Fields.resp, Plan.sync_resp p, Fields.sync_resp tl]
theorem Items.sync_resp : ∀ f : Items, f.sync.resp = f.resp
  | .nil => rfl
  | .cons d p tl => by simp [Items.sync, Items.resp, Plan.sync_resp p, Items.sync_resp tl]
end

mutual
theorem Plan.sync_calls : ∀ (p : Plan) (path : String), p.sync.calls path = p.calls path
  | .leaf _, _ => rfl
  | .error, _ => rfl
  | .obj fields, path => by simp [Plan.sync, Plan.calls, Fields.sync_calls fields path]
  | .list items, path => by simp [Plan.sync, Plan.calls, Items.sync_calls items path 0]
theorem Fields.sync_calls : ∀ (f : Fields) (path : String), f.sync.calls path = f.calls path
  | .nil, _ => rfl
  | .cons key d p tl, path => by simp [Fields.sync, Fields.calls, Plan.sync_calls p, Fields.sync_calls tl]
theorem Items.sync_calls : ∀ (f : Items) (path : String) (i : Nat), f.sync.calls path i = f.calls path i
  | .nil, _, _ => rfl
  | .cons d p tl, path, i => by simp [Items.sync, Items.calls, Plan.sync_calls p, Items.sync_calls tl]
end

mutual
theorem Plan.sync_delays : ∀ p : Plan, p.sync.delays = 0
  | .leaf _ => rfl
  | .error => rfl
  | .obj fields => by simp [Plan.sync, Plan.delays, Fields.sync_delays fields]
  | .list items => by simp [Plan.sync, Plan.delays, Items.sync_delays items]
theorem Fields.sync_delays : ∀ f : Fields, f.sync.delays = 0
  | .nil => rfl
  | .cons key d p tl => by simp [Fields.sync, Fields.delays, Plan.sync_delays p, Fields.sync_delays tl]
theorem Items.sync_delays : ∀ f : Items, f.sync.delays = 0
  | .nil => rfl
  | .cons d p tl => by simp [Items.sync, Items.delays, Plan.sync_delays p, Items.sync_delays tl]
end

def Fields.append : Fields → Fields → Fields
  | .nil, b => b
  | .cons k d p tl, b => .cons k d p (tl.append b)

theorem Fields.calls_append (path : String) : ∀ a b : Fields, (a.append b).calls path = a.calls path ++ b.calls path
  | .nil, b => by simp [Fields.append, Fields.calls]
  | .cons k d p tl, b => by simp [Fields.append, Fields.calls, Fields.calls_append path tl b, List.append_assoc]

end Apollo.Async
