import ApolloModel.Proofs.NameHeapName
/-
C30: every operation of the `Name` history model preserves `Inv` (hence every history does).
-/
namespace Apollo.NameHeap
open Apollo.Rc Apollo.Rc.Heap Apollo.FileId

/-- under `SlotWf` the code path taken by `as_arc` (tag bit) agrees with the pointer -/
theorem asArc_cases {h : Heap Text} {n : Name} (hw : SlotWf h (.name n)) :
    (∃ c, n.ptr = .heap c ∧ n.asArc = .arc c ∧ owns (.name n) = some c ∧ h.valOf c = some n.gText) ∨
    (∃ t, n.ptr = .static t ∧ n.asArc = .notArc ∧ owns (.name n) = none ∧ t = n.gText) := by
  obtain ⟨ht, _, _, hp⟩ := hw
  cases hptr : n.ptr with
  | heap c =>
    left
    rw [hptr] at hp ht
    refine ⟨c, rfl, ?_, ?_, hp⟩
    · simp [Name.asArc, ht, hptr, Ptr.isHeap, TAG_ARC]
    · simp [owns, hptr]
  | static t =>
    right
    rw [hptr] at hp ht
    refine ⟨t, rfl, ?_, ?_, hp⟩
    · simp [Name.asArc, ht, Ptr.isHeap, TAG_ARC]
    · simp [owns, hptr]

def mkHeapName (c : Nat) (g : Text) : Name :=
  { ptr := .heap c, len := byteLen g, start := 0, tagged := packNone TAG_ARC, gText := g, gLoc := none }

theorem nameFromArc_of_read {st : St} {c : Nat} {g : Text} (hr : st.heap.read c = some g) :
    nameFromArc st c g = (st, mkHeapName c g) := by
  simp [nameFromArc, touch, hr, mkHeapName]

theorem wf_mkHeapName {h : Heap Text} {c : Nat} {g : Text} (hv : h.valOf c = some g) : SlotWf h (.name (mkHeapName c g)) := by
  refine ⟨?_, ?_, rfl, hv⟩
  · simp [mkHeapName, tagOf_packNone, Ptr.isHeap, TAG_ARC]
  · simp [Name.location, mkHeapName, fileIdOf_packNone]

theorem owns_mkHeapName (c : Nat) (g : Text) : owns (.name (mkHeapName c g)) = some c := rfl

theorem read_alloc_new (h : Heap Text) (t : Text) : (h.alloc t).1.read (h.alloc t).2 = some t := by
  simp [Heap.read, alloc_snd, alloc_get_new]

/-! ### per-operation lemmas -/

theorem inv_new_heap_name {st : St} (inv : Inv st) {dst : Nat} (t : Text) (hd : st.slots[dst]? = some .empty) :
    Inv (step.nameFromArcRes { st with heap := (st.heap.alloc t).1 } dst (st.heap.alloc t).2 t).1 := by
  have hr : ({ st with heap := (st.heap.alloc t).1 } : St).heap.read (st.heap.alloc t).2 = some t := read_alloc_new _ _
  simp only [step.nameFromArcRes, nameFromArc_of_read hr]
  exact inv_alloc_put inv t hd (owns_mkHeapName _ _) (wf_mkHeapName (alloc_valOf_new _ _))

theorem inv_dropName {st : St} (inv : Inv st) {s : Nat} {n : Name} (hs : st.slots[s]? = some (.name n)) :
    Inv (setSlot (dropName st n) s .empty) := by
  have hw := inv.wf _ (mem_of_get hs)
  rcases asArc_cases hw with ⟨c, _, ha, ho, _⟩ | ⟨t, _, ha, ho, _⟩
  · simp only [dropName, ha]
    exact inv_decr_clear inv hs ho
  · simp only [dropName, ha]
    exact inv_replace_none inv hs ho rfl trivial

/-- `Name::from(arc)`: the handle moves from the `Arc` slot into the new name -/
theorem inv_fromArc {st : St} (inv : Inv st) {src dst c : Nat} {g : Text} (hs : st.slots[src]? = some (.arc c g))
    (hd : st.slots[dst]? = some .empty) : Inv (step.nameFromArcRes (setSlot st src .empty) dst c g).1 := by
  have hv : st.heap.valOf c = some g := inv.wf _ (mem_of_get hs)
  obtain ⟨v, hr, hv'⟩ := read_of_live inv.heap (refs_pos hs (rfl : owns (.arc c g) = some c))
  rw [hv] at hv'; cases hv'
  have hr' : (setSlot st src .empty).heap.read c = some g := hr
  simp only [step.nameFromArcRes, nameFromArc_of_read hr']
  exact inv_move inv hs rfl hd (owns_mkHeapName c g) (wf_mkHeapName hv)

theorem step_inv (st : St) (op : Op) (inv : Inv st) : Inv (step st op).1 := by
  cases op with
  | newName dst t =>
    simp only [step]
    split
    · rename_i he
      exact inv_new_heap_name inv t (isEmptyAt_iff.mp he)
    · exact inv
  | newChecked dst t =>
    simp only [step]
    split
    · rename_i he
      split
      · exact inv_new_heap_name inv t (isEmptyAt_iff.mp he)
      · exact inv
    · exact inv
  | newStatic dst t =>
    simp only [step]
    split
    · rename_i he
      refine inv_replace_none inv (isEmptyAt_iff.mp he) rfl rfl ⟨?_, ?_, rfl, rfl⟩
      · simp [tagOf_packNone, Ptr.isHeap, TAG_STATIC]
      · simp [Name.location, fileIdOf_packNone]
    · exact inv
  | newArc dst t =>
    simp only [step]
    split
    · rename_i he
      exact inv_alloc_put inv t (isEmptyAt_iff.mp he) rfl (alloc_valOf_new _ _)
    · exact inv
  | fromArc dst src =>
    simp only [step]
    split
    · rename_i c g hsrc
      split
      · rename_i he
        exact inv_fromArc inv (slotAt_arc hsrc) (isEmptyAt_iff.mp he)
      · exact inv
    · exact inv
  | tryFromArc dst src =>
    simp only [step]
    split
    · rename_i c g hsrc
      split
      · rename_i he
        have hs := slotAt_arc hsrc
        rw [touch_of_live inv.heap (refs_pos hs (rfl : owns (.arc c g) = some c))]
        split
        · exact inv_fromArc inv hs (isEmptyAt_iff.mp he)
        · exact inv_decr_clear inv hs rfl
      · exact inv
    · exact inv
  | clone dst src =>
    simp only [step]
    split
    · rename_i he
      have hd := isEmptyAt_iff.mp he
      split
      · rename_i n hsrc
        have hs := slotAt_name hsrc
        have hw := inv.wf _ (mem_of_get hs)
        rcases asArc_cases hw with ⟨c, _, ha, ho, _⟩ | ⟨t, _, ha, ho, _⟩
        · simp only [ha]
          exact inv_incr_put inv hd (refs_pos hs ho) ho hw
        · simp only [ha]
          exact inv_replace_none inv hd rfl ho hw
      · rename_i c g hsrc
        have hs := slotAt_arc hsrc
        have hw := inv.wf _ (mem_of_get hs)
        exact inv_incr_put inv hd (refs_pos hs rfl) rfl hw
      · exact inv
    · exact inv
  | drop s =>
    simp only [step]
    split
    · rename_i n hsrc
      exact inv_dropName inv (slotAt_name hsrc)
    · rename_i c g hsrc
      exact inv_decr_clear inv (slotAt_arc hsrc) rfl
    · exact inv
  | withLocation s fid0 start len =>
    simp only [step]
    split
    · rename_i n hsrc
      have hs := slotAt_name hsrc
      have hw := inv.wf _ (mem_of_get hs)
      split
      · exact inv_dropName inv hs
      · rename_i hlen
        split
        · rename_i p hp
          obtain ⟨ht, hf⟩ := pack_some_spec _ _ p (Nat.mod_lt _ (by decide)) hp
          refine inv_replace_same inv hs ?_ ?_
          · simp [owns]
          · obtain ⟨a, _, c, d⟩ := hw
            refine ⟨?_, ?_, c, d⟩
            · simpa [ht] using a
            · simp only [Name.location, hf]
              have hl : len = n.len := by simpa using hlen
              by_cases e : fid0 % 2 ^ 64 = NONE
              · simp [e]
              · simp [e, hl]
        · exact inv_dropName inv hs
    · exact inv
  | toClonedArc dst src =>
    simp only [step]
    split
    · rename_i he
      have hd := isEmptyAt_iff.mp he
      split
      · rename_i n hsrc
        have hs := slotAt_name hsrc
        have hw := inv.wf _ (mem_of_get hs)
        rcases asArc_cases hw with ⟨c, _, ha, ho, hv⟩ | ⟨t, _, ha, ho, _⟩
        · simp only [ha]
          exact inv_incr_put inv hd (refs_pos hs ho) rfl hv
        · simp only [ha]
          exact inv
      · exact inv
    · exact inv
  | intoArc dst src =>
    simp only [step]
    split
    · rename_i he
      have hd := isEmptyAt_iff.mp he
      split
      · rename_i n hsrc
        have hs := slotAt_name hsrc
        have hw := inv.wf _ (mem_of_get hs)
        have hne : src ≠ dst := by
          intro e; subst e; rw [hs] at hd; cases hd
        rcases asArc_cases hw with ⟨c, _, ha, ho, hv⟩ | ⟨t, hptr, ha, ho, htext⟩
        · simp only [ha]
          -- the same state as: `to_cloned_arc` into `dst`, then drop of the name in `src`
          have h1 : Inv (setSlot { st with heap := st.heap.incr c } dst (.arc c n.gText)) :=
            inv_incr_put inv hd (refs_pos hs ho) rfl hv
          have hs1 : (setSlot { st with heap := st.heap.incr c } dst (.arc c n.gText)).slots[src]? = some (.name n) := by
            simp only [setSlot]; rw [List.getElem?_set, if_neg (fun e => hne e.symm)]; exact hs
          have h2 := inv_decr_clear h1 hs1 ho
          simp only [dropName, ha]
          have e : (st.slots.set dst (.arc c n.gText)).set src .empty = (st.slots.set src .empty).set dst (.arc c n.gText) :=
            (List.set_comm _ _ hne).symm
          simpa [setSlot, e] using h2
        · simp only [ha, hptr]
          have h1 : Inv (setSlot { st with heap := (st.heap.alloc ((n.read st.heap).getD [])).1 } dst
              (.arc (st.heap.alloc ((n.read st.heap).getD [])).2 n.gText)) := by
            refine inv_alloc_put inv _ hd rfl ?_
            have : (n.read st.heap).getD [] = n.gText := by simp [Name.read, hptr, htext]
            rw [this]
            exact alloc_valOf_new _ _
          have hs1 : (setSlot { st with heap := (st.heap.alloc ((n.read st.heap).getD [])).1 } dst
              (.arc (st.heap.alloc ((n.read st.heap).getD [])).2 n.gText)).slots[src]? = some (.name n) := by
            simp only [setSlot]; rw [List.getElem?_set, if_neg (fun e => hne e.symm)]; exact hs
          have h2 := inv_replace_none (s := .empty) h1 hs1 ho rfl trivial
          simp only [dropName, ha]
          have e : ∀ x, (st.slots.set dst x).set src .empty = (st.slots.set src .empty).set dst x :=
            fun x => (List.set_comm _ _ hne).symm
          simpa [setSlot, e] using h2
      · exact inv
    · exact inv

theorem init_inv (pool : Nat) : Inv (init pool) := by
  refine ⟨⟨?_, ?_, rfl, rfl⟩, ?_, rfl⟩
  · intro c
    simp [init, Heap.empty, strongOf, refsOf_replicate owns .empty rfl]
  · intro c cell hc; simp [init, Heap.empty] at hc
  · intro s hs
    simp [init] at hs
    rw [hs.2]; trivial

theorem run_inv (ops : List Op) : ∀ (st : St), Inv st → Inv (run st ops) := by
  induction ops with
  | nil => intro st h; exact h
  | cons op rest ih => intro st h; exact ih _ (step_inv st op h)

end Apollo.NameHeap
