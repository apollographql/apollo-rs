import ApolloModel.Proofs.ParserDef5
/-
C05, type-system definitions: braced / parenthesised non-empty lists of items (`accQ_braced`, `accQ_curlyItems`), and the
first production built from them, the arguments definition.
-/
set_option linter.unusedSimpArgs false
namespace Apollo.Parse
open Apollo.Rowan hiding Str
open Apollo.Lex hiding Str

def bracedTail (p : Kind → Bool) (item : PI Unit) (closeK : Kind) (closeSk : SK) : PI Unit :=
  peekWhile (itemsBody p item) >>= fun _ => expect closeK closeSk

def bracedBody (openSk : SK) (first : Option Kind → Bool) (p : Kind → Bool) (item : PI Unit) (closeK : Kind) (closeSk : SK) : PI Unit :=
  bump openSk >>= fun _ => peek >>= fun k =>
    if first k then (item >>= fun _ => bracedTail p item closeK closeSk) else (err >>= fun _ => bracedTail p item closeK closeSk)

def BracedR (xo xc : Ast.Tok) (Q : List Ast.Tok → Prop) (x : List Ast.Tok) : Prop :=
  ∃ items : List (List Ast.Tok), items ≠ [] ∧ x = xo :: items.flatten ++ [xc] ∧ ∀ i ∈ items, Q i

/-- **a braced / parenthesised non-empty list** `open Item+ close`; the items are read at the budget of the list -/
theorem accQ_braced (openK : Kind) (openSk : SK) (xo : Ast.Tok) (closeK : Kind) (closeSk : SK) (xc : Ast.Tok)
    (first : Option Kind → Bool) (p : Kind → Bool) (item : PI Unit) (Q : Nat → List Ast.Tok → Prop)
    (hxo : ∀ t : Tok, t.kind = openK → astOfV t = some xo) (hnio : isIgnoredKind openK = false) (hneo : openK ≠ .eof)
    (hxc : ∀ t : Tok, t.kind = closeK → astOfV t = some xc) (hnic : isIgnoredKind closeK = false) (hnec : closeK ≠ .eof)
    (hfirst : ∀ k, first k = true → ∃ kk, k = some kk ∧ p kk = true)
    (hitem : AccQ AtEof (KindP p) item (fun B _ _ => Q B)) :
    AccQ (fun _ => False) (KindP (· == openK)) (bracedBody openSk first p item closeK closeSk)
      (fun B _ _ => BracedR xo xc (Q B)) := by
  unfold bracedBody
  have gtail : Good (bracedTail p item closeK closeSk) :=
    good_bind _ _ (good_peekWhile _ (good_itemsBody p item hitem.1)) (fun _ => good_expect _ _)
  have hinner : AccQ (fun _ => False) (fun _ => True)
      (peek >>= fun k => if first k then (item >>= fun _ => bracedTail p item closeK closeSk)
        else (err >>= fun _ => bracedTail p item closeK closeSk))
      (fun B _ _ x => ∃ items : List (List Ast.Tok), items ≠ [] ∧ x = items.flatten ++ [xc] ∧ ∀ i ∈ items, Q B i) := by
    apply accQ_peek
    intro k
    apply accQ_ite
    · intro hk
      obtain ⟨kk, hkk, hpk⟩ := hfirst k hk
      have hm := accQ_bind early_atEof (H := fun q => True ∧ q.head?.map (·.kind) = k)
        (hitem.mono (by
          intro q ⟨_, hq⟩
          rw [hkk] at hq
          cases hh : q.head? with
          | none => rw [hh] at hq; cases hq
          | some t => rw [hh] at hq; exact ⟨t, hh, by simp at hq; rw [hq]; exact hpk⟩) (fun _ _ _ _ h => h))
        (fun _ => accQ_itemsWhile early_atEof p item Q hitem)
      -- the closing token excludes that the items stopped at the end of input
      have hc := accQ_close closeK closeSk xc hxc hnic hnec hm
      refine (accQ_of_run_eq (fun s => run_assoc item _ _ s) hc).mono (fun _ h => h) ?_
      rintro B _ _ x ⟨_, x1, e, _, y1, y2, e2, hq1, items, hi, hall⟩
      exact ⟨y1 :: items, by simp, by rw [e, e2, hi]; simp, List.forall_mem_cons.mpr ⟨hq1, hall⟩⟩
    · intro _
      exact (acc_err' _ gtail).never
  have hb := acc_bumpKind (E := fun _ => False) openK openSk xo hxo hnio hneo
  refine (accQ_bind early_false hb.toQ (fun _ => hinner)).mono (fun _ h => h) ?_
  rintro B _ _ x ⟨_, x1, x2, e, h1, items, hne, h2, hall⟩
  exact ⟨items, hne, by rw [e, h1, h2]; rfl, hall⟩

theorem acc_braced (openK : Kind) (openSk : SK) (xo : Ast.Tok) (closeK : Kind) (closeSk : SK) (xc : Ast.Tok)
    (first : Option Kind → Bool) (p : Kind → Bool) (item : PI Unit) (Q : List Ast.Tok → Prop)
    (hxo : ∀ t : Tok, t.kind = openK → astOfV t = some xo) (hnio : isIgnoredKind openK = false) (hneo : openK ≠ .eof)
    (hxc : ∀ t : Tok, t.kind = closeK → astOfV t = some xc) (hnic : isIgnoredKind closeK = false) (hnec : closeK ≠ .eof)
    (hfirst : ∀ k, first k = true → ∃ kk, k = some kk ∧ p kk = true)
    (hitem : Acc AtEof (KindP p) item (fun _ => Q)) :
    Acc (fun _ => False) (KindP (· == openK)) (bracedBody openSk first p item closeK closeSk) (fun _ => BracedR xo xc Q) :=
  accQ_braced openK openSk xo closeK closeSk xc first p item (fun _ => Q) hxo hnio hneo hxc hnic hnec hfirst hitem

theorem isNameOrString_first : ∀ k, isNameOrString k = true → ∃ kk, k = some kk ∧ isNameOrStringK kk = true := by
  intro k hk
  cases k with
  | none => simp [isNameOrString] at hk
  | some kk => exact ⟨kk, rfl, by simpa [isNameOrString, isNameOrStringK] using hk⟩

/-- flattening items of a given shape into the printer's item list, keeping a property of every item -/
theorem Exact.flatten_itemsF {β : Type} (Q : List Ast.Tok → Prop) (F : β → Prop) (pr : β → List Ast.Tok) (prAll : List β → List Ast.Tok)
    (hnil : prAll [] = []) (hcons : ∀ v r, prAll (v :: r) = pr v ++ prAll r)
    (hQ : ∀ x, Q x → ∃ v, x = pr v ∧ F v) : ∀ items : List (List Ast.Tok), (∀ i ∈ items, Q i) →
      ∃ vs : List β, items.flatten = prAll vs ∧ vs.length = items.length ∧ ∀ v ∈ vs, F v
  | [], _ => ⟨[], by simp [hnil], rfl, by intro v hv; cases hv⟩
  | x :: items, h => by
    obtain ⟨v, hv, hf⟩ := hQ x (h x (by simp))
    obtain ⟨vs, hvs, hl, hF⟩ := flatten_itemsF Q F pr prAll hnil hcons hQ items (fun i hi => h i (by simp [hi]))
    exact ⟨v :: vs, by simp [hcons, hv, hvs], by simp [hl], List.forall_mem_cons.mpr ⟨hf, hF⟩⟩

theorem flatten_items {β : Type} (Q : List Ast.Tok → Prop) (pr : β → List Ast.Tok) (prAll : List β → List Ast.Tok)
    (hnil : prAll [] = []) (hcons : ∀ v r, prAll (v :: r) = pr v ++ prAll r)
    (hQ : ∀ x, Q x → ∃ v, x = pr v) : ∀ items : List (List Ast.Tok), (∀ i ∈ items, Q i) →
      ∃ vs : List β, items.flatten = prAll vs ∧ vs.length = items.length := by
  intro items h
  obtain ⟨vs, h1, h2, _⟩ := Exact.flatten_itemsF Q (fun _ => True) pr prAll hnil hcons
    (fun x hx => (hQ x hx).imp fun _ h => ⟨h, trivial⟩) items h
  exact ⟨vs, h1, h2⟩

theorem Exact.bracedR_nonempty {β : Type} {F : β → Prop} {items : List (List Ast.Tok)} {vs : List β} (hne : items ≠ [])
    (hl : vs.length = items.length) : vs ≠ [] ∧ vs.isEmpty = false := by
  have hvne : vs ≠ [] := by
    intro h0; rw [h0] at hl; exact hne (List.eq_nil_of_length_eq_zero hl.symm)
  exact ⟨hvne, by cases vs with | nil => exact absurd rfl hvne | cons _ _ => rfl⟩

/-- the items of a braced list, each the printed form of a `v` with `F v`, are the printer's item list of such `v`s -/
theorem bracedR_items {β : Type} {xo xc : Ast.Tok} (F : β → Prop) (pr : β → List Ast.Tok) (prAll : List β → List Ast.Tok)
    (hnil : prAll [] = []) (hcons : ∀ v r, prAll (v :: r) = pr v ++ prAll r) {x : List Ast.Tok}
    (h : BracedR xo xc (fun i => ∃ v, i = pr v ∧ F v) x) :
    ∃ vs : List β, vs ≠ [] ∧ vs.isEmpty = false ∧ x = xo :: prAll vs ++ [xc] ∧ ∀ v ∈ vs, F v := by
  obtain ⟨items, hne, e, hall⟩ := h
  obtain ⟨vs, hvs, hl, hF⟩ := Exact.flatten_itemsF _ F pr prAll hnil hcons (fun _ h => h) items hall
  obtain ⟨h1, h2⟩ := Exact.bracedR_nonempty (F := F) hne hl
  exact ⟨vs, h1, h2, by rw [e, hvs], hF⟩

theorem lParen_sig : ∀ k : Kind, (k == Kind.lParen) = true → isIgnoredKind k = false := kindEq_sig rfl

theorem lCurly_sig : ∀ k : Kind, (k == Kind.lCurly) = true → isIgnoredKind k = false := kindEq_sig rfl

/-- `{ Item+ }` in its node, for the three item lists that start on a Name or a description; `F B v`: the item `v` fits the budget -/
theorem accQ_curlyItems {β : Type} (K : SK) (item : PI Unit) (F : Nat → β → Prop) (pr : β → List Ast.Tok) (prAll : List β → List Ast.Tok)
    (hnil : prAll [] = []) (hcons : ∀ v r, prAll (v :: r) = pr v ++ prAll r)
    (hitem : AccQ AtEof (KindP isNameOrStringK) item (fun B _ _ x => ∃ v, x = pr v ∧ F B v)) :
    AccQ (fun _ => False) (KindP (· == .lCurly))
      (withNode K (bracedBody "L_CURLY" isNameOrString isNameOrStringK item .rCurly "R_CURLY"))
      (fun B _ _ x => ∃ vs : List β, vs ≠ [] ∧ x = Ast.tBraced (prAll vs) vs.isEmpty ∧ ∀ v ∈ vs, F B v) := by
  refine accQ_withNode early_false _ (kindP_sig _ lCurly_sig) ?_
  refine (accQ_braced .lCurly "L_CURLY" (.p .lCurly) .rCurly "R_CURLY" (.p .rCurly) isNameOrString isNameOrStringK item _
    (by intro t ht; simp [astOfV, ht]) rfl (by decide) (by intro t ht; simp [astOfV, ht]) rfl (by decide)
    isNameOrString_first hitem).mono (fun _ h => h) ?_
  intro B _ _ x h
  obtain ⟨vs, hne, hemp, e, hF⟩ := bracedR_items (F B) pr prAll hnil hcons h
  exact ⟨vs, hne, by rw [e, hemp]; rfl, hF⟩

/-! ### arguments definition -/

theorem argumentsDefinitionBody_eq (n : Nat) : argumentsDefinitionBody n =
    bracedBody "L_PAREN" isNameOrString isNameOrStringK (inputValueDefinition n) .rParen "R_PAREN" := rfl

/-- **`( InputValueDefinition+ )`**, every definition within the budget -/
theorem accQ_argumentsDefinition (n : Nat) :
    AccQ (fun _ => False) (KindP (· == .lParen)) (argumentsDefinition n) (fun B _ _ => Exact.LArgsDef B) := by
  unfold argumentsDefinition
  rw [argumentsDefinitionBody_eq]
  refine accQ_withNode early_false _ (kindP_sig _ lParen_sig) ?_
  refine (accQ_braced .lParen "L_PAREN" (.p .lParen) .rParen "R_PAREN" (.p .rParen) isNameOrString isNameOrStringK
    (inputValueDefinition n) _
    (by intro t ht; simp [astOfV, ht]) rfl (by decide) (by intro t ht; simp [astOfV, ht]) rfl (by decide)
    isNameOrString_first (accQ_ivd n)).mono (fun _ h => h) ?_
  intro B _ _ x h
  obtain ⟨vs, hne, hemp, e, hF⟩ := bracedR_items (Exact.ivdFit B) Ast.tIVD Ast.tIVDItems rfl (fun _ _ => rfl) h
  exact ⟨vs, hne, by rw [e, Ast.tArgsDef, hemp]; rfl, hF⟩

theorem acc_argumentsDefinition (n : Nat) :
    Acc (fun _ => False) (KindP (· == .lParen)) (argumentsDefinition n)
      (fun _ x => ∃ args : List Ast.InputValueDef, args ≠ [] ∧ x = Ast.tArgsDef args) :=
  (accQ_argumentsDefinition n).forget fun _ _ _ _ ⟨vs, h1, h2, _⟩ => ⟨vs, h1, h2⟩

end Apollo.Parse
