import ApolloModel.Proofs.ParserTreeDef4
/-
C08 (pipeline), type-system definitions: the tree shapes of the definitions and extensions that have a name (scalar,
object, interface, union, enum, input object), what `from_cst` makes of a loose definition (`looseConv`), and the
conversion theorem for them: `cDefinition` on a `NamedDefTree l` returns `looseConv l`.
-/
set_option linter.unusedSimpArgs false
set_option linter.unusedVariables false

namespace Apollo.FromCst
open Apollo.Rowan Apollo.Ast
open Apollo.Parse (isJunk isJunkKind sigE nameNode LooseDef sepNames sepLead fullRoots)

variable {R : List Loc}

def AllToks (es : List Elem) : Prop := ∀ e ∈ es, ∃ k d, e = Elem.tok k d

theorem allToks_nil : AllToks [] := fun _ h => by cases h
theorem allToks_cons (k : SK) (d : Rowan.Str) {es : List Elem} (h : AllToks es) : AllToks (.tok k d :: es) := by
  intro e he
  rcases List.mem_cons.mp he with rfl | he
  · exact ⟨k, d, rfl⟩
  · exact h e he

theorem find_skip_toks (pr : SK → Bool) : ∀ (toks rest : List Elem), AllToks toks →
    (toks ++ rest).find? (nodeP pr) = rest.find? (nodeP pr)
  | [], _, _ => rfl
  | t :: ts, rest, h => by
    obtain ⟨k, d, rfl⟩ := h t (by simp)
    simp only [List.cons_append, List.find?_cons, nodeP_tok]
    exact find_skip_toks pr ts rest (fun e he => h e (by simp [he]))

/-- the header of a definition node: the optional description, then tokens (keywords, `@`) -/
def Hd (desc : Option Ast.Str) (hd : List Elem) : Prop := ∃ pre toks, hd = pre ++ toks ∧ DescPre desc pre ∧ AllToks toks

theorem hd_find {desc : Option Ast.Str} {hd : List Elem} (h : Hd desc hd) (pr : SK → Bool) (hpr : pr "DESCRIPTION" = false)
    (rest : List Elem) : (hd ++ rest).find? (nodeP pr) = rest.find? (nodeP pr) := by
  obtain ⟨pre, toks, rfl, hpre, ht⟩ := h
  rw [List.append_assoc]
  rcases descPre_kinds hpre with rfl | ⟨c, rfl⟩
  · simpa using find_skip_toks pr toks rest ht
  · simp only [List.cons_append, List.nil_append, List.find?_cons, nodeP_node, hpr]
    exact find_skip_toks pr toks rest ht

theorem hd_find_desc {desc : Option Ast.Str} {hd : List Elem} (h : Hd desc hd) (rest : List Elem)
    (hrest : rest.find? (nodeP (· == "DESCRIPTION")) = none) :
    ∃ pre, DescPre desc pre ∧ (hd ++ rest).find? (nodeP (· == "DESCRIPTION")) = pre.head? := by
  obtain ⟨pre, toks, rfl, hpre, ht⟩ := h
  refine ⟨pre, hpre, ?_⟩
  rw [List.append_assoc]
  rcases descPre_kinds hpre with rfl | ⟨c, rfl⟩
  · simp only [List.nil_append, List.head?_nil]
    rw [find_skip_toks _ toks rest ht]; exact hrest
  · simp [List.find?_cons, nodeP_node]

theorem descName_conv (K : SK) (cs hd tail : List Elem) (desc : Option Ast.Str) (nm : Ast.Str) (hv : isValidName nm = true)
    (hhd : Hd desc hd) (hsig : sigE cs = hd ++ nameNode nm :: tail)
    (htail : tail.find? (nodeP (· == "DESCRIPTION")) = none) :
    ConvE (fun R => @descOf R) desc (.node K cs) ∧ ConvE (fun R => @nameOf R) nm (.node K cs) := by
  constructor
  · obtain ⟨pre, hpre, hf⟩ := hd_find_desc hhd (nameNode nm :: tail) (by simp [List.find?_cons, nameNode, nodeP_node, htail])
    exact descOf_conv K cs desc pre hpre (by rw [hsig]; exact hf)
  · exact nameOf_node K cs nm hv (by rw [hsig, hd_find hhd _ rfl]; simp [List.find?_cons, nameNode, nodeP_node])

/-! ### the families -/

/-- `K[hd NAME Directives?]` -/
def ScalarLike (K : SK) (desc : Option Ast.Str) (nm : Ast.Str) (ds : List Directive) (e : Elem) : Prop :=
  ∃ cs hd td, e = .node K cs ∧ isValidName nm = true ∧ Hd desc hd ∧ OptDirs ds td ∧ sigE cs = hd ++ nameNode nm :: td

/-- `K[hd NAME ImplementsInterfaces? Directives? FieldsDefinition?]` -/
def ObjLike (K : SK) (desc : Option Ast.Str) (nm : Ast.Str) (impls : List Ast.Str) (ds : List Directive) (fs : List FieldDef)
    (e : Elem) : Prop :=
  ∃ cs hd ti td tf, e = .node K cs ∧ isValidName nm = true ∧ Hd desc hd ∧ OptNames "IMPLEMENTS_INTERFACES" impls ti ∧
    OptDirs ds td ∧ OptItems "FIELDS_DEFINITION" "L_CURLY" "R_CURLY" FieldTree fs tf ∧
    sigE cs = hd ++ nameNode nm :: (ti ++ (td ++ tf))

/-- `K[hd NAME Directives? UnionMemberTypes?]` -/
def UnionLike (K : SK) (desc : Option Ast.Str) (nm : Ast.Str) (ds : List Directive) (ms : List Ast.Str) (e : Elem) : Prop :=
  ∃ cs hd td tm, e = .node K cs ∧ isValidName nm = true ∧ Hd desc hd ∧ OptDirs ds td ∧ OptNames "UNION_MEMBER_TYPES" ms tm ∧
    sigE cs = hd ++ nameNode nm :: (td ++ tm)

/-- `K[hd NAME Directives? EnumValuesDefinition?]` -/
def EnumLike (K : SK) (desc : Option Ast.Str) (nm : Ast.Str) (ds : List Directive) (vs : List EnumValueDef) (e : Elem) : Prop :=
  ∃ cs hd td tv, e = .node K cs ∧ isValidName nm = true ∧ Hd desc hd ∧ OptDirs ds td ∧
    OptItems "ENUM_VALUES_DEFINITION" "L_CURLY" "R_CURLY" EvTree vs tv ∧ sigE cs = hd ++ nameNode nm :: (td ++ tv)

/-- `K[hd NAME Directives? InputFieldsDefinition?]` -/
def InputLike (K : SK) (desc : Option Ast.Str) (nm : Ast.Str) (ds : List Directive) (fs : List InputValueDef) (e : Elem) : Prop :=
  ∃ cs hd td tf, e = .node K cs ∧ isValidName nm = true ∧ Hd desc hd ∧ OptDirs ds td ∧
    OptItems "INPUT_FIELDS_DEFINITION" "L_CURLY" "R_CURLY" IvdTree fs tf ∧ sigE cs = hd ++ nameNode nm :: (td ++ tf)

/-- `fieldsOf` / `enumValuesOf` through the generic container lemma -/
theorem fieldsOf_conv (n : Nat) (k : SK) (cs : List Elem) (fs : List FieldDef) (tail : List Elem)
    (hopt : OptItems "FIELDS_DEFINITION" "L_CURLY" "R_CURLY" FieldTree fs tail)
    (hfind : (sigE cs).find? (nodeP (· == "FIELDS_DEFINITION")) = tail.head?) (hmem : ∀ e ∈ tail, e ∈ sigE cs)
    (hs : size (.node k cs) ≤ n + 2) : ConvE (fun R => @fieldsOf R n) fs (.node k cs) := by
  intro R s hp
  exact itemsOf_conv (fun R => @cFieldDefinition R n) FieldTree "FIELD_DEFINITION" "FIELDS_DEFINITION" "L_CURLY" "R_CURLY" (n + 1)
    (fun a e h => fieldTree_nodeP h) (fun a e h hsz => cFieldDefinition_conv n a e h hsz) k cs fs tail hopt hfind hmem hs R s hp

theorem enumValuesOf_conv (n : Nat) (k : SK) (cs : List Elem) (vs : List EnumValueDef) (tail : List Elem)
    (hopt : OptItems "ENUM_VALUES_DEFINITION" "L_CURLY" "R_CURLY" EvTree vs tail)
    (hfind : (sigE cs).find? (nodeP (· == "ENUM_VALUES_DEFINITION")) = tail.head?) (hmem : ∀ e ∈ tail, e ∈ sigE cs)
    (hs : size (.node k cs) ≤ n + 2) : ConvE (fun R => @enumValuesOf R n) vs (.node k cs) := by
  intro R s hp
  exact itemsOf_conv (fun R => @cEnumValueDefinition R n) EvTree "ENUM_VALUE_DEFINITION" "ENUM_VALUES_DEFINITION" "L_CURLY" "R_CURLY"
    (n + 1) (fun a e h => evTree_nodeP h) (fun a e h hsz => cEnumValueDefinition_conv n a e h hsz) k cs vs tail hopt hfind hmem hs R s hp

theorem inputFieldsOf_conv (n : Nat) (k : SK) (cs : List Elem) (fs : List InputValueDef) (tail : List Elem)
    (hopt : OptItems "INPUT_FIELDS_DEFINITION" "L_CURLY" "R_CURLY" IvdTree fs tail)
    (hfind : (sigE cs).find? (nodeP (· == "INPUT_FIELDS_DEFINITION")) = tail.head?) (hmem : ∀ e ∈ tail, e ∈ sigE cs)
    (hs : size (.node k cs) ≤ n + 2) : ConvE (fun R => @inputValuesOf R n "INPUT_FIELDS_DEFINITION") fs (.node k cs) := by
  intro R s hp
  exact itemsOf_conv (fun R => @cInputValueDefinition R n) IvdTree "INPUT_VALUE_DEFINITION" "INPUT_FIELDS_DEFINITION" "L_CURLY" "R_CURLY"
    (n + 1) (fun a e h => ivdTree_nodeP h) (fun a e h hsz => cInputValueDefinition_conv n a e h hsz) k cs fs tail hopt hfind hmem hs R s hp

macro "find_tail" : tactic => `(tactic|
  (simp [List.find?_cons, List.find?_append, nodeP_node, nodeP_tok, nameNode]))

theorem scalarLike_conv (n : Nat) (K : SK) (desc : Option Ast.Str) (nm : Ast.Str) (ds : List Directive) (e : Elem)
    (h : ScalarLike K desc nm ds e) (hs : size e ≤ n + 1) :
    ConvE (fun R => @descOf R) desc e ∧ ConvE (fun R => @nameOf R) nm e ∧ ConvE (fun R => @directivesOf R n) ds e := by
  obtain ⟨cs, hd, td, rfl, hv, hhd, htd, hsig⟩ := h
  have hdn := descName_conv K cs hd td desc nm hv hhd hsig (by rcases optDirs_kinds htd with rfl | ⟨c, rfl⟩ <;> find_tail)
  refine ⟨hdn.1, hdn.2, ?_⟩
  exact directivesOf_conv n K cs ds td htd (by
    rw [hsig, hd_find hhd _ rfl]; rcases optDirs_kinds htd with rfl | ⟨c, rfl⟩ <;> find_tail)
    (by intro e he; rw [hsig]; simp [he]) hs

theorem objLike_conv (n : Nat) (K : SK) (desc : Option Ast.Str) (nm : Ast.Str) (impls : List Ast.Str) (ds : List Directive)
    (fs : List FieldDef) (e : Elem) (h : ObjLike K desc nm impls ds fs e) (hs : size e ≤ n + 1) :
    ConvE (fun R => @descOf R) desc e ∧ ConvE (fun R => @nameOf R) nm e ∧
    ConvE (fun R => @namedTypesOf R "IMPLEMENTS_INTERFACES") impls e ∧ ConvE (fun R => @directivesOf R n) ds e ∧
    ConvE (fun R => @fieldsOf R n) fs e := by
  obtain ⟨cs, hd, ti, td, tf, rfl, hv, hhd, hti, htd, htf, hsig⟩ := h
  have hdn := descName_conv K cs hd _ desc nm hv hhd hsig (by
    rcases optNames_kinds hti with rfl | ⟨c1, rfl⟩ <;> rcases optDirs_kinds htd with rfl | ⟨c2, rfl⟩ <;>
      rcases optItems_kinds htf with rfl | ⟨c3, rfl⟩ <;> find_tail)
  refine ⟨hdn.1, hdn.2, ?_, ?_, ?_⟩
  · exact namedTypesOf_conv _ K cs impls ti hti (by
      rw [hsig, hd_find hhd _ rfl]
      rcases optNames_kinds hti with rfl | ⟨c1, rfl⟩ <;> rcases optDirs_kinds htd with rfl | ⟨c2, rfl⟩ <;>
        rcases optItems_kinds htf with rfl | ⟨c3, rfl⟩ <;> find_tail)
  · exact directivesOf_conv n K cs ds td htd (by
      rw [hsig, hd_find hhd _ rfl]
      rcases optNames_kinds hti with rfl | ⟨c1, rfl⟩ <;> rcases optDirs_kinds htd with rfl | ⟨c2, rfl⟩ <;>
        rcases optItems_kinds htf with rfl | ⟨c3, rfl⟩ <;> find_tail)
      (by intro e he; rw [hsig]; simp [he]) hs
  · exact fieldsOf_conv n K cs fs tf htf (by
      rw [hsig, hd_find hhd _ rfl]
      rcases optNames_kinds hti with rfl | ⟨c1, rfl⟩ <;> rcases optDirs_kinds htd with rfl | ⟨c2, rfl⟩ <;>
        rcases optItems_kinds htf with rfl | ⟨c3, rfl⟩ <;> find_tail)
      (by intro e he; rw [hsig]; simp [he]) (by omega)

theorem unionLike_conv (n : Nat) (K : SK) (desc : Option Ast.Str) (nm : Ast.Str) (ds : List Directive) (ms : List Ast.Str)
    (e : Elem) (h : UnionLike K desc nm ds ms e) (hs : size e ≤ n + 1) :
    ConvE (fun R => @descOf R) desc e ∧ ConvE (fun R => @nameOf R) nm e ∧ ConvE (fun R => @directivesOf R n) ds e ∧
    ConvE (fun R => @namedTypesOf R "UNION_MEMBER_TYPES") ms e := by
  obtain ⟨cs, hd, td, tm, rfl, hv, hhd, htd, htm, hsig⟩ := h
  have hdn := descName_conv K cs hd _ desc nm hv hhd hsig (by
    rcases optDirs_kinds htd with rfl | ⟨c2, rfl⟩ <;> rcases optNames_kinds htm with rfl | ⟨c1, rfl⟩ <;> find_tail)
  refine ⟨hdn.1, hdn.2, ?_, ?_⟩
  · exact directivesOf_conv n K cs ds td htd (by
      rw [hsig, hd_find hhd _ rfl]
      rcases optDirs_kinds htd with rfl | ⟨c2, rfl⟩ <;> rcases optNames_kinds htm with rfl | ⟨c1, rfl⟩ <;> find_tail)
      (by intro e he; rw [hsig]; simp [he]) hs
  · exact namedTypesOf_conv _ K cs ms tm htm (by
      rw [hsig, hd_find hhd _ rfl]
      rcases optDirs_kinds htd with rfl | ⟨c2, rfl⟩ <;> rcases optNames_kinds htm with rfl | ⟨c1, rfl⟩ <;> find_tail)

theorem enumLike_conv (n : Nat) (K : SK) (desc : Option Ast.Str) (nm : Ast.Str) (ds : List Directive) (vs : List EnumValueDef)
    (e : Elem) (h : EnumLike K desc nm ds vs e) (hs : size e ≤ n + 1) :
    ConvE (fun R => @descOf R) desc e ∧ ConvE (fun R => @nameOf R) nm e ∧ ConvE (fun R => @directivesOf R n) ds e ∧
    ConvE (fun R => @enumValuesOf R n) vs e := by
  obtain ⟨cs, hd, td, tv, rfl, hv, hhd, htd, htv, hsig⟩ := h
  have hdn := descName_conv K cs hd _ desc nm hv hhd hsig (by
    rcases optDirs_kinds htd with rfl | ⟨c2, rfl⟩ <;> rcases optItems_kinds htv with rfl | ⟨c1, rfl⟩ <;> find_tail)
  refine ⟨hdn.1, hdn.2, ?_, ?_⟩
  · exact directivesOf_conv n K cs ds td htd (by
      rw [hsig, hd_find hhd _ rfl]
      rcases optDirs_kinds htd with rfl | ⟨c2, rfl⟩ <;> rcases optItems_kinds htv with rfl | ⟨c1, rfl⟩ <;> find_tail)
      (by intro e he; rw [hsig]; simp [he]) hs
  · exact enumValuesOf_conv n K cs vs tv htv (by
      rw [hsig, hd_find hhd _ rfl]
      rcases optDirs_kinds htd with rfl | ⟨c2, rfl⟩ <;> rcases optItems_kinds htv with rfl | ⟨c1, rfl⟩ <;> find_tail)
      (by intro e he; rw [hsig]; simp [he]) (by omega)

theorem inputLike_conv (n : Nat) (K : SK) (desc : Option Ast.Str) (nm : Ast.Str) (ds : List Directive) (fs : List InputValueDef)
    (e : Elem) (h : InputLike K desc nm ds fs e) (hs : size e ≤ n + 1) :
    ConvE (fun R => @descOf R) desc e ∧ ConvE (fun R => @nameOf R) nm e ∧ ConvE (fun R => @directivesOf R n) ds e ∧
    ConvE (fun R => @inputValuesOf R n "INPUT_FIELDS_DEFINITION") fs e := by
  obtain ⟨cs, hd, td, tf, rfl, hv, hhd, htd, htf, hsig⟩ := h
  have hdn := descName_conv K cs hd _ desc nm hv hhd hsig (by
    rcases optDirs_kinds htd with rfl | ⟨c2, rfl⟩ <;> rcases optItems_kinds htf with rfl | ⟨c1, rfl⟩ <;> find_tail)
  refine ⟨hdn.1, hdn.2, ?_, ?_⟩
  · exact directivesOf_conv n K cs ds td htd (by
      rw [hsig, hd_find hhd _ rfl]
      rcases optDirs_kinds htd with rfl | ⟨c2, rfl⟩ <;> rcases optItems_kinds htf with rfl | ⟨c1, rfl⟩ <;> find_tail)
      (by intro e he; rw [hsig]; simp [he]) hs
  · exact inputFieldsOf_conv n K cs fs tf htf (by
      rw [hsig, hd_find hhd _ rfl]
      rcases optDirs_kinds htd with rfl | ⟨c2, rfl⟩ <;> rcases optItems_kinds htf with rfl | ⟨c1, rfl⟩ <;> find_tail)
      (by intro e he; rw [hsig]; simp [he]) (by omega)

variable {R : List Loc}

/-- what `Document::from_cst` makes of a loose definition: a leading separator is not represented, a root operation
    type without its named type is dropped -/
def looseConv : LooseDef → Definition
  | .scalar desc nm ds => .scalarDef desc nm ds
  | .object desc nm impl ds fs => .objectDef desc nm (sepNames impl) ds fs
  | .interface desc nm impl ds fs => .interfaceDef desc nm (sepNames impl) ds fs
  | .union desc nm ds ms => .unionDef desc nm ds (sepNames ms)
  | .enum desc nm ds vs => .enumDef desc nm ds vs
  | .input desc nm ds fs => .inputDef desc nm ds fs
  | .directive desc nm args rep _ first rest => .directiveDef desc nm args rep (first :: rest)
  | .schema desc ds roots => .schemaDef desc ds (rootsConv roots)
  | .scalarExt nm ds => .scalarExt nm ds
  | .objectExt nm impl ds fs => .objectExt nm (sepNames impl) ds fs
  | .interfaceExt nm impl ds fs => .interfaceExt nm (sepNames impl) ds fs
  | .unionExt nm ds ms => .unionExt nm ds (sepNames ms)
  | .enumExt nm ds vs => .enumExt nm ds vs
  | .inputExt nm ds fs => .inputExt nm ds fs
  | .schemaExt ds roots => .schemaExt ds (rootsConv roots)

theorem rootsConv_full : ∀ (rs : List (OpType × Option Ast.Str)) (rs' : List (OpType × Ast.Str)), fullRoots rs = some rs' →
    rootsConv rs = rs'
  | [], rs', h => by simp [fullRoots] at h; subst h; rfl
  | (op, some nm) :: r, rs', h => by
    simp only [fullRoots, Option.map_eq_some_iff] at h
    obtain ⟨r', hr', e⟩ := h
    subst e
    simp [rootsConv, rootsConv_full r r' hr']
  | (_, none) :: _, _, h => by simp [fullRoots] at h

/-- without the two deviations, `from_cst` yields exactly the definition whose tokens were consumed -/
theorem looseConv_strict (l : LooseDef) (d : Definition) (h : l.strict = some d) : looseConv l = d := by
  cases l <;> simp only [LooseDef.strict] at h
  case scalar => injection h
  case object desc nm impl ds fs => split at h <;> injection h
  case interface desc nm impl ds fs => split at h <;> injection h
  case union desc nm ds ms => split at h <;> injection h
  case enum => injection h
  case input => injection h
  case directive desc nm args rep lead first rest => split at h <;> injection h
  case schema desc ds roots =>
    simp only [Option.map_eq_some_iff] at h
    obtain ⟨rs', hr, e⟩ := h
    subst e
    simp [looseConv, rootsConv_full roots rs' hr]
  case scalarExt => injection h
  case objectExt nm impl ds fs => split at h <;> injection h
  case interfaceExt nm impl ds fs => split at h <;> injection h
  case unionExt nm ds ms => split at h <;> injection h
  case enumExt => injection h
  case inputExt => injection h
  case schemaExt ds roots =>
    simp only [Option.map_eq_some_iff] at h
    obtain ⟨rs', hr, e⟩ := h
    subst e
    simp [looseConv, rootsConv_full roots rs' hr]

variable {R : List Loc}

theorem cDef_scalarDef (n : Nat) (p : PE R) (hk : p.kind = "SCALAR_TYPE_DEFINITION") :
    cDefinition n p = (descOf p >>= fun desc => nameOf p >>= fun name => directivesOf n p >>= fun dirs =>
      pure (.scalarDef desc name dirs)) := by simp [cDefinition, hk]
theorem cDef_scalarExt (n : Nat) (p : PE R) (hk : p.kind = "SCALAR_TYPE_EXTENSION") :
    cDefinition n p = (nameOf p >>= fun name => directivesOf n p >>= fun dirs => pure (.scalarExt name dirs)) := by
  simp [cDefinition, hk]
theorem cDef_objectDef (n : Nat) (p : PE R) (hk : p.kind = "OBJECT_TYPE_DEFINITION") :
    cDefinition n p = (descOf p >>= fun desc => nameOf p >>= fun name => namedTypesOf "IMPLEMENTS_INTERFACES" p >>= fun impls =>
      directivesOf n p >>= fun dirs => fieldsOf n p >>= fun fields => pure (.objectDef desc name impls dirs fields)) := by
  simp [cDefinition, hk]
theorem cDef_interfaceDef (n : Nat) (p : PE R) (hk : p.kind = "INTERFACE_TYPE_DEFINITION") :
    cDefinition n p = (descOf p >>= fun desc => nameOf p >>= fun name => namedTypesOf "IMPLEMENTS_INTERFACES" p >>= fun impls =>
      directivesOf n p >>= fun dirs => fieldsOf n p >>= fun fields => pure (.interfaceDef desc name impls dirs fields)) := by
  simp [cDefinition, hk]
theorem cDef_objectExt (n : Nat) (p : PE R) (hk : p.kind = "OBJECT_TYPE_EXTENSION") :
    cDefinition n p = (nameOf p >>= fun name => namedTypesOf "IMPLEMENTS_INTERFACES" p >>= fun impls =>
      directivesOf n p >>= fun dirs => fieldsOf n p >>= fun fields => pure (.objectExt name impls dirs fields)) := by
  simp [cDefinition, hk]
theorem cDef_interfaceExt (n : Nat) (p : PE R) (hk : p.kind = "INTERFACE_TYPE_EXTENSION") :
    cDefinition n p = (nameOf p >>= fun name => namedTypesOf "IMPLEMENTS_INTERFACES" p >>= fun impls =>
      directivesOf n p >>= fun dirs => fieldsOf n p >>= fun fields => pure (.interfaceExt name impls dirs fields)) := by
  simp [cDefinition, hk]
theorem cDef_unionDef (n : Nat) (p : PE R) (hk : p.kind = "UNION_TYPE_DEFINITION") :
    cDefinition n p = (descOf p >>= fun desc => nameOf p >>= fun name => directivesOf n p >>= fun dirs =>
      namedTypesOf "UNION_MEMBER_TYPES" p >>= fun members => pure (.unionDef desc name dirs members)) := by
  simp [cDefinition, hk]
theorem cDef_unionExt (n : Nat) (p : PE R) (hk : p.kind = "UNION_TYPE_EXTENSION") :
    cDefinition n p = (nameOf p >>= fun name => directivesOf n p >>= fun dirs =>
      namedTypesOf "UNION_MEMBER_TYPES" p >>= fun members => pure (.unionExt name dirs members)) := by
  simp [cDefinition, hk]
theorem cDef_enumDef (n : Nat) (p : PE R) (hk : p.kind = "ENUM_TYPE_DEFINITION") :
    cDefinition n p = (descOf p >>= fun desc => nameOf p >>= fun name => directivesOf n p >>= fun dirs =>
      enumValuesOf n p >>= fun values => pure (.enumDef desc name dirs values)) := by
  simp [cDefinition, hk]
theorem cDef_enumExt (n : Nat) (p : PE R) (hk : p.kind = "ENUM_TYPE_EXTENSION") :
    cDefinition n p = (nameOf p >>= fun name => directivesOf n p >>= fun dirs =>
      enumValuesOf n p >>= fun values => pure (.enumExt name dirs values)) := by
  simp [cDefinition, hk]
theorem cDef_inputDef (n : Nat) (p : PE R) (hk : p.kind = "INPUT_OBJECT_TYPE_DEFINITION") :
    cDefinition n p = (descOf p >>= fun desc => nameOf p >>= fun name => directivesOf n p >>= fun dirs =>
      inputValuesOf n "INPUT_FIELDS_DEFINITION" p >>= fun fields => pure (.inputDef desc name dirs fields)) := by
  simp [cDefinition, hk]
theorem cDef_inputExt (n : Nat) (p : PE R) (hk : p.kind = "INPUT_OBJECT_TYPE_EXTENSION") :
    cDefinition n p = (nameOf p >>= fun name => directivesOf n p >>= fun dirs =>
      inputValuesOf n "INPUT_FIELDS_DEFINITION" p >>= fun fields => pure (.inputExt name dirs fields)) := by
  simp [cDefinition, hk]

/-- the tree of a loose definition with a name (`False` for schema / directive definitions, see `DefTree`) -/
def NamedDefTree : LooseDef → Elem → Prop
  | .scalar desc nm ds, e => ScalarLike "SCALAR_TYPE_DEFINITION" desc nm ds e
  | .object desc nm impl ds fs, e => ObjLike "OBJECT_TYPE_DEFINITION" desc nm (sepNames impl) ds fs e
  | .interface desc nm impl ds fs, e => ObjLike "INTERFACE_TYPE_DEFINITION" desc nm (sepNames impl) ds fs e
  | .union desc nm ds ms, e => UnionLike "UNION_TYPE_DEFINITION" desc nm ds (sepNames ms) e
  | .enum desc nm ds vs, e => EnumLike "ENUM_TYPE_DEFINITION" desc nm ds vs e
  | .input desc nm ds fs, e => InputLike "INPUT_OBJECT_TYPE_DEFINITION" desc nm ds fs e
  | .scalarExt nm ds, e => ScalarLike "SCALAR_TYPE_EXTENSION" none nm ds e
  | .objectExt nm impl ds fs, e => ObjLike "OBJECT_TYPE_EXTENSION" none nm (sepNames impl) ds fs e
  | .interfaceExt nm impl ds fs, e => ObjLike "INTERFACE_TYPE_EXTENSION" none nm (sepNames impl) ds fs e
  | .unionExt nm ds ms, e => UnionLike "UNION_TYPE_EXTENSION" none nm ds (sepNames ms) e
  | .enumExt nm ds vs, e => EnumLike "ENUM_TYPE_EXTENSION" none nm ds vs e
  | .inputExt nm ds fs, e => InputLike "INPUT_OBJECT_TYPE_EXTENSION" none nm ds fs e
  | .directive .., _ => False
  | .schema .., _ => False
  | .schemaExt .., _ => False

theorem kind_of_node (K : SK) (cs : List Elem) (s : Nat) (hp : ∀ x ∈ nameRanges (.node K cs) s, x ∈ R) :
    PE.kind (⟨(.node K cs, s), hp⟩ : PE R) = K := rfl

theorem cDefinition_named (n : Nat) (l : LooseDef) (e : Elem) (h : NamedDefTree l e) (hs : size e ≤ n + 1) :
    ConvE (fun R => @cDefinition R n) (looseConv l) e := by
  intro R s hp
  cases l <;> simp only [NamedDefTree] at h
  case scalar desc nm ds =>
    obtain ⟨h1, h2, h3⟩ := scalarLike_conv n _ desc nm ds e h hs
    obtain ⟨cs, _, _, rfl, _⟩ := h
    obtain ⟨l1, e1⟩ := h1 R s hp; obtain ⟨l2, e2⟩ := h2 R s hp; obtain ⟨l3, e3⟩ := h3 R s hp
    exact ⟨_, by show cDefinition n _ = _; rw [cDef_scalarDef n _ rfl]; exact bind_ok e1 (bind_ok e2 (bind_ok e3 (pure_ok _)))⟩
  case scalarExt nm ds =>
    obtain ⟨h1, h2, h3⟩ := scalarLike_conv n _ none nm ds e h hs
    obtain ⟨cs, _, _, rfl, _⟩ := h
    obtain ⟨l2, e2⟩ := h2 R s hp; obtain ⟨l3, e3⟩ := h3 R s hp
    exact ⟨_, by show cDefinition n _ = _; rw [cDef_scalarExt n _ rfl]; exact bind_ok e2 (bind_ok e3 (pure_ok _))⟩
  case object desc nm impl ds fs =>
    obtain ⟨h1, h2, h3, h4, h5⟩ := objLike_conv n _ desc nm _ ds fs e h hs
    obtain ⟨cs, _, _, _, _, rfl, _⟩ := h
    obtain ⟨l1, e1⟩ := h1 R s hp; obtain ⟨l2, e2⟩ := h2 R s hp; obtain ⟨l3, e3⟩ := h3 R s hp
    obtain ⟨l4, e4⟩ := h4 R s hp; obtain ⟨l5, e5⟩ := h5 R s hp
    exact ⟨_, by show cDefinition n _ = _; rw [cDef_objectDef n _ rfl]; exact bind_ok e1 (bind_ok e2 (bind_ok e3 (bind_ok e4 (bind_ok e5 (pure_ok _)))))⟩
  case interface desc nm impl ds fs =>
    obtain ⟨h1, h2, h3, h4, h5⟩ := objLike_conv n _ desc nm _ ds fs e h hs
    obtain ⟨cs, _, _, _, _, rfl, _⟩ := h
    obtain ⟨l1, e1⟩ := h1 R s hp; obtain ⟨l2, e2⟩ := h2 R s hp; obtain ⟨l3, e3⟩ := h3 R s hp
    obtain ⟨l4, e4⟩ := h4 R s hp; obtain ⟨l5, e5⟩ := h5 R s hp
    exact ⟨_, by show cDefinition n _ = _; rw [cDef_interfaceDef n _ rfl]; exact bind_ok e1 (bind_ok e2 (bind_ok e3 (bind_ok e4 (bind_ok e5 (pure_ok _)))))⟩
  case objectExt nm impl ds fs =>
    obtain ⟨h1, h2, h3, h4, h5⟩ := objLike_conv n _ none nm _ ds fs e h hs
    obtain ⟨cs, _, _, _, _, rfl, _⟩ := h
    obtain ⟨l2, e2⟩ := h2 R s hp; obtain ⟨l3, e3⟩ := h3 R s hp
    obtain ⟨l4, e4⟩ := h4 R s hp; obtain ⟨l5, e5⟩ := h5 R s hp
    exact ⟨_, by show cDefinition n _ = _; rw [cDef_objectExt n _ rfl]; exact bind_ok e2 (bind_ok e3 (bind_ok e4 (bind_ok e5 (pure_ok _))))⟩
  case interfaceExt nm impl ds fs =>
    obtain ⟨h1, h2, h3, h4, h5⟩ := objLike_conv n _ none nm _ ds fs e h hs
    obtain ⟨cs, _, _, _, _, rfl, _⟩ := h
    obtain ⟨l2, e2⟩ := h2 R s hp; obtain ⟨l3, e3⟩ := h3 R s hp
    obtain ⟨l4, e4⟩ := h4 R s hp; obtain ⟨l5, e5⟩ := h5 R s hp
    exact ⟨_, by show cDefinition n _ = _; rw [cDef_interfaceExt n _ rfl]; exact bind_ok e2 (bind_ok e3 (bind_ok e4 (bind_ok e5 (pure_ok _))))⟩
  case union desc nm ds ms =>
    obtain ⟨h1, h2, h3, h4⟩ := unionLike_conv n _ desc nm ds _ e h hs
    obtain ⟨cs, _, _, _, rfl, _⟩ := h
    obtain ⟨l1, e1⟩ := h1 R s hp; obtain ⟨l2, e2⟩ := h2 R s hp; obtain ⟨l3, e3⟩ := h3 R s hp; obtain ⟨l4, e4⟩ := h4 R s hp
    exact ⟨_, by show cDefinition n _ = _; rw [cDef_unionDef n _ rfl]; exact bind_ok e1 (bind_ok e2 (bind_ok e3 (bind_ok e4 (pure_ok _))))⟩
  case unionExt nm ds ms =>
    obtain ⟨h1, h2, h3, h4⟩ := unionLike_conv n _ none nm ds _ e h hs
    obtain ⟨cs, _, _, _, rfl, _⟩ := h
    obtain ⟨l2, e2⟩ := h2 R s hp; obtain ⟨l3, e3⟩ := h3 R s hp; obtain ⟨l4, e4⟩ := h4 R s hp
    exact ⟨_, by show cDefinition n _ = _; rw [cDef_unionExt n _ rfl]; exact bind_ok e2 (bind_ok e3 (bind_ok e4 (pure_ok _)))⟩
  case enum desc nm ds vs =>
    obtain ⟨h1, h2, h3, h4⟩ := enumLike_conv n _ desc nm ds vs e h hs
    obtain ⟨cs, _, _, _, rfl, _⟩ := h
    obtain ⟨l1, e1⟩ := h1 R s hp; obtain ⟨l2, e2⟩ := h2 R s hp; obtain ⟨l3, e3⟩ := h3 R s hp; obtain ⟨l4, e4⟩ := h4 R s hp
    exact ⟨_, by show cDefinition n _ = _; rw [cDef_enumDef n _ rfl]; exact bind_ok e1 (bind_ok e2 (bind_ok e3 (bind_ok e4 (pure_ok _))))⟩
  case enumExt nm ds vs =>
    obtain ⟨h1, h2, h3, h4⟩ := enumLike_conv n _ none nm ds vs e h hs
    obtain ⟨cs, _, _, _, rfl, _⟩ := h
    obtain ⟨l2, e2⟩ := h2 R s hp; obtain ⟨l3, e3⟩ := h3 R s hp; obtain ⟨l4, e4⟩ := h4 R s hp
    exact ⟨_, by show cDefinition n _ = _; rw [cDef_enumExt n _ rfl]; exact bind_ok e2 (bind_ok e3 (bind_ok e4 (pure_ok _)))⟩
  case input desc nm ds fs =>
    obtain ⟨h1, h2, h3, h4⟩ := inputLike_conv n _ desc nm ds fs e h hs
    obtain ⟨cs, _, _, _, rfl, _⟩ := h
    obtain ⟨l1, e1⟩ := h1 R s hp; obtain ⟨l2, e2⟩ := h2 R s hp; obtain ⟨l3, e3⟩ := h3 R s hp; obtain ⟨l4, e4⟩ := h4 R s hp
    exact ⟨_, by show cDefinition n _ = _; rw [cDef_inputDef n _ rfl]; exact bind_ok e1 (bind_ok e2 (bind_ok e3 (bind_ok e4 (pure_ok _))))⟩
  case inputExt nm ds fs =>
    obtain ⟨h1, h2, h3, h4⟩ := inputLike_conv n _ none nm ds fs e h hs
    obtain ⟨cs, _, _, _, rfl, _⟩ := h
    obtain ⟨l2, e2⟩ := h2 R s hp; obtain ⟨l3, e3⟩ := h3 R s hp; obtain ⟨l4, e4⟩ := h4 R s hp
    exact ⟨_, by show cDefinition n _ = _; rw [cDef_inputExt n _ rfl]; exact bind_ok e2 (bind_ok e3 (bind_ok e4 (pure_ok _)))⟩

end Apollo.FromCst
