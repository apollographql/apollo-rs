import ApolloModel.Proofs.NameNodes2
/-
C11: `NG` at the nodes opened around a recursion guard, hence for every grammar function.  Every NAME node of every
parsed tree — any entry point, any token limit, any recursion limit, any input, errors or not — is exactly one
IDENT token (`all_name_nodes_one_ident`).
-/
set_option linter.unusedSimpArgs false
set_option linter.unusedVariables false
namespace Apollo.Parse
open Apollo.Rowan hiding Str
open Apollo.Lex hiding Str
open TokenCalc (branch)

theorem ngCalc : GrammarCalc @NG where
  toTokenCalc := ngTok
  withNode := fun kind body hk _ hb => ng_withNode kind body (beq_eq_false_iff_ne.mpr hk.1) hb
  name := ng_name

/-! ### the nodes opened around a recursion guard -/

theorem ng_listValue_succ (n : Nat) (c : Bool) (hv : NG (value n c true)) : NG (listValue (n + 1) c) := by
  rw [listValue]
  exact ng_withNode _ _ (by decide) <| ng_bind _ _ (ngCalc.bump _) fun _ => ngCalc.peekWhile _ fun _ =>
    branch _ _ _ (ng_bind _ _ (ngCalc.bump _) fun _ => ng_pure _) <| branch _ _ _ (ng_pure _) <|
    ng_withRec _ _ (ng_bind _ _ ng_limitErr fun _ => ng_pure _) (ng_bind _ _ hv fun _ => ng_pure _)

theorem ng_objectField_succ (n : Nat) (c : Bool) (hv : NG (value n c true)) : NG (objectField (n + 1) c) := by
  rw [objectField]
  exact ng_withNode _ _ (by decide) <| ng_bind _ _ ng_name fun _ =>
    ngCalc.peekIf _ _ _ (ng_bind _ _ (ngCalc.bump _) fun _ => ng_withRec _ _ ng_limitErr hv) ngCalc.err

theorem ng_selectionSet_succ (n : Nat) (hs : NG (selection n)) : NG (selectionSet (n + 1)) := by
  rw [selectionSet]
  exact ngCalc.peekIf _ _ _ (ng_withNode _ _ (by decide) <| ng_bind _ _ (ngCalc.bump _) fun _ =>
    ng_bind _ _ (ng_withRec _ _ (ng_bind _ _ ng_limitErr fun _ => ng_pure _) (ng_bind _ _ hs fun _ => ng_pure _))
      fun _ => branch _ _ _ (ngCalc.expect _ _) (ng_pure _)) (ng_pure _)

/-! ### the recursive families, the entry points -/

structure NGValue (n : Nat) : Prop where
  value : ∀ c p, NG (value n c p)
  list : ∀ c, NG (listValue n c)
  object : ∀ c, NG (objectValue n c)
  field : ∀ c, NG (objectField n c)

theorem ngValue (n : Nat) : NGValue n :=
  have h := ngCalc.values ng_listValue_succ ng_objectField_succ n
  ⟨h.1, h.2.1, h.2.2.1, h.2.2.2⟩

theorem ng_value (n : Nat) (c p : Bool) : NG (value n c p) := (ngValue n).value c p

structure NGSel (n : Nat) : Prop where
  selSet : NG (selectionSet n)
  sel : NG (selection n)
  field : NG (field n)
  inline : NG (inlineFragment n)

theorem ngSel (n : Nat) : NGSel n :=
  have h := ngCalc.selections ng_value ng_selectionSet_succ n
  ⟨h.1, h.2.1, h.2.2.1, h.2.2.2⟩

theorem ng_fieldSet (n : Nat) : NG (fieldSet n) :=
  ngCalc.peekIf _ _ _ (ngSel n).selSet (ng_withNode _ _ (by decide) (ng_withRec _ _ ng_limitErr (ngSel n).sel))

theorem ng_document (n : Nat) : NG (document n) :=
  ngCalc.document ⟨ng_value, ng_ty, fun n => (ngSel n).selSet⟩ n

theorem ng_entry (e : Entry) (fuel : Nat) : NG (e.grammar fuel) := by
  cases e
  · exact ng_document fuel
  · exact ng_bind _ _ (ng_fieldSet fuel) (fun _ => ngCalc.expectEndOfInput)
  · exact ng_bind _ _ (ng_ty fuel) (fun _ => ngCalc.expectEndOfInput)

theorem namesAreIdentsList_of_finish (b : Builder) (root : Elem) (h : b.finish = some root)
    (hc : namesAreIdentsList b.children = true) : namesAreIdents root = true := by
  unfold Builder.finish at h
  split at h
  · rename_i k cs heq
    injection h with h
    subst h
    rw [heq] at hc
    simpa [namesAreIdentsList] using hc
  · cases h

/-- `finish_standalone`: the temporary root (never a NAME node) wraps everything, and is unwrapped
    only to one of its own children -/
theorem standalone_ok (b : Builder) (k : SK) (first : Nat) (expected : List SK) (root : Elem)
    (hp : b.parents = [(k, first)]) (hk : (k == "NAME") = false)
    (hc : namesAreIdentsList b.children = true) (h : finishStandalone b expected = some root) :
    namesAreIdents root = true := by
  have hk' : k ≠ "NAME" := by simpa using hk
  have hsplit : namesAreIdentsList (b.children.take first) = true ∧ namesAreIdentsList (b.children.drop first) = true := by
    have := hc
    rw [← List.take_append_drop first b.children, namesAreIdentsList_append] at this
    simpa using this
  have hnode : namesAreIdentsList (b.children.take first ++ [Elem.node k (b.children.drop first)]) = true := by
    rw [namesAreIdentsList_append, hsplit.1]
    simp [namesAreIdentsList, namesAreIdents_node k _ hk' hsplit.2]
  unfold finishStandalone at h
  simp only [Builder.finishNode, hp] at h
  generalize hb' : ({ parents := [], children := b.children.take first ++ [Elem.node k (b.children.drop first)] } : Builder) = b' at h
  have hc' : namesAreIdentsList b'.children = true := by rw [← hb']; exact hnode
  cases hfin : b'.finish with
  | none => rw [hfin] at h; simp at h
  | some r =>
    have hr := namesAreIdentsList_of_finish b' r hfin hc'
    rw [hfin] at h
    split at h
    · rename_i k1 k2 cs2 heq
      injection heq with heq
      subst heq
      split at h
      · injection h with h
        subst h
        have h1 : namesAreIdentsList [Elem.node k2 cs2] = true := by
          simp only [namesAreIdents, Bool.and_eq_true] at hr; exact hr.2
        simp only [namesAreIdentsList, Bool.and_eq_true, and_true] at h1
        exact h1
      · injection h with h
        subst h
        exact hr
    · injection h with h
      subst h
      exact hr

theorem all_name_nodes_one_ident (e : Entry) (tl : Option Nat) (rl : Nat) (src : Str) (root : Elem)
    (h : (parse e tl rl src).outcome = .tree root) : namesAreIdents root = true := by
  unfold parse runEntry at h
  cases e with
  | document =>
    simp only [Entry.standalone, Entry.grammar] at h
    cases hr : (Parse.document (fuelFor src)).run (initState src tl rl) with
    | abort w => rw [hr] at h; cases h
    | panic m => rw [hr] at h; cases h
    | ok u s =>
      rw [hr] at h
      simp only [] at h
      obtain ⟨added, hadd, hok⟩ := (ng_document (fuelFor src)).out _ (init_inv src tl rl) u s hr
      have hc : namesAreIdentsList s.builder.children = true := by
        rw [hadd]; simpa [initState, Builder.new] using hok
      cases hf : s.builder.finish with
      | none => rw [hf] at h; cases h
      | some r =>
        rw [hf] at h
        injection h with h
        subst h
        exact namesAreIdentsList_of_finish _ _ hf hc
  | selectionSet =>
    simp only [Entry.standalone, Entry.grammar] at h
    have hinv : Inv { initState src tl rl with builder := (initState src tl rl).builder.startNode "SELECTION_SET" } :=
      ⟨fun _ => by simp [initState, Builder.new, Builder.startNode, textList, pendingText, curText],
       fun p hp => by simp [initState, Builder.new, Builder.startNode] at hp; simp [hp, initState, Builder.new],
       fun h => by simp [initState] at h, fun t h => by simp [initState] at h, fun h => by simp [initState] at h⟩
    cases hr : (fieldSet (fuelFor src) >>= fun _ => expectEndOfInput).run { initState src tl rl with builder := (initState src tl rl).builder.startNode "SELECTION_SET" } with
    | abort w => rw [hr] at h; cases h
    | panic m => rw [hr] at h; cases h
    | ok u s =>
      rw [hr] at h
      simp only [] at h
      obtain ⟨added, hadd, hok⟩ := (ng_entry .selectionSet (fuelFor src)).out _ hinv u s hr
      have hf := (post_of_run _ _ hinv u s hr).2
      have hc : namesAreIdentsList s.builder.children = true := by
        rw [hadd]; simpa [initState, Builder.new, Builder.startNode] using hok
      have hp : s.builder.parents = [("SELECTION_SET", 0)] := by
        rw [hf.parents]; simp [initState, Builder.new, Builder.startNode]
      exact standalone_ok s.builder _ _ _ root hp (by decide) hc (by
        cases hfs : finishStandalone s.builder ["SELECTION_SET"] with
        | none => rw [hfs] at h; cases h
        | some r => rw [hfs] at h; injection h with h; rw [h])
  | type =>
    simp only [Entry.standalone, Entry.grammar] at h
    have hinv : Inv { initState src tl rl with builder := (initState src tl rl).builder.startNode "NAMED_TYPE" } :=
      ⟨fun _ => by simp [initState, Builder.new, Builder.startNode, textList, pendingText, curText],
       fun p hp => by simp [initState, Builder.new, Builder.startNode] at hp; simp [hp, initState, Builder.new],
       fun h => by simp [initState] at h, fun t h => by simp [initState] at h, fun h => by simp [initState] at h⟩
    cases hr : (ty (fuelFor src) >>= fun _ => expectEndOfInput).run { initState src tl rl with builder := (initState src tl rl).builder.startNode "NAMED_TYPE" } with
    | abort w => rw [hr] at h; cases h
    | panic m => rw [hr] at h; cases h
    | ok u s =>
      rw [hr] at h
      simp only [] at h
      obtain ⟨added, hadd, hok⟩ := (ng_entry .type (fuelFor src)).out _ hinv u s hr
      have hf := (post_of_run _ _ hinv u s hr).2
      have hc : namesAreIdentsList s.builder.children = true := by
        rw [hadd]; simpa [initState, Builder.new, Builder.startNode] using hok
      have hp : s.builder.parents = [("NAMED_TYPE", 0)] := by
        rw [hf.parents]; simp [initState, Builder.new, Builder.startNode]
      exact standalone_ok s.builder _ _ _ root hp (by decide) hc (by
        cases hfs : finishStandalone s.builder ["NAMED_TYPE", "LIST_TYPE", "NON_NULL_TYPE"] with
        | none => rw [hfs] at h; cases h
        | some r => rw [hfs] at h; injection h with h; rw [h])

/-! ### from the Bool-valued check to the shape of the node at a path -/

theorem namesAreIdentsList_getElem (cs : List Elem) (h : namesAreIdentsList cs = true) :
    ∀ (i : Nat) (c : Elem), cs[i]? = some c → namesAreIdents c = true := by
  induction cs with
  | nil => intro i c hc; simp at hc
  | cons e es ih =>
    simp only [namesAreIdentsList, Bool.and_eq_true] at h
    intro i c hc
    cases i with
    | zero => simp at hc; subst hc; exact h.1
    | succ i => exact ih h.2 i c (by simpa using hc)

theorem namesAreIdents_subAt : ∀ (p : List Nat) (root e : Elem), namesAreIdents root = true →
    subAt root p = some e → namesAreIdents e = true
  | [], root, e, hr, h => by
    simp only [subAt, Option.some.injEq] at h; subst h; exact hr
  | i :: p, .tok _ _, e, _, h => by simp [subAt] at h
  | i :: p, .node k cs, e, hr, h => by
    simp only [subAt] at h
    cases hc : cs[i]? with
    | none => rw [hc] at h; simp at h
    | some c =>
      rw [hc] at h
      simp only [] at h
      have hcs : namesAreIdentsList cs = true := by
        simp only [namesAreIdents, Bool.and_eq_true] at hr; exact hr.2
      exact namesAreIdents_subAt p c e (namesAreIdentsList_getElem cs hcs i c hc) h

theorem name_node_shape (cs : List Elem) (h : namesAreIdents (.node "NAME" cs) = true) :
    ∃ d, cs = [Elem.tok "IDENT" d] := by
  simp only [namesAreIdents, bne_self_eq_false, Bool.false_or, Bool.and_eq_true] at h
  have h1 := h.1
  split at h1
  · rename_i d; exact ⟨d, rfl⟩
  · cases h1

end Apollo.Parse
