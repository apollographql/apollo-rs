import ApolloModel.Proofs.ParserSel6
import ApolloModel.Proofs.ParserTermination5
/-
C07 / C05, selection sets: `parse_selection_set` always yields a tree, so its acceptance
theorem needs no hypothesis on the outcome.
-/
set_option linter.unusedSimpArgs false
namespace Apollo.Parse
open Apollo.Rowan hiding Str
open Apollo.Lex hiding Str

theorem parseFieldSet_tree (tl : Option Nat) (rl : Nat) (src : Str) :
    ∃ root, (parse .selectionSet tl rl src).outcome = .tree root := by
  cases h : (parse .selectionSet tl rl src).outcome with
  | tree root => exact ⟨root, rfl⟩
  | panic m => exact absurd h (parse_no_panic .selectionSet tl rl src m)
  | abort w => exact absurd h (parse_selection_set_terminates tl rl src w)

theorem parseFieldSet_sound (rl : Nat) (src : Str) (herr : (parse .selectionSet none rl src).errors = []) :
    LexClean src ∧ ∃ x ts e, sig (srcToks src) = ts ++ [e] ∧ e.kind = .eof ∧ TokIs ts x ∧ IsFieldSet x := by
  obtain ⟨root, h⟩ := parseFieldSet_tree none rl src
  exact parseFieldSet_sound_tree rl src root h herr

end Apollo.Parse
