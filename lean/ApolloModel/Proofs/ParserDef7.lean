import ApolloModel.Proofs.ParserDef6
/-
C05, type-system definitions: field definitions, fields / input fields definitions.
-/
set_option linter.unusedSimpArgs false
namespace Apollo.Parse
open Apollo.Rowan hiding Str
open Apollo.Lex hiding Str

/-- a node opened at an arbitrary position: ignored tokens in front are skipped first -/
theorem accQ_withNodeI {α : Type} {E : PState → Prop} (hE : Early E) {H I : List Tok → Prop} (hI : ∀ cs q, H (cs ++ q) → I q)
    (K : SK) {body : PI α} {R : Nat → List Tok → α → List Ast.Tok → Prop} (h : AccQ E I body R) : AccQ E H (withNode K body) R := by
  refine ⟨good_withNode K body h.1, ?_⟩
  intro s a s' w he hq hr hnd
  obtain ⟨s0, s2, o0, hr0, o2⟩ := withNode_dec K body s s' a hr
  obtain ⟨_, s1, hs, hb⟩ := bind_dec skipIgnored _ s0 s2 a hr0
  obtain ⟨ign, e, hall, _⟩ := skipIgnored_spec s0 s1 (o0.w w) hs
  have e01 : Eat s s1 ign := by simpa using (Eat.ofObsEq o0 w).trans e
  have he1 : EofEnd s1 := eofEnd_eat he e01 (noEof_ignored ign hall)
  have hnd2 : ¬ Doomed s2 := fun d => hnd (o2.doomed.mpr d)
  obtain ⟨cs, a1, a2, a3, a4⟩ := h.2 s1 a s2 e01.w he1 (hI ign _ (e01.toks ▸ hq)) hb hnd2
  rw [Exact.bud_eat e01, ← o2.toks] at a4
  refine ⟨ign ++ cs, by rw [e01.toks, a1, o2.toks, List.append_assoc], noEof_append (noEof_ignored ign hall) a2,
    eofEnd_same _ _ a3 o2.current o2.lx o2.errors, ?_⟩
  rcases a4 with ⟨x, hx, hr'⟩ | h4
  · exact Or.inl ⟨x, by rw [sig_append, sig_ignored ign hall]; simpa using hx, hr'⟩
  · exact Or.inr (hE.toks s2 s' o2.toks h4)

theorem acc_withNodeI {α : Type} {E : PState → Prop} (hE : Early E) {H I : List Tok → Prop} (hI : ∀ cs q, H (cs ++ q) → I q)
    (K : SK) {body : PI α} {R : α → List Ast.Tok → Prop} (h : Acc E I body R) : Acc E H (withNode K body) R :=
  accQ_withNodeI (R := fun _ _ => R) hE hI K h

theorem accQ_withNodeAny {α : Type} {E : PState → Prop} (hE : Early E) {H : List Tok → Prop} (K : SK) {body : PI α}
    {R : Nat → List Tok → α → List Ast.Tok → Prop} (h : AccQ E (fun _ => True) body R) : AccQ E H (withNode K body) R :=
  accQ_withNodeI hE (fun _ _ _ => trivial) K h

theorem acc_withNodeAny {α : Type} {E : PState → Prop} (hE : Early E) {H : List Tok → Prop} (K : SK) {body : PI α}
    {R : α → List Ast.Tok → Prop} (h : Acc E (fun _ => True) body R) : Acc E H (withNode K body) R :=
  accQ_withNodeAny (R := fun _ _ => R) hE K h

def peekNop : PI Unit := peek >>= fun _ => pure ()

theorem acc_peekNop {E : PState → Prop} {H : List Tok → Prop} : Acc E H peekNop (fun _ x => x = []) := by
  unfold peekNop
  apply acc_peek
  intro k
  exact (acc_pure E _ ()).mono (fun _ _ => trivial) (fun _ _ h => h.2)

def fdType (n : Nat) : PI Unit :=
  peek >>= fun k => if (k == some .name || k == some .lBracket) then (ty n >>= fun _ => optKind .at (directives n true) peekNop) else err
def fdColon (n : Nat) : PI Unit :=
  peek >>= fun k => if k == some .colon then (bump "COLON" >>= fun _ => fdType n) else err
def fdBody (n : Nat) : PI Unit :=
  optKind .stringValue description (name >>= fun _ => optKind .lParen (argumentsDefinition n) (fdColon n))

theorem fieldDefinition_eq (n : Nat) : fieldDefinition n = withNode "FIELD_DEFINITION" (fdBody n) := rfl

/-- **one field definition** `Description? Name ArgumentsDefinition? : Type Directives[Const]?`, every part within the budget -/
theorem accQ_fieldDefinition {E : PState → Prop} (hE : Early E) (n : Nat) :
    AccQ E (KindP isNameOrStringK) (fieldDefinition n) (fun B _ _ => Exact.LFieldDef B) := by
  rw [fieldDefinition_eq]
  refine accQ_withNode hE _ (kindP_sig _ nameOrString_sig) ?_
  have hType : AccQ E (fun _ => True) (fdType n)
      (fun B _ _ x => ∃ t ds, x = Ast.tTy t ++ Ast.tDirectives ds ∧ tyDepth t ≤ B ∧ Exact.dirsFit true B ds) := by
    unfold fdType
    apply accQ_peekIf
    · refine (accQ_bind hE (accQ_ty n) (fun _ => accQ_optDirs hE n peekNop _ acc_peekNop.toQ)).mono (fun _ h => h) ?_
      rintro B _ _ x ⟨_, x1, x2, e, ⟨t, ht, htd⟩, ds, x3, e2, hf, h3⟩
      exact ⟨t, ds, by rw [e, ht, e2, h3]; simp, htd, hf⟩
    · exact acc_err.never
  have hColon : AccQ E (fun _ => True) (fdColon n)
      (fun B _ _ x => ∃ t ds, x = .p .colon :: (Ast.tTy t ++ Ast.tDirectives ds) ∧ tyDepth t ≤ B ∧ Exact.dirsFit true B ds) := by
    unfold fdColon
    apply accQ_ifKind
    · refine (accQ_bind hE acc_colon.toQ (fun _ => hType)).mono (fun _ h => h) ?_
      rintro B _ _ x ⟨_, x1, x2, e, h1, t, ds, h2, hf⟩
      exact ⟨t, ds, by rw [e, h1, h2]; rfl, hf⟩
    · exact acc_err.never
  have hArgs : AccQ E (fun _ => True) (optKind .lParen (argumentsDefinition n) (fdColon n))
      (fun B _ _ x => ∃ args t ds, x = Ast.tArgsDef args ++ .p .colon :: (Ast.tTy t ++ Ast.tDirectives ds) ∧
        (∀ a ∈ args, Exact.ivdFit B a) ∧ tyDepth t ≤ B ∧ Exact.dirsFit true B ds) := by
    refine (accQ_optKind hE .lParen (argumentsDefinition n) (fdColon n) _ _ (accQ_argumentsDefinition n).weakenE hColon).mono
      (fun _ h => h) ?_
    rintro B _ _ x ⟨x1, x2, e, h1, t, ds, h2, hf⟩
    rcases h1 with ⟨args, _, ha, hargs⟩ | h1
    · exact ⟨args, t, ds, by rw [e, ha, h2], hargs, hf⟩
    · exact ⟨[], t, ds, by rw [e, h1, h2]; simp [Ast.tArgsDef], (by intro a ha; cases ha), hf⟩
  refine (accQ_optDesc hE _ _ (accQ_bind hE acc_name.toQ (fun _ => hArgs))).mono (fun _ _ => trivial) ?_
  rintro B _ _ x ⟨desc, x2, e, _, x3, x4, e2, ⟨nm, h1⟩, args, t, ds, h2, hf⟩
  exact ⟨⟨desc, nm, args, t, ds⟩, by rw [e, e2, h1, h2]; simp [Ast.tFieldDef, List.append_assoc], hf⟩

theorem acc_fieldDefinition {E : PState → Prop} (hE : Early E) (n : Nat) :
    Acc E (KindP isNameOrStringK) (fieldDefinition n) (fun _ x => ∃ f : Ast.FieldDef, x = Ast.tFieldDef f) :=
  (accQ_fieldDefinition hE n).forget fun _ _ _ _ ⟨f, h, _⟩ => ⟨f, h⟩

theorem fieldsDefinition_eq (n : Nat) : fieldsDefinition n = withNode "FIELDS_DEFINITION"
    (bracedBody "L_CURLY" isNameOrString isNameOrStringK (fieldDefinition n) .rCurly "R_CURLY") := rfl

/-- **`{ FieldDefinition+ }`** -/
theorem accQ_fieldsDefinition (n : Nat) :
    AccQ (fun _ => False) (KindP (· == .lCurly)) (fieldsDefinition n) (fun B _ _ => Exact.LFields B) := by
  rw [fieldsDefinition_eq]
  exact accQ_curlyItems _ _ Exact.fieldFit Ast.tFieldDef Ast.tFieldDefItems rfl (fun _ _ => rfl) (accQ_fieldDefinition early_atEof n)

theorem acc_fieldsDefinition (n : Nat) :
    Acc (fun _ => False) (KindP (· == .lCurly)) (fieldsDefinition n)
      (fun _ x => ∃ fs : List Ast.FieldDef, fs ≠ [] ∧ x = Ast.tBraced (Ast.tFieldDefItems fs) fs.isEmpty) :=
  (accQ_fieldsDefinition n).forget fun _ _ _ _ ⟨fs, h1, h2, _⟩ => ⟨fs, h1, h2⟩

theorem inputFieldsDefinition_eq (n : Nat) : inputFieldsDefinition n = withNode "INPUT_FIELDS_DEFINITION"
    (bracedBody "L_CURLY" isNameOrString isNameOrStringK (inputValueDefinition n) .rCurly "R_CURLY") := rfl

/-- **`{ InputValueDefinition+ }`** -/
theorem accQ_inputFieldsDefinition (n : Nat) :
    AccQ (fun _ => False) (KindP (· == .lCurly)) (inputFieldsDefinition n) (fun B _ _ => Exact.LInputFields B) := by
  rw [inputFieldsDefinition_eq]
  exact accQ_curlyItems _ _ Exact.ivdFit Ast.tIVD Ast.tIVDItems rfl (fun _ _ => rfl) (accQ_ivd n)

theorem acc_inputFieldsDefinition (n : Nat) :
    Acc (fun _ => False) (KindP (· == .lCurly)) (inputFieldsDefinition n)
      (fun _ x => ∃ fs : List Ast.InputValueDef, fs ≠ [] ∧ x = Ast.tBraced (Ast.tIVDItems fs) fs.isEmpty) :=
  (accQ_inputFieldsDefinition n).forget fun _ _ _ _ ⟨fs, h1, h2, _⟩ => ⟨fs, h1, h2⟩

end Apollo.Parse
