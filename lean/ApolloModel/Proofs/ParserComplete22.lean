import ApolloModel.Proofs.ParserComplete19
/-
C05 (completeness of the whole Document grammar): the depth-free parts of the type-system definitions — the
follow sets, the `implements` look-ahead on the token text, directive locations and the `repeatable` / `on` words of
directive definitions, root operation types and the braces of schema definitions.
-/
set_option linter.unusedSimpArgs false
namespace Apollo.Parse
open Apollo.Rowan hiding Str
open Apollo.Lex hiding Str

/-! ### separated name lists -/

theorem cmp_nameItem : Cmp (fun _ => True) nameItem (fun _ x => ∃ nm, x = [.name nm] ∧ True) (fun _ => True) (fun _ => True) := by
  unfold nameItem
  exact cmp_peekGuard (· == some .name) (cmp_namedType.mono (fun _ h => h) (by rintro b x ⟨nm, rfl, _⟩; exact ⟨nm, rfl⟩) (fun _ h => h) (fun _ h => h))
    (by rintro b x ⟨n, rfl, _⟩; exact ⟨_, _, rfl, rfl⟩)

def LImpl (_ : Nat) (x : List Ast.Tok) : Prop := ∃ lead first rest, x = .name Ast.sImplements :: tSepLead .amp lead first rest

theorem cmp_implementsInterfaces : Cmp (fun _ => True) implementsInterfaces LImpl (fun k => k ≠ .amp) (fun _ => True) := by
  rw [implementsInterfaces_eq]
  refine cmp_withNode _ ?_
  have := cmp_bind (Hk := fun _ => True) (F := fun k => k ≠ Kind.amp) (F1 := fun _ => True) (cmp_bump "implements_KW")
    (fun _ _ => cmp_sepList (Hk := fun _ => True) .amp "AMP" .amp nameItem (fun _ => True) rfl (by decide) cmp_nameItem)
    (fun _ _ _ _ => trivial) (fun _ _ => trivial) (fun _ h => h)
  refine this.mono (fun _ h => h) ?_ (fun _ h => h) (fun _ h => h)
  rintro b x ⟨lead, first, rest, rfl⟩
  exact ⟨[.name Ast.sImplements], _, rfl, ⟨_, rfl⟩, lead, first, rest, rfl, trivial, fun _ _ => trivial⟩

def LMembers (_ : Nat) (x : List Ast.Tok) : Prop := ∃ lead first rest, x = .p .eq :: tSepLead .pipe lead first rest

theorem cmp_unionMemberTypes : Cmp (fun _ => True) unionMemberTypes LMembers (fun k => k ≠ .pipe) (fun _ => True) := by
  rw [unionMemberTypes_eq]
  refine cmp_withNode _ ?_
  have := cmp_bind (Hk := fun _ => True) (F := fun k => k ≠ Kind.pipe) (F1 := fun _ => True) (cmp_bump "EQ")
    (fun _ _ => cmp_sepList (Hk := fun _ => True) .pipe "PIPE" .pipe nameItem (fun _ => True) rfl (by decide) cmp_nameItem)
    (fun _ _ _ _ => trivial) (fun _ _ => trivial) (fun _ h => h)
  refine this.mono (fun _ h => h) ?_ (fun _ h => h) (fun _ h => h)
  rintro b x ⟨lead, first, rest, rfl⟩
  exact ⟨[.p .eq], _, rfl, ⟨_, rfl⟩, lead, first, rest, rfl, trivial, fun _ _ => trivial⟩

/-! ### follow sets and the `implements` look-ahead -/

def Fbody (k : Kind) : Prop := k ≠ .at ∧ k ≠ .lParen ∧ k ≠ .lCurly

theorem tSepOpt_members (b : Nat) (ms : Option (Bool × Ast.Str × List Ast.Str)) :
    LMembers b (tSepOpt [.p .eq] .pipe ms) ∨ tSepOpt [.p .eq] .pipe ms = [] := by
  cases ms with
  | none => right; rfl
  | some v => obtain ⟨lead, first, rest⟩ := v; left; exact ⟨lead, first, rest, rfl⟩

def NotImplTok (t : Tok) : Prop := ¬ (t.kind = .name ∧ t.data = "implements".toList)

def LImplThen (Lr : Nat → List Ast.Tok → Prop) (b : Nat) (x : List Ast.Tok) : Prop :=
  ∃ impl x2, x = tSepOpt [.name Ast.sImplements] .amp impl ++ x2 ∧ Lr b x2

theorem implPresent {Lr : Nat → List Ast.Tok → Prop} {Fr : Kind → Prop} (rest : PI Unit)
    (hr : Cmp (fun _ => True) rest Lr Fr (fun _ => True)) (hrhead : ∀ b a x, Lr b (a :: x) → kindOfA a ≠ .name ∧ kindOfA a ≠ .amp) :
    Cmp (fun _ => True) (implementsInterfaces >>= fun _ => rest)
      (fun b x => ∃ x1 x2, x = x1 ++ x2 ∧ LImpl b x1 ∧ Lr b x2) (fun k => Fr k ∧ k ≠ .amp) (fun _ => True) :=
  cmp_bind (Hk := fun _ => True) cmp_implementsInterfaces (fun _ _ => hr)
    (fun b a x h => (hrhead b a x h).2) (fun _ h => h.2) (fun _ h => h.1)

/-- `object.rs`: `implements` is recognised by kind and text of the next token -/
theorem cmpT_optImplTok {Hk : Kind → Prop} (rest : PI Unit) {Lr : Nat → List Ast.Tok → Prop} {Fr : Kind → Prop}
    (hr : Cmp (fun _ => True) rest Lr Fr (fun _ => True))
    (hrhead : ∀ b a x, Lr b (a :: x) → kindOfA a ≠ .name ∧ kindOfA a ≠ .amp) :
    CmpT Hk (optImplTok rest) (LImplThen Lr) (fun t => Fr t.kind ∧ t.kind ≠ .amp ∧ NotImplTok t) (fun _ => True) := by
  intro s s' a c x q0 rst w lq hrun hl hs ht hq hf _
  obtain ⟨impl, x2, rfl, hl2⟩ := hl
  unfold optImplTok at hrun
  obtain ⟨o, sP, hp, h2⟩ := bind_dec peekToken _ s s' a hrun
  obtain ⟨t, tl, htt, hkt⟩ := headK_toks c q0 rst
  obtain ⟨rfl, eP, htP⟩ := peekToken_head s sP o t tl w (by rw [ht]; exact htt) hp
  simp only [] at h2
  have hb : sP.recLimit - sP.recCur = s.recLimit - s.recCur := by rw [eP.recLimit, eP.recCur]
  have hTP : Toks sP = c ++ q0 :: rst := by rw [htP, ← htt]
  cases impl with
  | none =>
    simp only [tSepOpt, List.nil_append] at hs
    have hcond : (t.kind == Kind.name && kw "implements" t.data) = false := by
      cases x2 with
      | nil =>
        have := spells_nil_inv hs
        subst this
        simp only [List.nil_append, List.cons.injEq] at htt
        rw [← htt.1]
        cases hc : (q0.kind == Kind.name && kw "implements" q0.data) with
        | false => rfl
        | true =>
          exfalso
          simp only [Bool.and_eq_true, beq_iff_eq] at hc
          exact hf.2.2 ⟨hc.1, kw_iff.mp hc.2⟩
      | cons a2 x2' =>
        obtain ⟨t1, tl1, hc, hta⟩ := spells_head hs
        have : t.kind ≠ .name := by
          rw [hkt, hc]; simp only [headK]; rw [kind_of_astOfV hta]; exact (hrhead _ _ _ hl2).1
        simp [this]
    simp only [hcond, Bool.false_eq_true, if_false] at h2
    obtain ⟨e, t2, _⟩ := hr sP s' a c x2 q0 rst eP.w h2 (by rw [hb]; exact hl2) hs hTP hq hf.1 trivial
    exact ⟨by simpa using eP.trans e, t2, trivial⟩
  | some v =>
    obtain ⟨lead, first, rest'⟩ := v
    have hx : tSepOpt [.name Ast.sImplements] .amp (some (lead, first, rest')) ++ x2
        = .name Ast.sImplements :: (tSepLead .amp lead first rest' ++ x2) := by simp [tSepOpt]
    rw [hx] at hs
    obtain ⟨t1, tl1, hc, hta⟩ := spells_head hs
    have ht1 : t = t1 := by rw [hc] at htt; simp at htt; exact htt.1.symm
    subst ht1
    have hcond : (t.kind == Kind.name && kw "implements" t.data) = true := by
      have hk : (t.kind == Kind.name) = true := by rw [kind_of_astOfV hta]; rfl
      have hd : t.data = "implements".toList := data_of_astOfV_name hta
      rw [hk, kw_iff.mpr hd]; rfl
    simp only [hcond, if_true] at h2
    obtain ⟨e, t2, _⟩ := implPresent rest hr hrhead sP s' a c _ q0 rst eP.w h2
      ⟨.name Ast.sImplements :: tSepLead .amp lead first rest', x2, by simp, ⟨lead, first, rest', rfl⟩, by rw [hb]; exact hl2⟩
      hs hTP hq ⟨hf.1, hf.2.1⟩ trivial
    exact ⟨by simpa using eP.trans e, t2, trivial⟩

/-- `interface.rs` and the extensions: `implements` is recognised by the text of the next token alone -/
theorem cmpT_optDataImpl {Hk : Kind → Prop} (restT restF : PI Unit) {Lr : Nat → List Ast.Tok → Prop} {Fr : Kind → Prop}
    (hT : Cmp (fun _ => True) restT Lr Fr (fun _ => True)) (hF : Cmp (fun _ => True) restF Lr Fr (fun _ => True))
    (hrhead : ∀ b a x, Lr b (a :: x) → kindOfA a ≠ .name ∧ kindOfA a ≠ .amp) :
    CmpT Hk (optData2 "implements" implementsInterfaces restT restF) (LImplThen Lr)
      (fun t => Fr t.kind ∧ t.kind ≠ .amp ∧ NotImplTok t) (fun _ => True) := by
  intro s s' a c x q0 rst w lq hrun hl hs ht hq hf _
  obtain ⟨impl, x2, rfl, hl2⟩ := hl
  unfold optData2 at hrun
  obtain ⟨od, sP, hp, h2⟩ := bind_dec peekData _ s s' a hrun
  obtain ⟨t, tl, htt, hkt⟩ := headK_toks c q0 rst
  obtain ⟨rfl, eP, htP⟩ := peekData_head s sP od t tl w (by rw [ht]; exact htt) hp
  have hb : sP.recLimit - sP.recCur = s.recLimit - s.recCur := by rw [eP.recLimit, eP.recCur]
  have hTP : Toks sP = c ++ q0 :: rst := by rw [htP, ← htt]
  cases impl with
  | none =>
    simp only [tSepOpt, List.nil_append] at hs
    have hcond : kwOpt "implements" (some t.data) = false := by
      have hne : t.data ≠ "implements".toList := by
        intro hd
        have hkn : t.kind = .name := lq t (by rw [ht, htt]; simp) 'i' "mplements".toList (by rw [hd]; rfl) (by decide)
        cases x2 with
        | nil =>
          have := spells_nil_inv hs
          subst this
          simp only [List.nil_append, List.cons.injEq] at htt
          rw [← htt.1] at hkn hd
          exact hf.2.2 ⟨hkn, hd⟩
        | cons a2 x2' =>
          obtain ⟨t1, tl1, hc, hta⟩ := spells_head hs
          have : t.kind ≠ .name := by
            rw [hkt, hc]; simp only [headK]; rw [kind_of_astOfV hta]; exact (hrhead _ _ _ hl2).1
          exact this hkn
      cases hc : kwOpt "implements" (some t.data) with
      | false => rfl
      | true => exact absurd (kwOpt_some_eq.mp hc) hne
    simp only [hcond, Bool.false_eq_true, if_false] at h2
    obtain ⟨e, t2, _⟩ := hF sP s' a c x2 q0 rst eP.w h2 (by rw [hb]; exact hl2) hs hTP hq hf.1 trivial
    exact ⟨by simpa using eP.trans e, t2, trivial⟩
  | some v =>
    obtain ⟨lead, first, rest'⟩ := v
    have hx : tSepOpt [.name Ast.sImplements] .amp (some (lead, first, rest')) ++ x2
        = .name Ast.sImplements :: (tSepLead .amp lead first rest' ++ x2) := by simp [tSepOpt]
    rw [hx] at hs
    obtain ⟨t1, tl1, hc, hta⟩ := spells_head hs
    have ht1 : t = t1 := by rw [hc] at htt; simp at htt; exact htt.1.symm
    subst ht1
    have hcond : kwOpt "implements" (some t.data) = true := by
      have hd : t.data = "implements".toList := data_of_astOfV_name hta
      exact kwOpt_some_eq.mpr hd
    simp only [hcond, if_true] at h2
    obtain ⟨e, t2, _⟩ := implPresent restT hT hrhead sP s' a c _ q0 rst eP.w h2
      ⟨.name Ast.sImplements :: tSepLead .amp lead first rest', x2, by simp, ⟨lead, first, rest', rfl⟩, by rw [hb]; exact hl2⟩
      hs hTP hq ⟨hf.1, hf.2.1⟩ trivial
    exact ⟨by simpa using eP.trans e, t2, trivial⟩

/-! ### object and interface type definitions -/

def objFit (b : Nat) (ds : List Ast.Directive) (fs : List Ast.FieldDef) : Prop := dirsFit true b ds ∧ ∀ f ∈ fs, fieldFit b f

/-- what may follow an object / interface type (definition or extension): not `@ ( { &`, and not the Name `implements` -/
def FObj (t : Tok) : Prop := (t.kind ≠ .at ∧ t.kind ≠ .lParen ∧ t.kind ≠ .lCurly ∧ True) ∧ t.kind ≠ .amp ∧ NotImplTok t

/-! ### directive locations -/

theorem cmp_directiveLocation :
    Cmp (fun _ => True) directiveLocation (fun _ x => ∃ nm, x = [.name nm] ∧ IsDirLoc nm) (fun _ => True) (fun _ => True) := by
  intro s s' u c x q0 rest w hr hl hs ht hq _ _
  obtain ⟨nm, rfl, hloc⟩ := hl
  obtain ⟨t, i, rfl, hta, hi⟩ := spells_single hs
  have hkt : t.kind = .name := kind_of_astOfV hta
  have hd : t.data = nm := data_of_astOfV_name hta
  unfold directiveLocation at hr
  obtain ⟨o, sP, hp, h2⟩ := bind_dec peekToken _ s s' u hr
  obtain ⟨rfl, eP, htP⟩ := peekToken_head s sP o t (i ++ q0 :: rest) w (by rw [ht]; simp) hp
  simp only [hkt, beq_self_eq_true, if_true] at h2
  cases hfind : directiveLocationKeywords.find? (fun x => kw x t.data) with
  | none =>
    exfalso
    unfold IsDirLoc at hloc
    obtain ⟨k, hk, hkn⟩ := List.mem_map.mp hloc
    have := List.find?_eq_none.mp hfind k hk
    rw [hd, ← hkn] at this
    simp [kw] at this
  | some k =>
    simp only [hfind] at h2
    obtain ⟨e, t2, _⟩ := cmp_nodeBump "DIRECTIVE_LOCATION" (k ++ "_KW") sP s' u (t :: i) _ q0 rest eP.w h2 ⟨_, rfl⟩ hs
      (by rw [htP]; simp) hq trivial trivial
    exact ⟨by simpa using eP.trans e, t2, trivial⟩

def LLocs (_ : Nat) (x : List Ast.Tok) : Prop :=
  ∃ lead first rest, x = tSepLead .pipe lead first rest ∧ IsDirLoc first ∧ ∀ r ∈ rest, IsDirLoc r

theorem cmp_dLocs : Cmp (fun _ => True) dLocs LLocs (fun k => k ≠ .pipe) (fun _ => True) := by
  unfold dLocs
  refine cmp_peekGuard _ (by
    unfold directiveLocations
    exact cmp_withNode _ (cmp_sepList (Hk := fun _ => True) .pipe "PIPE" .pipe directiveLocation IsDirLoc rfl (by decide) cmp_directiveLocation)) ?_
  rintro b x ⟨lead, first, rest, rfl, _⟩
  cases lead
  · exact ⟨.name first, _, rfl, rfl⟩
  · exact ⟨.p .pipe, _, rfl, rfl⟩

def LOn (b : Nat) (x : List Ast.Tok) : Prop := ∃ x2, x = .name Ast.sOn :: x2 ∧ LLocs b x2

theorem cmp_dOn : Cmp (fun _ => True) dOn LOn (fun k => k ≠ .pipe) (fun _ => True) := by
  intro s s' u c x q0 rest w hr hl hs ht hq hf _
  obtain ⟨x2, rfl, hl2⟩ := hl
  obtain ⟨t, tl, hc, hta⟩ := spells_head hs
  have hd : t.data = "on".toList := data_of_astOfV_name hta
  unfold dOn at hr
  obtain ⟨od, sP, hp, h2⟩ := bind_dec peekData _ s s' u hr
  obtain ⟨rfl, eP, htP⟩ := peekData_head s sP od t (tl ++ q0 :: rest) w (by rw [ht, hc]; simp) hp
  simp only [kw_iff.mpr hd, if_true] at h2
  have hb : sP.recLimit - sP.recCur = s.recLimit - s.recCur := by rw [eP.recLimit, eP.recCur]
  have hcomb := cmp_bind (Hk := fun _ => True) (F := fun k => k ≠ Kind.pipe) (F1 := fun _ => True) (cmp_bump "on_KW") (fun _ _ => cmp_dLocs)
    (fun _ _ _ _ => trivial) (fun _ _ => trivial) (fun _ h => h)
  obtain ⟨e, t2, _⟩ := hcomb sP s' u c _ q0 rest eP.w h2 ⟨[.name Ast.sOn], x2, rfl, ⟨_, rfl⟩, by rw [hb]; exact hl2⟩ hs
    (by rw [htP, hc]; simp) hq hf trivial
  exact ⟨by simpa using eP.trans e, t2, trivial⟩

theorem cmp_optKwAbsent {α : Type} {Hk : Kind → Prop} (word : String) (sk : SK) (rest : PI α)
    {Lr : Nat → List Ast.Tok → Prop} {F : Kind → Prop} {Q : α → Prop}
    (hr : Cmp (fun _ => True) rest Lr F Q) (hrhead : ∀ b x, Lr b x → ∃ w' x', x = .name w' :: x' ∧ w' ≠ word.toList) :
    Cmp Hk (optKw word sk rest) Lr F Q := by
  intro s s' a c x q0 rst w hrun hl hs ht hq hf _
  obtain ⟨w', x', rfl, hne⟩ := hrhead _ _ hl
  obtain ⟨t, tl, hc, hta⟩ := spells_head hs
  have hd : t.data = w' := data_of_astOfV_name hta
  unfold optKw at hrun
  obtain ⟨od, sP, hp, h2⟩ := bind_dec peekData _ s s' a hrun
  obtain ⟨rfl, eP, htP⟩ := peekData_head s sP od t (tl ++ q0 :: rst) w (by rw [ht, hc]; simp) hp
  have hk : kwOpt word (some t.data) = false := by
    cases hcase : kwOpt word (some t.data) with
    | false => rfl
    | true => exact absurd (hd ▸ kwOpt_some_eq.mp hcase) hne
  simp only [hk, Bool.false_eq_true, if_false] at h2
  have hb : sP.recLimit - sP.recCur = s.recLimit - s.recCur := by rw [eP.recLimit, eP.recCur]
  obtain ⟨e, t2, q⟩ := hr sP s' a c _ q0 rst eP.w h2 (by rw [hb]; exact hl) hs (by rw [htP, hc]; simp) hq hf trivial
  exact ⟨by simpa using eP.trans e, t2, q⟩

def LRep (b : Nat) (x : List Ast.Tok) : Prop := ∃ rep x2, x = kwPart "repeatable" rep ++ x2 ∧ LOn b x2

theorem cmp_dRep : Cmp (fun _ => True) (optKw "repeatable" "repeatable_KW" dOn) LRep (fun k => k ≠ .pipe) (fun _ => True) := by
  intro s s' a c x q0 rst w hrun hl hs ht hq hf hk
  obtain ⟨rep, x2, rfl, hl2⟩ := hl
  cases rep with
  | true =>
    exact cmp_optKwSeen (Hk := fun _ => True) "repeatable" "repeatable_KW" dOn cmp_dOn s s' a c _ q0 rst w hrun
      ⟨x2, by simp [kwPart], hl2⟩ hs ht hq hf hk
  | false =>
    refine cmp_optKwAbsent (Hk := fun _ => True) "repeatable" "repeatable_KW" dOn cmp_dOn ?_ s s' a c _ q0 rst w hrun
      (by simpa [kwPart] using hl2) hs ht hq hf hk
    rintro b x ⟨x3, rfl, _⟩
    exact ⟨_, x3, rfl, by decide⟩

theorem lrep_head {b : Nat} {a : Ast.Tok} {x : List Ast.Tok} (h : LRep b (a :: x)) : kindOfA a = .name := by
  obtain ⟨rep, x2, e, x3, rfl, _⟩ := h
  cases rep <;> simp [kwPart] at e <;> rw [e.1] <;> rfl

theorem lrep_ne (b : Nat) : ¬ LRep b [] := by
  rintro ⟨rep, x2, e, x3, rfl, _⟩
  cases rep <;> simp [kwPart] at e

/-! ### schema definition -/

def LRootOp (_ : Nat) (x : List Ast.Tok) : Prop := ∃ r : Ast.OpType × Ast.Str, x = Ast.tRootOp r

theorem cmp_rootOperationTypeDefinition :
    Cmp (fun _ => True) rootOperationTypeDefinition LRootOp (fun _ => True) (fun _ => True) := by
  unfold rootOperationTypeDefinition
  refine cmp_withNode _ ?_
  have hcolon : Cmp (fun _ => True) (peek >>= fun k => if k == some Kind.colon then (bump "COLON" >>= fun _ => namedType) else err)
      (fun _ x => ∃ nm, x = [.p .colon, .name nm]) (fun _ => True) (fun _ => True) :=
    (cmp_tokThen (.p .colon) "COLON" cmp_namedType).mono (fun _ h => h) (fun b x ⟨nm, e⟩ => ⟨_, e, nm, rfl⟩) (fun _ h => h) (fun _ h => h)
  have := cmp_bind (Hk := fun _ => True) (F := fun _ => True) (F1 := fun _ => True) cmp_operationType (fun _ _ => hcolon)
    (fun _ _ _ _ => trivial) (fun _ _ => trivial) (fun _ h => h)
  refine this.mono (fun _ h => h) ?_ (fun _ h => h) (fun _ h => h)
  rintro b x ⟨r, rfl⟩
  exact ⟨[.name r.1.name.toList], [.p .colon, .name r.2], rfl, ⟨r.1, rfl⟩, r.2, rfl⟩

def rootItems : List (Ast.OpType × Ast.Str) → List (List Ast.Tok)
  | [] => []
  | v :: r => Ast.tRootOp v :: rootItems r

theorem rootItems_flatten : ∀ vs, (rootItems vs).flatten = Ast.tRootOpItems vs
  | [] => rfl
  | v :: r => by simp [rootItems, Ast.tRootOpItems, rootItems_flatten r]

theorem rootItems_ok (b : Nat) : ∀ vs, ∀ i ∈ rootItems vs, LRootOp b i
  | [] => by intro i hi; cases hi
  | v :: r => by
    intro i hi
    simp only [rootItems, List.mem_cons] at hi
    rcases hi with rfl | hi
    · exact ⟨v, rfl⟩
    · exact rootItems_ok b r i hi

theorem rootItems_isEmpty : ∀ vs : List (Ast.OpType × Ast.Str), (rootItems vs).isEmpty = vs.isEmpty
  | [] => rfl
  | _ :: _ => rfl

/-- `{ RootOperationTypeDefinition+ }` then the continuation `K` -/
theorem cmp_rootsBlock {α : Type} (K : PI α) {Lk : Nat → List Ast.Tok → Prop} {F : Kind → Prop} {Q : α → Prop}
    (hK : Cmp (fun _ => True) K Lk F Q) (hKhead : ∀ b x, Lk b x → ∃ x', x = .p .rCurly :: x') :
    Cmp (fun _ => True) (rootsBlock K)
      (fun b x => ∃ roots xk, roots ≠ [] ∧ x = .p .lCurly :: (Ast.tRootOpItems roots ++ xk) ∧ Lk b xk) F Q := by
  intro s s' u cv x q0 rest w hr hl hs ht hq hf _
  obtain ⟨roots, xk, hne, rfl, hlk⟩ := hl
  obtain ⟨xk', rfl⟩ := hKhead _ _ hlk
  obtain ⟨t, i, c', rfl, hta, hi, hs'⟩ := spells_cons hs
  obtain ⟨c2, c3, rfl, s2, s3⟩ := spells_split (x1 := Ast.tRootOpItems roots) (x2 := .p .rCurly :: xk') hs' (by simp)
  obtain ⟨tb, tlb, hc3, htb⟩ := spells_head s3
  have hkb : tb.kind = .rCurly := kind_of_astOfV htb
  obtain ⟨f, ftl, hfol, hsf, _⟩ := next_item_head (Li := LRootOp) (P := fun k => k = Kind.name) (b := 0)
    (by rintro b x ⟨r, rfl⟩; exact ⟨_, _, rfl, rfl⟩) (rootItems roots) (rootItems_ok 0 roots) c2
    (by rw [rootItems_flatten]; exact s2) tb (tlb ++ q0 :: rest) (sigf_of_astOfV htb)
  unfold rootsBlock at hr
  obtain ⟨_, sA, h1, h2⟩ := bind_dec (bump "L_CURLY") _ s s' u hr
  have hs1 : Spells (t :: i) [.p .lCurly] := by
    refine ⟨?_, by intro hd tl e; injection e with e _; subst e; exact sigf_of_astOfV hta⟩
    rw [sig_cons_ignV t i (sigf_of_astOfV hta) hi]
    exact TokIs.single t _ hta
  obtain ⟨e1, tA, _⟩ := cmp_bump "L_CURLY" s sA () (t :: i) [.p .lCurly] f (ftl) w h1 ⟨_, rfl⟩ hs1
    (by rw [ht, ← hfol, hc3]; simp) hsf trivial trivial
  obtain ⟨len, h3⟩ := srcLen_dec _ sA s' u h2
  obtain ⟨has, sB, h4, h5⟩ := bind_dec _ _ sA s' u h3
  have hbA : sA.recLimit - sA.recCur = s.recLimit - s.recCur := by rw [e1.recLimit, e1.recCur]
  obtain ⟨eB, tB, hhas⟩ := cmp_kindWhileFlagLoop .name rootOperationTypeDefinition LRootOp (fun _ => True)
    cmp_rootOperationTypeDefinition (by rintro b x ⟨r, rfl⟩; exact ⟨_, _, rfl, rfl⟩) trivial (rootItems roots) _ false sA sB has c2 tb
    (tlb ++ q0 :: rest) e1.w h4 (rootItems_ok _ roots) (by rw [rootItems_flatten]; exact s2) (by rw [tA, hfol]) (sigf_of_astOfV htb)
    (by rw [hkb]; decide) trivial
  have hhas' : has = true := by
    rw [hhas, rootItems_isEmpty]
    cases roots with
    | nil => exact absurd rfl hne
    | cons _ _ => rfl
  subst hhas'
  simp only [Bool.not_true, Bool.false_eq_true, if_false] at h5
  have hbB : sB.recLimit - sB.recCur = s.recLimit - s.recCur := by rw [eB.recLimit, eB.recCur, hbA]
  obtain ⟨eK, tK, q⟩ := hK sB s' u c3 _ q0 rest eB.w h5 (by rw [hbB]; exact hlk) s3 (by rw [tB, hc3]; simp) hq hf trivial
  exact ⟨by simpa [List.append_assoc] using (e1.trans eB).trans eK, tK, q⟩

theorem kindOfA_rCurly {a : Ast.Tok} (h : kindOfA a = .rCurly) : a = .p .rCurly := by
  cases a with
  | p q => cases q <;> simp [kindOfA] at h; rfl
  | _ => simp [kindOfA] at h

def LSBraces (_ : Nat) (x : List Ast.Tok) : Prop :=
  ∃ roots : List (Ast.OpType × Ast.Str), roots ≠ [] ∧ x = .p .lCurly :: Ast.tRootOpItems roots ++ [.p .rCurly]

theorem cmp_sBraces : Cmp (fun _ => True) sBraces LSBraces (fun _ => True) (fun _ => True) := by
  unfold sBraces
  refine cmp_peekGuard (· == some .lCurly) ((cmp_rootsBlock (expect .rCurly "R_CURLY") (cmp_expect .rCurly "R_CURLY")
    (by rintro b x ⟨a, rfl, hk⟩; rw [kindOfA_rCurly hk]; exact ⟨[], rfl⟩)).mono (fun _ h => h) ?_ (fun _ h => h) (fun _ h => h)) ?_
  · rintro b x ⟨roots, hne, rfl⟩
    exact ⟨roots, [.p .rCurly], hne, by simp, _, rfl, rfl⟩
  · rintro b x ⟨roots, _, rfl⟩
    exact ⟨_, _, rfl, rfl⟩

end Apollo.Parse
