import ApolloModel.Proofs.ParserRecursion5
/-
C04, recursion limit across runs: two runs of the same grammar function that differ only in the recursion limit.  `Plain` computations (everything in
parser/mod.rs except the recursion guard) do not look at the limit: run from states that differ only in `recLimit`
they produce results that differ only in `recLimit`; they leave the high-water mark alone, only add errors, and keep
the invariant `GI`.
-/
set_option linter.unusedSimpArgs false
set_option linter.unusedVariables false
namespace Apollo.Parse
open Apollo.Rowan hiding Str
open Apollo.Lex hiding Str

def setL (L : Nat) (s : PState) : PState := { s with recLimit := L }

def Res.mapS {α : Type} (f : PState → PState) : Res α → Res α
  | .ok a s => .ok a (f s)
  | .abort w => .abort w
  | .panic m => .panic m

/-- what the guard sites rely on: no token limit; once errors are no longer accepted a limit error is on
    record; after the lexer has finished (it has handed out the EOF token) no other token can be current -/
structure GI (s : PState) : Prop where
  lim : s.lx.limit = none
  acc : s.acceptErrors = false → HasLim s.errors
  nf : s.lx.finished = true → ∀ t, s.current = some t → t.kind = .eof

theorem gi_setL {s : PState} (h : GI s) (L : Nat) : GI (setL L s) := ⟨h.lim, h.acc, h.nf⟩
theorem gi_ofSetL {s : PState} {L : Nat} (h : GI (setL L s)) : GI s := ⟨h.lim, h.acc, h.nf⟩

structure PlainOut (s s' : PState) : Prop where
  recHigh : s'.recHigh = s.recHigh
  recCur : s'.recCur = s.recCur
  recLimit : s'.recLimit = s.recLimit
  lim : HasLim s.errors → HasLim s'.errors
  gi : GI s → GI s'

theorem PlainOut.refl (s : PState) : PlainOut s s := ⟨rfl, rfl, rfl, fun h => h, fun h => h⟩

theorem PlainOut.trans {a b c : PState} (h1 : PlainOut a b) (h2 : PlainOut b c) : PlainOut a c :=
  ⟨h2.recHigh.trans h1.recHigh, h2.recCur.trans h1.recCur, h2.recLimit.trans h1.recLimit,
   fun h => h2.lim (h1.lim h), fun h => h2.gi (h1.gi h)⟩

theorem Same.plainOut {s s' : PState} (h : Same s s') : PlainOut s s' :=
  ⟨h.recHigh, h.recCur, h.recLimit, by rw [h.errors]; exact id, fun g =>
    ⟨by rw [h.lx]; exact g.lim, by rw [h.accept, h.errors]; exact g.acc, by rw [h.lx, h.current]; exact g.nf⟩⟩

structure Plain {α : Type} (m : PI α) : Prop where
  blind : ∀ s L, m.run (setL L s) = Res.mapS (setL L) (m.run s)
  out : ∀ s a s', m.run s = .ok a s' → PlainOut s s'

theorem plain_pure {α : Type} (a : α) : Plain (pure a : PI α) :=
  ⟨fun s L => rfl, fun s a' s' h => by rw [run_pure] at h; injection h with _ h; subst h; exact PlainOut.refl s⟩

theorem plain_bind {α β : Type} (m : PI α) (f : α → PI β) (hm : Plain m) (hf : ∀ a, Plain (f a)) : Plain (m >>= f) := by
  refine ⟨?_, ?_⟩
  · intro s L
    rw [run_bind, run_bind, hm.blind s L]
    cases hr : m.run s with
    | ok a s' => simp only [Res.mapS]; exact (hf a).blind s' L
    | abort w => rfl
    | panic msg => rfl
  · intro s b s'' h
    obtain ⟨a, s', h1, h2⟩ := bind_dec m f s s'' b h
    exact (hm.out s a s' h1).trans ((hf a).out s' b s'' h2)

theorem plain_outOfFuel {α : Type} : Plain (PI.outOfFuel : PI α) :=
  ⟨fun s L => rfl, fun s a s' h => by simp [PI.outOfFuel] at h⟩

theorem plain_stuck {α : Type} : Plain (PI.stuck : PI α) :=
  ⟨fun s L => rfl, fun s a s' h => by simp [PI.stuck] at h⟩

/-! ### the lexer side -/

theorem nextTokenRaw_setL (L : Nat) : ∀ (fuel : Nat) (s : PState),
    nextTokenRaw fuel (setL L s) = ((nextTokenRaw fuel s).1, setL L (nextTokenRaw fuel s).2)
  | 0, s => rfl
  | fuel + 1, s => by
    unfold nextTokenRaw
    have hlx : (setL L s).lx = s.lx := rfl
    rw [hlx]
    cases hl : lexNext s.lx with
    | mk o l' =>
      cases o with
      | none => rfl
      | some x =>
        cases x with
        | tok t => rfl
        | err d i =>
          simp only []
          exact nextTokenRaw_setL L fuel { s with
            lx := l', pending := if d.isEmpty then s.pending else s.pending ++ [.error d],
            errors := s.errors ++ [⟨i, utf8Len d, .lexer⟩] }
        | limit i =>
          simp only []
          exact nextTokenRaw_setL L fuel { s with lx := l', acceptErrors := false, errors := s.errors ++ [⟨i, 0, .limit⟩] }

theorem nextTokenRaw_fields : ∀ (fuel : Nat) (s : PState),
    (nextTokenRaw fuel s).2.recHigh = s.recHigh ∧ (nextTokenRaw fuel s).2.recCur = s.recCur ∧
    (nextTokenRaw fuel s).2.recLimit = s.recLimit ∧ (HasLim s.errors → HasLim (nextTokenRaw fuel s).2.errors)
  | 0, s => ⟨rfl, rfl, rfl, fun h => h⟩
  | fuel + 1, s => by
    unfold nextTokenRaw
    cases hl : lexNext s.lx with
    | mk o l' =>
      cases o with
      | none => exact ⟨rfl, rfl, rfl, fun h => h⟩
      | some x =>
        cases x with
        | tok t => exact ⟨rfl, rfl, rfl, fun h => h⟩
        | err d i =>
          obtain ⟨a, b, c, d'⟩ := nextTokenRaw_fields fuel { s with
            lx := l', pending := if d.isEmpty then s.pending else s.pending ++ [.error d],
            errors := s.errors ++ [⟨i, utf8Len d, .lexer⟩] }
          exact ⟨a, b, c, fun h => d' ((hasLim_append _ _).mpr (Or.inl h))⟩
        | limit i =>
          obtain ⟨a, b, c, d'⟩ := nextTokenRaw_fields fuel { s with lx := l', acceptErrors := false, errors := s.errors ++ [⟨i, 0, .limit⟩] }
          exact ⟨a, b, c, fun h => d' ((hasLim_append _ _).mpr (Or.inl h))⟩

theorem nextTokenRaw_nf : ∀ (fuel : Nat) (s : PState), s.lx.limit = none →
    (nextTokenRaw fuel s).2.lx.finished = true → ∀ t, (nextTokenRaw fuel s).1 = some t → t.kind = .eof
  | 0, s, _ => by intro _ t h; simp [nextTokenRaw] at h
  | fuel + 1, s, hl => by
    unfold nextTokenRaw
    rcases lexNext_cases s.lx hl with ⟨_, h⟩ | ⟨_, _, l', h, _, hl', _⟩ | ⟨_, o, l', h, _, hf', hl', hne⟩
    · simp only [h]; intro _ t ht; cases ht
    · simp only [h]; intro _ t ht; injection ht with ht; subst ht; rfl
    · simp only [h]
      cases o with
      | tok t => simp only []; intro hfin; rw [hf'] at hfin; cases hfin
      | err d i => exact nextTokenRaw_nf fuel _ hl'
      | limit i =>
        have := lexNext_limit_finished s.lx i (by rw [h])
        rw [h, hf'] at this
        cases this

theorem nextTokenRaw_some : ∀ (fuel : Nat) (s : PState), s.lx.limit = none → s.lx.finished = false →
    s.lx.src.length + 2 ≤ fuel → ∃ t, (nextTokenRaw fuel s).1 = some t
  | 0, s, _, _, hf => by omega
  | fuel + 1, s, hl, hnf, hf => by
    unfold nextTokenRaw
    rcases lexNext_cases s.lx hl with ⟨hfin, _⟩ | ⟨_, _, l', h, _, hl', _⟩ | ⟨_, o, l', h, hlen, hf', hl', hne⟩
    · rw [hnf] at hfin; cases hfin
    · simp only [h]; exact ⟨_, rfl⟩
    · simp only [h]
      cases o with
      | tok t => exact ⟨t, rfl⟩
      | err d i => exact nextTokenRaw_some fuel _ hl' hf' (by simp only []; omega)
      | limit i =>
        have := lexNext_limit_finished s.lx i (by rw [h])
        rw [h, hf'] at this
        cases this

theorem plain_peekToken : Plain peekToken := by
  refine ⟨?_, ?_⟩
  · intro s L
    unfold peekToken
    simp only []
    have hc : (setL L s).current = s.current := rfl
    rw [hc]
    cases s.current with
    | some t => rfl
    | none =>
      simp only [Res.mapS]
      have := nextTokenRaw_setL L (s.lx.src.length + 3) s
      unfold nextToken
      have hlx : (setL L s).lx = s.lx := rfl
      rw [hlx, this]
      rfl
  · intro s o s' h
    unfold peekToken at h
    simp only [] at h
    cases hc : s.current with
    | some t =>
      simp only [hc, Res.ok.injEq] at h
      obtain ⟨_, rfl⟩ := h
      exact PlainOut.refl s
    | none =>
      simp only [hc, Res.ok.injEq] at h
      obtain ⟨_, rfl⟩ := h
      obtain ⟨a, b, c, d⟩ := nextTokenRaw_fields (s.lx.src.length + 3) s
      refine ⟨a, b, c, d, ?_⟩
      intro g
      have ob := nextTokenRaw_obs (s.lx.src.length + 3) s g.lim
      refine ⟨ob.limit, ?_, ?_⟩
      · intro ha
        have ha' : s.acceptErrors = false := by
          have := ob.accept
          simp only [] at ha
          change (nextTokenRaw _ s).2.acceptErrors = false at ha
          rw [this] at ha; exact ha
        exact d (g.acc ha')
      · intro hfin t ht
        simp only [] at ht
        exact nextTokenRaw_nf (s.lx.src.length + 3) s g.lim hfin t ht

theorem plain_moveCurToPending : Plain moveCurToPending := by
  refine ⟨?_, ?_⟩
  · intro s L
    unfold moveCurToPending
    simp only []
    have hc : (setL L s).current = s.current := rfl
    rw [hc]
    cases s.current with
    | none => rfl
    | some t => simp only []; split <;> rfl
  · intro s b s' h
    unfold moveCurToPending at h
    simp only [] at h
    cases hc : s.current with
    | none => simp only [hc] at h; injection h with _ h; subst h; exact PlainOut.refl s
    | some t =>
      simp only [hc] at h
      split at h
      · injection h with _ h; subst h
        exact ⟨rfl, rfl, rfl, fun h => h, fun g => ⟨g.lim, g.acc, fun _ t' ht => by cases ht⟩⟩
      · injection h with _ h; subst h; exact PlainOut.refl s

theorem plain_srcLen : Plain srcLen :=
  ⟨fun s L => rfl, fun s a s' h => by unfold srcLen at h; simp only [] at h; injection h with _ h; subst h; exact PlainOut.refl s⟩

theorem plain_getCurrent : Plain getCurrent :=
  ⟨fun s L => rfl, fun s a s' h => by unfold getCurrent at h; simp only [] at h; injection h with _ h; subst h; exact PlainOut.refl s⟩

theorem plain_pushIgnored : Plain pushIgnored :=
  ⟨fun s L => rfl, fun s a s' h => by
    unfold pushIgnored at h; simp only [] at h; injection h with _ h; subst h
    exact ⟨rfl, rfl, rfl, fun h => h, fun g => ⟨g.lim, g.acc, g.nf⟩⟩⟩

theorem plain_moveCurToTree (kind : SK) : Plain (moveCurToTree kind) := by
  refine ⟨?_, ?_⟩
  · intro s L
    unfold moveCurToTree
    simp only []
    have hc : (setL L s).current = s.current := rfl
    rw [hc]
    cases s.current <;> rfl
  · intro s a s' h
    unfold moveCurToTree at h
    simp only [] at h
    cases hc : s.current with
    | none => simp only [hc] at h; injection h with _ h; subst h; exact PlainOut.refl s
    | some t =>
      simp only [hc] at h; injection h with _ h; subst h
      exact ⟨rfl, rfl, rfl, fun h => h, fun g => ⟨g.lim, g.acc, fun _ t' ht => by cases ht⟩⟩

theorem plain_pushErr (e : PErr) : Plain (pushErr e) := by
  refine ⟨fun s L => rfl, ?_⟩
  intro s a s' h
  unfold pushErr errUpdate at h
  simp only [] at h
  injection h with _ h
  subst h
  have mono : HasLim s.errors → HasLim (if s.acceptErrors = true then s.errors ++ [e] else s.errors) := by
    intro hl
    split
    · exact (hasLim_append _ _).mpr (Or.inl hl)
    · exact hl
  exact ⟨rfl, rfl, rfl, mono, fun g => ⟨g.lim, fun ha => mono (g.acc ha), g.nf⟩⟩

theorem plain_peekTokenN (n : Nat) : Plain (peekTokenN n) :=
  ⟨fun s L => rfl, fun s a s' h => by
    unfold peekTokenN at h; simp only [] at h; injection h with _ h; subst h; exact PlainOut.refl s⟩

theorem plain_assertRecZero : Plain assertRecZero :=
  ⟨fun s L => rfl, fun s a s' h => by
    unfold assertRecZero at h; simp only [] at h; injection h with _ h; subst h
    exact ⟨rfl, rfl, rfl, fun h => h, fun g => ⟨g.lim, g.acc, g.nf⟩⟩⟩

/-- so are `skip_ignored`, `bump`, `expect`, `err` and the loops, which are built from these -/
theorem plainTok : TokenCalc @Plain where
  pure := plain_pure
  bind := plain_bind
  outOfFuel := plain_outOfFuel
  stuck := plain_stuck
  peekToken := plain_peekToken
  peekTokenN := plain_peekTokenN
  srcLen := plain_srcLen
  getCurrent := plain_getCurrent
  moveCurToPending := plain_moveCurToPending
  pushIgnored := plain_pushIgnored
  moveCurToTree := plain_moveCurToTree
  assertRecZero := plain_assertRecZero
  errAtToken := fun _ => plain_pushErr _

/-- `limit_err` does not look at the recursion limit either; it keeps `GI` because it only stops accepting
    errors when it has a limit error on record -/
theorem plain_limitErr : Plain limitErr := by
  unfold limitErr
  refine plain_bind _ _ plain_peekToken (fun o => ?_)
  cases o with
  | none => exact plain_pure _
  | some t =>
    refine ⟨fun s L => rfl, ?_⟩
    intro s a s' h
    simp only [] at h
    unfold errUpdate at h
    simp only [] at h
    injection h with _ h
    subst h
    have mono : HasLim s.errors → HasLim (if s.acceptErrors = true then s.errors ++ [⟨t.index, 0, .limit⟩] else s.errors) := by
      intro hl
      split
      · exact (hasLim_append _ _).mpr (Or.inl hl)
      · exact hl
    refine ⟨rfl, rfl, rfl, mono, fun g => ⟨g.lim, fun _ => ?_, g.nf⟩⟩
    simp only []
    by_cases ha : s.acceptErrors = true
    · simp only [ha, if_true]
      exact (hasLim_append _ _).mpr (Or.inr ((hasLim_single _).mpr rfl))
    · have ha' : s.acceptErrors = false := by simpa using ha
      simp only [ha', Bool.false_eq_true, if_false]
      exact g.acc ha'

theorem limitErr_records (s s' : PState) (g : GI s) (hc : s.current.isSome = true) (h : limitErr.run s = .ok () s') :
    HasLim s'.errors := by
  unfold limitErr at h
  obtain ⟨o, s1, h1, h2⟩ := bind_dec peekToken _ s s' () h
  unfold peekToken at h1
  simp only [] at h1
  cases hcur : s.current with
  | none => rw [hcur] at hc; cases hc
  | some t =>
    simp only [hcur, Res.ok.injEq] at h1
    obtain ⟨rfl, rfl⟩ := h1
    simp only [] at h2
    unfold errUpdate at h2
    simp only [] at h2
    injection h2 with _ h2
    subst h2
    simp only []
    by_cases ha : s.acceptErrors = true
    · simp only [ha, if_true]
      exact (hasLim_append _ _).mpr (Or.inr ((hasLim_single _).mpr rfl))
    · have ha' : s.acceptErrors = false := by simpa using ha
      simp only [ha', Bool.false_eq_true, if_false]
      exact g.acc ha'

/-! ### `start_node` guard -/

def wnPre (kind : SK) (s : PState) : PState :=
  rawStartNode kind { s with builder := { s.builder with children := s.builder.children ++ s.pending.map pendingElem }, pending := [] }

theorem withNode_run {α : Type} (kind : SK) (body : PI α) (s : PState) :
    (withNode kind body).run s =
      match (skipIgnored >>= fun _ => body).run (wnPre kind s) with
      | .ok a s2 =>
        match s2.builder.finishNode with
        | some b => .ok a { s2 with builder := b }
        | none => .panic "finish_node: no open node"
      | .abort w => .abort w
      | .panic m => .panic m := rfl

theorem plain_withNode {α : Type} (kind : SK) (body : PI α) (hb : Plain body) : Plain (withNode kind body) := by
  have hin := plain_bind _ _ plainTok.skipIgnored (fun _ => hb)
  refine ⟨?_, ?_⟩
  · intro s L
    rw [withNode_run, withNode_run]
    have : wnPre kind (setL L s) = setL L (wnPre kind s) := rfl
    rw [this, hin.blind]
    cases (skipIgnored >>= fun _ => body).run (wnPre kind s) with
    | ok a s2 =>
      simp only [Res.mapS]
      have hb2 : (setL L s2).builder = s2.builder := rfl
      rw [hb2]
      cases s2.builder.finishNode <;> rfl
    | abort w => rfl
    | panic m => rfl
  · intro s a s' h
    obtain ⟨s1, s2, o1, hr, o2⟩ := withNode_decS kind body s s' a h
    exact (o1.plainOut.trans (hin.out s1 a s2 hr)).trans o2.plainOut

theorem plainCalc : GrammarCalc @Plain where
  toTokenCalc := plainTok
  withNode := fun kind body _ _ hb => plain_withNode kind body hb
  name := plainTok.bind _ _ plainTok.peekToken fun o => by
    cases o with
    | none => exact plainTok.err
    | some t => exact TokenCalc.branch _ _ _ (plain_withNode _ _ (plainTok.bump _)) plainTok.err

end Apollo.Parse
