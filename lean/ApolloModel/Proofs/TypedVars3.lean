import ApolloModel.Proofs.TypedVars2
/-
C18 on top of the typed executable rules: on a tree the structural rules accept (`SelsOk`) the walk skips
nothing — the variables written in the tree are those of its sites, the spreads written in it are those the walk
meets — so a quiet walk of one operation (`WalkQ`, Proofs/ExecWalk2.lean) has every variable written in the tree
declared and has entered, with these variable definitions, every fragment it marks (`WalkOk`).
-/
namespace Apollo.ExecRules
open Apollo Apollo.Spec

/-- the walk does not descend into the missing sub-selection of a composite field: there is nothing there -/
theorem localSites_sub (s : RSchema) (doc : RBuilt) (c : Bool) (ty : Option String) (sub : RSels) :
    (if sub.isNil && c then [] else localSites s doc ty sub) = localSites s doc ty sub := by
  cases sub <;> simp [RSels.isNil, localSites]

theorem localSpreads_sub (s : RSchema) (c : Bool) (ty : Option String) (sub : RSels) :
    (if sub.isNil && c then [] else localSpreads s ty sub) = localSpreads s ty sub := by
  cases sub <;> simp [RSels.isNil, localSpreads]

theorem localVars_declared (s : RSchema) (doc : RBuilt) (vars : List RVarDef) : ∀ (t : RSels) (ty : String),
    SelsOk s doc ty t → (∀ site ∈ localSites s doc (some ty) t, site.diags s vars = []) →
      ∀ n ∈ localVars t, declared vars n = true := by
  intro t
  induction t with
  | nil => intro ty _ _ n hn; simp [localVars] at hn
  | field name dirs args sub rest ihs ihr =>
    intro ty ⟨hdirs, ⟨fd, hfd, hargs, hsub⟩, hrest⟩ hq n hn
    simp only [localSites, hfd, localSites_sub, List.forall_mem_append, List.mem_singleton, forall_eq, Site.diags] at hq
    obtain ⟨⟨h1, h2, h3⟩, h4⟩ := hq
    simp only [localVars, List.mem_append] at hn
    rcases hn with ((hn | hn) | hn) | hn
    · exact dirsDiags_complete s vars dirs hdirs h1 n hn
    · exact argsDiags_complete s vars fd.args args hargs h2 n hn
    · exact ihs _ hsub h3 n hn
    · exact ihr ty hrest h4 n hn
  | spread f dirs rest ihr =>
    intro ty ⟨hdirs, _, hrest⟩ hq n hn
    simp only [localSites, List.forall_mem_append, List.mem_singleton, forall_eq, Site.diags] at hq
    simp only [localVars, List.mem_append] at hn
    rcases hn with hn | hn
    · exact dirsDiags_complete s vars dirs hdirs hq.1.1 n hn
    · exact ihr ty hrest hq.2 n hn
  | inline tc dirs sub rest ihs ihr =>
    intro ty ⟨hdirs, hsub, hrest⟩ hq n hn
    simp only [localSites, List.forall_mem_append, List.mem_singleton, forall_eq, Site.diags] at hq
    simp only [localVars, List.mem_append] at hn
    rcases hn with (hn | hn) | hn
    · exact dirsDiags_complete s vars dirs hdirs hq.1.1 n hn
    · cases tc with
      | none => exact ihs ty hsub hq.1.2 n hn
      | some c =>
        have h3 := hq.1.2
        simp only [hsub.1, Bool.not_true, Bool.false_eq_true, if_false, List.forall_mem_append] at h3
        exact ihs c hsub.2 h3.2 n hn
    · exact ihr ty hrest hq.2 n hn

theorem allSpreads_local (s : RSchema) (doc : RBuilt) : ∀ (t : RSels) (ty : String), SelsOk s doc ty t →
    ∀ g ∈ allSpreads t, g ∈ localSpreads s (some ty) t ∧ (doc.findFrag g).isSome := by
  intro t
  induction t with
  | nil => intro ty _ g hg; simp [allSpreads] at hg
  | field name dirs args sub rest ihs ihr =>
    intro ty ⟨_, ⟨fd, hfd, _, hsub⟩, hrest⟩ g hg
    simp only [allSpreads, List.mem_append] at hg
    simp only [localSpreads, hfd, localSpreads_sub, List.mem_append]
    rcases hg with hg | hg
    · exact ⟨.inl (ihs _ hsub g hg).1, (ihs _ hsub g hg).2⟩
    · exact ⟨.inr (ihr ty hrest g hg).1, (ihr ty hrest g hg).2⟩
  | spread f dirs rest ihr =>
    intro ty ⟨_, hfound, hrest⟩ g hg
    simp only [allSpreads, List.mem_cons] at hg
    simp only [localSpreads, List.mem_append, List.mem_singleton]
    rcases hg with rfl | hg
    · exact ⟨.inl rfl, hfound⟩
    · exact ⟨.inr (ihr ty hrest g hg).1, (ihr ty hrest g hg).2⟩
  | inline tc dirs sub rest ihs ihr =>
    intro ty ⟨_, hsub, hrest⟩ g hg
    simp only [allSpreads, List.mem_append] at hg
    simp only [localSpreads, List.mem_append]
    rcases hg with hg | hg
    · cases tc with
      | none => exact ⟨.inl (ihs ty hsub g hg).1, (ihs ty hsub g hg).2⟩
      | some c => exact ⟨.inl (by simpa [hsub.1] using (ihs c hsub.2 g hg).1), (ihs c hsub.2 g hg).2⟩
    · exact ⟨.inr (ihr ty hrest g hg).1, (ihr ty hrest g hg).2⟩

theorem Done.of_doneQ {s : RSchema} {doc : RBuilt} {vars : List RVarDef} {W : List String} {g : String}
    (hfr : ∀ f d, doc.findFrag f = some d → FragOk s doc d) (h : DoneQ s doc vars W g) : Done vars doc W g := by
  obtain ⟨fr, hf, hd, hq⟩ := h
  obtain ⟨hdirs, hcomp, hcyc, hsels⟩ := hfr g fr hf
  obtain ⟨hl, hs⟩ := hq hcomp hcyc
  refine ⟨fr, hf, fun n hn => ?_, fun x hx => ?_⟩
  · rcases List.mem_append.mp hn with hn | hn
    · exact dirsDiags_complete s vars fr.dirs hdirs hd n hn
    · exact localVars_declared s doc vars fr.sels fr.tc hsels hl n hn
  · exact hs x (allSpreads_local s doc fr.sels fr.tc hsels x hx).1 (allSpreads_local s doc fr.sels fr.tc hsels x hx).2

theorem WalkOk.of_walkQ {s : RSchema} {doc : RBuilt} {vars : List RVarDef} {ty : String} {t : RSels} {V V' : List String}
    (hfr : ∀ f d, doc.findFrag f = some d → FragOk s doc d) (hok : SelsOk s doc ty t)
    (w : WalkQ s doc vars (some ty) t V V') : WalkOk vars doc t V V' :=
  ⟨w.mono, w.len, w.nodup, w.defd, localVars_declared s doc vars t ty hok w.locals,
    fun g hg => w.spreads g (allSpreads_local s doc t ty hok g hg).1 (allSpreads_local s doc t ty hok g hg).2,
    fun g hg => (w.fresh g hg).imp id (Done.of_doneQ hfr)⟩

def HandlerOk (s : RSchema) (vars : List RVarDef) (doc : RBuilt) (m : Nat)
    (e : RFrag → List String → List TDiag × List String) : Prop :=
  ∀ d W W', FragOk s doc d → W.Nodup → allDefined doc W → m ≤ W.length → e d W = ([], W') →
    (∀ n ∈ dirsVars d.dirs, declared vars n = true) ∧ WalkOk vars doc d.sels W W'

theorem enterFrag_handlerOk (s : RSchema) (doc : RBuilt) (vars : List RVarDef)
    (hfr : ∀ f d, doc.findFrag f = some d → FragOk s doc d) :
    ∀ (n m : Nat), doc.frags.length < n + m → HandlerOk s vars doc m (enterFrag s doc vars n) := by
  intro n m hlt d W W' hok hnd hdf hm h
  have hq := Mem.enterFrag_handlerQ (fun _ => False) s doc vars n m hlt d W hnd hdf hm (by rw [h]; intro _ hd; cases hd)
  rw [h] at hq
  obtain ⟨hfq, hmono, hlen, hnd', hdf', hfresh⟩ := hq
  obtain ⟨hdirs, hcomp, hcyc, hsels⟩ := hok
  have hbody := hfq.2 hcomp hcyc
  exact ⟨dirsDiags_complete s vars d.dirs hdirs (FragQuiet.of_mem hfq).1,
    .of_walkQ hfr hsels (.of_mem ⟨hmono, hlen, fun _ => hnd', fun _ => hdf', hbody.1, hbody.2, hfresh⟩)⟩

end Apollo.ExecRules
