import ApolloModel.Proofs.ParserDoc1
/-
C05, top level: the `peek_while` loop of `document()`.
-/
set_option linter.unusedSimpArgs false
namespace Apollo.Parse
open Apollo.Rowan hiding Str
open Apollo.Lex hiding Str

def IsDefs (x : List Ast.Tok) : Prop := ∃ items : List (List Ast.Tok), x = items.flatten ∧ ∀ i ∈ items, IsDef i

def flagged (s : PState) : PState := { s with deadBranch := s.deadBranch || !(s.recCur == 0) }

theorem assertRecZero_run (s : PState) : assertRecZero.run s = .ok () (flagged s) := rfl

theorem toks_flagged (s : PState) : Toks (flagged s) = Toks s := rfl
theorem doomed_flagged (s : PState) : Doomed (flagged s) ↔ Doomed s := Iff.rfl
theorem tw_flagged {s : PState} (w : TW s) : TW (flagged s) := ⟨w.limit, w.acc⟩
theorem eofEnd_flagged {s : PState} (h : EofEnd s) : EofEnd (flagged s) := h

theorem good_assertRecZero : Good assertRecZero := by
  intro s a s' w h
  rw [assertRecZero_run] at h
  injection h with _ h
  subst h
  exact ⟨tw_flagged w, fun d => d, rfl, rfl⟩

theorem good_peekDataN (k : Nat) : Good (peekDataN k) := good_bind _ _ (good_peekTokenN k) (fun _ => good_pure _)

theorem good_extensions {n : Nat} (L : DefLemmas n) : Good (extensions n) := by
  unfold extensions
  refine good_bind _ _ (good_peekDataN 2) (fun d => ?_)
  refine good_ite _ _ _ L.schemaExt.1 (good_ite _ _ _ L.scalarExt.1 (good_ite _ _ _ L.objectExt.1
    (good_ite _ _ _ L.interfaceExt.1 (good_ite _ _ _ L.unionExt.1 (good_ite _ _ _ L.enumExt.1
    (good_ite _ _ _ L.inputExt.1 good_errAndPop))))))

theorem good_selectDefinition {n : Nat} (L : DefLemmas n) (d : Str) : Good (selectDefinition n d) := by
  unfold selectDefinition
  refine good_ite _ _ _ L.directive.1 (good_ite _ _ _ L.enumDef.1 (good_ite _ _ _ (good_extensions L)
    (good_ite _ _ _ L.fragment.1 (good_ite _ _ _ L.input.1 (good_ite _ _ _ L.interface.1
    (good_ite _ _ _ L.object.1 (good_ite _ _ _ L.opQuery.1 (good_ite _ _ _ L.scalar.1
    (good_ite _ _ _ L.schema.1 (good_ite _ _ _ L.union.1 good_errAndPop))))))))))

theorem good_documentDispatch {n : Nat} (L : DefLemmas n) (k : Kind) : Good (documentDispatch n k) := by
  unfold documentDispatch
  refine good_ite _ _ _ (good_bind _ _ (good_peekDataN 2) (fun d => ?_))
    (good_ite _ _ _ (good_bind _ _ good_peekData (fun d => ?_)) good_errAndPop)
  · cases d with
    | none => exact good_errAndPop
    | some d => exact good_selectDefinition L d
  · cases d with
    | none => exact good_errAndPop
    | some d => exact good_selectDefinition L d

theorem good_documentStep {n : Nat} (L : DefLemmas n) (k : Kind) : Good (documentStep n k) := by
  unfold documentStep
  refine good_ite _ _ _ (good_bind _ _ good_assertRecZero (fun _ => good_pure _))
    (good_bind _ _ good_assertRecZero (fun _ => good_bind _ _ (good_documentDispatch L k) (fun _ => good_pure _)))

/-- **one turn of the loop of `document()`**: either it stops in front of the EOF token, having consumed nothing, or the
    dispatcher ran on the current token from a state `sF` that differs from `s` in flags only, moved on to `sD`, and the
    loop went on from there -/
theorem docLoop_step {n : Nat} (L : DefLemmas n) (fuel : Nat) (s s' : PState) (w : TW s) (he : EofEnd s)
    (h : (peekWhileLoop (documentStep n) (fuel + 1)).run s = .ok () s') (hnd : ¬ Doomed s') :
    (Toks s' = Toks s ∧ EofEnd s' ∧ AtEof s') ∨
    ∃ sF sD t rest, Eat s sF [] ∧ EofEnd sF ∧ sF.current = some t ∧ Toks sF = t :: rest ∧
      (documentDispatch n t.kind).run sF = .ok () sD ∧ Adv sF sD ∧ ¬ Doomed sD ∧
      (peekWhileLoop (documentStep n) fuel).run sD = .ok () s' := by
  unfold peekWhileLoop at h
  obtain ⟨ko, sP, hp, h2⟩ := bind_dec peek _ s s' () h
  obtain ⟨o, p', hko⟩ := peek_obs s sP ko w hp
  subst hko
  have heP : EofEnd sP := p'.eofEnd he
  cases o with
  | none =>
    simp only [Option.map_none] at h2
    rw [run_pure] at h2
    injection h2 with _ h2
    subst h2
    exfalso
    have hh := p'.head
    rw [← p'.toks] at hh
    cases hq : Toks sP with
    | nil => exact eofEnd_nonempty sP heP hnd hq
    | cons a b => rw [hq] at hh; cases hh
  | some t =>
    simp only [Option.map_some] at h2
    have h3 := getCurrent_dec _ sP s' () h2
    obtain ⟨b, sB, hb, h4⟩ := bind_dec (documentStep n t.kind) _ sP s' () h3
    have htP : Toks sP = t :: (Toks sP).tail := p'.head_cons
    unfold documentStep at hb
    by_cases hk : (t.kind == .eof) = true
    · -- the EOF token: the loop stops
      simp only [hk, if_true] at hb
      obtain ⟨_, s0, e0, e1⟩ := bind_dec assertRecZero _ sP sB b hb
      rw [assertRecZero_run] at e0
      injection e0 with _ e0
      subst e0
      rw [run_pure] at e1
      injection e1 with e1 e2
      subst e1 e2
      simp only [Bool.false_eq_true, if_false] at h4
      rw [run_pure] at h4
      injection h4 with _ h4
      subst h4
      exact Or.inl ⟨by rw [toks_flagged, p'.toks], eofEnd_flagged heP, t, by rw [toks_flagged, htP]; rfl, by simpa using hk⟩
    · simp only [hk, Bool.false_eq_true, if_false] at hb
      obtain ⟨_, s0, e0, eD⟩ := bind_dec assertRecZero _ sP sB b hb
      rw [assertRecZero_run] at e0
      injection e0 with _ e0
      subst e0
      obtain ⟨_, sD, eD2, e1⟩ := bind_dec (documentDispatch n t.kind) _ (flagged sP) sB b eD
      rw [run_pure] at e1
      injection e1 with e1 e2
      subst e1 e2
      simp only [if_true] at h4
      have h5 := getCurrent_dec _ sD s' () h4
      have aD := good_documentDispatch L t.kind (flagged sP) () sD (tw_flagged p'.w) eD2
      by_cases hsame : (sP.current == sD.current) = true
      · simp only [hsame, if_true] at h5
        exact absurd h5 (stuck_not_ok _ _ _)
      · simp only [hsame, Bool.false_eq_true, if_false] at h5
        exact Or.inr ⟨flagged sP, sD, t, (Toks sP).tail,
          ⟨by rw [toks_flagged]; exact p'.eat.toks, p'.doom, tw_flagged p'.w, p'.accept, p'.recCur, p'.recLimit⟩,
          eofEnd_flagged heP, p'.current, by rw [toks_flagged]; exact htP, eD2, aD,
          fun d => hnd ((good_peekWhileLoop _ (good_documentStep L) fuel sD () s' aD.w h5).doom d), h5⟩

/-- **the loop of `document()`**: an error-free run consumes a sequence of definitions of the grammar and stops
    in front of the EOF token, nowhere else -/
theorem docLoop_sound {n : Nat} (L : DefLemmas n) : ∀ (fuel : Nat) (s s' : PState), TW s → EofEnd s → LexQ (Toks s) →
    (peekWhileLoop (documentStep n) fuel).run s = .ok () s' → ¬ Doomed s' →
    ∃ cs x, Toks s = cs ++ Toks s' ∧ NoEof cs ∧ EofEnd s' ∧ TokIs (sig cs) x ∧ IsDefs x ∧ AtEof s' := by
  intro fuel
  induction fuel with
  | zero => intro s s' _ _ _ h; simp [peekWhileLoop, PI.outOfFuel] at h
  | succ fuel ih =>
    intro s s' w he hs h hnd
    rcases docLoop_step L fuel s s' w he h hnd with ⟨ht, he', hat⟩ | ⟨sF, sD, t, rest, eF, heF, hc, htF, hD, aD, hndD, h5⟩
    · exact ⟨[], [], by rw [ht]; rfl, (by intro x hx; cases hx), he', TokIs.nil, ⟨[], rfl, by intro i hi; cases hi⟩, hat⟩
    · have hsF : LexQ (Toks sF) := by rw [eF.toks] at hs; exact hs
      obtain ⟨c1, t1, n1, e1', r1⟩ := documentDispatch_sound L sF sD t rest eF.w heF hsF hc htF hD hndD
      have hsD : LexQ (Toks sD) := by rw [t1] at hsF; exact hsF.suffix
      obtain ⟨c2, x2, t2, n2, e2', hx2, ⟨items, hxi, hall⟩, hat⟩ := ih sD s' aD.w e1' hsD h5 hnd
      rcases r1 with ⟨x1, hx1, hd1⟩ | ev
      · refine ⟨c1 ++ c2, x1 ++ x2, by rw [eF.toks, t1, t2, List.nil_append, List.append_assoc], noEof_append n1 n2, e2', ?_,
          ⟨x1 :: items, by simp [hxi], ?_⟩, hat⟩
        · rw [sig_append]; exact hx1.append hx2
        · intro i hi'
          rcases List.mem_cons.mp hi' with rfl | hi'
          · exact hd1
          · exact hall i hi'
      · exact absurd ev id

end Apollo.Parse
