import ApolloModel.Proofs.CoercionLemmas
/-
C28: the coercion model against the specification relation — soundness and refusal.  What one call of
`coerce_variable_value` does is listed once (`Step`, `coerceValue_step`); soundness, refusal and the
fuel bound (CoercionFuel.lean) are inductions on the fuel that go through that list.
-/
namespace Apollo.Coercion
open Apollo Apollo.Spec AList

/-- field names of every input object type are distinct (`IndexMap` keys) -/
def SchemaWF (s : ExecSchema) : Prop :=
  ∀ n fields, s.typeDef? n = some (.input fields) → (fieldNames fields).Nodup

/-- every input field default is already in coerced form -/
def CanonicalDefaults (R : Rules) (s : ExecSchema) : Prop :=
  ∀ n fields, s.typeDef? n = some (.input fields) → ∀ fd d, fd ∈ fields → fd.default = some d →
    Coerces R s fd.ty d.toJson d.toJson

theorem ite_err {c : Prop} [Decidable c] {a : Json} {e e' : CoerceErr}
    (h : (if c then (Except.ok a : Res Json) else Except.error e') = Except.error e) : ¬ c ∧ e = e' := by
  split at h
  · cases h
  · next hc => exact ⟨hc, by cases h; rfl⟩

/-- the built-in scalars, name by name and JSON constructor by constructor: the code accepts (unchanged) exactly what
    §3.5 accepts -/
theorem coerceScalar_spec (name : String) (v : Json) :
    (coerceScalar name v = .ok v ∧ ScalarOk name v) ∨ (coerceScalar name v = .error .value ∧ ¬ ScalarOk name v) := by
  unfold coerceScalar ScalarOk
  repeat' split
  all_goals simp_all [Json.isI64, Json.fitsI32, floatIntOk]
  all_goals omega

theorem scalar_err (name : String) (v : Json) (e : CoerceErr)
    (h : coerceScalar name v = .error e) : e = .value ∧ ¬ ScalarOk name v := by
  rcases coerceScalar_spec name v with ⟨e', _⟩ | ⟨e', hno⟩ <;> rw [e'] at h <;> cases h
  exact ⟨rfl, hno⟩

theorem unknownKey_false {fields : List InputDef} {kvs : AList Json} (h : unknownKey fields kvs = false) :
    ∀ k, (get? kvs k).isSome = true → k ∈ fieldNames fields := by
  intro k hk
  rw [get?_isSome_iff] at hk
  simp only [List.mem_map] at hk
  obtain ⟨kv, hm, rfl⟩ := hk
  simp only [unknownKey, List.any_eq_false] at h
  have := h kv hm
  simp only [Bool.not_eq_true, Bool.not_eq_false', List.any_eq_true, beq_iff_eq] at this
  obtain ⟨fd, hfd, he⟩ := this
  simp only [fieldNames, List.mem_map]
  exact ⟨fd, hfd, he⟩

theorem unknownKey_true {fields : List InputDef} {kvs : AList Json} (h : unknownKey fields kvs = true) :
    ∃ k, (get? kvs k).isSome = true ∧ k ∉ fieldNames fields := by
  simp only [unknownKey, List.any_eq_true, Bool.not_eq_true', List.any_eq_false, beq_iff_eq] at h
  obtain ⟨kv, hm, hn⟩ := h
  refine ⟨kv.1, ?_, ?_⟩
  · rw [get?_isSome_iff]
    simp only [List.mem_map]
    exact ⟨kv, hm, rfl⟩
  · simp only [fieldNames, List.mem_map, not_exists, not_and]
    intro fd hfd
    simpa using hn fd hfd

/-! ### one call of `coerce_variable_value`, `f` being the recursive call -/

/-- What a call does: the ways it succeeds, and the ways it fails — with an error of its own (`value`, `validationBug`),
    or with the error of a recursive call on an item or on a provided field. -/
inductive Step (f : Ty → Json → Res Json) (s : ExecSchema) : Ty → Json → Res Json → Prop
  | null (ty : Ty) : ty.isNonNull = false → Step f s ty .null (.ok .null)
  | items (ty inner : Ty) (xs ys : List Json) : ty.shape = .list inner → xs.length = ys.length →
      (∀ p, p ∈ xs.zip ys → f inner p.1 = .ok p.2) → Step f s ty (.arr xs) (.ok (.arr ys))
  | single (ty inner : Ty) (v y : Json) : ty.shape = .list inner → v.isNull = false → (∀ xs, v ≠ .arr xs) →
      f inner v = .ok y → Step f s ty v (.ok (.arr [y]))
  | scalar (ty : Ty) (name : String) (v : Json) : ty.shape = .named name → s.typeDef? name = some .scalar →
      v.isNull = false → ScalarOk name v → Step f s ty v (.ok v)
  | enum (ty : Ty) (name : String) (values : List String) (x : String) : ty.shape = .named name →
      s.typeDef? name = some (.enum values) → x ∈ values → Step f s ty (.str x) (.ok (.str x))
  | input (ty : Ty) (name : String) (fields : List InputDef) (kvs r : AList Json) : ty.shape = .named name →
      s.typeDef? name = some (.input fields) → unknownKey fields kvs = false →
      coerceDefs f kvs fields kvs = .ok r → Step f s ty (.obj kvs) (.ok (.obj r))
  | nullE (ty : Ty) : ty.isNonNull = true → Step f s ty .null (.error .value)
  | itemE (ty inner : Ty) (xs : List Json) (x : Json) (e : CoerceErr) : ty.shape = .list inner → x ∈ xs →
      f inner x = .error e → Step f s ty (.arr xs) (.error e)
  | singleE (ty inner : Ty) (v : Json) (e : CoerceErr) : ty.shape = .list inner → v.isNull = false → (∀ xs, v ≠ .arr xs) →
      f inner v = .error e → Step f s ty v (.error e)
  | noInputType (ty : Ty) (name : String) (v : Json) : ty.shape = .named name → v.isNull = false →
      (s.typeDef? name = none ∨ s.typeDef? name = some .output) → Step f s ty v (.error .validationBug)
  | scalarE (ty : Ty) (name : String) (v : Json) : ty.shape = .named name → s.typeDef? name = some .scalar →
      v.isNull = false → ¬ ScalarOk name v → Step f s ty v (.error .value)
  | enumE (ty : Ty) (name : String) (values : List String) (v : Json) : ty.shape = .named name →
      s.typeDef? name = some (.enum values) → v.isNull = false → (∀ x, v = .str x → x ∉ values) →
      Step f s ty v (.error .value)
  | notObject (ty : Ty) (name : String) (fields : List InputDef) (v : Json) : ty.shape = .named name →
      s.typeDef? name = some (.input fields) → v.isNull = false → (∀ kvs, v ≠ .obj kvs) → Step f s ty v (.error .value)
  | unknownKey (ty : Ty) (name : String) (fields : List InputDef) (kvs : AList Json) (k : String) : ty.shape = .named name →
      s.typeDef? name = some (.input fields) → (get? kvs k).isSome = true → k ∉ fieldNames fields →
      Step f s ty (.obj kvs) (.error .value)
  | fieldE (ty : Ty) (name : String) (fields : List InputDef) (kvs : AList Json) (fd : InputDef) (fv : Json) (e : CoerceErr) :
      ty.shape = .named name → s.typeDef? name = some (.input fields) → fd ∈ fields → get? kvs fd.name = some fv →
      f fd.ty fv = .error e → Step f s ty (.obj kvs) (.error e)
  | missing (ty : Ty) (name : String) (fields : List InputDef) (kvs : AList Json) (fd : InputDef) : ty.shape = .named name →
      s.typeDef? name = some (.input fields) → fd ∈ fields → get? kvs fd.name = none → fd.default = none →
      fd.ty.isNonNull = true → Step f s ty (.obj kvs) (.error .value)

theorem coerceList_step (f : Ty → Json → Res Json) (s : ExecSchema) (ty inner : Ty) (v : Json)
    (hsh : ty.shape = .list inner) (hn : v.isNull = false) : Step f s ty v (coerceList f inner v) := by
  have single : ∀ v : Json, v.isNull = false → (∀ xs, v ≠ .arr xs) →
      Step f s ty v (wrapArr (coerceItems (f inner) [v])) := by
    intro v hn hna
    simp only [coerceItems]
    cases hv : f inner v with
    | error e => exact .singleE ty inner v e hsh hn hna hv
    | ok y => exact .single ty inner v y hsh hn hna hv
  cases v with
  | arr xs =>
    simp only [coerceList]
    cases hxs : coerceItems (f inner) xs with
    | error e =>
      obtain ⟨x, hx, hfx⟩ := items_err _ _ _ hxs
      exact .itemE ty inner xs x e hsh hx hfx
    | ok ys =>
      obtain ⟨hl, hp⟩ := items_ok _ _ _ hxs
      exact .items ty inner xs ys hsh hl hp
  | null => simp [Json.isNull] at hn
  | _ => exact single _ hn (by intro xs; simp)

theorem coerceNamed_step (f : Ty → Json → Res Json) (s : ExecSchema) (ty : Ty) (name : String) (v : Json)
    (hsh : ty.shape = .named name) (hn : v.isNull = false) : Step f s ty v (coerceNamed f s name v) := by
  unfold coerceNamed
  cases htd : s.typeDef? name with
  | none => exact .noInputType ty name v hsh hn (.inl htd)
  | some td =>
    cases td with
    | output => exact .noInputType ty name v hsh hn (.inr htd)
    | scalar =>
      rcases coerceScalar_spec name v with ⟨e, hok⟩ | ⟨e, hno⟩ <;> simp only [e]
      · exact .scalar ty name v hsh htd hn hok
      · exact .scalarE ty name v hsh htd hn hno
    | «enum» values =>
      have other : ∀ v : Json, v.isNull = false → (∀ x, v ≠ .str x) → Step f s ty v (.error .value) :=
        fun v hn hv => .enumE ty name values v hsh htd hn fun x hx => absurd hx (hv x)
      cases v with
      | str x =>
        by_cases hx : values.contains x = true
        · simp only [hx, if_true]
          exact .enum ty name values x hsh htd (by simpa using hx)
        · simp only [hx, Bool.false_eq_true, if_false]
          exact .enumE ty name values _ hsh htd hn fun y hy => by cases hy; simpa using hx
      | _ => exact other _ hn (by intro x; simp)
    | input fields =>
      cases v with
      | obj kvs =>
        cases huk : unknownKey fields kvs with
        | true =>
          obtain ⟨k, hk, hnk⟩ := unknownKey_true huk
          simp only [huk, if_true]
          exact .unknownKey ty name fields kvs k hsh htd hk hnk
        | false =>
          simp only [huk, Bool.false_eq_true, if_false]
          cases hr : coerceDefs f kvs fields kvs with
          | ok r => exact .input ty name fields kvs r hsh htd huk hr
          | error e =>
            obtain ⟨fd, hfd, ⟨fv, hg, hf⟩ | ⟨hg, hd, hnn, rfl⟩⟩ := coerceDefs_err f kvs fields kvs e hr
            · exact .fieldE ty name fields kvs fd fv e hsh htd hfd hg hf
            · exact .missing ty name fields kvs fd hsh htd hfd hg hd hnn
      | _ => exact .notObject ty name fields _ hsh htd hn (by intro kvs; simp)

theorem coerceValue_step (n : Nat) (s : ExecSchema) (ty : Ty) (v : Json) :
    Step (coerceValue n s) s ty v (coerceValue (n + 1) s ty v) := by
  simp only [coerceValue]
  cases hnull : v.isNull with
  | true =>
    cases v <;> simp [Json.isNull] at hnull
    cases hnn : ty.isNonNull with
    | true => exact .nullE ty hnn
    | false => exact .null ty hnn
  | false =>
    simp only [Bool.false_eq_true, if_false]
    cases hsh : ty.shape with
    | list inner => exact coerceList_step _ s ty inner v hsh hnull
    | named name => exact coerceNamed_step _ s ty name v hsh hnull

/-! ### soundness -/

theorem coerceValue_sound (R : Rules) (s : ExecSchema) (hwf : SchemaWF s)
    (hdef : R.rawDefaults = true ∨ CanonicalDefaults R s) :
    ∀ n ty v r, coerceValue n s ty v = .ok r → Coerces R s ty v r := by
  intro n
  induction n with
  | zero => intro ty v r h; simp [coerceValue] at h
  | succ n ih =>
    intro ty v r h
    have st := coerceValue_step n s ty v
    rw [h] at st
    cases st with
    | null hnn => exact .null ty hnn
    | items inner xs ys hsh hl hp => exact .listItems ty inner xs ys hsh hl fun p hpm => ih _ _ _ (hp p hpm)
    | single inner _ y hsh hn hna hv => exact .listSingle ty inner v y hsh hn hna (ih _ _ _ hv)
    | scalar name _ hsh htd hn hok => exact .scalar ty name v hsh htd hn hok
    | «enum» name values x hsh htd hx => exact .enum ty name values x hsh htd hx
    | input name fields kvs robj hsh htd huk hr =>
      obtain ⟨c1, c2⟩ := coerceDefs_ok _ kvs fields kvs robj (hwf name fields htd) hr
      have p1 := unknownKey_false huk
      refine .inputObject ty name fields kvs robj hsh htd p1 ?_ ?_ ?_ ?_ ?_ ?_ ?_
      · intro k hk
        by_cases hm : k ∈ fieldNames fields
        · exact hm
        · rw [c1 k hm] at hk
          exact p1 k hk
      · intro fd hfd hsome
        cases hg : get? kvs fd.name with
        | none => simp [hg] at hsome
        | some fv =>
          obtain ⟨rv, _, hrv⟩ := (c2 fd hfd).1 fv hg
          simp [hrv]
      · intro fd fv rv hfd hg hrv
        obtain ⟨rv', hf, hrv'⟩ := (c2 fd hfd).1 fv hg
        rw [hrv] at hrv'
        cases hrv'
        exact ih _ _ _ hf
      · intro fd d hfd hg hd
        simp [(c2 fd hfd).2.1 hg d hd]
      · intro fd d rd hfd hg hd hrd hraw
        have := (c2 fd hfd).2.1 hg d hd
        rw [hrd] at this
        cases this
        rcases hdef with hdef | hdef
        · rw [hdef] at hraw; cases hraw
        · exact hdef name fields htd fd d hfd hd
      · intro fd d rd hfd hg hd hrd _
        have := (c2 fd hfd).2.1 hg d hd
        rw [hrd] at this
        cases this
        rfl
      · intro fd hfd hg hd
        obtain ⟨hnn, hr'⟩ := (c2 fd hfd).2.2 hg hd
        exact ⟨hnn, by rw [hr', hg]⟩

theorem inv_list {R : Rules} {s : ExecSchema} {ty inner : Ty} {v r : Json} (h : Coerces R s ty v r)
    (hsh : ty.shape = .list inner) (hn : v.isNull = false) :
    (∃ xs ys, v = .arr xs ∧ xs.length = ys.length ∧ ∀ p, p ∈ xs.zip ys → Coerces R s inner p.1 p.2) ∨
    ((∀ xs, v ≠ .arr xs) ∧ ∃ r', Coerces R s inner v r') := by
  cases h
  case null a => simp [Json.isNull] at hn
  case listItems inner' xs ys hl hp hsh' =>
    rw [hsh] at hsh'; cases hsh'
    exact Or.inl ⟨xs, ys, rfl, hl, hp⟩
  case listSingle inner' r' hsh' hn' hna hc =>
    rw [hsh] at hsh'; cases hsh'
    exact Or.inr ⟨hna, r', hc⟩
  case scalar name htd hsh' hn' hok => rw [hsh] at hsh'; cases hsh'
  case «enum» name values x htd hx hsh' => rw [hsh] at hsh'; cases hsh'
  case inputObject name fields kvs r htd p1 p2 p3 p4 p5 p6 p7 p8 hsh' => rw [hsh] at hsh'; cases hsh'

theorem inv_named {R : Rules} {s : ExecSchema} {ty : Ty} {name : String} {v r : Json} (h : Coerces R s ty v r)
    (hsh : ty.shape = .named name) (hn : v.isNull = false) :
    match s.typeDef? name with
    | some .scalar => ScalarOk name v
    | some (.enum values) => ∃ x, v = .str x ∧ x ∈ values
    | some (.input fields) => ∃ kvs, v = .obj kvs ∧
        (∀ k, (get? kvs k).isSome = true → k ∈ fieldNames fields) ∧
        (∀ fd fv, fd ∈ fields → get? kvs fd.name = some fv → ∃ rv, Coerces R s fd.ty fv rv) ∧
        (∀ fd, fd ∈ fields → get? kvs fd.name = none → fd.default = none → fd.ty.isNonNull = false)
    | _ => False := by
  cases h
  case null a => simp [Json.isNull] at hn
  case listItems inner' xs ys hl hp hsh' => rw [hsh] at hsh'; cases hsh'
  case listSingle inner' r' hsh' hn' hna hc => rw [hsh] at hsh'; cases hsh'
  case scalar name' htd hsh' hn' hok =>
    rw [hsh] at hsh'; cases hsh'
    simpa only [htd] using hok
  case «enum» name' values x htd hx hsh' =>
    rw [hsh] at hsh'; cases hsh'
    simp only [htd]
    exact ⟨x, rfl, hx⟩
  case inputObject name' fields kvs r htd p1 p2 p3 p4 p5 p6 p7 p8 hsh' =>
    rw [hsh] at hsh'; cases hsh'
    simp only [htd]
    refine ⟨kvs, rfl, p1, ?_, fun fd hfd hg hd => (p8 fd hfd hg hd).1⟩
    intro fd fv hfd hg
    have := p3 fd hfd (by simp [hg])
    cases hr : get? r fd.name with
    | none => simp [hr] at this
    | some rv => exact ⟨rv, p4 fd fv rv hfd hg hr⟩

/-- refusal: when the model reports a request error other than `outOfFuel` (which CoercionFuel.lean excludes
    at the entry point), the specification has no result either -/
theorem coerceValue_refuse (R : Rules) (s : ExecSchema) :
    ∀ n ty v e, coerceValue n s ty v = .error e → e ≠ .outOfFuel → ¬ ∃ r, Coerces R s ty v r := by
  intro n
  induction n with
  | zero => intro ty v e h he; simp [coerceValue] at h; exact absurd h.symm he
  | succ n ih =>
    rintro ty v e h he ⟨r, hc⟩
    have st := coerceValue_step n s ty v
    rw [h] at st
    cases st with
    | nullE hnn =>
      cases hc
      case null a => rw [hnn] at a; cases a
      case listSingle inner r' hsh hn hna hc' => simp [Json.isNull] at hn
      case scalar name htd hsh hn hok => simp [Json.isNull] at hn
    | itemE inner xs x _ hsh hx hfx =>
      rcases inv_list hc hsh rfl with ⟨xs', ys, hxs', hl, hp⟩ | ⟨hna, _⟩
      · cases hxs'
        obtain ⟨y, hy⟩ := zip_exists xs ys x hx hl
        exact ih _ _ _ hfx he ⟨y, hp (x, y) hy⟩
      · exact hna xs rfl
    | singleE inner _ _ hsh hn hna hv =>
      rcases inv_list hc hsh hn with ⟨xs, ys, rfl, _, _⟩ | ⟨_, r', hc'⟩
      · exact hna xs rfl
      · exact ih _ _ _ hv he ⟨r', hc'⟩
    | noInputType name _ hsh hn htd =>
      have inv := inv_named hc hsh hn
      rcases htd with htd | htd <;> simp only [htd] at inv
    | scalarE name _ hsh htd hn hno =>
      have inv := inv_named hc hsh hn
      simp only [htd] at inv
      exact hno inv
    | enumE name values _ hsh htd hn hx =>
      have inv := inv_named hc hsh hn
      simp only [htd] at inv
      obtain ⟨x, hv, hxm⟩ := inv
      exact hx x hv hxm
    | notObject name fields _ hsh htd hn hv =>
      have inv := inv_named hc hsh hn
      simp only [htd] at inv
      obtain ⟨kvs, hkvs, _⟩ := inv
      exact hv kvs hkvs
    | unknownKey name fields kvs k hsh htd hk hnk =>
      have inv := inv_named hc hsh rfl
      simp only [htd] at inv
      obtain ⟨_, hkvs, p1, _⟩ := inv
      cases hkvs
      exact hnk (p1 k hk)
    | fieldE name fields kvs fd fv _ hsh htd hfd hg hf =>
      have inv := inv_named hc hsh rfl
      simp only [htd] at inv
      obtain ⟨_, hkvs, _, p4, _⟩ := inv
      cases hkvs
      exact ih _ _ _ hf he (p4 fd fv hfd hg)
    | missing name fields kvs fd hsh htd hfd hg hd hnn =>
      have inv := inv_named hc hsh rfl
      simp only [htd] at inv
      obtain ⟨_, hkvs, _, _, p8⟩ := inv
      cases hkvs
      have := p8 fd hfd hg hd
      rw [hnn] at this
      cases this

end Apollo.Coercion
