import ApolloModel.Proofs.ParserComplete25
/-
C05 (completeness of the whole Document grammar): the guards of a whole document.  `ItemOk` / `DocOk`:
a list of definitions, each within the budget (over-charging depth) and allowed before the first token of what follows
it; and the same read off `DocItem`s alone — `itemFit` (within the recursion limit) and `DocFollowOk`
(what follows each definition) — with `docOk_of_items` from the one to the other.
-/
set_option linter.unusedSimpArgs false
namespace Apollo.Parse
open Apollo.Rowan hiding Str
open Apollo.Lex hiding Str

def ItemOk (b : Nat) (x : List Ast.Tok) (q : Tok) : Prop :=
  LExecDef b x ∨ ∃ l : LooseDef, x = l.toks ∧ looseFit b l ∧ looseFollow l q

theorem looseDef_head (l : LooseDef) : ∃ a x', l.toks = a :: x' ∧ (kindOfA a = .name ∨ kindOfA a = .stringValue) := by
  have hd : ∀ (desc : Option Ast.Str) (a : Ast.Tok) (x : List Ast.Tok), kindOfA a = .name →
      ∃ a' x', Ast.tDescription desc ++ a :: x = a' :: x' ∧ (kindOfA a' = .name ∨ kindOfA a' = .stringValue) := by
    intro desc a x ha
    cases desc with
    | none => exact ⟨a, x, rfl, Or.inl ha⟩
    | some d => exact ⟨.str d, a :: x, rfl, Or.inr rfl⟩
  cases l <;> simp only [LooseDef.toks, scalarToks, unionToks, enumToks, inputToks, directiveToks, schemaToks, kwPart_true, kwE,
    List.append_assoc, List.cons_append, List.nil_append]
  all_goals first
    | exact hd _ _ _ rfl
    | exact ⟨_, _, rfl, Or.inl rfl⟩

/-- a list of definitions, each allowed before the first token of what follows it -/
def DocOk (b : Nat) : List (List Ast.Tok) → Prop
  | [] => True
  | x :: r => (∀ q, FollowTokOf r.flatten.head? q → ItemOk b x q) ∧ DocOk b r

/-- a document within the recursion limit: one or more definitions of the grammar (with the liberties of the code:
    leading separators), each allowed before what follows it -/
def IsDocFit (rl : Nat) (x : List Ast.Tok) : Prop :=
  ∃ items : List (List Ast.Tok), items ≠ [] ∧ x = items.flatten ∧ DocOk rl items

def execFit (rl : Nat) : Ast.Definition → Prop
  | .operation _ _ vars dirs sels =>
    (∀ v ∈ vars, varFit rl v) ∧ dirsFit false rl dirs ∧ sels ≠ Ast.Sels.nil ∧ 1 ≤ rl ∧ fitSels sels (rl - 1)
  | .fragment name _ dirs sels =>
    name ≠ Ast.sOn ∧ dirsFit false rl dirs ∧ sels ≠ Ast.Sels.nil ∧ 1 ≤ rl ∧ fitSels sels (rl - 1)
  | _ => False

theorem execFit_lexec (rl : Nat) (oe : Bool) (d : Ast.Definition) (h : execFit rl d) : LExecDef rl (Ast.tDefinition oe d) := by
  cases d with
  | operation ty name vars dirs sels =>
    obtain ⟨hv, hd, hne, hb, hf⟩ := h
    by_cases hsh : Ast.isShorthand oe ty name vars dirs = true
    · have : Ast.tDefinition oe (.operation ty name vars dirs sels) = Ast.tSelSet sels := by
        simp only [Ast.tDefinition, hsh, if_true, List.nil_append]
      rw [this]
      exact Or.inl (Or.inr ⟨sels, hne, rfl, hb, hf⟩)
    · have hsh' : Ast.isShorthand oe ty name vars dirs = false := by simpa using hsh
      have : Ast.tDefinition oe (.operation ty name vars dirs sels) = tOperation ty name vars dirs sels := by
        cases name <;> simp [Ast.tDefinition, hsh', tOperation]
      rw [this]
      exact Or.inl (Or.inl ⟨ty, name, vars, dirs, sels, rfl, hv, hd, hne, hb, hf⟩)
  | fragment name tc dirs sels =>
    obtain ⟨hn, hd, hne, hb, hf⟩ := h
    exact Or.inr ⟨name, tc, dirs, sels, rfl, hn, hd, hne, hb, hf⟩
  | _ => exact absurd h (by simp [execFit])

/-- **the guard of one definition** as `document()` accepts it, within the recursion limit `rl` (over-charging depth) -/
def itemFit (rl : Nat) : DocItem → Prop
  | .exec _ d => execFit rl d
  | .loose l => looseFit rl l

def followKindA : Option Ast.Tok → Kind
  | none => .eof
  | some a => kindOfA a

/-- the follow conditions in terms of the kind of the follow token and of "it is not the Name `implements`" -/
def looseFollowG : LooseDef → Kind → Prop → Prop
  | .scalar .., k, _ => k ≠ .at ∧ k ≠ .lParen
  | .scalarExt .., k, _ => k ≠ .at ∧ k ≠ .lParen
  | .object .., k, ni => (k ≠ .at ∧ k ≠ .lParen ∧ k ≠ .lCurly ∧ True) ∧ k ≠ .amp ∧ ni
  | .interface .., k, ni => (k ≠ .at ∧ k ≠ .lParen ∧ k ≠ .lCurly ∧ True) ∧ k ≠ .amp ∧ ni
  | .objectExt .., k, ni => (k ≠ .at ∧ k ≠ .lParen ∧ k ≠ .lCurly ∧ True) ∧ k ≠ .amp ∧ ni
  | .interfaceExt .., k, ni => (k ≠ .at ∧ k ≠ .lParen ∧ k ≠ .lCurly ∧ True) ∧ k ≠ .amp ∧ ni
  | .union .., k, _ => k ≠ .at ∧ k ≠ .lParen ∧ k ≠ .eq ∧ k ≠ .pipe
  | .unionExt .., k, _ => k ≠ .at ∧ k ≠ .lParen ∧ k ≠ .eq ∧ k ≠ .pipe
  | .enum .., k, _ => Fbody k
  | .input .., k, _ => Fbody k
  | .enumExt .., k, _ => Fbody k
  | .inputExt .., k, _ => Fbody k
  | .schemaExt .., k, _ => Fbody k
  | .directive .., k, _ => k ≠ .pipe
  | .schema .., _, _ => True

theorem looseFollow_of_G (l : LooseDef) (q : Tok) (h : looseFollowG l q.kind (NotImplTok q)) : looseFollow l q := by
  cases l <;> exact h

/-- **what may follow a type-system definition**, on the abstract syntax: `f` is the first grammar token of the
    next definition, `none` at the end of the document -/
def looseFollowA (l : LooseDef) (f : Option Ast.Tok) : Prop :=
  looseFollowG l (followKindA f) (f ≠ some (.name "implements".toList))

theorem followTok_kind {f : Option Ast.Tok} {q : Tok} (h : FollowTokOf f q) : q.kind = followKindA f := by
  cases f with
  | none => exact h
  | some a => exact kind_of_astOfV h

theorem followTok_notImpl {f : Option Ast.Tok} {q : Tok} (h : FollowTokOf f q) (hn : f ≠ some (.name "implements".toList)) : NotImplTok q := by
  rintro ⟨hk, hd⟩
  cases f with
  | none => rw [show q.kind = Kind.eof from h] at hk; cases hk
  | some a =>
    have ha : astOfV q = some a := h
    have : astOfV q = some (.name q.data) := by simp [astOfV, hk]
    rw [this] at ha
    injection ha with ha
    exact hn (by rw [← ha, hd])

theorem looseFollowG_congr (l : LooseDef) (k : Kind) (p p' : Prop) (hp : p → p') (h : looseFollowG l k p) : looseFollowG l k p' := by
  cases l <;> first
    | exact h
    | exact ⟨h.1, h.2.1, hp h.2.2⟩

theorem looseFollow_of_A (l : LooseDef) (f : Option Ast.Tok) (q : Tok) (h : looseFollowA l f) (hq : FollowTokOf f q) : looseFollow l q := by
  apply looseFollow_of_G
  rw [followTok_kind hq]
  exact looseFollowG_congr l _ _ _ (followTok_notImpl hq) h

def itemFollowA : DocItem → Option Ast.Tok → Prop
  | .loose l, f => looseFollowA l f
  | _, _ => True

/-- every definition may be followed by the first token of the next one (or by the end of the document) -/
def DocFollowOk : List DocItem → Prop
  | [] => True
  | i :: r => itemFollowA i (docToks r).head? ∧ DocFollowOk r

theorem docOk_of_items (rl : Nat) : ∀ its : List DocItem, (∀ i ∈ its, itemFit rl i) → DocFollowOk its → DocOk rl (its.map DocItem.toks)
  | [], _, _ => trivial
  | i :: r, hfit, hfol => by
    refine ⟨?_, docOk_of_items rl r (fun j hj => hfit j (by simp [hj])) hfol.2⟩
    intro q hq
    have hq' : FollowTokOf (docToks r).head? q := hq
    have hi := hfit i (by simp)
    cases i with
    | exec oe d => exact Or.inl (execFit_lexec rl oe d hi)
    | loose l => exact Or.inr ⟨l, rfl, hi, looseFollow_of_A l _ q hfol.1 hq'⟩

end Apollo.Parse
