import ApolloModel.Proofs.ParserType5
import ApolloModel.Proofs.ParserTermination2
/-
C07 / C05, type entry point: `parse_type` always yields a tree (no panic: C01
`parse_no_panic`; no abort: `parse_type_terminates`), so acceptance needs no hypothesis about the outcome.
-/
set_option linter.unusedSimpArgs false
namespace Apollo.Parse
open Apollo.Rowan hiding Str
open Apollo.Lex hiding Str

theorem parseType_tree (tl : Option Nat) (rl : Nat) (src : Str) : ∃ root, (parse .type tl rl src).outcome = .tree root := by
  cases h : (parse .type tl rl src).outcome with
  | tree root => exact ⟨root, rfl⟩
  | panic m => exact absurd h (parse_no_panic .type tl rl src m)
  | abort w => exact absurd h (parse_type_terminates tl rl src w)

theorem parseType_sound' (rl : Nat) (src : Str) (herr : (parse .type none rl src).errors = []) :
    LexClean src ∧ ∃ t ts e, sig (srcToks src) = ts ++ [e] ∧ e.kind = .eof ∧ IsTy ts t := by
  obtain ⟨root, h⟩ := parseType_tree none rl src
  exact parseType_sound rl src root h herr

end Apollo.Parse
