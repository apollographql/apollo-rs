import ApolloModel.Proofs.AstSelections
/-
Token-level printers of the definition layer and their agreement with the command model.
-/
namespace Apollo.Ast

def tDescription : Option Str → List Tok
  | none => []
  | some d => [.str d]

def tDefault : Option Value → List Tok
  | none => []
  | some v => .p .eq :: tValue v

theorem toksOf_cDescription (d : Option Str) : toksOf (cDescription d) = tDescription d := by
  cases d <;> rfl

theorem toksOf_cDefault (d : Option Value) : toksOf (cDefault d) = tDefault d := by
  cases d <;> simp [cDefault, tDefault, toksOf_cValue]

def tVarDef (v : VarDef) : List Tok :=
  .p .dollar :: .name v.name :: .p .colon :: tTy v.ty ++ tDefault v.default ++ tDirectives v.dirs

def tVarDefItems : List VarDef → List Tok
  | [] => []
  | v :: r => tVarDef v ++ tVarDefItems r

def tVarDefs (vs : List VarDef) : List Tok :=
  if vs.isEmpty then [] else .p .lParen :: tVarDefItems vs ++ [.p .rParen]

theorem toksAll_cVarDef (vs : List VarDef) : toksAll (vs.map cVarDef) = tVarDefItems vs := by
  induction vs with
  | nil => rfl
  | cons v r ih => simp [cVarDef, tVarDef, tVarDefItems, toksOf_cTy, toksOf_cDefault, toksOf_cDirectives, ih]

def tIVD (v : InputValueDef) : List Tok :=
  tDescription v.desc ++ .name v.name :: .p .colon :: tTy v.ty ++ tDefault v.default ++ tDirectives v.dirs

def tIVDItems : List InputValueDef → List Tok
  | [] => []
  | v :: r => tIVD v ++ tIVDItems r

theorem toksOf_cInputValueDef (v : InputValueDef) : toksOf (cInputValueDef v) = tIVD v := by
  simp [cInputValueDef, tIVD, toksOf_cDescription, toksOf_cTy, toksOf_cDefault, toksOf_cDirectives]

theorem toksAll_cInputValueDef (vs : List InputValueDef) : toksAll (vs.map cInputValueDef) = tIVDItems vs := by
  induction vs with
  | nil => rfl
  | cons v r ih => simp [toksOf_cInputValueDef, tIVDItems, ih]

def tArgsDef (args : List InputValueDef) : List Tok :=
  if args.isEmpty then [] else .p .lParen :: tIVDItems args ++ [.p .rParen]

theorem toksOf_cArgumentsDefinition (args : List InputValueDef) : toksOf (cArgumentsDefinition args) = tArgsDef args := by
  unfold cArgumentsDefinition tArgsDef
  split
  · rfl
  · split <;> simp [toksOf_commaSeparated, toksAll_cInputValueDef]

def tFieldDef (f : FieldDef) : List Tok :=
  tDescription f.desc ++ .name f.name :: tArgsDef f.args ++ .p .colon :: tTy f.ty ++ tDirectives f.dirs

def tFieldDefItems : List FieldDef → List Tok
  | [] => []
  | v :: r => tFieldDef v ++ tFieldDefItems r

theorem toksAll_cFieldDef (vs : List FieldDef) : toksAll (vs.map cFieldDef) = tFieldDefItems vs := by
  induction vs with
  | nil => rfl
  | cons v r ih =>
    simp [cFieldDef, tFieldDef, tFieldDefItems, toksOf_cDescription, toksOf_cArgumentsDefinition, toksOf_cTy,
      toksOf_cDirectives, ih]

def tEnumValueDef (v : EnumValueDef) : List Tok := tDescription v.desc ++ .name v.value :: tDirectives v.dirs

def tEnumValueDefItems : List EnumValueDef → List Tok
  | [] => []
  | v :: r => tEnumValueDef v ++ tEnumValueDefItems r

theorem toksAll_cEnumValueDef (vs : List EnumValueDef) : toksAll (vs.map cEnumValueDef) = tEnumValueDefItems vs := by
  induction vs with
  | nil => rfl
  | cons v r ih => simp [cEnumValueDef, tEnumValueDef, tEnumValueDefItems, toksOf_cDescription, toksOf_cDirectives, ih]

def tSepNames (sep : P) : List Str → List Tok
  | [] => []
  | n :: r => .p sep :: .name n :: tSepNames sep r

def tSepList (intro : List Tok) (sep : P) : List Str → List Tok
  | [] => []
  | first :: rest => intro ++ .name first :: tSepNames sep rest

theorem toksOf_sepTail (sep : P) (rest : List Str) :
    toksOf ((rest.map fun n => [sp, pn sep, sp, nm n]).flatten) = tSepNames sep rest := by
  induction rest with
  | nil => rfl
  | cons n r ih => simp [tSepNames, ih]

theorem toksOf_cSepList (intro : List Cmd) (sep : P) (l : List Str) :
    toksOf (cSepList intro sep l) = tSepList (toksOf intro) sep l := by
  cases l with
  | nil => rfl
  | cons a r => simp [cSepList, tSepList, toksOf_sepTail]

def tRootOp (r : OpType × Str) : List Tok := [.name r.1.name.toList, .p .colon, .name r.2]

def tRootOpItems : List (OpType × Str) → List Tok
  | [] => []
  | v :: r => tRootOp v ++ tRootOpItems r

theorem toksAll_cRootOp (vs : List (OpType × Str)) : toksAll (vs.map cRootOp) = tRootOpItems vs := by
  induction vs with
  | nil => rfl
  | cons v r ih => simp [cRootOp, tRootOp, tRootOpItems, ih]

theorem kw_implements : kw "implements" = nm sImplements := rfl
theorem kw_repeatable : kw "repeatable" = nm sRepeatable := rfl
theorem kw_on : kw "on" = nm sOn := rfl

def tBraced (items : List Tok) (isEmpty : Bool) : List Tok :=
  if isEmpty then [] else .p .lCurly :: items ++ [.p .rCurly]

def tObjectTypeLike (name : Str) (impls : List Str) (dirs : List Directive) (fields : List FieldDef) : List Tok :=
  .name name :: tSepList [.name sImplements] .amp impls ++ tDirectives dirs
    ++ tBraced (tFieldDefItems fields) fields.isEmpty

theorem toksOf_cObjectTypeLike (name : Str) (impls : List Str) (dirs : List Directive) (fields : List FieldDef) :
    toksOf (cObjectTypeLike name impls dirs fields) = tObjectTypeLike name impls dirs fields := by
  unfold cObjectTypeLike tObjectTypeLike tBraced
  rw [kw_implements]
  split <;> simp_all [toksOf_cSepList, toksOf_cDirectives, toksOf_curly, toksAll_cFieldDef]

def tUnion (name : Str) (dirs : List Directive) (members : List Str) : List Tok :=
  .name name :: tDirectives dirs ++ tSepList [.p .eq] .pipe members

theorem toksOf_cUnion (name : Str) (dirs : List Directive) (members : List Str) :
    toksOf (cUnion name dirs members) = tUnion name dirs members := by
  simp [cUnion, tUnion, toksOf_cSepList, toksOf_cDirectives]

def tEnumBody (name : Str) (dirs : List Directive) (values : List EnumValueDef) : List Tok :=
  .name name :: tDirectives dirs ++ tBraced (tEnumValueDefItems values) values.isEmpty

theorem toksOf_cEnumBody (name : Str) (dirs : List Directive) (values : List EnumValueDef) :
    toksOf (cEnumBody name dirs values) = tEnumBody name dirs values := by
  unfold cEnumBody tEnumBody tBraced
  split <;> simp_all [toksOf_cDirectives, toksOf_curly, toksAll_cEnumValueDef]

def tInputBody (name : Str) (dirs : List Directive) (fields : List InputValueDef) : List Tok :=
  .name name :: tDirectives dirs ++ tBraced (tIVDItems fields) fields.isEmpty

theorem toksOf_cInputBody (name : Str) (dirs : List Directive) (fields : List InputValueDef) :
    toksOf (cInputBody name dirs fields) = tInputBody name dirs fields := by
  unfold cInputBody tInputBody tBraced
  split <;> simp_all [toksOf_cDirectives, toksOf_curly, toksAll_cInputValueDef]

def tSelSet (ss : Sels) : List Tok := .p .lCurly :: tSels ss ++ [.p .rCurly]

theorem toksOf_curly_cSels (ss : Sels) : toksOf (curly (cSels ss)) = tSelSet ss := by
  simp [toksOf_curly, toksAll_cSels, tSelSet]

def tDefinition (outputEmpty : Bool) : Definition → List Tok
  | .operation ty name vars dirs sels =>
    (if isShorthand outputEmpty ty name vars dirs then []
     else .name ty.name.toList :: (match name with | some n => [.name n] | none => []) ++ tVarDefs vars ++ tDirectives dirs)
      ++ tSelSet sels
  | .fragment name tc dirs sels =>
    .name "fragment".toList :: .name name :: .name sOn :: .name tc :: tDirectives dirs ++ tSelSet sels
  | .directiveDef desc name args repeatable locs =>
    tDescription desc ++ .name "directive".toList :: .p .at :: .name name :: tArgsDef args
      ++ (if repeatable then [.name sRepeatable] else []) ++ tSepList [.name sOn] .pipe locs
  | .schemaDef desc dirs roots =>
    tDescription desc ++ .name "schema".toList :: tDirectives dirs ++ .p .lCurly :: tRootOpItems roots ++ [.p .rCurly]
  | .scalarDef desc name dirs => tDescription desc ++ .name "scalar".toList :: .name name :: tDirectives dirs
  | .objectDef desc name impls dirs fields => tDescription desc ++ .name "type".toList :: tObjectTypeLike name impls dirs fields
  | .interfaceDef desc name impls dirs fields =>
    tDescription desc ++ .name "interface".toList :: tObjectTypeLike name impls dirs fields
  | .unionDef desc name dirs members => tDescription desc ++ .name "union".toList :: tUnion name dirs members
  | .enumDef desc name dirs values => tDescription desc ++ .name "enum".toList :: tEnumBody name dirs values
  | .inputDef desc name dirs fields => tDescription desc ++ .name "input".toList :: tInputBody name dirs fields
  | .schemaExt dirs roots =>
    .name "extend".toList :: .name "schema".toList :: tDirectives dirs ++ tBraced (tRootOpItems roots) roots.isEmpty
  | .scalarExt name dirs => .name "extend".toList :: .name "scalar".toList :: .name name :: tDirectives dirs
  | .objectExt name impls dirs fields => .name "extend".toList :: .name "type".toList :: tObjectTypeLike name impls dirs fields
  | .interfaceExt name impls dirs fields =>
    .name "extend".toList :: .name "interface".toList :: tObjectTypeLike name impls dirs fields
  | .unionExt name dirs members => .name "extend".toList :: .name "union".toList :: tUnion name dirs members
  | .enumExt name dirs values => .name "extend".toList :: .name "enum".toList :: tEnumBody name dirs values
  | .inputExt name dirs fields => .name "extend".toList :: .name "input".toList :: tInputBody name dirs fields

theorem toksOf_cDefinition (oe : Bool) (d : Definition) : toksOf (cDefinition oe d) = tDefinition oe d := by
  cases d with
  | operation ty name vars dirs sels =>
    simp only [cDefinition, tDefinition]
    by_cases hs : isShorthand oe ty name vars dirs = true
    · simp [hs, toksOf_curly_cSels]
    · cases name <;> by_cases hv : vars.isEmpty = true <;>
        simp [hs, hv, tVarDefs, toksOf_commaSeparated, toksAll_cVarDef, toksOf_cDirectives, toksOf_curly_cSels]
  | fragment name tc dirs sels => simp [cDefinition, tDefinition, toksOf_cDirectives, toksOf_curly_cSels, sOn]
  | directiveDef desc name args rep locs =>
    simp only [cDefinition, tDefinition, kw_repeatable, kw_on]
    cases rep <;> simp [toksOf_cDescription, toksOf_cArgumentsDefinition, toksOf_cSepList]
  | schemaDef desc dirs roots =>
    simp [cDefinition, tDefinition, toksOf_cDescription, toksOf_cDirectives, toksOf_curly, toksAll_cRootOp]
  | schemaExt dirs roots =>
    simp only [cDefinition, tDefinition, tBraced]
    by_cases hr : roots.isEmpty = true <;> simp [hr, toksOf_cDirectives, toksOf_curly, toksAll_cRootOp]
  | _ =>
    simp [cDefinition, tDefinition, toksOf_cDescription, toksOf_cDirectives, toksOf_cObjectTypeLike, toksOf_cUnion,
      toksOf_cEnumBody, toksOf_cInputBody]

/-- the token stream of a whole document: the first definition may use the shorthand form -/
def tDocument (outputEmpty : Bool) : Document → List Tok
  | [] => []
  | first :: rest => tDefinition outputEmpty first ++ (rest.map (tDefinition false)).flatten

theorem toksOf_cDocument (oe : Bool) (doc : Document) : toksOf (cDocument oe doc) = tDocument oe doc := by
  cases doc with
  | nil => rfl
  | cons first rest =>
    have : ∀ l : List Definition,
        toksOf ((l.map fun d => [Cmd.rawIfNewlines ['\n'], .newLineOrSpace] ++ cDefinition false d).flatten)
          = (l.map (tDefinition false)).flatten := by
      intro l
      induction l with
      | nil => rfl
      | cons d r ih =>
        simp only [List.map_cons, List.flatten_cons, toksOf_append, toksOf_cDefinition, ih]
        rfl
    simp only [cDocument, tDocument, toksOf_append, toksOf_cDefinition, this]
    simp

end Apollo.Ast
