import ApolloModel.Proofs.ExecWalk
/-
C17, document level: the walk of one operation is COMPLETE for the typed rules, without any hypothesis on
the document — whatever a reachable site (`Reaches`) reports is reported by the walk; the fuel of `enterFrag` (the
number of fragment definitions) is never what ends it (`marked_le_frags`: pigeonhole on `validated_fragments`).
The invariant is stated for an arbitrary property `Q` of diagnostics holding of everything the walk reports; the
marked set `validated_fragments` does not depend on what is reported.  `Q d := d ∈ (what the walk reports)` gives
the membership form (`walk_mem_iff`), `Q := False` the quiet form (`walk_quiet_iff`, `typedDiags_quiet_iff`);
`walk_meets_every_argument` takes the quiet form down to the single argument.
-/
set_option linter.unusedSimpArgs false
set_option linter.unusedVariables false
namespace Apollo.ExecRules.Mem
open Apollo Apollo.Spec Apollo.ExecRules


variable (Q : TDiag → Prop)

/-- everything the validation of fragment definition `fr` reports has `Q`, and the spreads its body meets are all
    marked in `W` -/
def FragQ (s : RSchema) (doc : RBuilt) (vars : List RVarDef) (W : List String) (fr : RFrag) : Prop :=
  (∀ d ∈ dirsDiags s vars fr.dirs, Q d) ∧
    (isCompositeType s fr.tc = true → (reach doc fr.sels).contains fr.name = false →
      (∀ site ∈ localSites s doc (some fr.tc) fr.sels, ∀ d ∈ site.diags s vars, Q d) ∧
        ∀ h ∈ localSpreads s (some fr.tc) fr.sels, (doc.findFrag h).isSome → h ∈ W)

def DoneQ (s : RSchema) (doc : RBuilt) (vars : List RVarDef) (W : List String) (g : String) : Prop :=
  ∃ fr, doc.findFrag g = some fr ∧ FragQ Q s doc vars W fr

theorem DoneQ.mono {Q : TDiag → Prop} {s : RSchema} {doc : RBuilt} {vars : List RVarDef} {W W' : List String} {g : String}
    (h : DoneQ Q s doc vars W g) (hs : ∀ x ∈ W, x ∈ W') : DoneQ Q s doc vars W' g := by
  obtain ⟨fr, h1, h2, h3⟩ := h
  refine ⟨fr, h1, h2, fun a b => ⟨(h3 a b).1, fun x hx hd => hs x ((h3 a b).2 x hx hd)⟩⟩

/-- what a walk from `V` to `V'` over `t` (under `ty`) achieves when everything it reports has `Q` -/
structure WalkQ (s : RSchema) (doc : RBuilt) (vars : List RVarDef) (ty : Option String) (t : RSels) (V V' : List String) : Prop where
  mono : ∀ x ∈ V, x ∈ V'
  len : V.length ≤ V'.length
  nodup : V.Nodup → V'.Nodup
  defd : allDefined doc V → allDefined doc V'
  locals : ∀ site ∈ localSites s doc ty t, ∀ d ∈ site.diags s vars, Q d
  spreads : ∀ g ∈ localSpreads s ty t, (doc.findFrag g).isSome → g ∈ V'
  fresh : ∀ g ∈ V', g ∈ V ∨ DoneQ Q s doc vars V' g

theorem walkQ_nil (s : RSchema) (doc : RBuilt) (vars : List RVarDef) (ty : Option String) (V : List String) :
    WalkQ Q s doc vars ty .nil V V :=
  ⟨fun _ h => h, Nat.le_refl _, fun h => h, fun h => h, by simp [localSites], by simp [localSpreads], fun _ h => .inl h⟩

theorem WalkQ.seq {Q : TDiag → Prop} {s : RSchema} {doc : RBuilt} {vars : List RVarDef} {ta tb ty : Option String} {a b t : RSels}
    {V V1 V2 : List String} (extra : List Site)
    (h1 : WalkQ Q s doc vars ta a V V1) (h2 : WalkQ Q s doc vars tb b V1 V2)
    (hextra : ∀ site ∈ extra, ∀ d ∈ site.diags s vars, Q d)
    (hl : ∀ site ∈ localSites s doc ty t, site ∈ extra ++ localSites s doc ta a ++ localSites s doc tb b)
    (hs : ∀ g ∈ localSpreads s ty t, g ∈ localSpreads s ta a ++ localSpreads s tb b) : WalkQ Q s doc vars ty t V V2 := by
  refine ⟨fun x hx => h2.mono x (h1.mono x hx), Nat.le_trans h1.len h2.len, fun h => h2.nodup (h1.nodup h),
    fun h => h2.defd (h1.defd h), ?_, ?_, ?_⟩
  · intro site hsite
    have := hl site hsite
    simp only [List.mem_append] at this
    rcases this with (h | h) | h
    · exact hextra site h
    · exact h1.locals site h
    · exact h2.locals site h
  · intro g hg hd
    rcases List.mem_append.mp (hs g hg) with h | h
    · exact h2.mono g (h1.spreads g h hd)
    · exact h2.spreads g h hd
  · intro g hg
    rcases h2.fresh g hg with h | h
    · rcases h1.fresh g h with h' | h'
      · exact .inl h'
      · exact .inr (h'.mono h2.mono)
    · exact .inr h

/-- the fragment handler, on a marked set of at least `m` names -/
def HandlerQ (s : RSchema) (doc : RBuilt) (vars : List RVarDef) (m : Nat)
    (e : RFrag → List String → List TDiag × List String) : Prop :=
  ∀ fr W, W.Nodup → allDefined doc W → m ≤ W.length → (∀ d ∈ (e fr W).1, Q d) →
    FragQ Q s doc vars (e fr W).2 fr ∧ (∀ x ∈ W, x ∈ (e fr W).2) ∧ W.length ≤ (e fr W).2.length ∧ (e fr W).2.Nodup ∧
      allDefined doc (e fr W).2 ∧ ∀ g ∈ (e fr W).2, g ∈ W ∨ DoneQ Q s doc vars (e fr W).2 g


theorem walkSels_walkQ (s : RSchema) (doc : RBuilt) (vars : List RVarDef)
    (e : RFrag → List String → List TDiag × List String) (m : Nat) (he : HandlerQ Q s doc vars (m + 1) e) :
    ∀ (t : RSels) (ty : Option String) (V : List String), V.Nodup → allDefined doc V → m ≤ V.length →
      (∀ d ∈ (walkSels s doc vars e ty t V).1, Q d) → WalkQ Q s doc vars ty t V (walkSels s doc vars e ty t V).2 := by
  intro t
  induction t with
  | nil =>
    intro ty V _ _ _ _
    simp only [walkSels]
    exact walkQ_nil Q s doc vars ty V
  | field name dirs args sub rest ihs ihr =>
    intro ty V hnd hdf hm h
    simp only [walkSels, List.forall_mem_append] at h ⊢
    obtain ⟨⟨h1, h2⟩, h4⟩ := h
    have hx1 : ∀ site ∈ [Site.dirs dirs], ∀ d ∈ site.diags s vars, Q d := by
      intro site hs; simp only [List.mem_singleton] at hs; subst hs; exact h1
    cases ty with
    | none =>
      simp only at h2 h4 ⊢
      have e3 := ihs none V hnd hdf hm h2
      have e4 := ihr none _ (e3.nodup hnd) (e3.defd hdf) (Nat.le_trans hm e3.len) h4
      exact WalkQ.seq [.dirs dirs] e3 e4 hx1 (by intro site hs; simpa [localSites] using hs)
        (by intro g hg; simpa [localSpreads] using hg)
    | some t0 =>
      cases hfd : s.field t0 name with
      | none =>
        simp only [hfd] at h2 h4 ⊢
        have e4 := ihr (some t0) V hnd hdf hm h4
        exact WalkQ.seq [.dirs dirs] (walkQ_nil Q s doc vars none V) e4 hx1
          (by intro site hs; simpa [localSites, hfd] using hs) (by intro g hg; simpa [localSpreads, hfd] using hg)
      | some fd =>
        simp only [hfd] at h2 h4 ⊢
        by_cases hc : (sub.isNil && isCompositeType s fd.ty.innerNamedType) = true
        · simp only [hc, if_true] at h2 h4 ⊢
          have hx2 : ∀ site ∈ [Site.dirs dirs, Site.args fd.args args], ∀ d ∈ site.diags s vars, Q d := by
            intro site hs
            simp only [List.mem_cons, List.not_mem_nil, or_false] at hs
            rcases hs with rfl | rfl
            · exact h1
            · exact h2
          have e4 := ihr (some t0) V hnd hdf hm h4
          exact WalkQ.seq [.dirs dirs, .args fd.args args] (walkQ_nil Q s doc vars none V) e4 hx2
            (by intro site hs; simpa [localSites, hfd, hc] using hs) (by intro g hg; simpa [localSpreads, hfd, hc] using hg)
        · simp only [hc, Bool.false_eq_true, if_false, List.forall_mem_append] at h2 h4 ⊢
          have hx2 : ∀ site ∈ [Site.dirs dirs, Site.args fd.args args], ∀ d ∈ site.diags s vars, Q d := by
            intro site hs
            simp only [List.mem_cons, List.not_mem_nil, or_false] at hs
            rcases hs with rfl | rfl
            · exact h1
            · exact h2.1
          have e3 := ihs (some fd.ty.innerNamedType) V hnd hdf hm h2.2
          have e4 := ihr (some t0) _ (e3.nodup hnd) (e3.defd hdf) (Nat.le_trans hm e3.len) h4
          exact WalkQ.seq [.dirs dirs, .args fd.args args] e3 e4 hx2
            (by intro site hs; simpa [localSites, hfd, hc] using hs) (by intro g hg; simpa [localSpreads, hfd, hc] using hg)
  | spread f dirs rest ihr =>
    intro ty V hnd hdf hm h
    simp only [walkSels, List.forall_mem_append] at h ⊢
    obtain ⟨⟨h1, h2⟩, h4⟩ := h
    cases hf : doc.findFrag f with
    | none =>
      simp only [hf] at h2 h4 ⊢
      have e4 := ihr ty V hnd hdf hm h4
      refine ⟨e4.mono, e4.len, e4.nodup, e4.defd, ?_, ?_, e4.fresh⟩
      · intro site hs
        simp only [localSites, hf, List.append_nil, List.mem_append, List.mem_singleton] at hs
        rcases hs with rfl | hs
        · exact h1
        · exact e4.locals site hs
      · intro g hg hd
        simp only [localSpreads, List.mem_append, List.mem_singleton] at hg
        rcases hg with rfl | hg
        · rw [hf] at hd; cases hd
        · exact e4.spreads g hg hd
    | some d =>
      simp only [hf] at h2 h4 ⊢
      have hsp : ∀ site ∈ (match ty with | some t => [Site.spread t d.tc] | none => []), (∀ x ∈ (match ty with | some t => spreadDiags s t d.tc | none => []), Q x) →
          ∀ d ∈ site.diags s vars, Q d := by
        intro site hs hq
        cases ty with
        | none => simp at hs
        | some t => simp only [List.mem_singleton] at hs; subst hs; exact hq
      by_cases hv : V.contains f = true
      · simp only [hv, if_true] at h2 h4 ⊢
        have e4 := ihr ty V hnd hdf hm h4
        refine ⟨e4.mono, e4.len, e4.nodup, e4.defd, ?_, ?_, e4.fresh⟩
        · intro site hs
          simp only [localSites, hf, List.mem_append, List.mem_singleton] at hs
          rcases hs with (rfl | hs) | hs
          · exact h1
          · exact hsp site hs h2
          · exact e4.locals site hs
        · intro g hg hd
          simp only [localSpreads, List.mem_append, List.mem_singleton] at hg
          rcases hg with rfl | hg
          · exact e4.mono _ (mem_of_contains hv)
          · exact e4.spreads g hg hd
      · simp only [hv, Bool.false_eq_true, if_false, List.forall_mem_append] at h2 h4 ⊢
        have hnd1 : (f :: V).Nodup := List.nodup_cons.mpr ⟨not_mem_of_contains hv, hnd⟩
        have hdf1 : allDefined doc (f :: V) := by
          intro x hx
          rcases List.mem_cons.mp hx with rfl | hx
          · rw [hf]; rfl
          · exact hdf x hx
        obtain ⟨q1, q2, q3, q4, q5, q6⟩ := he d (f :: V) hnd1 hdf1 (by simp; omega) h2.2
        have hlen1 : m ≤ (e d (f :: V)).2.length := Nat.le_trans (by simp; omega : m ≤ (f :: V).length) q3
        have e4 := ihr ty _ q4 q5 hlen1 h4
        have hfW : f ∈ (e d (f :: V)).2 := q2 f (List.mem_cons_self ..)
        refine ⟨fun x hx => e4.mono x (q2 x (List.mem_cons_of_mem _ hx)), ?_, fun _ => e4.nodup q4,
          fun _ => e4.defd q5, ?_, ?_, ?_⟩
        · exact Nat.le_trans (Nat.le_trans (by simp : V.length ≤ (f :: V).length) q3) e4.len
        · intro site hs
          simp only [localSites, hf, List.mem_append, List.mem_singleton] at hs
          rcases hs with (rfl | hs) | hs
          · exact h1
          · exact hsp site hs h2.1
          · exact e4.locals site hs
        · intro g hg hd
          simp only [localSpreads, List.mem_append, List.mem_singleton] at hg
          rcases hg with rfl | hg
          · exact e4.mono _ hfW
          · exact e4.spreads g hg hd
        · intro g hg
          rcases e4.fresh g hg with hg1 | hg1
          · rcases q6 g hg1 with hg2 | hg2
            · rcases List.mem_cons.mp hg2 with hg2 | hg2
              · subst hg2
                exact .inr (DoneQ.mono ⟨d, hf, q1⟩ e4.mono)
              · exact .inl hg2
            · exact .inr (hg2.mono e4.mono)
          · exact .inr hg1
  | inline tc dirs sub rest ihs ihr =>
    intro ty V hnd hdf hm h
    simp only [walkSels, List.forall_mem_append] at h ⊢
    obtain ⟨⟨h1, h2⟩, h4⟩ := h
    have hx1 : ∀ site ∈ [Site.dirs dirs], ∀ d ∈ site.diags s vars, Q d := by
      intro site hs; simp only [List.mem_singleton] at hs; subst hs; exact h1
    cases tc with
    | none =>
      simp only at h2 h4 ⊢
      have e3 := ihs ty V hnd hdf hm h2
      have e4 := ihr ty _ (e3.nodup hnd) (e3.defd hdf) (Nat.le_trans hm e3.len) h4
      exact WalkQ.seq [.dirs dirs] e3 e4 hx1 (by intro site hs; simpa [localSites] using hs)
        (by intro g hg; simpa [localSpreads] using hg)
    | some c =>
      simp only at h2 h4 ⊢
      by_cases hc : isCompositeType s c = true
      · simp only [hc, Bool.not_true, Bool.false_eq_true, if_false, List.forall_mem_append] at h2 h4 ⊢
        have e3 := ihs (some c) V hnd hdf hm h2.2
        have e4 := ihr ty _ (e3.nodup hnd) (e3.defd hdf) (Nat.le_trans hm e3.len) h4
        cases ty with
        | none =>
          exact WalkQ.seq [.dirs dirs] e3 e4 hx1 (by intro site hs; simpa [localSites, hc] using hs)
            (by intro g hg; simpa [localSpreads, hc] using hg)
        | some t =>
          have hx2 : ∀ site ∈ [Site.dirs dirs, Site.spread t c], ∀ d ∈ site.diags s vars, Q d := by
            intro site hs
            simp only [List.mem_cons, List.not_mem_nil, or_false] at hs
            rcases hs with rfl | rfl
            · exact h1
            · exact h2.1
          exact WalkQ.seq [.dirs dirs, .spread t c] e3 e4 hx2 (by intro site hs; simpa [localSites, hc] using hs)
            (by intro g hg; simpa [localSpreads, hc] using hg)
      · have hcf : isCompositeType s c = false := by simpa using hc
        simp only [hcf, Bool.not_false, if_true] at h2 h4 ⊢
        have e4 := ihr ty V hnd hdf hm h4
        exact WalkQ.seq [.dirs dirs] (walkQ_nil Q s doc vars none V) e4 hx1
          (by intro site hs; simpa [localSites, hcf] using hs) (by intro g hg; simpa [localSpreads, hcf] using hg)


theorem enterFrag_handlerQ (s : RSchema) (doc : RBuilt) (vars : List RVarDef) :
    ∀ (n m : Nat), doc.frags.length < n + m → HandlerQ Q s doc vars m (enterFrag s doc vars n) := by
  intro n
  induction n with
  | zero =>
    intro m hlt fr W hnd hdf hm _
    have := marked_le_frags doc W hnd hdf
    omega
  | succ n ih =>
    intro m hlt fr W hnd hdf hm h
    simp only [enterFrag] at h ⊢
    by_cases hc : (!isCompositeType s fr.tc || (reach doc fr.sels).contains fr.name) = true
    · simp only [hc, if_true] at h ⊢
      refine ⟨⟨h, ?_⟩, fun _ hx => hx, Nat.le_refl _, hnd, hdf, fun _ hg => .inl hg⟩
      intro h1 h2
      rw [h1, h2] at hc
      cases hc
    · simp only [hc, Bool.false_eq_true, if_false, List.forall_mem_append] at h ⊢
      have w := walkSels_walkQ Q s doc vars _ m (ih (m + 1) (by omega)) fr.sels (some fr.tc) W hnd hdf hm h.2
      exact ⟨⟨h.1, fun _ _ => ⟨w.locals, w.spreads⟩⟩, w.mono, w.len, w.nodup hnd, w.defd hdf, w.fresh⟩

theorem reaches_quiet (s : RSchema) (doc : RBuilt) (vars : List RVarDef) (W : List String)
    (hclosed : ∀ g ∈ W, DoneQ Q s doc vars W g) :
    ∀ (ty : Option String) (t : RSels) (site : Site), Reaches s doc ty t site →
      (∀ g ∈ localSpreads s ty t, (doc.findFrag g).isSome → g ∈ W) →
      (∀ x ∈ localSites s doc ty t, ∀ d ∈ x.diags s vars, Q d) → ∀ d ∈ site.diags s vars, Q d := by
  intro ty t site hr
  induction hr with
  | here h => intro _ hl; exact hl _ h
  | fragDirs hf hd =>
    intro hs _
    obtain ⟨fr', hd', hq, _⟩ := hclosed _ (hs _ hf (by rw [hd]; rfl))
    rw [hd] at hd'; cases hd'
    exact hq
  | frag hf hd hcomp hcyc _ ih =>
    intro hs _
    obtain ⟨fr', hd', _, hq⟩ := hclosed _ (hs _ hf (by rw [hd]; rfl))
    rw [hd] at hd'; cases hd'
    exact ih (hq hcomp hcyc).2 (hq hcomp hcyc).1

/-- the walk of one operation: fuel = number of fragment definitions, `validated_fragments` starts empty -/
theorem walk_walkQ (s : RSchema) (doc : RBuilt) (vars : List RVarDef) (ty : Option String) (t : RSels)
    (h : ∀ d ∈ (walkSels s doc vars (enterFrag s doc vars doc.frags.length) ty t []).1, Q d) :
    WalkQ Q s doc vars ty t [] (walkSels s doc vars (enterFrag s doc vars doc.frags.length) ty t []).2 :=
  walkSels_walkQ Q s doc vars _ 0 (enterFrag_handlerQ Q s doc vars doc.frags.length 1 (by omega)) t ty []
    List.nodup_nil (by intro x hx; cases hx) (Nat.zero_le _) h

/-- COMPLETENESS of the walk of one operation (no hypothesis on the document): what holds of everything it reports
    holds of whatever a reachable site reports -/
theorem walk_complete (s : RSchema) (doc : RBuilt) (vars : List RVarDef) (ty : Option String) (t : RSels)
    (h : ∀ d ∈ (walkSels s doc vars (enterFrag s doc vars doc.frags.length) ty t []).1, Q d) :
    ∀ site, Reaches s doc ty t site → ∀ d ∈ site.diags s vars, Q d := by
  have w := walk_walkQ Q s doc vars ty t h
  intro site hr
  exact reaches_quiet Q s doc vars _ (fun g hg => (w.fresh g hg).resolve_left (by simp)) ty t site hr w.spreads w.locals

theorem walk_mem_iff (s : RSchema) (doc : RBuilt) (vars : List RVarDef) (ty : Option String) (t : RSels) (d : TDiag) :
    d ∈ (walkSels s doc vars (enterFrag s doc vars doc.frags.length) ty t []).1 ↔
      ∃ site, Reaches s doc ty t site ∧ d ∈ site.diags s vars := by
  constructor
  · exact walk_diag_reaches s doc vars _ ty t [] d
  · rintro ⟨site, hr, hm⟩
    exact walk_complete (fun x => x ∈ (walkSels s doc vars (enterFrag s doc vars doc.frags.length) ty t []).1)
      s doc vars ty t (fun _ h => h) site hr d hm

end Apollo.ExecRules.Mem

namespace Apollo.ExecRules
open Apollo Apollo.Spec

def FragQuiet (s : RSchema) (doc : RBuilt) (vars : List RVarDef) (W : List String) (fr : RFrag) : Prop :=
  dirsDiags s vars fr.dirs = [] ∧
    (isCompositeType s fr.tc = true → (reach doc fr.sels).contains fr.name = false →
      (∀ site ∈ localSites s doc (some fr.tc) fr.sels, site.diags s vars = []) ∧
        ∀ h ∈ localSpreads s (some fr.tc) fr.sels, (doc.findFrag h).isSome → h ∈ W)

def DoneQ (s : RSchema) (doc : RBuilt) (vars : List RVarDef) (W : List String) (g : String) : Prop :=
  ∃ fr, doc.findFrag g = some fr ∧ FragQuiet s doc vars W fr

structure WalkQ (s : RSchema) (doc : RBuilt) (vars : List RVarDef) (ty : Option String) (t : RSels) (V V' : List String) : Prop where
  mono : ∀ x ∈ V, x ∈ V'
  len : V.length ≤ V'.length
  nodup : V.Nodup → V'.Nodup
  defd : allDefined doc V → allDefined doc V'
  locals : ∀ site ∈ localSites s doc ty t, site.diags s vars = []
  spreads : ∀ g ∈ localSpreads s ty t, (doc.findFrag g).isSome → g ∈ V'
  fresh : ∀ g ∈ V', g ∈ V ∨ DoneQ s doc vars V' g

theorem FragQuiet.of_mem {s : RSchema} {doc : RBuilt} {vars : List RVarDef} {W : List String} {fr : RFrag}
    (h : Mem.FragQ (fun _ => False) s doc vars W fr) : FragQuiet s doc vars W fr :=
  ⟨List.eq_nil_iff_forall_not_mem.mpr h.1,
    fun a b => ⟨fun site hs => List.eq_nil_iff_forall_not_mem.mpr ((h.2 a b).1 site hs), (h.2 a b).2⟩⟩

/-- the quiet form is the membership form for the property nothing has -/
theorem WalkQ.of_mem {s : RSchema} {doc : RBuilt} {vars : List RVarDef} {ty : Option String} {t : RSels} {V V' : List String}
    (w : Mem.WalkQ (fun _ => False) s doc vars ty t V V') : WalkQ s doc vars ty t V V' :=
  ⟨w.mono, w.len, w.nodup, w.defd, fun site hs => List.eq_nil_iff_forall_not_mem.mpr (w.locals site hs), w.spreads,
    fun g hg => (w.fresh g hg).imp id fun ⟨fr, hf, hq⟩ => ⟨fr, hf, .of_mem hq⟩⟩

theorem walk_walkQ (s : RSchema) (doc : RBuilt) (vars : List RVarDef) (ty : Option String) (t : RSels)
    (h : (walkSels s doc vars (enterFrag s doc vars doc.frags.length) ty t []).1 = []) :
    WalkQ s doc vars ty t [] (walkSels s doc vars (enterFrag s doc vars doc.frags.length) ty t []).2 :=
  .of_mem (Mem.walk_walkQ _ s doc vars ty t (by rw [h]; intro d hd; cases hd))

theorem walk_quiet_iff (s : RSchema) (doc : RBuilt) (vars : List RVarDef) (ty : Option String) (t : RSels) :
    (walkSels s doc vars (enterFrag s doc vars doc.frags.length) ty t []).1 = [] ↔
      ∀ site, Reaches s doc ty t site → site.diags s vars = [] := by
  simp only [List.eq_nil_iff_forall_not_mem, Mem.walk_mem_iff]
  exact ⟨fun h site hr d hd => h d ⟨site, hr, hd⟩, fun h d ⟨site, hr, hd⟩ => h site hr d hd⟩

/-- `validate_operation`, typed rules: nothing is reported iff the operation's directives, the directives of its
    variable definitions (no variable in scope there) and every site reachable from its selection set are quiet -/
theorem opDiags_quiet_iff (s : RSchema) (doc : RBuilt) (o : ROp) :
    opDiags s doc o = [] ↔
      dirsDiags s o.vars o.dirs = [] ∧ (∀ v ∈ o.vars, dirsDiags s [] v.dirs = []) ∧
        ∀ site, Reaches s doc (s.root o.ty) o.sels site → site.diags s o.vars = [] := by
  unfold opDiags
  simp only [List.append_eq_nil_iff, List.flatMap_eq_nil_iff, walk_quiet_iff, and_assoc]

theorem typedDiags_quiet_iff (s : RSchema) (ast : RAst) :
    typedDiags s ast = [] ↔
      ∀ o ∈ (build s ast).ops, dirsDiags s o.vars o.dirs = [] ∧ (∀ v ∈ o.vars, dirsDiags s [] v.dirs = []) ∧
        ∀ site, Reaches s (build s ast) (s.root o.ty) o.sels site → site.diags s o.vars = [] := by
  unfold typedDiags
  simp only [List.flatMap_eq_nil_iff]
  constructor
  · intro h o ho; exact (opDiags_quiet_iff s _ o).mp (h o ho)
  · intro h o ho; exact (opDiags_quiet_iff s _ o).mpr (h o ho)


/-! ### down to the single argument -/

/-- argument `a`, whose definition is `d`, is checked at the site: an argument of the field with the definition the
    field's parent type gives it, or an argument of a defined directive with the directive definition's -/
def Site.HasArg (s : RSchema) : Site → InDef → RArg → Prop
  | .args defs as, d, a => a ∈ as ∧ defs.find? (·.name == a.name) = some d
  | .dirs ds, d, a =>
    ∃ dir ∈ ds, ∃ dd, s.dirs.find? (·.name == dir.name) = some dd ∧ a ∈ dir.args ∧ dd.args.find? (·.name == a.name) = some d
  | .spread _ _, _, _ => False

theorem Mem.argsDiags_mem_iff (s : RSchema) (vars : List RVarDef) (defs : List InDef) (args : List RArg) (d : TDiag) :
    d ∈ argsDiags s vars defs args ↔ ∃ a ∈ args, ∃ df, defs.find? (·.name == a.name) = some df ∧ d ∈ argDiags s vars df a := by
  unfold argsDiags
  simp only [List.mem_flatMap]
  constructor
  · rintro ⟨a, ha, h⟩
    cases hd : defs.find? (·.name == a.name) with
    | none => rw [hd] at h; cases h
    | some df => rw [hd] at h; exact ⟨a, ha, df, hd, h⟩
  · rintro ⟨a, ha, df, hd, h⟩
    exact ⟨a, ha, by rw [hd]; exact h⟩

theorem Mem.dirsDiags_mem_iff (s : RSchema) (vars : List RVarDef) (dirs : List RDir) (d : TDiag) :
    d ∈ dirsDiags s vars dirs ↔ ∃ df a, (Site.dirs dirs).HasArg s df a ∧ d ∈ argDiags s vars df a := by
  unfold dirsDiags
  simp only [List.mem_flatMap, Site.HasArg]
  constructor
  · rintro ⟨dir, hdir, h⟩
    cases hdd : s.dirs.find? (·.name == dir.name) with
    | none => rw [hdd] at h; cases h
    | some dd =>
      rw [hdd] at h
      obtain ⟨a, ha, df, hdf, hm⟩ := (Mem.argsDiags_mem_iff s vars dd.args dir.args d).mp h
      exact ⟨df, a, ⟨dir, hdir, dd, hdd, ha, hdf⟩, hm⟩
  · rintro ⟨df, a, ⟨dir, hdir, dd, hdd, ha, hdf⟩, hm⟩
    exact ⟨dir, hdir, by rw [hdd]; exact (Mem.argsDiags_mem_iff s vars dd.args dir.args d).mpr ⟨a, ha, df, hdf, hm⟩⟩

theorem Mem.site_mem_iff (s : RSchema) (vars : List RVarDef) (site : Site) (d : TDiag) :
    d ∈ site.diags s vars ↔
      (∃ df a, site.HasArg s df a ∧ d ∈ argDiags s vars df a) ∨ (∃ t c, site = .spread t c ∧ d ∈ spreadDiags s t c) := by
  cases site with
  | dirs dirs =>
    simp only [Site.diags, Mem.dirsDiags_mem_iff]
    exact ⟨fun h => .inl h, fun h => h.elim id (fun ⟨_, _, hc, _⟩ => by cases hc)⟩
  | args defs args =>
    simp only [Site.diags, Mem.argsDiags_mem_iff, Site.HasArg]
    constructor
    · rintro ⟨a, ha, df, hdf, hm⟩; exact .inl ⟨df, a, ⟨ha, hdf⟩, hm⟩
    · rintro (⟨df, a, ⟨ha, hdf⟩, hm⟩ | ⟨_, _, hc, _⟩)
      · exact ⟨a, ha, df, hdf, hm⟩
      · cases hc
  | spread t c =>
    simp only [Site.diags, Site.HasArg]
    constructor
    · intro h; exact .inr ⟨t, c, rfl, h⟩
    · rintro (⟨_, _, hf, _⟩ | ⟨t', c', hc, hm⟩)
      · exact hf.elim
      · cases hc; exact hm

theorem argsDiags_quiet_iff (s : RSchema) (vars : List RVarDef) (defs : List InDef) (args : List RArg) :
    argsDiags s vars defs args = [] ↔
      ∀ a ∈ args, ∀ d, defs.find? (·.name == a.name) = some d → argDiags s vars d a = [] := by
  simp only [List.eq_nil_iff_forall_not_mem, Mem.argsDiags_mem_iff]
  exact ⟨fun h a ha d hd x hx => h x ⟨a, ha, d, hd, hx⟩, fun h x ⟨a, ha, d, hd, hx⟩ => h a ha d hd x hx⟩

theorem dirsDiags_quiet_iff (s : RSchema) (vars : List RVarDef) (dirs : List RDir) :
    dirsDiags s vars dirs = [] ↔ ∀ d a, (Site.dirs dirs).HasArg s d a → argDiags s vars d a = [] := by
  simp only [List.eq_nil_iff_forall_not_mem, Mem.dirsDiags_mem_iff]
  exact ⟨fun h d a ha x hx => h x ⟨d, a, ha, hx⟩, fun h x ⟨d, a, ha, hx⟩ => h d a ha x hx⟩

theorem site_quiet_iff (s : RSchema) (vars : List RVarDef) (site : Site) :
    site.diags s vars = [] ↔
      (∀ d a, site.HasArg s d a → argDiags s vars d a = []) ∧ (∀ t c, site = .spread t c → spreadDiags s t c = []) := by
  simp only [List.eq_nil_iff_forall_not_mem, Mem.site_mem_iff]
  constructor
  · exact fun h => ⟨fun d a ha x hx => h x (.inl ⟨d, a, ha, hx⟩), fun t c e x hx => h x (.inr ⟨t, c, e, hx⟩)⟩
  · rintro ⟨h1, h2⟩ x (⟨d, a, ha, hx⟩ | ⟨t, c, e, hx⟩)
    · exact h1 d a ha x hx
    · exact h2 t c e x hx

/-- **the walk meets every argument**: when the typed rules report nothing for a document, then for every operation
    EVERY argument of every field and of every directive reachable from it — in its own selection set and, through
    spreads at any depth, in the definitions and bodies of the fragments it reaches — has been handed, with the
    argument definition of its field on the field's parent type (or of its directive definition), to the per-argument
    check `argDiags` with THAT operation's variable definitions, and the check was quiet; and conversely nothing else
    is reported -/
theorem walk_meets_every_argument (s : RSchema) (ast : RAst) :
    typedDiags s ast = [] ↔
      ∀ o ∈ (build s ast).ops,
        (∀ d a, (Site.dirs o.dirs).HasArg s d a → argDiags s o.vars d a = []) ∧
        (∀ v ∈ o.vars, ∀ d a, (Site.dirs v.dirs).HasArg s d a → argDiags s [] d a = []) ∧
        ∀ site, Reaches s (build s ast) (s.root o.ty) o.sels site →
          (∀ d a, site.HasArg s d a → argDiags s o.vars d a = []) ∧ (∀ t c, site = .spread t c → spreadDiags s t c = []) := by
  rw [typedDiags_quiet_iff]
  constructor
  · intro h o ho
    obtain ⟨h1, h2, h3⟩ := h o ho
    exact ⟨(dirsDiags_quiet_iff s o.vars o.dirs).mp h1, fun v hv => (dirsDiags_quiet_iff s [] v.dirs).mp (h2 v hv),
      fun site hr => (site_quiet_iff s o.vars site).mp (h3 site hr)⟩
  · intro h o ho
    obtain ⟨h1, h2, h3⟩ := h o ho
    exact ⟨(dirsDiags_quiet_iff s o.vars o.dirs).mpr h1, fun v hv => (dirsDiags_quiet_iff s [] v.dirs).mpr (h2 v hv),
      fun site hr => (site_quiet_iff s o.vars site).mpr (h3 site hr)⟩

end Apollo.ExecRules
