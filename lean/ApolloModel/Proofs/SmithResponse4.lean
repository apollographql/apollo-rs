import ApolloModel.Proofs.SmithResponse3
/-
C33: the relation between apollo-smith's `collect_fields` (every spread expands its fragment again) and
the specification's CollectFields (each named fragment at most once), for acyclic fragment tables:
`Redundant seen l r` (`r` is `l` with some elements removed, each of which occurred earlier) holds between their flat
sequences (`flat_related`).
-/
namespace Apollo.Smith

/-! ### `Redundant seen l r`: `r` is `l` without some elements that occurred earlier -/

inductive Redundant {α : Type} : List α → List α → List α → Prop where
  | nil (seen : List α) : Redundant seen [] []
  | keep {seen l r : List α} (x : α) : Redundant (x :: seen) l r → Redundant seen (x :: l) (x :: r)
  | skip {seen l r : List α} (x : α) : x ∈ seen → Redundant seen l r → Redundant seen (x :: l) r

namespace Redundant
variable {α : Type}

theorem mono {seen l r : List α} (h : Redundant seen l r) : ∀ {seen' : List α}, (∀ x ∈ seen, x ∈ seen') → Redundant seen' l r := by
  induction h with
  | nil _ => intro _ _; exact .nil _
  | keep x _ ih =>
    intro seen' hs
    exact .keep x (ih (fun y hy => by
      rcases List.mem_cons.mp hy with e | e
      · subst e; simp
      · exact List.mem_cons_of_mem _ (hs y e)))
  | skip x hx _ ih => intro seen' hs; exact .skip x (hs x hx) (ih hs)

theorem refl (seen l : List α) : Redundant seen l l := by
  induction l generalizing seen with
  | nil => exact .nil _
  | cons x l ih => exact .keep x (ih _)

theorem append {seen l1 r1 : List α} (h1 : Redundant seen l1 r1) : ∀ {l2 r2 : List α},
    Redundant (l1 ++ seen) l2 r2 → Redundant seen (l1 ++ l2) (r1 ++ r2) := by
  induction h1 with
  | nil _ => intro l2 r2 h2; simpa using h2
  | keep x _ ih =>
    intro l2 r2 h2
    exact .keep x (ih (h2.mono (fun y hy => by
      simp at hy ⊢
      rcases hy with e | e | e
      · exact Or.inr (Or.inl e)
      · exact Or.inl e
      · exact Or.inr (Or.inr e))))
  | skip x hx _ ih =>
    intro l2 r2 h2
    exact .skip x hx (ih (h2.mono (fun y hy => by
      simp at hy ⊢
      rcases hy with e | e | e
      · subst e; exact Or.inr hx
      · exact Or.inl e
      · exact Or.inr e)))

theorem skipAll {seen l r : List α} (le : List α) (hle : ∀ x ∈ le, x ∈ seen) (h : Redundant seen l r) :
    Redundant seen (le ++ l) r := by
  induction le with
  | nil => exact h
  | cons x le ih => exact .skip x (hle x (by simp)) (ih (fun y hy => hle y (by simp [hy])))

theorem mem_iff {seen l r : List α} (h : Redundant seen l r) : (∀ x ∈ r, x ∈ l) ∧ (∀ x ∈ l, x ∈ seen ∨ x ∈ r) := by
  induction h with
  | nil _ => simp
  | keep x _ ih =>
    refine ⟨fun y hy => ?_, fun y hy => ?_⟩
    · rcases List.mem_cons.mp hy with e | e
      · subst e; simp
      · exact List.mem_cons_of_mem _ (ih.1 y e)
    · rcases List.mem_cons.mp hy with e | e
      · subst e; simp
      · rcases ih.2 y e with h | h
        · rcases List.mem_cons.mp h with e' | e'
          · subst e'; simp
          · exact Or.inl e'
        · exact Or.inr (List.mem_cons_of_mem _ h)
  | skip x hx _ ih =>
    refine ⟨fun y hy => List.mem_cons_of_mem _ (ih.1 y hy), fun y hy => ?_⟩
    rcases List.mem_cons.mp hy with e | e
    · subst e; exact Or.inl hx
    · exact ih.2 y e

theorem map {β : Type} (g : α → β) {seen l r : List α} (h : Redundant seen l r) :
    Redundant (seen.map g) (l.map g) (r.map g) := by
  induction h with
  | nil _ => exact .nil _
  | keep x _ ih => exact .keep (g x) (by simpa using ih)
  | skip x hx _ ih => exact .skip (g x) (List.mem_map_of_mem hx) ih

theorem filter (p : α → Bool) {seen l r : List α} (h : Redundant seen l r) :
    Redundant (seen.filter p) (l.filter p) (r.filter p) := by
  induction h with
  | nil _ => exact .nil _
  | keep x _ ih =>
    by_cases hp : p x = true
    · simp only [List.filter_cons, hp, if_true] at ih ⊢; exact .keep x ih
    · simp only [List.filter_cons, hp] at ih ⊢; exact ih
  | skip x hx _ ih =>
    by_cases hp : p x = true
    · simp only [List.filter_cons, hp, if_true]; exact .skip x (List.mem_filter.mpr ⟨hx, hp⟩) ih
    · simp only [List.filter_cons, hp]; exact ih

end Redundant

theorem redundant_keys {seen l r : Flat} (h : Redundant seen l r) : ∀ ks : List String, (∀ x ∈ seen, x.1 ∈ ks) →
    mergeKeys ks (l.map (·.1)) = mergeKeys ks (r.map (·.1)) := by
  induction h with
  | nil _ => intro _ _; rfl
  | keep x _ ih =>
    intro ks hs
    simp only [List.map_cons]
    show mergeKeys (if x.1 ∈ ks then ks else ks ++ [x.1]) _ = mergeKeys (if x.1 ∈ ks then ks else ks ++ [x.1]) _
    apply ih
    intro y hy
    rcases List.mem_cons.mp hy with e | e
    · subst e; split <;> simp_all
    · have := hs y e; split <;> simp_all
  | skip x hx _ ih =>
    intro ks hs
    simp only [List.map_cons]
    show mergeKeys (if x.1 ∈ ks then ks else ks ++ [x.1]) _ = _
    rw [if_pos (hs x hx)]
    exact ih ks hs

/-! ### fragment spreads and acyclicity -/

mutual
/-- the fragment names spread in a selection set, at any depth of inline fragments
    (the sub-selections of fields are not part of this level's CollectFields) -/
def Sel.spreads : Sel → List Name
  | .field _ _ _ _ _ => []
  | .spread n => [n]
  | .inline _ sub => sub.spreads
def Sels.spreads : Sels → List Name
  | .nil => []
  | .cons s tl => s.spreads ++ tl.spreads
end

/-- the spread graph is acyclic: a rank that strictly decreases along fragment → spread-in-its-body
    (valid documents have one: "fragment spreads must not form cycles") -/
def Acyclic (frags : Fragments) (rank : Name → Nat) : Prop :=
  ∀ n cond fsels, frags.get? n = some (cond, fsels) → ∀ m ∈ fsels.spreads, rank m < rank n

/-! ### the flat traversal does not depend on the fuel once it succeeds -/

theorem combineF_some {a b : Option Flat} {l : Flat} (h : combineF a b = some l) :
    ∃ la lb, a = some la ∧ b = some lb ∧ l = la ++ lb := by
  cases a <;> cases b <;> simp [combineF] at h
  exact ⟨_, _, rfl, rfl, h.symm⟩

theorem modelFlat_mono (s : Schema) (frags : Fragments) (c : Name) : ∀ (f : Nat) (sels : Sels) (l : Flat),
    modelFlat s frags c f sels = some l → modelFlat s frags c (f + 1) sels = some l := by
  intro f
  induction f with
  | zero => intro sels l h; simp [modelFlat] at h
  | succ f ih =>
    intro sels l h
    cases sels with
    | nil => simp only [modelFlat] at h ⊢; exact h
    | cons sel tl =>
      rw [modelFlat_cons] at h ⊢
      obtain ⟨la, lb, ha, hb, rfl⟩ := combineF_some h
      rw [ih tl lb hb]
      cases sel with
      | field alias name ty subTy sub => simp only at ha ⊢; rw [ha]; rfl
      | spread name =>
        simp only at ha ⊢
        cases hfr : frags.get? name with
        | none => rw [hfr] at ha; simp only at ha ⊢; rw [ha]; rfl
        | some p =>
          obtain ⟨cond, fsels⟩ := p
          rw [hfr] at ha
          simp only at ha ⊢
          split at ha
          · rename_i hm; rw [if_pos hm, ih fsels la ha]; rfl
          · rename_i hm; rw [if_neg hm, ha]; rfl
      | inline tc sub =>
        cases tc with
        | none =>
          simp only [if_true] at ha ⊢
          rw [ih sub la ha]; rfl
        | some c1 =>
          simp only at ha ⊢
          split at ha
          · rename_i hm; rw [if_pos hm, ih sub la ha]; rfl
          · rename_i hm; rw [if_neg hm, ha]; rfl

theorem modelFlat_mono_add (s : Schema) (frags : Fragments) (c : Name) (f : Nat) (sels : Sels) (l : Flat)
    (h : modelFlat s frags c f sels = some l) : ∀ k, modelFlat s frags c (f + k) sels = some l := by
  intro k
  induction k with
  | zero => exact h
  | succ k ih => exact modelFlat_mono s frags c (f + k) sels l ih

theorem modelFlat_fuel_indep (s : Schema) (frags : Fragments) (c : Name) (f1 f2 : Nat) (sels : Sels) (l1 l2 : Flat)
    (h1 : modelFlat s frags c f1 sels = some l1) (h2 : modelFlat s frags c f2 sels = some l2) : l1 = l2 := by
  have a := modelFlat_mono_add s frags c f1 sels l1 h1 f2
  have b := modelFlat_mono_add s frags c f2 sels l2 h2 f1
  rw [Nat.add_comm] at b
  rw [a] at b
  exact Option.some.inj b

/-! ### the two traversals -/

section Related
variable (s : Schema) (frags : Fragments) (concrete : Name) (rank : Name → Nat)

/-- every fragment already visited (and not an ancestor of the current position: rank below `B`) has had
    its whole expansion emitted -/
def Inv (B : Nat) (visited : List Name) (seen : Flat) : Prop :=
  ∀ n ∈ visited, rank n < B → ∀ cond fsels, frags.get? n = some (cond, fsels) →
    typeConditionMatches s cond concrete = true →
    ∀ fm l, modelFlat s frags concrete fm fsels = some l → ∀ x ∈ l, x ∈ seen

theorem Inv.mono {B : Nat} {visited : List Name} {seen seen' : Flat} (h : Inv s frags concrete rank B visited seen)
    (hs : ∀ x ∈ seen, x ∈ seen') : Inv s frags concrete rank B visited seen' :=
  fun n hn hr cond fsels hf hm fm l hl x hx => hs x (h n hn hr cond fsels hf hm fm l hl x hx)

theorem flat_related (hac : Acyclic frags rank)
    (hmatch : ∀ cond, typeConditionMatches s cond concrete = doesFragmentTypeApply s concrete cond) :
    ∀ (fs B : Nat) (visited : List Name) (seen : Flat) (sels : Sels) (fm : Nat) (ls : Flat) (v' : List Name) (lm : Flat),
      (∀ m ∈ sels.spreads, rank m < B) → Inv s frags concrete rank B visited seen →
      specFlat s frags concrete fs visited sels = some (ls, v') → modelFlat s frags concrete fm sels = some lm →
      Redundant seen lm ls ∧ Inv s frags concrete rank B v' (lm ++ seen) ∧
        (∀ n ∈ v', n ∈ visited ∨ rank n < B) ∧ (∀ n ∈ visited, n ∈ v') := by
  intro fs
  induction fs with
  | zero => intro B visited seen sels fm ls v' lm _ _ hs _; simp [specFlat] at hs
  | succ fs ih =>
    intro B visited seen sels fm ls v' lm hB hinv hs hm
    cases fm with
    | zero => simp [modelFlat] at hm
    | succ fm =>
    cases sels with
    | nil =>
      simp only [specFlat, Option.some.injEq, Prod.mk.injEq] at hs
      simp only [modelFlat, Option.some.injEq] at hm
      obtain ⟨rfl, rfl⟩ := hs
      subst hm
      exact ⟨.nil _, by simpa using hinv, fun n hn => Or.inl hn, fun n hn => hn⟩
    | cons sel tl =>
      rw [modelFlat_cons] at hm
      obtain ⟨le, lm', hle, hlm', rfl⟩ := combineF_some hm
      have hBtl : ∀ m ∈ tl.spreads, rank m < B := fun m hm' => hB m (by simp [Sels.spreads, hm'])
      -- the common ending: the model emitted `le`, the spec emitted `lf` (related), the tail follows
      have finish : ∀ (lf : Flat) (v2 : List Name) (rest : Option (Flat × List Name)),
          rest = (specFlat s frags concrete fs v2 tl).map (fun r => (lf ++ r.1, r.2)) → rest = some (ls, v') →
          Redundant seen le lf → Inv s frags concrete rank B v2 (le ++ seen) →
          (∀ n ∈ v2, n ∈ visited ∨ rank n < B) → (∀ n ∈ visited, n ∈ v2) →
          Redundant seen (le ++ lm') ls ∧ Inv s frags concrete rank B v' ((le ++ lm') ++ seen) ∧
            (∀ n ∈ v', n ∈ visited ∨ rank n < B) ∧ (∀ n ∈ visited, n ∈ v') := by
        intro lf v2 rest hrest hsome hred hinv2 hv2 hsub
        rw [hrest] at hsome
        cases htl : specFlat s frags concrete fs v2 tl with
        | none => rw [htl] at hsome; cases hsome
        | some r =>
          obtain ⟨ltl, vv⟩ := r
          rw [htl] at hsome
          simp only [Option.map_some, Option.some.injEq, Prod.mk.injEq] at hsome
          obtain ⟨rfl, rfl⟩ := hsome
          obtain ⟨r1, r2, r3, r4⟩ := ih B v2 (le ++ seen) tl fm ltl vv lm' hBtl hinv2 htl hlm'
          refine ⟨hred.append r1, r2.mono s frags concrete rank (fun x hx => by simp at hx ⊢; rcases hx with e | e | e <;> simp [e]), ?_, ?_⟩
          · intro n hn
            rcases r3 n hn with e | e
            · exact hv2 n e
            · exact Or.inr e
          · intro n hn; exact r4 n (hsub n hn)
      cases sel with
      | field alias name ty subTy sub =>
        simp only at hle
        cases hle
        simp only [specFlat] at hs
        exact finish [fieldEntry alias name ty subTy sub] visited _ (by simp [fieldEntry]) hs
          (Redundant.refl _ _) (hinv.mono s frags concrete rank (fun x hx => by simp [hx]))
          (fun n hn => Or.inl hn) (fun n hn => hn)
      | spread name =>
        have hrk : rank name < B := hB name (by simp [Sels.spreads, Sel.spreads])
        simp only at hle
        simp only [specFlat] at hs
        by_cases hvis : visited.contains name = true
        · -- already visited: the spec skips, the model repeats an expansion that was already emitted
          rw [if_pos hvis] at hs
          have hvis' : name ∈ visited := by simpa using hvis
          have hle_seen : ∀ x ∈ le, x ∈ seen := by
            cases hfr : frags.get? name with
            | none => rw [hfr] at hle; simp at hle; subst hle; intro x hx; cases hx
            | some p =>
              obtain ⟨cond, fsels⟩ := p
              rw [hfr] at hle
              simp only at hle
              split at hle
              · rename_i hmt
                exact hinv name hvis' hrk cond fsels hfr hmt fm le hle
              · simp at hle; subst hle; intro x hx; cases hx
          obtain ⟨r1, r2, r3, r4⟩ := ih B visited seen tl fm ls v' lm' hBtl hinv hs hlm'
          exact ⟨Redundant.skipAll le hle_seen r1,
            r2.mono s frags concrete rank (fun x hx => by simp at hx ⊢; rcases hx with e | e <;> simp [e]), r3, r4⟩
        · rw [if_neg hvis] at hs
          -- helper for the two cases in which nothing is emitted for this spread
          have nothing : le = [] → (∀ cond fsels, frags.get? name = some (cond, fsels) → typeConditionMatches s cond concrete = false) →
              specFlat s frags concrete fs (name :: visited) tl = some (ls, v') →
              Redundant seen (le ++ lm') ls ∧ Inv s frags concrete rank B v' ((le ++ lm') ++ seen) ∧
                (∀ n ∈ v', n ∈ visited ∨ rank n < B) ∧ (∀ n ∈ visited, n ∈ v') := by
            intro hle0 hno hs'
            subst hle0
            have hinv' : Inv s frags concrete rank B (name :: visited) seen := by
              intro n hn hr cond fsels hf hmt
              rcases List.mem_cons.mp hn with e | e
              · subst e; rw [hno cond fsels hf] at hmt; cases hmt
              · exact hinv n e hr cond fsels hf hmt
            obtain ⟨r1, r2, r3, r4⟩ := ih B (name :: visited) seen tl fm ls v' lm' hBtl hinv' hs' hlm'
            refine ⟨by simpa using r1, by simpa using r2, ?_, fun n hn => r4 n (List.mem_cons_of_mem _ hn)⟩
            intro n hn
            rcases r3 n hn with e | e
            · rcases List.mem_cons.mp e with e' | e'
              · subst e'; exact Or.inr hrk
              · exact Or.inl e'
            · exact Or.inr e
          cases hfr : frags.get? name with
          | none =>
            rw [hfr] at hs hle
            simp only at hs hle
            exact nothing (by simpa using hle.symm) (fun cond fsels h => by rw [hfr] at h; cases h) hs
          | some p =>
            obtain ⟨cond, fsels⟩ := p
            rw [hfr] at hs hle
            simp only at hs hle
            by_cases hap : typeConditionMatches s cond concrete = true
            · have hap' : doesFragmentTypeApply s concrete cond = true := by rw [← hmatch]; exact hap
              rw [if_pos hap] at hle
              simp only [hap', Bool.not_true, Bool.false_eq_true, if_false] at hs
              cases hfs : specFlat s frags concrete fs (name :: visited) fsels with
              | none => rw [hfs] at hs; cases hs
              | some r =>
                obtain ⟨lf, v2⟩ := r
                rw [hfs] at hs
                simp only at hs
                -- inside the fragment the bound is its own rank
                have hinv1 : Inv s frags concrete rank (rank name) (name :: visited) seen := by
                  intro n hn hr cond' fsels' hf hmt
                  rcases List.mem_cons.mp hn with e | e
                  · subst e; omega
                  · exact hinv n e (by omega) cond' fsels' hf hmt
                obtain ⟨q1, q2, q3, q4⟩ := ih (rank name) (name :: visited) seen fsels fm lf v2 le
                  (hac name cond fsels hfr) hinv1 hfs hle
                have hinv2 : Inv s frags concrete rank B v2 (le ++ seen) := by
                  intro n hn hr cond' fsels' hf hmt fm' l' hl' x hx
                  rcases q3 n hn with e | e
                  · rcases List.mem_cons.mp e with e' | e'
                    · subst e'
                      rw [hfr] at hf
                      simp only [Option.some.injEq, Prod.mk.injEq] at hf
                      obtain ⟨rfl, rfl⟩ := hf
                      have := modelFlat_fuel_indep s frags concrete fm' fm _ l' le hl' hle
                      subst this
                      simp [hx]
                    · have := hinv n e' hr cond' fsels' hf hmt fm' l' hl' x hx
                      simp [this]
                  · exact q2 n hn e cond' fsels' hf hmt fm' l' hl' x hx
                refine finish lf v2 _ rfl hs q1 hinv2 ?_ (fun n hn => q4 n (List.mem_cons_of_mem _ hn))
                intro n hn
                rcases q3 n hn with e | e
                · rcases List.mem_cons.mp e with e' | e'
                  · subst e'; exact Or.inr hrk
                  · exact Or.inl e'
                · exact Or.inr (by omega)
            · have hap0 : typeConditionMatches s cond concrete = false := by simpa using hap
              have hap' : doesFragmentTypeApply s concrete cond = false := by rw [← hmatch]; exact hap0
              rw [if_neg hap] at hle
              simp only [hap', Bool.not_false, if_true] at hs
              exact nothing (by simpa using hle.symm)
                (fun c' f' h => by rw [hfr] at h; simp at h; obtain ⟨rfl, _⟩ := h; exact hap0) hs
      | inline tc sub =>
        have hBsub : ∀ m ∈ sub.spreads, rank m < B := fun m hm' => hB m (by simp [Sels.spreads, Sel.spreads, hm'])
        have applies_case : (match specFlat s frags concrete fs visited sub with
              | none => none
              | some (li, visited') => (specFlat s frags concrete fs visited' tl).map (fun r => (li ++ r.1, r.2))) = some (ls, v') →
            modelFlat s frags concrete fm sub = some le →
            Redundant seen (le ++ lm') ls ∧ Inv s frags concrete rank B v' ((le ++ lm') ++ seen) ∧
              (∀ n ∈ v', n ∈ visited ∨ rank n < B) ∧ (∀ n ∈ visited, n ∈ v') := by
          intro hs hle
          cases hfs : specFlat s frags concrete fs visited sub with
          | none => rw [hfs] at hs; cases hs
          | some r =>
            obtain ⟨li, v2⟩ := r
            rw [hfs] at hs
            simp only at hs
            obtain ⟨q1, q2, q3, q4⟩ := ih B visited seen sub fm li v2 le hBsub hinv hfs hle
            exact finish li v2 _ rfl hs q1 q2 q3 q4
        have skip_case : specFlat s frags concrete fs visited tl = some (ls, v') → le = [] →
            Redundant seen (le ++ lm') ls ∧ Inv s frags concrete rank B v' ((le ++ lm') ++ seen) ∧
              (∀ n ∈ v', n ∈ visited ∨ rank n < B) ∧ (∀ n ∈ visited, n ∈ v') := by
          intro hs hle
          subst hle
          obtain ⟨r1, r2, r3, r4⟩ := ih B visited seen tl fm ls v' lm' hBtl hinv hs hlm'
          exact ⟨by simpa using r1, by simpa using r2, r3, r4⟩
        cases tc with
        | none =>
          simp only [if_true] at hle
          simp only [specFlat, Bool.not_true, Bool.false_eq_true, if_false] at hs
          exact applies_case hs hle
        | some c =>
          simp only at hle
          simp only [specFlat] at hs
          by_cases hap : typeConditionMatches s c concrete = true
          · have hap' : doesFragmentTypeApply s concrete c = true := by rw [← hmatch]; exact hap
            rw [if_pos hap] at hle
            simp only [hap', Bool.not_true, Bool.false_eq_true, if_false] at hs
            exact applies_case hs hle
          · have hap0 : typeConditionMatches s c concrete = false := by simpa using hap
            have hap' : doesFragmentTypeApply s concrete c = false := by rw [← hmatch]; exact hap0
            rw [if_neg hap] at hle
            simp only [hap', Bool.not_false, if_true] at hs
            exact skip_case hs (by simpa using hle.symm)

end Related

end Apollo.Smith
