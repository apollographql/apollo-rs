import ApolloModel.Proofs.SchemaValidation
/-
C14: two diagnostics of `validate_implements_interfaces` — a name after `implements`
that is not an interface (`UndefinedDefinition`), and an interface listing itself
(`RecursiveInterfaceDefinition`) — against §3.6 / §3.7 type validation.
-/
namespace Apollo.SchemaValidation
open Apollo.SchemaValidation.Spec

/-- [implements-exists-interface]: everything after `implements` is a defined interface type;
    [interface-self-implementation]: "an interface type may not implement itself" (§3.7) -/
def ImplementsValid (s : ISchema) : Prop :=
  (∀ a b, Declares s a b → ∃ t, s[b]? = some t ∧ t.isInterface = true) ∧
  (∀ (a : Nat) (t : TypeInfo), s[a]? = some t → t.isInterface = true → a ∉ t.implements)

theorem getInterface_isNone_iff (s : ISchema) (n : Nat) :
    (getInterface s n).isNone = true ↔ ¬ ∃ t, s[n]? = some t ∧ t.isInterface = true := by
  unfold getInterface
  cases h : s[n]? with
  | none => simp
  | some t =>
    by_cases hi : t.isInterface = true
    · simp [hi]
    · simp [hi]

theorem implements_rule_iff (s : ISchema) :
    (∀ (a : Nat) (t : TypeInfo), s[a]? = some t → undefinedImplements s t = [] ∧ selfImplements a t = []) ↔
      ImplementsValid s := by
  unfold ImplementsValid undefinedImplements selfImplements Declares
  constructor
  · intro h
    constructor
    · intro a b ⟨t, ht, hb⟩
      have := (h a t ht).1
      rw [List.filter_eq_nil_iff] at this
      have hb' := this b hb
      rw [getInterface_isNone_iff] at hb'
      exact Classical.not_not.mp hb'
    · intro a t ht hi hmem
      have := (h a t ht).2
      rw [if_pos hi, List.filter_eq_nil_iff] at this
      exact this a hmem (by simp)
  · intro ⟨h1, h2⟩ a t ht
    constructor
    · rw [List.filter_eq_nil_iff]
      intro b hb
      rw [getInterface_isNone_iff]
      exact fun hn => hn (h1 a b ⟨t, ht, hb⟩)
    · by_cases hi : t.isInterface = true
      · rw [if_pos hi, List.filter_eq_nil_iff]
        intro b hb hba
        have : b = a := by simpa using hba
        exact h2 a t ht hi (this ▸ hb)
      · rw [if_neg hi]

end Apollo.SchemaValidation
