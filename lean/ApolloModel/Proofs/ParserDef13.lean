import ApolloModel.Proofs.ParserDef12
/-
C05, type-system definitions: six of the eight type-system definitions (scalar, enum, input object, union, object,
interface) over a token queue satisfying `LexQ`; directive and schema definitions are in ParserDef14.
-/
set_option linter.unusedSimpArgs false
namespace Apollo.Parse
open Apollo.Rowan hiding Str
open Apollo.Lex hiding Str

abbrev E0 : PState → Prop := fun _ => False

/-- an optional separated clause: `intro sep? Name (sep Name)*`; `(lead, first, rest)` -/
def tSepOpt (intro : List Ast.Tok) (sep : Ast.P) : Option (Bool × Str × List Str) → List Ast.Tok
  | none => []
  | some (lead, first, rest) => intro ++ tSepLead sep lead first rest

def sepNames : Option (Bool × Str × List Str) → List Str
  | none => []
  | some (_, first, rest) => first :: rest

def sepPlain : Option (Bool × Str × List Str) → Prop
  | none => True
  | some (lead, _, _) => lead = false

theorem tSepOpt_plain (intro : List Ast.Tok) (sep : Ast.P) (i : Option (Bool × Str × List Str)) (h : sepPlain i) :
    tSepOpt intro sep i = Ast.tSepList intro sep (sepNames i) := by
  cases i with
  | none => rfl
  | some v =>
    obtain ⟨lead, first, rest⟩ := v
    simp only [sepPlain] at h
    subst h
    simp [tSepOpt, sepNames, tSepList_eq_lead]

theorem accL_defShape (word : String) (hw : KwWord word) (sk : SK) (n : Nat)
    (tail : PI Unit) (L : List Ast.Tok → Prop) (ht : Acc E0 LexQ tail (fun _ => L)) :
    Acc E0 LexQ (defShape word sk n tail)
      (fun _ x => ∃ desc seen nm x2, x = Ast.tDescription desc ++ kwPart word seen ++ .name nm :: x2 ∧ L x2) := by
  unfold defShape
  have h1 : Acc E0 LexQ (nameOrErr >>= fun _ => tail) (fun _ x => ∃ nm x2, x = .name nm :: x2 ∧ L x2) := by
    refine (accL_bind early_false (fun _ h => h) acc_nameOrErr (fun _ => ht)).mono (fun _ h => h) ?_
    rintro _ x ⟨_, x1, x2, e, ⟨nm, h1⟩, h2⟩
    exact ⟨nm, x2, by rw [e, h1]; rfl, h2⟩
  refine (accL_optDesc early_false _ _ (accL_optKw early_false word hw sk _ _ h1)).mono (fun _ h => h) ?_
  rintro _ x ⟨desc, x2, e, seen, x3, e3, nm, x4, e4, h4⟩
  exact ⟨desc, seen, nm, x4, by rw [e, e3, e4]; simp, h4⟩

/-- `Directives? Body?` where the body starts on the kind `k0` -/
def dirsBody (n : Nat) (k0 : Kind) (body : PI Unit) : PI Unit := optKind .at (directives n true) (optBodyK k0 body)

theorem accL_dirsBody (n : Nat) (k0 : Kind) (body : PI Unit) (L : List Ast.Tok → Prop)
    (hb : Acc E0 (KindP (· == k0)) body (fun _ => L)) :
    Acc E0 LexQ (dirsBody n k0 body) (fun _ x => ∃ ds x2, x = Ast.tDirectives ds ++ x2 ∧ (L x2 ∨ x2 = [])) :=
  accL_optDirs early_false n _ _ (acc_optBodyK k0 body L hb)

theorem kwWord_scalar : KwWord "scalar" := ⟨'s', "calar".toList, rfl, by decide⟩
theorem kwWord_type : KwWord "type" := ⟨'t', "ype".toList, rfl, by decide⟩
theorem kwWord_interface : KwWord "interface" := ⟨'i', "nterface".toList, rfl, by decide⟩
theorem kwWord_union : KwWord "union" := ⟨'u', "nion".toList, rfl, by decide⟩
theorem kwWord_enum : KwWord "enum" := ⟨'e', "num".toList, rfl, by decide⟩
theorem kwWord_input : KwWord "input" := ⟨'i', "nput".toList, rfl, by decide⟩
theorem kwWord_directive : KwWord "directive" := ⟨'d', "irective".toList, rfl, by decide⟩
theorem kwWord_schema : KwWord "schema" := ⟨'s', "chema".toList, rfl, by decide⟩
theorem kwWord_repeatable : KwWord "repeatable" := ⟨'r', "epeatable".toList, rfl, by decide⟩
theorem kwWord_on : KwWord "on" := ⟨'o', "n".toList, rfl, by decide⟩
theorem kwWord_extend : KwWord "extend" := ⟨'e', "xtend".toList, rfl, by decide⟩

/-! ### scalar, enum, input object -/

def scalarToks (desc : Option Str) (seen : Bool) (nm : Str) (ds : List Ast.Directive) : List Ast.Tok :=
  Ast.tDescription desc ++ kwPart "scalar" seen ++ .name nm :: Ast.tDirectives ds

theorem accL_scalarTypeDefinition (n : Nat) :
    Acc E0 LexQ (scalarTypeDefinition n) (fun _ x => ∃ desc seen nm ds, x = scalarToks desc seen nm ds) := by
  rw [scalarTypeDefinition_eq]
  refine accL_withNodeAny early_false _ ?_
  refine (accL_defShape "scalar" kwWord_scalar _ n _ _ ((acc_optDirsEnd (E := E0) (H := LexQ) n))).mono (fun _ h => h) ?_
  rintro _ x ⟨desc, seen, nm, x2, e, ds, h2⟩
  exact ⟨desc, seen, nm, ds, by rw [e, h2]; rfl⟩

theorem enumTypeDefinition_eq' (n : Nat) : enumTypeDefinition n =
    withNode "ENUM_TYPE_DEFINITION" (defShape "enum" "enum_KW" n (dirsBody n .lCurly (enumValuesDefinition n))) := rfl

def enumToks (desc : Option Str) (seen : Bool) (nm : Str) (ds : List Ast.Directive) (vs : List Ast.EnumValueDef) : List Ast.Tok :=
  Ast.tDescription desc ++ kwPart "enum" seen ++ Ast.tEnumBody nm ds vs

theorem accL_enumTypeDefinition (n : Nat) :
    Acc E0 LexQ (enumTypeDefinition n) (fun _ x => ∃ desc seen nm ds vs, x = enumToks desc seen nm ds vs) := by
  rw [enumTypeDefinition_eq']
  refine accL_withNodeAny early_false _ ?_
  refine (accL_defShape "enum" kwWord_enum _ n _ _ (accL_dirsBody n .lCurly _ _ (acc_enumValuesDefinition n))).mono (fun _ h => h) ?_
  rintro _ x ⟨desc, seen, nm, x2, e, ds, x3, e3, h3⟩
  rcases h3 with ⟨vs, _, h3⟩ | h3
  · exact ⟨desc, seen, nm, ds, vs, by rw [e, e3, h3]; simp [enumToks, Ast.tEnumBody]⟩
  · exact ⟨desc, seen, nm, ds, [], by rw [e, e3, h3]; simp [enumToks, Ast.tEnumBody, Ast.tBraced, Ast.tEnumValueDefItems]⟩

theorem inputObjectTypeDefinition_eq' (n : Nat) : inputObjectTypeDefinition n =
    withNode "INPUT_OBJECT_TYPE_DEFINITION" (defShape "input" "input_KW" n (dirsBody n .lCurly (inputFieldsDefinition n))) := rfl

def inputToks (desc : Option Str) (seen : Bool) (nm : Str) (ds : List Ast.Directive) (fs : List Ast.InputValueDef) : List Ast.Tok :=
  Ast.tDescription desc ++ kwPart "input" seen ++ Ast.tInputBody nm ds fs

theorem accL_inputObjectTypeDefinition (n : Nat) :
    Acc E0 LexQ (inputObjectTypeDefinition n) (fun _ x => ∃ desc seen nm ds fs, x = inputToks desc seen nm ds fs) := by
  rw [inputObjectTypeDefinition_eq']
  refine accL_withNodeAny early_false _ ?_
  refine (accL_defShape "input" kwWord_input _ n _ _ (accL_dirsBody n .lCurly _ _ (acc_inputFieldsDefinition n))).mono (fun _ h => h) ?_
  rintro _ x ⟨desc, seen, nm, x2, e, ds, x3, e3, h3⟩
  rcases h3 with ⟨vs, _, h3⟩ | h3
  · exact ⟨desc, seen, nm, ds, vs, by rw [e, e3, h3]; simp [inputToks, Ast.tInputBody]⟩
  · exact ⟨desc, seen, nm, ds, [], by rw [e, e3, h3]; simp [inputToks, Ast.tInputBody, Ast.tBraced, Ast.tIVDItems]⟩

/-! ### union -/

theorem unionTypeDefinition_eq (n : Nat) : unionTypeDefinition n =
    withNode "UNION_TYPE_DEFINITION" (defShape "union" "union_KW" n (dirsBody n .eq unionMemberTypes)) := rfl

def unionToks (desc : Option Str) (seen : Bool) (nm : Str) (ds : List Ast.Directive) (ms : Option (Bool × Str × List Str)) : List Ast.Tok :=
  Ast.tDescription desc ++ kwPart "union" seen ++ .name nm :: Ast.tDirectives ds ++ tSepOpt [.p .eq] .pipe ms

theorem accL_unionTypeDefinition (n : Nat) :
    Acc E0 LexQ (unionTypeDefinition n) (fun _ x => ∃ desc seen nm ds ms, x = unionToks desc seen nm ds ms) := by
  rw [unionTypeDefinition_eq]
  refine accL_withNodeAny early_false _ ?_
  refine (accL_defShape "union" kwWord_union _ n _ _ (accL_dirsBody n .eq _ _ (acc_unionMemberTypes early_false))).mono (fun _ h => h) ?_
  rintro _ x ⟨desc, seen, nm, x2, e, ds, x3, e3, h3⟩
  rcases h3 with ⟨lead, first, rest, h3⟩ | h3
  · exact ⟨desc, seen, nm, ds, some (lead, first, rest), by rw [e, e3, h3]; simp [unionToks, tSepOpt]⟩
  · exact ⟨desc, seen, nm, ds, none, by rw [e, e3, h3]; simp [unionToks, tSepOpt]⟩

/-! ### object, interface -/

/-- `object.rs::object_type_definition`: the `implements` look-ahead checks kind and text of the token -/
def optImplTok (rest : PI Unit) : PI Unit :=
  peekToken >>= fun o => match o with
    | some t => if (t.kind == .name && kw "implements" t.data) then (implementsInterfaces >>= fun _ => rest) else rest
    | none => rest

def implR (R : List Ast.Tok → Prop) (x : List Ast.Tok) : Prop :=
  ∃ impl x2, x = tSepOpt [.name Ast.sImplements] .amp impl ++ x2 ∧ R x2

theorem accL_optImplTok (rest : PI Unit) (R : List Ast.Tok → Prop) (hr : Acc E0 LexQ rest (fun _ => R)) :
    Acc E0 LexQ (optImplTok rest) (fun _ => implR R) := by
  have hnone : ∀ H' : List Tok → Prop, (∀ q, H' q → LexQ q) → Acc E0 H' rest (fun _ => implR R) := fun H' hH' =>
    hr.mono hH' (fun _ x h => ⟨none, x, rfl, h⟩)
  unfold optImplTok
  apply acc_peekToken
  intro o
  cases o with
  | none => exact hnone _ (fun _ h => h.1)
  | some t =>
    simp only []
    apply acc_ite
    · intro hk
      have hd : t.data = "implements".toList := by
        have : kw "implements" t.data = true := by
          cases h1 : (t.kind == Kind.name) <;> simp [h1] at hk ⊢; exact hk
        simpa [kw] using this
      have hb : Acc E0 (fun q => LexQ q ∧ q.head? = some t) implementsInterfaces _ :=
        (acc_implementsInterfaces early_false).mono (fun q ⟨hl, hq⟩ => ⟨hl, t, hq, hd⟩) (fun _ _ h => h)
      refine (accL_bind early_false (fun _ h => h.1) hb (fun _ => hr)).mono (fun _ h => h) ?_
      rintro _ x ⟨_, x1, x2, e, ⟨lead, first, rest', h1⟩, h2⟩
      exact ⟨some (lead, first, rest'), x2, by rw [e, h1]; simp [tSepOpt], h2⟩
    · intro _; exact hnone _ (fun _ h => h.1)

/-- `interface.rs`, and `object_type_extension`: the `implements` look-ahead checks the text only (`peek_data`) -/
theorem accL_optImplData (restT restF : PI Unit) (R : List Ast.Tok → Prop) (hT : Acc E0 LexQ restT (fun _ => R))
    (hF : Acc E0 LexQ restF (fun _ => R)) :
    Acc E0 LexQ (optData2 "implements" implementsInterfaces restT restF) (fun _ => implR R) := by
  refine (accL_optData2 early_false "implements" implementsInterfaces restT restF _ _ (acc_implementsInterfaces early_false) hT hF).mono
    (fun _ h => h) ?_
  rintro _ x ⟨x1, x2, e, h1, h2⟩
  rcases h1 with ⟨lead, first, rest', h1⟩ | h1
  · exact ⟨some (lead, first, rest'), x2, by rw [e, h1]; simp [tSepOpt], h2⟩
  · exact ⟨none, x2, by rw [e, h1]; rfl, h2⟩

theorem objectTypeDefinition_eq (n : Nat) : objectTypeDefinition n =
    withNode "OBJECT_TYPE_DEFINITION" (defShape "type" "type_KW" n (optImplTok (dirsBody n .lCurly (fieldsDefinition n)))) := rfl

theorem interfaceTypeDefinition_eq (n : Nat) : interfaceTypeDefinition n =
    withNode "INTERFACE_TYPE_DEFINITION" (defShape "interface" "interface_KW" n
      (optData2 "implements" implementsInterfaces (dirsBody n .lCurly (fieldsDefinition n)) (dirsBody n .lCurly (fieldsDefinition n)))) := rfl

/-- `Name ImplementsInterfaces? Directives? FieldsDefinition?` with the optional leading `&` -/
def objectLikeToks (nm : Str) (impl : Option (Bool × Str × List Str)) (ds : List Ast.Directive) (fs : List Ast.FieldDef) : List Ast.Tok :=
  .name nm :: tSepOpt [.name Ast.sImplements] .amp impl ++ Ast.tDirectives ds ++ Ast.tBraced (Ast.tFieldDefItems fs) fs.isEmpty

theorem objectLikeToks_plain (nm : Str) (impl) (ds : List Ast.Directive) (fs : List Ast.FieldDef) (h : sepPlain impl) :
    objectLikeToks nm impl ds fs = Ast.tObjectTypeLike nm (sepNames impl) ds fs := by
  simp [objectLikeToks, Ast.tObjectTypeLike, tSepOpt_plain _ _ _ h]

theorem accL_fieldsTail (n : Nat) :
    Acc E0 LexQ (dirsBody n .lCurly (fieldsDefinition n))
      (fun _ x => ∃ ds fs, x = Ast.tDirectives ds ++ Ast.tBraced (Ast.tFieldDefItems fs) fs.isEmpty) := by
  refine (accL_dirsBody n .lCurly _ _ (acc_fieldsDefinition n)).mono (fun _ h => h) ?_
  rintro _ x ⟨ds, x2, e, h2⟩
  rcases h2 with ⟨fs, _, h2⟩ | h2
  · exact ⟨ds, fs, by rw [e, h2]⟩
  · exact ⟨ds, [], by rw [e, h2]; simp [Ast.tBraced]⟩

theorem accL_objectTypeDefinition (n : Nat) :
    Acc E0 LexQ (objectTypeDefinition n)
      (fun _ x => ∃ desc seen nm impl ds fs, x = Ast.tDescription desc ++ kwPart "type" seen ++ objectLikeToks nm impl ds fs) := by
  rw [objectTypeDefinition_eq]
  refine accL_withNodeAny early_false _ ?_
  refine (accL_defShape "type" kwWord_type _ n _ _ (accL_optImplTok _ _ (accL_fieldsTail n))).mono (fun _ h => h) ?_
  rintro _ x ⟨desc, seen, nm, x2, e, impl, x3, e3, ds, fs, h3⟩
  exact ⟨desc, seen, nm, impl, ds, fs, by rw [e, e3, h3]; simp [objectLikeToks]⟩

theorem accL_interfaceTypeDefinition (n : Nat) :
    Acc E0 LexQ (interfaceTypeDefinition n)
      (fun _ x => ∃ desc seen nm impl ds fs, x = Ast.tDescription desc ++ kwPart "interface" seen ++ objectLikeToks nm impl ds fs) := by
  rw [interfaceTypeDefinition_eq]
  refine accL_withNodeAny early_false _ ?_
  refine (accL_defShape "interface" kwWord_interface _ n _ _
    (accL_optImplData _ _ _ (accL_fieldsTail n) (accL_fieldsTail n))).mono (fun _ h => h) ?_
  rintro _ x ⟨desc, seen, nm, x2, e, impl, x3, e3, ds, fs, h3⟩
  exact ⟨desc, seen, nm, impl, ds, fs, by rw [e, e3, h3]; simp [objectLikeToks]⟩

end Apollo.Parse
