import ApolloModel.Proofs.TypedVars1
import ApolloModel.Proofs.ExecWalk2
/-
C18 on top of the typed executable rules: arguments and directives; the structural facts about a built
document that the structural rules establish (`SelsOk`, `FragOk`); what a quiet walk of one operation achieves
(`WalkOk`): every variable written in the walked tree is declared, every fragment it marks was entered.
-/
namespace Apollo.ExecRules
open Apollo Apollo.Spec

/-- every argument is defined (`UndefinedArgument`) and its value has the shape facts of `litOk` -/
def argsOk (s : RSchema) (defs : List InDef) (args : List RArg) : Prop :=
  ∀ a ∈ args, ∃ d, defs.find? (·.name == a.name) = some d ∧ litOk s (RVal.depth a.value + 1) d.ty a.value

/-- every directive is defined (`UndefinedDirective`) with defined arguments -/
def dirsOk (s : RSchema) (dirs : List RDir) : Prop :=
  ∀ d ∈ dirs, ∃ dd, s.dirs.find? (·.name == d.name) = some dd ∧ argsOk s dd.args d.args

theorem argDiags_complete (s : RSchema) (vars : List RVarDef) (d : InDef) (a : RArg)
    (hl : litOk s (RVal.depth a.value + 1) d.ty a.value) (h : argDiags s vars d a = []) :
    ∀ n ∈ RVal.vars a.value, declared vars n = true := by
  unfold argDiags at h
  cases hv : a.value with
  | var m =>
    rw [hv] at h hl
    simp only at h
    by_cases hu : usageFails vars d (.var m) = true
    · simp [hu] at h
    · simp only [hu, Bool.false_eq_true, if_false] at h
      exact valueDiags_complete s vars 2 d.ty (.var m) (by simp [RVal.depth]) (by simpa [RVal.depth] using hl) h
  | null => intro n hn; simp [RVal.vars] at hn
  | lit => intro n hn; simp [RVal.vars] at hn
  | list xs =>
    rw [hv] at h hl
    exact valueDiags_complete s vars _ d.ty _ (Nat.le_succ _) hl h
  | obj kvs =>
    rw [hv] at h hl
    exact valueDiags_complete s vars _ d.ty _ (Nat.le_succ _) hl h

theorem argsDiags_complete (s : RSchema) (vars : List RVarDef) (defs : List InDef) (args : List RArg)
    (hok : argsOk s defs args) (h : argsDiags s vars defs args = []) : ∀ n ∈ argsVars args, declared vars n = true := by
  intro n hn
  simp only [argsVars, List.mem_flatMap] at hn
  obtain ⟨a, ha, hna⟩ := hn
  obtain ⟨d, hd, hl⟩ := hok a ha
  simp only [argsDiags, List.flatMap_eq_nil_iff] at h
  have h1 := h a ha
  rw [hd] at h1
  exact argDiags_complete s vars d a hl h1 n hna

theorem dirsDiags_complete (s : RSchema) (vars : List RVarDef) (dirs : List RDir)
    (hok : dirsOk s dirs) (h : dirsDiags s vars dirs = []) : ∀ n ∈ dirsVars dirs, declared vars n = true := by
  intro n hn
  simp only [dirsVars, List.mem_flatMap] at hn
  obtain ⟨d, hd, hnd⟩ := hn
  obtain ⟨dd, hdd, hargs⟩ := hok d hd
  simp only [dirsDiags, List.flatMap_eq_nil_iff] at h
  have h1 := h d hd
  rw [hdd] at h1
  exact argsDiags_complete s vars dd.args d.args hargs h1 n (by simpa [argsVars] using hnd)

/-! ### selection trees -/

/-- variables written in the tree itself (not in the fragments it spreads) -/
def localVars : RSels → List String
  | .nil => []
  | .field _ dirs args sub rest => dirsVars dirs ++ argsVars args ++ localVars sub ++ localVars rest
  | .spread _ dirs rest => dirsVars dirs ++ localVars rest
  | .inline _ dirs sub rest => dirsVars dirs ++ localVars sub ++ localVars rest

def allSpreads : RSels → List String
  | .nil => []
  | .field _ _ _ sub rest => allSpreads sub ++ allSpreads rest
  | .spread f _ rest => f :: allSpreads rest
  | .inline _ _ sub rest => allSpreads sub ++ allSpreads rest

/-- what the structural rules establish for a selection set under the type `ty`: every field is defined on its
    parent type with defined arguments, every directive is defined, every spread names a fragment of the document,
    every type condition is a composite type -/
def SelsOk (s : RSchema) (doc : RBuilt) : String → RSels → Prop
  | _, .nil => True
  | t, .field name dirs args sub rest =>
    dirsOk s dirs ∧ (∃ fd, s.field t name = some fd ∧ argsOk s fd.args args ∧ SelsOk s doc fd.ty.innerNamedType sub) ∧
      SelsOk s doc t rest
  | t, .spread f dirs rest => dirsOk s dirs ∧ (doc.findFrag f).isSome ∧ SelsOk s doc t rest
  | t, .inline tc dirs sub rest =>
    dirsOk s dirs ∧
      (match tc with
       | none => SelsOk s doc t sub
       | some c => isCompositeType s c = true ∧ SelsOk s doc c sub) ∧
      SelsOk s doc t rest

/-- … and for a fragment definition: composite type condition, not on a spread cycle -/
def FragOk (s : RSchema) (doc : RBuilt) (f : RFrag) : Prop :=
  dirsOk s f.dirs ∧ isCompositeType s f.tc = true ∧ (reach doc f.sels).contains f.name = false ∧ SelsOk s doc f.tc f.sels

/-- `g` names a fragment whose own variables are declared and whose spreads are all marked in `W` -/
def Done (vars : List RVarDef) (doc : RBuilt) (W : List String) (g : String) : Prop :=
  ∃ d, doc.findFrag g = some d ∧ (∀ n ∈ dirsVars d.dirs ++ localVars d.sels, declared vars n = true) ∧
    ∀ h ∈ allSpreads d.sels, h ∈ W

theorem Done.mono {vars : List RVarDef} {doc : RBuilt} {W W' : List String} {g : String}
    (h : Done vars doc W g) (hs : ∀ x ∈ W, x ∈ W') : Done vars doc W' g := by
  obtain ⟨d, h1, h2, h3⟩ := h
  exact ⟨d, h1, h2, fun x hx => hs x (h3 x hx)⟩

/-- what a quiet walk from `V` to `V'` over `t` achieves -/
structure WalkOk (vars : List RVarDef) (doc : RBuilt) (t : RSels) (V V' : List String) : Prop where
  mono : ∀ x ∈ V, x ∈ V'
  len : V.length ≤ V'.length
  nodup : V.Nodup → V'.Nodup
  defd : allDefined doc V → allDefined doc V'
  locals : ∀ n ∈ localVars t, declared vars n = true
  spreads : ∀ g ∈ allSpreads t, g ∈ V'
  fresh : ∀ g ∈ V', g ∈ V ∨ Done vars doc V' g

theorem walkOk_nil (vars : List RVarDef) (doc : RBuilt) (V : List String) : WalkOk vars doc .nil V V :=
  ⟨fun _ h => h, Nat.le_refl _, fun h => h, fun h => h, by simp [localVars], by simp [allSpreads], fun _ h => .inl h⟩

/-- two walks one after the other -/
theorem WalkOk.seq {vars : List RVarDef} {doc : RBuilt} {a b t : RSels} {V V1 V2 : List String} (extra : List String)
    (h1 : WalkOk vars doc a V V1) (h2 : WalkOk vars doc b V1 V2)
    (hextra : ∀ n ∈ extra, declared vars n = true)
    (hl : ∀ n ∈ localVars t, n ∈ extra ∨ n ∈ localVars a ∨ n ∈ localVars b)
    (hs : ∀ g ∈ allSpreads t, g ∈ allSpreads a ∨ g ∈ allSpreads b) : WalkOk vars doc t V V2 := by
  refine ⟨fun x hx => h2.mono x (h1.mono x hx), Nat.le_trans h1.len h2.len, fun h => h2.nodup (h1.nodup h),
    fun h => h2.defd (h1.defd h), ?_, ?_, ?_⟩
  · intro n hn
    rcases hl n hn with h | h | h
    · exact hextra n h
    · exact h1.locals n h
    · exact h2.locals n h
  · intro g hg
    rcases hs g hg with h | h
    · exact h2.mono g (h1.spreads g h)
    · exact h2.spreads g h
  · intro g hg
    rcases h2.fresh g hg with h | h
    · rcases h1.fresh g h with h' | h'
      · exact .inl h'
      · exact .inr (h'.mono h2.mono)
    · exact .inr h

end Apollo.ExecRules
