import ApolloModel.Proofs.SchemaBuildSpec6
import ApolloModel.Proofs.BuiltinScalars
/-
C15: what the built-in scalar clause ("the type map contains exactly the referenced built-in scalars",
`C15.validated_scalars_exact`, and C16's `value_lookup_stable`) assume about the type map — unique names, and
"a type named like a built-in scalar is the built-in definition" — is a consequence of an error-free build
(by `build_errors_iff_spec`: redefining a built-in type is the error `BuiltInScalarTypeRedefinition` /
`TypeDefinitionCollision`).
-/
namespace Apollo.SchemaBuild

theorem built_types_facts (ds : List Def) (hwf : WellFormed ds)
    (hb : (build (Builder.new false false) [ds]).errors = []) :
    ((build (Builder.new false false) [ds]).types.map (·.name)).Nodup ∧
    ∀ t ∈ (build (Builder.new false false) [ds]).types, t.name ∈ builtinTypeNames → t.builtin = true := by
  have hspec := (build_errors_iff_spec ds hwf).mp hb
  have hinv := (scan_spec ds hwf).2 (scan_errors_of_build hb)
  have hinv2 := scan_Inv2 ds
  have htypes : (build (Builder.new false false) [ds]).types = (addDocument (Builder.new false false) ds).types :=
    finishRaw_types _ hinv.adopt
  rw [htypes]
  refine ⟨hinv2.nodup, ?_⟩
  intro t ht hname
  rcases hinv2.flag t ht with h1 | h1
  · exact h1.1
  · exfalso
    have := hspec.uniqueTypes
    rw [List.nodup_append] at this
    exact this.2.2 _ hname _ h1.2 rfl

/-- the C16 / C15 view of the built type map: `refs` gives the named types each definition refers to -/
def scalarsView (refs : Name → List Name) (dirRefs : List Name) (ts : List TypeEntry) : Scalars.Schema :=
  { types := ts.map fun t =>
      (t.name, if t.builtin && Scalars.builtinScalars.contains t.name then Scalars.builtinDef
               else ⟨t.builtin, t.kind == Kind.scalar, refs t.name⟩),
    directiveRefs := dirRefs }

theorem builtinScalars_sub : ∀ n ∈ Scalars.builtinScalars, n ∈ builtinTypeNames := by decide

/-- **the hypotheses of the built-in scalar clause follow from the build** -/
theorem build_guarantees_scalar_hypotheses (ds : List Def) (hwf : WellFormed ds)
    (hb : (build (Builder.new false false) [ds]).errors = []) (refs : Name → List Name) (dirRefs : List Name) :
    Scalars.WellFormed (scalarsView refs dirRefs (build (Builder.new false false) [ds]).types) ∧
    ∀ e ∈ (scalarsView refs dirRefs (build (Builder.new false false) [ds]).types).types,
      Scalars.builtinScalars.contains e.1 = true → e.2.isBuiltIn = true := by
  obtain ⟨hnd, hflag⟩ := built_types_facts ds hwf hb
  have key : ∀ e ∈ (scalarsView refs dirRefs (build (Builder.new false false) [ds]).types).types,
      Scalars.builtinScalars.contains e.1 = true → e.2 = Scalars.builtinDef := by
    intro e he hc
    unfold scalarsView at he
    obtain ⟨t, ht, rfl⟩ := List.mem_map.mp he
    have hmem : t.name ∈ Scalars.builtinScalars := by simpa using hc
    have hbt := hflag t ht (builtinScalars_sub _ hmem)
    simp [hbt, hmem]
  refine ⟨⟨?_, ?_⟩, ?_⟩
  · unfold scalarsView
    simp only [List.map_map]
    exact hnd
  · intro e he _ hc; exact key e he hc
  · intro e he hc; rw [key e he hc]; rfl

end Apollo.SchemaBuild
