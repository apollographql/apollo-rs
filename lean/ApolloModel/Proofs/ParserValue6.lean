import ApolloModel.Proofs.ParserValue5
/-
Values: the recursion guard around a nested value (one level of the budget) and the list loop.
-/
set_option linter.unusedSimpArgs false
namespace Apollo.Parse
open Apollo.Rowan hiding Str
open Apollo.Lex hiding Str

theorem toks_same (s s' : PState) (hc : s'.current = s.current) (hl : s'.lx = s.lx) : Toks s' = Toks s := by
  unfold Toks; rw [hc, hl]

theorem limitErr_then_dooms {α : Type} (x : α) (s1 s2 : PState) (a : α) (w : TW s1) (hne : Toks s1 ≠ [])
    (h : (limitErr >>= fun _ => (pure x : PI α)).run s1 = .ok a s2) : Doomed s2 := by
  obtain ⟨_, s3, h1, h2⟩ := bind_dec limitErr _ s1 s2 a h
  rw [run_pure] at h2
  injection h2 with _ h2
  subst h2
  exact (limitErr_adv s1 s3 w h1).2 hne

theorem tokIs_length {ts : List Tok} {xs : List Ast.Tok} (h : TokIs ts xs) : ts.length = xs.length := by
  have := congrArg List.length h
  simpa using this

namespace Exact

/-- a nested value under `recursion_limit.check_and_increment()` … `decrement()`: one level of the budget -/
theorem withRec_value {α : Type} (c : Bool) (x : α) (onLimit body : PI α)
    (honl : ∀ s1 s2 a, TW s1 → Toks s1 ≠ [] → onLimit.run s1 = .ok a s2 → Doomed s2)
    (hgb : Good body)
    (hbody : ∀ s1 s2 a, TW s1 → EofEnd s1 → body.run s1 = .ok a s2 → ¬ Doomed s2 → a = x ∧ ValOk c s1 s2)
    (s s' : PState) (a : α) (w : TW s) (he : EofEnd s) (hne : Toks s ≠ [])
    (h : (withRec onLimit body).run s = .ok a s') (hnd : ¬ Doomed s') : a = x ∧ ValOkK 1 c s s' ∧ TW s' := by
  rcases withRec_dec onLimit body s s' a h with ⟨_, sl, ol, hl⟩ | ⟨hle, sr1, sr2, c1, l1, er1, a1, r1, rl1, hr, c2, l2, er2, a2, r2, rl2⟩
  · exfalso
    exact hnd (honl sl s' a (ol.w w) (by rw [ol.toks]; exact hne) hl)
  · have wr1 : TW sr1 := w_same _ _ w er1 l1 a1
    have her1 : EofEnd sr1 := eofEnd_same _ _ he c1 l1 er1
    have adv := hgb sr1 a sr2 wr1 hr
    have hnd2 : ¬ Doomed sr2 := fun d => hnd ((doomed_same _ _ er2 l2).mpr d)
    obtain ⟨hax, ok⟩ := hbody sr1 sr2 a wr1 her1 hr hnd2
    obtain ⟨⟨cs, ha, hb, hd⟩, hee⟩ := ok
    have hbud : bud sr1 + 1 = bud s := by unfold bud; rw [r1, rl1]; omega
    refine ⟨hax, ⟨⟨cs, ?_, hb, ?_⟩, eofEnd_same _ _ hee c2 l2 er2⟩, w_same _ _ adv.w er2 l2 a2⟩
    · rw [← toks_same _ _ c1 l1, toks_same _ _ c2 l2]; exact ha
    · rcases hd with ⟨v, h1, h2, h3⟩ | ⟨e, hh, hk⟩
      · exact Or.inl ⟨v, h1, h2, by omega⟩
      · exact Or.inr ⟨e, by rw [toks_same _ _ c2 l2]; exact hh, hk⟩

/-- result of the list loop (after `[`): values then `]` — or stopped at the end of input -/
@[reducible] def ListLoopOk (c : Bool) (s s' : PState) : Prop :=
  ∃ cs, Toks s = cs ++ Toks s' ∧ NoEof cs ∧ EofEnd s' ∧
    ((∃ vs, TokIs (sig cs) (Ast.tValues vs ++ [.p .rBracket]) ∧ valuesOk c vs = true ∧ vsdepth vs ≤ bud s) ∨ AtEof s')

theorem listLoop_sound (n : Nat) (c : Bool) (ih : ValSound n) : ∀ (fuel : Nat) (s s' : PState), TW s → EofEnd s →
    (peekWhileLoop (listLoopBody n c) fuel).run s = .ok () s' → ¬ Doomed s' → ListLoopOk c s s'
  | 0, s, s', _, _, h, _ => by simp [peekWhileLoop, PI.outOfFuel] at h
  | fuel + 1, s, s', w, he, h, hnd => by
    unfold peekWhileLoop at h
    obtain ⟨ko, sP, hp, h2⟩ := bind_dec peek _ s s' () h
    obtain ⟨o, p, hko⟩ := peek_obs s sP ko w hp
    subst hko
    have heP : EofEnd sP := eofEnd_eat he p.eat (by intro x hx; cases hx)
    cases o with
    | none =>
      exfalso
      simp only [Option.map_none] at h2
      rw [run_pure] at h2
      injection h2 with _ h2
      subst h2
      have hh := p.head
      have : Toks s = [] := by
        cases ht : Toks s with
        | nil => rfl
        | cons a b => rw [ht] at hh; cases hh
      exact eofEnd_nonempty s he (fun d => hnd (p.doom.mpr d)) this
    | some t =>
      simp only [Option.map_some] at h2
      have htP : Toks sP = t :: (Toks sP).tail := by
        have := p.head; rw [← p.toks] at this; exact toks_head_cons sP t this.symm
      have h3 := getCurrent_dec _ sP s' () h2
      obtain ⟨b, sB, hb, h4⟩ := bind_dec (listLoopBody n c t.kind) _ sP s' () h3
      by_cases hkr : t.kind = .rBracket
      · -- `]`: bump and stop
        have hbody : (bump "R_BRACK" >>= fun _ => (pure false : PI Bool)).run sP = .ok b sB := by
          simpa [listLoopBody, hkr] using hb
        obtain ⟨_, s5, h5, h6⟩ := bind_dec (bump "R_BRACK") _ sP sB b hbody
        rw [run_pure] at h6
        injection h6 with h6 h7
        subst h6 h7
        simp only [Bool.false_eq_true, if_false] at h4
        rw [run_pure] at h4
        injection h4 with _ h4
        subst h4
        obtain ⟨ign, e, hall, _⟩ := bump_spec "R_BRACK" sP s5 p.w t _ htP h5
        have hni : isIgnoredKind t.kind = false := by rw [hkr]; rfl
        have hne : t.kind ≠ .eof := by rw [hkr]; decide
        refine ⟨t :: ign, by rw [← p.toks]; exact e.toks, noEof_cons hne hall, eofEnd_eat heP e (noEof_cons hne hall),
          Or.inl ⟨.nil, ?_, rfl, by simp [vsdepth]⟩⟩
        rw [sig_cons_ignV t ign hni hall]
        exact TokIs.single t _ (by simp [astOfV, hkr])
      · by_cases hke : t.kind = .eof
        · -- end of input: the loop breaks without an error
          have hbody : (pure false : PI Bool).run sP = .ok b sB := by
            simpa [listLoopBody, hke] using hb
          rw [run_pure] at hbody
          injection hbody with h6 h7
          subst h6 h7
          simp only [Bool.false_eq_true, if_false] at h4
          rw [run_pure] at h4
          injection h4 with _ h4
          subst h4
          exact ⟨[], (by rw [p.toks]; rfl), (by intro x hx; cases hx), heP,
            Or.inr ⟨t, by rw [htP]; rfl, hke⟩⟩
        · -- a value, under the recursion guard
          have hk1 : (t.kind == Kind.rBracket) = false := by simpa using hkr
          have hk2 : (t.kind == Kind.eof) = false := by simpa using hke
          have hbody : (withRec (limitErr >>= fun _ => (pure false : PI Bool))
              (value n c true >>= fun _ => (pure true : PI Bool))).run sP = .ok b sB := by
            simpa [listLoopBody, hk1, hk2] using hb
          have gB : Good (listLoopBody n c t.kind) := good_listLoopBody n c (goodAll n) t.kind
          have aB := gB sP b sB p.w hb
          have hndB : ¬ Doomed sB := by
            intro d
            have : Good (if b = true then (getCurrent >>= fun after =>
                if (sP.current == after) = true then (PI.stuck : PI Unit) else peekWhileLoop (listLoopBody n c) fuel) else pure ()) := by
              cases b with
              | false => exact good_pure _
              | true =>
                exact good_bind _ _ good_getCurrent (fun after => good_ite _ _ _ good_stuck
                  (good_peekWhileLoop _ (good_listLoopBody n c (goodAll n)) fuel))
            exact hnd ((this sB () s' aB.w h4).doom d)
          obtain ⟨hbt, ok, wB⟩ := withRec_value c true _ _
            (fun s1 s2 a w1 hne1 hr => limitErr_then_dooms false s1 s2 a w1 hne1 hr)
            (good_bind _ _ (good_value n c true) (fun _ => good_pure _))
            (by
              intro s1 s2 a w1 he1 hr hnd2
              obtain ⟨_, s3, h5, h6⟩ := bind_dec (value n c true) _ s1 s2 a hr
              rw [run_pure] at h6
              injection h6 with h6 h7
              subst h7
              exact ⟨h6.symm, ih c true s1 s3 w1 he1 h5 hnd2⟩)
            sP sB b p.w heP (by rw [htP]; simp) hbody hndB
          subst hbt
          simp only [if_true] at h4
          have h5 := getCurrent_dec _ sB s' () h4
          by_cases hsame : (sP.current == sB.current) = true
          · simp only [hsame, if_true] at h5
            exact absurd h5 (stuck_not_ok _ _ _)
          · simp only [hsame, Bool.false_eq_true, if_false] at h5
            obtain ⟨⟨c1, hc1, hno1, hr1⟩, he1⟩ := ok
            obtain ⟨c2, hc2, hno2, he2, hr2⟩ := listLoop_sound n c ih fuel sB s' wB he1 h5 hnd
            refine ⟨c1 ++ c2, by rw [← p.toks, hc1, hc2, List.append_assoc], noEof_append hno1 hno2, he2, ?_⟩
            rcases hr1 with ⟨v, hv, hvo, hvd⟩ | ha
            · rcases hr2 with ⟨vs, hvs, hvso, hvsd⟩ | ha2
              · have hbB : bud sB = bud s := by rw [bud_adv aB, bud_peek p]
                have hbP : bud sP = bud s := bud_peek p
                refine Or.inl ⟨.cons v vs, ?_, by simp [valuesOk, hvo, hvso], by simp only [vsdepth]; omega⟩
                rw [sig_append]
                have := hv.append hvs
                simpa [Ast.tValues, List.append_assoc] using this
              · exact Or.inr ha2
            · exact Or.inr (atEof_rest sB s' c2 he1 hndB ha hc2 hno2)

end Exact
end Apollo.Parse
