import ApolloModel.Proofs.ParserTreeDef12
/-
C08 (pipeline): the complete case analysis of the dispatcher of `document()` for the tree calculus: an error-free run of
`documentDispatch` either selected a type-system definition / extension — then `tr_typeSystemDefinition` applies: tokens
of one loose definition, one tree — or it IS a run of `fragmentDefinition` / `operationDefinition` on the same queue
and the same tree builder.
-/
set_option linter.unusedSimpArgs false
set_option linter.unusedVariables false

namespace Apollo.Parse
open Apollo.Rowan hiding Str
open Apollo.Lex hiding Str

/-- the keyword cascade of `select_definition` -/
theorem selectDefinition_cases (n : Nat) (d : Str) (s s' : PState) (w : TW s) (he : EofEnd s)
    (h : (selectDefinition n d).run s = .ok () s') (hnd : ¬ Doomed s') :
    (∃ word, word ∈ defWords ∧ d = word.toList) ∨ (d = "extend".toList ∧ (extensions n).run s = .ok () s') ∨
    (d = "fragment".toList ∧ (fragmentDefinition n).run s = .ok () s') ∨
    ((d = "query".toList ∨ d = "mutation".toList ∨ d = "subscription".toList ∨ d = "{".toList) ∧
      (operationDefinition n).run s = .ok () s') := by
  unfold selectDefinition at h
  by_cases h1 : kw "directive" d = true
  · exact Or.inl ⟨"directive", by simp [defWords], by simpa [kw] using h1⟩
  simp only [h1, Bool.false_eq_true, if_false] at h
  by_cases h2 : kw "enum" d = true
  · exact Or.inl ⟨"enum", by simp [defWords], by simpa [kw] using h2⟩
  simp only [h2, Bool.false_eq_true, if_false] at h
  by_cases h3 : kw "extend" d = true
  · simp only [h3, if_true] at h
    exact Or.inr (Or.inl ⟨by simpa [kw] using h3, h⟩)
  simp only [h3, Bool.false_eq_true, if_false] at h
  by_cases h4 : kw "fragment" d = true
  · simp only [h4, if_true] at h
    exact Or.inr (Or.inr (Or.inl ⟨by simpa [kw] using h4, h⟩))
  simp only [h4, Bool.false_eq_true, if_false] at h
  by_cases h5 : kw "input" d = true
  · exact Or.inl ⟨"input", by simp [defWords], by simpa [kw] using h5⟩
  simp only [h5, Bool.false_eq_true, if_false] at h
  by_cases h6 : kw "interface" d = true
  · exact Or.inl ⟨"interface", by simp [defWords], by simpa [kw] using h6⟩
  simp only [h6, Bool.false_eq_true, if_false] at h
  by_cases h7 : kw "type" d = true
  · exact Or.inl ⟨"type", by simp [defWords], by simpa [kw] using h7⟩
  simp only [h7, Bool.false_eq_true, if_false] at h
  by_cases h8 : (kw "query" d || kw "mutation" d || kw "subscription" d || kw "{" d) = true
  · simp only [h8, if_true] at h
    simp only [Bool.or_eq_true] at h8
    refine Or.inr (Or.inr (Or.inr ⟨?_, h⟩))
    rcases h8 with ((h8 | h8) | h8) | h8
    · exact Or.inl (by simpa [kw] using h8)
    · exact Or.inr (Or.inl (by simpa [kw] using h8))
    · exact Or.inr (Or.inr (Or.inl (by simpa [kw] using h8)))
    · exact Or.inr (Or.inr (Or.inr (by simpa [kw] using h8)))
  simp only [h8, Bool.false_eq_true, if_false] at h
  by_cases h9 : kw "scalar" d = true
  · exact Or.inl ⟨"scalar", by simp [defWords], by simpa [kw] using h9⟩
  simp only [h9, Bool.false_eq_true, if_false] at h
  by_cases h10 : kw "schema" d = true
  · exact Or.inl ⟨"schema", by simp [defWords], by simpa [kw] using h10⟩
  simp only [h10, Bool.false_eq_true, if_false] at h
  by_cases h11 : kw "union" d = true
  · exact Or.inl ⟨"union", by simp [defWords], by simpa [kw] using h11⟩
  simp only [h11, Bool.false_eq_true, if_false] at h
  exact absurd (Exact.errAndPop_never s s' w he h) hnd

/-- the keyword cascade of `extensions` -/
theorem extSel_cases (n : Nat) (o : Option Str) (s s' : PState) (w : TW s) (he : EofEnd s)
    (h : (extSel n o).run s = .ok () s') (hnd : ¬ Doomed s') : ∃ w2, w2 ∈ extWords ∧ o = some w2.toList := by
  unfold extSel at h
  by_cases h1 : kwOpt "schema" o = true
  · exact ⟨"schema", by simp [extWords], by simpa [kwOpt] using h1⟩
  simp only [h1, Bool.false_eq_true, if_false] at h
  by_cases h2 : kwOpt "scalar" o = true
  · exact ⟨"scalar", by simp [extWords], by simpa [kwOpt] using h2⟩
  simp only [h2, Bool.false_eq_true, if_false] at h
  by_cases h3 : kwOpt "type" o = true
  · exact ⟨"type", by simp [extWords], by simpa [kwOpt] using h3⟩
  simp only [h3, Bool.false_eq_true, if_false] at h
  by_cases h4 : kwOpt "interface" o = true
  · exact ⟨"interface", by simp [extWords], by simpa [kwOpt] using h4⟩
  simp only [h4, Bool.false_eq_true, if_false] at h
  by_cases h5 : kwOpt "union" o = true
  · exact ⟨"union", by simp [extWords], by simpa [kwOpt] using h5⟩
  simp only [h5, Bool.false_eq_true, if_false] at h
  by_cases h6 : kwOpt "enum" o = true
  · exact ⟨"enum", by simp [extWords], by simpa [kwOpt] using h6⟩
  simp only [h6, Bool.false_eq_true, if_false] at h
  by_cases h7 : kwOpt "input" o = true
  · exact ⟨"input", by simp [extWords], by simpa [kwOpt] using h7⟩
  simp only [h7, Bool.false_eq_true, if_false] at h
  exact absurd (Exact.errAndPop_never s s' w he h) hnd

theorem extend_not_extWord : ∀ w2, w2 ∈ extWords → "extend".toList ≠ w2.toList := by
  intro w2 hw
  simp only [extWords, List.mem_cons, List.mem_singleton, List.not_mem_nil, or_false] at hw
  rcases hw with rfl | rfl | rfl | rfl | rfl | rfl | rfl <;> decide

/-- the text by which the dispatcher selects: the token after a description, else the current token (a Name or `{`) -/
def SelData (t : Tok) (rest : List Tok) (d : Str) : Prop :=
  (t.kind = .stringValue ∧ ∃ t2, (sig rest).head? = some t2 ∧ t2.data = d) ∨
  (t.kind ≠ .stringValue ∧ (t.kind = .name ∨ t.kind = .lCurly) ∧ t.data = d)

/-- **the dispatcher of `document()` in the tree calculus**: an error-free run on the current token `t` either

    * selected a type-system definition or extension (`TsSel`): it consumed the tokens of ONE loose definition and
      appended ONE element, its tree (`TsR`), or
    * is a run of `fragmentDefinition` (selecting text `fragment`) or of `operationDefinition` (selecting text
      `query` / `mutation` / `subscription` / `{`) from a state `sP` with the same queue and the same tree builder
      (the look-ahead only fills the token buffer). -/
theorem documentDispatch_cases (n : Nat) (s s' : PState) (t : Tok) (rest : List Tok) (st : St s)
    (hc : s.current = some t) (ht : Toks s = t :: rest)
    (h : (documentDispatch n t.kind).run s = .ok () s') (hnd : ¬ Doomed s') :
    (∃ ks, TsSel t rest ks ∧ St s' ∧ TrRes NoE s s' (TsR ks)) ∨
    (∃ sP d, St sP ∧ Toks sP = Toks s ∧ sP.builder = s.builder ∧ SelData t rest d ∧
      ((d = "fragment".toList ∧ (fragmentDefinition n).run sP = .ok () s') ∨
       ((d = "query".toList ∨ d = "mutation".toList ∨ d = "subscription".toList ∨ d = "{".toList) ∧
         (operationDefinition n).run sP = .ok () s'))) := by
  have h0 := h
  unfold documentDispatch at h
  by_cases hk : (t.kind == .stringValue) = true
  · have hk' : t.kind = .stringValue := by simpa using hk
    simp only [hk, if_true] at h
    have h2 := peekDataN2_dec _ s s' () t rest st.w hc ht (by rw [hk']; rfl) h
    cases hq : (sig rest).head? with
    | none =>
      rw [hq] at h2
      exact absurd (Exact.errAndPop_never s s' st.w st.eof h2) hnd
    | some t2 =>
      rw [hq] at h2
      simp only [Option.map_some] at h2
      rcases selectDefinition_cases n t2.data s s' st.w st.eof h2 hnd with ⟨word, hw, hd⟩ | ⟨hd, hx⟩ | ⟨hd, hx⟩ | ⟨hd, hx⟩
      · have hsel : TsSel t rest [word] := .desc word hw hk' t2 hq hd
        exact Or.inl ⟨[word], hsel, tr_typeSystemDefinition n s s' t rest [word] st hc ht hsel h0 hnd⟩
      · exfalso
        rw [extensions_eq] at hx
        have h3 := peekDataN2_dec _ s s' () t rest st.w hc ht (by rw [hk']; rfl) hx
        rw [hq] at h3
        simp only [Option.map_some, hd] at h3
        obtain ⟨w2, hw2, e⟩ := extSel_cases n _ s s' st.w st.eof h3 hnd
        injection e with e
        exact extend_not_extWord w2 hw2 e
      · exact Or.inr ⟨s, t2.data, st, rfl, rfl, Or.inl ⟨hk', t2, hq, rfl⟩, Or.inl ⟨hd, hx⟩⟩
      · exact Or.inr ⟨s, t2.data, st, rfl, rfl, Or.inl ⟨hk', t2, hq, rfl⟩, Or.inr ⟨hd, hx⟩⟩
  · have hk' : t.kind ≠ .stringValue := by simpa using hk
    simp only [hk, Bool.false_eq_true, if_false] at h
    by_cases hk2 : (t.kind == .name || t.kind == .lCurly) = true
    · simp only [hk2, if_true] at h
      have hk2' : t.kind = .name ∨ t.kind = .lCurly := by simpa using hk2
      obtain ⟨sP, stP, htP, hcP, hbP, h2⟩ := peekData_match_st _ _ s s' t rest st ht h
      rcases selectDefinition_cases n t.data sP s' stP.w stP.eof h2 hnd with ⟨word, hw, hd⟩ | ⟨hd, hx⟩ | ⟨hd, hx⟩ | ⟨hd, hx⟩
      · have hsel : TsSel t rest [word] := .kw word hw hd
        exact Or.inl ⟨[word], hsel, tr_typeSystemDefinition n s s' t rest [word] st hc ht hsel h0 hnd⟩
      · obtain ⟨c, r, hc1, hc2⟩ := kwWord_extend
        have hkn : t.kind = .name := st.lq.1.headKw (by rw [ht]; rfl) "extend" c r hc1 hc2 hd
        rw [extensions_eq] at hx
        have h3 := peekDataN2_dec _ sP s' () t rest stP.w hcP (by rw [htP]; exact ht) (by rw [hkn]; rfl) hx
        obtain ⟨w2, hw2, e⟩ := extSel_cases n _ sP s' stP.w stP.eof h3 hnd
        cases hq : (sig rest).head? with
        | none => rw [hq] at e; cases e
        | some t2 =>
          rw [hq] at e
          simp only [Option.map_some, Option.some.injEq] at e
          have hsel : TsSel t rest ["extend", w2] := .ext w2 hw2 hd t2 hq e
          exact Or.inl ⟨_, hsel, tr_typeSystemDefinition n s s' t rest _ st hc ht hsel h0 hnd⟩
      · exact Or.inr ⟨sP, t.data, stP, htP, hbP, Or.inr ⟨hk', hk2', rfl⟩, Or.inl ⟨hd, hx⟩⟩
      · exact Or.inr ⟨sP, t.data, stP, htP, hbP, Or.inr ⟨hk', hk2', rfl⟩, Or.inr ⟨hd, hx⟩⟩
    · simp only [hk2, Bool.false_eq_true, if_false] at h
      exact absurd (Exact.errAndPop_never s s' st.w st.eof h) hnd

end Apollo.Parse
