import ApolloModel.Proofs.ParserRecursion24
/-
C04: what can follow the first limit error in the error list.  `push_err` drops every error once
`accept_errors` is false, but `next_token` pushes what the lexer reports unconditionally: after the first limit
error (token or recursion limit) the only errors that can still be appended are lexer errors and the token-limit
error — never a syntax error.  Invariant `AL`, kept by every grammar function (the rules of `Keeps`).
-/
set_option linter.unusedSimpArgs false
set_option linter.unusedVariables false
namespace Apollo.Parse
open Apollo.Rowan hiding Str
open Apollo.Lex hiding Str

/-- `es` is `pre ++ limit error :: extra` with `pre` free of limit errors and `extra` made of lexer errors and
    limit errors only -/
def AfterLimit (es : List PErr) : Prop :=
  ∃ pre i extra, es = pre ++ (⟨i, 0, .limit⟩ : PErr) :: extra ∧ ¬ HasLim pre ∧ ∀ e ∈ extra, e.kind = .lexer ∨ e.kind = .limit

structure AL (s : PState) : Prop where
  acc : s.acceptErrors = true → ¬ HasLim s.errors
  rej : s.acceptErrors = false → AfterLimit s.errors

theorem afterLimit_snoc {es : List PErr} (h : AfterLimit es) (e : PErr) (he : e.kind = .lexer ∨ e.kind = .limit) :
    AfterLimit (es ++ [e]) := by
  obtain ⟨pre, i, extra, rfl, h1, h2⟩ := h
  refine ⟨pre, i, extra ++ [e], by simp, h1, ?_⟩
  intro x hx
  rcases List.mem_append.mp hx with hx | hx
  · exact h2 x hx
  · simp at hx; subst hx; exact he

theorem al_next : ∀ (fuel : Nat) (s : PState), AL s → AL (nextTokenRaw fuel s).2
  | 0, s, h => by simpa [nextTokenRaw] using h
  | fuel + 1, s, h => by
    unfold nextTokenRaw
    cases hl : lexNext s.lx with
    | mk o l' =>
      cases o with
      | none => exact ⟨h.acc, h.rej⟩
      | some out =>
        cases out with
        | tok t => exact ⟨h.acc, h.rej⟩
        | err d i =>
          simp only []
          refine al_next fuel _ ⟨fun x => ?_, fun x => afterLimit_snoc (h.rej x) _ (Or.inl rfl)⟩
          intro hl2
          rcases (hasLim_append _ _).mp hl2 with y | y
          · exact h.acc x y
          · have := (hasLim_single _).mp y
            cases this
        | limit i =>
          simp only []
          refine al_next fuel _ ⟨fun x => (by cases x), fun _ => ?_⟩
          by_cases ha : s.acceptErrors = true
          · exact ⟨s.errors, i, [], rfl, h.acc ha, fun e he => by cases he⟩
          · exact afterLimit_snoc (h.rej (by simpa using ha)) _ (Or.inr rfl)

instance instStInvAL : StInv AL where
  cong := by
    intro s s' _ e2 e3 _ _ h
    exact ⟨by rw [e2, e3]; exact h.acc, by rw [e2, e3]; exact h.rej⟩
  next := al_next
  err := by
    intro s e he ha h
    refine ⟨fun _ hl => ?_, fun x => by rw [ha] at x; cases x⟩
    rcases (hasLim_append _ _).mp hl with y | y
    · exact h.acc ha y
    · exact he ((hasLim_single _).mp y)
  high := by
    intro s _ _ h
    exact ⟨h.acc, h.rej⟩
  limit := by
    intro s i _ h
    refine ⟨fun x => (by cases x), fun _ => ?_⟩
    show AfterLimit (if s.acceptErrors then s.errors ++ [⟨i, 0, .limit⟩] else s.errors)
    by_cases ha : s.acceptErrors = true
    · simp only [ha, if_true]
      exact ⟨s.errors, i, [], rfl, h.acc ha, fun e he => by cases he⟩
    · have ha' : s.acceptErrors = false := by simpa using ha
      simp only [ha', Bool.false_eq_true, if_false]
      exact h.rej ha'

/-- **every parse, every entry point, every pair of limits**: the error list is free of limit errors, or the
    first limit error is followed by lexer errors and limit errors only (never by a syntax error). -/
theorem parse_errors_after_limit (e : Entry) (tl : Option Nat) (r : Nat) (src : Str) :
    ¬ HasLim (parse e tl r src).errors ∨ AfterLimit (parse e tl r src).errors := by
  obtain ⟨s, hr, h1, _⟩ := parse_run e tl r src
  have h0 : AL (entryStartT e src tl r) := by
    have he : (entryStartT e src tl r).errors = [] := by cases e <;> rfl
    have ha : (entryStartT e src tl r).acceptErrors = true := by cases e <;> rfl
    exact ⟨fun _ => (by rw [he]; rintro ⟨x, hx, _⟩; cases hx), fun x => (by rw [ha] at x; cases x)⟩
  have h := (kp_entry e (fuelFor src)).k _ () s h0 hr
  rw [h1]
  by_cases ha : s.acceptErrors = true
  · exact Or.inl (h.acc ha)
  · exact Or.inr (h.rej (by simpa using ha))

end Apollo.Parse
