import ApolloModel.Proofs.ParserSel7
import ApolloModel.Proofs.ParserDef9
/-
C05 / C07, executable definitions: the selection set, a Name token and the fragment name as facts of
the acceptance calculus `Acc`.
-/
set_option linter.unusedSimpArgs false
namespace Apollo.Parse
open Apollo.Rowan hiding Str
open Apollo.Lex hiding Str

/-- `{ Selection+ }` -/
theorem acc_selectionSet {E : PState → Prop} (n : Nat) :
    Acc E (KindP (· == .lCurly)) (selectionSet n) (fun _ x => ∃ ss, ss ≠ Ast.Sels.nil ∧ x = Ast.tSelSet ss) := by
  refine acc_of_cons _ (goodSel n).selSet _ ?_
  intro s s' w he hq hr hnd
  obtain ⟨t, ht, hk⟩ := kindP_head hq
  have := (sel_all_sound n).1 s s' t _ w he ht (by simpa using hk) hr hnd
  exact this.weaken (by rintro x ⟨ss, hne, rfl⟩; exact ⟨ss, hne, rfl⟩)

theorem acc_nameAt {E : PState → Prop} (t : Tok) (hk : t.kind = .name) :
    Acc E (fun q => q.head? = some t) name (fun _ x => x = [.name t.data]) := by
  refine acc_of_cons _ good_name _ ?_
  intro s s' w he hq hr _
  obtain ⟨ign, e, hall, _⟩ := name_settled s s' t _ w (toks_head_cons s t hq) hk hr
  exact cons_of_name e he hk hall

/-- `FragmentName`: a Name other than `on` -/
theorem acc_fragmentName {E : PState → Prop} (hE : Early E) {H : List Tok → Prop} :
    Acc E H fragmentName (fun _ x => ∃ nm, nm ≠ sOnP ∧ x = [.name nm]) := by
  unfold fragmentName
  refine acc_withNodeAny hE _ ?_
  apply acc_peekToken
  intro o
  cases o with
  | none => exact acc_err
  | some t =>
    simp only []
    apply acc_ite
    · intro _; exact acc_err
    · intro hon
      apply acc_ite
      · intro hkn
        have hk : t.kind = .name := by simpa using hkn
        refine (acc_nameAt t hk).mono (fun q hq => hq.2) ?_
        rintro _ x rfl
        refine ⟨t.data, ?_, rfl⟩
        intro hd
        simp [hk, kw, hd, sOnP] at hon
      · intro _; exact acc_err

end Apollo.Parse
