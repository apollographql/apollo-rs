import ApolloModel.Proofs.NameHeap
/-
C30: the invariant of the `Node` history model (count = number of handles, freed ⇔ 0, no access to a
freed cell) and the isolation of copy-on-write mutation.
-/
namespace Apollo.Rc.Heap
variable {α : Type}

theorem write_valOf_other {h : Heap α} (f : α → α) {c c' : Nat} (e : c ≠ c') : (h.write c f).valOf c' = h.valOf c' := by
  unfold write
  cases hg : h.cells[c]? with
  | none => rfl
  | some cell =>
    simp only
    split
    · rfl
    · unfold valOf
      simp [e]

theorem touch_valOf {h : Heap α} (c c' : Nat) : (h.touch c).valOf c' = h.valOf c' := by
  unfold touch; split <;> rfl

theorem Ok.all_freed {h : Heap α} {refs : Nat → Nat} (ok : h.Ok refs) (hz : ∀ c, refs c = 0) :
    ∀ (c : Nat) (cell : Cell α), h.cells[c]? = some cell → cell.freed = true := by
  intro c cell hc
  have h1 := ok.count c
  simp [strongOf, hc, hz] at h1
  exact (ok.freed c cell hc).mpr h1

theorem Ok.liveCells_zero {h : Heap α} {refs : Nat → Nat} (ok : h.Ok refs) (hz : ∀ c, refs c = 0) : h.liveCells = 0 := by
  unfold liveCells
  rw [List.length_eq_zero_iff, List.filter_eq_nil_iff]
  intro cell hm
  obtain ⟨i, hi⟩ := List.getElem?_of_mem hm
  simp [ok.all_freed hz i cell hi]

end Apollo.Rc.Heap

namespace Apollo.NodeHeap
open Apollo.Rc Apollo.Rc.Heap

abbrev own : Option Nat → Option Nat := fun s => s

structure Inv (st : St) : Prop where
  heap : st.heap.Ok (refsOf own st.slots)

theorem w_none (c : Nat) : weight own none c = 0 := rfl

theorem w_some (c c' : Nat) : weight own (some c) c' = if c' = c then 1 else 0 := weight_some rfl c'

theorem isEmptyAt_iff {st : St} {i : Nat} : isEmptyAt st i = true ↔ st.slots[i]? = some none := by
  unfold isEmptyAt
  cases h : st.slots[i]? with
  | none => simp
  | some s => cases s <;> simp

theorem slotAt_some {st : St} {i c : Nat} (h : slotAt st i = some c) : st.slots[i]? = some (some c) := by
  unfold slotAt at h
  cases hg : st.slots[i]? with
  | none => rw [hg] at h; cases h
  | some s => rw [hg] at h; simp at h; rw [h]

theorem refs_pos {st : St} {i c : Nat} (h : st.slots[i]? = some (some c)) : 1 ≤ refsOf own st.slots c :=
  refsOf_pos_of_mem own c st.slots i (some c) h rfl

theorem inv_alloc_put {st : St} (inv : Inv st) {dst : Nat} (x : NVal) (hd : st.slots[dst]? = some none) :
    Inv (setSlot { st with heap := (st.heap.alloc x).1 } dst (some (st.heap.alloc x).2)) := by
  constructor
  apply alloc_ok x inv.heap
  intro c
  have := refs_replace own (some st.heap.cells.length) hd c
  rw [w_none, w_some] at this
  simpa [setSlot, alloc_snd] using this

/-- `make_mut` on a shared node: allocate the clone, release the old handle, write the clone -/
theorem inv_cow {st : St} (inv : Inv st) {s c : Nat} (x : NVal) (f : NVal → NVal) (hs : st.slots[s]? = some (some c)) :
    Inv { heap := (((st.heap.alloc x).1.decr c).write (st.heap.alloc x).2 f),
          slots := st.slots.set s (some (st.heap.alloc x).2) } := by
  constructor
  have hpos := refs_pos hs
  have hlt : c ≠ st.heap.cells.length := by
    intro e
    have := inv.heap.fresh
    rw [← e] at this; omega
  have h1 : (st.heap.alloc x).1.Ok (fun c' => refsOf own st.slots c' + if c' = st.heap.cells.length then 1 else 0) :=
    alloc_ok x inv.heap (fun _ => rfl)
  have h2 : ((st.heap.alloc x).1.decr c).Ok (refsOf own (st.slots.set s (some st.heap.cells.length))) := by
    apply decr_ok h1
    · show 1 ≤ refsOf own st.slots c + _; omega
    · intro c'
      have := refs_replace own (some st.heap.cells.length) hs c'
      rw [w_some, w_some] at this
      show _ = refsOf own st.slots c' + _
      omega
  apply write_ok f h2
  have := refs_replace own (some st.heap.cells.length) hs st.heap.cells.length
  rw [w_some, w_some, if_neg (fun e => hlt (Eq.symm e)), if_pos rfl, inv.heap.fresh] at this
  simp only [alloc_snd]; omega

theorem step_inv (st : St) (op : Op) (inv : Inv st) : Inv (step st op).1 := by
  cases op with
  | new dst v loc =>
    simp only [step]
    split
    · rename_i he; exact inv_alloc_put inv _ (isEmptyAt_iff.mp he)
    · exact inv
  | clone dst src =>
    simp only [step]
    split
    · rename_i he
      split
      · rename_i c hsrc
        have hs := slotAt_some hsrc
        constructor
        apply incr_ok inv.heap (refs_pos hs)
        intro c'
        have := refs_replace own (some c) (isEmptyAt_iff.mp he) c'
        rw [w_none, w_some] at this
        simpa [setSlot] using this
      · exact inv
    · exact inv
  | drop s =>
    simp only [step]
    split
    · rename_i c hsrc
      have hs := slotAt_some hsrc
      constructor
      apply decr_ok inv.heap (refs_pos hs)
      intro c'
      have := refs_replace own none hs c'
      rw [w_none, w_some] at this
      simpa [setSlot] using this
    · exact inv
  | makeMut s v =>
    simp only [step]
    split
    · rename_i c hsrc
      have hs := slotAt_some hsrc
      split
      · refine ⟨?_⟩; exact write_ok (fun x => { x with val := v }) inv.heap (refs_pos hs)
      · rw [touch_of_live inv.heap (refs_pos hs)]
        exact inv_cow inv _ _ hs
    · exact inv
  | getMut s v =>
    simp only [step]
    split
    · rename_i c hsrc
      have hs := slotAt_some hsrc
      split
      · refine ⟨?_⟩; exact write_ok (fun x => { x with val := v }) inv.heap (refs_pos hs)
      · exact inv
    · exact inv
  | sameLocation dst src v =>
    simp only [step]
    split
    · rename_i he
      split
      · rename_i c hsrc
        have hs := slotAt_some hsrc
        rw [touch_of_live inv.heap (refs_pos hs)]
        exact inv_alloc_put inv _ (isEmptyAt_iff.mp he)
      · exact inv
    · exact inv

theorem init_inv (pool : Nat) : Inv (init pool) := by
  refine ⟨⟨?_, ?_, rfl, rfl⟩⟩
  · intro c
    simp [init, Heap.empty, strongOf, refsOf_replicate own none rfl]
  · intro c cell hc; simp [init, Heap.empty] at hc

theorem run_inv (ops : List Op) : ∀ (st : St), Inv st → Inv (run st ops) := by
  induction ops with
  | nil => intro st h; exact h
  | cons op rest ih => intro st h; exact ih _ (step_inv st op h)

/-! ### reads -/

theorem readSlot_eq_valOf {st : St} (inv : Inv st) {i c : Nat} (hs : st.slots[i]? = some (some c)) :
    ∃ x, readSlot st i = some x ∧ st.heap.valOf c = some x := by
  obtain ⟨x, hr, hv⟩ := read_of_live inv.heap (refs_pos hs)
  refine ⟨x, ?_, hv⟩
  simp [readSlot, slotAt, hs, hr]

theorem slotAt_of_get {st : St} {i : Nat} {s : Option Nat} (h : st.slots[i]? = some s) : slotAt st i = s := by
  simp [slotAt, h]

theorem slotAt_none_of_get_none {st : St} {i : Nat} (h : st.slots[i]? = none) : slotAt st i = none := by
  simp [slotAt, h]

/-- `make_mut` / `get_mut` on slot `s` never changes what any other slot reads -/
theorem mutate_isolated (st : St) (inv : Inv st) (s j v : Nat) (hj : j ≠ s) (op : Op)
    (hop : op = .makeMut s v ∨ op = .getMut s v) :
    readSlot (step st op).1 j = readSlot st j := by
  have inv' := step_inv st op inv
  -- what slot j holds is unchanged
  have hslots : (step st op).1.slots[j]? = st.slots[j]? := by
    rcases hop with e | e <;> subst e <;> simp only [step]
    · split
      · split
        · rfl
        · simp only; rw [List.getElem?_set, if_neg (fun e => hj (Eq.symm e))]
      · rfl
    · split
      · split <;> rfl
      · rfl
  cases hg : st.slots[j]? with
  | none =>
    have h1 : (step st op).1.slots[j]? = none := by rw [hslots, hg]
    simp [readSlot, slotAt_none_of_get_none hg, slotAt_none_of_get_none h1]
  | some sj =>
    cases sj with
    | none =>
      have h1 : (step st op).1.slots[j]? = some none := by rw [hslots, hg]
      simp [readSlot, slotAt_of_get hg, slotAt_of_get h1]
    | some cj =>
      have h1 : (step st op).1.slots[j]? = some (some cj) := by rw [hslots, hg]
      obtain ⟨x, hx, hvx⟩ := readSlot_eq_valOf inv hg
      obtain ⟨y, hy, hvy⟩ := readSlot_eq_valOf inv' h1
      rw [hx, hy]
      -- the stored value of cell cj is unchanged
      have hval : (step st op).1.heap.valOf cj = st.heap.valOf cj := by
        have hcjlt : cj ≠ st.heap.cells.length := by
          intro e
          have := inv.heap.fresh
          have := refs_pos hg
          rw [e] at this; omega
        -- a uniquely owned cell is not the one slot `j` holds
        have hne : ∀ c, st.slots[s]? = some (some c) → st.heap.strongOf c = 1 → c ≠ cj := by
          intro c hs hu e
          subst e
          have h2 := refsOf_two own c st.slots s j (some c) (some c) (fun e => hj e.symm) hs hg rfl rfl
          have := inv.heap.count c
          omega
        rcases hop with e | e <;> subst e <;> simp only [step]
        · split
          · rename_i c hsrc
            have hs := slotAt_some hsrc
            split
            · rename_i hu
              exact write_valOf_other _ (hne c hs (by simpa using hu))
            · simp only
              rw [touch_of_live inv.heap (refs_pos hs)]
              rw [write_valOf_other _ (by rw [alloc_snd]; exact fun e => hcjlt e.symm), decr_valOf]
              rw [alloc_valOf_old _ _ hvx, hvx]
          · rfl
        · split
          · rename_i c hsrc
            have hs := slotAt_some hsrc
            split
            · rename_i hu
              exact write_valOf_other _ (hne c hs (by simpa using hu))
            · rfl
          · rfl
      rw [hval, hvx] at hvy
      exact hvy.symm

end Apollo.NodeHeap
