import ApolloModel.Proofs.ParserExactT11
/-
C05, exact soundness for the type-system family: `type`, `interface`, `union` definitions in the `DefSound` shape of
ParserExactS14 (the fields `DefExact.object`, `.interface`, `.union`).
-/
set_option linter.unusedSimpArgs false
namespace Apollo.Parse.Exact
open Apollo.Rowan hiding Str
open Apollo.Lex hiding Str

/-! ### separated lists keep the state settled -/

theorem sp_namedTypeT : SP namedType := by
  unfold namedType
  exact sp_bind good_peek (fun _ => good_ite _ _ _ (good_withNode _ _ good_name) (good_pure _)) sp_peek
    (fun _ => sp_ite _ _ _ (se_withNode _ _ se_name.sp).sp (sp_pure _))

theorem good_namedTypeT : Good namedType := by
  unfold namedType
  exact good_bind _ _ good_peek (fun _ => good_ite _ _ _ (good_withNode _ _ good_name) (good_pure _))

theorem good_nameItemT : Good nameItem := by
  unfold nameItem
  exact good_bind _ _ good_peek (fun _ => good_ite _ _ _ good_namedTypeT good_err)

theorem sp_nameItemT : SP nameItem := by
  unfold nameItem
  exact sp_bind good_peek (fun _ => good_ite _ _ _ good_namedTypeT good_err) sp_peek (fun _ => sp_ite _ _ _ sp_namedTypeT se_err.sp)

theorem good_sepListT (sep : Kind) (sk : SK) (run : PI Unit) (gr : Good run) : Good (parseSeparatedList sep sk run) := by
  rw [parseSeparatedList_eq]
  unfold optKind sepRest
  have g2 : Good (run >>= fun _ => peekWhileKind sep (bump sk >>= fun _ => run)) :=
    good_bind _ _ gr (fun _ => good_peekWhileKind _ _ (good_bind _ _ (good_bump _) (fun _ => gr)))
  exact good_bind _ _ good_peek (fun _ => good_ite _ _ _ (good_bind _ _ (good_bump _) (fun _ => g2)) g2)

theorem sp_sepListT (sep : Kind) (sk : SK) (run : PI Unit) (gr : Good run) (hr : SP run) : SP (parseSeparatedList sep sk run) := by
  rw [parseSeparatedList_eq]
  unfold optKind sepRest
  have gb : Good (bump sk >>= fun _ => run) := good_bind _ _ (good_bump _) (fun _ => gr)
  have hb : SP (bump sk >>= fun _ => run) := sp_bind (good_bump _) (fun _ => gr) (se_bump _).sp (fun _ => hr)
  have g2 : Good (run >>= fun _ => peekWhileKind sep (bump sk >>= fun _ => run)) :=
    good_bind _ _ gr (fun _ => good_peekWhileKind _ _ gb)
  have h2 : SP (run >>= fun _ => peekWhileKind sep (bump sk >>= fun _ => run)) :=
    sp_bind gr (fun _ => good_peekWhileKind _ _ gb) hr (fun _ => sp_peekWhileKind _ _ gb hb)
  exact sp_bind good_peek (fun _ => good_ite _ _ _ (good_bind _ _ (good_bump _) (fun _ => g2)) g2) sp_peek
    (fun _ => sp_ite _ _ _ (sp_bind (good_bump _) (fun _ => g2) (se_bump _).sp (fun _ => h2)) h2)

theorem good_implementsInterfacesT : Good implementsInterfaces := by
  rw [implementsInterfaces_eq]
  exact good_withNode _ _ (good_bind _ _ (good_bump _) (fun _ => good_sepListT _ _ _ good_nameItemT))

theorem se_implementsInterfaces : SE implementsInterfaces := by
  rw [implementsInterfaces_eq]
  exact se_withNode _ _ (sp_bind (good_bump _) (fun _ => good_sepListT _ _ _ good_nameItemT) (se_bump _).sp
    (fun _ => sp_sepListT _ _ _ good_nameItemT sp_nameItemT))

theorem good_unionMemberTypesT : Good unionMemberTypes := by
  rw [unionMemberTypes_eq]
  exact good_withNode _ _ (good_bind _ _ (good_bump _) (fun _ => good_sepListT _ _ _ good_nameItemT))

/-! ### `implements` -/

theorem optImplTok_split (rest : PI Unit) (s s' : PState) (h : (optImplTok rest).run s = .ok () s') :
    ∃ s1, (optImplTok (pure ())).run s = .ok () s1 ∧ rest.run s1 = .ok () s' := by
  unfold optImplTok at *
  obtain ⟨o, sp, a, b⟩ := bind_dec peekToken _ s s' () h
  cases o with
  | none => exact ⟨sp, bind_intro _ _ s sp none _ a rfl, b⟩
  | some t =>
    simp only [] at b
    by_cases hc : (t.kind == Kind.name && kw "implements" t.data) = true
    · simp only [hc, if_true] at b
      obtain ⟨_, sI, b1, b2⟩ := bind_dec implementsInterfaces _ sp s' () b
      exact ⟨sI, bind_intro _ _ s sp (some t) _ a (by simp only [hc, if_true]; exact bind_intro _ _ sp sI () _ b1 rfl), b2⟩
    · simp only [hc, Bool.false_eq_true, if_false] at b
      exact ⟨sp, bind_intro _ _ s sp (some t) _ a (by simp only [hc, Bool.false_eq_true, if_false]; rfl), b⟩

theorem optData2_split (word : String) (m rest : PI Unit) (s s' : PState) (h : (optData2 word m rest rest).run s = .ok () s') :
    ∃ s1, (optData2 word m (pure ()) (pure ())).run s = .ok () s1 ∧ rest.run s1 = .ok () s' := by
  unfold optData2 at *
  obtain ⟨d, sp, a, b⟩ := bind_dec peekData _ s s' () h
  by_cases hc : kwOpt word d = true
  · simp only [hc, if_true] at b
    obtain ⟨_, sI, b1, b2⟩ := bind_dec m _ sp s' () b
    exact ⟨sI, bind_intro _ _ s sp d _ a (by simp only [hc, if_true]; exact bind_intro _ _ sp sI () _ b1 rfl), b2⟩
  · simp only [hc, Bool.false_eq_true, if_false] at b
    exact ⟨sp, bind_intro _ _ s sp d _ a (by simp only [hc, Bool.false_eq_true, if_false]; rfl), b⟩

/-- what follows the name of an object / interface definition -/
def ObjTailR (b : Nat) (cur : Option Tok) (x : List Ast.Tok) : Prop :=
  ∃ impl ds x2, x = tSepOpt [.name Ast.sImplements] .amp impl ++ (Ast.tDirectives ds ++ x2) ∧ dirsFit true b ds ∧
    (LFields b x2 ∨ (x2 = [] ∧ ∀ t, cur = some t → t.kind ≠ .lCurly))

theorem fieldsTail_sound (n : Nat) (s s' : PState) (w : TW s) (he : EofEnd s)
    (h : (dirsBody n .lCurly (fieldsDefinition n)).run s = .ok () s') (hnd : ¬ Doomed s') :
    Cons s s' (fun x => ∃ ds x2, x = Ast.tDirectives ds ++ x2 ∧ dirsFit true (bud s) ds ∧
      (LFields (bud s) x2 ∨ (x2 = [] ∧ ∀ t, s'.current = some t → t.kind ≠ .lCurly))) :=
  dirsBody_sound n _ LFields (acc_fieldsDefinition n).1
    (fun q1 q2 t rest w1 he1 ht hk h1 hnd1 => fieldsDefinition_sound n q1 q2 t rest w1 he1 ht hk h1 hnd1) s s' w he h hnd

theorem good_fieldsTail (n : Nat) : Good (dirsBody n .lCurly (fieldsDefinition n)) := good_dirsBody n _ (acc_fieldsDefinition n).1

theorem sp_fieldsTail (n : Nat) : SP (dirsBody n .lCurly (fieldsDefinition n)) :=
  sp_dirsBody n .lCurly _ (acc_fieldsDefinition n).1 (se_fieldsDefinition n).sp

/-- the common end of both: an `implements`-prefix consumed budget-free, then the fields tail -/
theorem objTail_of_split (n : Nat) (pre : PI Unit) (hacc : Acc E0 LexQ pre (fun _ => implR (fun x => x = [])))
    (s s1 s' : PState) (w : TW s) (he : EofEnd s) (hl : LexQ (Toks s)) (hp : pre.run s = .ok () s1)
    (ht : (dirsBody n .lCurly (fieldsDefinition n)).run s1 = .ok () s') (hnd : ¬ Doomed s') :
    Cons s s' (ObjTailR (bud s) s'.current) := by
  have a1 := hacc.1 s () s1 w hp
  have hnd1 : ¬ Doomed s1 := fun d => hnd ((good_fieldsTail n s1 () s' a1.w ht).doom d)
  have c1 := cons_of_acc hacc s s1 () w he hl hp hnd1
  have c2 := fieldsTail_sound n s1 s' a1.w c1.eofEnd ht hnd
  refine (c1.seq c2).weaken ?_
  rintro z ⟨x, y, rfl, ⟨impl, x2, rfl, rfl⟩, ds, x3, rfl, hds, hor⟩
  rw [bud_adv a1] at hds hor
  exact ⟨impl, ds, x3, by simp, hds, hor⟩

theorem acc_pureL : Acc E0 LexQ (pure () : PI Unit) (fun _ x => x = []) :=
  (acc_pure E0 LexQ ()).mono (fun _ h => h) (fun _ _ h => h.2)

theorem objTail_sound (n : Nat) (s s' : PState) (w : TW s) (he : EofEnd s) (hl : LexQ (Toks s))
    (h : (optImplTok (dirsBody n .lCurly (fieldsDefinition n))).run s = .ok () s') (hnd : ¬ Doomed s') :
    Cons s s' (ObjTailR (bud s) s'.current) := by
  obtain ⟨s1, hp, ht⟩ := optImplTok_split _ s s' h
  exact objTail_of_split n _ (accL_optImplTok _ _ acc_pureL) s s1 s' w he hl hp ht hnd

theorem ifaceTail_sound (n : Nat) (s s' : PState) (w : TW s) (he : EofEnd s) (hl : LexQ (Toks s))
    (h : (optData2 "implements" implementsInterfaces (dirsBody n .lCurly (fieldsDefinition n)) (dirsBody n .lCurly (fieldsDefinition n))).run s = .ok () s')
    (hnd : ¬ Doomed s') : Cons s s' (ObjTailR (bud s) s'.current) := by
  obtain ⟨s1, hp, ht⟩ := optData2_split _ _ _ s s' h
  exact objTail_of_split n _ (accL_optImplData _ _ _ acc_pureL acc_pureL) s s1 s' w he hl hp ht hnd

theorem good_objTail (n : Nat) : Good (optImplTok (dirsBody n .lCurly (fieldsDefinition n))) := by
  unfold optImplTok
  refine good_bind _ _ good_peekToken (fun o => ?_)
  cases o with
  | none => exact good_fieldsTail n
  | some t => exact good_ite _ _ _ (good_bind _ _ good_implementsInterfacesT (fun _ => good_fieldsTail n)) (good_fieldsTail n)

theorem sp_objTail (n : Nat) : SP (optImplTok (dirsBody n .lCurly (fieldsDefinition n))) := by
  unfold optImplTok
  refine sp_bind good_peekToken ?_ sp_peekToken (fun o => ?_)
  · intro o
    cases o with
    | none => exact good_fieldsTail n
    | some t => exact good_ite _ _ _ (good_bind _ _ good_implementsInterfacesT (fun _ => good_fieldsTail n)) (good_fieldsTail n)
  · cases o with
    | none => exact sp_fieldsTail n
    | some t => exact sp_ite _ _ _ (sp_bind good_implementsInterfacesT (fun _ => good_fieldsTail n) se_implementsInterfaces.sp (fun _ => sp_fieldsTail n)) (sp_fieldsTail n)

theorem good_ifaceTail (n : Nat) :
    Good (optData2 "implements" implementsInterfaces (dirsBody n .lCurly (fieldsDefinition n)) (dirsBody n .lCurly (fieldsDefinition n))) := by
  unfold optData2
  exact good_bind _ _ good_peekData (fun _ => good_ite _ _ _ (good_bind _ _ good_implementsInterfacesT (fun _ => good_fieldsTail n)) (good_fieldsTail n))

theorem sp_ifaceTail (n : Nat) :
    SP (optData2 "implements" implementsInterfaces (dirsBody n .lCurly (fieldsDefinition n)) (dirsBody n .lCurly (fieldsDefinition n))) := by
  unfold optData2
  exact sp_bind good_peekData (fun _ => good_ite _ _ _ (good_bind _ _ good_implementsInterfacesT (fun _ => good_fieldsTail n)) (good_fieldsTail n)) sp_peekData
    (fun _ => sp_ite _ _ _ (sp_bind good_implementsInterfacesT (fun _ => good_fieldsTail n) se_implementsInterfaces.sp (fun _ => sp_fieldsTail n)) (sp_fieldsTail n))

theorem objectDef_sound (n : Nat) : DefSound (DStart "type".toList) (objectTypeDefinition n) := by
  refine defSound_of_loose _ _ ?_
  intro s s' w he hq hs hr hnd
  rw [objectTypeDefinition_eq] at hr
  have hset := defNode_settled "OBJECT_TYPE_DEFINITION" "type" "type_KW" n _ (good_objTail n) (sp_objTail n) s s' w hr hnd
  have c := defNode_soundL "OBJECT_TYPE_DEFINITION" "type" "type_KW" kwWord_type n _ ObjTailR (good_objTail n)
    (fun q q' wq heq hlq hrq hndq => objTail_sound n q q' wq heq hlq hrq hndq) s s' w he hq hs hr hnd
  obtain ⟨cs, x, a, b, e, d, desc, nm, x2, rfl, impl, ds, x3, rfl, hds, hor⟩ := c
  rcases hor with ⟨fs, hne, rfl, hfs⟩ | ⟨rfl, hcur⟩
  · refine ⟨cs, .object desc nm impl ds fs, a, b, e, ?_, ⟨hds, hfs⟩, hset, ?_⟩
    · simpa [LooseDef.toks, objectLikeToks, kwPart, List.append_assoc] using d
    · intro ho; exact absurd ho hne
  · refine ⟨cs, .object desc nm impl ds [], a, b, e, ?_, ⟨hds, by intro v hv; cases hv⟩, hset, fun _ => hcur⟩
    simpa [LooseDef.toks, objectLikeToks, kwPart, Ast.tBraced, List.append_assoc] using d

theorem interfaceDef_sound (n : Nat) : DefSound (DStart "interface".toList) (interfaceTypeDefinition n) := by
  refine defSound_of_loose _ _ ?_
  intro s s' w he hq hs hr hnd
  rw [interfaceTypeDefinition_eq] at hr
  have hset := defNode_settled "INTERFACE_TYPE_DEFINITION" "interface" "interface_KW" n _ (good_ifaceTail n) (sp_ifaceTail n) s s' w hr hnd
  have c := defNode_soundL "INTERFACE_TYPE_DEFINITION" "interface" "interface_KW" kwWord_interface n _ ObjTailR (good_ifaceTail n)
    (fun q q' wq heq hlq hrq hndq => ifaceTail_sound n q q' wq heq hlq hrq hndq) s s' w he hq hs hr hnd
  obtain ⟨cs, x, a, b, e, d, desc, nm, x2, rfl, impl, ds, x3, rfl, hds, hor⟩ := c
  rcases hor with ⟨fs, hne, rfl, hfs⟩ | ⟨rfl, hcur⟩
  · refine ⟨cs, .interface desc nm impl ds fs, a, b, e, ?_, ⟨hds, hfs⟩, hset, ?_⟩
    · simpa [LooseDef.toks, objectLikeToks, kwPart, List.append_assoc] using d
    · intro ho; exact absurd ho hne
  · refine ⟨cs, .interface desc nm impl ds [], a, b, e, ?_, ⟨hds, by intro v hv; cases hv⟩, hset, fun _ => hcur⟩
    simpa [LooseDef.toks, objectLikeToks, kwPart, Ast.tBraced, List.append_assoc] using d

/-! ### union -/

theorem unionTail_sound (n : Nat) (s s' : PState) (w : TW s) (he : EofEnd s)
    (h : (dirsBody n .eq unionMemberTypes).run s = .ok () s') (hnd : ¬ Doomed s') :
    Cons s s' (fun x => ∃ ds ms, x = Ast.tDirectives ds ++ tSepOpt [.p .eq] .pipe ms ∧ dirsFit true (bud s) ds) := by
  unfold dirsBody optKind at h
  obtain ⟨s1, h1, h2⟩ := optThen_dec .at (directives n true) (optBodyK .eq unionMemberTypes) s s' h
  have hacc := acc_optBodyK (E := E0) (H := fun _ => True) .eq unionMemberTypes _ (acc_unionMemberTypes early_false)
  have a1 := good_optDirsEnd n s () s1 w h1
  have hnd1 : ¬ Doomed s1 := fun d => hnd ((hacc.1 s1 () s' a1.w h2).doom d)
  have c1 := optDirsEnd_sound n s s1 w he h1 hnd1
  have c2 := cons_of_acc hacc s1 s' () a1.w c1.eofEnd trivial h2 hnd
  refine (c1.seq c2).weaken ?_
  rintro z ⟨x, y, rfl, ⟨ds, rfl, hds⟩, hy⟩
  rcases hy with ⟨lead, first, rest, rfl⟩ | rfl
  · exact ⟨ds, some (lead, first, rest), by simp [tSepOpt], hds⟩
  · exact ⟨ds, none, by simp [tSepOpt], hds⟩

theorem unionDef_sound (n : Nat) : DefSound (DStart "union".toList) (unionTypeDefinition n) := by
  intro s s' w he hq hr hnd
  rw [unionTypeDefinition_eq] at hr
  have gt : Good (dirsBody n .eq unionMemberTypes) := by
    unfold dirsBody optKind optBodyK
    have g2 : Good (peek >>= fun k => if k == some Kind.eq then unionMemberTypes else pure ()) :=
      good_bind _ _ good_peek (fun _ => good_ite _ _ _ good_unionMemberTypesT (good_pure _))
    exact good_bind _ _ good_peek (fun _ => good_ite _ _ _ (good_bind _ _ (good_directives n true) (fun _ => g2)) g2)
  have c := defNode_sound "UNION_TYPE_DEFINITION" "union" "union_KW" kwWord_union n (dirsBody n .eq unionMemberTypes)
    (fun b _ x => ∃ ds ms, x = Ast.tDirectives ds ++ tSepOpt [.p .eq] .pipe ms ∧ dirsFit true b ds) gt
    (fun q q' wq heq hrq hndq => unionTail_sound n q q' wq heq hrq hndq) s s' w he hq.1 hq.2 hr hnd
  obtain ⟨cs, x, a, b, e, d, desc, nm, x2, rfl, ds, ms, rfl, hds⟩ := c
  exact ⟨cs, .loose (.union desc nm ds ms), a, b, e, by simpa [DocItem.toks, LooseDef.toks, unionToks, kwPart, List.append_assoc] using d, hds,
    fun q _ ho => ho.elim⟩

end Apollo.Parse.Exact
