import ApolloModel.Proofs.ParserDoc4
/-
C05, top level: the token-level predicate `IsDocument` (a non-empty list of definitions, each written
in the long form or — for an anonymous query without variables and directives — in the shorthand form `{ … }`,
at any position), and its relation to C08's reference parser `pDocument`; then `DocItem` / `IsAcceptedDocument`, the
language `document()` accepts with its two liberties, and `document_accepted_items`, which C05
`document_accepted_is_in_grammar` restates.
-/
set_option linter.unusedSimpArgs false
namespace Apollo.Ast

/-- a definition together with the form it is written in (`true`: the shorthand form if it applies) -/
abbrev Item := Bool × Definition

def itemsToks (its : List Item) : List Tok := (its.map (fun i => tDefinition i.1 i.2)).flatten

/-- **IsDocument**: the token list is `Definition+`, each definition printed by C08's `tDefinition`, in either form -/
def IsDocument (x : List Tok) : Prop := ∃ its : List Item, its ≠ [] ∧ x = itemsToks its

/-- `tDocument`, the shape the serializer produces, is the special case "shorthand only in front" -/
theorem tDocument_items (oe : Bool) (d : Definition) (r : List Definition) :
    tDocument oe (d :: r) = itemsToks ((oe, d) :: r.map (fun d => (false, d))) := by
  simp [tDocument, itemsToks, List.map_map, Function.comp_def]

/-- definitions whose last token is always `}`: operations, fragments, schema definitions -/
def closed : Definition → Bool
  | .operation .. => true
  | .fragment .. => true
  | .schemaDef .. => true
  | _ => false

theorem closed_roundtrip_long (d : Definition) (f : Nat) (rest : List Tok) (hc : closed d = true)
    (h : wfDefinition d = true) (hs : szDefinition d ≤ f) :
    pDefinition f (tDefinition false d ++ rest) = some (d, rest) := by
  cases d with
  | operation ty name vars dirs sels =>
    simp only [wfDefinition, Bool.and_eq_true] at h
    simp only [szDefinition] at hs
    have := operation_roundtrip ty name vars dirs sels f rest h.1.1.1 h.1.1.2 h.1.2 (nonNil_ne h.2) (by omega)
    simp only [tDefinition, isShorthand, Bool.false_and, Bool.false_eq_true, if_false, List.cons_append,
      List.append_assoc] at this ⊢
    rw [pDefinition_op]
    exact this
  | fragment name tc dirs sels =>
    simp only [wfDefinition, Bool.and_eq_true, bne_iff_ne, ne_eq] at h
    simp only [szDefinition] at hs
    obtain ⟨b, c⟩ := dirsSelSet_roundtrip dirs sels f rest h.1.1.2 h.1.2 (nonNil_ne h.2) (by omega)
    simp only [tDefinition, List.cons_append, List.append_assoc] at b c ⊢
    simp [pDefinition, opTypeOf, h.1.1.1, b, c]
  | schemaDef desc dirs roots =>
    simp only [wfDefinition, Bool.and_eq_true, Bool.not_eq_true', List.isEmpty_eq_false_iff] at h
    simp only [szDefinition] at hs
    have b := directives_roundtrip dirs f (.p .lCurly :: tRootOpItems roots ++ .p .rCurly :: rest) h.1 (by omega)
      (by simp [dirFollow])
    have c := rootOps_roundtrip roots f rest h.2 (by omega)
    simp only [tDefinition, List.cons_append, List.append_assoc, List.nil_append] at b c ⊢
    rw [typeSystem_dispatch f desc _ _ (by simp [opTypeOf]) (by simp) (by simp)]
    simp [pTypeSystemRest, b, c]
  | _ => simp [closed] at hc

/-- a closed definition reads back whatever follows it — in particular a shorthand query -/
theorem closed_roundtrip (oe : Bool) (d : Definition) (f : Nat) (rest : List Tok) (hc : closed d = true)
    (h : wfDefinition d = true) (hs : szDefinition d ≤ f) :
    pDefinition f (tDefinition oe d ++ rest) = some (d, rest) := by
  cases oe with
  | false => exact closed_roundtrip_long d f rest hc h hs
  | true =>
    cases d with
    | operation ty name vars dirs sels =>
      by_cases hsh : isShorthand true ty name vars dirs = true
      · simp only [wfDefinition, Bool.and_eq_true] at h
        simp only [szDefinition] at hs
        exact shorthand_roundtrip ty name vars dirs sels f rest hsh h.1.2 (nonNil_ne h.2) (by omega)
      · rw [tDefinition_noShorthand _ (by
          intro ty' name' vars' dirs' sels' e
          cases e
          simpa using hsh)]
        exact closed_roundtrip_long _ f rest hc h hs
    | _ =>
      rw [tDefinition_noShorthand _ (by intro ty' name' vars' dirs' sels' e; cases e)]
      exact closed_roundtrip_long _ f rest hc h hs

/-- the decomposition is the one the reference parser finds: every definition is closed, or what follows it is the
    end of the list, a description or a definition keyword (i.e. not a shorthand query) -/
def ItemsFollowOk : List Item → Prop
  | [] => True
  | i :: r => (closed i.2 = true ∨ defFollow (itemsToks r) = true) ∧ ItemsFollowOk r

theorem itemsToks_cons (i : Item) (r : List Item) : itemsToks (i :: r) = tDefinition i.1 i.2 ++ itemsToks r := by
  simp [itemsToks]

theorem items_roundtrip : ∀ (its : List Item) (f : Nat), (∀ i ∈ its, wfDefinition i.2 = true) →
    szDefinitions (its.map (·.2)) ≤ f → ItemsFollowOk its → pDefinitions f (itemsToks its) = some (its.map (·.2))
  | [], f + 1, _, _, _ => by simp [itemsToks, pDefinitions]
  | i :: r, f + 1, h, hs, hf => by
      simp only [List.map_cons, szDefinitions] at hs
      have hw : wfDefinition i.2 = true := h i (by simp)
      have h1 : pDefinition f (tDefinition i.1 i.2 ++ itemsToks r) = some (i.2, itemsToks r) := by
        rcases hf.1 with hc | hd
        · exact closed_roundtrip i.1 i.2 f _ hc hw (by omega)
        · exact first_definition_roundtrip i.1 i.2 f _ hw (by omega) hd
      have h2 := items_roundtrip r f (fun j hj => h j (by simp [hj])) (by omega) hf.2
      rw [itemsToks_cons]
      exact pDefinitions_cons f _ (tDefinition_ne_nil i.1 i.2 _) i.2 _ _ h1 h2
  | [], 0, _, hs, _ | _ :: _, 0, _, hs, _ => by simp [szDefinitions] at hs

/-- **the reference parser agrees**: on the tokens of a document written as the items `its`, `pDocument` returns
    exactly the definitions of `its` -/
theorem items_document_roundtrip (its : List Item) (f : Nat) (hne : its ≠ []) (h : ∀ i ∈ its, wfDefinition i.2 = true)
    (hs : szDefinitions (its.map (·.2)) ≤ f) (hf : ItemsFollowOk its) :
    pDocument f (itemsToks its) = some (its.map (·.2)) := by
  have := items_roundtrip its f h hs hf
  unfold pDocument
  rw [this]
  cases its with
  | nil => exact absurd rfl hne
  | cons i r => rfl

theorem itemsFollowOk_of_closed : ∀ (its : List Item), (∀ i ∈ its, closed i.2 = true) → ItemsFollowOk its
  | [], _ => trivial
  | i :: r, h => ⟨Or.inl (h i (by simp)), itemsFollowOk_of_closed r (fun j hj => h j (by simp [hj]))⟩

theorem followOk_tDocument (oe : Bool) (d : Definition) (r : List Definition) :
    ItemsFollowOk ((oe, d) :: r.map (fun d => (false, d))) := by
  have key : ∀ r : List Definition, ItemsFollowOk (r.map (fun d => ((false, d) : Item))) ∧
      defFollow (itemsToks (r.map (fun d => ((false, d) : Item)))) = true := by
    intro r
    induction r with
    | nil => exact ⟨trivial, rfl⟩
    | cons a r ih =>
      refine ⟨⟨Or.inr ih.2, ih.1⟩, ?_⟩
      simp only [List.map_cons, itemsToks_cons]
      exact defFollow_tDefinition a _
  exact ⟨Or.inr (key r).2, (key r).1⟩

end Apollo.Ast

namespace Apollo.Parse
open Apollo.Rowan hiding Str
open Apollo.Lex hiding Str

/-- one definition as `document()` accepts it, together with the way it is written -/
inductive DocItem where
  /-- an operation or fragment definition; `oe = true`: in the shorthand form when it applies -/
  | exec (oe : Bool) (d : Ast.Definition)
  /-- a type-system definition or extension, up to a leading `&` / `|` and a root operation type without its name -/
  | loose (l : LooseDef)

def DocItem.toks : DocItem → List Ast.Tok
  | .exec oe d => Ast.tDefinition oe d
  | .loose l => l.toks

/-- what is known of the parts: an `exec` item is an operation or a fragment definition, selection sets are non-empty,
    a fragment is not named `on` -/
def DocItem.ok : DocItem → Prop
  | .exec _ d => (∃ ty name vars dirs sels, d = .operation ty name vars dirs sels ∧ sels ≠ .nil) ∨
      (∃ name tc dirs sels, d = .fragment name tc dirs sels ∧ sels ≠ .nil ∧ name ≠ sOnP)
  | .loose _ => True

def docToks (its : List DocItem) : List Ast.Tok := (its.map DocItem.toks).flatten

/-- **IsAcceptedDocument**: `Definition+`, each definition in either form, up to the two documented liberties -/
def IsAcceptedDocument (x : List Ast.Tok) : Prop := ∃ its : List DocItem, its ≠ [] ∧ (∀ i ∈ its, i.ok) ∧ x = docToks its

/-- the definition C08's printer would write, when the accepted text uses none of the liberties -/
def DocItem.strict : DocItem → Option Ast.Item
  | .exec oe d => some (oe, d)
  | .loose l => l.strict.map (fun d => (false, d))

def strictItems : List DocItem → Option (List Ast.Item)
  | [] => some []
  | i :: r =>
    match i.strict, strictItems r with
    | some a, some b => some (a :: b)
    | _, _ => none

theorem DocItem.toks_strict (i : DocItem) (a : Ast.Item) (h : i.strict = some a) : i.toks = Ast.tDefinition a.1 a.2 := by
  cases i with
  | exec oe d => simp only [DocItem.strict, Option.some.injEq] at h; subst h; rfl
  | loose l =>
    simp only [DocItem.strict, Option.map_eq_some_iff] at h
    obtain ⟨d, hd, rfl⟩ := h
    exact l.toks_strict d hd

theorem strictItems_toks : ∀ (its : List DocItem) (items : List Ast.Item), strictItems its = some items →
    docToks its = Ast.itemsToks items ∧ items.length = its.length
  | [], items, h => by simp only [strictItems, Option.some.injEq] at h; subst h; exact ⟨rfl, rfl⟩
  | i :: r, items, h => by
    unfold strictItems at h
    cases hi : i.strict with
    | none => simp [hi] at h
    | some a =>
      cases hr : strictItems r with
      | none => simp [hi, hr] at h
      | some b =>
        simp only [hi, hr, Option.some.injEq] at h
        subst h
        obtain ⟨ih, hl⟩ := strictItems_toks r b hr
        refine ⟨?_, by simp [hl]⟩
        rw [Ast.itemsToks_cons, ← ih, ← i.toks_strict a hi]
        simp [docToks]

theorem shorthand_toks (sels : Ast.Sels) : Ast.tDefinition true (.operation .query none [] [] sels) = Ast.tSelSet sels := by
  simp [Ast.tDefinition, Ast.isShorthand, Ast.tVarDefs, Ast.tDirectives]

theorem isDef_item (x : List Ast.Tok) (h : IsDef x) : ∃ i : DocItem, i.ok ∧ x = i.toks := by
  rcases h with ⟨sels, hne, ⟨ty, name, vars, dirs, e⟩ | e⟩ | ⟨name, tc, dirs, sels, hne, hn, e⟩ | ⟨l, e⟩
  · exact ⟨.exec false (.operation ty name vars dirs sels), Or.inl ⟨ty, name, vars, dirs, sels, rfl, hne⟩, e⟩
  · exact ⟨.exec true (.operation .query none [] [] sels), Or.inl ⟨_, _, _, _, sels, rfl, hne⟩, by rw [e]; exact (shorthand_toks sels).symm⟩
  · exact ⟨.exec false (.fragment name tc dirs sels), Or.inr ⟨name, tc, dirs, sels, rfl, hne, hn⟩, e⟩
  · exact ⟨.loose l, trivial, e⟩

theorem isDefs_items (x : List Ast.Tok) (h : IsDefs x) : ∃ its : List DocItem, (∀ i ∈ its, i.ok) ∧ x = docToks its := by
  obtain ⟨items, rfl, hall⟩ := h
  induction items with
  | nil => exact ⟨[], by simp, by simp [docToks]⟩
  | cons a r ih =>
    obtain ⟨its, hw, he⟩ := ih (fun i hi => hall i (by simp [hi]))
    obtain ⟨i, hok, ha⟩ := isDef_item a (hall a (by simp))
    refine ⟨i :: its, ?_, ?_⟩
    · intro j hj
      rcases List.mem_cons.mp hj with rfl | hj
      · exact hok
      · exact hw j hj
    · rw [List.flatten_cons, he, ha]; simp [docToks]

theorem isDocumentToks_accepted (x : List Ast.Tok) (h : IsDocumentToks x) : IsAcceptedDocument x := by
  obtain ⟨hne, hd⟩ := h
  obtain ⟨its, hw, rfl⟩ := isDefs_items x hd
  refine ⟨its, ?_, hw, rfl⟩
  rintro rfl
  exact hne rfl

/-- **document_accepted_is_in_grammar** (unconditional).  If the model of `Parser::parse` returns a tree and reports
    no error, the source lexes cleanly and its significant tokens are an accepted document `docToks its` followed by the
    end-of-input token.  Moreover, when `its` uses neither of the two liberties (`strictItems its = some items`), the
    tokens are `Ast.itemsToks items` — every definition printed by C08's `tDefinition`, in the long or shorthand form —
    and C08's reference parser `pDocument` returns exactly the definitions of `items` (given their well-formedness,
    which the per-production lemmas do not export, `ItemsFollowOk`, and fuel `f` of at least their size). -/
theorem document_accepted_items (rl : Nat) (src : Str) (root : Elem)
    (h : (parse .document none rl src).outcome = .tree root) (herr : (parse .document none rl src).errors = []) :
    LexClean src ∧ ∃ (ts : List Tok) (e : Tok) (its : List DocItem), sig (srcToks src) = ts ++ [e] ∧ e.kind = .eof ∧
      its ≠ [] ∧ (∀ i ∈ its, i.ok) ∧ TokIs ts (docToks its) ∧
      ∀ items, strictItems its = some items →
        items ≠ [] ∧ docToks its = Ast.itemsToks items ∧
        ((∀ i ∈ items, Ast.wfDefinition i.2 = true) → Ast.ItemsFollowOk items → ∀ f, Ast.szDefinitions (items.map (·.2)) ≤ f →
          Ast.pDocument f (Ast.itemsToks items) = some (items.map (·.2))) := by
  obtain ⟨hl, ts, x, e, h1, h2, h3, h4⟩ := document_accept_sound' rl src root h herr
  obtain ⟨its, hne, hok, rfl⟩ := isDocumentToks_accepted x h4
  refine ⟨hl, ts, e, its, h1, h2, hne, hok, h3, ?_⟩
  intro items hs
  obtain ⟨ht, hlen⟩ := strictItems_toks its items hs
  have hne' : items ≠ [] := by
    rintro rfl
    cases its with
    | nil => exact hne rfl
    | cons a b => simp at hlen
  exact ⟨hne', ht, fun hw hf f hsz => Ast.items_document_roundtrip items f hne' hw hsz hf⟩

end Apollo.Parse
