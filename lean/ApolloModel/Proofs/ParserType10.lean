import ApolloModel.Proofs.ParserType9
/-
C07 / C05, type entry point: a token list whose significant tokens are the tokens of a type
and that does not start with an ignored token *spells* that type (the hypothesis of `parseType_complete`);
then soundness and completeness of `parse_type` over the output of the lexer model.
-/
set_option linter.unusedSimpArgs false
namespace Apollo.Parse
open Apollo.Rowan hiding Str
open Apollo.Lex hiding Str

def HeadSig (c : List Tok) : Prop := ∀ hd tl, c = hd :: tl → Sigf hd

theorem sig_cons_sig (x : Tok) (c : List Tok) (h : Sigf x) : sig (x :: c) = x :: sig c := by
  unfold Sigf at h; simp [sig, h]

theorem sig_cons_ign (x : Tok) (c : List Tok) (h : isIgnoredKind x.kind = true) : sig (x :: c) = sig c := by
  simp [sig, h]

theorem ign_of_sig_nil (c : List Tok) (h : sig c = []) : Ign c := by
  intro x hx
  have := List.filter_eq_nil_iff.mp h x hx
  simpa using this

theorem sig_single_inv (c : List Tok) (x : Tok) (hh : HeadSig c) (h : sig c = [x]) : ∃ i, c = x :: i ∧ Ign i := by
  cases c with
  | nil => simp [sig] at h
  | cons hd tl =>
    have hs := hh hd tl rfl
    rw [sig_cons_sig hd tl hs] at h
    injection h with h1 h2
    exact ⟨tl, by rw [h1], ign_of_sig_nil tl h2⟩

theorem sig_split : ∀ (c A B : List Tok), sig c = A ++ B → B ≠ [] →
    ∃ c1 c2, c = c1 ++ c2 ∧ sig c1 = A ∧ sig c2 = B ∧ HeadSig c2 ∧ (A ≠ [] → HeadSig c → HeadSig c1) := by
  intro c
  induction c with
  | nil => intro A B h hB; simp [sig] at h; exact absurd h.2 hB
  | cons x c ih =>
    intro A B h hB
    by_cases hx : isIgnoredKind x.kind = true
    · rw [sig_cons_ign x c hx] at h
      obtain ⟨c1, c2, e, h1, h2, h3, _⟩ := ih A B h hB
      refine ⟨x :: c1, c2, by rw [e]; rfl, by rw [sig_cons_ign x c1 hx]; exact h1, h2, h3, ?_⟩
      intro _ hh
      have := hh x c rfl
      unfold Sigf at this; rw [hx] at this; cases this
    · have hx' : Sigf x := by unfold Sigf; simpa using hx
      rw [sig_cons_sig x c hx'] at h
      cases A with
      | nil =>
        refine ⟨[], x :: c, rfl, rfl, by rw [sig_cons_sig x c hx']; exact h, ?_, fun h => absurd rfl h⟩
        intro hd tl e; injection e with e _; subst e; exact hx'
      | cons a A =>
        simp only [List.cons_append] at h
        injection h with h1 h2
        obtain ⟨c1, c2, e, h3, h4, h5, _⟩ := ih A B h2 hB
        refine ⟨x :: c1, c2, by rw [e]; rfl, by rw [sig_cons_sig x c1 hx', h3, h1], h4, h5, ?_⟩
        intro _ _ hd tl e'
        injection e' with e' _; subst e'; exact hx'

theorem astOf_name {x : Tok} {n : Str} (h : astOf x = some (.name n)) : x.kind = .name ∧ x.data = n := by
  unfold astOf at h
  cases hk : x.kind <;> simp [hk] at h
  exact ⟨rfl, h⟩

theorem astOf_p {x : Tok} {p : Ast.P} (h : astOf x = some (.p p)) :
    (p = .bang → x.kind = .bang) ∧ (p = .lBracket → x.kind = .lBracket) ∧ (p = .rBracket → x.kind = .rBracket) := by
  unfold astOf at h
  cases hk : x.kind <;> simp [hk] at h <;> subst h <;> simp

theorem spell_of_sig (t : Ast.Ty) : ∀ (c : List Tok), HeadSig c → (sig c).map astOf = (Ast.tTy t).map some → Spell t c := by
  induction t with
  | named n =>
    intro c hh h
    simp only [Ast.tTy, List.map_cons, List.map_nil] at h
    obtain ⟨x, l, hs, hx, hl⟩ := List.map_eq_cons_iff.mp h
    have : l = [] := by simpa using hl
    subst this
    obtain ⟨i, rfl, hi⟩ := sig_single_inv c x hh hs
    obtain ⟨hk, hd⟩ := astOf_name hx
    rw [← hd]
    exact Spell.base _ _ (SpellB.named x i hk hi)
  | nonNullNamed n =>
    intro c hh h
    simp only [Ast.tTy, List.map_cons, List.map_nil] at h
    obtain ⟨x, l, hs, hx, hl⟩ := List.map_eq_cons_iff.mp h
    obtain ⟨b, l2, hs2, hb, hl2⟩ := List.map_eq_cons_iff.mp hl
    have : l2 = [] := by simpa using hl2
    subst this hs2
    obtain ⟨c1, c2, rfl, h1, h2, hh2, hh1⟩ := sig_split c [x] [b] hs (by simp)
    obtain ⟨i1, rfl, hi1⟩ := sig_single_inv c1 x (hh1 (by simp) hh) h1
    obtain ⟨i2, rfl, hi2⟩ := sig_single_inv c2 b hh2 h2
    obtain ⟨hk, hd⟩ := astOf_name hx
    rw [← hd]
    exact Spell.bangNamed _ _ b i2 (SpellB.named x i1 hk hi1) ((astOf_p hb).1 rfl) hi2
  | list u ih =>
    intro c hh h
    simp only [Ast.tTy, List.map_cons, List.map_append, List.map_nil] at h
    obtain ⟨sl, l, hs, hsl, hl⟩ := List.map_eq_cons_iff.mp h
    obtain ⟨su, l2, hl', hsu, hl2⟩ := List.map_eq_append_iff.mp hl
    obtain ⟨sr, l3, hs3, hsr, hl3⟩ := List.map_eq_cons_iff.mp hl2
    have : l3 = [] := by simpa using hl3
    subst this hs3 hl'
    obtain ⟨c1, c23, rfl, h1, h23, hh23, hh1⟩ := sig_split c [sl] (su ++ [sr]) hs (by simp)
    obtain ⟨cu, c3, rfl, hcu, h3, hh3, hhu⟩ := sig_split c23 su [sr] h23 (by simp)
    obtain ⟨i1, rfl, hi1⟩ := sig_single_inv c1 sl (hh1 (by simp) hh) h1
    obtain ⟨i2, rfl, hi2⟩ := sig_single_inv c3 sr hh3 h3
    have hsune : su ≠ [] := by
      intro e; subst e
      cases u <;> simp [Ast.tTy] at hsu
    have hspu := ih cu (hhu hsune hh23) (by rw [hcu]; exact hsu)
    have := SpellB.list sl sr i1 i2 cu u ((astOf_p hsl).2.1 rfl) hi1 hspu ((astOf_p hsr).2.2 rfl) hi2
    exact Spell.base _ _ (by simpa [List.append_assoc] using this)
  | nonNullList u ih =>
    intro c hh h
    simp only [Ast.tTy, List.map_cons, List.map_append, List.map_nil] at h
    obtain ⟨sl, l, hs, hsl, hl⟩ := List.map_eq_cons_iff.mp h
    obtain ⟨su, l2, hl', hsu, hl2⟩ := List.map_eq_append_iff.mp hl
    obtain ⟨sr, l3, hs3, hsr, hl3⟩ := List.map_eq_cons_iff.mp hl2
    obtain ⟨b, l4, hs4, hb, hl4⟩ := List.map_eq_cons_iff.mp hl3
    have : l4 = [] := by simpa using hl4
    subst this hs4 hs3 hl'
    obtain ⟨c1, c23, rfl, h1, h23, hh23, hh1⟩ := sig_split c [sl] (su ++ [sr, b]) hs (by simp)
    obtain ⟨cu, c34, rfl, hcu, h34, hh34, hhu⟩ := sig_split c23 su [sr, b] h23 (by simp)
    obtain ⟨c3, c4, rfl, h3, h4, hh4, hh3⟩ := sig_split c34 [sr] [b] h34 (by simp)
    obtain ⟨i1, rfl, hi1⟩ := sig_single_inv c1 sl (hh1 (by simp) hh) h1
    obtain ⟨i2, rfl, hi2⟩ := sig_single_inv c3 sr (hh3 (by simp) hh34) h3
    obtain ⟨i3, rfl, hi3⟩ := sig_single_inv c4 b hh4 h4
    have hsune : su ≠ [] := by
      intro e; subst e
      cases u <;> simp [Ast.tTy] at hsu
    have hspu := ih cu (hhu hsune hh23) (by rw [hcu]; exact hsu)
    have hb' := SpellB.list sl sr i1 i2 cu u ((astOf_p hsl).2.1 rfl) hi1 hspu ((astOf_p hsr).2.2 rfl) hi2
    have := Spell.bangList u _ b i3 hb' ((astOf_p hb).1 rfl) hi3
    simpa [List.append_assoc] using this

theorem noEof_of_isTy (c ts : List Tok) (t : Ast.Ty) (hs : sig c = ts) (h : ts.map astOf = (Ast.tTy t).map some) : NoEof c := by
  intro x hx hk
  by_cases hi : isIgnoredKind x.kind = true
  · rw [hk] at hi; simp [isIgnoredKind] at hi
  · have hmem : x ∈ sig c := by simp [sig, hx, hi]
    rw [hs] at hmem
    have : astOf x ∈ ts.map astOf := List.mem_map_of_mem hmem
    rw [h] at this
    obtain ⟨a, _, ha⟩ := List.mem_map.mp this
    unfold astOf at ha
    rw [hk] at ha
    cases ha

/-- **completeness in terms of significant tokens**: the hypothesis of `parseType_complete` follows from
    "the significant tokens are `tTy t` then EOF, and the queue does not start with an ignored token" -/
theorem parseType_complete_sig (rl : Nat) (src : Str) (t : Ast.Ty) (ts : List Tok) (e : Tok)
    (hclean : LexClean src) (hsig : sig (srcToks src) = ts ++ [e]) (he : e.kind = .eof)
    (hty : ts.map astOf = (Ast.tTy t).map some) (hdepth : tyDepth t ≤ rl) (hhead : HeadSig (srcToks src)) :
    (parse .type none rl src).errors = [] := by
  obtain ⟨c, c2, hc, h1, h2, hh2, hh1⟩ := sig_split (srcToks src) ts [e] hsig (by simp)
  obtain ⟨i, rfl, hi⟩ := sig_single_inv c2 e hh2 h2
  have htsne : ts ≠ [] := by
    intro h0; subst h0
    cases t <;> simp [Ast.tTy] at hty
  have hnoc : NoEof c := noEof_of_isTy c ts t h1 hty
  obtain ⟨pre, e0, hq, he0, hnop⟩ := srcToks_eof_end src
  rw [hc] at hq
  obtain ⟨pre', hr, hnop'⟩ := split_eof c pre (e :: i) e0 hq.symm he0 hnoc hnop
  have hi0 : i = [] := by
    cases pre' with
    | nil => simp at hr; exact hr.2
    | cons y pre' =>
      exfalso
      simp only [List.cons_append] at hr
      injection hr with hr1 _
      exact hnop' y (by simp) (hr1 ▸ he)
  subst hi0
  exact parseType_complete rl src t c e hclean hc (spell_of_sig t c (hh1 htsne hhead) (by rw [h1]; exact hty)) he hdepth

/-! ### the same statements over the lexer model's output -/

def kd (t : Tok) : Kind × Str := (t.kind, t.data)
def sigKD (l : List (Kind × Str)) : List (Kind × Str) := l.filter (fun p => !isIgnoredKind p.1)
def astOfKD (p : Kind × Str) : Option Ast.Tok := astOf ⟨p.1, p.2, 0⟩

theorem sig_map_kd (ts : List Tok) : (sig ts).map kd = sigKD (ts.map kd) := by
  unfold sig sigKD
  rw [List.filter_map]
  rfl

theorem astOf_kd (t : Tok) : astOfKD (kd t) = astOf t := rfl

theorem map_astOf_kd (ts : List Tok) : (ts.map kd).map astOfKD = ts.map astOf := by
  rw [List.map_map]; rfl

def lexSig (src : Str) : List (Kind × Str) := sigKD (lexToks src)

theorem lexSig_eq (src : Str) : lexSig src = (sig (srcToks src)).map kd := by
  unfold lexSig
  rw [sig_map_kd, ← srcToks_lex]
  rfl

theorem parseType_sound_lex (rl : Nat) (src : Str) (herr : (parse .type none rl src).errors = []) :
    (∀ it ∈ lex none src, it.isErr = false) ∧
    ∃ t ks e, lexSig src = ks ++ [e] ∧ e.1 = .eof ∧ ks.map astOfKD = (Ast.tTy t).map some := by
  obtain ⟨hc, t, ts, e, h1, h2, h3⟩ := parseType_sound' rl src herr
  refine ⟨(lexClean_lex src).mp hc, t, ts.map kd, kd e, ?_, h2, ?_⟩
  · rw [lexSig_eq, h1]; simp
  · rw [map_astOf_kd]; exact h3

theorem parseType_complete_lex (rl : Nat) (src : Str) (t : Ast.Ty) (ks : List (Kind × Str)) (e : Kind × Str)
    (hclean : ∀ it ∈ lex none src, it.isErr = false) (hsig : lexSig src = ks ++ [e]) (he : e.1 = .eof)
    (hty : ks.map astOfKD = (Ast.tTy t).map some) (hdepth : tyDepth t ≤ rl)
    (hhead : ∀ p, (lexToks src).head? = some p → isIgnoredKind p.1 = false) :
    (parse .type none rl src).errors = [] := by
  rw [lexSig_eq] at hsig
  obtain ⟨ts, l2, hs, hts, hl2⟩ := List.map_eq_append_iff.mp hsig
  obtain ⟨e', l3, hl2', he', hl3⟩ := List.map_eq_cons_iff.mp hl2
  have : l3 = [] := by simpa using hl3
  subst this hl2'
  refine parseType_complete_sig rl src t ts e' ((lexClean_lex src).mpr hclean) hs ?_ ?_ hdepth ?_
  · have : (kd e').1 = .eof := by rw [he']; exact he
    exact this
  · rw [← map_astOf_kd, hts]; exact hty
  · intro hd tl hq
    have := hhead (kd hd) (by rw [← srcToks_lex, hq]; rfl)
    exact this

end Apollo.Parse
