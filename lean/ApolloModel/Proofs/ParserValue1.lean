import ApolloModel.Proofs.ParserType4
import ApolloModel.Proofs.AstSelections
/-
C05, values: vocabulary (parser tokens as grammar tokens: `astOfV`, `TokIs`; well-formed values: `valueOk`), and
the `Good` property (errors only accumulate, counters restored) for the loops `peek_while` / `peek_while_kind`
and for the leaves of grammar/value.rs (`name`, variable, enum value).
-/
set_option linter.unusedSimpArgs false
namespace Apollo.Parse
open Apollo.Rowan hiding Str
open Apollo.Lex hiding Str

/-! ### parser tokens as tokens of the reference grammar -/

/-- a parser token as a token of the reference grammar (all significant kinds; a string token stands for
    its decoded value, C06) -/
def astOfV (t : Tok) : Option Ast.Tok :=
  match t.kind with
  | .name => some (.name t.data)
  | .int => some (.int t.data)
  | .float => some (.float t.data)
  | .stringValue => some (.str ((Strs.decodeStringToken t.data).getD []))
  | .bang => some (.p .bang)
  | .dollar => some (.p .dollar)
  | .amp => some (.p .amp)
  | .spread => some (.p .spread)
  | .colon => some (.p .colon)
  | .eq => some (.p .eq)
  | .at => some (.p .at)
  | .lParen => some (.p .lParen)
  | .rParen => some (.p .rParen)
  | .lBracket => some (.p .lBracket)
  | .rBracket => some (.p .rBracket)
  | .lCurly => some (.p .lCurly)
  | .rCurly => some (.p .rCurly)
  | .pipe => some (.p .pipe)
  | _ => none

def TokIs (ts : List Tok) (as : List Ast.Tok) : Prop := ts.map astOfV = as.map some

theorem TokIs.nil : TokIs [] [] := rfl

theorem TokIs.append {a b : List Tok} {x y : List Ast.Tok} (h1 : TokIs a x) (h2 : TokIs b y) : TokIs (a ++ b) (x ++ y) := by
  unfold TokIs at *; simp [h1, h2]

theorem TokIs.single (t : Tok) (x : Ast.Tok) (h : astOfV t = some x) : TokIs [t] [x] := by simp [TokIs, h]

theorem TokIs.cons {t : Tok} {x : Ast.Tok} {b : List Tok} {y : List Ast.Tok} (h : astOfV t = some x) (h2 : TokIs b y) :
    TokIs (t :: b) (x :: y) := by
  unfold TokIs at *; simp [h, h2]

/-! ### well-formed values: enum values are not `true`/`false`/`null`; a constant value has no variable -/

def isValueKeyword (n : Str) : Bool := kw "true" n || kw "false" n || kw "null" n

mutual
def valueOk (isConst : Bool) : Ast.Value → Bool
  | .null | .bool _ | .str _ | .float _ | .int _ => true
  | .enum n => !isValueKeyword n
  | .var _ => !isConst
  | .list vs => valuesOk isConst vs
  | .obj fs => fieldsOk isConst fs
def valuesOk (isConst : Bool) : Ast.Values → Bool
  | .nil => true
  | .cons v tl => valueOk isConst v && valuesOk isConst tl
def fieldsOk (isConst : Bool) : Ast.ObjFields → Bool
  | .nil => true
  | .cons _ v tl => valueOk isConst v && fieldsOk isConst tl
end

/-! ### `Good` for loops and for the value grammar -/

theorem good_getCurrent : Good getCurrent := by
  intro s a s' w h
  unfold getCurrent at h
  simp only [] at h
  injection h with _ h; subst h
  exact Adv.refl s w

theorem good_srcLen : Good srcLen := by
  intro s a s' w h
  unfold srcLen at h
  simp only [] at h
  injection h with _ h; subst h
  exact Adv.refl s w

theorem good_stuck {α : Type} : Good (PI.stuck : PI α) := by
  intro s a s' _ h; simp [PI.stuck] at h

theorem good_outOfFuel {α : Type} : Good (PI.outOfFuel : PI α) := by
  intro s a s' _ h; simp [PI.outOfFuel] at h

theorem good_ite {α : Type} (c : Bool) (a b : PI α) (ha : Good a) (hb : Good b) : Good (if c then a else b) := by
  cases c <;> simp [ha, hb]

theorem good_peekWhileLoop (body : Kind → PI Bool) (hb : ∀ k, Good (body k)) : ∀ fuel, Good (peekWhileLoop body fuel)
  | 0 => good_outOfFuel
  | fuel + 1 => by
    unfold peekWhileLoop
    refine good_bind _ _ good_peek ?_
    intro k
    cases k with
    | none => exact good_pure _
    | some kind =>
      refine good_bind _ _ good_getCurrent (fun before => good_bind _ _ (hb kind) ?_)
      intro c
      cases c with
      | false => exact good_pure _
      | true =>
        refine good_bind _ _ good_getCurrent (fun after => ?_)
        exact good_ite _ _ _ good_stuck (good_peekWhileLoop body hb fuel)

theorem good_peekWhile (body : Kind → PI Bool) (hb : ∀ k, Good (body k)) : Good (peekWhile body) :=
  good_bind _ _ good_srcLen (fun _ => good_peekWhileLoop body hb _)

theorem good_peekWhileKindLoop (k : Kind) (body : PI Unit) (hb : Good body) : ∀ fuel, Good (peekWhileKindLoop k body fuel)
  | 0 => good_outOfFuel
  | fuel + 1 => by
    unfold peekWhileKindLoop
    refine good_bind _ _ good_peek ?_
    intro o
    cases o with
    | none => exact good_pure _
    | some kind =>
      refine good_ite _ _ _ (good_pure _) ?_
      refine good_bind _ _ good_getCurrent (fun before => good_bind _ _ hb (fun _ => good_bind _ _ good_getCurrent (fun after => ?_)))
      exact good_ite _ _ _ good_stuck (good_peekWhileKindLoop k body hb fuel)

theorem good_peekWhileKind (k : Kind) (body : PI Unit) (hb : Good body) : Good (peekWhileKind k body) :=
  good_bind _ _ good_srcLen (fun _ => good_peekWhileKindLoop k body hb _)

theorem good_name : Good name := by
  unfold name
  refine good_bind _ _ good_peekToken ?_
  intro o
  cases o with
  | none => exact good_err
  | some t => exact good_ite _ _ _ (good_withNode _ _ (good_bump _)) good_err

theorem good_errAndPop : Good errAndPop := by
  unfold errAndPop
  intro s a s' w h
  obtain ⟨_, s1, h1, h2⟩ := bind_dec pushIgnored _ s s' () h
  have o1 := pushIgnored_obs s s1 h1
  have a1 := (Eat.ofObsEq o1 w).adv
  refine a1.trans ?_
  revert h2
  have : Good (peekToken >>= fun o => match o with
      | none => (pure () : PI Unit)
      | some t => do moveCurToTree "ERROR"; pushErr (tokErr t); skipIgnored) := by
    refine good_bind _ _ good_peekToken ?_
    intro o
    cases o with
    | none => exact good_pure _
    | some t =>
      refine good_bind _ _ ?_ (fun _ => good_bind _ _ (good_pushErr _) (fun _ => good_skipIgnored))
      intro s a s' w h
      rcases moveCurToTree_spec "ERROR" s s' w h with ⟨_, _, e, _⟩ | ⟨_, rfl⟩
      · exact e.adv
      · exact Adv.refl _ w
  intro h2
  exact this s1 () s' a1.w h2

theorem good_variableNode : Good variableNode :=
  good_withNode _ _ (good_bind _ _ (good_bump _) (fun _ => good_name))

theorem good_enumValue : Good enumValue := by
  unfold enumValue
  refine good_withNode _ _ (good_bind _ _ good_peekToken ?_)
  intro o
  cases o with
  | none => exact good_err
  | some t =>
    refine good_ite _ _ _ ?_ good_err
    exact good_ite _ _ _ (good_bind _ _ good_err (fun _ => good_name)) good_name

end Apollo.Parse
