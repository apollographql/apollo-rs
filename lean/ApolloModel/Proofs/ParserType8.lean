import ApolloModel.Proofs.ParserType7
/-
C07 / C05, type entry point: the completeness induction.
-/
set_option linter.unusedSimpArgs false
namespace Apollo.Parse
open Apollo.Rowan hiding Str
open Apollo.Lex hiding Str

def TyComp (n : Nat) : Prop :=
  ∀ s s' r t c q0 rest, TW s → (tyParse n).run s = .ok r s' → Spell t c → Toks s = c ++ q0 :: rest → Sigf q0 →
    NoBangAfter t q0 → s.recCur + tyDepth t ≤ s.recLimit →
    r = TyRes.ok ∧ Eat s s' c ∧ Toks s' = q0 :: rest ∧ s'.current = some q0

theorem spellB_head {u : Ast.Ty} {c : List Tok} (h : SpellB u c) : ∃ hd tl, c = hd :: tl ∧ Sigf hd := by
  cases h with
  | named t i hk _ => exact ⟨t, i, rfl, by unfold Sigf; rw [hk]; rfl⟩
  | list lb rb i1 i2 cu u hk _ _ _ _ => exact ⟨lb, i1 ++ cu ++ rb :: i2, by simp, by unfold Sigf; rw [hk]; rfl⟩

theorem spell_head {u : Ast.Ty} {c : List Tok} (h : Spell u c) : ∃ hd tl, c = hd :: tl ∧ Sigf hd := by
  cases h with
  | base u c hb => exact spellB_head hb
  | bangNamed n c b i hb _ _ =>
    obtain ⟨hd, tl, rfl, hs⟩ := spellB_head hb
    exact ⟨hd, tl ++ b :: i, by simp, hs⟩
  | bangList u c b i hb _ _ =>
    obtain ⟨hd, tl, rfl, hs⟩ := spellB_head hb
    exact ⟨hd, tl ++ b :: i, by simp, hs⟩

theorem tyBody_comp (n : Nat) (ih : TyComp n) (s s' : PState) (r : TyRes) (u : Ast.Ty) (cb : List Tok) (q : Tok)
    (rest : List Tok) (w : TW s) (h : (tyBody n).run s = .ok r s') (hsb : SpellB u cb)
    (ht : Toks s = cb ++ q :: rest) (hq : Sigf q) (hrec : s.recCur + tyDepth u ≤ s.recLimit) :
    r = TyRes.ok ∧ ∃ cb' it, cb = cb' ++ it ∧ Ign it ∧ Eat s s' cb' ∧ Toks s' = it ++ q :: rest := by
  unfold tyBody at h
  obtain ⟨k, sP, hp, h2⟩ := bind_dec peek _ s s' r h
  cases hsb with
  | named t i hk hi =>
    have ht' : Toks s = t :: (i ++ q :: rest) := by rw [ht]; simp
    obtain ⟨hkk, eP, htP, _⟩ := peek_head s sP k t _ w ht' hp
    subst hkk
    simp only [hk] at h2
    obtain ⟨hr, e⟩ := nameBranch_sound sP s' r t _ eP.w htP hk h2
    refine ⟨hr, [t], i, rfl, hi, by simpa using eP.trans e, ?_⟩
    have := e.toks
    rw [htP] at this
    simpa using this.symm
  | list lb rb i1 i2 cu u' hkl hi1 hsu hkr hi2 =>
    have ht' : Toks s = lb :: (i1 ++ cu ++ rb :: i2 ++ q :: rest) := by rw [ht]; simp
    obtain ⟨hkk, eP, htP, _⟩ := peek_head s sP k lb _ w ht' hp
    subst hkk
    simp only [hkl] at h2
    have hnil : isIgnoredKind lb.kind = false := by rw [hkl]; rfl
    obtain ⟨s1, s2, e1, h1, o2⟩ := withNode_peeked _ _ sP s' r lb _ eP.w htP hnil h2
    have ht1 : Toks s1 = lb :: (i1 ++ cu ++ rb :: i2 ++ q :: rest) := by
      have := e1.toks; rw [htP] at this; simpa using this.symm
    unfold tyListBody at h1
    obtain ⟨_, s3, h3, h4⟩ := bind_dec (bump "L_BRACK") _ s1 s2 r h1
    unfold bump at h3
    obtain ⟨_, s3a, h3a, h3b⟩ := bind_dec (eat "L_BRACK") _ s1 s3 () h3
    obtain ⟨ea, hta⟩ := eat_head "L_BRACK" s1 s3a lb _ e1.w ht1 h3a
    obtain ⟨hd, tl, hcu, hsd⟩ := spell_head hsu
    have hta' : Toks s3a = i1 ++ hd :: (tl ++ rb :: i2 ++ q :: rest) := by rw [hta, hcu]; simp
    obtain ⟨es, ht3, _⟩ := skip_exact s3a s3 i1 hd _ ea.w h3b hta' hi1 hsd
    have e03 : Eat s s3 (lb :: i1) := by simpa using ((eP.trans e1).trans ea).trans es
    have ht3' : Toks s3 = cu ++ rb :: (i2 ++ q :: rest) := by rw [ht3, hcu]; simp
    -- recursion guard
    obtain ⟨inner, s4, h5, h6⟩ := bind_dec _ _ s3 s2 r h4
    rcases withRec_dec _ _ s3 s4 inner h5 with ⟨hlim, _⟩ | ⟨_, sr1, sr2, c1, l1, er1, a1, r1, rl1, hr, c2, l2, er2, a2, r2, rl2⟩
    · exfalso
      rw [e03.recCur, e03.recLimit] at hlim
      simp only [tyDepth] at hrec
      omega
    · have wr1 : TW sr1 := w_same _ _ e03.w er1 l1 a1
      obtain ⟨res, sr2', hr1, hr2⟩ := bind_dec (tyParse n) _ sr1 sr2 inner hr
      obtain ⟨rfl, rfl⟩ := pure_dec hr2
      have htr1 : Toks sr1 = cu ++ rb :: (i2 ++ q :: rest) := by unfold Toks; rw [c1, l1]; exact ht3'
      have hsr : Sigf rb := by unfold Sigf; rw [hkr]; rfl
      have hnb : NoBangAfter u' rb := by
        unfold NoBangAfter
        cases u' <;> simp [hkr]
      have hrec' : sr1.recCur + tyDepth u' ≤ sr1.recLimit := by
        rw [r1, rl1, e03.recCur, e03.recLimit]
        simp only [tyDepth] at hrec
        omega
      obtain ⟨hres, ei, hti, hci⟩ := ih sr1 sr2' res u' cu rb _ wr1 hr1 hsu htr1 hsr hnb hrec'
      subst hres
      simp only [] at h6
      have w4 : TW s4 := w_same _ _ ei.w er2 l2 a2
      have ht4 : Toks s4 = rb :: i2 ++ q :: rest := by unfold Toks; rw [c2, l2]; exact hti
      obtain ⟨_, s5, h7, h8⟩ := bind_dec (expect .rBracket "R_BRACK") _ s4 s2 r h6
      replace h8 := pure_dec h8
      obtain ⟨h8, rfl⟩ := h8
      obtain ⟨ee, ht5, _⟩ := expect_match .rBracket "R_BRACK" s4 s5 rb q i2 rest w4 ht4 hkr hi2 hq h7
      refine ⟨h8.symm, lb :: i1 ++ cu ++ rb :: i2, [], ?_, ?_, ?_, ?_⟩
      · simp
      · intro x hx; cases hx
      · -- glue the pieces: s →(lb :: i1) s3 ≈ sr1 →cu sr2' ≈ s4 →(rb :: i2) s5 ≈ s'
        refine ⟨?_, ?_, o2.w ee.w, ?_, ?_, ?_⟩
        · rw [ht, o2.toks, ht5]
        · rw [o2.doomed, ee.doom, doomed_same _ _ er2 l2, ei.doom, doomed_same _ _ er1 l1, e03.doom]
        · rw [o2.accept, ee.accept, a2, ei.accept, a1, e03.accept]
        · rw [o2.recCur, ee.recCur, r2, ei.recCur, r1, e03.recCur]; omega
        · rw [o2.recLimit, ee.recLimit, rl2, ei.recLimit, rl1, e03.recLimit]
      · rw [o2.toks, ht5]; rfl

/-- `ty.rs::parse` on a queue that starts with a type without `!` (`cb`), followed by `pre` = nothing (and then
    no `!`) or `!` and ignored tokens, followed by the significant token `q0` -/
theorem tyParse_comp_step (n : Nat) (ih : TyComp n) (s s' : PState) (r : TyRes) (u : Ast.Ty) (cb pre : List Tok)
    (q0 : Tok) (rest : List Tok) (w : TW s) (h : (tyParse (n + 1)).run s = .ok r s') (hsb : SpellB u cb)
    (ht : Toks s = cb ++ pre ++ q0 :: rest) (hq : Sigf q0) (hrec : s.recCur + tyDepth u ≤ s.recLimit)
    (hpre : (pre = [] ∧ q0.kind ≠ .bang) ∨ (∃ b i, pre = b :: i ∧ b.kind = .bang ∧ Ign i)) :
    r = TyRes.ok ∧ Eat s s' (cb ++ pre) ∧ Toks s' = q0 :: rest ∧ s'.current = some q0 := by
  rw [tyParse_succ] at h
  obtain ⟨r0, sW, hw, h2⟩ := bind_dec _ _ s s' r h
  obtain ⟨s1, s2, s3, c, o1, hb, hc, hrest⟩ := wrapIf_dec _ _ _ _ s sW r0 hw
  have w1 := o1.w w
  -- the first significant token behind `cb`
  obtain ⟨x0, xt, hx, hsx, hxb⟩ : ∃ x0 xt, pre ++ q0 :: rest = x0 :: xt ∧ Sigf x0 ∧ (x0.kind = .bang ↔ pre ≠ []) := by
    rcases hpre with ⟨rfl, hnb⟩ | ⟨b, i, rfl, hkb, _⟩
    · exact ⟨q0, rest, rfl, hq, by simp [hnb]⟩
    · exact ⟨b, i ++ q0 :: rest, by simp, by unfold Sigf; rw [hkb]; rfl, by simp [hkb]⟩
  have ht1 : Toks s1 = cb ++ x0 :: xt := by rw [o1.toks, ht, List.append_assoc, hx]
  obtain ⟨hr0, cb', it, hcb, hit, eb, ht2⟩ := tyBody_comp n ih s1 s2 r0 u cb x0 xt w1 hb hsb ht1 hsx
    (by rw [o1.recCur, o1.recLimit]; exact hrec)
  subst hr0
  -- condition: skip_ignored, peek == `!`
  have hc' : (skipIgnored >>= fun _ => peek >>= fun k => (pure (k == some .bang) : PI Bool)).run s2 = .ok c s3 := hc
  obtain ⟨_, sA, hsA, hc2⟩ := bind_dec skipIgnored _ s2 s3 c hc'
  obtain ⟨eA, htA, _⟩ := skip_exact s2 sA it x0 xt eb.w hsA ht2 hit hsx
  obtain ⟨kk, sP, hpk, hc3⟩ := bind_dec peek _ sA s3 c hc2
  replace hc3 := pure_dec hc3
  obtain ⟨hc3, rfl⟩ := hc3
  obtain ⟨hkk, eP, htP, _⟩ := peek_head sA sP kk x0 xt eA.w htA hpk
  subst hkk
  have e0P : Eat s sP cb := by
    have := (((Eat.ofObsEq o1 w).trans eb).trans eA).trans eP
    simpa [← hcb] using this
  -- the tail after the wrap
  simp only [] at h2
  obtain ⟨_, sF, hf, h3⟩ := bind_dec skipIgnored _ sW s' r h2
  replace h3 := pure_dec h3
  obtain ⟨h3, rfl⟩ := h3
  refine ⟨h3.symm, ?_⟩
  rcases hpre with ⟨rfl, hnb⟩ | ⟨b, i, rfl, hkb, hi⟩
  · -- no `!`
    simp only [List.nil_append, List.cons.injEq] at hx
    obtain ⟨rfl, rfl⟩ := hx
    have hcf : c = false := by rw [← hc3]; simp [hnb]
    rcases hrest with ⟨_, rfl⟩ | ⟨hct, _⟩
    · obtain ⟨eF, htF, hcF⟩ := skip_exact _ sF [] q0 rest eP.w hf (by simpa using htP) (by intro x hx; cases hx) hq
      exact ⟨by simpa using e0P.trans eF, htF, hcF⟩
    · rw [hcf] at hct; cases hct
  · -- `!`
    simp only [List.cons_append, List.cons.injEq] at hx
    obtain ⟨rfl, rfl⟩ := hx
    have hct : c = true := by rw [← hc3]; simp [hkb]
    rcases hrest with ⟨hcf, _⟩ | ⟨_, s4, s5, o4, hi4, o5⟩
    · rw [hct] at hcf; cases hcf
    · have w4 : TW s4 := o4.w eP.w
      obtain ⟨e45, ht5⟩ := eat_head "BANG" s4 s5 b (i ++ q0 :: rest) w4 (by rw [o4.toks]; exact htP) hi4
      have wW : TW sW := o5.w e45.w
      obtain ⟨eF, htF, hcF⟩ := skip_exact sW sF i q0 rest wW hf (by rw [o5.toks]; exact ht5) hi hq
      refine ⟨?_, htF, hcF⟩
      have := ((((e0P.trans (Eat.ofObsEq o4 eP.w)).trans e45).trans (Eat.ofObsEq o5 e45.w)).trans eF)
      simpa using this

theorem tyParse_comp : ∀ (n : Nat), TyComp n
  | 0 => by intro s s' r t c q0 rest _ h; simp [tyParse, PI.outOfFuel] at h
  | n + 1 => by
    intro s s' r t c q0 rest w h hsp ht hq hnb hrec
    cases hsp with
    | base u c hb =>
      have hnb' : q0.kind ≠ .bang := by
        cases hb <;> simpa [NoBangAfter] using hnb
      have := tyParse_comp_step n (tyParse_comp n) s s' r t c [] q0 rest w h hb (by simpa using ht) hq hrec (Or.inl ⟨rfl, hnb'⟩)
      simpa using this
    | bangNamed nm cb b i hb hkb hi =>
      have := tyParse_comp_step n (tyParse_comp n) s s' r (.named nm) cb (b :: i) q0 rest w h hb
        (by simp [ht]) hq (by simpa [tyDepth] using hrec) (Or.inr ⟨b, i, rfl, hkb, hi⟩)
      exact this
    | bangList u cb b i hb hkb hi =>
      have := tyParse_comp_step n (tyParse_comp n) s s' r (.list u) cb (b :: i) q0 rest w h hb
        (by simp [ht]) hq (by simpa [tyDepth] using hrec) (Or.inr ⟨b, i, rfl, hkb, hi⟩)
      exact this

end Apollo.Parse
