import ApolloModel.Proofs.ParserTree28
import ApolloModel.Proofs.AstText5
/-
C08 (pipeline): the reference parser's view of the lexer model's output (`Ast.sigToks (lex none src)`, the text theorems)
is the parser model's view of its token queue (`sig (srcToks src)` through `astOfV`, the acceptance theorems).  Then the
fifteen type-system entries of `DefTrs` as a structure of their own (`TsTrs n Q`), combined with the executable
definitions.
-/
set_option linter.unusedSimpArgs false
set_option linter.unusedVariables false

namespace Apollo.Parse
open Apollo.Rowan hiding Str
open Apollo.Lex hiding Str

theorem sigItem_ign (t : Tok) (h : isIgnoredKind t.kind = true ∨ t.kind = .eof) : Ast.sigItem t.kind t.data = some none := by
  rcases h with h | h
  · cases hk : t.kind <;> simp [hk, isIgnoredKind] at h <;> simp [Ast.sigItem]
  · rw [h]; rfl

theorem sigItem_sig (t : Tok) (hd : t.kind = .stringValue → (Strs.decodeStringToken t.data).isSome = true)
    (h : isIgnoredKind t.kind = false) (he : t.kind ≠ .eof) : Ast.sigItem t.kind t.data = (astOfV t).map some := by
  by_cases hs : t.kind = .stringValue
  · obtain ⟨s, hs'⟩ := Option.isSome_iff_exists.mp (hd hs)
    simp [Ast.sigItem, astOfV, hs, hs']
  · cases hk : t.kind <;> simp [hk, isIgnoredKind] at h he hs <;> simp [Ast.sigItem, Ast.punctOfKind, astOfV, hk]

theorem map_cons_eq_some {α : Type} (o : Option (List α)) (a : α) (X : List α) :
    o.map (a :: ·) = some X ↔ ∃ X', X = a :: X' ∧ o = some X' := by
  cases o with
  | none => simp
  | some l =>
    simp only [Option.map_some, Option.some.injEq]
    constructor
    · intro h; exact ⟨l, h.symm, rfl⟩
    · rintro ⟨X', rfl, h⟩; rw [h]

theorem sigToks_toks_iff : ∀ (q : List Tok), StrQ q → ∀ (X : List Ast.Tok),
    (Ast.sigToks (q.map (fun t => Lex.Item.tok t.kind t.data)) = some X ↔
      (q.filter (fun t => !isIgnoredKind t.kind && t.kind != .eof)).map astOfV = X.map some)
  | [], _, X => by
    simp only [List.map_nil, Ast.sigToks, List.filter_nil, Option.some.injEq]
    constructor
    · intro h; subst h; rfl
    · intro h; cases X with
      | nil => rfl
      | cons a b => cases h
  | t :: q, hstr, X => by
    have ih := sigToks_toks_iff q (fun x hx => hstr x (List.mem_cons_of_mem _ hx))
    by_cases hign : isIgnoredKind t.kind = true ∨ t.kind = .eof
    · have hf : (!isIgnoredKind t.kind && t.kind != .eof) = false := by
        rcases hign with h | h <;> simp [h]
      simp only [List.map_cons, Ast.sigToks, sigItem_ign t hign, List.filter_cons, hf, Bool.false_eq_true, if_false]
      exact ih X
    · have h1 : isIgnoredKind t.kind = false := by
        cases h : isIgnoredKind t.kind with
        | false => rfl
        | true => exact absurd (Or.inl h) hign
      have h2 : t.kind ≠ .eof := fun h => hign (Or.inr h)
      have hf : (!isIgnoredKind t.kind && t.kind != .eof) = true := by simp [h1, h2]
      simp only [List.map_cons, Ast.sigToks, sigItem_sig t (hstr t List.mem_cons_self) h1 h2, List.filter_cons, hf, if_true]
      cases ha : astOfV t with
      | none =>
        simp only [Option.map_none]
        constructor
        · intro h; cases h
        · intro h; cases X <;> simp at h
      | some a =>
        simp only [Option.map_some]
        rw [map_cons_eq_some]
        constructor
        · rintro ⟨X', rfl, h⟩
          simp only [List.map_cons]
          rw [(ih X').mp h]
        · intro h
          cases X with
          | nil => simp at h
          | cons x X' =>
            simp only [List.map_cons, List.cons.injEq, Option.some.injEq] at h
            exact ⟨X', by rw [h.1], (ih X').mpr h.2⟩

theorem sigToks_all_tok : ∀ (l : List Lex.Item) (X : List Ast.Tok), Ast.sigToks l = some X → ∀ it ∈ l, it.isErr = false
  | [], _, _ => by intro it h; cases h
  | .tok k d :: r, X, h => by
    intro it hit
    rcases List.mem_cons.mp hit with rfl | hit
    · rfl
    · simp only [Ast.sigToks] at h
      cases hs : Ast.sigItem k d with
      | none => rw [hs] at h; cases h
      | some o =>
        rw [hs] at h
        cases o with
        | none => exact sigToks_all_tok r X h it hit
        | some a =>
          simp only [] at h
          cases hr : Ast.sigToks r with
          | none => rw [hr] at h; cases h
          | some Y => exact sigToks_all_tok r Y hr it hit
  | .err _ :: r, X, h => by simp [Ast.sigToks] at h
  | .limit :: r, X, h => by simp [Ast.sigToks] at h

theorem items_of_all_tok : ∀ (l : List Lex.Item), (∀ it ∈ l, it.isErr = false) →
    l = (l.filterMap itemKD).map (fun p => Lex.Item.tok p.1 p.2)
  | [], _ => rfl
  | .tok k d :: r, h => by
    simp only [List.filterMap_cons, itemKD, List.map_cons]
    rw [← items_of_all_tok r (fun it hit => h it (List.mem_cons_of_mem _ hit))]
  | .err x :: r, h => by have := h (.err x) List.mem_cons_self; cases this
  | .limit :: r, h => by have := h .limit List.mem_cons_self; cases this

theorem lex_eq_srcToks (src : Str) (h : LexClean src) :
    lex none src = (srcToks src).map (fun t => Lex.Item.tok t.kind t.data) := by
  have h1 := items_of_all_tok (lex none src) ((lexClean_lex src).mp h)
  have h2 := srcToks_lex src
  unfold lexToks at h2
  rw [← h2, List.map_map] at h1
  exact h1

theorem astOfV_not_eof {t : Tok} {a : Ast.Tok} (h : astOfV t = some a) : t.kind ≠ .eof := by
  intro hk
  simp [astOfV, hk] at h

/-- **The token-view bridging lemma.**  The reference parser's reading `Ast.sigToks` of the lexer model's output is `X`
    exactly if the source has no lexer error and the parser model's significant tokens are (as `astOfV`) `X`, followed
    by the EOF token. -/
theorem sigToks_src_iff (src : Str) (X : List Ast.Tok) :
    Ast.sigToks (lex none src) = some X ↔
      LexClean src ∧ ∃ ts e, sig (srcToks src) = ts ++ [e] ∧ e.kind = .eof ∧ TokIs ts X := by
  obtain ⟨pre, e, hp, he, hno⟩ := stream_eof_end src.length (initState src none 0).lx (Nat.le_refl _) rfl rfl
  have hp' : srcToks src = pre ++ [e] := hp
  have hsig : sig (srcToks src) = sig pre ++ [e] := by
    rw [hp', sig_append]
    have : sig [e] = [e] := by simp [sig, isIgnoredKind, he]
    rw [this]
  have hfilter : (srcToks src).filter (fun t => !isIgnoredKind t.kind && t.kind != .eof) = sig pre := by
    rw [hp', List.filter_append]
    have h1 : [e].filter (fun t => !isIgnoredKind t.kind && t.kind != .eof) = [] := by simp [he]
    rw [h1, List.append_nil]
    unfold sig
    apply List.filter_congr
    intro t ht
    have := hno t ht
    simp [this]
  constructor
  · intro h
    have hclean : LexClean src := (lexClean_lex src).mpr (sigToks_all_tok _ X h)
    rw [lex_eq_srcToks src hclean] at h
    have := (sigToks_toks_iff (srcToks src) (strQ_srcToks src) X).mp h
    rw [hfilter] at this
    exact ⟨hclean, sig pre, e, hsig, he, this⟩
  · rintro ⟨hclean, ts, e', h1, h2, h3⟩
    rw [lex_eq_srcToks src hclean]
    apply (sigToks_toks_iff (srcToks src) (strQ_srcToks src) X).mpr
    rw [hfilter]
    have : ts = sig pre := by
      rw [hsig] at h1
      have hl := congrArg List.length h1
      simp at hl
      exact ((List.append_inj h1 (by omega)).1).symm
    rw [← this]
    exact h3

end Apollo.Parse

namespace Apollo.Parse
open Apollo.Rowan hiding Str
open Apollo.Lex hiding Str
open Apollo.FromCst (All2)

theorem tokIs_split {a b : List Tok} {X xa : List Ast.Tok} (h : TokIs (a ++ b) X) (ha : TokIs a xa) :
    ∃ Y, X = xa ++ Y ∧ TokIs b Y := by
  unfold TokIs at h ha
  rw [List.map_append] at h
  obtain ⟨X1, X2, rfl, h1, h2⟩ := List.map_eq_append_iff.mp h.symm
  have : X1 = xa := map_some_inj (h1.trans ha)
  subst this
  exact ⟨X2, rfl, h2.symm⟩

theorem exec_head (oe : Bool) (d : Ast.Definition) (rest : List Ast.Tok) (h : isExecutable d = true) :
    (Ast.tDefinition oe d ++ rest).head?.map tsStart = some false := by
  cases d with
  | operation ty name vars dirs sels =>
    by_cases hsh : Ast.isShorthand oe ty name vars dirs = true
    · simp [Ast.tDefinition, hsh, Ast.tSelSet, tsStart]
    · cases ty <;> simp [Ast.tDefinition, hsh, tsStart, Ast.OpType.name] <;> decide
  | fragment name tc dirs sels => simp [Ast.tDefinition, tsStart]
  | _ => simp [isExecutable] at h

end Apollo.Parse

namespace Apollo.Parse
open Apollo.Rowan hiding Str
open Apollo.Lex hiding Str

/-- the per-definition statements for the type-system definitions and extensions (entry conditions as in `DefTrs`) -/
structure TsTrs (n : Nat) (Q : List Tok → List Elem → Prop) : Prop where
  directive : DefTr Q (fun q => LexQ q ∧ DStart "directive".toList q) (directiveDefinition n)
  enumDef : DefTr Q (fun q => LexQ q ∧ DStart "enum".toList q) (enumTypeDefinition n)
  input : DefTr Q (fun q => LexQ q ∧ DStart "input".toList q) (inputObjectTypeDefinition n)
  interface : DefTr Q (fun q => LexQ q ∧ DStart "interface".toList q) (interfaceTypeDefinition n)
  object : DefTr Q (fun q => LexQ q ∧ DStart "type".toList q) (objectTypeDefinition n)
  scalar : DefTr Q (fun q => LexQ q ∧ DStart "scalar".toList q) (scalarTypeDefinition n)
  schema : DefTr Q (fun q => LexQ q ∧ DStart "schema".toList q) (schemaDefinition n)
  union : DefTr Q (fun q => LexQ q ∧ DStart "union".toList q) (unionTypeDefinition n)
  schemaExt : DefTr Q (fun q => LexQ q ∧ EStart "schema".toList q) (schemaExtension n)
  scalarExt : DefTr Q (fun q => LexQ q ∧ EStart "scalar".toList q) (scalarTypeExtension n)
  objectExt : DefTr Q (fun q => LexQ q ∧ EStart "type".toList q) (objectTypeExtension n)
  interfaceExt : DefTr Q (fun q => LexQ q ∧ EStart "interface".toList q) (interfaceTypeExtension n)
  unionExt : DefTr Q (fun q => LexQ q ∧ EStart "union".toList q) (unionTypeExtension n)
  enumExt : DefTr Q (fun q => LexQ q ∧ EStart "enum".toList q) (enumTypeExtension n)
  inputExt : DefTr Q (fun q => LexQ q ∧ EStart "input".toList q) (inputObjectTypeExtension n)

theorem defTrs_of_ts (n : Nat) (Q : List Tok → List Elem → Prop) (T : TsTrs n Q) :
    DefTrs n (fun cs e => ExecItemR cs e ∨ Q cs e) where
  directive := T.directive.mono (fun _ h => h) (fun _ _ _ h => Or.inr h)
  enumDef := T.enumDef.mono (fun _ h => h) (fun _ _ _ h => Or.inr h)
  fragment := (((tr_fragmentDefinition n).mono (fun _ h => h) (fun _ cs e h => (Or.inl (execItemR_fragment h) : ExecItemR cs e ∨ Q cs e))).or
      (tr_never (acc_fragmentDefinition_desc n))).mono (fun _ h => dstart_fragment h) (fun _ _ _ h => h)
  input := T.input.mono (fun _ h => h) (fun _ _ _ h => Or.inr h)
  interface := T.interface.mono (fun _ h => h) (fun _ _ _ h => Or.inr h)
  object := T.object.mono (fun _ h => h) (fun _ _ _ h => Or.inr h)
  opQuery := (tr_operationDefinition n).mono (fun _ _ => trivial) (fun _ _ _ h => Or.inl h)
  opMutation := (tr_operationDefinition n).mono (fun _ _ => trivial) (fun _ _ _ h => Or.inl h)
  opSubscription := (tr_operationDefinition n).mono (fun _ _ => trivial) (fun _ _ _ h => Or.inl h)
  opShorthand := (tr_operationDefinition n).mono (fun _ _ => trivial) (fun _ _ _ h => Or.inl h)
  scalar := T.scalar.mono (fun _ h => h) (fun _ _ _ h => Or.inr h)
  schema := T.schema.mono (fun _ h => h) (fun _ _ _ h => Or.inr h)
  union := T.union.mono (fun _ h => h) (fun _ _ _ h => Or.inr h)
  schemaExt := T.schemaExt.mono (fun _ h => h) (fun _ _ _ h => Or.inr h)
  scalarExt := T.scalarExt.mono (fun _ h => h) (fun _ _ _ h => Or.inr h)
  objectExt := T.objectExt.mono (fun _ h => h) (fun _ _ _ h => Or.inr h)
  interfaceExt := T.interfaceExt.mono (fun _ h => h) (fun _ _ _ h => Or.inr h)
  unionExt := T.unionExt.mono (fun _ h => h) (fun _ _ _ h => Or.inr h)
  enumExt := T.enumExt.mono (fun _ h => h) (fun _ _ _ h => Or.inr h)
  inputExt := T.inputExt.mono (fun _ h => h) (fun _ _ _ h => Or.inr h)

theorem execItemR_defItemR {cs : List Tok} {e : List Elem} (h : ExecItemR cs e) : DefItemR cs e := by
  obtain ⟨it, ed, a, b, c, d, _⟩ := h
  exact ⟨it, ed, a, b, c, d⟩

/-- **the document theorem with the type system plugged in**: if the type-system definition parsers satisfy `DefItemR`
    whenever they satisfy `Q` (no liberty used), an accepted document all of whose type-system items satisfy that side
    condition converts definition by definition -/
theorem parseDocument_fromCst (Q : List Tok → List Elem → Prop) (T : ∀ n, TsTrs n Q) (rl : Nat) (src : Str) (root : Elem)
    (h : (parse .document none rl src).outcome = .tree root) (herr : (parse .document none rl src).errors = []) :
    LexClean src ∧ ∃ ts e inner, sig (srcToks src) = ts ++ [e] ∧ e.kind = .eof ∧ root = Elem.node "DOCUMENT" inner ∧
      ∃ items : List (List Tok × List Elem), items ≠ [] ∧ ts = (items.map (·.1)).flatten ∧
        sigE inner = (items.map (·.2)).flatten ∧ (∀ i ∈ items, ExecItemR i.1 i.2 ∨ Q i.1 i.2) ∧
        ((∀ i ∈ items, Q i.1 i.2 → DefItemR i.1 i.2) →
          ∃ its : List Ast.Item, its ≠ [] ∧ TokIs ts (Ast.itemsToks its) ∧ (∀ i ∈ its, Ast.wfDefinition i.2 = true) ∧
            (FromCst.fromCst root).1 = its.map (·.2)) := by
  obtain ⟨hclean, ts, e, inner, h1, h2, hroot, items, hne, hts, hsig, hall⟩ :=
    parseDocument_cst (fun n => defTrs_of_ts n Q (T n)) rl src root h herr
  refine ⟨hclean, ts, e, inner, h1, h2, hroot, items, hne, hts, hsig, hall, fun hq => ?_⟩
  exact document_fromCst_of_items root inner ts items hroot hne hts hsig
    (fun i hi => (hall i hi).elim execItemR_defItemR (hq i hi))

end Apollo.Parse
