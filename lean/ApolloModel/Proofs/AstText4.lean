import ApolloModel.Proofs.AstText3
/-
Property C08, text level: `interp` renders a command list to a sequence of segments — token texts and ignored
texts — whose concatenation is the output; the tokens of the segments are `toksOf`; ignored segments consist
of ignored characters when the indentation prefix does; and, for a separated command list, two tokens that
would merge are always separated by a NON-EMPTY ignored segment, in every configuration.
-/
namespace Apollo.Ast

inductive Seg where
  | tok (t : Tok) (text : Str)
  | ign (s : Str)
  deriving Repr

def Seg.text : Seg → Str
  | .tok _ s => s
  | .ign s => s

def Seg.tok? : Seg → Option Tok
  | .tok t _ => some t
  | .ign _ => none

def segsText (segs : List Seg) : Str := segs.flatMap Seg.text
def segsToks (segs : List Seg) : List Tok := segs.filterMap Seg.tok?

/-- what `new_line_common` writes -/
def nlText (pre : Option Str) (level : Nat) (space : Bool) : Str :=
  match pre with
  | some p => '\n' :: Strs.indentStr p level
  | none => if space then [' '] else []

theorem newLineCommon_out (st : St) (space : Bool) :
    (newLineCommon st space).out = st.out ++ nlText st.pre st.level space := by
  unfold newLineCommon nlText
  cases st.pre with
  | some p => rfl
  | none => cases space <;> simp

def segStep (st : St) : Cmd → List Seg
  | .tok t => [.tok t (tokText t)]
  | .str d s => [.tok (.str s) (Strs.serializeStringValue st.pre st.level d s)]
  | .raw s => [.ign s]
  | .indent => [.ign (nlText st.pre (st.level + 1) false)]
  | .indentOrSpace => [.ign (nlText st.pre (st.level + 1) true)]
  | .dedent => [.ign (nlText st.pre (st.level - 1) false)]
  | .dedentOrSpace => [.ign (nlText st.pre (st.level - 1) true)]
  | .newLineOrSpace => [.ign (nlText st.pre st.level true)]
  | .beginSingle | .endSingle => []
  | .rawIfNewlines s => [.ign (if st.pre.isSome then s else [])]

def render : St → List Cmd → List Seg
  | _, [] => []
  | st, c :: cs => segStep st c ++ render (stepCmd st c) cs

theorem stepCmd_out (st : St) (c : Cmd) : (stepCmd st c).out = st.out ++ segsText (segStep st c) := by
  cases c <;> simp [stepCmd, segStep, segsText, Seg.text, newLineCommon_out]
  case endSingle => cases st.saved <;> simp
  case rawIfNewlines s => cases st.pre <;> simp

theorem interp_out (cs : List Cmd) : ∀ st : St, (interp st cs).out = st.out ++ segsText (render st cs) := by
  induction cs with
  | nil => intro st; simp [interp, render, segsText]
  | cons c cs ih =>
    intro st
    have : interp st (c :: cs) = interp (stepCmd st c) cs := by simp [interp]
    rw [this, ih, stepCmd_out]
    simp [render, segsText, List.append_assoc]

theorem render_toks (cs : List Cmd) : ∀ st : St, segsToks (render st cs) = toksOf cs := by
  induction cs with
  | nil => intro st; simp [render, segsToks, toksOf]
  | cons c cs ih =>
    intro st
    have h := ih (stepCmd st c)
    unfold segsToks at h ⊢
    cases c <;> simp only [render, segStep, toksOf, List.cons_append, List.nil_append, List.filterMap_cons, Seg.tok?] <;>
      first | exact h | (rw [h])

/-! ### ignored segments consist of ignored characters -/

def strIgnored (s : Str) : Bool := s.all isIgnoredChar

/-- `P` holds of the indentation prefix in use and of the ones saved by enclosing single-line regions -/
def PrefixAll (P : Str → Prop) (st : St) : Prop :=
  (∀ p, st.pre = some p → P p) ∧ (∀ p, some p ∈ st.saved → P p)

def PrefixIgnored (st : St) : Prop := PrefixAll (fun p => strIgnored p = true) st

theorem indentStr_ignored (p : Str) (n : Nat) (h : strIgnored p = true) : strIgnored (Strs.indentStr p n) = true := by
  unfold Strs.indentStr strIgnored at *
  induction n with
  | zero => simp
  | succ n ih => simp_all [List.replicate_succ]

theorem nlText_ignored (pre : Option Str) (level : Nat) (space : Bool)
    (h : ∀ p, pre = some p → strIgnored p = true) : strIgnored (nlText pre level space) = true := by
  unfold nlText
  cases pre with
  | none => cases space <;> simp [strIgnored, isIgnoredChar]
  | some p =>
    have := indentStr_ignored p level (h p rfl)
    simp_all [strIgnored, isIgnoredChar]

theorem newLineCommon_pre (st : St) (b : Bool) :
    (newLineCommon st b).pre = st.pre ∧ (newLineCommon st b).saved = st.saved := by
  unfold newLineCommon
  split
  · next p hp => simp [hp]
  · split <;> simp

theorem prefixAll_of_eq {P : Str → Prop} {st st' : St} (h : PrefixAll P st) (h1 : st'.pre = st.pre)
    (h2 : st'.saved = st.saved) : PrefixAll P st' := by
  unfold PrefixAll at *
  rw [h1, h2]; exact h

/-- only `beginSingle` / `endSingle` touch the prefixes: one saves the current prefix, the other restores a saved one -/
theorem prefixAll_step {P : Str → Prop} (st : St) (c : Cmd) (h : PrefixAll P st) : PrefixAll P (stepCmd st c) := by
  cases c with
  | indent | indentOrSpace | dedent | dedentOrSpace | newLineOrSpace =>
    exact prefixAll_of_eq h (newLineCommon_pre _ _).1 (newLineCommon_pre _ _).2
  | rawIfNewlines s =>
    simp only [stepCmd]
    split <;> exact h
  | beginSingle =>
    obtain ⟨h1, h2⟩ := h
    refine ⟨by simp [stepCmd], ?_⟩
    intro p hp
    simp only [stepCmd, List.mem_cons] at hp
    rcases hp with hp | hp
    · exact h1 p hp.symm
    · exact h2 p hp
  | endSingle =>
    obtain ⟨h1, h2⟩ := h
    simp only [stepCmd]
    cases hs : st.saved with
    | nil => exact ⟨h1, h2⟩
    | cons q rest =>
      refine ⟨?_, ?_⟩
      · intro p hp; exact h2 p (by rw [hs]; simp only at hp; rw [← hp]; simp)
      · intro p hp; exact h2 p (by rw [hs]; exact List.mem_cons_of_mem _ hp)
  | _ => exact h

theorem segStep_ignored (st : St) (c : Cmd) (s0 : Option Cls) (hp : PrefixIgnored st)
    (hc : (sepStep s0 c).isSome = true) : ∀ s, Seg.ign s ∈ segStep st c → strIgnored s = true := by
  intro s hs
  cases c <;> simp only [segStep, List.mem_cons, List.not_mem_nil, Seg.ign.injEq, or_false, reduceCtorEq] at hs
  case raw r =>
    subst hs
    simp only [sepStep] at hc
    split at hc
    · next he => simp_all [strIgnored]
    · split at hc
      · next ha => exact ha
      · simp at hc
  case rawIfNewlines r =>
    subst hs
    simp only [sepStep] at hc
    split at hc
    · next ha => split <;> simp_all [strIgnored]
    · simp at hc
  all_goals (subst hs; exact nlText_ignored _ _ _ hp.1)

theorem render_ignored (cs : List Cmd) : ∀ (st : St) (s0 : Option Cls), PrefixIgnored st → Ok s0 cs →
    ∀ s, Seg.ign s ∈ render st cs → strIgnored s = true := by
  induction cs with
  | nil => intro st s0 _ _ s hs; simp [render] at hs
  | cons c cs ih =>
    intro st s0 hp hok s hs
    simp only [render, List.mem_append] at hs
    unfold Ok at hok
    simp only [scan] at hok
    cases hstep : sepStep s0 c with
    | none => simp [hstep] at hok
    | some e =>
      rcases hs with hs | hs
      · exact segStep_ignored st c s0 hp (by simp [hstep]) s hs
      · exact ih (stepCmd st c) e (prefixAll_step st c hp) (by simpa [hstep, Ok] using hok) s hs

/-! ### separation survives rendering -/

def segSepStep (st : Option Cls) : Seg → Option (Option Cls)
  | .tok t _ => if conflictO st (clsTok t) then none else some (some (clsTok t))
  | .ign s => if s.isEmpty then some st else some none

def segScan : Option Cls → List Seg → Option (Option Cls)
  | st, [] => some st
  | st, g :: gs => (segSepStep st g).bind (fun e => segScan e gs)

def Safer (a b : Option Cls) : Prop := a = none ∨ a = b

theorem conflictO_safer {a b : Option Cls} (h : Safer a b) (c : Cls) (hb : conflictO b c = false) : conflictO a c = false := by
  rcases h with h | h <;> subst h
  · rfl
  · exact hb

theorem segScan_append (st : Option Cls) (a b : List Seg) :
    segScan st (a ++ b) = (segScan st a).bind (fun e => segScan e b) := by
  induction a generalizing st with
  | nil => simp [segScan]
  | cons c cs ih =>
    simp only [List.cons_append, segScan]
    cases segSepStep st c with
    | none => simp
    | some e => simp [ih]

theorem nlText_space_ne_nil (pre : Option Str) (level : Nat) : nlText pre level true ≠ [] := by
  unfold nlText; cases pre <;> simp

theorem segScan_ign (s : Option Cls) (x : Str) : segScan s [.ign x] = some (if x.isEmpty then s else none) := by
  simp only [segScan, segSepStep]
  split <;> rfl

theorem segScan_ign_safer {s s' : Option Cls} (x : Str) (hs : Safer s' s) :
    ∃ e', segScan s' [.ign x] = some e' ∧ Safer e' s := by
  refine ⟨_, segScan_ign s' x, ?_⟩
  split
  · exact hs
  · exact .inl rfl

theorem segStep_safer (st : St) (c : Cmd) (s s' e : Option Cls) (hs : Safer s' s) (hc : sepStep s c = some e) :
    ∃ e', segScan s' (segStep st c) = some e' ∧ Safer e' e := by
  cases c with
  | tok t =>
    simp only [sepStep] at hc
    split at hc
    · simp at hc
    · next hcf =>
      simp only [Option.some.injEq] at hc
      have := conflictO_safer hs _ (by simpa using hcf)
      exact ⟨some (clsTok t), by simp [segStep, segScan, segSepStep, this], .inr hc⟩
  | str d x =>
    simp only [sepStep] at hc
    split at hc
    · simp at hc
    · next hcf =>
      simp only [Option.some.injEq] at hc
      have := conflictO_safer hs _ (by simpa using hcf)
      exact ⟨some .str, by simp [segStep, segScan, segSepStep, clsTok, this], .inr hc⟩
  | raw r =>
    simp only [sepStep] at hc
    split at hc
    · cases hc
      exact segScan_ign_safer r hs
    · next he =>
      split at hc
      · cases hc
        exact ⟨none, by simp [segStep, segScan_ign, he], .inl rfl⟩
      · simp at hc
  | indentOrSpace | dedentOrSpace | newLineOrSpace =>
    cases hc
    exact ⟨none, by simp [segStep, segScan_ign, nlText_space_ne_nil], .inl rfl⟩
  | indent | dedent =>
    cases hc
    exact segScan_ign_safer _ hs
  | beginSingle | endSingle =>
    cases hc
    exact ⟨s', rfl, hs⟩
  | rawIfNewlines r =>
    simp only [sepStep] at hc
    split at hc
    · cases hc
      exact segScan_ign_safer _ hs
    · simp at hc

/-- **Separation survives rendering**: if `scan` accepts the commands then, in every configuration and from
    every state, the rendered segments never put a token directly (or across empty ignored segments only)
    after a token it would merge with. -/
theorem render_separated (cs : List Cmd) : ∀ (st : St) (s s' e : Option Cls), Safer s' s → scan s cs = some e →
    ∃ e', segScan s' (render st cs) = some e' ∧ Safer e' e := by
  induction cs with
  | nil =>
    intro st s s' e hs h
    simp only [scan, Option.some.injEq] at h
    subst h
    exact ⟨s', by simp [render, segScan], hs⟩
  | cons c cs ih =>
    intro st s s' e hs h
    simp only [scan] at h
    cases hstep : sepStep s c with
    | none => simp [hstep] at h
    | some e1 =>
      simp only [hstep, Option.bind_some] at h
      obtain ⟨e1', h1, hs1⟩ := segStep_safer st c s s' e1 hs hstep
      obtain ⟨e', h2, hs2⟩ := ih (stepCmd st c) e1 e1' e hs1 h
      exact ⟨e', by simp [render, segScan_append, h1, h2], hs2⟩

end Apollo.Ast
