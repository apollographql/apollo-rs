import ApolloModel.Proofs.ParserValue8
/-
`directive.rs` — `directive` and `directives` (applications), with the recursion budget and without.
-/
set_option linter.unusedSimpArgs false
namespace Apollo.Parse
open Apollo.Rowan hiding Str
open Apollo.Lex hiding Str

namespace Exact

def dirsFit (c : Bool) (b : Nat) (ds : List Ast.Directive) : Prop := ∀ d ∈ ds, argsFit c b d.args

/-- one directive application `@ Name Arguments?` -/
def QDir (c : Bool) (B : Nat) (x : List Ast.Tok) : Prop :=
  ∃ d : Ast.Directive, x = .p .at :: .name d.name :: Ast.tArguments d.args ∧ argsFit c B d.args

theorem directive_sound (n : Nat) (c : Bool) (B : Nat) : ItemSpecB B (fun _ => False) .at (directive n c) (QDir c B) := by
  intro s s' t rest w he hB ht hk h hnd
  have hni : isIgnoredKind t.kind = false := by rw [hk]; rfl
  have hne : t.kind ≠ .eof := by rw [hk]; decide
  rw [directive_eq] at h
  obtain ⟨s1, s2, e1, h1, o2, ht1, he1, hnd2⟩ := withNode_entered _ _ s s' () t rest w he ht hni h hnd
  obtain ⟨_, s3, h3, h4⟩ := bind_dec (expect .at "AT") _ s1 s2 () h1
  have gtail : ∀ k, Good (directiveTail n c k) := fun k => good_ite _ _ _ (good_arguments n c) (good_pure _)
  have grest : Good (name >>= fun _ => peek >>= directiveTail n c) :=
    good_bind _ _ good_name (fun _ => good_bind _ _ good_peek gtail)
  obtain ⟨a3, hex⟩ := expect_spec .at "AT" s1 s3 e1.w h3
  have hnd3 : ¬ Doomed s3 := fun d => hnd2 ((grest s3 () s2 a3.w h4).doom d)
  rcases hex with ⟨hemp, _⟩ | hd | ⟨t', rest', ign1, hq, _, ea, hall1, _⟩
  · rw [ht1] at hemp; cases hemp
  · exact absurd hd hnd3
  · rw [ht1] at hq
    injection hq with hq _
    subst hq
    have he3 : EofEnd s3 := eofEnd_eat he1 ea (noEof_cons hne hall1)
    obtain ⟨_, s4, h5, h6⟩ := bind_dec name _ s3 s2 () h4
    have a4 := good_name s3 () s4 ea.w h5
    have hnd4 : ¬ Doomed s4 := fun d => hnd2 ((good_bind _ _ good_peek gtail s4 () s2 a4.w h6).doom d)
    obtain ⟨tn, restn, ign2, hqn, hkn, en, hall2⟩ := name_spec s3 s4 ea.w (eofEnd_nonempty s3 he3 hnd3) h5 hnd4
    have hnin : isIgnoredKind tn.kind = false := by rw [hkn]; rfl
    have hnen : tn.kind ≠ .eof := by rw [hkn]; decide
    have he4 : EofEnd s4 := eofEnd_eat he3 en (noEof_cons hnen hall2)
    obtain ⟨ko, sP, hp, h7⟩ := bind_dec peek _ s4 s2 () h6
    obtain ⟨o, p, hko⟩ := peek_obs s4 sP ko en.w hp
    subst hko
    have heP : EofEnd sP := eofEnd_eat he4 p.eat (by intro x hx; cases hx)
    have e1P : Eat s sP ((t :: ign1) ++ (tn :: ign2)) := by simpa using ((e1.trans ea).trans en).trans p.eat
    have hnoP : NoEof ((t :: ign1) ++ (tn :: ign2)) := noEof_append (noEof_cons hne hall1) (noEof_cons hnen hall2)
    have hsigP : TokIs (sig ((t :: ign1) ++ (tn :: ign2))) [.p .at, .name tn.data] := by
      rw [sig_append, sig_cons_ignV t ign1 hni hall1, sig_cons_ignV tn ign2 hnin hall2]
      exact TokIs.cons (by simp [astOfV, hk]) (TokIs.single tn _ (by simp [astOfV, hkn]))
    unfold directiveTail at h7
    by_cases hkp : (o.map (·.kind) == some Kind.lParen) = true
    · simp only [hkp, if_true] at h7
      obtain ⟨tp, hop, hkpp⟩ := peeked_kind (eq_of_beq hkp)
      subst hop
      have htP : Toks sP = tp :: (Toks sP).tail := by
        have := p.head; rw [← p.toks] at this; exact toks_head_cons sP tp this.symm
      obtain ⟨ca, args, hca, hnoa, hea, _, hta, hoka⟩ := arguments_sound n c sP s2 tp _ p.w heP htP hkpp h7 hnd2
      refine ⟨(t :: ign1) ++ (tn :: ign2) ++ ca, ?_, noEof_append hnoP hnoa,
        eofEnd_same _ _ hea o2.current o2.lx o2.errors, Or.inl ⟨_, ?_, ⟨⟨tn.data, args⟩, rfl, by rw [← hB, ← bud_eat e1P]; exact hoka⟩⟩⟩
      · rw [e1P.toks, hca, o2.toks]; simp [List.append_assoc]
      · rw [sig_append]
        simpa using hsigP.append hta
    · simp only [hkp, Bool.false_eq_true, if_false] at h7
      rw [run_pure] at h7
      injection h7 with _ h7
      subst h7
      refine ⟨(t :: ign1) ++ (tn :: ign2), ?_, hnoP, eofEnd_same _ _ heP o2.current o2.lx o2.errors,
        Or.inl ⟨_, ?_, ⟨⟨tn.data, []⟩, rfl, by intro a ha; cases ha⟩⟩⟩
      · rw [e1P.toks, o2.toks]
      · simpa [Ast.tArguments] using hsigP

theorem dirs_of_items (c : Bool) (B : Nat) : ∀ (items : List (List Ast.Tok)), (∀ x ∈ items, QDir c B x) →
    ∃ ds : List Ast.Directive, items.flatten = Ast.tDirectives ds ∧ dirsFit c B ds
  | [], _ => ⟨[], rfl, (by intro d hd; cases hd)⟩
  | x :: items, h => by
    obtain ⟨d, hx, hd⟩ := h x (by simp)
    obtain ⟨ds, hds, hok⟩ := dirs_of_items c B items (fun y hy => h y (by simp [hy]))
    refine ⟨d :: ds, ?_, ?_⟩
    · simp [List.flatten_cons, hx, hds, Ast.tDirectives]
    · intro d' hd'
      rcases List.mem_cons.mp hd' with rfl | hd'
      · exact hd
      · exact hok d' hd'

/-- **`directive.rs::directives`**: from any state, an error-free run consumes exactly the tokens of a
    (possibly empty) list of directive applications -/
theorem directives_sound (n : Nat) (c : Bool) (s s' : PState) (w : TW s) (he : EofEnd s)
    (h : (directives n c).run s = .ok () s') (hnd : ¬ Doomed s') :
    ∃ cs ds, Toks s = cs ++ Toks s' ∧ NoEof cs ∧ EofEnd s' ∧ TokIs (sig cs) (Ast.tDirectives ds) ∧
      dirsFit c (bud s) ds := by
  unfold directives at h
  obtain ⟨s0, s2, o0, hr, o2⟩ := withNode_dec _ _ s s' () h
  obtain ⟨_, s1, hs, hb⟩ := bind_dec skipIgnored _ s0 s2 () hr
  obtain ⟨ign, e, hall, _⟩ := skipIgnored_spec s0 s1 (o0.w w) hs
  have e01 : Eat s s1 ign := by simpa using (Eat.ofObsEq o0 w).trans e
  have he1 : EofEnd s1 := eofEnd_eat he e01 (noEof_ignored ign hall)
  have hnd2 : ¬ Doomed s2 := fun d => hnd (o2.doomed.mpr d)
  obtain ⟨cs, hcs, hno, he2, hr2⟩ := peekWhileKind_sound (bud s) (fun _ => False) carries_false .at (directive n c) (QDir c (bud s))
    (good_directive n c) (directive_sound n c (bud s)) s1 s2 e01.w he1 (bud_eat e01) hb hnd2
  rcases hr2 with ⟨items, hi, hall2⟩ | hf
  · obtain ⟨ds, hds, hok⟩ := dirs_of_items c (bud s) items hall2
    refine ⟨ign ++ cs, ds, ?_, noEof_append (noEof_ignored ign hall) hno, eofEnd_same _ _ he2 o2.current o2.lx o2.errors, ?_, hok⟩
    · rw [e01.toks, hcs, o2.toks, List.append_assoc]
    · rw [sig_append, sig_ignored ign hall, List.nil_append, ← hds]; exact hi
  · exact absurd hf id

end Exact

theorem directives_sound (n : Nat) (c : Bool) (s s' : PState) (w : TW s) (he : EofEnd s)
    (h : (directives n c).run s = .ok () s') (hnd : ¬ Doomed s') :
    ∃ cs ds, Toks s = cs ++ Toks s' ∧ NoEof cs ∧ EofEnd s' ∧ TokIs (sig cs) (Ast.tDirectives ds) ∧
      ∀ d ∈ ds, argsOk c d.args := by
  obtain ⟨cs, ds, h1, h2, h3, h4, h5⟩ := Exact.directives_sound n c s s' w he h hnd
  exact ⟨cs, ds, h1, h2, h3, h4, fun d hd a ha => (h5 d hd a ha).1⟩

end Apollo.Parse
