import ApolloModel.Proofs.IntrospectionFull2
/-
C24: `__InputValue.defaultValue` — the literal as written (the code) against the printed coerced value
(the reference): equal on defaults written in canonical form; and the whole response with the
reference's reading on schemas all of whose defaults are canonical.
-/
set_option linter.unusedSimpArgs false
set_option linter.unusedVariables false

namespace Apollo.Spec.Introspection
open Apollo Apollo.Exec Apollo.Introspection Apollo.Spec

mutual
theorem Value.eqb_sound : ∀ (a b : Value), Value.eqb a b = true → a = b
  | .null, b, h => by cases b <;> simp [Value.eqb] at h ⊢
  | .bool x, b, h => by cases b <;> simp [Value.eqb] at h ⊢ <;> exact h
  | .int x, b, h => by cases b <;> simp [Value.eqb] at h ⊢ <;> exact h
  | .float x, b, h => by cases b <;> simp [Value.eqb] at h ⊢ <;> exact h
  | .str x, b, h => by cases b <;> simp [Value.eqb] at h ⊢ <;> exact h
  | .enum x, b, h => by cases b <;> simp [Value.eqb] at h ⊢ <;> exact h
  | .list xs, b, h => by
    cases b <;> simp [Value.eqb] at h ⊢
    exact Value.eqbList_sound xs _ h
  | .obj xs, b, h => by
    cases b <;> simp [Value.eqb] at h ⊢
    exact Value.eqbFields_sound xs _ h
theorem Value.eqbList_sound : ∀ (a b : List Value), Value.eqbList a b = true → a = b
  | [], [], _ => rfl
  | [], _ :: _, h => by simp [Value.eqbList] at h
  | _ :: _, [], h => by simp [Value.eqbList] at h
  | a :: as, b :: bs, h => by
    simp only [Value.eqbList, Bool.and_eq_true] at h
    rw [Value.eqb_sound a b h.1, Value.eqbList_sound as bs h.2]
theorem Value.eqbFields_sound : ∀ (a b : List (String × Value)), Value.eqbFields a b = true → a = b
  | [], [], _ => rfl
  | [], _ :: _, h => by simp [Value.eqbFields] at h
  | _ :: _, [], h => by simp [Value.eqbFields] at h
  | (k, a) :: as, (l, b) :: bs, h => by
    simp only [Value.eqbFields, Bool.and_eq_true, beq_iff_eq] at h
    rw [h.1.1, Value.eqb_sound a b h.1.2, Value.eqbFields_sound as bs h.2]
end

theorem refPrintString_eq (s : String) (h : (s.toList.all fun c => refEscapeChar c == escapeChar c) = true) :
    refPrintString s = printString s := by
  unfold refPrintString printString
  congr 3
  apply List.map_congr_left
  intro c hc
  have := List.all_eq_true.mp h c hc
  simpa using this

mutual
theorem refPrint_eq : ∀ (v : Value), stringsAgree v = true → refPrint v = printValue v
  | .null, _ => rfl
  | .bool true, _ => rfl
  | .bool false, _ => rfl
  | .int _, _ => rfl
  | .float _, _ => rfl
  | .enum _, _ => rfl
  | .str s, h => by simp only [refPrint, printValue]; exact refPrintString_eq s h
  | .list xs, h => by simp only [refPrint, printValue]; rw [refPrints_eq xs h]
  | .obj kvs, h => by simp only [refPrint, printValue]; rw [refPrintFields_eq kvs h]
theorem refPrints_eq : ∀ (xs : List Value), stringsAgreeList xs = true → refPrints xs = printValues xs
  | [], _ => rfl
  | x :: xs, h => by
    simp only [stringsAgreeList, Bool.and_eq_true] at h
    simp only [refPrints, printValues]
    rw [refPrint_eq x h.1, refPrints_eq xs h.2]
theorem refPrintFields_eq : ∀ (kvs : List (String × Value)), stringsAgreeFields kvs = true → refPrintFields kvs = printFields kvs
  | [], _ => rfl
  | (k, v) :: rest, h => by
    simp only [stringsAgreeFields, Bool.and_eq_true] at h
    simp only [refPrintFields, printFields]
    rw [refPrint_eq v h.1, refPrintFields_eq rest h.2]
end

/-- `defaultValue`, the known finding made exact: the code prints the default literal AS WRITTEN, the
    reference prints the COERCED value; the two are the same string whenever the default is already
    written in canonical form. -/
theorem default_value_canonical (fmtFloat : String → String) (fuel : Nat) (s : ISchema) (v : IInputValue)
    (h : canonicalDefault fmtFloat fuel s v = true) : asWritten s v = printedCoerced fmtFloat fuel s v := by
  unfold canonicalDefault at h
  unfold asWritten printedCoerced
  cases hd : v.default with
  | none => rfl
  | some d =>
    rw [hd] at h
    simp only [Bool.and_eq_true] at h
    simp only [Option.map]
    rw [Value.eqb_sound _ _ h.1, refPrint_eq d h.2]

end Apollo.Spec.Introspection

namespace Apollo.Introspection
open Apollo Apollo.Exec Apollo.Spec Apollo.Spec.Introspection

/-- every input value of the schema: arguments of fields and directives, input fields -/
def allInputValues (s : ISchema) : List IInputValue :=
  (s.types.flatMap fun t =>
    match t.kind with
    | .object _ fs | .interface _ fs => fs.flatMap (·.args)
    | .inputObject fs => fs
    | _ => []) ++ s.directives.flatMap (·.args)

def defaultsCanonical (fmtFloat : String → String) (fuel : Nat) (s : ISchema) : Bool :=
  (allInputValues s).all (canonicalDefault fmtFloat fuel s)

/-- the input values a resolver object can hand out satisfy `c` -/
def Canon (c : IInputValue → Bool) : IObj → Prop
  | .inputValue d => c d = true
  | .field d => ∀ a ∈ d.args, c a = true
  | .directive d => ∀ a ∈ d.args, c a = true
  | _ => True

section
variable {ι : Type}
mutual
theorem allObj_and (P Q : ι → Prop) : ∀ rv : RVg ι, AllObj P rv → AllObj Q rv → AllObj (fun o => P o ∧ Q o) rv
  | .leaf _, _, _ => by simp [AllObj]
  | .error, _, _ => by simp [AllObj]
  | .skip, _, _ => by simp [AllObj]
  | .object _ o, h1, h2 => by simp only [AllObj] at h1 h2 ⊢; exact ⟨h1, h2⟩
  | .list xs, h1, h2 => by simp only [AllObj] at h1 h2 ⊢; exact allObjs_and P Q xs h1 h2
theorem allObjs_and (P Q : ι → Prop) : ∀ xs : List (RVg ι), AllObjs P xs → AllObjs Q xs → AllObjs (fun o => P o ∧ Q o) xs
  | [], _, _ => by simp [AllObjs]
  | x :: xs, h1, h2 => by
    simp only [AllObjs] at h1 h2 ⊢
    exact ⟨allObj_and P Q x h1.1 h2.1, allObjs_and P Q xs h1.2 h2.2⟩
end
end

theorem mem_of_typeDef? (s : ISchema) (d : ITypeDef) (h : s.typeDef? d.name = some d) : d ∈ s.types :=
  List.mem_of_find?_eq_some h

theorem canon_typeDefRV (s : ISchema) (c : IInputValue → Bool) (n : String) : AllObj (Canon c) (typeDefRV s n) := by
  unfold typeDefRV; cases s.typeDef? n <;> simp [AllObj, Canon]
theorem canon_typeDefOptRV (s : ISchema) (c : IInputValue → Bool) (o : Option String) : AllObj (Canon c) (typeDefOptRV s o) := by
  cases o <;> simp [typeDefOptRV, AllObj, canon_typeDefRV]
theorem canon_tyRV (s : ISchema) (c : IInputValue → Bool) (t : Ty) : AllObj (Canon c) (tyRV s t) := by
  cases t <;> simp [tyRV, AllObj, Canon, canon_typeDefRV]
theorem canon_typesRV (s : ISchema) (c : IInputValue → Bool) (ns : List String) : AllObj (Canon c) (typesRV s ns) := by
  unfold typesRV
  simp only [AllObj, allObjs_iff]
  intro x hx
  obtain ⟨n, _, hn⟩ := List.mem_filterMap.mp hx
  cases h : s.typeDef? n <;> simp [h] at hn
  subst hn; simp [AllObj, Canon]

theorem resolve_canon (s : ISchema) (c : IInputValue → Bool) (hall : ∀ v ∈ allInputValues s, c v = true)
    (o : IObj) (ho : ObjOk s o) (hc : Canon c o) (f : String) (args : AList Json) (rv : IRV)
    (h : resolveI s o f args = some rv) : AllObj (Canon c) rv := by
  have hdir : ∀ d ∈ s.directives, ∀ a ∈ d.args, c a = true := by
    intro d hd a ha
    apply hall
    simp only [allInputValues, List.mem_append, List.mem_flatMap]
    exact Or.inr ⟨d, hd, ha⟩
  have hfield : ∀ t ∈ s.types, ∀ is fs, (t.kind = .object is fs ∨ t.kind = .interface is fs) → ∀ x ∈ fs, ∀ a ∈ x.args, c a = true := by
    intro t ht is fs hk x hx a ha
    apply hall
    simp only [allInputValues, List.mem_append, List.mem_flatMap]
    refine Or.inl ⟨t, ht, ?_⟩
    rcases hk with hk | hk <;> (rw [hk]; simp only [List.mem_flatMap]; exact ⟨x, hx, ha⟩)
  have hinput : ∀ t ∈ s.types, ∀ fs, t.kind = .inputObject fs → ∀ a ∈ fs, c a = true := by
    intro t ht fs hk a ha
    apply hall
    simp only [allInputValues, List.mem_append, List.mem_flatMap]
    refine Or.inl ⟨t, ht, ?_⟩
    rw [hk]; exact ha
  revert rv
  cases o <;> unfold resolveI <;> (repeat' refine ite_forall_some ?_ ?_) <;> (try split) <;> rintro _ ⟨⟩
  all_goals simp [Canon, inputValuesRV, canon_typeDefRV, canon_typeDefOptRV, canon_tyRV, canon_typesRV]
  -- left: the answers that hold input values — `directives`; `fields` and `inputFields` of a type; `args`
  all_goals first
    | exact hdir
    | exact fun x hx _ => hfield _ (mem_of_typeDef? s _ ho) _ _ (Or.inl ‹_›) x hx
    | exact fun x hx _ => hfield _ (mem_of_typeDef? s _ ho) _ _ (Or.inr ‹_›) x hx
    | exact fun x hx _ => hinput _ (mem_of_typeDef? s _ ho) _ ‹_› x hx
    | exact fun x hx _ => hc x hx

/-- on objects whose input values are canonical the two readings of `defaultValue` give the same field values -/
theorem specField_canonical (fmtFloat : String → String) (dfuel : Nat) (s : ISchema) (o : IObj)
    (hc : Canon (canonicalDefault fmtFloat dfuel s) o) (f : String) (args : AList Json) :
    specField asWritten s (toSpec o) f args = specField (printedCoerced fmtFloat dfuel) s (toSpec o) f args := by
  cases o with
  | inputValue d =>
    simp only [toSpec, specField]
    rw [default_value_canonical fmtFloat dfuel s d hc]
  | typeRef t => cases t <;> simp only [toSpec, embed, specField]
  | _ => simp only [toSpec, specField]

/-- THE WHOLE RESPONSE WITH THE REFERENCE'S `defaultValue` (the printed coerced value): on every schema
    all of whose default values are written in canonical form, the modelled `partial_execute` returns
    exactly the specified response, for every introspection query. -/
theorem partialExecute_eq_spec_canonical (fmtFloat : String → String) (dfuel : Nat) (s : ISchema)
    (hu : typeNamesDistinct s = true) (hdep : deprecatedIsBuiltin s = true)
    (hcan : defaultsCanonical fmtFloat dfuel s = true)
    (fuel cfuel : Nat) (frags : AList Frag) (vars : AList Json) (sels : List Sel) :
    partialExecute fuel cfuel s frags vars sels =
      specResponse (printedCoerced fmtFloat dfuel) fuel cfuel s frags vars sels := by
  have hall : ∀ v ∈ allInputValues s, canonicalDefault fmtFloat dfuel s v = true := by
    simpa [defaultsCanonical] using hcan
  unfold partialExecute specResponse
  exact (executeG_map toSpec (fun o => ObjOk s o ∧ Canon (canonicalDefault fmtFloat dfuel s) o) (resolveI s)
    (specField (printedCoerced fmtFloat dfuel) s)
    (fun o f a ho => by rw [resolve_spec s hdep o ho.1 f a]; exact specField_canonical fmtFloat dfuel s o ho.2 f a)
    (fun o f a rv ho h => allObj_and _ _ rv (resolve_ok s hu o f a rv h) (resolve_canon s _ hall o ho.1 ho.2 f a rv h))
    fuel _ .root ⟨trivial, trivial⟩ sels).symm

end Apollo.Introspection
