import ApolloModel.Proofs.Lexer
namespace Apollo.Lex

theorem lexAux_limit (l : Nat) : ∀ (fuel count : Nat) (src : Str), src.length < fuel → count ≤ l →
    lexAux fuel (some l) count src =
      if (lexAux fuel none count src).length ≤ l - count then lexAux fuel none count src
      else (lexAux fuel none count src).take (l - count) ++ [.limit]
  | 0, _, _, h, _ => by omega
  | fuel + 1, count, [], _, hc => by
    by_cases h : count + 1 > l
    · have : l - count = 0 := by omega
      simp [lexAux, h, this]
    · have : 1 ≤ l - count := by omega
      simp [lexAux, h, this]
  | fuel + 1, count, c :: rest, h, hc => by
    have hp := advance_progress c rest
    by_cases hl : count + 1 > l
    · have : l - count = 0 := by omega
      simp [lexAux, hl, this]
    · have ih := lexAux_limit l fuel (count + 1) (advance (c :: rest)).2
        (by simp only [List.length_cons] at h hp; omega) (by omega)
      have e : l - count = (l - (count + 1)) + 1 := by omega
      simp only [lexAux, hl, decide_false, Bool.false_eq_true, if_false, ih, e, List.length_cons,
        Nat.add_le_add_iff_right, List.take_succ_cons]
      split <;> simp

/-- C04: with a token limit `n` the lexer yields the first `n` items of the unlimited stream followed by
    one limit error iff that stream is longer than `n`; otherwise exactly the unlimited stream. -/
theorem token_limit_exact (n : Nat) (src : Str) :
    lex (some n) src =
      if (lex none src).length ≤ n then lex none src else (lex none src).take n ++ [.limit] := by
  have h := lexAux_limit n (src.length + 1) 0 src (by omega) (by omega)
  simp only [Nat.sub_zero] at h
  unfold lex
  rw [h]

end Apollo.Lex
