import ApolloModel.Proofs.ParserValue2
/-
C05, values: token-level specifications of the small productions.
-/
set_option linter.unusedSimpArgs false
namespace Apollo.Parse
open Apollo.Rowan hiding Str
open Apollo.Lex hiding Str

def AtEof (s : PState) : Prop := ∃ e, (Toks s).head? = some e ∧ e.kind = .eof

theorem atEof_single (s : PState) (he : EofEnd s) (hnd : ¬ Doomed s) (ha : AtEof s) : ∃ e, Toks s = [e] ∧ e.kind = .eof := by
  obtain ⟨e, hh, hk⟩ := ha
  rcases he with d | ⟨pre, x, hq, hx, hno⟩
  · exact absurd d hnd
  · cases pre with
    | nil => exact ⟨x, hq, hx⟩
    | cons y pre =>
      exfalso
      rw [hq] at hh
      simp only [List.cons_append, List.head?_cons, Option.some.injEq] at hh
      subst hh
      exact hno y (by simp) hk

theorem toks_head_cons (s : PState) (t : Tok) (h : (Toks s).head? = some t) : Toks s = t :: (Toks s).tail := by
  cases hq : Toks s with
  | nil => rw [hq] at h; cases h
  | cons a b => rw [hq] at h; injection h with h; subst h; rfl

theorem noEof_cons {t : Tok} {ign : List Tok} (ht : t.kind ≠ .eof) (hall : ∀ x ∈ ign, isIgnoredKind x.kind = true) :
    NoEof (t :: ign) := by
  intro x hx
  rcases List.mem_cons.mp hx with rfl | hx
  · exact ht
  · exact noEof_ignored ign hall x hx

theorem sig_cons_ignV (t : Tok) (ign : List Tok) (hni : isIgnoredKind t.kind = false)
    (hall : ∀ x ∈ ign, isIgnoredKind x.kind = true) : sig (t :: ign) = [t] := by
  have : t :: ign = [t] ++ ign := rfl
  rw [this, sig_append, sig_single t hni, sig_ignored ign hall]; rfl

theorem bump_spec (k : SK) (s s' : PState) (w : TW s) (t : Tok) (rest : List Tok) (ht : Toks s = t :: rest)
    (h : (bump k).run s = .ok () s') :
    ∃ ign, Eat s s' (t :: ign) ∧ (∀ x ∈ ign, isIgnoredKind x.kind = true) ∧ Settled s' := by
  unfold bump at h
  obtain ⟨_, s1, h1, h2⟩ := bind_dec (eat k) _ s s' () h
  have e1 : Eat s s1 [t] := by
    rcases eat_spec k s s1 w h1 with ⟨t', rest', hq, e, _⟩ | ⟨hq, _⟩
    · rw [ht] at hq; injection hq with hq _; subst hq; exact e
    · rw [ht] at hq; cases hq
  obtain ⟨ign, e2, hall, hset⟩ := skipIgnored_spec s1 s' e1.w h2
  exact ⟨ign, by simpa using e1.trans e2, hall, hset⟩

/-- a one-token node: `let _g = p.start_node(K); p.bump(k)` on a significant head -/
theorem nodeBump_spec (K k : SK) (s s' : PState) (w : TW s) (t : Tok) (rest : List Tok) (ht : Toks s = t :: rest)
    (hni : isIgnoredKind t.kind = false) (h : (withNode K (bump k)).run s = .ok () s') :
    ∃ ign, Eat s s' (t :: ign) ∧ (∀ x ∈ ign, isIgnoredKind x.kind = true) := by
  obtain ⟨s1, s2, e1, h1, o2⟩ := withNode_peeked K (bump k) s s' () t rest w ht hni h
  have ht1 : Toks s1 = t :: rest := by have := e1.toks; rw [ht] at this; simpa using this.symm
  obtain ⟨ign, e, hall, _⟩ := bump_spec k s1 s2 e1.w t rest ht1 h1
  exact ⟨ign, by simpa using (e1.trans e).trans (Eat.ofObsEq o2 e.w), hall⟩

/-- `name::name`: on a non-empty queue either the head is a Name token and it is consumed, or an error is recorded -/
theorem name_spec (s s' : PState) (w : TW s) (hne : Toks s ≠ []) (h : name.run s = .ok () s') (hnd : ¬ Doomed s') :
    ∃ t rest ign, Toks s = t :: rest ∧ t.kind = .name ∧ Eat s s' (t :: ign) ∧ (∀ x ∈ ign, isIgnoredKind x.kind = true) := by
  unfold name at h
  obtain ⟨o, s1, h1, h2⟩ := bind_dec peekToken _ s s' () h
  have p := peekToken_obs s s1 o w h1
  have hne1 : Toks s1 ≠ [] := by rw [p.toks]; exact hne
  cases o with
  | none =>
    exfalso
    simp only [] at h2
    exact hnd ((err_adv s1 s' p.w h2).2 hne1)
  | some t =>
    simp only [] at h2
    have htq : Toks s = t :: (Toks s).tail := toks_head_cons s t p.head.symm
    by_cases hk : (t.kind == .name) = true
    · simp only [hk, if_true] at h2
      have hkk : t.kind = .name := by simpa using hk
      have ht1 : Toks s1 = t :: (Toks s).tail := by rw [p.toks]; exact htq
      obtain ⟨ign, e, hall⟩ := nodeBump_spec "NAME" "IDENT" s1 s' p.w t _ ht1 (by rw [hkk]; rfl) h2
      exact ⟨t, _, ign, htq, hkk, by simpa using p.eat.trans e, hall⟩
    · exfalso
      simp only [hk, Bool.false_eq_true, if_false] at h2
      exact hnd ((err_adv s1 s' p.w h2).2 hne1)

theorem valueErr_dooms (p : Bool) (s s' : PState) (w : TW s) (hne : Toks s ≠ []) (h : (valueErr p).run s = .ok () s') :
    Doomed s' := by
  unfold valueErr at h
  cases p with
  | false => simp only [Bool.false_eq_true, if_false] at h; exact (err_adv s s' w h).2 hne
  | true =>
    simp only [if_true] at h
    unfold errAndPop at h
    obtain ⟨_, s1, h1, h2⟩ := bind_dec pushIgnored _ s s' () h
    have o1 := pushIgnored_obs s s1 h1
    obtain ⟨o, s2, h3, h4⟩ := bind_dec peekToken _ s1 s' () h2
    have p2 := peekToken_obs s1 s2 o (o1.w w) h3
    cases o with
    | none =>
      exfalso
      have hh := p2.head
      rw [o1.toks] at hh
      cases hq : Toks s with
      | nil => exact hne hq
      | cons a b => rw [hq] at hh; cases hh
    | some t =>
      simp only [] at h4
      obtain ⟨_, s3, h5, h6⟩ := bind_dec (moveCurToTree "ERROR") _ s2 s' () h4
      obtain ⟨_, s4, h7, h8⟩ := bind_dec (pushErr (tokErr t)) _ s3 s' () h6
      have w3 : TW s3 := by
        rcases moveCurToTree_spec "ERROR" s2 s3 p2.w h5 with ⟨_, _, e, _⟩ | ⟨_, rfl⟩
        · exact e.w
        · exact p2.w
      obtain ⟨a4, d4⟩ := pushErr_adv _ s3 s4 w3 h7
      exact (good_skipIgnored s4 () s' a4.w h8).doom d4

theorem eofEnd_toks_ne (s : PState) (he : EofEnd s) (hnd : ¬ Doomed s) : Toks s ≠ [] := eofEnd_nonempty s he hnd

end Apollo.Parse
