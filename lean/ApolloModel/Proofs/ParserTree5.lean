import ApolloModel.Proofs.ParserTree4
import ApolloModel.Proofs.ParserTree3
/-
C08 (pipeline): types.  The tree that ty.rs builds for an accepted type reference `t` (`TyTree t`), what `from_cst.rs`
(`impl Convert for cst::Type`) reads from it, and that ty.rs builds it.
(ty.rs returns values (`Err(Some(token))` …) instead of reporting errors itself, so the induction is a manual chase
over the pieces of `tyParse`, each piece a fact of the tree calculus.)
-/
set_option linter.unusedSimpArgs false
set_option linter.unusedVariables false

/-! ### the shape of a type node, and its conversion -/
namespace Apollo.FromCst
open Apollo.Rowan Apollo.Ast
open Apollo.Parse (isJunk isJunkKind sigE nameNode)

/-- the CST of a type reference `t`, junk tokens (whitespace, comments, commas) anywhere between the children -/
inductive TyTree : Ty → Elem → Prop
  | named (n : Ast.Str) (cs : List Elem) : isValidName n = true → sigE cs = [nameNode n] →
      TyTree (.named n) (.node "NAMED_TYPE" cs)
  | list (u : Ty) (cs : List Elem) (eu : Elem) (lb rb : Rowan.Str) : TyTree u eu →
      sigE cs = [.tok "L_BRACK" lb, eu, .tok "R_BRACK" rb] → TyTree (.list u) (.node "LIST_TYPE" cs)
  | nnNamed (n : Ast.Str) (cs : List Elem) (e0 : Elem) (b : Rowan.Str) : TyTree (.named n) e0 →
      sigE cs = [e0, .tok "BANG" b] → TyTree (.nonNullNamed n) (.node "NON_NULL_TYPE" cs)
  | nnList (u : Ty) (cs : List Elem) (e0 : Elem) (b : Rowan.Str) : TyTree (.list u) e0 →
      sigE cs = [e0, .tok "BANG" b] → TyTree (.nonNullList u) (.node "NON_NULL_TYPE" cs)

theorem TyTree.kind {t : Ty} {e : Elem} (h : TyTree t e) : ∃ k cs, e = .node k cs ∧ isTypeKind k = true := by
  cases h <;> exact ⟨_, _, rfl, by decide⟩

theorem TyTree.nodeP {t : Ty} {e : Elem} (h : TyTree t e) : nodeP isTypeKind e = true := by
  obtain ⟨k, cs, rfl, hk⟩ := h.kind
  simp [FromCst.nodeP, isNodeE, kindE, hk]

theorem mem_sigE {e : Elem} {cs : List Elem} (h : e ∈ sigE cs) : e ∈ cs := (List.mem_filter.mp h).1

theorem size_le_sizeList {e : Elem} : ∀ {cs : List Elem}, e ∈ cs → size e ≤ sizeList cs
  | [], h => by cases h
  | c :: cs, h => by
    simp only [sizeList]
    rcases List.mem_cons.mp h with rfl | h
    · omega
    · have := size_le_sizeList h; omega

variable {R : List Loc}

theorem nodeP_tok (pr : SK → Bool) (k : SK) (t : Rowan.Str) : nodeP pr (.tok k t) = false := rfl
theorem nodeP_node (pr : SK → Bool) (k : SK) (cs : List Elem) : nodeP pr (.node k cs) = pr k := by
  simp [FromCst.nodeP, isNodeE, kindE]

theorem kind_node (k : SK) (cs : List Elem) (s : Nat) (h : ∀ x ∈ nameRanges (.node k cs) s, x ∈ R) :
    PE.kind (⟨(.node k cs, s), h⟩ : PE R) = k := rfl

theorem cType_named (n : Nat) (p : PE R) (hk : p.kind = "NAMED_TYPE") :
    cType (n + 1) p = (nameOf p >>= fun x => pure (Ty.named x)) := by
  simp [cType, hk]

theorem cType_list (n : Nat) (p : PE R) (hk : p.kind = "LIST_TYPE") :
    cType (n + 1) p = (M.ofOpt (childP isTypeKind p) >>= fun inner => cType n inner >>= fun t => pure (Ty.list t)) := by
  simp [cType, hk]

theorem cType_nonNull (n : Nat) (p : PE R) (hk : p.kind = "NON_NULL_TYPE") :
    cType (n + 1) p = (match child "NAMED_TYPE" p with
      | some named => nameOf named >>= fun x => pure (Ty.nonNullNamed x)
      | none =>
        match child "LIST_TYPE" p with
        | some list => M.ofOpt (childP isTypeKind list) >>= fun inner => cType n inner >>= fun t => pure (Ty.nonNullList t)
        | none => none) := by
  cases h1 : child "NAMED_TYPE" p with
  | some nm => simp [cType, hk, h1]
  | none => cases h2 : child "LIST_TYPE" p <;> simp [cType, hk, h1, h2]

/-- `impl Convert for cst::Type` on the tree of `t` returns `t` -/
theorem cType_tyTree : ∀ (n : Nat) (t : Ty) (e : Elem), TyTree t e → size e ≤ n → ConvE (fun R => @cType R n) t e
  | 0, _, e, h, hs => by
    obtain ⟨k, cs, rfl, _⟩ := h.kind
    simp [size] at hs
  | n + 1, _, _, .named nm cs hv hsig, hs => by
    intro R s h
    have hf : (sigE cs).find? (nodeP (· == "NAME")) = some (nameNode nm) := by rw [hsig]; rfl
    obtain ⟨l, hl⟩ := nameOf_node "NAMED_TYPE" cs nm hv hf R s h
    refine ⟨l ++ [], ?_⟩
    show cType (n + 1) _ = _
    rw [cType_named n _ rfl]
    exact bind_ok hl (pure_ok _)
  | n + 1, _, _, .list u cs eu lb rb hu hsig, hs => by
    intro R s h
    have hf : cs.find? (nodeP isTypeKind) = some eu := by
      rw [find_nodeP_sigE, hsig]
      simp [List.find?_cons, nodeP_tok, hu.nodeP]
    obtain ⟨s', h', hc⟩ := childP_some (R := R) isTypeKind "LIST_TYPE" cs s h eu hf
    have hsz : size eu ≤ n := by
      have := size_le_sizeList (mem_sigE (cs := cs) (e := eu) (by rw [hsig]; simp))
      simp only [size] at hs
      omega
    obtain ⟨l, hl⟩ := cType_tyTree n u eu hu hsz R s' h'
    refine ⟨[] ++ (l ++ []), ?_⟩
    show cType (n + 1) _ = _
    rw [cType_list n _ rfl, hc]
    exact bind_ok rfl (bind_ok hl (pure_ok _))
  | n + 1, _, _, .nnNamed nm cs e0 b h0 hsig, hs => by
    intro R s h
    cases h0 with
    | named _ cs0 hv hsig0 =>
      have hf : cs.find? (nodeP (· == "NAMED_TYPE")) = some (.node "NAMED_TYPE" cs0) := by
        rw [find_nodeP_sigE, hsig]
        simp [List.find?_cons, nodeP_node]
      obtain ⟨s', h', hc⟩ := childP_some (R := R) (· == "NAMED_TYPE") "NON_NULL_TYPE" cs s h _ hf
      have hf0 : (sigE cs0).find? (nodeP (· == "NAME")) = some (nameNode nm) := by rw [hsig0]; rfl
      obtain ⟨l, hl⟩ := nameOf_node "NAMED_TYPE" cs0 nm hv hf0 R s' h'
      refine ⟨l ++ [], ?_⟩
      show cType (n + 1) _ = _
      rw [cType_nonNull n _ rfl, child_eq_childP, hc]
      exact bind_ok hl (pure_ok _)
  | n + 1, _, _, .nnList u cs e0 b h0 hsig, hs => by
    intro R s h
    cases h0 with
    | list _ cs0 eu lb rb hu hsig0 =>
      have hfn : cs.find? (nodeP (· == "NAMED_TYPE")) = none := by
        rw [find_nodeP_sigE, hsig]
        simp [List.find?_cons, nodeP_node, nodeP_tok]
      have hfl : cs.find? (nodeP (· == "LIST_TYPE")) = some (.node "LIST_TYPE" cs0) := by
        rw [find_nodeP_sigE, hsig]
        simp [List.find?_cons, nodeP_node]
      have hcn := childP_none (R := R) (· == "NAMED_TYPE") "NON_NULL_TYPE" cs s h hfn
      obtain ⟨s', h', hc⟩ := childP_some (R := R) (· == "LIST_TYPE") "NON_NULL_TYPE" cs s h _ hfl
      have hf : cs0.find? (nodeP isTypeKind) = some eu := by
        rw [find_nodeP_sigE, hsig0]
        simp [List.find?_cons, nodeP_tok, hu.nodeP]
      obtain ⟨s'', h'', hc2⟩ := childP_some (R := R) isTypeKind "LIST_TYPE" cs0 s' h' eu hf
      have hsz : size eu ≤ n := by
        have h1 := size_le_sizeList (mem_sigE (cs := cs0) (e := eu) (by rw [hsig0]; simp))
        have h2 := size_le_sizeList (mem_sigE (cs := cs) (e := .node "LIST_TYPE" cs0) (by rw [hsig]; simp))
        simp only [size] at hs h2
        omega
      obtain ⟨l, hl⟩ := cType_tyTree n u eu hu hsz R s'' h''
      refine ⟨[] ++ (l ++ []), ?_⟩
      show cType (n + 1) _ = _
      rw [cType_nonNull n _ rfl, child_eq_childP, hcn]
      simp only []
      rw [child_eq_childP, hc]
      simp only []
      rw [hc2]
      exact bind_ok rfl (bind_ok hl (pure_ok _))

end Apollo.FromCst

/-! ### ty.rs -/
namespace Apollo.Parse
open Apollo.Rowan hiding Str
open Apollo.Lex hiding Str
open Apollo.FromCst (TyTree)

abbrev NoE : PState → Prop := fun _ => False

/-- what the calculus assumes of a state -/
structure St (s : PState) : Prop where
  w : TW s
  inv : Inv s
  eof : EofEnd s
  lq : LQ (Toks s)

/-- one step of a manual chase: apply a `Tr` fact to a concrete sub-run -/
theorem St.step {α : Type} {H : List Tok → Prop} {m : PI α} {R : α → List Tok → List Elem → Prop} (hm : Tr NoE H m R)
    {s s' : PState} {a : α} (st : St s) (hq : H (Toks s)) (hr : m.run s = .ok a s') (hnd : ¬ Doomed s') :
    St s' ∧ TrRes NoE s s' (R a) := by
  obtain ⟨cs, ad, a1, a2, a3, a4, a5⟩ := hm.2 s a s' st.w st.inv st.eof st.lq hq hr hnd
  exact ⟨⟨(hm.1 s a s' st.w hr).w, (run_inv_added m s st.inv a s' hr).1, a3,
    LQ.suffix (cs := cs) (by rw [← a1]; exact st.lq)⟩, cs, ad, a1, a2, a3, a4, a5⟩

theorem TrRes.seq {s s1 s2 : PState} {L1 L2 : List Tok → List Elem → Prop} (h1 : TrRes NoE s s1 L1) (h2 : TrRes NoE s1 s2 L2) :
    TrRes NoE s s2 (fun cs e => ∃ c1 c2 e1 e2, cs = c1 ++ c2 ∧ e = e1 ++ e2 ∧ L1 c1 e1 ∧ L2 c2 e2) := by
  obtain ⟨c1, d1, t1, n1, _, b1, r1⟩ := h1
  obtain ⟨c2, d2, t2, n2, e2, b2, r2⟩ := h2
  rcases r1 with r1 | f
  · rcases r2 with r2 | f
    · exact ⟨c1 ++ c2, d1 ++ d2, by rw [t1, t2, List.append_assoc], noEof_append n1 n2, e2, by rw [b2, b1, List.append_assoc],
        Or.inl ⟨sig c1, sig c2, sigE d1, sigE d2, sig_append _ _, sigE_append _ _, r1, r2⟩⟩
    · exact absurd f id
  · exact absurd f id

theorem TrRes.weaken {s s' : PState} {L L' : List Tok → List Elem → Prop} (h : TrRes NoE s s' L) (hL : ∀ cs e, L cs e → L' cs e) :
    TrRes NoE s s' L' := by
  obtain ⟨c, d, t, n, e, b, r⟩ := h
  refine ⟨c, d, t, n, e, b, ?_⟩
  rcases r with r | f
  · exact Or.inl (hL _ _ r)
  · exact absurd f id

theorem St.recf {s : PState} (st : St s) (c h : Nat) : St { s with recCur := c, recHigh := h } :=
  ⟨⟨st.w.limit, st.w.acc⟩, inv_rec st.inv c h, eofEnd_same _ _ st.eof rfl rfl rfl, st.lq⟩

theorem St.obs {s s' : PState} (st : St s) (o : ObsEq s s') (hi : Inv s') : St s' :=
  ⟨o.w st.w, hi, eofEnd_obs st.eof o, by rw [o.toks]; exact st.lq⟩

/-- `NAMED_TYPE[NAME[IDENT]]` -/
theorem tr_tyName {E : PState → Prop} (hE : Early E) :
    Tr E (KindP (· == Kind.name)) (withNode "NAMED_TYPE" (withNode "NAME" (eat "IDENT" >>= fun _ => (pure TyRes.ok : PI TyRes))))
      (fun r cs e => r = TyRes.ok ∧ ∃ t e0, t.kind = .name ∧ cs = [t] ∧ e = [e0] ∧ TyTree (.named t.data) e0) := by
  have hleaf := tr_leafG (E := E) "NAME" "IDENT" (by decide) _ TyRes.ok (leafBody_eat "IDENT" TyRes.ok)
    (fun t => t.kind = .name) (by intro t hk; rw [hk]; exact ⟨rfl, by decide⟩)
  have h2 := tr_withNode hE "NAMED_TYPE" (H := HeadP (fun t : Tok => t.kind = .name)) (headP_sig (L := fun _ => True) (by
    intro t hk; exact ⟨by rw [hk]; rfl, by rw [hk]; decide, .name t.data, by simp [astOfV, hk], trivial⟩)) hleaf
  refine h2.mono ?_ ?_
  · rintro q ⟨t, hh, hk⟩; exact ⟨t, hh, by simpa using hk⟩
  · rintro r cs e ⟨inner, he, hr, t, hk, hv, hcs, hin⟩
    refine ⟨hr, t, _, hk, hcs, he, ?_⟩
    exact TyTree.named t.data inner (hv.1 hk) hin


/-! #### `checkpoint … wrap_node` -/

theorem wrapIf_tree {α : Type} (kind : SK) (body : PI α) (cond : α → PI Bool) (inner : PI Unit)
    (s s' : PState) (a : α) (hi : Inv s) (h : (wrapIf kind body cond inner).run s = .ok a s') :
    ∃ s1 s2 s3 c, ObsEq s s1 ∧ Inv s1 ∧ s1.pending = [] ∧
      s1.builder.children = s.builder.children ++ s.pending.map pendingElem ∧
      body.run s1 = .ok a s2 ∧ (cond a).run s2 = .ok c s3 ∧
      ((c = false ∧ s' = s3) ∨ (c = true ∧ ∃ s4 s5 abc a3, ObsEq s3 s4 ∧ Inv s4 ∧ s4.pending = s3.pending ∧
          s3.builder.children = s1.builder.children ++ abc ∧ s4.builder.children = s3.builder.children ∧
          inner.run s4 = .ok () s5 ∧ s5.builder.children = s4.builder.children ++ a3 ∧ ObsEq s5 s' ∧
          s'.builder.children = s1.builder.children ++ [Elem.node kind (abc ++ a3)])) := by
  unfold wrapIf at h
  simp only [] at h
  have e1 : pushIgnored.run s = .ok () { s with builder := { s.builder with children := s.builder.children ++ s.pending.map pendingElem }, pending := [] } := rfl
  have hi1 : Inv { s with builder := { s.builder with children := s.builder.children ++ s.pending.map pendingElem }, pending := [] } := by
    have := pushIgnored.ok s hi
    simp only [e1, Post] at this
    exact this.1
  rw [e1] at h
  obtain ⟨s1, hs1⟩ : ∃ s1 : PState, ({ s with builder := { s.builder with children := s.builder.children ++ s.pending.map pendingElem }, pending := [] } : PState) = s1 := ⟨_, rfl⟩
  rw [hs1] at h hi1
  simp only [] at h
  have o1 : ObsEq s s1 := by subst hs1; exact ⟨rfl, rfl, rfl, rfl, rfl, rfl⟩
  have hp1 : s1.pending = [] := by subst hs1; rfl
  have hc1 : s1.builder.children = s.builder.children ++ s.pending.map pendingElem := by subst hs1; rfl
  have h2 := (body >>= fun a => cond a >>= fun c => pure (a, c)).ok s1 hi1
  cases hr : (body >>= fun a => cond a >>= fun c => pure (a, c)).run s1 with
  | abort w => rw [hr] at h; cases h
  | panic m => rw [hr] at h; cases h
  | ok ac s3 =>
    rw [hr] at h
    simp only [hr, Post] at h2
    obtain ⟨hi3, hf3⟩ := h2
    obtain ⟨a0, c⟩ := ac
    simp only [] at h
    obtain ⟨a1, s2, hb, h2'⟩ := bind_dec body _ s1 s3 (a0, c) hr
    obtain ⟨c1, s3', hc, h3⟩ := bind_dec (cond a1) _ s2 s3 (a0, c) h2'
    rw [run_pure] at h3
    injection h3 with h3 h4
    injection h3 with h5 h6
    subst h4 h5 h6
    cases c1 with
    | false =>
      simp only [Bool.false_eq_true, if_false] at h
      injection h with h7 h8
      subst h7 h8
      exact ⟨s1, s2, s3', false, o1, hi1, hp1, hc1, hb, hc, Or.inl ⟨rfl, rfl⟩⟩
    | true =>
      simp only [if_true] at h
      obtain ⟨abc, habc⟩ := hf3.children
      have hlen : s1.builder.checkpoint ≤ s3'.builder.children.length := by simp [Builder.checkpoint, habc]
      have hsn : s3'.builder.startNodeAt s1.builder.checkpoint kind =
          some { s3'.builder with parents := (kind, s1.builder.checkpoint) :: s3'.builder.parents } := by
        unfold Builder.startNodeAt
        simp only [hlen, if_true]
        cases hps : s3'.builder.parents with
        | nil => rfl
        | cons p ps =>
          obtain ⟨k0, f0⟩ := p
          have : f0 ≤ s1.builder.checkpoint := by
            have hm : (k0, f0) ∈ s1.builder.parents := by rw [← hf3.parents, hps]; simp
            exact hi1.parents _ hm
          simp only [ge_iff_le, this, if_true]
      rw [hsn] at h
      simp only [] at h
      have hi4 : Inv { s3' with builder := { s3'.builder with parents := (kind, s1.builder.checkpoint) :: s3'.builder.parents } } := by
        refine ⟨hi3.text, ?_, hi3.lexDone, hi3.eofTok, hi3.errNonempty⟩
        intro p hp
        simp only [List.mem_cons] at hp
        rcases hp with rfl | hp
        · exact hlen
        · exact hi3.parents p hp
      have h5 := inner.ok _ hi4
      cases hr5 : inner.run { s3' with builder := { s3'.builder with parents := (kind, s1.builder.checkpoint) :: s3'.builder.parents } } with
      | abort w => rw [hr5] at h; cases h
      | panic m => rw [hr5] at h; cases h
      | ok u5 s5 =>
        rw [hr5] at h
        simp only [hr5, Post] at h5
        obtain ⟨_, hf5⟩ := h5
        simp only [] at h
        have hp5 : s5.builder.parents = (kind, s1.builder.checkpoint) :: s3'.builder.parents := hf5.parents
        obtain ⟨a3, ha3⟩ := hf5.children
        simp only [] at ha3
        simp only [Builder.finishNode, hp5, Res.ok.injEq] at h
        obtain ⟨rfl, rfl⟩ := h
        have hc5 : s5.builder.children = s1.builder.children ++ (abc ++ a3) := by rw [ha3, habc, List.append_assoc]
        refine ⟨s1, s2, s3', true, o1, hi1, hp1, hc1, hb, hc, Or.inr ⟨rfl,
          { s3' with builder := { s3'.builder with parents := (kind, s1.builder.checkpoint) :: s3'.builder.parents } }, s5, abc, a3,
          ⟨rfl, rfl, rfl, rfl, rfl, rfl⟩, hi4, rfl, habc, rfl, hr5, ha3, ⟨rfl, rfl, rfl, rfl, rfl, rfl⟩, ?_⟩⟩
        simp only [hc5, Builder.checkpoint]
        rw [List.take_left' rfl, List.drop_left' rfl]

/-! ### the list body cut into pieces -/

def tyClose : PI TyRes := expect .rBracket "R_BRACK" >>= fun _ => pure TyRes.ok

def tyAfter (inner : Option TyRes) : PI TyRes :=
  match inner with
  | none => pure TyRes.early
  | some res =>
    match res with
    | .errTok t => errAtToken t >>= fun _ => tyClose
    | _ => tyClose

def tyInner (n : Nat) : PI (Option TyRes) :=
  withRec (limitErr >>= fun _ => pure none) (tyParse n >>= fun r => pure (some r))

theorem tyListBody_eq (n : Nat) : tyListBody n = (bump "L_BRACK" >>= fun _ => tyInner n >>= tyAfter) := by
  unfold tyListBody tyInner
  congr 1

theorem good_tyClose : Good tyClose := good_bind _ _ (good_expect _ _) (fun _ => good_pure _)

theorem good_tyAfter (inner : Option TyRes) : Good (tyAfter inner) := by
  cases inner with
  | none => exact good_pure _
  | some res =>
    cases res <;> first
      | exact good_tyClose
      | exact good_bind _ _ (good_pushErr _) (fun _ => good_tyClose)

theorem good_tyInner (n : Nat) : Good (tyInner n) :=
  good_withRec _ _ (good_bind _ _ good_limitErr (fun _ => good_pure _)) (good_bind _ _ (good_tyParse n) (fun _ => good_pure _))

theorem tr_tyClose {E : PState → Prop} (hE : Early E) {H : List Tok → Prop} :
    Tr E H tyClose (fun r cs e => r = TyRes.ok ∧ ∃ t, t.kind = .rBracket ∧ cs = [t] ∧ e = [Elem.tok "R_BRACK" t.data]) := by
  refine (tr_bind hE (tr_expect .rBracket "R_BRACK" (by decide) rfl (by decide)) (fun _ => tr_pure E _ TyRes.ok)).mono
    (fun _ h => h) ?_
  rintro r cs e ⟨_, c1, c2, e1, e2, hc, he, ⟨t, hk, h1, h2⟩, hr, h3, h4⟩
  subst h1 h2 h3 h4
  exact ⟨hr, t, hk, by simpa using hc, by simpa using he⟩

/-! ### the goals -/

def TyGoalB (s s' : PState) : Prop :=
  TrRes NoE s s' (fun cs e => ∃ t e0, IsBase t ∧ TokIs cs (Ast.tTy t) ∧ e = [e0] ∧ TyTree t e0)

def TyGoal (s s' : PState) : Prop :=
  Settled s' ∧ TrRes NoE s s' (fun cs e => ∃ t e0, TokIs cs (Ast.tTy t) ∧ e = [e0] ∧ TyTree t e0)

def TyTr (n : Nat) : Prop :=
  ∀ s s' r, St s → (tyParse n).run s = .ok r s' → ¬ Doomed s' → (∃ tk, r = TyRes.errTok tk) ∨ (r = TyRes.ok ∧ TyGoal s s')

theorem doomed_rec (s : PState) (c : Nat) : Doomed { s with recCur := c } ↔ Doomed s := Iff.rfl

/-- `[` Type `]` -/
theorem listBranch_tr (n : Nat) (ih : TyTr n) (s s' : PState) (r : TyRes) (t : Tok) (rest : List Tok) (st : St s)
    (ht : Toks s = t :: rest) (hk : t.kind = .lBracket)
    (h : (withNode "LIST_TYPE" (tyListBody n)).run s = .ok r s') (hnd : ¬ Doomed s') : r = .ok ∧ TyGoalB s s' := by
  have hni : isIgnoredKind t.kind = false := by rw [hk]; rfl
  have hne : t.kind ≠ .eof := by rw [hk]; decide
  obtain ⟨s0, s2, inner, o0, hi0, hp0, hr2, o2, hin, hout⟩ := withNode_tree "LIST_TYPE" (tyListBody n) s st.inv r s' h
  obtain ⟨_, s1, hs, h1⟩ := bind_dec skipIgnored _ s0 s2 r hr2
  have st0 : St s0 := st.obs o0 hi0
  have ht0 : Toks s0 = t :: rest := by rw [o0.toks]; exact ht
  have hpk := skipIgnored_sig s0 s1 st0.w t rest ht0 hni hs
  have p1 := peekToken_obs s0 s1 _ st0.w hpk
  have st1 : St s1 := ⟨p1.w, (run_inv_added peekToken s0 hi0 _ s1 hpk).1,
    eofEnd_eat st0.eof p1.eat (by intro x hx; cases hx), by rw [p1.toks]; exact st0.lq⟩
  have ht1 : Toks s1 = t :: rest := by rw [p1.toks]; exact ht0
  have hb1 : s1.builder = s0.builder := keeps_peekToken s0 _ s1 hpk
  have hnd2 : ¬ Doomed s2 := fun d => hnd (o2.doomed.mpr d)
  rw [tyListBody_eq] at h1
  obtain ⟨_, s3, h3, h4⟩ := bind_dec (bump "L_BRACK") _ s1 s2 r h1
  obtain ⟨inn, s4, h5, h6⟩ := bind_dec (tyInner n) _ s3 s2 r h4
  have a13 := good_bump "L_BRACK" s1 () s3 st1.w h3
  have a34 := good_tyInner n s3 inn s4 a13.w h5
  have hnd4 : ¬ Doomed s4 := fun d => hnd2 ((good_tyAfter inn s4 r s2 a34.w h6).doom d)
  have hnd3 : ¬ Doomed s3 := fun d => hnd4 (a34.doom d)
  -- `[`
  obtain ⟨st3, r3⟩ := St.step (tr_bump (E := NoE) "L_BRACK" (by decide) (fun t' => t' = t)
    (by rintro t' rfl; exact ⟨hni, hne⟩)) st1 ⟨t, by rw [ht1]; rfl, rfl⟩ h3 hnd3
  -- the nested type, under the recursion guard
  unfold tyInner at h5
  rcases withRec_decH _ _ s3 s4 inn h5 with ⟨_, hl⟩ | ⟨_, sr2, hrb, rfl⟩
  · exfalso
    obtain ⟨_, rl⟩ := St.step (tr_limitErr_then (E := NoE) (H := fun _ => True) (R := fun _ _ _ => False)
      (pure none : PI (Option TyRes)) (good_pure _)) (st3.recf s3.recCur _) trivial hl hnd4
    obtain ⟨_, _, _, _, _, _, f | f⟩ := rl <;> exact f
  · obtain ⟨res, sr2', hr1, hr2'⟩ := bind_dec (tyParse n) _ _ sr2 inn hrb
    rw [run_pure] at hr2'
    injection hr2' with hin' hs'
    subst hs' hin'
    have stR := st3.recf (s3.recCur + 1) (max s3.recHigh (s3.recCur + 1))
    have hndr : ¬ Doomed sr2' := hnd4
    rcases ih _ sr2' res stR hr1 hndr with ⟨tk, rfl⟩ | ⟨rfl, _, rt⟩
    · -- `Err(Some(token))`: the caller reports it
      exfalso
      have h6' : (errAtToken tk >>= fun _ => tyClose).run { sr2' with recCur := sr2'.recCur - 1 } = .ok r s2 := h6
      obtain ⟨_, s5, h7, h8⟩ := bind_dec (errAtToken tk) _ _ s2 r h6'
      obtain ⟨a5, d5⟩ := errAtToken_adv tk _ s5 a34.w h7
      exact hnd2 ((good_tyClose s5 r s2 a5.w h8).doom d5)
    · have h6' : tyClose.run { sr2' with recCur := sr2'.recCur - 1 } = .ok r s2 := h6
      have stR2 : St sr2' := by
        obtain ⟨c, d, t1, n1, e1, b1, _⟩ := rt
        exact ⟨(good_tyParse n _ _ sr2' stR.w hr1).w, (run_inv_added _ _ stR.inv _ sr2' hr1).1, e1,
          LQ.suffix (cs := c) (by rw [← t1]; exact stR.lq)⟩
      have st4 : St { sr2' with recCur := sr2'.recCur - 1 } := stR2.recf _ sr2'.recHigh
      have r4 : TrRes NoE s3 { sr2' with recCur := sr2'.recCur - 1 }
          (fun cs e => ∃ t e0, TokIs cs (Ast.tTy t) ∧ e = [e0] ∧ TyTree t e0) := by
        obtain ⟨c, d, t1, n1, e1, b1, r1⟩ := rt
        exact ⟨c, d, t1, n1, st4.eof, b1, r1⟩
      obtain ⟨st5, r5⟩ := St.step (tr_tyClose (E := NoE) early_false (H := fun _ => True)) st4 trivial h6' hnd2
      obtain ⟨cs, added, t1, n1, e1, b1, rr⟩ := (r3.seq r4).seq r5
      rcases rr with rr | f
      · obtain ⟨c12, c3, e12, e3, hcs, hes, ⟨c1, c2, e1', e2, hc12, he12, ⟨t', rfl, _, hc1, he1⟩, u, e0, hu, he2, htree⟩,
          hrok, t2, hk2, hc3, he3⟩ := rr
        subst hc1 he1 he2 hc3 he3 hc12 he12
        have hinner : inner = added := by
          rw [b1, hb1] at hin
          exact (List.append_cancel_left hin).symm
        subst hinner
        refine ⟨hrok, cs, s.pending.map pendingElem ++ [Elem.node "LIST_TYPE" inner], ?_, n1, eofEnd_obs e1 o2,
          by rw [hout, List.append_assoc], Or.inl ⟨.list u, Elem.node "LIST_TYPE" inner, Or.inr ⟨u, rfl⟩, ?_, ?_, ?_⟩⟩
        · rw [← o0.toks, ← p1.toks, t1, o2.toks]
        · rw [hcs]
          have h1 : TokIs [t'] [Ast.Tok.p .lBracket] := TokIs.single t' _ (by simp [astOfV, hk])
          have h2 : TokIs [t2] [Ast.Tok.p .rBracket] := TokIs.single t2 _ (by simp [astOfV, hk2])
          have := (h1.append hu).append h2
          simpa [Ast.tTy, List.append_assoc] using this
        · rw [sigE_append, sigE_pending, sigE_node]; rfl
        · exact TyTree.list u inner e0 t'.data t2.data htree (by rw [hes]; rfl)
      · exact absurd f id

/-- the part of ty.rs in front of the `!` check -/
theorem tyBody_tr (n : Nat) (ih : TyTr n) (s s' : PState) (r : TyRes) (st : St s)
    (h : (tyBody n).run s = .ok r s') (hnd : ¬ Doomed s') :
    (∃ tk, r = TyRes.errTok tk) ∨ (r = TyRes.ok ∧ TyGoalB s s') := by
  unfold tyBody at h
  obtain ⟨k, sP, hp, h2⟩ := bind_dec peek _ s s' r h
  obtain ⟨o, p, hk⟩ := peek_obs s sP k st.w hp
  subst hk
  have stP : St sP := ⟨p.w, (run_inv_added peek s st.inv _ sP hp).1, p.eofEnd st.eof, by rw [p.toks]; exact st.lq⟩
  have hbP : sP.builder = s.builder := keeps_peek s _ sP hp
  have back : TyGoalB sP s' → TyGoalB s s' := by
    rintro ⟨c, d, t1, n1, e1, b1, r1⟩
    exact ⟨c, d, by rw [← p.toks]; exact t1, n1, e1, by rw [b1, hbP], r1⟩
  cases o with
  | none =>
    exfalso
    simp only [Option.map_none] at h2
    rw [run_pure] at h2
    injection h2 with _ h2
    subst h2
    have hh := p.head
    have : Toks s = [] := by
      cases ht : Toks s with
      | nil => rfl
      | cons a b => rw [ht] at hh; cases hh
    exact eofEnd_nonempty s st.eof (fun d => hnd (p.doom.mpr d)) this
  | some t =>
    have htP : Toks sP = t :: (Toks sP).tail := p.head_cons
    simp only [Option.map_some] at h2
    by_cases hkl : t.kind = .lBracket
    · simp only [hkl] at h2
      obtain ⟨hr, g⟩ := listBranch_tr n ih sP s' r t _ stP htP hkl h2 hnd
      exact Or.inr ⟨hr, back g⟩
    · by_cases hkn : t.kind = .name
      · simp only [hkn] at h2
        obtain ⟨_, c, d, t1, n1, e1, b1, r1⟩ := St.step (tr_tyName (E := NoE) early_false) stP
          ⟨t, by rw [htP]; rfl, by simp [hkn]⟩ h2 hnd
        rcases r1 with ⟨hr, t', e0, hk', hcs, he, htree⟩ | f
        · refine Or.inr ⟨hr, back ⟨c, d, t1, n1, e1, b1, Or.inl ⟨.named t'.data, e0, Or.inl ⟨_, rfl⟩, ?_, he, htree⟩⟩⟩
          rw [hcs]
          exact TokIs.single t' _ (by simp [astOfV, hk'])
        · exact absurd f id
      · refine Or.inl ⟨t, ?_⟩
        have hcur : sP.current = some t := p.current
        cases hk : t.kind <;>
          first
            | exact absurd hk hkl
            | exact absurd hk hkn
            | (simp only [hk] at h2; exact otherBranch_sound sP s' r t hcur p.w h2)


theorem keeps_tyCond (r : TyRes) : Keeps (tyCond r) := by
  cases r <;> first
    | exact keeps_pure _
    | exact keeps_bind _ _ keeps_skipIgnored (fun _ => keeps_bind _ _ keeps_peek (fun _ => keeps_pure _))

theorem sigE_of_nil {a b : List Elem} (h : sigE a = []) : sigE (a ++ b) = sigE b := by rw [sigE_append, h]; rfl

/-- **ty.rs**: an error-free, successful run of `ty.rs::parse` consumed the tokens `tTy t` of ONE type reference and
    appended (after junk) exactly one element, the tree `TyTree t` -/
theorem tyParse_tr : ∀ (n : Nat), TyTr n
  | 0 => by intro s s' r _ h; simp [tyParse, PI.outOfFuel] at h
  | n + 1 => by
    intro s s' r st h hnd
    rw [tyParse_succ] at h
    obtain ⟨r0, sW, hw, h2⟩ := bind_dec _ _ s s' r h
    have gW : Good (wrapIf "NON_NULL_TYPE" (tyBody n) tyCond (eat "BANG")) :=
      good_wrapIf _ _ _ _ (good_tyBody n (good_tyParse n)) good_tyCond (good_eat _)
    have aW := gW s r0 sW st.w hw
    obtain ⟨s1, s2, s3, c, o1, hi1, hp1, hc1, hb, hc, hrest⟩ := wrapIf_tree _ _ _ _ s sW r0 st.inv hw
    have st1 : St s1 := st.obs o1 hi1
    have w1 := st1.w
    have he1 := st1.eof
    have a2 := good_tyBody n (good_tyParse n) s1 r0 s2 w1 hb
    have a3 := good_tyCond r0 s2 c s3 a2.w hc
    have hk3 : s3.builder = s2.builder := keeps_tyCond r0 s2 c s3 hc
    cases r0 with
    | errTok tk =>
      simp only [] at h2
      rw [run_pure] at h2
      injection h2 with h2 _
      exact Or.inl ⟨tk, h2.symm⟩
    | errNone =>
      exfalso
      simp only [] at h2
      rw [run_pure] at h2
      injection h2 with _ h3
      subst h3
      have hc' : (pure false : PI Bool).run s2 = .ok c s3 := hc
      rw [run_pure] at hc'
      injection hc' with hc1' hc2
      subst hc1' hc2
      rcases hrest with ⟨_, rfl⟩ | ⟨hx, _⟩
      · rcases Exact.tyBody_sound n (Exact.tyParse_sound n) s1 _ _ w1 he1 hb hnd with ⟨tk, hx⟩ | ⟨hx, _⟩ <;> cases hx
      · cases hx
    | early =>
      exfalso
      simp only [] at h2
      rw [run_pure] at h2
      injection h2 with _ h3
      subst h3
      have hc' : (pure false : PI Bool).run s2 = .ok c s3 := hc
      rw [run_pure] at hc'
      injection hc' with hc1' hc2
      subst hc1' hc2
      rcases hrest with ⟨_, rfl⟩ | ⟨hx, _⟩
      · rcases Exact.tyBody_sound n (Exact.tyParse_sound n) s1 _ _ w1 he1 hb hnd with ⟨tk, hx⟩ | ⟨hx, _⟩ <;> cases hx
      · cases hx
    | ok =>
      simp only [] at h2
      obtain ⟨_, sF, hf, h3⟩ := bind_dec skipIgnored _ sW s' r h2
      rw [run_pure] at h3
      injection h3 with h3 h4
      subst h4
      refine Or.inr ⟨h3.symm, ?_⟩
      obtain ⟨ignB, eB, hallB, hsetB⟩ := skipIgnored_spec sW sF aW.w hf
      have hbF : sF.builder = sW.builder := keeps_skipIgnored sW () sF hf
      have hndW : ¬ Doomed sW := fun d => hnd (eB.doom.mpr d)
      have hc' : (skipIgnored >>= fun _ => peek >>= fun k => (pure (k == some .bang) : PI Bool)).run s2 = .ok c s3 := hc
      obtain ⟨_, sA, hsA, hc2⟩ := bind_dec skipIgnored _ s2 s3 c hc'
      obtain ⟨ignA, eA, hallA, _⟩ := skipIgnored_spec s2 sA a2.w hsA
      obtain ⟨kk, sP, hpk, hc3⟩ := bind_dec peek _ sA s3 c hc2
      rw [run_pure] at hc3
      injection hc3 with hc3 hc4
      subst hc4
      obtain ⟨o, p, hkk⟩ := peek_obs sA sP kk eA.w hpk
      have e23 : Eat s2 sP ignA := by simpa using eA.trans p.eat
      rcases hrest with ⟨hcf, rfl⟩ | ⟨hct, s4, s5, abc, a3', o4, hi4, hp4, habc, hc4, hi, ha3, o5, hout⟩
      · -- no `!`
        have hnd2 : ¬ Doomed s2 := fun d => hndW (e23.doom.mpr d)
        rcases tyBody_tr n (tyParse_tr n) s1 s2 _ st1 hb hnd2 with ⟨tk, hx⟩ | ⟨_, c0, d0, t0, n0, e0, b0, r0⟩
        · cases hx
        · have etail : Eat s2 sF (ignA ++ ignB) := e23.trans eB
          have hnoT : NoEof (ignA ++ ignB) := noEof_append (noEof_ignored _ hallA) (noEof_ignored _ hallB)
          refine ⟨hsetB, c0 ++ (ignA ++ ignB), s.pending.map pendingElem ++ d0, ?_, noEof_append n0 hnoT,
            eofEnd_eat e0 etail hnoT, ?_, ?_⟩
          · rw [← o1.toks, t0, etail.toks]; simp [List.append_assoc]
          · rw [hbF, hk3, b0, hc1, List.append_assoc]
          · rcases r0 with ⟨u, e0', _, hu, he, htree⟩ | f
            · left
              refine ⟨u, e0', ?_, ?_, htree⟩
              · rw [sig_append, sig_append, sig_ignored _ hallA, sig_ignored _ hallB]; simpa using hu
              · rw [sigE_append, sigE_pending]; simpa using he
            · exact absurd f id
      · -- `!`: wrap into NON_NULL_TYPE
        have hbang : ∃ tb, o = some tb ∧ tb.kind = .bang := by
          rw [hkk] at hc3
          cases o with
          | none => rw [hct] at hc3; simp at hc3
          | some tb => rw [hct] at hc3; exact ⟨tb, rfl, by simpa using hc3.symm⟩
        obtain ⟨tb, rfl, hkb⟩ := hbang
        have w4 : TW s4 := o4.w p.w
        have ht4 : Toks s4 = tb :: (Toks s4).tail := by
          have hh := p.head
          rw [← p.toks, ← o4.toks] at hh
          cases hq : Toks s4 with
          | nil => rw [hq] at hh; cases hh
          | cons a b => rw [hq] at hh; injection hh with hh; subst hh; rfl
        have e45 : Eat s4 s5 [tb] := by
          rcases eat_spec "BANG" s4 s5 w4 hi with ⟨t', rest', hq, e5, _⟩ | ⟨hq, _⟩
          · rw [ht4] at hq; injection hq with hq _; subst hq; exact e5
          · rw [ht4] at hq; cases hq
        obtain ⟨junk', hj', hc5⟩ := eat_children "BANG" s4 s5 w4 tb _ ht4 hi
        have e2F : Eat s2 sF (ignA ++ [tb] ++ ignB) := by
          have := (((e23.trans (Eat.ofObsEq o4 p.w)).trans e45).trans (Eat.ofObsEq o5 e45.w)).trans eB
          simpa using this
        have hnd2 : ¬ Doomed s2 := fun d => hnd (e2F.doom.mpr d)
        rcases tyBody_tr n (tyParse_tr n) s1 s2 _ st1 hb hnd2 with ⟨tk, hx⟩ | ⟨_, c0, d0, t0, n0, e0, b0, r0⟩
        · cases hx
        · have hnb : NoEof [tb] := by intro x hx; simp at hx; subst hx; rw [hkb]; decide
          have hnoT : NoEof (ignA ++ [tb] ++ ignB) :=
            noEof_append (noEof_append (noEof_ignored _ hallA) hnb) (noEof_ignored _ hallB)
          have habc' : abc = d0 := by
            rw [hk3, b0] at habc
            exact (List.append_cancel_left habc).symm
          have ha3' : a3' = junk' ++ [Elem.tok "BANG" tb.data] := by
            rw [hc5, List.append_assoc] at ha3
            exact (List.append_cancel_left ha3).symm
          subst habc' ha3'
          refine ⟨hsetB, c0 ++ (ignA ++ [tb] ++ ignB),
            s.pending.map pendingElem ++ [Elem.node "NON_NULL_TYPE" (abc ++ (junk' ++ [Elem.tok "BANG" tb.data]))], ?_,
            noEof_append n0 hnoT, eofEnd_eat e0 e2F hnoT, ?_, ?_⟩
          · rw [← o1.toks, t0, e2F.toks]; simp [List.append_assoc]
          · rw [hbF, hout, hc1, List.append_assoc]
          · rcases r0 with ⟨u, e0', hbase, hu, he, htree⟩ | f
            · left
              have hsigc : sig (c0 ++ (ignA ++ [tb] ++ ignB)) = sig c0 ++ [tb] := by
                rw [sig_append, sig_append, sig_append, sig_ignored _ hallA, sig_ignored _ hallB,
                  sig_single tb (by rw [hkb]; rfl)]
                simp
              have hinner : sigE (abc ++ (junk' ++ [Elem.tok "BANG" tb.data])) = [e0', Elem.tok "BANG" tb.data] := by
                rw [sigE_append, he, sigE_append, hj', sigE_tok "BANG" tb.data (by decide)]; rfl
              have hb' : TokIs [tb] [Ast.Tok.p .bang] := TokIs.single tb _ (by simp [astOfV, hkb])
              rw [hsigc, sigE_append, sigE_pending, sigE_node]
              rcases hbase with ⟨nm, rfl⟩ | ⟨v, rfl⟩
              · refine ⟨.nonNullNamed nm, _, ?_, rfl, TyTree.nnNamed nm _ e0' tb.data htree hinner⟩
                have := hu.append hb'
                simpa [Ast.tTy] using this
              · refine ⟨.nonNullList v, _, ?_, rfl, TyTree.nnList v _ e0' tb.data htree hinner⟩
                have := hu.append hb'
                simpa [Ast.tTy, List.append_assoc] using this
            · exact absurd f id

end Apollo.Parse
