import ApolloModel.Proofs.Lexer2
namespace Apollo.Lex

theorem runD_loop (st : State) (p : Char → Bool) (kind : Kind)
    (hstep : ∀ acc c, step st kind false acc c = if p c then .goto st kind false else .excl (.tok kind))
    (heof : ∀ acc, eofItem st kind acc = .tok kind acc) :
    ∀ (src acc : Str), runD st kind false acc src = (.tok kind (acc ++ src.takeWhile p), src.dropWhile p)
  | [], acc => by simp [runD, heof]
  | c :: rest, acc => by
    unfold runD
    rw [hstep]
    by_cases hp : p c = true
    · simp only [hp, if_true]
      rw [runD_loop st p kind hstep heof rest (acc ++ [c])]
      simp [List.takeWhile_cons, List.dropWhile_cons, hp]
    · simp only [hp, Bool.false_eq_true, if_false]
      simp [List.takeWhile_cons, List.dropWhile_cons, hp, Out.mk]

theorem takeWhile_run (p : Char → Bool) (a rest : Str) (ha : ∀ c ∈ a, p c = true) (hr : ∀ c r, rest = c :: r → p c = false) :
    (a ++ rest).takeWhile p = a ∧ (a ++ rest).dropWhile p = rest := by
  induction a with
  | nil =>
    cases rest with
    | nil => exact ⟨rfl, rfl⟩
    | cons c r => simp [List.takeWhile, List.dropWhile, hr c r rfl]
  | cons x a ih =>
    have hx := ha x (by simp)
    obtain ⟨i1, i2⟩ := ih (fun c hc => ha c (by simp [hc]))
    simp [List.takeWhile, List.dropWhile, hx, i1, i2]

theorem nameStart_not_punct (c : Char) (h : isNameStart c = true) : punctuationKind c = none := by
  unfold isNameStart at h
  simp only [Bool.or_eq_true, Bool.and_eq_true, decide_eq_true_eq, beq_iff_eq] at h
  unfold punctuationKind
  split <;> first | rfl | omega

theorem lex_punctuator (c : Char) (k : Kind) (rest : Str) (h : punctuationKind c = some k) :
    advance (c :: rest) = (.tok k [c], rest) := by
  simp [advance, runD, step, h, Out.mk]

theorem lex_name (c : Char) (rest : Str) (h : isNameStart c = true) :
    advance (c :: rest) = (.tok .name (c :: rest.takeWhile isNameContinue), rest.dropWhile isNameContinue) := by
  have hp := nameStart_not_punct c h
  unfold advance runD
  simp only [step, hp, h, if_true, List.nil_append]
  rw [runD_loop .ident isNameContinue .name (by intro acc c; simp [step, done]) (by intro acc; rfl)]
  simp

end Apollo.Lex
