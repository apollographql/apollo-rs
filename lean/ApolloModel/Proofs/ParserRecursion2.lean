import ApolloModel.Proofs.ParserType5
import ApolloModel.Proofs.GrammarWalk
/-
C04, recursion limit across runs: what the primitives and combinators of parser/mod.rs do to the three things the recursion limit is about: the
high-water mark of the recursion tracker, the presence of a limit error in the error list, and whether errors are
still accepted.  Only the recursion guard (`withRec`) and `limit_err` touch them.
-/
set_option linter.unusedSimpArgs false
namespace Apollo.Parse
open Apollo.Rowan hiding Str
open Apollo.Lex hiding Str

def HasLim (es : List PErr) : Prop := ∃ e, e ∈ es ∧ e.kind = .limit

theorem hasLim_append (a b : List PErr) : HasLim (a ++ b) ↔ HasLim a ∨ HasLim b := by
  unfold HasLim
  constructor
  · rintro ⟨e, he, hk⟩
    rcases List.mem_append.mp he with h | h
    · exact Or.inl ⟨e, h, hk⟩
    · exact Or.inr ⟨e, h, hk⟩
  · rintro (⟨e, he, hk⟩ | ⟨e, he, hk⟩)
    · exact ⟨e, List.mem_append.mpr (Or.inl he), hk⟩
    · exact ⟨e, List.mem_append.mpr (Or.inr he), hk⟩

theorem hasLim_single (e : PErr) : HasLim [e] ↔ e.kind = .limit := by
  unfold HasLim
  constructor
  · rintro ⟨x, hx, hk⟩
    simp only [List.mem_singleton] at hx
    subst hx
    exact hk
  · intro h
    exact ⟨e, by simp, h⟩

/-- a run that left the recursion bookkeeping alone -/
structure Q (s s' : PState) : Prop where
  recHigh : s'.recHigh = s.recHigh
  lim : HasLim s'.errors ↔ HasLim s.errors
  accept : s'.acceptErrors = s.acceptErrors

theorem Q.refl (s : PState) : Q s s := ⟨rfl, Iff.rfl, rfl⟩

theorem Q.trans {a b c : PState} (h1 : Q a b) (h2 : Q b c) : Q a c :=
  ⟨h2.recHigh.trans h1.recHigh, h2.lim.trans h1.lim, h2.accept.trans h1.accept⟩

/-- all token-level and limit-level fields unchanged (only the tree, the pending list or ghosts moved) -/
structure Same (s s' : PState) : Prop where
  current : s'.current = s.current
  lx : s'.lx = s.lx
  errors : s'.errors = s.errors
  accept : s'.acceptErrors = s.acceptErrors
  recCur : s'.recCur = s.recCur
  recLimit : s'.recLimit = s.recLimit
  recHigh : s'.recHigh = s.recHigh

theorem Same.obs {s s' : PState} (h : Same s s') : ObsEq s s' :=
  ⟨h.current, h.lx, h.errors, h.accept, h.recCur, h.recLimit⟩

theorem Same.q {s s' : PState} (h : Same s s') : Q s s' := ⟨h.recHigh, by rw [h.errors], h.accept⟩

def QP {α : Type} (m : PI α) : Prop :=
  ∀ s a s', s.lx.limit = none → m.run s = .ok a s' → Q s s' ∧ s'.lx.limit = none

theorem QP.q {α : Type} {m : PI α} (h : QP m) {s s' : PState} {a : α} (w : TW s) (hr : m.run s = .ok a s') : Q s s' :=
  (h s a s' w.limit hr).1

theorem qp_pure {α : Type} (a : α) : QP (pure a : PI α) := by
  intro s a' s' hl h
  rw [run_pure] at h
  injection h with _ h; subst h
  exact ⟨Q.refl s, hl⟩

theorem qp_bind {α β : Type} (m : PI α) (f : α → PI β) (hm : QP m) (hf : ∀ a, QP (f a)) : QP (m >>= f) := by
  intro s b s'' hl h
  obtain ⟨a, s', h1, h2⟩ := bind_dec m f s s'' b h
  obtain ⟨q1, hl1⟩ := hm s a s' hl h1
  obtain ⟨q2, hl2⟩ := hf a s' b s'' hl1 h2
  exact ⟨q1.trans q2, hl2⟩

theorem qp_of_same {α : Type} {m : PI α} (h : ∀ s a s', m.run s = .ok a s' → Same s s') : QP m :=
  fun s a s' hl hr => ⟨(h s a s' hr).q, by rw [(h s a s' hr).lx]; exact hl⟩

/-! ### primitives -/

theorem nextTokenRaw_q : ∀ (fuel : Nat) (s : PState), s.lx.limit = none → Q s (nextTokenRaw fuel s).2
  | 0, s, _ => by simp [nextTokenRaw]; exact Q.refl s
  | fuel + 1, s, hl => by
    unfold nextTokenRaw
    rcases lexNext_cases s.lx hl with ⟨_, h⟩ | ⟨_, _, l', h, _, hl', _⟩ | ⟨_, o, l', h, _, hf', hl', _⟩
    · simp only [h]; exact ⟨rfl, Iff.rfl, rfl⟩
    · simp only [h]; exact ⟨rfl, Iff.rfl, rfl⟩
    · simp only [h]
      cases o with
      | tok t => exact ⟨rfl, Iff.rfl, rfl⟩
      | err d i =>
        simp only []
        have ih := nextTokenRaw_q fuel { s with
          lx := l', pending := if d.isEmpty then s.pending else s.pending ++ [.error d],
          errors := s.errors ++ [⟨i, utf8Len d, .lexer⟩] } hl'
        refine ⟨ih.recHigh, ?_, ih.accept⟩
        rw [ih.lim]
        simp only [hasLim_append, hasLim_single]
        constructor
        · rintro (h | h)
          · exact h
          · cases h
        · exact Or.inl
      | limit i =>
        -- without a token limit the lexer reports none: it would have finished
        have := lexNext_limit_finished s.lx i (by rw [h])
        rw [h, hf'] at this
        cases this

theorem qp_peekToken : QP peekToken := by
  intro s o s' hl h
  unfold peekToken at h
  simp only [] at h
  cases hc : s.current with
  | some t =>
    simp only [hc, Res.ok.injEq] at h
    obtain ⟨_, rfl⟩ := h
    exact ⟨Q.refl s, hl⟩
  | none =>
    simp only [hc, Res.ok.injEq] at h
    obtain ⟨_, rfl⟩ := h
    have q := nextTokenRaw_q (s.lx.src.length + 3) s hl
    exact ⟨⟨q.recHigh, q.lim, q.accept⟩, (nextTokenRaw_obs (s.lx.src.length + 3) s hl).limit⟩

theorem qp_moveCurToPending : QP moveCurToPending := by
  intro s b s' hl h
  unfold moveCurToPending at h
  simp only [] at h
  cases hc : s.current with
  | none => simp only [hc] at h; injection h with _ h; subst h; exact ⟨Q.refl s, hl⟩
  | some t =>
    simp only [hc] at h
    split at h <;> (injection h with _ h; subst h; exact ⟨⟨rfl, Iff.rfl, rfl⟩, hl⟩)

theorem pushIgnored_same (s s' : PState) (h : pushIgnored.run s = .ok () s') : Same s s' := by
  unfold pushIgnored at h
  simp only [] at h
  injection h with _ h
  subst h
  exact ⟨rfl, rfl, rfl, rfl, rfl, rfl, rfl⟩


theorem qp_moveCurToTree (kind : SK) : QP (moveCurToTree kind) := by
  intro s a s' hl h
  unfold moveCurToTree at h
  simp only [] at h
  cases hc : s.current with
  | none => simp only [hc] at h; injection h with _ h; subst h; exact ⟨Q.refl s, hl⟩
  | some t => simp only [hc] at h; injection h with _ h; subst h; exact ⟨⟨rfl, Iff.rfl, rfl⟩, hl⟩

theorem good_moveCurToTree (kind : SK) : Good (moveCurToTree kind) := by
  intro s a s' w h
  rcases moveCurToTree_spec kind s s' w h with ⟨_, _, e, _⟩ | ⟨_, hs⟩
  · exact e.adv
  · rw [hs]; exact Adv.refl s w

theorem qp_pushErr (e : PErr) (he : e.kind ≠ .limit) : QP (pushErr e) := by
  intro s a s' hl h
  unfold pushErr errUpdate at h
  simp only [] at h
  injection h with _ h
  subst h
  refine ⟨⟨rfl, ?_, rfl⟩, hl⟩
  simp only []
  split
  · rw [hasLim_append, hasLim_single]
    constructor
    · rintro (h | h)
      · exact h
      · exact absurd h he
    · exact Or.inl
  · exact Iff.rfl

theorem tokErr_kind (t : Tok) : (tokErr t).kind ≠ .limit := by
  unfold tokErr
  split <;> simp


theorem qp_popDrop : QP popDrop := by
  intro s o s' hl h
  unfold popDrop at h
  simp only [] at h
  cases hc : s.current with
  | none => simp only [hc] at h; injection h with _ h; subst h; exact ⟨⟨rfl, Iff.rfl, rfl⟩, hl⟩
  | some t => simp only [hc] at h; injection h with _ h; subst h; exact ⟨⟨rfl, Iff.rfl, rfl⟩, hl⟩

theorem qpTok : TokenCalc @QP where
  pure := qp_pure
  bind := qp_bind
  outOfFuel := fun s a s' _ h => by simp [PI.outOfFuel] at h
  stuck := fun s a s' _ h => by simp [PI.stuck] at h
  peekToken := qp_peekToken
  peekTokenN := fun n => qp_of_same fun s a s' h => by
    unfold peekTokenN at h; simp only [] at h; injection h with _ h; subst h; exact ⟨rfl, rfl, rfl, rfl, rfl, rfl, rfl⟩
  srcLen := qp_of_same fun s a s' h => by
    unfold srcLen at h; simp only [] at h; injection h with _ h; subst h; exact ⟨rfl, rfl, rfl, rfl, rfl, rfl, rfl⟩
  getCurrent := qp_of_same fun s a s' h => by
    unfold getCurrent at h; simp only [] at h; injection h with _ h; subst h; exact ⟨rfl, rfl, rfl, rfl, rfl, rfl, rfl⟩
  moveCurToPending := qp_moveCurToPending
  pushIgnored := qp_of_same fun s _ s' h => pushIgnored_same s s' h
  moveCurToTree := qp_moveCurToTree
  assertRecZero := qp_of_same fun s a s' h => by
    unfold assertRecZero at h; simp only [] at h; injection h with _ h; subst h; exact ⟨rfl, rfl, rfl, rfl, rfl, rfl, rfl⟩
  errAtToken := fun t => qp_pushErr _ (tokErr_kind t)

/-! ### combinators -/

theorem withNode_decS {α : Type} (kind : SK) (body : PI α) (s s' : PState) (a : α)
    (h : (withNode kind body).run s = .ok a s') :
    ∃ s1 s2, Same s s1 ∧ (skipIgnored >>= fun _ => body).run s1 = .ok a s2 ∧ Same s2 s' := by
  unfold withNode at h
  simp only [] at h
  have e1 : pushIgnored.run s = .ok () { s with builder := { s.builder with children := s.builder.children ++ s.pending.map pendingElem }, pending := [] } := rfl
  rw [e1] at h
  simp only [] at h
  cases hr : (skipIgnored >>= fun _ => body).run (rawStartNode kind { s with builder := { s.builder with children := s.builder.children ++ s.pending.map pendingElem }, pending := [] }) with
  | abort w => rw [hr] at h; cases h
  | panic m => rw [hr] at h; cases h
  | ok a2 s2 =>
    rw [hr] at h
    simp only [] at h
    cases hb : s2.builder.finishNode with
    | none => rw [hb] at h; cases h
    | some b =>
      rw [hb] at h
      injection h with h1 h2
      subst h1 h2
      exact ⟨rawStartNode kind { s with builder := { s.builder with children := s.builder.children ++ s.pending.map pendingElem }, pending := [] }, s2, ⟨rfl, rfl, rfl, rfl, rfl, rfl, rfl⟩, hr, ⟨rfl, rfl, rfl, rfl, rfl, rfl, rfl⟩⟩

theorem qp_withNode {α : Type} (kind : SK) (body : PI α) (hb : QP body) : QP (withNode kind body) := by
  intro s a s' hl h
  obtain ⟨s1, s2, o1, hr, o2⟩ := withNode_decS kind body s s' a h
  obtain ⟨q, hl2⟩ := qp_bind _ _ qpTok.skipIgnored (fun _ => hb) s1 a s2 (by rw [o1.lx]; exact hl) hr
  exact ⟨(o1.q.trans q).trans o2.q, by rw [o2.lx]; exact hl2⟩

theorem wrapIf_decS {α : Type} (kind : SK) (body : PI α) (cond : α → PI Bool) (inner : PI Unit)
    (s s' : PState) (a : α) (h : (wrapIf kind body cond inner).run s = .ok a s') :
    ∃ s1 s2 s3 c, Same s s1 ∧ body.run s1 = .ok a s2 ∧ (cond a).run s2 = .ok c s3
      ∧ ((c = false ∧ s' = s3) ∨ (c = true ∧ ∃ s4 s5, Same s3 s4 ∧ inner.run s4 = .ok () s5 ∧ Same s5 s')) := by
  unfold wrapIf at h
  simp only [] at h
  have e1 : pushIgnored.run s = .ok () { s with builder := { s.builder with children := s.builder.children ++ s.pending.map pendingElem }, pending := [] } := rfl
  rw [e1] at h
  simp only [] at h
  generalize hs1 : ({ s with builder := { s.builder with children := s.builder.children ++ s.pending.map pendingElem }, pending := [] } : PState) = s1 at h
  have o1 : Same s s1 := by subst hs1; exact ⟨rfl, rfl, rfl, rfl, rfl, rfl, rfl⟩
  cases hr : (body >>= fun a => cond a >>= fun c => pure (a, c)).run s1 with
  | abort w => rw [hr] at h; cases h
  | panic m => rw [hr] at h; cases h
  | ok ac s3 =>
    rw [hr] at h
    obtain ⟨a0, c⟩ := ac
    simp only [] at h
    obtain ⟨a1, s2, hb, h2⟩ := bind_dec body _ s1 s3 (a0, c) hr
    obtain ⟨c1, s3', hc, h3⟩ := bind_dec (cond a1) _ s2 s3 (a0, c) h2
    rw [run_pure] at h3
    injection h3 with h3 h4
    injection h3 with h5 h6
    subst h4 h5 h6
    cases c1 with
    | false =>
      simp only [Bool.false_eq_true, if_false] at h
      injection h with h7 h8
      subst h7 h8
      exact ⟨s1, s2, s3', false, o1, hb, hc, Or.inl ⟨rfl, rfl⟩⟩
    | true =>
      simp only [if_true] at h
      split at h
      · cases h
      · rename_i b hsn
        split at h
        · rename_i u s5 hi
          split at h
          · rename_i b' hf
            injection h with h7 h8
            subst h7 h8
            exact ⟨s1, s2, s3', true, o1, hb, hc, Or.inr ⟨rfl, { s3' with builder := b }, s5, ⟨rfl, rfl, rfl, rfl, rfl, rfl, rfl⟩, hi, ⟨rfl, rfl, rfl, rfl, rfl, rfl, rfl⟩⟩⟩
          · cases h
        · cases h
        · cases h

/-- the recursion guard, with the high-water mark: `check_and_increment` records the incremented counter
    before it compares with the limit -/
theorem withRec_decH {α : Type} (onLimit body : PI α) (s s' : PState) (a : α)
    (h : (withRec onLimit body).run s = .ok a s') :
    (s.recCur + 1 > s.recLimit ∧ onLimit.run { s with recHigh := max s.recHigh (s.recCur + 1) } = .ok a s')
    ∨ (s.recCur + 1 ≤ s.recLimit ∧ ∃ s2,
        body.run { s with recCur := s.recCur + 1, recHigh := max s.recHigh (s.recCur + 1) } = .ok a s2
        ∧ s' = { s2 with recCur := s2.recCur - 1 }) := by
  have hmax : (if s.recCur + 1 > s.recHigh then s.recCur + 1 else s.recHigh) = max s.recHigh (s.recCur + 1) := by
    split <;> omega
  unfold withRec at h
  simp only [] at h
  rw [hmax] at h
  by_cases hc : s.recCur + 1 > s.recLimit
  · simp only [hc, if_true] at h
    exact Or.inl ⟨hc, h⟩
  · simp only [hc, if_false] at h
    refine Or.inr ⟨by omega, ?_⟩
    cases hr : body.run { s with recCur := s.recCur + 1, recHigh := max s.recHigh (s.recCur + 1) } with
    | abort w => rw [hr] at h; cases h
    | panic m => rw [hr] at h; cases h
    | ok a2 s2 =>
      rw [hr] at h
      simp only [] at h
      by_cases hz : s2.recCur = 0
      · simp only [hz, if_true] at h; cases h
      · simp only [hz, if_false] at h
        injection h with h1 h2
        subst h1 h2
        exact ⟨s2, rfl, rfl⟩

/-- `limit_err` when a token is there and errors are still accepted: the limit error is recorded and no
    further error will be; the high-water mark is not touched -/
theorem limitErr_effect (s s' : PState) (w : TW s) (h : limitErr.run s = .ok () s') :
    s'.recHigh = s.recHigh ∧ (HasLim s.errors → HasLim s'.errors) ∧
    (Toks s ≠ [] → s.acceptErrors = true → HasLim s'.errors) := by
  unfold limitErr at h
  obtain ⟨o, s1, h1, h2⟩ := bind_dec peekToken _ s s' () h
  have p := peekToken_obs s s1 o w h1
  have q := qpTok.peekToken.q w h1
  cases o with
  | none =>
    simp only [] at h2
    rw [run_pure] at h2
    injection h2 with _ h2
    subst h2
    refine ⟨q.recHigh, q.lim.mpr, ?_⟩
    intro hne
    have := p.head
    cases ht : Toks s with
    | nil => exact absurd ht hne
    | cons a b => rw [ht] at this; cases this
  | some t =>
    simp only [] at h2
    unfold errUpdate at h2
    simp only [] at h2
    injection h2 with _ h2
    subst h2
    refine ⟨q.recHigh, ?_, ?_⟩
    · intro hl
      have := q.lim.mpr hl
      simp only []
      split
      · exact (hasLim_append _ _).mpr (Or.inl this)
      · exact this
    · intro _ ha
      have ha1 : s1.acceptErrors = true := by rw [q.accept]; exact ha
      simp only [ha1, if_true]
      exact (hasLim_append _ _).mpr (Or.inr ((hasLim_single _).mpr rfl))

end Apollo.Parse
