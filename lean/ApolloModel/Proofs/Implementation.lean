import ApolloModel.Spec.Implementation
import ApolloModel.Properties.C29
/-
C14/C15: the implementation-contract model and the kind checks against their declarative
statements.
-/
namespace Apollo.Implementation
open Apollo Apollo.SchemaInvariants Apollo.Implementation.Spec

theorem argDiags_nil_iff (iface impl : List Arg) : argDiags iface impl = [] ↔ ArgsValid iface impl := by
  unfold argDiags ArgsValid
  rw [List.append_eq_nil_iff, List.filterMap_eq_nil_iff, List.filterMap_eq_nil_iff]
  constructor
  · intro ⟨h1, h2⟩
    constructor
    · intro ia hia
      have := h1 ia hia
      cases hf : impl.find? (fun a => a.name == ia.name) with
      | none => simp [hf] at this
      | some a =>
        simp only [hf] at this
        by_cases hty : ia.ty = a.ty
        · exact ⟨a, rfl, hty.symm⟩
        · simp [hty] at this
    · intro a ha hno
      have := h2 a ha
      cases hr : a.required
      · rfl
      · have hany : (iface.any fun ia => ia.name == a.name) = false := by
          rw [List.any_eq_false]; intro ia hia; simpa using hno ia hia
        simp [hany, hr] at this
  · intro ⟨h1, h2⟩
    constructor
    · intro ia hia
      obtain ⟨a, hf, hty⟩ := h1 ia hia
      simp [hf, hty]
    · intro a ha
      by_cases hany : (iface.any fun ia => ia.name == a.name) = true
      · simp [hany]
      · have hno : ∀ ia ∈ iface, ia.name ≠ a.name := by
          intro ia hia heq
          exact hany (List.any_eq_true.mpr ⟨ia, hia, by simp [heq]⟩)
        simp [h2 a ha hno]

theorem implDiagsFor_nil_iff (sub : Name → Name → Bool) (tfields : List FieldM) (i : Nat) (ifields : List FieldM) :
    implDiagsFor sub tfields i ifields = [] ↔ ValidImplementation sub tfields ifields := by
  unfold implDiagsFor ValidImplementation
  rw [List.append_eq_nil_iff, List.append_eq_nil_iff, List.filterMap_eq_nil_iff, List.filterMap_eq_nil_iff,
    List.flatMap_eq_nil_iff]
  constructor
  · intro ⟨⟨h1, h2⟩, h3⟩ f hf
    have a1 := h1 f hf
    have a2 := h2 f hf
    have a3 := h3 f hf
    cases hg : findField tfields f.name with
    | none => simp [hg] at a1
    | some g =>
      simp only [hg] at a2 a3
      refine ⟨g, rfl, ?_, ?_⟩
      · rw [← argDiags_nil_iff]
        simpa using a3
      · rw [← C29.impl_field_type_iff]
        cases hv : Gen.isValidImplementationFieldType sub f.ty g.ty
        · simp [hv] at a2
        · rfl
  · intro h
    refine ⟨⟨?_, ?_⟩, ?_⟩
    · intro f hf
      obtain ⟨g, hg, _, _⟩ := h f hf
      simp [hg]
    · intro f hf
      obtain ⟨g, hg, _, hty⟩ := h f hf
      rw [← C29.impl_field_type_iff] at hty
      simp [hg, hty]
    · intro f hf
      obtain ⟨g, hg, hargs, _⟩ := h f hf
      simp [hg, (argDiags_nil_iff _ _).mpr hargs]

theorem implDiags_nil_iff (sub : Name → Name → Bool) (getIface : Nat → Option (List FieldM))
    (tfields : List FieldM) (declared : List Nat) :
    implDiags sub getIface tfields declared = [] ↔
      ∀ i ∈ declared, ∀ ifields, getIface i = some ifields → ValidImplementation sub tfields ifields := by
  unfold implDiags
  rw [List.flatMap_eq_nil_iff]
  constructor
  · intro h i hi ifields hget
    have := h i hi
    simp only [hget] at this
    exact (implDiagsFor_nil_iff sub tfields i ifields).mp this
  · intro h i hi
    cases hget : getIface i with
    | none => rfl
    | some ifields => exact (implDiagsFor_nil_iff sub tfields i ifields).mpr (h i hi ifields hget)

/-! ### kinds -/

theorem outputRefDiags_nil_iff (kindOf : String → Option Kind) (n : String) :
    outputRefDiags kindOf n = [] ↔ ∃ k, kindAfter kindOf n = some k ∧ k.isOutput = true := by
  unfold outputRefDiags kindAfter
  cases hk : kindOf n with
  | some k => cases ho : k.isOutput <;> simp [ho]
  | none => cases Scalars.builtinScalars.contains n <;> simp [Kind.isOutput]

theorem inputRefDiags_nil_iff (kindOf : String → Option Kind) (n : String) :
    inputRefDiags kindOf n = [] ↔ ∃ k, kindAfter kindOf n = some k ∧ k.isInput = true := by
  unfold inputRefDiags kindAfter
  cases hk : kindOf n with
  | some k => cases ho : k.isInput <;> simp [ho]
  | none => cases Scalars.builtinScalars.contains n <;> simp [Kind.isInput]

theorem unionMemberDiags_nil_iff (kindOf : String → Option Kind) (n : String) :
    unionMemberDiags kindOf n = [] ↔ kindOf n = some Kind.object := by
  unfold unionMemberDiags
  cases hk : kindOf n with
  | none => simp
  | some k => cases k <;> simp

theorem typeRefDiags_nil_iff (kindOf : String → Option Kind) (t : TypeRefs) :
    typeRefDiags kindOf t = [] ↔ RefsRightKind kindOf t := by
  unfold typeRefDiags RefsRightKind
  simp only [List.append_eq_nil_iff, List.flatMap_eq_nil_iff, outputRefDiags_nil_iff, inputRefDiags_nil_iff,
    unionMemberDiags_nil_iff, and_assoc]

/-! ### the evaluators of the `c15.inv` stream -/

open Apollo.SchemaValidation in
theorem contractsInv_iff (sub : Name → Name → Bool) (s : ISchema) (fields : List (List FieldM)) :
    contractsInv sub s fields = true ↔
      ∀ a, a < s.length → ∀ i ∈ (s.getD a default).implements, ∀ ifields,
        ifaceFields s fields i = some ifields → ValidImplementation sub (fields.getD a []) ifields := by
  unfold contractsInv
  simp only [List.all_eq_true, List.mem_range, List.isEmpty_iff, implDiags_nil_iff]

theorem kindsInv_iff (kindOf : String → Option Kind) (refs : List TypeRefs) :
    kindsInv kindOf refs = true ↔ ∀ t ∈ refs, RefsRightKind kindOf t := by
  unfold kindsInv
  simp only [List.all_eq_true, List.isEmpty_iff, typeRefDiags_nil_iff]

end Apollo.Implementation
