import ApolloModel.Proofs.ExecutionFuel
/-
C26: fuel sufficiency WITH fragment spreads (`execute_fuel_sufficientR`).  The fragment table is acyclic: a rank
function under which every spread inside a fragment's body (at any nesting) names a fragment of smaller rank — what the
validation rule "fragment spreads must not form cycles" guarantees.  Potentials over the table bound how much
depth / weight fragment expansion can add below a given rank.
-/
namespace Apollo.Exec
open Apollo

/-! ### ranks, potentials -/

mutual
/-- spread bound: 0 when no fragment spread occurs below, else 1 + the largest rank of a spread fragment -/
def Sel.sb (rank : String → Nat) : Sel → Nat
  | .field _ _ _ _ sub => Sel.sbL rank sub
  | .spread n _ => rank n + 1
  | .inline _ _ sub => Sel.sbL rank sub
def Sel.sbL (rank : String → Nat) : List Sel → Nat
  | [] => 0
  | s :: rest => max (Sel.sb rank s) (Sel.sbL rank rest)
end

/-- the fragment spread graph is acyclic, witnessed by `rank` (spreads nested in fields included) -/
def Acyclic (frags : AList Frag) (rank : String → Nat) : Prop :=
  ∀ n fr, AList.get? frags n = some fr → Sel.sbL rank fr.sub ≤ rank n

/-- total `w` of the fragments of rank below `r` -/
def pot (w : List Sel → Nat) (rank : String → Nat) : AList Frag → Nat → Nat
  | [], _ => 0
  | (n, fr) :: rest, r => (if rank n < r then w fr.sub else 0) + pot w rank rest r

def potAll (w : List Sel → Nat) : AList Frag → Nat
  | [] => 0
  | (_, fr) :: rest => w fr.sub + potAll w rest

def wleft (visited : List String) : AList Frag → Nat
  | [] => 0
  | (n, fr) :: rest => (if n ∈ visited then 0 else Sel.weightL fr.sub) + wleft visited rest

theorem pot_mono (w : List Sel → Nat) (rank : String → Nat) : ∀ (frags : AList Frag) (r r' : Nat), r ≤ r' →
    pot w rank frags r ≤ pot w rank frags r' := by
  intro frags
  induction frags with
  | nil => intro r r' _; simp [pot]
  | cons e rest ih =>
    intro r r' h
    obtain ⟨n, fr⟩ := e
    have := ih r r' h
    simp only [pot]
    by_cases h1 : rank n < r
    · have h2 : rank n < r' := by omega
      simp [h1, h2]; omega
    · simp only [h1, if_false]
      by_cases h2 : rank n < r' <;> simp [h2] <;> omega

theorem pot_le_all (w : List Sel → Nat) (rank : String → Nat) : ∀ (frags : AList Frag) (r : Nat),
    pot w rank frags r ≤ potAll w frags := by
  intro frags
  induction frags with
  | nil => intro r; simp [pot, potAll]
  | cons e rest ih =>
    intro r
    obtain ⟨n, fr⟩ := e
    have := ih r
    simp only [pot, potAll]
    by_cases h1 : rank n < r <;> simp [h1] <;> omega

/-- entering a fragment of rank below `ρ` costs its own `w` and leaves the potential of its rank -/
theorem pot_step (w : List Sel → Nat) (rank : String → Nat) : ∀ (frags : AList Frag) (n : String) (fr : Frag) (ρ : Nat),
    AList.get? frags n = some fr → rank n < ρ → w fr.sub + pot w rank frags (rank n) ≤ pot w rank frags ρ := by
  intro frags
  induction frags with
  | nil => intro n fr ρ h; simp [AList.get?] at h
  | cons e rest ih =>
    intro n fr ρ hget hlt
    obtain ⟨k, v⟩ := e
    simp only [AList.get?] at hget
    simp only [pot]
    by_cases hk : k = n
    · simp only [hk, if_true, Option.some.injEq] at hget
      subst hget
      subst hk
      have hm := pot_mono w rank rest (rank k) ρ (Nat.le_of_lt hlt)
      simp [hlt]; omega
    · simp only [hk, if_false] at hget
      have := ih n fr ρ hget hlt
      by_cases h1 : rank k < rank n
      · have h2 : rank k < ρ := by omega
        simp [h1, h2]; omega
      · simp only [h1, if_false]
        by_cases h2 : rank k < ρ <;> simp [h2] <;> omega

theorem wleft_nil : ∀ (frags : AList Frag), wleft [] frags = potAll Sel.weightL frags := by
  intro frags
  induction frags with
  | nil => rfl
  | cons e rest ih => obtain ⟨n, fr⟩ := e; simp [wleft, potAll, ih]

theorem wleft_cons_le (x : String) (visited : List String) : ∀ (frags : AList Frag),
    wleft (x :: visited) frags ≤ wleft visited frags := by
  intro frags
  induction frags with
  | nil => simp [wleft]
  | cons e rest ih =>
    obtain ⟨n, fr⟩ := e
    simp only [wleft, List.mem_cons]
    by_cases h1 : n ∈ visited
    · simp only [h1, or_true, if_true]; omega
    · by_cases h2 : n = x
      · simp only [h2, true_or, if_true]; omega
      · simp only [h1, h2, or_self, if_false]; omega

theorem wleft_step (x : String) (visited : List String) (hx : x ∉ visited) :
    ∀ (frags : AList Frag) (fr : Frag), AList.get? frags x = some fr →
      wleft (x :: visited) frags + Sel.weightL fr.sub ≤ wleft visited frags := by
  intro frags
  induction frags with
  | nil => intro fr h; simp [AList.get?] at h
  | cons e rest ih =>
    intro fr hget
    obtain ⟨k, v⟩ := e
    simp only [AList.get?] at hget
    simp only [wleft, List.mem_cons]
    by_cases hk : k = x
    · simp only [hk, if_true, Option.some.injEq] at hget
      subst hget
      subst hk
      have hr := wleft_cons_le k visited rest
      simp only [true_or, if_true, hx, if_false]; omega
    · simp only [hk, if_false] at hget
      have := ih fr hget
      by_cases h1 : k ∈ visited
      · simp only [h1, or_true, if_true]; omega
      · simp only [hk, h1, or_self, if_false]; omega

/-! ### how deep fragment expansion can make a selection -/

abbrev phi (frags : AList Frag) (rank : String → Nat) (r : Nat) : Nat := pot Sel.depthL rank frags r
abbrev psi (frags : AList Frag) (rank : String → Nat) (r : Nat) : Nat := pot Sel.weightL rank frags r

mutual
/-- nesting depth of fields below a selection, fragment expansion included (an upper bound) -/
def Sel.m (frags : AList Frag) (rank : String → Nat) : Sel → Nat
  | .field _ _ _ _ sub => (Sel.depthL sub + 1) + phi frags rank (Sel.sbL rank sub)
  | .spread n _ => phi frags rank (rank n + 1)
  | .inline _ _ sub => Sel.mL frags rank sub
def Sel.mL (frags : AList Frag) (rank : String → Nat) : List Sel → Nat
  | [] => 0
  | s :: rest => max (Sel.m frags rank s) (Sel.mL frags rank rest)
end

mutual
theorem m_le (frags : AList Frag) (rank : String → Nat) : ∀ (s : Sel),
    Sel.m frags rank s ≤ s.depth + phi frags rank (Sel.sb rank s)
  | .field _ _ _ _ sub => by simp [Sel.m, Sel.depth, Sel.sb]
  | .spread n _ => by simp [Sel.m, Sel.depth, Sel.sb]
  | .inline _ _ sub => by simpa [Sel.m, Sel.depth, Sel.sb] using mL_le frags rank sub
theorem mL_le (frags : AList Frag) (rank : String → Nat) : ∀ (l : List Sel),
    Sel.mL frags rank l ≤ Sel.depthL l + phi frags rank (Sel.sbL rank l)
  | [] => by simp [Sel.mL]
  | s :: rest => by
    have h1 := m_le frags rank s
    have h2 := mL_le frags rank rest
    have m1 := pot_mono Sel.depthL rank frags (Sel.sb rank s) (max (Sel.sb rank s) (Sel.sbL rank rest)) (Nat.le_max_left _ _)
    have m2 := pot_mono Sel.depthL rank frags (Sel.sbL rank rest) (max (Sel.sb rank s) (Sel.sbL rank rest)) (Nat.le_max_right _ _)
    simp only [Sel.mL, Sel.depthL, Sel.sbL, phi] at *
    omega
end

theorem mL_append (frags : AList Frag) (rank : String → Nat) : ∀ (a b : List Sel),
    Sel.mL frags rank (a ++ b) = max (Sel.mL frags rank a) (Sel.mL frags rank b) := by
  intro a
  induction a with
  | nil => intro b; simp [Sel.mL]
  | cons x xs ih => intro b; simp [Sel.mL, ih, Nat.max_assoc]

theorem mL_sub_field (frags : AList Frag) (rank : String → Nat) (a : Option String) (nm : String)
    (args : List (String × AVal)) (dd : Dirs) (sub : List Sel) :
    Sel.mL frags rank sub + 1 ≤ Sel.m frags rank (.field a nm args dd sub) := by
  have := mL_le frags rank sub
  simp only [Sel.m]
  omega

/-- a fragment's body is no deeper than what a spread of it is charged (acyclic table) -/
theorem mL_body (frags : AList Frag) (rank : String → Nat) (hac : Acyclic frags rank) (n : String) (fr : Frag)
    (h : AList.get? frags n = some fr) : Sel.mL frags rank fr.sub ≤ phi frags rank (rank n + 1) := by
  have h1 := mL_le frags rank fr.sub
  have h2 := pot_mono Sel.depthL rank frags _ _ (hac n fr h)
  have h3 := pot_step Sel.depthL rank frags n fr (rank n + 1) h (Nat.lt_succ_self _)
  simp only [phi] at *
  omega

/-- the same for the `collect_fields` fuel -/
theorem weight_body (frags : AList Frag) (rank : String → Nat) (hac : Acyclic frags rank) (n : String) (fr : Frag)
    (h : AList.get? frags n = some fr) :
    Sel.weightL fr.sub + psi frags rank (Sel.sbL rank fr.sub) ≤ psi frags rank (rank n + 1) := by
  have h2 := pot_mono Sel.weightL rank frags _ _ (hac n fr h)
  have h3 := pot_step Sel.weightL rank frags n fr (rank n + 1) h (Nat.lt_succ_self _)
  simp only [psi] at *
  omega

def FieldR (frags : AList Frag) (rank : String → Nat) (d : Nat) (s : Sel) : Prop :=
  s.isField = true ∧ Sel.m frags rank s ≤ d

def GroupsR (frags : AList Frag) (rank : String → Nat) (d : Nat) (g : AList (List Sel)) : Prop :=
  ∀ kv, kv ∈ g → ∀ s, s ∈ kv.2 → FieldR frags rank d s

theorem pushGroup_R (frags : AList Frag) (rank : String → Nat) (d : Nat) : ∀ (g : AList (List Sel)) (k : String) (s : Sel),
    GroupsR frags rank d g → FieldR frags rank d s → GroupsR frags rank d (pushGroup g k s) := by
  intro g
  induction g with
  | nil =>
    intro k s _ hs kv hkv x hx
    simp [pushGroup] at hkv
    subst hkv
    simp at hx
    subst hx
    exact hs
  | cons hd tl ih =>
    intro k s hg hs
    obtain ⟨k', fs⟩ := hd
    simp only [pushGroup]
    split
    · intro kv hkv x hx
      simp only [List.mem_cons] at hkv
      rcases hkv with rfl | hkv
      · simp only [List.mem_append, List.mem_singleton] at hx
        rcases hx with hx | rfl
        · exact hg (k', fs) (by simp) x hx
        · exact hs
      · exact hg kv (by simp [hkv]) x hx
    · intro kv hkv x hx
      simp only [List.mem_cons] at hkv
      rcases hkv with rfl | hkv
      · exact hg (k', fs) (by simp) x hx
      · exact ih k s (fun kv' h' => hg kv' (by simp [h'])) hs kv hkv x hx

/-- `collect_fields` with fragment spreads: enough fuel is the weight of the set plus the weight potential of
    the fragments it can reach; every collected selection is a field at most `d` levels deep; the collected
    weight is paid by the set and by the fragments that had not been visited. -/
theorem collect_okR (env : Env) (rank : String → Nat) (hac : Acyclic env.frags rank) (objTy : String) (d : Nat) :
    ∀ n sels visited groups,
      Sel.weightL sels + psi env.frags rank (Sel.sbL rank sels) < n → Sel.mL env.frags rank sels ≤ d →
      GroupsR env.frags rank d groups →
      ∃ v g, collectFields env objTy n sels visited groups = some (v, g) ∧ GroupsR env.frags rank d g ∧
        groupsWeight g + wleft v env.frags ≤ groupsWeight groups + wleft visited env.frags + Sel.weightL sels := by
  intro n
  induction n with
  | zero => intro sels visited groups h; omega
  | succ n ih =>
    intro sels visited groups hw hm hg
    cases sels with
    | nil => exact ⟨visited, groups, rfl, hg, by simp [Sel.weightL]⟩
    | cons sel rest =>
      simp only [Sel.weightL, Sel.sbL] at hw
      simp only [Sel.mL] at hm
      have hwsel : 1 ≤ sel.weight := by cases sel <;> simp [Sel.weight]
      have hpr : psi env.frags rank (Sel.sbL rank rest) ≤ psi env.frags rank (max (Sel.sb rank sel) (Sel.sbL rank rest)) :=
        pot_mono _ _ _ _ _ (Nat.le_max_right _ _)
      have hps : psi env.frags rank (Sel.sb rank sel) ≤ psi env.frags rank (max (Sel.sb rank sel) (Sel.sbL rank rest)) :=
        pot_mono _ _ _ _ _ (Nat.le_max_left _ _)
      have hrest := fun v g hg' => ih rest v g (by omega) (by omega) hg'
      simp only [collectFields]
      split
      · obtain ⟨v, g, h1, h2, h3⟩ := hrest visited groups hg
        exact ⟨v, g, h1, h2, by simp only [Sel.weightL]; omega⟩
      · cases sel with
        | field a nm args dirs sub =>
          simp only
          have hf : FieldR env.frags rank d (.field a nm args dirs sub) := ⟨rfl, by omega⟩
          obtain ⟨v, g, h1, h2, h3⟩ := hrest visited _ (pushGroup_R env.frags rank d groups _ _ hg hf)
          refine ⟨v, g, h1, h2, ?_⟩
          rw [pushGroup_weight] at h3
          simp only [Sel.weightL]
          omega
        | spread name dirs =>
          simp only
          simp only [Sel.sb] at hw hps
          simp only [Sel.m] at hm
          split
          · obtain ⟨v, g, h1, h2, h3⟩ := hrest visited groups hg
            exact ⟨v, g, h1, h2, by simp only [Sel.weightL]; omega⟩
          · next hvis =>
            have hnot : name ∉ visited := by simpa using hvis
            have hle := wleft_cons_le name visited env.frags
            cases hget : AList.get? env.frags name with
            | none =>
              simp only
              obtain ⟨v, g, h1, h2, h3⟩ := hrest (name :: visited) groups hg
              exact ⟨v, g, h1, h2, by simp only [Sel.weightL]; omega⟩
            | some frag =>
              simp only
              split
              · obtain ⟨v, g, h1, h2, h3⟩ := hrest (name :: visited) groups hg
                exact ⟨v, g, h1, h2, by simp only [Sel.weightL]; omega⟩
              · have hwb := weight_body env.frags rank hac name frag hget
                have hmb := mL_body env.frags rank hac name frag hget
                have hstep := wleft_step name visited hnot env.frags frag hget
                obtain ⟨v1, g1, e1, ok1, w1⟩ := ih frag.sub (name :: visited) groups (by omega) (by omega) hg
                rw [e1]
                obtain ⟨v, g, h1, h2, h3⟩ := hrest v1 g1 ok1
                refine ⟨v, g, h1, h2, ?_⟩
                simp only [Sel.weightL, Sel.weight]
                omega
        | inline cond dirs sub =>
          simp only
          simp only [Sel.weight] at hw hwsel
          simp only [Sel.sb] at hw hps
          simp only [Sel.m] at hm
          have key : ∀ b : Bool, ∃ v g,
              (if (!b) = true then collectFields env objTy n rest visited groups
               else
                 match collectFields env objTy n sub visited groups with
                 | none => none
                 | some (visited, groups) => collectFields env objTy n rest visited groups) = some (v, g) ∧
              GroupsR env.frags rank d g ∧
              groupsWeight g + wleft v env.frags ≤
                groupsWeight groups + wleft visited env.frags + Sel.weightL (Sel.inline cond dirs sub :: rest) := by
            intro b
            cases b with
            | false =>
              simp only [Bool.not_false, if_true]
              obtain ⟨v, g, h1, h2, h3⟩ := hrest visited groups hg
              exact ⟨v, g, h1, h2, by simp only [Sel.weightL, Sel.weight]; omega⟩
            | true =>
              simp only [Bool.not_true, Bool.false_eq_true, if_false]
              obtain ⟨v1, g1, e1, ok1, w1⟩ := ih sub visited groups (by omega) (by omega) hg
              rw [e1]
              obtain ⟨v, g, h1, h2, h3⟩ := hrest v1 g1 ok1
              refine ⟨v, g, h1, h2, ?_⟩
              simp only [Sel.weightL, Sel.weight]
              omega
          cases cond with
          | none => exact key true
          | some c => exact key (fragmentApplies env.schema objTy c)

theorem subSelections_R (frags : AList Frag) (rank : String → Nat) (d : Nat) : ∀ fields : List Sel,
    (∀ f, f ∈ fields → FieldR frags rank (d + 1) f) →
    Sel.mL frags rank (subSelections fields) ≤ d ∧ Sel.weightL (subSelections fields) ≤ Sel.weightL fields := by
  intro fields
  induction fields with
  | nil => intro _; simp [subSelections, Sel.mL, Sel.weightL]
  | cons f rest ih =>
    intro h
    obtain ⟨i1, i2⟩ := ih (fun x hx => h x (by simp [hx]))
    obtain ⟨hf, hm⟩ := h f (by simp)
    cases f with
    | spread n dd => simp [Sel.isField] at hf
    | inline c dd sub => simp [Sel.isField] at hf
    | field a nm args dd sub =>
      have hs := mL_sub_field frags rank a nm args dd sub
      simp only [subSelections, Sel.fsub]
      refine ⟨?_, ?_⟩
      · rw [mL_append]; omega
      · rw [weightL_append]
        simp only [Sel.weightL, Sel.weight]
        omega

theorem psi_le_wtot (frags : AList Frag) (rank : String → Nat) (r : Nat) :
    psi frags rank r ≤ potAll Sel.weightL frags := pot_le_all _ _ _ _

/-- `complete_value` with fragment spreads: no out-of-fuel when the fuel exceeds (levels) × (T + 1) + (type depth),
    `levels` bounding the expanded nesting of the fields, and the `collect_fields` fuel exceeds the weight of the
    fields plus one total fragment weight per remaining level. -/
theorem completeValue_nofuelR (env : Env) (rank : String → Nat) (hac : Acyclic env.frags rank) (T B : Nat)
    (hT : TypeDepthBound env.schema T) (hB : B < env.cfuel) :
    ∀ n d path ty rv fields st, (∀ f, f ∈ fields → FieldR env.frags rank d f) →
      Sel.weightL fields + d * potAll Sel.weightL env.frags ≤ B →
      d * (T + 1) + ty.depth < n → (completeValue env n path ty rv fields st).1 ≠ .error .fuel := by
  intro n
  induction n with
  | zero => intro d path ty rv fields st _ _ h; omega
  | succ n ih =>
    intro d path ty rv fields st hf hw hlt
    cases rv with
    | skip => simp [completeValue]
    | error => simp [completeValue]
    | echo => simp [completeValue]
    | leaf j => exact completeValue_leaf_nofuel env n path ty j fields st
    | list items =>
      simp only [completeValue, completeList]
      split
      · simp
      · next inner hsh =>
        have hd := shape_list_depth' hsh
        exact completeItems_nofuel _ path ty inner fields
          (fun p rv st => ih d p inner rv fields st hf hw (by omega)) items 0 [] st
    | object resolvedTy id =>
      simp only [completeValue]
      split
      · simp
      · next tyName _ =>
        split
        · simp
        · simp
        · next k _ _ =>
            split
            · cases d with
              | zero =>
                have hnil : fields = [] := by
                  cases fields with
                  | nil => rfl
                  | cons f tl =>
                    obtain ⟨h1, h3⟩ := hf f (by simp)
                    cases f <;> simp [Sel.isField, Sel.m] at h1 h3
                subst hnil
                have hc : ∃ v g, collectFields env resolvedTy env.cfuel (subSelections []) [] [] = some (v, g) ∧ g = [] := by
                  cases hcf : env.cfuel with
                  | zero => omega
                  | succ m => exact ⟨[], [], by simp [subSelections, collectFields], rfl⟩
                obtain ⟨v, g, e, rfl⟩ := hc
                simp [execSelSet, e, execGroups]
              | succ d' =>
                obtain ⟨s1, s3⟩ := subSelections_R env.frags rank d' fields hf
                have hW := psi_le_wtot env.frags rank (Sel.sbL rank (subSelections fields))
                have hmul : (d' + 1) * potAll Sel.weightL env.frags = d' * potAll Sel.weightL env.frags + potAll Sel.weightL env.frags :=
                  Nat.succ_mul _ _
                rw [hmul] at hw
                obtain ⟨v, g, e, gok, gw⟩ := collect_okR env rank hac resolvedTy d' env.cfuel (subSelections fields) [] []
                  (by omega) s1 (by intro kv h; simp at h)
                rw [wleft_nil] at gw
                have hgr := execGroups_nofuel (completeValue env n) env path resolvedTy id g [] st (by
                  intro kv hkv fdef p rv st'
                  by_cases htf : ∃ f0 tl, kv.2 = f0 :: tl ∧ env.schema.typeField? resolvedTy f0.fname = some fdef
                  · obtain ⟨f0, tl, _, htf⟩ := htf
                    left
                    refine ih d' p fdef.ty rv kv.2 st' (gok kv hkv) ?_ ?_
                    · have := group_weight_le g kv hkv
                      simp only [groupsWeight] at gw
                      omega
                    · have := hT resolvedTy f0.fname fdef htf
                      have hmul2 : (d' + 1) * (T + 1) = d' * (T + 1) + (T + 1) := Nat.succ_mul d' (T + 1)
                      rw [hmul2] at hlt
                      generalize d' * (T + 1) = A at *
                      omega
                  · right
                    intro f0 tl hkv2 h
                    exact htf ⟨f0, tl, hkv2, h⟩)
                simp only [execSelSet, e]
                generalize execGroups (completeValue env n) env path resolvedTy id g [] st = res at *
                obtain ⟨r, st1⟩ := res
                cases r with
                | ok m => simp
                | error e' =>
                  simp only
                  intro h
                  cases h
                  exact hgr rfl
            · simp

def levelsBound (frags : AList Frag) (rank : String → Nat) (sels : List Sel) : Nat := Sel.mL frags rank sels
def cfuelBound (frags : AList Frag) (rank : String → Nat) (sels : List Sel) : Nat :=
  Sel.weightL sels + (levelsBound frags rank sels + 2) * potAll Sel.weightL frags + 1
def fuelBound (s : Schema) (frags : AList Frag) (rank : String → Nat) (sels : List Sel) : Nat :=
  (levelsBound frags rank sels + 1) * (maxObjDepth s.objects + 1) + 1

/-- **Fuel sufficiency with fragment spreads.**  For an acyclic fragment table, any `collect_fields` fuel of at
    least `cfuelBound` and any `complete_value` fuel of at least `fuelBound` make out-of-fuel impossible —
    whatever the schema, the variables and the world (cyclic object graphs, lists of any length, values of the
    wrong shape). -/
theorem execute_fuel_sufficientR (env : Env) (rank : String → Nat) (hac : Acyclic env.frags rank) (sels : List Sel)
    (fuel : Nat) (hc : cfuelBound env.frags rank sels ≤ env.cfuel)
    (hfuel : fuelBound env.schema env.frags rank sels ≤ fuel) :
    execute fuel env sels ≠ .outOfFuel := by
  have hT := typeDepthBound_schema env.schema
  unfold cfuelBound levelsBound at hc
  unfold fuelBound levelsBound at hfuel
  have hW := psi_le_wtot env.frags rank (Sel.sbL rank sels)
  have hmulc : (Sel.mL env.frags rank sels + 2) * potAll Sel.weightL env.frags =
      (Sel.mL env.frags rank sels + 1) * potAll Sel.weightL env.frags + potAll Sel.weightL env.frags := Nat.succ_mul _ _
  have hmulc2 : (Sel.mL env.frags rank sels + 1) * potAll Sel.weightL env.frags =
      Sel.mL env.frags rank sels * potAll Sel.weightL env.frags + potAll Sel.weightL env.frags := Nat.succ_mul _ _
  obtain ⟨v, g, e, gok, gw⟩ := collect_okR env rank hac env.schema.query (Sel.mL env.frags rank sels) env.cfuel sels [] []
    (by omega) (Nat.le_refl _) (by intro kv h; simp at h)
  rw [wleft_nil] at gw
  have hgr := execGroups_nofuel (completeValue env fuel) env [] env.schema.query 0 g [] { errors := [] } (by
    intro kv hkv fdef p rv st'
    by_cases htf : ∃ f0 tl, kv.2 = f0 :: tl ∧ env.schema.typeField? env.schema.query f0.fname = some fdef
    · obtain ⟨f0, tl, _, htf⟩ := htf
      left
      refine completeValue_nofuelR env rank hac _
        (Sel.weightL sels + (Sel.mL env.frags rank sels + 1) * potAll Sel.weightL env.frags) hT (by omega)
        fuel (Sel.mL env.frags rank sels) p fdef.ty rv kv.2 st' (gok kv hkv) ?_ ?_
      · have := group_weight_le g kv hkv
        simp only [groupsWeight] at gw
        omega
      · have := hT env.schema.query f0.fname fdef htf
        have hmul : (Sel.mL env.frags rank sels + 1) * (maxObjDepth env.schema.objects + 1) =
            Sel.mL env.frags rank sels * (maxObjDepth env.schema.objects + 1) + (maxObjDepth env.schema.objects + 1) := Nat.succ_mul _ _
        rw [hmul] at hfuel
        generalize Sel.mL env.frags rank sels * (maxObjDepth env.schema.objects + 1) = A at *
        omega
    · right
      intro f0 tl hkv2 h
      exact htf ⟨f0, tl, hkv2, h⟩)
  unfold execute
  simp only [execSelSet, e]
  generalize execGroups (completeValue env fuel) env [] env.schema.query 0 g [] { errors := [] } = res at *
  obtain ⟨r, st1⟩ := res
  cases r with
  | ok m => simp
  | error e' =>
    cases e' with
    | propagate => simp
    | fuel => exact absurd rfl hgr

end Apollo.Exec
