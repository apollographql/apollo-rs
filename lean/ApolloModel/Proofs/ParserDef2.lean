import ApolloModel.Proofs.ParserDef1
/-
C05, type-system definitions: the atoms of the calculus — `bump`, one-token nodes, `name`,
`err`, `expect`, closing tokens (`acc_close`), and the soundness theorems of `ty`, `value` and `directives` as `Acc` facts.
-/
set_option linter.unusedSimpArgs false
namespace Apollo.Parse
open Apollo.Rowan hiding Str
open Apollo.Lex hiding Str

/-- what makes a head token `t` a grammar token in the language `L` -/
def TokOk (P : Tok → Prop) (L : List Ast.Tok → Prop) : Prop :=
  ∀ t, P t → isIgnoredKind t.kind = false ∧ t.kind ≠ .eof ∧ ∃ x0, astOfV t = some x0 ∧ L [x0]

def HeadP (P : Tok → Prop) (q : List Tok) : Prop := ∃ t, q.head? = some t ∧ P t

theorem acc_bump {E : PState → Prop} (k : SK) (P : Tok → Prop) (L : List Ast.Tok → Prop) (hP : TokOk P L) :
    Acc E (HeadP P) (bump k) (fun _ x => L x) := by
  refine ⟨good_bump k, ?_⟩
  intro s a s' w he ⟨t, hh, hp⟩ hr _
  obtain ⟨hni, hne, x0, hx0, hL⟩ := hP t hp
  obtain ⟨ign, e, hall, _⟩ := bump_spec k s s' w t _ (toks_head_cons s t hh) hr
  refine ⟨t :: ign, e.toks, noEof_cons hne hall, eofEnd_eat he e (noEof_cons hne hall), Or.inl ⟨[x0], ?_, hL⟩⟩
  rw [sig_cons_ignV t ign hni hall]
  exact TokIs.single t x0 hx0

theorem headP_sig {P : Tok → Prop} {L} (hP : TokOk P L) : ∀ q, HeadP P q → ∃ t rest, q = t :: rest ∧ isIgnoredKind t.kind = false := by
  intro q ⟨t, hh, hp⟩
  cases q with
  | nil => cases hh
  | cons a b =>
    simp only [List.head?_cons, Option.some.injEq] at hh
    subst hh
    exact ⟨a, b, rfl, (hP a hp).1⟩

/-- `err` never takes part in an error-free run -/
theorem acc_err {E : PState → Prop} {H : List Tok → Prop} {R : Unit → List Ast.Tok → Prop} : Acc E H err R := by
  refine ⟨good_err, ?_⟩
  intro s a s' w he _ hr hnd
  exfalso
  obtain ⟨ad, d⟩ := err_adv s s' w hr
  have hnds : ¬ Doomed s := fun dd => hnd (ad.doom dd)
  exact hnd (d (eofEnd_nonempty s he hnds))

theorem acc_name {E : PState → Prop} {H : List Tok → Prop} : Acc E H name (fun _ x => ∃ n, x = [.name n]) := by
  refine ⟨good_name, ?_⟩
  intro s a s' w he _ hr hnd
  have hnds : ¬ Doomed s := fun dd => hnd ((good_name s a s' w hr).doom dd)
  obtain ⟨t, rest, ign, hq, hk, e, hall⟩ := name_spec s s' w (eofEnd_nonempty s he hnds) hr hnd
  have hni : isIgnoredKind t.kind = false := by rw [hk]; rfl
  have hne : t.kind ≠ .eof := by rw [hk]; decide
  refine ⟨t :: ign, e.toks, noEof_cons hne hall, eofEnd_eat he e (noEof_cons hne hall), Or.inl ⟨[.name t.data], ?_, t.data, rfl⟩⟩
  rw [sig_cons_ignV t ign hni hall]
  exact TokIs.single t _ (by simp [astOfV, hk])

/-- `expect(kind)`: the token of that kind is consumed (otherwise an error is recorded) -/
theorem acc_expect {E : PState → Prop} {H : List Tok → Prop} (token : Kind) (sk : SK) (x0 : Ast.Tok)
    (hx : ∀ t, t.kind = token → astOfV t = some x0) (hni : isIgnoredKind token = false) (hne : token ≠ .eof) :
    Acc E H (expect token sk) (fun _ x => x = [x0]) := by
  refine ⟨good_expect token sk, ?_⟩
  intro s a s' w he _ hr hnd
  obtain ⟨ad, hex⟩ := expect_spec token sk s s' w hr
  have hnds : ¬ Doomed s := fun dd => hnd (ad.doom dd)
  rcases hex with ⟨hemp, _⟩ | hd | ⟨t, rest, ign, hq, hk, e, hall, _⟩
  · exact absurd hemp (eofEnd_nonempty s he hnds)
  · exact absurd hd hnd
  · have hni' : isIgnoredKind t.kind = false := by rw [hk]; exact hni
    have hne' : t.kind ≠ .eof := by rw [hk]; exact hne
    refine ⟨t :: ign, e.toks, noEof_cons hne' hall, eofEnd_eat he e (noEof_cons hne' hall), Or.inl ⟨[x0], ?_, rfl⟩⟩
    rw [sig_cons_ignV t ign hni' hall]
    exact TokIs.single t x0 (hx t hk)

/-- `expect` on a closing token rules out the "stopped at the end of input" alternative of what precedes -/
theorem accQ_close {α : Type} {H : List Tok → Prop} {m : PI α} {R : Nat → α → List Ast.Tok → Prop}
    (token : Kind) (sk : SK) (x0 : Ast.Tok)
    (hx : ∀ t, t.kind = token → astOfV t = some x0) (hni : isIgnoredKind token = false) (hne : token ≠ .eof)
    (h : AccQ AtEof H m (fun B _ => R B)) :
    AccQ (fun _ => False) H (m >>= fun _ => expect token sk) (fun B _ _ x => ∃ a x1, x = x1 ++ [x0] ∧ R B a x1) := by
  refine ⟨good_bind _ _ h.1 (fun _ => good_expect token sk), ?_⟩
  intro s b s'' w he hq hr hnd
  obtain ⟨a, s', hr1, hr2⟩ := bind_dec m _ s s'' b hr
  have ad := h.1 s a s' w hr1
  have hnd' : ¬ Doomed s' := fun d => hnd ((good_expect token sk s' b s'' ad.w hr2).doom d)
  obtain ⟨c1, t1, n1, e1, r1⟩ := h.2 s a s' w he hq hr1 hnd'
  obtain ⟨_, hex⟩ := expect_spec token sk s' s'' ad.w hr2
  rcases hex with ⟨hemp, _⟩ | hd | ⟨t, rest, ign, hq2, hk, e, hall, _⟩
  · exact absurd hemp (eofEnd_nonempty s' e1 hnd')
  · exact absurd hd hnd
  · have hni' : isIgnoredKind t.kind = false := by rw [hk]; exact hni
    have hne' : t.kind ≠ .eof := by rw [hk]; exact hne
    refine ⟨c1 ++ (t :: ign), by rw [t1, e.toks, List.append_assoc], noEof_append n1 (noEof_cons hne' hall),
      eofEnd_eat e1 e (noEof_cons hne' hall), Or.inl ?_⟩
    rcases r1 with ⟨x1, hx1, hr1'⟩ | ⟨e0, hh, hke⟩
    · refine ⟨x1 ++ [x0], ?_, a, x1, rfl, hr1'⟩
      rw [sig_append, sig_cons_ignV t ign hni' hall]
      exact hx1.append (TokIs.single t x0 (hx t hk))
    · exfalso
      rw [hq2] at hh
      simp only [List.head?_cons, Option.some.injEq] at hh
      subst hh
      exact hne' hke

theorem acc_close {α : Type} {H : List Tok → Prop} {m : PI α} {R : α → List Ast.Tok → Prop}
    (token : Kind) (sk : SK) (x0 : Ast.Tok)
    (hx : ∀ t, t.kind = token → astOfV t = some x0) (hni : isIgnoredKind token = false) (hne : token ≠ .eof)
    (h : Acc AtEof H m R) :
    Acc (fun _ => False) H (m >>= fun _ => expect token sk) (fun _ x => ∃ a x1, x = x1 ++ [x0] ∧ R a x1) :=
  accQ_close (R := fun _ => R) token sk x0 hx hni hne h

/-! ### the soundness theorems of `ty`, `value`, `directives` as `Acc` facts -/

theorem astOf_astOfV (t : Tok) (x : Ast.Tok) (h : astOf t = some x) : astOfV t = some x := by
  unfold astOf at h
  unfold astOfV
  cases hk : t.kind <;> simp only [hk] at h ⊢ <;> first | exact h | cases h

theorem isTy_tokIs : ∀ (ts : List Tok) (xs : List Ast.Tok), ts.map astOf = xs.map some → TokIs ts xs
  | [], [], _ => TokIs.nil
  | [], _ :: _, h => by simp at h
  | _ :: _, [], h => by simp at h
  | t :: ts, x :: xs, h => by
    simp only [List.map_cons, List.cons.injEq] at h
    exact TokIs.cons (astOf_astOfV t x h.1) (isTy_tokIs ts xs h.2)

/-- a type, its list nesting within the budget -/
theorem accQ_ty {E : PState → Prop} {H : List Tok → Prop} (n : Nat) :
    AccQ E H (ty n) (fun B _ _ x => ∃ t, x = Ast.tTy t ∧ tyDepth t ≤ B) := by
  refine ⟨good_ty n, ?_⟩
  intro s a s' w he _ hr hnd
  have ok := Exact.ty_ok n s s' w he hr hnd
  obtain ⟨c, t, hc, hty, hno, hd⟩ := ok.ex
  exact ⟨c, hc, hno, ok.eof, Or.inl ⟨Ast.tTy t, isTy_tokIs _ _ hty, t, rfl, hd⟩⟩

theorem acc_ty {E : PState → Prop} {H : List Tok → Prop} (n : Nat) : Acc E H (ty n) (fun _ x => ∃ t, x = Ast.tTy t) :=
  (accQ_ty n).forget fun _ _ _ _ ⟨t, h, _⟩ => ⟨t, h⟩

/-- a value, its nesting within the budget -/
theorem accQ_value {H : List Tok → Prop} (n : Nat) (c p : Bool) :
    AccQ AtEof H (value n c p) (fun B _ _ x => ∃ v, x = Ast.tValue v ∧ valueOk c v = true ∧ Exact.vdepth v ≤ B) := by
  refine ⟨good_value n c p, ?_⟩
  intro s a s' w he _ hr hnd
  obtain ⟨⟨cs, a1, a2, a4⟩, a3⟩ := Exact.value_sound n c p s s' w he hr hnd
  exact ⟨cs, a1, a2, a3, a4.imp (fun ⟨v, hv, hok, hd⟩ => ⟨_, hv, v, rfl, hok, by simpa using hd⟩) id⟩

theorem acc_value {H : List Tok → Prop} (n : Nat) (c p : Bool) :
    Acc AtEof H (value n c p) (fun _ x => ∃ v, x = Ast.tValue v ∧ valueOk c v = true) :=
  (accQ_value n c p).forget fun _ _ _ _ ⟨v, h, hok, _⟩ => ⟨v, h, hok⟩

def dirsOk (c : Bool) (ds : List Ast.Directive) : Prop := ∀ d ∈ ds, argsOk c d.args

/-- directive applications, every argument within the budget -/
theorem accQ_directives {E : PState → Prop} {H : List Tok → Prop} (n : Nat) (c : Bool) :
    AccQ E H (directives n c) (fun B _ _ x => ∃ ds, x = Ast.tDirectives ds ∧ Exact.dirsFit c B ds) := by
  refine ⟨good_directives n c, ?_⟩
  intro s a s' w he _ hr hnd
  obtain ⟨cs, ds, a1, a2, a3, a4, a5⟩ := Exact.directives_sound n c s s' w he hr hnd
  exact ⟨cs, a1, a2, a3, Or.inl ⟨_, a4, ds, rfl, a5⟩⟩

theorem acc_directives {E : PState → Prop} {H : List Tok → Prop} (n : Nat) (c : Bool) :
    Acc E H (directives n c) (fun _ x => ∃ ds, x = Ast.tDirectives ds ∧ dirsOk c ds) :=
  (accQ_directives n c).forget fun _ _ _ _ ⟨ds, h, hf⟩ => ⟨ds, h, fun d hd a ha => (hf d hd a ha).1⟩

end Apollo.Parse
