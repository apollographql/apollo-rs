import ApolloModel.Proofs.ExecRules
import ApolloModel.Model.TypedVars
/-
C18 on top of the typed executable rules (Model/ExecRules.lean): COMPLETENESS of the variable part of
`value_of_correct_type` — a value whose check reports nothing has all its variables declared, at every depth:
in lists, in input-object literals, in list / object literals given to a custom scalar.
-/
namespace Apollo.ExecRules
open Apollo Apollo.Spec

def declared (vars : List RVarDef) (n : String) : Bool := vars.any (·.name == n)

theorem declared_of_find {vars : List RVarDef} {n : String} {vd : RVarDef} (h : vars.find? (·.name == n) = some vd) :
    declared vars n = true := by
  unfold declared
  rw [List.any_eq_true]
  have h2 := List.find?_some h
  exact ⟨vd, List.mem_of_find?_eq_some h, h2⟩

/-! ### variables and depth of list / object literals -/

theorem mem_varsList (n : String) : ∀ xs : List RVal, n ∈ RVal.varsList xs ↔ ∃ x ∈ xs, n ∈ RVal.vars x
  | [] => by simp [RVal.varsList]
  | x :: xs => by simp [RVal.varsList, mem_varsList n xs]

theorem mem_varsFields (n : String) : ∀ kvs : List (String × RVal), n ∈ RVal.varsFields kvs ↔ ∃ kv ∈ kvs, n ∈ RVal.vars kv.2
  | [] => by simp [RVal.varsFields]
  | (k, x) :: rest => by simp [RVal.varsFields, mem_varsFields n rest]

theorem depth_le_depthList : ∀ (xs : List RVal) (x : RVal), x ∈ xs → RVal.depth x ≤ RVal.depthList xs
  | [], _, h => by cases h
  | y :: ys, x, h => by
    simp only [RVal.depthList]
    rcases List.mem_cons.mp h with rfl | h
    · omega
    · have := depth_le_depthList ys x h; omega

theorem depth_le_depthFields : ∀ (kvs : List (String × RVal)) (kv : String × RVal), kv ∈ kvs → RVal.depth kv.2 ≤ RVal.depthFields kvs
  | [], _, h => by cases h
  | (k, y) :: rest, kv, h => by
    simp only [RVal.depthFields]
    rcases List.mem_cons.mp h with rfl | h
    · simp only; omega
    · have := depth_le_depthFields rest kv h; omega

theorem depth_pos (v : RVal) : 1 ≤ RVal.depth v := by cases v <;> simp [RVal.depth]

/-! ### a literal given to a custom scalar -/

theorem opaqueVars_complete (vars : List RVarDef) : ∀ (k : Nat) (v : RVal), RVal.depth v ≤ k → opaqueVars vars k v = [] →
    ∀ n ∈ RVal.vars v, declared vars n = true := by
  intro k
  induction k with
  | zero => intro v hd; have := depth_pos v; omega
  | succ k ih =>
    intro v hd h n hn
    cases v with
    | var m =>
      simp only [RVal.vars, List.mem_singleton] at hn
      subst hn
      simp only [opaqueVars] at h
      by_cases hc : vars.any (·.name == n) = true
      · exact hc
      · simp [hc] at h
    | null => simp [RVal.vars] at hn
    | lit => simp [RVal.vars] at hn
    | list xs =>
      simp only [RVal.vars] at hn
      obtain ⟨x, hx, hnx⟩ := (mem_varsList n xs).mp hn
      simp only [opaqueVars, List.flatMap_eq_nil_iff] at h
      have hdx := depth_le_depthList xs x hx
      simp only [RVal.depth] at hd
      exact ih x (by omega) (h x hx) n hnx
    | obj kvs =>
      simp only [RVal.vars] at hn
      obtain ⟨kv, hkv, hnx⟩ := (mem_varsFields n kvs).mp hn
      simp only [opaqueVars, List.flatMap_eq_nil_iff] at h
      have hdx := depth_le_depthFields kvs kv hkv
      simp only [RVal.depth] at hd
      exact ih kv.2 (by omega) (h kv hkv) n hnx

/-! ### what remains a hypothesis about a literal: the type of every position the check descends into is known
    (`schema.types.get(name)` answers). For a schema whose input types are closed (`InputClosed`, what a valid
    schema guarantees) this follows from the type of the argument alone: `litOk_of_closed`. That an object literal
    names only defined fields, each once, is not assumed: `valueDiags` reports it (`keyDiags`). -/

def litOk (s : RSchema) : Nat → Ty → RVal → Prop
  | 0, _, _ => True
  | k + 1, ty, v =>
    match s.kindForValue ty.innerNamedType with
    | none => False
    | some kind =>
      match v with
      | .list xs => ∀ x ∈ xs, litOk s k (itemTy ty) x
      | .obj kvs =>
        (match kind with
         | .inputObject fields =>
           ∀ kv ∈ kvs, ∀ fd, fields.find? (·.name == kv.1) = some fd → litOk s k fd.ty kv.2
         | _ => True)
      | _ => True

def InputClosed (s : RSchema) : Prop :=
  ∀ n fields, s.kindForValue n = some (.inputObject fields) → ∀ fd ∈ fields, (s.kindForValue fd.ty.innerNamedType).isSome

theorem innerNamedType_itemTy (ty : Ty) : (itemTy ty).innerNamedType = ty.innerNamedType := by
  cases ty <;> simp [itemTy, Ty.innerNamedType]

theorem litOk_of_closed (s : RSchema) (hc : InputClosed s) : ∀ (k : Nat) (ty : Ty) (v : RVal),
    (s.kindForValue ty.innerNamedType).isSome → litOk s k ty v := by
  intro k
  induction k with
  | zero => intro ty v _; trivial
  | succ k ih =>
    intro ty v hk
    simp only [litOk]
    cases hkd : s.kindForValue ty.innerNamedType with
    | none => rw [hkd] at hk; cases hk
    | some kind =>
      simp only
      cases v with
      | list xs => intro x _; exact ih _ x (by rw [innerNamedType_itemTy]; exact hk)
      | obj kvs =>
        cases kind with
        | inputObject fields =>
          intro kv _ fd hfd
          exact ih _ kv.2 (hc _ fields hkd fd (List.mem_of_find?_eq_some hfd))
        | _ => trivial
      | _ => trivial

theorem find_of_nodup_keys : ∀ (kvs : List (String × RVal)) (kv : String × RVal), (kvs.map (·.1)).Nodup → kv ∈ kvs →
    kvs.find? (·.1 == kv.1) = some kv
  | [], _, _, h => by cases h
  | (k, y) :: rest, kv, hn, h => by
    simp only [List.map_cons, List.nodup_cons] at hn
    rcases List.mem_cons.mp h with rfl | h
    · simp
    · have hne : ¬ (k = kv.1) := by
        intro e
        apply hn.1
        rw [e]
        exact List.mem_map.mpr ⟨kv, h, rfl⟩
      rw [List.find?_cons_of_neg (by simpa using hne)]
      exact find_of_nodup_keys rest kv hn.2 h

/-- **completeness of the variable part of `value_of_correct_type`** -/
theorem valueDiags_complete (s : RSchema) (vars : List RVarDef) : ∀ (k : Nat) (ty : Ty) (v : RVal), RVal.depth v ≤ k →
    litOk s k ty v → valueDiags s vars k ty v = [] → ∀ n ∈ RVal.vars v, declared vars n = true := by
  intro k
  induction k with
  | zero => intro ty v hd; have := depth_pos v; omega
  | succ k ih =>
    intro ty v hd hl h n hn
    simp only [valueDiags] at h
    simp only [litOk] at hl
    cases hk : s.kindForValue ty.innerNamedType with
    | none => rw [hk] at hl; exact absurd hl id
    | some kind =>
      rw [hk] at h hl
      simp only at h hl
      cases v with
      | var m =>
        simp only [RVal.vars, List.mem_singleton] at hn
        subst hn
        simp only [varValueDiags] at h
        cases hf : vars.find? (·.name == n) with
        | none => rw [hf] at h; simp at h
        | some vd => exact declared_of_find hf
      | null => simp [RVal.vars] at hn
      | lit => simp [RVal.vars] at hn
      | list xs =>
        simp only [RVal.vars] at hn
        obtain ⟨x, hx, hnx⟩ := (mem_varsList n xs).mp hn
        simp only at h hl
        have hdx := depth_le_depthList xs x hx
        simp only [RVal.depth] at hd
        by_cases ha : acceptsList ty kind = true
        · by_cases hlist : ty.isList = true
          · by_cases hi : kind.isInput = true
            · simp only [ha, hi, hlist, Bool.not_true, Bool.false_eq_true, if_false, if_true, List.flatMap_eq_nil_iff] at h
              exact ih _ x (by omega) (hl x hx) (h x hx) n hnx
            · simp [ha, hi, hlist] at h
          · -- a list literal at a non-list custom scalar: opaque (fix 115f905)
            have hlf : ty.isList = false := by simpa using hlist
            simp only [ha, hlf, Bool.not_false, Bool.not_true, Bool.false_eq_true, if_true, if_false, List.flatMap_eq_nil_iff] at h
            exact opaqueVars_complete vars k x (by omega) (h x hx) n hnx
        · simp [ha] at h
      | obj kvs =>
        simp only [RVal.vars] at hn
        obtain ⟨kv, hkv, hnx⟩ := (mem_varsFields n kvs).mp hn
        have hdx := depth_le_depthFields kvs kv hkv
        simp only [RVal.depth] at hd
        simp only at h hl
        cases kind with
        | scalar b =>
          cases b with
          | false =>
            simp only [List.flatMap_eq_nil_iff] at h
            exact opaqueVars_complete vars k kv.2 (by omega) (h kv hkv) n hnx
          | true => simp at h
        | inputObject fields =>
          simp only at h hl
          simp only [List.append_eq_nil_iff, List.flatMap_eq_nil_iff] at h
          obtain ⟨hnod, hall⟩ := (keyDiags_iff fields kvs).mp h.1
          obtain ⟨fd, hfd⟩ := hall kv hkv
          have hlk := hl kv hkv fd hfd
          replace h := h.2
          have hmem : fd ∈ fields := List.mem_of_find?_eq_some hfd
          have hname : fd.name = kv.1 := by simpa using List.find?_some hfd
          have h1 := h fd hmem
          rw [hname, find_of_nodup_keys kvs kv hnod hkv] at h1
          exact ih _ kv.2 (by omega) hlk h1 n hnx
        | enum => simp at h
        | object _ => simp at h
        | interface _ => simp at h
        | union _ => simp at h

end Apollo.ExecRules
