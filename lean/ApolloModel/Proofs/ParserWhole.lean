import ApolloModel.Proofs.ParserLossless
/-
C07: the standalone entry points consume the whole input or report an error.
-/
namespace Apollo.Parse
open Apollo.Rowan hiding Str
open Apollo.Lex hiding Str

theorem err_errors_nonempty (s s' : PState) (t : Tok) (hi : Inv s) (hc : s.current = some t)
    (h : err.run s = .ok () s') : s'.errors ≠ [] := by
  unfold err at h
  rw [run_bind, peekToken_current s t hc] at h
  simp only [] at h
  have : (pushErr (tokErr t)).run s = .ok () { s with errors := if s.acceptErrors then s.errors ++ [tokErr t] else s.errors, acceptErrors := s.acceptErrors } := rfl
  rw [this] at h
  simp only [Res.ok.injEq, true_and] at h
  subst h
  simp only []
  by_cases ha : s.acceptErrors = true
  · simp [ha]
  · have ha' : s.acceptErrors = false := by simpa using ha
    simp only [ha', Bool.false_eq_true, if_false]
    exact hi.errNonempty ha'

/-- when `expect_end_of_input` completes without a token limit and leaves no error, the input is
    exhausted: the lexer is done and only the (empty) EOF token is current -/
theorem expectEndOfInput_exhausted (s s' : PState) (hi : Inv s) (hl : s.lx.limit = none)
    (h : expectEndOfInput.run s = .ok () s') (he : s'.errors = []) : Exhausted s' := by
  unfold expectEndOfInput at h
  obtain ⟨u, s1, h1, h⟩ := bind_dec _ _ _ _ _ h
  obtain ⟨hi1, hl1⟩ := PI.run_ok skipIgnored s hi u s1 h1
  rw [run_bind] at h
  obtain ⟨o, s2, hpt, hpk⟩ := peek_run s1
  obtain ⟨hi2, hl2⟩ := PI.run_ok peekToken s1 hi1 o s2 hpt
  have hlim2 : s2.lx.limit = none := by rw [hl2, hl1]; exact hl
  rw [hpk] at h
  simp only [] at h
  cases o with
  | none =>
    simp only [Option.map_none, errUnlessEnd, beq_self_eq_true, Bool.true_or, if_true, run_pure, Res.ok.injEq, true_and] at h
    subst h
    exact exhausted_of_peek_none s1 s2 hi2 hlim2 hpt
  | some t =>
    simp only [Option.map_some, errUnlessEnd] at h
    by_cases hk : t.kind = .eof
    · simp only [hk, beq_self_eq_true, Bool.or_true, if_true, run_pure, Res.ok.injEq, true_and] at h
      subst h
      exact exhausted_of_peek_eof s1 s2 t hi2 hk hpt
    · have : (some t.kind == none || some t.kind == some Kind.eof) = false := by simp [hk]
      simp only [this, Bool.false_eq_true, if_false] at h
      exact absurd he (err_errors_nonempty s2 s' t hi2 (peekToken_some s1 s2 t hpt) h)

/-- **C07** — `Parser::parse_type` / `parse_selection_set` with no token limit: if no error is
    reported, the parser consumed the whole input: the text of the current token followed by the unlexed
    source (`leftover`) is empty, i.e. nothing but the empty EOF token is left over. -/
theorem standalone_whole_input (e : Entry) (he : e = .type ∨ e = .selectionSet) (rl : Nat) (src : Str)
    (root : Elem) (h : (parse e none rl src).outcome = .tree root) (herr : (parse e none rl src).errors = []) :
    (parse e none rl src).leftover = [] := by
  unfold parse runEntry at h herr ⊢
  rcases he with rfl | rfl
  all_goals
    simp only [Entry.standalone, Entry.grammar] at h herr ⊢
    generalize hs0 : ({ initState src none rl with builder := (initState src none rl).builder.startNode _ } : PState) = s0 at h herr ⊢
    have hinv : Inv s0 := by subst hs0; exact standalone_inv src none rl _
    have hl0 : s0.lx.limit = none := by subst hs0; rfl
  · cases hr : (ty (fuelFor src) >>= fun _ => expectEndOfInput).run s0 with
    | abort w => simp [hr] at h
    | panic m => simp [hr] at h
    | ok a s =>
      simp only [hr] at h herr ⊢
      obtain ⟨u, s1, h1, hr⟩ := bind_dec _ _ _ _ _ hr
      obtain ⟨hi1, hl1⟩ := PI.run_ok _ s0 hinv u s1 h1
      have hex := expectEndOfInput_exhausted s1 s hi1 (by rw [hl1]; exact hl0) hr herr
      simp [hex.1, hex.2]
  · cases hr : (fieldSet (fuelFor src) >>= fun _ => expectEndOfInput).run s0 with
    | abort w => simp [hr] at h
    | panic m => simp [hr] at h
    | ok a s =>
      simp only [hr] at h herr ⊢
      obtain ⟨u, s1, h1, hr⟩ := bind_dec _ _ _ _ _ hr
      obtain ⟨hi1, hl1⟩ := PI.run_ok _ s0 hinv u s1 h1
      have hex := expectEndOfInput_exhausted s1 s hi1 (by rw [hl1]; exact hl0) hr herr
      simp [hex.1, hex.2]

end Apollo.Parse
