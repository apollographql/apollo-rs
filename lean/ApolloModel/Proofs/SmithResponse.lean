import ApolloModel.Model.SmithResponse
/-
C33: shape lemmas for the response builder model: whatever the randomness source answers, a generated
value nests lists exactly as the field type does, is null only as the whole value of a nullable field, never
below (`groupValue_spec`: `null` or `shape`, which has no null anywhere), and its leaves are what the schema says.
-/
namespace Apollo.Smith

/-- JSON kind expected for a leaf of named type `n` -/
def leafOk (s : Schema) (n : Name) : Json → Prop
  | .str v =>
    match s.get? n with
    | some (.enum values) => v ∈ values
    | some .scalar => n ≠ "Boolean" ∧ n ≠ "Int" ∧ n ≠ "Float"
    | _ => False
  | .int i => s.get? n = some .scalar ∧ n = "Int" ∧ 0 ≤ i
  | .bool _ => s.get? n = some .scalar ∧ n = "Boolean"
  | .half => s.get? n = some .scalar ∧ n = "Float"
  | _ => False

def isObj : Json → Prop
  | .obj _ => True
  | _ => False

mutual
/-- `shape s composite ty j`: `j` has one list per list layer of `ty`, no null anywhere, and innermost values
    that are objects (for a field with sub-selections) or leaves of the named type -/
def shape (s : Schema) (composite : Bool) : Ty → Json → Prop
  | .list inner, .arr items | .nonNullList inner, .arr items => shapeAll s composite inner items
  | .named n, j | .nonNullNamed n, j => if composite then isObj j else leafOk s n j
  | _, _ => False
def shapeAll (s : Schema) (composite : Bool) : Ty → Jsons → Prop
  | _, .nil => True
  | ty, .cons j tl => shape s composite ty j ∧ shapeAll s composite ty tl
end

theorem draw_ok {script : List Nat} {v : Nat} {r : List Nat} (h : draw script = .ok v r) : script = v :: r := by
  cases script with
  | nil => simp [draw] at h
  | cons a t => simp [draw] at h; obtain ⟨rfl, rfl⟩ := h; rfl

theorem genString_str {script : List Nat} {j : Json} {r : List Nat} (h : genString script = .ok j r) : ∃ t, j = .str t := by
  unfold genString at h
  split at h <;> try cases h
  split at h <;> try cases h
  exact ⟨_, rfl⟩

theorem generateScalar_leafOk (s : Schema) (n : Name) (hs : s.get? n = some .scalar) {script : List Nat} {j : Json}
    {r : List Nat} (h : generateScalar n script = .ok j r) : leafOk s n j := by
  unfold generateScalar at h
  split at h
  · rename_i hn; split at h <;> try cases h
    simp only [beq_iff_eq] at hn
    exact ⟨hs, hn⟩
  · split at h
    · rename_i hn; split at h <;> try cases h
      simp only [beq_iff_eq] at hn
      exact ⟨hs, hn, Int.natCast_nonneg _⟩
    · split at h
      · rename_i hn; split at h <;> try cases h
        simp only [beq_iff_eq] at hn
        exact ⟨hs, hn⟩
      · rename_i h1 h2 h3
        simp only [beq_iff_eq] at h1 h2 h3
        split at h
        · split at h <;> try cases h
          simp only [leafOk, hs]
          exact ⟨h1, h2, h3⟩
        · obtain ⟨t, rfl⟩ := genString_str h
          simp only [leafOk, hs]
          exact ⟨h1, h2, h3⟩

theorem leafField_leafOk (s : Schema) (n : Name) {script : List Nat} {j : Json} {r : List Nat}
    (h : leafField s n script = .ok j r) : leafOk s n j := by
  unfold leafField at h
  cases hg : s.get? n with
  | none => simp [hg] at h
  | some td =>
    cases td with
    | enum values =>
      simp only [hg] at h
      cases hc : chooseIndex values.length script <;> simp only [hc, reduceCtorEq] at h
      rename_i idx r1
      cases hv : values[idx]? with
      | none => simp [hv] at h
      | some v =>
        simp only [hv] at h
        cases h
        simp only [leafOk, hg]
        exact List.mem_of_getElem? hv
    | scalar => simp only [hg] at h; exact generateScalar_leafOk s n hg h
    | object | interface | union | input => simp [hg] at h

theorem selectionSet_isObj (s : Schema) (frags : Fragments) (cfg : Cfg) (f : Nat) (ty : Name) (sels : Sels)
    (script : List Nat) (j : Json) (r : List Nat) (h : selectionSet s frags cfg f ty sels script = .ok j r) : isObj j := by
  cases f with
  | zero => simp [selectionSet] at h
  | succ f =>
    rw [selectionSet] at h
    split at h <;> try cases h
    split at h <;> try cases h
    split at h <;> try cases h
    trivial

/-! The builder passes every failure on, so a call that ended in `.ok` went through `.ok` at each stage. -/

theorem fieldValue_list_ok {s : Schema} {frags : Fragments} {cfg : Cfg} {f : Nat} {mf : FieldInfo}
    {fields : List FieldInfo} {ty inner : Ty} {script : List Nat} {j : Json} {r : List Nat}
    (hty : ty = .list inner ∨ ty = .nonNullList inner)
    (h : fieldValue s frags cfg (f + 1) mf fields ty script = .ok j r) :
    ∃ v r1 items, draw script = .ok v r1 ∧
      listItems s frags cfg f mf fields inner (cfg.minList + v) r1 = .ok items r ∧ j = .arr items := by
  unfold fieldValue at h
  rcases hty with rfl | rfl <;> simp only at h
  all_goals
    cases hd : draw script <;> simp only [hd, reduceCtorEq] at h
    rename_i v r1
    cases hl : listItems s frags cfg f mf fields inner (cfg.minList + v) r1 <;> simp only [hl, reduceCtorEq] at h
    cases h
    exact ⟨v, r1, _, rfl, hl, rfl⟩

theorem listItems_succ_ok {s : Schema} {frags : Fragments} {cfg : Cfg} {f : Nat} {mf : FieldInfo}
    {fields : List FieldInfo} {inner : Ty} {n : Nat} {script : List Nat} {items : Jsons} {r : List Nat}
    (h : listItems s frags cfg (f + 1) mf fields inner (n + 1) script = .ok items r) :
    ∃ v r1 vs, fieldValue s frags cfg f mf fields inner script = .ok v r1 ∧
      listItems s frags cfg f mf fields inner n r1 = .ok vs r ∧ items = .cons v vs := by
  unfold listItems at h
  cases hv : fieldValue s frags cfg f mf fields inner script <;> simp only [hv, reduceCtorEq] at h
  rename_i v r1
  cases hvs : listItems s frags cfg f mf fields inner n r1 <;> simp only [hvs, reduceCtorEq] at h
  cases h
  exact ⟨v, r1, _, rfl, hvs, rfl⟩

mutual
theorem fieldValue_shape (s : Schema) (frags : Fragments) (cfg : Cfg) : ∀ (f : Nat) (mf : FieldInfo)
    (fields : List FieldInfo) (ty : Ty) (script : List Nat) (j : Json) (r : List Nat),
    fieldValue s frags cfg f mf fields ty script = .ok j r → shape s (!mf.sub.isEmpty) ty j
  | 0, _, _, _, _, _, _, h => by simp [fieldValue] at h
  | f + 1, mf, fields, ty, script, j, r, h => by
    cases ty with
    | list inner =>
      obtain ⟨v, r1, items, _, hl, rfl⟩ := fieldValue_list_ok (.inl rfl) h
      simp only [shape]
      exact listItems_shape s frags cfg f mf fields inner _ _ items _ hl
    | nonNullList inner =>
      obtain ⟨v, r1, items, _, hl, rfl⟩ := fieldValue_list_ok (.inr rfl) h
      simp only [shape]
      exact listItems_shape s frags cfg f mf fields inner _ _ items _ hl
    | named n | nonNullNamed n =>
      unfold fieldValue at h
      simp only at h
      split at h
      · rename_i hc
        simp only [shape, hc, if_true]
        exact selectionSet_isObj s frags cfg f _ _ _ _ _ h
      · rename_i hc
        simp only [Bool.not_eq_true] at hc
        simp only [shape, hc]
        exact leafField_leafOk s n h
theorem listItems_shape (s : Schema) (frags : Fragments) (cfg : Cfg) : ∀ (f : Nat) (mf : FieldInfo)
    (fields : List FieldInfo) (inner : Ty) (n : Nat) (script : List Nat) (items : Jsons) (r : List Nat),
    listItems s frags cfg f mf fields inner n script = .ok items r → shapeAll s (!mf.sub.isEmpty) inner items
  | 0, _, _, _, _, _, _, _, h => by simp [listItems] at h
  | f + 1, mf, fields, inner, 0, script, items, r, h => by
    simp only [listItems] at h
    cases h
    simp [shapeAll]
  | f + 1, mf, fields, inner, n + 1, script, items, r, h => by
    obtain ⟨v, r1, vs, hv, hvs, rfl⟩ := listItems_succ_ok h
    simp only [shapeAll]
    exact ⟨fieldValue_shape s frags cfg f mf fields inner _ v r1 hv,
      listItems_shape s frags cfg f mf fields inner n _ vs _ hvs⟩
end

def Jsons.length : Jsons → Nat
  | .nil => 0
  | .cons _ tl => tl.length + 1

theorem listItems_length (s : Schema) (frags : Fragments) (cfg : Cfg) : ∀ (f : Nat) (mf : FieldInfo)
    (fields : List FieldInfo) (inner : Ty) (n : Nat) (script : List Nat) (items : Jsons) (r : List Nat),
    listItems s frags cfg f mf fields inner n script = .ok items r → items.length = n
  | 0, _, _, _, _, _, _, _, h => by simp [listItems] at h
  | f + 1, _, _, _, 0, _, _, _, h => by simp only [listItems] at h; cases h; rfl
  | f + 1, mf, fields, inner, n + 1, script, items, r, h => by
    obtain ⟨v, r1, vs, _, hvs, rfl⟩ := listItems_succ_ok h
    have := listItems_length s frags cfg f mf fields inner n _ vs _ hvs
    simp [Jsons.length, this]

/-! ### concrete types -/

/-- the object types a value of declared type `ty` may have (`GetPossibleTypes`) as the builder sees them -/
def possibleTypes (s : Schema) (ty : Name) : List Name :=
  match s.get? ty with
  | some (.union members) => members
  | some .interface => implementers s ty
  | _ => [ty]

theorem concreteType_possible (s : Schema) (ty : Name) (script : List Nat) (c : Name) (r : List Nat)
    (h : concreteType s ty script = .ok c r) :
    c ∈ possibleTypes s ty ∨ (s.get? ty = some .interface ∧ implementers s ty = [] ∧ c = ty) := by
  unfold concreteType at h
  unfold possibleTypes
  cases hg : s.get? ty with
  | none => simp only [hg] at h; cases h; left; simp
  | some td =>
    cases td with
    | union members =>
      simp only [hg] at h
      cases hc : chooseIndex members.length script <;> simp only [hc, reduceCtorEq] at h
      rename_i idx r1
      cases hv : members[idx]? with
      | none => simp [hv] at h
      | some m => simp only [hv] at h; cases h; left; exact List.mem_of_getElem? hv
    | interface =>
      simp only [hg] at h
      by_cases hlen : ((implementers s ty).length == 0) = true
      · simp only [hlen, if_true] at h
        cases h
        right
        refine ⟨rfl, ?_, rfl⟩
        simpa using hlen
      · rw [if_neg hlen] at h
        cases hc : chooseIndex (implementers s ty).length script <;> simp only [hc, reduceCtorEq] at h
        rename_i idx r1
        cases hv : (implementers s ty)[idx]? with
        | none => simp [hv] at h
        | some m => simp only [hv] at h; cases h; left; exact List.mem_of_getElem? hv
    | scalar | enum | object | input => simp only [hg] at h; cases h; left; simp

/-! ### one response key -/

theorem groupValue_spec (s : Schema) (frags : Fragments) (cfg : Cfg) (f : Nat) (concrete : Name) (mf : FieldInfo)
    (fields : List FieldInfo) (script : List Nat) (v : Json) (r : List Nat)
    (h : groupValue s frags cfg f concrete mf fields script = .ok v r) :
    (mf.name = "__typename" ∧ v = .str concrete)
    ∨ (v = .null ∧ mf.ty.isNonNull = false)
    ∨ shape s (!mf.sub.isEmpty) mf.ty v := by
  cases f with
  | zero => simp [groupValue] at h
  | succ f =>
    rw [groupValue] at h
    split at h
    · rename_i hn
      cases h
      left; exact ⟨by simpa using hn, rfl⟩
    · split at h
      · rename_i hnn
        split at h <;> try cases h
        · right; left
          refine ⟨rfl, ?_⟩
          simpa using hnn
        · right; right
          exact fieldValue_shape s frags cfg f mf fields mf.ty _ v r h
      · right; right
        exact fieldValue_shape s frags cfg f mf fields mf.ty _ v r h

end Apollo.Smith
