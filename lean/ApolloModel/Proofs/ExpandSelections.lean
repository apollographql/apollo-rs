import ApolloModel.Model.ExpandSelections
import ApolloModel.Proofs.ExecValidationMerge
/-
C17: `expand_selections` (Model/ExpandSelections.lean) lists exactly the fields the specification means
by "the selections of a set, including visiting fragments and inline fragments" — soundness, completeness
and termination of the breadth-first loop with `seen_fragments` — and the field-merging verdict of the
expanded list does not depend on which expansion order produced it; the depth-first expansion (`flatten`) lists the
same fields.
-/
set_option linter.unusedVariables false
namespace Apollo.Expand

/-! ### what the specification means by "the selections of a set, including visiting fragments and
inline fragments" -/

/-- `x = (type, field)` is a field written in `sels` (whose type is `ty`), possibly inside inline fragments -/
inductive InSels : String → List ESel → String × Nat → Prop
  | field {ty : String} {sels : List ESel} {id : Nat} : ESel.field id ∈ sels → InSels ty sels (ty, id)
  | inline {ty t : String} {sels ss : List ESel} {x : String × Nat} : ESel.inline t ss ∈ sels → InSels t ss x → InSels ty sels x

inductive SpreadsIn : List ESel → String → Prop
  | here {sels : List ESel} {n : String} : ESel.spread n ∈ sels → SpreadsIn sels n
  | inline {t : String} {sels ss : List ESel} {n : String} : ESel.inline t ss ∈ sels → SpreadsIn ss n → SpreadsIn sels n

inductive ReachFrag (frags : Frags) (sets : List ESet) : String → Prop
  | root {S : ESet} {n : String} : S ∈ sets → SpreadsIn S.2 n → ReachFrag frags sets n
  | step {m n : String} {F : ESet} : ReachFrag frags sets m → frags.get? m = some F → SpreadsIn F.2 n → ReachFrag frags sets n

def Expanded (frags : Frags) (sets : List ESet) (x : String × Nat) : Prop :=
  (∃ S ∈ sets, InSels S.1 S.2 x) ∨ (∃ m F, ReachFrag frags sets m ∧ frags.get? m = some F ∧ InSels F.1 F.2 x)

/-! ### the two relations, selection by selection -/

theorem InSels.mono {ty : String} {a b : List ESel} {x : String × Nat} (hab : ∀ s ∈ a, s ∈ b) :
    InSels ty a x → InSels ty b x
  | .field hm => .field (hab _ hm)
  | .inline hm hi => .inline (hab _ hm) hi

theorem SpreadsIn.mono {a b : List ESel} {n : String} (hab : ∀ s ∈ a, s ∈ b) : SpreadsIn a n → SpreadsIn b n
  | .here hm => .here (hab _ hm)
  | .inline hm hi => .inline (hab _ hm) hi

theorem inSels_nil {ty : String} {x : String × Nat} : InSels ty [] x ↔ False :=
  ⟨fun h => by cases h <;> contradiction, False.elim⟩

theorem spreadsIn_nil {n : String} : SpreadsIn [] n ↔ False :=
  ⟨fun h => by cases h <;> contradiction, False.elim⟩

theorem inSels_cons {ty : String} {s : ESel} {rest : List ESel} {x : String × Nat} :
    InSels ty (s :: rest) x ↔ InSels ty [s] x ∨ InSels ty rest x := by
  constructor
  · intro h
    cases h with
    | field hm =>
      rcases List.mem_cons.mp hm with rfl | hm
      · exact .inl (.field List.mem_cons_self)
      · exact .inr (.field hm)
    | inline hm hi =>
      rcases List.mem_cons.mp hm with rfl | hm
      · exact .inl (.inline List.mem_cons_self hi)
      · exact .inr (.inline hm hi)
  · exact fun h => h.elim (.mono (by simp)) (.mono (by simp +contextual))

theorem spreadsIn_cons {s : ESel} {rest : List ESel} {n : String} :
    SpreadsIn (s :: rest) n ↔ SpreadsIn [s] n ∨ SpreadsIn rest n := by
  constructor
  · intro h
    cases h with
    | here hm =>
      rcases List.mem_cons.mp hm with rfl | hm
      · exact .inl (.here List.mem_cons_self)
      · exact .inr (.here hm)
    | inline hm hi =>
      rcases List.mem_cons.mp hm with rfl | hm
      · exact .inl (.inline List.mem_cons_self hi)
      · exact .inr (.inline hm hi)
  · exact fun h => h.elim (.mono (by simp)) (.mono (by simp +contextual))

theorem inSels_field {ty : String} {id : Nat} {x : String × Nat} : InSels ty [.field id] x ↔ x = (ty, id) := by
  constructor
  · intro h
    cases h with
    | field hm => cases List.mem_singleton.mp hm; rfl
    | inline hm _ => cases List.mem_singleton.mp hm
  · rintro rfl; exact .field List.mem_cons_self

theorem inSels_inline {ty t : String} {ss : List ESel} {x : String × Nat} : InSels ty [.inline t ss] x ↔ InSels t ss x := by
  constructor
  · intro h
    cases h with
    | field hm => cases List.mem_singleton.mp hm
    | inline hm hi => cases List.mem_singleton.mp hm; exact hi
  · exact .inline List.mem_cons_self

theorem inSels_spread {ty n : String} {x : String × Nat} : InSels ty [.spread n] x ↔ False := by
  refine ⟨fun h => ?_, False.elim⟩
  cases h with
  | field hm => cases List.mem_singleton.mp hm
  | inline hm _ => cases List.mem_singleton.mp hm

theorem spreadsIn_field {id : Nat} {n : String} : SpreadsIn [.field id] n ↔ False := by
  refine ⟨fun h => ?_, False.elim⟩
  cases h with
  | here hm => cases List.mem_singleton.mp hm
  | inline hm _ => cases List.mem_singleton.mp hm

theorem spreadsIn_inline {t : String} {ss : List ESel} {n : String} : SpreadsIn [.inline t ss] n ↔ SpreadsIn ss n := by
  constructor
  · intro h
    cases h with
    | here hm => cases List.mem_singleton.mp hm
    | inline hm hi => cases List.mem_singleton.mp hm; exact hi
  · exact .inline List.mem_cons_self

theorem spreadsIn_spread {m n : String} : SpreadsIn [.spread m] n ↔ n = m := by
  constructor
  · intro h
    cases h with
    | here hm => cases List.mem_singleton.mp hm; rfl
    | inline hm _ => cases List.mem_singleton.mp hm
  · rintro rfl; exact .here List.mem_cons_self

/-- A listing `out` with marks `seen` that covers the given sets and the body of every marked fragment lists everything
    the specification expands: the marks are closed under spreads, so they contain every reachable fragment. -/
theorem expanded_of_covered {frags : Frags} {sets : List ESet} {out : List (String × Nat)} {seen : List String}
    (hroot : ∀ S ∈ sets, (∀ x, InSels S.1 S.2 x → x ∈ out) ∧ ∀ n, SpreadsIn S.2 n → n ∈ seen)
    (hseen : ∀ n ∈ seen, ∀ F, frags.get? n = some F → (∀ x, InSels F.1 F.2 x → x ∈ out) ∧ ∀ k, SpreadsIn F.2 k → k ∈ seen) :
    ∀ x, Expanded frags sets x → x ∈ out := by
  have hreach : ∀ n, ReachFrag frags sets n → n ∈ seen := by
    intro n hr
    induction hr with
    | root hS hsp => exact (hroot _ hS).2 _ hsp
    | step _ hF hsp ih => exact (hseen _ ih _ hF).2 _ hsp
  rintro x (⟨S, hS, hx⟩ | ⟨m, F, hr, hF, hx⟩)
  · exact (hroot S hS).1 x hx
  · exact (hseen m (hreach m hr) F hF).1 x hx

/-! ### soundness -/

def GoodSet (frags : Frags) (sets : List ESet) (S : ESet) : Prop :=
  (∀ x, InSels S.1 S.2 x → Expanded frags sets x) ∧ (∀ n, SpreadsIn S.2 n → ReachFrag frags sets n)

structure Sound (frags : Frags) (sets : List ESet) (st : St) : Prop where
  out : ∀ x ∈ st.out, Expanded frags sets x
  queue : ∀ Q ∈ st.queue, GoodSet frags sets Q
  seen : ∀ n ∈ st.seen, ReachFrag frags sets n

theorem forall_sels_cons {ty : String} {s : ESel} {rest : List ESel} {P : String × Nat → Prop} {R : String → Prop} :
    ((∀ x, InSels ty (s :: rest) x → P x) ∧ ∀ n, SpreadsIn (s :: rest) n → R n) ↔
      ((∀ x, InSels ty [s] x → P x) ∧ ∀ n, SpreadsIn [s] n → R n) ∧ (∀ x, InSels ty rest x → P x) ∧ ∀ n, SpreadsIn rest n → R n := by
  constructor
  · exact fun h =>
      ⟨⟨fun x hx => h.1 x (inSels_cons.mpr (.inl hx)), fun n hn => h.2 n (spreadsIn_cons.mpr (.inl hn))⟩,
        fun x hx => h.1 x (inSels_cons.mpr (.inr hx)), fun n hn => h.2 n (spreadsIn_cons.mpr (.inr hn))⟩
  · exact fun ⟨h1, h2⟩ =>
      ⟨fun x hx => (inSels_cons.mp hx).elim (h1.1 x) (h2.1 x), fun n hn => (spreadsIn_cons.mp hn).elim (h1.2 n) (h2.2 n)⟩

theorem goodSet_cons {frags : Frags} {sets : List ESet} {ty : String} {s : ESel} {rest : List ESel} :
    GoodSet frags sets (ty, s :: rest) ↔ GoodSet frags sets (ty, [s]) ∧ GoodSet frags sets (ty, rest) :=
  forall_sels_cons

theorem goodSet_frag {frags : Frags} {sets : List ESet} {n : String} {F : ESet} (hr : ReachFrag frags sets n)
    (hF : frags.get? n = some F) : GoodSet frags sets F :=
  ⟨fun x hx => .inr ⟨n, F, hr, hF, hx⟩, fun _ hk => .step hr hF hk⟩

theorem goodSet_root {frags : Frags} {sets : List ESet} {S : ESet} (hS : S ∈ sets) : GoodSet frags sets S :=
  ⟨fun x hx => .inl ⟨S, hS, hx⟩, fun _ hn => .root hS hn⟩

theorem visit_sound (frags : Frags) (sets : List ESet) (ty : String) :
    ∀ (sels : List ESel) (st : St), GoodSet frags sets (ty, sels) → Sound frags sets st → Sound frags sets (visit frags ty sels st)
  | [], st, _, h => h
  | .field id :: rest, st, hg, hs =>
    have hx := (goodSet_cons.mp hg).1.1 _ (inSels_field.mpr rfl)
    visit_sound frags sets ty rest _ (goodSet_cons.mp hg).2
      ⟨List.forall_mem_append.mpr ⟨hs.out, List.forall_mem_singleton.mpr hx⟩, hs.queue, hs.seen⟩
  | .inline t ss :: rest, st, hg, hs =>
    have hq : GoodSet frags sets (t, ss) :=
      ⟨fun x hx => (goodSet_cons.mp hg).1.1 x (inSels_inline.mpr hx), fun n hn => (goodSet_cons.mp hg).1.2 n (spreadsIn_inline.mpr hn)⟩
    visit_sound frags sets ty rest _ (goodSet_cons.mp hg).2
      ⟨hs.out, List.forall_mem_append.mpr ⟨hs.queue, List.forall_mem_singleton.mpr hq⟩, hs.seen⟩
  | .spread n :: rest, st, hg, hs => by
    have hr : ReachFrag frags sets n := (goodSet_cons.mp hg).1.2 n (spreadsIn_spread.mpr rfl)
    have hseen : ∀ k ∈ n :: st.seen, ReachFrag frags sets k := List.forall_mem_cons.mpr ⟨hr, hs.seen⟩
    simp only [visit]
    split
    · exact visit_sound frags sets ty rest _ (goodSet_cons.mp hg).2 hs
    · cases hF : frags.get? n with
      | some F =>
        exact visit_sound frags sets ty rest _ (goodSet_cons.mp hg).2
          ⟨hs.out, List.forall_mem_append.mpr ⟨hs.queue, List.forall_mem_singleton.mpr (goodSet_frag hr hF)⟩, hseen⟩
      | none => exact visit_sound frags sets ty rest _ (goodSet_cons.mp hg).2 ⟨hs.out, hs.queue, hseen⟩

theorem loop_sound (frags : Frags) (sets : List ESet) : ∀ (fuel : Nat) (st : St), Sound frags sets st → Sound frags sets (loop frags fuel st) := by
  intro fuel
  induction fuel with
  | zero => intro st h; simpa [loop] using h
  | succ fuel ih =>
    intro st h
    simp only [loop]
    cases hq : st.queue with
    | nil => simpa using h
    | cons Q q =>
      obtain ⟨ty, sels⟩ := Q
      simp only []
      apply ih
      apply visit_sound frags sets ty sels _ (h.queue _ (by rw [hq]; simp))
      exact ⟨h.out, fun Q' hQ' => h.queue Q' (by rw [hq]; simp [hQ']), h.seen⟩

/-- SOUNDNESS: every field `expand_selections` lists is a field of one of the given sets or of a fragment
    reachable from them -/
theorem expand_sound (frags : Frags) (sets : List ESet) : ∀ x ∈ expand frags sets, Expanded frags sets x := by
  apply (loop_sound frags sets _ _ ?_).out
  exact ⟨by simp, fun Q hQ => goodSet_root hQ, by simp⟩

/-! ### completeness -/

def Avail (st : St) (x : String × Nat) : Prop := x ∈ st.out ∨ ∃ Q ∈ st.queue, InSels Q.1 Q.2 x
def AvailF (st : St) (n : String) : Prop := n ∈ st.seen ∨ ∃ Q ∈ st.queue, SpreadsIn Q.2 n

def Covered (st : St) (S : ESet) : Prop :=
  (∀ x, InSels S.1 S.2 x → Avail st x) ∧ (∀ n, SpreadsIn S.2 n → AvailF st n)

/-- nothing gets lost from `a` to `b`, and the body of every newly seen fragment is covered -/
structure Le (frags : Frags) (a b : St) : Prop where
  avail : ∀ x, Avail a x → Avail b x
  availF : ∀ n, AvailF a n → AvailF b n
  seen : ∀ n ∈ b.seen, n ∈ a.seen ∨ ∀ F, frags.get? n = some F → Covered b F

theorem Covered.mono {frags : Frags} {a b : St} (h : Le frags a b) {S : ESet} (hc : Covered a S) : Covered b S :=
  ⟨fun x hx => h.avail x (hc.1 x hx), fun n hn => h.availF n (hc.2 n hn)⟩

theorem Le.refl (frags : Frags) (a : St) : Le frags a a := ⟨fun _ h => h, fun _ h => h, fun _ h => Or.inl h⟩

theorem Le.trans {frags : Frags} {a b c : St} (h1 : Le frags a b) (h2 : Le frags b c) : Le frags a c := by
  refine ⟨fun x h => h2.avail x (h1.avail x h), fun n h => h2.availF n (h1.availF n h), ?_⟩
  intro n hn
  rcases h2.seen n hn with h | h
  · rcases h1.seen n h with h' | h'
    · exact Or.inl h'
    · exact Or.inr (fun F hF => (h' F hF).mono h2)
  · exact Or.inr h

def push (Q : ESet) (st : St) : St := { st with queue := Q :: st.queue }

theorem avail_push {Q : ESet} {st : St} {x : String × Nat} : Avail (push Q st) x ↔ InSels Q.1 Q.2 x ∨ Avail st x := by
  simp only [Avail, push, List.mem_cons, exists_eq_or_imp]
  exact or_left_comm

theorem availF_push {Q : ESet} {st : St} {n : String} : AvailF (push Q st) n ↔ SpreadsIn Q.2 n ∨ AvailF st n := by
  simp only [AvailF, push, List.mem_cons, exists_eq_or_imp]
  exact or_left_comm

theorem Avail.mono {a b : St} {x : String × Nat} (ho : ∀ y ∈ a.out, y ∈ b.out) (hq : ∀ Q ∈ a.queue, Q ∈ b.queue) :
    Avail a x → Avail b x
  | .inl h => .inl (ho x h)
  | .inr ⟨Q, hQ, hx⟩ => .inr ⟨Q, hq Q hQ, hx⟩

theorem AvailF.mono {a b : St} {n : String} (hs : ∀ m ∈ a.seen, m ∈ b.seen) (hq : ∀ Q ∈ a.queue, Q ∈ b.queue) :
    AvailF a n → AvailF b n
  | .inl h => .inl (hs n h)
  | .inr ⟨Q, hQ, hx⟩ => .inr ⟨Q, hq Q hQ, hx⟩

/-- The shape every step of `visit` has: the set at the head of the queue is replaced by `Q'` and the rest of the
    state grows; what `Q` offered is offered by `Q'` or by the grown state. -/
theorem le_push {frags : Frags} {Q Q' : ESet} {st st' : St}
    (hx : ∀ x, InSels Q.1 Q.2 x → InSels Q'.1 Q'.2 x ∨ Avail st' x)
    (hn : ∀ n, SpreadsIn Q.2 n → SpreadsIn Q'.2 n ∨ AvailF st' n)
    (ho : ∀ y ∈ st.out, y ∈ st'.out) (hq : ∀ S ∈ st.queue, S ∈ st'.queue) (hs : ∀ m ∈ st.seen, m ∈ st'.seen)
    (hnew : ∀ n ∈ st'.seen, n ∈ st.seen ∨ ∀ F, frags.get? n = some F → Covered (push Q' st') F) :
    Le frags (push Q st) (push Q' st') :=
  ⟨fun x h => avail_push.mpr ((avail_push.mp h).elim (hx x) fun h => .inr (h.mono ho hq)),
    fun n h => availF_push.mpr ((availF_push.mp h).elim (hn n) fun h => .inr (h.mono hs hq)), hnew⟩

theorem visit_le (frags : Frags) (ty : String) :
    ∀ (sels : List ESel) (st : St), Le frags (push (ty, sels) st) (visit frags ty sels st)
  | [], st =>
    ⟨fun x h => (avail_push.mp h).resolve_left inSels_nil.mp, fun n h => (availF_push.mp h).resolve_left spreadsIn_nil.mp,
      fun n hn => .inl hn⟩
  | .field _ :: rest, st => by
    simp only [visit]
    refine Le.trans ?_ (visit_le frags ty rest _)
    refine le_push (fun x h => ?_) (fun n h => ?_) (fun _ => List.mem_append_left _) (fun _ h => h) (fun _ h => h)
      (fun _ h => .inl h)
    · exact (inSels_cons.mp h).symm.imp id fun h => .inl (by simp [inSels_field.mp h])
    · exact .inl ((spreadsIn_cons.mp h).resolve_left spreadsIn_field.mp)
  | .inline t ss :: rest, st => by
    simp only [visit]
    refine Le.trans ?_ (visit_le frags ty rest _)
    refine le_push (fun x h => ?_) (fun n h => ?_) (fun _ h => h) (fun _ => List.mem_append_left _) (fun _ h => h)
      (fun _ h => .inl h)
    · exact (inSels_cons.mp h).symm.imp id fun h => .inr ⟨(t, ss), by simp, inSels_inline.mp h⟩
    · exact (spreadsIn_cons.mp h).symm.imp id fun h => .inr ⟨(t, ss), by simp, spreadsIn_inline.mp h⟩
  | .spread m :: rest, st => by
    have hx : ∀ (st' : St) x, InSels ty (.spread m :: rest) x → InSels ty rest x ∨ Avail st' x :=
      fun _ x h => .inl ((inSels_cons.mp h).resolve_left inSels_spread.mp)
    have hn : ∀ (st' : St), m ∈ st'.seen → ∀ n, SpreadsIn (.spread m :: rest) n → SpreadsIn rest n ∨ AvailF st' n :=
      fun _ hm n h => (spreadsIn_cons.mp h).symm.imp id fun h => .inl (by rw [spreadsIn_spread.mp h]; exact hm)
    simp only [visit]
    by_cases hseen : st.seen.contains m = true
    · rw [if_pos hseen]
      refine Le.trans ?_ (visit_le frags ty rest _)
      exact le_push (hx st) (hn st (by simpa using hseen)) (fun _ h => h) (fun _ h => h) (fun _ h => h) (fun _ h => .inl h)
    · rw [if_neg hseen]
      cases hF : frags.get? m with
      | none =>
        refine Le.trans ?_ (visit_le frags ty rest _)
        refine le_push (hx _) (hn _ List.mem_cons_self) (fun _ h => h) (fun _ h => h) (fun _ => List.mem_cons_of_mem _)
          fun n hn => ?_
        rcases List.mem_cons.mp hn with rfl | hn
        · exact .inr fun F hF' => by rw [hF] at hF'; cases hF'
        · exact .inl hn
      | some F =>
        refine Le.trans ?_ (visit_le frags ty rest _)
        refine le_push (hx _) (hn _ List.mem_cons_self) (fun _ h => h) (fun _ => List.mem_append_left _)
          (fun _ => List.mem_cons_of_mem _) fun n hn => ?_
        rcases List.mem_cons.mp hn with rfl | hn
        · refine .inr fun F' hF' => ?_
          cases hF.symm.trans hF'
          exact ⟨fun x hx => .inr ⟨F, by simp [push], hx⟩, fun k hk => .inr ⟨F, by simp [push], hk⟩⟩
        · exact .inl hn

theorem loop_le (frags : Frags) : ∀ (fuel : Nat) (st : St), Le frags st (loop frags fuel st) := by
  intro fuel
  induction fuel with
  | zero => intro st; exact Le.refl frags st
  | succ fuel ih =>
    intro st
    simp only [loop]
    cases hq : st.queue with
    | nil => exact Le.refl frags st
    | cons Q q =>
      obtain ⟨ty, sels⟩ := Q
      simp only []
      refine Le.trans ?_ (ih _)
      have : st = push (ty, sels) { st with queue := q } := by cases st; simp_all [push]
      rw [this]
      exact visit_le frags ty sels _

/-- COMPLETENESS: once the queue is empty, every field of the given sets and of every fragment reachable
    from them has been listed -/
theorem expand_complete_of_done (frags : Frags) (sets : List ESet) (fuel : Nat)
    (hdone : (loop frags fuel { queue := sets, seen := [], out := [] }).queue = []) :
    ∀ x, Expanded frags sets x → x ∈ (loop frags fuel { queue := sets, seen := [], out := [] }).out := by
  have hle := loop_le frags fuel { queue := sets, seen := [], out := [] }
  generalize hfin : loop frags fuel { queue := sets, seen := [], out := [] } = fin at hle hdone
  have havail : ∀ x, Avail fin x → x ∈ fin.out := by
    rintro x (h | ⟨Q, hQ, _⟩)
    · exact h
    · rw [hdone] at hQ; simp at hQ
  have havailF : ∀ n, AvailF fin n → n ∈ fin.seen := by
    rintro n (h | ⟨Q, hQ, _⟩)
    · exact h
    · rw [hdone] at hQ; simp at hQ
  have hcov : ∀ S, Covered fin S → (∀ x, InSels S.1 S.2 x → x ∈ fin.out) ∧ ∀ n, SpreadsIn S.2 n → n ∈ fin.seen :=
    fun S h => ⟨fun x hx => havail x (h.1 x hx), fun n hn => havailF n (h.2 n hn)⟩
  refine expanded_of_covered (fun S hS => hcov S ?_) fun n hn F hF => hcov F ?_
  · exact Covered.mono hle ⟨fun x hx => Or.inr ⟨S, hS, hx⟩, fun n hn => Or.inr ⟨S, hS, hn⟩⟩
  · exact (hle.seen n hn).elim (fun h => by simp at h) fun h => h F hF

/-! ### the loop ends: `fuelFor` iterations are enough -/

def queueSize (q : List ESet) : Nat := (q.map fun S => ESel.sizeList S.2 + 1).sum
def unseenSize (frags : Frags) (seen : List String) : Nat :=
  ((frags.filter fun f => !seen.contains f.1).map fun f => ESel.sizeList f.2.2 + 1).sum
def measure (frags : Frags) (st : St) : Nat := queueSize st.queue + unseenSize frags st.seen

theorem queueSize_append (a b : List ESet) : queueSize (a ++ b) = queueSize a + queueSize b := by
  simp [queueSize, List.sum_append]

theorem Frags.mem_of_get? {frags : Frags} {n : String} {F : ESet} (h : frags.get? n = some F) : (n, F) ∈ frags := by
  obtain ⟨f, hf, rfl⟩ := Option.map_eq_some_iff.mp h
  have hn : f.1 = n := eq_of_beq (List.find?_some (p := fun x : String × ESet => x.1 == n) hf)
  exact hn ▸ List.mem_of_find?_eq_some hf

theorem not_contains_cons (seen : List String) (n : String) (f : String × ESet) :
    (!(n :: seen).contains f.1) = true → (!seen.contains f.1) = true := by
  simp only [Bool.not_eq_true', List.contains_eq_mem, decide_eq_false_iff_not, List.mem_cons, not_or]
  exact fun h => h.2

theorem unseen_cons_le (frags : Frags) (seen : List String) (n : String) :
    unseenSize frags (n :: seen) ≤ unseenSize frags seen :=
  ExecVal.sum_filter_le _ (not_contains_cons seen n) frags

theorem unseen_cons_get (frags : Frags) (seen : List String) (n : String) (F : ESet)
    (hn : seen.contains n = false) (hF : frags.get? n = some F) :
    unseenSize frags (n :: seen) + (ESel.sizeList F.2 + 1) ≤ unseenSize frags seen :=
  ExecVal.sum_filter_add_le (fun f : String × ESet => ESel.sizeList f.2.2 + 1) (not_contains_cons seen n) (a := (n, F))
    (by simpa using hn) (by simp) frags (Frags.mem_of_get? hF)

theorem visit_measure (frags : Frags) (ty : String) : ∀ (sels : List ESel) (st : St),
    measure frags (visit frags ty sels st) ≤ measure frags st + ESel.sizeList sels := by
  intro sels
  induction sels with
  | nil => intro st; simp [visit, ESel.sizeList]
  | cons s rest ih =>
    intro st
    cases s with
    | field id =>
      simp only [visit, ESel.sizeList, ESel.size]
      have := ih { st with out := st.out ++ [(ty, id)] }
      simp only [measure] at this ⊢; omega
    | inline t ss =>
      simp only [visit, ESel.sizeList, ESel.size]
      have := ih { st with queue := st.queue ++ [(t, ss)] }
      simp only [measure, queueSize_append] at this ⊢
      simp only [queueSize, List.map_cons, List.map_nil, List.sum_cons, List.sum_nil] at this ⊢; omega
    | spread n =>
      simp only [visit, ESel.sizeList, ESel.size]
      by_cases hs : st.seen.contains n = true
      · simp only [hs, if_true]
        have := ih st; omega
      · have hs' : st.seen.contains n = false := by simpa using hs
        simp only [hs', Bool.false_eq_true, if_false]
        cases hF : frags.get? n with
        | none =>
          simp only []
          have := ih { st with seen := n :: st.seen }
          have h2 := unseen_cons_le frags st.seen n
          simp only [measure] at this ⊢; omega
        | some F =>
          simp only []
          have := ih { st with seen := n :: st.seen, queue := st.queue ++ [F] }
          have h2 := unseen_cons_get frags st.seen n F hs' hF
          simp only [measure, queueSize_append] at this ⊢
          simp only [queueSize, List.map_cons, List.map_nil, List.sum_cons, List.sum_nil] at this ⊢; omega

theorem loop_done (frags : Frags) : ∀ (fuel : Nat) (st : St), measure frags st ≤ fuel → (loop frags fuel st).queue = [] := by
  intro fuel
  induction fuel with
  | zero =>
    intro st h
    simp only [loop]
    cases hq : st.queue with
    | nil => rfl
    | cons Q q => simp [measure, queueSize, hq] at h
  | succ fuel ih =>
    intro st h
    simp only [loop]
    cases hq : st.queue with
    | nil => simpa using hq
    | cons Q q =>
      obtain ⟨ty, sels⟩ := Q
      simp only []
      apply ih
      have := visit_measure frags ty sels { st with queue := q }
      simp only [measure, queueSize, hq, List.map_cons, List.sum_cons] at h this ⊢
      omega

theorem expand_done (frags : Frags) (sets : List ESet) :
    (loop frags (fuelFor frags sets) { queue := sets, seen := [], out := [] }).queue = [] := by
  apply loop_done
  have hf : (frags.filter fun f => !([] : List String).contains f.1) = frags := by
    apply List.filter_eq_self.mpr; intro a _; simp
  simp only [measure, queueSize, unseenSize, fuelFor, hf]
  omega

/-- `expand_selections` lists EXACTLY the fields of the given selection sets and of every fragment
    reachable from them through spreads (inline fragments looked into), each written with the type of
    the selection set it stands in -/
theorem expand_iff (frags : Frags) (sets : List ESet) (x : String × Nat) :
    x ∈ expand frags sets ↔ Expanded frags sets x :=
  ⟨expand_sound frags sets x, expand_complete_of_done frags sets _ (expand_done frags sets) x⟩

/-! ### merging starts from the selection sets -/
open Apollo.ExecVal Apollo.Spec.ExecVal in
/-- FIELD MERGING FROM THE SELECTION SETS: take the selection sets of a group (an operation's root set, or
    the sub-selections of the fields of one response name), let `mk` read off a field what merging looks
    at.  The XING algorithm on apollo's breadth-first expansion accepts exactly when the specification's
    pairwise rule accepts the fields of ANY listing `L` of "the selections including visiting fragments
    and inline fragments" — depth-first, with or without repetition, in any order. -/
theorem merging_from_selection_sets (mk : String × Nat → AField) (n : Nat) (frags : Frags) (sets : List ESet)
    (L : List (String × Nat)) (hL : ∀ x, x ∈ L ↔ Expanded frags sets x) :
    xingCanMerge n ((expand frags sets).map mk) = documentFieldsCanMerge n (L.map mk) := by
  rw [xing_eq_pairwise]
  apply doc_congr
  intro y
  simp only [List.mem_map]
  constructor
  · rintro ⟨x, hx, rfl⟩; exact ⟨x, (hL x).mpr ((expand_iff frags sets x).mp hx), rfl⟩
  · rintro ⟨x, hx, rfl⟩; exact ⟨x, (expand_iff frags sets x).mpr ((hL x).mp hx), rfl⟩

/-! ### the depth-first expansion lists the same fields: soundness -/
structure DSound (frags : Frags) (sets : List ESet) (acc : DAcc) : Prop where
  out : ∀ x ∈ acc.out, Expanded frags sets x
  visited : ∀ n ∈ acc.visited, ReachFrag frags sets n

def EnterSound (frags : Frags) (sets : List ESet) (enter : String → DAcc → DAcc) : Prop :=
  ∀ n acc, ReachFrag frags sets n → DSound frags sets acc → DSound frags sets (enter n acc)

mutual
theorem dfsSel_sound (frags : Frags) (sets : List ESet) (enter : String → DAcc → DAcc) (he : EnterSound frags sets enter) :
    ∀ (s : ESel) (ty : String) (acc : DAcc), GoodSet frags sets (ty, [s]) → DSound frags sets acc → DSound frags sets (dfsSel enter ty s acc)
  | .field id, ty, acc, hg, hs => by
    simp only [dfsSel]
    exact ⟨List.forall_mem_append.mpr ⟨hs.out, List.forall_mem_singleton.mpr (hg.1 _ (inSels_field.mpr rfl))⟩, hs.visited⟩
  | .inline t ss, ty, acc, hg, hs => by
    simp only [dfsSel]
    exact dfsSels_sound frags sets enter he ss t acc
      ⟨fun x hx => hg.1 x (inSels_inline.mpr hx), fun n hn => hg.2 n (spreadsIn_inline.mpr hn)⟩ hs
  | .spread n, ty, acc, hg, hs => by
    simp only [dfsSel]
    have hr : ReachFrag frags sets n := hg.2 n (spreadsIn_spread.mpr rfl)
    split
    · exact hs
    · exact he n _ hr ⟨hs.out, List.forall_mem_cons.mpr ⟨hr, hs.visited⟩⟩
theorem dfsSels_sound (frags : Frags) (sets : List ESet) (enter : String → DAcc → DAcc) (he : EnterSound frags sets enter) :
    ∀ (sels : List ESel) (ty : String) (acc : DAcc), GoodSet frags sets (ty, sels) → DSound frags sets acc → DSound frags sets (dfsSels enter ty sels acc)
  | [], ty, acc, _, hs => by simpa [dfsSels] using hs
  | s :: rest, ty, acc, hg, hs => by
    simp only [dfsSels]
    exact dfsSels_sound frags sets enter he rest ty _ (goodSet_cons.mp hg).2
      (dfsSel_sound frags sets enter he s ty acc (goodSet_cons.mp hg).1 hs)
end

theorem dfsFrag_sound (frags : Frags) (sets : List ESet) : ∀ k, EnterSound frags sets (dfsFrag frags k) := by
  intro k
  induction k with
  | zero =>
    intro n acc _ hs
    simp only [dfsFrag]
    split
    · exact ⟨hs.out, hs.visited⟩
    · exact hs
  | succ k ih =>
    intro n acc hr hs
    simp only [dfsFrag]
    cases hF : frags.get? n with
    | none => exact hs
    | some F => exact dfsSels_sound frags sets _ ih F.2 F.1 acc (goodSet_frag hr hF) hs

theorem flatten_sound (frags : Frags) (sets : List ESet) : ∀ x ∈ (flatten frags sets).out, Expanded frags sets x :=
  (List.foldlRecOn sets _ (motive := DSound frags sets) ⟨by simp, by simp⟩ fun acc hs S hS =>
    dfsSels_sound frags sets _ (dfsFrag_sound frags sets _) S.2 S.1 acc (goodSet_root hS) hs).out

/-! ### … completeness (when no fragment had to be entered without fuel) -/

def CovD (b : DAcc) (F : ESet) : Prop :=
  (∀ x, InSels F.1 F.2 x → x ∈ b.out) ∧ (∀ k, SpreadsIn F.2 k → k ∈ b.visited)

structure LeD (frags : Frags) (a b : DAcc) : Prop where
  out : ∀ x ∈ a.out, x ∈ b.out
  visited : ∀ n ∈ a.visited, n ∈ b.visited
  exh : a.exhausted = true → b.exhausted = true
  new : ∀ m ∈ b.visited, m ∈ a.visited ∨ (b.exhausted = false → ∀ F, frags.get? m = some F → CovD b F)

theorem CovD.mono {frags : Frags} {a b : DAcc} (h : LeD frags a b) {F : ESet} (hc : CovD a F) : CovD b F :=
  ⟨fun x hx => h.out x (hc.1 x hx), fun k hk => h.visited k (hc.2 k hk)⟩

theorem LeD.refl (frags : Frags) (a : DAcc) : LeD frags a a := ⟨fun _ h => h, fun _ h => h, fun h => h, fun _ h => Or.inl h⟩

theorem LeD.exh_false {frags : Frags} {a b : DAcc} (h : LeD frags a b) (hb : b.exhausted = false) : a.exhausted = false :=
  Bool.eq_false_iff.mpr fun ha => Bool.eq_false_iff.mp hb (h.exh ha)

theorem LeD.trans {frags : Frags} {a b c : DAcc} (h1 : LeD frags a b) (h2 : LeD frags b c) : LeD frags a c := by
  refine ⟨fun x h => h2.out x (h1.out x h), fun n h => h2.visited n (h1.visited n h), fun h => h2.exh (h1.exh h), ?_⟩
  intro m hm
  rcases h2.new m hm with h | h
  · rcases h1.new m h with h' | h'
    · exact Or.inl h'
    · right
      exact fun hc F hF => (h' (h2.exh_false hc) F hF).mono h2
  · exact Or.inr h

theorem covD_cons {b : DAcc} {ty : String} {s : ESel} {rest : List ESel} :
    CovD b (ty, s :: rest) ↔ CovD b (ty, [s]) ∧ CovD b (ty, rest) :=
  forall_sels_cons

def EnterSpec (frags : Frags) (enter : String → DAcc → DAcc) : Prop :=
  ∀ n acc, LeD frags acc (enter n acc) ∧ ((enter n acc).exhausted = false → ∀ F, frags.get? n = some F → CovD (enter n acc) F)

mutual
theorem dfsSel_spec (frags : Frags) (enter : String → DAcc → DAcc) (he : EnterSpec frags enter) :
    ∀ (s : ESel) (ty : String) (acc : DAcc),
      LeD frags acc (dfsSel enter ty s acc) ∧ ((dfsSel enter ty s acc).exhausted = false → CovD (dfsSel enter ty s acc) (ty, [s]))
  | .field id, ty, acc => by
    simp only [dfsSel]
    exact ⟨⟨fun x h => List.mem_append_left _ h, fun _ h => h, fun h => h, fun _ h => Or.inl h⟩,
      fun _ => ⟨fun x hx => by simp [inSels_field.mp hx], fun k hk => (spreadsIn_field.mp hk).elim⟩⟩
  | .inline t ss, ty, acc => by
    simp only [dfsSel]
    obtain ⟨h1, h2⟩ := dfsSels_spec frags enter he ss t acc
    exact ⟨h1, fun hc => ⟨fun x hx => (h2 hc).1 x (inSels_inline.mp hx), fun k hk => (h2 hc).2 k (spreadsIn_inline.mp hk)⟩⟩
  | .spread n, ty, acc => by
    simp only [dfsSel]
    -- the spread itself is all the set `[.spread n]` asks for: `n` visited
    have hcov : ∀ b : DAcc, n ∈ b.visited → CovD b (ty, [.spread n]) := fun b hb =>
      ⟨fun x hx => (inSels_spread.mp hx).elim, fun k hk => by rw [spreadsIn_spread.mp hk]; exact hb⟩
    by_cases hv : acc.visited.contains n = true
    · rw [if_pos hv]
      exact ⟨LeD.refl frags acc, fun _ => hcov acc (by simpa using hv)⟩
    · rw [if_neg hv]
      obtain ⟨h1, h2⟩ := he n { acc with visited := n :: acc.visited }
      refine ⟨⟨fun x h => h1.out x h, fun k h => h1.visited k (by simp [h]), fun h => h1.exh h, fun m hm => ?_⟩,
        fun _ => hcov _ (h1.visited _ (by simp))⟩
      rcases h1.new m hm with h | h
      · rcases List.mem_cons.mp h with rfl | h
        · exact Or.inr h2
        · exact Or.inl h
      · exact Or.inr h
theorem dfsSels_spec (frags : Frags) (enter : String → DAcc → DAcc) (he : EnterSpec frags enter) :
    ∀ (sels : List ESel) (ty : String) (acc : DAcc),
      LeD frags acc (dfsSels enter ty sels acc) ∧ ((dfsSels enter ty sels acc).exhausted = false → CovD (dfsSels enter ty sels acc) (ty, sels))
  | [], ty, acc => by
    simp only [dfsSels]
    exact ⟨LeD.refl frags acc, fun _ => ⟨fun x hx => (inSels_nil.mp hx).elim, fun k hk => (spreadsIn_nil.mp hk).elim⟩⟩
  | s :: rest, ty, acc => by
    simp only [dfsSels]
    obtain ⟨a1, a2⟩ := dfsSel_spec frags enter he s ty acc
    obtain ⟨b1, b2⟩ := dfsSels_spec frags enter he rest ty (dfsSel enter ty s acc)
    exact ⟨a1.trans b1, fun hc => covD_cons.mpr ⟨(a2 (b1.exh_false hc)).mono b1, b2 hc⟩⟩
end

theorem dfsFrag_spec (frags : Frags) : ∀ k, EnterSpec frags (dfsFrag frags k) := by
  intro k
  induction k with
  | zero =>
    intro n acc
    simp only [dfsFrag]
    cases hF : frags.get? n with
    | none => exact ⟨LeD.refl frags acc, fun _ F hF' => by cases hF'⟩
    | some F =>
      simp only []
      exact ⟨⟨fun _ h => h, fun _ h => h, fun _ => rfl, fun _ h => Or.inl h⟩, fun h => by cases h⟩
  | succ k ih =>
    intro n acc
    simp only [dfsFrag]
    cases hF : frags.get? n with
    | none => exact ⟨LeD.refl frags acc, fun _ F hF' => by cases hF'⟩
    | some F =>
      simp only []
      obtain ⟨h1, h2⟩ := dfsSels_spec frags _ ih F.2 F.1 acc
      exact ⟨h1, fun hc F' hF' => by cases hF'; exact h2 hc⟩

theorem flatten_complete (frags : Frags) (sets : List ESet) (hfuel : (flatten frags sets).exhausted = false) :
    ∀ x, Expanded frags sets x → x ∈ (flatten frags sets).out := by
  have key : ∀ (l : List ESet) (acc : DAcc),
      let fin := l.foldl (fun acc S => dfsSels (dfsFrag frags frags.length) S.1 S.2 acc) acc
      LeD frags acc fin ∧ (fin.exhausted = false → ∀ S ∈ l, CovD fin S) := by
    intro l
    induction l with
    | nil => intro acc; exact ⟨LeD.refl frags acc, fun _ S hS => by simp at hS⟩
    | cons S rest ih =>
      intro acc
      simp only [List.foldl_cons]
      obtain ⟨a1, a2⟩ := dfsSels_spec frags _ (dfsFrag_spec frags frags.length) S.2 S.1 acc
      obtain ⟨b1, b2⟩ := ih (dfsSels (dfsFrag frags frags.length) S.1 S.2 acc)
      refine ⟨a1.trans b1, fun hc T hT => ?_⟩
      rcases List.mem_cons.mp hT with rfl | hT
      · exact (a2 (b1.exh_false hc)).mono b1
      · exact b2 hc T hT
  obtain ⟨hle, hroots⟩ := key sets { visited := [], out := [] }
  have hroots := hroots hfuel
  exact expanded_of_covered hroots fun m hm F hF => (hle.new m hm).elim (fun h => by simp at h) fun h => h hfuel F hF

/-! ### … the fuel `frags.length` is never exhausted -/

def unvisited (frags : Frags) (acc : DAcc) : Nat := (frags.filter fun f => !acc.visited.contains f.1).length

theorem unvisited_le_length (frags : Frags) (acc : DAcc) : unvisited frags acc ≤ frags.length := by
  unfold unvisited; exact List.length_filter_le _ _

theorem unvisited_mono (frags : Frags) (a b : DAcc) (h : ∀ n ∈ a.visited, n ∈ b.visited) : unvisited frags b ≤ unvisited frags a := by
  simp only [unvisited, ← List.countP_eq_length_filter]
  apply List.countP_mono_left
  intro f _ hf
  simp only [Bool.not_eq_true', List.contains_eq_mem, decide_eq_false_iff_not] at hf ⊢
  exact fun hc => hf (h _ hc)

theorem unvisited_add (frags : Frags) (acc : DAcc) (n : String) (hn : acc.visited.contains n = false) (hd : (frags.get? n).isSome = true) :
    unvisited frags { acc with visited := n :: acc.visited } + 1 ≤ unvisited frags acc := by
  obtain ⟨F, hF⟩ := Option.isSome_iff_exists.mp hd
  have := ExecVal.sum_filter_add_le (fun _ => 1) (not_contains_cons acc.visited n) (a := (n, F)) (by simpa using hn) (by simp)
    frags (Frags.mem_of_get? hF)
  simpa [unvisited, List.map_const'] using this

/-- with fuel `k`, entering a defined fragment when at most `k - 1` definitions are unvisited does not exhaust -/
def EnterFuel (frags : Frags) (k : Nat) (enter : String → DAcc → DAcc) : Prop :=
  ∀ n acc, ((frags.get? n).isSome = true → unvisited frags acc + 1 ≤ k) → acc.exhausted = false → (enter n acc).exhausted = false

mutual
theorem dfsSel_fuel (frags : Frags) (k : Nat) (enter : String → DAcc → DAcc) (hs : EnterSpec frags enter) (hf : EnterFuel frags k enter) :
    ∀ (s : ESel) (ty : String) (acc : DAcc), unvisited frags acc ≤ k → acc.exhausted = false → (dfsSel enter ty s acc).exhausted = false
  | .field id, ty, acc, _, he => by simpa [dfsSel] using he
  | .inline t ss, ty, acc, hu, he => by simp only [dfsSel]; exact dfsSels_fuel frags k enter hs hf ss t acc hu he
  | .spread n, ty, acc, hu, he => by
    simp only [dfsSel]
    by_cases hv : acc.visited.contains n = true
    · rw [if_pos hv]; exact he
    · have hv' : acc.visited.contains n = false := by simpa using hv
      rw [if_neg hv]
      refine hf n { acc with visited := n :: acc.visited } ?_ he
      intro hd
      have := unvisited_add frags acc n hv' hd
      omega
theorem dfsSels_fuel (frags : Frags) (k : Nat) (enter : String → DAcc → DAcc) (hs : EnterSpec frags enter) (hf : EnterFuel frags k enter) :
    ∀ (sels : List ESel) (ty : String) (acc : DAcc), unvisited frags acc ≤ k → acc.exhausted = false → (dfsSels enter ty sels acc).exhausted = false
  | [], ty, acc, _, he => by simpa [dfsSels] using he
  | s :: rest, ty, acc, hu, he => by
    simp only [dfsSels]
    have h1 := dfsSel_fuel frags k enter hs hf s ty acc hu he
    have hle := (dfsSel_spec frags enter hs s ty acc).1
    have hu' : unvisited frags (dfsSel enter ty s acc) ≤ k :=
      Nat.le_trans (unvisited_mono frags acc _ hle.visited) hu
    exact dfsSels_fuel frags k enter hs hf rest ty _ hu' h1
end

theorem dfsFrag_fuel (frags : Frags) : ∀ k, EnterFuel frags k (dfsFrag frags k) := by
  intro k
  induction k with
  | zero =>
    intro n acc hu he
    simp only [dfsFrag]
    cases hF : frags.get? n with
    | none => simpa using he
    | some F => have := hu (by simp [hF]); omega
  | succ k ih =>
    intro n acc hu he
    simp only [dfsFrag]
    cases hF : frags.get? n with
    | none => simpa using he
    | some F =>
      simp only []
      have := hu (by simp [hF])
      exact dfsSels_fuel frags k _ (dfsFrag_spec frags k) ih F.2 F.1 acc (by omega) he

theorem flatten_not_exhausted (frags : Frags) (sets : List ESet) : (flatten frags sets).exhausted = false :=
  List.foldlRecOn sets _ (motive := fun acc => acc.exhausted = false) rfl fun acc h S _ =>
    dfsSels_fuel frags frags.length _ (dfsFrag_spec frags frags.length) (dfsFrag_fuel frags frags.length) S.2 S.1 acc
      (unvisited_le_length frags acc) h

/-- THE TWO EXPANSIONS LIST THE SAME FIELDS: apollo's breadth-first `expand_selections` and the depth-first
    CollectFields-style expansion (each named fragment once) have exactly the same members -/
theorem expand_eq_flatten (frags : Frags) (sets : List ESet) (x : String × Nat) :
    x ∈ expand frags sets ↔ x ∈ (flatten frags sets).out := by
  rw [expand_iff]
  exact ⟨flatten_complete frags sets (flatten_not_exhausted frags sets) x, flatten_sound frags sets x⟩
end Apollo.Expand
