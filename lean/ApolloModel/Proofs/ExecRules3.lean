import ApolloModel.Proofs.ExecRules2
import ApolloModel.Proofs.Standalone2
/-
C17 rule families on the structural model: §5.1.1 executable definitions; the fragment-definition rules and the
operation-definition rules as unconditional "rejected iff" statements; the checks of the validation
walk node by node (§5.3.3 second half, §5.5.1.3, §5.5.2.1).
-/
set_option linter.unusedSimpArgs false
set_option linter.unusedVariables false
namespace Apollo.Standalone.Rules
open Apollo Apollo.Standalone

theorem diags_mono (s : Option Schema) (st : BuildState) (d : Def) (x : Diag) (h : x ∈ st.diags) :
    x ∈ (buildDef s st d).diags := by
  obtain ⟨extra, he⟩ := buildDef_diags_prefix s st d
  rw [he]; exact List.mem_append_left _ h

/-! ### §5.1.1 Executable Definitions -/

theorem tsd_step (s : Option Schema) (st : BuildState) (d : Def) :
    Diag.typeSystemDefinition ∈ (buildDef s st d).diags ↔ (Diag.typeSystemDefinition ∈ st.diags ∨ d = .typeSystem) := by
  rw [mem_buildDef_diags s st d rfl]
  cases d <;> simp only [ownDiags] <;> repeat' split
  all_goals simp

theorem tsd_fold (s : Option Schema) : ∀ (l : Ast) (st : BuildState),
    Diag.typeSystemDefinition ∈ (l.foldl (buildDef s) st).diags ↔ (Diag.typeSystemDefinition ∈ st.diags ∨ Def.typeSystem ∈ l)
  | [], st => by simp
  | d :: l, st => by
    simp only [List.foldl_cons, tsd_fold s l, tsd_step, List.mem_cons]
    constructor
    · rintro ((h | h) | h)
      · exact Or.inl h
      · exact Or.inr (Or.inl h.symm)
      · exact Or.inr (Or.inr h)
    · rintro (h | h | h)
      · exact Or.inl (Or.inl h)
      · exact Or.inl (Or.inr h.symm)
      · exact Or.inr h

/-- §5.1.1: `TypeSystemDefinition` is reported iff the document contains a definition that is not an
    operation or a fragment -/
theorem executable_definitions_iff (s : Option Schema) (ast : Ast) :
    Diag.typeSystemDefinition ∈ (build s ast).diags ↔ Def.typeSystem ∈ ast := by
  simp [build, tsd_fold]

/-! ### §5.5.1.1 + §5.5.1.2 (named fragments), unconditional -/

/-- §5.5.1.2 for fragment definitions: every type condition names a defined type -/
def FragmentConditionsDefined (s : Option Schema) (ast : Ast) : Prop :=
  ∀ f ∈ fragsOf ast, ∀ sc, s = some sc → (sc.kind f.tc).isSome = true

theorem utc_step (s : Option Schema) (st : BuildState) (d : Def) :
    Diag.undefinedTypeInNamedFragmentTypeCondition ∈ (buildDef s st d).diags ↔
      (Diag.undefinedTypeInNamedFragmentTypeCondition ∈ st.diags ∨
        ∃ f sc, d = .frag f ∧ s = some sc ∧ st.doc.frags.any (fun g => g.name == f.name) = false ∧ (sc.kind f.tc).isNone = true) := by
  rw [mem_buildDef_diags s st d rfl]
  cases d with
  | typeSystem => simp [ownDiags]
  | op o =>
    simp only [ownDiags]
    repeat' split
    all_goals simp
  | frag f =>
    simp only [ownDiags, Def.frag.injEq, exists_and_left, exists_eq_left']
    cases hc : st.doc.frags.any (fun g => g.name == f.name) <;> cases s <;> simp only [] <;> repeat' split
    all_goals simp_all

theorem fragsOf_snoc (pre : Ast) (d : Def) :
    fragsOf (pre ++ [d]) = fragsOf pre ++ (match d with | .frag f => [f] | _ => []) := by
  cases d <;> simp [fragsOf]

/-- FRAGMENT DEFINITIONS, the two rules together and without a guard: `FragmentNameCollision` or
    `UndefinedTypeInNamedFragmentTypeCondition` is reported iff two fragment definitions have the same name
    (§5.5.1.1) or some fragment's type condition is not a defined type (§5.5.1.2). -/
theorem fragment_definitions_iff (s : Option Schema) (ast : Ast) :
    (Diag.fragmentNameCollision ∈ (build s ast).diags ∨ Diag.undefinedTypeInNamedFragmentTypeCondition ∈ (build s ast).diags) ↔
      (¬ FragmentNamesUnique ast ∨ ¬ FragmentConditionsDefined s ast) := by
  have key := foldl_snoc_inv (buildDef s) (fun st pre =>
      ((Diag.fragmentNameCollision ∈ st.diags ∨ Diag.undefinedTypeInNamedFragmentTypeCondition ∈ st.diags) ↔
          (¬ (fragNames pre).Nodup ∨ ¬ FragmentConditionsDefined s pre)) ∧
        (¬ (¬ (fragNames pre).Nodup ∨ ¬ FragmentConditionsDefined s pre) → FragInv st pre)) ast {} []
    ⟨by simp [fragNames, fragsOf, FragmentConditionsDefined], fun _ =>
      ⟨by intro n; simp [fragNames, fragsOf], by simp [fragNames, fragsOf]⟩⟩ ?_
  · simpa [build, FragmentNamesUnique] using key.1
  · intro st pre d _ ⟨h1, h2⟩
    have hmonoR : (¬ (fragNames pre).Nodup ∨ ¬ FragmentConditionsDefined s pre) →
        (¬ (fragNames (pre ++ [d])).Nodup ∨ ¬ FragmentConditionsDefined s (pre ++ [d])) := by
      rintro (h | h)
      · left; intro hn; apply h
        simp only [fragNames, fragsOf_snoc, List.map_append] at hn
        exact (List.nodup_append.mp hn).1
      · right; intro hn; apply h
        intro f hf; exact hn f (by rw [fragsOf_snoc]; exact List.mem_append_left _ hf)
    by_cases hbad : (¬ (fragNames pre).Nodup ∨ ¬ FragmentConditionsDefined s pre)
    · have hl := h1.mpr hbad
      refine ⟨⟨fun _ => hmonoR hbad, fun _ => ?_⟩, fun hn => absurd (hmonoR hbad) hn⟩
      rcases hl with hl | hl
      · exact Or.inl (diags_mono s st d _ hl)
      · exact Or.inr (diags_mono s st d _ hl)
    · have inv := h2 hbad
      have hnl : ¬ (Diag.fragmentNameCollision ∈ st.diags ∨ Diag.undefinedTypeInNamedFragmentTypeCondition ∈ st.diags) :=
        fun hl => hbad (h1.mp hl)
      have hnodup : (fragNames pre).Nodup := Classical.not_not.mp (fun h => hbad (Or.inl h))
      have hdef : FragmentConditionsDefined s pre := Classical.not_not.mp (fun h => hbad (Or.inr h))
      -- is the current definition a fragment with an undefined type condition?
      by_cases hcur : ∃ f sc, d = .frag f ∧ s = some sc ∧ (sc.kind f.tc).isNone = true
      · obtain ⟨f, sc, rfl, rfl, hk⟩ := hcur
        have hR : ¬ FragmentConditionsDefined (some sc) (pre ++ [.frag f]) := by
          intro hn
          have := hn f (by rw [fragsOf_snoc]; simp) sc rfl
          cases hkk : sc.kind f.tc <;> simp_all
        refine ⟨⟨fun _ => Or.inr hR, fun _ => ?_⟩, fun hn => absurd (Or.inr hR) hn⟩
        by_cases hc : st.doc.frags.any (fun g => g.name == f.name) = true
        · left; simp [buildDef, hc]
        · right
          have hc' : st.doc.frags.any (fun g => g.name == f.name) = false := by simpa using hc
          exact (utc_step (some sc) st (.frag f)).mpr (Or.inr ⟨f, sc, rfl, rfl, hc', hk⟩)
      · have hb : ∀ f, d = .frag f → ∀ sc, s = some sc → (sc.kind f.tc).isSome = true := by
          intro f hf sc hs
          cases hkk : sc.kind f.tc with
          | some k => rfl
          | none => exact absurd ⟨f, sc, hf, hs, by simp [hkk]⟩ hcur
        have inv' := frag_step s st pre d inv hb
        have hdef' : FragmentConditionsDefined s (pre ++ [d]) := by
          intro f hf sc hs
          rw [fragsOf_snoc] at hf
          rcases List.mem_append.mp hf with hf | hf
          · exact hdef f hf sc hs
          · cases d with
            | frag g => simp at hf; subst hf; exact hb _ rfl sc hs
            | op o => simp at hf
            | typeSystem => simp at hf
        have hutc : Diag.undefinedTypeInNamedFragmentTypeCondition ∉ (buildDef s st d).diags := by
          intro hm
          rcases (utc_step s st d).mp hm with h | ⟨f, sc, hf, hs, _, hk⟩
          · exact hnl (Or.inr h)
          · exact hcur ⟨f, sc, hf, hs, hk⟩
        refine ⟨⟨?_, ?_⟩, fun _ => inv'⟩
        · rintro (h | h)
          · exact Or.inl (inv'.col.mp h)
          · exact absurd h hutc
        · rintro (h | h)
          · exact Or.inl (inv'.col.mpr h)
          · exact absurd hdef' h

/-! ### §5.2.1.1 + §5.2.2.1 + root operation types, unconditional -/

theorem ur_step (s : Option Schema) (st : BuildState) (d : Def)
    (h : Diag.undefinedRootOperation ∈ (buildDef s st d).diags) :
    Diag.undefinedRootOperation ∈ st.diags ∨ ∃ o, d = .op o ∧ buildOp s o = none := by
  rw [mem_buildDef_diags s st d rfl] at h
  refine h.imp_right fun h => ?_
  cases d <;> simp only [ownDiags] at h <;> repeat' split at h
  all_goals simp_all

theorem op_unbuildable_reported (s : Option Schema) (st : BuildState) (o : Op) (hb : buildOp s o = none) :
    Diag.ambiguousAnonymousOperation ∈ (buildDef s st (.op o)).diags ∨ Diag.operationNameCollision ∈ (buildDef s st (.op o)).diags ∨
      Diag.undefinedRootOperation ∈ (buildDef s st (.op o)).diags := by
  rw [mem_buildDef_diags s st _ (x := .ambiguousAnonymousOperation) rfl,
    mem_buildDef_diags s st _ (x := .operationNameCollision) rfl, mem_buildDef_diags s st _ (x := .undefinedRootOperation) rfl]
  simp only [ownDiags, hb, Option.isNone_none, if_true]
  repeat' split
  all_goals simp
/-- every operation's type has a root operation type in the schema (apollo's own rule
    `UndefinedRootOperation`; the specification presupposes it) -/
def RootTypesDefined (s : Option Schema) (ast : Ast) : Prop := AllOpsBuild s ast

theorem anon_mono (pre : Ast) (d : Def) (h : anonCount pre > 0 ∧ (opsOf pre).length > 1) :
    anonCount (pre ++ [d]) > 0 ∧ (opsOf (pre ++ [d])).length > 1 := by
  simp only [anonCount, opsOf_snoc, List.filter_append, List.length_append] at h ⊢
  omega

/-- OPERATIONS, the three rules together and without a guard: `AmbiguousAnonymousOperation`,
    `OperationNameCollision` or `UndefinedRootOperation` is reported iff the anonymous operation is not
    alone (§5.2.2.1), two operations have the same name (§5.2.1.1), or some operation's type has no
    root type in the schema. -/
theorem operation_definitions_iff (s : Option Schema) (ast : Ast) :
    (Diag.ambiguousAnonymousOperation ∈ (build s ast).diags ∨ Diag.operationNameCollision ∈ (build s ast).diags ∨
        Diag.undefinedRootOperation ∈ (build s ast).diags) ↔
      (¬ LoneAnonymousOperation ast ∨ ¬ OperationNamesUnique ast ∨ ¬ RootTypesDefined s ast) := by
  let L (st : BuildState) : Prop := Diag.ambiguousAnonymousOperation ∈ st.diags ∨ Diag.operationNameCollision ∈ st.diags ∨
        Diag.undefinedRootOperation ∈ st.diags
  let R (pre : Ast) : Prop := ¬ LoneAnonymousOperation pre ∨ ¬ OperationNamesUnique pre ∨ ¬ RootTypesDefined s pre
  have key := foldl_snoc_inv (buildDef s) (fun st pre => (L st ↔ R pre) ∧ (¬ R pre → OpsInv st pre)) ast {} []
    ⟨by
      simp only [L, R, LoneAnonymousOperation, OperationNamesUnique, RootTypesDefined, AllOpsBuild]
      simp [anonCount, namedNames, opsOf], fun _ => ops_inv_init⟩ ?_
  · simpa [build, L, R] using key.1
  · intro st pre d _ ⟨h1, h2⟩
    have hmonoL : L st → L (buildDef s st d) := by
      rintro (h | h | h)
      · exact Or.inl (diags_mono s st d _ h)
      · exact Or.inr (Or.inl (diags_mono s st d _ h))
      · exact Or.inr (Or.inr (diags_mono s st d _ h))
    have hmonoR : R pre → R (pre ++ [d]) := by
      rintro (h | h | h)
      · left; intro hn; apply h; intro hc; exact hn (anon_mono pre d hc)
      · right; left; intro hn; apply h
        simp only [OperationNamesUnique, namedNames, opsOf_snoc, List.filterMap_append] at hn ⊢
        exact (List.nodup_append.mp hn).1
      · right; right; intro hn; apply h
        intro o ho; exact hn o (by rw [opsOf_snoc]; exact List.mem_append_left _ ho)
    by_cases hbad : R pre
    · exact ⟨⟨fun _ => hmonoR hbad, fun _ => hmonoL (h1.mpr hbad)⟩, fun hn => absurd (hmonoR hbad) hn⟩
    · have inv := h2 hbad
      have hnl : ¬ L st := fun hl => hbad (h1.mp hl)
      have hall : RootTypesDefined s pre := Classical.not_not.mp (fun h => hbad (Or.inr (Or.inr h)))
      by_cases hcur : ∃ o, d = .op o ∧ buildOp s o = none
      · obtain ⟨o, rfl, hb⟩ := hcur
        have hR : ¬ RootTypesDefined s (pre ++ [.op o]) := by
          intro hn
          have := hn o (by rw [opsOf_snoc_op]; simp)
          simp [hb] at this
        exact ⟨⟨fun _ => Or.inr (Or.inr hR), fun _ => op_unbuildable_reported s st o hb⟩,
          fun hn => absurd (Or.inr (Or.inr hR)) hn⟩
      · have hb : ∀ o, d = .op o → (buildOp s o).isSome = true := by
          intro o ho
          cases hbb : buildOp s o with
          | some r => rfl
          | none => exact absurd ⟨o, ho, hbb⟩ hcur
        have inv' := ops_step s st pre d inv hb
        have hall' : RootTypesDefined s (pre ++ [d]) := by
          intro o ho
          rw [opsOf_snoc] at ho
          rcases List.mem_append.mp ho with ho | ho
          · exact hall o ho
          · cases d with
            | op g => simp at ho; subst ho; exact hb _ rfl
            | frag f => simp at ho
            | typeSystem => simp at ho
        have hur : Diag.undefinedRootOperation ∉ (buildDef s st d).diags := by
          intro hm
          rcases ur_step s st d hm with h | h
          · exact hnl (Or.inr (Or.inr h))
          · exact hcur h
        refine ⟨⟨?_, ?_⟩, fun _ => inv'⟩
        · rintro (h | h | h)
          · left; intro hl; exact hl (inv'.amb.mp h)
          · right; left; exact inv'.col.mp h
          · exact absurd h hur
        · rintro (h | h | h)
          · left; apply inv'.amb.mpr; exact Classical.not_not.mp h
          · right; left; exact inv'.col.mpr h
          · exact absurd hall' h

/-! ### the checks of the validation walk, node by node: §5.3.3 (composite fields need a sub-selection),
§5.5.1.3 Fragments On Composite Types, §5.5.2.1 Fragment Spread Target Defined -/

/-- §5.3.3, second half: a field WITHOUT sub-selection is reported `MissingSubselection` iff its type is an
    object, interface or union type -/
theorem missing_subselection_iff (p : Params) (sc : Schema) (doc : BuiltDoc)
    (enter : Frag → List Name → List Diag × List Name) (t name : Name) (dirs : List Dir) (args : List Arg)
    (V : List Name) (fd : FieldDef) (hf : sc.field t name = some fd) :
    Diag.missingSubselection ∈ (walkSels p (some sc) doc enter (some t) (.field name dirs args .nil .nil) V).1 ↔
      sc.kind fd.ty = some .composite := by
  have h1 : Diag.missingSubselection ∉ dirDiags p (some sc) .field dirs := by
    intro h; have := ExecRules.dirDiags_kind p _ _ _ _ h; simp [ExecRules.Diag.isDirectiveKind] at this
  have h2 : Diag.missingSubselection ∉ uniqueArgs [] args := by
    intro h; have := uniqueArgs_mem _ _ _ h; cases this
  have h3 : Diag.missingSubselection ∉ undefinedArgs fd.args args := by intro h; have := undefinedArgs_kind _ _ _ h; cases this
  have h4 : Diag.missingSubselection ∉ requiredArgs fd.args args := by intro h; have := requiredArgs_kind _ _ _ h; cases this
  simp only [walkSels, hf, Sels.isNil, Bool.true_and, List.append_nil, List.mem_append, h1, h2, false_or]
  by_cases hk : (sc.kind fd.ty == some Kind.composite) = true
  · simp only [hk, if_true, List.mem_append, h3, h4, false_or, List.mem_singleton, true_iff]
    simpa using hk
  · simp only [hk, Bool.false_eq_true, if_false, List.mem_append, h3, h4, false_or, List.not_mem_nil, false_iff]
    simpa using hk

/-- §5.5.1.3 at a fragment definition: a type condition that is not an object, interface or union type
    is reported, and the fragment's selections are then not looked at … -/
theorem fragment_on_non_composite_reported (p : Params) (sc : Schema) (doc : BuiltDoc) (n : Nat) (f : Frag) (V : List Name)
    (h : sc.kind f.tc ≠ some .composite) :
    Diag.invalidFragmentTarget ∈ (enterFrag p (some sc) doc (n + 1) f V).1 ∧ (enterFrag p (some sc) doc (n + 1) f V).2 = V := by
  have hk : (sc.kind f.tc == some Kind.composite) = false := by simpa using h
  simp [enterFrag, hk]

/-- … and with a composite type condition (and no cycle) the definition itself adds nothing but the
    diagnostics of its directives: what follows is the walk of its selection set -/
theorem fragment_on_composite_walks_body (p : Params) (sc : Schema) (doc : BuiltDoc) (n : Nat) (f : Frag) (V : List Name)
    (h : sc.kind f.tc = some .composite) (hc : f.name ∉ reach doc f.sels) :
    enterFrag p (some sc) doc (n + 1) f V =
      (dirDiags p (some sc) .fragmentDefinition f.dirs ++
          (walkSels p (some sc) doc (enterFrag p (some sc) doc n) (fragTy (some sc) f) f.sels V).1,
        (walkSels p (some sc) doc (enterFrag p (some sc) doc n) (fragTy (some sc) f) f.sels V).2) := by
  simp [enterFrag, h, hc]

/-- §5.5.1.3 at an inline fragment: the same for its type condition -/
theorem inline_on_non_composite_reported (p : Params) (sc : Schema) (doc : BuiltDoc)
    (enter : Frag → List Name → List Diag × List Name) (ty : Option Name) (t : Name) (dirs : List Dir) (sub rest : Sels)
    (V : List Name) (h : sc.kind t ≠ some .composite) :
    Diag.invalidFragmentTarget ∈ (walkSels p (some sc) doc enter ty (.inline (some t) dirs sub rest) V).1 := by
  have hk : (sc.kind t == some Kind.composite) = false := by simpa using h
  simp [walkSels, hk]

/-- §5.5.2.1 at a fragment spread: `UndefinedFragment` iff the document defines no fragment of that name
    (for a defined one the spread adds its directives' diagnostics and, the first time in this
    operation, the fragment definition's) -/
theorem spread_target_defined_iff (p : Params) (s : Option Schema) (doc : BuiltDoc)
    (enter : Frag → List Name → List Diag × List Name) (ty : Option Name) (f : Name) (dirs : List Dir) (V : List Name) :
    (walkSels p s doc enter ty (.spread f dirs .nil) V).1 =
      dirDiags p s .fragmentSpread dirs ++
        (match doc.findFrag f with
         | some d => if f ∈ V then [] else (enter d (f :: V)).1
         | none => [.undefinedFragment]) := by
  simp only [walkSels, List.append_nil]
  cases doc.findFrag f with
  | none => rfl
  | some d => by_cases hv : f ∈ V <;> simp [hv]

end Apollo.Standalone.Rules
