import ApolloModel.Proofs.ParserTree25
import ApolloModel.Proofs.ParserDoc4
/-
C08 (pipeline): `grammar/document.rs` in the tree calculus, generically over the per-definition facts `DefTrs n Q` (what
an error-free run of each definition parser, started where the dispatcher starts it, consumes and builds:
`Q tokens elements`).  The loop itself is proved over what ONE dispatch does (`DispatchTr`), a fact that may mention the
recursion budget of the run.  The instance of `DefTrs`: the executable definitions (ParserTree25) together with the type
system (ParserTreeDef*), put together in ParserTree29 / ParserTree32.
-/
set_option linter.unusedSimpArgs false
set_option linter.unusedVariables false

namespace Apollo.Parse
open Apollo.Rowan hiding Str
open Apollo.Lex hiding Str

abbrev DefTr (Q : List Tok → List Elem → Prop) (H : List Tok → Prop) (m : PI Unit) : Prop := Tr NoE H m (fun _ => Q)

/-- the per-definition statements of the tree calculus the document theorem is parametrised by (same entry
    conditions as `DefLemmas`) -/
structure DefTrs (n : Nat) (Q : List Tok → List Elem → Prop) : Prop where
  directive : DefTr Q (fun q => LexQ q ∧ DStart "directive".toList q) (directiveDefinition n)
  enumDef : DefTr Q (fun q => LexQ q ∧ DStart "enum".toList q) (enumTypeDefinition n)
  fragment : DefTr Q (fun q => LexQ q ∧ DStart "fragment".toList q) (fragmentDefinition n)
  input : DefTr Q (fun q => LexQ q ∧ DStart "input".toList q) (inputObjectTypeDefinition n)
  interface : DefTr Q (fun q => LexQ q ∧ DStart "interface".toList q) (interfaceTypeDefinition n)
  object : DefTr Q (fun q => LexQ q ∧ DStart "type".toList q) (objectTypeDefinition n)
  opQuery : DefTr Q (fun q => LexQ q ∧ DStart "query".toList q) (operationDefinition n)
  opMutation : DefTr Q (fun q => LexQ q ∧ DStart "mutation".toList q) (operationDefinition n)
  opSubscription : DefTr Q (fun q => LexQ q ∧ DStart "subscription".toList q) (operationDefinition n)
  opShorthand : DefTr Q (fun q => LexQ q ∧ DStart "{".toList q) (operationDefinition n)
  scalar : DefTr Q (fun q => LexQ q ∧ DStart "scalar".toList q) (scalarTypeDefinition n)
  schema : DefTr Q (fun q => LexQ q ∧ DStart "schema".toList q) (schemaDefinition n)
  union : DefTr Q (fun q => LexQ q ∧ DStart "union".toList q) (unionTypeDefinition n)
  schemaExt : DefTr Q (fun q => LexQ q ∧ EStart "schema".toList q) (schemaExtension n)
  scalarExt : DefTr Q (fun q => LexQ q ∧ EStart "scalar".toList q) (scalarTypeExtension n)
  objectExt : DefTr Q (fun q => LexQ q ∧ EStart "type".toList q) (objectTypeExtension n)
  interfaceExt : DefTr Q (fun q => LexQ q ∧ EStart "interface".toList q) (interfaceTypeExtension n)
  unionExt : DefTr Q (fun q => LexQ q ∧ EStart "union".toList q) (unionTypeExtension n)
  enumExt : DefTr Q (fun q => LexQ q ∧ EStart "enum".toList q) (enumTypeExtension n)
  inputExt : DefTr Q (fun q => LexQ q ∧ EStart "input".toList q) (inputObjectTypeExtension n)

/-- `DefTrs` as an instance of `DispatchSound` (ParserDoc1): the claim is `TrRes` from every start state in `St` -/
theorem DefTrs.dispatch {n : Nat} {Q : List Tok → List Elem → Prop} (L : DefTrs n Q) :
    DispatchSound (fun s s' => St s → TrRes NoE s s' Q) n where
  directive := fun s s' _ _ hst h hnd st => L.directive.2 s () s' st.w st.inv st.eof st.lq hst h hnd
  enumDef := fun s s' _ _ hst h hnd st => L.enumDef.2 s () s' st.w st.inv st.eof st.lq hst h hnd
  fragment := fun s s' _ _ hst h hnd st => L.fragment.2 s () s' st.w st.inv st.eof st.lq hst h hnd
  input := fun s s' _ _ hst h hnd st => L.input.2 s () s' st.w st.inv st.eof st.lq hst h hnd
  interface := fun s s' _ _ hst h hnd st => L.interface.2 s () s' st.w st.inv st.eof st.lq hst h hnd
  object := fun s s' _ _ hst h hnd st => L.object.2 s () s' st.w st.inv st.eof st.lq hst h hnd
  opQuery := fun s s' _ _ hst h hnd st => L.opQuery.2 s () s' st.w st.inv st.eof st.lq hst h hnd
  opMutation := fun s s' _ _ hst h hnd st => L.opMutation.2 s () s' st.w st.inv st.eof st.lq hst h hnd
  opSubscription := fun s s' _ _ hst h hnd st => L.opSubscription.2 s () s' st.w st.inv st.eof st.lq hst h hnd
  opShorthand := fun s s' _ _ hst h hnd st => L.opShorthand.2 s () s' st.w st.inv st.eof st.lq hst h hnd
  scalar := fun s s' _ _ hst h hnd st => L.scalar.2 s () s' st.w st.inv st.eof st.lq hst h hnd
  schema := fun s s' _ _ hst h hnd st => L.schema.2 s () s' st.w st.inv st.eof st.lq hst h hnd
  union := fun s s' _ _ hst h hnd st => L.union.2 s () s' st.w st.inv st.eof st.lq hst h hnd
  schemaExt := fun s s' _ _ hst h hnd st => L.schemaExt.2 s () s' st.w st.inv st.eof st.lq hst h hnd
  scalarExt := fun s s' _ _ hst h hnd st => L.scalarExt.2 s () s' st.w st.inv st.eof st.lq hst h hnd
  objectExt := fun s s' _ _ hst h hnd st => L.objectExt.2 s () s' st.w st.inv st.eof st.lq hst h hnd
  interfaceExt := fun s s' _ _ hst h hnd st => L.interfaceExt.2 s () s' st.w st.inv st.eof st.lq hst h hnd
  unionExt := fun s s' _ _ hst h hnd st => L.unionExt.2 s () s' st.w st.inv st.eof st.lq hst h hnd
  enumExt := fun s s' _ _ hst h hnd st => L.enumExt.2 s () s' st.w st.inv st.eof st.lq hst h hnd
  inputExt := fun s s' _ _ hst h hnd st => L.inputExt.2 s () s' st.w st.inv st.eof st.lq hst h hnd

/-- **the dispatcher of `document()`**: on a token of a kind other than EOF, an error-free run consumes exactly
    the tokens of one definition of the grammar -/
theorem documentDispatch_tr {n : Nat} {Q : List Tok → List Elem → Prop} (L : DefTrs n Q) (s s' : PState) (t : Tok) (rest : List Tok)
    (st : St s) (hc : s.current = some t) (ht : Toks s = t :: rest)
    (h : (documentDispatch n t.kind).run s = .ok () s') (hnd : ¬ Doomed s') : TrRes NoE s s' Q :=
  documentDispatch_reach L.dispatch s s' t rest st.w st.eof st.lq.1 hc ht h hnd st

/-! ### the loop of `document()` -/

theorem st_flagged {s : PState} (st : St s) : St (flagged s) :=
  ⟨tw_flagged st.w, ⟨st.inv.text, st.inv.parents, st.inv.lexDone, st.inv.eofTok, st.inv.errNonempty⟩, eofEnd_flagged st.eof, st.lq⟩

/-- one iteration of the loop of `document()` from a state of the calculus: `peek` sees a token `t` (a run from an
    empty queue is doomed); on EOF the loop ends, otherwise one dispatch runs, and then the rest of the loop -/
theorem docLoop_turn (n fuel : Nat) (s s' : PState) (st : St s)
    (h : (peekWhileLoop (documentStep n) (fuel + 1)).run s = .ok () s') (hnd : ¬ Doomed s') :
    ∃ sP t, PeekObs s sP (some t) ∧ St sP ∧ sP.builder = s.builder ∧
      ((t.kind = .eof ∧ s' = flagged sP) ∨
       (t.kind ≠ .eof ∧ ∃ sD, (documentDispatch n t.kind).run (flagged sP) = .ok () sD ∧
          (peekWhileLoop (documentStep n) fuel).run sD = .ok () s')) := by
  unfold peekWhileLoop at h
  obtain ⟨ko, sP, hp, h2⟩ := bind_dec peek _ s s' () h
  obtain ⟨o, p, hko⟩ := peek_obs s sP ko st.w hp
  subst hko
  have stP : St sP := ⟨p.w, (run_inv_added peek s st.inv _ sP hp).1, p.eofEnd st.eof, by rw [p.toks]; exact st.lq⟩
  cases o with
  | none =>
    exfalso
    simp only [Option.map_none] at h2
    rw [run_pure] at h2
    injection h2 with _ h2
    subst h2
    have hh := p.head
    cases hq : Toks s with
    | nil => exact eofEnd_nonempty s st.eof (fun d => hnd (p.doom.mpr d)) hq
    | cons a b => rw [hq] at hh; cases hh
  | some t =>
    refine ⟨sP, t, p, stP, keeps_peek s _ sP hp, ?_⟩
    simp only [Option.map_some] at h2
    have h3 := getCurrent_dec _ sP s' () h2
    obtain ⟨b, sB, hb, h4⟩ := bind_dec (documentStep n t.kind) _ sP s' () h3
    unfold documentStep at hb
    by_cases hk : (t.kind == .eof) = true
    · left
      simp only [hk, if_true] at hb
      obtain ⟨_, s0, e0, e1⟩ := bind_dec assertRecZero _ sP sB b hb
      rw [assertRecZero_run] at e0
      injection e0 with _ e0
      subst e0
      rw [run_pure] at e1
      injection e1 with e1 e2
      subst e1 e2
      simp only [Bool.false_eq_true, if_false] at h4
      rw [run_pure] at h4
      injection h4 with _ h4
      exact ⟨by simpa using hk, h4.symm⟩
    · right
      simp only [hk, Bool.false_eq_true, if_false] at hb
      obtain ⟨_, s0, e0, eD⟩ := bind_dec assertRecZero _ sP sB b hb
      rw [assertRecZero_run] at e0
      injection e0 with _ e0
      subst e0
      obtain ⟨_, sD, eD2, e1⟩ := bind_dec (documentDispatch n t.kind) _ (flagged sP) sB b eD
      rw [run_pure] at e1
      injection e1 with e1 e2
      subst e1 e2
      simp only [if_true] at h4
      have h5 := getCurrent_dec _ sD s' () h4
      by_cases hsame : (sP.current == sD.current) = true
      · simp only [hsame, if_true] at h5
        exact absurd h5 (stuck_not_ok _ _ _)
      · simp only [hsame, Bool.false_eq_true, if_false] at h5
        exact ⟨by simpa using hk, sD, eD2, h5⟩

/-- what one dispatch of `document()` consumes and appends: `Q B tokens elements`, where `B` is the recursion budget
    left in the state it starts in (the loop never changes it) -/
def DispatchTr (n : Nat) (Q : Nat → List Tok → List Elem → Prop) : Prop :=
  ∀ (s s' : PState) (t : Tok) (rest : List Tok), St s → s.current = some t → Toks s = t :: rest →
    (documentDispatch n t.kind).run s = .ok () s' → ¬ Doomed s' → TrRes NoE s s' (Q (s.recLimit - s.recCur))

/-- **the loop of `document()`**: an error-free run consumes a sequence of definitions, appends their elements, and
    stops in front of the EOF token -/
theorem docLoop_tr {n : Nat} {Q : Nat → List Tok → List Elem → Prop} (D : DispatchTr n Q) (B : Nat) :
    ∀ (fuel : Nat) (s s' : PState), St s → s.recLimit - s.recCur = B →
    (peekWhileLoop (documentStep n) fuel).run s = .ok () s' → ¬ Doomed s' → AtEof s' ∧ TrRes NoE s s' (ItemsT (Q B)) := by
  intro fuel
  induction fuel with
  | zero => intro s s' _ _ h; simp [peekWhileLoop, PI.outOfFuel] at h
  | succ fuel ih =>
    intro s s' st hB h hnd
    obtain ⟨sP, t, p', stP, hbP, hstep⟩ := docLoop_turn n fuel s s' st h hnd
    have htP : Toks sP = t :: (Toks sP).tail := p'.head_cons
    rcases hstep with ⟨hk, rfl⟩ | ⟨_, sD, eD2, h5⟩
    · refine ⟨⟨t, by rw [toks_flagged, htP]; rfl, hk⟩, [], [], by rw [toks_flagged, p'.toks]; rfl,
        (by intro x hx; cases hx), eofEnd_flagged stP.eof, ?_, Or.inl ⟨[], rfl, rfl, by intro i hi; cases hi⟩⟩
      show sP.builder.children = _
      rw [hbP]; simp
    · have stF := st_flagged stP
      have aD := good_documentDispatch (defLemmas n) t.kind (flagged sP) () sD stF.w eD2
      have hndD : ¬ Doomed sD := fun d => hnd ((good_peekWhileLoop _ (good_documentStep (defLemmas n)) fuel sD () s' aD.w h5).doom d)
      obtain ⟨c1, d1, t1, n1, e1', b1, r1⟩ := D (flagged sP) sD t (Toks sP).tail stF p'.current
        (by rw [toks_flagged]; exact htP) eD2 hndD
      have hBP : (flagged sP).recLimit - (flagged sP).recCur = B := by
        rw [← hB]; show sP.recLimit - sP.recCur = _; rw [p'.recLimit, p'.recCur]
      rw [hBP] at r1
      rw [toks_flagged] at t1
      have stD : St sD := ⟨aD.w, (run_inv_added (documentDispatch n t.kind) (flagged sP) stF.inv () sD eD2).1, e1',
        LQ.suffix (cs := c1) (by rw [← t1]; exact stP.lq)⟩
      obtain ⟨hat, c2, d2, t2, n2, e2', b2, r2⟩ := ih sD s' stD (by rw [aD.recLimit, aD.recCur]; exact hBP) h5 hnd
      have b1' : sD.builder.children = s.builder.children ++ d1 := by
        rw [b1]; show sP.builder.children ++ d1 = _; rw [hbP]
      rcases r1 with q1 | f
      · rcases r2 with ⟨items, hi1, hi2, hall⟩ | f
        · refine ⟨hat, c1 ++ c2, d1 ++ d2, by rw [← p'.toks, t1, t2, List.append_assoc], noEof_append n1 n2, e2',
            by rw [b2, b1', List.append_assoc], Or.inl ⟨(sig c1, sigE d1) :: items, ?_, ?_, ?_⟩⟩
          · simp [sig_append, hi1]
          · simp [sigE_append, hi2]
          · intro i hi'
            rcases List.mem_cons.mp hi' with rfl | hi'
            · exact q1
            · exact hall i hi'
        · exact absurd f id
      · exact absurd f id

/-! ### `document()` -/

theorem documentBody_tr {n : Nat} {Q : Nat → List Tok → List Elem → Prop} (D : DispatchTr n Q) (s s' : PState) (st : St s)
    (hset : Settled s) (h : (documentBody n).run s = .ok () s') (hnd : ¬ Doomed s') :
    ∃ cs e added, Toks s = cs ++ [e] ∧ e.kind = .eof ∧ s'.builder.children = s.builder.children ++ added ∧
      ∃ items : List (List Tok × List Elem), items ≠ [] ∧ sig cs = (items.map (·.1)).flatten ∧
        sigE added = (items.map (·.2)).flatten ∧ ∀ i ∈ items, Q (s.recLimit - s.recCur) i.1 i.2 := by
  unfold documentBody at h
  obtain ⟨ko, sP, hp, h2⟩ := bind_dec peek _ s s' () h
  obtain ⟨o, p, hko⟩ := peek_obs s sP ko st.w hp
  subst hko
  have stP : St sP := ⟨p.w, (run_inv_added peek s st.inv _ sP hp).1, p.eofEnd st.eof, by rw [p.toks]; exact st.lq⟩
  have hbP : sP.builder = s.builder := keeps_peek s _ sP hp
  have heP : EofEnd sP := stP.eof
  obtain ⟨_, sE, hE, h3⟩ := bind_dec (errIfEmpty _) _ sP s' () h2
  obtain ⟨_, sL, hL, h4⟩ := bind_dec (peekWhile (documentStep n)) _ sE s' () h3
  have o4 := pushIgnored_obs sL s' h4
  have hndL : ¬ Doomed sL := fun d => hnd (o4.doomed.mpr d)
  unfold errIfEmpty at hE
  by_cases hemp : (o.map (·.kind) == none || o.map (·.kind) == some .eof) = true
  · exfalso
    simp only [hemp, if_true] at hE
    have gE := good_err sP () sE p.w hE
    have gL := good_peekWhile _ (good_documentStep (defLemmas n)) sE () sL gE.w hL
    obtain ⟨_, d⟩ := err_adv sP sE p.w hE
    have hndP : ¬ Doomed sP := fun dd => hndL (gL.doom (gE.doom dd))
    exact hndL (gL.doom (d (eofEnd_nonempty sP heP hndP)))
  · simp only [hemp, Bool.false_eq_true, if_false] at hE
    rw [run_pure] at hE
    injection hE with _ hE
    subst hE
    obtain ⟨fuel, h5⟩ := srcLen_dec _ sP sL () hL
    obtain ⟨hat, cs, d, t1, n1, e1, b1, r⟩ := docLoop_tr D _ _ sP sL stP (by rw [p.recLimit, p.recCur]) h5 hndL
    obtain ⟨e, hte, hke⟩ := atEof_single sL e1 hndL hat
    obtain ⟨t, ht⟩ : ∃ t, o = some t := by
      cases o with
      | none => simp at hemp
      | some t => exact ⟨t, rfl⟩
    subst ht
    have hkt : t.kind ≠ .eof := by
      intro hk; simp [hk] at hemp
    have hni : isIgnoredKind t.kind = false := by
      have hcur : s.current = some t := by
        have h1 := hset.1
        have h2 := p.head
        rw [h1, ← h2]
      exact hset.2 t hcur
    have htP : Toks sP = t :: (Toks sP).tail := p.head_cons
    have hcs : ∃ cs', cs = t :: cs' := by
      cases cs with
      | nil =>
        exfalso
        rw [hte] at t1
        simp only [List.nil_append] at t1
        rw [t1] at htP
        injection htP with h1 _
        exact hkt (by rw [← h1]; exact hke)
      | cons a cs' =>
        rw [htP] at t1
        injection t1 with h1 _
        exact ⟨cs', by rw [h1]⟩
    obtain ⟨cs', rfl⟩ := hcs
    have e4 : pushIgnored.run sL = .ok () { sL with builder := { sL.builder with children := sL.builder.children ++ sL.pending.map pendingElem }, pending := [] } := rfl
    rw [e4] at h4
    injection h4 with _ h4
    rcases r with ⟨items, hi1, hi2, hall⟩ | f
    · refine ⟨t :: cs', e, d ++ sL.pending.map pendingElem, by rw [← p.toks, t1, hte], hke, ?_, items, ?_, hi1, ?_, hall⟩
      · rw [← h4]
        show sL.builder.children ++ sL.pending.map pendingElem = _
        rw [b1, hbP, List.append_assoc]
      · intro h0
        subst h0
        have : sig (t :: cs') = t :: sig cs' := by simp [sig, hni]
        rw [this] at hi1
        simp at hi1
      · rw [sigE_append, sigE_pending, List.append_nil]; exact hi2
    · exact absurd f id

/-- `document()`: the DOCUMENT node, the ignored tokens in front, the definitions -/
theorem document_tr {n : Nat} {Q : Nat → List Tok → List Elem → Prop} (D : DispatchTr n Q) (s s' : PState) (st : St s)
    (h : (document n).run s = .ok () s') (hnd : ¬ Doomed s') :
    ∃ ts e inner, sig (Toks s) = ts ++ [e] ∧ e.kind = .eof ∧
      s'.builder.children = s.builder.children ++ s.pending.map pendingElem ++ [Elem.node "DOCUMENT" inner] ∧
      ∃ items : List (List Tok × List Elem), items ≠ [] ∧ ts = (items.map (·.1)).flatten ∧
        sigE inner = (items.map (·.2)).flatten ∧ ∀ i ∈ items, Q (s.recLimit - s.recCur) i.1 i.2 := by
  unfold document at h
  obtain ⟨s0, s2, inner, o0, hi0, hp0, hr0, o2, hin, hout⟩ := withNode_tree "DOCUMENT" (documentBody n) s st.inv () s' h
  obtain ⟨_, s1, hsk, hb⟩ := bind_dec skipIgnored _ s0 s2 () hr0
  have st0 : St s0 := st.obs o0 hi0
  obtain ⟨ign, e01, hall, hset⟩ := skipIgnored_spec s0 s1 st0.w hsk
  have he1 : EofEnd s1 := eofEnd_eat st0.eof e01 (noEof_ignored ign hall)
  have st1 : St s1 := ⟨e01.w, (run_inv_added skipIgnored s0 hi0 () s1 hsk).1, he1, LQ.suffix (cs := ign) (by rw [← e01.toks]; exact st0.lq)⟩
  have hk1 : s1.builder = s0.builder := keeps_skipIgnored s0 () s1 hsk
  have hnd2 : ¬ Doomed s2 := fun d => hnd (o2.doomed.mpr d)
  obtain ⟨cs, e, added, t1, hke, b1, items, hne, hi1, hi2, hallq⟩ := documentBody_tr D s1 s2 st1 hset hb hnd2
  rw [e01.recLimit, e01.recCur, o0.recLimit, o0.recCur] at hallq
  have hinner : inner = added := by
    rw [hk1] at b1
    rw [hin] at b1
    exact List.append_cancel_left b1
  subst hinner
  refine ⟨sig cs, e, inner, ?_, hke, hout, items, hne, hi1, hi2, hallq⟩
  rw [← o0.toks, e01.toks, t1, sig_append, sig_append, sig_ignored ign hall]
  have : sig [e] = [e] := by simp [sig, isIgnoredKind, hke]
  rw [this]; rfl

/-- the state `Parser::parse` starts in: the queue is the lexer's token stream -/
theorem st_init (src : Str) (rl : Nat) : St (initState src none rl) := by
  refine ⟨⟨rfl, by intro h; simp [initState] at h⟩, init_inv src none rl, Or.inr ?_, lq_srcToks src⟩
  obtain ⟨pre, e, hp, he, hno⟩ := stream_eof_end src.length (initState src none 0).lx (Nat.le_refl _) rfl rfl
  exact ⟨pre, e, hp, he, hno⟩

/-- **The tree of an accepted document**, over the per-definition facts: `Parser::parse` (model; no token limit, any
    recursion limit) without error returns `DOCUMENT[…]` whose significant children are, definition by definition, the
    elements the definition parsers appended, and the significant tokens are the definitions' tokens, then EOF -/
theorem parseDocument_tr {Q : Nat → List Tok → List Elem → Prop} (D : ∀ n, DispatchTr n Q) (rl : Nat) (src : Str) (root : Elem)
    (h : (parse .document none rl src).outcome = .tree root) (herr : (parse .document none rl src).errors = []) :
    LexClean src ∧ ∃ ts e inner, sig (srcToks src) = ts ++ [e] ∧ e.kind = .eof ∧ root = Elem.node "DOCUMENT" inner ∧
      ∃ items : List (List Tok × List Elem), items ≠ [] ∧ ts = (items.map (·.1)).flatten ∧
        sigE inner = (items.map (·.2)).flatten ∧ ∀ i ∈ items, Q rl i.1 i.2 := by
  unfold parse runEntry at h herr
  simp only [Entry.standalone, Entry.grammar] at h herr
  have st0 := st_init src rl
  have hinv := st0.inv
  have w0 := st0.w
  have htoks : Toks (initState src none rl) = srcToks src := rfl
  cases hr : (document (fuelFor src)).run (initState src none rl) with
  | abort w => simp [hr] at h
  | panic m => simp [hr] at h
  | ok a s =>
    simp only [hr] at h herr
    have gd := good_withNode "DOCUMENT" _ (good_documentBody (defLemmas (fuelFor src))) _ a s w0 (by unfold document at hr; exact hr)
    obtain ⟨hfin, hlim⟩ := PI.run_ok (document (fuelFor src)) _ hinv a s hr
    obtain ⟨cs, s2, _, _, hrun, _, _, hlx, _, _, _⟩ :=
      withNode_result "DOCUMENT" (documentBody (fuelFor src)) _ hinv a s hr
    have hi0 : Inv (rawStartNode "DOCUMENT" { initState src none rl with builder := { (initState src none rl).builder with children := (initState src none rl).builder.children ++ (initState src none rl).pending.map pendingElem }, pending := [] }) :=
      ⟨fun _ => by simp [initState, Builder.new, rawStartNode, Builder.startNode, textList, pendingText, curText],
       fun p hp => by simp [initState, Builder.new, rawStartNode, Builder.startNode] at hp; simp [hp, initState, Builder.new, rawStartNode, Builder.startNode],
       fun hfin => by simp [initState, rawStartNode] at hfin, fun t ht => by simp [initState, rawStartNode] at ht,
       fun ha => by simp [initState, rawStartNode] at ha⟩
    obtain ⟨u, s1, hsk, hbody⟩ := bind_dec skipIgnored _ _ s2 a hrun
    obtain ⟨hi1, hl1⟩ := PI.run_ok skipIgnored _ hi0 u s1 hsk
    have hl1' : s1.lx.limit = none := by rw [hl1]; rfl
    obtain ⟨_, hex2, _⟩ := documentBody_final (fuelFor src) s1 s2 hi1 hl1' hbody
    have hsrc : s.lx.src = [] := by rw [hlx]; exact hex2.2
    have hnd : ¬ Doomed s := by
      rintro (d | d)
      · exact d herr
      · rw [hasErr_src_nil s.lx gd.w.limit hsrc] at d; cases d
    have hnd0 : ¬ Doomed (initState src none rl) := fun d => hnd (gd.doom d)
    refine ⟨Classical.byContradiction (fun hc => hnd0 ((doomed_init src rl).mpr hc)), ?_⟩
    obtain ⟨ts, e, inner, h1, h2, h3, hitems⟩ := document_tr (D (fuelFor src)) _ s st0 hr hnd
    have hchild : s.builder.children = [Elem.node "DOCUMENT" inner] := by rw [h3]; rfl
    simp only [Builder.finish, hchild, Outcome.tree.injEq] at h
    rw [htoks] at h1
    exact ⟨ts, e, inner, h1, h2, h.symm, hitems⟩

/-- the same over the per-definition facts `DefTrs` -/
theorem parseDocument_cst {Q : List Tok → List Elem → Prop} (L : ∀ n, DefTrs n Q) (rl : Nat) (src : Str) (root : Elem)
    (h : (parse .document none rl src).outcome = .tree root) (herr : (parse .document none rl src).errors = []) :
    LexClean src ∧ ∃ ts e inner, sig (srcToks src) = ts ++ [e] ∧ e.kind = .eof ∧ root = Elem.node "DOCUMENT" inner ∧
      ∃ items : List (List Tok × List Elem), items ≠ [] ∧ ts = (items.map (·.1)).flatten ∧
        sigE inner = (items.map (·.2)).flatten ∧ ∀ i ∈ items, Q i.1 i.2 :=
  parseDocument_tr (Q := fun _ => Q) (fun n => documentDispatch_tr (L n)) rl src root h herr

end Apollo.Parse
