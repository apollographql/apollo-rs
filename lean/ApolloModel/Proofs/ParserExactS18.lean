import ApolloModel.Proofs.ParserExactS17
import ApolloModel.Proofs.ParserExactC43
import ApolloModel.Proofs.ParserExactT15
/-
EXACT CHARACTERISATION (namespace Apollo.Parse.Exact): `document_iff`, which C05 states as `document_accept_iff`.  The sound side (ParserExactS14 at the
guard `itemFitXX`: `looseFitXX` — only the LAST root operation type of a schema definition / extension may lack its named
type) with all fifteen fields discharged, the complete side (ParserExactC43) for the same guard and the exact follow condition
`DocFollowX`, and their conjunction: `Parser::parse` reports zero errors IF AND ONLY IF the significant tokens are `docToks its ++ EOF`
for a non-empty `its` with `itemFitXX rl` on every item and `DocFollowX its`.
-/
set_option linter.unusedSimpArgs false
namespace Apollo.Parse.Exact
open Apollo.Rowan hiding Str
open Apollo.Lex hiding Str

/-- **the exact item guard**: within the recursion budget and well formed; the two liberties of the accepted language are part of
    `DocItem` (leading `&` / `|`; the last root operation type of a schema definition / extension without its named type) -/
def itemFitXX (b : Nat) : DocItem → Prop
  | .exec _ d => execFit b d
  | .loose l => looseFitXX b l

theorem itemFitXX_of_fit (b : Nat) (i : DocItem) (h : itemFit b i) : itemFitXX b i := by
  cases i with
  | exec oe d => exact h
  | loose l => exact looseFitXX_of_looseFit b l h

theorem itemFitX_of_XX (b : Nat) (i : DocItem) (h : itemFitXX b i) : itemFitX b i := by
  cases i with
  | exec oe d => exact h
  | loose l => exact looseFitX_of_XX b l h

end Apollo.Parse.Exact

namespace Apollo.Parse.Exact.XX
open Apollo.Rowan hiding Str
open Apollo.Lex hiding Str

@[reducible] def ItemRes (s s' : PState) : Prop :=
  ∃ (cs : List Tok) (i : DocItem), Toks s = cs ++ Toks s' ∧ NoEof cs ∧ EofEnd s' ∧ TokIs (sig cs) (DocItem.toks i) ∧
    itemFitXX (bud s) i ∧ ∀ q, (sig (Toks s')).head? = some q → itemFollowQ i q

def DefSound (H : List Tok → Prop) (m : PI Unit) : Prop :=
  ∀ s s', TW s → EofEnd s → (LexQ (Toks s) ∧ H (Toks s)) → m.run s = .ok () s' → ¬ Doomed s' → ItemRes s s'

structure DefExact (n : Nat) : Prop where
  directive : DefSound (DStart "directive".toList) (directiveDefinition n)
  enumDef : DefSound (DStart "enum".toList) (enumTypeDefinition n)
  input : DefSound (DStart "input".toList) (inputObjectTypeDefinition n)
  interface : DefSound (DStart "interface".toList) (interfaceTypeDefinition n)
  object : DefSound (DStart "type".toList) (objectTypeDefinition n)
  scalar : DefSound (DStart "scalar".toList) (scalarTypeDefinition n)
  schema : DefSound (DStart "schema".toList) (schemaDefinition n)
  union : DefSound (DStart "union".toList) (unionTypeDefinition n)
  schemaExt : DefSound (EStart "schema".toList) (schemaExtension n)
  scalarExt : DefSound (EStart "scalar".toList) (scalarTypeExtension n)
  objectExt : DefSound (EStart "type".toList) (objectTypeExtension n)
  interfaceExt : DefSound (EStart "interface".toList) (interfaceTypeExtension n)
  unionExt : DefSound (EStart "union".toList) (unionTypeExtension n)
  enumExt : DefSound (EStart "enum".toList) (enumTypeExtension n)
  inputExt : DefSound (EStart "input".toList) (inputObjectTypeExtension n)

theorem DefExact.toG {n : Nat} (L : DefExact n) : DefExactG itemFitXX n :=
  ⟨L.directive, L.enumDef, L.input, L.interface, L.object, L.scalar, L.schema, L.union, L.schemaExt, L.scalarExt, L.objectExt,
    L.interfaceExt, L.unionExt, L.enumExt, L.inputExt⟩

end Apollo.Parse.Exact.XX

namespace Apollo.Parse.Exact
open Apollo.Rowan hiding Str
open Apollo.Lex hiding Str

theorem defExactXX (n : Nat) : XX.DefExact n where
  directive := DefSoundG.mono itemFitXX_of_fit (directiveDef_sound n)
  enumDef := DefSoundG.mono itemFitXX_of_fit (enumDef_sound n)
  input := DefSoundG.mono itemFitXX_of_fit (inputDef_sound n)
  interface := DefSoundG.mono itemFitXX_of_fit (interfaceDef_sound n)
  object := DefSoundG.mono itemFitXX_of_fit (objectDef_sound n)
  scalar := DefSoundG.mono itemFitXX_of_fit (scalarDef_sound n)
  schema := defSoundG_of_loose (lf := looseFitXX) (fun _ _ hl => hl) _ _ (schemaDef_soundXX n)
  union := DefSoundG.mono itemFitXX_of_fit (unionDef_sound n)
  schemaExt := defSoundG_of_loose (lf := looseFitXX) (fun _ _ hl => hl) _ _ (schemaExt_soundXX n)
  scalarExt := DefSoundG.mono itemFitXX_of_fit (scalarExt_sound n)
  objectExt := DefSoundG.mono itemFitXX_of_fit (objectExt_sound n)
  interfaceExt := DefSoundG.mono itemFitXX_of_fit (interfaceExt_sound n)
  unionExt := DefSoundG.mono itemFitXX_of_fit (unionExt_sound n)
  enumExt := DefSoundG.mono itemFitXX_of_fit (enumExt_sound n)
  inputExt := DefSoundG.mono itemFitXX_of_fit (inputExt_sound n)

theorem item_headAXX (b : Nat) (i : DocItem) (h : itemFitXX b i) : ∃ a x', i.toks = a :: x' ∧ HeadA a := by
  cases i with
  | loose l => exact looseDef_headA l
  | exec oe d => exact item_headA b (.exec oe d) h

theorem docToks_headXX (b : Nat) : ∀ r : List DocItem, (∀ i ∈ r, itemFitXX b i) →
    (docToks r).head? = none ∨ ∃ a, (docToks r).head? = some a ∧ HeadA a
  | [], _ => Or.inl rfl
  | j :: r', h => by
    obtain ⟨a, x', e, ha⟩ := item_headAXX b j (h j (by simp))
    refine Or.inr ⟨a, ?_, ha⟩
    have : docToks (j :: r') = j.toks ++ docToks r' := by simp [docToks]
    rw [this, e]; rfl

theorem docOkZ_of_items (rl : Nat) : ∀ its : List DocItem, (∀ i ∈ its, itemFitXX rl i) → DocFollowX its → Z.DocOk rl (its.map DocItem.toks)
  | [], _, _ => trivial
  | i :: r, hfit, hfol => by
    refine ⟨?_, docOkZ_of_items rl r (fun j hj => hfit j (by simp [hj])) hfol.2⟩
    intro q hq
    have hq' : FollowTokOf (docToks r).head? q := hq
    have hi := hfit i (by simp)
    cases i with
    | exec oe d => exact Or.inl (execFit_lexec rl oe d hi)
    | loose l =>
      have hg := followGood_of hq' (docToks_headXX rl r (fun j hj => hfit j (by simp [hj])))
      refine Or.inr ⟨l, rfl, hi, looseFollowY_of_good l q hg ?_⟩
      intro ho hk
      have hX : openBody l → (docToks r).head? ≠ some (.p .lCurly) := hfol.1
      apply hX ho
      cases hf : (docToks r).head? with
      | none => rw [hf] at hq'; have : q.kind = .eof := hq'; rw [this] at hk; cases hk
      | some a =>
        rw [hf] at hq'
        have hv : astOfV q = some a := hq'
        have hka := kind_of_astOfV hv
        rw [hk] at hka
        cases a with
        | p pp => cases pp <;> first | rfl | (simp [kindOfA] at hka)
        | name w => simp [kindOfA] at hka
        | int w => simp [kindOfA] at hka
        | float w => simp [kindOfA] at hka
        | str w => simp [kindOfA] at hka

/-- **document_accept_iff — the exact characterisation of the accepted language.**  `Parser::parse` (model; no token limit, any
    recursion limit `rl`) reports ZERO errors if and only if the source lexes cleanly and its significant tokens are, followed by
    EOF, `docToks its` for a non-empty list of items, every item within the exact guard `itemFitXX rl`, the list satisfying the exact
    follow condition `DocFollowX`. -/
theorem document_iff (rl : Nat) (src : Str) :
    (parse .document none rl src).errors = [] ↔
      LexClean src ∧ ∃ (ts : List Tok) (its : List DocItem) (e : Tok), sig (srcToks src) = ts ++ [e] ∧ e.kind = .eof ∧
        TokIs ts (docToks its) ∧ its ≠ [] ∧ (∀ i ∈ its, itemFitXX rl i) ∧ DocFollowX its := by
  refine ⟨parseDocument_sound_exactG (fun _ _ _ => Iff.rfl) (fun n => (defExactXX n).toG) rl src, ?_⟩
  rintro ⟨hclean, ts, its, e, h1, h2, h3, h4, h5, h6⟩
  exact Z.parseDocument_completeG_sig rl src _ ts e hclean h1 h2 h3
    ⟨its.map DocItem.toks, by simpa using h4, rfl, docOkZ_of_items rl its h5 h6⟩

/-- **document_accept_complete over `DocFollowX`**: every document `its` within the exact budget whose items satisfy the EXACT follow
    condition — in any spelling — parses with zero errors -/
theorem parseDocument_complete_itemsX (rl : Nat) (src : Str) (its : List DocItem) (ts : List Tok) (e : Tok)
    (hclean : LexClean src) (hsig : sig (srcToks src) = ts ++ [e]) (he : e.kind = .eof) (hx : TokIs ts (docToks its))
    (hne : its ≠ []) (hfit : ∀ i ∈ its, itemFit rl i) (hfol : DocFollowX its) :
    (parse .document none rl src).errors = [] :=
  (document_iff rl src).mpr ⟨hclean, ts, its, e, hsig, he, hx, hne, fun i hi => itemFitXX_of_fit rl i (hfit i hi), hfol⟩

/-- **the sandwich with the exact follow condition on BOTH sides**: `{itemFit, DocFollowX}` ⊆ accepted ⊆ `{itemFitX, DocFollowX}` — the only
    asymmetry left is the recorded finding (`itemFit` asks every root operation type to have its named type, `itemFitX` does not) -/
theorem document_sandwich_followX (rl : Nat) (src : Str) :
    ((parse .document none rl src).errors = [] →
      LexClean src ∧ ∃ (ts : List Tok) (its : List DocItem) (e : Tok), sig (srcToks src) = ts ++ [e] ∧ e.kind = .eof ∧
        TokIs ts (docToks its) ∧ its ≠ [] ∧ (∀ i ∈ its, itemFitX rl i) ∧ DocFollowX its) ∧
    ((LexClean src ∧ ∃ (ts : List Tok) (its : List DocItem) (e : Tok), sig (srcToks src) = ts ++ [e] ∧ e.kind = .eof ∧
        TokIs ts (docToks its) ∧ its ≠ [] ∧ (∀ i ∈ its, itemFit rl i) ∧ DocFollowX its) →
      (parse .document none rl src).errors = []) := by
  refine ⟨document_accept_sound_exact_unconditional rl src, ?_⟩
  rintro ⟨hclean, ts, its, e, h1, h2, h3, h4, h5, h6⟩
  exact parseDocument_complete_itemsX rl src its ts e hclean h1 h2 h3 h4 h5 h6

/-! ### the strict-grammar corollary -/

theorem fullRoots_named : ∀ (roots : List (Ast.OpType × Option Ast.Str)) (rs : List (Ast.OpType × Ast.Str)), fullRoots roots = some rs →
    ∀ r ∈ roots, r.2 ≠ none
  | [], _, _ => by intro r hr; cases hr
  | (op, some nm) :: rest, rs, h => by
    simp only [fullRoots, Option.map_eq_some_iff] at h
    obtain ⟨r', hr', _⟩ := h
    intro r hr
    rcases List.mem_cons.mp hr with rfl | hr
    · intro h0; cases h0
    · exact fullRoots_named rest r' hr' r hr
  | (_, none) :: _, _, h => by simp [fullRoots] at h

/-- an item that uses neither liberty and satisfies the exact guard satisfies the strict guard -/
theorem itemFit_of_strict (b : Nat) (i : DocItem) (a : Ast.Item) (hs : i.strict = some a) (h : itemFitXX b i) : itemFit b i := by
  cases i with
  | exec oe d => exact h
  | loose l =>
    simp only [DocItem.strict, Option.map_eq_some_iff] at hs
    obtain ⟨d, hd, _⟩ := hs
    cases l with
    | schema desc ds roots =>
      simp only [LooseDef.strict, Option.map_eq_some_iff] at hd
      obtain ⟨rs, hrs, _⟩ := hd
      exact ⟨h.1, h.2.1, fullRoots_named roots rs hrs⟩
    | schemaExt ds roots =>
      simp only [LooseDef.strict, Option.map_eq_some_iff] at hd
      obtain ⟨rs, hrs, _⟩ := hd
      exact ⟨h.1, h.2.1, fullRoots_named roots rs hrs⟩
    | _ => exact h

theorem strictItems_mem : ∀ (its : List DocItem) (items : List Ast.Item), strictItems its = some items → ∀ i ∈ its, ∃ a, i.strict = some a
  | [], _, _ => by intro i hi; cases hi
  | j :: r, items, h => by
    unfold strictItems at h
    cases hj : j.strict with
    | none => simp [hj] at h
    | some a =>
      cases hr : strictItems r with
      | none => simp [hj, hr] at h
      | some bs =>
        intro i hi
        rcases List.mem_cons.mp hi with rfl | hi
        · exact ⟨a, hj⟩
        · exact strictItems_mem r bs hr i hi

/-- **accepted ⇒ a strict grammar document, or a named liberty is used.**  Zero errors: the tokens are `docToks its` (exact guards);
    and EITHER no liberty is used (`strictItems its = some items`): then the tokens are the printer's tokens `itemsToks items` of a
    document of the strict grammar and every item satisfies the strict guard `itemFit rl`; OR `strictItems its = none`: some item uses
    a leading `&` / `|` or a root operation type without its named type. -/
theorem document_accepted_strict_or_liberty (rl : Nat) (src : Str) (herr : (parse .document none rl src).errors = []) :
    LexClean src ∧ ∃ (ts : List Tok) (its : List DocItem) (e : Tok), sig (srcToks src) = ts ++ [e] ∧ e.kind = .eof ∧
      TokIs ts (docToks its) ∧ its ≠ [] ∧ (∀ i ∈ its, itemFitXX rl i) ∧ DocFollowX its ∧
      ((∃ items, strictItems its = some items ∧ docToks its = Ast.itemsToks items ∧ ∀ i ∈ its, itemFit rl i) ∨ strictItems its = none) := by
  obtain ⟨hc, ts, its, e, h1, h2, h3, h4, h5, h6⟩ := (document_iff rl src).mp herr
  refine ⟨hc, ts, its, e, h1, h2, h3, h4, h5, h6, ?_⟩
  cases hs : strictItems its with
  | none => exact Or.inr rfl
  | some items =>
    refine Or.inl ⟨items, rfl, (strictItems_toks its items hs).1, ?_⟩
    intro i hi
    obtain ⟨a, ha⟩ := strictItems_mem its items hs i hi
    exact itemFit_of_strict rl i a ha (h5 i hi)

end Apollo.Parse.Exact
