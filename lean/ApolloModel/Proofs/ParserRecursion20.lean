import ApolloModel.Proofs.ParserRecursion17
/-
C04, recursion limit across runs: a run that never hits its recursion limit (and has no token limit) records no limit error: `limit_err` is only
reached when `check_and_increment` fails, and then the high-water mark exceeds the limit.
-/
set_option linter.unusedSimpArgs false
set_option linter.unusedVariables false
namespace Apollo.Parse
open Apollo.Rowan hiding Str
open Apollo.Lex hiding Str

/-- no new limit error unless the high-water mark went beyond the limit -/
def NL {α : Type} (m : PI α) : Prop :=
  ∀ s a s', GI s → s.recCur ≤ s.recLimit → m.run s = .ok a s' → s'.recHigh ≤ s.recLimit →
    HasLim s'.errors → HasLim s.errors

structure NG {α : Type} (m : PI α) : Prop where
  b : BG m
  n : NL m

theorem ng_of_plain_qp {α : Type} {m : PI α} (h : Plain m ∧ QP m) : NG m :=
  ⟨bg_of_plain h.1, fun s a s' g _ hr _ hl => (h.2 s a s' g.lim hr).1.lim.mp hl⟩

theorem ng_bind {α β : Type} (m : PI α) (f : α → PI β) (hm : NG m) (hf : ∀ a, NG (f a)) : NG (m >>= f) := by
  refine ⟨bg_bind _ _ hm.b (fun a => (hf a).b), ?_⟩
  intro s b s'' g hc h hhi hl
  obtain ⟨a, s', h1, h2⟩ := bind_dec m f s s'' b h
  have b1 := hm.b s a s' hc h1
  have hc1 : s'.recCur ≤ s'.recLimit := by rw [b1.recCur, b1.recLimit]; exact hc
  have b2 := (hf a).b s' b s'' hc1 h2
  have hl1 := (hf a).n s' b s'' (b1.gi g) hc1 h2 (by rw [b1.recLimit]; exact hhi) hl
  exact hm.n s a s' g hc h1 (Nat.le_trans b2.lo hhi) hl1

theorem ng_ite {α : Type} (c : Bool) (a b : PI α) (ha : NG a) (hb : NG b) : NG (if c then a else b) := by
  cases c <;> simp [ha, hb]

theorem ng_withNode {α : Type} (kind : SK) (body : PI α) (hs : NG skipIgnored) (hb : NG body) : NG (withNode kind body) := by
  have hin := ng_bind _ _ hs (fun _ => hb)
  refine ⟨bg_withNode _ _ hb.b, ?_⟩
  intro s a s' g hc h hhi hl
  obtain ⟨s1, s2, o1, hr, o2⟩ := withNode_decS kind body s s' a h
  have := hin.n s1 a s2 (o1.plainOut.gi g) (by rw [o1.recCur, o1.recLimit]; exact hc) hr
    (by rw [o1.recLimit, ← o2.recHigh]; exact hhi) (by rw [← o2.errors]; exact hl)
  rw [o1.errors] at this
  exact this

theorem ng_withRec {α : Type} (onLimit body : PI α) (hl : Plain onLimit) (hb : NG body) : NG (withRec onLimit body) := by
  refine ⟨bg_withRec _ _ hl hb.b, ?_⟩
  intro s a s' g hc h hhi hlim
  rcases withRec_decH onLimit body s s' a h with ⟨hover, hrun⟩ | ⟨hunder, s2, hrun, hs'⟩
  · exfalso
    have o := hl.out _ a s' hrun
    have : s'.recHigh = max s.recHigh (s.recCur + 1) := o.recHigh
    omega
  · subst hs'
    exact hb.n { s with recCur := s.recCur + 1, recHigh := max s.recHigh (s.recCur + 1) } a s2 ⟨g.lim, g.acc, g.nf⟩ (by simpa using hunder) hrun hhi hlim

theorem ng_wrapIf {α : Type} (kind : SK) (body : PI α) (cond : α → PI Bool) (inner : PI Unit)
    (hb : NG body) (hc : ∀ a, NG (cond a)) (hi : NG inner) : NG (wrapIf kind body cond inner) := by
  refine ⟨bg_wrapIf _ _ _ _ hb.b (fun a => (hc a).b) hi.b, ?_⟩
  intro s a s' g hcur h hhi hl
  obtain ⟨s1, s2, s3, c, o1, h1, h2, hrest⟩ := wrapIf_decS kind body cond inner s s' a h
  have g1 := o1.plainOut.gi g
  have hc1 : s1.recCur ≤ s1.recLimit := by rw [o1.recCur, o1.recLimit]; exact hcur
  have b2 := hb.b s1 a s2 hc1 h1
  have hc2 : s2.recCur ≤ s2.recLimit := by rw [b2.recCur, b2.recLimit]; exact hc1
  have b3 := (hc a).b s2 c s3 hc2 h2
  have hc3 : s3.recCur ≤ s3.recLimit := by rw [b3.recCur, b3.recLimit]; exact hc2
  have hlim1 : s1.recLimit = s.recLimit := o1.recLimit
  have hlim2 : s2.recLimit = s.recLimit := by rw [b2.recLimit, hlim1]
  have hlim3 : s3.recLimit = s.recLimit := by rw [b3.recLimit, hlim2]
  -- from a limit error in `s3` back to `s`
  have back3 : s3.recHigh ≤ s.recLimit → HasLim s3.errors → HasLim s.errors := by
    intro hh3 hl3
    have hl2 := (hc a).n s2 c s3 (b2.gi g1) hc2 h2 (by rw [hlim2]; exact hh3) hl3
    have hl1 := hb.n s1 a s2 g1 hc1 h1 (by rw [hlim1]; exact Nat.le_trans b3.lo hh3) hl2
    rw [o1.errors] at hl1
    exact hl1
  rcases hrest with ⟨_, rfl⟩ | ⟨_, s4, s5, o4, h5, o5⟩
  · exact back3 hhi hl
  · have g3 := b3.gi (b2.gi g1)
    have g4 := o4.plainOut.gi g3
    have hc4 : s4.recCur ≤ s4.recLimit := by rw [o4.recCur, o4.recLimit]; exact hc3
    have b5 := hi.b s4 () s5 hc4 h5
    have hh5 : s5.recHigh ≤ s.recLimit := by rw [← o5.recHigh]; exact hhi
    have hl5 : HasLim s5.errors := by rw [← o5.errors]; exact hl
    have hl4 := hi.n s4 () s5 g4 hc4 h5 (by rw [o4.recLimit, hlim3]; exact hh5) hl5
    rw [o4.errors] at hl4
    exact back3 (by rw [← o4.recHigh]; exact Nat.le_trans b5.lo hh5) hl4

/-- The limit branch of the guard is `Plain`: it runs only when `check_and_increment` fails, and then the
    high-water mark is already beyond the limit. -/
theorem ngCalc : GuardCalc @NG where
  toTokenCalc := (plainTok.and qpTok).mono ng_of_plain_qp ng_bind
  withNodeAny := ng_withNode
  guard := fun a body hb => ng_withRec _ body (plain_bind _ _ plain_limitErr fun _ => plain_pure a) hb
  guardUnit := fun body hb => ng_withRec _ body plain_limitErr hb
  wrapIf := ng_wrapIf
  popDrop := ng_of_plain_qp ⟨plain_popDrop, qp_popDrop⟩

structure NSel (n : Nat) : Prop where
  selSet : NG (selectionSet n)
  sel : NG (selection n)
  field : NG (field n)
  inline : NG (inlineFragment n)

theorem nSel (n : Nat) : NSel n :=
  ⟨(ngCalc.selections n).1, (ngCalc.selections n).2.1, (ngCalc.selections n).2.2.1, (ngCalc.selections n).2.2.2⟩

theorem parse_no_limit_error (e : Entry) (R : Nat) (src : Str) (hfree : (parse e none R src).recHigh ≤ R) :
    ¬ HasLim (parse e none R src).errors := by
  obtain ⟨sR, hR, eR1, eR2⟩ := parse_entry_run e R src
  rw [eR1]
  rw [eR2] at hfree
  have g : GI (setL R (entryStart e src)) := by
    cases e <;> exact ⟨rfl, fun h => by simp [setL, entryStart, Entry.standalone, initState] at h,
      fun h => by simp [setL, entryStart, Entry.standalone, initState] at h⟩
  intro hl
  have hc0 : (setL R (entryStart e src)).recCur ≤ (setL R (entryStart e src)).recLimit := by cases e <;> exact Nat.zero_le _
  have := (ngCalc.entry e (fuelFor src)).n _ () sR g hc0 hR (by simpa [setL] using hfree) hl
  have he : (setL R (entryStart e src)).errors = [] := by cases e <;> rfl
  rw [he] at this
  obtain ⟨x, hx, _⟩ := this
  cases hx

end Apollo.Parse
