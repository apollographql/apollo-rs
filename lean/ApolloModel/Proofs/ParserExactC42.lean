import ApolloModel.Proofs.ParserExactC29
/-
Completeness for the exact guards (namespace Apollo.Parse.Exact.Y): the dispatch with the INSTANCE-DEPENDENT follow condition
(`looseFollowY`: a type-system definition / extension whose braces body is written only asks that the next token is not `&` /
the Name `implements` where `looseFollow` asked it, and in particular allows `{`), and `document()` / `Parser::parse` for the
per-item predicate built on it, as an instance of `ItemGuard`.
-/
set_option linter.unusedSimpArgs false
namespace Apollo.Parse.Exact.Y
open Apollo.Rowan hiding Str
open Apollo.Lex hiding Str

/-- what may follow a type-system definition or extension, depending on whether its braces body is written -/
def looseFollowY : LooseDef → Tok → Prop
  | .object _ _ _ _ fs, t => (fs ≠ [] ∧ FObjP t) ∨ FObj t
  | .interface _ _ _ _ fs, t => (fs ≠ [] ∧ FObjP t) ∨ FObj t
  | .objectExt _ _ _ fs, t => (fs ≠ [] ∧ FObjP t) ∨ FObj t
  | .interfaceExt _ _ _ fs, t => (fs ≠ [] ∧ FObjP t) ∨ FObj t
  | .enum _ _ _ vs, t => vs ≠ [] ∨ Fbody t.kind
  | .enumExt _ _ vs, t => vs ≠ [] ∨ Fbody t.kind
  | .input _ _ _ fs, t => fs ≠ [] ∨ Fbody t.kind
  | .inputExt _ _ fs, t => fs ≠ [] ∨ Fbody t.kind
  | .schemaExt _ roots, t => roots ≠ [] ∨ Fbody t.kind
  | .scalar a b c, t => looseFollow (.scalar a b c) t
  | .union a b c d, t => looseFollow (.union a b c d) t
  | .directive a b c d e f g, t => looseFollow (.directive a b c d e f g) t
  | .schema a b c, t => looseFollow (.schema a b c) t
  | .scalarExt a b, t => looseFollow (.scalarExt a b) t
  | .unionExt a b c, t => looseFollow (.unionExt a b c) t

theorem looseFollowY_of_old (l : LooseDef) (t : Tok) (h : looseFollow l t) : looseFollowY l t := by
  cases l <;> first
    | exact h
    | exact Or.inr h

theorem loose_dispatch_compY (n : Nat) (sP s2 : PState) (t : Tok) (tl1 : List Tok) (l : LooseDef) (q1 : Tok) (r1 : List Tok)
    (w : TW sP) (lq : LexQ (Toks sP)) (hcur : sP.current = some t) (hfit : looseFit (sP.recLimit - sP.recCur) l)
    (hfol : looseFollowY l q1) (hs : Spells (t :: tl1) l.toks) (ht : Toks sP = (t :: tl1) ++ q1 :: r1) (hq : Sigf q1)
    (h : (documentDispatch n t.kind).run sP = .ok () s2) : Eat sP s2 (t :: tl1) ∧ Toks s2 = q1 :: r1 := by
  have old : looseFollow l q1 → Eat sP s2 (t :: tl1) ∧ Toks s2 = q1 :: r1 := fun hf =>
    loose_dispatch_comp n sP s2 t tl1 l q1 r1 w lq hcur hfit hf hs ht hq h
  have via := @loose_dispatch_via n sP s2 t tl1 l q1 r1 w lq hcur hs ht hq h
  -- where the braces body is written its judgement applies, otherwise the one for the optional body
  cases l with
  | object desc nm impl ds fs =>
    exact hfol.elim (fun hw => via (cmpT_objectTypeDefinitionP n) ⟨desc, nm, impl, ds, fs, hw.1, rfl, hfit⟩ hw.2) old
  | interface desc nm impl ds fs =>
    exact hfol.elim (fun hw => via (cmpT_interfaceTypeDefinitionP n) ⟨desc, nm, impl, ds, fs, hw.1, rfl, hfit⟩ hw.2) old
  | enum desc nm ds vs =>
    exact hfol.elim (fun hw => via (cmpT_enumTypeDefinitionP n) ⟨desc, nm, ds, vs, hw, rfl, hfit.1, hfit.2⟩ trivial) old
  | input desc nm ds fs =>
    exact hfol.elim (fun hw => via (cmpT_inputObjectTypeDefinitionP n) ⟨desc, nm, ds, fs, hw, rfl, hfit.1, hfit.2⟩ trivial) old
  | objectExt nm impl ds fs =>
    exact hfol.elim (fun hw => via (cmpT_objectTypeExtensionP n) ⟨nm, impl, ds, fs, hw.1, rfl, hfit.2⟩ hw.2) old
  | interfaceExt nm impl ds fs =>
    exact hfol.elim (fun hw => via (cmpT_interfaceTypeExtensionP n) ⟨nm, impl, ds, fs, hw.1, rfl, hfit.2⟩ hw.2) old
  | enumExt nm ds vs =>
    exact hfol.elim (fun hw => via (cmpT_enumTypeExtensionP n) ⟨nm, ds, vs, hw, rfl, hfit.2.1, hfit.2.2⟩ trivial) old
  | inputExt nm ds fs =>
    exact hfol.elim (fun hw => via (cmpT_inputObjectTypeExtensionP n) ⟨nm, ds, fs, hw, rfl, hfit.2.1, hfit.2.2⟩ trivial) old
  | schemaExt ds roots =>
    refine hfol.elim (fun hw => ?_) old
    obtain ⟨roots', rfl, hne'⟩ := strict_roots_map hfit.2.2
    exact via (cmpT_schemaExtensionP n) ⟨ds, roots', hne' hw, by cases roots' <;> rfl, hfit.2.1⟩ trivial
  | _ => exact old hfol

def ItemOk (b : Nat) (x : List Ast.Tok) (q : Tok) : Prop :=
  LExecDef b x ∨ ∃ l : LooseDef, x = l.toks ∧ looseFit b l ∧ looseFollowY l q

def DocOk (b : Nat) : List (List Ast.Tok) → Prop
  | [] => True
  | x :: r => (∀ q, FollowTokOf r.flatten.head? q → ItemOk b x q) ∧ DocOk b r

theorem itemGuard : ItemGuard LexQ ItemOk := looseItemGuard loose_dispatch_compY

theorem docOk_iff {b : Nat} : ∀ {items : List (List Ast.Tok)}, DocOk b items ↔ DocOkFor ItemOk b items
  | [] => Iff.rfl
  | _ :: _ => and_congr Iff.rfl docOk_iff

def IsDocFit (rl : Nat) (x : List Ast.Tok) : Prop :=
  ∃ items : List (List Ast.Tok), items ≠ [] ∧ x = items.flatten ∧ DocOk rl items

theorem parseDocument_completeG_sig (rl : Nat) (src : Str) (x : List Ast.Tok) (ts : List Tok) (e : Tok)
    (hclean : LexClean src) (hsig : sig (srcToks src) = ts ++ [e]) (he : e.kind = .eof)
    (hx : TokIs ts x) (hfit : IsDocFit rl x) : (parse .document none rl src).errors = [] := by
  obtain ⟨items, hne, rfl, hall⟩ := hfit
  exact itemGuard.parse_complete_sig rl src items ts e hclean hsig he hx hne (docOk_iff.mp hall)

end Apollo.Parse.Exact.Y
