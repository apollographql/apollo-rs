import ApolloModel.Proofs.ParserSel4
/-
C07 / C05, selection sets: inline fragment, selection set, the selection loop, the induction (`Exact.sel_all_sound`);
`sel_all_sound` is that statement with the budget forgotten.
-/
set_option linter.unusedSimpArgs false
namespace Apollo.Parse
open Apollo.Rowan hiding Str
open Apollo.Lex hiding Str

def inlT3 (n : Nat) : PI Unit := peek >>= fun x => if x == some Kind.lCurly then selectionSet n else err
def inlT2 (n : Nat) : PI Unit := peek >>= fun x => if x == some Kind.at then (directives n false >>= fun _ => inlT3 n) else inlT3 n

theorem good_inlT3 (n : Nat) : Good (inlT3 n) := good_bind _ _ good_peek (fun _ => good_ite _ _ _ (goodSel n).selSet good_err)
theorem good_inlT2 (n : Nat) : Good (inlT2 n) :=
  good_bind _ _ good_peek (fun _ => good_ite _ _ _ (good_bind _ _ (good_directives n false) (fun _ => good_inlT3 n)) (good_inlT3 n))

def selsOfList : List Ast.Sel → Ast.Sels
  | [] => .nil
  | f :: r => .cons f (selsOfList r)

theorem tSels_ofList (l : List Ast.Sel) : Ast.tSels (selsOfList l) = l.flatMap Ast.tSel := by
  induction l with
  | nil => simp [selsOfList, Ast.tSels]
  | cons f r ih => simp [selsOfList, Ast.tSels, ih]

namespace Exact

theorem inlT3_sound (n : Nat) (ih : SelSetSound n) (s s' : PState) (w : TW s) (he : EofEnd s)
    (h : (inlT3 n).run s = .ok () s') (hnd : ¬ Doomed s') :
    Cons s s' (LSet (bud s)) := by
  obtain ⟨sP, o, p, hor⟩ := ifPeek_dec .lCurly _ _ s s' () w h
  have heP := p.eofEnd he
  rcases hor with ⟨hk, h2⟩ | ⟨_, h2⟩
  · obtain ⟨t, rfl, hkt⟩ := peeked_kind hk
    have c := ih sP s' t _ p.w heP p.head_cons hkt h2 hnd
    exact (c.transport p.toks.symm rfl c.eofEnd).weaken (by intro x hx; rw [bud_peek p] at hx; exact hx)
  · exfalso
    exact hnd ((err_adv sP s' p.w h2).2 (eofEnd_nonempty sP heP (fun d => hnd ((good_err sP () s' p.w h2).doom d))))

theorem inline_sound_step (n : Nat) (ih : SelSetSound n) : InlineSound (n + 1) := by
  intro s s' t rest w he ht hk h hnd
  have hni : isIgnoredKind t.kind = false := by rw [hk]; rfl
  rw [inlineFragment_succ] at h
  obtain ⟨s1, s2, e1, h1, o2, ht1, he1, hnd2⟩ := withNode_entered "INLINE_FRAGMENT" _ s s' () t rest w he ht hni h hnd
  unfold inlineBody at h1
  obtain ⟨_, s3, h3, h4⟩ := bind_dec (bump "SPREAD") _ s1 s2 () h1
  obtain ⟨ign, e3, hall, _⟩ := bump_spec "SPREAD" s1 s3 e1.w t rest ht1 h3
  have hno3 : NoEof (t :: ign) := noEof_cons (by rw [hk]; decide) hall
  have c0 : Cons s1 s3 (fun x => x = [.p .spread]) :=
    Cons.ofEat e3 he1 hno3 (tokIs_punct t ign .spread hni (by simp [astOfV, hk]) hall)
  have h4' : (peek >>= fun x => if x == some Kind.name then (typeCondition >>= fun _ => inlT2 n) else inlT2 n).run s3 = .ok () s2 := h4
  obtain ⟨sP, o, p, hor⟩ := ifPeek_dec .name _ _ s3 s2 () e3.w h4'
  have heP := p.eofEnd c0.eofEnd
  have tail : ∀ s4, TW s4 → EofEnd s4 → (inlT2 n).run s4 = .ok () s2 →
      Cons s4 s2 (fun x => ∃ ds y, x = Ast.tDirectives ds ++ y ∧ dirsFit false (bud s4) ds ∧ LSet (bud s4) y) := by
    intro s4 w4 he4 h5
    obtain ⟨s5, h6, h7⟩ := optThen_dec .at (directives n false) (inlT3 n) s4 s2 h5
    have a5 := good_opt .at _ (good_directives n false) s4 () s5 w4 h6
    have hnd5 : ¬ Doomed s5 := fun d => hnd2 ((good_inlT3 n s5 () s2 a5.w h7).doom d)
    have c1 := optDirectives_sound n s4 s5 w4 he4 h6 hnd5
    have c2 := inlT3_sound n ih s5 s2 a5.w c1.eofEnd h7 hnd2
    exact (c1.seq c2).weaken (by
      rintro z ⟨x, y, rfl, ⟨ds, rfl, hd⟩, hy⟩
      exact ⟨ds, y, rfl, hd, by rw [bud_adv a5] at hy; exact hy⟩)
  rcases hor with ⟨hkn, h5⟩ | ⟨_, h5⟩
  · obtain ⟨t2, rfl, hk2⟩ := peeked_kind hkn
    obtain ⟨_, s4, h6, h7⟩ := bind_dec typeCondition _ sP s2 () h5
    have a6 := good_typeCondition sP () s4 p.w h6
    have hnd4 : ¬ Doomed s4 := fun d => hnd2 ((good_inlT2 n s4 () s2 a6.w h7).doom d)
    have c1 := typeCondition_sound sP s4 t2 _ p.w heP p.head_cons hk2 h6 hnd4
    have c1' : Cons s3 s4 _ := c1.transport p.toks.symm rfl c1.eofEnd
    have c2 := tail s4 a6.w c1.eofEnd h7
    have c := ((c0.seq c1').seq c2).node e1 o2
    have hb4 : bud s4 = bud s := by rw [bud_adv a6, bud_peek p, bud_eat e3, bud_eat e1]
    exact c.weaken (by
      rintro z ⟨xy, y, rfl, ⟨x1, x2, rfl, rfl, ⟨ty, rfl⟩⟩, ⟨ds, y2, rfl, hd, ⟨ss, hne, rfl, hb1, hfs⟩⟩⟩
      rw [hb4] at hd hb1 hfs
      exact ⟨.inline (some ty) ds ss, by simp [Ast.tSel, sOnP, Ast.sOn, List.append_assoc], by rw [fitSel]; exact ⟨hd, hne, hb1, hfs⟩⟩)
  · have c2 := tail sP p.w heP h5
    have c2' : Cons s3 s2 _ := c2.transport p.toks.symm rfl c2.eofEnd
    have c := (c0.seq c2').node e1 o2
    have hbP : bud sP = bud s := by rw [bud_peek p, bud_eat e3, bud_eat e1]
    exact c.weaken (by
      rintro z ⟨x, y, rfl, rfl, ⟨ds, y2, rfl, hd, ⟨ss, hne, rfl, hb1, hfs⟩⟩⟩
      rw [hbP] at hd hb1 hfs
      exact ⟨.inline none ds ss, by simp [Ast.tSel, List.append_assoc], by rw [fitSel]; exact ⟨hd, hne, hb1, hfs⟩⟩)

theorem selSet_sound_step (n : Nat) (ihs : SelsSound n) : SelSetSound (n + 1) := by
  intro s s' t rest w he ht hk h hnd
  have hni : isIgnoredKind t.kind = false := by rw [hk]; rfl
  rw [selectionSet_succ] at h
  obtain ⟨sP, o, p, hor⟩ := ifPeek_dec .lCurly _ _ s s' () w h
  have ho : o = some t := by rw [p.head, ht]; rfl
  subst ho
  have htP : Toks sP = t :: rest := by rw [p.toks]; exact ht
  have heP := p.eofEnd he
  rcases hor with ⟨_, h2⟩ | ⟨hne, _⟩
  · obtain ⟨s1, s2, e1, h1, o2, ht1, he1, hnd2⟩ := withNode_entered "SELECTION_SET" _ sP s' () t rest p.w heP htP hni h2 hnd
    have h0 : Toks s = Toks s1 := by rw [← p.toks]; simpa using e1.toks
    unfold selSetBody at h1
    obtain ⟨_, s3, h3, h4⟩ := bind_dec (bump "L_CURLY") _ s1 s2 () h1
    obtain ⟨ign, e3, hall, _⟩ := bump_spec "L_CURLY" s1 s3 e1.w t rest ht1 h3
    have hno3 : NoEof (t :: ign) := noEof_cons (by rw [hk]; decide) hall
    have c0 : Cons s1 s3 (fun x => x = [.p .lCurly]) :=
      Cons.ofEat e3 he1 hno3 (tokIs_punct t ign .lCurly hni (by simp [astOfV, hk]) hall)
    have he3 := c0.eofEnd
    obtain ⟨ok, s4, h5, h6⟩ := bind_dec _ _ s3 s2 () h4
    have gtail : ∀ b, Good (if b = true then expect .rCurly "R_CURLY" else (pure () : PI Unit)) :=
      fun b => good_ite _ _ _ (good_expect _ _) (good_pure _)
    rcases withRec_dec _ _ s3 s4 ok h5 with ⟨_, sl, ol, hl⟩ | ⟨hle, sr1, sr2, c1, l1, er1, a1, r1, rl1, hr, c2, l2, er2, a2, r2, rl2⟩
    · exfalso
      have wl : TW sl := ol.w e3.w
      have hgl : Good (limitErr >>= fun _ => (pure false : PI Bool)) := good_bind _ _ good_limitErr (fun _ => good_pure _)
      have al := hgl sl ok s4 wl hl
      have hnd4 : ¬ Doomed s4 := fun d => hnd2 ((gtail ok s4 () s2 al.w h6).doom d)
      have hnd3 : ¬ Doomed s3 := fun d => hnd4 (al.doom (ol.doomed.mpr d))
      exact hnd4 (limitErr_then_dooms false sl s4 ok wl (by rw [ol.toks]; exact eofEnd_nonempty s3 he3 hnd3) hl)
    · have wr1 : TW sr1 := w_same _ _ e3.w er1 l1 a1
      have her1 : EofEnd sr1 := eofEnd_same _ _ he3 c1 l1 er1
      obtain ⟨_, sr2', hr1, hr2⟩ := bind_dec (selection n) _ sr1 sr2 ok hr
      obtain ⟨rfl, rfl⟩ := pure_dec hr2
      have advr := (goodSel n).sel sr1 () sr2' wr1 hr1
      have w4 : TW s4 := w_same _ _ advr.w er2 l2 a2
      simp only [if_true] at h6
      have hnd4 : ¬ Doomed s4 := fun d => hnd2 ((good_expect _ _ s4 () s2 w4 h6).doom d)
      have hndr : ¬ Doomed sr2' := fun d => hnd4 ((doomed_same _ _ er2 l2).mpr d)
      have cs := ihs sr1 sr2' wr1 her1 hr1 hndr
      have cs' : Cons s3 s4 _ := cs.transport (toks_same _ _ c1 l1).symm (toks_same _ _ c2 l2) (eofEnd_same _ _ cs.eofEnd c2 l2 er2)
      obtain ⟨_, hex⟩ := expect_spec .rCurly "R_CURLY" s4 s2 w4 h6
      rcases hex with ⟨hemp, _⟩ | hd | ⟨t2, rest2, ign2, hq, hk2, e2, hall2, _⟩
      · exact absurd hemp (eofEnd_nonempty s4 cs'.eofEnd hnd4)
      · exact absurd hd hnd2
      · have hni2 : isIgnoredKind t2.kind = false := by rw [hk2]; rfl
        have c3 : Cons s4 s2 (fun x => x = [.p .rCurly]) :=
          Cons.ofEat e2 cs'.eofEnd (noEof_cons (by rw [hk2]; decide) hall2) (tokIs_punct t2 ign2 .rCurly hni2 (by simp [astOfV, hk2]) hall2)
        have c := ((c0.seq cs').seq c3).transport h0 o2.toks (eofEnd_same _ _ c3.eofEnd o2.current o2.lx o2.errors)
        have hb3 : bud s3 = bud s := by rw [bud_eat e3, bud_eat e1, bud_peek p]
        have hbr : bud sr1 + 1 = bud s3 := by unfold bud; rw [r1, rl1]; omega
        exact c.weaken (by
          rintro z ⟨xy, y, rfl, ⟨x1, x2, rfl, rfl, ⟨ss, hne, rfl, hfs⟩⟩, rfl⟩
          exact ⟨ss, hne, by simp, by omega, by rw [show bud s - 1 = bud sr1 by omega]; exact hfs⟩)
  · exact absurd (by simp [hk]) hne

theorem selBody_sound (n : Nat) (ihf : SelFieldSound n) (ihi : InlineSound n) (sP sB : PState) (t : Tok) (rest : List Tok)
    (cont set : Bool) (w : TW sP) (he : EofEnd sP) (ht : Toks sP = t :: rest)
    (h : (selBody n t.kind).run sP = .ok (cont, set) sB) (hnd : ¬ Doomed sB) :
    (cont = true ∧ set = true ∧ Cons sP sB (fun x => ∃ f, x = Ast.tSel f ∧ fitSel f (bud sP))) ∨ (cont = false ∧ set = false ∧ sB = sP) := by
  have hne : Toks sP ≠ [] := by rw [ht]; simp
  unfold selBody at h
  by_cases h1 : (t.kind == Kind.spread) = true
  · have hk : t.kind = .spread := by simpa using h1
    simp only [h1, if_true] at h
    obtain ⟨o, s1, hq, h2⟩ := bind_dec (peekTokenN 2) _ sP sB (cont, set) h
    have : s1 = sP := by
      unfold peekTokenN at hq; simp only [] at hq; injection hq with _ hq; exact hq.symm
    subst this
    cases o with
    | none =>
      exfalso
      simp only [] at h2
      obtain ⟨_, s2, h3, h4⟩ := bind_dec errAndPop _ s1 sB (cont, set) h2
      obtain ⟨-, rfl⟩ := pure_dec h4
      exact hnd (valueErr_dooms true s1 s2 w hne h3)
    | some next =>
      simp only [] at h2
      by_cases h2a : (next.kind == Kind.name && !kw "on" next.data) = true
      · simp only [h2a, if_true] at h2
        obtain ⟨_, s2, h3, h4⟩ := bind_dec (fragmentSpread n) _ s1 sB (cont, set) h2
        obtain ⟨hcs, rfl⟩ := pure_dec h4
        cases hcs
        refine Or.inl ⟨rfl, rfl, ?_⟩
        exact (fragmentSpread_sound n s1 s2 t rest w he ht hk h3 hnd).weaken (by rintro x ⟨nm, ds, rfl, hf⟩; exact ⟨_, rfl, hf⟩)
      · simp only [h2a, Bool.false_eq_true, if_false] at h2
        by_cases h2b : (next.kind == Kind.at || next.kind == Kind.name || next.kind == Kind.lCurly) = true
        · simp only [h2b, if_true] at h2
          obtain ⟨_, s2, h3, h4⟩ := bind_dec (inlineFragment n) _ s1 sB (cont, set) h2
          obtain ⟨hcs, rfl⟩ := pure_dec h4
          cases hcs
          exact Or.inl ⟨rfl, rfl, ihi s1 s2 t rest w he ht hk h3 hnd⟩
        · exfalso
          simp only [h2b, Bool.false_eq_true, if_false] at h2
          obtain ⟨_, s2, h3, h4⟩ := bind_dec err _ s1 sB (cont, set) h2
          obtain ⟨a3, d3⟩ := err_adv s1 s2 w h3
          have g : Good (bump "SPREAD" >>= fun _ => (pure (true, true) : PI (Bool × Bool))) := good_bind _ _ (good_bump _) (fun _ => good_pure _)
          exact hnd ((g s2 (cont, set) sB a3.w h4).doom (d3 hne))
  · simp only [h1, Bool.false_eq_true, if_false] at h
    by_cases h2 : (t.kind == Kind.lCurly) = true
    · simp only [h2, if_true] at h
      obtain ⟨hcs, rfl⟩ := pure_dec h
      cases hcs
      exact Or.inr ⟨rfl, rfl, rfl⟩
    · simp only [h2, Bool.false_eq_true, if_false] at h
      by_cases h3 : (t.kind == Kind.name) = true
      · have hk : t.kind = .name := by simpa using h3
        simp only [h3, if_true] at h
        obtain ⟨_, s2, h4, h5⟩ := bind_dec (field n) _ sP sB (cont, set) h
        obtain ⟨hcs, rfl⟩ := pure_dec h5
        cases hcs
        exact Or.inl ⟨rfl, rfl, ihf sP s2 t rest w he ht hk h4 hnd⟩
      · simp only [h3, Bool.false_eq_true, if_false] at h
        obtain ⟨hcs, rfl⟩ := pure_dec h
        cases hcs
        exact Or.inr ⟨rfl, rfl, rfl⟩

theorem flagLoop_sound (n : Nat) (ihf : SelFieldSound n) (ihi : InlineSound n) :
    ∀ (fuel : Nat) (flag : Bool) (s s' : PState) (b : Bool), TW s → EofEnd s →
      (peekWhileFlagLoop (selBody n) fuel flag).run s = .ok b s' → ¬ Doomed s' →
      Cons s s' (fun x => ∃ items : List Ast.Sel, x = items.flatMap Ast.tSel ∧ (∀ f ∈ items, fitSel f (bud s)) ∧ (b = true → flag = true ∨ items ≠ []))
  | 0, _, s, s', b, _, _, h, _ => by simp [peekWhileFlagLoop, PI.outOfFuel] at h
  | fuel + 1, flag, s, s', b, w, he, h, hnd => by
    unfold peekWhileFlagLoop at h
    obtain ⟨ko, sP, hp, h2⟩ := bind_dec peek _ s s' b h
    obtain ⟨o, p, hko⟩ := peek_obs s sP ko w hp
    subst hko
    have heP := p.eofEnd he
    have stop : ∀ (hs : s' = sP) (hb : b = flag), Cons s s' (fun x => ∃ items : List Ast.Sel, x = items.flatMap Ast.tSel ∧ (∀ f ∈ items, fitSel f (bud s)) ∧ (b = true → flag = true ∨ items ≠ [])) := by
      intro hs hb
      rw [hs]
      exact (Cons.nil p.toks heP).weaken (by rintro x rfl; exact ⟨[], rfl, (by intro f hf; cases hf), fun h => Or.inl (hb ▸ h)⟩)
    cases o with
    | none =>
      simp only [Option.map_none] at h2
      rw [run_pure] at h2
      injection h2 with h2 h3
      exact stop h3.symm h2.symm
    | some t =>
      simp only [Option.map_some] at h2
      have h3 := getCurrent_dec _ sP s' b h2
      obtain ⟨cs, sB, hb, h4⟩ := bind_dec (selBody n t.kind) _ sP s' b h3
      obtain ⟨cont, st⟩ := cs
      simp only [] at h4
      have aB := good_selBody n (goodSel n) t.kind sP (cont, st) sB p.w hb
      cases cont with
      | false =>
        simp only [Bool.false_eq_true, if_false] at h4
        replace h4 := pure_dec h4
        obtain ⟨h4, rfl⟩ := h4
        rcases selBody_sound n ihf ihi sP sB t _ false st p.w heP p.head_cons hb hnd with ⟨hc, _, _⟩ | ⟨_, hst, hsB⟩
        · cases hc
        · subst hst
          exact stop hsB (by simpa using h4.symm)
      | true =>
        simp only [if_true] at h4
        have h5 := getCurrent_dec _ sB s' b h4
        by_cases hsame : (sP.current == sB.current) = true
        · simp only [hsame, if_true] at h5
          exact absurd h5 (stuck_not_ok _ _ _)
        · simp only [hsame, Bool.false_eq_true, if_false] at h5
          have hndB : ¬ Doomed sB := fun d => hnd ((good_peekWhileFlagLoop _ (good_selBody n (goodSel n)) fuel _ sB b s' aB.w h5).doom d)
          rcases selBody_sound n ihf ihi sP sB t _ true st p.w heP p.head_cons hb hndB with ⟨_, hst, c1⟩ | ⟨hc, _, _⟩
          · have c1' : Cons s sB _ := c1.transport p.toks.symm rfl c1.eofEnd
            have c2 := flagLoop_sound n ihf ihi fuel (flag || st) sB s' b aB.w c1.eofEnd h5 hnd
            have hbP : bud sP = bud s := bud_peek p
            have hbB : bud sB = bud s := by rw [bud_adv aB, hbP]
            exact (c1'.seq c2).weaken (by
              rintro z ⟨x, y, rfl, ⟨f, rfl, hf⟩, ⟨items, rfl, hall, hb⟩⟩
              refine ⟨f :: items, by simp, ?_, fun _ => Or.inr (by simp)⟩
              intro g hg
              rcases List.mem_cons.mp hg with rfl | hg
              · rw [← hbP]; exact hf
              · rw [← hbB]; exact hall g hg)
          · cases hc

theorem fitSels_ofList (b : Nat) : ∀ items : List Ast.Sel, (∀ f ∈ items, fitSel f b) → fitSels (selsOfList items) b
  | [], _ => by simp [selsOfList, fitSels]
  | f :: r, h => by
    simp only [selsOfList, fitSels]
    exact ⟨h f (by simp), fitSels_ofList b r (fun g hg => h g (by simp [hg]))⟩

theorem sels_sound_step (n : Nat) (ihf : SelFieldSound n) (ihi : InlineSound n) : SelsSound (n + 1) := by
  intro s s' w he h hnd
  rw [selection_succ] at h
  obtain ⟨len, h1⟩ := srcLen_dec _ s s' () h
  obtain ⟨b, s1, h2, h3⟩ := bind_dec _ _ s s' () h1
  have a1 := good_peekWhileFlagLoop _ (good_selBody n (goodSel n)) _ _ s b s1 w h2
  cases b with
  | false =>
    exfalso
    simp only [Bool.not_false, if_true] at h3
    have hnd1 : ¬ Doomed s1 := fun d => hnd ((good_err s1 () s' a1.w h3).doom d)
    have c := flagLoop_sound n ihf ihi _ false s s1 false w he h2 hnd1
    exact hnd ((err_adv s1 s' a1.w h3).2 (eofEnd_nonempty s1 c.eofEnd hnd1))
  | true =>
    simp only [Bool.not_true, Bool.false_eq_true, if_false] at h3
    obtain ⟨-, rfl⟩ := pure_dec h3
    have c := flagLoop_sound n ihf ihi _ false s s1 true w he h2 hnd
    exact c.weaken (by
      rintro x ⟨items, rfl, hall, hb⟩
      refine ⟨selsOfList items, ?_, (tSels_ofList items).symm, fitSels_ofList _ _ hall⟩
      rcases hb rfl with h | h
      · cases h
      · cases items with
        | nil => exact absurd rfl h
        | cons f r => simp [selsOfList])

theorem sel_all_sound : ∀ n, SelSetSound n ∧ SelsSound n ∧ SelFieldSound n ∧ InlineSound n
  | 0 => ⟨by intro s s' t rest _ _ _ _ h; simp [selectionSet, PI.outOfFuel] at h,
          by intro s s' _ _ h; simp [selection, PI.outOfFuel] at h,
          by intro s s' t rest _ _ _ _ h; simp [field, PI.outOfFuel] at h,
          by intro s s' t rest _ _ _ _ h; simp [inlineFragment, PI.outOfFuel] at h⟩
  | n + 1 => by
    obtain ⟨a, b, c, d⟩ := sel_all_sound n
    exact ⟨selSet_sound_step n b, sels_sound_step n c d, field_sound_step n a, inline_sound_step n a⟩

end Exact

def SelSetSound (n : Nat) : Prop :=
  ∀ s s' t rest, TW s → EofEnd s → Toks s = t :: rest → t.kind = .lCurly → (selectionSet n).run s = .ok () s' → ¬ Doomed s' →
    Cons s s' (fun x => ∃ ss, ss ≠ Ast.Sels.nil ∧ x = .p .lCurly :: Ast.tSels ss ++ [.p .rCurly])

def SelsSound (n : Nat) : Prop :=
  ∀ s s', TW s → EofEnd s → (selection n).run s = .ok () s' → ¬ Doomed s' →
    Cons s s' (fun x => ∃ ss, ss ≠ Ast.Sels.nil ∧ x = Ast.tSels ss)

def SelFieldSound (n : Nat) : Prop :=
  ∀ s s' t rest, TW s → EofEnd s → Toks s = t :: rest → t.kind = .name → (field n).run s = .ok () s' → ¬ Doomed s' →
    Cons s s' (fun x => ∃ f, x = Ast.tSel f)

def InlineSound (n : Nat) : Prop :=
  ∀ s s' t rest, TW s → EofEnd s → Toks s = t :: rest → t.kind = .spread → (inlineFragment n).run s = .ok () s' → ¬ Doomed s' →
    Cons s s' (fun x => ∃ f, x = Ast.tSel f)


theorem sel_all_sound : ∀ n, SelSetSound n ∧ SelsSound n ∧ SelFieldSound n ∧ InlineSound n := by
  intro n
  obtain ⟨a, b, c, d⟩ := Exact.sel_all_sound n
  exact ⟨fun s s' t rest w he ht hk h hnd => (a s s' t rest w he ht hk h hnd).weaken (fun _ ⟨ss, hne, e, _⟩ => ⟨ss, hne, e⟩),
    fun s s' w he h hnd => (b s s' w he h hnd).weaken (fun _ ⟨ss, hne, e, _⟩ => ⟨ss, hne, e⟩),
    fun s s' t rest w he ht hk h hnd => (c s s' t rest w he ht hk h hnd).weaken (fun _ ⟨f, e, _⟩ => ⟨f, e⟩),
    fun s s' t rest w he ht hk h hnd => (d s s' t rest w he ht hk h hnd).weaken (fun _ ⟨f, e, _⟩ => ⟨f, e⟩)⟩

end Apollo.Parse
