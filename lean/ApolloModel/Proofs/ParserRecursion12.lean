import ApolloModel.Proofs.ParserRecursion9
/-
C04, recursion limit across runs: the two-run calculus on selection.rs: the guard of `selection_set` sits right after `bump(L_CURLY)`; the guard of
`field_set` (input not starting with `{`) sits before anything was consumed, and that a token is there to report
the limit error at follows from the lexer not having finished, a fact about the start state.
-/
set_option linter.unusedSimpArgs false
set_option linter.unusedVariables false
namespace Apollo.Parse
open Apollo.Rowan hiding Str
open Apollo.Lex hiding Str
open TokenCalc (branch)

theorem post_skipIgnored_keep (k : Kind) (hk : isIgnoredKind k = false) :
    PostC (fun cur => cur.map (·.kind) = some k) skipIgnored (fun _ cur => cur.map (·.kind) = some k) := by
  intro s a s' g hc h
  unfold skipIgnored at h
  obtain ⟨n, s1, h1, h2⟩ := bind_dec srcLen _ s s' () h
  have : s1 = s := by
    unfold srcLen at h1
    simp only [] at h1
    injection h1 with _ h1
    exact h1.symm
  subst this
  cases hcur : s1.current with
  | none => rw [hcur] at hc; cases hc
  | some t =>
    have htk : t.kind = k := by rw [hcur] at hc; simpa using hc
    unfold skipIgnoredLoop at h2
    obtain ⟨o, s2, h3, h4⟩ := bind_dec peekToken _ s1 s' () h2
    unfold peekToken at h3
    simp only [hcur, Res.ok.injEq] at h3
    obtain ⟨rfl, rfl⟩ := h3
    obtain ⟨b, s3, h5, h6⟩ := bind_dec moveCurToPending _ s1 s' () h4
    unfold moveCurToPending at h5
    simp only [hcur, htk, hk, Bool.false_eq_true, if_false] at h5
    injection h5 with hb hs3
    subst hb hs3
    replace h6 : (pure () : PI Unit).run s1 = .ok () s' := h6
    rw [run_pure] at h6
    injection h6 with _ h6
    subst h6
    exact hc

theorem post_skipIgnored_some : PostC someTok skipIgnored (fun _ cur => cur.isSome = true) := by
  intro s a s' g hc h
  unfold skipIgnored at h
  obtain ⟨n, s1, h1, h2⟩ := bind_dec srcLen _ s s' () h
  have : s1 = s := by
    unfold srcLen at h1
    simp only [] at h1
    injection h1 with _ h1
    exact h1.symm
  subst this
  refine skipIgnoredLoop_some _ s1 s' g ?_ h2
  intro hn
  unfold someTok at hc
  rw [hn] at hc
  cases hc

theorem xg_selectionSet_succ (n : Nat) (ih : XG (selection n)) : XG (selectionSet (n + 1)) := by
  rw [selectionSet]
  refine (XB.bind _ _ (XB.of_plain plainTok.peek) (post_peek _) fun k => ?_).xg
  refine XB.branch _ _ _ (fun hk => ?_) fun _ => XB.of_plain (plain_pure _)
  have hk : k = some .lCurly := by simpa using hk
  subst hk
  refine XB.withNode _ _ (post_skipIgnored_keep .lCurly rfl) ?_
  refine XB.bind _ _ (XB.of_plain (plainTok.bump _)) (post_bump _ _ (by decide)) fun _ => ?_
  exact XB.bind _ _ (XB.guard _ _ (xgCalc.bind _ _ ih fun _ => xgCalc.pure _)) (post_trivial _ _) fun ok =>
    XB.of_plain (branch _ _ _ (plainTok.expect _ _) (plain_pure _))

structure XSel (n : Nat) : Prop where
  selSet : XG (selectionSet n)
  sel : XG (selection n)
  field : XG (field n)
  inline : XG (inlineFragment n)

theorem xSel (n : Nat) : XSel n :=
  have h := xgCalc.selections xg_value xg_selectionSet_succ n
  ⟨h.1, h.2.1, h.2.2.1, h.2.2.2⟩

/-! ### `selection::field_set` and the `selectionSet` entry point -/

/-- nothing fetched yet, and the lexer still has (at least the EOF token) to hand out -/
def Fresh (s : PState) : Prop := s.current = none → s.lx.finished = false

theorem peek_fresh (s : PState) (k : Option Kind) (s' : PState) (g : GI s) (hf : Fresh s) (h : peek.run s = .ok k s') :
    s'.current.isSome = true := by
  obtain ⟨o, s1, h1, h2⟩ := bind_dec peekToken _ s s' k h
  rw [run_pure] at h2
  injection h2 with _ h3
  subst h3
  unfold peekToken at h1
  simp only [] at h1
  cases hc : s.current with
  | some t => simp only [hc, Res.ok.injEq] at h1; obtain ⟨_, rfl⟩ := h1; rw [hc]; rfl
  | none =>
    simp only [hc, Res.ok.injEq] at h1
    obtain ⟨_, rfl⟩ := h1
    obtain ⟨t, ht⟩ := nextTokenRaw_some (s.lx.src.length + 3) s g.lim (hf hc) (by omega)
    simp only []
    unfold nextToken
    rw [ht]; rfl

theorem xb_fieldSetBranch (n : Nat) (k : Option Kind) :
    XB someTok (if k == some Kind.lCurly then selectionSet n else withNode "SELECTION_SET" (withRec limitErr (selection n))) :=
  XB.branch _ _ _ (fun _ => (xSel n).selSet.xb) fun _ =>
    XB.withNode _ _ post_skipIgnored_some (XB.guardUnit _ (xSel n).sel)

theorem bg_fieldSet (n : Nat) : BG (fieldSet n) :=
  bgTok.bind _ _ bgTok.peek fun k => (xb_fieldSetBranch n k).b

theorem xs_fieldSet (n : Nat) : XS Fresh (fieldSet n) :=
  xs_bind (c' := fun _ cur => cur.isSome = true) _ _ (fun _ _ h => h) (xs_of_plain plainTok.peek) bgTok.peek
    peek_fresh (fun k => (xb_fieldSetBranch n k).x) fun k => (xb_fieldSetBranch n k).b

/-- the grammar of the `selectionSet` entry point -/
theorem xs_selectionSetEntry (n : Nat) : XS Fresh (fieldSet n >>= fun _ => expectEndOfInput) :=
  xs_bind (c' := fun _ _ => True) _ _ (fun _ _ h => h) (xs_fieldSet n) (bg_fieldSet n)
    (fun _ _ _ _ _ _ => trivial) (fun _ => xc_of_plain plainTok.expectEndOfInput) fun _ => bgTok.expectEndOfInput

end Apollo.Parse
