import ApolloModel.Proofs.ParserExactT5
/-
C05, exact soundness for the type-system family: a small calculus for `Settled` (the current token is the head of the
queue and is not ignored).  `SE m`: every successful run of `m` ends settled or doomed; `SP m`: it does so when it starts
settled.  Every `withNode` starts by skipping ignored tokens and every `bump` ends by doing so, hence the definitions
end settled — the fact `defSound_of_loose` (ParserExactS14) asks for.
-/
set_option linter.unusedSimpArgs false
namespace Apollo.Parse.Exact
open Apollo.Rowan hiding Str
open Apollo.Lex hiding Str

def SE {α : Type} (m : PI α) : Prop := ∀ s a s', TW s → m.run s = .ok a s' → Settled s' ∨ Doomed s'
def SP {α : Type} (m : PI α) : Prop := ∀ s a s', TW s → m.run s = .ok a s' → Settled s → Settled s' ∨ Doomed s'

theorem settled_nil (s : PState) (h : Toks s = []) : Settled s := by
  have hc : s.current = none := by
    unfold Toks at h
    cases hcur : s.current with
    | none => rfl
    | some t => rw [hcur] at h; simp at h
  exact ⟨by rw [hc, h]; rfl, by intro t ht; rw [hc] at ht; cases ht⟩

theorem SE.sp {α : Type} {m : PI α} (h : SE m) : SP m := fun s a s' w hr _ => h s a s' w hr

theorem sp_bind {α β : Type} {m : PI α} {f : α → PI β} (gm : Good m) (gf : ∀ a, Good (f a)) (hm : SP m) (hf : ∀ a, SP (f a)) :
    SP (m >>= f) := by
  intro s b s' w h hs
  obtain ⟨a, s1, h1, h2⟩ := bind_dec m f s s' b h
  have a1 := gm s a s1 w h1
  rcases hm s a s1 w h1 hs with h3 | h3
  · exact hf a s1 b s' a1.w h2 h3
  · exact Or.inr ((gf a s1 b s' a1.w h2).doom h3)

theorem se_bindR {α β : Type} {m : PI α} {f : α → PI β} (gm : Good m) (hf : ∀ a, SE (f a)) : SE (m >>= f) := by
  intro s b s' w h
  obtain ⟨a, s1, h1, h2⟩ := bind_dec m f s s' b h
  exact hf a s1 b s' (gm s a s1 w h1).w h2

theorem se_bindL {α β : Type} {m : PI α} {f : α → PI β} (gm : Good m) (gf : ∀ a, Good (f a)) (hm : SE m) (hf : ∀ a, SP (f a)) :
    SE (m >>= f) := by
  intro s b s' w h
  obtain ⟨a, s1, h1, h2⟩ := bind_dec m f s s' b h
  have a1 := gm s a s1 w h1
  rcases hm s a s1 w h1 with h3 | h3
  · exact hf a s1 b s' a1.w h2 h3
  · exact Or.inr ((gf a s1 b s' a1.w h2).doom h3)

theorem sp_pure {α : Type} (a : α) : SP (pure a : PI α) := by
  intro s a' s' _ h hs
  rw [run_pure] at h
  injection h with _ h; subst h
  exact Or.inl hs

theorem sp_ite {α : Type} (c : Bool) (a b : PI α) (ha : SP a) (hb : SP b) : SP (if c then a else b) := by
  cases c <;> simp [ha, hb]

theorem se_ite {α : Type} (c : Bool) (a b : PI α) (ha : SE a) (hb : SE b) : SE (if c then a else b) := by
  cases c <;> simp [ha, hb]

theorem settled_peekObs {s s' : PState} {o : Option Tok} (p : PeekObs s s' o) (h : Settled s) : Settled s' := by
  refine ⟨by rw [p.current, p.toks]; exact p.head, ?_⟩
  intro t ht
  rw [p.current, p.head] at ht
  exact h.2 t (by rw [h.1]; exact ht)

theorem sp_peekToken : SP peekToken := fun s o s' w h hs => Or.inl (settled_peekObs (peekToken_obs s s' o w h) hs)

theorem sp_peek : SP peek := by
  intro s k s' w h hs
  obtain ⟨o, p, _⟩ := peek_obs s s' k w h
  exact Or.inl (settled_peekObs p hs)

theorem sp_peekData : SP peekData := sp_bind good_peekToken (fun _ => good_pure _) sp_peekToken (fun _ => sp_pure _)

theorem sp_getCurrent : SP getCurrent := by
  intro s a s' w h hs
  unfold getCurrent at h
  simp only [] at h
  injection h with _ h; subst h
  exact Or.inl hs

theorem sp_srcLen : SP srcLen := by
  intro s a s' w h hs
  unfold srcLen at h
  simp only [] at h
  injection h with _ h; subst h
  exact Or.inl hs

theorem sp_stuck {α : Type} : SP (PI.stuck : PI α) := by
  intro s a s' _ h; simp [PI.stuck] at h

theorem sp_outOfFuel {α : Type} : SP (PI.outOfFuel : PI α) := by
  intro s a s' _ h; simp [PI.outOfFuel] at h

theorem se_err : SE err := by
  intro s _ s' w h
  unfold err at h
  obtain ⟨o, s1, h1, h2⟩ := bind_dec peekToken _ s s' () h
  have p := peekToken_obs s s1 o w h1
  cases o with
  | none =>
    simp only [] at h2
    rw [run_pure] at h2
    injection h2 with _ h2
    subst h2
    refine Or.inl (settled_nil _ ?_)
    rw [p.toks]
    have := p.head
    cases ht : Toks s with
    | nil => rfl
    | cons a b => rw [ht] at this; cases this
  | some t =>
    simp only [] at h2
    exact Or.inr (pushErr_adv _ s1 s' p.w h2).2

theorem se_bump (k : SK) : SE (bump k) := by
  intro s _ s' w h
  unfold bump at h
  obtain ⟨_, s1, h1, h2⟩ := bind_dec (eat k) _ s s' () h
  obtain ⟨_, _, _, hset⟩ := skipIgnored_spec s1 s' (good_eat k s () s1 w h1).w h2
  exact Or.inl hset

theorem se_expect (k : Kind) (sk : SK) : SE (expect k sk) := by
  intro s _ s' w h
  rcases (expect_spec k sk s s' w h).2 with ⟨_, e⟩ | hd | ⟨_, _, _, _, _, _, _, hset⟩
  · exact Or.inl (settled_nil _ (by have := e.toks; rw [‹Toks s = []›] at this; simpa using this.symm))
  · exact Or.inr hd
  · exact Or.inl hset

/-- a node starts by skipping ignored tokens, so a settled-preserving body makes it settled-establishing -/
theorem se_withNode {α : Type} (K : SK) (body : PI α) (hb : SP body) : SE (withNode K body) := by
  intro s a s' w h
  obtain ⟨s0, s2, o0, hr, o2⟩ := withNode_dec K body s s' a h
  obtain ⟨_, s1, hs, hbr⟩ := bind_dec skipIgnored _ s0 s2 a hr
  obtain ⟨_, e, _, hset⟩ := skipIgnored_spec s0 s1 (o0.w w) hs
  rcases hb s1 a s2 e.w hbr hset with h3 | h3
  · exact Or.inl (settled_obs o2 h3)
  · exact Or.inr (o2.doomed.mpr h3)

theorem se_name : SE name := by
  unfold name
  refine se_bindR good_peekToken ?_
  intro o
  cases o with
  | none => exact se_err
  | some t => exact se_ite _ _ _ (se_withNode _ _ (se_bump _).sp) se_err

theorem se_nameOrErr : SE nameOrErr := by
  unfold nameOrErr
  exact se_bindR good_peek (fun _ => se_ite _ _ _ se_name se_err)

theorem se_argumentsRest (n : Nat) (c : Bool) : SE (argumentsRest n c) :=
  se_bindR (good_peekWhileKind _ _ (good_argument n c)) (fun _ => se_expect _ _)

theorem se_arguments (n : Nat) (c : Bool) : SE (arguments n c) := by
  rw [arguments_eq]
  refine se_withNode _ _ (SE.sp (se_bindR (good_bump _) (fun _ => se_bindR good_peek (fun k => ?_))))
  exact se_ite _ _ _ (se_bindR (good_argument n c) (fun _ => se_argumentsRest n c)) (se_bindR good_err (fun _ => se_argumentsRest n c))

theorem se_directive (n : Nat) (c : Bool) : SE (directive n c) := by
  rw [directive_eq]
  refine se_withNode _ _ (SE.sp (se_bindR (good_expect _ _) (fun _ => ?_)))
  refine se_bindL good_name (fun _ => good_bind _ _ good_peek (fun k => good_ite _ _ _ (good_arguments n c) (good_pure _))) se_name (fun _ => ?_)
  exact sp_bind good_peek (fun k => good_ite _ _ _ (good_arguments n c) (good_pure _)) sp_peek
    (fun k => sp_ite _ _ _ (se_arguments n c).sp (sp_pure _))

theorem sp_peekWhileKindLoop (k : Kind) (body : PI Unit) (gb : Good body) (hb : SP body) : ∀ fuel, SP (peekWhileKindLoop k body fuel)
  | 0 => sp_outOfFuel
  | fuel + 1 => by
    unfold peekWhileKindLoop
    refine sp_bind good_peek ?_ sp_peek ?_
    · intro o
      cases o with
      | none => exact good_pure _
      | some kind =>
        refine good_ite _ _ _ (good_pure _) ?_
        refine good_bind _ _ good_getCurrent (fun before => good_bind _ _ gb (fun _ => good_bind _ _ good_getCurrent (fun after => ?_)))
        exact good_ite _ _ _ good_stuck (good_peekWhileKindLoop k body gb fuel)
    · intro o
      cases o with
      | none => exact sp_pure _
      | some kind =>
        refine sp_ite _ _ _ (sp_pure _) ?_
        refine sp_bind good_getCurrent (fun before => good_bind _ _ gb (fun _ => good_bind _ _ good_getCurrent (fun after =>
          good_ite _ _ _ good_stuck (good_peekWhileKindLoop k body gb fuel)))) sp_getCurrent (fun before => ?_)
        refine sp_bind gb (fun _ => good_bind _ _ good_getCurrent (fun after =>
          good_ite _ _ _ good_stuck (good_peekWhileKindLoop k body gb fuel))) hb (fun _ => ?_)
        refine sp_bind good_getCurrent (fun after => good_ite _ _ _ good_stuck (good_peekWhileKindLoop k body gb fuel)) sp_getCurrent (fun after => ?_)
        exact sp_ite _ _ _ sp_stuck (sp_peekWhileKindLoop k body gb hb fuel)

theorem sp_peekWhileKind (k : Kind) (body : PI Unit) (gb : Good body) (hb : SP body) : SP (peekWhileKind k body) :=
  sp_bind good_srcLen (fun _ => good_peekWhileKindLoop k body gb _) sp_srcLen (fun _ => sp_peekWhileKindLoop k body gb hb _)

theorem se_directives (n : Nat) (c : Bool) : SE (directives n c) := by
  unfold directives
  exact se_withNode _ _ (sp_peekWhileKind _ _ (good_directive n c) (se_directive n c).sp)

theorem sp_optDirsEnd (n : Nat) : SP (optDirsEnd n) := by
  unfold optDirsEnd
  exact sp_bind good_peek (fun _ => good_ite _ _ _ (good_directives n true) (good_pure _)) sp_peek
    (fun _ => sp_ite _ _ _ (se_directives n true).sp (sp_pure _))

/-- `{ Item+ }` (and `( Item+ )`) end with `expect close` -/
theorem se_bracedBody (openSk : SK) (first : Option Kind → Bool) (p : Kind → Bool) (item : PI Unit) (closeK : Kind) (closeSk : SK)
    (gi : Good item) : SE (bracedBody openSk first p item closeK closeSk) := by
  unfold bracedBody
  have ht : SE (bracedTail p item closeK closeSk) :=
    se_bindR (good_peekWhile _ (good_itemsBody p item gi)) (fun _ => se_expect _ _)
  exact se_bindR (good_bump _) (fun _ => se_bindR good_peek (fun k => se_ite _ _ _ (se_bindR gi (fun _ => ht)) (se_bindR good_err (fun _ => ht))))

theorem se_enumValuesDefinition (n : Nat) : SE (enumValuesDefinition n) := by
  rw [enumValuesDefinition_eq]
  exact se_withNode _ _ (se_bracedBody _ _ _ _ _ _ (acc_enumValueDefinition early_false n).1).sp

theorem se_inputFieldsDefinition (n : Nat) : SE (inputFieldsDefinition n) := by
  rw [inputFieldsDefinition_eq]
  exact se_withNode _ _ (se_bracedBody _ _ _ _ _ _ (acc_ivd n).1).sp

theorem se_fieldsDefinition (n : Nat) : SE (fieldsDefinition n) := by
  rw [fieldsDefinition_eq]
  exact se_withNode _ _ (se_bracedBody _ _ _ _ _ _ (acc_fieldDefinition early_false n).1).sp

theorem sp_dirsBody (n : Nat) (k0 : Kind) (body : PI Unit) (gb : Good body) (hb : SP body) : SP (dirsBody n k0 body) := by
  unfold dirsBody optKind optBodyK
  have g2 : Good (peek >>= fun k => if k == some k0 then body else pure ()) := good_bind _ _ good_peek (fun _ => good_ite _ _ _ gb (good_pure _))
  have h2 : SP (peek >>= fun k => if k == some k0 then body else pure ()) :=
    sp_bind good_peek (fun _ => good_ite _ _ _ gb (good_pure _)) sp_peek (fun _ => sp_ite _ _ _ hb (sp_pure _))
  exact sp_bind good_peek (fun _ => good_ite _ _ _ (good_bind _ _ (good_directives n true) (fun _ => g2)) g2) sp_peek
    (fun _ => sp_ite _ _ _ (sp_bind (good_directives n true) (fun _ => g2) (se_directives n true).sp (fun _ => h2)) h2)

theorem se_defShape (word : String) (sk : SK) (n : Nat) (tail : PI Unit) (gt : Good tail) (ht : SP tail) : SE (defShape word sk n tail) := by
  unfold defShape optKind optKw
  have gX : Good (nameOrErr >>= fun _ => tail) := good_bind _ _ (acc_nameOrErr (E := fun _ => False) (H := fun _ => True)).1 (fun _ => gt)
  have hX : SE (nameOrErr >>= fun _ => tail) := se_bindL (acc_nameOrErr (E := fun _ => False) (H := fun _ => True)).1 (fun _ => gt) se_nameOrErr (fun _ => ht)
  have hK : SE (peekData >>= fun d => if kwOpt word d then (bump sk >>= fun _ => (nameOrErr >>= fun _ => tail)) else (nameOrErr >>= fun _ => tail)) :=
    se_bindR good_peekData (fun _ => se_ite _ _ _ (se_bindR (good_bump _) (fun _ => hX)) hX)
  exact se_bindR good_peek (fun _ => se_ite _ _ _ (se_bindR (acc_description (E := fun _ => False) early_false).1 (fun _ => hK)) hK)

end Apollo.Parse.Exact
