import ApolloModel.Proofs.ParserWhole
/-
C07 / C05, type entry point: the parser's token queue.

`stream l` is everything the lexer will still hand out (tokens and error items, lazily in the code, eagerly
here); `Toks s` is the parser's token queue (the current token followed by the tokens of the stream);
`Doomed s` says that an error has been recorded or that a lexer error is still waiting in the stream.
`peek_token` / `next_token` do not change either.
-/
set_option linter.unusedSimpArgs false
namespace Apollo.Parse
open Apollo.Rowan hiding Str
open Apollo.Lex hiding Str

def pull : Nat → LexSt → List LexOut
  | 0, _ => []
  | f + 1, l =>
    match lexNext l with
    | (none, _) => []
    | (some o, l') => o :: pull f l'

def stream (l : LexSt) : List LexOut := pull (l.src.length + 2) l

def outTok : LexOut → Option Tok
  | .tok t => some t
  | _ => none

def toksOf (xs : List LexOut) : List Tok := xs.filterMap outTok

def outBad : LexOut → Bool
  | .tok _ => false
  | _ => true

def hasErr (xs : List LexOut) : Bool := xs.any outBad

def Toks (s : PState) : List Tok := s.current.toList ++ toksOf (stream s.lx)

def Doomed (s : PState) : Prop := s.errors ≠ [] ∨ hasErr (stream s.lx) = true

/-! ### one step of the lexer without a token limit -/

theorem lexNext_cases (l : LexSt) (hl : l.limit = none) :
    (l.finished = true ∧ lexNext l = (none, l))
    ∨ (l.finished = false ∧ l.src = [] ∧ ∃ l', lexNext l = (some (.tok ⟨.eof, [], l.total⟩), l') ∧ l'.finished = true
        ∧ l'.limit = none ∧ l'.src = [])
    ∨ (l.finished = false ∧ ∃ o l', lexNext l = (some o, l') ∧ l'.src.length < l.src.length ∧ l'.finished = false
        ∧ l'.limit = none ∧ (∀ t, o = .tok t → t.kind ≠ .eof)) := by
  by_cases hf : l.finished = true
  · exact Or.inl ⟨hf, lexNext_finished l hf⟩
  · have hf' : l.finished = false := by simpa using hf
    have hc : (lexCheck l).1 = false := lexCheck_no_limit l hl
    cases hs : l.src with
    | nil =>
      refine Or.inr (Or.inl ⟨hf', rfl, ?_⟩)
      unfold lexNext
      simp only [hf', Bool.false_eq_true, if_false, hc, hs]
      exact ⟨_, rfl, rfl, hl, rfl⟩
    | cons c rest =>
      refine Or.inr (Or.inr ⟨hf', ?_⟩)
      have hp := Lex.advance_progress c rest
      unfold lexNext
      simp only [hf', Bool.false_eq_true, if_false, hc, hs]
      cases hr : (advance (c :: rest)).1 with
      | tok k d =>
        refine ⟨_, _, rfl, by simpa using hp.2, rfl, hl, ?_⟩
        intro t ht
        injection ht with ht
        subst ht
        exact Lex.advance_kind_ne_eof c rest k d hr
      | err d => exact ⟨_, _, rfl, by simpa using hp.2, rfl, hl, by intro t ht; cases ht⟩
      | limit => exact absurd hr (advance_ne_limit _)

theorem pull_succ (f : Nat) (l : LexSt) :
    pull (f + 1) l = match lexNext l with
      | (none, _) => []
      | (some o, l') => o :: pull f l' := rfl

theorem pull_finished (f : Nat) (l : LexSt) (h : l.finished = true) : pull f l = [] := by
  cases f with
  | zero => rfl
  | succ f => simp [pull, lexNext_finished l h]

theorem pull_stable : ∀ (f : Nat) (l : LexSt), l.limit = none → l.src.length + 2 ≤ f → pull (f + 1) l = pull f l := by
  intro f
  induction f with
  | zero => intro l _ h; omega
  | succ f ih =>
    intro l hl hf
    rcases lexNext_cases l hl with ⟨_, h⟩ | ⟨_, _, l', h, hfin, _, _⟩ | ⟨_, o, l', h, hlen, _, hl', _⟩
    · rw [pull_succ, pull_succ, h]
    · rw [pull_succ, pull_succ f, h]
      simp only []
      rw [pull_finished _ l' hfin, pull_finished _ l' hfin]
    · rw [pull_succ, pull_succ f, h]
      simp only []
      rw [ih l' hl' (by omega)]

theorem pull_stable' (l : LexSt) (hl : l.limit = none) : ∀ (k : Nat), pull (l.src.length + 2 + k) l = pull (l.src.length + 2) l := by
  intro k
  induction k with
  | zero => rfl
  | succ k ih => rw [← ih, ← Nat.add_assoc]; exact pull_stable _ l hl (by omega)

theorem stream_unfold (l : LexSt) (hl : l.limit = none) :
    stream l = match lexNext l with
      | (none, _) => []
      | (some o, l') => o :: stream l' := by
  unfold stream
  rcases lexNext_cases l hl with ⟨_, h⟩ | ⟨_, _, l', h, hfin, _, _⟩ | ⟨_, o, l', h, hlen, _, hl', _⟩
  · rw [show l.src.length + 2 = (l.src.length + 1) + 1 from rfl, pull_succ, h]
  · rw [show l.src.length + 2 = (l.src.length + 1) + 1 from rfl, pull_succ, h]
    simp only []
    rw [pull_finished _ l' hfin, pull_finished _ l' hfin]
  · rw [show l.src.length + 2 = (l.src.length + 1) + 1 from rfl, pull_succ, h]
    simp only []
    obtain ⟨k, hk⟩ : ∃ k, l.src.length + 1 = l'.src.length + 2 + k := ⟨l.src.length + 1 - (l'.src.length + 2), by omega⟩
    rw [hk, pull_stable' l' hl' k]

/-! ### `next_token` / `peek_token` as seen through the queue -/

structure NextObs (s : PState) (r : Option Tok × PState) : Prop where
  toks : r.1.toList ++ toksOf (stream r.2.lx) = toksOf (stream s.lx)
  doom : (r.2.errors ≠ [] ∨ hasErr (stream r.2.lx) = true) ↔ (s.errors ≠ [] ∨ hasErr (stream s.lx) = true)
  limit : r.2.lx.limit = none
  accept : r.2.acceptErrors = s.acceptErrors
  accOk : (s.acceptErrors = false → s.errors ≠ []) → (r.2.acceptErrors = false → r.2.errors ≠ [])

theorem nextTokenRaw_obs : ∀ (fuel : Nat) (s : PState), s.lx.limit = none → NextObs s (nextTokenRaw fuel s)
  | 0, s, hl => ⟨by simp [nextTokenRaw], Iff.rfl, hl, rfl, fun h => h⟩
  | fuel + 1, s, hl => by
    have hu := stream_unfold s.lx hl
    unfold nextTokenRaw
    rcases lexNext_cases s.lx hl with ⟨_, h⟩ | ⟨_, _, l', h, _, hl', _⟩ | ⟨_, o, l', h, _, _, hl', _⟩
    · rw [h] at hu
      simp only [h]
      exact ⟨by simp, Iff.rfl, hl, rfl, fun h => h⟩
    · rw [h] at hu
      simp only [h]
      simp only [] at hu
      exact ⟨by simp [hu, toksOf, outTok], by simp [hu, hasErr, outBad], hl', rfl, fun h => h⟩
    · rw [h] at hu
      simp only [h]
      simp only [] at hu
      cases o with
      | tok t => exact ⟨by simp [hu, toksOf, outTok], by simp [hu, hasErr, outBad], hl', rfl, fun h => h⟩
      | err d i =>
        simp only []
        have ih := nextTokenRaw_obs fuel { s with
          lx := l', pending := if d.isEmpty then s.pending else s.pending ++ [.error d],
          errors := s.errors ++ [⟨i, utf8Len d, .lexer⟩] } hl'
        refine ⟨?_, ?_, ih.limit, ih.accept, fun _ => ih.accOk (fun _ => by simp)⟩
        · rw [ih.toks]; simp [hu, toksOf, outTok, List.filterMap_cons]
        · rw [ih.doom]; simp [hu, hasErr, outBad]
      | limit i =>
        simp only []
        exfalso
        -- without a limit the lexer never reports one
        have : (lexNext s.lx).1 = some (.limit i) := by rw [h]
        unfold lexNext at this
        by_cases hf : s.lx.finished = true
        · simp [hf] at this
        · simp only [hf, Bool.false_eq_true, if_false, lexCheck_no_limit s.lx hl] at this
          cases hs : s.lx.src with
          | nil => simp [hs] at this
          | cons c rest =>
            simp only [hs] at this
            cases hr : (advance (c :: rest)).1 <;> simp [hr] at this

/-- what the rest of the development knows about a parser state: no token limit, and the error list is
    non-empty once the parser stopped accepting errors -/
structure TW (s : PState) : Prop where
  limit : s.lx.limit = none
  acc : s.acceptErrors = false → s.errors ≠ []

/-- the fields that the token-level behaviour of the parser depends on (everything but the tree) -/
structure ObsEq (s s' : PState) : Prop where
  current : s'.current = s.current
  lx : s'.lx = s.lx
  errors : s'.errors = s.errors
  accept : s'.acceptErrors = s.acceptErrors
  recCur : s'.recCur = s.recCur
  recLimit : s'.recLimit = s.recLimit

theorem ObsEq.refl (s : PState) : ObsEq s s := ⟨rfl, rfl, rfl, rfl, rfl, rfl⟩

theorem ObsEq.toks {s s' : PState} (h : ObsEq s s') : Toks s' = Toks s := by
  unfold Toks; rw [h.current, h.lx]

theorem ObsEq.doomed {s s' : PState} (h : ObsEq s s') : Doomed s' ↔ Doomed s := by
  unfold Doomed; rw [h.errors, h.lx]

theorem ObsEq.w {s s' : PState} (h : ObsEq s s') (w : TW s) : TW s' :=
  ⟨by rw [h.lx]; exact w.limit, by rw [h.accept, h.errors]; exact w.acc⟩

structure PeekObs (s s' : PState) (o : Option Tok) : Prop where
  toks : Toks s' = Toks s
  doom : Doomed s' ↔ Doomed s
  w : TW s'
  current : s'.current = o
  head : o = (Toks s).head?
  accept : s'.acceptErrors = s.acceptErrors
  recCur : s'.recCur = s.recCur
  recLimit : s'.recLimit = s.recLimit

theorem PeekObs.nil {s s' : PState} (p : PeekObs s s' none) : Toks s = [] := by
  have := p.head
  cases ht : Toks s with
  | nil => rfl
  | cons a b => rw [ht] at this; cases this

theorem PeekObs.cons {s s' : PState} {t : Tok} (p : PeekObs s s' (some t)) : Toks s = t :: (Toks s).tail := by
  have := p.head
  cases ht : Toks s with
  | nil => rw [ht] at this; cases this
  | cons a b => rw [ht] at this; injection this with this; rw [this]; rfl

theorem peekToken_obs (s s' : PState) (o : Option Tok) (w : TW s) (h : peekToken.run s = .ok o s') : PeekObs s s' o := by
  unfold peekToken at h
  simp only [] at h
  cases hc : s.current with
  | some t =>
    simp only [hc, Res.ok.injEq] at h
    obtain ⟨rfl, rfl⟩ := h
    exact ⟨rfl, Iff.rfl, w, hc, by simp [Toks, hc], rfl, rfl, rfl⟩
  | none =>
    simp only [hc, Res.ok.injEq] at h
    obtain ⟨rfl, rfl⟩ := h
    have ob := nextTokenRaw_obs (s.lx.src.length + 3) s w.limit
    have sp := nextToken_spec s
    have hnone : (nextToken s).1 = none → toksOf (stream (nextToken s).2.lx) = [] := by
      intro hn
      have hfin : (nextToken s).2.lx.finished = true := nextTokenRaw_none_finished _ s (by omega) hn
      show toksOf (pull _ _) = []
      rw [pull_finished _ _ hfin]
      rfl
    refine ⟨?_, ?_, ⟨ob.limit, ob.accOk w.acc⟩, rfl, ?_, ob.accept, sp.recCur, sp.recLimit⟩
    · simp only [Toks, hc, Option.toList]
      exact ob.toks
    · exact ob.doom
    · simp only [Toks, hc, Option.toList, List.nil_append]
      have e := ob.toks
      change (nextToken s).1.toList ++ toksOf (stream (nextToken s).2.lx) = _ at e
      rw [← e]
      cases hn : (nextToken s).1 with
      | none => rw [hnone hn]; rfl
      | some t => rfl

end Apollo.Parse
