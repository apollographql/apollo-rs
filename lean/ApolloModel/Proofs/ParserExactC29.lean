import ApolloModel.Proofs.ParserExactC28
/-
Completeness for the exact follow condition `DocFollowX`: a type-system definition or extension whose braces body IS written
may be followed by ANY token (in particular by the `{` of a shorthand query).  The rules for a written body
(`cmp_optU_present`, `cmp_dirsBodyP`, `cmp_extBodyKP`, `cmp_extDirsP`, `cmp_nameDirsBodyExtP`: the follow set is the
body's) and the body-present forms of the enum, input object, object, interface and schema definitions and extensions.
-/
set_option linter.unusedSimpArgs false
namespace Apollo.Parse.Exact
open Apollo.Rowan hiding Str
open Apollo.Lex hiding Str

/-- `if peek == k0 { m }` on sentences of `m` (which start with `k0`): the branch is taken, nothing is asked of the follow
    token beyond what `m` asks -/
theorem cmp_optU_present {Hk : Kind → Prop} (k0 : Kind) (m : PI Unit) {Lm : Nat → List Ast.Tok → Prop} {Fm : Kind → Prop}
    (hm : Cmp (fun _ => True) m Lm Fm (fun _ => True))
    (hmhead : ∀ b x, Lm b x → ∃ a x', x = a :: x' ∧ kindOfA a = k0) :
    Cmp Hk (optU k0 m) Lm Fm (fun _ => True) :=
  cmp_peekGuard (· == some k0) hm fun b x h => by
    obtain ⟨a, x', rfl, hk⟩ := hmhead b x h
    exact ⟨a, x', rfl, by simp [hk]⟩

/-- `Directives? Body` with the body PRESENT: the follow set is the body's -/
theorem cmp_dirsBodyP {Hk : Kind → Prop} (n : Nat) (k0 : Kind) (body : PI Unit) {Lb : Nat → List Ast.Tok → Prop} {Fb : Kind → Prop}
    (hb : Cmp (fun _ => True) body Lb Fb (fun _ => True))
    (hbhead : ∀ b x, Lb b x → ∃ a x', x = a :: x' ∧ kindOfA a = k0) (hk1 : k0 ≠ .at) (hk2 : k0 ≠ .lParen) :
    Cmp Hk (dirsBody n k0 body)
      (fun b x => ∃ ds x2, x = Ast.tDirectives ds ++ x2 ∧ dirsFit true b ds ∧ Lb b x2) Fb (fun _ => True) :=
  cmp_dirsThen n _ (cmp_optU_present (Hk := fun _ => True) k0 body hb hbhead)
    (fun b a x h => by rw [kind_of_head hbhead h]; exact ⟨hk1, hk2⟩) (fun b _ h _ => absurd h (not_nil_of_head hbhead b))

/-! ### enum and input object type definitions with their body written -/

def LEnumP (b : Nat) (x : List Ast.Tok) : Prop :=
  ∃ desc nm ds vs, vs ≠ [] ∧ x = enumToks desc true nm ds vs ∧ dirsFit true b ds ∧ ∀ v ∈ vs, enumValFit b v

/-- **enum type definition with its values written: anything may follow** -/
theorem cmpT_enumTypeDefinitionP (n : Nat) :
    CmpT (fun _ => True) (enumTypeDefinition n) LEnumP (fun _ => True) (fun _ => True) := by
  rw [enumTypeDefinition_eq']
  refine cmpT_withNode _ ?_
  have hb := cmp_dirsBodyP (Hk := fun _ => True) n .lCurly (enumValuesDefinition n) (cmp_enumValuesDefinition n)
    (fun b x h => lenumVals_head h) (by decide) (by decide)
  refine (cmpT_defShape (Hk := fun _ => True) "enum" "enum_KW" n _ hb.toT).mono (fun _ h => h) ?_ (fun _ _ => trivial) (fun _ h => h)
  rintro b x ⟨desc, nm, ds, vs, hvs, rfl, hd, hv⟩
  exact ⟨desc, nm, Ast.tDirectives ds ++ Ast.tBraced (Ast.tEnumValueDefItems vs) vs.isEmpty,
    by simp [enumToks, kwPart, Ast.tEnumBody], ds, Ast.tBraced (Ast.tEnumValueDefItems vs) vs.isEmpty, rfl, hd, vs, hvs, rfl, hv⟩

def LInputP (b : Nat) (x : List Ast.Tok) : Prop :=
  ∃ desc nm ds fs, fs ≠ [] ∧ x = inputToks desc true nm ds fs ∧ dirsFit true b ds ∧ ∀ v ∈ fs, ivdFit b v

theorem cmpT_inputObjectTypeDefinitionP (n : Nat) :
    CmpT (fun _ => True) (inputObjectTypeDefinition n) LInputP (fun _ => True) (fun _ => True) := by
  rw [inputObjectTypeDefinition_eq']
  refine cmpT_withNode _ ?_
  have hb := cmp_dirsBodyP (Hk := fun _ => True) n .lCurly (inputFieldsDefinition n) (cmp_inputFieldsDefinition n)
    (fun b x h => linputFields_head h) (by decide) (by decide)
  refine (cmpT_defShape (Hk := fun _ => True) "input" "input_KW" n _ hb.toT).mono (fun _ h => h) ?_ (fun _ _ => trivial) (fun _ h => h)
  rintro b x ⟨desc, nm, ds, vs, hvs, rfl, hd, hv⟩
  exact ⟨desc, nm, Ast.tDirectives ds ++ Ast.tBraced (Ast.tIVDItems vs) vs.isEmpty,
    by simp [inputToks, kwPart, Ast.tInputBody], ds, Ast.tBraced (Ast.tIVDItems vs) vs.isEmpty, rfl, hd, vs, hvs, rfl, hv⟩

/-! ### object and interface type definitions with their fields written -/

def LFieldsTailP (b : Nat) (x : List Ast.Tok) : Prop :=
  ∃ ds x2, x = Ast.tDirectives ds ++ x2 ∧ dirsFit true b ds ∧ LFields b x2

theorem cmp_fieldsTailP (n : Nat) :
    Cmp (fun _ => True) (dirsBody n .lCurly (fieldsDefinition n)) LFieldsTailP (fun _ => True) (fun _ => True) :=
  cmp_dirsBodyP (Hk := fun _ => True) n .lCurly (fieldsDefinition n) (cmp_fieldsDefinition n) (fun b x h => lfields_head h) (by decide) (by decide)

theorem lfieldsTailP_head {b : Nat} {a : Ast.Tok} {x : List Ast.Tok} (h : LFieldsTailP b (a :: x)) : kindOfA a ≠ .name ∧ kindOfA a ≠ .amp := by
  obtain ⟨ds, x2, e, hd, h2⟩ := h
  exact lfieldsTail_head (b := b) ⟨ds, x2, e, hd, Or.inl h2⟩

/-- what may follow an object / interface type whose fields are written: anything but `&` and the Name `implements`
    (both can never start a definition) -/
def FObjP (t : Tok) : Prop := t.kind ≠ .amp ∧ NotImplTok t

def LObjectP (word : String) (b : Nat) (x : List Ast.Tok) : Prop :=
  ∃ desc nm impl ds fs, fs ≠ [] ∧ x = Ast.tDescription desc ++ kwPart word true ++ objectLikeToks nm impl ds fs ∧ objFit b ds fs

theorem objectLike_tailP (b : Nat) (nm : Ast.Str) (impl : Option (Bool × Ast.Str × List Ast.Str)) (ds : List Ast.Directive)
    (fs : List Ast.FieldDef) (hne : fs ≠ []) (h : objFit b ds fs) :
    ∃ x2, objectLikeToks nm impl ds fs = .name nm :: x2 ∧ LImplThen LFieldsTailP b x2 :=
  ⟨tSepOpt [.name Ast.sImplements] .amp impl ++ (Ast.tDirectives ds ++ Ast.tBraced (Ast.tFieldDefItems fs) fs.isEmpty),
    by simp [objectLikeToks, List.append_assoc], impl, _, rfl, ds, _, rfl, h.1, fs, hne, rfl, h.2⟩

/-- **object type definition with its fields written: `{` may follow** -/
theorem cmpT_objectTypeDefinitionP (n : Nat) :
    CmpT (fun _ => True) (objectTypeDefinition n) (LObjectP "type") FObjP (fun _ => True) := by
  rw [objectTypeDefinition_eq]
  refine cmpT_withNode _ ?_
  have ht := cmpT_optImplTok (Hk := fun _ => True) _ (cmp_fieldsTailP n) (fun b a x h => lfieldsTailP_head h)
  refine (cmpT_defShape (Hk := fun _ => True) "type" "type_KW" n _ ht).mono (fun _ h => h) ?_ (fun t h => ⟨trivial, h.1, h.2⟩) (fun _ h => h)
  rintro b x ⟨desc, nm, impl, ds, fs, hne, rfl, hfit⟩
  obtain ⟨x2, e, h2⟩ := objectLike_tailP b nm impl ds fs hne hfit
  exact ⟨desc, nm, x2, by rw [e]; simp [kwPart], h2⟩

theorem cmpT_interfaceTypeDefinitionP (n : Nat) :
    CmpT (fun _ => True) (interfaceTypeDefinition n) (LObjectP "interface") FObjP (fun _ => True) := by
  rw [interfaceTypeDefinition_eq]
  refine cmpT_withNode _ ?_
  have ht := cmpT_optDataImpl (Hk := fun _ => True) _ _ (cmp_fieldsTailP n) (cmp_fieldsTailP n) (fun b a x h => lfieldsTailP_head h)
  refine (cmpT_defShape (Hk := fun _ => True) "interface" "interface_KW" n _ ht).mono (fun _ h => h) ?_ (fun t h => ⟨trivial, h.1, h.2⟩) (fun _ h => h)
  rintro b x ⟨desc, nm, impl, ds, fs, hne, rfl, hfit⟩
  obtain ⟨x2, e, h2⟩ := objectLike_tailP b nm impl ds fs hne hfit
  exact ⟨desc, nm, x2, by rw [e]; simp [kwPart], h2⟩

/-! ### extensions with their body written -/

/-- `if peek == k0 { m; restT } else { restF }` when neither continuation accepts the empty sentence: nothing is asked of the
    follow token beyond what the continuations ask -/
theorem cmp_optKind2_ne {α : Type} {Hk : Kind → Prop} (k0 : Kind) (m : PI Unit) (restT restF : PI α)
    {Lm LT LF : Nat → List Ast.Tok → Prop} {Fm F : Kind → Prop} {Q : α → Prop}
    (hm : Cmp (fun _ => True) m Lm Fm (fun _ => True)) (hT : Cmp (fun _ => True) restT LT F Q)
    (hF : Cmp (fun _ => True) restF LF F Q)
    (hmhead : ∀ b x, Lm b x → ∃ a x', x = a :: x' ∧ kindOfA a = k0)
    (hThead : ∀ b a x, LT b (a :: x) → Fm (kindOfA a)) (hTne : ∀ b, ¬ LT b [])
    (hFhead : ∀ b a x, LF b (a :: x) → kindOfA a ≠ k0) (hFne : ∀ b, ¬ LF b []) :
    Cmp Hk (optKind2 k0 m restT restF)
      (fun b x => (∃ x1 x2, x = x1 ++ x2 ∧ Lm b x1 ∧ LT b x2) ∨ LF b x) F Q :=
  cmp_ifKindThen k0 m restT restF hm hT hF hmhead hThead (fun b _ h _ => absurd h (hTne b)) hFhead (fun b _ h _ => absurd h (hFne b))

theorem cmp_extBodyKP {Hk : Kind → Prop} (k0 : Kind) (body : PI Unit) (meets : Bool) {Lb : Nat → List Ast.Tok → Prop} {Fb : Kind → Prop}
    (hb : Cmp (fun _ => True) body Lb Fb (fun _ => True)) (hbhead : ∀ b x, Lb b x → ∃ a x', x = a :: x' ∧ kindOfA a = k0) :
    Cmp Hk (extBodyK k0 body meets) Lb Fb (fun _ => True) := by
  have hseq := cmp_bind (Hk := fun _ => True) (F := Fb) hb (fun _ _ => cmp_extEnd (Hk := fun _ => True) (F := Fb) true)
    (by rintro b a x ⟨h, _⟩; cases h) (fun _ h => h) (fun _ h => h)
  refine cmp_peekGuard (· == some k0) (hseq.mono (fun _ h => h) (fun b x h => ⟨x, [], by simp, h, rfl, rfl⟩) (fun _ h => h) (fun _ h => h)) ?_
  intro b x h
  obtain ⟨a, x', rfl, hk⟩ := hbhead b x h
  exact ⟨a, x', rfl, by simp [hk]⟩

/-- `Directives?` of an extension in front of a continuation that never accepts the empty sentence -/
theorem cmp_extDirsP {Hk : Kind → Prop} (n : Nat) (next : Bool → PI Unit) (meets : Bool) {Ln : Nat → List Ast.Tok → Prop} {F : Kind → Prop}
    (hn : ∀ m, Cmp (fun _ => True) (next m) Ln F (fun _ => True))
    (hnhead : ∀ b a x, Ln b (a :: x) → kindOfA a ≠ .at ∧ kindOfA a ≠ .lParen) (hnne : ∀ b, ¬ Ln b []) :
    Cmp Hk (extDirs n next meets)
      (fun b x => ∃ ds x2, x = Ast.tDirectives ds ++ x2 ∧ dirsFit true b ds ∧ Ln b x2) F (fun _ => True) :=
  cmp_extDirsG n next meets (Ln := fun _ => Ln) hn (fun _ => hnhead) (fun _ b _ h _ => absurd h (hnne b))

theorem cmp_nameDirsBodyExtP (n : Nat) (k0 : Kind) (body : PI Unit) {Lb : Nat → List Ast.Tok → Prop} {Fb : Kind → Prop}
    (hb : Cmp (fun _ => True) body Lb Fb (fun _ => True)) (hbhead : ∀ b x, Lb b x → ∃ a x', x = a :: x' ∧ kindOfA a = k0)
    (hk1 : k0 ≠ .at) (hk2 : k0 ≠ .lParen) :
    Cmp (fun _ => True) (nameDirsBodyExt n k0 body)
      (fun b x => ∃ nm ds x2, x = .name nm :: (Ast.tDirectives ds ++ x2) ∧ dirsFit true b ds ∧ Lb b x2) Fb (fun _ => True) :=
  cmp_nameDirsBodyExtG n k0 body (Lo := fun _ => Lb) (fun m => cmp_extBodyKP (Hk := fun _ => True) k0 body m hb hbhead)
    (fun _ b a x h => by rw [kind_of_head hbhead h]; exact ⟨hk1, hk2⟩) (fun _ b _ h _ => absurd h (not_nil_of_head hbhead b))

def LEnumExtP (b : Nat) (x : List Ast.Tok) : Prop :=
  ∃ nm ds vs, vs ≠ [] ∧ x = kwE "enum" ++ Ast.tEnumBody nm ds vs ∧ dirsFit true b ds ∧ ∀ v ∈ vs, enumValFit b v

theorem cmpT_enumTypeExtensionP (n : Nat) :
    CmpT (fun _ => True) (enumTypeExtension n) LEnumExtP (fun _ => True) (fun _ => True) := by
  rw [enumTypeExtension_eq]
  refine cmpT_withNode _ ?_
  have hb := cmp_nameDirsBodyExtP n .lCurly (enumValuesDefinition n) (cmp_enumValuesDefinition n)
    (fun b x h => lenumVals_head h) (by decide) (by decide)
  refine (cmpT_ext (Hk := fun _ => True) "enum" _ _ _ hb.toT).mono (fun _ h => h) ?_ (fun _ _ => trivial) (fun _ h => h)
  rintro b x ⟨nm, ds, vs, hvs, rfl, hd, hv⟩
  exact ⟨.name nm :: (Ast.tDirectives ds ++ Ast.tBraced (Ast.tEnumValueDefItems vs) vs.isEmpty), by simp [Ast.tEnumBody], nm, ds, _, rfl, hd,
    vs, hvs, rfl, hv⟩

def LInputExtP (b : Nat) (x : List Ast.Tok) : Prop :=
  ∃ nm ds fs, fs ≠ [] ∧ x = kwE "input" ++ Ast.tInputBody nm ds fs ∧ dirsFit true b ds ∧ ∀ v ∈ fs, ivdFit b v

theorem cmpT_inputObjectTypeExtensionP (n : Nat) :
    CmpT (fun _ => True) (inputObjectTypeExtension n) LInputExtP (fun _ => True) (fun _ => True) := by
  rw [inputObjectTypeExtension_eq]
  refine cmpT_withNode _ ?_
  have hb := cmp_nameDirsBodyExtP n .lCurly (inputFieldsDefinition n) (cmp_inputFieldsDefinition n)
    (fun b x h => linputFields_head h) (by decide) (by decide)
  refine (cmpT_ext (Hk := fun _ => True) "input" _ _ _ hb.toT).mono (fun _ h => h) ?_ (fun _ _ => trivial) (fun _ h => h)
  rintro b x ⟨nm, ds, vs, hvs, rfl, hd, hv⟩
  exact ⟨.name nm :: (Ast.tDirectives ds ++ Ast.tBraced (Ast.tIVDItems vs) vs.isEmpty), by simp [Ast.tInputBody], nm, ds, _, rfl, hd,
    vs, hvs, rfl, hv⟩

/-! ### object, interface and schema extensions with their braces written -/

theorem lfieldsTailP_ne (b : Nat) : ¬ LFieldsTailP b [] := by
  rintro ⟨ds, x2, e, _, h2⟩
  obtain ⟨a', x', e', _⟩ := lfields_head h2
  subst e'
  cases ds <;> simp [Ast.tDirectives] at e

theorem lfieldsTailP_head2 {b : Nat} {a : Ast.Tok} {x : List Ast.Tok} (h : LFieldsTailP b (a :: x)) : kindOfA a ≠ .at ∨ True := Or.inr trivial

theorem cmp_extFieldsP (n : Nat) (m : Bool) :
    Cmp (fun _ => True) (extDirs n (extBodyK .lCurly (fieldsDefinition n)) m) LFieldsTailP (fun _ => True) (fun _ => True) :=
  cmp_extDirsP (Hk := fun _ => True) n _ m (Ln := LFields)
    (fun m' => cmp_extBodyKP (Hk := fun _ => True) .lCurly (fieldsDefinition n) m' (cmp_fieldsDefinition n) (fun b x h => lfields_head h))
    (fun b a x h => by rw [kind_of_head (L := LFields) (fun _ _ h => lfields_head h) h]; exact ⟨by decide, by decide⟩)
    (not_nil_of_head (L := LFields) fun _ _ h => lfields_head h)

def LObjectExtP (word : String) (b : Nat) (x : List Ast.Tok) : Prop :=
  ∃ nm impl ds fs, fs ≠ [] ∧ x = kwE word ++ objectLikeToks nm impl ds fs ∧ objFit b ds fs

theorem cmpT_objExtTailP (n : Nat) :
    CmpT (fun _ => True) (objExtTail n)
      (fun b x => ∃ nm impl ds fs, fs ≠ [] ∧ x = objectLikeToks nm impl ds fs ∧ objFit b ds fs) FObjP (fun _ => True) := by
  unfold objExtTail
  have hi := cmpT_optDataImpl2 (Hk := fun _ => True) _ _ (cmp_extFieldsP n true) (cmp_extFieldsP n false)
    (fun b a x h => (lfieldsTailP_head h).2) (fun b a x h => (lfieldsTailP_head h).1)
  have := cmpT_bindK (Hk := fun _ => True) cmp_nameOrErr (fun _ _ => hi)
  refine this.mono (fun _ h => h) ?_ (fun t h => ⟨trivial, h.1, h.2⟩) (fun _ h => h)
  rintro b x ⟨nm, impl, ds, fs, hne, rfl, hd, hf⟩
  have hbody : LFieldsTailP b (Ast.tDirectives ds ++ Ast.tBraced (Ast.tFieldDefItems fs) fs.isEmpty) :=
    ⟨ds, _, rfl, hd, fs, hne, rfl, hf⟩
  refine ⟨[.name nm], tSepOpt [.name Ast.sImplements] .amp impl ++ (Ast.tDirectives ds ++ Ast.tBraced (Ast.tFieldDefItems fs) fs.isEmpty),
    by simp [objectLikeToks, List.append_assoc], ⟨nm, rfl⟩, ?_⟩
  cases impl with
  | some v =>
    obtain ⟨lead, first, rest⟩ := v
    exact Or.inl ⟨.name Ast.sImplements :: tSepLead .amp lead first rest, _, by simp [tSepOpt], ⟨lead, first, rest, rfl⟩, hbody⟩
  | none =>
    refine Or.inr ?_
    simp only [tSepOpt, List.nil_append]
    exact hbody

theorem cmpT_objectTypeExtensionP (n : Nat) :
    CmpT (fun _ => True) (objectTypeExtension n) (LObjectExtP "type") FObjP (fun _ => True) := by
  rw [objectTypeExtension_eq]
  refine cmpT_withNode _ ?_
  refine (cmpT_ext (Hk := fun _ => True) "type" _ _ _ (cmpT_objExtTailP n)).mono (fun _ h => h) ?_ (fun _ h => h) (fun _ h => h)
  rintro b x ⟨nm, impl, ds, fs, hne, rfl, hfit⟩
  exact ⟨_, rfl, nm, impl, ds, fs, hne, rfl, hfit⟩

theorem cmpT_interfaceTypeExtensionP (n : Nat) :
    CmpT (fun _ => True) (interfaceTypeExtension n) (LObjectExtP "interface") FObjP (fun _ => True) := by
  rw [interfaceTypeExtension_eq]
  refine cmpT_withNode _ ?_
  refine (cmpT_ext (Hk := fun _ => True) "interface" _ _ _ (cmpT_objExtTailP n)).mono (fun _ h => h) ?_ (fun _ h => h) (fun _ h => h)
  rintro b x ⟨nm, impl, ds, fs, hne, rfl, hfit⟩
  exact ⟨_, rfl, nm, impl, ds, fs, hne, rfl, hfit⟩

/-! ### schema extension with its root operation types written -/

theorem cmp_schemaExtBracesP (meets : Bool) :
    Cmp (fun _ => True) (schemaExtBraces meets) LSBraces (fun _ => True) (fun _ => True) := by
  unfold schemaExtBraces
  refine cmp_peekGuard (· == some .lCurly)
    ((cmp_rootsBlock _ cmp_closeExt (by rintro b x rfl; exact ⟨[], rfl⟩)).mono (fun _ h => h) ?_ (fun _ h => h) (fun _ h => h)) ?_
  · rintro b x ⟨roots, hne, rfl⟩
    exact ⟨roots, [.p .rCurly], hne, by simp, rfl⟩
  · rintro b x ⟨roots, _, rfl⟩
    exact ⟨_, _, rfl, rfl⟩

def LSchemaExtP (b : Nat) (x : List Ast.Tok) : Prop :=
  ∃ (ds : List Ast.Directive) (roots : List (Ast.OpType × Ast.Str)), roots ≠ [] ∧
    x = kwE "schema" ++ Ast.tDirectives ds ++ Ast.tBraced (tRootOpItemsF (roots.map fun r => (r.1, some r.2))) roots.isEmpty ∧
    dirsFit true b ds

/-- **schema extension with its root operation types written: anything may follow** -/
theorem cmpT_schemaExtensionP (n : Nat) :
    CmpT (fun _ => True) (schemaExtension n) LSchemaExtP (fun _ => True) (fun _ => True) := by
  rw [schemaExtension_eq]
  refine cmpT_withNode _ ?_
  have hd := cmp_extDirsP (Hk := fun _ => True) (F := fun _ => True) n schemaExtBraces false (Ln := LSBraces)
    (fun m => cmp_schemaExtBracesP m)
    (by rintro b a x ⟨roots, _, e⟩
        injection e with e _
        subst e; exact ⟨by decide, by decide⟩)
    (by rintro b ⟨roots, _, e⟩; cases e)
  refine (cmpT_ext (Hk := fun _ => True) "schema" _ _ _ hd.toT).mono (fun _ h => h) ?_ (fun _ _ => trivial) (fun _ h => h)
  rintro b x ⟨ds, roots, hr, rfl, hdf⟩
  refine ⟨Ast.tDirectives ds ++ Ast.tBraced (tRootOpItemsF (roots.map fun r => (r.1, some r.2))) roots.isEmpty,
    by simp [List.append_assoc], ds, _, rfl, hdf, roots, hr, ?_⟩
  have : roots.isEmpty = false := by cases roots with | nil => exact absurd rfl hr | cons _ _ => rfl
  rw [tRootOpItemsF_full, this]
  simp [Ast.tBraced]

end Apollo.Parse.Exact
