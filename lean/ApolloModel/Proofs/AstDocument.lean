import ApolloModel.Proofs.AstDefinitions
/-
Round trip of the bodies of type definitions and of operations through the reference parser;
`wfDefinition`, the condition under which a definition reads back, and the dispatch of `pDefinition`.
-/
namespace Apollo.Ast

def isDefKeyword (k : Str) : Bool :=
  k == "query".toList || k == "mutation".toList || k == "subscription".toList || k == "fragment".toList
    || k == "extend".toList || k == "schema".toList || k == "scalar".toList || k == "type".toList
    || k == "interface".toList || k == "union".toList || k == "enum".toList || k == "input".toList
    || k == "directive".toList

/-- what may follow a definition: the end of input, a description, or a definition keyword
    (in particular not `{`: a shorthand query is only written as the first definition) -/
def defFollow : List Tok → Bool
  | [] => true
  | .str _ :: _ => true
  | .name k :: _ => isDefKeyword k
  | _ => false

theorem defFollow_calm {ts : List Tok} (h : defFollow ts = true) : calm ts = true := by
  cases ts with
  | nil => rfl
  | cons a r => cases a <;> simp_all [defFollow, calm]

theorem isDefKeyword_implements : isDefKeyword sImplements = false := by decide

theorem defFollow_ne_implements {ts : List Tok} (h : defFollow ts = true) : ts.head? ≠ some (.name sImplements) := by
  cases ts with
  | nil => simp
  | cons a r =>
    intro e
    simp only [List.head?_cons, Option.some.injEq] at e
    subst e
    simp [defFollow, isDefKeyword_implements] at h

theorem head_tBraced (items : List Tok) (e : Bool) (X : List Tok) (t : Tok) (h : (tBraced items e ++ X).head? = some t) :
    t = .p .lCurly ∨ X.head? = some t := by
  cases e with
  | true => right; simpa [tBraced] using h
  | false => left; simp [tBraced] at h; exact h.symm

theorem dirFollow_tBraced {rest : List Tok} (hc : calm rest = true) (items : List Tok) (e : Bool) :
    dirFollow (tBraced items e ++ rest) := by
  constructor <;> intro e <;> rcases head_tBraced _ _ _ _ e with h | e
  · cases h
  · exact calm_ne hc .at (by decide) (by decide) (by decide) e
  · cases h
  · exact calm_ne hc .lParen (by decide) (by decide) (by decide) e

/-! ### bodies -/

theorem objectTypeLike_roundtrip (name : Str) (impls : List Str) (dirs : List Directive) (fields : List FieldDef)
    (f : Nat) (rest : List Tok) (h1 : wfDirs dirs = true) (h2 : wfFieldDefs fields = true)
    (hs : impls.length + szDirs dirs + szFieldDefs fields ≤ f) (hr : defFollow rest = true) :
    pObjectTypeLike f (tObjectTypeLike name impls dirs fields ++ rest) = some ((name, impls, dirs, fields), rest) := by
  have hc := defFollow_calm hr
  have a := implements_roundtrip impls f (tDirectives dirs ++ (tBraced (tFieldDefItems fields) fields.isEmpty ++ rest))
    (by omega)
    (by
      intro e
      rcases head_tDirectives _ _ _ e with h | e
      · cases h
      · rcases head_tBraced _ _ _ _ e with h | e
        · cases h
        · exact calm_ne hc .amp (by decide) (by decide) (by decide) e)
    (by
      intro e
      rcases head_tDirectives _ _ _ e with h | e
      · cases h
      · rcases head_tBraced _ _ _ _ e with h | e
        · cases h
        · exact defFollow_ne_implements hr e)
  have b := directives_roundtrip dirs f (tBraced (tFieldDefItems fields) fields.isEmpty ++ rest) h1 (by omega)
    (dirFollow_tBraced hc _ _)
  have c := fieldsDefinition_roundtrip fields f rest h2 (by omega) (calm_ne hc .lCurly (by decide) (by decide) (by decide))
  simp only [tObjectTypeLike, List.cons_append, List.append_assoc]
  simp [pObjectTypeLike, a, b, c]

theorem unionBody_roundtrip (name : Str) (dirs : List Directive) (members : List Str) (f : Nat) (rest : List Tok)
    (h1 : wfDirs dirs = true) (hs : szDirs dirs + members.length ≤ f) (hr : defFollow rest = true) :
    pUnionBody f (tUnion name dirs members ++ rest) = some ((name, dirs, members), rest) := by
  have hc := defFollow_calm hr
  have b := directives_roundtrip dirs f (tSepList [.p .eq] .pipe members ++ rest) h1 (by omega)
    (by
      cases members with
      | nil => simpa [tSepList] using calm_dirFollow hc
      | cons a r => simp [tSepList, dirFollow])
  have c := unionMembers_roundtrip members f rest (by omega) (calm_ne hc .pipe (by decide) (by decide) (by decide))
    (calm_ne hc .eq (by decide) (by decide) (by decide))
  simp only [tUnion, List.cons_append, List.append_assoc]
  simp [pUnionBody, b, c]

theorem enumBody_roundtrip (name : Str) (dirs : List Directive) (values : List EnumValueDef) (f : Nat) (rest : List Tok)
    (h1 : wfDirs dirs = true) (h2 : wfEnumValueDefs values = true) (hs : szDirs dirs + szEnumValueDefs values ≤ f)
    (hr : defFollow rest = true) :
    pEnumBody f (tEnumBody name dirs values ++ rest) = some ((name, dirs, values), rest) := by
  have hc := defFollow_calm hr
  have b := directives_roundtrip dirs f (tBraced (tEnumValueDefItems values) values.isEmpty ++ rest) h1 (by omega)
    (dirFollow_tBraced hc _ _)
  have c := enumValuesDefinition_roundtrip values f rest h2 (by omega)
    (calm_ne hc .lCurly (by decide) (by decide) (by decide))
  simp only [tEnumBody, List.cons_append, List.append_assoc]
  simp [pEnumBody, b, c]

theorem inputBody_roundtrip (name : Str) (dirs : List Directive) (fields : List InputValueDef) (f : Nat) (rest : List Tok)
    (h1 : wfDirs dirs = true) (h2 : wfIVDs fields = true) (hs : szDirs dirs + szIVDs fields ≤ f)
    (hr : defFollow rest = true) :
    pInputBody f (tInputBody name dirs fields ++ rest) = some ((name, dirs, fields), rest) := by
  have hc := defFollow_calm hr
  have b := directives_roundtrip dirs f (tBraced (tIVDItems fields) fields.isEmpty ++ rest) h1 (by omega)
    (dirFollow_tBraced hc _ _)
  have c := inputFieldsDefinition_roundtrip fields f rest h2 (by omega)
    (calm_ne hc .lCurly (by decide) (by decide) (by decide))
  simp only [tInputBody, List.cons_append, List.append_assoc]
  simp [pInputBody, b, c]

theorem dirsSelSet_roundtrip (dirs : List Directive) (sels : Sels) (f : Nat) (rest : List Tok) (h1 : wfDirs dirs = true)
    (h2 : wfSels sels = true) (hne : sels ≠ .nil) (hs : szDirs dirs + szSels sels ≤ f) :
    pDirectives f (tDirectives dirs ++ tSelSet sels ++ rest) = some (dirs, tSelSet sels ++ rest)
    ∧ pSelectionSet f (tSelSet sels ++ rest) = some (sels, rest) := by
  constructor
  · have := directives_roundtrip dirs f (tSelSet sels ++ rest) h1 (by omega) (by simp [tSelSet, dirFollow])
    simpa [List.append_assoc] using this
  · have := selsNE_roundtrip sels f rest hne h2 (by omega)
    simpa [tSelSet, pSelectionSet] using this

/-! ### definitions -/

def nonNil : Sels → Bool
  | .nil => false
  | _ => true

theorem nonNil_ne {ss : Sels} (h : nonNil ss = true) : ss ≠ .nil := by
  intro e; subst e; simp [nonNil] at h

/-- what an error-free parse guarantees about a definition (besides `wfValue` of its values):
    selection sets of operations, fragments and inline fragments are non-empty, fragments are not named
    `on`, a directive definition has a location, a schema definition has a root operation -/
def wfDefinition : Definition → Bool
  | .operation _ _ vars dirs sels => wfVarDefs vars && wfDirs dirs && wfSels sels && nonNil sels
  | .fragment name _ dirs sels => name != sOn && wfDirs dirs && wfSels sels && nonNil sels
  | .directiveDef _ _ args _ locs => wfIVDs args && !locs.isEmpty
  | .schemaDef _ dirs roots => wfDirs dirs && !roots.isEmpty
  | .scalarDef _ _ dirs => wfDirs dirs
  | .objectDef _ _ _ dirs fields => wfDirs dirs && wfFieldDefs fields
  | .interfaceDef _ _ _ dirs fields => wfDirs dirs && wfFieldDefs fields
  | .unionDef _ _ dirs _ => wfDirs dirs
  | .enumDef _ _ dirs values => wfDirs dirs && wfEnumValueDefs values
  | .inputDef _ _ dirs fields => wfDirs dirs && wfIVDs fields
  | .schemaExt dirs _ => wfDirs dirs
  | .scalarExt _ dirs => wfDirs dirs
  | .objectExt _ _ dirs fields => wfDirs dirs && wfFieldDefs fields
  | .interfaceExt _ _ dirs fields => wfDirs dirs && wfFieldDefs fields
  | .unionExt _ dirs _ => wfDirs dirs
  | .enumExt _ dirs values => wfDirs dirs && wfEnumValueDefs values
  | .inputExt _ dirs fields => wfDirs dirs && wfIVDs fields

def szDefinition : Definition → Nat
  | .operation _ _ vars dirs sels => szVarDefs vars + szDirs dirs + szSels sels + 1
  | .fragment _ _ dirs sels => szDirs dirs + szSels sels + 1
  | .directiveDef _ _ args _ locs => szIVDs args + locs.length + 1
  | .schemaDef _ dirs roots => szDirs dirs + roots.length + 2
  | .scalarDef _ _ dirs => szDirs dirs + 1
  | .objectDef _ _ impls dirs fields => impls.length + szDirs dirs + szFieldDefs fields + 1
  | .interfaceDef _ _ impls dirs fields => impls.length + szDirs dirs + szFieldDefs fields + 1
  | .unionDef _ _ dirs members => szDirs dirs + members.length + 1
  | .enumDef _ _ dirs values => szDirs dirs + szEnumValueDefs values + 1
  | .inputDef _ _ dirs fields => szDirs dirs + szIVDs fields + 1
  | .schemaExt dirs roots => szDirs dirs + roots.length + 2
  | .scalarExt _ dirs => szDirs dirs + 1
  | .objectExt _ impls dirs fields => impls.length + szDirs dirs + szFieldDefs fields + 1
  | .interfaceExt _ impls dirs fields => impls.length + szDirs dirs + szFieldDefs fields + 1
  | .unionExt _ dirs members => szDirs dirs + members.length + 1
  | .enumExt _ dirs values => szDirs dirs + szEnumValueDefs values + 1
  | .inputExt _ dirs fields => szDirs dirs + szIVDs fields + 1

theorem pDefinition_desc (f : Nat) (d kwd : Str) (X : List Tok) :
    pDefinition f (.str d :: .name kwd :: X) = pTypeSystemRest f (some d) kwd X := rfl

theorem pDefinition_tsk (f : Nat) (kwd : Str) (X : List Tok) (h1 : opTypeOf kwd = none)
    (h2 : kwd ≠ "fragment".toList) (h3 : kwd ≠ "extend".toList) :
    pDefinition f (.name kwd :: X) = pTypeSystemRest f none kwd X := by
  unfold pDefinition
  simp only [h1]
  rw [if_neg h2, if_neg h3]

theorem typeSystem_dispatch (f : Nat) (desc : Option Str) (kwd : Str) (X : List Tok) (h1 : opTypeOf kwd = none)
    (h2 : kwd ≠ "fragment".toList) (h3 : kwd ≠ "extend".toList) :
    pDefinition f (tDescription desc ++ .name kwd :: X) = pTypeSystemRest f desc kwd X := by
  cases desc with
  | none => exact pDefinition_tsk f kwd X h1 h2 h3
  | some d => exact pDefinition_desc f d kwd X

theorem extension_dispatch (f : Nat) (kwd : Str) (X : List Tok) :
    pDefinition f (.name "extend".toList :: .name kwd :: X) = pExtensionRest f kwd X := by
  simp [pDefinition, opTypeOf]

theorem pDefinition_op (f : Nat) (ot : OpType) (X : List Tok) :
    pDefinition f (.name ot.name.toList :: X) = pOperationRest f ot X := by
  unfold pDefinition
  simp only [opTypeOf_name]

theorem operationTail_roundtrip (ot : OpType) (name : Option Str) (vars : List VarDef) (dirs : List Directive)
    (sels : Sels) (f : Nat) (rest : List Tok) (h1 : wfVarDefs vars = true) (h2 : wfDirs dirs = true)
    (h3 : wfSels sels = true) (hne : sels ≠ .nil) (hs : szVarDefs vars + szDirs dirs + szSels sels ≤ f) :
    (match pVarDefs f (tVarDefs vars ++ tDirectives dirs ++ tSelSet sels ++ rest) with
      | some (vs, r1) =>
        match pDirectives f r1 with
        | some (ds, r2) =>
          match pSelectionSet f r2 with
          | some (ss, r3) => some (Definition.operation ot name vs ds ss, r3)
          | none => none
        | none => none
      | none => none) = some (.operation ot name vars dirs sels, rest) := by
  have a := varDefs_roundtrip vars f (tDirectives dirs ++ tSelSet sels ++ rest) h1 (by omega)
    (by
      unfold notLParen
      intro e
      rw [List.append_assoc] at e
      rcases head_tDirectives _ _ _ e with h | e
      · cases h
      · simp [tSelSet] at e)
  obtain ⟨b, c⟩ := dirsSelSet_roundtrip dirs sels f rest h2 h3 hne (by omega)
  simp only [List.append_assoc] at a b c ⊢
  simp [a, b, c]

theorem operation_roundtrip (ot : OpType) (name : Option Str) (vars : List VarDef) (dirs : List Directive)
    (sels : Sels) (f : Nat) (rest : List Tok) (h1 : wfVarDefs vars = true) (h2 : wfDirs dirs = true)
    (h3 : wfSels sels = true) (hne : sels ≠ .nil) (hs : szVarDefs vars + szDirs dirs + szSels sels ≤ f) :
    pOperationRest f ot ((match name with | some n => [.name n] | none => []) ++ tVarDefs vars ++ tDirectives dirs
      ++ tSelSet sels ++ rest) = some (.operation ot name vars dirs sels, rest) := by
  have key := operationTail_roundtrip ot name vars dirs sels f rest h1 h2 h3 hne hs
  cases name with
  | some n =>
    simp only [List.cons_append, List.nil_append, List.append_assoc] at key ⊢
    simp only [pOperationRest]
    exact key
  | none =>
    simp only [List.nil_append, List.append_assoc] at key ⊢
    -- the token after the keyword is `(`, `@` or `{`, not a name
    cases vars <;> cases dirs <;>
      simp only [tVarDefs, List.isEmpty_nil, List.isEmpty_cons, Bool.false_eq_true, if_true, if_false, List.nil_append,
        tDirectives, tSelSet, List.cons_append] at key ⊢ <;>
      simp only [pOperationRest] <;>
      exact key

end Apollo.Ast
