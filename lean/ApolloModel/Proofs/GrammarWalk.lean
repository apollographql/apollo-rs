import ApolloModel.Model.Grammar
import ApolloModel.Model.ParserEntry
/-
A predicate on parser programs is *compositional* when it holds of `pure`, of the token primitives of
parser/mod.rs and of `name`, and is preserved by `>>=` and by `withNode`.  Every definition parser of the grammar is
built from these and from three recursive families (values, types, selection sets), so such a predicate holds of
every definition parser and of `document()` as soon as it holds of the three families.  The walk over the grammar
is done here once, for an arbitrary predicate; each calculus supplies the rules.

Three levels, because the calculi differ at the nodes: `TokenCalc` (no node rule: the primitives and loops of
parser/mod.rs), `GrammarCalc` (nodes of the kinds every calculus can handle: the definition parsers, and the value
and selection families up to their guard sites), `GuardCalc` (nodes of every kind and the recursion guard: the
three families and the entry points).
-/
namespace Apollo.Parse
open Apollo.Rowan hiding Str
open Apollo.Lex hiding Str

/-- a node kind that is not opened directly around a recursion guard (those carry the depth of the tree) -/
def PlainKind (k : SK) : Prop := k ≠ "SELECTION_SET" ∧ k ≠ "LIST_TYPE" ∧ k ≠ "LIST_VALUE" ∧ k ≠ "OBJECT_FIELD"

instance (k : SK) : Decidable (PlainKind k) := by unfold PlainKind; infer_instance

/-- the kinds for which every calculus has a node rule: the single-token `NAME` node is treated apart as well -/
def OrdinaryKind (k : SK) : Prop := k ≠ "NAME" ∧ PlainKind k

structure TokenCalc (P : ∀ {α : Type}, PI α → Prop) : Prop where
  pure : ∀ {α : Type} (a : α), P (pure a : PI α)
  bind : ∀ {α β : Type} (m : PI α) (f : α → PI β), P m → (∀ a, P (f a)) → P (m >>= f)
  outOfFuel : ∀ {α : Type}, P (PI.outOfFuel : PI α)
  stuck : ∀ {α : Type}, P (PI.stuck : PI α)
  peekToken : P peekToken
  peekTokenN : ∀ n, P (peekTokenN n)
  srcLen : P srcLen
  getCurrent : P getCurrent
  moveCurToPending : P moveCurToPending
  pushIgnored : P pushIgnored
  moveCurToTree : ∀ kind, P (moveCurToTree kind)
  assertRecZero : P assertRecZero
  errAtToken : ∀ t, P (errAtToken t)

structure GrammarCalc (P : ∀ {α : Type}, PI α → Prop) : Prop extends TokenCalc @P where
  withNode : ∀ {α : Type} (kind : SK) (body : PI α), OrdinaryKind kind → P skipIgnored → P body → P (withNode kind body)
  name : P name

/-- what the definition parsers need of the recursive families -/
structure GrammarRec (P : ∀ {α : Type}, PI α → Prop) : Prop where
  value : ∀ n c p, P (value n c p)
  ty : ∀ n, P (ty n)
  selectionSet : ∀ n, P (selectionSet n)

namespace TokenCalc
variable {P : ∀ {α : Type}, PI α → Prop}

theorem branch {α : Type} (c : Prop) [Decidable c] (a b : PI α) (ha : P a) (hb : P b) : P (if c then a else b) := by
  split <;> assumption

/-- a weaker predicate with a rule for `>>=` has the rules of the stronger one at the primitives -/
theorem mono {Q : ∀ {α : Type}, PI α → Prop} (h : TokenCalc @P) (imp : ∀ {α : Type} {m : PI α}, P m → Q m)
    (bind : ∀ {α β : Type} (m : PI α) (f : α → PI β), Q m → (∀ a, Q (f a)) → Q (m >>= f)) : TokenCalc @Q where
  pure := fun a => imp (h.pure a)
  bind := bind
  outOfFuel := imp h.outOfFuel
  stuck := imp h.stuck
  peekToken := imp h.peekToken
  peekTokenN := fun n => imp (h.peekTokenN n)
  srcLen := imp h.srcLen
  getCurrent := imp h.getCurrent
  moveCurToPending := imp h.moveCurToPending
  pushIgnored := imp h.pushIgnored
  moveCurToTree := fun kind => imp (h.moveCurToTree kind)
  assertRecZero := imp h.assertRecZero
  errAtToken := fun t => imp (h.errAtToken t)

theorem and {Q : ∀ {α : Type}, PI α → Prop} (h : TokenCalc @P) (k : TokenCalc @Q) :
    TokenCalc (fun {α} (m : PI α) => P m ∧ Q m) where
  pure := fun a => ⟨h.pure a, k.pure a⟩
  bind := fun m f hm hf => ⟨h.bind m f hm.1 fun a => (hf a).1, k.bind m f hm.2 fun a => (hf a).2⟩
  outOfFuel := ⟨h.outOfFuel, k.outOfFuel⟩
  stuck := ⟨h.stuck, k.stuck⟩
  peekToken := ⟨h.peekToken, k.peekToken⟩
  peekTokenN := fun n => ⟨h.peekTokenN n, k.peekTokenN n⟩
  srcLen := ⟨h.srcLen, k.srcLen⟩
  getCurrent := ⟨h.getCurrent, k.getCurrent⟩
  moveCurToPending := ⟨h.moveCurToPending, k.moveCurToPending⟩
  pushIgnored := ⟨h.pushIgnored, k.pushIgnored⟩
  moveCurToTree := fun kind => ⟨h.moveCurToTree kind, k.moveCurToTree kind⟩
  assertRecZero := ⟨h.assertRecZero, k.assertRecZero⟩
  errAtToken := fun t => ⟨h.errAtToken t, k.errAtToken t⟩

variable (h : TokenCalc @P)
include h

/-- an optional part followed by the rest of the block: the `do` notation shares the rest as a join point `k` -/
theorem opt {α β : Type} (c : Prop) [Decidable c] (m : PI α) (a : α) (k : α → PI β) (hm : P m) (hk : ∀ r, P (k r)) :
    P (if c then m >>= fun r => k r else k a) :=
  branch _ _ _ (h.bind _ _ hm hk) (hk a)

/-- the same when the optional part also sets a flag; `k` can only be read off a goal in which the join point is still
    a variable (`extract_lets`), not its unfolded body -/
theorem optFlag {α β : Type} (c : Prop) [Decidable c] (m : PI α) (a : α) (b b' : Bool) (k : α → Bool → PI β)
    (hm : P m) (hk : ∀ r f, P (k r f)) : P (if c then m >>= fun r => k r b else k a b') :=
  branch _ _ _ (h.bind _ _ hm (fun r => hk r b)) (hk a b')

theorem alt {α β : Type} (c : Prop) [Decidable c] (m m' : PI α) (k : α → PI β) (hm : P m) (hm' : P m')
    (hk : ∀ r, P (k r)) : P (if c then m >>= fun r => k r else m' >>= fun r => k r) :=
  branch _ _ _ (h.bind _ _ hm hk) (h.bind _ _ hm' hk)

theorem peekOpt {β : Type} (c : Option Kind → Bool) (m : PI Unit) (k : Unit → PI β) (hm : P m) (hk : ∀ r, P (k r)) :
    P (Parse.peek >>= fun x => if c x = true then m >>= fun r => k r else k ()) :=
  h.bind _ _ (h.bind _ _ h.peekToken fun _ => h.pure _) fun _ => h.opt _ _ () _ hm hk

theorem peekOptFlag {β : Type} (c : Option Kind → Bool) (m : PI Unit) (b b' : Bool) (k : Unit → Bool → PI β)
    (hm : P m) (hk : ∀ r f, P (k r f)) :
    P (Parse.peek >>= fun x => if c x = true then m >>= fun r => k r b else k () b') :=
  h.bind _ _ (h.bind _ _ h.peekToken fun _ => h.pure _) fun _ => h.optFlag _ _ () _ _ _ hm hk

theorem peekIf {β : Type} (c : Option Kind → Bool) (m m' : PI β) (hm : P m) (hm' : P m') :
    P (Parse.peek >>= fun x => if c x = true then m else m') :=
  h.bind _ _ (h.bind _ _ h.peekToken fun _ => h.pure _) fun _ => branch _ _ _ hm hm'

/-! ### parser/mod.rs -/

theorem skipIgnoredLoop : ∀ fuel, P (skipIgnoredLoop fuel)
  | 0 => h.outOfFuel
  | fuel + 1 =>
    h.bind _ _ h.peekToken fun _ => h.bind _ _ h.moveCurToPending fun _ => branch _ _ _ (skipIgnoredLoop fuel) (h.pure _)

theorem skipIgnored : P skipIgnored := h.bind _ _ h.srcLen fun _ => h.skipIgnoredLoop _

theorem peek : P peek := h.bind _ _ h.peekToken fun _ => h.pure _
theorem peekData : P peekData := h.bind _ _ h.peekToken fun _ => h.pure _
theorem peekN (n : Nat) : P (peekN n) := h.bind _ _ (h.peekTokenN n) fun _ => h.pure _
theorem peekDataN (n : Nat) : P (peekDataN n) := h.bind _ _ (h.peekTokenN n) fun _ => h.pure _

theorem eat (k : SK) : P (eat k) :=
  h.bind _ _ h.pushIgnored fun _ => h.bind _ _ h.peekToken fun _ => h.moveCurToTree k

theorem bump (k : SK) : P (bump k) := h.bind _ _ (h.eat k) fun _ => h.skipIgnored

theorem err : P err :=
  h.bind _ _ h.peekToken fun o => by cases o <;> first | exact h.pure _ | exact h.errAtToken _

theorem errAndPop : P errAndPop :=
  h.bind _ _ h.pushIgnored fun _ => h.bind _ _ h.peekToken fun o => by
    cases o with
    | none => exact h.pure _
    | some t => exact h.bind _ _ (h.moveCurToTree _) fun _ => h.bind _ _ (h.errAtToken t) fun _ => h.skipIgnored

theorem expect (t : Kind) (k : SK) : P (expect t k) :=
  h.bind _ _ h.peekToken fun o => by
    cases o with
    | none => exact h.pure _
    | some x => exact branch _ _ _ (h.bump k) (h.errAtToken x)

theorem expectEndOfInput : P expectEndOfInput :=
  h.bind _ _ h.skipIgnored fun _ => h.bind _ _ h.peek fun _ => branch _ _ _ (h.pure _) h.err

/-! ### loops -/

theorem peekWhileLoop (body : Kind → PI Bool) (hb : ∀ k, P (body k)) : ∀ fuel, P (peekWhileLoop body fuel)
  | 0 => h.outOfFuel
  | fuel + 1 =>
    h.bind _ _ h.peek fun o => by
      cases o with
      | none => exact h.pure _
      | some k =>
        exact h.bind _ _ h.getCurrent fun _ => h.bind _ _ (hb k) fun _ =>
          branch _ _ _ (h.bind _ _ h.getCurrent fun _ => branch _ _ _ h.stuck (peekWhileLoop body hb fuel)) (h.pure _)

theorem peekWhile (body : Kind → PI Bool) (hb : ∀ k, P (body k)) : P (peekWhile body) :=
  h.bind _ _ h.srcLen fun _ => h.peekWhileLoop body hb _

theorem peekWhileKindLoop (k : Kind) (body : PI Unit) (hb : P body) : ∀ fuel, P (peekWhileKindLoop k body fuel)
  | 0 => h.outOfFuel
  | fuel + 1 =>
    h.bind _ _ h.peek fun o => by
      cases o with
      | none => exact h.pure _
      | some k' =>
        exact branch _ _ _ (h.pure _) (h.bind _ _ h.getCurrent fun _ => h.bind _ _ hb fun _ =>
          h.bind _ _ h.getCurrent fun _ => branch _ _ _ h.stuck (peekWhileKindLoop k body hb fuel))

theorem peekWhileKind (k : Kind) (body : PI Unit) (hb : P body) : P (peekWhileKind k body) :=
  h.bind _ _ h.srcLen fun _ => h.peekWhileKindLoop k body hb _

theorem peekWhileFlagLoop (body : Kind → PI (Bool × Bool)) (hb : ∀ k, P (body k)) :
    ∀ fuel flag, P (peekWhileFlagLoop body fuel flag)
  | 0, _ => h.outOfFuel
  | fuel + 1, flag =>
    h.bind _ _ h.peek fun o => by
      cases o with
      | none => exact h.pure _
      | some k =>
        exact h.bind _ _ h.getCurrent fun _ => h.bind _ _ (hb k) fun _ =>
          branch _ _ _ (h.bind _ _ h.getCurrent fun _ => branch _ _ _ h.stuck (peekWhileFlagLoop body hb fuel _)) (h.pure _)

theorem peekWhileKindFlagLoop (k : Kind) (body : PI Unit) (hb : P body) :
    ∀ fuel flag, P (peekWhileKindFlagLoop k body fuel flag)
  | 0, _ => h.outOfFuel
  | fuel + 1, flag =>
    h.bind _ _ h.peek fun o => by
      cases o with
      | none => exact h.pure _
      | some k' =>
        exact branch _ _ _ (h.pure _) (h.bind _ _ h.getCurrent fun _ => h.bind _ _ hb fun _ =>
          h.bind _ _ h.getCurrent fun _ => branch _ _ _ h.stuck (peekWhileKindFlagLoop k body hb fuel true))

theorem parseSeparatedList (sep : Kind) (syn : SK) (run : PI Unit) (hr : P run) : P (parseSeparatedList sep syn run) :=
  h.bind _ _ h.peek fun _ => h.opt _ _ () _ (h.bump syn) fun _ =>
    h.bind _ _ hr fun _ => h.peekWhileKind _ _ (h.bind _ _ (h.bump syn) fun _ => hr)


end TokenCalc

namespace GrammarCalc
open TokenCalc (branch)
variable {P : ∀ {α : Type}, PI α → Prop} (h : GrammarCalc @P)
include h

theorem node {α : Type} (kind : SK) (body : PI α) (hb : P body) (hk : OrdinaryKind kind := by simp [OrdinaryKind, PlainKind]) :
    P (Parse.withNode kind body) :=
  h.withNode kind body hk h.skipIgnored hb

/-! ### the grammar outside the three recursive families -/

theorem alias : P alias := h.node _ _ (h.bind _ _ h.name fun _ => h.bump _)

theorem namedType : P namedType := h.peekIf _ _ _ (h.node _ _ h.name) (h.pure _)

theorem variableNode : P variableNode := h.node _ _ (h.bind _ _ (h.bump _) fun _ => h.name)

theorem enumValue : P enumValue :=
  h.node _ _ <| h.bind _ _ h.peekToken fun o => by
    cases o with
    | none => exact h.err
    | some t => exact branch _ _ _ (h.opt _ _ () _ h.err fun _ => h.name) h.err

theorem fragmentName : P fragmentName :=
  h.node _ _ <| h.bind _ _ h.peekToken fun o => by
    cases o with
    | none => exact h.err
    | some t => exact branch _ _ _ h.err (branch _ _ _ h.name h.err)

theorem typeCondition : P typeCondition :=
  h.node _ _ <| h.bind _ _ h.peekToken fun o => by
    cases o with
    | none => exact h.err
    | some t => exact h.alt _ _ _ _ (h.bump _) h.err fun _ => h.peekIf _ _ _ h.namedType h.err

theorem description : P description := h.node _ _ (h.node _ _ (h.bump _))

theorem operationType : P operationType :=
  h.bind _ _ h.peekData fun o => by
    cases o with
    | none => exact h.pure _
    | some d =>
      exact h.node _ _
        (branch _ _ _ (h.bump _) (branch _ _ _ (h.bump _) (branch _ _ _ (h.bump _) h.errAndPop)))

theorem nameOrErr : P nameOrErr := h.peekIf _ _ _ h.name h.err

theorem implementsInterfaces : P implementsInterfaces :=
  h.node _ _ <| h.bind _ _ (h.bump _) fun _ =>
    h.parseSeparatedList _ _ _ (h.peekIf _ _ _ h.namedType h.err)

theorem unionMemberTypes : P unionMemberTypes :=
  h.node _ _ <| h.bind _ _ (h.bump _) fun _ =>
    h.parseSeparatedList _ _ _ (h.peekIf _ _ _ h.namedType h.err)

theorem directiveLocation : P directiveLocation :=
  h.bind _ _ h.peekToken fun o => by
    cases o with
    | none => exact h.pure _
    | some t =>
      refine branch _ _ _ ?_ h.err
      split
      · exact h.node _ _ (h.bump _)
      · exact h.err

theorem directiveLocations : P directiveLocations := h.parseSeparatedList _ _ _ h.directiveLocation

theorem rootOperationTypeDefinition : P rootOperationTypeDefinition :=
  h.node _ _ <| h.bind _ _ h.operationType fun _ =>
    h.peekIf _ _ _ (h.bind _ _ (h.bump _) fun _ => h.namedType) h.err

/-! ### argument.rs, directive.rs: around values -/

section values
variable (hv : ∀ n c p, P (value n c p))
include hv

theorem defaultValue (n : Nat) : P (defaultValue n) :=
  h.node _ _ (h.bind _ _ (h.bump _) fun _ => hv n true false)

theorem argument (n : Nat) (c : Bool) : P (argument n c) :=
  h.node _ _ <| h.bind _ _ h.name fun _ =>
    h.peekIf _ _ _ (h.bind _ _ (h.bump _) fun _ => hv n c false) h.err

theorem arguments (n : Nat) (c : Bool) : P (arguments n c) :=
  h.node _ _ <| h.bind _ _ (h.bump _) fun _ => h.bind _ _ h.peek fun _ =>
    h.alt _ _ _ _ (h.argument hv n c) h.err fun _ =>
      h.bind _ _ (h.peekWhileKind _ _ (h.argument hv n c)) fun _ => h.expect _ _

theorem directive (n : Nat) (c : Bool) : P (directive n c) :=
  h.node _ _ <| h.bind _ _ (h.expect _ _) fun _ => h.bind _ _ h.name fun _ =>
    h.peekIf _ _ _ (h.arguments hv n c) (h.pure _)

theorem directives (n : Nat) (c : Bool) : P (directives n c) :=
  h.node _ _ (h.peekWhileKind _ _ (h.directive hv n c))

theorem fragmentSpread (n : Nat) : P (fragmentSpread n) :=
  h.node _ _ <| h.bind _ _ (h.bump _) fun _ => h.bind _ _ h.peek fun _ =>
    h.alt _ _ _ _ h.fragmentName h.err fun _ => h.peekIf _ _ _ (h.directives hv n false) (h.pure _)

end values

/-! ### value.rs and selection.rs, given what happens at the nodes opened around a recursion guard -/

theorem values (hlist : ∀ n c, P (value n c true) → P (listValue (n + 1) c))
    (hfield : ∀ n c, P (value n c true) → P (objectField (n + 1) c)) :
    ∀ n, (∀ c p, P (value n c p)) ∧ (∀ c, P (listValue n c)) ∧ (∀ c, P (objectValue n c)) ∧ (∀ c, P (objectField n c))
  | 0 => ⟨fun _ _ => by rw [value]; exact h.outOfFuel, fun _ => by rw [listValue]; exact h.outOfFuel,
      fun _ => by rw [objectValue]; exact h.outOfFuel, fun _ => by rw [objectField]; exact h.outOfFuel⟩
  | n + 1 => by
    obtain ⟨iv, il, io, ifd⟩ := values hlist hfield n
    refine ⟨fun c p => ?_, fun c => hlist n c (iv c true), fun c => ?_, fun c => hfield n c (iv c true)⟩
    · rw [value]
      refine h.bind _ _ h.peek fun o => ?_
      split
      · exact h.opt _ _ () _ (branch _ _ _ h.errAndPop h.err) fun _ => h.variableNode
      · exact h.node _ _ (h.bump _)
      · exact h.node _ _ (h.bump _)
      · exact h.node _ _ (h.bump _)
      · refine h.bind _ _ h.peekToken fun t => ?_
        cases t with
        | none => exact h.pure _
        | some t =>
          exact branch _ _ _ (h.node _ _ (h.bump _)) (branch _ _ _ (h.node _ _ (h.bump _))
            (branch _ _ _ (h.node _ _ (h.bump _)) h.enumValue))
      · exact il c
      · exact io c
      · exact branch _ _ _ h.errAndPop h.err
    · rw [objectValue]
      exact h.node _ _ <| h.bind _ _ (h.bump _) fun _ =>
        h.bind _ _ (h.peekWhileKind _ _ (ifd c)) fun _ => h.expect _ _

theorem selections (hv : ∀ n c p, P (value n c p)) (hset : ∀ n, P (selection n) → P (selectionSet (n + 1))) :
    ∀ n, P (selectionSet n) ∧ P (selection n) ∧ P (field n) ∧ P (inlineFragment n)
  | 0 => ⟨by rw [selectionSet]; exact h.outOfFuel, by rw [selection]; exact h.outOfFuel,
      by rw [field]; exact h.outOfFuel, by rw [inlineFragment]; exact h.outOfFuel⟩
  | n + 1 => by
    obtain ⟨iss, isel, ifd, iin⟩ := selections hv hset n
    have dirs := h.directives hv n false
    refine ⟨hset n isel, ?_, ?_, ?_⟩
    · rw [selection]
      refine h.bind _ _ h.srcLen fun _ => h.bind _ _ (h.peekWhileFlagLoop _ (fun _ => ?_) _ _) fun _ =>
        branch _ _ _ h.err (h.pure _)
      refine branch _ _ _ (h.bind _ _ (h.peekTokenN 2) fun o => ?_)
        (branch _ _ _ (h.pure _) (branch _ _ _ (h.bind _ _ ifd fun _ => h.pure _) (h.pure _)))
      cases o with
      | none => exact h.bind _ _ h.errAndPop fun _ => h.pure _
      | some next =>
        exact branch _ _ _ (h.bind _ _ (h.fragmentSpread hv n) fun _ => h.pure _) <|
          branch _ _ _ (h.bind _ _ iin fun _ => h.pure _) <|
          h.bind _ _ h.err fun _ => h.bind _ _ (h.bump _) fun _ => h.pure _
    · rw [field]
      refine h.node _ _ (h.bind _ _ h.peek fun _ => ?_)
      extract_lets _ _ rest named
      have hrest : ∀ u, P (rest u) := fun _ => h.peekOpt _ _ _ (h.arguments hv n false) fun _ =>
        h.peekOpt _ _ _ dirs fun _ => h.peekIf _ _ _ iss (h.pure _)
      clear_value rest
      exact branch _ _ _ (h.bind _ _ (h.peekN 2) fun _ => h.opt _ _ () _ h.alias fun _ => h.bind _ _ h.name hrest)
        (h.bind _ _ h.err hrest)
    · rw [inlineFragment]
      exact h.node _ _ <| h.bind _ _ (h.bump _) fun _ => h.peekOpt _ _ _ h.typeCondition fun _ =>
        h.peekOpt _ _ _ dirs fun _ => h.peekIf _ _ _ iss h.err

/-! ### the definition parsers and `document()` -/

/-- `{ item+ }` and `( item+ )`: a first item or an error, then items while a name or a string follows -/
theorem itemList (item : PI Unit) (hi : P item) (c : Option Kind → Bool) (c' : Kind → Bool) (close : PI Unit) (hc : P close) :
    P (Parse.peek >>= fun x => if c x = true
        then item >>= fun _ => (Parse.peekWhile fun kind => if c' kind = true then item >>= fun _ => Pure.pure true else Pure.pure false) >>= fun _ => close
        else Parse.err >>= fun _ => (Parse.peekWhile fun kind => if c' kind = true then item >>= fun _ => Pure.pure true else Pure.pure false) >>= fun _ => close) :=
  h.bind _ _ h.peek fun _ => h.alt _ _ _ _ hi h.err fun _ =>
    h.bind _ _ (h.peekWhile _ fun _ => branch _ _ _ (h.bind _ _ hi fun _ => h.pure _) (h.pure _)) fun _ => hc

/-- `{ RootOperationTypeDefinition+` of schema definitions and extensions (an empty list is an error), then the rest -/
theorem rootOperationTypes {β : Type} (k : Unit → PI β) (hk : ∀ u, P (k u)) :
    P (Parse.bump "L_CURLY" >>= fun _ => Parse.srcLen >>= fun len =>
        Parse.peekWhileKindFlagLoop Kind.name Parse.rootOperationTypeDefinition (len + 3) false >>= fun has =>
        if (!has) = true then Parse.err >>= fun u => k u else k ()) :=
  h.bind _ _ (h.bump _) fun _ => h.bind _ _ h.srcLen fun _ =>
    h.bind _ _ (h.peekWhileKindFlagLoop _ _ h.rootOperationTypeDefinition _ _) fun _ => h.opt _ _ () _ h.err hk

/-- an extension that added nothing is an error -/
theorem meetsEnd (meets : Bool) : P (if (!meets) = true then Parse.err else Pure.pure ()) :=
  branch _ _ _ h.err (h.pure _)


section definitions
variable (r : GrammarRec @P)
include r

theorem inputValueDefinition (n : Nat) : P (inputValueDefinition n) :=
  h.node _ _ <| h.peekOpt _ _ _ h.description fun _ => h.bind _ _ h.name fun _ =>
    h.peekIf _ _ _
      (h.bind _ _ (h.bump _) fun _ => h.peekIf _ _ _
        (h.bind _ _ (r.ty n) fun _ => h.peekOpt _ _ _ (h.defaultValue r.value n) fun _ =>
          h.peekIf _ _ _ (h.directives r.value n true) (h.pure _))
        h.err)
      h.err

theorem variableDefinition (n : Nat) : P (variableDefinition n) :=
  h.node _ _ <| h.bind _ _ h.variableNode fun _ =>
    h.peekIf _ _ _
      (h.bind _ _ (h.bump _) fun _ => h.peekIf _ _ _
        (h.bind _ _ (r.ty n) fun _ => h.peekOpt _ _ _ (h.defaultValue r.value n) fun _ =>
          h.peekIf _ _ _ (h.directives r.value n true) (h.pure _))
        h.err)
      h.err

theorem variableDefinitions (n : Nat) : P (variableDefinitions n) :=
  h.node _ _ <| h.bind _ _ (h.bump _) fun _ => h.bind _ _ h.peek fun _ =>
    h.alt _ _ _ _ (h.variableDefinition r n) h.err fun _ =>
      h.bind _ _ (h.peekWhileKind _ _ (h.variableDefinition r n)) fun _ => h.expect _ _

theorem argumentsDefinitionBody (n : Nat) : P (argumentsDefinitionBody n) :=
  h.bind _ _ (h.bump _) fun _ => h.itemList _ (h.inputValueDefinition r n) _ _ _ (h.expect _ _)

theorem argumentsDefinition (n : Nat) : P (argumentsDefinition n) :=
  h.node _ _ (h.argumentsDefinitionBody r n)

theorem fragmentDefinition (n : Nat) : P (fragmentDefinition n) :=
  h.node _ _ <| h.peekOpt _ _ _ h.errAndPop fun _ => h.bind _ _ (h.bump _) fun _ =>
    h.bind _ _ h.fragmentName fun _ => h.bind _ _ h.typeCondition fun _ =>
    h.peekOpt _ _ _ (h.directives r.value n false) fun _ => h.peekIf _ _ _ (r.selectionSet n) h.err

theorem operationDefinition (n : Nat) : P (operationDefinition n) :=
  h.bind _ _ h.peek fun o => by
    split
    · exact h.node _ _ <| h.bind _ _ h.operationType fun _ =>
        h.peekOpt _ _ _ h.name fun _ => h.peekOpt _ _ _ (h.variableDefinitions r n) fun _ =>
        h.peekOpt _ _ _ (h.directives r.value n false) fun _ => h.peekIf _ _ _ (r.selectionSet n) h.errAndPop
    · exact h.node _ _ (r.selectionSet n)
    · exact h.errAndPop

theorem fieldDefinition (n : Nat) : P (fieldDefinition n) :=
  h.node _ _ <| h.peekOpt _ _ _ h.description fun _ => h.bind _ _ h.name fun _ =>
    h.peekOpt _ _ _ (h.argumentsDefinition r n) fun _ =>
    h.peekIf _ _ _
      (h.bind _ _ (h.bump _) fun _ => h.peekIf _ _ _
        (h.bind _ _ (r.ty n) fun _ => h.peekOpt _ _ _ (h.directives r.value n true) fun _ =>
          h.bind _ _ h.peek fun _ => h.pure _)
        h.err)
      h.err

theorem fieldsDefinition (n : Nat) : P (fieldsDefinition n) :=
  h.node _ _ <| h.bind _ _ (h.bump _) fun _ =>
    h.itemList _ (h.fieldDefinition r n) _ _ _ (h.expect _ _)

theorem schemaDefinition (n : Nat) : P (schemaDefinition n) :=
  h.node _ _ <| h.peekOpt _ _ _ h.description fun _ =>
    h.bind _ _ h.peekData fun _ => h.opt _ _ () _ (h.bump _) fun _ =>
    h.peekOpt _ _ _ (h.directives r.value n true) fun _ =>
    h.peekIf _ _ _ (h.rootOperationTypes _ fun _ => h.expect _ _) h.err

theorem schemaExtension (n : Nat) : P (schemaExtension n) := by
  refine h.node _ _ <| h.bind _ _ (h.bump _) fun _ => h.bind _ _ (h.bump _) fun _ => ?_
  extract_lets
  exact h.peekOptFlag _ _ _ _ _ (h.directives r.value n true) fun _ _ =>
    h.peekIf _ _ _ (h.rootOperationTypes _ fun _ => h.bind _ _ (h.expect _ _) fun _ => h.meetsEnd _) (h.meetsEnd _)

theorem scalarTypeDefinition (n : Nat) : P (scalarTypeDefinition n) :=
  h.node _ _ <| h.peekOpt _ _ _ h.description fun _ =>
    h.bind _ _ h.peekData fun _ => h.opt _ _ () _ (h.bump _) fun _ =>
    h.bind _ _ h.nameOrErr fun _ => h.peekIf _ _ _ (h.directives r.value n true) (h.pure _)

theorem scalarTypeExtension (n : Nat) : P (scalarTypeExtension n) :=
  h.node _ _ <| h.bind _ _ (h.bump _) fun _ => h.bind _ _ (h.bump _) fun _ =>
    h.bind _ _ h.nameOrErr fun _ => h.peekIf _ _ _ (h.directives r.value n true) h.err

theorem objectTypeDefinition (n : Nat) : P (objectTypeDefinition n) :=
  h.node _ _ <| h.peekOpt _ _ _ h.description fun _ =>
    h.bind _ _ h.peekData fun _ => h.opt _ _ () _ (h.bump _) fun _ =>
    h.bind _ _ h.nameOrErr fun _ => h.bind _ _ h.peekToken fun o => by
      have rest : ∀ u : Unit, P (Parse.peek >>= fun x => if (x == some Kind.at) = true
          then Parse.directives n true >>= fun u => (fun _ => Parse.peek >>= fun x =>
            if (x == some Kind.lCurly) = true then Parse.fieldsDefinition n else Pure.pure ()) u
          else (fun _ => Parse.peek >>= fun x =>
            if (x == some Kind.lCurly) = true then Parse.fieldsDefinition n else Pure.pure ()) ()) := fun _ =>
        h.peekOpt _ _ _ (h.directives r.value n true) fun _ => h.peekIf _ _ _ (h.fieldsDefinition r n) (h.pure _)
      cases o with
      | none => exact rest ()
      | some t => exact h.opt _ _ () _ h.implementsInterfaces rest

theorem objectTypeExtension (n : Nat) : P (objectTypeExtension n) := by
  refine h.node _ _ <| h.bind _ _ (h.bump _) fun _ => h.bind _ _ (h.bump _) fun _ =>
    h.bind _ _ h.nameOrErr fun _ => h.bind _ _ h.peekData fun _ => ?_
  extract_lets
  exact h.optFlag _ _ () _ _ _ h.implementsInterfaces fun _ _ =>
    h.peekOptFlag _ _ _ _ _ (h.directives r.value n true) fun _ _ =>
    h.peekOptFlag _ _ _ _ _ (h.fieldsDefinition r n) fun _ _ => h.meetsEnd _

theorem interfaceTypeDefinition (n : Nat) : P (interfaceTypeDefinition n) :=
  h.node _ _ <| h.peekOpt _ _ _ h.description fun _ =>
    h.bind _ _ h.peekData fun _ => h.opt _ _ () _ (h.bump _) fun _ =>
    h.bind _ _ h.nameOrErr fun _ =>
    h.bind _ _ h.peekData fun _ => h.opt _ _ () _ h.implementsInterfaces fun _ =>
    h.peekOpt _ _ _ (h.directives r.value n true) fun _ => h.peekIf _ _ _ (h.fieldsDefinition r n) (h.pure _)

theorem interfaceTypeExtension (n : Nat) : P (interfaceTypeExtension n) := by
  refine h.node _ _ <| h.bind _ _ (h.bump _) fun _ => h.bind _ _ (h.bump _) fun _ =>
    h.bind _ _ h.nameOrErr fun _ => h.bind _ _ h.peekData fun _ => ?_
  extract_lets
  exact h.optFlag _ _ () _ _ _ h.implementsInterfaces fun _ _ =>
    h.peekOptFlag _ _ _ _ _ (h.directives r.value n true) fun _ _ =>
    h.peekOptFlag _ _ _ _ _ (h.fieldsDefinition r n) fun _ _ => h.meetsEnd _

theorem unionTypeDefinition (n : Nat) : P (unionTypeDefinition n) :=
  h.node _ _ <| h.peekOpt _ _ _ h.description fun _ =>
    h.bind _ _ h.peekData fun _ => h.opt _ _ () _ (h.bump _) fun _ =>
    h.bind _ _ h.nameOrErr fun _ =>
    h.peekOpt _ _ _ (h.directives r.value n true) fun _ => h.peekIf _ _ _ h.unionMemberTypes (h.pure _)

theorem unionTypeExtension (n : Nat) : P (unionTypeExtension n) := by
  refine h.node _ _ <| h.bind _ _ (h.bump _) fun _ => h.bind _ _ (h.bump _) fun _ => h.bind _ _ h.nameOrErr fun _ => ?_
  extract_lets
  exact h.peekOptFlag _ _ _ _ _ (h.directives r.value n true) fun _ _ =>
    h.peekOptFlag _ _ _ _ _ h.unionMemberTypes fun _ _ => h.meetsEnd _

theorem enumValueDefinition (n : Nat) : P (enumValueDefinition n) :=
  h.peekIf _ _ _
    (h.node _ _ <| h.peekOpt _ _ _ h.description fun _ => h.bind _ _ h.enumValue fun _ =>
      h.peekIf _ _ _ (h.directives r.value n true) (h.pure _))
    (h.pure _)

theorem enumValuesDefinition (n : Nat) : P (enumValuesDefinition n) :=
  h.node _ _ <| h.bind _ _ (h.bump _) fun _ =>
    h.itemList _ (h.enumValueDefinition r n) _ _ _ (h.expect _ _)

theorem enumTypeDefinition (n : Nat) : P (enumTypeDefinition n) :=
  h.node _ _ <| h.peekOpt _ _ _ h.description fun _ =>
    h.bind _ _ h.peekData fun _ => h.opt _ _ () _ (h.bump _) fun _ =>
    h.bind _ _ h.nameOrErr fun _ =>
    h.peekOpt _ _ _ (h.directives r.value n true) fun _ => h.peekIf _ _ _ (h.enumValuesDefinition r n) (h.pure _)

theorem enumTypeExtension (n : Nat) : P (enumTypeExtension n) := by
  refine h.node _ _ <| h.bind _ _ (h.bump _) fun _ => h.bind _ _ (h.bump _) fun _ => h.bind _ _ h.nameOrErr fun _ => ?_
  extract_lets
  exact h.peekOptFlag _ _ _ _ _ (h.directives r.value n true) fun _ _ =>
    h.peekOptFlag _ _ _ _ _ (h.enumValuesDefinition r n) fun _ _ => h.meetsEnd _

theorem inputFieldsDefinition (n : Nat) : P (inputFieldsDefinition n) :=
  h.node _ _ <| h.bind _ _ (h.bump _) fun _ =>
    h.itemList _ (h.inputValueDefinition r n) _ _ _ (h.expect _ _)

theorem inputObjectTypeDefinition (n : Nat) : P (inputObjectTypeDefinition n) :=
  h.node _ _ <| h.peekOpt _ _ _ h.description fun _ =>
    h.bind _ _ h.peekData fun _ => h.opt _ _ () _ (h.bump _) fun _ =>
    h.bind _ _ h.nameOrErr fun _ =>
    h.peekOpt _ _ _ (h.directives r.value n true) fun _ => h.peekIf _ _ _ (h.inputFieldsDefinition r n) (h.pure _)

theorem inputObjectTypeExtension (n : Nat) : P (inputObjectTypeExtension n) := by
  refine h.node _ _ <| h.bind _ _ (h.bump _) fun _ => h.bind _ _ (h.bump _) fun _ => h.bind _ _ h.nameOrErr fun _ => ?_
  extract_lets
  exact h.peekOptFlag _ _ _ _ _ (h.directives r.value n true) fun _ _ =>
    h.peekOptFlag _ _ _ _ _ (h.inputFieldsDefinition r n) fun _ _ => h.meetsEnd _

theorem directiveDefinition (n : Nat) : P (directiveDefinition n) :=
  h.node _ _ <| h.peekOpt _ _ _ h.description fun _ =>
    h.bind _ _ h.peekData fun _ => h.opt _ _ () _ (h.bump _) fun _ =>
    h.bind _ _ h.peek fun _ => h.alt _ _ _ _ (h.bump _) h.err fun _ =>
    h.bind _ _ h.name fun _ =>
    h.peekOpt _ _ _ (h.node _ _ (h.argumentsDefinitionBody r n)) fun _ =>
    h.bind _ _ h.peekData fun _ => h.opt _ _ () _ (h.bump _) fun _ =>
    h.bind _ _ h.peekData fun o => by
      have locations : ∀ u : Unit, P (Parse.peek >>= fun k => if (k == some Kind.name || k == some Kind.pipe) = true
          then Parse.withNode "DIRECTIVE_LOCATIONS" Parse.directiveLocations else Parse.err) := fun _ =>
        h.peekIf _ _ _ (h.node _ _ h.directiveLocations) h.err
      cases o with
      | none => exact locations ()
      | some d => exact h.alt _ _ _ _ (h.bump _) h.err locations

theorem extensions (n : Nat) : P (extensions n) :=
  h.bind _ _ (h.peekDataN 2) fun _ =>
    branch _ _ _ (h.schemaExtension r n) <| branch _ _ _ (h.scalarTypeExtension r n) <|
    branch _ _ _ (h.objectTypeExtension r n) <| branch _ _ _ (h.interfaceTypeExtension r n) <|
    branch _ _ _ (h.unionTypeExtension r n) <| branch _ _ _ (h.enumTypeExtension r n) <|
    branch _ _ _ (h.inputObjectTypeExtension r n) h.errAndPop

theorem selectDefinition (n : Nat) (d : Str) : P (selectDefinition n d) :=
  branch _ _ _ (h.directiveDefinition r n) <| branch _ _ _ (h.enumTypeDefinition r n) <|
  branch _ _ _ (h.extensions r n) <| branch _ _ _ (h.fragmentDefinition r n) <|
  branch _ _ _ (h.inputObjectTypeDefinition r n) <| branch _ _ _ (h.interfaceTypeDefinition r n) <|
  branch _ _ _ (h.objectTypeDefinition r n) <| branch _ _ _ (h.operationDefinition r n) <|
  branch _ _ _ (h.scalarTypeDefinition r n) <| branch _ _ _ (h.schemaDefinition r n) <|
  branch _ _ _ (h.unionTypeDefinition r n) h.errAndPop

theorem documentDispatch (n : Nat) (kind : Kind) : P (documentDispatch n kind) := by
  have sel : ∀ o : Option Str, P (match o with | some d => Parse.selectDefinition n d | none => Parse.errAndPop) := by
    intro o
    cases o with
    | none => exact h.errAndPop
    | some d => exact h.selectDefinition r n d
  exact branch _ _ _ (h.bind _ _ (h.peekDataN 2) sel) (branch _ _ _ (h.bind _ _ h.peekData sel) h.errAndPop)

theorem documentStep (n : Nat) (kind : Kind) : P (documentStep n kind) :=
  branch _ _ _ (h.bind _ _ h.assertRecZero fun _ => h.pure _)
    (h.bind _ _ h.assertRecZero fun _ => h.bind _ _ (h.documentDispatch r n kind) fun _ => h.pure _)

theorem documentBody (n : Nat) : P (documentBody n) :=
  h.bind _ _ h.peek fun _ => h.bind _ _ (branch _ _ _ h.err (h.pure _)) fun _ =>
    h.bind _ _ (h.peekWhile _ (h.documentStep r n)) fun _ => h.pushIgnored

theorem document (n : Nat) : P (document n) := h.node _ _ (h.documentBody r n)

end definitions

end GrammarCalc

/-- A calculus that also has a rule for the recursion guard with the two limit branches the grammar uses, for nodes
    of every kind and for `wrapIf`; then it holds of the recursive families too. -/
structure GuardCalc (P : ∀ {α : Type}, PI α → Prop) : Prop extends TokenCalc @P where
  withNodeAny : ∀ {α : Type} (kind : SK) (body : PI α), P skipIgnored → P body → P (Parse.withNode kind body)
  guard : ∀ {α : Type} (a : α) (body : PI α), P body → P (withRec (limitErr >>= fun _ => Pure.pure a) body)
  guardUnit : ∀ (body : PI Unit), P body → P (withRec limitErr body)
  wrapIf : ∀ {α : Type} (kind : SK) (body : PI α) (cond : α → PI Bool) (inner : PI Unit),
    P body → (∀ a, P (cond a)) → P inner → P (wrapIf kind body cond inner)
  popDrop : P popDrop

namespace GuardCalc
open TokenCalc (branch)
variable {P : ∀ {α : Type}, PI α → Prop} (g : GuardCalc @P)
include g

theorem anyNode {α : Type} (kind : SK) (body : PI α) (hb : P body) : P (Parse.withNode kind body) :=
  g.withNodeAny kind body g.skipIgnored hb

theorem grammar : GrammarCalc @P where
  toTokenCalc := g.toTokenCalc
  withNode := fun kind body _ => g.withNodeAny kind body
  name := g.bind _ _ g.peekToken fun o => by
    cases o with
    | none => exact g.err
    | some t => exact branch _ _ _ (g.anyNode _ _ (g.bump _)) g.err

/-! ### value.rs -/

theorem listValue_succ (n : Nat) (c : Bool) (hv : P (Parse.value n c true)) : P (listValue (n + 1) c) := by
  rw [listValue]
  exact g.anyNode _ _ <| g.bind _ _ (g.bump _) fun _ => g.peekWhile _ fun _ =>
    branch _ _ _ (g.bind _ _ (g.bump _) fun _ => g.pure _) <| branch _ _ _ (g.pure _) <|
    g.guard _ _ (g.bind _ _ hv fun _ => g.pure _)

theorem objectField_succ (n : Nat) (c : Bool) (hv : P (Parse.value n c true)) : P (objectField (n + 1) c) := by
  rw [objectField]
  exact g.anyNode _ _ <| g.bind _ _ g.grammar.name fun _ =>
    g.peekIf _ _ _ (g.bind _ _ (g.bump _) fun _ => g.guardUnit _ hv) g.err

theorem value (n : Nat) (c p : Bool) : P (value n c p) :=
  (g.grammar.values g.listValue_succ g.objectField_succ n).1 c p

/-! ### ty.rs -/

theorem tyParse : ∀ n, P (tyParse n)
  | 0 => by rw [Parse.tyParse]; exact g.outOfFuel
  | n + 1 => by
    have ih := tyParse n
    have close : P (Parse.expect Kind.rBracket "R_BRACK" >>= fun _ => (Pure.pure TyRes.ok : PI TyRes)) :=
      g.bind _ _ (g.expect _ _) fun _ => g.pure _
    rw [Parse.tyParse]
    refine g.bind _ _ (g.wrapIf _ _ _ _ (g.bind _ _ g.peek fun o => ?_) (fun r => ?_) (g.eat _)) fun r => ?_
    · split
      · refine g.anyNode _ _ <| g.bind _ _ (g.bump _) fun _ =>
          g.bind _ _ (g.guard _ _ (g.bind _ _ ih fun _ => g.pure _)) fun inner => ?_
        cases inner with
        | none => exact g.pure _
        | some res => cases res <;> first | exact close | exact g.bind _ _ (g.errAtToken _) fun _ => close
      · exact g.anyNode _ _ (g.anyNode _ _ (g.bind _ _ (g.eat _) fun _ => g.pure _))
      · exact g.bind _ _ g.popDrop fun t => by cases t <;> exact g.pure _
      · exact g.pure _
    · cases r <;> first
        | exact g.pure _
        | exact g.bind _ _ g.skipIgnored fun _ => g.bind _ _ g.peek fun _ => g.pure _
    · cases r <;> first
        | exact g.pure _
        | exact g.bind _ _ g.skipIgnored fun _ => g.pure _

theorem ty (n : Nat) : P (ty n) :=
  g.bind _ _ (g.tyParse n) fun r => by cases r <;> first | exact g.pure _ | exact g.err | exact g.errAtToken _

/-! ### selection.rs -/

theorem selectionSet_succ (n : Nat) (hs : P (selection n)) : P (selectionSet (n + 1)) := by
  rw [Parse.selectionSet]
  exact g.peekIf _ _ _ (g.anyNode _ _ <| g.bind _ _ (g.bump _) fun _ =>
    g.bind _ _ (g.guard _ _ (g.bind _ _ hs fun _ => g.pure _)) fun _ => branch _ _ _ (g.expect _ _) (g.pure _)) (g.pure _)

theorem selections (n : Nat) : P (Parse.selectionSet n) ∧ P (selection n) ∧ P (field n) ∧ P (inlineFragment n) :=
  g.grammar.selections g.value g.selectionSet_succ n

theorem selectionSet (n : Nat) : P (selectionSet n) := (g.selections n).1

theorem fieldSet (n : Nat) : P (fieldSet n) :=
  g.peekIf _ _ _ (g.selectionSet n) (g.anyNode _ _ (g.guardUnit _ (g.selections n).2.1))

theorem families : GrammarRec @P := ⟨g.value, g.ty, g.selectionSet⟩

/-- the three entry points of `Parser::parse*` -/
theorem entry (e : Entry) (n : Nat) : P (e.grammar n) := by
  cases e with
  | document => exact g.grammar.document g.families n
  | selectionSet => exact g.bind _ _ (g.fieldSet n) fun _ => g.expectEndOfInput
  | type => exact g.bind _ _ (g.ty n) fun _ => g.expectEndOfInput

end GuardCalc
end Apollo.Parse
