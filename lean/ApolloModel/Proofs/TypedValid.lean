import ApolloModel.Proofs.Standalone
/-
Property C18, second sentence, on the validation model of Model/Standalone.lean: what a with-schema run that reports
nothing guarantees.  The quiet walk over a tree is followed once (`Quiet`); from it come the shape of the selection
tree of every operation (`treeOk`) and the bookkeeping of `validated_fragments` (`WalkOk`): every fragment that an
operation reaches through spreads is ENTERED by that operation's walk (`validate_fragment_definition` is run for it
with that operation's variables), and — with the unused-fragment rule — every fragment of a valid document is
entered by some operation's walk.
-/
namespace Apollo.Standalone

/-- every field resolves on its parent type, composite fields have a sub-selection, leaf fields have none,
    every spread names a fragment of the document -/
def treeOk (sc : Schema) (doc : BuiltDoc) : Name → Sels → Bool
  | _, .nil => true
  | parent, .field name _ _ sub rest =>
    (match sc.field parent name with
     | some fd =>
       !(sub.isNil && sc.kind fd.ty == some .composite) && !(!sub.isNil && sc.kind fd.ty == some .leaf) &&
         treeOk sc doc fd.ty sub
     | none => false) && treeOk sc doc parent rest
  | parent, .spread f _ rest => (doc.findFrag f).isSome && treeOk sc doc parent rest
  | parent, .inline tc _ sub rest => treeOk sc doc (tc.getD parent) sub && treeOk sc doc parent rest

/-- names of the fragment spreads written in a selection tree (through fields and inline fragments) -/
def allSpreads : Sels → List Name
  | .nil => []
  | .field _ _ _ sub rest => allSpreads sub ++ allSpreads rest
  | .spread f _ rest => f :: allSpreads rest
  | .inline _ _ sub rest => allSpreads sub ++ allSpreads rest

/-- `validate_fragment_definition` ran on `d` and reported nothing -/
def Entered (p : Params) (sc : Schema) (doc : BuiltDoc) (d : Frag) : Prop :=
  ∃ n W W', enterFrag p (some sc) doc n d W = ([], W')

/-- `g` names a defined fragment that was entered, and everything its body spreads is marked in `W` -/
def Done (p : Params) (sc : Schema) (doc : BuiltDoc) (W : List Name) (g : Name) : Prop :=
  ∃ d, doc.findFrag g = some d ∧ Entered p sc doc d ∧ ∀ h ∈ allSpreads d.sels, h ∈ W

theorem Done.mono {p : Params} {sc : Schema} {doc : BuiltDoc} {W W' : List Name} {g : Name}
    (h : Done p sc doc W g) (hs : ∀ x ∈ W, x ∈ W') : Done p sc doc W' g := by
  obtain ⟨d, h1, h2, h3⟩ := h
  exact ⟨d, h1, h2, fun x hx => hs x (h3 x hx)⟩

/-- what a quiet walk from `V` to `V'` over `t` achieves -/
structure WalkOk (p : Params) (sc : Schema) (doc : BuiltDoc) (t : Sels) (V V' : List Name) : Prop where
  mono : ∀ x ∈ V, x ∈ V'
  spreads : ∀ g ∈ allSpreads t, g ∈ V'
  fresh : ∀ g ∈ V', g ∈ V ∨ Done p sc doc V' g

/-- the same for the handler of a fragment definition -/
def HandlerOk (p : Params) (sc : Schema) (doc : BuiltDoc) (e : Frag → List Name → List Diag × List Name) : Prop :=
  ∀ d W W', e d W = ([], W') → typed sc d.tc d.sels = true →
    Entered p sc doc d ∧ WalkOk p sc doc d.sels W W'

theorem WalkOk.trans {p : Params} {sc : Schema} {doc : BuiltDoc} {a b : Sels} {V V1 V2 : List Name}
    (h1 : WalkOk p sc doc a V V1) (h2 : WalkOk p sc doc b V1 V2) :
    (∀ x ∈ V, x ∈ V2) ∧ (∀ g ∈ allSpreads a ++ allSpreads b, g ∈ V2) ∧ (∀ g ∈ V2, g ∈ V ∨ Done p sc doc V2 g) := by
  refine ⟨fun x hx => h2.mono x (h1.mono x hx), fun g hg => ?_, fun g hg => ?_⟩
  · exact (List.mem_append.mp hg).elim (fun hg => h2.mono g (h1.spreads g hg)) (h2.spreads g)
  · rcases h2.fresh g hg with h | h
    · exact (h1.fresh g h).imp_right (·.mono h2.mono)
    · exact .inr h

/-- fragment bodies of the document are typed under their type condition (what `from_ast` guarantees) -/
def FragsTyped (sc : Schema) (doc : BuiltDoc) : Prop := ∀ f, f ∈ doc.frags → typed sc f.tc f.sels = true

/-! ### the walk that reports nothing -/

/-- The run of a walk that reports nothing over a tree that `from_ast` keeps whole: the checks that passed at each
    node, and how `validated_fragments` moved (`e` = the handler of a fragment definition). -/
inductive Quiet (sc : Schema) (doc : BuiltDoc) (e : Frag → List Name → List Diag × List Name) :
    Name → Sels → List Name → List Name → Prop where
  | nil (ty : Name) (V : List Name) : Quiet sc doc e ty .nil V V
  | field {ty name : Name} {dirs : List Dir} {args : List Arg} {sub rest : Sels} {fd : FieldDef} {V V1 V' : List Name} :
      sc.field ty name = some fd → (sub.isNil && sc.kind fd.ty == some .composite) = false →
      (!sub.isNil && sc.kind fd.ty == some .leaf) = false →
      Quiet sc doc e fd.ty sub V V1 → Quiet sc doc e ty rest V1 V' → Quiet sc doc e ty (.field name dirs args sub rest) V V'
  | seen {ty f : Name} {dirs : List Dir} {rest : Sels} {d : Frag} {V V' : List Name} :
      doc.findFrag f = some d → f ∈ V → Quiet sc doc e ty rest V V' → Quiet sc doc e ty (.spread f dirs rest) V V'
  | enter {ty f : Name} {dirs : List Dir} {rest : Sels} {d : Frag} {V V1 V' : List Name} :
      doc.findFrag f = some d → ¬ f ∈ V → e d (f :: V) = ([], V1) → Quiet sc doc e ty rest V1 V' →
      Quiet sc doc e ty (.spread f dirs rest) V V'
  | inline {ty : Name} {tc : Option Name} {dirs : List Dir} {sub rest : Sels} {V V1 V' : List Name} :
      Quiet sc doc e (tc.getD ty) sub V V1 → Quiet sc doc e ty rest V1 V' → Quiet sc doc e ty (.inline tc dirs sub rest) V V'

theorem walkSels_quiet {p : Params} {sc : Schema} {doc : BuiltDoc} {e : Frag → List Name → List Diag × List Name}
    (t : Sels) : ∀ {ty : Name} {V V' : List Name}, typed sc ty t = true →
      walkSels p (some sc) doc e (some ty) t V = ([], V') → Quiet sc doc e ty t V V' := by
  induction t with
  | nil =>
    intro ty V V' _ h
    simp only [walkSels, Prod.mk.injEq, true_and] at h
    subst h
    exact .nil ty V
  | field name dirs args sub rest ihs ihr =>
    intro ty V V' ht h
    simp only [typed, Bool.and_eq_true] at ht
    obtain ⟨htf, htr⟩ := ht
    cases hf : sc.field ty name with
    | none => simp [hf] at htf
    | some fd =>
      simp only [hf, Bool.and_eq_true, Bool.not_eq_true'] at htf
      simp only [walkSels, hf] at h
      by_cases hm : (sub.isNil && sc.kind fd.ty == some Kind.composite) = true
      · simp [hm] at h
      · simp only [hm, Bool.false_eq_true, ↓reduceIte, Prod.mk.injEq, List.append_eq_nil_iff] at h
        obtain ⟨⟨⟨_, _, h3⟩, h4⟩, hV⟩ := h
        exact .field hf (Bool.not_eq_true _ ▸ hm) htf.1 (ihs htf.2 (Prod.ext h3 rfl)) (ihr htr (Prod.ext h4 hV))
  | spread f dirs rest ihr =>
    intro ty V V' ht h
    simp only [typed] at ht
    simp only [walkSels] at h
    cases hf : doc.findFrag f with
    | none => simp [hf] at h
    | some d =>
      simp only [hf] at h
      by_cases hv : f ∈ V
      · simp only [hv, ↓reduceIte, Prod.mk.injEq, List.append_eq_nil_iff, List.append_nil] at h
        exact .seen hf hv (ihr ht (Prod.ext h.1.2 h.2))
      · simp only [hv, ↓reduceIte, Prod.mk.injEq, List.append_eq_nil_iff] at h
        exact .enter hf hv (Prod.ext h.1.1.2 rfl) (ihr ht (Prod.ext h.1.2 h.2))
  | inline tc dirs sub rest ihs ihr =>
    intro ty V V' ht h
    simp only [typed, Bool.and_eq_true] at ht
    obtain ⟨hts, htr⟩ := ht
    cases tc with
    | none =>
      simp only [walkSels, List.isEmpty_nil, ↓reduceIte, List.append_nil, Prod.mk.injEq, List.append_eq_nil_iff] at h
      exact .inline (ihs hts (Prod.ext h.1.1.2 rfl)) (ihr htr (Prod.ext h.1.2 h.2))
    | some t =>
      simp only [Bool.and_eq_true] at hts
      simp only [walkSels] at h
      by_cases hk : (sc.kind t == some Kind.composite) = true
      · simp only [hk, ↓reduceIte, List.isEmpty_nil, List.append_nil, Prod.mk.injEq, List.append_eq_nil_iff] at h
        exact .inline (ihs hts.2 (Prod.ext h.1.1.2 rfl)) (ihr htr (Prod.ext h.1.2 h.2))
      · simp [hk] at h

theorem Quiet.treeOk {sc : Schema} {doc : BuiltDoc} {e : Frag → List Name → List Diag × List Name} {ty : Name} {t : Sels}
    {V V' : List Name} (h : Quiet sc doc e ty t V V') : treeOk sc doc ty t = true := by
  induction h with
  | nil => rfl
  | field hf hm hl _ _ ihs ihr => simp [Standalone.treeOk, hf, hm, hl, ihs, ihr]
  | seen hf _ _ ihr => simp [Standalone.treeOk, hf, ihr]
  | enter hf _ _ _ ihr => simp [Standalone.treeOk, hf, ihr]
  | inline _ _ ihs ihr => simp [Standalone.treeOk, ihs, ihr]

/-- A spread seen before only has to be marked already; one entered now is `Done` at the end: its body's spreads were
    marked by the handler, and marks are never taken back. -/
theorem Quiet.walkOk {p : Params} {sc : Schema} {doc : BuiltDoc} {e : Frag → List Name → List Diag × List Name}
    (hft : FragsTyped sc doc) (he : HandlerOk p sc doc e) {ty : Name} {t : Sels} {V V' : List Name}
    (h : Quiet sc doc e ty t V V') : WalkOk p sc doc t V V' := by
  induction h with
  | nil ty V => exact ⟨fun _ h => h, fun _ h => (nomatch h), fun _ h => .inl h⟩
  | field _ _ _ _ _ ihs ihr => exact have ⟨m, s, f⟩ := ihs.trans ihr; ⟨m, s, f⟩
  | inline _ _ ihs ihr => exact have ⟨m, s, f⟩ := ihs.trans ihr; ⟨m, s, f⟩
  | seen _ hv _ ihr =>
    refine ⟨ihr.mono, fun g hg => ?_, ihr.fresh⟩
    rcases List.mem_cons.mp hg with rfl | hg
    · exact ihr.mono _ hv
    · exact ihr.spreads g hg
  | enter hf _ h2 _ ihr =>
    obtain ⟨hent, e2⟩ := he _ _ _ h2 (hft _ (List.mem_of_find?_eq_some hf))
    obtain ⟨m, s, fr⟩ := e2.trans ihr
    refine ⟨fun x hx => m x (.tail _ hx), fun g hg => ?_, fun g hg => ?_⟩
    · rcases List.mem_cons.mp hg with rfl | hg
      · exact m _ (.head _)
      · exact s g (List.mem_append_right _ hg)
    · rcases fr g hg with hg | hg
      · rcases List.mem_cons.mp hg with rfl | hg
        · exact .inr ⟨_, hf, hent, fun x hx => s x (List.mem_append_left _ hx)⟩
        · exact .inl hg
      · exact .inr hg

theorem walkSels_walkOk (p : Params) (sc : Schema) (doc : BuiltDoc) (hft : FragsTyped sc doc)
    (e : Frag → List Name → List Diag × List Name) (he : HandlerOk p sc doc e) (t : Sels) :
    ∀ (ty : Name) (V V' : List Name), typed sc ty t = true →
      walkSels p (some sc) doc e (some ty) t V = ([], V') → WalkOk p sc doc t V V' :=
  fun _ _ _ ht h => (walkSels_quiet t ht h).walkOk hft he

/-! ### a fragment definition that validation entered -/

theorem enterFrag_quiet {p : Params} {sc : Schema} {doc : BuiltDoc} {n : Nat} {f : Frag} {V V' : List Name}
    (h : enterFrag p (some sc) doc (n + 1) f V = ([], V')) :
    sc.kind f.tc = some .composite ∧ ¬ f.name ∈ reach doc f.sels ∧
      walkSels p (some sc) doc (enterFrag p (some sc) doc n) (some f.tc) f.sels V = ([], V') := by
  simp only [enterFrag] at h
  by_cases hc : (sc.kind f.tc == some Kind.composite) = true
  · by_cases hy : f.name ∈ reach doc f.sels
    · simp [hc, hy] at h
    · simp only [hc, hy, ↓reduceIte, List.isEmpty_nil, Bool.and_self, Prod.mk.injEq, List.append_eq_nil_iff] at h
      have hk : sc.kind f.tc = some .composite := by simpa using hc
      have hty : fragTy (some sc) f = some f.tc := by simp [fragTy, hk]
      rw [hty] at h
      exact ⟨hk, hy, Prod.ext h.1.2 h.2⟩
  · simp [hc] at h

theorem enterFrag_treeOk (p : Params) (sc : Schema) (doc : BuiltDoc) (n : Nat) (f : Frag) (V V' : List Name)
    (ht : typed sc f.tc f.sels = true) (h : enterFrag p (some sc) doc n f V = ([], V')) :
    sc.kind f.tc = some .composite ∧ ¬ f.name ∈ reach doc f.sels ∧ treeOk sc doc f.tc f.sels = true := by
  cases n with
  | zero => simp [enterFrag] at h
  | succ n =>
    obtain ⟨hk, hy, hw⟩ := enterFrag_quiet h
    exact ⟨hk, hy, (walkSels_quiet _ ht hw).treeOk⟩

theorem enterFrag_handlerOk (p : Params) (sc : Schema) (doc : BuiltDoc) (hft : FragsTyped sc doc) (n : Nat) :
    HandlerOk p sc doc (enterFrag p (some sc) doc n) := by
  induction n with
  | zero => intro d W W' h _; simp [enterFrag] at h
  | succ n ih => exact fun d W W' h ht => ⟨⟨n + 1, W, W', h⟩, (walkSels_quiet _ ht (enterFrag_quiet h).2.2).walkOk hft ih⟩

/-! ### `reach` stays inside a closed set of marked fragments -/

theorem reachSels_sub (W : List Name) (enter : Name → List Name → List Name)
    (henter : ∀ f seen, f ∈ W → (∀ x ∈ seen, x ∈ W) → ∀ x ∈ enter f seen, x ∈ W) (t : Sels) :
    ∀ seen, (∀ x ∈ seen, x ∈ W) → (∀ g ∈ allSpreads t, g ∈ W) → ∀ x ∈ reachSels enter t seen, x ∈ W := by
  have both : ∀ {sub rest : Sels}, (∀ g ∈ allSpreads sub ++ allSpreads rest, g ∈ W) →
      (∀ g ∈ allSpreads sub, g ∈ W) ∧ (∀ g ∈ allSpreads rest, g ∈ W) :=
    fun ht => ⟨fun g hg => ht g (List.mem_append_left _ hg), fun g hg => ht g (List.mem_append_right _ hg)⟩
  induction t with
  | nil => exact fun seen hs _ => hs
  | field name dirs args sub rest ihs ihr => exact fun seen hs ht => ihr _ (ihs seen hs (both ht).1) (both ht).2
  | inline tc dirs sub rest ihs ihr => exact fun seen hs ht => ihr _ (ihs seen hs (both ht).1) (both ht).2
  | spread f dirs rest ihr =>
    intro seen hs ht
    have hf : f ∈ W := ht f (.head _)
    refine ihr _ (fun y hy => ?_) (fun g hg => ht g (.tail _ hg))
    split at hy
    · exact hs y hy
    · exact henter f (f :: seen) hf (fun z hz => (List.mem_cons.mp hz).elim (· ▸ hf) (hs z)) y hy

theorem reachFrag_sub (doc : BuiltDoc) (W : List Name)
    (hclosed : ∀ g ∈ W, ∀ d, doc.findFrag g = some d → ∀ h ∈ allSpreads d.sels, h ∈ W) (n : Nat) :
    ∀ f seen, f ∈ W → (∀ x ∈ seen, x ∈ W) → ∀ x ∈ reachFrag doc n f seen, x ∈ W := by
  induction n with
  | zero => exact fun f seen _ hs => hs
  | succ n ih =>
    intro f seen hf hs x hx
    simp only [reachFrag] at hx
    cases hd : doc.findFrag f with
    | none => rw [hd] at hx; exact hs x hx
    | some d =>
      rw [hd] at hx
      exact reachSels_sub W _ ih d.sels seen hs (hclosed f hf d hd) x hx

theorem reach_sub_walk (p : Params) (sc : Schema) (doc : BuiltDoc) (t : Sels) (V' : List Name)
    (h : WalkOk p sc doc t [] V') : ∀ x ∈ reach doc t, x ∈ V' := by
  have hclosed : ∀ g ∈ V', ∀ d, doc.findFrag g = some d → ∀ h ∈ allSpreads d.sels, h ∈ V' := by
    intro g hg d hd x hx
    rcases h.fresh g hg with hn | ⟨d', hd', _, hsp⟩
    · cases hn
    · rw [hd] at hd'; cases hd'; exact hsp x hx
  exact reachSels_sub V' _ (reachFrag_sub doc V' hclosed _) t [] (fun _ h => (nomatch h)) h.spreads

/-! ### fragment names of a built document are distinct -/

theorem buildDef_frags_distinct (s : Option Schema) (st : BuildState) (x : Def)
    (h : st.doc.frags.Pairwise (fun a b => a.name ≠ b.name)) :
    (buildDef s st x).doc.frags.Pairwise (fun a b => a.name ≠ b.name) := by
  cases x with
  | typeSystem => simpa [buildDef] using h
  | op o =>
    simp only [buildDef]
    repeat' split
    all_goals exact h
  | frag f =>
    simp only [buildDef]
    split
    · exact h
    · next hany =>
      have hnew : ∀ (f' : Frag), f'.name = f.name →
          (st.doc.frags ++ [f']).Pairwise (fun a b => a.name ≠ b.name) := by
        intro f' hf'
        rw [List.pairwise_append]
        refine ⟨h, List.pairwise_singleton _ _, ?_⟩
        intro a ha b hb
        simp only [List.mem_singleton] at hb
        subst hb
        intro hne
        apply hany
        simp only [List.any_eq_true, beq_iff_eq]
        exact ⟨a, ha, by rw [hne, hf']⟩
      cases s with
      | none => exact hnew _ rfl
      | some sc =>
        simp only
        split
        · exact h
        · exact hnew _ rfl

theorem build_frags_distinct (s : Option Schema) (ast : Ast) :
    (build s ast).doc.frags.Pairwise (fun a b => a.name ≠ b.name) :=
  List.foldlRecOn ast (buildDef s) List.Pairwise.nil fun st h x _ => buildDef_frags_distinct s st x h

theorem find_of_distinct (l : List Frag) (h : l.Pairwise (fun a b => a.name ≠ b.name)) (f : Frag) (hf : f ∈ l) :
    l.find? (fun g => g.name == f.name) = some f := by
  induction l with
  | nil => simp at hf
  | cons a r ih =>
    rw [List.pairwise_cons] at h
    simp only [List.mem_cons] at hf
    rcases hf with hf | hf
    · subst hf; simp
    · have hne : a.name ≠ f.name := h.1 f hf
      simp [hne, ih h.2 hf]

/-! ### documents that validate against a schema -/

/-- what `from_ast` guarantees, and every operation's walk is quiet; `fragmentsUsed` reports nothing -/
theorem validate_quiet {p : Params} (hp : p.undefinedDirectiveWithoutSchema = false) {sc : Schema} {ast : Ast}
    (h : validate p (some sc) ast = []) :
    DocOk p sc (build (some sc) ast).doc ∧ fragmentsUsed (build (some sc) ast).doc = [] ∧
      ∀ o, o ∈ (build (some sc) ast).doc.ops → ∃ t V', sc.root o.ty = some t ∧
        walkSels p (some sc) (build (some sc) ast).doc
          (enterFrag p (some sc) (build (some sc) ast).doc (build (some sc) ast).doc.frags.length) (some t) o.sels [] = ([], V') ∧
        Quiet sc (build (some sc) ast).doc
          (enterFrag p (some sc) (build (some sc) ast).doc (build (some sc) ast).doc.frags.length) t o.sels [] V' := by
  simp only [validate, validateBuilt, List.append_eq_nil_iff, List.flatMap_eq_nil_iff] at h
  obtain ⟨⟨hb, ⟨hops, hused⟩, _⟩, _⟩ := h
  have ok := (build_rel p sc ast (.inl hp) hb).ok
  refine ⟨ok, hused, fun o ho => ?_⟩
  obtain ⟨⟨t, hr, ht⟩, _⟩ := ok.ops o ho
  have hop := hops o ho
  simp only [validateOp, List.append_eq_nil_iff, Option.bind_some, hr] at hop
  exact ⟨t, _, hr, Prod.ext hop.2 rfl, walkSels_quiet _ ht (Prod.ext hop.2 rfl)⟩

theorem valid_ops_treeOk (p : Params) (hp : p.undefinedDirectiveWithoutSchema = false) (sc : Schema) (ast : Ast)
    (h : validate p (some sc) ast = []) :
    ∀ o, o ∈ (build (some sc) ast).doc.ops →
      ∃ t, sc.root o.ty = some t ∧ treeOk sc (build (some sc) ast).doc t o.sels = true := by
  intro o ho
  obtain ⟨t, _, hr, _, hq⟩ := (validate_quiet hp h).2.2 o ho
  exact ⟨t, hr, hq.treeOk⟩

/-- Every fragment an operation reaches through spreads is entered by THAT operation's walk
    (so its arguments and directives are checked against that operation's variable definitions). -/
theorem valid_reached_fragments_entered_per_operation (p : Params) (hp : p.undefinedDirectiveWithoutSchema = false)
    (sc : Schema) (ast : Ast) (h : validate p (some sc) ast = []) :
    ∀ o, o ∈ (build (some sc) ast).doc.ops → ∃ t V',
      sc.root o.ty = some t ∧
      walkSels p (some sc) (build (some sc) ast).doc
        (enterFrag p (some sc) (build (some sc) ast).doc (build (some sc) ast).doc.frags.length) (some t) o.sels [] = ([], V') ∧
      (∀ g ∈ reach (build (some sc) ast).doc o.sels, g ∈ V') ∧
      (∀ g ∈ V', Done p sc (build (some sc) ast).doc V' g) := by
  obtain ⟨ok, _, hops⟩ := validate_quiet hp h
  have hft : FragsTyped sc (build (some sc) ast).doc := fun f hf => (ok.frags f hf).2.1
  intro o ho
  obtain ⟨t, V', hr, hw, hq⟩ := hops o ho
  have hok := hq.walkOk hft (enterFrag_handlerOk p sc _ hft _)
  exact ⟨t, V', hr, hw, reach_sub_walk p sc _ o.sels _ hok, fun g hg => (hok.fresh g hg).resolve_left (nomatch ·)⟩

/-- **Every fragment of a valid document is entered** by the validation walk of some operation: the unused-fragment
    rule puts it in the `reach` of one, whose walk enters what it reaches. -/
theorem valid_all_fragments_entered (p : Params) (hp : p.undefinedDirectiveWithoutSchema = false) (sc : Schema)
    (ast : Ast) (h : validate p (some sc) ast = []) :
    ∀ f, f ∈ (build (some sc) ast).doc.frags → Entered p sc (build (some sc) ast).doc f := by
  intro f hf
  have hused := (validate_quiet hp h).2.1
  simp only [fragmentsUsed, List.map_eq_nil_iff, List.filter_eq_nil_iff] at hused
  have hreach : ∃ o, o ∈ (build (some sc) ast).doc.ops ∧ f.name ∈ reach (build (some sc) ast).doc o.sels := by
    simpa using hused f hf
  obtain ⟨o, ho, hfr⟩ := hreach
  obtain ⟨_, V', _, _, hin, hdone⟩ := valid_reached_fragments_entered_per_operation p hp sc ast h o ho
  obtain ⟨d, hd, hent, _⟩ := hdone f.name (hin f.name hfr)
  have hfind := find_of_distinct _ (build_frags_distinct (some sc) ast) f hf
  unfold BuiltDoc.findFrag at hd
  rw [hfind] at hd
  cases hd
  exact hent

/-- **valid_document_wellformed** (model level): in a document that validates against a schema, every operation
    AND every fragment definition: fields are defined on their parent type, composite fields have sub-selections,
    leaf fields have none, every spread names an existing fragment; fragment type conditions are composite types
    and no fragment is on a spread cycle. -/
theorem valid_document_wellformed_model (p : Params) (hp : p.undefinedDirectiveWithoutSchema = false) (sc : Schema)
    (ast : Ast) (h : validate p (some sc) ast = []) :
    (∀ o, o ∈ (build (some sc) ast).doc.ops →
      ∃ t, sc.root o.ty = some t ∧ treeOk sc (build (some sc) ast).doc t o.sels = true) ∧
    (∀ f, f ∈ (build (some sc) ast).doc.frags →
      sc.kind f.tc = some .composite ∧ ¬ f.name ∈ reach (build (some sc) ast).doc f.sels ∧
        treeOk sc (build (some sc) ast).doc f.tc f.sels = true) := by
  refine ⟨valid_ops_treeOk p hp sc ast h, fun f hf => ?_⟩
  obtain ⟨n, W, W', hent⟩ := valid_all_fragments_entered p hp sc ast h f hf
  exact enterFrag_treeOk p sc _ n f W W' (((validate_quiet hp h).1.frags f hf).2.1) hent

end Apollo.Standalone
