import ApolloModel.Proofs.ParserDef14
/-
C05, type-system definitions: the seven type-system extensions. Every extension starts with
two unconditional `bump`s; the precondition `Ext2` is what the dispatcher established by look-ahead: the
current token reads `extend` and the next significant token reads the kind keyword.
-/
set_option linter.unusedSimpArgs false
namespace Apollo.Parse
open Apollo.Rowan hiding Str
open Apollo.Lex hiding Str

def Ext2 (w1 w2 : String) (q : List Tok) : Prop :=
  ∃ t1 rest t2, q = t1 :: rest ∧ t1.data = w1.toList ∧ (sig rest).head? = some t2 ∧ t2.data = w2.toList

theorem accL_bump2 {α : Type} (w1 w2 : String) (hw1 : KwWord w1) (hw2 : KwWord w2) (sk1 sk2 : SK) (rest : PI α)
    (R : α → List Ast.Tok → Prop) (hr : Acc E0 LexQ rest R) :
    Acc E0 (fun q => LexQ q ∧ Ext2 w1 w2 q) (bump sk1 >>= fun _ => bump sk2 >>= fun _ => rest)
      (fun a x => ∃ x2, x = .name w1.toList :: .name w2.toList :: x2 ∧ R a x2) := by
  have h2 := accL_bind early_false (fun _ h => h.1) (accL_bumpKw (E := E0) w2 hw2 sk2) (fun _ => hr)
  refine ⟨good_bind _ _ (good_bump sk1) (fun _ => h2.1), ?_⟩
  intro s a s' w he ⟨hl, t1, rest0, t2, hq, hd1, hh2, hd2⟩ hrun hnd
  obtain ⟨_, s1, hr1, hr'⟩ := bind_dec (bump sk1) _ s s' a hrun
  obtain ⟨ign1, e1, hall1, set1⟩ := bump_spec sk1 s s1 w t1 rest0 hq hr1
  obtain ⟨c, r, hc1, hc2⟩ := hw1
  have hk1 : t1.kind = .name := hl.headKw (by rw [hq]; rfl) w1 c r hc1 hc2 hd1
  have hni1 : isIgnoredKind t1.kind = false := by rw [hk1]; rfl
  have hne1 : t1.kind ≠ .eof := by rw [hk1]; decide
  have hrest : rest0 = ign1 ++ Toks s1 := by
    have := e1.toks; rw [hq] at this; simpa using this
  have hl1 : LexQ (Toks s1) := by
    have := hl; rw [e1.toks] at this; exact this.suffix
  have hhead : (Toks s1).head? = some t2 := by
    rw [hrest, sig_append, sig_ignored ign1 hall1] at hh2
    simp only [List.nil_append] at hh2
    cases hq1 : Toks s1 with
    | nil => rw [hq1] at hh2; cases hh2
    | cons a b =>
      have hsa : isIgnoredKind a.kind = false := set1.2 a (by rw [set1.1, hq1]; rfl)
      have hab : a :: b = [a] ++ b := rfl
      rw [hq1, hab, sig_append, sig_single a hsa] at hh2
      simpa using hh2
  have he1 : EofEnd s1 := eofEnd_eat he e1 (noEof_cons hne1 hall1)
  obtain ⟨c2, a1, a2, a3, a4⟩ := h2.2 s1 a s' e1.w he1 ⟨hl1, t2, hhead, hd2⟩ hr' hnd
  refine ⟨(t1 :: ign1) ++ c2, by rw [e1.toks, a1, List.append_assoc], noEof_append (noEof_cons hne1 hall1) a2, a3, ?_⟩
  rcases a4 with ⟨x, hx, _, x1, x2, e, h1, hR⟩ | h4
  · refine Or.inl ⟨.name w1.toList :: x, ?_, x2, by rw [e, h1]; rfl, hR⟩
    rw [sig_append, sig_cons_ignV t1 ign1 hni1 hall1]
    exact (TokIs.single t1 _ (by simp [astOfV, hk1, hd1])).append hx
  · exact absurd h4 id

/-! ### tails -/

/-- `if peek == k { body; meets = true }` … `if !meets { err }` -/
def extBodyK (k0 : Kind) (body : PI Unit) (meets : Bool) : PI Unit := optKind2 k0 body (extEnd true) (extEnd meets)

theorem accL_extBodyK (k0 : Kind) (body : PI Unit) (L : List Ast.Tok → Prop) (hb : Acc E0 (KindP (· == k0)) body (fun _ => L))
    (meets : Bool) : Acc E0 LexQ (extBodyK k0 body meets) (fun _ x => L x ∨ x = []) := by
  refine (accL_optKind2 early_false k0 body _ _ L (fun _ x => x = []) hb (acc_extEnd true) (acc_extEnd meets)).mono (fun _ h => h) ?_
  rintro _ x ⟨x1, x2, e, h1, h2⟩
  rcases h1 with h1 | h1
  · exact Or.inl (by rw [e, h2]; simpa using h1)
  · exact Or.inr (by rw [e, h1, h2]; rfl)

def extDirs (n : Nat) (next : Bool → PI Unit) (meets : Bool) : PI Unit :=
  optKind2 .at (directives n true) (next true) (next meets)

theorem accL_extDirs (n : Nat) (next : Bool → PI Unit) (R : List Ast.Tok → Prop) (hn : ∀ m, Acc E0 LexQ (next m) (fun _ => R))
    (meets : Bool) : Acc E0 LexQ (extDirs n next meets) (fun _ x => ∃ ds x2, x = Ast.tDirectives ds ++ x2 ∧ R x2) := by
  refine (accL_optKind2 early_false .at (directives n true) _ _ _ _ (acc_directives n true) (hn true) (hn meets)).mono (fun _ h => h) ?_
  rintro _ x ⟨x1, x2, e, h1, h2⟩
  rcases h1 with ⟨ds, hd, _⟩ | h1
  · exact ⟨ds, x2, by rw [e, hd], h2⟩
  · exact ⟨[], x2, by rw [e, h1]; rfl, h2⟩

/-! ### scalar -/

def scalarExtTail (n : Nat) : PI Unit :=
  nameOrErr >>= fun _ => peek >>= fun k => if k == some .at then directives n true else err

theorem scalarTypeExtension_eq (n : Nat) : scalarTypeExtension n = withNode "SCALAR_TYPE_EXTENSION"
    (bump "extend_KW" >>= fun _ => bump "scalar_KW" >>= fun _ => scalarExtTail n) := rfl

theorem ext2_sig {w1 w2 : String} (hw1 : KwWord w1) :
    ∀ q, (LexQ q ∧ Ext2 w1 w2 q) → ∃ t rest, q = t :: rest ∧ isIgnoredKind t.kind = false := by
  rintro q ⟨hl, t1, rest0, t2, hq, hd1, _, _⟩
  obtain ⟨c, r, hc1, hc2⟩ := hw1
  have hk1 : t1.kind = .name := hl.headKw (by rw [hq]; rfl) w1 c r hc1 hc2 hd1
  exact ⟨t1, rest0, hq, by rw [hk1]; rfl⟩

theorem accL_scalarTypeExtension (n : Nat) :
    Acc E0 (fun q => LexQ q ∧ Ext2 "extend" "scalar" q) (scalarTypeExtension n)
      (fun _ x => ∃ nm ds, x = .name "extend".toList :: .name "scalar".toList :: .name nm :: Ast.tDirectives ds) := by
  rw [scalarTypeExtension_eq]
  refine acc_withNode early_false _ (ext2_sig kwWord_extend) ?_
  have ht : Acc E0 LexQ (scalarExtTail n) (fun _ x => ∃ nm ds, x = .name nm :: Ast.tDirectives ds) := by
    unfold scalarExtTail
    refine (acc_bind early_false acc_nameOrErr (fun _ => acc_ifKind .at _ _ _ (acc_directives n true) acc_err)).mono (fun _ h => h) ?_
    rintro _ x ⟨_, x1, x2, e, ⟨nm, h1⟩, ds, h2, _⟩
    exact ⟨nm, ds, by rw [e, h1, h2]; rfl⟩
  refine (accL_bump2 "extend" "scalar" kwWord_extend kwWord_scalar _ _ _ _ ht).mono (fun _ h => h) ?_
  rintro _ x ⟨x2, e, nm, ds, h2⟩
  exact ⟨nm, ds, by rw [e, h2]⟩

/-! ### object, interface -/

def objExtTail (n : Nat) : PI Unit :=
  nameOrErr >>= fun _ => optData2 "implements" implementsInterfaces
    (extDirs n (extBodyK .lCurly (fieldsDefinition n)) true) (extDirs n (extBodyK .lCurly (fieldsDefinition n)) false)

theorem objectTypeExtension_eq (n : Nat) : objectTypeExtension n = withNode "OBJECT_TYPE_EXTENSION"
    (bump "extend_KW" >>= fun _ => bump "type_KW" >>= fun _ => objExtTail n) := rfl

theorem interfaceTypeExtension_eq (n : Nat) : interfaceTypeExtension n = withNode "INTERFACE_TYPE_EXTENSION"
    (bump "extend_KW" >>= fun _ => bump "interface_KW" >>= fun _ => objExtTail n) := rfl

theorem accL_objExtTail (n : Nat) :
    Acc E0 LexQ (objExtTail n) (fun _ x => ∃ nm impl ds fs, x = objectLikeToks nm impl ds fs) := by
  unfold objExtTail
  have hd : ∀ m, Acc E0 LexQ (extDirs n (extBodyK .lCurly (fieldsDefinition n)) m)
      (fun _ x => ∃ ds fs, x = Ast.tDirectives ds ++ Ast.tBraced (Ast.tFieldDefItems fs) fs.isEmpty) := by
    intro m
    refine (accL_extDirs n _ _ (fun m' => accL_extBodyK .lCurly _ _ (acc_fieldsDefinition n) m') m).mono (fun _ h => h) ?_
    rintro _ x ⟨ds, x2, e, h2⟩
    rcases h2 with ⟨fs, _, h2⟩ | h2
    · exact ⟨ds, fs, by rw [e, h2]⟩
    · exact ⟨ds, [], by rw [e, h2]; simp [Ast.tBraced]⟩
  refine (accL_bind early_false (fun _ h => h) acc_nameOrErr (fun _ => accL_optImplData _ _ _ (hd true) (hd false))).mono (fun _ h => h) ?_
  rintro _ x ⟨_, x1, x2, e, ⟨nm, h1⟩, impl, x3, e3, ds, fs, h3⟩
  exact ⟨nm, impl, ds, fs, by rw [e, h1, e3, h3]; simp [objectLikeToks]⟩

theorem accL_objectTypeExtension (n : Nat) :
    Acc E0 (fun q => LexQ q ∧ Ext2 "extend" "type" q) (objectTypeExtension n)
      (fun _ x => ∃ nm impl ds fs, x = .name "extend".toList :: .name "type".toList :: objectLikeToks nm impl ds fs) := by
  rw [objectTypeExtension_eq]
  refine acc_withNode early_false _ (ext2_sig kwWord_extend) ?_
  refine (accL_bump2 "extend" "type" kwWord_extend kwWord_type _ _ _ _ (accL_objExtTail n)).mono (fun _ h => h) ?_
  rintro _ x ⟨x2, e, nm, impl, ds, fs, h2⟩
  exact ⟨nm, impl, ds, fs, by rw [e, h2]⟩

theorem accL_interfaceTypeExtension (n : Nat) :
    Acc E0 (fun q => LexQ q ∧ Ext2 "extend" "interface" q) (interfaceTypeExtension n)
      (fun _ x => ∃ nm impl ds fs, x = .name "extend".toList :: .name "interface".toList :: objectLikeToks nm impl ds fs) := by
  rw [interfaceTypeExtension_eq]
  refine acc_withNode early_false _ (ext2_sig kwWord_extend) ?_
  refine (accL_bump2 "extend" "interface" kwWord_extend kwWord_interface _ _ _ _ (accL_objExtTail n)).mono (fun _ h => h) ?_
  rintro _ x ⟨x2, e, nm, impl, ds, fs, h2⟩
  exact ⟨nm, impl, ds, fs, by rw [e, h2]⟩

/-! ### union, enum, input object -/

def nameDirsBodyExt (n : Nat) (k0 : Kind) (body : PI Unit) : PI Unit :=
  nameOrErr >>= fun _ => extDirs n (extBodyK k0 body) false

theorem accL_nameDirsBodyExt (n : Nat) (k0 : Kind) (body : PI Unit) (L : List Ast.Tok → Prop)
    (hb : Acc E0 (KindP (· == k0)) body (fun _ => L)) :
    Acc E0 LexQ (nameDirsBodyExt n k0 body) (fun _ x => ∃ nm ds x2, x = .name nm :: Ast.tDirectives ds ++ x2 ∧ (L x2 ∨ x2 = [])) := by
  unfold nameDirsBodyExt
  refine (accL_bind early_false (fun _ h => h) acc_nameOrErr
    (fun _ => accL_extDirs n _ _ (fun m' => accL_extBodyK k0 _ _ hb m') false)).mono (fun _ h => h) ?_
  rintro _ x ⟨_, x1, x2, e, ⟨nm, h1⟩, ds, x3, e3, h3⟩
  exact ⟨nm, ds, x3, by rw [e, h1, e3]; rfl, h3⟩

theorem unionTypeExtension_eq (n : Nat) : unionTypeExtension n = withNode "UNION_TYPE_EXTENSION"
    (bump "extend_KW" >>= fun _ => bump "union_KW" >>= fun _ => nameDirsBodyExt n .eq unionMemberTypes) := rfl

theorem enumTypeExtension_eq (n : Nat) : enumTypeExtension n = withNode "ENUM_TYPE_EXTENSION"
    (bump "extend_KW" >>= fun _ => bump "enum_KW" >>= fun _ => nameDirsBodyExt n .lCurly (enumValuesDefinition n)) := rfl

theorem inputObjectTypeExtension_eq (n : Nat) : inputObjectTypeExtension n = withNode "INPUT_OBJECT_TYPE_EXTENSION"
    (bump "extend_KW" >>= fun _ => bump "input_KW" >>= fun _ => nameDirsBodyExt n .lCurly (inputFieldsDefinition n)) := rfl

theorem accL_unionTypeExtension (n : Nat) :
    Acc E0 (fun q => LexQ q ∧ Ext2 "extend" "union" q) (unionTypeExtension n)
      (fun _ x => ∃ nm ds ms, x = .name "extend".toList :: .name "union".toList :: .name nm :: Ast.tDirectives ds
        ++ tSepOpt [.p .eq] .pipe ms) := by
  rw [unionTypeExtension_eq]
  refine acc_withNode early_false _ (ext2_sig kwWord_extend) ?_
  refine (accL_bump2 "extend" "union" kwWord_extend kwWord_union _ _ _ _
    (accL_nameDirsBodyExt n .eq _ _ (acc_unionMemberTypes early_false))).mono (fun _ h => h) ?_
  rintro _ x ⟨x2, e, nm, ds, x3, e3, h3⟩
  rcases h3 with ⟨lead, first, rest, h3⟩ | h3
  · exact ⟨nm, ds, some (lead, first, rest), by rw [e, e3, h3]; simp [tSepOpt]⟩
  · exact ⟨nm, ds, none, by rw [e, e3, h3]; simp [tSepOpt]⟩

theorem accL_enumTypeExtension (n : Nat) :
    Acc E0 (fun q => LexQ q ∧ Ext2 "extend" "enum" q) (enumTypeExtension n)
      (fun _ x => ∃ nm ds vs, x = .name "extend".toList :: .name "enum".toList :: Ast.tEnumBody nm ds vs) := by
  rw [enumTypeExtension_eq]
  refine acc_withNode early_false _ (ext2_sig kwWord_extend) ?_
  refine (accL_bump2 "extend" "enum" kwWord_extend kwWord_enum _ _ _ _
    (accL_nameDirsBodyExt n .lCurly _ _ (acc_enumValuesDefinition n))).mono (fun _ h => h) ?_
  rintro _ x ⟨x2, e, nm, ds, x3, e3, h3⟩
  rcases h3 with ⟨vs, _, h3⟩ | h3
  · exact ⟨nm, ds, vs, by rw [e, e3, h3]; simp [Ast.tEnumBody]⟩
  · exact ⟨nm, ds, [], by rw [e, e3, h3]; simp [Ast.tEnumBody, Ast.tBraced, Ast.tEnumValueDefItems]⟩

theorem accL_inputObjectTypeExtension (n : Nat) :
    Acc E0 (fun q => LexQ q ∧ Ext2 "extend" "input" q) (inputObjectTypeExtension n)
      (fun _ x => ∃ nm ds fs, x = .name "extend".toList :: .name "input".toList :: Ast.tInputBody nm ds fs) := by
  rw [inputObjectTypeExtension_eq]
  refine acc_withNode early_false _ (ext2_sig kwWord_extend) ?_
  refine (accL_bump2 "extend" "input" kwWord_extend kwWord_input _ _ _ _
    (accL_nameDirsBodyExt n .lCurly _ _ (acc_inputFieldsDefinition n))).mono (fun _ h => h) ?_
  rintro _ x ⟨x2, e, nm, ds, x3, e3, h3⟩
  rcases h3 with ⟨vs, _, h3⟩ | h3
  · exact ⟨nm, ds, vs, by rw [e, e3, h3]; simp [Ast.tInputBody]⟩
  · exact ⟨nm, ds, [], by rw [e, e3, h3]; simp [Ast.tInputBody, Ast.tBraced, Ast.tIVDItems]⟩

/-! ### schema -/

def schemaExtBraces (meets : Bool) : PI Unit :=
  peek >>= fun k => if k == some .lCurly then rootsBlock (expect .rCurly "R_CURLY" >>= fun _ => extEnd true) else extEnd meets

theorem schemaExtension_eq (n : Nat) : schemaExtension n = withNode "SCHEMA_EXTENSION"
    (bump "extend_KW" >>= fun _ => bump "schema_KW" >>= fun _ => extDirs n schemaExtBraces false) := rfl

theorem accL_schemaExtension (n : Nat) :
    Acc E0 (fun q => LexQ q ∧ Ext2 "extend" "schema" q) (schemaExtension n)
      (fun _ x => ∃ ds roots, x = .name "extend".toList :: .name "schema".toList :: Ast.tDirectives ds
        ++ Ast.tBraced (tRootOpItemsF roots) roots.isEmpty) := by
  rw [schemaExtension_eq]
  refine acc_withNode early_false _ (ext2_sig kwWord_extend) ?_
  have hB : ∀ m, Acc E0 LexQ (schemaExtBraces m) (fun _ x => ∃ roots, x = Ast.tBraced (tRootOpItemsF roots) roots.isEmpty) := by
    intro m
    unfold schemaExtBraces
    refine acc_ifKind .lCurly _ _ _ ?_ ?_
    · have hK : Acc E0 (fun _ => True) (expect .rCurly "R_CURLY" >>= fun _ => extEnd true) (fun _ x => x = [.p .rCurly]) := by
        refine (acc_bind early_false (acc_expect .rCurly "R_CURLY" (.p .rCurly) (by intro t ht; simp [astOfV, ht]) rfl (by decide))
          (fun _ => acc_extEnd true)).mono (fun _ h => h) ?_
        rintro _ x ⟨_, x1, x2, e, h1, h2⟩
        rw [e, h1, h2]; rfl
      refine (acc_rootsBlock _ _ hK).mono (fun _ h => h) ?_
      rintro _ x ⟨roots, x2, hne, e, h2⟩
      refine ⟨roots, ?_⟩
      have : roots.isEmpty = false := by cases roots with | nil => exact absurd rfl hne | cons _ _ => rfl
      rw [e, h2]; simp [Ast.tBraced, this]
    · exact (acc_extEnd m).mono (fun _ _ => trivial) (fun _ x h => ⟨[], by rw [h]; rfl⟩)
  refine (accL_bump2 "extend" "schema" kwWord_extend kwWord_schema _ _ _ _ (accL_extDirs n _ _ hB false)).mono (fun _ h => h) ?_
  rintro _ x ⟨x2, e, ds, x3, e3, roots, h3⟩
  exact ⟨ds, roots, by rw [e, e3, h3]; simp⟩

end Apollo.Parse
