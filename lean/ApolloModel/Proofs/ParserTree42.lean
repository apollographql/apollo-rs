import ApolloModel.Proofs.ParserTree39
import ApolloModel.Proofs.ParserTreeInj2
/-
C08 (pipeline): the same for the type system — the exact budget of a loose definition implies the well-formedness facts
(`looseFitX → LooseDef.wf`), so the item of the exact soundness calculus and the strict loose definition of the tree
calculus on the same tokens are the same (`loose_tokens_strict`); every strict item of an accepted document is within
the exact budget of the accepted run.
-/
set_option linter.unusedSimpArgs false
set_option linter.unusedVariables false

namespace Apollo.Parse.Exact
open Apollo.Rowan hiding Str
open Apollo.Lex hiding Str
open Apollo.FromCst (All2 looseConv)

theorem ivdsFit_wf {b : Nat} : ∀ (fs : List Ast.InputValueDef), (∀ v ∈ fs, ivdFit b v) → Ast.wfIVDs fs = true
  | [], _ => rfl
  | v :: r, h => by
    simp only [Ast.wfIVDs, Bool.and_eq_true]
    obtain ⟨_, hd, hdirs⟩ := h v (by simp)
    refine ⟨⟨?_, dirsFit_wf hdirs⟩, ivdsFit_wf r (fun x hx => h x (by simp [hx]))⟩
    cases hv : v.default with
    | none => rfl
    | some d => exact valueOk_wf true d (hd d hv).1

theorem fieldsFit_wf {b : Nat} : ∀ (fs : List Ast.FieldDef), (∀ f ∈ fs, fieldFit b f) → Ast.wfFieldDefs fs = true
  | [], _ => rfl
  | f :: r, h => by
    simp only [Ast.wfFieldDefs, Bool.and_eq_true]
    obtain ⟨ha, _, hd⟩ := h f (by simp)
    exact ⟨⟨ivdsFit_wf f.args ha, dirsFit_wf hd⟩, fieldsFit_wf r (fun x hx => h x (by simp [hx]))⟩

theorem enumValsFit_wf {b : Nat} : ∀ (vs : List Ast.EnumValueDef), (∀ v ∈ vs, enumValFit b v) →
    Ast.wfEnumValueDefs vs = true ∧ vs.all (fun v => !isValueKeyword v.value) = true
  | [], _ => ⟨rfl, rfl⟩
  | v :: r, h => by
    obtain ⟨h1, h2⟩ := h v (by simp)
    obtain ⟨i1, i2⟩ := enumValsFit_wf r (fun x hx => h x (by simp [hx]))
    simp only [Ast.wfEnumValueDefs, List.all_cons, Bool.and_eq_true]
    exact ⟨⟨dirsFit_wf h2, i1⟩, by simp [h1], i2⟩

theorem looseFitX_wf (b : Nat) (l : LooseDef) (h : looseFitX b l) : l.wf = true := by
  cases l <;> simp only [looseFitX, looseFit, objFit] at h <;> simp only [LooseDef.wf, Bool.and_eq_true]
  case scalar => exact dirsFit_wf h
  case object => exact ⟨dirsFit_wf h.1, fieldsFit_wf _ h.2⟩
  case interface => exact ⟨dirsFit_wf h.1, fieldsFit_wf _ h.2⟩
  case union => exact dirsFit_wf h
  case enum => exact ⟨⟨dirsFit_wf h.1, (enumValsFit_wf _ h.2).1⟩, (enumValsFit_wf _ h.2).2⟩
  case input => exact ⟨dirsFit_wf h.1, ivdsFit_wf _ h.2⟩
  case directive => exact ivdsFit_wf _ h.1
  case schema desc ds roots =>
    refine ⟨dirsFit_wf h.1, ?_⟩
    cases roots with
    | nil => exact absurd rfl h.2
    | cons a r => rfl
  case scalarExt => exact dirsFit_wf h.2
  case objectExt => exact ⟨dirsFit_wf h.2.1, fieldsFit_wf _ h.2.2⟩
  case interfaceExt => exact ⟨dirsFit_wf h.2.1, fieldsFit_wf _ h.2.2⟩
  case unionExt => exact dirsFit_wf h.2
  case enumExt => exact ⟨⟨dirsFit_wf h.2.1, (enumValsFit_wf _ h.2.2).1⟩, (enumValsFit_wf _ h.2.2).2⟩
  case inputExt => exact ⟨dirsFit_wf h.2.1, ivdsFit_wf _ h.2.2⟩
  case schemaExt => exact dirsFit_wf h.2

/-- **identification, type-system definitions**: the item of the exact soundness calculus spelled by the same tokens as a
    STRICT loose definition of the tree calculus is that loose definition -/
theorem loose_item_fit (rl : Nat) (l : LooseDef) (d : Ast.Definition) (hs : l.strict = some d) (hw : l.wf = true)
    (cs : List Tok) (h1 : TokIs cs l.toks) (i' : DocItem) (h2 : TokIs cs i'.toks) (hf : itemFitX rl i') : looseFitX rl l := by
  have hwd : Ast.wfDefinition d = true := LooseDef.wf_strict l d hs hw
  have hlt : l.toks = Ast.tDefinition false d := LooseDef.toks_strict l d hs
  cases i' with
  | exec oe' d' =>
    exfalso
    have hf' : execFit rl d' := hf
    have heq : Ast.tDefinition oe' d' = l.toks := tokIs_inj h2 h1
    have e1 := looseDef_tsStart l
    have e2 := exec_head oe' d' [] (execFit_executable hf')
    rw [List.append_nil, heq, e1] at e2
    cases e2
  | loose l' =>
    have hf' : looseFitX rl l' := hf
    have heq : l'.toks = Ast.tDefinition false d := (tokIs_inj h2 h1).trans hlt
    have hs' := loose_tokens_strict l' d (looseFitX_wf rl l' hf') hwd heq
    have e1 := itemOfDef_of_strict l d hs
    have e2 := itemOfDef_of_strict l' d hs'
    have : l' = l := by
      rw [e1] at e2
      exact (DocItem.loose.inj e2).symm
    rw [← this]; exact hf'

theorem docItem_fitX (rl : Nat) (cs : List Tok) (e : List Elem) (h : FitQ (fun cs e => ExecItemR cs e ∨ TsAny cs e) rl cs e) :
    ∃ (i : DocItem) (ed : Elem), TokIs cs i.toks ∧ i.wfB ∧ e = [ed] ∧ DefConv i.conv ed ∧
      (∀ a, i.strict = some a → itemFitX rl i) := by
  obtain ⟨hq, i', hi1, hi2⟩ := h
  rcases hq with ⟨it, ed, a, b, c, d, e', _⟩ | ⟨l, ed, a, b, c, d⟩
  · exact ⟨.exec it.1 it.2, ed, a, b, c, d, fun _ _ => exec_item_fit rl it b e' cs a i' hi1 hi2⟩
  · obtain ⟨i, ed', x1, x2, x3, x4⟩ := docItemR_of_ts ⟨l, ed, a, b, c, d⟩
    obtain ⟨K, kcs, rfl, hk, _⟩ := FromCst.defTree_kind l ed d
    refine ⟨.loose l, _, a, b, c, ⟨by rw [FromCst.nodeP_node]; exact hk, fun m hm => FromCst.cDefinition_defTree m l _ d hm⟩, ?_⟩
    intro a' ha'
    simp only [DocItem.strict, Option.map_eq_some_iff] at ha'
    obtain ⟨dd, hdd, _⟩ := ha'
    exact loose_item_fit rl l dd hdd b cs a i' hi1 hi2

theorem docItems_collectX (P : DocItem → Prop) : ∀ (items : List (List Tok × List Elem)),
    (∀ i ∈ items, ∃ (it : DocItem) (ed : Elem), TokIs i.1 it.toks ∧ it.wfB ∧ i.2 = [ed] ∧ DefConv it.conv ed ∧ P it) →
    ∃ (its : List DocItem) (eds : List Elem), TokIs (items.map (·.1)).flatten (docToks its) ∧
      (items.map (·.2)).flatten = eds ∧ its.length = items.length ∧ (∀ i ∈ its, i.wfB ∧ P i) ∧
      All2 (fun e (i : DocItem) => DefConv i.conv e) eds its
  | [], _ => ⟨[], [], TokIs.nil, rfl, rfl, (by intro i hi; cases hi), All2.nil⟩
  | i :: items, h => by
    obtain ⟨its, eds, h1, h2, h3, h4, h5⟩ := docItems_collectX P items (fun j hj => h j (List.mem_cons_of_mem _ hj))
    obtain ⟨it, ed, ht, hw, he, hc, hp⟩ := h i List.mem_cons_self
    refine ⟨it :: its, ed :: eds, ?_, ?_, by simp [h3], ?_, All2.cons hc h5⟩
    · simp only [List.map_cons, List.flatten_cons, docToks]
      exact ht.append h1
    · simp only [List.map_cons, List.flatten_cons, he, h2]; rfl
    · intro j hj
      rcases List.mem_cons.mp hj with rfl | hj
      · exact ⟨hw, hp⟩
      · exact h4 j hj

theorem strict_each : ∀ (its : List DocItem) (items : List Ast.Item), strictItems its = some items →
    ∀ i ∈ its, ∃ a, i.strict = some a
  | [], _, _, i, hi => by cases hi
  | j :: r, items, hs, i, hi => by
    simp only [strictItems] at hs
    cases hj : j.strict with
    | none => rw [hj] at hs; simp at hs
    | some a =>
      cases hr : strictItems r with
      | none => rw [hj, hr] at hs; simp at hs
      | some b =>
        rcases List.mem_cons.mp hi with rfl | hi'
        · exact ⟨a, hj⟩
        · exact strict_each r b hr i hi'

/-- **every accepted document, with the exact budget**: tokens and `from_cst` as in `parseDocument_agrees` (the reference
    parser is not mentioned), and in the strict case every definition `from_cst` returns is within the EXACT recursion
    budget `rl` of the accepted run -/
theorem parseDocument_agrees_fit (rl : Nat) (src : Str) (root : Elem)
    (h : (parse .document none rl src).outcome = .tree root) (herr : (parse .document none rl src).errors = []) :
    LexClean src ∧ ∃ (ts : List Tok) (e : Tok) (its : List DocItem), sig (srcToks src) = ts ++ [e] ∧ e.kind = .eof ∧
      its ≠ [] ∧ TokIs ts (docToks its) ∧ (FromCst.fromCst root).1 = its.map DocItem.conv ∧
      ∀ items, strictItems its = some items →
        items ≠ [] ∧ TokIs ts (Ast.itemsToks items) ∧ (∀ a ∈ items, Ast.wfDefinition a.2 = true) ∧
        (FromCst.fromCst root).1 = items.map (·.2) ∧ ∀ x ∈ items.map (·.2), definitionFit rl x := by
  obtain ⟨hclean, ts, e, inner, h1, h2, hroot, items, hne, hts, hsig, hall⟩ :=
    parseDocument_cstS (fun n => defTrs_of_ts n TsAny (tsTrs n)) (fun n => defExactX_of_remaining (defRemaining_done n)) rl src root h herr
  obtain ⟨its, eds, g1, g2, g3, g4, g5⟩ := docItems_collectX (fun i => ∀ a, i.strict = some a → itemFitX rl i) items
    (fun i hi => docItem_fitX rl i.1 i.2 (hall i hi))
  have hne' : its ≠ [] := by
    intro h0
    rw [h0] at g3
    cases items with
    | nil => exact hne rfl
    | cons a b => simp at g3
  have hfrom : (FromCst.fromCst root).1 = its.map DocItem.conv := by
    rw [hroot]
    have := fromCst_document inner eds (its.map (fun i => ((false, i.conv) : Ast.Item))) (by rw [hsig, g2])
      (all2_map_right _ _ _ _ g5)
    rw [this, List.map_map]
    rfl
  refine ⟨hclean, ts, e, its, h1, h2, hne', by rw [hts]; exact g1, hfrom, ?_⟩
  intro sitems hs
  obtain ⟨ht, hlen⟩ := strictItems_toks its sitems hs
  obtain ⟨hc, hw⟩ := strictItems_conv its sitems hs (fun i hi => (g4 i hi).1)
  have hne'' : sitems ≠ [] := by
    rintro rfl
    cases its with
    | nil => exact hne' rfl
    | cons a b => simp at hlen
  have hfit : ∀ i ∈ its, itemFit rl i := by
    intro i hi
    obtain ⟨a, ha⟩ := strict_each its sitems hs i hi
    exact itemFit_of_itemFitX_strict rl i a ha ((g4 i hi).2 a ha)
  exact ⟨hne'', by rw [← ht, hts]; exact g1, hw, by rw [hfrom, hc], definitionFit_of_strict_items rl its sitems hs hfit⟩

end Apollo.Parse.Exact
