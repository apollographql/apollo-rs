import ApolloModel.Proofs.ParserTree7
/-
C08 (pipeline): values — the shape of a value node and what `impl Convert for cst::Value` reads from it.
-/
set_option linter.unusedSimpArgs false
set_option linter.unusedVariables false

namespace Apollo.FromCst
open Apollo.Rowan Apollo.Ast
open Apollo.Parse (isJunk isJunkKind sigE nameNode)

variable {R : List Loc}

mutual
  /-- the CST of a value `v` (junk tokens anywhere between the children of the composite nodes; leaf nodes exact) -/
  inductive ValTree : Value → Elem → Prop
    | var (x : Ast.Str) (cs : List Elem) (dl : Rowan.Str) : isValidName x = true →
        sigE cs = [.tok "DOLLAR" dl, nameNode x] → ValTree (.var x) (.node "VARIABLE" cs)
    | int (d : Rowan.Str) : ValTree (.int d) (.node "INT_VALUE" [.tok "INT" d])
    | float (d : Rowan.Str) : ValTree (.float d) (.node "FLOAT_VALUE" [.tok "FLOAT" d])
    | str (d : Rowan.Str) (s : Ast.Str) : Strs.decodeStringToken d = some s →
        ValTree (.str s) (.node "STRING_VALUE" [.tok "STRING" d])
    | tru : ValTree (.bool true) (.node "BOOLEAN_VALUE" [.tok "true_KW" "true".toList])
    | fls : ValTree (.bool false) (.node "BOOLEAN_VALUE" [.tok "false_KW" "false".toList])
    | null (cs : List Elem) : ValTree .null (.node "NULL_VALUE" cs)
    | enum (x : Ast.Str) (cs : List Elem) : isValidName x = true → sigE cs = [nameNode x] →
        ValTree (.enum x) (.node "ENUM_VALUE" cs)
    | list (vs : Values) (cs es : List Elem) (lb rb : Rowan.Str) : ValsTree vs es →
        sigE cs = .tok "L_BRACK" lb :: (es ++ [.tok "R_BRACK" rb]) → ValTree (.list vs) (.node "LIST_VALUE" cs)
    | obj (fs : ObjFields) (cs es : List Elem) (lc rc : Rowan.Str) : FieldsTree fs es →
        sigE cs = .tok "L_CURLY" lc :: (es ++ [.tok "R_CURLY" rc]) → ValTree (.obj fs) (.node "OBJECT_VALUE" cs)
  inductive ValsTree : Values → List Elem → Prop
    | nil : ValsTree .nil []
    | cons (v : Value) (e : Elem) (vs : Values) (es : List Elem) : ValTree v e → ValsTree vs es →
        ValsTree (.cons v vs) (e :: es)
  inductive FieldsTree : ObjFields → List Elem → Prop
    | nil : FieldsTree .nil []
    | cons (n : Ast.Str) (v : Value) (ev : Elem) (cs : List Elem) (col : Rowan.Str) (fs : ObjFields) (es : List Elem) :
        isValidName n = true → ValTree v ev → sigE cs = [nameNode n, .tok "COLON" col, ev] → FieldsTree fs es →
        FieldsTree (.cons n v fs) (.node "OBJECT_FIELD" cs :: es)
end

theorem ValTree.nodeP {v : Value} {e : Elem} (h : ValTree v e) : nodeP isValueKind e = true := by
  cases h <;> simp [FromCst.nodeP, isNodeE, kindE, isValueKind]

theorem ValTree.isNode {v : Value} {e : Elem} (h : ValTree v e) : ∃ k cs, e = .node k cs := by
  cases h <;> exact ⟨_, _, rfl⟩

theorem ValTree.not_junk {v : Value} {e : Elem} (h : ValTree v e) : isJunk e = false := by
  obtain ⟨k, cs, rfl⟩ := h.isNode; rfl

/-- all elements of `es` are value nodes -/
theorem ValsTree.filter {vs : Values} {es : List Elem} (h : ValsTree vs es) : es.filter (nodeP isValueKind) = es := by
  induction es generalizing vs with
  | nil => rfl
  | cons e es ih =>
    cases h with
    | cons v _ vs' _ hv hvs => simp [List.filter_cons, hv.nodeP, ih hvs]

theorem FieldsTree.filter {fs : ObjFields} {es : List Elem} (h : FieldsTree fs es) :
    es.filter (nodeP (· == "OBJECT_FIELD")) = es := by
  induction es generalizing fs with
  | nil => rfl
  | cons e es ih =>
    cases h with
    | cons n v ev cs col fs' _ _ _ _ hfs => simp [List.filter_cons, nodeP_node, ih hfs]

/-! ### equations of `cValue` by node kind -/

theorem cValue_var (n : Nat) (p : PE R) (hk : p.kind = "VARIABLE") :
    cValue (n + 1) p = (nameOf p >>= fun x => pure (Value.var x)) := by simp [cValue, hk]
theorem cValue_str (n : Nat) (p : PE R) (hk : p.kind = "STRING_VALUE") :
    cValue (n + 1) p = (cStringValue p >>= fun s => pure (Value.str s)) := by simp [cValue, hk]
theorem cValue_null (n : Nat) (p : PE R) (hk : p.kind = "NULL_VALUE") : cValue (n + 1) p = M.pure' Value.null := by
  simp [cValue, hk]
theorem cValue_enum (n : Nat) (p : PE R) (hk : p.kind = "ENUM_VALUE") :
    cValue (n + 1) p = (nameOf p >>= fun x => pure (Value.enum x)) := by simp [cValue, hk]
theorem cValue_list (n : Nat) (p : PE R) (hk : p.kind = "LIST_VALUE") :
    cValue (n + 1) p = (collectM (cValue n) (childrenP isValueKind p) >>= fun vs => pure (Value.list (listToValues vs))) := by
  simp [cValue, hk]
theorem cValue_obj (n : Nat) (p : PE R) (hk : p.kind = "OBJECT_VALUE") :
    cValue (n + 1) p = (collectM (fun f => nameOf f >>= fun name => M.ofOpt (childP isValueKind f) >>= fun v =>
        cValue n v >>= fun val => pure (name, val)) (children "OBJECT_FIELD" p) >>= fun fs =>
      pure (Value.obj (listToObjFields fs))) := by
  simp [cValue, hk]

def valuesToList : Values → List Value
  | .nil => []
  | .cons v tl => v :: valuesToList tl

def fieldsToList : ObjFields → List (Ast.Str × Value)
  | .nil => []
  | .cons n v tl => (n, v) :: fieldsToList tl

theorem listToValues_toList : ∀ vs : Values, listToValues (valuesToList vs) = vs
  | .nil => rfl
  | .cons v tl => by simp [valuesToList, listToValues, listToValues_toList tl]

theorem listToObjFields_toList : ∀ fs : ObjFields, listToObjFields (fieldsToList fs) = fs
  | .nil => rfl
  | .cons n v tl => by simp [fieldsToList, listToObjFields, listToObjFields_toList tl]

theorem sizeList_append (a b : List Elem) : sizeList (a ++ b) = sizeList a + sizeList b := by
  induction a with
  | nil => simp [sizeList]
  | cons e es ih => simp [sizeList, ih]; omega

theorem sizeList_sigE_le : ∀ cs : List Elem, sizeList (sigE cs) ≤ sizeList cs
  | [] => Nat.le_refl _
  | e :: es => by
    unfold sigE
    simp only [List.filter_cons]
    have ih := sizeList_sigE_le es
    unfold sigE at ih
    split
    · simp only [sizeList]; omega
    · simp only [sizeList]; omega

/-- the conversion of one object field, on the plain element -/
def cField (n : Nat) (R : List Loc) (f : PE R) : M R (Ast.Str × Value) :=
  nameOf f >>= fun name => M.ofOpt (childP isValueKind f) >>= fun v => cValue n v >>= fun val => pure (name, val)

mutual
  /-- `impl Convert for cst::Value` on the tree of `v` returns `v` -/
  theorem cValue_valTree : ∀ (n : Nat) (v : Value) (e : Elem), ValTree v e → size e ≤ n → ConvE (fun R => @cValue R n) v e
    | 0, _, e, h, hs => by
      obtain ⟨k, cs, rfl⟩ := h.isNode
      simp [size] at hs
    | n + 1, _, _, .var x cs dl hv hsig, hs => by
      intro R s h
      have hf : (sigE cs).find? (nodeP (· == "NAME")) = some (nameNode x) := by
        rw [hsig]; simp [List.find?_cons, nodeP_tok]; rfl
      obtain ⟨l, hl⟩ := nameOf_node "VARIABLE" cs x hv hf R s h
      refine ⟨l ++ [], ?_⟩
      show cValue (n + 1) _ = _
      rw [cValue_var n _ rfl]
      exact bind_ok hl (pure_ok _)
    | n + 1, _, _, .int d, hs => by
      intro R s h
      refine ⟨[], ?_⟩
      simp [cValue, PE.kind, firstTok, firstTokList, M.pure', isValueKind]
    | n + 1, _, _, .float d, hs => by
      intro R s h
      refine ⟨[], ?_⟩
      simp [cValue, PE.kind, firstTok, firstTokList, M.pure', isValueKind]
    | n + 1, _, _, .str d sv hd, hs => by
      intro R s h
      refine ⟨[] ++ [], ?_⟩
      show cValue (n + 1) _ = _
      rw [cValue_str n _ rfl]
      refine bind_ok ?_ (pure_ok _)
      show (match textOfFirstToken (⟨(Elem.node "STRING_VALUE" [Elem.tok "STRING" d], s), h⟩ : PE R) with
        | some t => M.ofOpt (Strs.decodeStringToken t) | none => none) = _
      simp [textOfFirstToken, hd, M.ofOpt]
    | n + 1, _, _, .tru, hs => by
      intro R s h
      refine ⟨[], ?_⟩
      simp [cValue, PE.kind, textOfFirstToken, M.pure']
    | n + 1, _, _, .fls, hs => by
      intro R s h
      refine ⟨[], ?_⟩
      simp [cValue, PE.kind, textOfFirstToken, M.pure']
    | n + 1, _, _, .null cs, hs => by
      intro R s h
      refine ⟨[], ?_⟩
      show cValue (n + 1) _ = _
      rw [cValue_null n _ rfl]
      rfl
    | n + 1, _, _, .enum x cs hv hsig, hs => by
      intro R s h
      have hf : (sigE cs).find? (nodeP (· == "NAME")) = some (nameNode x) := by rw [hsig]; rfl
      obtain ⟨l, hl⟩ := nameOf_node "ENUM_VALUE" cs x hv hf R s h
      refine ⟨l ++ [], ?_⟩
      show cValue (n + 1) _ = _
      rw [cValue_enum n _ rfl]
      exact bind_ok hl (pure_ok _)
    | n + 1, _, _, .list vs cs es lb rb hvs hsig, hs => by
      intro R s h
      have hfilter : cs.filter (nodeP isValueKind) = es := by
        rw [filter_nodeP_sigE, hsig]
        simp [List.filter_cons, nodeP_tok, List.filter_append, hvs.filter]
      have hmap := childrenP_map (R := R) isValueKind "LIST_VALUE" cs s h
      rw [hfilter] at hmap
      have hszs : sizeList es ≤ n := by
        have h1 : sizeList (sigE cs) ≤ sizeList cs := sizeList_sigE_le cs
        rw [hsig] at h1
        simp only [sizeList, sizeList_append, size] at h1 hs
        omega
      have hall := cValues_valsTree n vs es hvs hszs
      obtain ⟨l, hl⟩ := collectM_conv (R := R) (fun R => @cValue R n) _ es (valuesToList vs) hmap hall
      refine ⟨l ++ [], ?_⟩
      show cValue (n + 1) _ = _
      rw [cValue_list n _ rfl]
      refine bind_ok hl ?_
      rw [listToValues_toList]; rfl
    | n + 1, _, _, .obj fs cs es lc rc hfs hsig, hs => by
      intro R s h
      have hfilter : cs.filter (nodeP (· == "OBJECT_FIELD")) = es := by
        rw [filter_nodeP_sigE, hsig]
        simp [List.filter_cons, nodeP_tok, List.filter_append, hfs.filter]
      have hmap := childrenP_map (R := R) (· == "OBJECT_FIELD") "OBJECT_VALUE" cs s h
      rw [hfilter] at hmap
      have hszs : sizeList es ≤ n := by
        have h1 : sizeList (sigE cs) ≤ sizeList cs := sizeList_sigE_le cs
        rw [hsig] at h1
        simp only [sizeList, sizeList_append, size] at h1 hs
        omega
      have hall := cFields_fieldsTree n fs es hfs hszs
      obtain ⟨l, hl⟩ := collectM_conv (R := R) (cField n) _ es (fieldsToList fs) hmap hall
      refine ⟨l ++ [], ?_⟩
      show cValue (n + 1) _ = _
      rw [cValue_obj n _ rfl, children_eq_childrenP]
      refine bind_ok hl ?_
      rw [listToObjFields_toList]; rfl
  theorem cValues_valsTree : ∀ (n : Nat) (vs : Values) (es : List Elem), ValsTree vs es → sizeList es ≤ n →
      All2 (fun e a => ConvE (fun R => @cValue R n) a e) es (valuesToList vs)
    | n, _, _, .nil, _ => All2.nil
    | n, _, _, .cons v e vs es hv hvs, hs => by
      simp only [sizeList] at hs
      exact All2.cons (cValue_valTree n v e hv (by omega)) (cValues_valsTree n vs es hvs (by omega))
  theorem cFields_fieldsTree : ∀ (n : Nat) (fs : ObjFields) (es : List Elem), FieldsTree fs es → sizeList es ≤ n →
      All2 (fun e a => ConvE (cField n) a e) es (fieldsToList fs)
    | n, _, _, .nil, _ => All2.nil
    | n, _, _, .cons nm v ev cs col fs es hvn hv hsig hfs, hs => by
      simp only [sizeList, size] at hs
      refine All2.cons ?_ (cFields_fieldsTree n fs es hfs (by omega))
      intro R s h
      have hf : (sigE cs).find? (nodeP (· == "NAME")) = some (nameNode nm) := by rw [hsig]; rfl
      obtain ⟨l1, hl1⟩ := nameOf_node "OBJECT_FIELD" cs nm hvn hf R s h
      have hfv : cs.find? (nodeP isValueKind) = some ev := by
        rw [find_nodeP_sigE, hsig]
        have : nodeP isValueKind (nameNode nm) = false := rfl
        simp [List.find?_cons, nodeP_tok, this, hv.nodeP]
      obtain ⟨s', h', hc⟩ := childP_some (R := R) isValueKind "OBJECT_FIELD" cs s h ev hfv
      have hsz : size ev ≤ n := by
        have h1 := size_le_sizeList (mem_sigE (cs := cs) (e := ev) (by rw [hsig]; simp))
        omega
      obtain ⟨l2, hl2⟩ := cValue_valTree n v ev hv hsz R s' h'
      refine ⟨l1 ++ ([] ++ (l2 ++ [])), ?_⟩
      show cField n R _ = _
      unfold cField
      refine bind_ok hl1 ?_
      rw [hc]
      exact bind_ok rfl (bind_ok hl2 (pure_ok _))
end

end Apollo.FromCst
