import ApolloModel.Model.Smith
import ApolloModel.Proofs.NumbersParse
/-
C32: `type_name`: the candidates `base, base0, base1, …` are pairwise different, so among the first
`|used| + 1` of them one is free (pigeonhole): the loop terminates and returns a name outside `used`.
`limited_string` terminates as well: every failed attempt consumes a byte.
-/
namespace Apollo.SmithGen
open Apollo Apollo.Num

/-- the digits of a number determine it: they parse back to it -/
theorem natDigits_inj {a b : Nat} (h : natDigits a = natDigits b) : a = b := by
  have := congrArg parseNat h
  simpa [parseNat_natDigits] using this

theorem natDigits_ne_nil (n : Nat) : natDigits n ≠ [] := by
  obtain ⟨d, rest, e, _⟩ := natDigits_shape n
  rw [e]; simp

theorem candidate_inj (base : Name) {i j : Nat} (h : candidate base i = candidate base j) : i = j := by
  cases i with
  | zero =>
    cases j with
    | zero => rfl
    | succ j =>
      simp only [candidate] at h
      have : natDigits j = [] := by
        have := congrArg List.length h
        simp at this
        first | exact this | exact List.eq_nil_of_length_eq_zero (by omega)
      exact absurd this (natDigits_ne_nil j)
  | succ i =>
    cases j with
    | zero =>
      simp only [candidate] at h
      have : natDigits i = [] := by
        have := congrArg List.length h
        simp at this
        first | exact this | exact List.eq_nil_of_length_eq_zero (by omega)
      exact absurd this (natDigits_ne_nil i)
    | succ j =>
      simp only [candidate] at h
      have := natDigits_inj (List.append_cancel_left h)
      omega

theorem firstFree_some {used : List Name} {base : Name} : ∀ (fuel k : Nat) (n : Name),
    firstFree used base fuel k = some n → n ∉ used ∧ ∃ j, k ≤ j ∧ n = candidate base j ∧ ∀ i, k ≤ i → i < j → candidate base i ∈ used := by
  intro fuel
  induction fuel with
  | zero => intro k n h; simp [firstFree] at h
  | succ fuel ih =>
    intro k n h
    simp only [firstFree] at h
    split at h
    · rename_i hc
      obtain ⟨h1, j, hj, e, hall⟩ := ih (k + 1) n h
      refine ⟨h1, j, by omega, e, ?_⟩
      intro i hi hij
      by_cases e' : i = k
      · subst e'; simpa using hc
      · exact hall i (by omega) hij
    · rename_i hc
      simp only [Option.some.injEq] at h
      subst h
      exact ⟨by simpa using hc, k, Nat.le_refl _, rfl, fun i h1 h2 => by omega⟩

theorem firstFree_none {used : List Name} {base : Name} : ∀ (fuel k : Nat),
    firstFree used base fuel k = none → ∀ i, i < fuel → candidate base (k + i) ∈ used := by
  intro fuel
  induction fuel with
  | zero => intro k _ i hi; omega
  | succ fuel ih =>
    intro k h i hi
    simp only [firstFree] at h
    split at h
    · rename_i hc
      cases i with
      | zero => simpa using hc
      | succ i =>
        have := ih (k + 1) h i (by omega)
        have e : k + 1 + i = k + (i + 1) := by omega
        rw [e] at this; exact this
    · cases h

/-- the loop of `type_name` always finds a free name within `|used| + 1` candidates -/
theorem firstFree_total (used : List Name) (base : Name) : ∃ n, firstFree used base (used.length + 1) 0 = some n := by
  cases h : firstFree used base (used.length + 1) 0 with
  | some n => exact ⟨n, rfl⟩
  | none =>
    exfalso
    have hall := firstFree_none (used.length + 1) 0 h
    let l := (List.range (used.length + 1)).map (candidate base)
    have hnd : l.Nodup := by
      exact List.Pairwise.map (candidate base) (fun a b hab e => hab (candidate_inj base e)) List.nodup_range
    have hsub : l ⊆ used := by
      intro x hx
      obtain ⟨i, hi, e⟩ := List.mem_map.mp hx
      rw [← e]
      have := hall i (List.mem_range.mp hi)
      simpa using this
    have := hnd.length_le_of_subset hsub
    simp [l] at this
    omega

theorem typeNameFrom_spec (used : List Name) (base : Name) :
    ∃ n, typeNameFrom used base = some (n, n :: used) ∧ n ∉ used := by
  obtain ⟨n, hn⟩ := firstFree_total used base
  refine ⟨n, by simp [typeNameFrom, hn], (firstFree_some _ _ _ hn).1⟩

/-- successive `type_name` calls: pairwise different names, each one already in `acc` or outside the initial set -/
theorem typeNames_nodup : ∀ (k : Nat) (used : List Name) (bytes : List Nat) (acc names : List Name),
    typeNames k used bytes acc = some names →
    (∀ a ∈ acc, a ∈ used) → acc.Nodup →
    names.Nodup ∧ ∀ n ∈ names, n ∈ acc ∨ n ∉ used := by
  intro k
  induction k with
  | zero =>
    intro used bytes acc names h _ hnd
    simp only [typeNames, Option.some.injEq] at h
    subst h
    exact ⟨List.pairwise_reverse.mpr (hnd.imp (fun h => h.symm)), fun n hn => Or.inl (List.mem_reverse.mp hn)⟩
  | succ k ih =>
    intro used bytes acc names h hacc hnd
    simp only [typeNames] at h
    split at h
    · cases h
    · rename_i n used' rest htn
      simp only [typeName] at htn
      split at htn
      · cases htn
      · rename_i base rest' _
        obtain ⟨m, hm, hfree⟩ := typeNameFrom_spec used base
        rw [hm] at htn
        simp only [Option.map_some, Option.some.injEq, Prod.mk.injEq] at htn
        obtain ⟨e1, e2, e3⟩ := htn
        subst e1 e2 e3
        have hnd' : (m :: acc).Nodup := List.nodup_cons.mpr ⟨fun hm' => hfree (hacc m hm'), hnd⟩
        have hacc' : ∀ a ∈ m :: acc, a ∈ m :: used := by
          intro a ha
          rcases List.mem_cons.mp ha with e | e
          · subst e; simp
          · exact List.mem_cons_of_mem _ (hacc a e)
        obtain ⟨r1, r2⟩ := ih (m :: used) rest' (m :: acc) names h hacc' hnd'
        refine ⟨r1, ?_⟩
        intro n hn
        rcases r2 n hn with e | e
        · rcases List.mem_cons.mp e with e' | e'
          · subst e'; exact Or.inr hfree
          · exact Or.inl e'
        · right; intro hu; exact e (List.mem_cons_of_mem _ hu)

/-! ### `limited_string` terminates: every failed attempt consumes a byte, exhausted input yields "A" -/

theorem takeInt_len (delta : Nat) : ∀ (fuel c acc : Nat) (bs : List Nat), (takeInt delta fuel c acc bs).2.length ≤ bs.length := by
  intro fuel
  induction fuel with
  | zero => intro c acc bs; simp [takeInt]
  | succ fuel ih =>
    intro c acc bs
    simp only [takeInt]
    split
    · cases bs with
      | nil => simp
      | cons b rest => exact Nat.le_trans (ih _ _ rest) (by simp)
    · exact Nat.le_refl _

theorem intInRange_len (a b : Nat) (bs : List Nat) : (intInRange a b bs).2.length ≤ bs.length := by
  unfold intInRange
  split
  · exact Nat.le_refl _
  · exact takeInt_len _ _ _ _ _

theorem takeChars_len : ∀ (n : Nat) (first : Bool) (bs : List Nat), (takeChars n first bs).2.length ≤ bs.length := by
  intro n
  induction n with
  | zero => intro f bs; simp [takeChars]
  | succ n ih =>
    intro f bs
    simp only [takeChars]
    exact Nat.le_trans (ih _ _) (intInRange_len _ _ _)

theorem size_consumes (b : Nat) (rest : List Nat) : (intInRange 1 30 (b :: rest)).2 = rest := by
  simp [intInRange, takeInt]

theorem limitedString_nil (fuel : Nat) : limitedString 30 (fuel + 1) [] = some (['A'], []) := by
  simp only [limitedString]
  rw [if_pos (by decide)]
  decide

theorem limitedString_total : ∀ (fuel : Nat) (bytes : List Nat), bytes.length < fuel → ∃ r, limitedString 30 fuel bytes = some r := by
  intro fuel
  induction fuel with
  | zero => intro bytes h; omega
  | succ fuel ih =>
    intro bytes h
    cases bytes with
    | nil => exact ⟨_, limitedString_nil fuel⟩
    | cons b rest =>
      simp only [limitedString]
      split
      · exact ⟨_, rfl⟩
      · apply ih
        have h1 := takeChars_len (intInRange 1 30 (b :: rest)).1 true (intInRange 1 30 (b :: rest)).2
        simp only [size_consumes] at h1 ⊢
        simp at h
        omega
end Apollo.SmithGen
