import ApolloModel.Proofs.Numbers
namespace Apollo.Num
open Apollo
open Apollo.Coord (splitOnce splitOnce_spec splitOnce_append splitOnce_none)

theorem digits_no_special {ds : Str} (h : allDigits ds = true) :
    ∀ x ∈ ds, isE x = false ∧ x ≠ '.' ∧ x ≠ '+' ∧ x ≠ '-' := by
  intro x hx
  have := digit_ne (List.all_eq_true.mp h x hx)
  exact ⟨this.2.2.2, this.2.2.1, this.2.1, this.1⟩

theorem int_no_special {i : Str} (h : SpecIntegerPart i) : ∀ x ∈ i, isE x = false ∧ x ≠ '.' := by
  obtain ⟨ds, hs, hds⟩ := h
  have hd : ∀ x ∈ ds, isE x = false ∧ x ≠ '.' := by
    rcases hds with rfl | ⟨d, rest, rfl, hd, hr⟩
    · intro x hx; simp at hx; subst hx; decide
    · intro x hx
      rcases List.mem_cons.mp hx with rfl | hx
      · have := digit_ne (nonzero_is_digit hd); exact ⟨this.2.2.2, this.2.2.1⟩
      · have := digits_no_special hr x hx; exact ⟨this.1, this.2.1⟩
  rcases hs with rfl | rfl
  · exact hd
  · intro x hx
    rcases List.mem_cons.mp hx with rfl | hx
    · decide
    · exact hd x hx

theorem stripSign_sign_digits {sign ds : Str} (hs : sign = [] ∨ sign = ['+'] ∨ sign = ['-'])
    (hne : ds ≠ []) (hd : allDigits ds = true) : stripSign (sign ++ ds) = ds := by
  rcases hs with rfl | rfl | rfl
  · cases ds with
    | nil => exact absurd rfl hne
    | cons c rest =>
      have := digits_no_special hd c (by simp)
      exact stripSign.eq_3 _ (fun _ e => this.2.2.1 (List.cons.inj e).1) (fun _ e => this.2.2.2 (List.cons.inj e).1)
  · rfl
  · rfl

theorem stripSign_decomp (ex : Str) : ∃ sign, (sign = [] ∨ sign = ['+'] ∨ sign = ['-']) ∧ ex = sign ++ stripSign ex := by
  unfold stripSign
  split
  · exact ⟨['+'], by simp, rfl⟩
  · exact ⟨['-'], by simp, rfl⟩
  · exact ⟨[], by simp, rfl⟩

theorem isEmpty_false_iff {l : Str} : l.isEmpty = false ↔ l ≠ [] := by cases l <;> simp

/-- `FloatValue::valid_syntax` accepts exactly the spec's FloatValue token texts. -/
theorem float_valid_iff_spec (s : Str) : validFloat s = true ↔ SpecFloat s := by
  constructor
  · intro h
    unfold validFloat at h
    cases hE : splitOnceE s with
    | some p =>
      obtain ⟨m, ex⟩ := p
      simp only [hE] at h
      obtain ⟨c, hs, hc, _⟩ := splitOnceE_spec s m ex hE
      by_cases hx : ((stripSign ex).isEmpty || !allDigits (stripSign ex)) = true
      · simp [hx] at h
      · simp only [hx, Bool.false_eq_true, if_false] at h
        simp only [Bool.or_eq_true, Bool.not_eq_true', not_or, Bool.not_eq_true, Bool.not_eq_false] at hx
        obtain ⟨sign, hsign, hex⟩ := stripSign_decomp ex
        have hexp : SpecExponentPart (c :: ex) :=
          ⟨c, sign, stripSign ex, by rw [← hex], hc, hsign, isEmpty_false_iff.mp hx.1, hx.2⟩
        cases hd : splitOnce '.' m with
        | some q =>
          obtain ⟨int, fract⟩ := q
          simp only [hd, validFractional, Bool.and_eq_true, Bool.not_eq_true'] at h
          have hm := (splitOnce_spec '.' m int fract hd).1
          refine ⟨int, '.' :: fract, c :: ex, by simp [hs, hm], (int_valid_iff_spec int).mp h.1.1, Or.inl ⟨?_, hexp⟩⟩
          exact ⟨fract, rfl, isEmpty_false_iff.mp h.1.2, h.2⟩
        | none =>
          simp only [hd] at h
          exact ⟨m, [], c :: ex, by rw [hs]; simp, (int_valid_iff_spec m).mp h, Or.inr (Or.inr ⟨rfl, hexp⟩)⟩
    | none =>
      simp only [hE] at h
      cases hd : splitOnce '.' s with
      | some q =>
        obtain ⟨int, fract⟩ := q
        simp only [hd, validFractional, Bool.and_eq_true, Bool.not_eq_true'] at h
        have hm := (splitOnce_spec '.' s int fract hd).1
        exact ⟨int, '.' :: fract, [], by rw [hm]; simp, (int_valid_iff_spec int).mp h.1.1,
          Or.inr (Or.inl ⟨⟨fract, rfl, isEmpty_false_iff.mp h.1.2, h.2⟩, rfl⟩)⟩
      | none => simp [hd] at h
  · rintro ⟨i, f, e, rfl, hi, hfe⟩
    have hiv := (int_valid_iff_spec i).mpr hi
    have hin := int_no_special hi
    have dot_not_i : '.' ∉ i := fun hm => (hin '.' hm).2 rfl
    have hnoE : ∀ fd, allDigits fd = true → ∀ x ∈ i ++ '.' :: fd, isE x = false := by
      intro fd hfd x hx
      rcases List.mem_append.mp hx with hx | hx
      · exact (hin x hx).1
      · rcases List.mem_cons.mp hx with rfl | hx
        · decide
        · exact (digits_no_special hfd x hx).1
    unfold validFloat
    rcases hfe with ⟨⟨fd, rfl, hfne, hfd⟩, ⟨c, sign, ed, rfl, hc, hsign, hene, hed⟩⟩ |
                    ⟨⟨fd, rfl, hfne, hfd⟩, rfl⟩ | ⟨rfl, ⟨c, sign, ed, rfl, hc, hsign, hene, hed⟩⟩
    · have hnoE := hnoE fd hfd
      have h1 := splitOnceE_append (i ++ '.' :: fd) c (sign ++ ed) hc hnoE
      have h2 := splitOnce_append '.' i fd dot_not_i
      have h3 := stripSign_sign_digits hsign hene hed
      simp only [List.append_assoc] at h1 ⊢
      simp only [List.cons_append] at h1 ⊢
      simp [h1, h2, h3, validFractional, hiv, hfd, hed, isEmpty_false_iff.mpr hene, isEmpty_false_iff.mpr hfne]
    · have hnoE := hnoE fd hfd
      have h1 := splitOnceE_none _ hnoE
      have h2 := splitOnce_append '.' i fd dot_not_i
      simp only [List.append_nil]
      simp [h1, h2, validFractional, hiv, hfd, isEmpty_false_iff.mpr hfne]
    · have h1 := splitOnceE_append i c (sign ++ ed) hc (fun x hx => (hin x hx).1)
      have h2 := splitOnce_none '.' i dot_not_i
      have h3 := stripSign_sign_digits hsign hene hed
      simp only [List.append_nil]
      simp [h1, h2, h3, hiv, hed, isEmpty_false_iff.mpr hene]

end Apollo.Num
