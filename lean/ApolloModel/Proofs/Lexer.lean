import ApolloModel.Model.Lexer
namespace Apollo.Lex

theorem eofItem_data (st : State) (kind : Kind) (acc : Str) : (eofItem st kind acc).data = acc := by
  cases st <;> rfl

theorem Out.mk_data (o : Out) (d : Str) : (o.mk d).data = d := by
  cases o <;> rfl

/-- The driver never loses or duplicates a character, whatever the transition function does:
    item text followed by the unconsumed rest is what was consumed so far followed by the input. -/
theorem runD_concat : ∀ (src : Str) (st : State) (kind : Kind) (e : Bool) (acc : Str),
    (runD st kind e acc src).1.data ++ (runD st kind e acc src).2 = acc ++ src
  | [], st, kind, e, acc => by simp [runD, eofItem_data]
  | c :: rest, st, kind, e, acc => by
    unfold runD
    cases h : step st kind e acc c with
    | goto st' k' e' =>
      simp only []
      rw [runD_concat rest st' k' e' (acc ++ [c])]
      simp
    | incl o => simp [Out.mk_data]
    | excl o => simp [Out.mk_data]

theorem runD_progress : ∀ (src : Str) (st : State) (kind : Kind) (e : Bool) (acc : Str), acc ≠ [] →
    (runD st kind e acc src).1.data ≠ [] ∧ (runD st kind e acc src).2.length ≤ src.length
  | [], st, kind, e, acc, h => by simp [runD, eofItem_data, h]
  | c :: rest, st, kind, e, acc, h => by
    unfold runD
    cases hs : step st kind e acc c with
    | goto st' k' e' =>
      simp only []
      have := runD_progress rest st' k' e' (acc ++ [c]) (by simp)
      exact ⟨this.1, by simp only [List.length_cons]; omega⟩
    | incl o => simp [Out.mk_data]
    | excl o => simp [Out.mk_data, h]

theorem ite_ne {α : Type} {p : Prop} [Decidable p] {a b x : α} (ha : a ≠ x) (hb : b ≠ x) :
    (if p then a else b) ≠ x := by
  split <;> assumption

theorem step_start_not_excl (kind : Kind) (e : Bool) (acc : Str) (c : Char) (o : Out) :
    step .start kind e acc c ≠ .excl o := by
  unfold step
  cases punctuationKind c with
  | some k => exact Action.noConfusion
  | none =>
    dsimp only
    repeat' apply ite_ne
    all_goals exact Action.noConfusion

theorem advance_nil : advance [] = (.tok .eof [], []) := rfl

theorem advance_progress (c : Char) (rest : Str) :
    (advance (c :: rest)).1.data ≠ [] ∧ (advance (c :: rest)).2.length < (c :: rest).length := by
  unfold advance runD
  cases hs : step .start .eof false [] c with
  | goto st' k' e' =>
    simp only []
    have := runD_progress rest st' k' e' ([] ++ [c]) (by simp)
    exact ⟨this.1, by simp only [List.length_cons]; omega⟩
  | incl o => simp [Out.mk_data]
  | excl o => exact absurd hs (step_start_not_excl _ _ _ _ _)

theorem advance_concat (src : Str) : (advance src).1.data ++ (advance src).2 = src := by
  simpa [advance] using runD_concat src .start .eof false []

def texts (items : List Item) : Str := items.flatMap Item.data

theorem lexAux_concat : ∀ (fuel : Nat) (count : Nat) (src : Str), src.length < fuel →
    texts (lexAux fuel none count src) = src ∧ (lexAux fuel none count src).getLast? = some (.tok .eof [])
  | 0, _, _, h => by omega
  | fuel + 1, count, [], _ => by simp [lexAux, texts, Item.data]
  | fuel + 1, count, c :: rest, h => by
    have hp := advance_progress c rest
    have hc := advance_concat (c :: rest)
    have ih := lexAux_concat fuel (count + 1) (advance (c :: rest)).2 (by simp only [List.length_cons] at h hp; omega)
    simp only [lexAux, Bool.false_eq_true, if_false]
    refine ⟨?_, ?_⟩
    · simp only [texts, List.flatMap_cons] at ih ⊢
      rw [ih.1, hc]
    · rw [List.getLast?_cons]
      simp [ih.2]

/-- Lexing without a token limit: the items' texts, concatenated in order, reproduce the input, and
    the stream ends with the EOF token (so the fuel of the model always suffices: termination). -/
theorem lex_concat (src : Str) : texts (lex none src) = src ∧ (lex none src).getLast? = some (.tok .eof []) :=
  lexAux_concat (src.length + 1) 0 src (by omega)

end Apollo.Lex
