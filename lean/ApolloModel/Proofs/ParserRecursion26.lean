import ApolloModel.Proofs.ParserRecursion25
/-
C04, closed form of the nesting depth: the depth of a syntax tree and the judgement that ties
the recursion tracker to it.

`gd e` / `gdl es`: the nesting depth of the guarded constructs in a tree — a `SELECTION_SET` or `LIST_TYPE` node
costs one level, a `LIST_VALUE` with at least one item costs one level, an `OBJECT_FIELD` with its `:` costs one
level (its value is parsed under the guard); every other node costs nothing.

`GD m`: every completed run of `m` appends to the error list and to the builder's children, never lowers the
high-water mark, and — when it added no error, errors were being accepted and the limit was not hit — leaves
the high-water mark at exactly `max high (current + depth of what it added to the tree)`.
-/
set_option linter.unusedSimpArgs false
set_option linter.unusedVariables false
namespace Apollo.Parse
open Apollo.Rowan hiding Str
open Apollo.Lex hiding Str

def hasNode : List Elem → Bool
  | [] => false
  | .node _ _ :: _ => true
  | .tok _ _ :: es => hasNode es

def hasTok (k : SK) : List Elem → Bool
  | [] => false
  | .tok k' _ :: es => k' == k || hasTok k es
  | .node _ _ :: es => hasTok k es

/-- what a node of kind `k` costs, given "has a `:` token child", the depth `d` of its children and the depth `i`
    of its children counted as list items -/
def nodeDepth (k : SK) (hc : Bool) (d i : Nat) : Nat :=
  if k = "SELECTION_SET" ∨ k = "LIST_TYPE" then d + 1
  else if k = "LIST_VALUE" then i
  else if k = "OBJECT_FIELD" then (if hc then d + 1 else d)
  else d

mutual
  /-- nesting depth of the recursion-guarded constructs in a syntax tree -/
  def gd : Elem → Nat
    | .tok _ _ => 0
    | .node k cs => nodeDepth k (hasTok "COLON" cs) (gdl cs) (idl cs)
  def gdl : List Elem → Nat
    | [] => 0
    | e :: es => max (gd e) (gdl es)
  /-- the same for the children of a list value: every item (node) is parsed one level down -/
  def idl : List Elem → Nat
    | [] => 0
    | .tok _ _ :: es => idl es
    | .node k cs :: es => max (nodeDepth k (hasTok "COLON" cs) (gdl cs) (idl cs) + 1) (idl es)
end

theorem idl_node (k : SK) (cs es : List Elem) : idl (.node k cs :: es) = max (gd (.node k cs) + 1) (idl es) := by
  simp [idl, gd]

theorem idl_append (a b : List Elem) : idl (a ++ b) = max (idl a) (idl b) := by
  induction a with
  | nil => simp [idl]
  | cons e es ih =>
    cases e with
    | tok k t => simp only [List.cons_append, idl, ih]
    | node k cs => simp only [List.cons_append, idl, ih]; omega

/-- with a node among them, the items are one level deeper than their depth; without, they have no depth -/
theorem idl_eq (es : List Elem) : idl es = (if hasNode es then gdl es + 1 else 0) ∧ (hasNode es = false → gdl es = 0) := by
  induction es with
  | nil => simp [idl, hasNode, gdl]
  | cons e es ih =>
    cases e with
    | tok k t =>
      simp only [idl, hasNode, gdl, gd]
      refine ⟨by rw [ih.1]; split <;> simp_all, fun h => by rw [ih.2 h]; rfl⟩
    | node k cs =>
      refine ⟨?_, fun h => by simp [hasNode] at h⟩
      rw [idl_node]
      simp only [hasNode, if_true, gdl]
      rw [ih.1]
      split
      · omega
      · rename_i h
        have := ih.2 (by simpa using h)
        omega

theorem gdl_append (a b : List Elem) : gdl (a ++ b) = max (gdl a) (gdl b) := by
  induction a with
  | nil => simp [gdl]
  | cons e es ih => simp only [List.cons_append, gdl, ih]; omega

theorem gdl_tok (k : SK) (t : Rowan.Str) : gdl [Elem.tok k t] = 0 := by simp [gdl, gd]

theorem gdl_single (e : Elem) : gdl [e] = gd e := by simp [gdl]

theorem gdl_pending (ps : List Pending) : gdl (ps.map pendingElem) = 0 := by
  induction ps with
  | nil => rfl
  | cons p ps ih =>
    cases p <;> simp only [List.map_cons, gdl, pendingElem, gd, ih] <;> omega

theorem hasNode_append (a b : List Elem) : hasNode (a ++ b) = (hasNode a || hasNode b) := by
  induction a with
  | nil => simp [hasNode]
  | cons e es ih => cases e <;> simp [hasNode, ih]

theorem hasTok_append (k : SK) (a b : List Elem) : hasTok k (a ++ b) = (hasTok k a || hasTok k b) := by
  induction a with
  | nil => simp [hasTok]
  | cons e es ih => cases e <;> simp [hasTok, ih, Bool.or_assoc]

theorem hasNode_pending (ps : List Pending) : hasNode (ps.map pendingElem) = false := by
  induction ps with
  | nil => rfl
  | cons p ps ih => cases p <;> simp [hasNode, pendingElem, ih]

theorem gd_plain {k : SK} (h : PlainKind k) (cs : List Elem) : gd (.node k cs) = gdl cs := by
  obtain ⟨h1, h2, h3, h4⟩ := h
  simp [gd, nodeDepth, h1, h2, h3, h4]

theorem gd_listValue (cs : List Elem) : gd (.node "LIST_VALUE" cs) = idl cs := by
  simp [gd, nodeDepth]

theorem gd_objectField (cs : List Elem) :
    gd (.node "OBJECT_FIELD" cs) = if hasTok "COLON" cs then gdl cs + 1 else gdl cs := by
  simp [gd, nodeDepth]

theorem gd_guard {k : SK} (h : k = "SELECTION_SET" ∨ k = "LIST_TYPE") (cs : List Elem) : gd (.node k cs) = gdl cs + 1 := by
  simp [gd, nodeDepth, h]

/-! ### the judgements -/

/-- the part that holds for every run -/
structure GWOut (s s' : PState) (extra : List PErr) (added : List Elem) : Prop where
  errs : s'.errors = s.errors ++ extra
  kids : s'.builder.children = s.builder.children ++ added
  mono : s.recHigh ≤ s'.recHigh
  acc : extra = [] → s'.acceptErrors = s.acceptErrors

structure GW {α : Type} (m : PI α) : Prop where
  w : ∀ s a s', Inv s → m.run s = .ok a s' → ∃ extra added, GWOut s s' extra added

/-- error-free, accepting, not hit: the high-water mark is the depth of what was added -/
def Exact (s s' : PState) (extra : List PErr) (added : List Elem) (off : Nat) : Prop :=
  extra = [] → s.acceptErrors = true → s'.recHigh ≤ s.recLimit → s.recCur ≤ s.recHigh →
    s'.recHigh = max s.recHigh (s.recCur + gdl added + off)

structure GD {α : Type} (m : PI α) : Prop where
  g : ∀ s a s', Inv s → m.run s = .ok a s' → ∃ extra added, GWOut s s' extra added ∧ Exact s s' extra added 0

/-- under a recursion guard: one level more -/
structure GD1 {α : Type} (m : PI α) : Prop where
  g : ∀ s a s', Inv s → m.run s = .ok a s' → ∃ extra added, GWOut s s' extra added ∧ Exact s s' extra added 1

def AllTok (es : List Elem) : Prop := ∀ e ∈ es, ∃ k t, e = Elem.tok k t

structure TKS {α : Type} (m : PI α) : Prop where
  z : ∀ s a s', Inv s → m.run s = .ok a s' → ∃ added, s'.builder.children = s.builder.children ++ added ∧ AllTok added ∧
    s'.recHigh = s.recHigh

theorem allTok_gdl {es : List Elem} (h : AllTok es) : gdl es = 0 := by
  induction es with
  | nil => rfl
  | cons e es ih =>
    obtain ⟨k, t, rfl⟩ := h e (by simp)
    simp only [gdl, gd, ih (fun x hx => h x (by simp [hx]))]
    rfl

theorem allTok_idl {es : List Elem} (h : AllTok es) : idl es = 0 := by
  induction es with
  | nil => rfl
  | cons e es ih =>
    obtain ⟨k, t, rfl⟩ := h e (by simp)
    simp only [idl, ih (fun x hx => h x (by simp [hx]))]

theorem allTok_hasNode {es : List Elem} (h : AllTok es) : hasNode es = false := by
  induction es with
  | nil => rfl
  | cons e es ih =>
    obtain ⟨k, t, rfl⟩ := h e (by simp)
    simp only [hasNode, ih (fun x hx => h x (by simp [hx]))]

theorem allTok_append {a b : List Elem} (ha : AllTok a) (hb : AllTok b) : AllTok (a ++ b) := by
  intro e he
  rcases List.mem_append.mp he with h | h
  · exact ha e h
  · exact hb e h

theorem allTok_pending (ps : List Pending) : AllTok (ps.map pendingElem) := by
  intro e he
  obtain ⟨p, _, rfl⟩ := List.mem_map.mp he
  cases p <;> exact ⟨_, _, rfl⟩

theorem gw_of_gd {α : Type} {m : PI α} (h : GD m) : GW m :=
  ⟨fun s a s' hi hr => by obtain ⟨e, a', w, _⟩ := h.g s a s' hi hr; exact ⟨e, a', w⟩⟩

theorem gd_pure {α : Type} (a : α) : GD (pure a : PI α) := by
  constructor
  intro s a' s' _ h
  rw [run_pure] at h
  injection h with _ h
  subst h
  exact ⟨[], [], ⟨by simp, by simp, Nat.le_refl _, fun _ => rfl⟩, fun _ _ _ hc => by simp [gdl]; omega⟩

theorem gd_bind {α β : Type} (m : PI α) (f : α → PI β) (hm : GD m) (hf : ∀ a, GD (f a)) : GD (m >>= f) := by
  constructor
  intro s b s'' hi h
  obtain ⟨a, s', h1, h2⟩ := bind_dec m f s s'' b h
  obtain ⟨hi', fr⟩ := post_of_run m s hi a s' h1
  obtain ⟨e1, a1, w1, x1⟩ := hm.g s a s' hi h1
  obtain ⟨e2, a2, w2, x2⟩ := (hf a).g s' b s'' hi' h2
  refine ⟨e1 ++ e2, a1 ++ a2, ⟨by rw [w2.errs, w1.errs, List.append_assoc], by rw [w2.kids, w1.kids, List.append_assoc],
    Nat.le_trans w1.mono w2.mono, fun he => ?_⟩, ?_⟩
  · obtain ⟨he1, he2⟩ := List.append_eq_nil_iff.mp he
    rw [w2.acc he2, w1.acc he1]
  · intro he ha hh hc
    obtain ⟨he1, he2⟩ := List.append_eq_nil_iff.mp he
    have r1 := x1 he1 ha (Nat.le_trans w2.mono hh) hc
    have hh2 : s''.recHigh ≤ s'.recLimit := by rw [fr.recLimit]; exact hh
    have r2 := x2 he2 (by rw [w1.acc he1]; exact ha) hh2 (by rw [fr.recCur]; exact Nat.le_trans hc w1.mono)
    rw [r2, r1, fr.recCur, gdl_append]
    omega

theorem gd_ite {α : Type} (c : Bool) (a b : PI α) (ha : GD a) (hb : GD b) : GD (if c then a else b) := by
  cases c <;> simp [ha, hb]

theorem gd_same {α : Type} {m : PI α}
    (h : ∀ s a s', m.run s = .ok a s' → s'.builder.children = s.builder.children ∧ s'.errors = s.errors ∧
      s'.acceptErrors = s.acceptErrors ∧ s'.recHigh = s.recHigh) : GD m := by
  constructor
  intro s a s' _ hr
  obtain ⟨h1, h2, h3, h4⟩ := h s a s' hr
  exact ⟨[], [], ⟨by simp [h2], by simp [h1], by omega, fun _ => h3⟩, fun _ _ _ hc => by simp [gdl, h4]; omega⟩

theorem gd_flat {α : Type} {m : PI α}
    (h : ∀ s a s', m.run s = .ok a s' → (∃ added, s'.builder.children = s.builder.children ++ added ∧ gdl added = 0) ∧
      s'.errors = s.errors ∧ s'.acceptErrors = s.acceptErrors ∧ s'.recHigh = s.recHigh) : GD m := by
  constructor
  intro s a s' _ hr
  obtain ⟨⟨added, h1, h0⟩, h2, h3, h4⟩ := h s a s' hr
  exact ⟨[], added, ⟨by simp [h2], h1, by omega, fun _ => h3⟩, fun _ _ _ hc => by rw [h0, h4]; omega⟩

theorem gd_outOfFuel {α : Type} : GD (PI.outOfFuel : PI α) := ⟨fun s a s' _ h => by simp [PI.outOfFuel] at h⟩
theorem gd_stuck {α : Type} : GD (PI.stuck : PI α) := ⟨fun s a s' _ h => by simp [PI.stuck] at h⟩

theorem nextTokenRaw_errs : ∀ (fuel : Nat) (s : PState), ∃ extra, (nextTokenRaw fuel s).2.errors = s.errors ++ extra ∧
    (extra = [] → (nextTokenRaw fuel s).2.acceptErrors = s.acceptErrors ∧ (nextTokenRaw fuel s).2.pending = s.pending)
  | 0, s => ⟨[], by simp [nextTokenRaw], fun _ => by simp [nextTokenRaw]⟩
  | fuel + 1, s => by
    unfold nextTokenRaw
    cases hl : lexNext s.lx with
    | mk o l' =>
      cases o with
      | none => exact ⟨[], by simp, fun _ => ⟨rfl, rfl⟩⟩
      | some out =>
        cases out with
        | tok t => exact ⟨[], by simp, fun _ => ⟨rfl, rfl⟩⟩
        | err d i =>
          simp only []
          obtain ⟨ex, h1, _⟩ := nextTokenRaw_errs fuel { s with
            lx := l', pending := if d.isEmpty then s.pending else s.pending ++ [.error d],
            errors := s.errors ++ [⟨i, utf8Len d, .lexer⟩] }
          exact ⟨[⟨i, utf8Len d, .lexer⟩] ++ ex, by rw [h1]; simp, fun h => by simp at h⟩
        | limit i =>
          simp only []
          obtain ⟨ex, h1, _⟩ := nextTokenRaw_errs fuel { s with lx := l', acceptErrors := false, errors := s.errors ++ [⟨i, 0, .limit⟩] }
          exact ⟨[⟨i, 0, .limit⟩] ++ ex, by rw [h1]; simp, fun h => by simp at h⟩

theorem peekToken_pending (s s' : PState) (o : Option Tok) (h : peekToken.run s = .ok o s') (he : s'.errors = s.errors) :
    s'.pending = s.pending := by
  unfold peekToken at h
  simp only [] at h
  cases hc : s.current with
  | some t => simp only [hc, Res.ok.injEq] at h; obtain ⟨_, rfl⟩ := h; rfl
  | none =>
    simp only [hc, Res.ok.injEq] at h
    obtain ⟨_, rfl⟩ := h
    obtain ⟨ex, h1, h2⟩ := nextTokenRaw_errs (s.lx.src.length + 3) s
    have hx : ex = [] := by
      have : (nextTokenRaw (s.lx.src.length + 3) s).2.errors = s.errors := he
      rw [h1] at this
      exact List.self_eq_append_right.mp this.symm
    exact (h2 hx).2

theorem gd_peekToken : GD peekToken := by
  constructor
  intro s o s' _ h
  have hp := plain_peekToken.out s o s' h
  unfold peekToken at h
  simp only [] at h
  cases hc : s.current with
  | some t =>
    simp only [hc, Res.ok.injEq] at h
    obtain ⟨_, rfl⟩ := h
    exact ⟨[], [], ⟨by simp, by simp, Nat.le_refl _, fun _ => rfl⟩, fun _ _ _ hc => by simp [gdl]; omega⟩
  | none =>
    simp only [hc, Res.ok.injEq] at h
    obtain ⟨_, rfl⟩ := h
    obtain ⟨ex, h1, h2⟩ := nextTokenRaw_errs (s.lx.src.length + 3) s
    have hb := (nextTokenRaw_spec (s.lx.src.length + 3) s).builder
    exact ⟨ex, [], ⟨h1, by show (nextTokenRaw (s.lx.src.length + 3) s).2.builder.children = _; simp [hb], by rw [hp.recHigh]; exact Nat.le_refl _, fun x => (h2 x).1⟩,
      fun _ _ _ hc => by rw [hp.recHigh]; simp [gdl]; omega⟩

theorem gd_moveCurToPending : GD moveCurToPending := by
  refine gd_same ?_
  intro s b s' h
  unfold moveCurToPending at h
  simp only [] at h
  cases hc : s.current with
  | none => simp only [hc] at h; injection h with _ h; subst h; exact ⟨rfl, rfl, rfl, rfl⟩
  | some t => simp only [hc] at h; split at h <;> (injection h with _ h; subst h; exact ⟨rfl, rfl, rfl, rfl⟩)

theorem gd_srcLen : GD srcLen :=
  gd_same (fun s a s' h => by unfold srcLen at h; simp only [] at h; injection h with _ h; subst h; exact ⟨rfl, rfl, rfl, rfl⟩)

theorem gd_getCurrent : GD getCurrent :=
  gd_same (fun s a s' h => by unfold getCurrent at h; simp only [] at h; injection h with _ h; subst h; exact ⟨rfl, rfl, rfl, rfl⟩)

theorem gd_pushIgnored : GD pushIgnored :=
  gd_flat (fun s a s' h => by
    unfold pushIgnored at h; simp only [] at h; injection h with _ h; subst h
    exact ⟨⟨_, rfl, gdl_pending _⟩, rfl, rfl, rfl⟩)

theorem gd_moveCurToTree (kind : SK) : GD (moveCurToTree kind) := by
  refine gd_flat ?_
  intro s a s' h
  unfold moveCurToTree at h
  simp only [] at h
  cases hc : s.current with
  | none => simp only [hc] at h; injection h with _ h; subst h; exact ⟨⟨[], by simp, rfl⟩, rfl, rfl, rfl⟩
  | some t =>
    simp only [hc] at h; injection h with _ h; subst h
    exact ⟨⟨s.pending.map pendingElem ++ [.tok kind t.data], by simp [List.append_assoc],
      by rw [gdl_append, gdl_pending, gdl_tok]; rfl⟩, rfl, rfl, rfl⟩

theorem gd_popDrop : GD popDrop := by
  refine gd_same ?_
  intro s a s' h
  unfold popDrop at h
  simp only [] at h
  cases hc : s.current with
  | none => simp only [hc] at h; injection h with _ h; subst h; exact ⟨rfl, rfl, rfl, rfl⟩
  | some t => simp only [hc] at h; injection h with _ h; subst h; exact ⟨rfl, rfl, rfl, rfl⟩

theorem gd_peekTokenN (n : Nat) : GD (peekTokenN n) :=
  gd_same (fun s a s' h => by unfold peekTokenN at h; simp only [] at h; injection h with _ h; subst h; exact ⟨rfl, rfl, rfl, rfl⟩)

theorem gd_assertRecZero : GD assertRecZero :=
  gd_same (fun s a s' h => by unfold assertRecZero at h; simp only [] at h; injection h with _ h; subst h; exact ⟨rfl, rfl, rfl, rfl⟩)

theorem gd_pushErr (e : PErr) : GD (pushErr e) := by
  constructor
  intro s a s' _ h
  unfold pushErr errUpdate at h
  simp only [] at h
  injection h with _ h
  subst h
  by_cases ha : s.acceptErrors = true
  · refine ⟨[e], [], ⟨by simp [ha], by simp, Nat.le_refl _, fun x => by cases x⟩, fun x => by cases x⟩
  · have ha' : s.acceptErrors = false := by simpa using ha
    exact ⟨[], [], ⟨by simp [ha'], by simp, Nat.le_refl _, fun _ => rfl⟩, fun _ _ _ hc => by simp [gdl]; omega⟩

/-- `limit_err` (the `on_limit` branch): only the part that holds for every run -/
theorem gw_limitErr : GW limitErr := by
  constructor
  intro s a s' hi h
  unfold limitErr at h
  obtain ⟨o, s1, h1, h2⟩ := bind_dec peekToken _ s s' () h
  obtain ⟨e1, a1, w1, _⟩ := gd_peekToken.g s o s1 hi h1
  cases o with
  | none =>
    simp only [] at h2
    rw [run_pure] at h2
    injection h2 with _ h2
    subst h2
    exact ⟨e1, a1, w1⟩
  | some t =>
    simp only [] at h2
    unfold errUpdate at h2
    simp only [] at h2
    injection h2 with _ h2
    subst h2
    by_cases ha : s1.acceptErrors = true
    · refine ⟨e1 ++ [⟨t.index, 0, .limit⟩], a1, ⟨by simp [ha, w1.errs], w1.kids, w1.mono, fun x => by simp at x⟩⟩
    · have ha' : s1.acceptErrors = false := by simpa using ha
      refine ⟨e1, a1, ⟨by simp [ha', w1.errs], w1.kids, w1.mono, fun x => ?_⟩⟩
      have := w1.acc x
      show false = s.acceptErrors
      rw [← this, ha']

theorem gw_bind_pure {α : Type} (a : α) : GW (limitErr >>= fun _ => (pure a : PI α)) := by
  constructor
  intro s b s'' hi h
  obtain ⟨u, s', h1, h2⟩ := bind_dec limitErr _ s s'' b h
  rw [run_pure] at h2
  injection h2 with _ h2
  subst h2
  exact gw_limitErr.w s u s' hi h1

/-! ### the recursion guard: one level -/

theorem gd1_withRec {α : Type} (onLimit body : PI α) (hl : GW onLimit) (hb : GD body) : GD1 (withRec onLimit body) := by
  constructor
  intro s a s' hi h
  rcases withRec_decH onLimit body s s' a h with ⟨hover, hrun⟩ | ⟨hunder, s2, hrun, hs'⟩
  · have hi0 : Inv { s with recHigh := max s.recHigh (s.recCur + 1) } := ⟨hi.text, hi.parents, hi.lexDone, hi.eofTok, hi.errNonempty⟩
    obtain ⟨e, ad, w⟩ := hl.w _ a s' hi0 hrun
    refine ⟨e, ad, ⟨w.errs, w.kids, Nat.le_trans (Nat.le_max_left _ _) w.mono, w.acc⟩, ?_⟩
    intro _ _ hh _
    exfalso
    have h1 := w.mono
    have h2 : s.recCur + 1 ≤ max s.recHigh (s.recCur + 1) := Nat.le_max_right _ _
    have h3 : max s.recHigh (s.recCur + 1) ≤ s'.recHigh := h1
    have h4 : s.recCur + 1 > s.recLimit := hover
    omega
  · subst hs'
    have hi0 : Inv { s with recCur := s.recCur + 1, recHigh := max s.recHigh (s.recCur + 1) } :=
      ⟨hi.text, hi.parents, hi.lexDone, hi.eofTok, hi.errNonempty⟩
    obtain ⟨e, ad, w, x⟩ := hb.g _ a s2 hi0 hrun
    refine ⟨e, ad, ⟨w.errs, w.kids, Nat.le_trans (Nat.le_max_left _ _) w.mono, w.acc⟩, ?_⟩
    intro he ha hh hc
    have r := x he ha hh (by show s.recCur + 1 ≤ max s.recHigh (s.recCur + 1); exact Nat.le_max_right _ _)
    show s2.recHigh = max s.recHigh (s.recCur + gdl ad + 1)
    rw [r]
    show max (max s.recHigh (s.recCur + 1)) (s.recCur + 1 + gdl ad + 0) = _
    omega

end Apollo.Parse
