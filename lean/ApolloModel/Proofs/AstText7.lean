import ApolloModel.Proofs.AstText6
import ApolloModel.Proofs.AstDocument3
/-
Property C08, text level: the segments of a printed document satisfy `SegsWf` (`segsWf_doc`), given well-formed
names and the hypotheses `NumbersLex` / `StringsLex`.
-/
namespace Apollo.Ast
open Apollo.Lex (lex)

def docSegs (pre : Option Str) (level : Nat) (doc : Document) : List Seg :=
  render (initSt pre level) (cDocument (outputEmptyAtStart pre level) doc)

/-- the indentation written before anything else -/
def initialIndent (pre : Option Str) (level : Nat) : Str := (initSt pre level).out

theorem prefixIgnored_init (pre : Option Str) (level : Nat) (h : ∀ p, pre = some p → strIgnored p = true) :
    PrefixIgnored (initSt pre level) := ⟨h, by intro p hp; simp [initSt] at hp⟩

theorem initialIndent_ignored (pre : Option Str) (level : Nat) (h : ∀ p, pre = some p → strIgnored p = true) :
    strIgnored (initialIndent pre level) = true := by
  unfold initialIndent initSt
  cases pre with
  | none => rfl
  | some p => exact indentStr_ignored p level (h p rfl)

theorem render_tok_text (cs : List Cmd) : ∀ (st : St) (t : Tok) (x : Str), Seg.tok t x ∈ render st cs →
    x = tokText t ∨ clsTok t = .str := by
  induction cs with
  | nil => intro st t x h; simp [render] at h
  | cons c cs ih =>
    intro st t x h
    simp only [render, List.mem_append] at h
    rcases h with h | h
    · cases c <;> simp only [segStep, List.mem_singleton, List.not_mem_nil, Seg.tok.injEq, reduceCtorEq] at h
      case tok t' => exact .inl (by rw [h.1, h.2])
      case str d s => exact .inr (by rw [h.1]; rfl)
    · exact ih _ t x h

/-- every name written is a GraphQL name (true of every AST the parser or `Name::new` produced: property C10) -/
def NamesWf (segs : List Seg) : Prop := ∀ n x, Seg.tok (.name n) x ∈ segs → wfName n = true

theorem segsWf_doc (pre : Option Str) (level : Nat) (doc : Document)
    (hpre : ∀ p, pre = some p → strIgnored p = true)
    (hn : NamesWf (docSegs pre level doc)) (hnum : NumbersLex (docSegs pre level doc))
    (hstr : StringsLex (docSegs pre level doc)) : SegsWf (docSegs pre level doc) := by
  intro g hg
  cases g with
  | ign s =>
    exact render_ignored _ _ none (prefixIgnored_init pre level hpre) (separated_document _ doc) s hg
  | tok t x =>
    show TokOk t x
    rcases render_tok_text _ _ t x hg with hx | hs
    · cases t with
      | name n => rw [hx]; exact tokOk_name n (hn n _ hg)
      | p k => rw [hx]; exact tokOk_punct k
      | int s => exact hnum _ _ hg rfl
      | float s => exact hnum _ _ hg rfl
      | str s => exact hstr _ _ hg rfl
    · exact hstr _ _ hg hs

/-- a decidable sufficient condition for the three hypotheses: only well-formed names and punctuators -/
def segsPlain (segs : List Seg) : Bool :=
  segs.all fun g =>
    match g with
    | .tok (.name n) _ => wfName n
    | .tok (.p _) _ => true
    | .tok _ _ => false
    | .ign _ => true

theorem plain_hyps (segs : List Seg) (h : segsPlain segs = true) :
    NamesWf segs ∧ NumbersLex segs ∧ StringsLex segs := by
  simp only [segsPlain, List.all_eq_true] at h
  refine ⟨?_, ?_, ?_⟩
  · intro n x hm; simpa using h _ hm
  · intro t x hm hc
    have := h _ hm
    cases t with
    | p k => cases k <;> simp [clsTok] at hc
    | _ => simp_all [clsTok]
  · intro t x hm hc
    have := h _ hm
    cases t with
    | p k => cases k <;> simp [clsTok] at hc
    | _ => simp_all [clsTok]

end Apollo.Ast
