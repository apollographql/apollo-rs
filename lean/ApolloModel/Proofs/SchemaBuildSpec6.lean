import ApolloModel.Proofs.SchemaBuildSpec5
import ApolloModel.Model.SchemaNames
/-
C14: the non-emptiness rule on the built schema.  Needs two more (unconditional)
invariants of the builder: the names of `schema.types` are pairwise different, and an entry is flagged
built-in iff it is one of the initial entries.
-/
namespace Apollo.SchemaBuild
open Apollo.SchemaNames

structure Inv2 (pre : List Def) (s : Builder) : Prop where
  nodup : (s.types.map (·.name)).Nodup
  flag : ∀ t ∈ s.types, (t.builtin = true ∧ t.name ∈ builtinTypeNames) ∨ (t.builtin = false ∧ t.name ∈ typeDefNames pre)

theorem adoptFold_builtin (k : Kind) : ∀ (exts : List Def) (acc : TypeEntry × List Err),
    (exts.foldl (adoptStep k) acc).1.builtin = acc.1.builtin := by
  intro exts
  induction exts with
  | nil => intro acc; rfl
  | cons e r ih =>
    intro acc
    rw [List.foldl_cons, ih]
    unfold adoptStep
    by_cases h : e.tag = .typeExt k
    · rw [if_pos h]; rfl
    · rw [if_neg h]

theorem typeFromAst_builtin (k : Kind) (d : Def) (exts : List Def) (errs : List Err) :
    (typeFromAst k d exts errs).1.builtin = false := by
  unfold typeFromAst
  rw [adoptFold_builtin]; rfl

theorem typeDefNames_mono (pre : List Def) (d : Def) {n : Name} (h : n ∈ typeDefNames pre) : n ∈ typeDefNames (pre ++ [d]) := by
  rw [typeDefNames_snoc]; exact List.mem_append_left _ h

theorem Inv2_same {pre : List Def} {s s' : Builder} {d : Def} (h : Inv2 pre s) (ht : s'.types = s.types) : Inv2 (pre ++ [d]) s' := by
  refine ⟨by rw [ht]; exact h.nodup, ?_⟩
  intro t hmem
  rw [ht] at hmem
  rcases h.flag t hmem with h1 | h1
  · exact Or.inl h1
  · exact Or.inr ⟨h1.1, typeDefNames_mono pre d h1.2⟩

theorem find_none_not_mem {ts : List TypeEntry} {n : Name} (h : findType ts n = none) : n ∉ ts.map (fun t : TypeEntry => t.name) := by
  unfold findType at h
  rw [List.find?_eq_none] at h
  intro hmem
  obtain ⟨t, ht, hn⟩ := List.mem_map.mp hmem
  exact h t ht (by simp [hn])

theorem setType_names (ts : List TypeEntry) (n : Name) (t' : TypeEntry) (h : t'.name = n) :
    (setType ts n t').map (·.name) = ts.map (·.name) := by
  unfold setType
  rw [List.map_map]
  apply List.map_congr_left
  intro t _
  by_cases hn : t.name = n
  · simp [hn, h]
  · simp [hn]

theorem step_Inv2 (pre : List Def) (s : Builder) (d : Def) (h : Inv2 pre s) : Inv2 (pre ++ [d]) (step s d) := by
  have hold : ∀ t ∈ s.types, (t.builtin = true ∧ t.name ∈ builtinTypeNames) ∨
      (t.builtin = false ∧ t.name ∈ typeDefNames (pre ++ [d])) := fun t ht => (Inv2_same (d := d) h rfl).flag t ht
  rcases step_types_cases s d with ⟨ht, _⟩ | ⟨k, htag, hf, ht, _⟩ | ⟨k, t, _, hf, _, ht, _⟩ | ⟨k, _, _, ht, _⟩
  · exact Inv2_same h ht
  · have hname := (typeFromAst_name k d (s.orphanQ.filter (fun e => e.name == d.name)) s.errors).1
    refine ⟨?_, ?_⟩
    · rw [ht, List.map_append, List.nodup_append]
      refine ⟨h.nodup, by simp, ?_⟩
      intro a ha b hb hab
      have : b = d.name := by simpa [hname] using hb
      exact find_none_not_mem hf (by rw [← this, ← hab]; exact ha)
    · intro t hmem
      rw [ht] at hmem
      rcases List.mem_append.mp hmem with hm | hm
      · exact hold t hm
      · have : t = (typeFromAst k d (s.orphanQ.filter (fun e => e.name == d.name)) s.errors).1 := by simpa using hm
        rw [this]
        refine Or.inr ⟨typeFromAst_builtin _ _ _ _, ?_⟩
        rw [hname, typeDefNames_snoc, (defKind_some d k).mpr htag]
        simp
  · have hname : (extendType t d s.errors).1.name = d.name := (extendType_name t d s.errors).trans (findType_name hf)
    refine ⟨by rw [ht, setType_names _ _ _ hname]; exact h.nodup, ?_⟩
    intro t2 hmem
    rw [ht] at hmem
    unfold setType at hmem
    obtain ⟨t0, ht0, hx⟩ := List.mem_map.mp hmem
    by_cases hn : t0.name = d.name
    · -- the extended entry keeps the name and the flag of the entry it replaces
      have : t2 = (extendType t d s.errors).1 := by simpa [hn] using hx.symm
      have hb : t2.builtin = t.builtin := by rw [this]; rfl
      have hnm : t2.name = t.name := by rw [this]; rfl
      rw [hb, hnm]
      exact hold t (List.mem_of_find?_eq_some hf)
    · have : t2 = t0 := by simpa [hn] using hx.symm
      rw [this]
      exact hold t0 ht0
  · exact Inv2_same h ht

theorem Inv2_init : Inv2 [] (Builder.new false false) := by
  refine ⟨by decide, ?_⟩
  intro t ht
  left
  change t ∈ builtinTypes at ht
  refine ⟨?_, List.mem_map.mpr ⟨t, ht, rfl⟩⟩
  simp only [builtinTypes, List.map_cons, List.map_nil, List.mem_cons, List.not_mem_nil, or_false] at ht
  rcases ht with h | h | h | h | h | h | h | h | h | h | h | h | h <;> rw [h]

theorem scan_Inv2 : ∀ (ds : List Def), Inv2 ds (addDocument (Builder.new false false) ds) := by
  apply snoc_induction
  · exact Inv2_init
  · intro pre d ih
    have hfold : addDocument (Builder.new false false) (pre ++ [d]) = step (addDocument (Builder.new false false) pre) d := by
      unfold addDocument; rw [List.foldl_append]; rfl
    rw [hfold]; exact step_Inv2 pre _ d ih

theorem finishRaw_types (s : Builder) (ha : s.adopt = false) : (finishRaw s).types = s.types := by
  unfold finishRaw
  simp only [ha, Bool.false_eq_true, if_false]
  rw [orphanOuter]
  dsimp only
  by_cases hf : s.schemaFound = true
  · simp only [hf, if_true] <;> rfl
  · simp only [hf]
    by_cases hr : (!(implicitRoots s.types).isEmpty) = true
    · simp only [hr, if_true] <;> rfl
    · simp only [hr]
      rw [schemaOrphanFold] <;> rfl

theorem find_of_mem_nodup {ts : List TypeEntry} (hnd : (ts.map (·.name)).Nodup) {t : TypeEntry} (ht : t ∈ ts) :
    findType ts t.name = some t := by
  induction ts with
  | nil => cases ht
  | cons x r ih =>
    unfold findType
    rw [List.map_cons, List.nodup_cons] at hnd
    by_cases hx : x.name = t.name
    · rcases List.mem_cons.mp ht with h | h
      · rw [h]; simp
      · exact absurd (List.mem_map.mpr ⟨t, h, hx.symm⟩) hnd.1
    · rcases List.mem_cons.mp ht with h | h
      · exact absurd (by rw [h]) hx
      · rw [List.find?_cons_of_neg (by simp [hx])]
        exact ih hnd.2 h

/-- [object-has-fields] … [input-has-fields], on names: every non-scalar type the document defines has a member,
    in its definition or in one of its extensions -/
def NonEmptyNames (ds : List Def) : Prop :=
  ∀ n k, kindOfName ds n = some k → n ∉ builtinTypeNames → k ≠ Kind.scalar → memberNames ds n ≠ []

/-- **non-emptiness**: on an error-free build, `validate_schema` pushes no `Empty…Set` diagnostic iff every
    non-scalar type of the document has a member in its definition or one of its extensions -/
theorem nonempty_rule_iff_spec (ds : List Def) (hwf : WellFormed ds)
    (hb : (build (Builder.new false false) [ds]).errors = []) :
    emptyTypeDiags (build (Builder.new false false) [ds]).types = [] ↔ NonEmptyNames ds := by
  have hspec := ((build_errors_iff_spec ds hwf).mp hb)
  have hinv := (scan_spec ds hwf).2 (scan_errors_of_build hb)
  have hinv2 := scan_Inv2 ds
  have htypes : (build (Builder.new false false) [ds]).types = (addDocument (Builder.new false false) ds).types :=
    finishRaw_types _ hinv.adopt
  rw [htypes]
  unfold emptyTypeDiags NonEmptyNames
  rw [List.map_eq_nil_iff, List.filter_eq_nil_iff]
  constructor
  · intro h n k hk hnb hks hmem
    have hkinds := hinv.t.kinds n
    rw [hk] at hkinds
    cases hf : findType (addDocument (Builder.new false false) ds).types n with
    | none => rw [hf] at hkinds; cases hkinds
    | some t =>
      rw [hf] at hkinds
      have hkind : t.kind = k := by simpa using hkinds
      have htm : t ∈ (addDocument (Builder.new false false) ds).types := List.mem_of_find?_eq_some hf
      have hname := findType_name hf
      have hflag : t.builtin = false := by
        rcases hinv2.flag t htm with h1 | h1
        · exact absurd (hname ▸ h1.2) hnb
        · exact h1.1
      have hv := hinv.t.members n t hf
      apply h t htm
      have hmem0 : t.body.members = [] := by
        cases hl : t.body.members with
        | nil => rfl
        | cons c r =>
          have := (hv c.name).mp (by rw [hl]; simp [hasName])
          rw [hmem] at this; cases this
      simp [hflag, hkind, hks, hmem0]
  · intro h t htm hc
    simp only [Bool.and_eq_true, Bool.not_eq_true', bne_iff_ne, ne_eq, List.isEmpty_iff] at hc
    obtain ⟨⟨hflag, hks⟩, hmem0⟩ := hc
    have hf := find_of_mem_nodup hinv2.nodup htm
    have hk := kind_of_find hinv.t hf
    have hnd : t.name ∈ typeDefNames ds := by
      rcases hinv2.flag t htm with h1 | h1
      · rw [hflag] at h1; cases h1.1
      · exact h1.2
    have hnb : t.name ∉ builtinTypeNames := by
      intro hx
      have := hspec.uniqueTypes
      rw [List.nodup_append] at this
      exact this.2.2 _ hx _ hnd rfl
    have hne := h t.name t.kind hk hnb hks
    have hv := hinv.t.members t.name t hf
    apply hne
    cases hl : memberNames ds t.name with
    | nil => rfl
    | cons c r =>
      have := (hv c).mpr (by rw [hl]; simp)
      rw [hmem0] at this
      simp [hasName] at this

end Apollo.SchemaBuild
