import ApolloModel.Model.LineColumn
namespace Apollo.LC

theorem utf8Size_pos (c : Char) : 0 < c.utf8Size := Char.utf8Size_pos c

theorem scan_ls (offset : Nat) : ∀ (rest : Str) (pos line ls : Nat),
    (scanLines offset pos line ls rest).2 = ls ∨ pos < (scanLines offset pos line ls rest).2
  | [], pos, line, ls => Or.inl rfl
  | c :: rest, pos, line, ls => by
    have hc := utf8Size_pos c
    unfold scanLines
    by_cases hp : pos < offset
    · simp only [hp, if_true]
      split
      · rcases scan_ls offset rest (pos + c.utf8Size) (line + 1) (pos + c.utf8Size) with h | h
        · right; rw [h]; omega
        · right; omega
      · rcases scan_ls offset rest (pos + c.utf8Size) line ls with h | h
        · left; exact h
        · right; omega
    · simp [hp]

theorem cnt_skip (ls offset pos : Nat) (c : Char) (rest : Str) (h : pos < ls) :
    countCharsFrom ls offset pos (c :: rest) = countCharsFrom ls offset (pos + c.utf8Size) rest := by
  simp [countCharsFrom, h]

theorem cnt_take (ls offset pos : Nat) (c : Char) (rest : Str) (h1 : ls ≤ pos) (h2 : pos < offset) :
    countCharsFrom ls offset pos (c :: rest) = 1 + countCharsFrom ls offset (pos + c.utf8Size) rest := by
  have : ¬ pos < ls := by omega
  simp [countCharsFrom, this, h2]

theorem cnt_stop (ls offset pos : Nat) (s : Str) (h1 : ls ≤ pos) (h2 : ¬ pos < offset) :
    countCharsFrom ls offset pos s = 0 := by
  cases s with
  | nil => rfl
  | cons c rest =>
    have : ¬ pos < ls := by omega
    simp [countCharsFrom, this, h2]

theorem spec_cr (offset pos line col : Nat) (rest : Str) (hp : pos < offset) (h : rest.head? ≠ some '\n') :
    specWalk offset pos line col ('\r' :: rest) = specWalk offset (pos + '\r'.utf8Size) (line + 1) 1 rest := by
  have h1 : ('\r' == '\n') = false := by decide
  cases rest with
  | nil => simp [specWalk, hp, h1]
  | cons d rest' =>
    have hd : d ≠ '\n' := by simpa using h
    simp only [specWalk, hp, if_true, h1, Bool.false_eq_true, if_false, beq_self_eq_true]
    split
    · rename_i heq; simp only [List.cons.injEq] at heq; exact absurd heq.1 hd
    · rfl

theorem spec_crlf (offset pos line col : Nat) (rest' : Str) (hp : pos < offset) :
    specWalk offset pos line col ('\r' :: '\n' :: rest') =
      specWalk offset (pos + '\r'.utf8Size) line (col + 1) ('\n' :: rest') := by
  have h1 : ('\r' == '\n') = false := by decide
  simp only [specWalk, hp, if_true, h1, Bool.false_eq_true, if_false, beq_self_eq_true]

theorem scan_cr (offset pos line ls : Nat) (rest : Str) (hp : pos < offset) (h : rest.head? ≠ some '\n') :
    scanLines offset pos line ls ('\r' :: rest) =
      scanLines offset (pos + '\r'.utf8Size) (line + 1) (pos + '\r'.utf8Size) rest := by
  have : (('\r' == '\n') || ('\r' == '\r' && rest.head? != some '\n')) = true := by simp [h]
  simp only [scanLines, hp, if_true, this]

theorem scan_crlf (offset pos line ls : Nat) (rest' : Str) (hp : pos < offset) :
    scanLines offset pos line ls ('\r' :: '\n' :: rest') =
      scanLines offset (pos + '\r'.utf8Size) line ls ('\n' :: rest') := by
  simp [scanLines, hp]

/-- a new line starts right after the current character: both formulations restart there -/
theorem newline_case (offset pos line ls col : Nat) (c : Char) (rest : Str) (hle : ls ≤ pos)
    (ih : specWalk offset (pos + c.utf8Size) (line + 1) 1 rest =
      ((scanLines offset (pos + c.utf8Size) (line + 1) (pos + c.utf8Size) rest).1,
       if (scanLines offset (pos + c.utf8Size) (line + 1) (pos + c.utf8Size) rest).2 = pos + c.utf8Size
       then 1 + countCharsFrom (pos + c.utf8Size) offset (pos + c.utf8Size) rest
       else 1 + countCharsFrom (scanLines offset (pos + c.utf8Size) (line + 1) (pos + c.utf8Size) rest).2 offset (pos + c.utf8Size) rest)) :
    specWalk offset (pos + c.utf8Size) (line + 1) 1 rest =
      ((scanLines offset (pos + c.utf8Size) (line + 1) (pos + c.utf8Size) rest).1,
       if (scanLines offset (pos + c.utf8Size) (line + 1) (pos + c.utf8Size) rest).2 = ls
       then col + countCharsFrom ls offset pos (c :: rest)
       else 1 + countCharsFrom (scanLines offset (pos + c.utf8Size) (line + 1) (pos + c.utf8Size) rest).2 offset pos (c :: rest)) := by
  have hc := utf8Size_pos c
  have hls := scan_ls offset rest (pos + c.utf8Size) (line + 1) (pos + c.utf8Size)
  rw [ih]
  have hne : ¬ (scanLines offset (pos + c.utf8Size) (line + 1) (pos + c.utf8Size) rest).2 = ls := by
    rcases hls with h | h <;> omega
  have hgt : pos < (scanLines offset (pos + c.utf8Size) (line + 1) (pos + c.utf8Size) rest).2 := by
    rcases hls with h | h <;> omega
  simp only [hne, if_false, cnt_skip _ _ _ _ _ hgt]
  split
  · rename_i h; rw [h]
  · rfl

/-- the current character stays on the line: both formulations count it -/
theorem sameline_case (offset pos line ls col : Nat) (c : Char) (rest : Str) (hle : ls ≤ pos) (hp : pos < offset)
    (ih : specWalk offset (pos + c.utf8Size) line (col + 1) rest =
      ((scanLines offset (pos + c.utf8Size) line ls rest).1,
       if (scanLines offset (pos + c.utf8Size) line ls rest).2 = ls
       then (col + 1) + countCharsFrom ls offset (pos + c.utf8Size) rest
       else 1 + countCharsFrom (scanLines offset (pos + c.utf8Size) line ls rest).2 offset (pos + c.utf8Size) rest)) :
    specWalk offset (pos + c.utf8Size) line (col + 1) rest =
      ((scanLines offset (pos + c.utf8Size) line ls rest).1,
       if (scanLines offset (pos + c.utf8Size) line ls rest).2 = ls
       then col + countCharsFrom ls offset pos (c :: rest)
       else 1 + countCharsFrom (scanLines offset (pos + c.utf8Size) line ls rest).2 offset pos (c :: rest)) := by
  have hc := utf8Size_pos c
  have hls := scan_ls offset rest (pos + c.utf8Size) line ls
  rw [ih]
  congr 1
  split
  · rw [cnt_take _ _ _ _ _ hle hp]; omega
  · rename_i hne
    have hgt : pos < (scanLines offset (pos + c.utf8Size) line ls rest).2 := by
      rcases hls with h | h
      · exact absurd h hne
      · omega
    rw [cnt_skip _ _ _ _ _ hgt]

/-- the running column of the one-pass walk is the recount from the line start -/
theorem walk_eq_scan (offset : Nat) : ∀ (rest : Str) (pos line ls col : Nat), ls ≤ pos →
    specWalk offset pos line col rest =
      ((scanLines offset pos line ls rest).1,
       if (scanLines offset pos line ls rest).2 = ls then col + countCharsFrom ls offset pos rest
       else 1 + countCharsFrom (scanLines offset pos line ls rest).2 offset pos rest)
  | [], pos, line, ls, col, _ => by simp [specWalk, scanLines, countCharsFrom]
  | c :: rest, pos, line, ls, col, hle => by
    have hc := utf8Size_pos c
    by_cases hp : pos < offset
    · by_cases hnl : c = '\n'
      · subst hnl
        have ih := walk_eq_scan offset rest (pos + '\n'.utf8Size) (line + 1) (pos + '\n'.utf8Size) 1 (Nat.le_refl _)
        have e1 : specWalk offset pos line col ('\n' :: rest) = specWalk offset (pos + '\n'.utf8Size) (line + 1) 1 rest := by
          simp [specWalk, hp]
        have e2 : scanLines offset pos line ls ('\n' :: rest) =
            scanLines offset (pos + '\n'.utf8Size) (line + 1) (pos + '\n'.utf8Size) rest := by
          simp [scanLines, hp]
        rw [e1, e2]
        exact newline_case offset pos line ls col '\n' rest hle ih
      · by_cases hcr : c = '\r'
        · subst hcr
          by_cases hh : rest.head? = some '\n'
          · obtain ⟨rest', rfl⟩ : ∃ rest', rest = '\n' :: rest' := by
              cases rest with
              | nil => simp at hh
              | cons d r => simp only [List.head?_cons, Option.some.injEq] at hh; exact ⟨r, by rw [hh]⟩
            have ih := walk_eq_scan offset ('\n' :: rest') (pos + '\r'.utf8Size) line ls (col + 1) (by omega)
            rw [spec_crlf _ _ _ _ _ hp, scan_crlf _ _ _ _ _ hp]
            exact sameline_case offset pos line ls col '\r' ('\n' :: rest') hle hp ih
          · have ih := walk_eq_scan offset rest (pos + '\r'.utf8Size) (line + 1) (pos + '\r'.utf8Size) 1 (Nat.le_refl _)
            rw [spec_cr _ _ _ _ _ hp hh, scan_cr _ _ _ _ _ hp hh]
            exact newline_case offset pos line ls col '\r' rest hle ih
        · have ih := walk_eq_scan offset rest (pos + c.utf8Size) line ls (col + 1) (by omega)
          have hb1 : (c == '\n') = false := by simpa using hnl
          have hb2 : (c == '\r') = false := by simpa using hcr
          have e1 : specWalk offset pos line col (c :: rest) = specWalk offset (pos + c.utf8Size) line (col + 1) rest := by
            simp [specWalk, hp, hb1, hb2]
          have e2 : scanLines offset pos line ls (c :: rest) = scanLines offset (pos + c.utf8Size) line ls rest := by
            simp [scanLines, hp, hb1, hb2]
          rw [e1, e2]
          exact sameline_case offset pos line ls col c rest hle hp ih
    · simp [specWalk, scanLines, hp, cnt_stop ls offset pos (c :: rest) hle hp]

/-- **C11 (line/column)** — for every source text and every offset, `get_line_column` returns the
    line according to the GraphQL LineTerminator rule and a column counting Unicode scalar values. -/
theorem line_column_spec (src : Str) (offset : Nat) : getLineColumn src offset = specLineColumn src offset := by
  unfold getLineColumn specLineColumn
  split
  · rfl
  · have h := walk_eq_scan offset src 0 1 0 1 (Nat.le_refl _)
    rw [h]
    simp only []
    by_cases he : (scanLines offset 0 1 0 src).2 = 0
    · simp only [he, if_true]; rw [Nat.add_comm]
    · simp only [he, if_false]; rw [Nat.add_comm]

end Apollo.LC
