import ApolloModel.Model.SchemaInvariants
import ApolloModel.Proofs.SchemaValidation
import ApolloModel.Proofs.BuiltinScalars
/-
Lemmas for C15: the Boolean invariant evaluators against the declarative predicates, and the
"present ⇒ referenced" half of the built-in scalar bookkeeping.
-/
namespace Apollo.SchemaInvariants
open Apollo.SchemaValidation Apollo.SchemaValidation.Spec

theorem isObject_iff (t : RootTarget) : RootTarget.isObject t = true ↔ ∃ n, t = RootTarget.object n := by
  cases t <;> simp [RootTarget.isObject]

theorem rootsInv_iff (q m sub : Option RootTarget) : rootsInv q m sub = true ↔ RootsValid q m sub := by
  unfold rootsInv RootsValid
  simp only [Bool.and_eq_true, List.all_eq_true, decide_eq_true_eq, isObject_iff, and_assoc]

theorem forall_mem_iff_getElem? {α} (l : List α) (p : α → Prop) :
    (∀ t ∈ l, p t) ↔ ∀ (a : Nat) (t : α), l[a]? = some t → p t := by
  constructor
  · intro h a t ht; exact h t (List.mem_of_getElem? ht)
  · intro h t ht
    obtain ⟨a, ha⟩ := List.getElem?_of_mem ht
    exact h a t ha

theorem transInv_iff (s : ISchema) : transInv s = true ↔ TransitiveClosed s := by
  rw [← transitive_closed_iff]
  unfold transInv
  simp only [List.all_eq_true, List.isEmpty_iff]
  exact forall_mem_iff_getElem? s _

theorem ireach_lt (g : IGraph) {a b : Nat} (h : IReach g a b) : b < g.length := by
  induction h with
  | single e => obtain ⟨_, _, _, _, hlt⟩ := e; exact hlt
  | cons _ _ ih => exact ih

theorem inputInv_iff (g : IGraph) : inputInv g = true ↔ ∀ r, ¬ InputCycleThrough g r := by
  unfold inputInv
  rw [List.isEmpty_iff]
  unfold failingInputs
  rw [List.filter_eq_nil_iff]
  have hg : g.length ≤ max 32 g.length := Nat.le_max_right _ _
  constructor
  · intro h r hcyc
    have hr := ireach_lt g hcyc
    have hok := h r (List.mem_range.mpr hr)
    obtain ⟨ws, hp, hnd, hrw, _⟩ := ireach_simple_path g hcyc
    have := search_complete_path g (max 32 g.length) ws (max 32 g.length + 1) [r] r r rfl hp
      (fun w hw hmem => hrw (by have : w = r := by simpa using hmem
                                exact this ▸ hw)) hnd
    exact this (by simpa [checkInput] using hok)
  · intro h r hr
    have hr' := List.mem_range.mp hr
    have h1 : checkInput g (max 32 g.length) r ≠ .outOfFuel :=
      search_fuel g _ _ [r] (g.fields r) (by simp) (by simp)
    have h2 : checkInput g (max 32 g.length) r ≠ .limit :=
      search_no_limit g _ hg _ [r] (g.fields r) (by simp)
        (fun x hx => by have : x = r := by simpa using hx
                        exact this ▸ hr')
    have h3 : checkInput g (max 32 g.length) r ≠ .recursed := fun hc =>
      h r (search_sound g _ _ [r] (g.fields r) r r rfl hr' (fun _ h => h) hc)
    cases hc : checkInput g (max 32 g.length) r <;> simp_all

end Apollo.SchemaInvariants

namespace Apollo.Scalars

theorem defined_after_referenced (order : List Name → List Name) (ho : IsOrder order) (s : Schema)
    (hbuilt : ∀ e ∈ s.types, builtinScalars.contains e.1 = true → e.2.isBuiltIn = true)
    (b : Name) (hb : b ∈ builtinScalars) (hd : (bookkeeping order s).defined b = true) :
    s.allRefs.contains b = true := by
  obtain ⟨e, he, hn⟩ := (defined_iff _ _).mp hd
  subst hn
  rcases mem_bookkeeping_types order ho s e he with ⟨hmem, h⟩ | ⟨h, _⟩
  · exact referenced_of_kept s e (hbuilt e hmem (by simpa using hb)) hb h
  · exact ((mem_usedAndUndefined s e.1).mp h).2.1

end Apollo.Scalars
