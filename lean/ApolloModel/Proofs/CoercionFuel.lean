import ApolloModel.Proofs.Coercion
/- C28: the fuel the entry point passes is enough — `outOfFuel` is never the outcome. -/
namespace Apollo.Coercion
open Apollo Apollo.Spec AList

theorem size_get? : ∀ (kvs : AList Json) (k : String) (v : Json), get? kvs k = some v → v.size ≤ Json.sizeFields kvs := by
  intro kvs
  induction kvs with
  | nil => intro k v h; simp [get?] at h
  | cons hd tl ih =>
    intro k v h
    obtain ⟨a, b⟩ := hd
    simp only [get?] at h
    simp only [Json.sizeFields]
    split at h
    · cases h; omega
    · have := ih k v h; omega

theorem size_mem : ∀ (xs : List Json) (x : Json), x ∈ xs → x.size ≤ Json.sizeList xs := by
  intro xs
  induction xs with
  | nil => intro x h; simp at h
  | cons a tl ih =>
    intro x h
    simp only [Json.sizeList]
    simp only [List.mem_cons] at h
    rcases h with rfl | h
    · omega
    · have := ih x h; omega

theorem depth_mem : ∀ (defs : List InputDef) (d : InputDef), d ∈ defs → d.ty.depth ≤ maxDepthDefs defs := by
  intro defs
  induction defs with
  | nil => intro d h; simp at h
  | cons a tl ih =>
    intro d h
    simp only [maxDepthDefs]
    simp only [List.mem_cons] at h
    rcases h with rfl | h
    · omega
    · have := ih d h; omega

theorem depth_types : ∀ (types : AList TypeDef) (n : String) (fields : List InputDef),
    get? types n = some (.input fields) → maxDepthDefs fields ≤ maxDepthTypes types := by
  intro types
  induction types with
  | nil => intro n fields h; simp [get?] at h
  | cons hd tl ih =>
    intro n fields h
    obtain ⟨a, td⟩ := hd
    simp only [get?] at h
    split at h
    · cases h
      simp only [maxDepthTypes]
      omega
    · have := ih n fields h
      cases td <;> simp only [maxDepthTypes] <;> omega

theorem depth_typeDef (s : ExecSchema) (n : String) (fields : List InputDef)
    (h : s.typeDef? n = some (.input fields)) : maxDepthDefs fields ≤ maxDepthTypes s.types := by
  unfold ExecSchema.typeDef? at h
  split at h
  · cases h
  · exact depth_types _ _ _ h

theorem shape_list_depth {ty inner : Ty} (h : ty.shape = .list inner) : ty.depth = inner.depth + 1 := by
  cases ty <;> simp [Ty.shape] at h <;> subst h <;> simp [Ty.depth]

/-- Only a recursive call can run out of fuel, and it is made on a part of the value at a type no deeper than the
    deepest input field (an item: one list layer less), which `fuelFor` pays for. -/
theorem coerceValue_fuel (s : ExecSchema) : ∀ n ty v,
    v.size * (maxDepthTypes s.types + 1) + ty.depth < n → coerceValue n s ty v ≠ .error .outOfFuel := by
  intro n
  induction n with
  | zero => intro ty v h; omega
  | succ n ih =>
    intro ty v hlt h
    have st := coerceValue_step n s ty v
    rw [h] at st
    cases st with
    | itemE inner xs x _ hsh hx hfx =>
      have hd := shape_list_depth hsh
      have hmul := Nat.mul_le_mul_right (maxDepthTypes s.types + 1) (size_mem xs x hx)
      simp only [Json.size] at hlt
      rw [Nat.add_mul] at hlt
      refine ih inner x ?_ hfx
      generalize x.size * (maxDepthTypes s.types + 1) = A at *
      generalize Json.sizeList xs * (maxDepthTypes s.types + 1) = B at *
      omega
    | singleE inner _ _ hsh _ _ hv =>
      have hd := shape_list_depth hsh
      exact ih inner v (by omega) hv
    | fieldE name fields kvs fd fv _ _ htd hfd hg hf =>
      have hmul := Nat.mul_le_mul_right (maxDepthTypes s.types + 1) (size_get? kvs fd.name fv hg)
      have hdep := Nat.le_trans (depth_mem fields fd hfd) (depth_typeDef s name fields htd)
      simp only [Json.size] at hlt
      rw [Nat.add_mul] at hlt
      refine ih fd.ty fv ?_ hf
      generalize fv.size * (maxDepthTypes s.types + 1) = A at *
      generalize Json.sizeFields kvs * (maxDepthTypes s.types + 1) = B at *
      omega

end Apollo.Coercion
