import ApolloModel.Proofs.ExecutionNull
/-
C26: response shape (`execute_root_keys`, `completeValue_object_keys`).  Every object of `data` is built by one
`execute_selection_set` call for the runtime object type at that position; its keys are, in order, response keys of CollectFields for that type —
those whose field produced a value (a field resolved to `skip`, or unknown to the schema, leaves no key).
-/
namespace Apollo.Exec
open Apollo

theorem keys_insert_fresh : ∀ (m : AList Json) (k : String) (v : Json), AList.get? m k = none →
    AList.keys (AList.insert m k v) = AList.keys m ++ [k] := by
  intro m
  induction m with
  | nil => intro k v _; simp [AList.insert, AList.keys]
  | cons e rest ih =>
    intro k v h
    obtain ⟨k', v'⟩ := e
    simp only [AList.get?] at h
    split at h
    · cases h
    · next hne =>
      simp only [AList.insert, hne, if_false]
      have := ih k v h
      simp only [AList.keys, List.map_cons, List.cons_append] at this ⊢
      rw [this]

theorem execGroups_keys (rec : Rec) (env : Env) (path : Path) (objTy : String) (objId : Nat) :
    ∀ groups acc st m st', (keysOf groups).Nodup → (∀ k, k ∈ keysOf groups → AList.get? acc k = none) →
      execGroups rec env path objTy objId groups acc st = (.ok m, st') →
      ∃ ks, AList.keys m = AList.keys acc ++ ks ∧ ks.Sublist (keysOf groups) := by
  intro groups
  induction groups with
  | nil =>
    intro acc st m st' _ _ h
    simp only [execGroups, Prod.mk.injEq, Except.ok.injEq] at h
    exact ⟨[], by rw [← h.1]; simp, List.Sublist.refl _⟩
  | cons gr rest ih =>
    intro acc st m st' hnd hfresh h
    obtain ⟨key, fields⟩ := gr
    simp only [keysOf, List.map_cons, List.nodup_cons] at hnd
    have hfresh_rest : ∀ k, k ∈ keysOf rest → AList.get? acc k = none :=
      fun k hk => hfresh k (by simp [keysOf] at hk ⊢; exact Or.inr hk)
    have skip : ∀ st1, execGroups rec env path objTy objId rest acc st1 = (.ok m, st') →
        ∃ ks, AList.keys m = AList.keys acc ++ ks ∧ ks.Sublist (keysOf ((key, fields) :: rest)) := by
      intro st1 h1
      obtain ⟨ks, h2, h3⟩ := ih acc st1 m st' hnd.2 hfresh_rest h1
      exact ⟨ks, h2, List.Sublist.cons _ h3⟩
    simp only [execGroups] at h
    split at h
    · exact skip st h
    · next f0 tl =>
      split at h
      · exact skip st h
      · next fdef _ =>
        generalize execField rec env (path ++ [.key key]) objTy objId fdef (f0 :: tl) st = res at h
        obtain ⟨r, st1⟩ := res
        cases r with
        | error e => simp at h
        | ok o =>
          cases o with
          | none => exact skip st1 h
          | some v =>
            have hkey_fresh : AList.get? acc key = none := hfresh key (by simp [keysOf])
            obtain ⟨ks, h2, h3⟩ := ih (AList.insert acc key v) st1 m st' hnd.2 (by
              intro k hk
              have hne : k ≠ key := fun e => hnd.1 (e ▸ hk)
              rw [get_insert_other acc key k v hne]
              exact hfresh_rest k hk) h
            refine ⟨key :: ks, ?_, List.Sublist.cons₂ _ h3⟩
            rw [h2, keys_insert_fresh acc key v hkey_fresh]
            simp

/-- one `execute_selection_set`: keys of the result = response keys of CollectFields (those with a value), in order -/
theorem execSelSet_keys (rec : Rec) (env : Env) (path : Path) (objTy : String) (objId : Nat) (sels : List Sel) (st : St)
    (m : AList Json) (st' : St) (h : execSelSet rec env path objTy objId sels st = (.ok m, st')) :
    ∃ v g, collectFields env objTy env.cfuel sels [] [] = some (v, g) ∧ (AList.keys m).Sublist (keysOf g) := by
  unfold execSelSet at h
  split at h
  · simp at h
  · next v g hc =>
    have hnd := collect_keys_nodup env objTy env.cfuel sels [] [] v g hc (by simp [keysOf])
    obtain ⟨ks, h1, h2⟩ := execGroups_keys rec env path objTy objId g [] st m st' hnd (by intro k _; rfl) h
    refine ⟨v, g, hc, ?_⟩
    rw [h1]
    simpa [AList.keys] using h2

/-- every object in `data`, at any depth: a completed object value has the response keys of CollectFields for
    its RUNTIME type over the merged sub-selections of the fields it answers -/
theorem completeValue_object_keys (env : Env) (n : Nat) (path : Path) (ty : Ty) (resolvedTy : String) (id : Nat)
    (fields : List Sel) (st : St) (m : AList Json) (st' : St)
    (h : completeValue env (n + 1) path ty (.object resolvedTy id) fields st = (.ok (some (.obj m)), st')) :
    ∃ v g, collectFields env resolvedTy env.cfuel (subSelections fields) [] [] = some (v, g) ∧
      (AList.keys m).Sublist (keysOf g) := by
  simp only [completeValue] at h
  split at h
  · simp at h
  · split at h
    · simp at h
    · simp at h
    · split at h
      · generalize hres : execSelSet (completeValue env n) env path resolvedTy id (subSelections fields) st = res at h
        obtain ⟨r, st1⟩ := res
        cases r with
        | ok m' =>
          simp only [Prod.mk.injEq, Except.ok.injEq, Option.some.injEq, Json.obj.injEq] at h
          obtain ⟨rfl, _⟩ := h
          exact execSelSet_keys _ env path resolvedTy id _ st m' st1 hres
        | error e => simp at h
      · simp at h

theorem execute_root_keys (fuel : Nat) (env : Env) (sels : List Sel) (r : Response) (m : AList Json)
    (h : execute fuel env sels = .response r) (hd : r.data = some m) :
    ∃ v g, collectFields env env.schema.query env.cfuel sels [] [] = some (v, g) ∧ (AList.keys m).Sublist (keysOf g) := by
  unfold execute at h
  generalize hres : execSelSet (completeValue env fuel) env [] env.schema.query 0 sels { errors := [] } = res at h
  obtain ⟨x, st1⟩ := res
  cases x with
  | ok m' =>
    simp only [Outcome.response.injEq] at h
    subst h
    simp only [Option.some.injEq] at hd
    subst hd
    exact execSelSet_keys _ env [] env.schema.query 0 sels _ m' st1 hres
  | error e =>
    cases e with
    | propagate => simp only [Outcome.response.injEq] at h; subst h; simp at hd
    | fuel => cases h

end Apollo.Exec
