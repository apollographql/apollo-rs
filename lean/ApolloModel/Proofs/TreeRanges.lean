import ApolloModel.Proofs.ParserTermination
import ApolloModel.Model.LineColumn
import ApolloModel.Model.TreeRanges
/-
C11: byte ranges of the elements of a rowan tree, as `text_range()` computes them: the offset of an
element is the sum of the UTF-8 lengths of all leaves before it, its length the sum over its leaves.
Pure list lemmas: whenever the tree's text is the source, every element's range slices the source to
exactly that element's text (in particular: on character boundaries).
-/
namespace Apollo.Rowan
open Apollo.Parse (utf8Len utf8Len_append utf8Len_cons)

/-- `text_range().len()`: UTF-8 bytes of the element's text -/
def Elem.len (e : Elem) : Nat := utf8Len e.text

theorem utf8Len_eq_byteLen (s : Str) : utf8Len s = LC.byteLen s := rfl

def subAt : Elem → List Nat → Option Elem
  | e, [] => some e
  | .node _ cs, i :: p =>
    match cs[i]? with
    | some c => subAt c p
    | none => none
  | .tok _ _, _ :: _ => none

/-- `text_range().start()` relative to the root: bytes of everything before the element -/
def offsetAt : Elem → List Nat → Nat
  | _, [] => 0
  | .node _ cs, i :: p =>
    utf8Len (textList (cs.take i)) + (match cs[i]? with | some c => offsetAt c p | none => 0)
  | .tok _ _, _ :: _ => 0

theorem textList_append' (a b : List Elem) : textList (a ++ b) = textList a ++ textList b := by
  induction a with
  | nil => simp [textList]
  | cons e es ih => simp [textList, ih]

theorem textList_split (cs : List Elem) (i : Nat) (c : Elem) (h : cs[i]? = some c) :
    textList cs = textList (cs.take i) ++ c.text ++ textList (cs.drop (i + 1)) := by
  obtain ⟨hlt, rfl⟩ := List.getElem?_eq_some_iff.mp h
  have : cs = cs.take i ++ cs[i] :: cs.drop (i + 1) := by simp
  conv => lhs; rw [this]
  rw [textList_append']
  simp [textList, List.append_assoc]

theorem subAt_cons {root e : Elem} {i : Nat} {p : List Nat} (h : subAt root (i :: p) = some e) :
    ∃ k cs c, root = .node k cs ∧ cs[i]? = some c ∧ subAt c p = some e := by
  cases root with
  | tok k t => simp [subAt] at h
  | node k cs =>
    simp only [subAt] at h
    cases hc : cs[i]? with
    | none => rw [hc] at h; simp at h
    | some c => rw [hc] at h; exact ⟨k, cs, c, rfl, hc, h⟩

/-- RANGE EXACTNESS (pure tree lemma): the text of the root is `pre ++ text(e) ++ post` with exactly
    `offsetAt` bytes in `pre` -/
theorem range_decomposition : ∀ (p : List Nat) (root e : Elem), subAt root p = some e →
    ∃ pre post, root.text = pre ++ e.text ++ post ∧ utf8Len pre = offsetAt root p
  | [], root, e, h => by
    simp only [subAt, Option.some.injEq] at h
    subst h
    exact ⟨[], [], by simp, rfl⟩
  | i :: p, root, e, h => by
    obtain ⟨k, cs, c, rfl, hc, h⟩ := subAt_cons h
    obtain ⟨pre, post, htxt, hlen⟩ := range_decomposition p c e h
    refine ⟨textList (cs.take i) ++ pre, post ++ textList (cs.drop (i + 1)), ?_, ?_⟩
    · simp only [Elem.text]
      rw [textList_split cs i c hc, htxt]
      simp [List.append_assoc]
    · simp only [offsetAt, hc, utf8Len_append, hlen]

/-! ### slicing a `List Char` by UTF-8 byte offsets (prefix sums of `Char.utf8Size`) -/

-- `dropBytes`, `takeBytes`, `sliceBytes` are defined in Model/TreeRanges.lean (executable, used by the driver)

theorem dropBytes_zero (s : Str) : dropBytes 0 s = some s := by cases s <;> simp [dropBytes]
theorem takeBytes_zero (s : Str) : takeBytes 0 s = some [] := by cases s <;> simp [takeBytes]

theorem dropBytes_prefix (pre rest : Str) : dropBytes (utf8Len pre) (pre ++ rest) = some rest := by
  induction pre with
  | nil => simp [utf8Len, dropBytes_zero]
  | cons c cs ih =>
    have hpos := Char.utf8Size_pos c
    rw [utf8Len_cons]
    simp only [List.cons_append, dropBytes]
    rw [if_neg (by omega), if_pos (by omega)]
    have : c.utf8Size + utf8Len cs - c.utf8Size = utf8Len cs := by omega
    rw [this]; exact ih

theorem takeBytes_prefix (mid post : Str) : takeBytes (utf8Len mid) (mid ++ post) = some mid := by
  induction mid with
  | nil => simp [utf8Len, takeBytes_zero]
  | cons c cs ih =>
    have hpos := Char.utf8Size_pos c
    rw [utf8Len_cons]
    simp only [List.cons_append, takeBytes]
    rw [if_neg (by omega), if_pos (by omega)]
    have : c.utf8Size + utf8Len cs - c.utf8Size = utf8Len cs := by omega
    rw [this, ih]; rfl

theorem sliceBytes_decomposition (pre mid post : Str) :
    sliceBytes (pre ++ mid ++ post) (utf8Len pre) (utf8Len mid) = some mid := by
  unfold sliceBytes
  rw [List.append_assoc, dropBytes_prefix]
  exact takeBytes_prefix mid post

/-- TOKEN / NODE RANGE EXACT: whenever the tree's text is `src`, the byte range of the element at
    any path slices `src` to exactly that element's text — so both ends are character boundaries -/
theorem range_exact (root : Elem) (src : Str) (hsrc : root.text = src) (p : List Nat) (e : Elem)
    (h : subAt root p = some e) : sliceBytes src (offsetAt root p) e.len = some e.text := by
  obtain ⟨pre, post, htxt, hlen⟩ := range_decomposition p root e h
  rw [← hsrc, htxt, ← hlen]
  exact sliceBytes_decomposition pre e.text post

theorem range_in_file (root : Elem) (p : List Nat) (e : Elem) (h : subAt root p = some e) :
    offsetAt root p + e.len ≤ root.len := by
  obtain ⟨pre, post, htxt, hlen⟩ := range_decomposition p root e h
  unfold Elem.len
  rw [htxt, ← hlen, utf8Len_append, utf8Len_append]
  omega

theorem subAt_append (root : Elem) : ∀ (p q : List Nat) (e : Elem), subAt root p = some e →
    subAt root (p ++ q) = subAt e q := by
  intro p
  induction p generalizing root with
  | nil => intro q e h; simp only [subAt, Option.some.injEq] at h; subst h; rfl
  | cons i p ih =>
    intro q e h
    obtain ⟨k, cs, c, rfl, hc, h⟩ := subAt_cons h
    simp only [subAt, List.cons_append, hc]
    exact ih c q e h

theorem offsetAt_append (root : Elem) : ∀ (p q : List Nat) (e : Elem), subAt root p = some e →
    offsetAt root (p ++ q) = offsetAt root p + offsetAt e q := by
  intro p
  induction p generalizing root with
  | nil => intro q e h; simp only [subAt, Option.some.injEq] at h; subst h; simp [offsetAt]
  | cons i p ih =>
    intro q e h
    obtain ⟨k, cs, c, rfl, hc, h⟩ := subAt_cons h
    simp only [List.cons_append, offsetAt, hc]
    rw [ih c q e h]; omega

/-- NESTING: the range of a descendant lies inside the range of its ancestor -/
theorem ranges_nested (root : Elem) (p q : List Nat) (e d : Elem) (he : subAt root p = some e)
    (hd : subAt e q = some d) :
    offsetAt root p ≤ offsetAt root (p ++ q) ∧ offsetAt root (p ++ q) + d.len ≤ offsetAt root p + e.len := by
  rw [offsetAt_append root p q e he]
  have := range_in_file e q d hd
  constructor <;> omega

/-- ADJACENCY: a child starts where its previous sibling ends; the first child starts where the
    parent starts -/
theorem siblings_adjacent (k : SK) (cs : List Elem) (i : Nat) (c : Elem) (h : cs[i]? = some c) :
    offsetAt (.node k cs) [i + 1] = offsetAt (.node k cs) [i] + c.len ∧ offsetAt (.node k cs) [0] = 0 := by
  obtain ⟨hlt, hc⟩ := List.getElem?_eq_some_iff.mp h
  have e1 : ∀ j : Nat, (match cs[j]? with | some c => offsetAt c [] | none => 0) = 0 := by
    intro j; cases cs[j]? <;> rfl
  constructor
  · have ht : cs.take (i + 1) = cs.take i ++ [c] := by
      rw [List.take_succ, List.getElem?_eq_getElem hlt, hc]; rfl
    show utf8Len (textList (cs.take (i + 1))) + _ = utf8Len (textList (cs.take i)) + _ + c.len
    rw [e1, e1, ht, textList_append', utf8Len_append]
    simp only [textList, List.append_nil, Elem.len, Nat.add_zero]
  · show utf8Len (textList (cs.take 0)) + _ = 0
    rw [e1]
    simp [textList, utf8Len]

/-! ### the executable listing `nameRanges` (Model/TreeRanges.lean, used by the `c11.ranges` stream) lists exactly
the NAME nodes with their `offsetAt` ranges -/

theorem bytes_eq_utf8Len (s : Str) : bytes s = utf8Len s := rfl

mutual
theorem nameRanges_sound : ∀ (e : Elem) (start : Nat) (r : Nat × Nat × Str), r ∈ nameRanges e start →
    ∃ p cs, subAt e p = some (.node "NAME" cs) ∧ r = (start + offsetAt e p, utf8Len (textList cs), textList cs)
  | .tok _ _, _, r, h => by simp [nameRanges] at h
  | .node k cs, start, r, h => by
    simp only [nameRanges, List.mem_append] at h
    rcases h with h | h
    · split at h
      · rename_i hk
        simp at h; subst h
        have : k = "NAME" := by simpa using hk
        subst this
        exact ⟨[], cs, rfl, by simp [offsetAt, bytes_eq_utf8Len]⟩
      · simp at h
    · obtain ⟨i, c, p, cs', hi, hs, hr⟩ := nameRangesList_sound cs start r h
      exact ⟨i :: p, cs', by simp [subAt, hi, hs], by simp [offsetAt, hi, hr, Nat.add_assoc]⟩
theorem nameRangesList_sound : ∀ (es : List Elem) (start : Nat) (r : Nat × Nat × Str), r ∈ nameRangesList es start →
    ∃ i c p cs, es[i]? = some c ∧ subAt c p = some (.node "NAME" cs) ∧
      r = (start + utf8Len (textList (es.take i)) + offsetAt c p, utf8Len (textList cs), textList cs)
  | [], _, r, h => by simp [nameRangesList] at h
  | e :: es, start, r, h => by
    simp only [nameRangesList, List.mem_append] at h
    rcases h with h | h
    · obtain ⟨p, cs, hs, hr⟩ := nameRanges_sound e start r h
      exact ⟨0, e, p, cs, rfl, hs, by simp [hr, textList, utf8Len]⟩
    · obtain ⟨i, c, p, cs, hi, hs, hr⟩ := nameRangesList_sound es (start + bytes e.text) r h
      refine ⟨i + 1, c, p, cs, by simpa using hi, hs, ?_⟩
      rw [hr]
      simp [textList, utf8Len_append, bytes_eq_utf8Len, Nat.add_assoc]
end

theorem nameRangesList_of_child : ∀ (es : List Elem) (i : Nat) (c : Elem) (start : Nat) (x : Nat × Nat × Str),
    es[i]? = some c → x ∈ nameRanges c (start + utf8Len (textList (es.take i))) → x ∈ nameRangesList es start
  | [], i, c, _, _, h, _ => by simp at h
  | e :: es, 0, c, start, x, h, hx => by
    simp at h; subst h
    simp only [nameRangesList, List.mem_append]
    left; simpa [textList, utf8Len] using hx
  | e :: es, i + 1, c, start, x, h, hx => by
    simp only [nameRangesList, List.mem_append]
    right
    apply nameRangesList_of_child es i c (start + bytes e.text) x (by simpa using h)
    simpa [textList, utf8Len_append, bytes_eq_utf8Len, Nat.add_assoc] using hx

theorem nameRanges_complete : ∀ (p : List Nat) (e : Elem) (start : Nat) (cs : List Elem),
    subAt e p = some (.node "NAME" cs) →
    (start + offsetAt e p, utf8Len (textList cs), textList cs) ∈ nameRanges e start
  | [], e, start, cs, h => by
    simp only [subAt, Option.some.injEq] at h
    subst h
    simp [nameRanges, offsetAt, bytes_eq_utf8Len]
  | i :: p, e, start, cs, h => by
    obtain ⟨k, ds, c, rfl, hc, h⟩ := subAt_cons h
    have ih := nameRanges_complete p c (start + utf8Len (textList (ds.take i))) cs h
    simp only [nameRanges, List.mem_append]
    right
    apply nameRangesList_of_child ds i c start _ hc
    simpa [offsetAt, hc, Nat.add_assoc] using ih

end Apollo.Rowan
