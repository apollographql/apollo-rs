import ApolloModel.Proofs.ParserTreeDef7
/-
C08 (pipeline), type-system definitions: schema definition, schema extension, directive definition — tree shapes
(`SchemaLike`, `DirDefTree`), the full `DefTree` over all fifteen loose type-system definitions / extensions, the
conversion theorem `cDefinition_defTree` (`cDefinition` on a `DefTree l` returns `looseConv l`), and the parser side:
every error-free run consumed the tokens of ONE loose definition `l` and appended ONE element, a `DefTree l`.
-/
set_option linter.unusedSimpArgs false
set_option linter.unusedVariables false

namespace Apollo.FromCst
open Apollo.Rowan Apollo.Ast
open Apollo.Parse (isJunk isJunkKind sigE nameNode LooseDef sepNames sepLead fullRoots)

variable {R : List Loc}

theorem allToks_find (pr : SK → Bool) : ∀ ts : List Elem, AllToks ts → ts.find? (nodeP pr) = none
  | [], _ => rfl
  | t :: ts, h => by
    obtain ⟨k, d, rfl⟩ := h t (by simp)
    simp only [List.find?_cons, nodeP_tok]
    exact allToks_find pr ts (fun e he => h e (by simp [he]))

theorem allToks_filter (pr : SK → Bool) : ∀ ts : List Elem, AllToks ts → ts.filter (nodeP pr) = []
  | [], _ => rfl
  | t :: ts, h => by
    obtain ⟨k, d, rfl⟩ := h t (by simp)
    simp only [List.filter_cons, nodeP_tok]
    exact allToks_filter pr ts (fun e he => h e (by simp [he]))

theorem allToks_append {a b : List Elem} (ha : AllToks a) (hb : AllToks b) : AllToks (a ++ b) := by
  intro e he
  rcases List.mem_append.mp he with h | h
  · exact ha e h
  · exact hb e h

theorem roots_find (pr : SK → Bool) (hpr : pr "ROOT_OPERATION_TYPE_DEFINITION" = false) :
    ∀ (rs : List Elem) (roots : List (OpType × Option Ast.Str)), All2 (fun e r => RootTree r e) rs roots →
      rs.find? (nodeP pr) = none
  | [], _, _ => rfl
  | e :: rs, [], h => by cases h
  | e :: rs, r :: roots, h => by
    cases h with
    | cons h1 h2 =>
      obtain ⟨cs, _, _, _, rfl, _⟩ := h1
      simp only [List.find?_cons, nodeP_node, hpr]
      exact roots_find pr hpr rs roots h2

theorem roots_filter : ∀ (rs : List Elem) (roots : List (OpType × Option Ast.Str)), All2 (fun e r => RootTree r e) rs roots →
      rs.filter (nodeP (· == "ROOT_OPERATION_TYPE_DEFINITION")) = rs
  | [], _, _ => rfl
  | e :: rs, [], h => by cases h
  | e :: rs, r :: roots, h => by
    cases h with
    | cons h1 h2 =>
      obtain ⟨cs, _, _, _, rfl, _⟩ := h1
      simp only [List.filter_cons, nodeP_node, beq_self_eq_true, if_true]
      rw [roots_filter rs roots h2]

/-- the braces block of a schema definition / extension: tokens, root operation type definitions, tokens -/
def RootsPart (roots : List (OpType × Option Ast.Str)) (tb : List Elem) : Prop :=
  ∃ pre rs post, tb = pre ++ (rs ++ post) ∧ AllToks pre ∧ AllToks post ∧ All2 (fun e r => RootTree r e) rs roots

theorem rootsPart_nil : RootsPart [] [] := ⟨[], [], [], rfl, allToks_nil, allToks_nil, All2.nil⟩

theorem rootsPart_find {roots : List (OpType × Option Ast.Str)} {tb : List Elem} (h : RootsPart roots tb) (pr : SK → Bool)
    (hpr : pr "ROOT_OPERATION_TYPE_DEFINITION" = false) : tb.find? (nodeP pr) = none := by
  obtain ⟨pre, rs, post, rfl, h1, h2, h3⟩ := h
  simp only [List.find?_append, allToks_find pr pre h1, allToks_find pr post h2, roots_find pr hpr rs roots h3, Option.or_none]

theorem rootsPart_filter {roots : List (OpType × Option Ast.Str)} {tb : List Elem} (h : RootsPart roots tb) :
    All2 (fun e r => RootTree r e) (tb.filter (nodeP (· == "ROOT_OPERATION_TYPE_DEFINITION"))) roots := by
  obtain ⟨pre, rs, post, rfl, h1, h2, h3⟩ := h
  simp only [List.filter_append, allToks_filter _ pre h1, allToks_filter _ post h2, roots_filter rs roots h3, List.nil_append,
    List.append_nil]
  exact h3

theorem hd_filter {desc : Option Ast.Str} {hd : List Elem} (h : Hd desc hd) (pr : SK → Bool) (hpr : pr "DESCRIPTION" = false) :
    hd.filter (nodeP pr) = [] := by
  obtain ⟨pre, toks, rfl, hpre, ht⟩ := h
  rw [List.filter_append, allToks_filter pr toks ht]
  rcases descPre_kinds hpre with rfl | ⟨c, rfl⟩
  · rfl
  · simp [List.filter_cons, nodeP_node, hpr]

/-- `K[hd Directives? { roots }]` -/
def SchemaLike (K : SK) (desc : Option Ast.Str) (ds : List Directive) (roots : List (OpType × Option Ast.Str)) (e : Elem) : Prop :=
  ∃ cs hd td tb, e = .node K cs ∧ Hd desc hd ∧ OptDirs ds td ∧ RootsPart roots tb ∧ sigE cs = hd ++ (td ++ tb)

theorem schemaLike_conv (n : Nat) (K : SK) (desc : Option Ast.Str) (ds : List Directive) (roots : List (OpType × Option Ast.Str))
    (e : Elem) (h : SchemaLike K desc ds roots e) (hs : size e ≤ n + 1) :
    ConvE (fun R => @descOf R) desc e ∧ ConvE (fun R => @directivesOf R n) ds e ∧ ConvE (fun R => @rootsOf R) (rootsConv roots) e := by
  obtain ⟨cs, hd, td, tb, rfl, hhd, htd, htb, hsig⟩ := h
  refine ⟨?_, ?_, ?_⟩
  · obtain ⟨pre, hpre, hf⟩ := hd_find_desc hhd (td ++ tb) (by
      rw [List.find?_append, rootsPart_find htb _ rfl]
      rcases optDirs_kinds htd with rfl | ⟨c, rfl⟩ <;> simp [List.find?_cons, nodeP_node])
    exact descOf_conv K cs desc pre hpre (by rw [hsig]; exact hf)
  · exact directivesOf_conv n K cs ds td htd (by
      rw [hsig, hd_find hhd _ rfl, List.find?_append, rootsPart_find htb _ rfl]
      rcases optDirs_kinds htd with rfl | ⟨c, rfl⟩ <;> simp [List.find?_cons, nodeP_node])
      (by intro e he; rw [hsig]; simp [he]) hs
  · refine rootsOf_conv K cs roots ?_
    rw [hsig, List.filter_append, List.filter_append, hd_filter hhd _ rfl]
    have : td.filter (nodeP (· == "ROOT_OPERATION_TYPE_DEFINITION")) = [] := by
      rcases optDirs_kinds htd with rfl | ⟨c, rfl⟩ <;> simp [List.filter_cons, nodeP_node]
    rw [this]
    exact rootsPart_filter htb

/-! ### directive definition -/

def tokP (kt : SK) (e : Elem) : Bool := !isNodeE e && kindE e == kt

theorem any_tokP_sigE (kt : SK) (hj : isJunkKind kt = false) : ∀ cs : List Elem, cs.any (tokP kt) = (sigE cs).any (tokP kt)
  | [] => rfl
  | e :: cs => by
    have ih := any_tokP_sigE kt hj cs
    unfold sigE at ih ⊢
    cases e with
    | node k c => simp [List.filter_cons, isJunk, tokP, isNodeE, ih]
    | tok k d =>
      by_cases hk : k = kt
      · subst hk
        simp [List.filter_cons, isJunk, hj, tokP, isNodeE, kindE]
      · by_cases hjk : isJunkKind k = true
        · simp [List.filter_cons, isJunk, hjk, tokP, isNodeE, kindE, hk, ih]
        · simp [List.filter_cons, isJunk, hjk, tokP, isNodeE, kindE, hk, ih]

/-- `DIRECTIVE_DEFINITION[hd NAME ArgumentsDefinition? repeatable? on DirectiveLocations]` (`hd` ends with the `@`) -/
def DirDefTree (desc : Option Ast.Str) (nm : Ast.Str) (args : List InputValueDef) (rep : Bool) (locs : List Ast.Str) (e : Elem) :
    Prop :=
  ∃ cs hd ta trep don el, e = .node "DIRECTIVE_DEFINITION" cs ∧ isValidName nm = true ∧ Hd desc hd ∧
    hd.any (tokP "repeatable_KW") = false ∧ OptIvds "ARGUMENTS_DEFINITION" "L_PAREN" "R_PAREN" args ta ∧
    ((rep = true ∧ ∃ d, trep = [.tok "repeatable_KW" d]) ∨ (rep = false ∧ trep = [])) ∧ LocsNode locs el ∧
    sigE cs = hd ++ nameNode nm :: (ta ++ (trep ++ (.tok "on_KW" don :: [el])))

theorem dirDef_conv (n : Nat) (desc : Option Ast.Str) (nm : Ast.Str) (args : List InputValueDef) (rep : Bool) (locs : List Ast.Str)
    (e : Elem) (h : DirDefTree desc nm args rep locs e) (hs : size e ≤ n + 1) :
    ConvE (fun R => @descOf R) desc e ∧ ConvE (fun R => @nameOf R) nm e ∧
    ConvE (fun R => @inputValuesOf R n "ARGUMENTS_DEFINITION") args e ∧ ConvE (fun R => @locationsOf R) locs e ∧
    ∀ (R : List Loc) (s : Nat) (hp : ∀ x ∈ nameRanges e s, x ∈ R), hasToken "repeatable_KW" (⟨(e, s), hp⟩ : PE R) = rep := by
  obtain ⟨cs, hd, ta, trep, don, el, rfl, hv, hhd, hnr, hta, hrep, hel, hsig⟩ := h
  obtain ⟨lcs, rfl, hlocs⟩ := hel
  have hdn := descName_conv "DIRECTIVE_DEFINITION" cs hd _ desc nm hv hhd hsig (by
    rcases optIvds_kinds hta with rfl | ⟨c1, rfl⟩ <;> rcases hrep with ⟨_, d, rfl⟩ | ⟨_, rfl⟩ <;> find_tail)
  refine ⟨hdn.1, hdn.2, ?_, ?_, ?_⟩
  · exact inputValuesOf_conv n "ARGUMENTS_DEFINITION" "L_PAREN" "R_PAREN" "DIRECTIVE_DEFINITION" cs args ta hta (by
      rw [hsig, hd_find hhd _ rfl]
      rcases optIvds_kinds hta with rfl | ⟨c1, rfl⟩ <;> rcases hrep with ⟨_, d, rfl⟩ | ⟨_, rfl⟩ <;> find_tail)
      (by intro e he; rw [hsig]; simp [he]) (by omega)
  · exact locationsOf_conv "DIRECTIVE_DEFINITION" cs locs _ ⟨lcs, rfl, hlocs⟩ (by
      rw [hsig, hd_find hhd _ rfl]
      rcases optIvds_kinds hta with rfl | ⟨c1, rfl⟩ <;> rcases hrep with ⟨_, d, rfl⟩ | ⟨_, rfl⟩ <;> find_tail)
  · intro R s hp
    rw [hasToken_eq]
    show cs.any (tokP "repeatable_KW") = rep
    rw [any_tokP_sigE _ (by decide), hsig, List.any_append, hnr]
    rcases optIvds_kinds hta with rfl | ⟨c1, rfl⟩ <;> rcases hrep with ⟨rfl, d, rfl⟩ | ⟨rfl, rfl⟩ <;>
      simp [tokP, isNodeE, kindE, nameNode]

/-! ### all loose definitions -/

theorem cDef_schemaDef (n : Nat) (p : PE R) (hk : p.kind = "SCHEMA_DEFINITION") :
    cDefinition n p = (descOf p >>= fun desc => directivesOf n p >>= fun dirs => rootsOf p >>= fun roots =>
      pure (.schemaDef desc dirs roots)) := by simp [cDefinition, hk]
theorem cDef_schemaExt (n : Nat) (p : PE R) (hk : p.kind = "SCHEMA_EXTENSION") :
    cDefinition n p = (directivesOf n p >>= fun dirs => rootsOf p >>= fun roots => pure (.schemaExt dirs roots)) := by
  simp [cDefinition, hk]
theorem cDef_directiveDef (n : Nat) (p : PE R) (hk : p.kind = "DIRECTIVE_DEFINITION") :
    cDefinition n p = (descOf p >>= fun desc => nameOf p >>= fun name => inputValuesOf n "ARGUMENTS_DEFINITION" p >>= fun args =>
      locationsOf p >>= fun locs => pure (.directiveDef desc name args (hasToken "repeatable_KW" p) locs)) := by
  simp [cDefinition, hk]

def DefTree : LooseDef → Elem → Prop
  | .directive desc nm args rep _ first rest, e => DirDefTree desc nm args rep (first :: rest) e
  | .schema desc ds roots, e => SchemaLike "SCHEMA_DEFINITION" desc ds roots e
  | .schemaExt ds roots, e => SchemaLike "SCHEMA_EXTENSION" none ds roots e
  | l, e => NamedDefTree l e

theorem defTree_of_named {l : LooseDef} {e : Elem} (h : NamedDefTree l e) : DefTree l e := by
  cases l <;> first | exact h | exact absurd h id

/-- **conversion of every type-system definition and extension**: on the tree of the loose definition `l`, `cDefinition`
    succeeds with `looseConv l` -/
theorem cDefinition_defTree (n : Nat) (l : LooseDef) (e : Elem) (h : DefTree l e) (hs : size e ≤ n + 1) :
    ConvE (fun R => @cDefinition R n) (looseConv l) e := by
  cases l
  case directive desc nm args rep lead first rest =>
    intro R s hp
    have h' : DirDefTree desc nm args rep (first :: rest) e := h
    obtain ⟨h1, h2, h3, h4, h5⟩ := dirDef_conv n desc nm args rep _ e h' hs
    obtain ⟨cs, _, _, _, _, _, rfl, _⟩ := h'
    obtain ⟨l1, e1⟩ := h1 R s hp; obtain ⟨l2, e2⟩ := h2 R s hp; obtain ⟨l3, e3⟩ := h3 R s hp; obtain ⟨l4, e4⟩ := h4 R s hp
    exact ⟨_, by show cDefinition n _ = _; rw [cDef_directiveDef n _ rfl, h5 R s hp]
                 exact bind_ok e1 (bind_ok e2 (bind_ok e3 (bind_ok e4 (pure_ok _))))⟩
  case schema desc ds roots =>
    intro R s hp
    have h' : SchemaLike "SCHEMA_DEFINITION" desc ds roots e := h
    obtain ⟨h1, h2, h3⟩ := schemaLike_conv n _ desc ds roots e h' hs
    obtain ⟨cs, _, _, _, rfl, _⟩ := h'
    obtain ⟨l1, e1⟩ := h1 R s hp; obtain ⟨l2, e2⟩ := h2 R s hp; obtain ⟨l3, e3⟩ := h3 R s hp
    exact ⟨_, by show cDefinition n _ = _; rw [cDef_schemaDef n _ rfl]; exact bind_ok e1 (bind_ok e2 (bind_ok e3 (pure_ok _)))⟩
  case schemaExt ds roots =>
    intro R s hp
    have h' : SchemaLike "SCHEMA_EXTENSION" none ds roots e := h
    obtain ⟨h1, h2, h3⟩ := schemaLike_conv n _ none ds roots e h' hs
    obtain ⟨cs, _, _, _, rfl, _⟩ := h'
    obtain ⟨l2, e2⟩ := h2 R s hp; obtain ⟨l3, e3⟩ := h3 R s hp
    exact ⟨_, by show cDefinition n _ = _; rw [cDef_schemaExt n _ rfl]; exact bind_ok e2 (bind_ok e3 (pure_ok _))⟩
  all_goals exact cDefinition_named n _ e h hs

end Apollo.FromCst

namespace Apollo.Parse
open Apollo.Rowan hiding Str
open Apollo.Lex hiding Str
open Apollo.FromCst (TyTree DescPre OptDirs All2 Hd AllToks NamedDefTree DefTree SchemaLike DirDefTree RootsPart RootTree LocsNode
  OptIvds IvdsNode tokP)

/-! ### `peek_while_kind` with a captured flag -/

theorem tr_kindFlagLoop {E : PState → Prop} (hE : Early E) (k : Kind) (item : PI Unit) (Q : List Tok → List Elem → Prop)
    (hitem : Tr E (KindP (· == k)) item (fun _ => Q)) : ∀ fuel flag,
    Tr E (fun _ => True) (peekWhileKindFlagLoop k item fuel flag)
      (fun res cs e => ∃ items : List (List Tok × List Elem), cs = (items.map (·.1)).flatten ∧ e = (items.map (·.2)).flatten ∧
        (∀ i ∈ items, Q i.1 i.2) ∧ res = (flag || !items.isEmpty))
  | 0, _ => tr_outOfFuel
  | fuel + 1, flag => by
    unfold peekWhileKindFlagLoop
    refine tr_peek (fun ko => ?_)
    cases ko with
    | none => exact tr_noToken (good_pure flag)
    | some k' =>
      refine tr_ite _ (fun _ => (tr_pure E _ flag).mono (fun _ h => h) ?_) (fun hk => ?_)
      · rintro _ _ _ ⟨rfl, rfl, rfl⟩
        exact ⟨[], rfl, rfl, (by intro i hi; cases hi), by simp⟩
      · refine tr_getCurrent (fun before => ?_)
        refine (tr_bind hE (hitem.mono (fun q hq => kindP_of_head hq.2 (by simpa using hk)) (fun _ _ _ h => h))
          (fun _ => tr_unlessStuck before (tr_kindFlagLoop hE k item Q hitem fuel true))).mono (fun _ h => h) ?_
        rintro res cs e ⟨_, c1, c2, e1, e2, rfl, rfl, hq, items, rfl, rfl, hall, rfl⟩
        exact ⟨(c1, e1) :: items, by simp, by simp, List.forall_mem_cons.mpr ⟨hq, hall⟩, by simp⟩

/-! ### the braces block of the schema definition / extension -/

theorem items_roots : ∀ items : List (List Tok × List Elem), (∀ i ∈ items, RootR i.1 i.2) →
    ∃ (roots : List (Ast.OpType × Option Ast.Str)), TokIs (items.map (·.1)).flatten (tRootOpItemsF roots) ∧
      All2 (fun e r => RootTree r e) (items.map (·.2)).flatten roots ∧ roots.length = items.length
  | [], _ => ⟨[], TokIs.nil, All2.nil, rfl⟩
  | i :: items, h => by
    obtain ⟨roots, h1, h2, h3⟩ := items_roots items (fun j hj => h j (List.mem_cons_of_mem _ hj))
    obtain ⟨r, er, hr1, hr2, hr3⟩ := h i List.mem_cons_self
    refine ⟨r :: roots, ?_, ?_, by simp [h3]⟩
    · simp only [List.map_cons, List.flatten_cons, tRootOpItemsF]
      exact hr1.append h1
    · simp only [List.map_cons, List.flatten_cons, hr2]
      exact All2.cons hr3 h2

/-- `{ RootOperationTypeDefinition+ }` followed by `K` -/
theorem tr_rootsBlock {α : Type} (K : PI α) (R : α → List Tok → List Elem → Prop) (hK : Tr NoE (fun _ => True) K R) :
    Tr NoE (KindP (· == .lCurly)) (rootsBlock K)
      (fun a cs e => ∃ (roots : List (Ast.OpType × Option Ast.Str)) (to : Tok) (c1 c2 : List Tok) (rs e2 : List Elem),
        roots ≠ [] ∧ cs = to :: (c1 ++ c2) ∧ TokIs (to :: c1) (.p .lCurly :: tRootOpItemsF roots) ∧
        e = Elem.tok "L_CURLY" to.data :: (rs ++ e2) ∧ All2 (fun e r => RootTree r e) rs roots ∧ R a c2 e2) := by
  unfold rootsBlock
  have hloop : ∀ len, Tr NoE (fun _ => True)
      (peekWhileKindFlagLoop .name rootOperationTypeDefinition (len + 3) false >>= fun has => if !has then (err >>= fun _ => K) else K)
      (fun a cs e => ∃ (roots : List (Ast.OpType × Option Ast.Str)) (c1 c2 : List Tok) (rs e2 : List Elem),
        roots ≠ [] ∧ cs = c1 ++ c2 ∧ TokIs c1 (tRootOpItemsF roots) ∧ e = rs ++ e2 ∧ All2 (fun e r => RootTree r e) rs roots ∧
        R a c2 e2) := by
    intro len
    have hl := tr_kindFlagLoop early_false .name rootOperationTypeDefinition RootR (tr_rootOperationTypeDefinition early_false)
      (len + 3) false
    have hK' : ∀ has : Bool, Tr NoE (fun _ => True) (if !has then (err >>= fun _ => K) else K) (fun a cs e => has = true ∧ R a cs e) := by
      intro has
      cases has with
      | true =>
        have : Tr NoE (fun _ => True) K (fun a cs e => true = true ∧ R a cs e) := hK.mono (fun _ h => h) (fun _ _ _ h => ⟨rfl, h⟩)
        simpa using this
      | false => simpa using (tr_never (E := NoE) (H := fun _ => True) (acc_err' (E := E0) K hK.1))
    refine (tr_bind early_false hl hK').mono (fun _ h => h) ?_
    rintro a cs e ⟨has, c1, c2, e1, e2, rfl, rfl, ⟨items, rfl, rfl, hall, hhas⟩, hh, hR⟩
    obtain ⟨roots, h1, h2, h3⟩ := items_roots items hall
    refine ⟨roots, _, c2, _, e2, ?_, rfl, h1, rfl, h2, hR⟩
    intro h0
    rw [h0] at h3
    have : items = [] := List.eq_nil_of_length_eq_zero h3.symm
    rw [this, hh] at hhas
    simp at hhas
  have hb := tr_bind early_false (tr_bumpK (E := NoE) "L_CURLY" (by decide) .lCurly rfl (by decide)) (fun _ => tr_srcLen hloop)
  refine hb.mono (fun _ => kindP_headK) ?_
  rintro a cs e ⟨_, c1, c2, e1, e2, rfl, rfl, ⟨t, hk, _, rfl, rfl⟩, roots, c3, c4, rs, e4, hne, rfl, h3, rfl, h5, h6⟩
  exact ⟨roots, t, c3, c4, rs, e4, hne, rfl, TokIs.cons (by simp [astOfV, hk]) h3, rfl, h5, h6⟩

theorem rootsPart_braces {roots : List (Ast.OpType × Option Ast.Str)} {rs : List Elem} (h : All2 (fun e r => RootTree r e) rs roots)
    (d1 d2 : Rowan.Str) : RootsPart roots (Elem.tok "L_CURLY" d1 :: (rs ++ [Elem.tok "R_CURLY" d2])) :=
  ⟨[Elem.tok "L_CURLY" d1], rs, [Elem.tok "R_CURLY" d2], rfl, FromCst.allToks_cons _ _ FromCst.allToks_nil,
    FromCst.allToks_cons _ _ FromCst.allToks_nil, h⟩

/-- the braces block closed by `}` -/
theorem tr_sBraces {H : List Tok → Prop} :
    Tr NoE H sBraces
      (fun _ cs e => ∃ (roots : List (Ast.OpType × Option Ast.Str)), roots ≠ [] ∧
        TokIs cs (.p .lCurly :: tRootOpItemsF roots ++ [.p .rCurly]) ∧ RootsPart roots e) := by
  unfold sBraces
  refine tr_ifKind .lCurly _ _ _ ?_ tr_err
  refine (tr_rootsBlock _ _ (tr_expect (E := NoE) (H := fun _ => True) .rCurly "R_CURLY" (by decide) rfl (by decide))).mono
    (fun _ h => h) ?_
  rintro _ cs e ⟨roots, to, c1, c2, rs, e2, hne, rfl, h1, rfl, h2, tc, hkc, rfl, rfl⟩
  refine ⟨roots, hne, ?_, rootsPart_braces h2 _ _⟩
  have := h1.append (TokIs.single tc (.p .rCurly) (by simp [astOfV, hkc]))
  simpa using this

/-! ### schema definition -/

theorem tr_schemaDefinition (n : Nat) :
    Tr NoE (DefStart "schema") (schemaDefinition n)
      (fun _ cs e => ∃ (desc : Option Ast.Str) (ds : List Ast.Directive) (roots : List (Ast.OpType × Option Ast.Str))
        (ed : Elem), TokIs cs (LooseDef.toks (.schema desc ds roots)) ∧ Ast.wfDirs ds = true ∧ roots ≠ [] ∧ e = [ed] ∧
        DefTree (.schema desc ds roots) ed) := by
  rw [schemaDefinition_eq]
  have h1 := tr_optDirectives n true sBraces (tr_sBraces (H := fun _ => True)) (H := fun _ => True)
  have h2 := tr_descKwEntered early_false "schema" kwWord_schema "schema_KW" (by decide) _ _ h1
  refine (tr_withNodeL early_false "SCHEMA_DEFINITION" (defStart_sig kwWord_schema) h2).mono (fun _ h => h) ?_
  rintro _ cs e ⟨inner, rfl, desc, c1, c2, pre, e2, rfl, hin, hd1, hd2, c3, c4, e3, e4, rfl, rfl, hkw,
    ds, c5, c6, td, e6, rfl, rfl, hds1, hds2, hds3, roots, hne, hr1, hr2⟩
  obtain ⟨hk1, hk2⟩ := kwPartT_toks hkw
  refine ⟨desc, ds, roots, _, ?_, dirsOk_wf true ds hds2, hne, rfl, inner, pre ++ e3, td, e6, rfl,
    ⟨pre, e3, rfl, hd2, hk2⟩, hds3, hr2, by rw [hin]; simp⟩
  have := hd1.append (hk1.append (hds1.append hr1))
  simpa [LooseDef.toks, schemaToks, List.append_assoc] using this

/-! ### schema extension -/

theorem tr_schemaExtBraces (meets : Bool) {H : List Tok → Prop} :
    Tr NoE H (schemaExtBraces meets)
      (fun _ cs e => ∃ (roots : List (Ast.OpType × Option Ast.Str)),
        TokIs cs (Ast.tBraced (tRootOpItemsF roots) roots.isEmpty) ∧ RootsPart roots e) := by
  unfold schemaExtBraces
  refine tr_ifKind .lCurly _ _ _ ?_ ?_
  · have hK := tr_bind early_false (tr_expect (E := NoE) (H := fun _ => True) .rCurly "R_CURLY" (by decide) rfl (by decide))
      (fun _ => tr_extEnd (E := NoE) (H := fun _ => True) true)
    refine (tr_rootsBlock _ _ hK).mono (fun _ h => h) ?_
    rintro _ cs e ⟨roots, to, c1, c2, rs, e2, hne, rfl, h1, rfl, h2, _, c3, c4, e3, e4, rfl, rfl, ⟨tc, hkc, rfl, rfl⟩, rfl, rfl⟩
    refine ⟨roots, ?_, by simpa using rootsPart_braces h2 to.data tc.data⟩
    have hemp : roots.isEmpty = false := by cases roots with | nil => exact absurd rfl hne | cons _ _ => rfl
    have := h1.append (TokIs.single tc (.p .rCurly) (by simp [astOfV, hkc]))
    simpa [Ast.tBraced, hemp] using this
  · refine (tr_extEnd (E := NoE) (H := fun _ => True) meets).mono (fun _ h => h) ?_
    rintro _ cs e ⟨rfl, rfl⟩
    exact ⟨[], by simpa [Ast.tBraced, tRootOpItemsF] using TokIs.nil, FromCst.rootsPart_nil⟩

theorem tr_schemaExtension (n : Nat) :
    Tr NoE (Ext2 "extend" "schema") (schemaExtension n)
      (fun _ cs e => ∃ (ds : List Ast.Directive) (roots : List (Ast.OpType × Option Ast.Str)) (ed : Elem),
        TokIs cs (LooseDef.toks (.schemaExt ds roots)) ∧ Ast.wfDirs ds = true ∧ e = [ed] ∧ DefTree (.schemaExt ds roots) ed) := by
  rw [schemaExtension_eq]
  have hd : Tr NoE (KindP (· == .at)) (directives n true) _ := (tr_directives n true).atKind
  have hdirs0 := tr_optKind2 (E := NoE) early_false (H := fun _ => True) .at (directives n true) (schemaExtBraces true)
    (schemaExtBraces false) _ _ hd (tr_schemaExtBraces true) (tr_schemaExtBraces false)
  have hdirs : Tr NoE (fun _ => True) (extDirs n schemaExtBraces false) _ := hdirs0
  have hb := tr_bump2 "extend" "schema" kwWord_extend kwWord_schema "extend_KW" "schema_KW" (by decide) (by decide) _ _ hdirs
  refine (tr_withNodeL early_false "SCHEMA_EXTENSION" (fun q hl hq => ext2_sig kwWord_extend q ⟨hl, hq⟩) hb).mono (fun _ h => h) ?_
  rintro _ cs e ⟨inner, rfl, t1, t2, c2, e2, hd1, hk1, hd2, hk2, rfl, hin, c3, c4, e3, e4, rfl, rfl, hdr, roots, hr1, hr2⟩
  have hkw := kwE_toks "schema" t1 t2 hd1 hk1 hd2 hk2
  rcases hdr with ⟨ds, ed, hds1, hds2, rfl, hds4⟩ | ⟨rfl, rfl⟩
  · refine ⟨ds, roots, _, ?_, dirsOk_wf true ds hds2, rfl, inner, _, [ed], e4, rfl, hd_ext "extend_KW" "schema_KW" t1.data t2.data,
      Or.inr ⟨ed, rfl, hds4⟩, hr2, by rw [hin]; simp⟩
    have := hkw.append (hds1.append hr1)
    simpa [LooseDef.toks, List.append_assoc] using this
  · refine ⟨[], roots, _, ?_, rfl, rfl, inner, _, [], e4, rfl, hd_ext "extend_KW" "schema_KW" t1.data t2.data,
      Or.inl ⟨rfl, rfl⟩, hr2, by rw [hin]; simp⟩
    have := hkw.append hr1
    simpa [LooseDef.toks, Ast.tDirectives, List.append_assoc] using this

end Apollo.Parse

namespace Apollo.Parse
open Apollo.Rowan hiding Str
open Apollo.Lex hiding Str
open Apollo.FromCst (TyTree DescPre OptDirs All2 Hd AllToks NamedDefTree DefTree SchemaLike DirDefTree RootsPart RootTree LocsNode
  OptIvds IvdsNode tokP LocTree)

/-! ### directive definition -/

theorem tr_dLocs {H : List Tok → Prop} :
    Tr NoE H dLocs (fun _ cs e => ∃ (lead : Bool) (first : Ast.Str) (rest : List Ast.Str) (el : Elem),
      TokIs cs (tSepLead .pipe lead first rest) ∧ e = [el] ∧ LocsNode (first :: rest) el) := by
  unfold dLocs
  refine tr_peekIf _ _ _ _ ?_ tr_err
  refine (tr_withNodeAny early_false "DIRECTIVE_LOCATIONS" (tr_directiveLocations early_false (H := fun _ => True))).mono
    (fun _ h => h) ?_
  rintro _ cs e ⟨inner, rfl, lead, first, rest, h1, h2⟩
  exact ⟨lead, first, rest, _, h1, rfl, inner, rfl, h2⟩

theorem tr_dOn {H : List Tok → Prop} :
    Tr NoE H dOn (fun _ cs e => ∃ (ton : Tok) (lead : Bool) (first : Ast.Str) (rest : List Ast.Str) (el : Elem),
      TokIs cs (.name Ast.sOn :: tSepLead .pipe lead first rest) ∧ e = [Elem.tok "on_KW" ton.data, el] ∧
      LocsNode (first :: rest) el) := by
  unfold dOn
  apply tr_peekData
  intro o
  cases o with
  | none => exact (tr_never (acc_emptyQueue good_dLocs)).mono (fun _ h => h.2) (fun _ _ _ h => h)
  | some t =>
    simp only [Option.map]
    refine tr_ite _ (fun hk => ?_) (fun _ => tr_never (acc_err' dLocs good_dLocs))
    have hd : t.data = "on".toList := by simpa [kw] using hk
    have hb : Tr NoE (fun q => H q ∧ q.head? = some t) (bump "on_KW") _ :=
      (tr_bumpKw (E := NoE) "on" kwWord_on "on_KW" (by decide)).mono (fun q hq => ⟨t, hq.2, hd⟩) (fun _ _ _ h => h)
    refine (tr_bind early_false hb (fun _ => tr_dLocs (H := fun _ => True))).mono (fun _ h => h) ?_
    rintro _ cs e ⟨_, c1, c2, e1, e2, rfl, rfl, ⟨ton, hd1, hk1, rfl, rfl⟩, lead, first, rest, el, h1, rfl, h3⟩
    refine ⟨ton, lead, first, rest, el, ?_, rfl, h3⟩
    refine TokIs.cons (t := ton) ?_ h1
    rw [show astOfV ton = some (.name ton.data) from by simp [astOfV, hk1], hd1]; rfl

/-- what follows the `directive` keyword -/
def DirTailT (cs : List Tok) (e : List Elem) : Prop :=
  ∃ (nm : Ast.Str) (args : List Ast.InputValueDef) (rep lead : Bool) (first : Ast.Str) (rest : List Ast.Str)
    (dat don : Rowan.Str) (ta trep : List Elem) (el : Elem),
    TokIs cs (.p .at :: .name nm :: Ast.tArgsDef args ++ kwPart "repeatable" rep ++ .name Ast.sOn :: tSepLead .pipe lead first rest) ∧
    isValidName nm = true ∧ Ast.wfIVDs args = true ∧
    e = Elem.tok "AT" dat :: nameNode nm :: (ta ++ (trep ++ [Elem.tok "on_KW" don, el])) ∧
    OptIvds "ARGUMENTS_DEFINITION" "L_PAREN" "R_PAREN" args ta ∧
    ((rep = true ∧ ∃ d, trep = [Elem.tok "repeatable_KW" d]) ∨ (rep = false ∧ trep = [])) ∧ LocsNode (first :: rest) el

theorem tr_dAt (n : Nat) {H : List Tok → Prop} : Tr NoE H (dAt n) (fun _ => DirTailT) := by
  have hRep := tr_optKw early_false (H := fun _ => True) "repeatable" kwWord_repeatable "repeatable_KW" (by decide) dOn _
    (tr_dOn (H := fun _ => True))
  have hArgs := tr_optKind early_false (H := fun _ => True) .lParen (argumentsDefinition n) _ _ _ (tr_argumentsDefinition n) hRep
  have hName : Tr NoE (fun _ => True) (dName n) _ := tr_bind early_false (tr_name (E := NoE) (H := fun _ => True)) (fun _ => hArgs)
  unfold dAt
  have hbat := tr_bumpK (E := NoE) "AT" (by decide) .at rfl (by decide)
  have hb := tr_bind early_false hbat (fun _ => hName)
  refine (tr_ifKind .at _ _ _ hb.atKind
    (tr_never (acc_err' (dName n) hName.1))).mono (fun _ h => h) ?_
  rintro _ cs e ⟨_, c1, c2, e1, e2, rfl, rfl, ⟨tat, hkat, _, rfl, rfl⟩, _, c3, c4, e3, e4, rfl, rfl, ⟨tn, hkn, hvn, rfl, rfl⟩,
    c5, c6, e5, e6, rfl, rfl, hargs, rep, c7, c8, e7, e8, rfl, rfl, hrep, ton, lead, first, rest, el, hon, rfl, hel⟩
  obtain ⟨hr1, _⟩ := kwPartT_toks hrep
  have hrepE : (rep = true ∧ ∃ d, e7 = [Elem.tok "repeatable_KW" d]) ∨ (rep = false ∧ e7 = []) := by
    cases rep with
    | true =>
      obtain ⟨t, _, _, _, he⟩ : ∃ t : Tok, t.data = "repeatable".toList ∧ t.kind = .name ∧ c7 = [t] ∧
          e7 = [Elem.tok "repeatable_KW" t.data] := by simpa [KwPartT] using hrep
      exact Or.inl ⟨rfl, _, he⟩
    | false =>
      obtain ⟨_, he⟩ : c7 = [] ∧ e7 = [] := by simpa [KwPartT] using hrep
      exact Or.inr ⟨rfl, he⟩
  have hat : TokIs [tat] [Ast.Tok.p .at] := TokIs.single tat _ (by simp [astOfV, hkat])
  have hnm : TokIs [tn] [Ast.Tok.name tn.data] := TokIs.single tn _ (by simp [astOfV, hkn])
  rcases hargs with ⟨vs, ea, hne, ha1, ha2, rfl, ha4⟩ | ⟨rfl, rfl⟩
  · refine ⟨tn.data, vs, rep, lead, first, rest, tat.data, ton.data, [ea], e7, el, ?_, hvn, ha2, by simp, Or.inr ⟨ea, rfl, ha4⟩,
      hrepE, hel⟩
    have := hat.append (hnm.append (ha1.append (hr1.append hon)))
    simpa [tArgsDef_ne vs hne, List.append_assoc] using this
  · refine ⟨tn.data, [], rep, lead, first, rest, tat.data, ton.data, [], e7, el, ?_, hvn, rfl, by simp, Or.inl ⟨rfl, rfl⟩,
      hrepE, hel⟩
    have := hat.append (hnm.append (hr1.append hon))
    simpa [Ast.tArgsDef, List.append_assoc] using this

theorem tr_directiveDefinition (n : Nat) :
    Tr NoE (DefStart "directive") (directiveDefinition n)
      (fun _ cs e => ∃ (desc : Option Ast.Str) (nm : Ast.Str) (args : List Ast.InputValueDef) (rep lead : Bool) (first : Ast.Str)
        (rest : List Ast.Str) (ed : Elem), TokIs cs (LooseDef.toks (.directive desc nm args rep lead first rest)) ∧
        Ast.wfIVDs args = true ∧ e = [ed] ∧ DefTree (.directive desc nm args rep lead first rest) ed) := by
  rw [directiveDefinition_eq]
  have h2 := tr_descKwEntered early_false "directive" kwWord_directive "directive_KW" (by decide) _ _ (tr_dAt n (H := fun _ => True))
  refine (tr_withNodeL early_false "DIRECTIVE_DEFINITION" (defStart_sig kwWord_directive) h2).mono (fun _ h => h) ?_
  rintro _ cs e ⟨inner, rfl, desc, c1, c2, pre, e2, rfl, hin, hd1, hd2, c3, c4, e3, e4, rfl, rfl, hkw,
    nm, args, rep, lead, first, rest, dat, don, ta, trep, el, ht1, hv, hwf, rfl, hta, hrep, hel⟩
  obtain ⟨hk1, hk2⟩ := kwPartT_toks hkw
  obtain ⟨tk, _, _, _, rfl⟩ : ∃ t : Tok, t.data = "directive".toList ∧ t.kind = .name ∧ c3 = [t] ∧
      e3 = [Elem.tok "directive_KW" t.data] := by simpa [KwPartT] using hkw
  refine ⟨desc, nm, args, rep, lead, first, rest, _, ?_, hwf, rfl, inner, pre ++ [Elem.tok "directive_KW" tk.data, Elem.tok "AT" dat],
    ta, trep, don, el, rfl, hv, ⟨pre, _, rfl, hd2, FromCst.allToks_cons _ _ (FromCst.allToks_cons _ _ FromCst.allToks_nil)⟩, ?_,
    hta, hrep, hel, by rw [hin]; simp⟩
  · have := hd1.append (hk1.append ht1)
    simpa [LooseDef.toks, directiveToks, List.append_assoc] using this
  · rcases FromCst.descPre_kinds hd2 with rfl | ⟨c, rfl⟩ <;> simp [tokP, FromCst.isNodeE, FromCst.kindE]

end Apollo.Parse
