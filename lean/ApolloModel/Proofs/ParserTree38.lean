import ApolloModel.Proofs.ParserTree37
import ApolloModel.Proofs.ParserComplete30
/-
C08 (pipeline), namespace Apollo.Parse.Exact: the follow guard `Exact.DocFollowOk` of a printed document and
`Exact.definitionFit` (`Exact.itemFit` of the item of a definition) over the EXACT completeness calculus; how a printed definition starts is taken from ParserComplete30.
-/
set_option linter.unusedSimpArgs false
set_option linter.unusedVariables false

namespace Apollo.Parse.Exact
open Apollo.Rowan hiding Str
open Apollo.Lex hiding Str

theorem looseFollowG_of_kind (l : LooseDef) (k : Kind) (p : Prop) (hk : k = .eof ∨ k = .name ∨ k = .stringValue) (hp : p) :
    looseFollowG l k p := by
  rcases hk with rfl | rfl | rfl <;> cases l <;> simp [looseFollowG, Fbody, hp]

theorem looseFollowA_of_start (l : LooseDef) (f : Option Ast.Tok) (h : StartOk f) : looseFollowA l f := by
  unfold looseFollowA
  rcases h with rfl | ⟨s, rfl⟩ | ⟨w, rfl, hw⟩
  · exact looseFollowG_of_kind l _ _ (Or.inl rfl) (by intro h; cases h)
  · exact looseFollowG_of_kind l _ _ (Or.inr (Or.inr rfl)) (by intro h; cases h)
  · refine looseFollowG_of_kind l _ _ (Or.inr (Or.inl rfl)) ?_
    intro h
    injection h with h
    injection h with h
    exact hw h

theorem itemFollowA_of_start (i : DocItem) (f : Option Ast.Tok) (h : StartOk f) : itemFollowA i f := by
  cases i with
  | exec oe d => trivial
  | loose l => exact looseFollowA_of_start l f h

theorem docFollowOk_tail : ∀ r : List Ast.Definition, (∀ x ∈ r, Ast.wfDefinition x = true) →
    DocFollowOk (r.map (itemOfDef false))
  | [], _ => trivial
  | d :: r, h =>
    ⟨itemFollowA_of_start _ _ (startOk_tail r (fun x hx => h x (by simp [hx]))), docFollowOk_tail r (fun x hx => h x (by simp [hx]))⟩

/-- in the printer's shape (shorthand only in front) every definition may be followed by the
    next one — the follow guard `DocFollowOk` of `document_accept_complete_exact` is a theorem for printed documents -/
theorem docFollowOk_of_printed (oe : Bool) (ds : List Ast.Definition) (h : ∀ x ∈ ds, Ast.wfDefinition x = true) :
    DocFollowOk (itemsOfDocument oe ds) := by
  cases ds with
  | nil => trivial
  | cons d r =>
    exact ⟨itemFollowA_of_start _ _ (startOk_tail r (fun x hx => h x (by simp [hx]))),
      docFollowOk_tail r (fun x hx => h x (by simp [hx]))⟩

/-! ### the recursion-limit hypothesis, on the definitions of the AST -/

/-- **a definition within the recursion limit `rl`**, with the guards of `document_accept_complete_exact` read on the
    abstract syntax (`itemFit` of its item): nesting of types, values and selection sets within `rl`; `Const` default
    values and definition-side directives; enum values not `true`/`false`/`null`; spread / fragment names ≠ `on`;
    non-empty selection sets; directive locations among the nineteen names; an extension has at least one component -/
def definitionFit (rl : Nat) (d : Ast.Definition) : Prop := itemFit rl (itemOfDef false d)

theorem itemFit_itemOfDef (rl : Nat) (oe : Bool) (d : Ast.Definition) (h : definitionFit rl d) : itemFit rl (itemOfDef oe d) := by
  cases d with
  | directiveDef desc nm args rep locs => cases locs <;> exact h
  | _ => exact h

theorem itemFit_itemsOfDocument (rl : Nat) (oe : Bool) (ds : List Ast.Definition) (h : ∀ x ∈ ds, definitionFit rl x) :
    ∀ i ∈ itemsOfDocument oe ds, itemFit rl i := by
  cases ds with
  | nil => intro i hi; cases hi
  | cons d r =>
    intro i hi
    rcases List.mem_cons.mp hi with rfl | hi
    · exact itemFit_itemOfDef rl oe d (h d (by simp))
    · obtain ⟨x, hx, rfl⟩ := List.mem_map.mp hi
      exact h x (by simp [hx])

/-- what `definitionFit` says, definition kind by definition kind -/
theorem definitionFit_operation (rl : Nat) (ty : Ast.OpType) (name : Option Ast.Str) (vars : List Ast.VarDef)
    (dirs : List Ast.Directive) (sels : Ast.Sels) :
    definitionFit rl (.operation ty name vars dirs sels) ↔
      ((∀ v ∈ vars, varFit rl v) ∧ dirsFit false rl dirs ∧ sels ≠ Ast.Sels.nil ∧ 1 ≤ rl ∧ fitSels sels (rl - 1)) := Iff.rfl

theorem definitionFit_fragment (rl : Nat) (name tc : Ast.Str) (dirs : List Ast.Directive) (sels : Ast.Sels) :
    definitionFit rl (.fragment name tc dirs sels) ↔
      (name ≠ Ast.sOn ∧ dirsFit false rl dirs ∧ sels ≠ Ast.Sels.nil ∧ 1 ≤ rl ∧ fitSels sels (rl - 1)) := Iff.rfl

theorem definitionFit_objectDef (rl : Nat) (desc : Option Ast.Str) (nm : Ast.Str) (impls : List Ast.Str) (ds : List Ast.Directive)
    (fs : List Ast.FieldDef) :
    definitionFit rl (.objectDef desc nm impls ds fs) ↔ (dirsFit true rl ds ∧ ∀ f ∈ fs, fieldFit rl f) := Iff.rfl

theorem definitionFit_objectExt (rl : Nat) (nm : Ast.Str) (impls : List Ast.Str) (ds : List Ast.Directive) (fs : List Ast.FieldDef) :
    definitionFit rl (.objectExt nm impls ds fs) ↔
      ((sepOf impls ≠ none ∨ ds ≠ [] ∨ fs ≠ []) ∧ dirsFit true rl ds ∧ ∀ f ∈ fs, fieldFit rl f) := Iff.rfl

theorem definitionFit_scalarDef (rl : Nat) (desc : Option Ast.Str) (nm : Ast.Str) (ds : List Ast.Directive) :
    definitionFit rl (.scalarDef desc nm ds) ↔ dirsFit true rl ds := Iff.rfl

theorem definitionFit_schemaDef (rl : Nat) (desc : Option Ast.Str) (ds : List Ast.Directive) (roots : List (Ast.OpType × Ast.Str)) :
    definitionFit rl (.schemaDef desc ds roots) ↔
      (dirsFit true rl ds ∧ looseRoots roots ≠ [] ∧ ∀ r ∈ looseRoots roots, r.2 ≠ none) := Iff.rfl


end Apollo.Parse.Exact
