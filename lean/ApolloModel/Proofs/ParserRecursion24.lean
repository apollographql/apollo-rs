import ApolloModel.Proofs.ParserRecursion21
import ApolloModel.Proofs.Lexer2
/-
C04, token limit at the parser level: the parser pulls its tokens one by one from the lexer
(`Lexer::next` through `Parser::next_token`).  With a token limit `n` the lexer's tracker counts every item it
hands out — tokens of every kind (white space, comments and commas included), lexer errors, and the EOF token —
and refuses the `n + 1`-th.  Invariant (`TI`), kept by every grammar function: the lexer has handed out
exactly the first `cur ≤ n` items of the unlimited stream `lex none src`; it is "hit" (finished with
`high = n + 1`) iff it refused an item, and then a limit error is on record; conversely a limit error on record
comes from a hit lexer or from the recursion guard (`recHigh > recLimit`).
-/
set_option linter.unusedSimpArgs false
set_option linter.unusedVariables false

namespace Apollo.Lex

theorem lexAux_none_indep : ∀ (f1 f2 c1 c2 : Nat) (src : Str), src.length < f1 → src.length < f2 →
    lexAux f1 none c1 src = lexAux f2 none c2 src
  | 0, _, _, _, _, h, _ => by omega
  | _ + 1, 0, _, _, _, _, h => by omega
  | f1 + 1, f2 + 1, c1, c2, [], _, _ => by simp [lexAux]
  | f1 + 1, f2 + 1, c1, c2, c :: rest, h1, h2 => by
    have hp := (advance_progress c rest).2
    simp only [lexAux, Bool.false_eq_true, if_false]
    rw [lexAux_none_indep f1 f2 (c1 + 1) (c2 + 1) (advance (c :: rest)).2
      (by simp only [List.length_cons] at h1 hp; omega) (by simp only [List.length_cons] at h2 hp; omega)]

theorem lex_none_nil : lex none [] = [.tok .eof []] := by simp [lex, lexAux]

theorem lex_none_cons (c : Char) (rest : Str) :
    lex none (c :: rest) = (advance (c :: rest)).1 :: lex none (advance (c :: rest)).2 := by
  have hp := (advance_progress c rest).2
  show lexAux ((rest.length + 1) + 1) none 0 (c :: rest) = _ :: lexAux ((advance (c :: rest)).2.length + 1) none 0 _
  rw [lexAux]
  simp only [Bool.false_eq_true, if_false]
  rw [lexAux_none_indep (rest.length + 1) ((advance (c :: rest)).2.length + 1) (0 + 1) 0 _
    (by simp only [List.length_cons] at hp; omega) (by omega)]
  intro x; cases x

theorem lex_none_ne_nil (src : Str) : lex none src ≠ [] := by
  cases src with
  | nil => simp [lex_none_nil]
  | cons c rest => simp [lex_none_cons]

theorem drop_succ_of_cons {α : Type} : ∀ (l : List α) (k : Nat) (a : α) (b : List α), l.drop k = a :: b → l.drop (k + 1) = b
  | [], k, a, b, h => by simp at h
  | x :: xs, 0, a, b, h => by simp at h; simp [h.2]
  | x :: xs, k + 1, a, b, h => by
    simp only [List.drop_succ_cons] at h ⊢
    exact drop_succ_of_cons xs k a b h

theorem lt_length_of_drop_ne_nil {α : Type} (l : List α) (k : Nat) (h : l.drop k ≠ []) : k < l.length := by
  by_cases hk : k < l.length
  · exact hk
  · exact absurd (List.drop_eq_nil_of_le (by omega)) h

end Apollo.Lex

namespace Apollo.Parse
open Apollo.Rowan hiding Str
open Apollo.Lex hiding Str

/-! ### every grammar function keeps a state invariant -/

section
variable {P : PState → Prop} [StInv P]

theorem kpCalc : GuardCalc (@Keeps P) where
  pure := kp_pure
  bind := kp_bind
  outOfFuel := kp_outOfFuel
  stuck := kp_stuck
  peekToken := kp_peekToken
  peekTokenN := kp_peekTokenN
  srcLen := kp_srcLen
  getCurrent := kp_getCurrent
  moveCurToPending := kp_moveCurToPending
  pushIgnored := kp_pushIgnored
  moveCurToTree := kp_moveCurToTree
  assertRecZero := kp_assertRecZero
  errAtToken := fun t => kp_pushErr _ (tokErr_kind t)
  withNodeAny := kp_withNode
  guard := fun a body hb => kp_withRec _ body (kh_bind_pure a) hb
  guardUnit := fun body hb => kp_withRec _ body kh_limitErr hb
  wrapIf := kp_wrapIf
  popDrop := kp_popDrop

structure KSel (P : PState → Prop) (n : Nat) : Prop where
  selSet : Keeps P (selectionSet n)
  sel : Keeps P (selection n)
  field : Keeps P (field n)
  inline : Keeps P (inlineFragment n)

theorem kSel (n : Nat) : KSel P n :=
  ⟨(kpCalc.selections n).1, (kpCalc.selections n).2.1, (kpCalc.selections n).2.2.1, (kpCalc.selections n).2.2.2⟩

theorem kp_entry (e : Entry) (n : Nat) : Keeps P (e.grammar n) := kpCalc.entry e n

end

/-- the lexer's position in the unlimited item stream `Ls` -/
structure LI (n : Nat) (Ls : List Item) (l : LexSt) : Prop where
  lim : l.limit = some n
  run : l.finished = false → l.cur ≤ n ∧ l.high = l.cur ∧ lex none l.src = Ls.drop l.cur
  fin : l.finished = true → (l.high ≤ n ∧ l.high = Ls.length ∧ l.cur = l.high ∧ l.src = []) ∨
      (l.high = n + 1 ∧ l.cur = n ∧ n < Ls.length ∧ lex none l.src = Ls.drop n)

/-- the lexer refused an item: the token limit was reached -/
def Hit (n : Nat) (l : LexSt) : Prop := l.finished = true ∧ l.high = n + 1

def IsLimitOut : Option LexOut → Prop
  | some (.limit _) => True
  | _ => False

theorem li_lexNext {n : Nat} {Ls : List Item} {l : LexSt} (h : LI n Ls l) :
    LI n Ls (lexNext l).2 ∧ (IsLimitOut (lexNext l).1 → Hit n (lexNext l).2) ∧
    (¬ IsLimitOut (lexNext l).1 → Hit n (lexNext l).2 → Hit n l) := by
  by_cases hf : l.finished = true
  · rw [lexNext_finished l hf]
    exact ⟨h, fun x => False.elim x, fun _ x => x⟩
  · have hf' : l.finished = false := by simpa using hf
    obtain ⟨hc, hh, hd⟩ := h.run hf'
    have hne : Ls.drop l.cur ≠ [] := by rw [← hd]; exact lex_none_ne_nil _
    have hlt := lt_length_of_drop_ne_nil _ _ hne
    unfold lexNext
    simp only [hf', Bool.false_eq_true, if_false]
    by_cases hr : l.cur + 1 > n
    · have hcn : l.cur = n := by omega
      have e1 : (lexCheck l).1 = true := by simp [lexCheck, h.lim, hr]
      have e2 : (lexCheck l).2.1 = l.cur := by simp [lexCheck, h.lim, hr]
      have e3 : (lexCheck l).2.2 = l.cur + 1 := by simp [lexCheck, hh]
      simp only [e1, if_true, e2, e3]
      refine ⟨⟨h.lim, fun x => by simp at x, fun _ => Or.inr ⟨by simp [hcn], hcn, by omega, by simpa [hcn] using hd⟩⟩,
        fun _ => ⟨rfl, by simp [hcn]⟩, fun x => absurd trivial x⟩
    · have e1 : (lexCheck l).1 = false := by simp [lexCheck, h.lim, hr]
      have e2 : (lexCheck l).2.1 = l.cur + 1 := by simp [lexCheck, h.lim, hr]
      have e3 : (lexCheck l).2.2 = l.cur + 1 := by simp [lexCheck, hh]
      simp only [e1, Bool.false_eq_true, if_false, e2, e3]
      cases hs : l.src with
      | nil =>
        simp only []
        rw [hs, lex_none_nil] at hd
        have hlen : Ls.length = l.cur + 1 := by
          have := congrArg List.length hd
          simp at this
          omega
        refine ⟨⟨h.lim, fun x => by simp at x, fun _ => Or.inl ⟨by simp; omega, by simp [hlen], rfl, rfl⟩⟩,
          fun x => False.elim x, fun _ x => ?_⟩
        exfalso
        have : l.cur + 1 = n + 1 := x.2
        omega
      | cons ch rest =>
        simp only []
        rw [hs, lex_none_cons] at hd
        have hd' := drop_succ_of_cons _ _ _ _ hd.symm
        have key : ∀ (o : Option LexOut) (l' : LexSt), l'.limit = l.limit → l'.finished = false → l'.cur = l.cur + 1 →
            l'.high = l.cur + 1 → l'.src = (advance (ch :: rest)).2 → (¬ IsLimitOut o) →
            LI n Ls l' ∧ (IsLimitOut o → Hit n l') ∧ (¬ IsLimitOut o → Hit n l' → Hit n l) := by
          intro o l' a1 a2 a3 a4 a5 a6
          refine ⟨⟨by rw [a1]; exact h.lim, fun _ => ⟨by omega, by omega, by rw [a5, a3]; exact hd'.symm⟩,
            fun x => by rw [a2] at x; cases x⟩, fun x => absurd x a6, fun _ x => ?_⟩
          have := x.1
          rw [a2] at this
          cases this
        cases hr1 : (advance (ch :: rest)).1 with
        | tok k d => simp only []; exact key _ _ rfl rfl rfl rfl rfl (fun x => False.elim x)
        | err d => simp only []; exact key _ _ rfl rfl rfl rfl rfl (fun x => False.elim x)
        | limit => simp only []; exact key _ _ rfl rfl rfl rfl rfl (fun x => False.elim x)

/-- the parser-level invariant for token limit `n` over the unlimited item stream `Ls` -/
structure TI (n : Nat) (Ls : List Item) (s : PState) : Prop where
  li : LI n Ls s.lx
  hit : Hit n s.lx → HasLim s.errors
  j : HasLim s.errors → Hit n s.lx ∨ s.recHigh > s.recLimit

theorem ti_next {n : Nat} {Ls : List Item} : ∀ (fuel : Nat) (s : PState), TI n Ls s → TI n Ls (nextTokenRaw fuel s).2
  | 0, s, h => by simpa [nextTokenRaw] using h
  | fuel + 1, s, h => by
    obtain ⟨l1, l2, l3⟩ := li_lexNext h.li
    unfold nextTokenRaw
    cases hl : lexNext s.lx with
    | mk o l' =>
      rw [hl] at l1 l2 l3
      simp only [] at l1 l2 l3
      cases o with
      | none =>
        simp only []
        have hh := l3 (fun x => False.elim x)
        exact ⟨l1, fun x => h.hit (hh x), fun x => by
          rcases h.j x with y | y
          · have hf := y.1
            have : lexNext s.lx = (none, s.lx) := lexNext_finished _ hf
            rw [hl] at this
            injection this with _ this
            subst this
            exact Or.inl y
          · exact Or.inr y⟩
      | some out =>
        cases out with
        | tok t =>
          simp only []
          have hh := l3 (fun x => False.elim x)
          exact ⟨l1, fun x => h.hit (hh x), fun x => by
            rcases h.j x with y | y
            · have hf := y.1
              have : lexNext s.lx = (none, s.lx) := lexNext_finished _ hf
              rw [hl] at this
              injection this with this _
              cases this
            · exact Or.inr y⟩
        | err d i =>
          simp only []
          refine ti_next fuel _ ?_
          have hh := l3 (fun x => False.elim x)
          have hq : HasLim (s.errors ++ [⟨i, utf8Len d, .lexer⟩]) ↔ HasLim s.errors := by
            rw [hasLim_append, hasLim_single]
            constructor
            · rintro (x | x)
              · exact x
              · cases x
            · exact Or.inl
          exact ⟨l1, fun x => hq.mpr (h.hit (hh x)), fun x => by
            rcases h.j (hq.mp x) with y | y
            · have hf := y.1
              have : lexNext s.lx = (none, s.lx) := lexNext_finished _ hf
              rw [hl] at this
              injection this with this _
              cases this
            · exact Or.inr y⟩
        | limit i =>
          simp only []
          refine ti_next fuel _ ?_
          have hh := l2 trivial
          exact ⟨l1, fun _ => (hasLim_append _ _).mpr (Or.inr ((hasLim_single _).mpr rfl)), fun _ => Or.inl hh⟩

instance instStInvTI (n : Nat) (Ls : List Item) : StInv (TI n Ls) where
  cong := by
    intro s s' e1 e2 e3 e4 e5 h
    exact ⟨by rw [e1]; exact h.li, by rw [e1, e2]; exact h.hit, by rw [e1, e2, e4, e5]; exact h.j⟩
  next := ti_next
  err := by
    intro s e he _ h
    have hq : HasLim (s.errors ++ [e]) ↔ HasLim s.errors := by
      rw [hasLim_append, hasLim_single]
      constructor
      · rintro (x | x)
        · exact x
        · exact absurd x he
      · exact Or.inl
    exact ⟨h.li, fun x => hq.mpr (h.hit x), fun x => h.j (hq.mp x)⟩
  high := by
    intro s hgh hle h
    refine ⟨h.li, h.hit, fun x => ?_⟩
    rcases h.j x with y | y
    · exact Or.inl y
    · exact Or.inr (by show hgh > s.recLimit; omega)
  limit := by
    intro s i hh h
    refine ⟨h.li, fun x => ?_, fun _ => Or.inr hh⟩
    have := h.hit x
    show HasLim (if s.acceptErrors then s.errors ++ [⟨i, 0, .limit⟩] else s.errors)
    split
    · exact (hasLim_append _ _).mpr (Or.inl this)
    · exact this

/-! ### the entry points -/

def entryStartT (e : Entry) (src : Str) (tl : Option Nat) (r : Nat) : PState :=
  match e.standalone with
  | some (k, _) => { initState src tl r with builder := (initState src tl r).builder.startNode k }
  | none => initState src tl r

theorem entryStartT_inv (e : Entry) (src : Str) (tl : Option Nat) (r : Nat) : Inv (entryStartT e src tl r) := by
  cases e <;>
  exact ⟨fun _ => by simp [entryStartT, Entry.standalone, initState, Builder.new, Builder.startNode, textList, pendingText, curText],
    fun p hp => by
      simp [entryStartT, Entry.standalone, initState, Builder.new, Builder.startNode] at hp <;>
      simp [hp, entryStartT, Entry.standalone, initState, Builder.new, Builder.startNode],
    fun h => by simp [entryStartT, Entry.standalone, initState] at h,
    fun t h => by simp [entryStartT, Entry.standalone, initState] at h,
    fun h => by simp [entryStartT, Entry.standalone, initState] at h⟩

theorem parse_run (e : Entry) (tl : Option Nat) (r : Nat) (src : Str) :
    ∃ s, (e.grammar (fuelFor src)).run (entryStartT e src tl r) = .ok () s ∧
      (parse e tl r src).errors = s.errors ∧ (parse e tl r src).recHigh = s.recHigh ∧
      (parse e tl r src).tokHigh = s.lx.high ∧ (parse e tl r src).leftover = curText s.current ++ s.lx.src := by
  have hterm := fun w => parse_terminates e tl r src w
  have hpost := (e.grammar (fuelFor src)).ok _ (entryStartT_inv e src tl r)
  cases e with
  | document =>
    unfold parse runEntry at hterm ⊢
    simp only [Entry.standalone] at hterm ⊢
    have e0 : initState src tl r = entryStartT .document src tl r := rfl
    rw [e0] at hterm ⊢
    cases hr : (Entry.document.grammar (fuelFor src)).run (entryStartT .document src tl r) with
    | abort w => simp [hr] at hterm
    | panic m => simp [hr, Post] at hpost
    | ok a s => exact ⟨s, rfl, rfl, rfl, rfl, rfl⟩
  | selectionSet =>
    unfold parse runEntry at hterm ⊢
    simp only [Entry.standalone] at hterm ⊢
    have e0 : ({ initState src tl r with builder := (initState src tl r).builder.startNode "SELECTION_SET" } : PState) =
        entryStartT .selectionSet src tl r := rfl
    rw [e0] at hterm ⊢
    cases hr : (Entry.selectionSet.grammar (fuelFor src)).run (entryStartT .selectionSet src tl r) with
    | abort w => simp [hr] at hterm
    | panic m => simp [hr, Post] at hpost
    | ok a s => exact ⟨s, rfl, rfl, rfl, rfl, rfl⟩
  | type =>
    unfold parse runEntry at hterm ⊢
    simp only [Entry.standalone] at hterm ⊢
    have e0 : ({ initState src tl r with builder := (initState src tl r).builder.startNode "NAMED_TYPE" } : PState) =
        entryStartT .type src tl r := rfl
    rw [e0] at hterm ⊢
    cases hr : (Entry.type.grammar (fuelFor src)).run (entryStartT .type src tl r) with
    | abort w => simp [hr] at hterm
    | panic m => simp [hr, Post] at hpost
    | ok a s => exact ⟨s, rfl, rfl, rfl, rfl, rfl⟩

theorem ti_start (e : Entry) (src : Str) (n r : Nat) : TI n (lex none src) (entryStartT e src (some n) r) := by
  have hl : (entryStartT e src (some n) r).lx = (initState src (some n) r).lx := by cases e <;> rfl
  have he : (entryStartT e src (some n) r).errors = [] := by cases e <;> rfl
  refine ⟨?_, ?_, ?_⟩
  · rw [hl]
    exact ⟨rfl, fun _ => ⟨Nat.zero_le _, rfl, by simp [initState]⟩, fun x => by simp [initState] at x⟩
  · rw [hl]
    intro x
    have := x.1
    simp [initState] at this
  · rw [he]
    rintro ⟨x, hx, _⟩
    cases hx

theorem parse_ti (e : Entry) (n r : Nat) (src : Str) :
    ∃ s, TI n (lex none src) s ∧ s.recLimit = r ∧
      (parse e (some n) r src).errors = s.errors ∧ (parse e (some n) r src).recHigh = s.recHigh ∧
      (parse e (some n) r src).tokHigh = s.lx.high ∧ (parse e (some n) r src).leftover = curText s.current ++ s.lx.src := by
  obtain ⟨s, hr, h1, h2, h3, h4⟩ := parse_run e (some n) r src
  have hf := (e.grammar (fuelFor src)).ok _ (entryStartT_inv e src (some n) r)
  simp only [hr, Post] at hf
  refine ⟨s, (kp_entry e (fuelFor src)).k _ () s (ti_start e src n r) hr, ?_, h1, h2, h3, h4⟩
  rw [hf.2.recLimit]
  cases e <;> rfl

/-! ### `document()` only stops when the lexer is finished -/

theorem peekWhileLoop_doc_finished (n : Nat) : ∀ (fuel : Nat) (s s' : PState), Inv s →
    (peekWhileLoop (documentStep n) fuel).run s = .ok () s' → s'.lx.finished = true
  | 0, s, s', _, h => by simp [peekWhileLoop, PI.outOfFuel] at h
  | fuel + 1, s, s', hi, h => by
    unfold peekWhileLoop at h
    rw [run_bind] at h
    obtain ⟨o, s1, hpt, hpk⟩ := peek_run s
    have hp1 := peekToken.ok s hi
    simp only [hpt, Post] at hp1
    obtain ⟨hi1, hf1⟩ := hp1
    rw [hpk] at h
    cases o with
    | none =>
      simp only [Option.map_none, run_pure, Res.ok.injEq] at h
      obtain ⟨_, rfl⟩ := h
      exact (peekToken_none s s1 hpt).2
    | some t =>
      simp only [Option.map_some] at h
      rw [run_bind] at h
      have hg : getCurrent.run s1 = .ok s1.current s1 := rfl
      simp only [hg] at h
      rw [run_bind] at h
      have hd := (documentStep n t.kind).ok s1 hi1
      cases hds : (documentStep n t.kind).run s1 with
      | abort w => simp [hds] at h
      | panic m => simp [hds, Post] at hd
      | ok b s2 =>
        simp only [hds, Post] at h hd
        obtain ⟨hi2, hf2⟩ := hd
        cases b with
        | false =>
          simp only [Bool.false_eq_true, if_false, run_pure, Res.ok.injEq] at h
          obtain ⟨_, rfl⟩ := h
          obtain ⟨hk, hc, hx, _⟩ := documentStep_false n t.kind s1 s2 hds
          rw [hx]
          exact (hi1.eofTok t (peekToken_some s s1 t hpt) hk).2.2
        | true =>
          simp only [if_true] at h
          rw [run_bind] at h
          have hg2 : getCurrent.run s2 = .ok s2.current s2 := rfl
          simp only [hg2] at h
          by_cases hb : (s1.current == s2.current) = true
          · simp [hb, PI.stuck] at h
          · simp only [hb, Bool.false_eq_true, if_false] at h
            exact peekWhileLoop_doc_finished n fuel s2 s' hi2 h

theorem inv_wnPre (kind : SK) (s : PState) (h : Inv s) : Inv (wnPre kind s) := by
  have h1 := pushIgnored.ok s h
  have e1 : pushIgnored.run s = .ok () { s with builder := { s.builder with children := s.builder.children ++ s.pending.map pendingElem }, pending := [] } := rfl
  simp only [e1, Post] at h1
  obtain ⟨hi1, _⟩ := h1
  refine ⟨hi1.text, ?_, hi1.lexDone, hi1.eofTok, hi1.errNonempty⟩
  intro p hp
  simp only [wnPre, rawStartNode, Builder.startNode, List.mem_cons] at hp ⊢
  rcases hp with rfl | hp
  · exact Nat.le_refl _
  · exact hi1.parents p hp

theorem document_finished (n : Nat) (s s' : PState) (hi : Inv s) (h : (document n).run s = .ok () s') :
    s'.lx.finished = true := by
  unfold document at h
  rw [withNode_run] at h
  cases hr : (skipIgnored >>= fun _ => documentBody n).run (wnPre "DOCUMENT" s) with
  | abort w => rw [hr] at h; cases h
  | panic m => rw [hr] at h; cases h
  | ok a2 s2 =>
    rw [hr] at h
    simp only [] at h
    cases hf : s2.builder.finishNode with
    | none => rw [hf] at h; cases h
    | some b =>
      rw [hf] at h
      injection h with _ h
      subst h
      show s2.lx.finished = true
      obtain ⟨u, s3, h3, h4⟩ := bind_dec skipIgnored _ _ s2 a2 hr
      have hi3 := (PI.run_ok skipIgnored _ (inv_wnPre "DOCUMENT" s hi) u s3 h3).1
      unfold documentBody at h4
      obtain ⟨k, s4, h5, h6⟩ := bind_dec peek _ s3 s2 a2 h4
      have hi4 := (PI.run_ok peek _ hi3 k s4 h5).1
      obtain ⟨u2, s5, h7, h8⟩ := bind_dec (errIfEmpty k) _ s4 s2 a2 h6
      have hi5 := (PI.run_ok _ _ hi4 u2 s5 h7).1
      obtain ⟨u3, s6, h9, h10⟩ := bind_dec (peekWhile (documentStep n)) _ s5 s2 a2 h8
      have e1 : pushIgnored.run s6 = .ok () { s6 with builder := { s6.builder with children := s6.builder.children ++ s6.pending.map pendingElem }, pending := [] } := rfl
      rw [e1] at h10
      injection h10 with _ h10
      subst h10
      show s6.lx.finished = true
      unfold peekWhile at h9
      obtain ⟨len, s7, h11, h12⟩ := bind_dec srcLen _ s5 s6 u3 h9
      have e2 : srcLen.run s5 = .ok s5.lx.src.length s5 := rfl
      rw [e2] at h11
      injection h11 with h11a h11b
      subst h11a h11b
      exact peekWhileLoop_doc_finished n _ s5 s6 hi5 h12

/-! ### the statements -/

theorem texts_lex (src : Str) : texts (lex none src) = src := (lex_concat src).1

/-- **token limit, every entry point, every recursion limit.**  `tokHigh` is the lexer tracker's high-water
    mark (number of items asked for, the refused one included). -/
theorem parse_token_limit (e : Entry) (n r : Nat) (src : Str) :
    (parse e (some n) r src).tokHigh ≤ n + 1 ∧
    (parse e (some n) r src).tokHigh ≤ (lex none src).length ∧
    ((parse e (some n) r src).tokHigh > n → HasLim (parse e (some n) r src).errors ∧ (lex none src).length > n) ∧
    (HasLim (parse e (some n) r src).errors → (parse e (some n) r src).tokHigh > n ∨ (parse e (some n) r src).recHigh > r) ∧
    (∃ k, k ≤ n ∧ k ≤ (lex none src).length ∧ k ≤ (parse e (some n) r src).tokHigh ∧
      texts ((lex none src).drop k) <:+ (parse e (some n) r src).leftover) := by
  obtain ⟨s, ti, hrl, h1, h2, h3, h4⟩ := parse_ti e n r src
  rw [h1, h2, h3, h4]
  by_cases hf : s.lx.finished = true
  · rcases ti.li.fin hf with ⟨a1, a2, a3, a4⟩ | ⟨a1, a2, a3, a4⟩
    · refine ⟨by omega, by omega, fun x => by omega, fun x => ?_, ⟨s.lx.high, a1, by omega, Nat.le_refl _, ?_⟩⟩
      · rcases ti.j x with y | y
        · have := y.2; omega
        · exact Or.inr (by rw [← hrl]; exact y)
      · rw [a2, List.drop_length]
        exact List.nil_suffix
    · refine ⟨by omega, by omega, fun _ => ⟨ti.hit ⟨hf, a1⟩, a3⟩, fun _ => Or.inl (by omega), ⟨n, Nat.le_refl _, by omega, by omega, ?_⟩⟩
      rw [← a4, texts_lex]
      exact List.suffix_append _ _
  · have hf' : s.lx.finished = false := by simpa using hf
    obtain ⟨a1, a2, a3⟩ := ti.li.run hf'
    have hne : (lex none src).drop s.lx.cur ≠ [] := by rw [← a3]; exact lex_none_ne_nil _
    have hlt := lt_length_of_drop_ne_nil _ _ hne
    refine ⟨by omega, by omega, fun x => by omega, fun x => ?_, ⟨s.lx.cur, a1, by omega, by omega, ?_⟩⟩
    · rcases ti.j x with y | y
      · have := y.1; rw [hf'] at this; cases this
      · exact Or.inr (by rw [← hrl]; exact y)
    · rw [← a3, texts_lex]
      exact List.suffix_append _ _

/-- `Parser::parse` (documents) always runs the lexer to its end: the tracker stops at exactly
    `min (number of items of the unlimited stream) (n + 1)` — whatever the recursion limit. -/
theorem parse_document_tok_high (n r : Nat) (src : Str) :
    (parse .document (some n) r src).tokHigh = min (lex none src).length (n + 1) := by
  obtain ⟨s, hr, _, _, h3, _⟩ := parse_run .document (some n) r src
  obtain ⟨s', ti, _, _, _, h3', _⟩ := parse_ti .document n r src
  have hfin : s.lx.finished = true := document_finished _ _ s (entryStartT_inv .document src (some n) r) hr
  have ti : TI n (lex none src) s := (kp_entry .document (fuelFor src)).k _ () s (ti_start .document src n r) hr
  rw [h3]
  rcases ti.li.fin hfin with ⟨a1, a2, _, _⟩ | ⟨a1, _, a3, _⟩ <;> omega

/-- …so, for documents whose recursion limit is not hit, a limit error is reported iff the source has more than `n` items. -/
theorem parse_document_token_limit_iff (n r : Nat) (src : Str) (hfree : (parse .document (some n) r src).recHigh ≤ r) :
    HasLim (parse .document (some n) r src).errors ↔ (lex none src).length > n := by
  obtain ⟨_, _, h3, h4, _⟩ := parse_token_limit .document n r src
  have hh := parse_document_tok_high n r src
  constructor
  · intro x
    rcases h4 x with y | y
    · exact (h3 y).2
    · omega
  · intro x
    exact (h3 (by rw [hh]; omega)).1

/-! ### the tree text is a prefix of the input, for every entry point -/

theorem finishStandalone_text (b : Builder) (k : SK) (expected : List SK) (hp : b.parents = [(k, 0)]) (e : Elem)
    (h : finishStandalone b expected = some e) : e.text = textList b.children := by
  simp only [finishStandalone, Builder.finishNode, hp, List.take_zero, List.nil_append, List.drop_zero, Builder.finish] at h
  cases hc : b.children with
  | nil => rw [hc] at h; injection h with h; subst h; simp [Elem.text, textList]
  | cons c cs =>
    rw [hc] at h
    cases c with
    | tok k' t => injection h with h; subst h; simp [Elem.text]
    | node k' cs' =>
      cases cs with
      | nil =>
        simp only [] at h
        split at h <;> (injection h with h; subst h; simp [Elem.text, textList])
      | cons c2 cs2 => injection h with h; subst h; simp [Elem.text]

theorem tree_text_prefix_entry (e : Entry) (tl : Option Nat) (rl : Nat) (src : Str) (root : Elem)
    (h : (parse e tl rl src).outcome = .tree root) (hd : (parse e tl rl src).dropped = false) : root.text <+: src := by
  cases e with
  | document => exact tree_text_prefix tl rl src root h hd
  | selectionSet =>
    unfold parse runEntry at h hd
    simp only [Entry.standalone, Entry.grammar] at h hd
    have hinv := entryStartT_inv .selectionSet src tl rl
    have e0 : ({ initState src tl rl with builder := (initState src tl rl).builder.startNode "SELECTION_SET" } : PState) =
        entryStartT .selectionSet src tl rl := rfl
    rw [e0] at h hd
    have hok := (fieldSet (fuelFor src) >>= fun _ => expectEndOfInput).ok _ hinv
    cases hr : (fieldSet (fuelFor src) >>= fun _ => expectEndOfInput).run (entryStartT .selectionSet src tl rl) with
    | abort w => simp [hr] at h
    | panic m => simp [hr] at h
    | ok a s =>
      simp only [hr, Post] at h hd hok
      have hp : s.builder.parents = [("SELECTION_SET", 0)] := by rw [hok.2.parents]; rfl
      cases hfs : finishStandalone s.builder ["SELECTION_SET"] with
      | none => simp [hfs] at h
      | some r0 =>
        simp only [hfs, Outcome.tree.injEq] at h
        subst h
        rw [finishStandalone_text _ _ _ hp _ hfs]
        have ht := hok.1.text hd
        have horig : s.original = src := by rw [hok.2.original]; rfl
        rw [horig] at ht
        exact ⟨pendingText s.pending ++ (curText s.current ++ s.lx.src), by rw [← ht]; simp [List.append_assoc]⟩
  | type =>
    unfold parse runEntry at h hd
    simp only [Entry.standalone, Entry.grammar] at h hd
    have hinv := entryStartT_inv .type src tl rl
    have e0 : ({ initState src tl rl with builder := (initState src tl rl).builder.startNode "NAMED_TYPE" } : PState) =
        entryStartT .type src tl rl := rfl
    rw [e0] at h hd
    have hok := (ty (fuelFor src) >>= fun _ => expectEndOfInput).ok _ hinv
    cases hr : (ty (fuelFor src) >>= fun _ => expectEndOfInput).run (entryStartT .type src tl rl) with
    | abort w => simp [hr] at h
    | panic m => simp [hr] at h
    | ok a s =>
      simp only [hr, Post] at h hd hok
      have hp : s.builder.parents = [("NAMED_TYPE", 0)] := by rw [hok.2.parents]; rfl
      cases hfs : finishStandalone s.builder ["NAMED_TYPE", "LIST_TYPE", "NON_NULL_TYPE"] with
      | none => simp [hfs] at h
      | some r0 =>
        simp only [hfs, Outcome.tree.injEq] at h
        subst h
        rw [finishStandalone_text _ _ _ hp _ hfs]
        have ht := hok.1.text hd
        have horig : s.original = src := by rw [hok.2.original]; rfl
        rw [horig] at ht
        exact ⟨pendingText s.pending ++ (curText s.current ++ s.lx.src), by rw [← ht]; simp [List.append_assoc]⟩

end Apollo.Parse
