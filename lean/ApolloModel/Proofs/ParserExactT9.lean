import ApolloModel.Proofs.ParserExactT8
/-
C05, exact soundness for the type-system family: extensions.  `directives` entered on `@` yields a NON-EMPTY list;
the two keywords `extend <kw>`; `Directives? Body?` with the `meets` flag (an extension must write at least one of them).
-/
set_option linter.unusedSimpArgs false
namespace Apollo.Parse.Exact
open Apollo.Rowan hiding Str
open Apollo.Lex hiding Str

theorem peekWhileKindLoop_exit (k : Kind) (body : PI Unit) : ∀ (fuel : Nat) (s s' : PState), TW s → Good body →
    (peekWhileKindLoop k body fuel).run s = .ok () s' → (Toks s').head?.map (·.kind) ≠ some k
  | 0, s, s', _, _, h => by simp [peekWhileKindLoop, PI.outOfFuel] at h
  | fuel + 1, s, s', w, gb, h => by
    unfold peekWhileKindLoop at h
    obtain ⟨ko, sP, hp, h2⟩ := bind_dec peek _ s s' () h
    obtain ⟨o, p, hko⟩ := peek_obs s sP ko w hp
    subst hko
    have hhead : (Toks sP).head? = o := by rw [p.toks]; exact p.head.symm
    cases o with
    | none =>
      simp only [Option.map_none] at h2
      rw [run_pure] at h2
      injection h2 with _ h2
      subst h2
      rw [hhead]; simp
    | some t =>
      simp only [Option.map_some] at h2
      by_cases hk : (t.kind != k) = true
      · simp only [hk, if_true] at h2
        rw [run_pure] at h2
        injection h2 with _ h2
        subst h2
        rw [hhead]
        simp only [Option.map_some]
        intro he
        injection he with he
        rw [he] at hk
        simp at hk
      · simp only [hk, Bool.false_eq_true, if_false] at h2
        have h3 := getCurrent_dec _ sP s' () h2
        obtain ⟨_, sB, hb, h4⟩ := bind_dec body _ sP s' () h3
        have aB := gb sP () sB p.w hb
        have h5 := getCurrent_dec _ sB s' () h4
        by_cases hst : (sP.current == sB.current) = true
        · simp only [hst, if_true] at h5
          simp [PI.stuck] at h5
        · simp only [hst, Bool.false_eq_true, if_false] at h5
          exact peekWhileKindLoop_exit k body fuel sB s' aB.w gb h5

theorem directives_at_sound (n : Nat) (s s' : PState) (t : Tok) (rest : List Tok) (w : TW s) (he : EofEnd s)
    (ht : Toks s = t :: rest) (hk : t.kind = .at) (h : (directives n true).run s = .ok () s') (hnd : ¬ Doomed s') :
    Cons s s' (fun x => ∃ ds, x = Ast.tDirectives ds ∧ ds ≠ [] ∧ dirsFit true (bud s) ds) := by
  have hni : isIgnoredKind t.kind = false := by rw [hk]; rfl
  obtain ⟨cs, ds, a1, a2, a3, a4, a5⟩ := directives_sound n true s s' w he h hnd
  refine ⟨cs, _, a1, a2, a3, a4, ds, rfl, ?_, a5⟩
  rintro rfl
  -- no token consumed, yet the loop stopped on `@`
  have hexit : (Toks s').head?.map (·.kind) ≠ some Kind.at := by
    unfold directives at h
    obtain ⟨s1, s2, e1, h1, o2⟩ := withNode_peeked _ _ s s' () t rest w ht hni h
    unfold peekWhileKind at h1
    obtain ⟨len, h2⟩ := srcLen_dec _ s1 s2 () h1
    rw [o2.toks]
    exact peekWhileKindLoop_exit .at _ _ s1 s2 e1.w (good_directive n true) h2
  have hsig : sig cs = [] := by
    have : (sig cs).map astOfV = [] := by simpa [TokIs, Ast.tDirectives] using a4
    simpa using this
  cases cs with
  | nil =>
    simp only [List.nil_append] at a1
    rw [← a1, ht] at hexit
    simp [hk] at hexit
  | cons c r =>
    rw [ht] at a1
    simp only [List.cons_append, List.cons.injEq] at a1
    have hc : c = t := a1.1.symm
    subst hc
    have : sig (c :: r) = c :: sig r := by simp [sig, hni]
    rw [this] at hsig
    cases hsig

/-- `extend <kw> tail` entered by `extensions()`: both keywords consumed, the tail at the budget of the start state, on a
    lexer queue -/
theorem ext2_soundQ (K : SK) (w2 : String) (hw2 : KwWord w2) (sk1 sk2 : SK) (tail : PI Unit) (L : Nat → Option Tok → List Ast.Tok → Prop)
    (gt : Good tail)
    (ht : ∀ s s', TW s → EofEnd s → LexQ (Toks s) → tail.run s = .ok () s' → ¬ Doomed s' → Cons s s' (L (bud s) s'.current))
    (s s' : PState) (w : TW s) (he : EofEnd s) (hq : LexQ (Toks s)) (hs : EStart w2.toList (Toks s))
    (h : (withNode K (bump sk1 >>= fun _ => bump sk2 >>= fun _ => tail)).run s = .ok () s') (hnd : ¬ Doomed s') :
    Cons s s' (fun x => ∃ x2, x = .name "extend".toList :: .name w2.toList :: x2 ∧ L (bud s) s'.current x2) := by
  obtain ⟨t, rest, t2, htq, hkt, hdt, h2t, hd2⟩ := hs
  have hni : isIgnoredKind t.kind = false := by rw [hkt]; rfl
  obtain ⟨s1, s2, e1, h1, o2, _, he1, hnd2⟩ := withNode_entered _ _ s s' () t rest w he htq hni h hnd
  have h0 : Toks s = Toks s1 := by simpa using e1.toks
  obtain ⟨_, sa, ha, h3⟩ := bind_dec (bump sk1) _ s1 s2 () h1
  obtain ⟨_, sb, hb, h4⟩ := bind_dec (bump sk2) _ sa s2 () h3
  have hpre : (bump sk1 >>= fun _ => bump sk2 >>= fun _ => (pure () : PI Unit)).run s1 = .ok () sb :=
    bind_intro _ _ s1 sa () _ ha (bind_intro _ _ sa sb () _ hb rfl)
  have hacc := accL_bump2 "extend" w2 kwWord_extend hw2 sk1 sk2 (pure () : PI Unit) (fun _ x => x = [])
    ((acc_pure E0 LexQ ()).mono (fun _ h => h) (fun _ _ h => h.2))
  have a1 := hacc.1 s1 () sb e1.w hpre
  have hndb : ¬ Doomed sb := fun d => hnd2 ((gt sb () s2 a1.w h4).doom d)
  have hq1 : LexQ (Toks s1) := by rw [← h0]; exact hq
  have c1 := cons_of_acc hacc s1 sb () e1.w he1 ⟨hq1, t, rest, t2, by rw [← h0]; exact htq, hdt, h2t, hd2⟩ hpre hndb
  have hqb : LexQ (Toks sb) := by
    obtain ⟨cs, _, a, _⟩ := c1
    rw [a] at hq1; exact hq1.suffix
  have c2 := ht sb s2 a1.w c1.eofEnd hqb h4 hnd2
  refine ((c1.seq c2).node e1 o2).weaken ?_
  rintro z ⟨x, y, rfl, ⟨x2, rfl, rfl⟩, hy⟩
  rw [bud_adv a1, bud_eat e1, ← o2.current] at hy
  exact ⟨y, by simp, hy⟩

theorem ext2_sound (K : SK) (w2 : String) (hw2 : KwWord w2) (sk1 sk2 : SK) (tail : PI Unit) (L : Nat → Option Tok → List Ast.Tok → Prop)
    (gt : Good tail)
    (ht : ∀ s s', TW s → EofEnd s → tail.run s = .ok () s' → ¬ Doomed s' → Cons s s' (L (bud s) s'.current))
    (s s' : PState) (w : TW s) (he : EofEnd s) (hq : LexQ (Toks s)) (hs : EStart w2.toList (Toks s))
    (h : (withNode K (bump sk1 >>= fun _ => bump sk2 >>= fun _ => tail)).run s = .ok () s') (hnd : ¬ Doomed s') :
    Cons s s' (fun x => ∃ x2, x = .name "extend".toList :: .name w2.toList :: x2 ∧ L (bud s) s'.current x2) :=
  ext2_soundQ K w2 hw2 sk1 sk2 tail L gt (fun q q' wq heq _ => ht q q' wq heq) s s' w he hq hs h hnd

theorem ext2_settled (K : SK) (sk1 sk2 : SK) (tail : PI Unit) (gt : Good tail) (ht : SP tail)
    (s s' : PState) (w : TW s) (h : (withNode K (bump sk1 >>= fun _ => bump sk2 >>= fun _ => tail)).run s = .ok () s') (hnd : ¬ Doomed s') :
    Settled s' := by
  have hse : SE (bump sk1 >>= fun _ => bump sk2 >>= fun _ => tail) :=
    se_bindR (good_bump _) (fun _ => se_bindL (good_bump _) (fun _ => gt) (se_bump _) (fun _ => ht))
  rcases se_withNode K _ hse.sp s () s' w h with h1 | h1
  · exact h1
  · exact absurd h1 hnd

/-- `if !meets { err }` -/
theorem extEnd_ok (meets : Bool) (s s' : PState) (w : TW s) (he : EofEnd s) (h : (extEnd meets).run s = .ok () s') (hnd : ¬ Doomed s') :
    meets = true ∧ s' = s := by
  unfold extEnd at h
  cases meets with
  | true =>
    simp only [Bool.not_true, Bool.false_eq_true, if_false] at h
    rw [run_pure] at h
    injection h with _ h
    exact ⟨rfl, h.symm⟩
  | false =>
    simp only [Bool.not_false, if_true] at h
    exact absurd (err_dooms s s' w he h) hnd

theorem good_extEnd (meets : Bool) : Good (extEnd meets) := by
  unfold extEnd; exact good_ite _ _ _ good_err (good_pure _)

theorem sp_extEnd (meets : Bool) : SP (extEnd meets) := by
  unfold extEnd; exact sp_ite _ _ _ se_err.sp (sp_pure _)

theorem good_extBodyK {k : Kind} (body : PI Unit) (gb : Good body) (meets : Bool) : Good (extBodyK k body meets) := by
  unfold extBodyK optKind2
  exact good_bind _ _ good_peek (fun _ => good_ite _ _ _ (good_bind _ _ gb (fun _ => good_extEnd true)) (good_extEnd meets))

theorem sp_extBodyK {k : Kind} (body : PI Unit) (gb : Good body) (hb : SP body) (meets : Bool) : SP (extBodyK k body meets) := by
  unfold extBodyK optKind2
  exact sp_bind good_peek (fun _ => good_ite _ _ _ (good_bind _ _ gb (fun _ => good_extEnd true)) (good_extEnd meets)) sp_peek
    (fun _ => sp_ite _ _ _ (sp_bind gb (fun _ => good_extEnd true) hb (fun _ => sp_extEnd true)) (sp_extEnd meets))

theorem good_extDirs (n : Nat) (next : Bool → PI Unit) (gn : ∀ m, Good (next m)) (meets : Bool) : Good (extDirs n next meets) := by
  unfold extDirs optKind2
  exact good_bind _ _ good_peek (fun _ => good_ite _ _ _ (good_bind _ _ (good_directives n true) (fun _ => gn true)) (gn meets))

theorem sp_extDirs (n : Nat) (next : Bool → PI Unit) (gn : ∀ m, Good (next m)) (hn : ∀ m, SP (next m)) (meets : Bool) : SP (extDirs n next meets) := by
  unfold extDirs optKind2
  exact sp_bind good_peek (fun _ => good_ite _ _ _ (good_bind _ _ (good_directives n true) (fun _ => gn true)) (gn meets)) sp_peek
    (fun _ => sp_ite _ _ _ (sp_bind (good_directives n true) (fun _ => gn true) (se_directives n true).sp (fun _ => hn true)) (hn meets))

theorem extBodyK_sound {k : Kind} (body : PI Unit) (LB : Nat → List Ast.Tok → Prop) (gb : Good body)
    (hb : ∀ s s' t rest, TW s → EofEnd s → Toks s = t :: rest → t.kind = k → body.run s = .ok () s' → ¬ Doomed s' → Cons s s' (LB (bud s)))
    (meets : Bool) (s s' : PState) (w : TW s) (he : EofEnd s) (h : (extBodyK k body meets).run s = .ok () s') (hnd : ¬ Doomed s') :
    Cons s s' (fun x => LB (bud s) x ∨ (x = [] ∧ meets = true ∧ ∀ t, s'.current = some t → t.kind ≠ k)) := by
  unfold extBodyK optKind2 at h
  obtain ⟨sP, o, p, hor⟩ := ifPeek_dec k _ _ s s' () w h
  have heP := p.eofEnd he
  rcases hor with ⟨hkc, h5⟩ | ⟨hkc, h5⟩
  · obtain ⟨tc, rfl, hkc2⟩ := peeked_kind hkc
    obtain ⟨_, sB, h6, h7⟩ := bind_dec body _ sP s' () h5
    have aB := gb sP () sB p.w h6
    have hndB : ¬ Doomed sB := fun d => hnd ((good_extEnd true sB () s' aB.w h7).doom d)
    have c2 := hb sP sB tc _ p.w heP p.head_cons hkc2 h6 hndB
    obtain ⟨_, rfl⟩ := extEnd_ok true sB s' aB.w c2.eofEnd h7 hnd
    refine (c2.transport p.toks.symm rfl c2.eofEnd).weaken ?_
    intro z hz
    rw [bud_peek p] at hz
    exact Or.inl hz
  · obtain ⟨hm, hss⟩ := extEnd_ok meets sP s' p.w heP h5 hnd
    rw [hss]
    refine (Cons.nil p.toks heP).weaken ?_
    rintro z rfl
    refine Or.inr ⟨rfl, hm, ?_⟩
    intro t ht hk
    rw [p.current] at ht
    subst ht
    exact hkc (by simp [hk])

/-- `Directives[Const]? next` of an extension, generically in `next`: what `next` establishes at the budget of the start state,
    with the flag `meets` raised when directives were written -/
theorem extDirs_soundG (n : Nat) (next : Bool → PI Unit) (gn : ∀ m, Good (next m)) (R : Nat → Bool → Option Tok → List Ast.Tok → Prop)
    (hn : ∀ m s s', TW s → EofEnd s → (next m).run s = .ok () s' → ¬ Doomed s' → Cons s s' (R (bud s) m s'.current))
    (meets : Bool) (s s' : PState) (w : TW s) (he : EofEnd s) (h : (extDirs n next meets).run s = .ok () s') (hnd : ¬ Doomed s') :
    Cons s s' (fun x => ∃ ds x2, x = Ast.tDirectives ds ++ x2 ∧ dirsFit true (bud s) ds ∧
      ((ds ≠ [] ∧ R (bud s) true s'.current x2) ∨ (ds = [] ∧ R (bud s) meets s'.current x2))) := by
  unfold extDirs optKind2 at h
  obtain ⟨sP, o, p, hor⟩ := ifPeek_dec .at _ _ s s' () w h
  have heP := p.eofEnd he
  rcases hor with ⟨hkc, h5⟩ | ⟨hkc, h5⟩
  · obtain ⟨tc, rfl, hkc2⟩ := peeked_kind hkc
    obtain ⟨_, sD, h6, h7⟩ := bind_dec (directives n true) _ sP s' () h5
    have aD := good_directives n true sP () sD p.w h6
    have hndD : ¬ Doomed sD := fun d => hnd ((gn true sD () s' aD.w h7).doom d)
    have c1 := directives_at_sound n sP sD tc _ p.w heP p.head_cons hkc2 h6 hndD
    have c2 := hn true sD s' aD.w c1.eofEnd h7 hnd
    refine ((c1.seq c2).transport p.toks.symm rfl c2.eofEnd).weaken ?_
    rintro z ⟨x, y, rfl, ⟨ds, rfl, hne, hds⟩, hy⟩
    rw [bud_peek p] at hds
    rw [bud_adv aD, bud_peek p] at hy
    exact ⟨ds, y, rfl, hds, Or.inl ⟨hne, hy⟩⟩
  · have c2 := hn meets sP s' p.w heP h5 hnd
    refine (c2.transport p.toks.symm rfl c2.eofEnd).weaken ?_
    intro z hz
    rw [bud_peek p] at hz
    exact ⟨[], z, by simp [Ast.tDirectives], (by intro d hd; cases hd), Or.inr ⟨rfl, hz⟩⟩

/-- `Directives[Const]? Body?` of an extension: when `meets` is false at the start, something was written -/
theorem extDirsBody_sound {k : Kind} (n : Nat) (body : PI Unit) (LB : Nat → List Ast.Tok → Prop) (gb : Good body)
    (hb : ∀ s s' t rest, TW s → EofEnd s → Toks s = t :: rest → t.kind = k → body.run s = .ok () s' → ¬ Doomed s' → Cons s s' (LB (bud s)))
    (meets : Bool) (s s' : PState) (w : TW s) (he : EofEnd s) (h : (extDirs n (extBodyK k body) meets).run s = .ok () s') (hnd : ¬ Doomed s') :
    Cons s s' (fun x => ∃ ds x2, x = Ast.tDirectives ds ++ x2 ∧ dirsFit true (bud s) ds ∧
      (LB (bud s) x2 ∨ (x2 = [] ∧ (ds ≠ [] ∨ meets = true) ∧ ∀ t, s'.current = some t → t.kind ≠ k))) :=
  (extDirs_soundG n (extBodyK k body) (good_extBodyK body gb)
    (fun b m cur x => LB b x ∨ (x = [] ∧ m = true ∧ ∀ t, cur = some t → t.kind ≠ k))
    (fun m q q' wq heq hrq hndq => extBodyK_sound body LB gb hb m q q' wq heq hrq hndq) meets s s' w he h hnd).weaken (by
      rintro z ⟨ds, x2, rfl, hds, ⟨hne, hl | ⟨e, _, hc⟩⟩ | ⟨_, hl | ⟨e, hm, hc⟩⟩⟩
      · exact ⟨ds, x2, rfl, hds, Or.inl hl⟩
      · exact ⟨ds, x2, rfl, hds, Or.inr ⟨e, Or.inl hne, hc⟩⟩
      · exact ⟨ds, x2, rfl, hds, Or.inl hl⟩
      · exact ⟨ds, x2, rfl, hds, Or.inr ⟨e, Or.inr hm, hc⟩⟩)

end Apollo.Parse.Exact
