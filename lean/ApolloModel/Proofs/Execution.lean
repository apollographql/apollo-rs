import ApolloModel.Model.Execution
/- C26: invariants of the executor model — errors carry the path of their position, a propagation
   always comes with an error, non-null positions never hold null. -/
namespace Apollo.Exec
open Apollo

def Ext (path : Path) (st st' : St) (new : List Path) : Prop :=
  st'.errors = st.errors ++ new ∧ ∀ p, p ∈ new → path <+: p

theorem ext_refl (path : Path) (st : St) : Ext path st st [] := by
  simp [Ext]

theorem ext_push (path : Path) (st : St) : Ext path st (st.push path) [path] := by
  simp [Ext, St.push]

theorem ext_trans {path : Path} {st st1 st2 : St} {n1 n2 : List Path}
    (h1 : Ext path st st1 n1) (h2 : Ext path st1 st2 n2) : Ext path st st2 (n1 ++ n2) := by
  refine ⟨by rw [h2.1, h1.1, List.append_assoc], ?_⟩
  intro p hp
  simp only [List.mem_append] at hp
  rcases hp with hp | hp
  · exact h1.2 p hp
  · exact h2.2 p hp

theorem ext_weaken {path : Path} {seg : Seg} {st st' : St} {new : List Path}
    (h : Ext (path ++ [seg]) st st' new) : Ext path st st' new :=
  ⟨h.1, fun p hp => List.IsPrefix.trans (List.prefix_append path [seg]) (h.2 p hp)⟩

/-- what every value-producing call guarantees -/
def GoodOut (path : Path) (ty : Ty) (st : St) (x : Out × St) : Prop :=
  ∃ new, Ext path st x.2 new ∧ (x.1 = .error .propagate → new ≠ []) ∧
    (∀ v, x.1 = .ok (some v) → ty.isNonNull = true → v ≠ .null)

def RecGood (rec : Rec) : Prop := ∀ path ty rv fields st, GoodOut path ty st (rec path ty rv fields st)

def GoodMap (path : Path) (st : St) (x : Except Fail (AList Json) × St) : Prop :=
  ∃ new, Ext path st x.2 new ∧ (x.1 = .error .propagate → new ≠ [])

theorem good_error_push (path : Path) (ty : Ty) (st : St) :
    GoodOut path ty st (.error .propagate, st.push path) :=
  ⟨[path], ext_push path st, by simp, by intro v h; cases h⟩

theorem tryNullify_cases (ty : Ty) (r : Out) :
    (∃ j, r = .ok j ∧ tryNullify ty r = .ok j) ∨
    (r = .error .propagate ∧ ty.isNonNull = true ∧ tryNullify ty r = .error .propagate) ∨
    (r = .error .propagate ∧ ty.isNonNull = false ∧ tryNullify ty r = .ok (some .null)) ∨
    (r = .error .fuel ∧ tryNullify ty r = .error .fuel) := by
  cases r with
  | ok j => exact Or.inl ⟨j, rfl, rfl⟩
  | error e =>
    cases e with
    | fuel => exact Or.inr (Or.inr (Or.inr ⟨rfl, rfl⟩))
    | propagate =>
      cases h : ty.isNonNull with
      | true => exact Or.inr (Or.inl ⟨rfl, rfl, by simp [tryNullify, h]⟩)
      | false => exact Or.inr (Or.inr (Or.inl ⟨rfl, rfl, by simp [tryNullify, h]⟩))

theorem good_tryNullify {path : Path} {ty : Ty} {st : St} {r : Out} {st' : St}
    (h : GoodOut path ty st (r, st')) : GoodOut path ty st (tryNullify ty r, st') := by
  obtain ⟨new, hext, hprop, hnn⟩ := h
  refine ⟨new, hext, ?_, ?_⟩
  · intro he
    rcases tryNullify_cases ty r with ⟨j, _, e⟩ | ⟨hr, _, _⟩ | ⟨_, _, e⟩ | ⟨_, e⟩
    · rw [e] at he; cases he
    · exact hprop hr
    · rw [e] at he; cases he
    · rw [e] at he; cases he
  · intro v hv hty
    rcases tryNullify_cases ty r with ⟨j, hr, e⟩ | ⟨_, _, e⟩ | ⟨_, hnull, e⟩ | ⟨_, e⟩
    · rw [e] at hv; cases hv
      exact hnn v hr hty
    · rw [e] at hv; cases hv
    · rw [hnull] at hty; cases hty
    · rw [e] at hv; cases hv

theorem completeLeaf_good (path : Path) (ty : Ty) (tyName : String) (k : Kind) (j : Json) (hj : j ≠ .null) (st : St) :
    GoodOut path ty st (completeLeaf path tyName k j st) := by
  unfold completeLeaf
  have okj : GoodOut path ty st (.ok (some j), st) :=
    ⟨[], ext_refl path st, (by intro h; cases h), (by intro v h _; cases h; exact hj)⟩
  split
  · exact good_error_push path ty st
  · exact good_error_push path ty st
  · exact good_error_push path ty st
  · exact good_error_push path ty st
  · split
    · split
      · exact okj
      · exact good_error_push path ty st
    · exact good_error_push path ty st
  · split
    · exact okj
    · exact good_error_push path ty st

theorem completeItems_good (rec : Rec) (hrec : RecGood rec) (path : Path) (ty inner : Ty) (fields : List Sel) :
    ∀ items i acc st, ∃ new, Ext path st (completeItems rec path ty inner fields items i acc st).2 new ∧
      ((completeItems rec path ty inner fields items i acc st).1 = .error .propagate → new ≠ []) ∧
      (∀ v, (completeItems rec path ty inner fields items i acc st).1 = .ok (some v) → ty.isNonNull = true → v ≠ .null) := by
  intro items
  induction items with
  | nil =>
    intro i acc st
    simp only [completeItems]
    exact ⟨[], ext_refl path st, (by intro h; cases h), (by intro v h _; cases h; simp)⟩
  | cons item rest ih =>
    intro i acc st
    have step : ∀ item', item' = item → (∀ (h : item' = RV.error), False) →
        ∃ new, Ext path st (completeItems rec path ty inner fields (item' :: rest) i acc st).2 new ∧
          ((completeItems rec path ty inner fields (item' :: rest) i acc st).1 = .error .propagate → new ≠ []) ∧
          (∀ v, (completeItems rec path ty inner fields (item' :: rest) i acc st).1 = .ok (some v) → ty.isNonNull = true → v ≠ .null) := by
      intro item' _ hne
      have hunf : completeItems rec path ty inner fields (item' :: rest) i acc st =
          (match rec (path ++ [.idx i]) inner item' fields st with
          | (r, st1) =>
            match tryNullify inner r with
            | .ok none => completeItems rec path ty inner fields rest (i + 1) acc st1
            | .ok (some v) => completeItems rec path ty inner fields rest (i + 1) (acc ++ [v]) st1
            | .error .propagate => (tryNullify ty (.error .propagate), st1)
            | .error .fuel => (.error .fuel, st1)) := by
        cases item' <;> first | rfl | exact absurd rfl (fun h => hne h)
      rw [hunf]
      obtain ⟨n1, hext1, hprop1, _⟩ := hrec (path ++ [.idx i]) inner item' fields st
      generalize rec (path ++ [.idx i]) inner item' fields st = res at *
      obtain ⟨r, st1⟩ := res
      have hext1' : Ext path st st1 n1 := ext_weaken hext1
      simp only
      rcases tryNullify_cases inner r with ⟨j, _, e⟩ | ⟨hr, _, e⟩ | ⟨_, _, e⟩ | ⟨_, e⟩
      · rw [e]
        cases j with
        | none =>
          obtain ⟨n2, h2, p2, v2⟩ := ih (i + 1) acc st1
          exact ⟨n1 ++ n2, ext_trans hext1' h2, (fun h => by simp [p2 h]), v2⟩
        | some v =>
          obtain ⟨n2, h2, p2, v2⟩ := ih (i + 1) (acc ++ [v]) st1
          exact ⟨n1 ++ n2, ext_trans hext1' h2, (fun h => by simp [p2 h]), v2⟩
      · rw [e]
        refine ⟨n1, hext1', fun _ => hprop1 hr, ?_⟩
        intro v hv hty
        simp [tryNullify, hty] at hv
      · rw [e]
        obtain ⟨n2, h2, p2, v2⟩ := ih (i + 1) (acc ++ [.null]) st1
        exact ⟨n1 ++ n2, ext_trans hext1' h2, (fun h => by simp [p2 h]), v2⟩
      · rw [e]
        exact ⟨n1, hext1', (by intro h; cases h), (by intro v h _; cases h)⟩
    by_cases he : item = RV.error
    · subst he
      simp only [completeItems]
      exact ⟨[path ++ [.idx i]], ⟨by simp [St.push], by intro p hp; simp at hp; subst hp; exact List.prefix_append path _⟩,
        (by simp), (by intro v h _; cases h)⟩
    · exact step item rfl (fun h => he h)


theorem completeItems_items (rec : Rec) (hrec : RecGood rec) (path : Path) (ty inner : Ty) (fields : List Sel) :
    ∀ items i acc st, (∀ v, v ∈ acc → inner.isNonNull = true → v ≠ .null) →
      ∀ ys, (completeItems rec path ty inner fields items i acc st).1 = .ok (some (.arr ys)) →
        ∀ v, v ∈ ys → inner.isNonNull = true → v ≠ .null := by
  intro items
  induction items with
  | nil =>
    intro i acc st hacc ys h
    simp only [completeItems] at h
    cases h
    exact hacc
  | cons item rest ih =>
    intro i acc st hacc ys h
    by_cases he : item = RV.error
    · subst he
      simp only [completeItems] at h
      cases h
    · have hunf : completeItems rec path ty inner fields (item :: rest) i acc st =
          (match rec (path ++ [.idx i]) inner item fields st with
          | (r, st1) =>
            match tryNullify inner r with
            | .ok none => completeItems rec path ty inner fields rest (i + 1) acc st1
            | .ok (some v) => completeItems rec path ty inner fields rest (i + 1) (acc ++ [v]) st1
            | .error .propagate => (tryNullify ty (.error .propagate), st1)
            | .error .fuel => (.error .fuel, st1)) := by
        cases item <;> first | rfl | exact absurd rfl he
      rw [hunf] at h
      have hg := hrec (path ++ [.idx i]) inner item fields st
      generalize rec (path ++ [.idx i]) inner item fields st = res at *
      obtain ⟨r, st1⟩ := res
      have hg' := good_tryNullify hg
      obtain ⟨_, _, _, hnn⟩ := hg'
      simp only at h
      rcases tryNullify_cases inner r with ⟨j, _, e⟩ | ⟨_, _, e⟩ | ⟨_, _, e⟩ | ⟨_, e⟩
      · rw [e] at h hnn
        cases j with
        | none => exact ih (i + 1) acc st1 hacc ys h
        | some v =>
          refine ih (i + 1) (acc ++ [v]) st1 ?_ ys h
          intro w hw
          simp only [List.mem_append, List.mem_singleton] at hw
          rcases hw with hw | rfl
          · exact hacc w hw
          · exact hnn w rfl
      · rw [e] at h
        simp only at h
        rcases tryNullify_cases ty (.error .propagate) with ⟨j, hj, _⟩ | ⟨_, _, e2⟩ | ⟨_, _, e2⟩ | ⟨hj, _⟩
        · cases hj
        · rw [e2] at h; cases h
        · rw [e2] at h; cases h
        · cases hj
      · rw [e] at h hnn
        refine ih (i + 1) (acc ++ [.null]) st1 ?_ ys h
        intro w hw
        simp only [List.mem_append, List.mem_singleton] at hw
        rcases hw with hw | rfl
        · exact hacc w hw
        · exact hnn _ rfl
      · rw [e] at h
        cases h

theorem completeList_good (rec : Rec) (hrec : RecGood rec) (path : Path) (ty : Ty) (fields : List Sel)
    (items : List RV) (st : St) : GoodOut path ty st (completeList rec path ty fields items st) := by
  unfold completeList
  split
  · exact good_error_push path ty st
  · next inner _ => exact completeItems_good rec hrec path ty inner fields items 0 [] st

theorem execField_good (rec : Rec) (hrec : RecGood rec) (env : Env) (path : Path) (objTy : String) (objId : Nat)
    (fdef : FieldDef) (fields : List Sel) (st : St) :
    GoodOut path fdef.ty st (execField rec env path objTy objId fdef fields st) := by
  unfold execField
  split
  · exact ⟨[], ext_refl path st, (by intro h; cases h), (by intro v h _; cases h)⟩
  · next f0 tl =>
    split
    · split
      · exact good_error_push path fdef.ty st
      · next hnn =>
        refine ⟨[path], ext_push path st, (by intro h; cases h), ?_⟩
        intro v _ hty
        simp [hty] at hnn
    · next args _ =>
      simp only
      split
      · exact good_tryNullify (good_error_push path fdef.ty st)
      · next rv _ =>
        have := hrec path fdef.ty rv (f0 :: tl) st
        generalize rec path fdef.ty rv (f0 :: tl) st = res at *
        obtain ⟨r, st1⟩ := res
        exact good_tryNullify this

theorem execGroups_good (rec : Rec) (hrec : RecGood rec) (env : Env) (path : Path) (objTy : String) (objId : Nat) :
    ∀ groups acc st, GoodMap path st (execGroups rec env path objTy objId groups acc st) := by
  intro groups
  induction groups with
  | nil => intro acc st; exact ⟨[], ext_refl path st, (by intro h; cases h)⟩
  | cons g rest ih =>
    intro acc st
    obtain ⟨key, fields⟩ := g
    simp only [execGroups]
    split
    · exact ih acc st
    · next f0 tl =>
      split
      · exact ih acc st
      · next fdef _ =>
        obtain ⟨n1, hext1, hprop1, _⟩ := execField_good rec hrec env (path ++ [.key key]) objTy objId fdef (f0 :: tl) st
        generalize execField rec env (path ++ [.key key]) objTy objId fdef (f0 :: tl) st = res at *
        obtain ⟨r, st1⟩ := res
        have hext1' : Ext path st st1 n1 := ext_weaken hext1
        cases r with
        | error e =>
          refine ⟨n1, hext1', ?_⟩
          intro h
          cases h
          exact hprop1 rfl
        | ok o =>
          cases o with
          | none =>
            obtain ⟨n2, h2, p2⟩ := ih acc st1
            exact ⟨n1 ++ n2, ext_trans hext1' h2, (fun h => by simp [p2 h])⟩
          | some v =>
            obtain ⟨n2, h2, p2⟩ := ih (AList.insert acc key v) st1
            exact ⟨n1 ++ n2, ext_trans hext1' h2, (fun h => by simp [p2 h])⟩

theorem execSelSet_good (rec : Rec) (hrec : RecGood rec) (env : Env) (path : Path) (objTy : String) (objId : Nat)
    (sels : List Sel) (st : St) : GoodMap path st (execSelSet rec env path objTy objId sels st) := by
  unfold execSelSet
  split
  · exact ⟨[], ext_refl path st, (by intro h; cases h)⟩
  · exact execGroups_good rec hrec env path objTy objId _ [] st

theorem completeValue_good (env : Env) : ∀ n, RecGood (completeValue env n) := by
  intro n
  induction n with
  | zero =>
    intro path ty rv fields st
    exact ⟨[], ext_refl path st, (by intro h; cases h), (by intro v h _; cases h)⟩
  | succ n ih =>
    intro path ty rv fields st
    unfold completeValue
    split
    · exact ⟨[], ext_refl path st, (by intro h; cases h), (by intro v h _; cases h)⟩
    · split
      · exact good_error_push path ty st
      · next hnn =>
        exact ⟨[], ext_refl path st, (by intro h; cases h), (by intro v _ hty; simp [hty] at hnn)⟩
    · exact completeList_good _ ih path ty fields _ st
    · exact good_error_push path ty st
    · exact good_error_push path ty st
    · next rv' hskip hnull hlist herr hecho =>
      split
      · exact good_error_push path ty st
      · next tyName _ =>
        split
        · exact good_error_push path ty st
        · exact good_error_push path ty st
        · next k _ _ =>
          split
          · next j =>
            refine completeLeaf_good path ty tyName k j ?_ st
            intro hj
            subst hj
            exact hnull rfl
          · next resolvedTy id =>
            split
            · obtain ⟨n1, hext1, hprop1⟩ := execSelSet_good _ ih env path resolvedTy id (subSelections fields) st
              generalize execSelSet (completeValue env n) env path resolvedTy id (subSelections fields) st = res at *
              obtain ⟨r, st1⟩ := res
              cases r with
              | ok m => exact ⟨n1, hext1, (by intro h; cases h), (by intro v h _; cases h; simp)⟩
              | error e =>
                refine ⟨n1, hext1, ?_, (by intro v h _; cases h)⟩
                intro h
                cases h
                exact hprop1 rfl
            · exact good_error_push path ty st
          · exact good_error_push path ty st

end Apollo.Exec
