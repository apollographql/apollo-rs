import ApolloModel.Proofs.AstText10
/-
Property C08, text level: block strings are read as one token that decodes to the string; every string
literal the serializer writes lexes back (`tokOk_string`).
-/
namespace Apollo.Ast
open Apollo.Lex (State step runD advance Item Kind done)
open Apollo.Strs (escapeTriple isWs indentStr blockForm quotedForm serializeStringValue canBeBlockString splitNl)

def tq : Str := ['"', '"', '"']

theorem advance_block (b rest : Str) (h : brun S b = some S) :
    advance (tq ++ b ++ tq ++ rest) = (.tok .stringValue (tq ++ b ++ tq), rest) := by
  have h0 : step .start .eof false [] '"' = .goto .stringLiteralStart .stringValue false := rfl
  have h1 : step .stringLiteralStart .stringValue false ['"'] '"' = .goto .stringLiteralStart2 .stringValue false := rfl
  have h2 : step .stringLiteralStart2 .stringValue false ['"', '"'] '"' = .goto .blockStringLiteral .stringValue false := rfl
  have e : tq ++ b ++ tq ++ rest = '"' :: '"' :: '"' :: (b ++ ('"' :: '"' :: '"' :: rest)) := by simp [tq]
  rw [e]
  unfold advance
  rw [runD, h0]; simp only [List.nil_append]
  rw [runD, h1]; simp only [List.cons_append, List.nil_append]
  rw [runD, h2]; simp only [List.cons_append, List.nil_append]
  rw [runD_brun .stringValue false b S S _ _ rfl h]
  have c1 : ∀ acc, step S .stringValue false acc '"' = .goto Q1 .stringValue false := fun _ => rfl
  have c2 : ∀ acc, step Q1 .stringValue false acc '"' = .goto Q2 .stringValue false := fun _ => rfl
  have c3 : ∀ acc, step Q2 .stringValue false acc '"' = .incl (done .stringValue false) := fun _ => rfl
  rw [runD, c1]; simp only []
  rw [runD, c2]; simp only []
  rw [runD, c3]
  simp [done, Lex.Out.mk, tq]

theorem ws_not_special (c : Char) (h : isWs c = true) : c ≠ '"' ∧ c ≠ '\\' := by
  simp only [isWs, Bool.or_eq_true, beq_iff_eq] at h
  rcases h with h | h <;> subst h <;> decide

theorem brun_ws (w : Str) (h : w.all isWs = true) : brun S w = some S := by
  induction w with
  | nil => rfl
  | cons c r ih =>
    have hc : isWs c = true ∧ r.all isWs = true := by simpa using h
    obtain ⟨h1, h2⟩ := ws_not_special c hc.1
    simp [brun, bstep_other S c rfl h1 h2, ih hc.2]

theorem brun_nl (st : State) (h : isB st = true) : bstep st '\n' = some S :=
  bstep_other st '\n' h (by decide) (by decide)

theorem brun_line (I l : Str) (hI : I.all isWs = true) (st : State) (h : isB st = true) :
    ∃ st', brun st ('\n' :: I ++ escapeTriple l) = some st' ∧ isB st' = true := by
  obtain ⟨st', hr, _, _⟩ := brun_escapeTriple l S ⟨rfl, by simp, by simp⟩
  refine ⟨st', ?_, brun_isB _ S st' rfl hr⟩
  simp only [List.cons_append, brun, brun_nl st h, Option.bind_some]
  rw [brun_append, brun_ws I hI]
  simpa using hr

theorem brun_lines (I : Str) (hI : I.all isWs = true) : ∀ (L : List Str) (st : State), isB st = true →
    ∃ st', brun st (L.flatMap fun l => if l.isEmpty then ['\n'] else '\n' :: I ++ escapeTriple l) = some st' ∧
      isB st' = true
  | [], st, h => ⟨st, by simp [brun], h⟩
  | l :: L, st, h => by
    have hl : ∃ st1, brun st (if l.isEmpty then ['\n'] else '\n' :: I ++ escapeTriple l) = some st1 ∧ isB st1 = true := by
      split
      · exact ⟨S, by simp [brun, brun_nl st h], rfl⟩
      · exact brun_line I l hI st h
    obtain ⟨st1, h1, hb1⟩ := hl
    obtain ⟨st2, h2, hb2⟩ := brun_lines I hI L st1 hb1
    exact ⟨st2, by simp only [List.flatMap_cons, brun_append, h1, Option.bind_some, h2], hb2⟩

/-- the text `serialize_block_string` writes is `"""` body `"""` with a body that does not close the string -/
theorem blockForm_shape (p : Str) (n : Nat) (s : Str) (hp : p.all isWs = true) :
    ∃ b, blockForm p n s = tq ++ b ++ tq ∧ brun S b = some S := by
  have hI := Strs.indentStr_ws p hp n
  unfold blockForm
  simp only []
  split
  · -- single line
    rename_i hm
    refine ⟨escapeTriple s, rfl, ?_⟩
    obtain ⟨st', hr, hnil, hlast⟩ := brun_escapeTriple s S ⟨rfl, by simp, by simp⟩
    cases hs : s.getLast? with
    | none =>
      have : s = [] := by simpa using hs
      rw [hr, hnil this]
    | some c =>
      simp only [hs, Bool.not_eq_true', Bool.or_eq_false_iff, beq_eq_false_iff_ne, ne_eq, Option.some.injEq] at hm
      rw [hr, hlast c hs (fun h => hm.1.2 h) (fun h => hm.2 h)]
  · -- several lines: every line, then a newline and the indentation before the closing quotes
    obtain ⟨st', hr, hb⟩ := brun_lines (indentStr p n) hI (splitNl s) S rfl
    refine ⟨((splitNl s).flatMap fun l => if l.isEmpty then ['\n'] else '\n' :: indentStr p n ++ escapeTriple l)
      ++ '\n' :: indentStr p n, by simp [tq], ?_⟩
    rw [brun_append, hr]
    simp only [Option.bind_some, brun, brun_nl st' hb]
    exact brun_ws _ hI

/-- **block strings lex back**: one StringValue token, exactly the printed text, which decodes to the string -/
theorem tokOk_block (p : Str) (n : Nat) (s : Str) (hp : p.all isWs = true) (hcan : canBeBlockString s = true) :
    TokOk (.str s) (blockForm p n s) := by
  obtain ⟨b, hshape, hb⟩ := blockForm_shape p n s hp
  refine ⟨by rw [hshape]; simp [tq, HeadOk, headChar, clsTok, quote_not_ignored], ?_⟩
  intro rest _
  refine ⟨.stringValue, blockForm p n s, ?_, ?_⟩
  · rw [hshape]; exact advance_block b rest hb
  · simp [sigItem, Strs.block_roundtrip p n s hp hcan]

/-- **every string literal the serializer writes lexes back and decodes to the string** (white-space prefix) -/
theorem tokOk_string (p : Option Str) (n : Nat) (d : Bool) (s : Str) (hp : ∀ pre, p = some pre → pre.all isWs = true) :
    TokOk (.str s) (serializeStringValue p n d s) := by
  unfold serializeStringValue
  cases p with
  | none => exact tokOk_quoted s
  | some pre =>
    simp only []
    split
    · next h =>
      simp only [Bool.and_eq_true] at h
      exact tokOk_block pre n s (hp pre rfl) h.2
    · exact tokOk_quoted s

end Apollo.Ast
