import ApolloModel.Proofs.Execution
/- C26: a fuel bound for operations without fragment spreads (inline fragments allowed):
   `collect_fields` and `complete_value` never run out of fuel. -/
namespace Apollo.Exec
open Apollo

mutual
def Sel.weight : Sel → Nat
  | .field _ _ _ _ sub => Sel.weightL sub + 1
  | .spread _ _ => 1
  | .inline _ _ sub => Sel.weightL sub + 1
def Sel.weightL : List Sel → Nat
  | [] => 0
  | s :: rest => Sel.weight s + Sel.weightL rest
end

mutual
def Sel.depth : Sel → Nat
  | .field _ _ _ _ sub => Sel.depthL sub + 1
  | .spread _ _ => 0
  | .inline _ _ sub => Sel.depthL sub
def Sel.depthL : List Sel → Nat
  | [] => 0
  | s :: rest => max (Sel.depth s) (Sel.depthL rest)
end

mutual
def Sel.noSpread : Sel → Bool
  | .field _ _ _ _ sub => Sel.noSpreadL sub
  | .spread _ _ => false
  | .inline _ _ sub => Sel.noSpreadL sub
def Sel.noSpreadL : List Sel → Bool
  | [] => true
  | s :: rest => Sel.noSpread s && Sel.noSpreadL rest
end

def Sel.isField : Sel → Bool
  | .field _ _ _ _ _ => true
  | _ => false

def FieldOk (d : Nat) (s : Sel) : Prop := s.isField = true ∧ s.noSpread = true ∧ s.depth ≤ d

def GroupsOk (d : Nat) (g : AList (List Sel)) : Prop := ∀ kv, kv ∈ g → ∀ s, s ∈ kv.2 → FieldOk d s

def groupsWeight : AList (List Sel) → Nat
  | [] => 0
  | (_, fs) :: rest => Sel.weightL fs + groupsWeight rest

theorem weightL_append (a b : List Sel) : Sel.weightL (a ++ b) = Sel.weightL a + Sel.weightL b := by
  induction a with
  | nil => simp [Sel.weightL]
  | cons x xs ih => simp [Sel.weightL, ih]; omega

theorem pushGroup_ok (d : Nat) : ∀ (g : AList (List Sel)) (k : String) (s : Sel), GroupsOk d g → FieldOk d s →
    GroupsOk d (pushGroup g k s) := by
  intro g
  induction g with
  | nil =>
    intro k s _ hs kv hkv x hx
    simp [pushGroup] at hkv
    subst hkv
    simp at hx
    subst hx
    exact hs
  | cons hd tl ih =>
    intro k s hg hs
    obtain ⟨k', fs⟩ := hd
    simp only [pushGroup]
    split
    · intro kv hkv x hx
      simp only [List.mem_cons] at hkv
      rcases hkv with rfl | hkv
      · simp only [List.mem_append, List.mem_singleton] at hx
        rcases hx with hx | rfl
        · exact hg (k', fs) (by simp) x hx
        · exact hs
      · exact hg kv (by simp [hkv]) x hx
    · intro kv hkv x hx
      simp only [List.mem_cons] at hkv
      rcases hkv with rfl | hkv
      · exact hg (k', fs) (by simp) x hx
      · exact ih k s (fun kv' h' => hg kv' (by simp [h'])) hs kv hkv x hx

theorem pushGroup_weight : ∀ (g : AList (List Sel)) (k : String) (s : Sel),
    groupsWeight (pushGroup g k s) = groupsWeight g + s.weight := by
  intro g
  induction g with
  | nil => intro k s; simp [pushGroup, groupsWeight, Sel.weightL]
  | cons hd tl ih =>
    intro k s
    obtain ⟨k', fs⟩ := hd
    simp only [pushGroup]
    split
    · simp [groupsWeight, weightL_append, Sel.weightL]; omega
    · simp [groupsWeight, ih]; omega

theorem group_weight_le : ∀ (g : AList (List Sel)) kv, kv ∈ g → Sel.weightL kv.2 ≤ groupsWeight g := by
  intro g
  induction g with
  | nil => intro kv h; simp at h
  | cons hd tl ih =>
    intro kv h
    obtain ⟨k', fs⟩ := hd
    simp only [List.mem_cons] at h
    simp only [groupsWeight]
    rcases h with rfl | h
    · simp
    · have := ih kv h; omega

/-- `collect_fields` on a selection set without spreads: enough fuel is its weight; every collected
    selection is a field of the set (reached through inline fragments), so no deeper than the set. -/
theorem collect_ok (env : Env) (objTy : String) (d : Nat) : ∀ n sels visited groups,
    Sel.weightL sels < n → Sel.noSpreadL sels = true → Sel.depthL sels ≤ d → GroupsOk d groups →
    ∃ v g, collectFields env objTy n sels visited groups = some (v, g) ∧ GroupsOk d g ∧
      groupsWeight g ≤ groupsWeight groups + Sel.weightL sels := by
  intro n
  induction n with
  | zero => intro sels visited groups h; omega
  | succ n ih =>
    intro sels visited groups hw hns hd hg
    cases sels with
    | nil => exact ⟨visited, groups, rfl, hg, by simp [Sel.weightL]⟩
    | cons sel rest =>
      simp only [Sel.weightL] at hw
      simp only [Sel.noSpreadL, Bool.and_eq_true] at hns
      simp only [Sel.depthL] at hd
      have hwsel : 1 ≤ sel.weight := by cases sel <;> simp [Sel.weight]
      have hrest := fun v g hg' => ih rest v g (by omega) hns.2 (by omega) hg'
      simp only [collectFields]
      split
      · obtain ⟨v, g, h1, h2, h3⟩ := hrest visited groups hg
        exact ⟨v, g, h1, h2, by simp only [Sel.weightL]; omega⟩
      · cases sel with
        | spread name dirs => simp [Sel.noSpread] at hns
        | field a nm args dirs sub =>
          simp only
          have hf : FieldOk d (.field a nm args dirs sub) := ⟨rfl, hns.1, by omega⟩
          obtain ⟨v, g, h1, h2, h3⟩ := hrest visited _ (pushGroup_ok d groups _ _ hg hf)
          refine ⟨v, g, h1, h2, ?_⟩
          rw [pushGroup_weight] at h3
          simp only [Sel.weightL]
          omega
        | inline cond dirs sub =>
          simp only
          simp only [Sel.weight] at hw
          simp only [Sel.noSpread] at hns
          simp only [Sel.depth] at hd
          have key : ∀ b : Bool, ∃ v g,
              (if (!b) = true then collectFields env objTy n rest visited groups
               else
                 match collectFields env objTy n sub visited groups with
                 | none => none
                 | some (visited, groups) => collectFields env objTy n rest visited groups) = some (v, g) ∧
              GroupsOk d g ∧ groupsWeight g ≤ groupsWeight groups + Sel.weightL (Sel.inline cond dirs sub :: rest) := by
            intro b
            cases b with
            | false =>
              simp only [Bool.not_false, if_true]
              obtain ⟨v, g, h1, h2, h3⟩ := hrest visited groups hg
              exact ⟨v, g, h1, h2, by simp only [Sel.weightL]; omega⟩
            | true =>
              simp only [Bool.not_true, Bool.false_eq_true, if_false]
              obtain ⟨v1, g1, e1, ok1, w1⟩ := ih sub visited groups (by omega) hns.1 (by omega) hg
              rw [e1]
              obtain ⟨v, g, h1, h2, h3⟩ := hrest v1 g1 ok1
              refine ⟨v, g, h1, h2, ?_⟩
              simp only [Sel.weightL, Sel.weight]
              omega
          cases cond with
          | none => exact key true
          | some c => exact key (fragmentApplies env.schema objTy c)

/-- every field definition `type_field` can return has a type of list depth ≤ T -/
def TypeDepthBound (s : Schema) (T : Nat) : Prop :=
  ∀ objTy fname fdef, s.typeField? objTy fname = some fdef → fdef.ty.depth ≤ T

theorem tryNullify_fuel {ty : Ty} {r : Out} (h : tryNullify ty r = .error .fuel) : r = .error .fuel := by
  cases r with
  | ok v => cases h
  | error e =>
    cases e with
    | fuel => rfl
    | propagate => cases hn : ty.isNonNull <;> simp [tryNullify, hn] at h

theorem completeItems_nofuel (rec : Rec) (path : Path) (ty inner : Ty) (fields : List Sel)
    (hrec : ∀ p rv st, (rec p inner rv fields st).1 ≠ .error .fuel) :
    ∀ items i acc st, (completeItems rec path ty inner fields items i acc st).1 ≠ .error .fuel := by
  intro items
  induction items with
  | nil => intro i acc st h; simp [completeItems] at h
  | cons item rest ih =>
    intro i acc st
    by_cases he : item = RV.error
    · subst he
      simp [completeItems]
    · have hM : completeItems rec path ty inner fields (item :: rest) i acc st =
          (match rec (path ++ [.idx i]) inner item fields st with
          | (r, st1) =>
            match tryNullify inner r with
            | .ok none => completeItems rec path ty inner fields rest (i + 1) acc st1
            | .ok (some v) => completeItems rec path ty inner fields rest (i + 1) (acc ++ [v]) st1
            | .error .propagate => (tryNullify ty (.error .propagate), st1)
            | .error .fuel => (.error .fuel, st1)) := by
        cases item <;> first | rfl | exact absurd rfl he
      rw [hM]
      have hr := hrec (path ++ [.idx i]) item st
      generalize rec (path ++ [.idx i]) inner item fields st = res at *
      obtain ⟨r, st1⟩ := res
      simp only
      rcases tryNullify_cases inner r with ⟨j, _, e⟩ | ⟨_, _, e⟩ | ⟨_, _, e⟩ | ⟨hf, _⟩
      · rw [e]
        cases j with
        | none => exact ih (i + 1) acc st1
        | some v => exact ih (i + 1) (acc ++ [v]) st1
      · rw [e]
        simp only
        intro h
        have := tryNullify_fuel h
        cases this
      · rw [e]
        exact ih (i + 1) (acc ++ [.null]) st1
      · exact absurd hf hr

theorem execField_nofuel (rec : Rec) (env : Env) (path : Path) (objTy : String) (objId : Nat) (fdef : FieldDef)
    (fields : List Sel) (st : St) (hrec : ∀ rv st, (rec path fdef.ty rv fields st).1 ≠ .error .fuel) :
    (execField rec env path objTy objId fdef fields st).1 ≠ .error .fuel := by
  unfold execField
  split
  · simp
  · next f0 tl =>
    split
    · split <;> simp
    · simp only
      split
      · intro h
        have h' : tryNullify fdef.ty (.error .propagate) = .error .fuel := h
        have := tryNullify_fuel h'
        cases this
      · next rv _ =>
        have := hrec rv st
        generalize rec path fdef.ty rv (f0 :: tl) st = res at *
        obtain ⟨r, st1⟩ := res
        intro h
        exact this (tryNullify_fuel h)

theorem execGroups_nofuel (rec : Rec) (env : Env) (path : Path) (objTy : String) (objId : Nat) :
    ∀ groups acc st,
      (∀ kv, kv ∈ groups → ∀ fdef p rv st, (rec p fdef.ty rv kv.2 st).1 ≠ .error .fuel ∨
        ∀ f0 tl, kv.2 = f0 :: tl → env.schema.typeField? objTy f0.fname ≠ some fdef) →
      (execGroups rec env path objTy objId groups acc st).1 ≠ .error .fuel := by
  intro groups
  induction groups with
  | nil => intro acc st _ h; simp [execGroups] at h
  | cons g rest ih =>
    intro acc st hg
    obtain ⟨key, fields⟩ := g
    have hrest : ∀ acc st, (execGroups rec env path objTy objId rest acc st).1 ≠ .error .fuel :=
      fun acc st => ih acc st (fun kv hkv => hg kv (by simp [hkv]))
    simp only [execGroups]
    split
    · exact hrest acc st
    · next f0 tl =>
      split
      · exact hrest acc st
      · next fdef htf =>
        have hf := execField_nofuel rec env (path ++ [.key key]) objTy objId fdef (f0 :: tl) st (by
          intro rv st'
          rcases hg (key, f0 :: tl) (by simp) fdef (path ++ [.key key]) rv st' with h | h
          · exact h
          · exact absurd htf (h f0 tl rfl))
        generalize execField rec env (path ++ [.key key]) objTy objId fdef (f0 :: tl) st = res at *
        obtain ⟨r, st1⟩ := res
        cases r with
        | error e =>
          simp only
          intro h
          cases h
          exact hf rfl
        | ok o =>
          cases o with
          | none => exact hrest acc st1
          | some v => exact hrest _ st1

theorem shape_list_depth' {ty inner : Ty} (h : ty.shape = .list inner) : ty.depth = inner.depth + 1 := by
  cases ty <;> simp [Ty.shape] at h <;> subst h <;> simp [Ty.depth]

theorem subSelections_props (d : Nat) : ∀ fields : List Sel, (∀ f, f ∈ fields → FieldOk (d + 1) f) →
    Sel.noSpreadL (subSelections fields) = true ∧ Sel.depthL (subSelections fields) ≤ d ∧
    Sel.weightL (subSelections fields) ≤ Sel.weightL fields := by
  intro fields
  induction fields with
  | nil => intro _; simp [subSelections, Sel.noSpreadL, Sel.depthL, Sel.weightL]
  | cons f rest ih =>
    intro h
    obtain ⟨i1, i2, i3⟩ := ih (fun x hx => h x (by simp [hx]))
    obtain ⟨hf, hn, hd⟩ := h f (by simp)
    cases f with
    | spread n dd => simp [Sel.isField] at hf
    | inline c dd sub => simp [Sel.isField] at hf
    | field a nm args dd sub =>
      simp only [subSelections, Sel.fsub]
      simp only [Sel.noSpread] at hn
      simp only [Sel.depth] at hd
      have app_ns : ∀ (xs ys : List Sel), Sel.noSpreadL xs = true → Sel.noSpreadL ys = true → Sel.noSpreadL (xs ++ ys) = true := by
        intro xs
        induction xs with
        | nil => intro ys _ h; simpa using h
        | cons x xs ihx =>
          intro ys hx hy
          simp only [Sel.noSpreadL, Bool.and_eq_true] at hx
          simp [Sel.noSpreadL, hx.1, ihx ys hx.2 hy]
      have app_d : ∀ (xs ys : List Sel), Sel.depthL (xs ++ ys) = max (Sel.depthL xs) (Sel.depthL ys) := by
        intro xs
        induction xs with
        | nil => intro ys; simp [Sel.depthL]
        | cons x xs ihx => intro ys; simp [Sel.depthL, ihx ys, Nat.max_assoc]
      refine ⟨app_ns _ _ hn i1, ?_, ?_⟩
      · rw [app_d]; omega
      · rw [weightL_append]
        simp only [Sel.weightL, Sel.weight]
        omega

theorem completeValue_leaf_nofuel (env : Env) (n : Nat) (path : Path) (ty : Ty) (j : Json) (fields : List Sel) (st : St) :
    (completeValue env (n + 1) path ty (.leaf j) fields st).1 ≠ .error .fuel := by
  cases j <;> simp only [completeValue] <;> (repeat' split) <;> simp_all [completeLeaf] <;> (repeat' split) <;> simp_all

/-- `complete_value` never runs out of fuel when the fuel exceeds (selection depth) × (T + 1) + (type depth) -/
theorem completeValue_nofuel (env : Env) (T B : Nat) (hT : TypeDepthBound env.schema T) (hB : B < env.cfuel) :
    ∀ n d path ty rv fields st, (∀ f, f ∈ fields → FieldOk d f) → Sel.weightL fields ≤ B →
      d * (T + 1) + ty.depth < n → (completeValue env n path ty rv fields st).1 ≠ .error .fuel := by
  intro n
  induction n with
  | zero => intro d path ty rv fields st _ _ h; omega
  | succ n ih =>
    intro d path ty rv fields st hf hw hlt
    cases rv with
    | skip => simp [completeValue]
    | error => simp [completeValue]
    | echo => simp [completeValue]
    | leaf j => exact completeValue_leaf_nofuel env n path ty j fields st
    | list items =>
      simp only [completeValue, completeList]
      split
      · simp
      · next inner hsh =>
        have hd := shape_list_depth' hsh
        exact completeItems_nofuel _ path ty inner fields
          (fun p rv st => ih d p inner rv fields st hf hw (by omega)) items 0 [] st
    | object resolvedTy id =>
      simp only [completeValue]
      split
      · simp
      · next tyName _ =>
        split
        · simp
        · simp
        · next k _ _ =>
            split
            · -- the object arm: collect the merged sub-selections, run the groups one level down
              cases d with
              | zero =>
                -- no field has depth 0: `fields` is empty, so are the sub-selections
                have hnil : fields = [] := by
                  cases fields with
                  | nil => rfl
                  | cons f tl =>
                    obtain ⟨h1, _, h3⟩ := hf f (by simp)
                    cases f <;> simp [Sel.isField, Sel.depth] at h1 h3
                subst hnil
                have hc : ∃ v g, collectFields env resolvedTy env.cfuel (subSelections []) [] [] = some (v, g) ∧ g = [] := by
                  cases hcf : env.cfuel with
                  | zero => omega
                  | succ m => exact ⟨[], [], by simp [subSelections, collectFields], rfl⟩
                obtain ⟨v, g, e, rfl⟩ := hc
                simp [execSelSet, e, execGroups]
              | succ d' =>
                obtain ⟨s1, s2, s3⟩ := subSelections_props d' fields hf
                obtain ⟨v, g, e, gok, gw⟩ := collect_ok env resolvedTy d' env.cfuel (subSelections fields) [] []
                  (by omega) s1 s2 (by intro kv h; simp at h)
                have hgr := execGroups_nofuel (completeValue env n) env path resolvedTy id g [] st (by
                  intro kv hkv fdef p rv st'
                  by_cases htf : ∃ f0 tl, kv.2 = f0 :: tl ∧ env.schema.typeField? resolvedTy f0.fname = some fdef
                  · obtain ⟨f0, tl, _, htf⟩ := htf
                    left
                    refine ih d' p fdef.ty rv kv.2 st' (gok kv hkv) ?_ ?_
                    · have := group_weight_le g kv hkv
                      simp only [groupsWeight] at gw
                      omega
                    · have := hT resolvedTy f0.fname fdef htf
                      have hmul : (d' + 1) * (T + 1) = d' * (T + 1) + (T + 1) := Nat.succ_mul d' (T + 1)
                      rw [hmul] at hlt
                      generalize d' * (T + 1) = A at *
                      omega
                  · right
                    intro f0 tl hkv2 h
                    exact htf ⟨f0, tl, hkv2, h⟩)
                simp only [execSelSet, e]
                generalize execGroups (completeValue env n) env path resolvedTy id g [] st = res at *
                obtain ⟨r, st1⟩ := res
                cases r with
                | ok m => simp
                | error e' =>
                  simp only
                  intro h
                  cases h
                  exact hgr rfl
            · simp


def maxFieldDepth : List FieldDef → Nat
  | [] => 0
  | f :: rest => max f.ty.depth (maxFieldDepth rest)

def maxObjDepth : AList ObjectDef → Nat
  | [] => 0
  | (_, d) :: rest => max (maxFieldDepth d.fields) (maxObjDepth rest)

theorem maxFieldDepth_mem : ∀ (fs : List FieldDef) (f : FieldDef), f ∈ fs → f.ty.depth ≤ maxFieldDepth fs := by
  intro fs
  induction fs with
  | nil => intro f h; simp at h
  | cons x xs ih =>
    intro f h
    simp only [List.mem_cons] at h
    simp only [maxFieldDepth]
    rcases h with rfl | h
    · omega
    · have := ih f h; omega

theorem maxObjDepth_get : ∀ (objs : AList ObjectDef) (n : String) (d : ObjectDef), AList.get? objs n = some d →
    maxFieldDepth d.fields ≤ maxObjDepth objs := by
  intro objs
  induction objs with
  | nil => intro n d h; simp [AList.get?] at h
  | cons hd tl ih =>
    intro n d h
    obtain ⟨k, od⟩ := hd
    simp only [AList.get?] at h
    simp only [maxObjDepth]
    split at h
    · cases h; omega
    · have := ih n d h; omega

theorem typeDepthBound_schema (s : Schema) : TypeDepthBound s (maxObjDepth s.objects) := by
  intro objTy fname fdef h
  unfold Schema.typeField? at h
  split at h
  · cases h; simp [typenameField, Ty.depth]
  · cases hg : AList.get? s.objects objTy with
    | none => simp [hg] at h
    | some d =>
      simp only [hg] at h
      have hm := List.mem_of_find?_eq_some h
      exact Nat.le_trans (maxFieldDepth_mem d.fields fdef hm) (maxObjDepth_get s.objects objTy d hg)

/-- Fuel sufficiency for operations without fragment spreads: with more `collect_fields` fuel than
    selection nodes and more `complete_value` fuel than (selection depth + 1) × (deepest field type + 1),
    execution never runs out of fuel — whatever the world returns (cyclic object graphs included). -/
theorem execute_fuel_sufficient (env : Env) (sels : List Sel) (fuel : Nat)
    (hns : Sel.noSpreadL sels = true) (hc : Sel.weightL sels < env.cfuel)
    (hfuel : (Sel.depthL sels + 1) * (maxObjDepth env.schema.objects + 1) < fuel) :
    execute fuel env sels ≠ .outOfFuel := by
  have hT := typeDepthBound_schema env.schema
  obtain ⟨v, g, e, gok, gw⟩ := collect_ok env env.schema.query (Sel.depthL sels) env.cfuel sels [] [] hc hns (Nat.le_refl _)
    (by intro kv h; simp at h)
  have hgr := execGroups_nofuel (completeValue env fuel) env [] env.schema.query 0 g [] { errors := [] } (by
    intro kv hkv fdef p rv st'
    by_cases htf : ∃ f0 tl, kv.2 = f0 :: tl ∧ env.schema.typeField? env.schema.query f0.fname = some fdef
    · obtain ⟨f0, tl, _, htf⟩ := htf
      left
      refine completeValue_nofuel env _ (Sel.weightL sels) hT hc fuel (Sel.depthL sels) p fdef.ty rv kv.2 st' (gok kv hkv) ?_ ?_
      · have := group_weight_le g kv hkv
        simp only [groupsWeight] at gw
        omega
      · have := hT env.schema.query f0.fname fdef htf
        have hmul : (Sel.depthL sels + 1) * (maxObjDepth env.schema.objects + 1) =
            Sel.depthL sels * (maxObjDepth env.schema.objects + 1) + (maxObjDepth env.schema.objects + 1) := Nat.succ_mul _ _
        rw [hmul] at hfuel
        generalize Sel.depthL sels * (maxObjDepth env.schema.objects + 1) = A at *
        omega
    · right
      intro f0 tl hkv2 h
      exact htf ⟨f0, tl, hkv2, h⟩)
  unfold execute
  simp only [execSelSet, e]
  generalize execGroups (completeValue env fuel) env [] env.schema.query 0 g [] { errors := [] } = res at *
  obtain ⟨r, st1⟩ := res
  cases r with
  | ok m => simp
  | error e' =>
    cases e' with
    | propagate => simp
    | fuel => exact absurd rfl hgr


end Apollo.Exec
