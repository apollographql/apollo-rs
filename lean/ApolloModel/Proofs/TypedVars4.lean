import ApolloModel.Proofs.TypedVars3
/-
C18 on top of the typed executable rules: the variables an operation USES — written in its own selection
tree or, through spreads at any depth, in the directives and bodies of the fragments it reaches (the fields that
`all_fields` yields are the fields of these trees) — are declared by the operation when its validation is quiet.
-/
namespace Apollo.ExecRules
open Apollo Apollo.Spec

/-- variable `n` is used by the selection set `t` of a document: it is written (in a directive or an argument, at
    any nesting of the value) in `t` itself, or `t` spreads — at any depth of fields and inline fragments — a defined
    fragment in whose directives it is written or whose body uses it -/
inductive UsesSels (doc : RBuilt) : RSels → String → Prop
  | here {t : RSels} {n : String} : n ∈ localVars t → UsesSels doc t n
  | fragDirs {t : RSels} {f : String} {d : RFrag} {n : String} :
      f ∈ allSpreads t → doc.findFrag f = some d → n ∈ dirsVars d.dirs → UsesSels doc t n
  | fragBody {t : RSels} {f : String} {d : RFrag} {n : String} :
      f ∈ allSpreads t → doc.findFrag f = some d → UsesSels doc d.sels n → UsesSels doc t n

theorem uses_declared (vars : List RVarDef) (doc : RBuilt) (W : List String) (hclosed : ∀ g ∈ W, Done vars doc W g) :
    ∀ (t : RSels) (n : String), UsesSels doc t n → (∀ g ∈ allSpreads t, g ∈ W) →
      (∀ m ∈ localVars t, declared vars m = true) → declared vars n = true := by
  intro t n hu
  induction hu with
  | here h => intro _ hl; exact hl _ h
  | fragDirs hf hd hn =>
    intro hs _
    obtain ⟨d', hd', hvars, _⟩ := hclosed _ (hs _ hf)
    rw [hd] at hd'; cases hd'
    exact hvars _ (List.mem_append_left _ hn)
  | fragBody hf hd _ ih =>
    intro hs _
    obtain ⟨d', hd', hvars, hsp⟩ := hclosed _ (hs _ hf)
    rw [hd] at hd'; cases hd'
    exact ih hsp (fun m hm => hvars m (List.mem_append_right _ hm))

/-- the structural facts about a built document (each clause is what one structural rule of validation
    establishes; see `SelsOk`, `FragOk`, `dirsOk`, `litOk`) -/
structure DocOk (s : RSchema) (doc : RBuilt) : Prop where
  frags : ∀ f d, doc.findFrag f = some d → FragOk s doc d
  ops : ∀ o ∈ doc.ops, dirsOk s o.dirs ∧ ∃ t, s.root o.ty = some t ∧ SelsOk s doc t o.sels

/-- one operation: given the structural facts (`FragOk`, `dirsOk`, `SelsOk`), a quiet `validate_operation` (typed rules)
    declares every variable the operation uses -/
theorem operation_variables_defined (s : RSchema) (doc : RBuilt) (o : ROp)
    (hfr : ∀ f d, doc.findFrag f = some d → FragOk s doc d) (hdirs : dirsOk s o.dirs)
    (t : String) (hroot : s.root o.ty = some t) (hsels : SelsOk s doc t o.sels) (h : opDiags s doc o = []) :
    ∀ n, (n ∈ dirsVars o.dirs ∨ UsesSels doc o.sels n) → declared o.vars n = true := by
  unfold opDiags at h
  rw [hroot] at h
  simp only [List.append_eq_nil_iff] at h
  obtain ⟨⟨h1, _⟩, h3⟩ := h
  have hw := WalkOk.of_walkQ hfr hsels (walk_walkQ s doc o.vars (some t) o.sels h3)
  have hclosed := fun g hg => (hw.fresh g hg).resolve_left (by simp)
  intro n hn
  rcases hn with hn | hn
  · exact dirsDiags_complete s o.vars o.dirs hdirs h1 n hn
  · exact uses_declared o.vars doc _ hclosed o.sels n hn hw.spreads hw.locals

/-- **every used variable is declared**, for every operation of a document that has the structural facts `DocOk` and
    on which the typed rules report nothing -/
theorem document_variables_defined (s : RSchema) (ast : RAst) (hok : DocOk s (build s ast)) (h : typedDiags s ast = []) :
    ∀ o ∈ (build s ast).ops, ∀ n, (n ∈ dirsVars o.dirs ∨ UsesSels (build s ast) o.sels n) → declared o.vars n = true := by
  intro o ho
  unfold typedDiags at h
  simp only [List.flatMap_eq_nil_iff] at h
  obtain ⟨hd, t, hr, hs⟩ := hok.ops o ho
  exact operation_variables_defined s (build s ast) o hok.frags hd t hr hs (h o ho)

end Apollo.ExecRules
