import ApolloModel.Proofs.AstItems
/-
Round trip of list-like parts of definitions through the reference parser: field
definitions, enum values, `&`/`|` separated name lists, root operation types.
-/
namespace Apollo.Ast

/-! ### field definitions -/

def wfFieldDefs : List FieldDef → Bool
  | [] => true
  | v :: r => wfIVDs v.args && wfDirs v.dirs && wfFieldDefs r

def szFieldDefs : List FieldDef → Nat
  | [] => 1
  | v :: r => szIVDs v.args + szTy v.ty + szDirs v.dirs + szFieldDefs r + 1

theorem fieldDef_roundtrip (v : FieldDef) (f : Nat) (rest : List Tok) (h1 : wfIVDs v.args = true)
    (h2 : wfDirs v.dirs = true) (hs : szIVDs v.args + szTy v.ty + szDirs v.dirs ≤ f) (hr : calm rest = true) :
    pFieldDef f (tFieldDef v ++ rest) = some (v, rest) := by
  obtain ⟨desc, name, args, ty, ds⟩ := v
  simp only at h1 h2 hs
  obtain ⟨a, _, c⟩ := tyDefaultDirs_roundtrip ty none ds f rest rfl h2 (by simp [szDefault]; omega) hr
  have hargs := argumentsDefinition_roundtrip args f (.p .colon :: (tTy ty ++ tDirectives ds ++ rest)) h1 (by omega)
    (by simp [notLParen])
  simp only [tDefault, List.append_nil, List.nil_append] at a c
  cases desc with
  | none =>
    simp only [tFieldDef, tDescription, List.nil_append, List.cons_append, List.append_assoc] at a c hargs ⊢
    simp [pFieldDef, pDescription, hargs, a, c]
  | some d =>
    simp only [tFieldDef, tDescription, List.cons_append, List.nil_append, List.append_assoc] at a c hargs ⊢
    simp [pFieldDef, pDescription, hargs, a, c]

theorem tFieldDef_head (v : FieldDef) (X : List Tok) : ∃ t r, tFieldDef v ++ X = t :: r ∧ nameOrStr t = true := by
  obtain ⟨desc, name, args, ty, ds⟩ := v
  cases desc with
  | none => exact ⟨.name name, _, by simp only [tFieldDef, tDescription, List.nil_append, List.cons_append]; rfl, rfl⟩
  | some d => exact ⟨.str d, _, by simp only [tFieldDef, tDescription, List.cons_append, List.nil_append]; rfl, rfl⟩

theorem calm_of_nameOrStr {t : Tok} {r : List Tok} (h : nameOrStr t = true) : calm (t :: r) = true := by
  cases t <;> simp_all [nameOrStr, calm]

theorem calm_tFieldDefItems (vs : List FieldDef) (rest : List Tok) : calm (tFieldDefItems vs ++ .p .rCurly :: rest) = true := by
  cases vs with
  | nil => rfl
  | cons v r =>
    obtain ⟨t, r', e, hne⟩ := tFieldDef_head v (tFieldDefItems r ++ .p .rCurly :: rest)
    simp only [tFieldDefItems, List.append_assoc]
    rw [e]; exact calm_of_nameOrStr hne

theorem pFieldDefsTail_cons (f : Nat) (ts : List Tok) (t : Tok) (r : List Tok) (e : ts = t :: r)
    (hne : nameOrStr t = true) (v : FieldDef) (r1 : List Tok) (vs : List FieldDef) (r2 : List Tok)
    (h1 : pFieldDef f ts = some (v, r1)) (h2 : pFieldDefsTail f r1 = some (vs, r2)) :
    pFieldDefsTail (f + 1) ts = some (v :: vs, r2) := by
  subst e
  cases t <;> simp_all [nameOrStr, pFieldDefsTail]

theorem fieldDefsTail_roundtrip : ∀ (vs : List FieldDef) (f : Nat) (rest : List Tok), wfFieldDefs vs = true →
    szFieldDefs vs ≤ f → pFieldDefsTail f (tFieldDefItems vs ++ .p .rCurly :: rest) = some (vs, rest)
  | [], f + 1, rest, _, _ => by simp [tFieldDefItems, pFieldDefsTail]
  | v :: r, f + 1, rest, h, hs => by
      simp [wfFieldDefs] at h
      simp [szFieldDefs] at hs
      have h1 := fieldDef_roundtrip v f (tFieldDefItems r ++ .p .rCurly :: rest) h.1.1 h.1.2 (by omega)
        (calm_tFieldDefItems r rest)
      have htl := fieldDefsTail_roundtrip r f rest h.2 (by omega)
      obtain ⟨t, r', e, hne⟩ := tFieldDef_head v (tFieldDefItems r ++ .p .rCurly :: rest)
      simp only [tFieldDefItems, List.append_assoc]
      exact pFieldDefsTail_cons f _ t r' e hne v _ r rest h1 htl
  | [], 0, _, _, hs | _ :: _, 0, _, _, hs => by simp [szFieldDefs] at hs

theorem fieldsDefinition_roundtrip (fields : List FieldDef) (f : Nat) (rest : List Tok)
    (h : wfFieldDefs fields = true) (hs : szFieldDefs fields ≤ f) (hr : rest.head? ≠ some (.p .lCurly)) :
    pFieldsDefinition f (tBraced (tFieldDefItems fields) fields.isEmpty ++ rest) = some (fields, rest) := by
  cases fields with
  | nil => exact pFieldsDefinition.eq_2 f rest (head_ne hr)
  | cons a r =>
    have := fieldDefsTail_roundtrip (a :: r) f rest h hs
    simp [tBraced, pFieldsDefinition, this]

/-! ### enum values -/

def wfEnumValueDefs : List EnumValueDef → Bool
  | [] => true
  | v :: r => wfDirs v.dirs && wfEnumValueDefs r

def szEnumValueDefs : List EnumValueDef → Nat
  | [] => 1
  | v :: r => szDirs v.dirs + szEnumValueDefs r + 1

theorem enumValueDef_roundtrip (v : EnumValueDef) (f : Nat) (rest : List Tok) (h2 : wfDirs v.dirs = true)
    (hs : szDirs v.dirs ≤ f) (hr : calm rest = true) : pEnumValueDef f (tEnumValueDef v ++ rest) = some (v, rest) := by
  obtain ⟨desc, value, ds⟩ := v
  simp only at h2 hs
  have c := directives_roundtrip ds f rest h2 hs (calm_dirFollow hr)
  cases desc with
  | none =>
    simp only [tEnumValueDef, tDescription, List.nil_append, List.cons_append]
    simp [pEnumValueDef, pDescription, c]
  | some d =>
    simp only [tEnumValueDef, tDescription, List.cons_append, List.nil_append]
    simp [pEnumValueDef, pDescription, c]

theorem tEnumValueDef_head (v : EnumValueDef) (X : List Tok) : ∃ t r, tEnumValueDef v ++ X = t :: r ∧ nameOrStr t = true := by
  obtain ⟨desc, value, ds⟩ := v
  cases desc with
  | none => exact ⟨.name value, _, by simp only [tEnumValueDef, tDescription, List.nil_append, List.cons_append]; rfl, rfl⟩
  | some d => exact ⟨.str d, _, by simp only [tEnumValueDef, tDescription, List.cons_append, List.nil_append]; rfl, rfl⟩

theorem calm_tEnumValueDefItems (vs : List EnumValueDef) (rest : List Tok) :
    calm (tEnumValueDefItems vs ++ .p .rCurly :: rest) = true := by
  cases vs with
  | nil => rfl
  | cons v r =>
    obtain ⟨t, r', e, hne⟩ := tEnumValueDef_head v (tEnumValueDefItems r ++ .p .rCurly :: rest)
    simp only [tEnumValueDefItems, List.append_assoc]
    rw [e]; exact calm_of_nameOrStr hne

theorem pEnumValueDefsTail_cons (f : Nat) (ts : List Tok) (t : Tok) (r : List Tok) (e : ts = t :: r)
    (hne : nameOrStr t = true) (v : EnumValueDef) (r1 : List Tok) (vs : List EnumValueDef) (r2 : List Tok)
    (h1 : pEnumValueDef f ts = some (v, r1)) (h2 : pEnumValueDefsTail f r1 = some (vs, r2)) :
    pEnumValueDefsTail (f + 1) ts = some (v :: vs, r2) := by
  subst e
  cases t <;> simp_all [nameOrStr, pEnumValueDefsTail]

theorem enumValueDefsTail_roundtrip : ∀ (vs : List EnumValueDef) (f : Nat) (rest : List Tok), wfEnumValueDefs vs = true →
    szEnumValueDefs vs ≤ f → pEnumValueDefsTail f (tEnumValueDefItems vs ++ .p .rCurly :: rest) = some (vs, rest)
  | [], f + 1, rest, _, _ => by simp [tEnumValueDefItems, pEnumValueDefsTail]
  | v :: r, f + 1, rest, h, hs => by
      simp [wfEnumValueDefs] at h
      simp [szEnumValueDefs] at hs
      have h1 := enumValueDef_roundtrip v f (tEnumValueDefItems r ++ .p .rCurly :: rest) h.1 (by omega)
        (calm_tEnumValueDefItems r rest)
      have htl := enumValueDefsTail_roundtrip r f rest h.2 (by omega)
      obtain ⟨t, r', e, hne⟩ := tEnumValueDef_head v (tEnumValueDefItems r ++ .p .rCurly :: rest)
      simp only [tEnumValueDefItems, List.append_assoc]
      exact pEnumValueDefsTail_cons f _ t r' e hne v _ r rest h1 htl
  | [], 0, _, _, hs | _ :: _, 0, _, _, hs => by simp [szEnumValueDefs] at hs

theorem enumValuesDefinition_roundtrip (values : List EnumValueDef) (f : Nat) (rest : List Tok)
    (h : wfEnumValueDefs values = true) (hs : szEnumValueDefs values ≤ f) (hr : rest.head? ≠ some (.p .lCurly)) :
    pEnumValuesDefinition f (tBraced (tEnumValueDefItems values) values.isEmpty ++ rest) = some (values, rest) := by
  cases values with
  | nil => exact pEnumValuesDefinition.eq_2 f rest (head_ne hr)
  | cons a r =>
    have := enumValueDefsTail_roundtrip (a :: r) f rest h hs
    simp [tBraced, pEnumValuesDefinition, this]

/-! ### separated name lists -/

theorem pSepNames_stop (sep : P) (f : Nat) (rest : List Tok) (hr : rest.head? ≠ some (.p sep)) :
    pSepNames sep f rest = ([], rest) := by
  cases f with
  | zero => rfl
  | succ f =>
    cases rest with
    | nil => rfl
    | cons a r =>
      simp only [List.head?_cons, ne_eq, Option.some.injEq] at hr
      cases a with
      | p k =>
        have hk : k ≠ sep := fun e => hr (by rw [e])
        cases r with
        | nil => rfl
        | cons b r2 => cases b <;> simp [pSepNames, hk]
      | _ => rfl

theorem sepNames_roundtrip (sep : P) : ∀ (ns : List Str) (f : Nat) (rest : List Tok), ns.length ≤ f →
    rest.head? ≠ some (.p sep) → pSepNames sep f (tSepNames sep ns ++ rest) = (ns, rest)
  | [], f, rest, _, hr => by simpa [tSepNames] using pSepNames_stop sep f rest hr
  | n :: r, f + 1, rest, hs, hr => by
      have := sepNames_roundtrip sep r f rest (by simp at hs; omega) hr
      simp [tSepNames, pSepNames, this]
  | _ :: _, 0, _, hs, _ => by simp at hs

theorem sepList_roundtrip (sep : P) (first : Str) (ns : List Str) (f : Nat) (rest : List Tok) (hs : ns.length ≤ f)
    (hr : rest.head? ≠ some (.p sep)) :
    pSepList sep f (.name first :: tSepNames sep ns ++ rest) = some (first :: ns, rest) := by
  have := sepNames_roundtrip sep ns f rest hs hr
  simp [pSepList, this]

theorem implements_roundtrip (impls : List Str) (f : Nat) (rest : List Tok) (hs : impls.length ≤ f)
    (hr : rest.head? ≠ some (.p .amp)) (hi : rest.head? ≠ some (.name sImplements)) :
    pImplements f (tSepList [.name sImplements] .amp impls ++ rest) = some (impls, rest) := by
  cases impls with
  | nil =>
    simp only [tSepList, List.nil_append]
    cases rest with
    | nil => rfl
    | cons a r =>
      simp only [List.head?_cons, ne_eq, Option.some.injEq] at hi
      cases a with
      | name n =>
        have : n ≠ sImplements := fun e => hi (by rw [e])
        simp [pImplements, this]
      | _ => rfl
  | cons a r =>
    have := sepList_roundtrip .amp a r f rest (by simp at hs; omega) hr
    simp only [tSepList, List.cons_append, List.nil_append] at this ⊢
    simp [pImplements, this]

theorem unionMembers_roundtrip (members : List Str) (f : Nat) (rest : List Tok) (hs : members.length ≤ f)
    (hr : rest.head? ≠ some (.p .pipe)) (he : rest.head? ≠ some (.p .eq)) :
    pUnionMembers f (tSepList [.p .eq] .pipe members ++ rest) = some (members, rest) := by
  cases members with
  | nil => exact pUnionMembers.eq_2 f rest (head_ne he)
  | cons a r =>
    have := sepList_roundtrip .pipe a r f rest (by simp at hs; omega) hr
    simp only [tSepList, List.cons_append, List.nil_append] at this ⊢
    simp [pUnionMembers, this]

/-! ### root operation types -/

theorem opTypeOf_name (ot : OpType) : opTypeOf ot.name.toList = some ot := by
  cases ot <;> simp [opTypeOf, OpType.name]

theorem rootOpsTail_roundtrip : ∀ (rs : List (OpType × Str)) (f : Nat) (rest : List Tok), rs.length + 1 ≤ f →
    pRootOpsTail f (tRootOpItems rs ++ .p .rCurly :: rest) = some (rs, rest)
  | [], f + 1, rest, _ => by simp [tRootOpItems, pRootOpsTail]
  | (ot, n) :: r, f + 1, rest, hs => by
      have := rootOpsTail_roundtrip r f rest (by simp at hs; omega)
      simp [tRootOpItems, tRootOp, pRootOpsTail, opTypeOf_name, this]
  | [], 0, _, hs | _ :: _, 0, _, hs => by simp at hs

theorem rootOps_roundtrip (rs : List (OpType × Str)) (f : Nat) (rest : List Tok) (hne : rs ≠ []) (hs : rs.length + 1 ≤ f) :
    pRootOps f (.p .lCurly :: tRootOpItems rs ++ .p .rCurly :: rest) = some (rs, rest) := by
  have := rootOpsTail_roundtrip rs f rest hs
  cases rs with
  | nil => exact absurd rfl hne
  | cons a r => simp [pRootOps, this]

end Apollo.Ast
