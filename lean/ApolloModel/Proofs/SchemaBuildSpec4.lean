import ApolloModel.Proofs.SchemaBuildSpec3
/-
C14: the step lemmas for schema definitions / extensions, directive definitions and executable definitions, and one
step on any definition (`step_spec`).
-/
namespace Apollo.SchemaBuild

theorem fresh_nil_right (M : List Name) : Fresh M [] := by simp [Fresh]

theorem extendSchema_spec (sd : SchemaDefn) (e : Def) (errs : List Err) (M : List Name)
    (hM : Views sd.body.members M) (hI : Views sd.body.interfaces []) (he : e.interfaces = []) :
    Views (extendSchema sd e errs).1.body.members (M ++ mems e) ∧
    Views (extendSchema sd e errs).1.body.interfaces [] ∧
    (extendSchema sd e errs).1.pos = sd.pos ∧
    Grow errs (extendSchema sd e errs).2 (Fresh M (mems e)) := by
  obtain ⟨h1, h2, h3⟩ := extendBody_spec noIface dupRoot (some e.pos) sd.body e errs M [] hM hI
  refine ⟨h1, ?_, rfl, h3.congr ?_⟩
  · have : ([] : List Name) ++ names e.interfaces = [] := by rw [he]; rfl
    rw [this] at h2; exact h2
  · rw [he]; simp [names, fresh_nil_right, mems]

theorem schemaOfDef_spec (d : Def) (errs : List Err) (hd : d.interfaces = []) :
    Views (schemaOfDef d errs).1.body.members (mems d) ∧
    Views (schemaOfDef d errs).1.body.interfaces [] ∧
    Grow errs (schemaOfDef d errs).2 (mems d).Nodup := by
  obtain ⟨h1, h2, h3⟩ := extendBody_spec noIface dupRoot none Body.empty d errs [] [] views_nil views_nil
  refine ⟨h1, ?_, h3.congr ?_⟩
  · have : ([] : List Name) ++ names d.interfaces = [] := by rw [hd]; rfl
    rw [this] at h2; exact h2
  · rw [hd, fresh_nil]; simp [names, fresh_nil_right, mems]

theorem schemaFold_spec : ∀ (exts : List Def) (acc : SchemaDefn × List Err) (M : List Name),
    Views acc.1.body.members M → Views acc.1.body.interfaces [] → (∀ e ∈ exts, e.interfaces = []) →
    Views (exts.foldl schemaStep acc).1.body.members (M ++ exts.flatMap mems) ∧
    Views (exts.foldl schemaStep acc).1.body.interfaces [] ∧
    Grow acc.2 (exts.foldl schemaStep acc).2 (ChainFresh mems M exts) := by
  intro exts
  induction exts with
  | nil =>
    intro acc M hM hI _
    exact ⟨by simpa using hM, hI, (Grow.refl _).congr (by simp [ChainFresh])⟩
  | cons e r ih =>
    intro acc M hM hI hwf
    rw [List.foldl_cons]
    obtain ⟨v1, v2, _, g1⟩ := extendSchema_spec acc.1 e acc.2 M hM hI (hwf e List.mem_cons_self)
    obtain ⟨v3, v4, g2⟩ := ih (schemaStep acc e) (M ++ mems e) v1 v2 (fun x hx => hwf x (List.mem_cons_of_mem _ hx))
    refine ⟨?_, v4, (g1.trans g2).congr (by simp [ChainFresh])⟩
    simpa [List.flatMap_cons, List.append_assoc] using v3

theorem no_schemaDef_of_count {pre : List Def} (h : schemaDefCount pre = 0) : ∀ e ∈ pre, e.isSchemaDef = false := by
  intro e he
  unfold schemaDefCount at h
  have := List.length_eq_zero_iff.mp h
  cases hk : e.isSchemaDef with
  | false => rfl
  | true =>
    have : e ∈ pre.filter Def.isSchemaDef := List.mem_filter.mpr ⟨he, hk⟩
    simp_all

theorem schemaOpNames_of_count {pre : List Def} (h : schemaDefCount pre = 0) :
    schemaOpNames pre = (schemaExts pre).flatMap mems := by
  unfold schemaOpNames schemaExts
  have : pre.filter Def.isSchemaPart = pre.filter Def.isSchemaExt := by
    apply List.filter_congr
    intro e he
    simp [Def.isSchemaPart, no_schemaDef_of_count h e he]
  rw [this]; rfl

theorem isSchemaDef_iff (d : Def) : d.isSchemaDef = true ↔ d.tag = .schemaDef := by simp [Def.isSchemaDef]
theorem isSchemaExt_iff (d : Def) : d.isSchemaExt = true ↔ d.tag = .schemaExt := by simp [Def.isSchemaExt]
theorem isDirectiveDef_iff (d : Def) : d.isDirectiveDef = true ↔ d.tag = .directiveDef := by simp [Def.isDirectiveDef]

def stepSchemaDef (s : Builder) (d : Def) : Builder :=
  if s.schemaFound then push s d.pos .schemaDefinitionCollision
  else
    { s with schemaDef := (schemaFromAst d s.orphanSchemaExts s.errors).1, schemaFound := true, orphanSchemaExts := [],
             errors := (schemaFromAst d s.orphanSchemaExts s.errors).2 }

theorem step_schemaDef (s : Builder) (d : Def) (h : d.tag = .schemaDef) : step s d = stepSchemaDef s d := by
  unfold step stepSchemaDef; rw [h]

def stepSchemaExt (s : Builder) (d : Def) : Builder :=
  if s.schemaFound then
    { s with schemaDef := (extendSchema s.schemaDef d s.errors).1, errors := (extendSchema s.schemaDef d s.errors).2 }
  else { s with orphanSchemaExts := s.orphanSchemaExts ++ [d] }

theorem step_schemaExt (s : Builder) (d : Def) (h : d.tag = .schemaExt) : step s d = stepSchemaExt s d := by
  unfold step stepSchemaExt; rw [h]

theorem step_directiveDef (s : Builder) (d : Def) (h : d.tag = .directiveDef) : step s d = stepDirectiveDef s d := by
  unfold step; rw [h]

theorem step_typeDef (s : Builder) (d : Def) (k : Kind) (h : d.tag = .typeDef k) : step s d = stepTypeDef s k d := by
  unfold step; rw [h]

theorem step_typeExt (s : Builder) (d : Def) (k : Kind) (h : d.tag = .typeExt k) : step s d = stepTypeExt s k d := by
  unfold step; rw [h]

theorem step_operation (s : Builder) (d : Def) (h : d.tag = .operation) :
    step s d = push s d.pos (.executableDefinition false) := by
  unfold step; rw [h]

theorem step_fragment (s : Builder) (d : Def) (h : d.tag = .fragment) :
    step s d = push s d.pos (.executableDefinition true) := by
  unfold step; rw [h]

theorem stepSchemaDef_spec (pre : List Def) (s : Builder) (d : Def) (hi : SInv pre s) (hwf : WellFormed (pre ++ [d]))
    (htag : d.tag = .schemaDef) :
    Grow s.errors (stepSchemaDef s d).errors (SOK pre d) ∧
    ((stepSchemaDef s d).errors = s.errors → SInv (pre ++ [d]) (stepSchemaDef s d)) := by
  have hsd : d.isSchemaDef = true := (isSchemaDef_iff d).mpr htag
  have hse : d.isSchemaExt = false := schemaDef_not_ext d hsd
  have hpart : d.isSchemaPart = true := by simp [Def.isSchemaPart, hsd]
  have hdi : d.interfaces = [] := hwf d (by simp) hpart
  have hsok : SOK pre d ↔ schemaDefCount pre = 0 ∧ (schemaOpNames pre ++ names d.members).Nodup := by
    unfold SOK
    constructor
    · intro h; exact h.1 hsd
    · intro h; exact ⟨fun _ => h, fun hx => by rw [hse] at hx; cases hx⟩
  rw [hsok]
  unfold stepSchemaDef
  by_cases hfound : s.schemaFound = true
  · rw [if_pos hfound]
    refine ⟨(Grow.push _ _).congr ?_, fun h => by simp [push] at h⟩
    constructor
    · intro h; exact absurd h id
    · intro h; exact hi.found.mp hfound h.1
  · rw [if_neg hfound]
    have hnf : s.schemaFound = false := by simpa using hfound
    have hc : schemaDefCount pre = 0 := by
      cases hcc : schemaDefCount pre with
      | zero => rfl
      | succ m => exact absurd (hi.found.mpr (by rw [hcc]; simp)) hfound
    obtain ⟨hq, hsdef⟩ := hi.whenNot hnf
    have hops := schemaOpNames_of_count hc
    obtain ⟨v1, v2, g1⟩ := schemaOfDef_spec d s.errors hdi
    have hwfq : ∀ e ∈ s.orphanSchemaExts, e.interfaces = [] := by
      intro e he
      rw [hq] at he
      unfold schemaExts at he
      obtain ⟨hm, hx⟩ := List.mem_filter.mp he
      exact hwf e (List.mem_append_left _ hm) (by simp [Def.isSchemaPart, hx])
    obtain ⟨v3, v4, g2⟩ := schemaFold_spec s.orphanSchemaExts (schemaOfDef d s.errors) (mems d) v1 v2 hwfq
    have hfa : schemaFromAst d s.orphanSchemaExts s.errors = s.orphanSchemaExts.foldl schemaStep (schemaOfDef d s.errors) := rfl
    rw [hfa]
    refine ⟨(g1.trans g2).congr ?_, fun _ => ⟨?_, ?_, ?_⟩⟩
    · rw [chain_nodup mems, hops, hq, List.perm_append_comm.nodup_iff]
      constructor
      · intro h; exact ⟨hc, h⟩
      · intro h; exact h.2
    · rw [schemaDefCount_snoc, if_pos hsd]; simp
    · intro _
      refine ⟨rfl, ?_, v4⟩
      rw [schemaOpNames_snoc, if_pos hpart, hops, ← hq]
      exact views_comm v3
    · intro h; cases h

theorem stepSchemaExt_spec (pre : List Def) (s : Builder) (d : Def) (hi : SInv pre s) (hp : PS pre)
    (hwf : WellFormed (pre ++ [d])) (htag : d.tag = .schemaExt) :
    Grow s.errors (stepSchemaExt s d).errors (SOK pre d) ∧
    ((stepSchemaExt s d).errors = s.errors → SInv (pre ++ [d]) (stepSchemaExt s d)) := by
  have hse : d.isSchemaExt = true := (isSchemaExt_iff d).mpr htag
  have hsd : d.isSchemaDef = false := by simp [Def.isSchemaDef, htag]
  have hpart : d.isSchemaPart = true := by simp [Def.isSchemaPart, hse]
  have hdi : d.interfaces = [] := hwf d (by simp) hpart
  have hc : schemaDefCount (pre ++ [d]) = schemaDefCount pre := by rw [schemaDefCount_snoc, hsd]; rfl
  have hsok : SOK pre d ↔ (schemaDefCount pre ≠ 0 → (schemaOpNames pre ++ names d.members).Nodup) := by
    unfold SOK
    constructor
    · intro h; exact h.2 hse
    · intro h; exact ⟨fun hx => (by rw [hsd] at hx; cases hx), fun _ => h⟩
  rw [hsok]
  unfold stepSchemaExt
  by_cases hfound : s.schemaFound = true
  · rw [if_pos hfound]
    have hne := hi.found.mp hfound
    obtain ⟨hq, vM, vI⟩ := hi.whenFound hfound
    obtain ⟨v1, v2, _, g⟩ := extendSchema_spec s.schemaDef d s.errors _ vM vI hdi
    refine ⟨g.congr ?_, fun _ => ⟨?_, ?_, ?_⟩⟩
    · have hnd := hp.uniqueOps hne
      constructor
      · intro h _; exact (nodup_append_fresh _ _).mpr ⟨hnd, h⟩
      · intro h; exact ((nodup_append_fresh _ _).mp (h hne)).2
    · rw [hc]; exact hi.found
    · intro _
      refine ⟨hq, ?_, v2⟩
      rw [schemaOpNames_snoc, if_pos hpart]; exact v1
    · intro h; exact absurd hfound (by rw [show s.schemaFound = false from h]; simp)
  · rw [if_neg hfound]
    have hnf : s.schemaFound = false := by simpa using hfound
    have hc0 : schemaDefCount pre = 0 := by
      cases hcc : schemaDefCount pre with
      | zero => rfl
      | succ m => exact absurd (hi.found.mpr (by rw [hcc]; simp)) hfound
    obtain ⟨hq, hsdef⟩ := hi.whenNot hnf
    refine ⟨(Grow.refl _).congr ?_, fun _ => ⟨?_, ?_, ?_⟩⟩
    · constructor
      · intro _ hne; exact absurd hc0 hne
      · intro _; trivial
    · rw [hc]; exact hi.found
    · intro h; exact absurd h hfound
    · intro _
      refine ⟨?_, hsdef⟩
      show s.orphanSchemaExts ++ [d] = _
      rw [schemaExts_snoc, if_pos hse, hq]


/-! ### a directive definition -/

theorem stepDirectiveDef_frame (s : Builder) (d : Def) :
    (stepDirectiveDef s d).adopt = s.adopt ∧ (stepDirectiveDef s d).ignoreBuiltin = s.ignoreBuiltin ∧
    (stepDirectiveDef s d).types = s.types ∧ (stepDirectiveDef s d).orphanQ = s.orphanQ ∧
    (stepDirectiveDef s d).schemaDef = s.schemaDef ∧
    (stepDirectiveDef s d).schemaFound = s.schemaFound ∧ (stepDirectiveDef s d).orphanSchemaExts = s.orphanSchemaExts := by
  unfold stepDirectiveDef
  cases findDir s.directiveDefs d.name with
  | none => exact ⟨rfl, rfl, rfl, rfl, rfl, rfl, rfl⟩
  | some prev =>
    by_cases h : prev.builtin = true
    · simp [h]
    · simp [h, push]

theorem stepDirectiveDef_spec (pre : List Def) (s : Builder) (d : Def) (hi : DInv pre s) (htag : d.tag = .directiveDef) :
    Grow s.errors (stepDirectiveDef s d).errors (d.name ∉ dirDefNames pre) ∧
    ((stepDirectiveDef s d).errors = s.errors → DInv (pre ++ [d]) (stepDirectiveDef s d)) := by
  have hdd : d.isDirectiveDef = true := (isDirectiveDef_iff d).mpr htag
  have hnames : dirDefNames (pre ++ [d]) = dirDefNames pre ++ [d.name] := by rw [dirDefNames_snoc, if_pos hdd]
  cases hf : findDir s.directiveDefs d.name with
  | none =>
    have heq : stepDirectiveDef s d = { s with directiveDefs := s.directiveDefs ++ [⟨d.name, some d.pos, false⟩] } := by
      unfold stepDirectiveDef; rw [hf]
    rw [heq]
    refine ⟨(Grow.refl _).congr ⟨fun _ => hi.unknown _ hf, fun _ => trivial⟩, fun _ => ⟨?_, ?_⟩⟩
    · intro n hn
      change findDir (s.directiveDefs ++ [_]) n = none at hn
      rw [findDir_append, Option.or_eq_none_iff] at hn
      rw [hnames, List.mem_append, not_or]
      refine ⟨hi.unknown n hn.1, ?_⟩
      intro hmem
      have : n = d.name := by simpa using hmem
      simp [this] at hn
    · intro n e he
      change findDir (s.directiveDefs ++ [_]) n = some e at he
      rw [findDir_append, Option.or_eq_some_iff] at he
      rw [hnames, List.mem_append, not_or]
      rcases he with he | ⟨hn, he⟩
      · have hne : ¬ n = d.name := fun h => by rw [h, hf] at he; cases he
        rw [hi.builtin n e he]
        simp [hne]
      · by_cases hnd : d.name = n
        · have : e = ⟨d.name, some d.pos, false⟩ := by simpa [hnd] using he.symm
          rw [this]
          simp [hnd]
        · simp [hnd] at he
  | some prev =>
    by_cases hb : prev.builtin = true
    · have heq : stepDirectiveDef s d = { s with directiveDefs := s.directiveDefs.map (fun x => if x.name == d.name then ⟨d.name, some d.pos, false⟩ else x) } := by
        unfold stepDirectiveDef; rw [hf]; simp only [hb, if_true]
      rw [heq]
      have hnot := (hi.builtin _ _ hf).mp hb
      refine ⟨(Grow.refl _).congr ⟨fun _ => hnot, fun _ => trivial⟩, fun _ => ⟨?_, ?_⟩⟩
      · intro n hn
        change findDir (s.directiveDefs.map _) n = none at hn
        rw [findDir_replace s.directiveDefs d.name ⟨d.name, some d.pos, false⟩ rfl n] at hn
        by_cases hnd : n = d.name
        · rw [if_pos hnd, hf] at hn; cases hn
        · rw [if_neg hnd] at hn
          rw [hnames, List.mem_append, not_or]
          exact ⟨hi.unknown n hn, by simpa using hnd⟩
      · intro n e he
        change findDir (s.directiveDefs.map _) n = some e at he
        rw [findDir_replace s.directiveDefs d.name ⟨d.name, some d.pos, false⟩ rfl n] at he
        rw [hnames, List.mem_append, not_or]
        by_cases hnd : n = d.name
        · rw [if_pos hnd, hf] at he
          have : e = ⟨d.name, some d.pos, false⟩ := by simpa using he.symm
          rw [this]
          simp [hnd]
        · rw [if_neg hnd] at he
          rw [hi.builtin n e he]
          simp [hnd]
    · have heq : stepDirectiveDef s d = push s d.namePos (.directiveDefinitionCollision d.name) := by
        unfold stepDirectiveDef; rw [hf]; simp only [hb]; rfl
      rw [heq]
      refine ⟨(Grow.push _ _).congr ?_, fun h => by simp [push] at h⟩
      constructor
      · intro h; exact absurd h id
      · intro h; exact hb ((hi.builtin _ _ hf).mpr h)

/-! ### one step, any definition -/

theorem SOK_other (pre : List Def) (d : Def) (h : d.isSchemaPart = false) : SOK pre d := by
  unfold SOK
  constructor
  · intro hx; simp [Def.isSchemaPart, hx] at h
  · intro hx; simp [Def.isSchemaPart, hx] at h

theorem stepSchemaDef_frame (s : Builder) (d : Def) :
    (stepSchemaDef s d).adopt = s.adopt ∧ (stepSchemaDef s d).ignoreBuiltin = s.ignoreBuiltin ∧
    (stepSchemaDef s d).types = s.types ∧ (stepSchemaDef s d).orphanQ = s.orphanQ ∧
    (stepSchemaDef s d).directiveDefs = s.directiveDefs := by
  unfold stepSchemaDef
  by_cases h : s.schemaFound = true
  · rw [if_pos h]; exact ⟨rfl, rfl, rfl, rfl, rfl⟩
  · rw [if_neg h]; exact ⟨rfl, rfl, rfl, rfl, rfl⟩

theorem stepSchemaExt_frame (s : Builder) (d : Def) :
    (stepSchemaExt s d).adopt = s.adopt ∧ (stepSchemaExt s d).ignoreBuiltin = s.ignoreBuiltin ∧
    (stepSchemaExt s d).types = s.types ∧ (stepSchemaExt s d).orphanQ = s.orphanQ ∧
    (stepSchemaExt s d).directiveDefs = s.directiveDefs := by
  unfold stepSchemaExt
  by_cases h : s.schemaFound = true
  · rw [if_pos h]; exact ⟨rfl, rfl, rfl, rfl, rfl⟩
  · rw [if_neg h]; exact ⟨rfl, rfl, rfl, rfl, rfl⟩

theorem step_spec (pre : List Def) (s : Builder) (d : Def) (hi : Inv pre s) (hp : PrefixSpec pre)
    (hwf : WellFormed (pre ++ [d])) :
    Grow s.errors (step s d).errors (StepOK pre d) ∧ ((step s d).errors = s.errors → Inv (pre ++ [d]) (step s d)) := by
  cases htag : d.tag with
  | schemaDef =>
    have h1 : d.isTypePart = false := by simp [Def.isTypePart, Def.defKind, Def.extKind, htag]
    have h2 : d.isDirectiveDef = false := by simp [Def.isDirectiveDef, htag]
    rw [step_schemaDef s d htag]
    obtain ⟨g, hinv⟩ := stepSchemaDef_spec pre s d hi.sch hwf htag
    obtain ⟨f1, f2, f3, f4, f5⟩ := stepSchemaDef_frame s d
    refine ⟨g.congr ?_, fun hs => ⟨f1.trans hi.adopt, f2.trans hi.ignore, TInv_other hi.t h1 f3 f4, hinv hs, DInv_other hi.d h2 f5⟩⟩
    exact ⟨fun h => ⟨by simp [htag], fun hx => (by rw [h2] at hx; cases hx), h, TOK_other pre d h1⟩, fun h => h.schema⟩
  | schemaExt =>
    have h1 : d.isTypePart = false := by simp [Def.isTypePart, Def.defKind, Def.extKind, htag]
    have h2 : d.isDirectiveDef = false := by simp [Def.isDirectiveDef, htag]
    rw [step_schemaExt s d htag]
    obtain ⟨g, hinv⟩ := stepSchemaExt_spec pre s d hi.sch hp.schema hwf htag
    obtain ⟨f1, f2, f3, f4, f5⟩ := stepSchemaExt_frame s d
    refine ⟨g.congr ?_, fun hs => ⟨f1.trans hi.adopt, f2.trans hi.ignore, TInv_other hi.t h1 f3 f4, hinv hs, DInv_other hi.d h2 f5⟩⟩
    exact ⟨fun h => ⟨by simp [htag], fun hx => (by rw [h2] at hx; cases hx), h, TOK_other pre d h1⟩, fun h => h.schema⟩
  | directiveDef =>
    have h1 : d.isTypePart = false := by simp [Def.isTypePart, Def.defKind, Def.extKind, htag]
    have h2 : d.isSchemaPart = false := by simp [Def.isSchemaPart, Def.isSchemaDef, Def.isSchemaExt, htag]
    rw [step_directiveDef s d htag]
    obtain ⟨g, hinv⟩ := stepDirectiveDef_spec pre s d hi.d htag
    obtain ⟨f1, f2, f3, f4, f5, f6, f7⟩ := stepDirectiveDef_frame s d
    refine ⟨g.congr ?_, fun hs => ⟨f1.trans hi.adopt, f2.trans hi.ignore, TInv_other hi.t h1 f3 f4, SInv_other hi.sch h2 f6 f5 f7, hinv hs⟩⟩
    exact ⟨fun h => ⟨by simp [htag], fun _ => h, SOK_other pre d h2, TOK_other pre d h1⟩,
      fun h => h.dirs ((isDirectiveDef_iff d).mpr htag)⟩
  | typeDef k =>
    have h2 : d.isSchemaPart = false := by simp [Def.isSchemaPart, Def.isSchemaDef, Def.isSchemaExt, htag]
    have h3 : d.isDirectiveDef = false := by simp [Def.isDirectiveDef, htag]
    rw [step_typeDef s d k htag]
    obtain ⟨g, hinv⟩ := stepTypeDef_spec pre s d k hi.t hi.ignore htag
    obtain ⟨f1, f2, f3, f4, f5, f6⟩ := stepTypeDef_frame s k d
    refine ⟨g.congr ?_, fun hs => ⟨f1.trans hi.adopt, f2.trans hi.ignore, hinv hs, SInv_other hi.sch h2 f5 f4 f6, DInv_other hi.d h3 f3⟩⟩
    exact ⟨fun h => ⟨by simp [htag], fun hx => (by rw [h3] at hx; cases hx), SOK_other pre d h2, h⟩, fun h => h.types⟩
  | typeExt k =>
    have h2 : d.isSchemaPart = false := by simp [Def.isSchemaPart, Def.isSchemaDef, Def.isSchemaExt, htag]
    have h3 : d.isDirectiveDef = false := by simp [Def.isDirectiveDef, htag]
    rw [step_typeExt s d k htag]
    obtain ⟨g, hinv⟩ := stepTypeExt_spec pre s d k hi.t hp.types htag
    obtain ⟨f1, f2, f3, f4, f5, f6⟩ := stepTypeExt_frame s k d
    refine ⟨g.congr ?_, fun hs => ⟨f1.trans hi.adopt, f2.trans hi.ignore, hinv hs, SInv_other hi.sch h2 f5 f4 f6, DInv_other hi.d h3 f3⟩⟩
    exact ⟨fun h => ⟨by simp [htag], fun hx => (by rw [h3] at hx; cases hx), SOK_other pre d h2, h⟩, fun h => h.types⟩
  | operation =>
    rw [step_operation s d htag]
    refine ⟨(Grow.push _ _).congr ⟨fun h => absurd h id, fun h => h.noExec.1 htag⟩, fun h => by simp [push] at h⟩
  | fragment =>
    rw [step_fragment s d htag]
    refine ⟨(Grow.push _ _).congr ⟨fun h => absurd h id, fun h => h.noExec.2 htag⟩, fun h => by simp [push] at h⟩

end Apollo.SchemaBuild
