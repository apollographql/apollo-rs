import ApolloModel.Spec.ExecValidation
/-
Helper lemmas for C17: `same_output_type_shape` vs SameResponseShape, the subscription walk vs
CollectFields.
-/
namespace Apollo.ExecVal
open Apollo Apollo.Spec Apollo.Spec.ExecVal

/-! ### shape -/

theorem shape_list (kind : Name → Option TypeKind) (a b : Ty) :
    sameOutputTypeShape kind (.list a) (.list b) = sameOutputTypeShape kind a b := by
  simp [sameOutputTypeShape, unwrapLists]

theorem shape_nnlist (kind : Name → Option TypeKind) (a b : Ty) :
    sameOutputTypeShape kind (.nonNullList a) (.nonNullList b) = sameOutputTypeShape kind a b := by
  simp [sameOutputTypeShape, unwrapLists]

theorem leaf_not_composite (k : TypeKind) : k.isLeaf = true → k.isComposite = false := by
  cases k <;> simp [TypeKind.isLeaf, TypeKind.isComposite]

theorem shape_named (kind : Name → Option TypeKind) (x y : Name) :
    sameDefinitions kind x y = sameNamedShape kind x y := by
  unfold sameDefinitions sameNamedShape
  by_cases hxy : x = y
  · subst hxy
    cases h : kind x with
    | none => rfl
    | some k => cases k <;> simp [TypeKind.isLeaf, TypeKind.isComposite]
  · cases hx : kind x with
    | none => rfl
    | some kx =>
      cases hy : kind y with
      | none => rfl
      | some ky =>
        have : (x == y) = false := by simpa using hxy
        cases kx <;> cases ky <;> simp [TypeKind.isLeaf, TypeKind.isComposite, this]

theorem shape_iff (kind : Name → Option TypeKind) (a b : Ty) :
    sameOutputTypeShape kind a b = sameShape kind (embed a) (embed b) := by
  induction a generalizing b with
  | named x =>
    cases b with
    | named y => simpa [sameOutputTypeShape, unwrapLists, embed, sameShape] using shape_named kind x y
    | _ => simp [sameOutputTypeShape, unwrapLists, embed, sameShape]
  | nonNullNamed x =>
    cases b with
    | nonNullNamed y => simpa [sameOutputTypeShape, unwrapLists, embed, sameShape] using shape_named kind x y
    | _ => simp [sameOutputTypeShape, unwrapLists, embed, sameShape]
  | list t ih =>
    cases b with
    | list u => rw [shape_list, ih]; simp [embed, sameShape]
    | _ => simp [sameOutputTypeShape, unwrapLists, embed, sameShape]
  | nonNullList t ih =>
    cases b with
    | nonNullList u => rw [shape_nnlist, ih]; simp [embed, sameShape]
    | _ => simp [sameOutputTypeShape, unwrapLists, embed, sameShape]

/-! ### subscription walk vs CollectFields -/

theorem addField_keys (k n : String) (g : Grouped) :
    (addField k n g).map Prod.fst
      = if (g.map Prod.fst).contains k then g.map Prod.fst else g.map Prod.fst ++ [k] := by
  induction g with
  | nil => simp [addField]
  | cons kv rest ih =>
    obtain ⟨k', ns⟩ := kv
    by_cases h : k = k'
    · subst h; simp [addField]
    · have h' : (k == k') = false := by simpa using h
      simp only [addField, h', Bool.false_eq_true, if_false, List.map_cons, ih]
      have hcons : (k' :: rest.map Prod.fst).contains k = (rest.map Prod.fst).contains k := by
        rw [List.contains_cons, h', Bool.false_or]
      rw [hcons]
      by_cases hc : (rest.map Prod.fst).contains k = true
      · rw [if_pos hc, if_pos hc]
      · rw [if_neg hc, if_neg hc]; rfl

/-- what the walk and CollectFields have in common after the same selections -/
def Rel (st : WSt) (c : CSt) : Prop :=
  st.seen = c.visited ∧ c.grouped.map Prod.fst = st.rkeys

theorem goWalk_goCollect (frags : List Sels) (rec : Sels → WSt → WSt) (recC : Sels → CSt → CSt)
    (hrec : ∀ s st c, Rel st c → Rel (rec s st) (recC s c)) :
    ∀ s st c, Rel st c → Rel (goWalk frags rec s st) (goCollect frags recC s c) := by
  intro s
  induction s with
  | nil => intro st c h; simpa [goWalk, goCollect] using h
  | field key name cond rest ih =>
    intro st c h
    simp only [goWalk, goCollect]
    apply ih
    obtain ⟨h1, h2⟩ := h
    refine ⟨h1, ?_⟩
    simp only [addField_keys, h2]
  | inline cond sub rest ihs ihr =>
    intro st c h
    simp only [goWalk, goCollect]
    apply ihr
    apply ihs
    exact h
  | spread j cond rest ih =>
    intro st c h
    obtain ⟨h1, h2⟩ := h
    simp only [goWalk, goCollect]
    by_cases hs : st.seen.contains j = true
    · have hv : c.visited.contains j = true := h1 ▸ hs
      simp only [hs, hv, if_true]
      exact ih _ _ ⟨h1, h2⟩
    · have hv : ¬ c.visited.contains j = true := h1 ▸ hs
      simp only [hs, hv]
      have hr : Rel { st with conditional := st.conditional || cond, seen := j :: st.seen }
          { c with visited := j :: c.visited } := ⟨by simp [h1], h2⟩
      cases hf : frags[j]? with
      | none => simpa [hf] using ih _ _ hr
      | some body => simpa [hf] using ih _ _ (hrec body _ _ hr)

theorem walk_collect (frags : List Sels) :
    ∀ k s st c, Rel st c → Rel (walk frags k s st) (collect frags k s c) := by
  intro k
  induction k with
  | zero => intro s st c h; exact goWalk_goCollect frags _ _ (fun _ _ _ h => h) s st c h
  | succ k ih => intro s st c h; exact goWalk_goCollect frags _ _ ih s st c h

end Apollo.ExecVal
