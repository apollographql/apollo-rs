import ApolloModel.Proofs.BuiltinScalars
import ApolloModel.Model.ValueCheck
/-
C16: the value check (`value_of_correct_type`, Model/ValueCheck.lean) reads the schema only through its
type lookup (`check_congr`), and that lookup is the same before and after the built-in scalar bookkeeping of a
validation pass (`Scalars.value_lookup_stable`) — so the diagnostics of every value check are the same in
`validate(s)` and in `validate(validate(s).into_inner())`.
-/
namespace Apollo.ValueCheck

/-! ### the check depends on the schema only through `Schema.lookup` -/

mutual
theorem check_congr (S S' : Schema) (h : ∀ n, S.lookup n = S'.lookup n) (vars : List VarDef) :
    ∀ (v : Value) (ty : Ty), check S vars ty v = check S' vars ty v
  | .int i, ty => by simp only [check, h]
  | .float b, ty => by simp only [check, h]
  | .string, ty => by simp only [check, h]
  | .boolean, ty => by simp only [check, h]
  | .null, ty => by simp only [check, h]
  | .enum e, ty => by simp only [check, h]
  | .variable x, ty => by simp only [check, h]
  | .list vs, ty => by
    have ih : ∀ t, checkItems S vars t vs = checkItems S' vars t vs := fun t => checkItems_congr S S' h vars vs t
    simp only [check, h, ih]
  | .object fs, ty => by
    have ih : ∀ t name, checkFirst S vars t name fs = checkFirst S' vars t name fs :=
      fun t name => checkFirst_congr S S' h vars fs t name
    simp only [check, h, ih]
theorem checkItems_congr (S S' : Schema) (h : ∀ n, S.lookup n = S'.lookup n) (vars : List VarDef) :
    ∀ (vs : Values) (ty : Ty), checkItems S vars ty vs = checkItems S' vars ty vs
  | .nil, ty => by simp only [checkItems]
  | .cons v tl, ty => by
    simp only [checkItems, check_congr S S' h vars v ty, checkItems_congr S S' h vars tl ty]
theorem checkFirst_congr (S S' : Schema) (h : ∀ n, S.lookup n = S'.lookup n) (vars : List VarDef) :
    ∀ (fs : Fields) (ty : Ty) (name : Name), checkFirst S vars ty name fs = checkFirst S' vars ty name fs
  | .nil, ty, name => by simp only [checkFirst]
  | .cons n x tl, ty, name => by
    simp only [checkFirst, check_congr S S' h vars x ty, checkFirst_congr S S' h vars tl ty name]
end

end Apollo.ValueCheck

namespace Apollo.Scalars

/-- what the value check sees of one entry of the type map: a built-in definition named like a built-in
    scalar is that scalar; everything else (custom scalars, enums with their values, input objects with their
    fields, output types) is given by `detail`, which validation never changes -/
def valueDef (detail : Name → ValueCheck.TypeDef) (n : Name) (td : TypeDef) : ValueCheck.TypeDef :=
  if td.isBuiltIn && builtinScalars.contains n then .scalar true else detail n

def valueSchema (detail : Name → ValueCheck.TypeDef) (s : Schema) : ValueCheck.Schema :=
  ⟨s.types.map fun e => (e.1, valueDef detail e.1 e.2)⟩

/-- the lookup of the value-check model on that schema is the C16 lookup `lookupForValue` -/
theorem valueSchema_lookup (detail : Name → ValueCheck.TypeDef) (s : Schema) (n : Name) :
    (valueSchema detail s).lookup n = (lookupForValue s n).map (valueDef detail n) := by
  unfold ValueCheck.Schema.lookup valueSchema lookupForValue
  rw [List.find?_map]
  cases hf : s.types.find? ((fun p : Name × ValueCheck.TypeDef => p.1 == n) ∘ fun e => (e.1, valueDef detail e.1 e.2)) with
  | some e =>
    have hf' : s.types.find? (fun e => e.1 == n) = some e := hf
    have hn : e.1 = n := by simpa using List.find?_some hf
    rw [hf']
    simp [hn]
  | none =>
    have hf' : s.types.find? (fun e => e.1 == n) = none := hf
    rw [hf']
    have : ValueCheck.builtinScalarNames = builtinScalars := rfl
    rw [this]
    by_cases hb : n ∈ builtinScalars
    · simp [hb, valueDef, builtinDef]
    · simp [hb]

/-- **the value check is stable under the bookkeeping**: every literal gets the same diagnostics, at every type
    reference, against the type map before and after a validation pass (pruned built-in scalars included), for a well-formed
    schema in which every type named like a built-in scalar is the built-in definition (`hbuilt`) -/
theorem value_check_stable (order : List Name → List Name) (ho : IsOrder order) (s : Schema) (wf : WellFormed s)
    (hbuilt : ∀ e ∈ s.types, builtinScalars.contains e.1 = true → e.2.isBuiltIn = true)
    (detail : Name → ValueCheck.TypeDef) (vars : List ValueCheck.VarDef) (ty : ValueCheck.Ty) (v : ValueCheck.Value) :
    ValueCheck.check (valueSchema detail (bookkeeping order s)) vars ty v =
      ValueCheck.check (valueSchema detail s) vars ty v := by
  apply ValueCheck.check_congr
  intro n
  rw [valueSchema_lookup, valueSchema_lookup, value_lookup_stable order ho s wf hbuilt n]

end Apollo.Scalars
