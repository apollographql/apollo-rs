import ApolloModel.Proofs.Standalone
/-
Property C20, second sentence: which diagnostic kinds a standalone run of the model can produce.
-/
namespace Apollo.Standalone

/-- what a run without a schema may report: a universal class, or `UndefinedDirective` when the code reports it
    without a schema -/
def Allowed (p : Params) (d : Diag) : Prop :=
  d.universal = true ∨ (d = .undefinedDirective ∧ p.undefinedDirectiveWithoutSchema = true)

theorem uniqueArgs_mem (seen : List Name) (as : List Arg) : ∀ d ∈ uniqueArgs seen as, d = .uniqueArgument := by
  induction as generalizing seen with
  | nil => simp [uniqueArgs]
  | cons a as ih =>
    intro d hd
    simp only [uniqueArgs] at hd
    split at hd
    · simp only [List.mem_cons] at hd
      rcases hd with hd | hd
      · exact hd
      · exact ih _ d hd
    · exact ih _ d hd

theorem dirDiagsAux_none_mem (p : Params) (loc : Loc) (ds : List Dir) (seen : List Name) :
    ∀ d ∈ dirDiagsAux p none loc seen ds, Allowed p d := by
  induction ds generalizing seen with
  | nil => simp [dirDiagsAux]
  | cons x ds ih =>
    intro d hd
    simp only [dirDiagsAux, Option.bind_none, Option.map_none, Option.getD_none, ↓reduceIte, ite_self,
      List.append_nil, Option.isSome_none, Bool.false_or, List.mem_append] at hd
    rcases hd with (hd | hd) | hd
    · exact .inl (by rw [uniqueArgs_mem _ _ d hd]; rfl)
    · split at hd
      · next hf => simp only [List.mem_singleton] at hd; exact .inr ⟨hd, hf⟩
      · simp at hd
    · exact ih _ d hd

theorem dirDiags_none_mem (p : Params) (loc : Loc) (ds : List Dir) :
    ∀ d ∈ dirDiags p none loc ds, Allowed p d := dirDiagsAux_none_mem p loc ds []

theorem varDefDiags_none_mem (p : Params) (vs : List VarDef) (seen : List Name) :
    ∀ d ∈ varDefDiags p none seen vs, Allowed p d := by
  induction vs generalizing seen with
  | nil => simp [varDefDiags]
  | cons v vs ih =>
    intro d hd
    simp only [varDefDiags, List.append_nil, List.mem_append] at hd
    rcases hd with (hd | hd) | hd
    · exact dirDiags_none_mem p _ _ d hd
    · split at hd
      · simp only [List.mem_singleton] at hd; exact .inl (by rw [hd]; rfl)
      · simp at hd
    · exact ih _ d hd

namespace Rules

theorem undefinedArgs_kind (defs : List ArgDef) (as : List Arg) : ∀ d ∈ undefinedArgs defs as, d = .undefinedArgument := by
  intro d hd; simp only [undefinedArgs, List.mem_map] at hd; obtain ⟨_, _, rfl⟩ := hd; rfl
theorem requiredArgs_kind (defs : List ArgDef) (as : List Arg) : ∀ d ∈ requiredArgs defs as, d = .requiredArgument := by
  intro d hd; simp only [requiredArgs, List.mem_map] at hd; obtain ⟨_, _, rfl⟩ := hd; rfl

end Rules

theorem buildDef_none_mem (st : BuildState) (x : Def) (h : ∀ d ∈ st.diags, d.universal = true) :
    ∀ d ∈ (buildDef none st x).diags, d.universal = true := by
  intro d hd
  unfold buildDef at hd
  simp only [buildOp_none, buildSels_none] at hd
  repeat' split at hd
  all_goals simp only [List.mem_append, List.mem_singleton, List.append_nil] at hd
  all_goals first
    | exact h d hd
    | (rcases hd with hd | hd
       · exact h d hd
       · first | (rw [hd]; rfl) | (rcases hd with hd | hd <;> (rw [hd]; rfl)))
    | (rcases hd with (hd | hd) | hd
       · exact h d hd
       · first | (rw [hd]; rfl) | simp at hd
       · first | (rw [hd]; rfl) | simp at hd)

theorem build_none_mem (ast : Ast) : ∀ d ∈ (build none ast).diags, d.universal = true := by
  unfold build
  suffices ∀ (st : BuildState), (∀ d ∈ st.diags, d.universal = true) →
      ∀ d ∈ (ast.foldl (buildDef none) st).diags, d.universal = true from
    this {} (by intro d hd; simp at hd)
  induction ast with
  | nil => intro st h; simpa using h
  | cons x ast ih => intro st h; exact ih _ (buildDef_none_mem st x h)

end Apollo.Standalone
