import ApolloModel.Proofs.LexerStrings
/-
C03: every token `advance` emits is a token of the lexical grammar (Spec/Lexical.lean), of the right kind,
followed by what the grammar's lookahead restriction allows.
-/
set_option linter.unusedSimpArgs false
namespace Apollo.Lex
open Apollo.Spec.Lexical (IsIntValue IsFloatValue NumberLookaheadOk IsQuotedString IsComment
  CommentLookaheadOk IsName NameLookaheadOk)

theorem specNameContinue_eq (c : Char) : Spec.Lexical.isNameContinue c = isNameContinue c := by
  rw [Bool.eq_iff_iff]
  simp only [Spec.Lexical.isNameContinue, Spec.Lexical.isLetter, Spec.Lexical.isDigit, isNameContinue,
    Bool.or_eq_true, Bool.and_eq_true, decide_eq_true_eq, char_le_iff, char_beq, Char.reduceToNat, beq_iff_eq]
  omega

/-- what it means for a token of kind `k` with text `t`, followed by `rest`, to be a token of the
    October-2021 lexical grammar (quoted strings in the lexer's exact language `IsLexQuoted`: any
    character is a SourceCharacter, no surrogate escapes; block strings only by their opening; the
    lexer merges a run of whitespace / line terminators / BOM into one token) -/
def TokenOk (k : Kind) (t rest : Str) : Prop :=
  match k with
  | .name => IsName t ∧ NameLookaheadOk rest
  | .int => IsIntValue t ∧ NumberLookaheadOk rest
  | .float => IsFloatValue t ∧ NumberLookaheadOk rest
  | .stringValue => IsLexQuoted t ∨ ∃ tail, t = q3 ++ tail
  | .comment => IsComment anyChar t ∧ CommentLookaheadOk rest
  | .whitespace => t ≠ [] ∧ (∀ c ∈ t, isWhitespaceAssimilated c = true) ∧
      (∀ c r, rest = c :: r → isWhitespaceAssimilated c = false)
  | .spread => t = ['.', '.', '.']
  | .eof => False
  | k => ∃ c, t = [c] ∧ punctuationKind c = some k

theorem lex_number_start_sound (c : Char) (src : Str) (hc : D c ∨ c.toNat = 45) (k : Kind) (t rest : Str)
    (h : advance (c :: src) = (.tok k t, rest)) : Final k t ∧ NumberLookaheadOk rest := by
  unfold advance runD at h
  rcases hc with hD | hm
  · by_cases h0 : c.toNat = 48
    · rw [(step_start_number c).1 h0] at h
      have : c = '0' := (char_eq_iff c '0').mpr h0
      subst this
      exact num_sound src _ _ _ (NumInv.zero (neg := []) (Or.inl rfl)) k t rest h
    · have hnz : 49 ≤ c.toNat ∧ c.toNat ≤ 57 := by unfold D at hD; omega
      rw [(step_start_number c).2.1 hnz] at h
      exact num_sound src _ _ _ (NumInv.intPart (neg := []) (ds := []) (Or.inl rfl)
        ((specNonZero_iff c).mpr hnz) (by simp [AllD])) k t rest h
  · rw [(step_start_number c).2.2 hm] at h
    have : c = '-' := (char_eq_iff c '-').mpr hm
    subst this
    exact num_sound src _ _ _ NumInv.minus k t rest h

theorem tokenOk_of_final {k : Kind} {t rest : Str} (h : Final k t) (hl : NumberLookaheadOk rest) : TokenOk k t rest := by
  rcases h with ⟨rfl, h⟩ | ⟨rfl, h⟩
  · exact ⟨h, hl⟩
  · exact ⟨h, hl⟩

theorem tokenOk_punct (c : Char) (k : Kind) (rest : Str) (h : punctuationKind c = some k) : TokenOk k [c] rest := by
  have h' := h
  revert h
  unfold punctuationKind
  split <;> simp <;> (intro hk; subst hk; exact ⟨c, rfl, h'⟩)

theorem take2_dots (src : Str) (h : src.take 2 = ['.', '.']) : ∃ r, src = '.' :: '.' :: r := by
  cases src with
  | nil => simp at h
  | cons a l =>
    cases l with
    | nil => simp at h
    | cons b r => simp at h; exact ⟨r, by rw [h.1, h.2]⟩

theorem advance_token_sound (c : Char) (src : Str) (k : Kind) (t rest : Str)
    (h : advance (c :: src) = (.tok k t, rest)) : TokenOk k t rest := by
  cases hp : punctuationKind c with
  | some k0 =>
    rw [lex_punctuator c k0 src hp] at h
    cases h
    exact tokenOk_punct c _ _ hp
  | none =>
    by_cases h1 : isNameStart c = true
    · rw [lex_name c src h1] at h
      cases h
      refine ⟨⟨c, _, rfl, by rw [← (classes_agree c).2]; exact h1, ?_⟩, ?_⟩
      · rw [List.all_eq_true]
        intro x hx
        rw [specNameContinue_eq]; exact takeWhile_all _ _ x hx
      · cases hd : src.dropWhile isNameContinue with
        | nil => trivial
        | cons x r =>
          show Spec.Lexical.isNameContinue x = false
          rw [specNameContinue_eq]; exact dropWhile_head _ _ x r hd
    · by_cases h2 : isAsciiDigit c = true
      · have := lex_number_start_sound c src (Or.inl ((lexDigit_iff c).mp h2)) k t rest h
        exact tokenOk_of_final this.1 this.2
      · by_cases h3 : c = '-'
        · subst h3
          have := lex_number_start_sound '-' src (Or.inr rfl) k t rest h
          exact tokenOk_of_final this.1 this.2
        · by_cases h4 : c = '"'
          · subst h4
            have h0 : step .start .eof false [] '"' = .goto .stringLiteralStart .stringValue false := by
              simp [step, punctuationKind, isNameStart, isAsciiDigit]
            unfold advance runD at h
            rw [h0] at h
            have := str_sound src _ _ StrInv.start1 k t rest h
            obtain ⟨rfl, hq⟩ := this
            exact hq
          · by_cases h5 : c = '#'
            · subst h5
              rw [lex_comment src] at h
              cases h
              refine ⟨⟨_, rfl, fun x hx => ⟨?_, rfl⟩⟩, ?_⟩
              · have := takeWhile_all _ _ x hx
                rw [specLT_eq]; simpa using this
              · cases hd : src.dropWhile (fun c => !isLineTerminator c) with
                | nil => trivial
                | cons x r =>
                  show Spec.Lexical.isLineTerminator x = true
                  have := dropWhile_head _ _ x r hd
                  rw [specLT_eq]; simpa using this
            · by_cases h6 : c = '.'
              · subst h6
                by_cases h7 : src.take 2 = ['.', '.']
                · obtain ⟨r, rfl⟩ := take2_dots src h7
                  rw [lex_spread r] at h
                  cases h
                  rfl
                · have := lex_dot_error src h7
                  rw [h] at this; simp [Item.isErr] at this
              · by_cases h8 : isWhitespaceAssimilated c = true
                · rw [lex_whitespace c src h8] at h
                  cases h
                  refine ⟨by simp, ?_, ?_⟩
                  · intro x hx
                    rcases List.mem_cons.mp hx with rfl | hx
                    · exact h8
                    · exact takeWhile_all _ _ x hx
                  · intro x r hd; exact dropWhile_head _ _ x r hd
                · -- an unexpected character: error item
                  exfalso
                  have hs : step .start .eof false [] c = .incl .err := by
                    have hd : (c != '0' && isAsciiDigit c) = false := by simp [h2]
                    have h0 : (c == '0') = false := by
                      cases hc0 : (c == '0') with
                      | false => rfl
                      | true =>
                        have : c = '0' := by simpa using hc0
                        subst this; simp [isAsciiDigit] at h2
                    simp [step, hp, h1, hd, h3, h4, h5, h6, h0, h8]
                  unfold advance runD at h
                  rw [hs] at h
                  simp [Out.mk] at h

/-! ### whole input -/

/-- `items` is a tokenisation of `src` by the lexical grammar: each item is a token `TokenOk`
    accepts, in order, their texts concatenate to `src`, and the stream ends with EOF -/
inductive SpecTokens : Str → List Item → Prop where
  | eof : SpecTokens [] [.tok .eof []]
  | cons {k : Kind} {t rest : Str} {items : List Item} : t ≠ [] → TokenOk k t rest → SpecTokens rest items →
      SpecTokens (t ++ rest) (.tok k t :: items)

/-- a lexing that reports no error is a sequence of `advance` steps, each emitting a non-empty token -/
theorem lexAux_ok_rec {Q : Str → List Item → Prop} (heof : Q [] [.tok .eof []])
    (hcons : ∀ (c : Char) (src : Str) (k : Kind) (t rest : Str) (items : List Item),
      advance (c :: src) = (.tok k t, rest) → t ≠ [] → Q rest items → Q (t ++ rest) (.tok k t :: items)) :
    ∀ (fuel count : Nat) (src : Str), src.length < fuel →
      (∀ it ∈ lexAux fuel none count src, it.isErr = false) → Q src (lexAux fuel none count src)
  | 0, _, _, h, _ => by omega
  | fuel + 1, count, [], _, _ => by simpa [lexAux] using heof
  | fuel + 1, count, c :: rest, h, hok => by
    have hp := advance_progress c rest
    have hc := advance_concat (c :: rest)
    simp only [lexAux, Bool.false_eq_true, if_false] at hok ⊢
    have h1 := hok (advance (c :: rest)).1 (by simp)
    cases hadv : advance (c :: rest) with
    | mk item rest' =>
      rw [hadv] at h1 hp hc hok
      simp only at h1 hp hc hok
      cases item with
      | err d => simp [Item.isErr] at h1
      | limit => simp [Item.isErr] at h1
      | tok k t =>
        have ih := lexAux_ok_rec heof hcons fuel (count + 1) rest' (by simp only [List.length_cons] at h hp; omega)
          (fun it hit => hok it (by simp [hit]))
        simp only [Item.data] at hc hp
        rw [← hc]
        exact hcons c rest k t rest' _ hadv hp.1 ih

/-- WHOLE INPUT, soundness: if lexing reports no error, the items are a tokenisation of the input by
    the lexical grammar — every token is a grammar token of its kind, followed by what the lookahead
    restrictions allow, and the texts concatenate to the input. -/
theorem lex_ok_tokens_sound (src : Str) (h : ∀ it ∈ lex none src, it.isErr = false) :
    SpecTokens src (lex none src) :=
  lexAux_ok_rec SpecTokens.eof
    (fun c src k t rest _ hadv hne ih => SpecTokens.cons hne (advance_token_sound c src k t rest hadv) ih)
    (src.length + 1) 0 src (by omega) h

end Apollo.Lex
