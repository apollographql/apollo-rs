import ApolloModel.Proofs.ParserSel2
import ApolloModel.Proofs.ParserDef9
/-
C07 / C05, selection sets: alias, fragment name, type condition; in `Apollo.Parse.Exact`, what it is for a selection
to fit a recursion budget (`fitSel`), and optional arguments / directives and the fragment spread with that budget.
-/
set_option linter.unusedSimpArgs false
namespace Apollo.Parse
open Apollo.Rowan hiding Str
open Apollo.Lex hiding Str

def sOnP : Str := "on".toList

/-- `Name :` — the alias of a field, entered when `peek_n(2)` is a colon -/
theorem alias_sound (s s' : PState) (t : Tok) (rest : List Tok) (w : TW s) (he : EofEnd s)
    (ht : Toks s = t :: rest) (hk : t.kind = .name) (hcol : ((sig rest).head?).map (·.kind) = some Kind.colon)
    (h : alias.run s = .ok () s') : Cons s s' (fun x => x = [.name t.data, .p .colon]) := by
  unfold alias at h
  obtain ⟨s1, s2, e1, h1, o2⟩ := withNode_peeked "ALIAS" _ s s' () t rest w ht (by rw [hk]; rfl) h
  have ht1 : Toks s1 = t :: rest := by have := e1.toks; rw [ht] at this; simpa using this.symm
  obtain ⟨_, s3, h3, h4⟩ := bind_dec name _ s1 s2 () h1
  obtain ⟨ign, e3, hall, hset⟩ := name_settled s1 s3 t rest e1.w ht1 hk h3
  have hrest : rest = ign ++ Toks s3 := by
    have := e3.toks; rw [ht1] at this; simpa using this
  have hhead : ((Toks s3).head?).map (·.kind) = some Kind.colon := by
    rw [← settled_sig_head s3 hset]
    rw [hrest, sig_append, sig_ignored ign hall] at hcol
    simpa using hcol
  obtain ⟨c, hc3, hkc⟩ : ∃ c, Toks s3 = c :: (Toks s3).tail ∧ c.kind = .colon := by
    cases hq : Toks s3 with
    | nil => rw [hq] at hhead; simp at hhead
    | cons c tl => rw [hq] at hhead; exact ⟨c, rfl, by simpa using hhead⟩
  obtain ⟨ign2, e4, hall2, _⟩ := bump_spec "COLON" s3 s2 e3.w c _ hc3 h4
  have etot : Eat s s' ((t :: ign) ++ (c :: ign2)) := by
    have := (((e1.trans e3).trans e4).trans (Eat.ofObsEq o2 e4.w))
    simpa using this
  refine ⟨_, _, etot.toks, noEof_append (noEof_cons (by rw [hk]; decide) hall) (noEof_cons (by rw [hkc]; decide) hall2),
    eofEnd_eat he etot (noEof_append (noEof_cons (by rw [hk]; decide) hall) (noEof_cons (by rw [hkc]; decide) hall2)), ?_, rfl⟩
  rw [sig_append]
  exact (tokIs_name t ign hk hall).append (tokIs_punct c ign2 .colon (by rw [hkc]; rfl) (by simp [astOfV, hkc]) hall2)

theorem fragmentName_sound (s s' : PState) (t : Tok) (rest : List Tok) (w : TW s) (he : EofEnd s)
    (ht : Toks s = t :: rest) (hk : t.kind = .name) (h : fragmentName.run s = .ok () s') (hnd : ¬ Doomed s') :
    Cons s s' (IsNameTok t) ∧ t.data ≠ sOnP := by
  unfold fragmentName at h
  obtain ⟨s1, s2, e1, h1, o2⟩ := withNode_peeked "FRAGMENT_NAME" _ s s' () t rest w ht (by rw [hk]; rfl) h
  have ht1 : Toks s1 = t :: rest := by have := e1.toks; rw [ht] at this; simpa using this.symm
  have hnd2 : ¬ Doomed s2 := fun d => hnd (o2.doomed.mpr d)
  obtain ⟨o, s3, h3, h4⟩ := bind_dec peekToken _ s1 s2 () h1
  have p := peekToken_obs s1 s3 o e1.w h3
  have ho : o = some t := by rw [p.head, ht1]; rfl
  subst ho
  have ht3 : Toks s3 = t :: rest := by rw [p.toks]; exact ht1
  simp only [] at h4
  by_cases hon : (t.kind == .name && kw "on" t.data) = true
  · exfalso
    simp only [hon, if_true] at h4
    exact hnd2 ((err_adv s3 s2 p.w h4).2 (by rw [ht3]; simp))
  · have hkw : kw "on" t.data = false := by
      cases hq : kw "on" t.data with
      | false => rfl
      | true => simp [hk, hq] at hon
    simp only [hk, hkw, beq_self_eq_true, Bool.and_false, Bool.false_eq_true, if_false, if_true] at h4
    obtain ⟨ign, e4, hall, _⟩ := name_settled s3 s2 t rest p.w ht3 hk h4
    have etot : Eat s s' (t :: ign) := by simpa using (((e1.trans p.eat).trans e4).trans (Eat.ofObsEq o2 e4.w))
    refine ⟨cons_of_name etot he hk hall, ?_⟩
    intro hd
    simp [kw, hd, sOnP] at hkw

theorem acc_of_cons {E : PState → Prop} {H : List Tok → Prop} (m : PI Unit) (gm : Good m) (P : List Ast.Tok → Prop)
    (h : ∀ s s', TW s → EofEnd s → H (Toks s) → m.run s = .ok () s' → ¬ Doomed s' → Cons s s' P) :
    Acc E H m (fun _ => P) := by
  refine ⟨gm, ?_⟩
  intro s a s' w he hq hr hnd
  obtain ⟨cs, x, a1, a2, a3, a4, a5⟩ := h s s' w he hq hr hnd
  exact ⟨cs, a1, a2, a3, Or.inl ⟨x, a4, a5⟩⟩

theorem kindP_head {p : Kind → Bool} {q : List Tok} (h : KindP p q) : ∃ t, q = t :: q.tail ∧ p t.kind = true := by
  obtain ⟨t, hh, hp⟩ := h
  cases q with
  | nil => cases hh
  | cons a b => simp only [List.head?_cons, Option.some.injEq] at hh; subst hh; exact ⟨a, rfl, hp⟩

/-- `on NamedType` -/
theorem acc_typeCondition {E : PState → Prop} (hE : Early E) {H : List Tok → Prop} :
    Acc E H typeCondition (fun _ x => ∃ ty, x = [.name sOnP, .name ty]) := by
  unfold typeCondition
  refine acc_withNodeAny hE _ ?_
  apply acc_peekToken
  intro o
  cases o with
  | none => exact acc_err
  | some t =>
    simp only []
    have hnt : Acc E (fun _ => True) (peek >>= fun k => if k == some Kind.name then namedType else err)
        (fun _ x => ∃ ty, x = [.name ty]) :=
      acc_ifKind .name _ _ _ (acc_of_cons _ good_namedType _ (by
        intro s s' w he hq hr _
        obtain ⟨t2, ht2, hk2⟩ := kindP_head hq
        exact (namedType_sound s s' t2 _ w he ht2 (by simpa using hk2) hr).weaken (by rintro x rfl; exact ⟨t2.data, rfl⟩))) acc_err
    by_cases hon : (t.kind == .name && kw "on" t.data) = true
    · simp only [hon, if_true]
      have hk : t.kind = .name := by simp only [Bool.and_eq_true] at hon; simpa using hon.1
      have hd : t.data = sOnP := by simp only [Bool.and_eq_true] at hon; exact kw_eq hon.2
      have hb : Acc E (fun q => (True ∧ q.head? = some t)) (bump "on_KW") (fun _ x => x = [.name sOnP]) := by
        refine (acc_bump "on_KW" (fun t' => t' = t) (fun x => x = [.name sOnP]) ?_).mono ?_ (fun _ _ h => h)
        · rintro t' rfl
          exact ⟨by rw [hk]; rfl, by rw [hk]; decide, .name sOnP, by simp [astOfV, hk, hd], rfl⟩
        · intro q hq; exact ⟨t, hq.2, rfl⟩
      refine (acc_bind hE hb (fun _ => hnt)).mono (fun _ h => h) ?_
      rintro _ x ⟨_, x1, x2, e, h1, ty, h2⟩
      exact ⟨ty, by rw [e, h1, h2]; rfl⟩
    · simp only [hon, Bool.false_eq_true, if_false]
      exact acc_err' _ hnt.1

theorem typeCondition_sound (s s' : PState) (t : Tok) (rest : List Tok) (w : TW s) (he : EofEnd s)
    (_ht : Toks s = t :: rest) (_hk : t.kind = .name) (h : typeCondition.run s = .ok () s') (hnd : ¬ Doomed s') :
    Cons s s' (fun x => ∃ ty : Str, x = [.name sOnP, .name ty]) :=
  (acc_typeCondition (H := fun _ => True) early_false).sound s s' () w he trivial h hnd

namespace Exact

/-- what the body of a node consumed is what the node consumed -/
theorem _root_.Apollo.Parse.Cons.node {s s1 s2 s' : PState} {P : List Ast.Tok → Prop} (c : Cons s1 s2 P) (e1 : Eat s s1 [])
    (o2 : ObsEq s2 s') : Cons s s' P :=
  c.transport (by simpa using e1.toks) o2.toks (eofEnd_same _ _ c.eofEnd o2.current o2.lx o2.errors)

/-- `if p.peek() == Some(T![@]) { directives }` -/
theorem optDirectives_sound (n : Nat) (s s' : PState) (w : TW s) (he : EofEnd s)
    (h : (peek >>= fun k => if k == some Kind.at then directives n false else pure ()).run s = .ok () s') (hnd : ¬ Doomed s') :
    Cons s s' (fun x => ∃ ds, x = Ast.tDirectives ds ∧ dirsFit false (bud s) ds) := by
  obtain ⟨sP, o, p, hor⟩ := ifPeek_dec .at _ _ s s' () w h
  have heP := p.eofEnd he
  rcases hor with ⟨_, h2⟩ | ⟨_, h2⟩
  · obtain ⟨cs, ds, a, b, c, d, hf⟩ := directives_sound n false sP s' p.w heP h2 hnd
    exact ⟨cs, _, by rw [← p.toks]; exact a, b, c, d, ds, rfl, by rw [← bud_peek p]; exact hf⟩
  · obtain ⟨-, rfl⟩ := pure_dec h2
    exact (Cons.nil p.toks heP).weaken (by rintro x rfl; exact ⟨[], rfl, by intro d hd; cases hd⟩)

/-- `if p.peek() == Some(T!['(']) { arguments }` -/
theorem optArguments_sound (n : Nat) (s s' : PState) (w : TW s) (he : EofEnd s)
    (h : (peek >>= fun k => if k == some Kind.lParen then arguments n false else pure ()).run s = .ok () s') (hnd : ¬ Doomed s') :
    Cons s s' (fun x => ∃ args, x = Ast.tArguments args ∧ argsFit false (bud s) args) := by
  obtain ⟨sP, o, p, hor⟩ := ifPeek_dec .lParen _ _ s s' () w h
  have heP := p.eofEnd he
  rcases hor with ⟨hk, h2⟩ | ⟨_, h2⟩
  · obtain ⟨t, rfl, hkt⟩ := peeked_kind hk
    obtain ⟨cs, args, a, b, c, _, d, hf⟩ := arguments_sound n false sP s' t _ p.w heP p.head_cons hkt h2 hnd
    exact ⟨cs, _, by rw [← p.toks]; exact a, b, c, d, args, rfl, by rw [← bud_peek p]; exact hf⟩
  · obtain ⟨-, rfl⟩ := pure_dec h2
    exact (Cons.nil p.toks heP).weaken (by rintro x rfl; exact ⟨[], rfl, by intro a ha; cases ha⟩)

/-- `... FragmentName Directives?` -/
theorem fragmentSpread_sound (n : Nat) (s s' : PState) (t : Tok) (rest : List Tok) (w : TW s) (he : EofEnd s)
    (ht : Toks s = t :: rest) (hk : t.kind = .spread) (h : (fragmentSpread n).run s = .ok () s') (hnd : ¬ Doomed s') :
    Cons s s' (fun x => ∃ nm ds, x = Ast.tSel (.spread nm ds) ∧ fitSel (.spread nm ds) (bud s)) := by
  have hni : isIgnoredKind t.kind = false := by rw [hk]; rfl
  unfold fragmentSpread at h
  obtain ⟨s1, s2, e1, h1, o2, ht1, he1, hnd2⟩ := withNode_entered "FRAGMENT_SPREAD" _ s s' () t rest w he ht hni h hnd
  obtain ⟨_, s3, h3, h4⟩ := bind_dec (bump "SPREAD") _ s1 s2 () h1
  obtain ⟨ign, e3, hall, _⟩ := bump_spec "SPREAD" s1 s3 e1.w t rest ht1 h3
  have hno3 : NoEof (t :: ign) := noEof_cons (by rw [hk]; decide) hall
  have c0 : Cons s1 s3 (fun x => x = [.p .spread]) :=
    Cons.ofEat e3 he1 hno3 (tokIs_punct t ign .spread hni (by simp [astOfV, hk]) hall)
  have he3 := c0.eofEnd
  have gjp : Good (peek >>= fun k => if k == some Kind.at then directives n false else pure ()) :=
    good_bind _ _ good_peek (fun k => good_ite _ _ _ (good_directives n false) (good_pure _))
  obtain ⟨sP, o, p, hor⟩ := ifPeek_dec .name (fragmentName >>= fun _ => (peek >>= fun k => if k == some Kind.at then directives n false else pure ()))
    (err >>= fun _ => (peek >>= fun k => if k == some Kind.at then directives n false else pure ())) s3 s2 () e3.w h4
  have heP := p.eofEnd he3
  rcases hor with ⟨hkn, h5⟩ | ⟨_, h5⟩
  · obtain ⟨t2, rfl, hk2⟩ := peeked_kind hkn
    obtain ⟨_, s4, h6, h7⟩ := bind_dec fragmentName _ sP s2 () h5
    have a6 := good_fragmentName sP () s4 p.w h6
    have hnd4 : ¬ Doomed s4 := fun d => hnd2 ((gjp s4 () s2 a6.w h7).doom d)
    obtain ⟨c1, hne⟩ := fragmentName_sound sP s4 t2 _ p.w heP p.head_cons hk2 h6 hnd4
    have c1' : Cons s3 s4 (IsNameTok t2) := c1.transport p.toks.symm rfl c1.eofEnd
    have c2 := optDirectives_sound n s4 s2 a6.w c1.eofEnd h7 hnd2
    have c := ((c0.seq c1').seq c2).node e1 o2
    have hb4 : bud s4 = bud s := by rw [bud_adv a6, bud_peek p, bud_eat e3, bud_eat e1]
    exact c.weaken (by
      rintro z ⟨xy, y, rfl, ⟨x1, x2, rfl, rfl, rfl⟩, ds, rfl, hfd⟩
      exact ⟨t2.data, ds, by simp [Ast.tSel], by rw [fitSel]; exact ⟨hne, by rw [← hb4]; exact hfd⟩⟩)
  · exfalso
    obtain ⟨_, s4, h6, h7⟩ := bind_dec err _ sP s2 () h5
    obtain ⟨a6, d6⟩ := err_adv sP s4 p.w h6
    have hndP : ¬ Doomed sP := fun d => hnd2 ((gjp s4 () s2 a6.w h7).doom (a6.doom d))
    exact hnd2 ((gjp s4 () s2 a6.w h7).doom (d6 (eofEnd_nonempty sP heP hndP)))

end Exact

theorem fragmentSpread_sound (n : Nat) (s s' : PState) (t : Tok) (rest : List Tok) (w : TW s) (he : EofEnd s)
    (ht : Toks s = t :: rest) (hk : t.kind = .spread) (h : (fragmentSpread n).run s = .ok () s') (hnd : ¬ Doomed s') :
    Cons s s' (fun x => ∃ nm ds, x = Ast.tSel (.spread nm ds) ∧ nm ≠ sOnP) :=
  (Exact.fragmentSpread_sound n s s' t rest w he ht hk h hnd).weaken (by
    rintro x ⟨nm, ds, rfl, hf⟩
    rw [Exact.fitSel] at hf
    exact ⟨nm, ds, rfl, hf.1⟩)

end Apollo.Parse
