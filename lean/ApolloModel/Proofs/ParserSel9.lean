import ApolloModel.Proofs.ParserSel8
/-
C05 / C07, executable definitions: variable definitions, operation and fragment definitions.
-/
set_option linter.unusedSimpArgs false
namespace Apollo.Parse
open Apollo.Rowan hiding Str
open Apollo.Lex hiding Str

theorem dollar_sig : ∀ k : Kind, (k == Kind.dollar) = true → isIgnoredKind k = false := kindEq_sig rfl

theorem variableDefinition_eq (n : Nat) :
    variableDefinition n = withNode "VARIABLE_DEFINITION" (variableNode >>= fun _ => ivdColon n) := rfl

/-- `$ Name : Type DefaultValue? Directives?` -/
theorem acc_variableDefinition (n : Nat) :
    Acc AtEof (KindP (· == .dollar)) (variableDefinition n) (fun _ x => ∃ v : Ast.VarDef, x = Ast.tVarDef v) := by
  rw [variableDefinition_eq]
  refine acc_withNode early_atEof _ (kindP_sig _ dollar_sig) ?_
  have hVar : Acc AtEof (KindP (· == .dollar)) variableNode (fun _ x => ∃ nm, x = [.p .dollar, .name nm]) := by
    unfold variableNode
    refine acc_withNode early_atEof _ (kindP_sig _ dollar_sig) ?_
    have hb := acc_bumpKind (E := AtEof) .dollar "DOLLAR" (.p .dollar) (by intro t ht; simp [astOfV, ht]) rfl (by decide)
    refine (acc_bind early_atEof hb (fun _ => acc_name)).mono (fun _ h => h) ?_
    rintro _ x ⟨_, x1, x2, e, h1, nm, h2⟩
    exact ⟨nm, by rw [e, h1, h2]; rfl⟩
  refine (acc_bind early_atEof hVar (fun _ => acc_ivdColon n)).mono (fun _ h => h) ?_
  rintro _ x ⟨_, x1, x2, e, ⟨nm, h1⟩, t, d, ds, h2⟩
  exact ⟨⟨nm, t, d, ds⟩, by rw [e, h1, h2]; simp [Ast.tVarDef, List.append_assoc]⟩

def varDefsTail (n : Nat) : PI Unit := peekWhileKind .dollar (variableDefinition n) >>= fun _ => expect .rParen "R_PAREN"

def varDefsBody (n : Nat) : PI Unit :=
  bump "L_PAREN" >>= fun _ => peek >>= fun k =>
    if k == some .dollar then (variableDefinition n >>= fun _ => varDefsTail n) else (err >>= fun _ => varDefsTail n)

theorem variableDefinitions_eq (n : Nat) : variableDefinitions n = withNode "VARIABLE_DEFINITIONS" (varDefsBody n) := rfl

/-- `( VariableDefinition+ )` -/
theorem acc_variableDefinitions (n : Nat) :
    Acc (fun _ => False) (KindP (· == .lParen)) (variableDefinitions n)
      (fun _ x => ∃ vs : List Ast.VarDef, vs ≠ [] ∧ x = Ast.tVarDefs vs) := by
  rw [variableDefinitions_eq]
  refine acc_withNode early_false _ (kindP_sig _ lParen_sig) ?_
  unfold varDefsBody
  have hitem := acc_variableDefinition n
  have gtail : Good (varDefsTail n) :=
    good_bind _ _ (good_peekWhileKind _ _ hitem.1) (fun _ => good_expect _ _)
  have hinner : Acc (fun _ => False) (fun _ => True)
      (peek >>= fun k => if k == some Kind.dollar then (variableDefinition n >>= fun _ => varDefsTail n)
        else (err >>= fun _ => varDefsTail n))
      (fun _ x => ∃ vs : List Ast.VarDef, vs ≠ [] ∧ x = Ast.tVarDefItems vs ++ [.p .rParen]) := by
    apply acc_ifKind
    · have hm : Acc AtEof (KindP (· == Kind.dollar)) (variableDefinition n >>= fun _ => peekWhileKind .dollar (variableDefinition n))
          (fun _ x => ∃ (a : Unit) (x1 x2 : List Ast.Tok), x = x1 ++ x2 ∧ (∃ v : Ast.VarDef, x1 = Ast.tVarDef v) ∧
            ItemsR (fun y => ∃ v : Ast.VarDef, y = Ast.tVarDef v) x2) :=
        acc_bind early_atEof hitem (fun _ => acc_kindWhile early_atEof .dollar _ _ hitem)
      have hc := acc_close .rParen "R_PAREN" (.p .rParen) (by intro t ht; simp [astOfV, ht]) rfl (by decide) hm
      refine (acc_of_run_eq (fun s => run_assoc (variableDefinition n) _ _ s) hc).mono (fun _ h => h) ?_
      rintro _ x ⟨_, x1, e, _, y1, y2, e2, ⟨v, hv⟩, items, hi, hall⟩
      obtain ⟨vs, hvs, _⟩ := flatten_items _ Ast.tVarDef Ast.tVarDefItems rfl (fun _ _ => rfl) (fun _ h => h) items hall
      exact ⟨v :: vs, by simp, by rw [e, e2, hv, hi, hvs]; simp [Ast.tVarDefItems]⟩
    · exact acc_err' _ gtail
  have hb := acc_bumpKind (E := fun _ => False) .lParen "L_PAREN" (.p .lParen) (by intro t ht; simp [astOfV, ht]) rfl (by decide)
  refine (acc_bind early_false hb (fun _ => hinner)).mono (fun _ h => h) ?_
  rintro _ x ⟨_, x1, x2, e, h1, vs, hne, h2⟩
  refine ⟨vs, hne, ?_⟩
  have : vs.isEmpty = false := by cases vs with | nil => exact absurd rfl hne | cons _ _ => rfl
  rw [e, h1, h2]; simp [Ast.tVarDefs, this]

/-! ### operation definition -/

def opSel (n : Nat) : PI Unit := peek >>= fun k => if k == some Kind.lCurly then selectionSet n else errAndPop
def opBody (n : Nat) : PI Unit :=
  operationType >>= fun _ => optKind .name name (optKind .lParen (variableDefinitions n) (optKind .at (directives n false) (opSel n)))

def opDispatch (n : Nat) : Option Kind → PI Unit
  | some .name => withNode "OPERATION_DEFINITION" (opBody n)
  | some .lCurly => withNode "OPERATION_DEFINITION" (selectionSet n)
  | _ => errAndPop

theorem operationDefinition_eq (n : Nat) : operationDefinition n = peek >>= opDispatch n := rfl

theorem tOperation_eq (ty : Ast.OpType) (name : Option Ast.Str) (vars : List Ast.VarDef) (dirs : List Ast.Directive) (sels : Ast.Sels) :
    Ast.tDefinition false (.operation ty name vars dirs sels) = tOperation ty name vars dirs sels := by
  cases name <;> simp [Ast.tDefinition, Ast.isShorthand, tOperation]

/-- what `operation_definition` accepts: a full operation definition, or the shorthand `{ Selection+ }` -/
def IsOperation (x : List Ast.Tok) : Prop :=
  ∃ sels, sels ≠ Ast.Sels.nil ∧
    ((∃ ty name vars dirs, x = Ast.tDefinition false (.operation ty name vars dirs sels)) ∨ x = Ast.tSelSet sels)

theorem acc_operationDefinition (n : Nat) :
    Acc (fun _ => False) (fun _ => True) (operationDefinition n) (fun _ => IsOperation) := by
  rw [operationDefinition_eq]
  apply acc_peek
  intro k
  have hselset := acc_selectionSet (E := fun _ => False) n
  have hSel : Acc (fun _ => False) (fun _ => True) (opSel n) (fun _ x => ∃ ss, ss ≠ Ast.Sels.nil ∧ x = Ast.tSelSet ss) :=
    acc_ifKind .lCurly _ _ _ hselset acc_errAndPop
  have hDirs : Acc (fun _ => False) (fun _ => True) (optKind .at (directives n false) (opSel n))
      (fun _ x => ∃ ds ss, ss ≠ Ast.Sels.nil ∧ x = Ast.tDirectives ds ++ Ast.tSelSet ss) := by
    refine (acc_optKind early_false .at (directives n false) (opSel n) _ _ (acc_directives n false) hSel).mono (fun _ h => h) ?_
    rintro _ x ⟨x1, x2, e, h1, ss, hne, h2⟩
    rcases h1 with ⟨ds, hd, _⟩ | h1
    · exact ⟨ds, ss, hne, by rw [e, hd, h2]⟩
    · exact ⟨[], ss, hne, by rw [e, h1, h2]; rfl⟩
  have hVars : Acc (fun _ => False) (fun _ => True) (optKind .lParen (variableDefinitions n) (optKind .at (directives n false) (opSel n)))
      (fun _ x => ∃ vs ds ss, ss ≠ Ast.Sels.nil ∧ x = Ast.tVarDefs vs ++ Ast.tDirectives ds ++ Ast.tSelSet ss) := by
    refine (acc_optKind early_false .lParen (variableDefinitions n) _ _ _ (acc_variableDefinitions n) hDirs).mono (fun _ h => h) ?_
    rintro _ x ⟨x1, x2, e, h1, ds, ss, hne, h2⟩
    rcases h1 with ⟨vs, _, hv⟩ | h1
    · exact ⟨vs, ds, ss, hne, by rw [e, hv, h2, List.append_assoc]⟩
    · exact ⟨[], ds, ss, hne, by rw [e, h1, h2]; simp [Ast.tVarDefs]⟩
  have hName : Acc (fun _ => False) (fun _ => True)
      (optKind .name name (optKind .lParen (variableDefinitions n) (optKind .at (directives n false) (opSel n))))
      (fun _ x => ∃ (nm : Option Ast.Str) (vs : List Ast.VarDef) (ds : List Ast.Directive) (ss : Ast.Sels), ss ≠ Ast.Sels.nil ∧
        x = (match nm with | some n => [.name n] | none => []) ++ Ast.tVarDefs vs ++ Ast.tDirectives ds ++ Ast.tSelSet ss) := by
    refine (acc_optKind early_false .name name _ _ _ acc_name hVars).mono (fun _ h => h) ?_
    rintro _ x ⟨x1, x2, e, h1, vs, ds, ss, hne, h2⟩
    rcases h1 with ⟨nm, h1⟩ | h1
    · exact ⟨some nm, vs, ds, ss, hne, by rw [e, h1, h2]; simp [List.append_assoc]⟩
    · exact ⟨none, vs, ds, ss, hne, by rw [e, h1, h2]; simp [List.append_assoc]⟩
  have hOp : Acc (fun _ => False) (KindP (· == Kind.name)) (opBody n)
      (fun _ x => ∃ (ty : Ast.OpType) (nm : Option Ast.Str) (vs : List Ast.VarDef) (ds : List Ast.Directive) (ss : Ast.Sels),
        ss ≠ Ast.Sels.nil ∧ x = tOperation ty nm vs ds ss) := by
    refine (acc_bind early_false (acc_operationType early_false) (fun _ => hName)).mono (fun _ h => h) ?_
    rintro _ x ⟨_, x1, x2, e, ⟨ty, h1⟩, nm, vs, ds, ss, hne, h2⟩
    exact ⟨ty, nm, vs, ds, ss, hne, by rw [e, h1, h2]; cases nm <;> simp [tOperation, List.append_assoc]⟩
  have hkind : ∀ (k0 : Kind) (q : List Tok), (True ∧ q.head?.map (·.kind) = some k0) → KindP (· == k0) q := by
    intro k0 q hq
    obtain ⟨_, hq2⟩ := hq
    cases hh : q.head? with
    | none => rw [hh] at hq2; cases hq2
    | some t => rw [hh] at hq2; exact ⟨t, hh, by simpa using hq2⟩
  cases k with
  | none => exact acc_errAndPop
  | some kk =>
    cases kk <;> first
      | exact acc_errAndPop
      | exact (acc_withNode early_false _ (kindP_sig _ lCurly_sig) hselset).mono (hkind .lCurly)
          (by rintro _ x ⟨ss, hne, rfl⟩; exact ⟨ss, hne, Or.inr rfl⟩)
      | exact (acc_withNode early_false _ (kindP_sig _ name_sig) hOp).mono (hkind .name)
          (by rintro _ x ⟨ty, nm, vs, ds, ss, hne, rfl⟩
              exact ⟨ss, hne, Or.inl ⟨ty, nm, vs, ds, (tOperation_eq ty nm vs ds ss)⟩⟩)

/-! ### fragment definition -/

def fragSel (n : Nat) : PI Unit := peek >>= fun k => if k == some Kind.lCurly then selectionSet n else err
def fragBody (n : Nat) : PI Unit :=
  bump "fragment_KW" >>= fun _ => fragmentName >>= fun _ => typeCondition >>= fun _ => optKind .at (directives n false) (fragSel n)

/-- the body of `fragment_definition`: a description in front is reported (`err_and_pop`), then the definition proper -/
def fragGuard (n : Nat) : PI Unit := optKind .stringValue errAndPop (fragBody n)

theorem fragmentDefinition_eq (n : Nat) : fragmentDefinition n = withNode "FRAGMENT_DEFINITION" (fragGuard n) := rfl

/-- `err_and_pop` followed by anything: never error-free -/
theorem acc_errAndPop' {α : Type} {E : PState → Prop} {H : List Tok → Prop} (rest : PI α) (hg : Good rest)
    {R : α → List Ast.Tok → Prop} : Acc E H (errAndPop >>= fun _ => rest) R := by
  refine ⟨good_bind _ _ good_errAndPop (fun _ => hg), ?_⟩
  intro s a s' w he _ hr hnd
  exfalso
  obtain ⟨_, s1, h1, h2⟩ := bind_dec errAndPop _ s s' a hr
  have ad := good_errAndPop s () s1 w h1
  have hnds : ¬ Doomed s := fun dd => hnd ((hg s1 a s' ad.w h2).doom (ad.doom dd))
  exact hnd ((hg s1 a s' ad.w h2).doom
    (valueErr_dooms true s s1 w (eofEnd_nonempty s he hnds) (by simpa [valueErr] using h1)))

def AtFragmentKw (q : List Tok) : Prop := HeadP (fun t => t.kind = .name ∧ t.data = "fragment".toList) q

def IsFragment (x : List Ast.Tok) : Prop :=
  ∃ name tc dirs sels, sels ≠ Ast.Sels.nil ∧ name ≠ sOnP ∧ x = Ast.tDefinition false (.fragment name tc dirs sels)

theorem acc_fragBody (n : Nat) : Acc (fun _ => False) AtFragmentKw (fragBody n) (fun _ => IsFragment) := by
  have hP : TokOk (fun t : Tok => t.kind = .name ∧ t.data = "fragment".toList) (fun x => x = [.name "fragment".toList]) := by
    rintro t ⟨hk, hd⟩
    exact ⟨by rw [hk]; rfl, by rw [hk]; decide, .name "fragment".toList, by simp [astOfV, hk, hd], rfl⟩
  have hSel : Acc (fun _ => False) (fun _ => True) (fragSel n) (fun _ x => ∃ ss, ss ≠ Ast.Sels.nil ∧ x = Ast.tSelSet ss) :=
    acc_ifKind .lCurly _ _ _ (acc_selectionSet n) acc_err
  have hDirs : Acc (fun _ => False) (fun _ => True) (optKind .at (directives n false) (fragSel n))
      (fun _ x => ∃ ds ss, ss ≠ Ast.Sels.nil ∧ x = Ast.tDirectives ds ++ Ast.tSelSet ss) := by
    refine (acc_optKind early_false .at (directives n false) (fragSel n) _ _ (acc_directives n false) hSel).mono (fun _ h => h) ?_
    rintro _ x ⟨x1, x2, e, h1, ss, hne, h2⟩
    rcases h1 with ⟨ds, hd, _⟩ | h1
    · exact ⟨ds, ss, hne, by rw [e, hd, h2]⟩
    · exact ⟨[], ss, hne, by rw [e, h1, h2]; rfl⟩
  have h3 := acc_bind early_false (acc_typeCondition (H := fun _ => True) early_false) (fun _ => hDirs)
  have h2 := acc_bind early_false (acc_fragmentName (H := fun _ => True) early_false) (fun _ => h3)
  have h1 := acc_bind early_false (acc_bump (E := fun _ => False) "fragment_KW" _ _ hP) (fun _ => h2)
  refine h1.mono (fun _ h => h) ?_
  rintro _ x ⟨_, x1, x2, e, hx1, _, y1, y2, e2, ⟨nm, hne, hy1⟩, _, z1, z2, e3, ⟨tc, hz1⟩, ds, ss, hss, hz2⟩
  refine ⟨nm, tc, ds, ss, hss, hne, ?_⟩
  rw [e, hx1, e2, hy1, e3, hz1, hz2]
  simp [Ast.tDefinition, sOnP, Ast.sOn]

theorem good_fragBody (n : Nat) : Good (fragBody n) := (acc_fragBody n).1

theorem acc_fragmentDefinition (n : Nat) :
    Acc (fun _ => False) AtFragmentKw (fragmentDefinition n) (fun _ => IsFragment) := by
  rw [fragmentDefinition_eq]
  have hP : TokOk (fun t : Tok => t.kind = .name ∧ t.data = "fragment".toList) (fun x => x = [.name "fragment".toList]) := by
    rintro t ⟨hk, hd⟩
    exact ⟨by rw [hk]; rfl, by rw [hk]; decide, .name "fragment".toList, by simp [astOfV, hk, hd], rfl⟩
  refine acc_withNode early_false _ (headP_sig hP) ?_
  have hbody := acc_fragBody n
  -- the description check: the head is the Name `fragment`, so the `err_and_pop` branch is not taken
  unfold fragGuard optKind
  apply acc_peek
  intro k
  refine acc_ite _ (fun hc => acc_absurd (good_bind _ _ good_errAndPop (fun _ => hbody.1)) ?_)
    (fun _ => hbody.mono (fun _ h => h.1) (fun _ _ h => h))
  rintro q ⟨⟨t, hh, hk, _⟩, hkind⟩
  rw [hh] at hkind
  simp only [Option.map_some] at hkind
  rw [← hkind, hk] at hc
  revert hc; decide

/-- **`fragment_definition` entered on a description** (a String token — `document()` selects the definition by the
    token AFTER a description): never error-free. -/
theorem acc_fragmentDefinition_desc (n : Nat) {R : Unit → List Ast.Tok → Prop} :
    Acc (fun _ => False) (HeadP (fun t : Tok => t.kind = .stringValue)) (fragmentDefinition n) R := by
  rw [fragmentDefinition_eq]
  have hP : TokOk (fun t : Tok => t.kind = .stringValue) (fun x => ∃ d, x = [Ast.Tok.str d]) := by
    intro t hk
    exact ⟨by rw [hk]; rfl, by rw [hk]; decide, .str ((Strs.decodeStringToken t.data).getD []), by simp [astOfV, hk], _, rfl⟩
  refine acc_withNode early_false _ (headP_sig hP) ?_
  have hg : Good (fragBody n) := good_fragBody n
  unfold fragGuard optKind
  apply acc_peek
  intro k
  refine acc_ite _ (fun _ => acc_errAndPop' _ hg) (fun hc => acc_absurd hg ?_)
  rintro q ⟨⟨t, hh, hk⟩, hkind⟩
  rw [hh] at hkind
  simp only [Option.map_some] at hkind
  rw [← hkind, hk] at hc
  revert hc; decide

end Apollo.Parse
