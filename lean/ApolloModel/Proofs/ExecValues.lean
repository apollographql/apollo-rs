import ApolloModel.Spec.ExecValues
import ApolloModel.Proofs.ValueCheck
import ApolloModel.Properties.C29
/-!
  C17: proofs for the §5.6 values family at executable positions (`Model.ExecValues` against `Spec.ExecValues`).
-/
set_option linter.unusedVariables false
namespace Apollo.ExecValues
open Apollo Apollo.Spec Apollo.ValueCheck Apollo.ValueCheck.Spec

theorem varDefined_checkVars (vars : List XVarDef) (n : Name) :
    varDefined (checkVars vars) n = vars.any fun v => v.name == n := by
  simp [varDefined, checkVars, List.any_map, Function.comp_def]

theorem find_checkVars (vars : List XVarDef) (n : Name) :
    (checkVars vars).find? (fun v => v.name == n) = (vars.find? fun v => v.name == n).map fun v => { name := v.name, ty := v.ty } := by
  induction vars with
  | nil => rfl
  | cons v rest ih =>
    simp only [checkVars, List.map_cons, List.find?_cons]
    by_cases h : (v.name == n) = true
    · simp [h]
    · simp only [h]; exact ih

/-! ### the two relations by the form of the value -/

theorem opaqueOK_variable {vars : List XVarDef} {n : Name} :
    OpaqueOK vars (.variable n) ↔ (vars.any fun v => v.name == n) = true :=
  ⟨fun h => by cases h with | leaf _ hl => exact False.elim hl | «variable» _ hd => exact hd, .variable n⟩

theorem opaqueOK_list {vars : List XVarDef} {vs : Values} : OpaqueOK vars (.list vs) ↔ ∀ v ∈ vs.toList, OpaqueOK vars v :=
  ⟨fun h => by cases h with | leaf _ hl => exact False.elim hl | list _ h => exact h, .list vs⟩

theorem opaqueOK_object {vars : List XVarDef} {fs : Fields} :
    OpaqueOK vars (.object fs) ↔ fs.names.Nodup ∧ ∀ p ∈ fs.toList, OpaqueOK vars p.2 :=
  ⟨fun h => by cases h with | leaf _ hl => exact False.elim hl | object _ h1 h2 => exact ⟨h1, h2⟩, fun h => .object fs h.1 h.2⟩

section
variable {S : Schema} {vars : List XVarDef} {rule : VarRule} {ty : ValueCheck.Ty} {hd : Bool}

theorem coercesV_leaf {v : Value} (hl : IsLeaf v) : CoercesV S vars rule ty hd v ↔ Coerces S ty v :=
  ⟨fun h => by cases h with | leaf _ _ _ _ h => exact h | _ => exact False.elim hl, .leaf ty hd v hl⟩

theorem coercesV_variable {n : Name} :
    CoercesV S vars rule ty hd (.variable n) ↔ ∃ vd, vars.find? (fun v => v.name == n) = some vd ∧ rule vd ty hd :=
  ⟨fun h => by cases h with | leaf _ _ _ hl _ => exact False.elim hl | «variable» _ _ _ vd hf hr => exact ⟨vd, hf, hr⟩,
    fun ⟨vd, hf, hr⟩ => .variable ty hd n vd hf hr⟩

theorem coercesV_list {vs : Values} :
    CoercesV S vars rule ty hd (.list vs) ↔
      (ty.isList = true ∧ ∀ v ∈ vs.toList, CoercesV S vars rule ty.itemType false v) ∨
        (ty.isList = false ∧ S.lookup ty.innerNamed = some (.scalar false) ∧ OpaqueOK vars (.list vs)) := by
  constructor
  · intro h
    cases h with
    | leaf _ _ _ hl _ => exact False.elim hl
    | listItems _ _ _ h1 h2 => exact .inl ⟨h1, h2⟩
    | customList _ _ _ h1 h2 h3 => exact .inr ⟨h1, h2, h3⟩
  · rintro (⟨h1, h2⟩ | ⟨h1, h2, h3⟩)
    · exact .listItems ty hd vs h1 h2
    · exact .customList ty hd vs h1 h2 h3

theorem coercesV_object {fs : Fields} :
    CoercesV S vars rule ty hd (.object fs) ↔
      (S.lookup ty.innerNamed = some (.scalar false) ∧ OpaqueOK vars (.object fs)) ∨
        ∃ fields, S.lookup ty.innerNamed = some (.input fields) ∧ fs.names.Nodup ∧
          (∀ name ∈ fs.names, ∃ f ∈ fields, f.name = name) ∧
          (∀ f ∈ fields, InField.required f → f.name ∈ fs.names ∧ ∀ p ∈ fs.toList, p.1 = f.name → p.2 ≠ .null) ∧
          ∀ p ∈ fs.toList, ∀ f ∈ fields, f.name = p.1 → CoercesV S vars rule f.ty f.hasDefault p.2 := by
  constructor
  · intro h
    cases h with
    | leaf _ _ _ hl _ => exact False.elim hl
    | customObject _ _ _ h1 h2 => exact .inl ⟨h1, h2⟩
    | inputObject _ _ fields _ h1 h2 h3 h4 h5 => exact .inr ⟨fields, h1, h2, h3, h4, h5⟩
  · rintro (⟨h1, h2⟩ | ⟨fields, h1, h2, h3, h4, h5⟩)
    · exact .customObject ty hd fs h1 h2
    · exact .inputObject ty hd fields fs h1 h2 h3 h4 h5

end

/-! ### the custom-scalar descent -/

mutual
theorem opaqueV_iff (vars : List XVarDef) : ∀ (v : Value), opaqueDiags (checkVars vars) v = [] ↔ OpaqueOK vars v
  | .int i => by simp [opaqueDiags]; exact .leaf _ trivial
  | .float b => by simp [opaqueDiags]; exact .leaf _ trivial
  | .string => by simp [opaqueDiags]; exact .leaf _ trivial
  | .boolean => by simp [opaqueDiags]; exact .leaf _ trivial
  | .null => by simp [opaqueDiags]; exact .leaf _ trivial
  | .enum e => by simp [opaqueDiags]; exact .leaf _ trivial
  | .variable n => by
    simp only [opaqueDiags, varDefined_checkVars, opaqueOK_variable]
    split <;> simp_all
  | .list vs => by
    simp only [opaqueDiags]
    rw [opaqueListV_iff vars vs, opaqueOK_list]
  | .object fs => by
    simp only [opaqueDiags]
    rw [List.append_eq_nil_iff, uniqueDiags_iff, opaqueFieldsV_iff vars fs, opaqueOK_object]
theorem opaqueListV_iff (vars : List XVarDef) : ∀ (vs : Values), opaqueList (checkVars vars) vs = [] ↔ ∀ v ∈ vs.toList, OpaqueOK vars v
  | .nil => by simp [opaqueList, Values.toList]
  | .cons v tl => by
    simp only [opaqueList, Values.toList, List.mem_cons, forall_eq_or_imp]
    rw [List.append_eq_nil_iff, opaqueV_iff vars v, opaqueListV_iff vars tl]
theorem opaqueFieldsV_iff (vars : List XVarDef) : ∀ (fs : Fields), opaqueFields (checkVars vars) fs = [] ↔ ∀ p ∈ fs.toList, OpaqueOK vars p.2
  | .nil => by simp [opaqueFields, Fields.toList]
  | .cons n v tl => by
    simp only [opaqueFields, Fields.toList, List.mem_cons, forall_eq_or_imp]
    rw [List.append_eq_nil_iff, opaqueV_iff vars v, opaqueFieldsV_iff vars tl]
end

theorem check_leaf (S : Schema) (vs : List VarDef) (ty : ValueCheck.Ty) (v : Value) (h : IsLeaf v) :
    check S vs ty v = check S [] ty v := by
  cases v <;> simp [IsLeaf] at h <;> simp [check]

theorem innerNamed_itemType (ty : ValueCheck.Ty) : ty.itemType.innerNamed = ty.innerNamed := by
  cases ty <;> simp [Ty.itemType, Ty.innerNamed]

theorem isInput_iff (td : TypeDef) : td.isInputType = true ↔ td ≠ .other := by cases td <;> simp [TypeDef.isInputType]

theorem leaf_case (S : Schema) (hS : Closed S) (vars : List XVarDef) (rule : VarRule) (v : Value) (hl : IsLeaf v)
    (ty : ValueCheck.Ty) (hd : Bool) (hdef : Defined S ty) :
    check S (checkVars vars) ty v = [] ↔ CoercesV S vars rule ty hd v := by
  rw [check_leaf S _ ty v hl, value_rule_iff_spec S hS ty hdef v, coercesV_leaf hl]

mutual
theorem checkV_iff (S : Schema) (hS : Closed S) (vars : List XVarDef) : ∀ (v : Value) (ty : ValueCheck.Ty) (hd : Bool), Defined S ty →
    (check S (checkVars vars) ty v = [] ↔ CoercesV S vars (NamedRule S) ty hd v)
  | .int i, ty, hd, hdef => leaf_case S hS vars _ (.int i) (by simp [IsLeaf]) ty hd hdef
  | .float b, ty, hd, hdef => leaf_case S hS vars _ (.float b) (by simp [IsLeaf]) ty hd hdef
  | .string, ty, hd, hdef => leaf_case S hS vars _ .string (by simp [IsLeaf]) ty hd hdef
  | .boolean, ty, hd, hdef => leaf_case S hS vars _ .boolean (by simp [IsLeaf]) ty hd hdef
  | .null, ty, hd, hdef => leaf_case S hS vars _ .null (by simp [IsLeaf]) ty hd hdef
  | .enum e, ty, hd, hdef => leaf_case S hS vars _ (.enum e) (by simp [IsLeaf]) ty hd hdef
  | .variable n, ty, hd, hdef => by
    obtain ⟨td, hl, hin⟩ := hdef
    rw [coercesV_variable]
    simp only [check, hl, variableDiags, find_checkVars]
    cases hf : vars.find? (fun v => v.name == n) with
    | none => simp
    | some vd =>
      have hrule : NamedRule S vd ty hd ↔ vd.ty.innerNamed = ty.innerNamed := ⟨fun h => h.2, fun h => ⟨⟨td, hl, hin⟩, h⟩⟩
      simp only [Option.map_some, Option.some.injEq, exists_eq_left', hrule]
      cases td <;> simp_all [TypeDef.isInputType]
  | .list vs, ty, hd, hdef => by
    obtain ⟨td, hl, hin⟩ := hdef
    rw [coercesV_list, opaqueOK_list, ← opaqueListV_iff vars vs]
    cases hlist : ty.isList with
    | true =>
      have hdi : Defined S ty.itemType := ⟨td, by rw [innerNamed_itemType]; exact hl, hin⟩
      simp [check, hl, hlist, hin, checkItemsV_iff S hS vars vs ty.itemType hdi]
    | false =>
      by_cases hc : td = .scalar false
      · subst hc
        simp [check, hl, hlist]
      · simp [check, hl, hlist, hc]
  | .object fs, ty, hd, hdef => by
    obtain ⟨td, hl, hin⟩ := hdef
    rw [coercesV_object, opaqueOK_object, ← opaqueFieldsV_iff vars fs]
    simp only [check, hl, Option.some.injEq]
    cases td with
    | other => simp [TypeDef.isInputType] at hin
    | scalar b => cases b <;> simp [uniqueDiags_iff]
    | enum vs => simp
    | input fields =>
      have hfields : ∀ f ∈ fields, Defined S f.ty := hS _ fields hl
      simp only [reduceCtorEq, false_and, false_or, TypeDef.input.injEq, exists_eq_left']
      rw [List.append_eq_nil_iff, List.append_eq_nil_iff, uniqueDiags_iff, undefinedFieldDiags_iff, List.flatMap_eq_nil_iff]
      constructor
      · intro ⟨⟨hnd, hdefd⟩, hall⟩
        refine ⟨hnd, hdefd, fun f hf => ?_, fun p hp f hf hname => ?_⟩
        · exact (requiredDiags_iff f fs).mp (List.append_eq_nil_iff.mp (hall f hf)).1
        · apply (checkFirstV_iff S hS vars fs f.ty f.hasDefault f.name (hfields f hf)).mp
            (List.append_eq_nil_iff.mp (hall f hf)).2
          rw [first_iff_mem f.name p.2 fs hnd, hname]
          exact hp
      · intro ⟨hnd, hdefd, hreq, hco⟩
        refine ⟨⟨hnd, hdefd⟩, fun f hf => List.append_eq_nil_iff.mpr ⟨(requiredDiags_iff f fs).mpr (hreq f hf), ?_⟩⟩
        rw [checkFirstV_iff S hS vars fs f.ty f.hasDefault f.name (hfields f hf)]
        exact fun v hv => hco (f.name, v) (first_mem f.name v fs hv) f hf rfl
theorem checkItemsV_iff (S : Schema) (hS : Closed S) (vars : List XVarDef) : ∀ (vs : Values) (ty : ValueCheck.Ty), Defined S ty →
    (checkItems S (checkVars vars) ty vs = [] ↔ ∀ v ∈ vs.toList, CoercesV S vars (NamedRule S) ty false v)
  | .nil, ty, _ => by simp [checkItems, Values.toList]
  | .cons v tl, ty, hdef => by
    simp only [checkItems, Values.toList, List.mem_cons, forall_eq_or_imp]
    rw [List.append_eq_nil_iff, checkV_iff S hS vars v ty false hdef, checkItemsV_iff S hS vars tl ty hdef]
theorem checkFirstV_iff (S : Schema) (hS : Closed S) (vars : List XVarDef) : ∀ (fs : Fields) (ty : ValueCheck.Ty) (hd : Bool) (name : Name), Defined S ty →
    (checkFirst S (checkVars vars) ty name fs = [] ↔ ∀ v, fs.first name = some v → CoercesV S vars (NamedRule S) ty hd v)
  | .nil, ty, hd, name, _ => by simp [checkFirst, Fields.first]
  | .cons n x tl, ty, hd, name, hdef => by
    simp only [checkFirst, Fields.first]
    by_cases hn : (n == name) = true
    · simp only [hn, if_true]
      rw [checkV_iff S hS vars x ty hd hdef]
      constructor
      · intro h v hv; rw [← Option.some.inj hv]; exact h
      · intro h; exact h x rfl
    · simp only [hn]
      exact checkFirstV_iff S hS vars tl ty hd name hdef
end

theorem arg_values_iff (S : Schema) (hS : Closed S) (vars : List XVarDef) (ty : ValueCheck.Ty) (hd : Bool) (v : Value)
    (hdef : Defined S ty) : argValueDiags S vars ty hd v = [] ↔ ExecArgOK S vars ty hd v := by
  unfold argValueDiags ExecArgOK
  by_cases hf : usageFails vars ty hd v = true
  · simp only [hf, if_true, reduceCtorEq, false_iff]
    rintro ⟨h1, _⟩
    cases v with
    | «variable» n =>
      simp only [usageFails] at hf
      cases hfind : vars.find? (fun x => x.name == n) with
      | none => simp [hfind] at hf
      | some vd =>
        simp only [hfind, Bool.not_eq_true'] at hf
        have := h1 n vd rfl hfind
        simp only [UsageRule, ← C29.usage_allowed_iff] at this
        rw [hf] at this; cases this
    | _ => simp [usageFails] at hf
  · simp only [hf, Bool.false_eq_true, if_false, List.map_eq_nil_iff]
    rw [checkV_iff S hS vars v ty hd hdef]
    constructor
    · intro h
      refine ⟨?_, h⟩
      intro n vd hv hfind
      subst hv
      simp only [usageFails, hfind, Bool.not_eq_true', Bool.not_eq_false] at hf
      simp only [UsageRule, ← C29.usage_allowed_iff]
      exact hf
    · exact fun h => h.2

/-! ### the specification's rule for variables implies the code's -/

def STy.inner : STy → String
  | .named n => n
  | .list t => STy.inner t
  | .nonNull t => STy.inner t

theorem compat_inner : ∀ (a b : STy), STy.compat a b = true → STy.inner a = STy.inner b
  | .nonNull v, .nonNull l, h => by simp only [STy.compat] at h; simpa [STy.inner] using compat_inner v l h
  | .named _, .nonNull _, h => by simp [STy.compat] at h
  | .list _, .nonNull _, h => by simp [STy.compat] at h
  | .nonNull v, .named l, h => by simp only [STy.compat] at h; simpa [STy.inner] using compat_inner v (.named l) h
  | .nonNull v, .list l, h => by simp only [STy.compat] at h; simpa [STy.inner] using compat_inner v (.list l) h
  | .list v, .list l, h => by simp only [STy.compat] at h; simpa [STy.inner] using compat_inner v l h
  | .named _, .list _, h => by simp [STy.compat] at h
  | .list _, .named _, h => by simp [STy.compat] at h
  | .named a, .named b, h => by simpa [STy.compat, STy.inner] using h

theorem inner_embed (t : ValueCheck.Ty) : STy.inner (embed (toTy t)) = t.innerNamed := by
  induction t with
  | named n => rfl
  | nonNullNamed n => rfl
  | list t ih => simpa [toTy, embed, STy.inner, ValueCheck.Ty.innerNamed] using ih
  | nonNullList t ih => simpa [toTy, embed, STy.inner, ValueCheck.Ty.innerNamed] using ih

theorem usage_inner (vd : XVarDef) (ty : ValueCheck.Ty) (hd : Bool) (h : UsageRule vd ty hd) :
    vd.ty.innerNamed = ty.innerNamed := by
  unfold UsageRule variableUsageAllowed at h
  rw [← inner_embed vd.ty, ← inner_embed ty]
  split at h
  · rename_i nl heq1 heq2
    simp only [] at h
    by_cases hc : (!(vd.default == DefaultValue.nonNullValue) && !hd) = true
    · simp [hc] at h
    · simp only [hc, Bool.false_eq_true, if_false] at h
      have := compat_inner _ _ h
      rw [this, heq1]; rfl
  · exact compat_inner _ _ h

/-- a value accepted when every variable, wherever it stands, passes IsVariableUsageAllowed at its position
    (`UsageRule`, §5.8.5) is accepted when a variable is only asked to have the position's named type (`NamedRule`,
    what `value_of_correct_type` asks inside literals); `spec_value_accepted` below is SPEC ⇒ CODE for one argument -/
theorem coercesV_usage_to_named (S : Schema) (hS : Closed S) (vars : List XVarDef) :
    ∀ (ty : ValueCheck.Ty) (hd : Bool) (v : Value), CoercesV S vars UsageRule ty hd v → Defined S ty →
      CoercesV S vars (NamedRule S) ty hd v := by
  intro ty hd v h
  induction h with
  | leaf ty hd v hl hc => intro _; exact .leaf ty hd v hl hc
  | «variable» ty hd n vd hf hr => intro hdef; exact .variable ty hd n vd hf ⟨hdef, usage_inner vd ty hd hr⟩
  | listItems ty hd vs hl _ ih =>
    intro hdef
    obtain ⟨td, hlk, hin⟩ := hdef
    exact .listItems ty hd vs hl (fun v hv => ih v hv ⟨td, by rw [innerNamed_itemType]; exact hlk, hin⟩)
  | customList ty hd vs h1 h2 h3 => intro _; exact .customList ty hd vs h1 h2 h3
  | customObject ty hd fs h1 h2 => intro _; exact .customObject ty hd fs h1 h2
  | inputObject ty hd fields fs h1 h2 h3 h4 _ ih =>
    intro _
    exact .inputObject ty hd fields fs h1 h2 h3 h4 (fun p hp f hf hn => ih p hp f hf hn (hS _ fields h1 f hf))

theorem spec_value_accepted (S : Schema) (hS : Closed S) (vars : List XVarDef) (ty : ValueCheck.Ty) (hd : Bool) (v : Value)
    (hdef : Defined S ty) (h : CoercesV S vars UsageRule ty hd v) : argValueDiags S vars ty hd v = [] := by
  rw [arg_values_iff S hS vars ty hd v hdef]
  refine ⟨?_, coercesV_usage_to_named S hS vars ty hd v h hdef⟩
  intro n vd hv hfind
  subst hv
  obtain ⟨vd', hf, hr⟩ := coercesV_variable.mp h
  rw [hfind] at hf
  cases hf
  exact hr


theorem varFreeList_mem : ∀ (vs : Values), varFreeList vs = true → ∀ v ∈ vs.toList, varFree v = true
  | .nil, _, v, hv => by simp [Values.toList] at hv
  | .cons x tl, h, v, hv => by
    simp only [varFreeList, Bool.and_eq_true] at h
    simp only [Values.toList, List.mem_cons] at hv
    rcases hv with rfl | hv
    · exact h.1
    · exact varFreeList_mem tl h.2 v hv

theorem varFreeFields_mem : ∀ (fs : Fields), varFreeFields fs = true → ∀ p ∈ fs.toList, varFree p.2 = true
  | .nil, _, p, hp => by simp [Fields.toList] at hp
  | .cons n x tl, h, p, hp => by
    simp only [varFreeFields, Bool.and_eq_true] at h
    simp only [Fields.toList, List.mem_cons] at hp
    rcases hp with rfl | hp
    · exact h.1
    · exact varFreeFields_mem tl h.2 p hp

theorem coercesV_varFree (S : Schema) (vars : List XVarDef) (r r' : VarRule) :
    ∀ (ty : ValueCheck.Ty) (hd : Bool) (v : Value), CoercesV S vars r ty hd v → varFree v = true → CoercesV S vars r' ty hd v := by
  intro ty hd v h
  induction h with
  | leaf ty hd v hl hc => intro _; exact .leaf ty hd v hl hc
  | «variable» ty hd n vd hf hr => intro hv; simp [varFree] at hv
  | listItems ty hd vs hl _ ih =>
    intro hv
    simp only [varFree] at hv
    exact .listItems ty hd vs hl (fun v hm => ih v hm (varFreeList_mem vs hv v hm))
  | customList ty hd vs h1 h2 h3 => intro _; exact .customList ty hd vs h1 h2 h3
  | customObject ty hd fs h1 h2 => intro _; exact .customObject ty hd fs h1 h2
  | inputObject ty hd fields fs h1 h2 h3 h4 _ ih =>
    intro hv
    simp only [varFree] at hv
    exact .inputObject ty hd fields fs h1 h2 h3 h4 (fun p hp f hf hn => ih p hp f hf hn (varFreeFields_mem fs hv p hp))


/-- §5.6 + §5.8.5 for one argument, EXACT when no variable stands inside a list or object literal: the code
    reports nothing iff the value is a value of the argument's type, a variable being judged by
    IsVariableUsageAllowed (the remaining case is the known finding `nested-position`) -/
theorem arg_values_iff_spec (S : Schema) (hS : Closed S) (vars : List XVarDef) (ty : ValueCheck.Ty) (hd : Bool) (v : Value)
    (hdef : Defined S ty) (hn : NoNestedVariable v) :
    argValueDiags S vars ty hd v = [] ↔ CoercesV S vars UsageRule ty hd v := by
  constructor
  · intro h
    obtain ⟨h1, h2⟩ := (arg_values_iff S hS vars ty hd v hdef).mp h
    rcases hn with ⟨n, rfl⟩ | hvf
    · obtain ⟨vd, hf, _⟩ := coercesV_variable.mp h2
      exact .variable ty hd n vd hf (h1 n vd rfl hf)
    · exact coercesV_varFree S vars _ _ ty hd v h2 hvf
  · exact spec_value_accepted S hS vars ty hd v hdef

end Apollo.ExecValues
