import ApolloModel.Proofs.AstText6
import ApolloModel.Proofs.AstValues
import ApolloModel.Proofs.ParserType10
/-
C10: the text that `Display for ast::Type` prints (ast/serialize.rs), for every type reference of
unbounded nesting, lexes (Model/Lexer.lean) to exactly the tokens of the type followed by EOF, with no
ignored token and no error item — proved directly with `lex_name` / `lex_punctuator`; the type entry point of the
parser accepts that text without error up to the recursion limit (`parseType_tyText`).
-/
namespace Apollo.Ast
open Apollo.Lex (advance lex Item Kind punctuationKind isNameStart isNameContinue lex_punctuator lex_name)

/-- `impl fmt::Display for Type`: `{name}`, `{name}!`, `[{inner}]`, `[{inner}]!` -/
def tyText : Ty → Str
  | .named n => n
  | .nonNullNamed n => n ++ ['!']
  | .list t => '[' :: tyText t ++ [']']
  | .nonNullList t => '[' :: tyText t ++ [']', '!']

/-- the names of a type are `Name`s (`[_A-Za-z][_0-9A-Za-z]*`) -/
def tyNamesWf : Ty → Bool
  | .named n | .nonNullNamed n => wfName n
  | .list t | .nonNullList t => tyNamesWf t

def tyItems : Ty → List Item
  | .named n => [.tok .name n]
  | .nonNullNamed n => [.tok .name n, .tok .bang ['!']]
  | .list t => .tok .lBracket ['['] :: tyItems t ++ [.tok .rBracket [']']]
  | .nonNullList t => .tok .lBracket ['['] :: tyItems t ++ [.tok .rBracket [']'], .tok .bang ['!']]

def NameBreak : Str → Prop
  | [] => True
  | c :: _ => isNameContinue c = false

theorem takeWhile_append_break (r rest : Str) (hr : r.all isNameContinue = true) (hb : NameBreak rest) :
    (r ++ rest).takeWhile isNameContinue = r ∧ (r ++ rest).dropWhile isNameContinue = rest :=
  Lex.takeWhile_run isNameContinue r rest (List.all_eq_true.mp hr) (by rintro c r rfl; exact hb)

theorem lex_name_text (n rest : Str) (h : wfName n = true) (hb : NameBreak rest) :
    lex none (n ++ rest) = .tok .name n :: lex none rest := by
  cases n with
  | nil => simp [wfName] at h
  | cons c r =>
    simp only [wfName, Bool.and_eq_true] at h
    have ht := takeWhile_append_break r rest h.2 hb
    rw [List.cons_append, lex_cons, lex_name c (r ++ rest) h.1]
    simp only [ht.1, ht.2]

theorem lex_punct_text (c : Char) (k : Kind) (rest : Str) (h : punctuationKind c = some k) :
    lex none (c :: rest) = .tok k [c] :: lex none rest := by
  rw [lex_cons, lex_punctuator c k rest h]

theorem lex_tyText : ∀ (t : Ty) (rest : Str), tyNamesWf t = true → NameBreak rest →
    lex none (tyText t ++ rest) = tyItems t ++ lex none rest
  | .named n, rest, h, hb => by simpa [tyText, tyItems] using lex_name_text n rest h hb
  | .nonNullNamed n, rest, h, _ => by
    have h1 := lex_name_text n ('!' :: rest) h (by simp [NameBreak]; decide)
    simp only [tyText, tyItems, List.append_assoc, List.cons_append, List.nil_append]
    rw [h1, lex_punct_text '!' .bang rest (by decide)]
  | .list t, rest, h, _ => by
    have ih := lex_tyText t (']' :: rest) h (by simp [NameBreak]; decide)
    simp only [tyText, tyItems, List.append_assoc, List.cons_append, List.nil_append]
    rw [lex_punct_text '[' .lBracket _ (by decide), ih, lex_punct_text ']' .rBracket rest (by decide)]
  | .nonNullList t, rest, h, _ => by
    have ih := lex_tyText t (']' :: '!' :: rest) h (by simp [NameBreak]; decide)
    simp only [tyText, tyItems, List.append_assoc, List.cons_append, List.nil_append]
    rw [lex_punct_text '[' .lBracket _ (by decide), ih, lex_punct_text ']' .rBracket _ (by decide),
      lex_punct_text '!' .bang rest (by decide)]

/-- C10: the whole lexer output for the printed text is the type's items, then EOF -/
theorem lex_tyText_whole (t : Ty) (h : tyNamesWf t = true) :
    lex none (tyText t) = tyItems t ++ [.tok .eof []] := by
  have := lex_tyText t [] h trivial
  rwa [List.append_nil, lex_nil] at this

theorem tyItems_no_err_all (t : Ty) : (tyItems t).all (fun it => !it.isErr) = true := by
  induction t with
  | named n => simp [tyItems, Item.isErr]
  | nonNullNamed n => simp [tyItems, Item.isErr]
  | list t ih => simp only [tyItems, List.all_cons, List.all_append, List.all_nil, ih]; rfl
  | nonNullList t ih => simp only [tyItems, List.all_cons, List.all_append, List.all_nil, ih]; rfl

theorem tyItems_no_err (t : Ty) : ∀ it ∈ tyItems t, it.isErr = false := by
  intro it hit
  have := List.all_eq_true.mp (tyItems_no_err_all t) it hit
  simpa using this

/-- the tokens the reference parser sees (C08's view of the lexer output) -/
theorem sigToks_tyItems (t : Ty) (tail : List Item) (ts : List Tok) (h : sigToks tail = some ts) :
    sigToks (tyItems t ++ tail) = some (tTy t ++ ts) := by
  induction t generalizing tail ts with
  | named n => simp [tyItems, tTy, sigToks, sigItem, h]
  | nonNullNamed n => simp [tyItems, tTy, sigToks, sigItem, punctOfKind, h]
  | list t ih =>
    have := ih (.tok .rBracket [']'] :: tail) (.p .rBracket :: ts) (by simp [sigToks, sigItem, punctOfKind, h])
    simp only [tyItems, tTy, List.cons_append, List.append_assoc, List.nil_append]
    simp [sigToks, sigItem, punctOfKind, this]
  | nonNullList t ih =>
    have := ih (.tok .rBracket [']'] :: .tok .bang ['!'] :: tail) (.p .rBracket :: .p .bang :: ts)
      (by simp [sigToks, sigItem, punctOfKind, h])
    simp only [tyItems, tTy, List.cons_append, List.append_assoc, List.nil_append]
    simp [sigToks, sigItem, punctOfKind, this]

theorem sigToks_tyText (t : Ty) (h : tyNamesWf t = true) : sigToks (lex none (tyText t)) = some (tTy t) := by
  rw [lex_tyText_whole t h]
  have := sigToks_tyItems t [.tok .eof []] [] (by simp [sigToks, sigItem])
  simpa using this

end Apollo.Ast

namespace Apollo.Parse
open Apollo.Lex (lex Item Kind)

def tyKDs : Ast.Ty → List (Kind × Str)
  | .named n => [(.name, n)]
  | .nonNullNamed n => [(.name, n), (.bang, ['!'])]
  | .list t => (.lBracket, ['[']) :: tyKDs t ++ [(.rBracket, [']'])]
  | .nonNullList t => (.lBracket, ['[']) :: tyKDs t ++ [(.rBracket, [']']), (.bang, ['!'])]

theorem filterMap_tyItems (t : Ast.Ty) : (Ast.tyItems t).filterMap itemKD = tyKDs t := by
  induction t with
  | named n => rfl
  | nonNullNamed n => rfl
  | list t ih => simp [Ast.tyItems, tyKDs, itemKD, List.filterMap_append, ih]
  | nonNullList t ih => simp [Ast.tyItems, tyKDs, itemKD, List.filterMap_append, ih]

theorem tyKDs_not_ignored_all (t : Ast.Ty) : (tyKDs t).all (fun p => !isIgnoredKind p.1) = true := by
  induction t with
  | named n => simp [tyKDs, isIgnoredKind]
  | nonNullNamed n => simp [tyKDs, isIgnoredKind]
  | list t ih => simp only [tyKDs, List.all_cons, List.all_append, List.all_nil, ih]; rfl
  | nonNullList t ih => simp only [tyKDs, List.all_cons, List.all_append, List.all_nil, ih]; rfl

theorem tyKDs_not_ignored (t : Ast.Ty) : ∀ p ∈ tyKDs t, isIgnoredKind p.1 = false := by
  intro p hp
  have := List.all_eq_true.mp (tyKDs_not_ignored_all t) p hp
  simpa using this

theorem tyKDs_astOf (t : Ast.Ty) : (tyKDs t).map astOfKD = (Ast.tTy t).map some := by
  induction t with
  | named n => rfl
  | nonNullNamed n => rfl
  | list t ih => simp [tyKDs, Ast.tTy, ih, astOfKD, astOf]
  | nonNullList t ih => simp [tyKDs, Ast.tTy, ih, astOfKD, astOf]

theorem lexToks_tyText (t : Ast.Ty) (h : Ast.tyNamesWf t = true) :
    lexToks (Ast.tyText t) = tyKDs t ++ [(.eof, [])] := by
  unfold lexToks
  rw [Ast.lex_tyText_whole t h, List.filterMap_append, filterMap_tyItems]
  rfl

theorem lexSig_tyText (t : Ast.Ty) (h : Ast.tyNamesWf t = true) :
    lexSig (Ast.tyText t) = tyKDs t ++ [(.eof, [])] := by
  unfold lexSig sigKD
  rw [lexToks_tyText t h, List.filter_append]
  have : (tyKDs t).filter (fun p => !isIgnoredKind p.1) = tyKDs t := by
    rw [List.filter_eq_self]
    intro p hp
    simp [tyKDs_not_ignored t p hp]
  rw [this]
  rfl

theorem tyKDs_ne_nil (t : Ast.Ty) : tyKDs t ≠ [] := by cases t <;> simp [tyKDs]

/-- **the type entry point accepts the printed text**, for every nesting up to the recursion limit -/
theorem parseType_tyText (rl : Nat) (t : Ast.Ty) (h : Ast.tyNamesWf t = true) (hd : tyDepth t ≤ rl) :
    (parse .type none rl (Ast.tyText t)).errors = [] := by
  refine parseType_complete_lex rl (Ast.tyText t) t (tyKDs t) (.eof, [])
    (fun it hit => ?_) (lexSig_tyText t h) rfl (tyKDs_astOf t) hd ?_
  · rw [Ast.lex_tyText_whole t h] at hit
    rcases List.mem_append.mp hit with h1 | h1
    · exact Ast.tyItems_no_err t it h1
    · have : it = .tok .eof [] := by simpa using h1
      rw [this]; rfl
  · intro p hp
    rw [lexToks_tyText t h] at hp
    cases hk : tyKDs t with
    | nil => exact absurd hk (tyKDs_ne_nil t)
    | cons q qs =>
      rw [hk] at hp
      have : p = q := by simpa using hp.symm
      subst this
      exact tyKDs_not_ignored t p (by rw [hk]; exact List.mem_cons_self)

end Apollo.Parse
