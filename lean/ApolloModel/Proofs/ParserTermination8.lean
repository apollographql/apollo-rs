import ApolloModel.Proofs.ParserTermination5
/-
C01, termination: the type-system grammar (input values, fields, enum values, root operation types, separated lists) and
the definition parsers dispatched by document.rs: each terminates, and consumes a token when it is
entered on a description string or on its keyword, so that the `document()` loop makes progress. Then the
dispatch functions, the top-level loop, and `parse_terminates` for all three entry points.
-/
set_option linter.unusedSimpArgs false
set_option linter.unusedVariables false
namespace Apollo.Parse
open Apollo.Rowan hiding Str
open Apollo.Lex hiding Str

theorem gc_description {G : Tok → Prop} (s : PState) (hw : W s) : Term description s (GC G s) :=
  gc_withNode _ _ s hw fun s2 hw2 _ => gc_withNode _ _ s2 hw2 fun s3 hw3 _ => gc_bump _ s3 hw3

theorem tb_defaultValue {B n : Nat} (hb : 4 * B + 4 ≤ n) : TB B (defaultValue n) :=
  tb_withNode (tb_bind tb_bump fun _ => tb_value (by omega))

theorem kind_of_peek {k : Option Kind} {s : PState} {t : Tok} (hk : k = s.current.map (·.kind)) (ht : s.current = some t) :
    k = some t.kind := by rw [hk, ht]; rfl

def NameOrString (t : Tok) : Prop := t.kind = .name ∨ t.kind = .stringValue

/-- `if (← peek) == String then description`, then something that consumes a Name: entered on a Name
    or a String, a token is consumed -/
theorem gc_descThen {β : Type} {k : Unit → PI β} (s : PState) (hw : W s)
    (hk : ∀ s1, W s1 → Mm s1 ≤ Mm s → Term (k ()) s1 (GC (fun t => t.kind = .name) s1)) :
    Term (peek >>= fun l => if (l == some Kind.stringValue) = true then description >>= k else k ()) s
      (GC NameOrString s) := by
  refine gc_peek' hw fun l s1 hw1 hM1 hl _ => term_ite (fun _ => ?_) (fun hcond => ?_)
  · exact gc_first (gc_description s1 hw1) fun _ s2 hw2 hM2 => ta_of (hk s2 hw2 (Nat.le_trans hM2 hM1))
  · refine (hk s1 hw1 hM1).weaken fun _ c l hq t ht hg => hq t ht ?_
    rcases hg with h | h
    · exact h
    · exfalso; apply hcond; rw [kind_of_peek hl ht, h]; rfl

/-- `: Type (= default)? directives?` of input values and variable definitions -/
theorem tb_typedTail {B n : Nat} (hb : 4 * B + 4 ≤ n) : TB B (do
    if (← peek) == some .colon then
      bump "COLON"
      let k ← peek
      if k == some .name || k == some .lBracket then
        ty n
        if (← peek) == some .eq then defaultValue n
        if (← peek) == some .at then directives n true
      else err
    else err) :=
  tb_bind tb_peek fun _ => tb_ite (tb_bind tb_bump fun _ => tb_bind tb_peek fun _ => tb_ite
    (tb_bind (tb_ty (by omega)) fun _ => tb_when tb_peek (tb_defaultValue hb) fun _ =>
      tb_bind tb_peek fun _ => tb_ite (tb_directives hb) (tb_pure _)) tb_err) tb_err

theorem gc_inputValueDefinition (n : Nat) (s : PState) (hw : W s) (hb : 4 * Mm s + 4 ≤ n) :
    Term (inputValueDefinition n) s (GC NameOrString s) :=
  gc_withNode _ _ s hw fun s2 hw2 hM2 => gc_descThen s2 hw2 fun s3 hw3 hM3 =>
    gc_first (gc_name s3 hw3) fun _ => tb_typedTail (by omega)

/-- the closure `|kind| if Name|String { body; Continue } else { Break }` of the definition lists -/
theorem nameOrString_closure (body : PI Unit) (kind : Kind) (s : PState) (hw : W s)
    (h : Term body s (GC NameOrString s)) :
    Term (if (kind == Kind.name || kind == Kind.stringValue) = true then (body >>= fun _ => pure true) else pure false) s
      (fun b c l => b = true → ∀ t, s.current = some t → t.kind = kind → StrictT s c l) := by
  split
  · rename_i hc
    refine (gc_first h fun _ => tb_pure true).weaken ?_
    intro _ c l hq _ t ht hk
    refine hq t ht ?_
    rw [← hk] at hc
    simp only [Bool.or_eq_true, beq_iff_eq] at hc
    exact hc
  · exact term_pure false s hw (fun h => by simp at h)

/-- `open item+ close` where the first item is demanded separately: the body of every bracketed list -/
theorem tb_list {B : Nat} {o c : SK} {t : Kind} {cond : Option Kind → Prop} [∀ l, Decidable (cond l)]
    {item loop : PI Unit} (hitem : TB B item) (hloop : TB B loop) :
    TB B (bump o >>= fun _ => peek >>= fun l =>
      if cond l then item >>= fun _ => loop >>= fun _ => expect t c
      else err >>= fun _ => loop >>= fun _ => expect t c) :=
  tb_bind tb_bump fun _ => tb_bind tb_peek fun _ => tb_alt hitem tb_err fun _ => tb_bind hloop fun _ => tb_expect

/-- a bracketed list whose items start with a Name or a String: the first item is demanded, the others
    are read by `peek_while` -/
theorem tb_nameOrStringList {B : Nat} {o c : SK} {t : Kind} {cond : Option Kind → Prop} [∀ l, Decidable (cond l)]
    {item : PI Unit} (h : ∀ s, W s → Mm s ≤ B → Term item s (GC NameOrString s)) :
    TB B (bump o >>= fun _ => peek >>= fun l =>
      if cond l then item >>= fun _ => (peekWhile fun kind =>
          if (kind == Kind.name || kind == Kind.stringValue) = true then (item >>= fun _ => pure true) else pure false) >>=
        fun _ => expect t c
      else err >>= fun _ => (peekWhile fun kind =>
          if (kind == Kind.name || kind == Kind.stringValue) = true then (item >>= fun _ => pure true) else pure false) >>=
        fun _ => expect t c) :=
  tb_list (fun s hw hB => ta_of (h s hw hB))
    (tb_peekWhile fun kind s hw hB => nameOrString_closure item kind s hw (h s hw hB))

theorem gc_variableDefinition (n : Nat) (s : PState) (hw : W s) (hb : 4 * Mm s + 4 ≤ n) :
    Term (variableDefinition n) s (GC GAny s) :=
  gc_withNode _ _ s hw fun s2 hw2 hM2 => gc_first (gc_variableNode s2 hw2) fun _ => tb_typedTail (by omega)

theorem tb_variableDefinitions {B n : Nat} (hb : 4 * B + 4 ≤ n) : TB B (variableDefinitions n) :=
  have h : ∀ s, W s → Mm s ≤ B → Term (variableDefinition n) s (GC GAny s) :=
    fun s hw hB => gc_variableDefinition n s hw (by omega)
  tb_withNode (tb_list (fun s hw hB => ta_of (h s hw hB))
    (tb_peekWhileKind fun s hw hB => gc_weaken (h s hw hB) fun _ _ => trivial))

theorem tb_argumentsDefinitionBody {B n : Nat} (hb : 4 * B + 4 ≤ n) : TB B (argumentsDefinitionBody n) :=
  tb_nameOrStringList fun s hw hB => gc_inputValueDefinition n s hw (by omega)

theorem gc_fieldDefinition (n : Nat) (s : PState) (hw : W s) (hb : 4 * Mm s + 4 ≤ n) :
    Term (fieldDefinition n) s (GC NameOrString s) :=
  gc_withNode _ _ s hw fun s2 hw2 hM2 => gc_descThen s2 hw2 fun s3 hw3 hM3 =>
    gc_first (gc_name s3 hw3) fun _ =>
      tb_when tb_peek (tb_withNode (tb_argumentsDefinitionBody (by omega))) fun _ =>
        tb_bind tb_peek fun _ => tb_ite (tb_bind tb_bump fun _ => tb_bind tb_peek fun _ => tb_ite
          (tb_bind (tb_ty (by omega)) fun _ => tb_when tb_peek (tb_directives (by omega)) fun _ =>
            tb_bind tb_peek fun _ => tb_pure _) tb_err) tb_err

theorem tb_fieldsDefinition {B n : Nat} (hb : 4 * B + 4 ≤ n) : TB B (fieldsDefinition n) :=
  tb_withNode (tb_nameOrStringList fun s hw hB => gc_fieldDefinition n s hw (by omega))

theorem tb_inputFieldsDefinition {B n : Nat} (hb : 4 * B + 4 ≤ n) : TB B (inputFieldsDefinition n) :=
  tb_withNode (tb_nameOrStringList fun s hw hB => gc_inputValueDefinition n s hw (by omega))

theorem gc_operationType {G : Tok → Prop} (s : PState) (hw : W s) : Term operationType s (GC G s) := by
  unfold operationType
  refine gc_peekData hw ?_
  intro d s1 hw1 hM1 hd
  cases d with
  | none =>
    exact term_pure _ s1 hw1 (fun t ht _ => by rw [ht] at hd; simp at hd)
  | some d =>
    refine gc_withNode _ _ s1 hw1 fun s2 hw2 _ => ?_
    exact term_ite (fun _ => gc_bump _ s2 hw2) fun _ => term_ite (fun _ => gc_bump _ s2 hw2) fun _ =>
      term_ite (fun _ => gc_bump _ s2 hw2) fun _ => gc_errAndPop s2 hw2

theorem gc_rootOperationTypeDefinition {G : Tok → Prop} (s : PState) (hw : W s) :
    Term rootOperationTypeDefinition s (GC G s) :=
  gc_withNode _ _ s hw fun s2 hw2 _ => gc_first (gc_operationType s2 hw2) fun _ =>
    tb_bind tb_peek fun _ => tb_ite (tb_bind tb_bump fun _ => tb_namedType) tb_err

theorem tb_parseSeparatedList {B : Nat} {sep : Kind} {k : SK} {run : PI Unit} (hrun : TB B run) :
    TB B (parseSeparatedList sep k run) :=
  tb_when tb_peek tb_bump fun _ => tb_bind hrun fun _ =>
    tb_peekWhileKind fun s hw hB => gc_first (gc_bump _ s hw) fun _ => hrun.mono hB

theorem tb_implementsInterfaces {B : Nat} : TB B implementsInterfaces :=
  tb_withNode (tb_bind tb_bump fun _ => tb_parseSeparatedList (tb_bind tb_peek fun _ => tb_ite tb_namedType tb_err))

theorem tb_unionMemberTypes {B : Nat} : TB B unionMemberTypes :=
  tb_withNode (tb_bind tb_bump fun _ => tb_parseSeparatedList (tb_bind tb_peek fun _ => tb_ite tb_namedType tb_err))

theorem tb_directiveLocations {B : Nat} : TB B directiveLocations := tb_parseSeparatedList tb_directiveLocation

/-! ### the definition parsers -/

/-- how `document()` enters a definition parser: on a description, or on the definition's keyword -/
def DefGuard (kwd : String) (t : Tok) : Prop := t.kind = .stringValue ∨ kw kwd t.data = true

theorem gc_peek2 {β : Type} {G : Tok → Prop} {f : Option Kind → PI β} {s : PState} (hw : W s)
    (h : ∀ k s1, W s1 → Mm s1 ≤ Mm s → k = s1.current.map (·.kind) →
      (s1.current = none → s1.lx.finished = true) → Term (f k) s1 (GC G s1)) :
    Term (peek >>= f) s (GC G s) :=
  gc_look (Q1 := fun k c l => k = c.map (·.kind) ∧ (c = none → l.finished = true))
    ((peek_run' s hw).term.weaken (fun _ _ _ hq => ⟨⟨hq.1, hq.2.1⟩, hq.2.2⟩))
    (fun k s1 hw1 hM1 hq => h k s1 hw1 hM1 hq.1 hq.2)

theorem gc_peekData2 {β : Type} {G : Tok → Prop} {f : Option Str → PI β} {s : PState} (hw : W s)
    (h : ∀ k s1, W s1 → Mm s1 ≤ Mm s → k = s1.current.map (·.data) →
      (s.current.isSome = true → s1.current = s.current) → Term (f k) s1 (GC G s1)) :
    Term (peekData >>= f) s (GC G s) :=
  gc_look (Q1 := fun k c _ => k = c.map (·.data) ∧ (s.current.isSome = true → c = s.current))
    ((peekData_run' s hw).term.weaken (fun _ _ _ hq => ⟨⟨hq.1, fun hs => (hq.2.2 hs).1⟩, hq.2.2⟩))
    (fun k s1 hw1 hM1 hq => h k s1 hw1 hM1 hq.1 hq.2)

/-- `Description? keyword rest`: entered on a description or on the keyword, a token is consumed; the
    rest only has to terminate -/
theorem def_prefix {β : Type} (kwd : String) (K : SK) (rest : Unit → PI β) (s : PState) (hw : W s)
    (hrest : ∀ r, TB (Mm s) (rest r)) :
    Term (peek >>= fun k =>
        if (k == some Kind.stringValue) = true then
          (description >>= fun _ => (peekData >>= fun d =>
            if kwOpt kwd d = true then bump K >>= rest else rest ()))
        else
          (peekData >>= fun d => if kwOpt kwd d = true then bump K >>= rest else rest ())) s
      (GC (DefGuard kwd) s) := by
  refine gc_peek2 hw ?_
  intro k s1 hw1 hM1 hk hfin
  split
  · exact gc_first (gc_description s1 hw1) fun _ => tb_when tb_peekData tb_bump fun r => (hrest r).mono hM1
  · rename_i hcond
    refine gc_peekData2 hw1 ?_
    intro d s2 hw2 hM2 hd hkept
    split
    · exact gc_first (gc_bump _ s2 hw2) fun r => (hrest r).mono (Nat.le_trans hM2 hM1)
    · rename_i hkw
      refine (hrest () s2 hw2 (Nat.le_trans hM2 hM1)).weaken ?_
      intro _ c l _ t ht hg
      exfalso
      rcases hg with h | h
      · -- the peek that saw "not a string" was at `s1`; nothing was consumed since
        cases hc1 : s1.current with
        | none =>
          have h0 := mm_zero_of_done hc1 (hfin hc1)
          have h1 := mm_pos_of_current (s := s2) ⟨t, ht⟩
          omega
        | some t1 =>
          have := hkept (by rw [hc1]; rfl)
          rw [this, hc1] at ht
          cases ht
          apply hcond
          rw [hk, hc1]; simp [h]
      · apply hkw
        rw [hd, ht]
        simp only [Option.map_some, kwOpt, kw] at h ⊢
        simpa using h

theorem gc_enumValueDefinition (n : Nat) (s : PState) (hw : W s) (hb : 4 * Mm s + 4 ≤ n) :
    Term (enumValueDefinition n) s (GC NameOrString s) := by
  refine gc_peek' hw fun k0 s1 hw1 hM1 hk0 _ => term_ite (fun _ => ?_) (fun hcond => ?_)
  · exact gc_withNode _ _ s1 hw1 fun s2 hw2 hM2 => gc_descThen s2 hw2 fun s3 hw3 hM3 =>
      gc_first (enumValue_term s3 hw3) fun _ =>
        tb_bind tb_peek fun _ => tb_ite (tb_directives (by omega)) (tb_pure _)
  · exact term_pure _ s1 hw1 (fun t ht hg => by
      exfalso; apply hcond
      rw [kind_of_peek hk0 ht]
      rcases hg with h | h <;> simp [isNameOrString, h])

theorem tb_enumValuesDefinition {B n : Nat} (hb : 4 * B + 4 ≤ n) : TB B (enumValuesDefinition n) :=
  tb_withNode (tb_nameOrStringList fun s hw hB => gc_enumValueDefinition n s hw (by omega))

theorem tb_rootOpsLoop {β : Type} {B : Nat} {k : Bool → PI β} (hk : ∀ has, TB B (k has)) :
    TB B (srcLen >>= fun len =>
      peekWhileKindFlagLoop Kind.name rootOperationTypeDefinition (len + 3) false >>= k) := by
  intro s hw hB
  apply term_bind (srcLen_run s hw).term
  intro len s1 hw1 _ _ hq1
  obtain ⟨rfl, hc1, hl1⟩ := hq1
  have hM1 : Mm s1 = Mm s := Mm_congr hc1 hl1
  exact ta_bind (peekWhileKindFlagLoop_term _ _ _ _ s1 hw1 (by have := Mm_le s; omega)
    (fun s2 hw2 _ => gc_rootOperationTypeDefinition s2 hw2)) (fun has s2 hw2 hM2 => hk has s2 hw2 (by omega))

/-- `directives? (K x)?`, the end of most type definitions -/
theorem tb_directivesThen {B n : Nat} {K : Kind} {x : PI Unit} (hb : 4 * B + 4 ≤ n) (hx : TB B x) : TB B (do
    if (← peek) == some .at then directives n true
    if (← peek) == some K then x) :=
  tb_when tb_peek (tb_directives hb) fun _ => tb_bind tb_peek fun _ => tb_ite hx (tb_pure _)

theorem gc_scalarTypeDefinition (n : Nat) (s : PState) (hw : W s) (hb : 4 * Mm s + 4 ≤ n) :
    Term (scalarTypeDefinition n) s (GC (DefGuard "scalar") s) :=
  gc_withNode _ _ s hw fun s2 hw2 hM2 => def_prefix "scalar" _ _ s2 hw2 fun _ =>
    tb_bind tb_nameOrErr fun _ => tb_bind tb_peek fun _ => tb_ite (tb_directives (by omega)) (tb_pure _)

theorem gc_unionTypeDefinition (n : Nat) (s : PState) (hw : W s) (hb : 4 * Mm s + 4 ≤ n) :
    Term (unionTypeDefinition n) s (GC (DefGuard "union") s) :=
  gc_withNode _ _ s hw fun s2 hw2 hM2 => def_prefix "union" _ _ s2 hw2 fun _ =>
    tb_bind tb_nameOrErr fun _ => tb_directivesThen (by omega) tb_unionMemberTypes

theorem gc_enumTypeDefinition (n : Nat) (s : PState) (hw : W s) (hb : 4 * Mm s + 4 ≤ n) :
    Term (enumTypeDefinition n) s (GC (DefGuard "enum") s) :=
  gc_withNode _ _ s hw fun s2 hw2 hM2 => def_prefix "enum" _ _ s2 hw2 fun _ =>
    tb_bind tb_nameOrErr fun _ => tb_directivesThen (by omega) (tb_enumValuesDefinition (by omega))

theorem gc_inputObjectTypeDefinition (n : Nat) (s : PState) (hw : W s) (hb : 4 * Mm s + 4 ≤ n) :
    Term (inputObjectTypeDefinition n) s (GC (DefGuard "input") s) :=
  gc_withNode _ _ s hw fun s2 hw2 hM2 => def_prefix "input" _ _ s2 hw2 fun _ =>
    tb_bind tb_nameOrErr fun _ => tb_directivesThen (by omega) (tb_inputFieldsDefinition (by omega))

theorem gc_objectTypeDefinition (n : Nat) (s : PState) (hw : W s) (hb : 4 * Mm s + 4 ≤ n) :
    Term (objectTypeDefinition n) s (GC (DefGuard "type") s) :=
  gc_withNode _ _ s hw fun s2 hw2 hM2 => def_prefix "type" _ _ s2 hw2 fun _ =>
    have hfields : TB (Mm s2) (fieldsDefinition n) := tb_fieldsDefinition (by omega)
    have hend := tb_directivesThen (n := n) (K := .lCurly) (by omega) hfields
    tb_bind tb_nameOrErr fun _ => tb_bind tb_peekToken fun o => by
      cases o
      · exact hend
      · exact tb_opt tb_implementsInterfaces fun _ => hend

theorem gc_interfaceTypeDefinition (n : Nat) (s : PState) (hw : W s) (hb : 4 * Mm s + 4 ≤ n) :
    Term (interfaceTypeDefinition n) s (GC (DefGuard "interface") s) :=
  gc_withNode _ _ s hw fun s2 hw2 hM2 => def_prefix "interface" _ _ s2 hw2 fun _ =>
    tb_bind tb_nameOrErr fun _ => tb_when tb_peekData tb_implementsInterfaces fun _ =>
      tb_directivesThen (by omega) (tb_fieldsDefinition (by omega))

theorem gc_schemaDefinition (n : Nat) (s : PState) (hw : W s) (hb : 4 * Mm s + 4 ≤ n) :
    Term (schemaDefinition n) s (GC (DefGuard "schema") s) :=
  gc_withNode _ _ s hw fun s2 hw2 hM2 => def_prefix "schema" _ _ s2 hw2 fun _ =>
    tb_when tb_peek (tb_directives (by omega)) fun _ => tb_bind tb_peek fun _ => tb_ite
      (tb_bind tb_bump fun _ => tb_rootOpsLoop fun _ => tb_opt tb_err fun _ => tb_expect) tb_err

theorem gc_directiveDefinition (n : Nat) (s : PState) (hw : W s) (hb : 4 * Mm s + 4 ≤ n) :
    Term (directiveDefinition n) s (GC (DefGuard "directive") s) :=
  gc_withNode _ _ s hw fun s2 hw2 hM2 => def_prefix "directive" _ _ s2 hw2 fun _ =>
    have hend : TB (Mm s2) (do
        let k ← peek
        if k == some .name || k == some .pipe then withNode "DIRECTIVE_LOCATIONS" directiveLocations
        else err) :=
      tb_bind tb_peek fun _ => tb_ite (tb_withNode tb_directiveLocations) tb_err
    tb_bind tb_peek fun _ => tb_alt tb_bump tb_err fun _ => tb_bind tb_name fun _ =>
      tb_when tb_peek (tb_withNode (tb_argumentsDefinitionBody (by omega))) fun _ =>
        tb_when tb_peekData tb_bump fun _ => tb_bind tb_peekData fun d => by
          cases d
          · exact hend
          · exact tb_alt tb_bump tb_err fun _ => hend

theorem gc_scalarTypeExtension (n : Nat) (s : PState) (hw : W s) (hb : 4 * Mm s + 4 ≤ n) :
    Term (scalarTypeExtension n) s (GC GAny s) :=
  gc_withNode _ _ s hw fun s2 hw2 hM2 => gc_first (gc_bump _ s2 hw2) fun _ =>
    tb_bind tb_bump fun _ => tb_bind tb_nameOrErr fun _ => tb_bind tb_peek fun _ =>
      tb_ite (tb_directives (by omega)) tb_err

/-! The other extensions keep a `mut meets` flag: each join point takes the flag as a second
argument, so the two branches of an optional part continue alike but with different flags, and the
same steps close both. -/

theorem gc_objectTypeExtension (n : Nat) (s : PState) (hw : W s) (hb : 4 * Mm s + 4 ≤ n) :
    Term (objectTypeExtension n) s (GC GAny s) := by
  refine gc_withNode _ _ s hw fun s2 hw2 hM2 => gc_first (gc_bump _ s2 hw2) fun _ => ?_
  have hb2 : 4 * Mm s2 + 4 ≤ n := by omega
  refine tb_bind tb_bump fun _ => tb_bind tb_nameOrErr fun _ => tb_bind tb_peekData fun _ =>
    tb_ite (tb_bind tb_implementsInterfaces fun _ => ?_) ?_ <;>
  refine tb_bind tb_peek fun _ => tb_ite (tb_bind (tb_directives hb2) fun _ => ?_) ?_ <;>
  refine tb_bind tb_peek fun _ => tb_ite (tb_bind (tb_fieldsDefinition hb2) fun _ => ?_) ?_ <;>
  exact tb_ite tb_err (tb_pure _)

theorem gc_interfaceTypeExtension (n : Nat) (s : PState) (hw : W s) (hb : 4 * Mm s + 4 ≤ n) :
    Term (interfaceTypeExtension n) s (GC GAny s) := by
  refine gc_withNode _ _ s hw fun s2 hw2 hM2 => gc_first (gc_bump _ s2 hw2) fun _ => ?_
  have hb2 : 4 * Mm s2 + 4 ≤ n := by omega
  refine tb_bind tb_bump fun _ => tb_bind tb_nameOrErr fun _ => tb_bind tb_peekData fun _ =>
    tb_ite (tb_bind tb_implementsInterfaces fun _ => ?_) ?_ <;>
  refine tb_bind tb_peek fun _ => tb_ite (tb_bind (tb_directives hb2) fun _ => ?_) ?_ <;>
  refine tb_bind tb_peek fun _ => tb_ite (tb_bind (tb_fieldsDefinition hb2) fun _ => ?_) ?_ <;>
  exact tb_ite tb_err (tb_pure _)

theorem gc_unionTypeExtension (n : Nat) (s : PState) (hw : W s) (hb : 4 * Mm s + 4 ≤ n) :
    Term (unionTypeExtension n) s (GC GAny s) := by
  refine gc_withNode _ _ s hw fun s2 hw2 hM2 => gc_first (gc_bump _ s2 hw2) fun _ => ?_
  have hb2 : 4 * Mm s2 + 4 ≤ n := by omega
  refine tb_bind tb_bump fun _ => tb_bind tb_nameOrErr fun _ => tb_bind tb_peek fun _ =>
    tb_ite (tb_bind (tb_directives hb2) fun _ => ?_) ?_ <;>
  refine tb_bind tb_peek fun _ => tb_ite (tb_bind tb_unionMemberTypes fun _ => ?_) ?_ <;>
  exact tb_ite tb_err (tb_pure _)

theorem gc_enumTypeExtension (n : Nat) (s : PState) (hw : W s) (hb : 4 * Mm s + 4 ≤ n) :
    Term (enumTypeExtension n) s (GC GAny s) := by
  refine gc_withNode _ _ s hw fun s2 hw2 hM2 => gc_first (gc_bump _ s2 hw2) fun _ => ?_
  have hb2 : 4 * Mm s2 + 4 ≤ n := by omega
  refine tb_bind tb_bump fun _ => tb_bind tb_nameOrErr fun _ => tb_bind tb_peek fun _ =>
    tb_ite (tb_bind (tb_directives hb2) fun _ => ?_) ?_ <;>
  refine tb_bind tb_peek fun _ => tb_ite (tb_bind (tb_enumValuesDefinition hb2) fun _ => ?_) ?_ <;>
  exact tb_ite tb_err (tb_pure _)

theorem gc_inputObjectTypeExtension (n : Nat) (s : PState) (hw : W s) (hb : 4 * Mm s + 4 ≤ n) :
    Term (inputObjectTypeExtension n) s (GC GAny s) := by
  refine gc_withNode _ _ s hw fun s2 hw2 hM2 => gc_first (gc_bump _ s2 hw2) fun _ => ?_
  have hb2 : 4 * Mm s2 + 4 ≤ n := by omega
  refine tb_bind tb_bump fun _ => tb_bind tb_nameOrErr fun _ => tb_bind tb_peek fun _ =>
    tb_ite (tb_bind (tb_directives hb2) fun _ => ?_) ?_ <;>
  refine tb_bind tb_peek fun _ => tb_ite (tb_bind (tb_inputFieldsDefinition hb2) fun _ => ?_) ?_ <;>
  exact tb_ite tb_err (tb_pure _)

theorem gc_fragmentDefinition (n : Nat) (s : PState) (hw : W s) (hb : 4 * Mm s + 4 ≤ n) :
    Term (fragmentDefinition n) s (GC GAny s) := by
  refine gc_withNode _ _ s hw fun s2 hw2 hM2 => gc_peek hw2 fun k s3 hw3 hM3 hk => ?_
  have hrest : TB (Mm s3) (do
      fragmentName
      typeCondition
      if (← peek) == some .at then directives n false
      if (← peek) == some .lCurly then selectionSet n else err) :=
    tb_bind tb_fragmentName fun _ => tb_bind tb_typeCondition fun _ =>
      tb_when tb_peek (tb_directives (by omega)) fun _ =>
        tb_bind tb_peek fun _ => tb_ite (tb_selectionSet (by omega)) tb_err
  -- the description check: `err_and_pop` consumes the string, otherwise `bump` consumes the keyword
  exact term_ite (fun _ => gc_first (gc_errAndPop s3 hw3) fun _ => tb_bind tb_bump fun _ => hrest)
    (fun _ => gc_first (gc_bump _ s3 hw3) fun _ => hrest)

/-! ### document.rs -/

theorem gc_schemaExtension (n : Nat) (s : PState) (hw : W s) (hb : 4 * Mm s + 4 ≤ n) :
    Term (schemaExtension n) s (GC GAny s) := by
  refine gc_withNode _ _ s hw fun s2 hw2 hM2 => gc_first (gc_bump _ s2 hw2) fun _ => ?_
  -- the join points take the `mut meets` flag: both branches continue alike, with different flags
  refine tb_bind tb_bump fun _ => tb_bind tb_peek fun _ =>
    tb_ite (tb_bind (tb_directives (by omega)) fun _ => ?_) ?_ <;>
  refine tb_bind tb_peek fun _ => tb_ite (tb_bind tb_bump fun _ => tb_rootOpsLoop fun _ =>
    tb_opt tb_err fun _ => tb_bind tb_expect fun _ => ?_) ?_ <;>
  exact tb_ite tb_err (tb_pure _)

theorem gc_operationDefinition (n : Nat) (s : PState) (hw : W s) (hb : 4 * Mm s + 4 ≤ n) :
    Term (operationDefinition n) s (GC GAny s) := by
  unfold operationDefinition
  refine gc_peek' hw ?_
  intro k s1 hw1 hM1 hk _
  have hdefault : Term errAndPop s1 (GC GAny s1) := gc_errAndPop s1 hw1
  cases k with
  | none => exact hdefault
  | some kind =>
    cases kind
    case name =>
      refine gc_withNode _ _ s1 hw1 fun s2 hw2 hM2 => gc_first (gc_operationType s2 hw2) fun _ => ?_
      exact tb_when tb_peek tb_name fun _ => tb_when tb_peek (tb_variableDefinitions (by omega)) fun _ =>
        tb_when tb_peek (tb_directives (by omega)) fun _ =>
          tb_bind tb_peek fun _ => tb_ite (tb_selectionSet (by omega)) tb_errAndPop
    case lCurly =>
      obtain ⟨t1, ht1, hk1⟩ := cur_of_kind hk rfl
      refine Term.weaken (Q := GC (fun t => t.kind = .lCurly) s1) ?_ (fun _ c l hq t ht _ => hq t ht (by rw [ht1] at ht; cases ht; exact hk1))
      refine gc_withNode_or _ _ s1 hw1 ⟨t1, ht1, hk1⟩ ?_
      intro s2 hw2 hM2 _
      exact (sel_family n).ss s2 hw2 (by omega)
    all_goals exact hdefault

theorem gc_extensions (n : Nat) (s : PState) (hw : W s) (hb : 4 * Mm s + 4 ≤ n) :
    Term (extensions n) s (GC GAny s) := by
  refine gc_lookN 2 hw fun d s1 hw1 hM1 _ => ?_
  have hb1 : 4 * Mm s1 + 4 ≤ n := by omega
  exact term_ite (fun _ => gc_schemaExtension n s1 hw1 hb1) fun _ =>
    term_ite (fun _ => gc_scalarTypeExtension n s1 hw1 hb1) fun _ =>
    term_ite (fun _ => gc_objectTypeExtension n s1 hw1 hb1) fun _ =>
    term_ite (fun _ => gc_interfaceTypeExtension n s1 hw1 hb1) fun _ =>
    term_ite (fun _ => gc_unionTypeExtension n s1 hw1 hb1) fun _ =>
    term_ite (fun _ => gc_enumTypeExtension n s1 hw1 hb1) fun _ =>
    term_ite (fun _ => gc_inputObjectTypeExtension n s1 hw1 hb1) fun _ => gc_errAndPop s1 hw1

/-- the guard under which `document()` calls `select_definition(data)`: the current token is a
    description string, or `data` is its text -/
def SelGuard (d : Str) (t : Tok) : Prop := t.kind = .stringValue ∨ t.data = d

theorem defGuard_of_sel {kwd : String} {d : Str} (h : kw kwd d = true) (t : Tok) (hg : SelGuard d t) : DefGuard kwd t := by
  rcases hg with h1 | h1
  · exact Or.inl h1
  · exact Or.inr (by rw [h1]; exact h)

theorem gc_selectDefinition (n : Nat) (d : Str) (s : PState) (hw : W s) (hb : 4 * Mm s + 4 ≤ n) :
    Term (selectDefinition n d) s (GC (SelGuard d) s) :=
  have any : ∀ {m : PI Unit}, Term m s (GC GAny s) → Term m s (GC (SelGuard d) s) :=
    fun h => gc_weaken h fun _ _ => trivial
  term_ite (fun h => gc_weaken (gc_directiveDefinition n s hw hb) (defGuard_of_sel h)) fun _ =>
  term_ite (fun h => gc_weaken (gc_enumTypeDefinition n s hw hb) (defGuard_of_sel h)) fun _ =>
  term_ite (fun _ => any (gc_extensions n s hw hb)) fun _ =>
  term_ite (fun _ => any (gc_fragmentDefinition n s hw hb)) fun _ =>
  term_ite (fun h => gc_weaken (gc_inputObjectTypeDefinition n s hw hb) (defGuard_of_sel h)) fun _ =>
  term_ite (fun h => gc_weaken (gc_interfaceTypeDefinition n s hw hb) (defGuard_of_sel h)) fun _ =>
  term_ite (fun h => gc_weaken (gc_objectTypeDefinition n s hw hb) (defGuard_of_sel h)) fun _ =>
  term_ite (fun _ => any (gc_operationDefinition n s hw hb)) fun _ =>
  term_ite (fun h => gc_weaken (gc_scalarTypeDefinition n s hw hb) (defGuard_of_sel h)) fun _ =>
  term_ite (fun h => gc_weaken (gc_schemaDefinition n s hw hb) (defGuard_of_sel h)) fun _ =>
  term_ite (fun h => gc_weaken (gc_unionTypeDefinition n s hw hb) (defGuard_of_sel h)) fun _ =>
  any (gc_errAndPop s hw)

theorem gc_documentDispatch (n : Nat) (kind : Kind) (s : PState) (hw : W s) (hb : 4 * Mm s + 4 ≤ n) :
    Term (documentDispatch n kind) s (GC (fun t => t.kind = kind) s) := by
  unfold documentDispatch
  split
  · rename_i hkind
    have hks : kind = Kind.stringValue := by simpa using hkind
    refine gc_lookN 2 hw ?_
    intro d s1 hw1 hM1 _
    cases d with
    | none => exact gc_errAndPop s1 hw1
    | some d =>
      simp only []
      exact gc_weaken (gc_selectDefinition n d s1 hw1 (by omega)) (fun t ht => Or.inl (by rw [ht, hks]))
  · split
    · refine gc_peekData hw ?_
      intro d s1 hw1 hM1 hd
      cases d with
      | none => exact gc_errAndPop s1 hw1
      | some d =>
        simp only []
        refine (gc_selectDefinition n d s1 hw1 (by omega)).weaken ?_
        intro _ c l hq t ht _
        refine hq t ht (Or.inr ?_)
        rw [ht] at hd
        simpa using hd.symm
    · exact gc_errAndPop s hw

theorem look_assertRecZero (s : PState) (hw : W s) :
    Term assertRecZero s (fun _ c l => c = s.current ∧ l = s.lx) :=
  (run_frame assertRecZero s hw () { s with deadBranch := s.deadBranch || !(s.recCur == 0) } rfl rfl rfl
    (Q := fun _ c l => c = s.current ∧ l = s.lx) ⟨rfl, rfl⟩).term

theorem documentStep_term (n : Nat) (kind : Kind) (s : PState) (hw : W s) (hb : 4 * Mm s + 4 ≤ n) :
    Term (documentStep n kind) s (fun b c l => b = true → ∀ t, s.current = some t → t.kind = kind → StrictT s c l) := by
  unfold documentStep
  split
  · apply term_bind (look_assertRecZero s hw)
    intro _ s1 hw1 _ _ _
    exact term_pure false s1 hw1 (fun h => by simp at h)
  · refine Term.weaken (Q := GC (fun t => t.kind = kind) s) ?_ (fun _ c l hq _ t ht hk => hq t ht hk)
    refine gc_look (Q1 := fun _ _ _ => True) ((look_assertRecZero s hw).weaken (fun _ _ _ hq => ⟨trivial, fun _ => hq⟩)) ?_
    intro _ s1 hw1 hM1 _
    exact gc_first (gc_documentDispatch n kind s1 hw1 (by omega)) fun _ => tb_pure true

theorem tb_document {B n : Nat} (hb : 4 * B + 4 ≤ n) : TB B (document n) :=
  tb_withNode (tb_bind tb_peek fun _ => tb_bind (tb_ite tb_err (tb_pure _)) fun _ =>
    tb_bind (tb_peekWhile fun kind s hw hB => documentStep_term n kind s hw (by omega)) fun _ => tb_pushIgnored)

theorem parse_document_terminates (tl : Option Nat) (rl : Nat) (src : Str) (w : Abort) :
    (parse .document tl rl src).outcome ≠ .abort w := by
  intro h
  obtain ⟨s0, hc, hl, habort⟩ := runEntry_abort .document (fuelFor src) (initState src tl rl) w h
  simp only [Entry.grammar] at habort
  have hw0 : W s0 := W_congr hc hl (init_W src tl rl)
  have hM : Mm s0 = src.length + 1 := by rw [Mm_congr hc hl, init_Mm]
  exact (tb_document (by unfold fuelFor; omega) s0 hw0 (Nat.le_refl _)).1 w habort

/-- **The parser model terminates** (C01): for every entry point, input, token limit and recursion limit the
    outcome is never an abort — neither the model's fuel runs out nor the `peek_while` progress
    assertion fails. -/
theorem parse_terminates (e : Entry) (tl : Option Nat) (rl : Nat) (src : Str) (w : Abort) :
    (parse e tl rl src).outcome ≠ .abort w := by
  cases e with
  | document => exact parse_document_terminates tl rl src w
  | selectionSet => exact parse_selection_set_terminates tl rl src w
  | type => exact parse_type_terminates tl rl src w

end Apollo.Parse
