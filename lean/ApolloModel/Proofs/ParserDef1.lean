import ApolloModel.Proofs.ParserValue9
import ApolloModel.Proofs.ParserType5
import ApolloModel.Proofs.AstDefTokens
/-
C05, type-system definitions: a small calculus of "accepting runs".

`Acc E H m R`: `m` is `Good`, and every error-free run of `m` from a state whose token queue satisfies `H`
consumes tokens `cs` from the front of the queue such that, ignored tokens removed, they are grammar tokens
`x` with `R a x` (`a` the returned value) — or the run stopped early in a state satisfying `E`
(`AtEof`: an unclosed list value at the end of input, which the next closing token reports).
-/
set_option linter.unusedSimpArgs false
namespace Apollo.Parse
open Apollo.Rowan hiding Str
open Apollo.Lex hiding Str

@[reducible] def AccRes (E : PState → Prop) (s s' : PState) (L : List Ast.Tok → Prop) : Prop :=
  ∃ cs, Toks s = cs ++ Toks s' ∧ NoEof cs ∧ EofEnd s' ∧ ((∃ x, TokIs (sig cs) x ∧ L x) ∨ E s')

/-- what the calculus needs of the "stopped early" alternative -/
structure Early (E : PState → Prop) : Prop where
  carries : Carries E
  toks : ∀ s2 s', Toks s' = Toks s2 → E s2 → E s'

theorem early_atEof : Early AtEof :=
  ⟨carries_atEof, fun s2 s' h ⟨e, hh, hk⟩ => ⟨e, by rw [h]; exact hh, hk⟩⟩

theorem early_false : Early (fun _ => False) := ⟨carries_false, fun _ _ _ h => h⟩

/-- two consecutive accepting runs; if the first stopped early, the second keeps it so -/
theorem AccRes.seq {E : PState → Prop} (hE : Early E) {s s' s'' : PState} {L1 L2 : List Ast.Tok → Prop}
    (hnd : ¬ Doomed s') (r1 : AccRes E s s' L1) (r2 : AccRes E s' s'' L2) :
    AccRes E s s'' (fun x => ∃ x1 x2, x = x1 ++ x2 ∧ L1 x1 ∧ L2 x2) := by
  obtain ⟨c1, t1, n1, e1, r1⟩ := r1
  obtain ⟨c2, t2, n2, e2, r2⟩ := r2
  refine ⟨c1 ++ c2, by rw [t1, t2, List.append_assoc], noEof_append n1 n2, e2, ?_⟩
  rcases r1 with ⟨x1, hx1, h1⟩ | ev
  · rcases r2 with ⟨x2, hx2, h2⟩ | ev2
    · exact Or.inl ⟨x1 ++ x2, by rw [sig_append]; exact hx1.append hx2, x1, x2, rfl, h1, h2⟩
    · exact Or.inr ev2
  · exact Or.inr (hE.carries s' s'' c2 e1 hnd ev t2 n2)

theorem AccRes.mono {E : PState → Prop} {s s' : PState} {L L' : List Ast.Tok → Prop} (h : AccRes E s s' L)
    (hL : ∀ x, L x → L' x) : AccRes E s s' L' := by
  obtain ⟨cs, a1, a2, a3, a4⟩ := h
  exact ⟨cs, a1, a2, a3, a4.imp (fun ⟨x, hx, h⟩ => ⟨x, hx, hL x h⟩) id⟩

def Acc {α : Type} (E : PState → Prop) (H : List Tok → Prop) (m : PI α) (R : α → List Ast.Tok → Prop) : Prop :=
  Good m ∧ ∀ s a s', TW s → EofEnd s → H (Toks s) → m.run s = .ok a s' → ¬ Doomed s' → AccRes E s s' (R a)

theorem Acc.good {α : Type} {E H} {m : PI α} {R} (h : Acc E H m R) : Good m := h.1

/-- `Acc` with a relation `R B q a x` that also reads the recursion budget `B` of the start state and the token queue `q`
    left at the end.  `Acc E H m R` unfolds to `AccQ E H m (fun _ _ => R)`: every `Acc` fact is an `AccQ` fact (`Acc.toQ`)
    and each rule of `Acc` is the rule of `AccQ` at such a relation.  A production that does not care about the queue left
    writes `fun B _ => …`.  No `Good` run changes the budget (`bud_adv`), so only the rule of the recursion guard
    (`accQ_withRec`) mentions it. -/
def AccQ {α : Type} (E : PState → Prop) (H : List Tok → Prop) (m : PI α) (R : Nat → List Tok → α → List Ast.Tok → Prop) : Prop :=
  Good m ∧ ∀ s a s', TW s → EofEnd s → H (Toks s) → m.run s = .ok a s' → ¬ Doomed s' →
    AccRes E s s' (R (Exact.bud s) (Toks s') a)

theorem Acc.toQ {α : Type} {E H} {m : PI α} {R : α → List Ast.Tok → Prop} (h : Acc E H m R) : AccQ E H m (fun _ _ => R) := h

theorem AccQ.mono {α : Type} {E : PState → Prop} {H H' : List Tok → Prop} {m : PI α} {R R' : Nat → List Tok → α → List Ast.Tok → Prop}
    (h : AccQ E H m R) (hH : ∀ q, H' q → H q) (hR : ∀ B q a x, R B q a x → R' B q a x) : AccQ E H' m R' :=
  ⟨h.1, fun s a s' w he hq hr hnd => (h.2 s a s' w he (hH _ hq) hr hnd).mono (hR _ _ a)⟩

/-- budget and queue forgotten -/
theorem AccQ.forget {α : Type} {E : PState → Prop} {H : List Tok → Prop} {m : PI α} {R : Nat → List Tok → α → List Ast.Tok → Prop}
    {R' : α → List Ast.Tok → Prop} (h : AccQ E H m R) (hR : ∀ B q a x, R B q a x → R' a x) : Acc E H m R' :=
  h.mono (R' := fun _ _ => R') (fun _ h => h) hR

theorem Acc.mono {α : Type} {E : PState → Prop} {H H' : List Tok → Prop} {m : PI α} {R R' : α → List Ast.Tok → Prop}
    (h : Acc E H m R) (hH : ∀ q, H' q → H q) (hR : ∀ a x, R a x → R' a x) : Acc E H' m R' :=
  h.toQ.mono (R' := fun _ _ => R') hH (fun _ _ => hR)

theorem AccQ.weakenE {α : Type} {E : PState → Prop} {H} {m : PI α} {R} (h : AccQ (fun _ => False) H m R) : AccQ E H m R :=
  ⟨h.1, fun s a s' w he hq hr hnd =>
    have ⟨cs, a1, a2, a3, a4⟩ := h.2 s a s' w he hq hr hnd
    ⟨cs, a1, a2, a3, a4.imp id False.elim⟩⟩

theorem Acc.weakenE {α : Type} {E : PState → Prop} {H} {m : PI α} {R} (h : Acc (fun _ => False) H m R) : Acc E H m R :=
  h.toQ.weakenE

/-- a program that takes part in no error-free run -/
theorem Acc.never {α : Type} {E H} {m : PI α} (h : Acc E H m (fun _ _ => False)) {R : Nat → List Tok → α → List Ast.Tok → Prop} :
    AccQ E H m R :=
  h.toQ.mono (fun _ h => h) (fun _ _ _ _ h => h.elim)

/-- a fact that the queue at the start guarantees may be used in the relation -/
theorem AccQ.pre {α : Type} {E : PState → Prop} {H : List Tok → Prop} {m : PI α} {R : Nat → List Tok → α → List Ast.Tok → Prop}
    {P : Prop} (h : AccQ E H m R) (hP : ∀ q, H q → P) : AccQ E H m (fun B q a x => R B q a x ∧ P) :=
  ⟨h.1, fun s a s' w he hq hr hnd => (h.2 s a s' w he hq hr hnd).mono (fun _ hx => ⟨hx, hP _ hq⟩)⟩

/-- `pure` consumes nothing: the queue left is the queue found -/
theorem accQ_pure {α : Type} (E : PState → Prop) (H : List Tok → Prop) (a : α) :
    AccQ E H (pure a : PI α) (fun _ q a' x => a' = a ∧ x = [] ∧ H q) := by
  refine ⟨good_pure a, ?_⟩
  intro s a' s' w he hq hr _
  obtain ⟨rfl, rfl⟩ := pure_dec hr
  exact ⟨[], rfl, (by intro x hx; cases hx), he, Or.inl ⟨[], TokIs.nil, rfl, rfl, hq⟩⟩

theorem acc_pure {α : Type} (E : PState → Prop) (H : List Tok → Prop) (a : α) :
    Acc E H (pure a : PI α) (fun a' x => a' = a ∧ x = []) :=
  (accQ_pure E H a).forget fun _ _ _ _ h => ⟨h.1, h.2.1⟩

/-- `bind`; the continuation is entered with a property `I` that `H` hands down to every rest of the queue
    (`fun _ => True`, or the lexer fact `LexQ`).  Only the continuation speaks about the queue left. -/
theorem accQ_bindI {α β : Type} {E : PState → Prop} (hE : Early E) {H I : List Tok → Prop} {m : PI α} {f : α → PI β}
    {R1 : Nat → α → List Ast.Tok → Prop} {R2 : Nat → List Tok → α → β → List Ast.Tok → Prop}
    (hI : ∀ cs q, H (cs ++ q) → I q) (h1 : AccQ E H m (fun B _ => R1 B)) (h2 : ∀ a, AccQ E I (f a) (fun B q => R2 B q a)) :
    AccQ E H (m >>= f) (fun B q b x => ∃ a x1 x2, x = x1 ++ x2 ∧ R1 B a x1 ∧ R2 B q a b x2) := by
  refine ⟨good_bind _ _ h1.1 (fun a => (h2 a).1), ?_⟩
  intro s b s'' w he hq hr hnd
  obtain ⟨a, s', hr1, hr2⟩ := bind_dec m f s s'' b hr
  have ad := h1.1 s a s' w hr1
  have hnd' : ¬ Doomed s' := fun d => hnd (((h2 a).1 s' b s'' ad.w hr2).doom d)
  have r1 := h1.2 s a s' w he hq hr1 hnd'
  have ⟨c1, t1, _, e1, _⟩ := r1
  have r2 := (h2 a).2 s' b s'' ad.w e1 (hI c1 _ (t1 ▸ hq)) hr2 hnd
  rw [Exact.bud_adv ad] at r2
  exact (AccRes.seq hE hnd' r1 r2).mono (fun x ⟨x1, x2, e, p1, p2⟩ => ⟨a, x1, x2, e, p1, p2⟩)

theorem acc_bindI {α β : Type} {E : PState → Prop} (hE : Early E) {H I : List Tok → Prop} {m : PI α} {f : α → PI β}
    {R1 : α → List Ast.Tok → Prop} {R2 : α → β → List Ast.Tok → Prop}
    (hI : ∀ cs q, H (cs ++ q) → I q) (h1 : Acc E H m R1) (h2 : ∀ a, Acc E I (f a) (R2 a)) :
    Acc E H (m >>= f) (fun b x => ∃ a x1 x2, x = x1 ++ x2 ∧ R1 a x1 ∧ R2 a b x2) :=
  accQ_bindI (R1 := fun _ => R1) (R2 := fun _ _ => R2) hE hI h1 h2

theorem accQ_bind {α β : Type} {E : PState → Prop} (hE : Early E) {H : List Tok → Prop} {m : PI α} {f : α → PI β}
    {R1 : Nat → α → List Ast.Tok → Prop} {R2 : Nat → List Tok → α → β → List Ast.Tok → Prop}
    (h1 : AccQ E H m (fun B _ => R1 B)) (h2 : ∀ a, AccQ E (fun _ => True) (f a) (fun B q => R2 B q a)) :
    AccQ E H (m >>= f) (fun B q b x => ∃ a x1 x2, x = x1 ++ x2 ∧ R1 B a x1 ∧ R2 B q a b x2) :=
  accQ_bindI hE (fun _ _ _ => trivial) h1 h2

theorem acc_bind {α β : Type} {E : PState → Prop} (hE : Early E) {H : List Tok → Prop} {m : PI α} {f : α → PI β}
    {R1 : α → List Ast.Tok → Prop} {R2 : α → β → List Ast.Tok → Prop}
    (h1 : Acc E H m R1) (h2 : ∀ a, Acc E (fun _ => True) (f a) (R2 a)) :
    Acc E H (m >>= f) (fun b x => ∃ a x1 x2, x = x1 ++ x2 ∧ R1 a x1 ∧ R2 a b x2) :=
  acc_bindI hE (fun _ _ _ => trivial) h1 h2

/-- the continuation of a bind also sees a property of the queue that the first part establishes -/
theorem acc_seq {α β : Type} {E : PState → Prop} (hE : Early E) {H : List Tok → Prop} {m : PI α} {f : α → PI β}
    {R1 : α → List Ast.Tok → Prop} {R2 : β → List Ast.Tok → Prop}
    (h1 : Acc E H m R1) (h2 : ∀ a, Acc E (fun _ => True) (f a) R2) :
    Acc E H (m >>= f) (fun b x => ∃ a x1 x2, x = x1 ++ x2 ∧ R1 a x1 ∧ R2 b x2) :=
  acc_bind hE h1 h2

theorem accQ_of_run_eq {α : Type} {E H} {m m' : PI α} {R : Nat → List Tok → α → List Ast.Tok → Prop} (h : ∀ s, m'.run s = m.run s)
    (ha : AccQ E H m R) : AccQ E H m' R := by
  refine ⟨?_, ?_⟩
  · intro s a s' w hr; rw [h] at hr; exact ha.1 s a s' w hr
  · intro s a s' w he hq hr hnd; rw [h] at hr; exact ha.2 s a s' w he hq hr hnd

theorem acc_of_run_eq {α : Type} {E H} {m m' : PI α} {R : α → List Ast.Tok → Prop} (h : ∀ s, m'.run s = m.run s)
    (ha : Acc E H m R) : Acc E H m' R :=
  accQ_of_run_eq h ha.toQ

theorem run_assoc {α β γ : Type} (m : PI α) (f : α → PI β) (g : β → PI γ) (s : PState) :
    (m >>= fun a => f a >>= g).run s = ((m >>= f) >>= g).run s := by
  simp only [run_bind]
  cases m.run s <;> rfl

theorem accQ_peekToken {α : Type} {E : PState → Prop} {H : List Tok → Prop} {f : Option Tok → PI α}
    {R : Nat → List Tok → α → List Ast.Tok → Prop}
    (h : ∀ o, AccQ E (fun q => H q ∧ q.head? = o) (f o) R) : AccQ E H (peekToken >>= f) R := by
  refine ⟨good_bind _ _ good_peekToken (fun k => (h k).1), ?_⟩
  intro s a s' w he hq hr hnd
  obtain ⟨o, sP, hp, h2⟩ := bind_dec peekToken f s s' a hr
  have p := peekToken_obs s sP o w hp
  have heP : EofEnd sP := eofEnd_eat he p.eat (by intro x hx; cases hx)
  have hqP : H (Toks sP) ∧ (Toks sP).head? = o := by
    rw [p.toks]; exact ⟨hq, p.head.symm⟩
  obtain ⟨cs, a1, a2, a3, a4⟩ := (h o).2 sP a s' p.w heP hqP h2 hnd
  rw [Exact.bud_peek p] at a4
  exact ⟨cs, by rw [← p.toks]; exact a1, a2, a3, a4⟩

theorem acc_peekToken {α : Type} {E : PState → Prop} {H : List Tok → Prop} {f : Option Tok → PI α} {R : α → List Ast.Tok → Prop}
    (h : ∀ o, Acc E (fun q => H q ∧ q.head? = o) (f o) R) : Acc E H (peekToken >>= f) R :=
  accQ_peekToken (R := fun _ _ => R) h

/-- `peek` and `peek_data` are `peek_token` followed by a projection -/
theorem accQ_peekMap {α γ : Type} {E : PState → Prop} {H : List Tok → Prop} (g : Option Tok → γ) {f : γ → PI α}
    {R : Nat → List Tok → α → List Ast.Tok → Prop} (h : ∀ o, AccQ E (fun q => H q ∧ q.head? = o) (f (g o)) R) :
    AccQ E H ((peekToken >>= fun t => pure (g t)) >>= f) R :=
  accQ_of_run_eq (fun s => (run_assoc peekToken _ f s).symm) (accQ_peekToken h)

theorem acc_peekMap {α γ : Type} {E : PState → Prop} {H : List Tok → Prop} (g : Option Tok → γ) {f : γ → PI α}
    {R : α → List Ast.Tok → Prop} (h : ∀ o, Acc E (fun q => H q ∧ q.head? = o) (f (g o)) R) :
    Acc E H ((peekToken >>= fun t => pure (g t)) >>= f) R :=
  accQ_peekMap (R := fun _ _ => R) g h

theorem accQ_peek {α : Type} {E : PState → Prop} {H : List Tok → Prop} {f : Option Kind → PI α}
    {R : Nat → List Tok → α → List Ast.Tok → Prop}
    (h : ∀ k, AccQ E (fun q => H q ∧ q.head?.map (·.kind) = k) (f k) R) : AccQ E H (peek >>= f) R :=
  accQ_peekMap (fun o => o.map fun t : Tok => t.kind) fun o => (h _).mono (fun _ hq => ⟨hq.1, by rw [hq.2]⟩) (fun _ _ _ _ h => h)

theorem acc_peek {α : Type} {E : PState → Prop} {H : List Tok → Prop} {f : Option Kind → PI α} {R : α → List Ast.Tok → Prop}
    (h : ∀ k, Acc E (fun q => H q ∧ q.head?.map (·.kind) = k) (f k) R) : Acc E H (peek >>= f) R :=
  accQ_peek (R := fun _ _ => R) h

theorem good_peekData : Good peekData := good_bind _ _ good_peekToken (fun _ => good_pure _)

theorem accQ_peekData {α : Type} {E : PState → Prop} {H : List Tok → Prop} {f : Option Str → PI α}
    {R : Nat → List Tok → α → List Ast.Tok → Prop}
    (h : ∀ o : Option Tok, AccQ E (fun q => H q ∧ q.head? = o) (f (o.map (·.data))) R) : AccQ E H (peekData >>= f) R :=
  accQ_peekMap (fun o => o.map fun t : Tok => t.data) h

theorem acc_peekData {α : Type} {E : PState → Prop} {H : List Tok → Prop} {f : Option Str → PI α} {R : α → List Ast.Tok → Prop}
    (h : ∀ o : Option Tok, Acc E (fun q => H q ∧ q.head? = o) (f (o.map (·.data))) R) : Acc E H (peekData >>= f) R :=
  accQ_peekData (R := fun _ _ => R) h

theorem accQ_ite {α : Type} {E H} (c : Bool) {a b : PI α} {R : Nat → List Tok → α → List Ast.Tok → Prop}
    (ha : c = true → AccQ E H a R) (hb : c = false → AccQ E H b R) : AccQ E H (if c then a else b) R := by
  cases c
  · simpa using hb rfl
  · simpa using ha rfl

theorem acc_ite {α : Type} {E H} (c : Bool) {a b : PI α} {R : α → List Ast.Tok → Prop}
    (ha : c = true → Acc E H a R) (hb : c = false → Acc E H b R) : Acc E H (if c then a else b) R :=
  accQ_ite (R := fun _ _ => R) c ha hb

/-- a node opened when the head of the queue is known to be significant -/
theorem accQ_withNode {α : Type} {E : PState → Prop} (hE : Early E) {H : List Tok → Prop} (K : SK) {body : PI α}
    {R : Nat → List Tok → α → List Ast.Tok → Prop}
    (hsig : ∀ q, H q → ∃ t rest, q = t :: rest ∧ isIgnoredKind t.kind = false)
    (h : AccQ E H body R) : AccQ E H (withNode K body) R := by
  refine ⟨good_withNode K body h.1, ?_⟩
  intro s a s' w he hq hr hnd
  obtain ⟨t, rest, ht, hni⟩ := hsig _ hq
  obtain ⟨s1, s2, e1, h1, o2⟩ := withNode_peeked K body s s' a t rest w ht hni hr
  have ht1 : Toks s1 = Toks s := by have := e1.toks; simpa using this.symm
  have hnd2 : ¬ Doomed s2 := fun d => hnd (o2.doomed.mpr d)
  obtain ⟨cs, a1, a2, a3, a4⟩ := h.2 s1 a s2 e1.w (eofEnd_eat he e1 (by intro x hx; cases hx)) (by rw [ht1]; exact hq) h1 hnd2
  rw [Exact.bud_eat e1, ← o2.toks] at a4
  refine ⟨cs, by rw [← ht1, a1, o2.toks], a2, eofEnd_same _ _ a3 o2.current o2.lx o2.errors, ?_⟩
  rcases a4 with h4 | h4
  · exact Or.inl h4
  · exact Or.inr (hE.toks s2 s' o2.toks h4)

theorem acc_withNode {α : Type} {E : PState → Prop} (hE : Early E) {H : List Tok → Prop} (K : SK) {body : PI α} {R : α → List Ast.Tok → Prop}
    (hsig : ∀ q, H q → ∃ t rest, q = t :: rest ∧ isIgnoredKind t.kind = false)
    (h : Acc E H body R) : Acc E H (withNode K body) R :=
  accQ_withNode (R := fun _ _ => R) hE K hsig h

/-- the recursion guard, the one rule in which the budget moves: the body runs one level down; at the limit `onLimit` runs,
    which reports an error -/
theorem accQ_withRec {α : Type} {E : PState → Prop} (hE : Early E) {H : List Tok → Prop} {onLimit body : PI α}
    {R : Nat → List Tok → α → List Ast.Tok → Prop}
    (hl : Acc E H onLimit (fun _ _ => False)) (hb : AccQ E H body R) :
    AccQ E H (withRec onLimit body) (fun B q a x => 1 ≤ B ∧ R (B - 1) q a x) := by
  refine ⟨good_withRec _ _ hl.1 hb.1, ?_⟩
  intro s a s' w he hq h hnd
  rcases withRec_dec onLimit body s s' a h with ⟨_, sl, ol, hr⟩ | ⟨hle, s1, s2, c1, l1, er1, a1, r1, rl1, hr, c2, l2, er2, a2, r2, rl2⟩
  · obtain ⟨cs, b1, b2, b3, b4⟩ := hl.2 sl a s' (ol.w w) (eofEnd_same _ _ he ol.current ol.lx ol.errors) (by rw [ol.toks]; exact hq) hr hnd
    exact ⟨cs, by rw [← ol.toks]; exact b1, b2, b3, b4.imp (fun ⟨_, _, f⟩ => f.elim) id⟩
  · have ht1 : Toks s1 = Toks s := toks_same _ _ c1 l1
    have ht2 : Toks s' = Toks s2 := toks_same _ _ c2 l2
    have hnd2 : ¬ Doomed s2 := fun d => hnd ((doomed_same _ _ er2 l2).mpr d)
    obtain ⟨cs, b1, b2, b3, b4⟩ := hb.2 s1 a s2 (w_same _ _ w er1 l1 a1) (eofEnd_same _ _ he c1 l1 er1) (by rw [ht1]; exact hq) hr hnd2
    have hbud : Exact.bud s1 = Exact.bud s - 1 ∧ 1 ≤ Exact.bud s := by unfold Exact.bud; rw [r1, rl1]; omega
    rw [hbud.1, ← ht2] at b4
    exact ⟨cs, by rw [← ht1, ht2]; exact b1, b2, eofEnd_same _ _ b3 c2 l2 er2,
      b4.imp (fun ⟨x, hx, hr⟩ => ⟨x, hx, hbud.2, hr⟩) (hE.toks s2 s' ht2)⟩

end Apollo.Parse
